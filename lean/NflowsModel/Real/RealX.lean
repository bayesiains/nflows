import NflowsModel.Core.Basic
import NflowsModel.Lemmas.DualSound
import Mathlib.Analysis.SpecialFunctions.Trigonometric.Arctan
import Mathlib.Analysis.SpecialFunctions.Complex.Arg
import Mathlib.Algebra.BigOperators.Group.List.Basic
/-!
# Real/RealX — the real-number instance of `XOps`

`realX emb : XOps ℝ` extends `DualSound.realOps` with the remaining primitives, so that every list-level model
function of `Core/` (generic in `XOps α`, executed by the driver at `floatX`) can be instantiated at ℝ and be the
subject of a theorem.  `emb : Float → ℝ` interprets Python-side double constants; theorems quantify over it (model
functions that matter take their constants as `α` values).  Each field gets a `rfl` simp lemma — proofs never unfold
the record.
-/
open DualSound

namespace NF
noncomputable section

open Classical in
def realX (emb : Float → ℝ) : XOps ℝ where
  toOps := realOps
  ofFloat := emb
  toFloat := fun _ => 0
  le a b := decide (a ≤ b)
  tanh := Real.tanh
  atan := Real.arctan
  tan := Real.tan
  cos := Real.cos
  sin := Real.sin
  atan2 y x := Complex.arg ⟨x, y⟩
  abs x := |x|
  floor x := (⌊x⌋ : ℝ)
  floorInt x := ⌊x⌋
  nextUp := id
  isFinite _ := true

variable (e : Float → ℝ)

@[simp] theorem realX_add (a b : ℝ) : (realX e).add a b = a + b := rfl
@[simp] theorem realX_sub (a b : ℝ) : (realX e).sub a b = a - b := rfl
@[simp] theorem realX_mul (a b : ℝ) : (realX e).mul a b = a * b := rfl
@[simp] theorem realX_div (a b : ℝ) : (realX e).div a b = a / b := rfl
@[simp] theorem realX_neg (a : ℝ) : (realX e).neg a = -a := rfl
@[simp] theorem realX_exp (a : ℝ) : (realX e).exp a = Real.exp a := rfl
@[simp] theorem realX_log (a : ℝ) : (realX e).log a = Real.log a := rfl
@[simp] theorem realX_sqrt (a : ℝ) : (realX e).sqrt a = Real.sqrt a := rfl
@[simp] theorem realX_atan (a : ℝ) : (realX e).atan a = Real.arctan a := rfl
@[simp] theorem realX_abs (a : ℝ) : (realX e).abs a = |a| := rfl
@[simp] theorem realX_ofRat (n : Int) (d : Nat) : (realX e).ofRat n d = (n : ℝ) / (d : ℝ) := rfl
@[simp] theorem realX_lt (a b : ℝ) : (realX e).lt a b = decide (a < b) := rfl
@[simp] theorem realX_le (a b : ℝ) : (realX e).le a b = decide (a ≤ b) := rfl
@[simp] theorem realX_ofFloat (x : Float) : (realX e).ofFloat x = e x := rfl

@[simp] theorem realX_zero : (realX e).zero = 0 := by simp [XOps.zero]
@[simp] theorem realX_one : (realX e).one = 1 := by simp [XOps.one]
@[simp] theorem realX_two : (realX e).two = 2 := by simp [XOps.two]
@[simp] theorem realX_ofNat (n : Nat) : (realX e).ofNat n = (n : ℝ) := by simp [XOps.ofNat]
@[simp] theorem realX_sq (a : ℝ) : (realX e).sq a = a ^ 2 := by simp [XOps.sq, pow_two]

/-- the compensated `log1p` of `XOps` is `log (1 + x)` on ℝ (no domain condition: both sides agree even where `log` is junk) -/
@[simp] theorem realX_log1p (x : ℝ) : (realX e).log1p x = Real.log (1 + x) := by
  unfold XOps.log1p
  simp only [realX_add, realX_one, realX_le, realX_sub, realX_mul, realX_div, realX_log]
  by_cases h : x = 0
  · subst h; simp
  · have h1 : ¬ ((1:ℝ) + x ≤ 1 ∧ 1 ≤ 1 + x) := fun ⟨h1, h2⟩ => h (by linarith)
    have : (decide ((1:ℝ) + x ≤ 1) && decide ((1:ℝ) ≤ 1 + x)) = false := by simpa using h1
    rw [this, if_neg Bool.false_ne_true, add_sub_cancel_left, mul_div_assoc, div_self h, mul_one]

theorem realX_softplus (x : ℝ) : (realX e).softplus x = if 20 < x then x else Real.log (1 + Real.exp x) := by
  unfold XOps.softplus XOps.softplusB
  simp only [realX_one, realX_mul, one_mul, realX_lt, realX_ofRat, realX_div, realX_log1p, realX_exp, div_one]
  norm_num

theorem realX_sigmoid (x : ℝ) : (realX e).sigmoid x = 1 / (1 + Real.exp (-x)) := by
  simp [XOps.sigmoid]

theorem realX_sigmoid_mem (x : ℝ) : 0 < (realX e).sigmoid x ∧ (realX e).sigmoid x < 1 := by
  rw [realX_sigmoid, one_div]
  exact ⟨inv_pos.mpr (add_pos one_pos (Real.exp_pos _)),
    inv_lt_one_of_one_lt₀ (lt_add_of_pos_right 1 (Real.exp_pos _))⟩

theorem sumG_real (l : List ℝ) : sumG (realX e) l = l.sum := by
  unfold sumG
  rw [List.sum_eq_foldl]
  simp only [realX_zero]
  rfl

theorem realX_softplus_pos (u : ℝ) : 0 < (realX e).softplus u := by
  rw [realX_softplus]
  split
  · linarith
  · exact Real.log_pos (by linarith [Real.exp_pos u])

/-- the executed `F.softplus` is NOT continuous at its threshold: the left limit is `log (1 + exp 20) > 20`, the value from the
    right is the identity.  (So a layer whose scale is `softplus(u) + eps` is not a continuous function of `u` across `u = 20`;
    the jump is `log (1 + exp (-20)) ≈ 2e-9`.) -/
theorem softplus_not_continuousAt_threshold : ¬ ContinuousAt (realX e).softplus 20 := by
  intro hc
  -- the value at 20 is `log (1 + exp 20)`, the values on `(20, ∞)` are the identity
  have h20 : (realX e).softplus 20 = Real.log (1 + Real.exp 20) := by
    rw [realX_softplus, if_neg (lt_irrefl _)]
  have hgt : (20 : ℝ) < Real.log (1 + Real.exp 20) := by
    have : Real.log (Real.exp 20) < Real.log (1 + Real.exp 20) :=
      Real.log_lt_log (Real.exp_pos _) (by linarith)
    rwa [Real.log_exp] at this
  have hright : Filter.Tendsto (realX e).softplus (nhdsWithin 20 (Set.Ioi 20)) (nhds (Real.log (1 + Real.exp 20))) := by
    rw [← h20]
    exact hc.tendsto.mono_left nhdsWithin_le_nhds
  have hid : Filter.Tendsto (realX e).softplus (nhdsWithin 20 (Set.Ioi 20)) (nhds 20) := by
    have heq : (fun y : ℝ => y) =ᶠ[nhdsWithin 20 (Set.Ioi 20)] (realX e).softplus := by
      filter_upwards [self_mem_nhdsWithin] with y hy
      rw [realX_softplus, if_pos (Set.mem_Ioi.1 hy)]
    exact (Filter.tendsto_id.mono_left nhdsWithin_le_nhds).congr' heq
  exact (ne_of_gt hgt) (tendsto_nhds_unique hright hid)

theorem realX_minA (a b : ℝ) : (realX e).minA a b = min a b := by
  simp only [XOps.minA, realX_lt]
  by_cases h : b < a
  · simp [h, min_eq_right h.le]
  · simp [h, min_eq_left (not_lt.mp h)]

theorem realX_maxA (a b : ℝ) : (realX e).maxA a b = max a b := by
  simp only [XOps.maxA, realX_lt]
  by_cases h : a < b
  · simp [h, max_eq_right h.le]
  · simp [h, max_eq_left (not_lt.mp h)]

theorem realX_clamp (a b t : ℝ) : (realX e).clamp a b t = min (max t a) b := by
  rw [XOps.clamp, realX_maxA, realX_minA]

theorem realX_clamp_id (a b t : ℝ) (h0 : a ≤ t) (h1 : t ≤ b) : (realX e).clamp a b t = t := by
  rw [realX_clamp, max_eq_left h0, min_eq_left h1]

/-- the same with the bounds as the programs write them, `o.zero` and `o.one` -/
theorem realX_clamp01 (t : ℝ) (h0 : 0 ≤ t) (h1 : t ≤ 1) : (realX e).clamp (realX e).zero (realX e).one t = t := by
  rw [realX_zero, realX_one, realX_clamp_id e 0 1 t h0 h1]

end
end NF
