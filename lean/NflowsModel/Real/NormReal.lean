import NflowsModel.Core.Norm
import NflowsModel.Lemmas.DualSound
import NflowsModel.Lemmas.ActNormInit
import NflowsModel.Lemmas.NormMachine
import Mathlib.Algebra.BigOperators.Fin
import Mathlib.Analysis.SpecialFunctions.Trigonometric.Arctan
import Mathlib.Analysis.SpecialFunctions.Complex.Arg
import Mathlib.Algebra.BigOperators.Intervals
import Mathlib.Tactic
/-!
# Real/NormReal — the C14 machines of `Core/Norm` at the real-number semantics

`realX : XOps ℝ` extends `DualSound.realOps` (the instance `evalR` is built on) with the remaining primitives, so
`actStep realX`, `bnStep realX` are literally the functions the driver runs at `floatX`, evaluated over ℝ.
Bridge lemmas relate their list statistics to the `Finset` forms of `Lemmas/ActNormInit`.
This `realX` is the instance of `Properties/C14` only.  `NF.realX emb` (`Real/RealX`) and the root `realX emb` (`Real/UtilsReal`, C20)
read a double constant through an uninterpreted `emb : Float → ℝ`; here `ofFloat` is the exact value `bitsToReal` of the bit
pattern.  `atan2` is `Complex.arg ⟨x, y⟩` as in `NF.realX` (`Real.arctan (y / x)` in `Real/UtilsReal`).  No function of `Core/Norm`
calls `ofFloat` or `atan2`, so nothing proved of C14 depends on either choice.
-/
open DualSound NF NF.Norm

namespace NormReal

noncomputable section

/-- the real number denoted by an IEEE binary64 bit pattern (finite patterns; inf/NaN patterns get a junk value) -/
def bitsToReal (n : ℕ) : ℝ :=
  let e : ℕ := (n / 2 ^ 52) % 2 ^ 11
  let m : ℕ := n % 2 ^ 52
  let mag : ℝ := if e = 0 then (m : ℝ) * (2 : ℝ) ^ (-1074 : ℤ) else (((2 ^ 52 + m : ℕ) : ℝ)) * (2 : ℝ) ^ ((e : ℤ) - 1075)
  if n / 2 ^ 63 = 1 then -mag else mag

/-- real-number semantics of the primitive operations (`nextUp` is the identity: ℝ has no next value; a Python
    double constant is read through its exact rational value) -/
def realX : XOps ℝ where
  toOps := realOps
  ofFloat x := bitsToReal x.toBits.toNat
  toFloat _ := 0
  le a b := decide (a ≤ b)
  tanh := Real.tanh
  atan := Real.arctan
  tan := Real.tan
  cos := Real.cos
  sin := Real.sin
  atan2 y x := Complex.arg ⟨x, y⟩
  abs x := |x|
  floor x := (⌊x⌋ : ℤ)
  floorInt x := ⌊x⌋
  nextUp x := x
  isFinite _ := true

@[simp] theorem realX_add (a b : ℝ) : realX.add a b = a + b := rfl
@[simp] theorem realX_sub (a b : ℝ) : realX.sub a b = a - b := rfl
@[simp] theorem realX_mul (a b : ℝ) : realX.mul a b = a * b := rfl
@[simp] theorem realX_div (a b : ℝ) : realX.div a b = a / b := rfl
@[simp] theorem realX_neg (a : ℝ) : realX.neg a = -a := rfl
@[simp] theorem realX_exp (a : ℝ) : realX.exp a = Real.exp a := rfl
@[simp] theorem realX_log (a : ℝ) : realX.log a = Real.log a := rfl
@[simp] theorem realX_sqrt (a : ℝ) : realX.sqrt a = Real.sqrt a := rfl
@[simp] theorem realX_ofRat (n : ℤ) (d : ℕ) : realX.ofRat n d = (n : ℝ) / (d : ℝ) := rfl
@[simp] theorem realX_zero : XOps.zero realX = 0 := by simp [XOps.zero]
@[simp] theorem realX_one : XOps.one realX = 1 := by simp [XOps.one]
@[simp] theorem realX_ofNat (n : ℕ) : XOps.ofNat realX n = (n : ℝ) := by simp [XOps.ofNat]
@[simp] theorem realX_sq (a : ℝ) : XOps.sq realX a = a ^ 2 := by simp [XOps.sq, pow_two]

theorem foldl_add (xs : List ℝ) (a : ℝ) : xs.foldl (fun x y => x + y) a = a + xs.sum := by
  induction xs generalizing a with
  | nil => simp
  | cons x r ih => simp [List.foldl_cons, ih, add_assoc]

@[simp] theorem sumG_real (xs : List ℝ) : sumG realX xs = xs.sum := by
  unfold sumG
  have : (realX.add : ℝ → ℝ → ℝ) = fun x y => x + y := rfl
  rw [this, realX_zero, foldl_add, zero_add]

theorem meanL_real (xs : List ℝ) : meanL realX xs = xs.sum / xs.length := by simp [meanL]
theorem varUL_real (xs : List ℝ) :
    varUL realX xs = (xs.map (fun x => (x - xs.sum / xs.length) ^ 2)).sum / ((xs.length : ℝ) - 1) := by
  simp [varUL, meanL_real]

/-! ### list statistics = `Finset` statistics of `Lemmas/ActNormInit` -/

theorem meanL_ofFn {n : ℕ} (f : Fin n → ℝ) : meanL realX (List.ofFn f) = ActNormInit.mean f := by
  simp [meanL_real, ActNormInit.mean, List.sum_ofFn]

theorem varUL_ofFn {n : ℕ} (f : Fin n → ℝ) : varUL realX (List.ofFn f) = ActNormInit.varU f := by
  have hm := meanL_ofFn f
  rw [meanL_real] at hm
  rw [varUL_real, hm, List.map_ofFn, List.sum_ofFn]
  simp [ActNormInit.varU]

theorem actInitCol_ofFn {n : ℕ} (f : Fin n → ℝ) :
    actInitCol realX (List.ofFn f) =
      (- Real.log (ActNormInit.stdU f), - ActNormInit.mean (fun i => f i / ActNormInit.stdU f)) := by
  simp only [actInitCol, varUL_ofFn, List.map_ofFn, realX_sqrt, realX_neg, realX_log, ActNormInit.stdU]
  rw [show ((fun x => realX.div x (Real.sqrt (ActNormInit.varU f))) ∘ f) = fun i => f i / Real.sqrt (ActNormInit.varU f) from rfl,
    meanL_ofFn]

/-- the initialising batch, one feature: the column the executed `_initialize` + affine map produce has mean 0 and
    unbiased variance 1 -/
theorem actInitCol_normalises (xs : List ℝ) (hB : 2 ≤ xs.length) (hv : 0 < varUL realX xs) :
    let p := actInitCol realX xs
    let ys := xs.map (fun x => realX.add (realX.mul (realX.exp p.1) x) p.2)
    meanL realX ys = 0 ∧ varUL realX ys = 1 := by
  obtain ⟨n, f, rfl⟩ : ∃ n, ∃ f : Fin n → ℝ, xs = List.ofFn f := ⟨xs.length, fun i => xs.get i, (List.ofFn_get xs).symm⟩
  simp only [List.length_ofFn] at hB
  rw [varUL_ofFn] at hv
  have key : (List.ofFn f).map (fun x => realX.add (realX.mul (realX.exp (actInitCol realX (List.ofFn f)).1) x)
      (actInitCol realX (List.ofFn f)).2) = List.ofFn (ActNormInit.actnormInitOut f) := by
    rw [actInitCol_ofFn, List.map_ofFn]
    rfl
  simp only [key, meanL_ofFn, varUL_ofFn]
  exact ActNormInit.actnorm_init_normalises f hB hv

/-! ### the momentum rule in closed form -/

def emaFold (m r0 : ℝ) (ss : List ℝ) : ℝ := ss.foldl (fun r s => r * (1 - m) + s * m) r0

theorem ema_real (m r s : ℝ) : ema realX m r s = r * (1 - m) + s * m := by simp [ema]

theorem emaFold_closed (m : ℝ) (ss : List ℝ) (r0 : ℝ) :
    emaFold m r0 ss = (1 - m) ^ ss.length * r0 +
      ∑ i ∈ Finset.range ss.length, m * (1 - m) ^ (ss.length - 1 - i) * ss.getD i 0 := by
  induction ss generalizing r0 with
  | nil => simp [emaFold]
  | cons s ss ih =>
    have h := ih (r0 * (1 - m) + s * m)
    simp only [emaFold, List.foldl_cons] at h ⊢
    rw [h, List.length_cons, Finset.sum_range_succ']
    have hs : ∀ i ∈ Finset.range ss.length,
        m * (1 - m) ^ (ss.length + 1 - 1 - (i + 1)) * (s :: ss).getD (i + 1) 0 =
          m * (1 - m) ^ (ss.length - 1 - i) * ss.getD i 0 := by
      intro i _
      rw [show ss.length + 1 - 1 - (i + 1) = ss.length - 1 - i by omega]
      simp
    rw [Finset.sum_congr rfl hs]
    simp only [List.getD_cons_zero, Nat.add_sub_cancel, Nat.sub_zero]
    ring

/-- the vector fold of the executed machine, component `j`, in closed form; `g` is what component `j` of the batch
    statistic is (`colMeans_getD`, `colVars_getD`) -/
theorem foldl_emaVec_closed (m : ℝ) (F : ℕ) (stat : List (List ℝ) → List ℝ) (bs : List (List (List ℝ)))
    (r0 : List ℝ) {j : ℕ} (h : j < F) {g : List (List ℝ) → ℝ} (hg : ∀ rows, (stat rows).getD j realX.zero = g rows) :
    (bs.foldl (fun r rows => emaVec realX m F r (stat rows)) r0).getD j 0 =
      (1 - m) ^ bs.length * r0.getD j 0 +
        ∑ i ∈ Finset.range bs.length, m * (1 - m) ^ (bs.length - 1 - i) * g (bs.getD i []) := by
  simp only [← hg, realX_zero]
  have h1 := foldl_emaVec_getD realX m F stat bs r0 h
  simp only [realX_zero] at h1
  have h2 : (fun r s => ema realX m r s) = fun r s => r * (1 - m) + s * m := by funext r s; exact ema_real m r s
  rw [h1, h2]
  have h3 := emaFold_closed m (bs.map (fun rows => (stat rows).getD j 0)) (r0.getD j 0)
  simp only [emaFold, List.length_map] at h3
  rw [h3]
  congr 1
  apply Finset.sum_congr rfl
  intro i hi
  have hi' : i < bs.length := Finset.mem_range.mp hi
  congr 1
  simp [List.getD_eq_getElem?_getD, hi']

end
end NormReal
