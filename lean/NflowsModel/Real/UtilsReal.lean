import NflowsModel.Core.XOps
import NflowsModel.Lemmas.DualSound
import Mathlib.Analysis.SpecialFunctions.Trigonometric.Arctan
import Mathlib.Analysis.SpecialFunctions.Trigonometric.DerivHyp
/-!
# Real/UtilsReal — the root-namespace real instance `realX emb : XOps ℝ`, the one `Properties/C20` uses

It differs from `NF.realX emb` (`Real/RealX`, the instance everywhere but in C20 and C14) in `atan2` alone: `Real.arctan (y / x)` here,
`Complex.arg ⟨x, y⟩` there, which disagree wherever `x < 0`; no function of `Core/TorchUtils` calls `atan2`.  `NormReal.realX`
(`Real/NormReal`, C14) takes no `emb` and reads `ofFloat` through the exact binary64 value.

`floatX` / `float32X` (Core/XOps) are what the driver executes; `realX emb` is the same record over Mathlib's `ℝ`,
so list-level model code that is generic in `XOps α` (`searchsortedG`, `cbrtG`, `getTemperature`, …) can be
instantiated at `ℝ` and theorems stated about literally the definitions the driver runs.
`emb : Float → ℝ` is the (uninterpreted) real value of a Python-side double constant such as `eps`; theorems
carry their assumptions about it explicitly (`0 < emb eps`).  `nextUp` is the identity on `ℝ` (there is no next
real number): the `nextafter` branch of `searchsorted` is a floating-point device that the real twin never needs.
-/
open DualSound

noncomputable section
open Classical in
def realX (emb : Float → ℝ) : XOps ℝ where
  toOps := realOps
  ofFloat := emb
  toFloat := fun _ => 0
  le a b := decide (a ≤ b)
  tanh := Real.tanh; atan := Real.arctan; tan := Real.tan; cos := Real.cos; sin := Real.sin
  atan2 y x := Real.arctan (y / x)
  abs x := |x|
  floor x := (⌊x⌋ : ℝ)
  floorInt x := ⌊x⌋
  nextUp x := x
  isFinite _ := true

namespace RealX
variable (emb : Float → ℝ)
@[simp] theorem add_eq (a b : ℝ) : (realX emb).add a b = a + b := rfl
@[simp] theorem sub_eq (a b : ℝ) : (realX emb).sub a b = a - b := rfl
@[simp] theorem mul_eq (a b : ℝ) : (realX emb).mul a b = a * b := rfl
@[simp] theorem div_eq (a b : ℝ) : (realX emb).div a b = a / b := rfl
@[simp] theorem neg_eq (a : ℝ) : (realX emb).neg a = -a := rfl
@[simp] theorem exp_eq (a : ℝ) : (realX emb).exp a = Real.exp a := rfl
@[simp] theorem log_eq (a : ℝ) : (realX emb).log a = Real.log a := rfl
@[simp] theorem abs_eq (a : ℝ) : (realX emb).abs a = |a| := rfl
@[simp] theorem ofRat_eq (n : Int) (d : Nat) : (realX emb).ofRat n d = (n : ℝ) / (d : ℝ) := rfl
@[simp] theorem ofFloat_eq (x : Float) : (realX emb).ofFloat x = emb x := rfl
@[simp] theorem nextUp_eq (a : ℝ) : (realX emb).nextUp a = a := rfl
@[simp] theorem lt_eq (a b : ℝ) : (realX emb).lt a b = decide (a < b) := rfl
@[simp] theorem le_eq (a b : ℝ) : (realX emb).le a b = decide (a ≤ b) := rfl
@[simp] theorem ge_eq (a b : ℝ) : (realX emb).ge a b = decide (b ≤ a) := rfl
@[simp] theorem zero_eq : (realX emb).zero = 0 := by simp [XOps.zero]
@[simp] theorem one_eq : (realX emb).one = 1 := by simp [XOps.one]

theorem maxA_eq (a b : ℝ) : (realX emb).maxA a b = max a b := by
  unfold XOps.maxA
  by_cases h : a < b
  · simp [h, max_eq_right h.le]
  · simp [h, max_eq_left (not_lt.mp h)]

theorem sign_eq (x : ℝ) : (realX emb).sign x = (SignType.sign x : ℝ) := by
  unfold XOps.sign
  rcases lt_trichotomy x 0 with h | h | h
  · have h' : ¬ (0 : ℝ) < x := not_lt.mpr h.le
    simp [h, h', sign_neg h]
  · subst h; simp
  · simp [h, sign_pos h]

theorem log1p_eq (x : ℝ) : (realX emb).log1p x = Real.log (1 + x) := by
  unfold XOps.log1p
  by_cases h : (1 : ℝ) + x = 1
  · have hx : x = 0 := by linarith
    subst hx; simp
  · have hx : x ≠ 0 := fun hx => h (by rw [hx, add_zero])
    have hne : ¬ ((1 : ℝ) + x ≤ 1 ∧ 1 ≤ 1 + x) := fun ⟨h1, h2⟩ => h (le_antisymm h1 h2)
    have : (1 : ℝ) + x - 1 = x := by ring
    simp only [add_eq, one_eq, le_eq, Bool.and_eq_true, decide_eq_true_eq, hne, if_false, div_eq, mul_eq, log_eq, sub_eq, this]
    field_simp

theorem sigmoid_eq (z : ℝ) : (realX emb).sigmoid z = 1 / (1 + Real.exp (-z)) := by
  simp [XOps.sigmoid]

end RealX
end
