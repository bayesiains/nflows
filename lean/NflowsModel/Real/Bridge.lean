import NflowsModel.Core.Spline
import NflowsModel.Lemmas.DualSound
import NflowsModel.Lemmas.RQ
import NflowsModel.Lemmas.Quad
import NflowsModel.Lemmas.Cubic
/-!
# Real/Bridge — the `Expr` terms the driver executes ARE the real functions the theorems are about

For the per-bin closed forms `rqFwdE`, `rqFwdLdE`, `rqRootE` (with `rqDiscE` inside), `quadFwdE`, `quadFwdLdE`, `quadInvAlphaE`,
`cubicFwdE`, `cubicDerivE` of `Core/Spline` we prove
`evalR env fooE = <shallow real definition used in the calculus lemmas>`; both sides are the same closed
form, so each proof only evaluates the term (`simp only` with the `evalR` equations) and, where the two sides
associate differently, `ring`.  `evalR = evalG realOps` is literally the interpreter the driver runs at `floatOps`.
-/
open DualSound NF

namespace Bridge

/-! `evalR` through the arithmetic notation and the numerals in which the `Expr` terms are written -/
theorem evalR_hadd (env) (a b : Expr) : evalR env (a + b) = evalR env a + evalR env b := rfl
theorem evalR_hsub (env) (a b : Expr) : evalR env (a - b) = evalR env a - evalR env b := rfl
theorem evalR_hmul (env) (a b : Expr) : evalR env (a * b) = evalR env a * evalR env b := rfl
theorem evalR_hdiv (env) (a b : Expr) : evalR env (a / b) = evalR env a / evalR env b := rfl
theorem evalR_one (env) : evalR env (1 : Expr) = 1 := by
  show ((1 : ℤ) : ℝ) / ((1 : ℕ) : ℝ) = 1
  rw [Int.cast_one, Nat.cast_one, div_one]
theorem evalR_ofNat (env) (n : ℕ) [n.AtLeastTwo] : evalR env (no_index (OfNat.ofNat n) : Expr) = (OfNat.ofNat n : ℝ) := by
  show (((n : ℕ) : ℤ) : ℝ) / ((1 : ℕ) : ℝ) = _
  rw [Nat.cast_one, div_one, Int.cast_natCast]; rfl

/-- environment of `rqFwdE`: 0 x, 1 xk, 2 w, 3 yk, 4 h, 5 d0, 6 d1 -/
def rqEnv (x xk w yk h d0 d1 : ℝ) : Nat → ℝ := envOf [x, xk, w, yk, h, d0, d1] 0

@[simp] theorem rqEnv0 (x xk w yk h d0 d1 : ℝ) : rqEnv x xk w yk h d0 d1 0 = x := rfl
@[simp] theorem rqEnv1 (x xk w yk h d0 d1 : ℝ) : rqEnv x xk w yk h d0 d1 1 = xk := rfl
@[simp] theorem rqEnv2 (x xk w yk h d0 d1 : ℝ) : rqEnv x xk w yk h d0 d1 2 = w := rfl
@[simp] theorem rqEnv3 (x xk w yk h d0 d1 : ℝ) : rqEnv x xk w yk h d0 d1 3 = yk := rfl
@[simp] theorem rqEnv4 (x xk w yk h d0 d1 : ℝ) : rqEnv x xk w yk h d0 d1 4 = h := rfl
@[simp] theorem rqEnv5 (x xk w yk h d0 d1 : ℝ) : rqEnv x xk w yk h d0 d1 5 = d0 := rfl
@[simp] theorem rqEnv6 (x xk w yk h d0 d1 : ℝ) : rqEnv x xk w yk h d0 d1 6 = d1 := rfl

theorem rqFwdE_eq (x xk w yk h d0 d1 : ℝ) :
    evalR (rqEnv x xk w yk h d0 d1) rqFwdE = yk + RQ.g (h / w) d0 d1 h ((x - xk) / w) := by
  simp only [rqFwdE, RQ.g, NF.v, evalR_hadd, evalR_hsub, evalR_hmul, evalR_hdiv, evalR_var, evalR_one, evalR_ofNat, rqEnv0, rqEnv1, rqEnv2, rqEnv3, rqEnv4, rqEnv5, rqEnv6]
  ring

theorem rqFwdLdE_eq (x xk w yk h d0 d1 : ℝ) :
    evalR (rqEnv x xk w yk h d0 d1) rqFwdLdE =
      Real.log (RQ.dnum (h / w) d0 d1 ((x - xk) / w)) - 2 * Real.log (RQ.den (h / w) d0 d1 ((x - xk) / w)) := by
  simp only [rqFwdLdE, RQ.dnum, RQ.den, NF.v, evalR_hadd, evalR_hsub, evalR_hmul, evalR_hdiv, evalR_var, evalR_one, evalR_ofNat, evalR_log, rqEnv0, rqEnv1, rqEnv2, rqEnv4, rqEnv5, rqEnv6, pow_two]

/-- the executed RQ inverse root is the `2c/(-b-√(b²-4ac))` of `RQ.inverse_correct` with Δ = y - yk -/
theorem rqRootE_eq (y xk w yk h d0 d1 : ℝ) :
    evalR (rqEnv y xk w yk h d0 d1) rqRootE =
      (let a := RQ.qa (h / w) d0 d1 h (y - yk); let b := RQ.qb (h / w) d0 d1 h (y - yk); let c := RQ.qc (h / w) (y - yk)
       2 * c / (-b - Real.sqrt (b ^ 2 - 4 * a * c))) := by
  simp only [rqRootE, rqDiscE, RQ.qa, RQ.qb, RQ.qc, NF.v, evalR_hadd, evalR_hsub, evalR_hmul, evalR_hdiv, evalR_var,
    evalR_ofNat, evalR_neg, evalR_sqrt, rqEnv0, rqEnv2, rqEnv3, rqEnv4, rqEnv5, rqEnv6, pow_two]

/-- quadratic: env 0 x', 1 loc, 2 w, 3 lcdf, 4 hl, 5 hr -/
def qEnv (x loc w c hl hr : ℝ) : Nat → ℝ := envOf [x, loc, w, c, hl, hr] 0

theorem quadFwdE_eq (x loc w c hl hr : ℝ) :
    evalR (qEnv x loc w c hl hr) quadFwdE = Quad.cdf hl hr w c ((x - loc) / w) := by
  have half : ((1 : ℤ) : ℝ) / ((2 : ℕ) : ℝ) = 0.5 := by norm_num
  simp only [quadFwdE, Quad.cdf, NF.v, evalR_hadd, evalR_hsub, evalR_hmul, evalR_hdiv, evalR_var, evalR_lit, half,
    qEnv, envOf, List.getD_cons_zero, List.getD_cons_succ]
  ring

theorem quadFwdLdE_eq (x loc w c hl hr : ℝ) :
    evalR (qEnv x loc w c hl hr) quadFwdLdE = Real.log (Quad.pdf hl hr ((x - loc) / w)) := by
  simp only [quadFwdLdE, Quad.pdf, NF.v, evalR_hadd, evalR_hsub, evalR_hmul, evalR_hdiv, evalR_var, evalR_log,
    qEnv, envOf, List.getD_cons_zero, List.getD_cons_succ]

/-- cubic: env 0 x', 1 lcw, 2 a, 3 b, 4 c, 5 d with a = (d0+d1-2s)/w², b = (3s-2d0-d1)/w, c = d0 -/
def cEnv (x lcw a b c d : ℝ) : Nat → ℝ := envOf [x, lcw, a, b, c, d] 0

theorem cubicFwdE_eq (x lcw s d0 d1 w d : ℝ) :
    evalR (cEnv x lcw ((d0 + d1 - 2*s)/w^2) ((3*s - 2*d0 - d1)/w) d0 d) cubicFwdE = Cubic.poly s d0 d1 w (x - lcw) + d := by
  simp only [cubicFwdE, Cubic.poly, NF.v, evalR_hadd, evalR_hsub, evalR_hmul, evalR_var,
    cEnv, envOf, List.getD_cons_zero, List.getD_cons_succ]
  ring

theorem cubicDerivE_eq (x lcw s d0 d1 w d : ℝ) (hw : w ≠ 0) :
    evalR (cEnv x lcw ((d0 + d1 - 2*s)/w^2) ((3*s - 2*d0 - d1)/w) d0 d) cubicDerivE = Cubic.dpoly s d0 d1 ((x - lcw) / w) := by
  simp only [cubicDerivE, Cubic.dpoly, NF.v, evalR_hadd, evalR_hsub, evalR_hmul, evalR_var, evalR_ofNat,
    cEnv, envOf, List.getD_cons_zero, List.getD_cons_succ]
  field_simp

/-- the executed quadratic-spline inverse root is the stable root `2c/(-b-√(b²-4ac))` with
    `a = ½(hr-hl)w`, `b = hl·w`, `c = lcdf - y` (quadratic.py:140-147) -/
theorem quadInvAlphaE_eq (y loc w c hl hr : ℝ) :
    evalR (qEnv y loc w c hl hr) quadInvAlphaE =
      (let a := (1/2 : ℝ) * (hr - hl) * w; let b := hl * w; let c' := c - y
       2 * c' / (-b - Real.sqrt (b ^ 2 - 4 * a * c'))) := by
  simp only [quadInvAlphaE, NF.v, evalR_hsub, evalR_hmul, evalR_hdiv, evalR_var, evalR_ofNat, evalR_lit, evalR_neg,
    evalR_sqrt, Int.cast_one, Nat.cast_ofNat, qEnv, envOf, List.getD_cons_zero, List.getD_cons_succ, pow_two]

end Bridge
