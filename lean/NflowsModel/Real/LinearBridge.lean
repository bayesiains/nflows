import NflowsModel.Lemmas.LinearFamily
import NflowsModel.Lemmas.LFTriSolve
import NflowsModel.Lemmas.LinearRows
/-!
# Real/LinearBridge — the executable list model of the linear family, run at `realOps`, IS the Mathlib matrix algebra

`ofMat A` is the list-of-rows form of a matrix; every well-shaped list matrix is `ofMat (toMat n M)`.  Each
executable primitive of `Core/LinearFamily` (`dot`, `matVec`, `transpose`, `matMul`, `eye`, `diagM`, `hhApply`,
`hhSeq`, `hhForward`, `hhInverse`, `hhMatrix`, the LU / QR / SVD accessors) is rewritten into the corresponding
Mathlib term, so the theorems of `Lemmas/LinearFamily`, `Lemmas/LU`, `Lemmas/Householder` are statements about
the very definitions the driver runs.  `IsMulVec g M`: an executed row function is multiplication by `M` (a Householder
sequence is `Q`, a triangular solve is the inverse matrix).  `Denotes W b …`: the accessors and the two row functions of ONE
layer describe the invertible affine map `x ↦ W x + b`, with `W⁻¹` computed (`U⁻¹ L⁻¹`, `R⁻¹ Qᵀ`, `Q₂ᵀ D⁻¹ Q₁ᵀ`); what is
proved of a class of layers (C01, C02, C10, C11) is proved once of `Denotes` (`Denotes.executed` here, `.usable` / `.passesAgree` in
`Lemmas/LinearFresh`, `.passIs` / `.passIs_inv` in `Lemmas/LinearJacobian`, `.cache_paths` in `Lemmas/CachePaths`, `.roundTrip_stage`
in `Lemmas/StageRoundTrips`, `.stageJac` in `Lemmas/MultiscaleLinear`) and read at `lu_denotes`, `qr_denotes`,
`svd_denotes` (`NaiveGauss.naive_denotes` for the Gauss–Jordan inverse).  Last, the constructor's initial q-vectors in closed
form: unit basis rows, so every fresh Householder sequence meets the hypothesis "no q-vector is zero".
-/
open NF.LF DualSound Matrix

namespace LinearBridge
variable {n : ℕ}

/-! ## vectors -/

theorem zipWith_ofFn {β γ δ : Type} (f : β → γ → δ) (x : Fin n → β) (y : Fin n → γ) :
    List.zipWith f (List.ofFn x) (List.ofFn y) = List.ofFn (fun i => f (x i) (y i)) := by
  apply List.ext_getElem
  · simp
  · intro i h1 h2
    simp

theorem sum_ofFn (x : Fin n → ℝ) : sum realOps (List.ofFn x) = ∑ i, x i := by
  rw [LFTriSolve.sum_real, List.sum_ofFn]

theorem dot_ofFn (x y : Fin n → ℝ) : dot realOps (List.ofFn x) (List.ofFn y) = x ⬝ᵥ y := by
  unfold dot
  rw [zipWith_ofFn, sum_ofFn]
  rfl

theorem addV_ofFn (x y : Fin n → ℝ) : addV realOps (List.ofFn x) (List.ofFn y) = List.ofFn (x + y) := by
  unfold addV; rw [zipWith_ofFn]; rfl

theorem subV_ofFn (x y : Fin n → ℝ) : subV realOps (List.ofFn x) (List.ofFn y) = List.ofFn (x - y) := by
  unfold subV; rw [zipWith_ofFn]; rfl

theorem list_eq_ofFn (xs : List ℝ) (h : xs.length = n) : xs = List.ofFn (fun i : Fin n => xs.getD i 0) := by
  apply List.ext_getElem
  · simp [h]
  · intro i h1 h2
    simp [List.getD_eq_getElem?_getD, h1]

theorem addV_list (x : Fin n → ℝ) (b : List ℝ) (hb : b.length = n) :
    addV realOps (List.ofFn x) b = List.ofFn (x + fun i : Fin n => b.getD i 0) := by
  conv_lhs => rw [list_eq_ofFn b hb]
  exact addV_ofFn _ _

theorem subV_list (x : Fin n → ℝ) (b : List ℝ) (hb : b.length = n) :
    subV realOps (List.ofFn x) b = List.ofFn (x - fun i : Fin n => b.getD i 0) := by
  conv_lhs => rw [list_eq_ofFn b hb]
  exact subV_ofFn _ _

/-- **one Householder step, as executed** (orthogonal.py:86-88) is `Householder.hhApply` -/
theorem hhApply_executed (v x : Fin n → ℝ) :
    hhApply realOps (List.ofFn v) (List.ofFn x) = List.ofFn (Householder.hhApply v x) := by
  unfold hhApply
  simp only [List.map_ofFn]
  rw [zipWith_ofFn, dot_ofFn]
  have hsq : sum realOps (List.ofFn ((fun a => realOps.mul a a) ∘ v)) = v ⬝ᵥ v := by
    rw [sum_ofFn]; rfl
  rw [hsq]
  congr 1
  funext i
  simp only [Householder.hhApply, Function.comp, LFTriSolve.two_real, Pi.sub_apply, Pi.smul_apply, smul_eq_mul]
  show x i - (x ⬝ᵥ v) * (2 / (v ⬝ᵥ v) * v i) = _
  ring

/-- **a Householder sequence, as executed** (orthogonal.py:83-88) is `Householder.hhSeq` -/
theorem hhSeq_executed (vs : List (Fin n → ℝ)) (x : Fin n → ℝ) :
    hhSeq realOps (vs.map List.ofFn) (List.ofFn x) = List.ofFn (Householder.hhSeq vs x) := by
  induction vs generalizing x with
  | nil => simp [hhSeq, Householder.hhSeq]
  | cons v vs ih =>
    simp only [hhSeq, Householder.hhSeq, List.map_cons, List.foldl_cons] at ih ⊢
    rw [hhApply_executed]
    exact ih _

/-! ## matrices -/

def ofMat (A : Matrix (Fin n) (Fin n) ℝ) : List (List ℝ) := List.ofFn (fun i => List.ofFn (A i))

def WF (n : ℕ) (M : List (List ℝ)) : Prop := M.length = n ∧ ∀ r ∈ M, r.length = n

noncomputable def toMat (n : ℕ) (M : List (List ℝ)) : Matrix (Fin n) (Fin n) ℝ := fun i j => entry realOps M i j

theorem wf_ofMat (A : Matrix (Fin n) (Fin n) ℝ) : WF n (ofMat A) := by
  refine ⟨by simp [ofMat], ?_⟩
  intro r hr
  simp only [ofMat, List.mem_ofFn] at hr
  obtain ⟨i, rfl⟩ := hr
  simp

theorem toMat_ofMat (A : Matrix (Fin n) (Fin n) ℝ) : toMat n (ofMat A) = A := by
  funext i j
  simp [toMat, LFTriSolve.entry_real, ofMat, List.getD_eq_getElem?_getD]

theorem ofMat_toMat {M : List (List ℝ)} (h : WF n M) : ofMat (toMat n M) = M := by
  obtain ⟨hl, hr⟩ := h
  apply List.ext_getElem
  · simp [ofMat, hl]
  · intro i h1 h2
    have hi : i < n := by simpa [ofMat] using h1
    have hrow : (M[i]).length = n := hr _ (List.getElem_mem h2)
    apply List.ext_getElem
    · simp [ofMat, hrow]
    · intro j h3 h4
      have hj : j < n := by simpa [ofMat] using h3
      simp [ofMat, toMat, LFTriSolve.entry_real, List.getD_eq_getElem?_getD, h2, hrow, hj]

theorem ofMat_injective {A B : Matrix (Fin n) (Fin n) ℝ} (h : ofMat A = ofMat B) : A = B := by
  rw [← toMat_ofMat A, ← toMat_ofMat B, h]

theorem wf_tab2 (f : ℕ → ℕ → ℝ) : WF n (tab2 n f) := ⟨LFIndex.tab2_length n f, LFIndex.tab2_row_length n f⟩

theorem tab2_eq_ofMat (f : ℕ → ℕ → ℝ) : tab2 n f = ofMat (fun i j : Fin n => f i j) := by
  rw [← ofMat_toMat (wf_tab2 f)]
  congr 1
  funext i j
  exact LFIndex.entry_tab2 realOps n f i.2 j.2

theorem col_ofMat (A : Matrix (Fin n) (Fin n) ℝ) (j : Fin n) : NF.LF.col realOps (ofMat A) j = List.ofFn (Aᵀ j) := by
  unfold NF.LF.col ofMat
  rw [List.map_ofFn]
  congr 1
  funext i
  simp [Function.comp, List.getD_eq_getElem?_getD]

theorem transpose_ofMat (A : Matrix (Fin n) (Fin n) ℝ) : NF.LF.transpose realOps n (ofMat A) = ofMat Aᵀ := by
  unfold NF.LF.transpose
  apply List.ext_getElem
  · simp [ofMat]
  · intro j h1 h2
    have hj : j < n := by simpa using h1
    simp only [List.getElem_map, List.getElem_range]
    have := col_ofMat A ⟨j, hj⟩
    simp only at this
    rw [this]
    simp [ofMat]

theorem matVec_ofMat (A : Matrix (Fin n) (Fin n) ℝ) (x : Fin n → ℝ) :
    matVec realOps (ofMat A) (List.ofFn x) = List.ofFn (A *ᵥ x) := by
  unfold matVec ofMat
  rw [List.map_ofFn]
  congr 1
  funext i
  exact dot_ofFn (A i) x

theorem matMul_ofMat (A B : Matrix (Fin n) (Fin n) ℝ) : matMul realOps n (ofMat A) (ofMat B) = ofMat (A * B) := by
  unfold matMul
  rw [transpose_ofMat]
  simp only [ofMat, List.map_ofFn]
  congr 1
  funext i
  simp only [Function.comp]
  congr 1
  funext j
  simp only [Function.comp, dot_ofFn]
  rfl

theorem eye_eq (n : ℕ) : eye realOps n = ofMat (1 : Matrix (Fin n) (Fin n) ℝ) := by
  unfold eye
  rw [tab2_eq_ofMat]
  congr 1
  funext i j
  simp [Matrix.one_apply, Fin.ext_iff]

theorem diagM_ofFn (d : Fin n → ℝ) : diagM realOps (List.ofFn d) = ofMat (Matrix.diagonal d) := by
  unfold diagM
  simp only [List.length_ofFn]
  rw [tab2_eq_ofMat]
  congr 1
  funext i j
  by_cases h : i = j
  · subst h; simp [List.getD_eq_getElem?_getD]
  · have : (i : ℕ) ≠ j := fun hh => h (Fin.ext hh)
    simp [h, this]

theorem map_ofMat (g : List ℝ → List ℝ) (h : (Fin n → ℝ) → (Fin n → ℝ)) (hg : ∀ x, g (List.ofFn x) = List.ofFn (h x))
    (A : Matrix (Fin n) (Fin n) ℝ) : (ofMat A).map g = ofMat (Matrix.of fun i => h (A i)) := by
  unfold ofMat
  rw [List.map_ofFn]
  congr 1
  funext i
  simp only [Function.comp, hg]
  rfl

theorem linear0_ofMat (W X : Matrix (Fin n) (Fin n) ℝ) :
    linear0 realOps (ofMat W) (ofMat X) = ofMat (Matrix.of fun i => W *ᵥ X i) :=
  map_ofMat _ _ (matVec_ofMat W) X

/-! ## triangular solves on matrices -/

theorem entry_ofMat (A : Matrix (Fin n) (Fin n) ℝ) (i j : Fin n) : entry realOps (ofMat A) i j = A i j :=
  congrFun (congrFun (toMat_ofMat A) i) j

theorem mulVec_getD (A : Matrix (Fin n) (Fin n) ℝ) (xs : List ℝ) (i : Fin n) :
    (A *ᵥ (fun j : Fin n => xs.getD j 0)) i = ∑ j ∈ Finset.range n, entry realOps (ofMat A) i j * xs.getD j 0 := by
  rw [← Fin.sum_univ_eq_sum_range (fun j => entry realOps (ofMat A) i j * xs.getD j 0) n]
  simp only [Matrix.mulVec, dotProduct]
  apply Finset.sum_congr rfl
  intro j _
  rw [entry_ofMat]

theorem solveUpper_ofMat (U : Matrix (Fin n) (Fin n) ℝ) (hU : ∀ i j : Fin n, j < i → U i j = 0) (hd : ∀ i, U i i ≠ 0)
    (b : Fin n → ℝ) :
    ∃ x : Fin n → ℝ, solveUpper realOps (ofMat U) (List.ofFn b) = List.ofFn x ∧ U *ᵥ x = b := by
  obtain ⟨hl, hrow⟩ := wf_ofMat U
  obtain ⟨hlen, hsum⟩ := LFTriSolve.solveUpper_correct n (ofMat U) (List.ofFn b) hl hrow (by simp)
    (by intro i hi; have := entry_ofMat U ⟨i, hi⟩ ⟨i, hi⟩; simp only at this; rw [this]; exact hd _)
  refine ⟨fun i => (solveUpper realOps (ofMat U) (List.ofFn b)).getD i 0, list_eq_ofFn _ hlen, ?_⟩
  funext i
  rw [mulVec_getD, ← Finset.sum_range_add_sum_Ico _ (le_of_lt i.2)]
  have hz : ∑ j ∈ Finset.range (i : ℕ), entry realOps (ofMat U) i j *
      (solveUpper realOps (ofMat U) (List.ofFn b)).getD j 0 = 0 := by
    apply Finset.sum_eq_zero
    intro j hj
    rw [Finset.mem_range] at hj
    have := entry_ofMat U i ⟨j, lt_trans hj i.2⟩
    simp only at this
    rw [this, hU i ⟨j, lt_trans hj i.2⟩ (by exact hj), zero_mul]
  rw [hz, zero_add, hsum i i.2]
  simp [List.getD_eq_getElem?_getD]

theorem solveLowerUnit_ofMat (lo : Fin n → Fin n → ℝ) (b : Fin n → ℝ) :
    ∃ x : Fin n → ℝ, solveLowerUnit realOps (ofMat (LU.mkLower lo)) (List.ofFn b) = List.ofFn x ∧ LU.mkLower lo *ᵥ x = b := by
  obtain ⟨hl, hrow⟩ := wf_ofMat (LU.mkLower lo)
  obtain ⟨hlen, hsum⟩ := LFTriSolve.solveLowerUnit_correct n (ofMat (LU.mkLower lo)) (List.ofFn b) hl hrow (by simp)
  refine ⟨fun i => (solveLowerUnit realOps (ofMat (LU.mkLower lo)) (List.ofFn b)).getD i 0, list_eq_ofFn _ hlen, ?_⟩
  funext i
  rw [mulVec_getD, ← Finset.sum_range_add_sum_Ico _ (le_of_lt i.2), Finset.sum_eq_sum_Ico_succ_bot i.2]
  have hdiag : entry realOps (ofMat (LU.mkLower lo)) i i = 1 := by
    rw [entry_ofMat]; simp [LU.mkLower]
  have hz : ∑ j ∈ Finset.Ico ((i : ℕ) + 1) n, entry realOps (ofMat (LU.mkLower lo)) i j *
      (solveLowerUnit realOps (ofMat (LU.mkLower lo)) (List.ofFn b)).getD j 0 = 0 := by
    apply Finset.sum_eq_zero
    intro j hj
    rw [Finset.mem_Ico] at hj
    have := entry_ofMat (LU.mkLower lo) i ⟨j, hj.2⟩
    simp only at this
    have hij : i < (⟨j, hj.2⟩ : Fin n) := by
      rw [Fin.lt_def]; exact hj.1
    rw [this]
    simp [LU.mkLower, not_lt.mpr hij.le, hij.ne]
  rw [hz, add_zero, hdiag, one_mul]
  have := hsum i i.2
  simp only [List.getD_eq_getElem?_getD, List.getElem?_ofFn, i.2] at this ⊢
  simpa using this

/-! ## an executed row function is a matrix -/

def IsMulVec (g : List ℝ → List ℝ) (M : Matrix (Fin n) (Fin n) ℝ) : Prop :=
  ∀ x : Fin n → ℝ, g (List.ofFn x) = List.ofFn (M *ᵥ x)

theorem IsMulVec.comp {g f : List ℝ → List ℝ} {M N : Matrix (Fin n) (Fin n) ℝ} (hg : IsMulVec g M) (hf : IsMulVec f N) :
    IsMulVec (fun x => g (f x)) (M * N) := fun x => by
  show g (f (List.ofFn x)) = _
  rw [hf x, hg, Matrix.mulVec_mulVec]

theorem IsMulVec.map_ofMat {g : List ℝ → List ℝ} {M : Matrix (Fin n) (Fin n) ℝ} (hg : IsMulVec g M)
    (A : Matrix (Fin n) (Fin n) ℝ) : (ofMat A).map g = ofMat (A * Mᵀ) := by
  rw [LinearBridge.map_ofMat g (fun x => M *ᵥ x) hg, ← LinearFamily.of_rows_vecMul]
  congr 1
  funext i
  exact (Matrix.vecMul_transpose M _).symm

/-- applying a row function to the rows of the identity and transposing gives its matrix (`weight_inverse()` of LU and QR) -/
theorem IsMulVec.columns {g : List ℝ → List ℝ} {M : Matrix (Fin n) (Fin n) ℝ} (hg : IsMulVec g M) :
    NF.LF.transpose realOps n ((eye realOps n).map g) = ofMat M := by
  rw [eye_eq, hg.map_ofMat, transpose_ofMat, Matrix.one_mul, Matrix.transpose_transpose]

theorem IsMulVec.of_solves {g : List ℝ → List ℝ} {M : Matrix (Fin n) (Fin n) ℝ} (hM : M.det ≠ 0)
    (h : ∀ b : Fin n → ℝ, ∃ x : Fin n → ℝ, g (List.ofFn b) = List.ofFn x ∧ M *ᵥ x = b) : IsMulVec g M⁻¹ := fun b => by
  obtain ⟨x, hx, hMx⟩ := h b
  rw [hx, ← hMx, Matrix.mulVec_mulVec, Matrix.nonsing_inv_mul M (isUnit_iff_ne_zero.mpr hM), Matrix.one_mulVec]

theorem isMulVec_hhSeq (vs : List (Fin n → ℝ)) : IsMulVec (hhSeq realOps (vs.map List.ofFn)) (LinearFamily.Q vs) := fun x => by
  rw [hhSeq_executed, LinearFamily.forward_eq_mulVec]

theorem isMulVec_hhSeq_reverse (vs : List (Fin n → ℝ)) :
    IsMulVec (hhSeq realOps (vs.map List.ofFn).reverse) (LinearFamily.Q vs)ᵀ := fun x => by
  rw [← List.map_reverse, hhSeq_executed, LinearFamily.inverse_eq_mulVec]

theorem hhSeq_roundtrip (vs : List (Fin n → ℝ)) (hv : ∀ v ∈ vs, v ⬝ᵥ v ≠ 0) (x : Fin n → ℝ) :
    hhSeq realOps (vs.map List.ofFn).reverse (hhSeq realOps (vs.map List.ofFn) (List.ofFn x)) = List.ofFn x := by
  rw [hhSeq_executed, ← List.map_reverse, hhSeq_executed, Householder.hhSeq_inverse vs hv]

theorem hhForward_ofMat (vs : List (Fin n → ℝ)) (A : Matrix (Fin n) (Fin n) ℝ) :
    hhForward realOps (vs.map List.ofFn) (ofMat A) = ofMat (A * (LinearFamily.Q vs)ᵀ) :=
  (isMulVec_hhSeq vs).map_ofMat A

theorem hhInverse_ofMat (vs : List (Fin n → ℝ)) (A : Matrix (Fin n) (Fin n) ℝ) :
    hhInverse realOps (vs.map List.ofFn) (ofMat A) = ofMat (A * LinearFamily.Q vs) := by
  have h := (isMulVec_hhSeq_reverse vs).map_ofMat A
  rwa [Matrix.transpose_transpose] at h

theorem hhMatrix_executed (vs : List (Fin n → ℝ)) :
    hhMatrix realOps n (vs.map List.ofFn) = ofMat (LinearFamily.Q vs) := by
  unfold hhMatrix
  rw [eye_eq, hhInverse_ofMat, Matrix.one_mul]

theorem zipWith_div_ofFn (x d : Fin n → ℝ) :
    List.zipWith realOps.div (List.ofFn x) (List.ofFn d) = List.ofFn (Matrix.diagonal (fun i => (d i)⁻¹) *ᵥ x) := by
  rw [zipWith_ofFn]
  congr 1
  funext i
  rw [Matrix.mulVec_diagonal]
  exact div_eq_inv_mul _ _

/-! ## what an executed layer denotes -/

/-- the executed accessors `weight`, `winv`, `ld` and the executed row functions `g` (forward), `gi` (inverse) of one layer
    denote the invertible affine map `x ↦ W x + b`.  Stated of row functions, not of passes: a pass enters each consequence through
    `LinearJacobian.RowWise pass g`, which holds at every `Ops α` (`Lemmas/LinearRows`). -/
structure Denotes (W : Matrix (Fin n) (Fin n) ℝ) (b : Fin n → ℝ) (weight winv : List (List ℝ)) (ld : ℝ)
    (g gi : List ℝ → List ℝ) : Prop where
  det_ne : W.det ≠ 0
  weight_eq : weight = ofMat W
  winv_eq : winv = ofMat W⁻¹
  ld_eq : ld = Real.log |W.det|
  row : ∀ x : Fin n → ℝ, g (List.ofFn x) = List.ofFn (W *ᵥ x + b)
  invRow : ∀ y : Fin n → ℝ, gi (List.ofFn y) = List.ofFn (W⁻¹ *ᵥ (y - b))

section denotes
variable {W : Matrix (Fin n) (Fin n) ℝ} {b : Fin n → ℝ} {weight winv : List (List ℝ)} {ld : ℝ} {g gi : List ℝ → List ℝ}

theorem Denotes.inv_mul (h : Denotes W b weight winv ld g gi) : W⁻¹ * W = 1 :=
  Matrix.nonsing_inv_mul W (isUnit_iff_ne_zero.mpr h.det_ne)

theorem Denotes.mul_inv (h : Denotes W b weight winv ld g gi) : W * W⁻¹ = 1 :=
  Matrix.mul_nonsing_inv W (isUnit_iff_ne_zero.mpr h.det_ne)

theorem Denotes.invRow_row (h : Denotes W b weight winv ld g gi) (x : Fin n → ℝ) :
    gi (List.ofFn (W *ᵥ x + b)) = List.ofFn x := by
  rw [h.invRow, LinearFamily.naive_roundtrip W W⁻¹ h.inv_mul]

theorem Denotes.roundtrip (h : Denotes W b weight winv ld g gi) (x : Fin n → ℝ) : gi (g (List.ofFn x)) = List.ofFn x := by
  rw [h.row, h.invRow_row]

theorem Denotes.forward_single (h : Denotes W b weight winv ld g gi) {fwd : List (List ℝ) → List (List ℝ)}
    (hF : LinearJacobian.RowWise fwd g) (x : Fin n → ℝ) : fwd [List.ofFn x] = [List.ofFn (W *ᵥ x + b)] := by
  rw [hF.singleton, h.row]

/-- C11 for a layer whose passes act row by row through `g`, `gi`: `weight()`, `logabsdet()`, the forward pass, `weight_inverse()` and
    the inverse pass describe one affine map (on one-row batches; whole batches: `Denotes.usable`) -/
theorem Denotes.executed (h : Denotes W b weight winv ld g gi) {fwd inv : List (List ℝ) → List (List ℝ)}
    (hF : LinearJacobian.RowWise fwd g) (hI : LinearJacobian.RowWise inv gi) :
    weight = ofMat W ∧ ld = Real.log |W.det| ∧
    (∀ x : Fin n → ℝ, fwd [List.ofFn x] = [List.ofFn (W *ᵥ x + b)]) ∧
    (∃ Winv : Matrix (Fin n) (Fin n) ℝ, winv = ofMat Winv ∧ Winv * W = 1 ∧ W * Winv = 1) ∧
    (∀ x : Fin n → ℝ, inv (fwd [List.ofFn x]) = [List.ofFn x]) :=
  ⟨h.weight_eq, h.ld_eq, h.forward_single hF, ⟨W⁻¹, h.winv_eq, h.inv_mul, h.mul_inv⟩,
    fun x => by rw [hF.singleton, hI.singleton, h.roundtrip]⟩

end denotes

/-! ## the accessors, as executed -/

/-- real twins of the parameters: the entry scattered at `(i, j)` by the `tril` / `triu` index lists -/
noncomputable def loFn (n : ℕ) (lo : List ℝ) : Fin n → Fin n → ℝ := fun i j => (lookupIdx (trilIndices n) lo i j).getD 0
noncomputable def upFn (n : ℕ) (up : List ℝ) : Fin n → Fin n → ℝ := fun i j => (lookupIdx (triuIndices n) up i j).getD 0
def vecFn (n : ℕ) (d : List ℝ) : Fin n → ℝ := fun i => d.getD i 0

theorem naiveRow_executed (W : Matrix (Fin n) (Fin n) ℝ) (b : List ℝ) (hb : b.length = n) (x : Fin n → ℝ) :
    LinearJacobian.naiveRow realOps (ofMat W) b (List.ofFn x) = List.ofFn (W *ᵥ x + vecFn n b) := by
  unfold LinearJacobian.naiveRow
  rw [matVec_ofMat, addV_list _ _ hb]
  rfl

theorem luLower_executed (n : ℕ) (lo : List ℝ) : luLower realOps n lo = ofMat (LU.mkLower (loFn n lo)) := by
  rw [luLower, tab2_eq_ofMat, LFIndex.one_real, LFIndex.zero_real]
  congr 1
  funext i j
  unfold LU.mkLower loFn
  rcases lt_trichotomy j i with h | h | h
  · rw [if_neg (Fin.val_ne_of_ne h.ne'), if_pos h]
  · rw [h, if_pos rfl, if_neg (lt_irrefl _), if_pos rfl]
  · rw [if_neg (Fin.val_ne_of_ne h.ne), if_neg h.not_gt, if_neg h.ne,
      LFIndex.lookupIdx_none _ _ fun hm => absurd (LFIndex.mem_trilIndices.mp hm).1 (not_lt_of_gt h)]
    rfl

theorem mkUpper_executed (n : ℕ) (up d : List ℝ) : mkUpper realOps n up d = ofMat (LU.mkUpper (upFn n up) (vecFn n d)) := by
  rw [mkUpper, tab2_eq_ofMat, LFIndex.zero_real]
  congr 1
  funext i j
  unfold LU.mkUpper upFn vecFn
  rcases lt_trichotomy i j with h | h | h
  · rw [if_neg (Fin.val_ne_of_ne h.ne), if_pos h]
  · rw [h, if_pos rfl, if_neg (lt_irrefl _), if_pos rfl]
  · rw [if_neg (Fin.val_ne_of_ne h.ne'), if_neg h.not_gt, if_neg h.ne',
      LFIndex.lookupIdx_none _ _ fun hm => absurd (LFIndex.mem_triuIndices.mp hm).1 (not_lt_of_gt h)]
    rfl

theorem sum_list (xs : List ℝ) (h : xs.length = n) : sum realOps xs = ∑ i : Fin n, vecFn n xs i := by
  conv_lhs => rw [list_eq_ofFn xs h]
  rw [sum_ofFn]; rfl

theorem vecFn_map (g : ℝ → ℝ) (xs : List ℝ) (h : xs.length = n) (i : Fin n) : vecFn n (xs.map g) i = g (vecFn n xs i) := by
  have hi : (i : ℕ) < xs.length := h ▸ i.2
  simp [vecFn, List.getD_eq_getElem?_getD, hi]

/-! ### LULinear -/

noncomputable def luW (p : LUParams ℝ) : Matrix (Fin p.n) (Fin p.n) ℝ :=
  LU.mkLower (loFn p.n p.lower) * LU.mkUpper (upFn p.n p.upper) (vecFn p.n (posDiag realOps p.eps p.udiag))

theorem luWeight_executed (p : LUParams ℝ) : luWeight realOps p = ofMat (luW p) := by
  unfold luWeight luL luU luW
  rw [luLower_executed, mkUpper_executed, matMul_ofMat]

theorem luDiag_pos (p : LUParams ℝ) (hlen : p.udiag.length = p.n) (heps : 0 ≤ p.eps) (i : Fin p.n) :
    0 < vecFn p.n (posDiag realOps p.eps p.udiag) i :=
  LFIndex.posDiag_getD_pos p.eps heps p.udiag (by rw [hlen]; exact i.2)

theorem luLogabsdet_executed (p : LUParams ℝ) (hlen : p.udiag.length = p.n) (heps : 0 ≤ p.eps) :
    luLogabsdet realOps p = Real.log |(luW p).det| := by
  unfold luLogabsdet sumLog luW
  have hl : (posDiag realOps p.eps p.udiag).length = p.n := by rw [LFIndex.posDiag_length, hlen]
  rw [sum_list _ (by rw [List.length_map, hl]), ← LU.lu_logabsdet _ _ _ (luDiag_pos p hlen heps)]
  apply Finset.sum_congr rfl
  intro i _
  rw [vecFn_map _ _ hl]; rfl

theorem luW_det_ne_zero (p : LUParams ℝ) (hlen : p.udiag.length = p.n) (heps : 0 ≤ p.eps) : (luW p).det ≠ 0 :=
  (LU.lu_isUnit _ _ _ (luDiag_pos p hlen heps)).ne_zero

theorem luRow_executed (p : LUParams ℝ) (hb : p.bias.length = p.n) (x : Fin p.n → ℝ) :
    LogdetExec.luRow realOps p (List.ofFn x) = List.ofFn (luW p *ᵥ x + vecFn p.n p.bias) := by
  unfold LogdetExec.luRow luL luU luW
  rw [luLower_executed, mkUpper_executed, matVec_ofMat, matVec_ofMat, addV_list _ _ hb, Matrix.mulVec_mulVec]
  rfl

/-- **`LULinear`, as executed** (`udiag`, bias of length `n`; `eps ≥ 0`): the two triangular solves are `U⁻¹ L⁻¹ = W⁻¹`, on a
    row (`inverse_no_cache`) and on the columns of the identity (`weight_inverse()`) -/
theorem lu_denotes (p : LUParams ℝ) (hlen : p.udiag.length = p.n) (heps : 0 ≤ p.eps) (hb : p.bias.length = p.n) :
    Denotes (luW p) (vecFn p.n p.bias) (luWeight realOps p) (luWeightInverse realOps p) (luLogabsdet realOps p)
      (LogdetExec.luRow realOps p) (LogdetExec.luInvRow realOps p) := by
  have hUd : (LU.mkUpper (upFn p.n p.upper) (vecFn p.n (posDiag realOps p.eps p.udiag))).det ≠ 0 := by
    rw [LU.mkUpper_det]; exact (Finset.prod_pos fun i _ => luDiag_pos p hlen heps i).ne'
  have hL := IsMulVec.of_solves (by rw [LU.mkLower_det]; exact one_ne_zero) (solveLowerUnit_ofMat (loFn p.n p.lower))
  have hU := IsMulVec.of_solves hUd (solveUpper_ofMat _ (fun i j hji => LU.mkUpper_upper _ _ hji)
    (fun i => by rw [LU.mkUpper_diag]; exact (luDiag_pos p hlen heps i).ne'))
  have hinv := hU.comp hL
  rw [← Matrix.mul_inv_rev] at hinv
  refine ⟨luW_det_ne_zero p hlen heps, luWeight_executed p, ?_, luLogabsdet_executed p hlen heps, luRow_executed p hb,
    fun y => ?_⟩
  · unfold luWeightInverse luL luU
    rw [luLower_executed, mkUpper_executed]
    exact hinv.columns
  · unfold LogdetExec.luInvRow luL luU
    rw [luLower_executed, mkUpper_executed, subV_list _ _ hb]
    exact hinv _

/-! ### QRLinear -/

noncomputable def qrRm (p : QRParams ℝ) : Matrix (Fin p.n) (Fin p.n) ℝ :=
  LU.mkUpper (upFn p.n p.upper) (fun i => Real.exp (vecFn p.n p.logDiag i))

/-- the QR weight `Q R`, `Q = H_K ⋯ H_1` -/
noncomputable def qrW (p : QRParams ℝ) (vs : List (Fin p.n → ℝ)) : Matrix (Fin p.n) (Fin p.n) ℝ :=
  LinearFamily.Q vs * qrRm p

theorem qrR_executed (p : QRParams ℝ) (hl : p.logDiag.length = p.n) : qrR realOps p = ofMat (qrRm p) := by
  unfold qrR qrRm
  rw [mkUpper_executed]
  congr 2
  funext i
  exact vecFn_map _ _ hl i

theorem qrWeight_executed (p : QRParams ℝ) (vs : List (Fin p.n → ℝ)) (hq : p.qs = vs.map List.ofFn)
    (hl : p.logDiag.length = p.n) : qrWeight realOps p = ofMat (qrW p vs) := by
  unfold qrWeight qrW
  rw [qrR_executed p hl, hq, transpose_ofMat, hhForward_ofMat, transpose_ofMat, Matrix.transpose_mul, Matrix.transpose_transpose,
    Matrix.transpose_transpose]

theorem qrLogabsdet_executed (p : QRParams ℝ) (vs : List (Fin p.n → ℝ)) (hv : ∀ v ∈ vs, v ⬝ᵥ v ≠ 0)
    (hl : p.logDiag.length = p.n) : qrLogabsdet realOps p = Real.log |(qrW p vs).det| := by
  unfold qrLogabsdet qrW qrRm
  rw [sum_list _ hl]
  exact LinearFamily.qr_logabsdet vs hv _ _

theorem qrRm_det_ne_zero (p : QRParams ℝ) : (qrRm p).det ≠ 0 := by
  rw [qrRm, LU.mkUpper_det]; exact (Finset.prod_pos fun i _ => Real.exp_pos _).ne'

theorem qrW_det_ne_zero (p : QRParams ℝ) (vs : List (Fin p.n → ℝ)) (hv : ∀ v ∈ vs, v ⬝ᵥ v ≠ 0) : (qrW p vs).det ≠ 0 := by
  rw [qrW, Matrix.det_mul]; exact mul_ne_zero (LinearFamily.Q_det_ne_zero vs hv) (qrRm_det_ne_zero p)

/-- **`QRLinear`, as executed** (q-vectors `vs`, none zero; `log_upper_diag`, bias of length `n`): `W⁻¹ = R⁻¹ Qᵀ`, the back
    substitution after the reversed reflections -/
theorem qr_denotes (p : QRParams ℝ) (vs : List (Fin p.n → ℝ)) (hq : p.qs = vs.map List.ofFn) (hv : ∀ v ∈ vs, v ⬝ᵥ v ≠ 0)
    (hl : p.logDiag.length = p.n) (hb : p.bias.length = p.n) :
    Denotes (qrW p vs) (vecFn p.n p.bias) (qrWeight realOps p) (qrWeightInverse realOps p) (qrLogabsdet realOps p)
      (LinearJacobian.qrRow realOps p) (LinearJacobian.qrInvRow realOps p) := by
  have hR := IsMulVec.of_solves (qrRm_det_ne_zero p) (solveUpper_ofMat (qrRm p) (fun i j hji => LU.mkUpper_upper _ _ hji)
    (fun i => by rw [qrRm, LU.mkUpper_diag]; exact (Real.exp_pos _).ne'))
  have hWi : (qrW p vs)⁻¹ = (qrRm p)⁻¹ * (LinearFamily.Q vs)ᵀ := by
    rw [qrW, Matrix.mul_inv_rev, Matrix.inv_eq_left_inv (LinearFamily.Q_orthogonal vs hv).1]
  refine ⟨qrW_det_ne_zero p vs hv, qrWeight_executed p vs hq hl, ?_, qrLogabsdet_executed p vs hv hl, fun x => ?_, fun y => ?_⟩
  · unfold qrWeightInverse
    simp only
    rw [qrR_executed p hl, hR.columns, hq, hhForward_ofMat, hWi]
  · unfold LinearJacobian.qrRow
    rw [qrR_executed p hl, hq, matVec_ofMat, isMulVec_hhSeq vs, addV_list _ _ hb, Matrix.mulVec_mulVec]
    rfl
  · unfold LinearJacobian.qrInvRow
    rw [qrR_executed p hl, hq, subV_list _ _ hb, isMulVec_hhSeq_reverse vs, hR, Matrix.mulVec_mulVec, ← hWi]
    rfl

/-! ### SVDLinear -/

noncomputable def svdD (p : SVDParams ℝ) : Fin p.n → ℝ := vecFn p.n (svdDiag realOps p)

noncomputable def svdW (p : SVDParams ℝ) (vs1 vs2 : List (Fin p.n → ℝ)) : Matrix (Fin p.n) (Fin p.n) ℝ :=
  LinearFamily.Q vs1 * Matrix.diagonal (svdD p) * LinearFamily.Q vs2

theorem svdDiag_length (p : SVDParams ℝ) : (svdDiag realOps p).length = p.udiag.length := by simp [svdDiag]

theorem svdDiag_eq (p : SVDParams ℝ) (hl : p.udiag.length = p.n) : svdDiag realOps p = List.ofFn (svdD p) :=
  list_eq_ofFn _ (by rw [svdDiag_length, hl])

theorem svdD_pos (p : SVDParams ℝ) (hl : p.udiag.length = p.n) (heps : 0 ≤ p.eps) (i : Fin p.n) : 0 < svdD p i := by
  have hi : (i : ℕ) < p.udiag.length := by rw [hl]; exact i.2
  simp only [svdD, vecFn, svdDiag, List.getD_eq_getElem?_getD, List.getElem?_map, List.getElem?_eq_getElem hi,
    Option.map_some, Option.getD_some]
  have := LFIndex.softplus_real_pos (p.udiag[(i : ℕ)])
  show 0 < p.eps + softplus realOps p.udiag[(i : ℕ)]
  linarith

theorem svdWeight_executed (p : SVDParams ℝ) (vs1 vs2 : List (Fin p.n → ℝ)) (h1 : p.qs1 = vs1.map List.ofFn)
    (h2 : p.qs2 = vs2.map List.ofFn) (hl : p.udiag.length = p.n) : svdWeight realOps p = ofMat (svdW p vs1 vs2) := by
  unfold svdWeight svdW
  simp only
  rw [svdDiag_eq p hl, diagM_ofFn, h1, h2, hhInverse_ofMat, transpose_ofMat, hhForward_ofMat, transpose_ofMat,
    Matrix.transpose_mul, Matrix.transpose_transpose, Matrix.transpose_transpose, ← Matrix.mul_assoc]

theorem svdLogabsdet_executed (p : SVDParams ℝ) (vs1 vs2 : List (Fin p.n → ℝ)) (hv1 : ∀ v ∈ vs1, v ⬝ᵥ v ≠ 0)
    (hv2 : ∀ v ∈ vs2, v ⬝ᵥ v ≠ 0) (hl : p.udiag.length = p.n) (heps : 0 ≤ p.eps) :
    svdLogabsdet realOps p = Real.log |(svdW p vs1 vs2).det| := by
  unfold svdLogabsdet sumLog svdW
  rw [← LinearFamily.svd_logabsdet vs1 vs2 hv1 hv2 (svdD p) (svdD_pos p hl heps),
    sum_list _ (by rw [List.length_map, svdDiag_length, hl])]
  apply Finset.sum_congr rfl
  intro i _
  rw [vecFn_map _ _ (by rw [svdDiag_length, hl])]; rfl

theorem svdW_inv (p : SVDParams ℝ) (vs1 vs2 : List (Fin p.n → ℝ)) (hv1 : ∀ v ∈ vs1, v ⬝ᵥ v ≠ 0) (hv2 : ∀ v ∈ vs2, v ⬝ᵥ v ≠ 0)
    (hl : p.udiag.length = p.n) (heps : 0 ≤ p.eps) :
    (LinearFamily.Q vs2)ᵀ * Matrix.diagonal (fun j => (svdD p j)⁻¹) * (LinearFamily.Q vs1)ᵀ * svdW p vs1 vs2 = 1 :=
  LinearFamily.diagonal_conj_left_inverse (LinearFamily.Q_orthogonal vs1 hv1).1 (LinearFamily.Q_orthogonal vs2 hv2).1 (svdD p)
    fun i => (svdD_pos p hl heps i).ne'

theorem svdW_det_ne_zero (p : SVDParams ℝ) (vs1 vs2 : List (Fin p.n → ℝ)) (hv1 : ∀ v ∈ vs1, v ⬝ᵥ v ≠ 0)
    (hv2 : ∀ v ∈ vs2, v ⬝ᵥ v ≠ 0) (hl : p.udiag.length = p.n) (heps : 0 ≤ p.eps) : (svdW p vs1 vs2).det ≠ 0 :=
  Matrix.det_ne_zero_of_left_inverse (svdW_inv p vs1 vs2 hv1 hv2 hl heps)

/-- **`SVDLinear`, as executed** (q-vectors `vs1`, `vs2`, none zero; `eps ≥ 0`): `W⁻¹ = Q₂ᵀ D⁻¹ Q₁ᵀ` -/
theorem svd_denotes (p : SVDParams ℝ) (vs1 vs2 : List (Fin p.n → ℝ)) (h1 : p.qs1 = vs1.map List.ofFn)
    (h2 : p.qs2 = vs2.map List.ofFn) (hv1 : ∀ v ∈ vs1, v ⬝ᵥ v ≠ 0) (hv2 : ∀ v ∈ vs2, v ⬝ᵥ v ≠ 0)
    (hl : p.udiag.length = p.n) (heps : 0 ≤ p.eps) (hb : p.bias.length = p.n) :
    Denotes (svdW p vs1 vs2) (vecFn p.n p.bias) (svdWeight realOps p) (svdWeightInverse realOps p) (svdLogabsdet realOps p)
      (LinearJacobian.svdRow realOps p) (LinearJacobian.svdInvRow realOps p) := by
  have hWi := Matrix.inv_eq_left_inv (svdW_inv p vs1 vs2 hv1 hv2 hl heps)
  refine ⟨svdW_det_ne_zero p vs1 vs2 hv1 hv2 hl heps, svdWeight_executed p vs1 vs2 h1 h2 hl, ?_,
    svdLogabsdet_executed p vs1 vs2 hv1 hv2 hl heps, fun x => ?_, fun y => ?_⟩
  · have hinv : (svdDiag realOps p).map (fun d => realOps.div (one realOps) d) = List.ofFn (fun j => (svdD p j)⁻¹) := by
      rw [svdDiag_eq p hl, List.map_ofFn]
      congr 1
      funext j
      simp only [Function.comp, LFIndex.one_real]
      exact one_div (svdD p j)
    unfold svdWeightInverse
    simp only
    rw [hinv, diagM_ofFn, h1, h2, hhForward_ofMat, transpose_ofMat, hhInverse_ofMat, transpose_ofMat, hWi, Matrix.transpose_mul,
      Matrix.transpose_transpose, Matrix.mul_assoc]
  · unfold LinearJacobian.svdRow
    rw [svdDiag_eq p hl, h1, h2, hhSeq_executed, zipWith_ofFn, hhSeq_executed, addV_list _ _ hb]
    exact congrArg List.ofFn (LinearFamily.svd_forward vs1 vs2 (svdD p) _ x)
  · unfold LinearJacobian.svdInvRow
    rw [svdDiag_eq p hl, h1, h2, subV_list _ _ hb, isMulVec_hhSeq_reverse vs1, zipWith_div_ofFn,
      isMulVec_hhSeq_reverse vs2, Matrix.mulVec_mulVec, Matrix.mulVec_mulVec, ← hWi]
    rfl

/-! ## the constructor's initial q-vectors (orthogonal.py:58-63) -/

section init
variable {α : Type} (o : Ops α)

theorem tile2_eq (a : List (List α)) : tile2 a = a.flatMap (fun r => [r, r]) := by
  unfold tile2 orderIndex
  simp only [List.map_flatMap, List.map_cons, List.map_nil]
  have key : ∀ i < a.length, (a ++ a).getD i [] = a.getD i [] ∧ (a ++ a).getD (a.length + i) [] = a.getD i [] := by
    intro i hi
    constructor
    · simp [List.getD_eq_getElem?_getD, List.getElem?_append_left hi]
    · simp [List.getD_eq_getElem?_getD, List.getElem?_append_right (Nat.le_add_right _ _)]
  have h1 : (List.range a.length).flatMap (fun i => [(a ++ a).getD i [], (a ++ a).getD (a.length + i) []])
      = (List.range a.length).flatMap (fun i => [a.getD i [], a.getD i []]) := by
    apply List.flatMap_congr
    intro i hi
    rw [List.mem_range] at hi
    rw [(key i hi).1, (key i hi).2]
  rw [h1]
  have h2 : a = (List.range a.length).map (fun i => a.getD i []) := by
    apply List.ext_getElem
    · simp
    · intro i h1 h2
      simp [List.getD_eq_getElem?_getD, h1]
  conv_rhs => rw [h2]
  rw [List.flatMap_map]

theorem flatMap_pair_range {β : Type} (g : ℕ → β) (k : ℕ) :
    ((List.range k).map g).flatMap (fun x => [x, x]) = (List.range (2 * k)).map (fun r => g (r / 2)) := by
  induction k with
  | zero => rfl
  | succ k ih =>
    have e1 : 2 * k / 2 = k := by omega
    have e2 : (2 * k + 1) / 2 = k := by omega
    rw [List.range_succ, List.map_append, List.flatMap_append, ih, show 2 * (k + 1) = 2 * k + 1 + 1 by ring,
      List.range_succ, List.range_succ, List.map_append, List.map_append, List.append_assoc]
    simp only [List.map_cons, List.map_nil, List.flatMap_cons, List.flatMap_nil, List.append_nil, List.cons_append,
      List.nil_append, e1, e2]

theorem hhInitQ_eq (features num : ℕ) :
    hhInitQ o features num = (List.range num).map (fun r => basisRow o features (r / 2)) := by
  unfold hhInitQ
  simp only [tile2_eq, flatMap_pair_range]
  by_cases h : num % 2 = 0
  · have e : 2 * (num / 2) = num := by omega
    rw [if_neg (by simpa using h), e]
  · have e : num = 2 * (num / 2) + 1 := by omega
    have e2 : 2 * (num / 2) / 2 = num / 2 := by omega
    rw [if_pos (by simpa using h)]
    conv_rhs => rw [e, List.range_succ, List.map_append, List.map_cons, List.map_nil, e2]
    rfl

theorem hhInitQ_length (features num : ℕ) : (hhInitQ o features num).length = num := by
  rw [hhInitQ_eq, List.length_map, List.length_range]

theorem hhInitQ_row (features num r : ℕ) (hr : r < num) :
    (hhInitQ o features num).getD r [] = basisRow o features (r / 2) := by
  simp [hhInitQ_eq, List.getD_eq_getElem?_getD, hr]

theorem basisRow_length (features k : ℕ) : (basisRow o features k).length = features := by simp [basisRow]

theorem basisRow_getD (features k j : ℕ) (hj : j < features) :
    (basisRow o features k).getD j (zero o) = if j = k % features then one o else zero o := by
  simp [basisRow, List.getD_eq_getElem?_getD, hj]

end init

theorem basisRow_real (features k : ℕ) (hf : 0 < features) :
    basisRow realOps features k = List.ofFn (Pi.single (⟨k % features, Nat.mod_lt _ hf⟩ : Fin features) (1 : ℝ)) := by
  apply List.ext_getElem
  · simp [basisRow]
  · intro j h1 h2
    have hj : j < features := by simpa [basisRow] using h1
    simp only [basisRow, List.getElem_map, List.getElem_range, List.getElem_ofFn, Pi.single_apply, Fin.ext_iff,
      LFIndex.one_real, LFIndex.zero_real]

theorem basisRow_real_sqnorm (features k : ℕ) (hf : 0 < features) :
    dot realOps (basisRow realOps features k) (basisRow realOps features k) = 1 := by
  rw [basisRow_real features k hf, dot_ofFn, dotProduct_single, Pi.single_eq_same, mul_one]

noncomputable def initVs (features num : ℕ) (hf : 0 < features) : List (Fin features → ℝ) :=
  (List.range num).map (fun r => Pi.single (⟨(r / 2) % features, Nat.mod_lt _ hf⟩ : Fin features) (1 : ℝ))

theorem hhInitQ_real (features num : ℕ) (hf : 0 < features) :
    hhInitQ realOps features num = (initVs features num hf).map List.ofFn := by
  rw [hhInitQ_eq, initVs, List.map_map]
  exact List.map_congr_left fun r _ => basisRow_real features (r / 2) hf

theorem initVs_unit (features num : ℕ) (hf : 0 < features) : ∀ v ∈ initVs features num hf, v ⬝ᵥ v = 1 := by
  intro v hv
  simp only [initVs, List.mem_map, List.mem_range] at hv
  obtain ⟨r, _, rfl⟩ := hv
  rw [dotProduct_single, Pi.single_eq_same, mul_one]

end LinearBridge
