/-!
# Lemmas/FloatFacts — comparisons of the `Float` literals that the concrete witnesses read, each proved once

A reading `e : Float → ℝ` of a witness is an if-chain on `==` against a few literals; its value lemmas (`eW_one`,
`eNV_zero`, …) stand next to its definition and are proved from the comparisons here.  The facts are finite (IEEE doubles,
evaluated by the kernel).  Names: `<value>_beq_<literal>`, with `negOne` = `-(1.0)`, `eps` = `1e-6`, `thr` = `1e-3`,
`one_sub_zero` = `1.0 - 0.0`, `ofNat_one_sub_zero` = `1 - 0.0`, `leak` = `0.01`, `pi` = `3.141592653589793`.

The doubles that the programs compute from the constants of the witnesses (`1 - min·K`, the width of the box, `0.5·√3`)
are the doubles of literals (`floor_one_eq`, …), so the value of a reading is needed at literals only.

A reading with three or more keys is a table (`readTbl`); one evaluation shows its keys pairwise distinct
(`keysDistinct`), and `readTbl_key` then gives the value beside every key.
-/
namespace FloatFacts

theorem zero_beq_zero : ((0.0:Float) == 0.0) = true := by decide +kernel

theorem half_beq_zero : ((0.5:Float) == 0.0) = false := by decide +kernel
theorem half_beq_half : ((0.5:Float) == 0.5) = true := by decide +kernel

theorem one_beq_zero : ((1.0:Float) == 0.0) = false := by decide +kernel
theorem one_beq_half : ((1.0:Float) == 0.5) = false := by decide +kernel
theorem one_beq_negOne : ((1.0:Float) == (-(1.0:Float))) = false := by decide +kernel
theorem one_beq_two : ((1.0:Float) == 2.0) = false := by decide +kernel

theorem eps_beq_zero : ((1e-6:Float) == 0.0) = false := by decide +kernel
theorem eps_beq_half : ((1e-6:Float) == 0.5) = false := by decide +kernel
theorem eps_beq_negOne : ((1e-6:Float) == (-(1.0:Float))) = false := by decide +kernel
theorem eps_beq_two : ((1e-6:Float) == 2.0) = false := by decide +kernel

theorem thr_beq_zero : ((1e-3:Float) == 0.0) = false := by decide +kernel
theorem thr_beq_half : ((1e-3:Float) == 0.5) = false := by decide +kernel
theorem thr_beq_negOne : ((1e-3:Float) == (-(1.0:Float))) = false := by decide +kernel
theorem thr_beq_two : ((1e-3:Float) == 2.0) = false := by decide +kernel

theorem eps_beq_eps : ((1e-6:Float) == 1e-6) = true := by decide +kernel
theorem one_sub_eps_beq_eps : (((1:Float) - 1e-6) == 1e-6) = false := by decide +kernel

theorem leak_beq_leak : ((0.01:Float) == 0.01) = true := by decide +kernel
theorem one_div_leak_beq_leak : (((1.0:Float) / 0.01) == 0.01) = false := by decide +kernel

theorem pi_beq_half : ((3.141592653589793:Float) == 0.5) = false := by decide +kernel

theorem four_bne_zero : ((4.0:Float) != 0.0) = true := by decide +kernel

/-! ## Computed doubles that are the doubles of literals: `1 - min·K` for `min = 0` (as the programs form it, and as
`1 - min`), the widths of the boxes `[0, 1]` and `[-1, 1]`, and `√3/2` as the root formulas form it -/

theorem floor_one_eq : (1:Float) - 0.0 * (1:Nat).toFloat = 1.0 := by decide +kernel
theorem floor_two_eq : (1:Float) - 0.0 * (2:Nat).toFloat = 1.0 := by decide +kernel
theorem ofNat_one_sub_zero_eq : (1:Float) - 0.0 = 1.0 := by decide +kernel
theorem one_sub_zero_eq : (1.0:Float) - 0.0 = 1.0 := by decide +kernel
theorem one_sub_negOne_eq : (1.0:Float) - -(1.0) = 2.0 := by decide +kernel
theorem sqrt3_half_eq : (0.5:Float) * Float.sqrt 3.0 = 0.8660254037844386 := by decide +kernel

/-- the guards `min · K > 1` of the spline programs, for `min = 0` -/
theorem guard_one : ¬ ((0.0:Float) * (1:Nat).toFloat > 1.0) := by decide +kernel
theorem guard_two : ¬ ((0.0:Float) * (2:Nat).toFloat > 1.0) := by decide +kernel
/-- the same guard at the library defaults, `min = 1e-3` and three bins -/
theorem guard_default : ¬ ((1e-3:Float) * (3:Nat).toFloat > 1.0) := by decide +kernel

/-! ## Readings with several keys -/

def readTbl {α : Type} : List (Float × α) → α → Float → α
  | [], d, _ => d
  | (k, v) :: t, d, f => if f == k then v else readTbl t d f

/-- every key equals itself (no NaN) and differs from the keys before it -/
def keysDistinct : List Float → Bool
  | [] => true
  | k :: t => (k == k) && t.all (fun k' => !(k' == k)) && keysDistinct t

theorem readTbl_key {α : Type} (d : α) : ∀ {tbl : List (Float × α)} (i : Nat) {k : Float} {v : α},
    tbl[i]? = some (k, v) → keysDistinct (tbl.map Prod.fst) = true → readTbl tbl d k = v
  | [], _, _, _, hi, _ => by cases hi
  | (k₀, v₀) :: t, i, k, v, hi, h => by
    simp only [List.map_cons, keysDistinct, Bool.and_eq_true, List.all_eq_true, Bool.not_eq_true'] at h
    cases i with
    | zero =>
      cases hi
      exact if_pos h.1.1
    | succ j =>
      rw [List.getElem?_cons_succ] at hi
      have hk : (k == k₀) = false := h.1.2 k (List.mem_map.mpr ⟨(k, v), List.mem_of_getElem? hi, rfl⟩)
      exact (if_neg (by rw [hk]; exact Bool.false_ne_true)).trans (readTbl_key d j hi h.2)

/-- the doubles `0`, `½`, `-1`, `2` that the spline programs with tail bound `1` mention besides those read as `1` -/
theorem tails_keys : keysDistinct [0.0, 0.5, -(1.0), 2.0] = true := by decide +kernel

/-- the doubles `2`, `-2`, `½` that `Tanh` forms -/
theorem tanh_keys : keysDistinct [2.0, -2.0, 0.5] = true := by decide +kernel

/-- the doubles `π̂`, `1/π̂`, `½` that `CauchyCDF` forms -/
theorem cauchy_keys : keysDistinct [3.141592653589793, 1 / 3.141592653589793, 0.5] = true := by decide +kernel

/-- the doubles numpy computes for `LogTanh(cut_point=1)`: the cut, `tanh 1`, `alpha`, `beta`, and `½` -/
theorem logTanh_keys :
    keysDistinct [1.0, 0.7615941559557649, 0.35798500798800026, 8.393411634737944, 0.5] = true := by decide +kernel

/-- the doubles the default rational-quadratic configuration mentions: three bins with floor `1e-3` on the box `[-3, 3]²` -/
theorem rqDefault_keys :
    keysDistinct [1e-3, 1 - 1e-3 * (3:Nat).toFloat, 3.0, -(3.0), 3.0 - -(3.0), 1e-6, 1.0] = true := by decide +kernel

/-- the literals of the cubic root formulas (`0.8660254037844386` is `0.5 * Float.sqrt 3.0`) and the threshold `1e-3` -/
theorem cubicRoot_keys :
    keysDistinct [0.0, 3.0, 4.0, -2.0, -0.5, 0.8660254037844386, 0.5, 1e-3] = true := by decide +kernel

/-- the same with the two further doubles `-1`, `2` of the box `[-1, 1]²` -/
theorem cubicRootTails_keys :
    keysDistinct [0.0, 3.0, 4.0, -2.0, -0.5, 0.8660254037844386, 0.5, 1e-3, -(1.0), 2.0] = true := by decide +kernel

end FloatFacts
