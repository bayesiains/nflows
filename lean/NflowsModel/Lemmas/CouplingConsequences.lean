import NflowsModel.Lemmas.LayerDerivInv
import NflowsModel.Lemmas.FlowRowsExec
import Mathlib.Analysis.Calculus.InverseFunctionTheorem.FDeriv
import Mathlib.Topology.Algebra.Module.FiniteDimension
/-!
# Lemmas/CouplingConsequences — the consequences named in C07, about the EXECUTED `couplingApply`

`Properties/C07.lean` proves the pass-through of the identity features and what the conditioner is given.  The property text
also names three CONSEQUENCES ("each transformed feature is an elementwise monotone function of its own input whose
parameters depend only on the identity features and the context, so the Jacobian is triangular up to the mask's
permutation").  They are proved here about the program the driver runs (`couplingApply`, `Core/Structure.lean`), with the
conditioner in the loop.

* parameters depend only on the identity features and the context, no cross dependence between transformed features:
  every `XOps α`, every mask (no `MaskDisjoint`), `B`, `S`, family, direction, optional unconditional transform, ANY
  conditioner; equalities in `α`, hence bit-for-bit at `Float`;
* pass-through under the weakest hypothesis (`mask[ch] > 0` is false — nothing about `≤`), with an `XOps` in which `≤` and
  `>` overlap showing that it is needed (these two, generic in `α`, are in `Lemmas/CouplingExec.lean`, in this namespace;
  the instances and the counterexample are in §4 below);
* (reals) each transformed feature is strictly increasing in its own input, per family; the Jacobian of the executed row map
  entry by entry (`RankedDet.entries_of_masked`), positive determinant, local diffeomorphism; the entry form for any `S`.
-/
open NF DualSound

namespace NF.CouplingConsequences
open NF.StructureExec NF.CouplingJacobian NF.FlowRowsExec

/-! ## 1. Each transformed feature is a strictly increasing function of its own input (reals, 2-D inputs) -/

section reals
open NF.LayerDerivMore NF.LayerDerivInv
variable (e : Float → ℝ) (c : ElCfg) (mask : List ℝ) (B : Nat) (net : Array ℝ → Array ℝ) (inverse : Bool)

theorem update_identity (v : Fin mask.length → ℝ) {i : Fin mask.length} (hi : isT (NF.realX e) mask i = true) (t : ℝ)
    (k : Fin mask.length) (hk : isT (NF.realX e) mask k = false) : Function.update v i t k = v k := by
  have hne : k ≠ i := fun h => by rw [h, hi] at hk; exact Bool.noConfusion hk
  exact Function.update_of_ne hne t v

/-- **output channel `i` of the executed row map, as a function of input channel `i` alone, IS the scalar element map at the
    parameters of the identity channels** — whatever the other transformed channels of the row `v` hold -/
theorem exec_coupling_feature_map (x : Array ℝ) (hx : x.size = B * mask.length) {b : Nat} (hb : b < B)
    (v : Fin mask.length → ℝ) (hv : ∀ k, isT (NF.realX e) mask k = false → v k = rowOf (NF.realX e) mask.length b x k)
    (i : Fin mask.length) (hi : isT (NF.realX e) mask i = true) (t : ℝ) :
    couplingRowMap e c mask B net inverse x b (Function.update v i t) i
      = couplingElMap e c mask (net (idSplit (NF.realX e) mask B x)) inverse b i t := by
  rw [couplingRowMap_eq e c mask B net inverse x hx hb _
    (fun k hk => by rw [update_identity e mask v hi t k hk]; exact hv k hk) i, hi]
  simp

/-- **C07 / C09, executed coupling layer: each transformed feature is a strictly increasing function of its own input**,
    the identity channels (hence the parameters) and the other transformed channels held fixed — on any set `D` on which
    the scalar element program at those parameters is strictly increasing.  Either pass, any conditioner, any mask. -/
theorem exec_coupling_feature_monotone (x : Array ℝ) (hx : x.size = B * mask.length) {b : Nat} (hb : b < B)
    (v : Fin mask.length → ℝ) (hv : ∀ k, isT (NF.realX e) mask k = false → v k = rowOf (NF.realX e) mask.length b x k)
    (i : Fin mask.length) (hi : isT (NF.realX e) mask i = true) (D : Set ℝ)
    (hmono : StrictMonoOn (couplingElMap e c mask (net (idSplit (NF.realX e) mask B x)) inverse b i) D) :
    StrictMonoOn (fun t => couplingRowMap e c mask B net inverse x b (Function.update v i t) i) D := by
  have hf : (fun t => couplingRowMap e c mask B net inverse x b (Function.update v i t) i)
      = couplingElMap e c mask (net (idSplit (NF.realX e) mask B x)) inverse b i := by
    funext t
    exact exec_coupling_feature_map e c mask B net inverse x hx hb v hv i hi t
  rw [hf]
  exact hmono

/-! ### the scalar element programs of the families are strictly increasing -/

theorem applyEl_strictMono_of_affine_form {q : ℝ → ElRes ℝ} {scale shift l : ℝ} (hs : 0 < scale)
    (h : ∀ s, q s = .ok (s * scale + shift, l, [])) : StrictMono (applyEl q) := by
  intro a a' haa
  unfold applyEl
  rw [h, h]
  show a * scale + shift < a' * scale + shift
  linarith [mul_lt_mul_of_pos_right haa hs]

theorem applyEl_strictMono_of_affine_form_inv {q : ℝ → ElRes ℝ} {scale shift l : ℝ} (hs : 0 < scale)
    (h : ∀ s, q s = .ok ((s - shift) / scale, l, [])) : StrictMono (applyEl q) := by
  intro a a' haa
  unfold applyEl
  rw [h, h]
  show (a - shift) / scale < (a' - shift) / scale
  exact div_lt_div_of_pos_right (sub_lt_sub_right haa shift) hs

theorem couplingEl_additive_strictMono (hk : c.kind = "additive") (Ft S : Nat) (params : Array ℝ) (b t s : Nat) :
    StrictMono (applyEl (couplingEl (NF.realX e) c Ft S params inverse b t s)) := by
  cases inverse
  · exact applyEl_strictMono_of_affine_form one_pos (couplingEl_additive e c hk Ft S params b t s)
  · exact applyEl_strictMono_of_affine_form_inv one_pos (couplingEl_additive_inv e c hk Ft S params b t s)

/-- affine element (`scale = sigmoid(u + 2) + 1e-3`, or the `general` activation `clamp(softplus(u) + 1e-3, 0, 3)`, both
    `> 0` once `1e-3` is read as a non-negative real), any layout, both passes: strictly increasing on ℝ -/
theorem couplingEl_affine_strictMono (he : 0 ≤ e 1e-3) (hk : c.kind = "affine") (Ft S : Nat) (params : Array ℝ)
    (b t s : Nat) : StrictMono (applyEl (couplingEl (NF.realX e) c Ft S params inverse b t s)) := by
  cases inverse
  · exact applyEl_strictMono_of_affine_form (affineScale_pos e he c.act _) (couplingEl_affine e c hk Ft S params b t s)
  · exact applyEl_strictMono_of_affine_form_inv (affineScale_pos e he c.act _)
      (couplingEl_affine_inv e c hk Ft S params b t s)

/-- RQ coupling with linear tails (`PiecewiseRationalQuadraticCouplingTransform(tails='linear')`): the EXECUTED element
    program (softmax, floors, cumsum, search, closed form, identity tails) is strictly increasing on ℝ, both passes, for
    whatever parameter array the conditioner returned -/
theorem couplingElMap_rq_tails_strictMono (hc : RQTailsCfgValid e c) (params : Array ℝ) (b : Nat) (i : Fin mask.length) :
    StrictMono (couplingElMap e c mask params inverse b i) := by
  have hk1 : c.kind ≠ "affine" := by rw [hc.hk]; decide
  have hk2 : c.kind ≠ "additive" := by rw [hc.hk]; decide
  have hv := rqTailsSliceValid_of_cfg hc (chanSlice e c mask params b i)
    (by rw [condSlice_length, mult_rq_tails hc.hk hc.ht])
  cases inverse
  · have hf : couplingElMap e c mask params false b i
        = TailsWhole.valT e (tTb c) (tMW c) (tMH c) (tMD c) (tBe c) (rqW (NF.realX e) c (chanSlice e c mask params b i))
            (rqH (NF.realX e) c (chanSlice e c mask params b i)) (rqD c (chanSlice e c mask params b i)) := by
      funext z
      unfold couplingElMap applyEl
      rw [chanEl_spline (NF.realX e) c mask params b i hk1 hk2, (rqTails_el_total e c hc.hk hc.ht _ hv z).1]
    rw [hf]
    exact TailsWhole.valT_strictMono hv
  · have hf : couplingElMap e c mask params true b i
        = TailsWhole.invT e (tTb c) (tMW c) (tMH c) (tMD c) (tBe c) (rqW (NF.realX e) c (chanSlice e c mask params b i))
            (rqH (NF.realX e) c (chanSlice e c mask params b i)) (rqD c (chanSlice e c mask params b i)) := by
      funext z
      unfold couplingElMap applyEl
      rw [chanEl_spline (NF.realX e) c mask params b i hk1 hk2, (rqTails_el_total e c hc.hk hc.ht _ hv z).2]
    rw [hf]
    exact TailsWhole.invT_strictMono hv

theorem couplingElMap_rq_strictMonoOn (hk : c.kind = "rq") (ht : c.tails = false) (params : Array ℝ) (b : Nat)
    (i : Fin mask.length)
    (hv : RQWhole.RQValid e (rqCfgOf c) (rqW (NF.realX e) c (chanSlice e c mask params b i))
      (rqH (NF.realX e) c (chanSlice e c mask params b i)) (rqD c (chanSlice e c mask params b i))) :
    StrictMonoOn (couplingElMap e c mask params false b i) (Set.Icc (e (rqCfgOf c).box.left) (e (rqCfgOf c).box.right)) :=
  (RQWhole.searched hv).strictMonoOn.congr
    (fun s hs => (couplingElMap_of_prog e c mask (spline_kind_ne (.inl hk)) (elTransform_rq _ c hk ht false _)
      ((RQInverseWhole.boxPair hv).total s hs.1 hs.2)).symm)

theorem couplingElMap_rq_inv_strictMonoOn (hk : c.kind = "rq") (ht : c.tails = false) (params : Array ℝ) (b : Nat)
    (i : Fin mask.length)
    (hv : RQWhole.RQValid e (rqCfgOf c) (rqW (NF.realX e) c (chanSlice e c mask params b i))
      (rqH (NF.realX e) c (chanSlice e c mask params b i)) (rqD c (chanSlice e c mask params b i))) :
    StrictMonoOn (couplingElMap e c mask params true b i) (Set.Icc (e (rqCfgOf c).box.bottom) (e (rqCfgOf c).box.top)) :=
  ((RQInverseWhole.searchedInv hv).inv_strictMonoOn (RQWhole.searched hv)).congr
    (fun s hs => (couplingElMap_of_prog e c mask (spline_kind_ne (.inl hk)) (elTransform_rq _ c hk ht true _)
      ((RQInverseWhole.boxPair hv).totalI s hs.1 hs.2)).symm)

theorem couplingElMap_lin_strictMonoOn (hk : c.kind = "lin") (ht : c.tails = false) (params : Array ℝ) (b : Nat)
    (i : Fin mask.length) (hv : LinWhole.LinValid e (linBoxOf c) 1e-6 (chanSlice e c mask params b i)) :
    StrictMonoOn (couplingElMap e c mask params false b i) (Set.Icc (e (linBoxOf c).left) (e (linBoxOf c).right)) :=
  (LinWhole.searched hv).strictMonoOn.congr
    (fun s hs => (couplingElMap_of_prog e c mask (spline_kind_ne (.inr (.inr (.inl hk)))) (LinTails.elTransform_lin _ c hk ht false _)
      ((LinWhole.boxPair hv).total s hs.1 hs.2)).symm)

theorem couplingElMap_lin_inv_strictMonoOn (hk : c.kind = "lin") (ht : c.tails = false) (params : Array ℝ) (b : Nat)
    (i : Fin mask.length) (hv : LinWhole.LinValid e (linBoxOf c) 1e-6 (chanSlice e c mask params b i)) :
    StrictMonoOn (couplingElMap e c mask params true b i) (Set.Icc (e (linBoxOf c).bottom) (e (linBoxOf c).top)) :=
  ((LinWhole.searchedInv hv).inv_strictMonoOn (LinWhole.searched hv)).congr
    (fun s hs => (couplingElMap_of_prog e c mask (spline_kind_ne (.inr (.inr (.inl hk)))) (LinTails.elTransform_lin _ c hk ht true _)
      ((LinWhole.boxPair hv).totalI s hs.1 hs.2)).symm)

/-! ### the headline instantiated per family (both passes) -/

theorem exec_coupling_feature_monotone_additive (hk : c.kind = "additive") (x : Array ℝ) (hx : x.size = B * mask.length)
    {b : Nat} (hb : b < B) (v : Fin mask.length → ℝ)
    (hv : ∀ k, isT (NF.realX e) mask k = false → v k = rowOf (NF.realX e) mask.length b x k)
    (i : Fin mask.length) (hi : isT (NF.realX e) mask i = true) :
    StrictMono (fun t => couplingRowMap e c mask B net inverse x b (Function.update v i t) i) := by
  rw [← strictMonoOn_univ]
  exact exec_coupling_feature_monotone e c mask B net inverse x hx hb v hv i hi _
    ((couplingEl_additive_strictMono e c inverse hk _ 1 _ b _ 0).strictMonoOn _)

theorem exec_coupling_feature_monotone_affine (he : 0 ≤ e 1e-3) (hk : c.kind = "affine") (x : Array ℝ)
    (hx : x.size = B * mask.length) {b : Nat} (hb : b < B) (v : Fin mask.length → ℝ)
    (hv : ∀ k, isT (NF.realX e) mask k = false → v k = rowOf (NF.realX e) mask.length b x k)
    (i : Fin mask.length) (hi : isT (NF.realX e) mask i = true) :
    StrictMono (fun t => couplingRowMap e c mask B net inverse x b (Function.update v i t) i) := by
  rw [← strictMonoOn_univ]
  exact exec_coupling_feature_monotone e c mask B net inverse x hx hb v hv i hi _
    ((couplingEl_affine_strictMono e c inverse he hk _ 1 _ b _ 0).strictMonoOn _)

theorem exec_coupling_feature_monotone_rq_tails (hc : RQTailsCfgValid e c) (x : Array ℝ)
    (hx : x.size = B * mask.length) {b : Nat} (hb : b < B) (v : Fin mask.length → ℝ)
    (hv : ∀ k, isT (NF.realX e) mask k = false → v k = rowOf (NF.realX e) mask.length b x k)
    (i : Fin mask.length) (hi : isT (NF.realX e) mask i = true) :
    StrictMono (fun t => couplingRowMap e c mask B net inverse x b (Function.update v i t) i) := by
  rw [← strictMonoOn_univ]
  exact exec_coupling_feature_monotone e c mask B net inverse x hx hb v hv i hi _
    ((couplingElMap_rq_tails_strictMono e c mask inverse hc _ b i).strictMonoOn _)

/-- bounded RQ coupling layer, forward on `[left, right]`, inverse on `[bottom, top]`: the only hypothesis is that the
    conditioner output for the identity channels of the row is an accepted configuration for channel `i` -/
theorem exec_coupling_feature_monotone_rq (hk : c.kind = "rq") (ht : c.tails = false) (x : Array ℝ)
    (hx : x.size = B * mask.length) {b : Nat} (hb : b < B) (v : Fin mask.length → ℝ)
    (hv : ∀ k, isT (NF.realX e) mask k = false → v k = rowOf (NF.realX e) mask.length b x k)
    (i : Fin mask.length) (hi : isT (NF.realX e) mask i = true)
    (hval : RQWhole.RQValid e (rqCfgOf c)
      (rqW (NF.realX e) c (chanSlice e c mask (net (idSplit (NF.realX e) mask B x)) b i))
      (rqH (NF.realX e) c (chanSlice e c mask (net (idSplit (NF.realX e) mask B x)) b i))
      (rqD c (chanSlice e c mask (net (idSplit (NF.realX e) mask B x)) b i))) :
    StrictMonoOn (fun t => couplingRowMap e c mask B net false x b (Function.update v i t) i)
        (Set.Icc (e (rqCfgOf c).box.left) (e (rqCfgOf c).box.right))
    ∧ StrictMonoOn (fun t => couplingRowMap e c mask B net true x b (Function.update v i t) i)
        (Set.Icc (e (rqCfgOf c).box.bottom) (e (rqCfgOf c).box.top)) :=
  ⟨exec_coupling_feature_monotone e c mask B net false x hx hb v hv i hi _
      (couplingElMap_rq_strictMonoOn e c mask hk ht _ b i hval),
   exec_coupling_feature_monotone e c mask B net true x hx hb v hv i hi _
      (couplingElMap_rq_inv_strictMonoOn e c mask hk ht _ b i hval)⟩

theorem exec_coupling_feature_monotone_lin (hk : c.kind = "lin") (ht : c.tails = false) (x : Array ℝ)
    (hx : x.size = B * mask.length) {b : Nat} (hb : b < B) (v : Fin mask.length → ℝ)
    (hv : ∀ k, isT (NF.realX e) mask k = false → v k = rowOf (NF.realX e) mask.length b x k)
    (i : Fin mask.length) (hi : isT (NF.realX e) mask i = true)
    (hval : LinWhole.LinValid e (linBoxOf c) 1e-6 (chanSlice e c mask (net (idSplit (NF.realX e) mask B x)) b i)) :
    StrictMonoOn (fun t => couplingRowMap e c mask B net false x b (Function.update v i t) i)
        (Set.Icc (e (linBoxOf c).left) (e (linBoxOf c).right))
    ∧ StrictMonoOn (fun t => couplingRowMap e c mask B net true x b (Function.update v i t) i)
        (Set.Icc (e (linBoxOf c).bottom) (e (linBoxOf c).top)) :=
  ⟨exec_coupling_feature_monotone e c mask B net false x hx hb v hv i hi _
      (couplingElMap_lin_strictMonoOn e c mask hk ht _ b i hval),
   exec_coupling_feature_monotone e c mask B net true x hx hb v hv i hi _
      (couplingElMap_lin_inv_strictMonoOn e c mask hk ht _ b i hval)⟩

/-! ## 2. The Jacobian of the executed row map is triangular up to the mask's permutation -/

theorem toMatrix'_entry (L : (Fin mask.length → ℝ) →L[ℝ] (Fin mask.length → ℝ)) (i j : Fin mask.length) :
    LinearMap.toMatrix' (L : (Fin mask.length → ℝ) →ₗ[ℝ] (Fin mask.length → ℝ)) i j = L (Pi.single j 1) i := by
  simp [LinearMap.toMatrix'_apply]

/-- **C07 / C01, executed coupling layer: the Jacobian of the row map, entry by entry** (`∂out_i/∂x_j = L (e_j) i`).  For ANY
    conditioner (no hypothesis on `net` beyond the differentiability `hL` of the row map), either pass, with `d i` the
    derivative of the scalar element of transformed channel `i` at the parameters of the row:
    * identity rows are rows of the identity matrix: `∂out_i/∂x_j = δ_ij` (`isT i = false`);
    * a transformed output does not depend on ANOTHER transformed input: `∂out_i/∂x_j = 0`;
    * the diagonal entry of a transformed channel is `d i`.
    The only entries left free are `∂out_i/∂x_j`, `i` transformed, `j` identity (through the conditioner): in the order
    [identity channels; transformed channels] the matrix is `[[I, 0], [*, diag d]]`. -/
theorem exec_coupling_jacobian_triangular (x : Array ℝ) (hx : x.size = B * mask.length) {b : Nat} (hb : b < B)
    {L : (Fin mask.length → ℝ) →L[ℝ] (Fin mask.length → ℝ)}
    (hL : HasFDerivAt (couplingRowMap e c mask B net inverse x b) L (rowOf (NF.realX e) mask.length b x))
    (d : Fin mask.length → ℝ)
    (hdiag : ∀ i, isT (NF.realX e) mask i = true →
      HasDerivAt (couplingElMap e c mask (net (idSplit (NF.realX e) mask B x)) inverse b i) (d i)
        (rowOf (NF.realX e) mask.length b x i)) :
    (∀ i j, isT (NF.realX e) mask i = false → L (Pi.single j 1) i = if i = j then 1 else 0)
    ∧ (∀ i j, isT (NF.realX e) mask i = true → isT (NF.realX e) mask j = true → j ≠ i → L (Pi.single j 1) i = 0)
    ∧ (∀ i, isT (NF.realX e) mask i = true → L (Pi.single i 1) i = d i) :=
  RankedDet.entries_of_masked hL _ _
    (fun v i hi => by rw [couplingRowMap_apply e c mask B net inverse x hb, hi]; rfl)
    (fun v hv i hi => by rw [couplingRowMap_eq e c mask B net inverse x hx hb v hv, hi]; rfl) d hdiag

/-- the same with the per-element law (`d i = exp` of the log-det the element returns): the diagonal entries of the
    transformed block are `exp(ld_i) > 0` -/
theorem exec_coupling_jacobian_diag_pos (x : Array ℝ) (hx : x.size = B * mask.length) {b : Nat} (hb : b < B)
    {L : (Fin mask.length → ℝ) →L[ℝ] (Fin mask.length → ℝ)}
    (hL : HasFDerivAt (couplingRowMap e c mask B net inverse x b) L (rowOf (NF.realX e) mask.length b x))
    (hdiag : ∀ i, isT (NF.realX e) mask i = true →
      HasDerivAt (couplingElMap e c mask (net (idSplit (NF.realX e) mask B x)) inverse b i)
        (Real.exp (couplingElLd e c mask (net (idSplit (NF.realX e) mask B x)) inverse b i (rowOf (NF.realX e) mask.length b x i)))
        (rowOf (NF.realX e) mask.length b x i))
    (i : Fin mask.length) (hi : isT (NF.realX e) mask i = true) :
    L (Pi.single i 1) i
        = Real.exp (couplingElLd e c mask (net (idSplit (NF.realX e) mask B x)) inverse b i (rowOf (NF.realX e) mask.length b x i))
      ∧ 0 < L (Pi.single i 1) i := by
  have h := (exec_coupling_jacobian_triangular e c mask B net inverse x hx hb hL _ hdiag).2.2 i hi
  rw [h]
  exact ⟨rfl, Real.exp_pos _⟩

/-- **`det J_b = ∏ exp(ld_i) > 0`** (product over the transformed channels) and it is `exp` of the log-det the executed
    pass returns for the row -/
theorem exec_coupling_jacobian_det_pos (x : Array ℝ) (hx : x.size = B * mask.length) {b : Nat} (hb : b < B)
    {L : (Fin mask.length → ℝ) →L[ℝ] (Fin mask.length → ℝ)}
    (hL : HasFDerivAt (couplingRowMap e c mask B net inverse x b) L (rowOf (NF.realX e) mask.length b x))
    (hdiag : ∀ i, isT (NF.realX e) mask i = true →
      HasDerivAt (couplingElMap e c mask (net (idSplit (NF.realX e) mask B x)) inverse b i)
        (Real.exp (couplingElLd e c mask (net (idSplit (NF.realX e) mask B x)) inverse b i (rowOf (NF.realX e) mask.length b x i)))
        (rowOf (NF.realX e) mask.length b x i)) :
    L.det = ∏ i, (if isT (NF.realX e) mask i then
        Real.exp (couplingElLd e c mask (net (idSplit (NF.realX e) mask B x)) inverse b i (rowOf (NF.realX e) mask.length b x i))
        else 1)
    ∧ 0 < L.det
    ∧ ∃ l, (couplingRun (NF.realX e) c mask B net inverse x).ld[b]? = some l ∧ L.det = Real.exp l := by
  have hdet : L.det = ∏ i, (if isT (NF.realX e) mask i then
      Real.exp (couplingElLd e c mask (net (idSplit (NF.realX e) mask B x)) inverse b i (rowOf (NF.realX e) mask.length b x i))
      else 1) := by
    rw [ContinuousLinearMap.det]
    exact coupling_row_det e c mask B net inverse x hx hb hL _ hdiag
  have hpos : 0 < L.det := by
    rw [hdet]
    exact Finset.prod_pos fun i _ => by split; exacts [Real.exp_pos _, one_pos]
  obtain ⟨l, hl, habs⟩ := coupling_row_abs_det e c mask B net inverse x hx hb hL hdiag
  exact ⟨hdet, hpos, l, hl, by rw [← habs, abs_of_pos hpos]⟩

theorem exec_coupling_jacobian_invertible (x : Array ℝ) (hx : x.size = B * mask.length) {b : Nat} (hb : b < B)
    {L : (Fin mask.length → ℝ) →L[ℝ] (Fin mask.length → ℝ)}
    (hL : HasFDerivAt (couplingRowMap e c mask B net inverse x b) L (rowOf (NF.realX e) mask.length b x))
    (hdiag : ∀ i, isT (NF.realX e) mask i = true →
      HasDerivAt (couplingElMap e c mask (net (idSplit (NF.realX e) mask B x)) inverse b i)
        (Real.exp (couplingElLd e c mask (net (idSplit (NF.realX e) mask B x)) inverse b i (rowOf (NF.realX e) mask.length b x i)))
        (rowOf (NF.realX e) mask.length b x i)) :
    ∃ L' : (Fin mask.length → ℝ) ≃L[ℝ] (Fin mask.length → ℝ), (L' : (Fin mask.length → ℝ) →L[ℝ] (Fin mask.length → ℝ)) = L :=
  ⟨L.toContinuousLinearEquivOfDetNeZero
      (exec_coupling_jacobian_det_pos e c mask B net inverse x hx hb hL hdiag).2.1.ne',
    ContinuousLinearMap.coe_toContinuousLinearEquivOfDetNeZero _ _⟩

/-- **the executed row map is a local diffeomorphism** wherever it is strictly differentiable (e.g. `C¹`): there is an
    open partial homeomorphism whose map IS the row map of the program, whose source contains the row, and whose inverse
    has derivative `L⁻¹` at the image (inverse function theorem; the positivity of the determinant is what the executed
    elements supply) -/
theorem exec_coupling_local_diffeo (x : Array ℝ) (hx : x.size = B * mask.length) {b : Nat} (hb : b < B)
    {L : (Fin mask.length → ℝ) →L[ℝ] (Fin mask.length → ℝ)}
    (hL : HasStrictFDerivAt (couplingRowMap e c mask B net inverse x b) L (rowOf (NF.realX e) mask.length b x))
    (hdiag : ∀ i, isT (NF.realX e) mask i = true →
      HasDerivAt (couplingElMap e c mask (net (idSplit (NF.realX e) mask B x)) inverse b i)
        (Real.exp (couplingElLd e c mask (net (idSplit (NF.realX e) mask B x)) inverse b i (rowOf (NF.realX e) mask.length b x i)))
        (rowOf (NF.realX e) mask.length b x i)) :
    ∃ (φ : OpenPartialHomeomorph (Fin mask.length → ℝ) (Fin mask.length → ℝ))
      (L' : (Fin mask.length → ℝ) ≃L[ℝ] (Fin mask.length → ℝ)),
      (φ : (Fin mask.length → ℝ) → (Fin mask.length → ℝ)) = couplingRowMap e c mask B net inverse x b
      ∧ rowOf (NF.realX e) mask.length b x ∈ φ.source
      ∧ (L' : (Fin mask.length → ℝ) →L[ℝ] (Fin mask.length → ℝ)) = L
      ∧ HasStrictFDerivAt φ.symm (L'.symm : (Fin mask.length → ℝ) →L[ℝ] (Fin mask.length → ℝ))
          (couplingRowMap e c mask B net inverse x b (rowOf (NF.realX e) mask.length b x)) := by
  obtain ⟨L', hL'⟩ := exec_coupling_jacobian_invertible e c mask B net inverse x hx hb hL.hasFDerivAt hdiag
  have hs : HasStrictFDerivAt (couplingRowMap e c mask B net inverse x b)
      (L' : (Fin mask.length → ℝ) →L[ℝ] (Fin mask.length → ℝ)) (rowOf (NF.realX e) mask.length b x) := by
    rw [hL']; exact hL
  exact ⟨hs.toOpenPartialHomeomorph _, L', hs.toOpenPartialHomeomorph_coe, hs.mem_toOpenPartialHomeomorph_source, hL',
    hs.to_localInverse⟩

end reals

/-! ## 3. 4-D inputs (`S > 1`): each transformed ENTRY is a strictly increasing function of its own input -/

section realsS
variable (e : Float → ℝ) (c : ElCfg) (mask : List ℝ) (S : Nat) (inverse : Bool)

/-- **any `S` (image inputs `[B, C, H·W]`), reals**: with everything else held fixed, the output at the position of
    transformed entry `(b, t, s)`, as a function of the input `τ` written at that position, IS the scalar element program
    of `(b, t, s)` at the parameters the conditioner returns for the identity channels and the context (buffer semantics:
    an element that raises leaves `τ`) -/
theorem exec_coupling_entry_map (net : Array ℝ → Array ℝ → Array ℝ) {B b t s : Nat} (hb : b < B)
    (ht : t < (transformIdx (NF.realX e) mask).length) (hs : s < S) (x ctx : Array ℝ)
    (hj : flatIdx mask.length S b ((transformIdx (NF.realX e) mask).getD t 0) s < x.size) (τ : ℝ) :
    (layer (NF.realX e) c mask S inverse none #[] net B
        (x.setIfInBounds (flatIdx mask.length S b ((transformIdx (NF.realX e) mask).getD t 0) s) τ) ctx).out[
          flatIdx mask.length S b ((transformIdx (NF.realX e) mask).getD t 0) s]?
      = some (applyEl (couplingEl (NF.realX e) c (transformIdx (NF.realX e) mask).length S
          (paramsOf (NF.realX e) mask S inverse none #[] net B x ctx) inverse b t s) τ) := by
  have hcht := (transformIdx_ok (NF.realX e) mask).getD_lt ht
  have hni : (transformIdx (NF.realX e) mask).getD t 0 ∉ identityIdx (NF.realX e) mask :=
    fun h => maskDisjoint_real e mask _ h (getD_mem_of_lt ht)
  have hid : IdAgree (NF.realX e) mask S B
      (x.setIfInBounds (flatIdx mask.length S b ((transformIdx (NF.realX e) mask).getD t 0) s) τ) x := by
    intro b' ch' s' _ hch' hs'
    apply Array.getElem?_setIfInBounds_ne
    intro heq
    have := (flatIdx_inj hcht ((identityIdx_ok (NF.realX e) mask).lt _ hch') hs hs' heq).2.1
    exact hni (this ▸ hch')
  have h1 : (x.setIfInBounds (flatIdx mask.length S b ((transformIdx (NF.realX e) mask).getD t 0) s) τ)[
      flatIdx mask.length S b ((transformIdx (NF.realX e) mask).getD t 0) s]? = some τ :=
    Array.getElem?_setIfInBounds_self_of_lt hj
  have h2 : (x.setIfInBounds (flatIdx mask.length S b ((transformIdx (NF.realX e) mask).getD t 0) s) τ).getD
      (flatIdx mask.length S b ((transformIdx (NF.realX e) mask).getD t 0) s) (NF.realX e).zero = τ := by
    rw [Array.getD_eq_getD_getElem?, h1]; rfl
  unfold layer
  rw [(exec_coupling_param_dependence (NF.realX e) c mask S inverse none #[] net ctx hid).2.1,
    coupling_out_transformed (NF.realX e) c mask B S _ _ inverse none #[] hb ht hs, couplingUncond_none, h1, h2]
  unfold selOut applyEl
  cases couplingEl (NF.realX e) c (transformIdx (NF.realX e) mask).length S
    (paramsOf (NF.realX e) mask S inverse none #[] net B x ctx) inverse b t s τ <;> rfl

/-- **C07 / C09 for 4-D inputs**: additive / affine coupling layer on `[B, C, S]` inputs, any mask, any conditioner, both
    passes — the output at a transformed position is a strictly increasing function of the input at that position, all
    other entries and the context held fixed -/
theorem exec_coupling_entry_monotone (he : 0 ≤ e 1e-3) (hk : c.kind = "additive" ∨ c.kind = "affine")
    (net : Array ℝ → Array ℝ → Array ℝ) {B b t s : Nat} (hb : b < B)
    (ht : t < (transformIdx (NF.realX e) mask).length) (hs : s < S) (x ctx : Array ℝ)
    (hj : flatIdx mask.length S b ((transformIdx (NF.realX e) mask).getD t 0) s < x.size) :
    ∃ f : ℝ → ℝ, StrictMono f ∧ ∀ τ,
      (layer (NF.realX e) c mask S inverse none #[] net B
        (x.setIfInBounds (flatIdx mask.length S b ((transformIdx (NF.realX e) mask).getD t 0) s) τ) ctx).out[
          flatIdx mask.length S b ((transformIdx (NF.realX e) mask).getD t 0) s]? = some (f τ) := by
  refine ⟨_, ?_, exec_coupling_entry_map e c mask S inverse net hb ht hs x ctx hj⟩
  rcases hk with hk | hk
  · exact couplingEl_additive_strictMono e c inverse hk _ S _ b t s
  · exact couplingEl_affine_strictMono e c inverse he hk _ S _ b t s

/-- instance: mask `[1, 0, 1]`, `S = 2` (a `[1, 3, 2]` input), affine coupling, entry `(channel 2, s = 1)` = flat index 5 -/
example (e : Float → ℝ) (he : 0 ≤ e 1e-3) (net : Array ℝ → Array ℝ → Array ℝ) (inverse : Bool) (x ctx : Array ℝ)
    (hx : x.size = 6) :
    ∃ f : ℝ → ℝ, StrictMono f ∧ ∀ τ,
      (layer (NF.realX e) { kind := "affine" } [1, 0, 1] 2 inverse none #[] net 1 (x.setIfInBounds 5 τ) ctx).out[5]?
        = some (f τ) := by
  have hT : transformIdx (NF.realX e) [1, 0, 1] = [0, 2] := by
    simp [transformIdx, XOps.gt, realX_lt, realX_zero, List.range_succ, List.filter_cons]
  have h := exec_coupling_entry_monotone e { kind := "affine" } [1, 0, 1] 2 inverse he (Or.inr rfl) net
    (B := 1) (b := 0) (t := 1) (s := 1) (by decide) (by rw [hT]; decide) (by decide) x ctx
    (by rw [hT, hx]; decide)
  rw [hT] at h
  exact h

end realsS

/-! ## 4. Concrete instances -/

section examples
open NF.RowIndependenceMore

/-! ### the index lists of the masks used below -/

example : identityIdx floatX [-2.5, 3.0] = [0] ∧ transformIdx floatX [-2.5, 3.0] = [1] := by
  constructor <;> decide +kernel

example : identityIdx intX [1, 0, 1] = [1] ∧ transformIdx intX [1, 0, 1] = [0, 2] := by
  constructor <;> decide +kernel

/-- a conditioner for mask `[1, 0, 1]`, additive family, `S = 1`: parameters `[z + ctx, 2 z]` from the identity entry `z` -/
def toyNet1 : Array Int → Array Int → Array Int := fun z ctx => #[z.getD 0 0 + ctx.getD 0 0, 2 * z.getD 0 0]

/-- … and `S = 2`: parameters `[B, 2, 2]` from the identity split `[B, 1, 2]` -/
def toyNet2 : Array Int → Array Int → Array Int :=
  fun z ctx => #[z.getD 0 0 + ctx.getD 0 0, z.getD 1 0, 2 * z.getD 0 0, 2 * z.getD 1 0]

/-- `exec_coupling_param_dependence`, `S = 1`: the two inputs differ in BOTH transformed channels, agree on the identity
    channel; same conditioner input, same parameters — and the run itself, evaluated -/
example :
    IdAgree intX [1, 0, 1] 1 1 #[1, 2, 3] #[50, 2, 99]
    ∧ paramsOf intX [1, 0, 1] 1 false none #[] toyNet1 1 #[1, 2, 3] #[10] = #[12, 4]
    ∧ paramsOf intX [1, 0, 1] 1 false none #[] toyNet1 1 #[50, 2, 99] #[10] = #[12, 4]
    ∧ (layer intX { kind := "additive" } [1, 0, 1] 1 false none #[] toyNet1 1 #[1, 2, 3] #[10]).out = #[13, 2, 7]
    ∧ (layer intX { kind := "additive" } [1, 0, 1] 1 false none #[] toyNet1 1 #[1, 2, 99] #[10]).out = #[13, 2, 103]
    ∧ (layer intX { kind := "additive" } [1, 0, 1] 1 true none #[] toyNet1 1 #[13, 2, 7] #[10]).out = #[1, 2, 3] := by
  refine ⟨?_, by decide +kernel, by decide +kernel, by decide +kernel, by decide +kernel, by decide +kernel⟩
  intro b ch s hb hch hs
  have h1 : ch = 1 := by
    have : ch ∈ ([1] : List Nat) := by
      have h : identityIdx intX [1, 0, 1] = [1] := by decide +kernel
      rw [← h]; exact hch
    simpa using this
  have hb0 : b = 0 := by omega
  have hs0 : s = 0 := by omega
  subst h1 hb0 hs0
  decide +kernel

/-- `exec_coupling_no_cross_dependence_set`, mask `[1, 0, 1]`, `S = 1` and `S = 2`, both passes, ANY input, context and
    conditioner: overwriting the OTHER transformed channel (channel 2) leaves output channel 0 unchanged -/
example (net : Array Int → Array Int → Array Int) (inverse : Bool) (x ctx : Array Int) (w : Int) :
    (layer intX { kind := "additive" } [1, 0, 1] 1 inverse none #[] net 1 (x.setIfInBounds 2 w) ctx).out[0]?
      = (layer intX { kind := "additive" } [1, 0, 1] 1 inverse none #[] net 1 x ctx).out[0]? :=
  exec_coupling_no_cross_dependence_set intX { kind := "additive" } [1, 0, 1] 1 inverse none #[] net
    (B := 1) (b := 0) (t := 0) (s := 0) (b₂ := 0) (ch₂ := 2) (s₂ := 0) (by decide) (by decide +kernel) (by decide) x ctx w
    (by decide) (by decide) (by decide +kernel) (by decide +kernel)

example (net : Array Int → Array Int → Array Int) (inverse : Bool) (x ctx : Array Int) (w : Int) :
    (layer intX { kind := "additive" } [1, 0, 1] 2 inverse none #[] net 1 (x.setIfInBounds 5 w) ctx).out[1]?
      = (layer intX { kind := "additive" } [1, 0, 1] 2 inverse none #[] net 1 x ctx).out[1]? :=
  exec_coupling_no_cross_dependence_set intX { kind := "additive" } [1, 0, 1] 2 inverse none #[] net
    (B := 1) (b := 0) (t := 0) (s := 1) (b₂ := 0) (ch₂ := 2) (s₂ := 1) (by decide) (by decide +kernel) (by decide) x ctx w
    (by decide) (by decide) (by decide +kernel) (by decide +kernel)

/-- the `S = 2` run evaluated: `[B, C, S] = [1, 3, 2]`, identity channel 1 (entries 2, 3) untouched, channels 0 and 2
    shifted by the parameters computed from the identity entries -/
example :
    (layer intX { kind := "additive" } [1, 0, 1] 2 false none #[] toyNet2 1 #[1, 2, 3, 4, 5, 6] #[10]).out
      = #[14, 6, 3, 4, 11, 14]
    ∧ (layer intX { kind := "additive" } [1, 0, 1] 2 false none #[] toyNet2 1 #[1, 2, 3, 4, 77, 88] #[10]).out
      = #[14, 6, 3, 4, 83, 96] := by
  constructor <;> decide +kernel

/-- `exec_identity_passthrough_weak` at `Float`, the numeric mask `[-2.5, 3.0]`, `S = 1` and `S = 2`, both passes, every
    family, input and parameter array: channel 0 is returned bit for bit -/
example (c : ElCfg) (inverse : Bool) (B : Nat) (x params : Array Float) (b : Nat) :
    (couplingApply floatX c [-2.5, 3.0] B 1 x params inverse none #[]).out[flatIdx 2 1 b 0 0]? = x[flatIdx 2 1 b 0 0]?
    ∧ (couplingApply floatX c [-2.5, 3.0] B 2 x params inverse none #[]).out[flatIdx 2 2 b 0 1]? = x[flatIdx 2 2 b 0 1]? :=
  ⟨exec_identity_passthrough_weak floatX c [-2.5, 3.0] 1 inverse #[] B x params (by decide) (by decide) (by decide +kernel),
   exec_identity_passthrough_weak floatX c [-2.5, 3.0] 2 inverse #[] B x params (by decide) (by decide) (by decide +kernel)⟩

/-- an `XOps` in which `>` always answers `true` (so `≤ 0` and `> 0` overlap): legitimate as a record of operations -/
def overlapX : XOps Int := { intX with toOps := { intOps with lt := fun _ _ => true } }

/-- **the hypothesis of `exec_identity_passthrough_weak` is needed**: in `overlapX` channel 0 of the mask `[0]` is listed as
    an identity channel AND as a transformed one; the executed layer does not pass it through (`3 ↦ 8`).  This is why the
    generic pass-through theorem speaks of `mask[ch] > 0` being false and not of membership in `identityIdx`. -/
theorem passthrough_needs_not_gt :
    identityIdx overlapX [0] = [0] ∧ transformIdx overlapX [0] = [0]
    ∧ (couplingApply overlapX { kind := "additive" } [0] 1 1 #[3] #[5] false).out = #[8] := by
  refine ⟨by decide +kernel, by decide +kernel, by decide +kernel⟩

/-! ### reals: mask `[1, 0, 1]` (channels 0 and 2 transformed, channel 1 identity) and `[-2.5, 3.0]` -/

theorem isT_real (e : Float → ℝ) (mask : List ℝ) (i : Fin mask.length) :
    isT (NF.realX e) mask i = decide (0 < mask.getD i 0) := by
  simp only [isT, XOps.gt, realX_lt, realX_zero]

theorem isT_101 (e : Float → ℝ) :
    isT (NF.realX e) [1, 0, 1] ⟨0, by decide⟩ = true ∧ isT (NF.realX e) [1, 0, 1] ⟨1, by decide⟩ = false
    ∧ isT (NF.realX e) [1, 0, 1] ⟨2, by decide⟩ = true :=
  ⟨(isT_real e _ _).trans (decide_eq_true (show (0 : ℝ) < 1 from one_pos)),
    (isT_real e _ _).trans (decide_eq_false (show ¬ (0 : ℝ) < 0 from lt_irrefl 0)),
    (isT_real e _ _).trans (decide_eq_true (show (0 : ℝ) < 1 from one_pos))⟩

theorem isT_m25_3 (e : Float → ℝ) :
    isT (NF.realX e) [-2.5, 3.0] ⟨0, by decide⟩ = false ∧ isT (NF.realX e) [-2.5, 3.0] ⟨1, by decide⟩ = true :=
  ⟨(isT_real e _ _).trans (decide_eq_false (show ¬ (0 : ℝ) < -2.5 by norm_num)),
    (isT_real e _ _).trans (decide_eq_true (show (0 : ℝ) < 3.0 by norm_num))⟩

/-- `exec_coupling_feature_monotone_affine` (RealNVP, `scale = sigmoid(u + 2) + 1e-3`), mask `[-2.5, 3.0]`, ANY conditioner,
    both passes: output channel 1 is a strictly increasing function of input channel 1 on ℝ -/
example (e : Float → ℝ) (he : 0 ≤ e 1e-3) (net : Array ℝ → Array ℝ) (inverse : Bool) (a z : ℝ) :
    StrictMono (fun t => couplingRowMap e { kind := "affine" } [-2.5, 3.0] 1 net inverse #[a, z] 0
      (Function.update (rowOf (NF.realX e) 2 0 #[a, z]) ⟨1, by decide⟩ t) ⟨1, by decide⟩) :=
  exec_coupling_feature_monotone_affine e { kind := "affine" } [-2.5, 3.0] 1 net inverse he rfl #[a, z] (by simp)
    (by decide) _ (fun _ _ => rfl) ⟨1, by decide⟩ (isT_m25_3 e).2

/-- `exec_coupling_feature_monotone_additive`, mask `[1, 0, 1]`: channel 2, whatever channel 0 holds (`w`) -/
example (e : Float → ℝ) (net : Array ℝ → Array ℝ) (inverse : Bool) (a z q w : ℝ) :
    StrictMono (fun t => couplingRowMap e { kind := "additive" } [1, 0, 1] 1 net inverse #[a, z, q] 0
      (Function.update (Function.update (rowOf (NF.realX e) 3 0 #[a, z, q]) ⟨0, by decide⟩ w) ⟨2, by decide⟩ t)
        ⟨2, by decide⟩) :=
  exec_coupling_feature_monotone_additive e { kind := "additive" } [1, 0, 1] 1 net inverse rfl #[a, z, q] (by simp)
    (by decide) _
    (fun k hk => update_identity e [1, 0, 1] _ (isT_101 e).1 w k hk) ⟨2, by decide⟩ (isT_101 e).2.2

/-- RQ with linear tails at the accepted configuration `cT2` (two bins), any mask, conditioner, row: the hypothesis bundle
    of `exec_coupling_feature_monotone_rq_tails` is satisfiable -/
example (mask : List ℝ) (B : Nat) (net : Array ℝ → Array ℝ) (inverse : Bool) (x : Array ℝ)
    (hx : x.size = B * mask.length) {b : Nat} (hb : b < B) (i : Fin mask.length)
    (hi : isT (NF.realX TailsWhole.eW) mask i = true) :
    StrictMono (fun t => couplingRowMap TailsWhole.eW cT2 mask B net inverse x b
      (Function.update (rowOf (NF.realX TailsWhole.eW) mask.length b x) i t) i) :=
  exec_coupling_feature_monotone_rq_tails TailsWhole.eW cT2 mask B net inverse rqTailsCfgValid_example x hx hb _
    (fun _ _ => rfl) i hi

/-- **`exec_coupling_jacobian_triangular` with NO hypothesis left**: additive coupling, mask `[1, 0, 1]`, a genuinely
    input-dependent affine conditioner `net z = A z + β` (any weights), any row `v`.  The Fréchet derivative `L` of the
    executed one-row map has: identity row = row of the identity matrix; no dependence of a transformed output on the
    other transformed input; positive diagonal; positive determinant. -/
example (e : Float → ℝ) (A : Fin 2 → ℕ → ℝ) (β : Fin 2 → ℝ) (v : Fin 3 → ℝ) :
    let net : Array ℝ → Array ℝ := fun z => Array.ofFn fun k : Fin 2 => (∑ j ∈ Finset.range 1, A k j * z.getD j 0) + β k
    let L := fderiv ℝ (couplingRowT e { kind := "additive" } [1, 0, 1] net 3) v
    L (Pi.single 0 1) 1 = 0 ∧ L (Pi.single 1 1) 1 = 1 ∧ L (Pi.single 2 1) 1 = 0
    ∧ L (Pi.single 2 1) 0 = 0 ∧ L (Pi.single 0 1) 2 = 0
    ∧ 0 < L (Pi.single 0 1) 0 ∧ 0 < L (Pi.single 2 1) 2 ∧ 0 < L.det := by
  intro net L
  have H : CouplingRowHyp e { kind := "additive" } [1, 0, 1] net 3 :=
    couplingRowHyp_additive_affineNet e rfl rfl (affineNet_ofFn 2 1 A β)
  have hL : HasFDerivAt (couplingRowMap e { kind := "additive" } [1, 0, 1] 1 net false (Array.ofFn v) 0) L
      (rowOf (NF.realX e) ([1, 0, 1] : List ℝ).length 0 (Array.ofFn v)) := by
    rw [couplingRowMap_one, rowOf_ofFn]
    exact (H.hdiff v).hasFDerivAt
  have hd := fun i (_ : isT (NF.realX e) [1, 0, 1] i = true) =>
    couplingElMap_additive_hasDerivAt e { kind := "additive" } rfl [1, 0, 1]
      (net (idSplit (NF.realX e) [1, 0, 1] 1 (Array.ofFn v))) false 0 i
      (rowOf (NF.realX e) ([1, 0, 1] : List ℝ).length 0 (Array.ofFn v) i)
  obtain ⟨h1, h2, -⟩ := exec_coupling_jacobian_triangular e { kind := "additive" } [1, 0, 1] 1 net false (Array.ofFn v)
    (by simp) (by decide) hL _ hd
  have hp := exec_coupling_jacobian_diag_pos e { kind := "additive" } [1, 0, 1] 1 net false (Array.ofFn v)
    (by simp) (by decide) hL hd
  have hdet := (exec_coupling_jacobian_det_pos e { kind := "additive" } [1, 0, 1] 1 net false (Array.ofFn v)
    (by simp) (by decide) hL hd).2.1
  obtain ⟨t0, t1, t2⟩ := isT_101 e
  refine ⟨?_, ?_, ?_, ?_, ?_, ?_, ?_, hdet⟩
  · exact (h1 1 0 t1).trans (if_neg (by decide))
  · exact (h1 1 1 t1).trans (if_pos rfl)
  · exact (h1 1 2 t1).trans (if_neg (by decide))
  · exact h2 ⟨0, by decide⟩ ⟨2, by decide⟩ t0 t2 (by decide)
  · exact h2 ⟨2, by decide⟩ ⟨0, by decide⟩ t2 t0 (by decide)
  · exact (hp ⟨0, by decide⟩ t0).2
  · exact (hp ⟨2, by decide⟩ t2).2

/-- bounded RQ coupling at the accepted one-bin configuration `cW` (unit box), conditioner returning the empty array: the
    hypothesis bundle of `exec_coupling_feature_monotone_rq` is satisfiable, for every mask, row and transformed channel -/
example (mask : List ℝ) (B : Nat) (x : Array ℝ) (hx : x.size = B * mask.length) {b : Nat} (hb : b < B)
    (i : Fin mask.length) (hi : isT (NF.realX RQWhole.eNV) mask i = true) :
    StrictMonoOn (fun t => couplingRowMap RQWhole.eNV cW mask B (fun _ => #[]) false x b
        (Function.update (rowOf (NF.realX RQWhole.eNV) mask.length b x) i t) i)
        (Set.Icc (RQWhole.eNV (rqCfgOf cW).box.left) (RQWhole.eNV (rqCfgOf cW).box.right))
    ∧ StrictMonoOn (fun t => couplingRowMap RQWhole.eNV cW mask B (fun _ => #[]) true x b
        (Function.update (rowOf (NF.realX RQWhole.eNV) mask.length b x) i t) i)
        (Set.Icc (RQWhole.eNV (rqCfgOf cW).box.bottom) (RQWhole.eNV (rqCfgOf cW).box.top)) :=
  exec_coupling_feature_monotone_rq RQWhole.eNV cW mask B (fun _ => #[]) rfl rfl x hx hb _ (fun _ _ => rfl) i hi
    (rqParamsValid_example _ 1 B b _ 0 hb (NF.CouplingJacobian.tpos_lt RQWhole.eNV mask i hi) Nat.one_pos)

end examples

end NF.CouplingConsequences
