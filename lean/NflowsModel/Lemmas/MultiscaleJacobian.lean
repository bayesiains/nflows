import NflowsModel.Lemmas.MultiscaleIndex
import Mathlib.LinearAlgebra.Determinant
import Mathlib.Analysis.Calculus.FDeriv.Prod
import Mathlib.Analysis.Calculus.FDeriv.Comp
import Mathlib.Analysis.Calculus.FDeriv.Add
import Mathlib.Analysis.SpecialFunctions.Log.Basic
import Mathlib.Topology.Algebra.Module.FiniteDimension
import Mathlib.Topology.Algebra.Module.Determinant

/-!
# Lemmas/MultiscaleJacobian — C01 for the executed `MultiscaleCompositeTransform` (1-D items, reals)

On a 1-D item of size `n = c + h` (`c = ⌈n/2⌉` emitted, `h = ⌊n/2⌋` passed on) the executed wrapper computes `Φ ∘ f₁`:
`f₁` the first stage, `Φ = blockMap S g = id × g` the remaining stages on the passed-on chunk (`S = splitFin c h`).
In 1-D `flatPos` is the identity, so no permutation factor appears: by the chain rule and `det (id × D) = det D` the
returned log-det is the sum of the stages' log-abs-dets, for any number of stages.
-/

namespace MultiscaleJacobian

variable {A B : Type} [NormedAddCommGroup A] [NormedSpace ℝ A] [NormedAddCommGroup B] [NormedSpace ℝ B]
  [FiniteDimensional ℝ A] [FiniteDimensional ℝ B]


theorem det_id_prodMap (D : B →L[ℝ] B) :
    ((ContinuousLinearMap.id ℝ A).prodMap D).det = D.det := by
  unfold ContinuousLinearMap.det
  rw [ContinuousLinearMap.coe_prodMap, LinearMap.det_prodMap]
  simp

theorem log_abs_det_id_prodMap (D : B →L[ℝ] B) :
    Real.log |((ContinuousLinearMap.id ℝ A).prodMap D).det| = Real.log |D.det| := by
  rw [det_id_prodMap]

variable {E : Type} [NormedAddCommGroup E] [NormedSpace ℝ E]

/-- `Φ_s`: identity on the already emitted coordinates `A`, `g` on the ones still travelling `B` -/
def blockMap (S : E ≃L[ℝ] A × B) (g : B → B) : E → E := fun w => S.symm ((S w).1, g (S w).2)

theorem blockMap_deriv (S : E ≃L[ℝ] A × B) (g : B → B) (Dg : B →L[ℝ] B) (w : E)
    (hg : HasFDerivAt g Dg (S w).2) : ∃ D : E →L[ℝ] E, HasFDerivAt (blockMap S g) D w ∧ D.det = Dg.det :=
  ⟨_, (S.symm : A × B →L[ℝ] E).hasFDerivAt.comp w
      (((hasFDerivAt_id (𝕜 := ℝ) (S w).1).prodMap (S w) hg).comp w (S : E →L[ℝ] A × B).hasFDerivAt),
    (LinearMap.det_conj ((ContinuousLinearMap.id ℝ A).prodMap Dg : A × B →ₗ[ℝ] A × B) S.symm.toLinearEquiv).trans
      (det_id_prodMap Dg)⟩

/-- **inductive step** of the multiscale Jacobian: a stage `f` on everything that is left, followed by the
    remaining stages `g` on the part `B` passed on (identity on the emitted part `A`).  The composite has the
    Fréchet derivative `D' ∘ Df` (`D'` that of the block map), whose log-abs-det is the SUM of the two log-abs-dets; stated with the
    log-dets the stages RETURN (`ld = log |det D|`, the form of the per-layer C01 theorems). -/
theorem step_logdet_returned (S : E ≃L[ℝ] A × B) (f : E → E) (g : B → B) (x : E) (Df : E →L[ℝ] E)
    (Dg : B →L[ℝ] B) (ldf ldg : ℝ)
    (hf : HasFDerivAt f Df x) (hg : HasFDerivAt g Dg (S (f x)).2) (hdf : Df.det ≠ 0) (hdg : Dg.det ≠ 0)
    (hldf : ldf = Real.log |Df.det|) (hldg : ldg = Real.log |Dg.det|) :
    ∃ D : E →L[ℝ] E, HasFDerivAt (blockMap S g ∘ f) D x ∧ D.det ≠ 0 ∧ ldf + ldg = Real.log |D.det| := by
  obtain ⟨D', hD', hdet'⟩ := blockMap_deriv S g Dg (f x) hg
  have hdet : (D'.comp Df).det = Dg.det * Df.det :=
    (LinearMap.det_comp (D' : E →ₗ[ℝ] E) (Df : E →ₗ[ℝ] E)).trans (by rw [← hdet'])
  refine ⟨_, hD'.comp x hf, ?_, ?_⟩
  · rw [hdet]; exact mul_ne_zero hdg hdf
  · rw [hdet, abs_mul, Real.log_mul (abs_ne_zero.mpr hdg) (abs_ne_zero.mpr hdf), hldf, hldg, add_comm]

/-- three stages, two nested splittings `E ≃ A × B`, `B ≃ A' × B'`: the step iterates (the rest `g` of the outer
    step is itself `blockMap S' g₃ ∘ f₂`). -/
theorem three_stage_logdet {A' B' : Type} [NormedAddCommGroup A'] [NormedSpace ℝ A'] [NormedAddCommGroup B']
    [NormedSpace ℝ B'] [FiniteDimensional ℝ A'] [FiniteDimensional ℝ B'] (S : E ≃L[ℝ] A × B) (S' : B ≃L[ℝ] A' × B')
    (f₁ : E → E) (f₂ : B → B) (f₃ : B' → B') (x : E)
    (D₁ : E →L[ℝ] E) (D₂ : B →L[ℝ] B) (D₃ : B' →L[ℝ] B') (l₁ l₂ l₃ : ℝ)
    (h₁ : HasFDerivAt f₁ D₁ x) (h₂ : HasFDerivAt f₂ D₂ (S (f₁ x)).2)
    (h₃ : HasFDerivAt f₃ D₃ (S' (f₂ (S (f₁ x)).2)).2)
    (d₁ : D₁.det ≠ 0) (d₂ : D₂.det ≠ 0) (d₃ : D₃.det ≠ 0)
    (e₁ : l₁ = Real.log |D₁.det|) (e₂ : l₂ = Real.log |D₂.det|) (e₃ : l₃ = Real.log |D₃.det|) :
    ∃ D : E →L[ℝ] E, HasFDerivAt (blockMap S (blockMap S' f₃ ∘ f₂) ∘ f₁) D x ∧ D.det ≠ 0 ∧
      l₁ + (l₂ + l₃) = Real.log |D.det| := by
  obtain ⟨D', g1, g2, g3⟩ := step_logdet_returned S' f₂ f₃ _ D₂ D₃ l₂ l₃ h₂ h₃ d₂ d₃ e₂ e₃
  exact step_logdet_returned S f₁ _ x D₁ D' l₁ (l₂ + l₃) h₁ g1 d₁ g2 e₁ g3

/-! ## the concrete splitting of a 1-D item of `c + h` coordinates: first `c` emitted, last `h` passed on -/

def splitLin (c h : ℕ) : (Fin (c + h) → ℝ) ≃ₗ[ℝ] (Fin c → ℝ) × (Fin h → ℝ) where
  toFun w := (fun i => w (Fin.castAdd h i), fun j => w (Fin.natAdd c j))
  invFun p := Fin.append p.1 p.2
  map_add' _ _ := rfl
  map_smul' _ _ := rfl
  left_inv w := Fin.append_castAdd_natAdd
  right_inv p := by
    ext i
    · simp
    · simp

noncomputable def splitFin (c h : ℕ) : (Fin (c + h) → ℝ) ≃L[ℝ] (Fin c → ℝ) × (Fin h → ℝ) :=
  (splitLin c h).toContinuousLinearEquiv

/-- on row-major data: re-assembling is list concatenation (what `all_outputs` does with the emitted chunk and
    the rest) -/
theorem ofFn_splitFin_symm (c h : ℕ) (a : Fin c → ℝ) (b : Fin h → ℝ) :
    List.ofFn ((splitFin c h).symm (a, b)) = List.ofFn a ++ List.ofFn b :=
  List.ofFn_fin_append a b

theorem ofFn_splitFin (c h : ℕ) (w : Fin (c + h) → ℝ) :
    List.ofFn w = List.ofFn ((splitFin c h) w).1 ++ List.ofFn ((splitFin c h) w).2 := by
  rw [← ofFn_splitFin_symm]
  exact congrArg List.ofFn ((splitFin c h).symm_apply_apply w).symm

theorem ofFn_blockMap (c h : ℕ) (g : (Fin h → ℝ) → (Fin h → ℝ)) (w : Fin (c + h) → ℝ) :
    List.ofFn (blockMap (splitFin c h) g w) =
      List.ofFn ((splitFin c h) w).1 ++ List.ofFn (g ((splitFin c h) w).2) :=
  ofFn_splitFin_symm c h _ _

open NF.Wrap in
theorem chunk2_splitFin (c h : ℕ) (hc : (c + h + 1) / 2 = c) (hne : c + h ≠ 1) (w : Fin (c + h) → ℝ) :
    chunk2 0 (⟨[c + h], List.ofFn w⟩ : Item ℝ) =
      .ok (⟨[c], List.ofFn ((splitFin c h) w).1⟩, ⟨[h], List.ofFn ((splitFin c h) w).2⟩) := by
  have h0 := chunk2_mid [] [] (c + h) hne (List.ofFn w)
  simp only [List.nil_append, List.length_nil] at h0
  rw [h0]
  have hp : NF.Wrap.prod ([] : List Nat) = 1 := rfl
  rw [hp, splitBlocks_1d (c + h) (List.ofFn w) List.length_ofFn, hc]
  have hh : (c + h) / 2 = h := by omega
  rw [hh]
  have e := ofFn_splitFin c h w
  rw [e, List.take_left' List.length_ofFn, List.drop_left' List.length_ofFn]

open NF.Wrap in
/-- **executed inductive step** (any number of remaining stages): if the first stage maps the item `x` to `f x`
    returning `l₁`, and the remaining stages, run on the passed-on chunk, produce `g (that chunk)` returning `l₂`,
    then the executed loop on `x` produces `(blockMap S g ∘ f) x` — emitted chunk untouched, rest through `g` — and
    returns `l₁ + l₂`. -/
theorem fwdStages_step {C : Type} (c h : ℕ) (hc : (c + h + 1) / 2 = c) (hne : c + h ≠ 1)
    (t t' : Tr (Item ℝ) C ℝ) (ts : List (Tr (Item ℝ) C ℝ)) (shs : List (List Nat)) (ctx : C)
    (x fx : Fin (c + h) → ℝ) (gy : Fin h → ℝ) (l₁ l₂ : ℝ)
    (e₁ : t.fwd ⟨[c + h], List.ofFn x⟩ ctx = .ok (⟨[c + h], List.ofFn fx⟩, l₁))
    (e₂ : fwdStages (LD.std ℝ) 0 (t' :: ts) shs ⟨[h], List.ofFn ((splitFin c h) fx).2⟩ [] (LD.std ℝ).zero ctx =
      .ok (List.ofFn gy, l₂)) :
    fwdStages (LD.std ℝ) 0 (t :: t' :: ts) ([c] :: shs) ⟨[c + h], List.ofFn x⟩ [] (LD.std ℝ).zero ctx =
      .ok (List.ofFn ((splitFin c h).symm (((splitFin c h) fx).1, gy)), l₁ + l₂) := by
  rw [fwdStages_cons (LD.std ℝ) (LD.std_lawful ℝ), e₁]
  simp only []
  rw [chunk2_splitFin c h hc hne fx]
  simp only [ne_eq, not_true_eq_false, if_false]
  rw [e₂, ofFn_splitFin_symm]
  rfl

section general
open NF.Wrap
variable {C : Type}

/-- stage `t`, on 1-D items of size `m`, IS the map `f`, differentiable at every point with invertible derivative,
    and RETURNS `ld v = log |det Df(v)|` (what the per-layer C01 theorems deliver, e.g. `LinearJacobian.PassIs`) -/
def StageJac (ctx : C) (t : Tr (Item ℝ) C ℝ) (m : ℕ) (f : (Fin m → ℝ) → (Fin m → ℝ)) (ld : (Fin m → ℝ) → ℝ) : Prop :=
  ∀ v, t.fwd ⟨[m], List.ofFn v⟩ ctx = .ok (⟨[m], List.ofFn (f v)⟩, ld v) ∧
    ∃ D : (Fin m → ℝ) →L[ℝ] (Fin m → ℝ), HasFDerivAt f D v ∧ D.det ≠ 0 ∧ ld v = Real.log |D.det|

def RunJac (ctx : C) (ts : List (Tr (Item ℝ) C ℝ)) (shs : List (List Nat)) (m : ℕ)
    (F : (Fin m → ℝ) → (Fin m → ℝ)) (LDt : (Fin m → ℝ) → ℝ) : Prop :=
  ∀ v, fwdStages (LD.std ℝ) 0 ts shs ⟨[m], List.ofFn v⟩ [] (LD.std ℝ).zero ctx = .ok (List.ofFn (F v), LDt v) ∧
    ∃ D : (Fin m → ℝ) →L[ℝ] (Fin m → ℝ), HasFDerivAt F D v ∧ D.det ≠ 0 ∧ LDt v = Real.log |D.det|

def StageJacOn (ctx : C) (t : Tr (Item ℝ) C ℝ) (m : ℕ) (f : (Fin m → ℝ) → (Fin m → ℝ)) (ld : (Fin m → ℝ) → ℝ)
    (U : Set (Fin m → ℝ)) : Prop :=
  ∀ v ∈ U, t.fwd ⟨[m], List.ofFn v⟩ ctx = .ok (⟨[m], List.ofFn (f v)⟩, ld v) ∧
    ∃ D : (Fin m → ℝ) →L[ℝ] (Fin m → ℝ), HasFDerivAt f D v ∧ D.det ≠ 0 ∧ ld v = Real.log |D.det|

def RunJacOn (ctx : C) (ts : List (Tr (Item ℝ) C ℝ)) (shs : List (List Nat)) (m : ℕ)
    (F : (Fin m → ℝ) → (Fin m → ℝ)) (LDt : (Fin m → ℝ) → ℝ) (U : Set (Fin m → ℝ)) : Prop :=
  ∀ v ∈ U, fwdStages (LD.std ℝ) 0 ts shs ⟨[m], List.ofFn v⟩ [] (LD.std ℝ).zero ctx = .ok (List.ofFn (F v), LDt v) ∧
    ∃ D : (Fin m → ℝ) →L[ℝ] (Fin m → ℝ), HasFDerivAt F D v ∧ D.det ≠ 0 ∧ LDt v = Real.log |D.det|

theorem run_single_on (ctx : C) (t : Tr (Item ℝ) C ℝ) (shs : List (List Nat)) (m : ℕ) (f ld U)
    (h : StageJacOn ctx t m f ld U) : RunJacOn ctx [t] shs m f ld U := by
  intro v hv
  obtain ⟨e, hD⟩ := h v hv
  refine ⟨?_, hD⟩
  rw [fwdStages_single (LD.std ℝ) (LD.std_lawful ℝ), e]

theorem run_cons_on (ctx : C) (c h : ℕ) (hc : (c + h + 1) / 2 = c) (hne : c + h ≠ 1)
    (t t' : Tr (Item ℝ) C ℝ) (ts : List (Tr (Item ℝ) C ℝ)) (shs : List (List Nat)) (f ld₁ g ld₂ U U')
    (h₁ : StageJacOn ctx t (c + h) f ld₁ U) (h₂ : RunJacOn ctx (t' :: ts) shs h g ld₂ U')
    (hmap : ∀ v ∈ U, ((splitFin c h) (f v)).2 ∈ U') :
    RunJacOn ctx (t :: t' :: ts) ([c] :: shs) (c + h) (blockMap (splitFin c h) g ∘ f)
      (fun v => ld₁ v + ld₂ ((splitFin c h) (f v)).2) U := by
  intro v hv
  obtain ⟨e₁, D₁, d1, n1, l1⟩ := h₁ v hv
  obtain ⟨e₂, D₂, d2, n2, l2⟩ := h₂ ((splitFin c h) (f v)).2 (hmap v hv)
  refine ⟨fwdStages_step c h hc hne t t' ts shs ctx v (f v) _ _ _ e₁ e₂, ?_⟩
  exact step_logdet_returned (splitFin c h) f g v D₁ D₂ _ _ d1 d2 n1 n2 l1 l2

theorem forward_of_runOn (ctx : C) (ts : List (Tr (Item ℝ) C ℝ)) (shs : List (List Nat)) (m : ℕ) (F LDt U)
    (hr : RunJacOn ctx ts shs m F LDt U) (v : Fin m → ℝ) (hv : v ∈ U) :
      (⟨(ts.length : Int), 1, ts, shs⟩ : MS ℝ C ℝ).forward (LD.std ℝ) ⟨[m], List.ofFn v⟩ ctx =
        .ok (⟨[m], List.ofFn (F v)⟩, LDt v) ∧
      ∃ D : (Fin m → ℝ) →L[ℝ] (Fin m → ℝ), HasFDerivAt F D v ∧ D.det ≠ 0 ∧ LDt v = Real.log |D.det| := by
  refine ⟨?_, (hr v hv).2⟩
  rw [forward_of_stages (LD.std ℝ) ⟨ts.length, 1, ts, shs⟩ 0 ⟨[m], List.ofFn v⟩ ctx _ _ rfl Nat.zero_lt_one rfl
    (hr v hv).1, List.length_ofFn]

/-- `k` stages on a 1-D item: the hypotheses, stage by stage (sizes `m`, then `⌊m/2⌋`, …; recorded shapes
    `[⌈m/2⌉]`, …), together with the map they define — `Φ ∘ f₁` where `Φ = id × (rest)` is the block map on
    (emitted chunk, passed-on chunk) — and the SUM of the returned log-dets along the trajectory. -/
inductive StagesJac (ctx : C) : List (Tr (Item ℝ) C ℝ) → List (List Nat) → (m : ℕ) →
    ((Fin m → ℝ) → (Fin m → ℝ)) → ((Fin m → ℝ) → ℝ) → Prop
  | single (t : Tr (Item ℝ) C ℝ) (shs : List (List Nat)) (m : ℕ) (f ld) :
      StageJac ctx t m f ld → StagesJac ctx [t] shs m f ld
  | cons (c h : ℕ) (hc : (c + h + 1) / 2 = c) (hne : c + h ≠ 1) (t t' : Tr (Item ℝ) C ℝ)
      (ts : List (Tr (Item ℝ) C ℝ)) (shs : List (List Nat)) (f ld g ld₂) :
      StageJac ctx t (c + h) f ld → StagesJac ctx (t' :: ts) shs h g ld₂ →
      StagesJac ctx (t :: t' :: ts) ([c] :: shs) (c + h) (blockMap (splitFin c h) g ∘ f)
        (fun v => ld v + ld₂ ((splitFin c h) (f v)).2)

theorem stages_logdet_is_jacobian (ctx : C) (ts : List (Tr (Item ℝ) C ℝ)) (shs : List (List Nat)) (m : ℕ) (F LDt)
    (h : StagesJac ctx ts shs m F LDt) : RunJac ctx ts shs m F LDt := by
  induction h with
  | single t shs m f ld hs =>
    exact fun v => run_single_on ctx t shs m f ld Set.univ (fun v _ => hs v) v (Set.mem_univ v)
  | cons c h hc hne t t' ts shs f ld g ld₂ hs _ ih =>
    exact fun v => run_cons_on ctx c h hc hne t t' ts shs f ld g ld₂ Set.univ Set.univ (fun v _ => hs v)
      (fun v _ => ih v) (fun _ _ => Set.mem_univ _) v (Set.mem_univ v)

/-- **C01 for the multiscale wrapper** (1-D items, `split_dim = 1`, any number of stages), on the object:
    `MultiscaleCompositeTransform.forward` returns `F v` (the composition of the block maps) and `LDt v` (the sum of
    the stages' returned log-dets), and `LDt v = log |det DF(v)|`. -/
theorem multiscale_logdet_is_sum_and_jacobian (ctx : C) (ts : List (Tr (Item ℝ) C ℝ)) (shs : List (List Nat))
    (m : ℕ) (F LDt) (h : StagesJac ctx ts shs m F LDt) (v : Fin m → ℝ) :
      (⟨(ts.length : Int), 1, ts, shs⟩ : MS ℝ C ℝ).forward (LD.std ℝ) ⟨[m], List.ofFn v⟩ ctx =
        .ok (⟨[m], List.ofFn (F v)⟩, LDt v) ∧
      ∃ D : (Fin m → ℝ) →L[ℝ] (Fin m → ℝ), HasFDerivAt F D v ∧ D.det ≠ 0 ∧ LDt v = Real.log |D.det| :=
  forward_of_runOn ctx ts shs m F LDt Set.univ (fun v _ => stages_logdet_is_jacobian ctx ts shs m F LDt h v) v
    (Set.mem_univ v)

/-- **two stages, every `n = c + h`** (`c = ⌈n/2⌉`, `h = ⌊n/2⌋`), fully explicit -/
theorem two_stage_logdet (ctx : C) (c h : ℕ) (hc : (c + h + 1) / 2 = c) (hne : c + h ≠ 1)
    (t₁ t₂ : Tr (Item ℝ) C ℝ) (f₁ ld₁ f₂ ld₂)
    (h₁ : StageJac ctx t₁ (c + h) f₁ ld₁) (h₂ : StageJac ctx t₂ h f₂ ld₂) (v : Fin (c + h) → ℝ) :
      (⟨2, 1, [t₁, t₂], [[c], [h]]⟩ : MS ℝ C ℝ).forward (LD.std ℝ) ⟨[c + h], List.ofFn v⟩ ctx =
        .ok (⟨[c + h], List.ofFn ((splitFin c h) (f₁ v)).1 ++ List.ofFn (f₂ ((splitFin c h) (f₁ v)).2)⟩,
             ld₁ v + ld₂ ((splitFin c h) (f₁ v)).2) ∧
      ∃ D : (Fin (c + h) → ℝ) →L[ℝ] (Fin (c + h) → ℝ),
        HasFDerivAt (blockMap (splitFin c h) f₂ ∘ f₁) D v ∧ D.det ≠ 0 ∧
        ld₁ v + ld₂ ((splitFin c h) (f₁ v)).2 = Real.log |D.det| := by
  have := multiscale_logdet_is_sum_and_jacobian ctx [t₁, t₂] [[c], [h]] (c + h) _ _
    (StagesJac.cons c h hc hne t₁ t₂ [] [[h]] f₁ ld₁ f₂ ld₂ h₁ (StagesJac.single t₂ [[h]] h f₂ ld₂ h₂)) v
  rw [← ofFn_blockMap]
  exact this

/-- the object of `two_stage_logdet` IS what the documented construction returns
    (`MultiscaleCompositeTransform(2, split_dim=1)`, `add_transform` twice), for every `n = c + h ≥ 4` -/
theorem two_stage_built (c h : ℕ) (hc : (c + h + 1) / 2 = c) (h4 : 4 ≤ c + h) (t₁ t₂ : Tr (Item ℝ) C ℝ) :
    MS.build 2 (.int 1) [t₁, t₂] [c + h] = .ok (⟨2, 1, [t₁, t₂], [[c], [h]]⟩ : MS ℝ C ℝ) := by
  have hh : (c + h) / 2 = h := by omega
  have := build_ok (α := ℝ) (C := C) (L := ℝ) [] [] [t₁, t₂] (c + h) (by simp) (by simpa using h4)
  simpa [outShapes, hc, hh] using this

end general

/-! ## a concrete instance: `n = 4`, two affine stages with explicit numbers -/
section example_
open NF.Wrap

noncomputable def affStage (a b : ℝ) : Tr (Item ℝ) Unit ℝ :=
  ⟨fun x _ => .ok (⟨x.shape, x.data.map (fun u => a * u + b)⟩, (x.data.length : ℝ) * Real.log |a|),
   fun x _ => .ok (x, 0)⟩

theorem affStage_jac (a b : ℝ) (ha : a ≠ 0) (m : ℕ) :
    StageJac () (affStage a b) m (fun v i => a * v i + b) (fun _ => (m : ℝ) * Real.log |a|) := by
  intro v
  have hdet : (a • ContinuousLinearMap.id ℝ (Fin m → ℝ)).det = a ^ m :=
    (LinearMap.det_smul a (LinearMap.id : (Fin m → ℝ) →ₗ[ℝ] (Fin m → ℝ))).trans
      (by rw [LinearMap.det_id, mul_one, Module.finrank_fin_fun])
  refine ⟨by simp only [affStage, List.map_ofFn, List.length_ofFn]; rfl, a • ContinuousLinearMap.id ℝ (Fin m → ℝ),
    ((hasFDerivAt_id (𝕜 := ℝ) v).const_smul a).add_const (fun _ : Fin m => b), ?_, ?_⟩
  · rw [hdet]; exact pow_ne_zero _ ha
  · rw [hdet, abs_pow, Real.log_pow]

/-- `n = 4`: stage 1 is `x ↦ 2x + 1` on 4 coordinates, stage 2 is `x ↦ 3x − 1` on the 2 passed-on ones; the
    executed wrapper returns `4·log 2 + 2·log 3`, the log-abs-det of the Jacobian of the map it computes. -/
example (v : Fin (2 + 2) → ℝ) :
    ∃ y, (⟨2, 1, [affStage 2 1, affStage 3 (-1)], [[2], [2]]⟩ : MS ℝ Unit ℝ).forward (LD.std ℝ)
        ⟨[2 + 2], List.ofFn v⟩ () = .ok (⟨[2 + 2], y⟩, (4 : ℝ) * Real.log 2 + 2 * Real.log 3) ∧
      ∃ D : (Fin (2 + 2) → ℝ) →L[ℝ] (Fin (2 + 2) → ℝ),
        HasFDerivAt (blockMap (splitFin 2 2) (fun w i => 3 * w i + (-1)) ∘ (fun w i => 2 * w i + 1)) D v ∧
          D.det ≠ 0 ∧ (4 : ℝ) * Real.log 2 + 2 * Real.log 3 = Real.log |D.det| := by
  obtain ⟨e, D, h1, h2, h3⟩ := two_stage_logdet () 2 2 (by norm_num) (by norm_num) (affStage 2 1) (affStage 3 (-1))
    _ _ _ _ (affStage_jac 2 1 (by norm_num) (2 + 2)) (affStage_jac 3 (-1) (by norm_num) 2) v
  have e2 : |(2 : ℝ)| = 2 := abs_of_pos (by norm_num)
  have e3 : |(3 : ℝ)| = 3 := abs_of_pos (by norm_num)
  simp only [e2, e3] at e h3
  have hs : ((2 + 2 : ℕ) : ℝ) * Real.log 2 + ((2 : ℕ) : ℝ) * Real.log 3 = 4 * Real.log 2 + 2 * Real.log 3 := by
    push_cast; ring
  rw [hs] at e h3
  exact ⟨_, e, D, h1, h2, h3⟩

end example_

end MultiscaleJacobian

