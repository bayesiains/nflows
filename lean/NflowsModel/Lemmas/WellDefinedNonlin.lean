import NflowsModel.Lemmas.NonlinExec
import NflowsModel.Lemmas.NonlinExecLT
import Mathlib.Tactic
/-!
# Lemmas/WellDefinedNonlin — "accepted ⇒ well defined" for the executed element-wise inverses

Over ℝ `.ok` does not exclude `log 0`, `x / 0`, `tan (π/2)` (Mathlib totalises them), so acceptance of an element of
`Exp` / `Tanh` / `Sigmoid` (= `Logit` forward) / `CauchyCDF` inverse does not by itself say that only in-domain operands
are formed.  For each executed inverse of `Core/Nonlin.lean` at `NF.realX e`: if the
program accepts the element (`∃ r, … = .ok r`), it returns the stated closed form AND every logarithm argument it forms is
`> 0`, every divisor `≠ 0`, and the tangent is evaluated away from its poles.

| program (Core/Nonlin.lean)   | operation                              | conjunct                               |
|------------------------------|----------------------------------------|----------------------------------------|
| `expT … true` :13-14         | `log x`                                | `0 < y`                                |
| `tanhT … true` :22-23        | `(1+x) / (1-x)`                        | `1 - y ≠ 0`                            |
|                              | `log ((1+x)/(1-x))`                    | `0 < (1 + y) / (1 - y)`                |
|                              | `log (1 - x*x)`                        | `0 < 1 - y * y`                        |
| `sigmoidT … true` :70-72     | `log xc`                               | `0 < xc`                               |
|                              | `log1p (-xc)` = `log (1 + (-xc))`      | `0 < 1 + -xc`                          |
|                              | `1 / T`                                | `T ≠ 0`                                |
|                              | `log T`                                | `0 < T`                                |
|                              | the two `softplus` (`log1p (exp _)`)   | `0 < 1 + exp _` (always)               |
| `cauchyT … true` :84-85      | `tan (π̂ (x - ½))`                     | `cos (…) ≠ 0`  (needs `π̂ < π`)        |
|                              | `log (1 + y*y)`                        | `0 < 1 + y * y`                        |
| `cauchyT … false` :87-88     | `log (1 + x*x)`                        | `0 < 1 + x * x`                        |
| `sigmoidT … false` :75-76    | `log T`, `sigmoid`'s `1 / (1+exp(-z))` | `0 < T`, `1 + exp (-z) ≠ 0`            |

`Sigmoid` needs `0 < T` (the temperature; the constructor initialises it to `1`, a learnable temperature may leave the
domain: hypothesis) and the clamp bounds `0 < ε̂ ≤ 1 - ε̂ < 1` (`NonlinExec.SigmoidClamp`).
**CauchyCDF inverse at the accepted end points `x = 0`, `x = 1` is well defined only because the double `π̂` is below `π`**
(`cauchy_inverse_well_defined` takes `e π̂ < π`; `cauchy_inverse_pole_ideal`: under the ideal reading `e π̂ = π` the accepted
input `0` evaluates the tangent AT its pole).
-/
open NF NonlinExec

namespace NF.WellDefined.Nonlin
variable (e : Float → ℝ)

/-- `Exp.inverse`: an accepted element is positive — the logarithm argument is in its domain -/
theorem exp_inverse_well_defined (y : ℝ) (h : ∃ r, expT (NF.realX e) true y = .ok r) :
    expT (NF.realX e) true y = .ok (Real.log y, -Real.log y) ∧ 0 < y := by
  have hy : 0 < y := (expT_inv_ok_iff e y).1 h
  exact ⟨expT_inv_run e hy, hy⟩

/-- `Tanh.inverse`: an accepted element lies in `(-1, 1)`; the divisor and both logarithm arguments are in domain -/
theorem tanh_inverse_well_defined (h05 : e 0.5 = 1 / 2) (y : ℝ) (h : ∃ r, tanhT (NF.realX e) true y = .ok r) :
    tanhT (NF.realX e) true y = .ok (1 / 2 * Real.log ((1 + y) / (1 - y)), -Real.log (1 - y * y)) ∧
    1 - y ≠ 0 ∧ 0 < (1 + y) / (1 - y) ∧ 0 < 1 - y * y := by
  obtain ⟨h1, h2⟩ := (not_or.mp (not_of_accepts (tanhT_inv_error_iff e y) h)).imp not_le.mp not_le.mp
  have hrun := tanhT_inv_run e h05 h1 h2
  unfold artanh at hrun
  have h1' : 0 < 1 + y := by linarith
  have h2' : 0 < 1 - y := by linarith
  exact ⟨hrun, h2'.ne', div_pos h1' h2', by linarith [mul_pos h1' h2']⟩

theorem clamp_mem_Ioo {eps : Float} (hc : SigmoidClamp e eps) (y : ℝ) :
    0 < DualX.clampR (e eps) (e (1 - eps)) y ∧ DualX.clampR (e eps) (e (1 - eps)) y < 1 :=
  ⟨hc.hlo.trans_le (clampR_mem hc.hle y).1, (clampR_mem hc.hle y).2.trans_lt hc.hhi⟩

/-- `Sigmoid.inverse` (= `Logit.forward`): an accepted element lies in the CLOSED `[0, 1]`; the clamp keeps the argument of
    `log` and of `log1p (-·)` in `(0, 1)`; `1 / T` and `log T` need `0 < T` -/
theorem sigmoid_inverse_well_defined {eps : Float} (hc : SigmoidClamp e eps) {T : ℝ} (hT : 0 < T) (y : ℝ)
    (h : ∃ r, sigmoidT (NF.realX e) T eps true y = .ok r) :
    (0 ≤ y ∧ y ≤ 1) ∧
    sigmoidT (NF.realX e) T eps true y
      = .ok (1 / T * (Real.log (DualX.clampR (e eps) (e (1 - eps)) y) - Real.log (1 - DualX.clampR (e eps) (e (1 - eps)) y)),
             -sigLd T (T * (1 / T * logit (DualX.clampR (e eps) (e (1 - eps)) y)))) ∧
    0 < DualX.clampR (e eps) (e (1 - eps)) y ∧ 0 < 1 + -DualX.clampR (e eps) (e (1 - eps)) y ∧ T ≠ 0 ∧ 0 < T ∧
    ∀ z : ℝ, 0 < 1 + Real.exp z := by
  have hdom : 0 ≤ y ∧ y ≤ 1 := (not_or.mp (not_of_accepts (sigmoidT_inv_error_iff e T eps y) h)).imp not_lt.mp not_lt.mp
  have hm := clamp_mem_Ioo e hc y
  refine ⟨hdom, ?_, hm.1, by linarith [hm.2], hT.ne', hT, fun z => by positivity⟩
  have := sigmoidT_inv_run e T eps hdom.1 hdom.2
  unfold logit at this ⊢
  exact this

/-- `CauchyCDF.inverse`: an accepted element lies in the CLOSED `[0, 1]`; the tangent is evaluated strictly inside
    `(-π/2, π/2)` — INCLUDING the end points — because the double `π̂` is below `π`; the logarithm argument is `≥ 1` -/
theorem cauchy_inverse_well_defined (hpi0 : 0 < e 3.141592653589793) (hpi : e 3.141592653589793 < Real.pi)
    (hhalf : e 0.5 = 1 / 2) (x : ℝ) (h : ∃ r, cauchyT (NF.realX e) true x = .ok r) :
    (0 ≤ x ∧ x ≤ 1) ∧
    cauchyT (NF.realX e) true x
      = .ok (Real.tan (e 3.141592653589793 * (x - e 0.5)),
             -(e (-(Float.log 3.141592653589793))
                - Real.log (1 + Real.tan (e 3.141592653589793 * (x - e 0.5))
                              * Real.tan (e 3.141592653589793 * (x - e 0.5))))) ∧
    Real.cos (e 3.141592653589793 * (x - e 0.5)) ≠ 0 ∧
    0 < 1 + Real.tan (e 3.141592653589793 * (x - e 0.5)) * Real.tan (e 3.141592653589793 * (x - e 0.5)) := by
  have hdom : 0 ≤ x ∧ x ≤ 1 := (not_or.mp (not_of_accepts (cauchyT_inv_error_iff e x) h)).imp not_lt.mp not_lt.mp
  refine ⟨hdom, NonlinExec.cauchyT_inv_run e x hdom.1 hdom.2, ?_,
    by linarith [mul_self_nonneg (Real.tan (e 3.141592653589793 * (x - e 0.5)))]⟩
  rw [hhalf]
  -- `π̂·(x − ½) ∈ [−π̂/2, π̂/2] ⊂ (−π/2, π/2)`
  have h0 := mul_nonneg hpi0.le hdom.1
  have h1 := mul_le_of_le_one_right hpi0.le hdom.2
  exact (Real.cos_pos_of_mem_Ioo ⟨by linarith, by linarith⟩).ne'

/-- the contrast: under the IDEAL reading `e π̂ = π` the accepted input `0` evaluates the tangent at its pole
    (`cos = 0`; Mathlib's `Real.tan` returns the junk value `0` there) — the well-definedness above is a property of the
    double constant, not of the formula -/
theorem cauchy_inverse_pole_ideal (hpi : e 3.141592653589793 = Real.pi) (hhalf : e 0.5 = 1 / 2) :
    (∃ r, cauchyT (NF.realX e) true 0 = .ok r) ∧ Real.cos (e 3.141592653589793 * (0 - e 0.5)) = 0 := by
  refine ⟨⟨_, NonlinExec.cauchyT_inv_run e 0 le_rfl zero_le_one⟩, ?_⟩
  rw [hpi, hhalf]
  have : Real.pi * (0 - 1 / 2) = -(Real.pi / 2) := by ring
  rw [this, Real.cos_neg, Real.cos_pi_div_two]

/-- `CauchyCDF.forward` accepts everything; its logarithm argument is `≥ 1` -/
theorem cauchy_forward_well_defined (x : ℝ) :
    cauchyT (NF.realX e) false x
      = .ok (e (1 / 3.141592653589793) * Real.arctan x + e 0.5,
             e (-(Float.log 3.141592653589793)) - Real.log (1 + x * x)) ∧ 0 < 1 + x * x :=
  ⟨NonlinExec.cauchyT_fwd_run e x, by nlinarith [mul_self_nonneg x]⟩

/-- `Sigmoid.forward` accepts everything; `log T` needs a positive temperature, the divisor of the sigmoid is `> 1` -/
theorem sigmoid_forward_well_defined {T : ℝ} (hT : 0 < T) (eps : Float) (x : ℝ) :
    (∃ r, sigmoidT (NF.realX e) T eps false x = .ok r) ∧ 0 < T ∧ 1 + Real.exp (-(T * x)) ≠ 0 ∧ ∀ z : ℝ, 0 < 1 + Real.exp z :=
  ⟨⟨_, rfl⟩, hT, by positivity, fun z => by positivity⟩

/-! non-vacuity: the hypotheses on `e` are satisfiable (an `e` that reads the three doubles as `3`, `1/2`, and anything
else as `0` satisfies `0 < e π̂ < π`, `e 0.5 = 1/2`), and `1/2` is an accepted input -/
example : ∃ e : Float → ℝ, 0 < e 3.141592653589793 ∧ e 3.141592653589793 < Real.pi ∧ e 0.5 = 1 / 2 ∧
    ∃ r, cauchyT (NF.realX e) true (1 / 2) = .ok r := by
  refine ⟨fun f => if f == 0.5 then 1 / 2 else 3, ?_, ?_, ?_, ?_⟩
  · simp [FloatFacts.pi_beq_half]
  · simp only [FloatFacts.pi_beq_half]
    exact Real.pi_gt_three
  · simp [FloatFacts.half_beq_half]
  · exact ⟨_, NonlinExec.cauchyT_inv_run _ (1 / 2) (by norm_num) (by norm_num)⟩

end NF.WellDefined.Nonlin
