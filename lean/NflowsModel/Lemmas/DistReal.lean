import NflowsModel.Core.Density
import NflowsModel.Real.RealX
import NflowsModel.Lemmas.Gaussian
import NflowsModel.Lemmas.Bernoulli
import NflowsModel.Lemmas.MoG
import NflowsModel.Lemmas.SplineExec
import Mathlib.MeasureTheory.Integral.IntervalIntegral.Basic
import Mathlib.LinearAlgebra.Matrix.Notation
/-!
# Lemmas/DistReal — the executable definitions of `Core/Dist` at `realX` are the shallow real formulas

Bridge lemmas `fooG (realX e) (List.ofFn …) = <real formula of Lemmas/{Gaussian,Bernoulli,MoG}>` used by `Properties/C05`.
-/
open DualSound NF NF.Density

namespace DistReal
noncomputable section
variable (e : Float → ℝ)

/-! ## lists built by `List.ofFn` -/

theorem zipWith3_ofFn {α : Type} (f : α → α → α → α) : ∀ {D : ℕ} (a b c : Fin D → α),
    zipWith3 f (List.ofFn a) (List.ofFn b) (List.ofFn c) = List.ofFn (fun i => f (a i) (b i) (c i))
  | 0, a, b, c => by simp [zipWith3]
  | D+1, a, b, c => by
    simp only [List.ofFn_succ, zipWith3]
    rw [zipWith3_ofFn f]

theorem zipWith_ofFn {α β γ : Type} (f : α → β → γ) : ∀ {D : ℕ} (a : Fin D → α) (b : Fin D → β),
    List.zipWith f (List.ofFn a) (List.ofFn b) = List.ofFn (fun i => f (a i) (b i))
  | 0, a, b => by simp
  | D+1, a, b => by
    simp only [List.ofFn_succ, List.zipWith_cons_cons]
    rw [zipWith_ofFn f]

theorem exists_ofFn {α : Type} {D : ℕ} (l : List α) (h : l.length = D) : ∃ f : Fin D → α, l = List.ofFn f := by
  subst h; exact ⟨l.get, (List.ofFn_get l).symm⟩

theorem ofFn_ne_nil {α : Type} {D : ℕ} (hD : 0 < D) (f : Fin D → α) : List.ofFn f ≠ [] := fun h =>
  hD.ne' (by rw [← List.length_ofFn (f := f), h, List.length_nil])

theorem sumG_ofFn {D : ℕ} (f : Fin D → ℝ) : sumG (realX e) (List.ofFn f) = ∑ i, f i := by
  rw [sumG_real, List.sum_ofFn]

/-! ## constants -/

@[simp] theorem piG_real : piG (realX e) = Real.pi := by
  simp [piG, Real.arctan_one]; ring

@[simp] theorem log2piG_real : log2piG (realX e) = Real.log (2 * Real.pi) := by
  simp [log2piG]

theorem logZ_real (D : ℕ) : logZ (realX e) D = (1/2) * D * Real.log (2 * Real.pi) := by
  simp [logZ]

/-! ## normal -/

theorem ofRat_neg_half : (realX e).ofRat (-1) 2 = -(1/2) := by
  rw [realX_ofRat]; norm_num

theorem stdNormalRow_real {D : ℕ} (x : Fin D → ℝ) :
    stdNormalRow (realX e) D (List.ofFn x) = Gaussian.stdNormalLogp x := by
  unfold stdNormalRow Gaussian.stdNormalLogp
  rw [List.map_ofFn, sumG_ofFn, logZ_real, ofRat_neg_half]
  simp only [realX_sub, realX_mul, Function.comp, realX_sq]

theorem diagNormalRow_real {D : ℕ} (μ ls x : Fin D → ℝ) :
    diagNormalRow (realX e) D (List.ofFn μ) (List.ofFn ls) (List.ofFn x) = Gaussian.diagNormalLogp μ ls x := by
  unfold diagNormalRow Gaussian.diagNormalLogp
  dsimp only
  rw [zipWith3_ofFn, List.map_ofFn, sumG_ofFn, sumG_ofFn, logZ_real, ofRat_neg_half]
  simp only [realX_sub, realX_mul, Function.comp, realX_sq, realX_exp, realX_neg]


theorem diagNormalLogp_iso {D : ℕ} (σ : ℝ) (hσ : 0 < σ) (μ x : Fin D → ℝ) :
    Gaussian.diagNormalLogp μ (fun _ => Real.log σ) x
      = -(1/2) * ∑ i, ((x i - μ i) / σ) ^ 2 - D * Real.log σ - (1/2) * D * Real.log (2 * Real.pi) := by
  unfold Gaussian.diagNormalLogp
  simp only [Real.exp_neg, Real.exp_log hσ, ← div_eq_mul_inv, Finset.sum_const, Finset.card_univ, Fintype.card_fin,
    nsmul_eq_mul]

/-! ## Bernoulli -/

theorem softplus_small (x : ℝ) (h : x ≤ 20) : (realX e).softplus x = Bernoulli.softplus x := by
  rw [realX_softplus, if_neg (not_lt.mpr h)]; rfl

theorem bernRow_sum {D : ℕ} (l x : Fin D → ℝ) :
    bernRow (realX e) (List.ofFn l) (List.ofFn x) = ∑ i, bernRow (realX e) [l i] [x i] := by
  unfold bernRow
  rw [zipWith_ofFn, sumG_ofFn]
  exact Finset.sum_congr rfl fun i _ => by simp [sumG]

theorem bernRow_one (l : ℝ) (h : |l| ≤ 20) (x : Bool) :
    bernRow (realX e) [l] [Bernoulli.ind x] = Bernoulli.bernLogp l x := by
  have h1 := abs_le.mp h
  simp only [bernRow, List.zipWith_cons_cons, List.zipWith_nil_right, sumG_real, List.sum_singleton,
    realX_sub, realX_mul, realX_neg, realX_one, softplus_small e (-l) (by linarith [h1.1]), softplus_small e l h1.2]
  rfl

theorem bernRow_real {D : ℕ} (l : Fin D → ℝ) (x : Fin D → Bool) (h : ∀ i, |l i| ≤ 20) :
    bernRow (realX e) (List.ofFn l) (List.ofFn fun i => Bernoulli.ind (x i)) = ∑ i, Bernoulli.bernLogp (l i) (x i) := by
  rw [bernRow_sum]
  exact Finset.sum_congr rfl fun i _ => bernRow_one e (l i) (h i) (x i)

/-- Σ_x x_i · p(x) = σ(l_i) for the ideal (un-thresholded) formula -/
theorem bernoulli_mean {D : ℕ} (l : Fin D → ℝ) (i : Fin D) :
    ∑ x : Fin D → Bool, Bernoulli.ind (x i) * Real.exp (∑ j, Bernoulli.bernLogp (l j) (x j)) = 1 / (1 + Real.exp (-(l i))) := by
  have h1 : ∀ x : Fin D → Bool, Bernoulli.ind (x i) * Real.exp (∑ j, Bernoulli.bernLogp (l j) (x j))
      = ∏ j, ((if j = i then Bernoulli.ind (x j) else 1) * Real.exp (Bernoulli.bernLogp (l j) (x j))) := by
    intro x
    rw [Finset.prod_mul_distrib, Real.exp_sum, Finset.prod_ite_eq' Finset.univ i (fun j => Bernoulli.ind (x j)),
      if_pos (Finset.mem_univ i)]
  simp_rw [h1]
  rw [← Fintype.prod_sum (fun j (b : Bool) => (if j = i then Bernoulli.ind b else 1) * Real.exp (Bernoulli.bernLogp (l j) b))]
  have h2 : ∀ j, ∑ b : Bool, (if j = i then Bernoulli.ind b else 1) * Real.exp (Bernoulli.bernLogp (l j) b)
      = if j = i then Real.exp (Bernoulli.bernLogp (l i) true) else 1 := by
    intro j
    rw [Fintype.sum_bool]
    by_cases hj : j = i
    · subst hj
      simp only [if_true, Bernoulli.ind, Bool.false_eq_true, if_false, one_mul, zero_mul, add_zero]
    · simp only [if_neg hj, one_mul]; exact Bernoulli.bern_two (l j)
  simp_rw [h2]
  rw [Finset.prod_ite_eq' Finset.univ i (fun _ => Real.exp (Bernoulli.bernLogp (l i) true)), if_pos (Finset.mem_univ i)]
  exact Bernoulli.exp_bernLogp_true (l i)


/-! ## mixture of Gaussians -/

theorem log_sum_exp_sub (xs : List ℝ) (h : xs ≠ []) (m : ℝ) :
    Real.log ((xs.map fun x => Real.exp (x - m)).sum) = Real.log ((xs.map Real.exp).sum) - m := by
  have h2 : (xs.map fun x => Real.exp (x - m)).sum = (xs.map Real.exp).sum * Real.exp (-m) := by
    rw [← List.sum_map_mul_right]
    exact congrArg List.sum (List.map_congr_left fun x _ => by rw [sub_eq_add_neg, Real.exp_add])
  have hT : 0 < (xs.map Real.exp).sum := by
    have := SplineExec.sum_exp_pos xs 0 h
    simp only [sub_zero] at this
    exact this
  rw [h2, Real.log_mul hT.ne' (Real.exp_pos _).ne', Real.log_exp, sub_eq_add_neg]

theorem logSoftmax_sum_one (xs : List ℝ) (h : xs ≠ []) :
    ((logSoftmaxG (realX e) xs).map Real.exp).sum = 1 := by
  unfold logSoftmaxG
  dsimp only
  rw [sumG_real, List.map_map]
  have hS := SplineExec.sum_exp_pos xs (maxG (realX e) xs) h
  change (List.map (fun x => Real.exp (x - maxG (realX e) xs
      - Real.log ((xs.map (fun x => Real.exp (x - maxG (realX e) xs))).sum))) xs).sum = 1
  set m := maxG (realX e) xs
  set S := (xs.map (fun x => Real.exp (x - m))).sum with hSdef
  have : (fun x => Real.exp (x - m - Real.log S)) = fun x => Real.exp (x - m) * S⁻¹ := by
    funext x
    rw [Real.exp_sub (x - m), Real.exp_log hS]; rfl
  rw [this, List.sum_map_mul_right]
  exact mul_inv_cancel₀ hS.ne'

theorem logSumExp_real (xs : List ℝ) (h : xs ≠ []) :
    logSumExpG (realX e) xs = Real.log ((xs.map Real.exp).sum) := by
  unfold logSumExpG
  dsimp only
  rw [sumG_real]
  change Real.log ((xs.map (fun x => Real.exp (x - maxG (realX e) xs))).sum) + maxG (realX e) xs = _
  rw [log_sum_exp_sub xs h, sub_add_cancel]

theorem mogStd_pos (eps : ℝ) (heps : 0 < eps) (u : ℝ) : 0 < mogStd (realX e) eps u := by
  rw [mogStd, realX_add]
  exact add_pos (realX_softplus_pos e u) heps

theorem mogTermG_real (x lp m s : ℝ) :
    mogTermG (realX e) x lp m s = lp - (1/2) * (Real.log (2 * Real.pi) + 2 * Real.log s + ((x - m) / s)^2) := by
  simp [mogTermG]

/-- one executed conditional of the mixture = `MoG.mogLogp` with the executed log-softmax weights and `softplus + ε` stds -/
theorem mogFeature_real {M : ℕ} (hM : 0 < M) (eps : ℝ) (lg μ u : Fin M → ℝ) (x : ℝ) :
    mogFeature (realX e) eps (List.ofFn lg) (List.ofFn μ) (List.ofFn u) x
      = MoG.mogLogp (fun k => lg k - maxG (realX e) (List.ofFn lg) - Real.log ((List.ofFn fun k => Real.exp (lg k - maxG (realX e) (List.ofFn lg))).sum))
          μ (fun k => mogStd (realX e) eps (u k)) x := by
  unfold mogFeature MoG.mogLogp
  dsimp only
  have hls : logSoftmaxG (realX e) (List.ofFn lg)
      = List.ofFn (fun k => lg k - maxG (realX e) (List.ofFn lg) - Real.log ((List.ofFn fun k => Real.exp (lg k - maxG (realX e) (List.ofFn lg))).sum)) := by
    unfold logSoftmaxG
    dsimp only
    rw [sumG_real, List.map_ofFn, List.map_ofFn]
    rfl
  rw [hls, List.map_ofFn, zipWith3_ofFn, logSumExp_real]
  · rw [List.map_ofFn, List.sum_ofFn]
    congr 1
    apply Finset.sum_congr rfl
    intro k _
    simp only [Function.comp, mogTermG_real, MoG.mogTerm]
  · exact ofFn_ne_nil hM _


/-- `F.softplus` with its threshold, as a real function -/
def softplusT (v : ℝ) : ℝ := if 20 < v then v else Real.log (1 + Real.exp v)

theorem measurable_softplusT : Measurable softplusT := by
  unfold softplusT
  exact Measurable.ite (measurableSet_lt measurable_const measurable_id) measurable_id (by fun_prop)

theorem mogStd_real (eps u : ℝ) : mogStd (realX e) eps u = softplusT u + eps := by
  simp [mogStd, realX_softplus, softplusT]

/-- shift-free closed form of one executed conditional of the mixture -/
theorem mogFeature_closed {M : ℕ} (hM : 0 < M) (eps : ℝ) (lg μ u : Fin M → ℝ) (x : ℝ) :
    mogFeature (realX e) eps (List.ofFn lg) (List.ofFn μ) (List.ofFn u) x
      = Real.log (∑ k, Real.exp ((lg k - Real.log (∑ j, Real.exp (lg j)))
          - (1/2) * (Real.log (2 * Real.pi) + 2 * Real.log (softplusT (u k) + eps) + ((x - μ k) / (softplusT (u k) + eps))^2))) := by
  rw [mogFeature_real e hM]
  unfold MoG.mogLogp MoG.mogTerm
  congr 1
  apply Finset.sum_congr rfl
  intro k _
  congr 1
  dsimp only
  rw [mogStd_real]
  congr 1
  rw [show (List.ofFn fun k => Real.exp (lg k - maxG (realX e) (List.ofFn lg)))
      = (List.ofFn lg).map fun x => Real.exp (x - maxG (realX e) (List.ofFn lg)) from by rw [List.map_ofFn]; rfl,
    log_sum_exp_sub _ (ofFn_ne_nil hM lg), List.map_ofFn, List.sum_ofFn]
  exact sub_sub_sub_cancel_right _ _ _

theorem measurable_mogFeature {M : ℕ} (hM : 0 < M) (eps : ℝ) {β : Type} [MeasurableSpace β] (lg μ u : β → Fin M → ℝ)
    (hlg : ∀ k, Measurable fun b => lg b k) (hμ : ∀ k, Measurable fun b => μ b k) (hu : ∀ k, Measurable fun b => u b k) :
    Measurable (fun p : β × ℝ => mogFeature (realX e) eps (List.ofFn (lg p.1)) (List.ofFn (μ p.1)) (List.ofFn (u p.1)) p.2) := by
  simp_rw [mogFeature_closed e hM]
  have h1 : ∀ k, Measurable fun p : β × ℝ => lg p.1 k := fun k => (hlg k).comp measurable_fst
  have h2 : ∀ k, Measurable fun p : β × ℝ => μ p.1 k := fun k => (hμ k).comp measurable_fst
  have h3 : ∀ k, Measurable fun p : β × ℝ => softplusT (u p.1 k) + eps :=
    fun k => (measurable_softplusT.comp ((hu k).comp measurable_fst)).add_const _
  apply Real.measurable_log.comp
  apply Finset.measurable_sum
  intro k _
  apply Real.measurable_exp.comp
  apply Measurable.sub
  · exact (h1 k).sub (Real.measurable_log.comp (Finset.measurable_sum _ (fun j _ => Real.measurable_exp.comp (h1 j))))
  · apply Measurable.const_mul
    apply Measurable.add
    · exact (measurable_const.add ((Real.measurable_log.comp (h3 k)).const_mul 2))
    · exact ((measurable_snd.sub (h2 k)).div (h3 k)).pow_const 2

/-! ## Gaussian kernel density evaluator -/

theorem kdeStd_real (N D : ℕ) : kdeStd (realX e) N D = Real.exp (-(1 / ((D + 4 : ℕ) : ℝ)) * Real.log N) := by
  simp [kdeStd]

theorem kdeStd_pos (N D : ℕ) : 0 < kdeStd (realX e) N D := by
  rw [kdeStd_real]; exact Real.exp_pos _

theorem kde_term {D : ℕ} (N : ℕ) (std : ℝ) (hstd : 0 < std) (s q : Fin D → ℝ) :
    kdeQuad (realX e) std (List.ofFn s) (List.ofFn q) + kdeConst (realX e) N D std
      = Gaussian.diagNormalLogp s (fun _ => Real.log std) q - Real.log N := by
  unfold kdeQuad kdeConst
  dsimp only
  rw [zipWith_ofFn, sumG_ofFn, diagNormalLogp_iso std hstd, ofRat_neg_half]
  simp only [realX_sub, realX_mul, realX_sq, realX_div, realX_one, realX_neg, realX_log, realX_ofNat, realX_two,
    log2piG_real]
  rw [Finset.sum_congr rfl fun i _ => show (q i - s i) * ((q i - s i) * (1 / std ^ 2)) = ((q i - s i) / std) ^ 2 by ring]
  ring

/-- `exp (gaussian_kde_log_eval S q)` is the equal-weight mixture of the `N` isotropic Gaussians centred at the samples -/
theorem kdeLogEval_real {N D : ℕ} (hN : 0 < N) (S : Fin N → Fin D → ℝ) (q : Fin D → ℝ) :
    Real.exp (kdeLogEval (realX e) D (List.ofFn fun n => List.ofFn (S n)) (List.ofFn q))
      = ∑ n, (N : ℝ)⁻¹ * Real.exp (Gaussian.diagNormalLogp (S n) (fun _ => Real.log (kdeStd (realX e) N D)) q) := by
  unfold kdeLogEval
  dsimp only
  rw [List.length_ofFn, List.map_ofFn, logSumExp_real, List.map_ofFn, List.sum_ofFn]
  · have hpos : 0 < ∑ n : Fin N, (Real.exp ∘ (fun s => (realX e).add (kdeQuad (realX e) (kdeStd (realX e) N D) s (List.ofFn q))
          (kdeConst (realX e) N D (kdeStd (realX e) N D))) ∘ fun n => List.ofFn (S n)) n := by
      apply Finset.sum_pos
      · intro i _; exact Real.exp_pos _
      · exact ⟨⟨0, hN⟩, Finset.mem_univ _⟩
    rw [Real.exp_log hpos]
    apply Finset.sum_congr rfl
    intro n _
    simp only [Function.comp, realX_add]
    rw [kde_term e N _ (kdeStd_pos e N D), Real.exp_sub, Real.exp_log (by exact_mod_cast hN)]
    ring
  · exact ofFn_ne_nil hN _


/-! ## uniform-module priors -/

/-- the two matrices of `MG1Uniform` (uniform.py:43-49) -/
def mg1A : Matrix (Fin 3) (Fin 3) ℝ := !![1, -1, 0; 0, 1, 0; 0, 0, 1]
def mg1Ainv : Matrix (Fin 3) (Fin 3) ℝ := !![1, 1, 0; 0, 1, 0; 0, 0, 1]

theorem all_ofFn {α : Type} {D : ℕ} (f : Fin D → α) (p : α → Bool) :
    (List.ofFn f).all p = true ↔ ∀ i, p (f i) = true := by
  rw [List.all_eq_true]
  exact List.forall_mem_ofFn_iff

/-- the 0/1 mask of torch's support checks, tested by `0 < ·` -/
theorem all_mask_ofFn {D : ℕ} (c : Fin D → Bool) :
    ((List.ofFn fun i => if c i = true then (realX e).one else (realX e).zero).all
      fun b => (realX e).lt (realX e).zero b) = true ↔ ∀ i, c i = true := by
  rw [all_ofFn]
  refine forall_congr' fun i => ?_
  cases c i <;> simp

theorem insideBox_real {D : ℕ} (a b x : Fin D → ℝ) :
    insideBox (realX e) (List.ofFn a) (List.ofFn b) (List.ofFn x) = true ↔ ∀ i, a i ≤ x i ∧ x i < b i := by
  unfold insideBox
  rw [zipWith3_ofFn, all_mask_ofFn]
  simp only [realX_le, realX_lt, Bool.and_eq_true, decide_eq_true_eq]

/-- the closed-box support check of torch's `Uniform(validate_args=True)`, as `mg1LogProb` executes it -/
theorem closedBox_real {D : ℕ} (a b x : Fin D → ℝ) :
    ((zipWith3 (fun l h xi => if (realX e).le l xi && (realX e).le xi h then (realX e).one else (realX e).zero)
      (List.ofFn a) (List.ofFn b) (List.ofFn x)).all fun b => (realX e).lt (realX e).zero b) = true
      ↔ x ∈ Set.Icc a b := by
  rw [zipWith3_ofFn, all_mask_ofFn]
  simp only [realX_le, Bool.and_eq_true, decide_eq_true_eq, Set.mem_Icc, Pi.le_def, forall_and]

theorem uniformCoord_inside (l h x : ℝ) (hin : l ≤ x ∧ x < h) :
    uniformCoord (realX e) l h x = -Real.log (h - l) := by
  simp [uniformCoord, hin.1, hin.2]

theorem boxUniformRow_real {D : ℕ} (l h x : Fin D → ℝ) (hin : ∀ i, l i ≤ x i ∧ x i < h i) :
    boxUniformRow (realX e) (List.ofFn l) (List.ofFn h) (List.ofFn x) = -∑ i, Real.log (h i - l i) := by
  unfold boxUniformRow
  rw [zipWith3_ofFn, sumG_ofFn, ← Finset.sum_neg_distrib]
  exact Finset.sum_congr rfl (fun i _ => uniformCoord_inside e _ _ _ (hin i))

/-! ## truncated Gaussian (LotkaVolterraOscillating) -/

/-- mass of `N(μ, v)` on `[a, b)` — the quantity the code's `0.5*(erf(..) - erf(..))` stands for -/
def gaussMass (μ : ℝ) (v : NNReal) (a b : ℝ) : ℝ := ∫ x in Set.Ico a b, ProbabilityTheory.gaussianPDFReal μ v x

def sqNN (σ : ℝ) : NNReal := ⟨σ ^ 2, sq_nonneg σ⟩
@[simp] theorem sqNN_coe (σ : ℝ) : ((sqNN σ : NNReal) : ℝ) = σ ^ 2 := rfl

/-- `erf` defined through the Gaussian integral (Mathlib has no `Real.erf`) -/
def erfR (z : ℝ) : ℝ := 2 / Real.sqrt Real.pi * ∫ t in (0:ℝ)..z, Real.exp (-t ^ 2)

theorem gaussMass_eq_interval (μ : ℝ) (v : NNReal) {a b : ℝ} (hab : a ≤ b) :
    gaussMass μ v a b = ∫ x in a..b, ProbabilityTheory.gaussianPDFReal μ v x := by
  unfold gaussMass
  rw [intervalIntegral.integral_of_le hab, MeasureTheory.integral_Ico_eq_integral_Ioo, MeasureTheory.integral_Ioc_eq_integral_Ioo]

theorem gaussMass_pos (μ : ℝ) (v : NNReal) (hv : v ≠ 0) {a b : ℝ} (hab : a < b) : 0 < gaussMass μ v a b := by
  rw [gaussMass_eq_interval μ v hab.le]
  exact intervalIntegral.intervalIntegral_pos_of_pos_on
    (ProbabilityTheory.integrable_gaussianPDFReal μ v).intervalIntegrable
    (fun x _ => ProbabilityTheory.gaussianPDFReal_pos μ v x hv) hab

theorem isoNormalRow_real {D : ℕ} (σ : ℝ) (hσ : 0 < σ) (μ x : Fin D → ℝ) :
    isoNormalRow (realX e) σ (List.ofFn μ) (List.ofFn x) = Gaussian.diagNormalLogp μ (fun _ => Real.log σ) x := by
  unfold isoNormalRow
  dsimp only
  rw [zipWith_ofFn, sumG_ofFn, List.map_ofFn, sumG_ofFn, List.length_ofFn, diagNormalLogp_iso σ hσ, ofRat_neg_half]
  simp only [realX_sub, realX_mul, realX_sq, realX_div, realX_add, realX_log, realX_ofNat, log2piG_real,
    Function.comp, Finset.sum_const, Finset.card_univ, Fintype.card_fin, nsmul_eq_mul]
  ring

end
end DistReal
