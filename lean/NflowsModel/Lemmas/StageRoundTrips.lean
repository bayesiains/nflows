import NflowsModel.Lemmas.StageMore
import NflowsModel.Lemmas.LogdetExecPerm
import NflowsModel.Lemmas.NonlinExecLT
import Mathlib.Tactic
/-!
# Lemmas/StageRoundTrips — `RoundTripEq` for the linear, permutation, normalisation and remaining element-wise stages;
# C04 for Glow-style blocks with no round-trip hypothesis left (C04, C02)

Over the reals, for a one-row input of exactly `w` entries (the size is forced: `StageMore.roundTripStage_cdf_short_false`): an accepted
inverse call `(s, [d])` is undone by the forward call, which returns the input ARRAY ITSELF and `[-d]`.  One statement carries the families:
a certified pair of row passes (`LogdetExec.PassPair.roundTrip`; affine rows `x ↦ W x + b` / `y ↦ W⁻¹ (y − b)` for
LU / QR / SVD / Householder / naive), permutations by `argsort(perm)[perm[k]] = k`, ActNorm and evaluation-mode BatchNorm as passes, the
element-wise stages through `StageMore.roundTrip_nonlinStage`.  `StagePair.comp` then gives `k` blocks `[ActNorm, LULinear, coupling]`
(`glow_stagePair`) and `flowSalpExec_consistent_glow`; each headline has one explicit width-2/3 instance.

Not covered: BatchNorm in training mode and the initialising ActNorm call (not row-wise, hence outside `flowSalpExec`); a coupling layer
with an unconditional transform (`uc = none` throughout); `Tanh` outside the exact range of its log-det.
-/
open NF NF.StructureExec NF.RowErr NF.RowIndependenceMore NF.Density NF.FlowRowsExec NF.LF NF.Norm LinearFresh DualSound
  LinearBridge LinearJacobian Matrix

namespace NF.StageMore

/-! ## 1. a certified pair of passes on rows (`passStage`) -/

section passR
variable (e : Float → ℝ)

theorem passStage_one_row (w : Nat) (d : ℝ) (F : List (List ℝ) → List (List ℝ) × List ℝ) (l : List ℝ) (hl : l.length = w)
    (ctx : Array ℝ) :
    passStage w d F 1 l.toArray ctx = .ok (((F [l]).1.flatMap (fitRow w d)).toArray, (F [l]).2) := by
  simp only [passStage, rowsD, List.range_one, List.map_cons, List.map_nil, rowD_toArray d hl]

theorem _root_.LogdetExec.PassPair.roundTrip {n : ℕ} {F Finv : List (List ℝ) → List (List ℝ) × List ℝ}
    {T : (Fin n → ℝ) → (Fin n → ℝ)} {c : (Fin n → ℝ) → ℝ} (h : LogdetExec.PassPair n F Finv T c) (d0 : ℝ) :
    RoundTripEq (NF.realX e) (fun z => z.size = n) (fun s => s.size = n) (passStage n d0 F) (passStage n d0 Finv) := by
  intro z ctx s l hz hi
  have hlen : ∀ u : Fin n → ℝ, (List.ofFn u).length = n := fun u => List.length_ofFn
  obtain ⟨v, rfl⟩ : ∃ v : Fin n → ℝ, z = (List.ofFn (T v)).toArray := by
    obtain ⟨v, hv⟩ := h.surj (fun i => z.toList.getD i 0)
    exact ⟨v, by rw [hv, ← list_eq_ofFn z.toList (by simpa using hz)]⟩
  have hi1 := h.inv [v]
  have hf1 := h.fwd [v]
  simp only [List.map_cons, List.map_nil] at hi1 hf1
  rw [passStage_one_row n d0 Finv _ (hlen _) ctx, hi1] at hi
  simp only [List.flatMap_cons, List.flatMap_nil, List.append_nil, fitRow_eq_self d0 (hlen _), Except.ok.injEq,
    Prod.mk.injEq] at hi
  obtain ⟨rfl, rfl⟩ := hi
  refine ⟨by simp, -c v, rfl, ?_⟩
  rw [passStage_one_row n d0 F _ (hlen _) ctx, hf1]
  simp only [List.flatMap_cons, List.flatMap_nil, List.append_nil, fitRow_eq_self d0 (hlen _), realX_neg, neg_neg]

theorem passPair_affine {n : Nat} {F Finv : List (List ℝ) → List (List ℝ) × List ℝ} {g ginv : List ℝ → List ℝ} {c c' : ℝ}
    (hF : PairRowWise F g c) (hFi : PairRowWise Finv ginv c') (W : Matrix (Fin n) (Fin n) ℝ) (b : Fin n → ℝ) (hW : W.det ≠ 0)
    (hg : ∀ v : Fin n → ℝ, g (List.ofFn v) = List.ofFn (affine W b v))
    (hgi : ∀ y : Fin n → ℝ, ginv (List.ofFn y) = List.ofFn (invAffine W b y)) (hc : c = -c') :
    LogdetExec.PassPair n F Finv (affine W b) (fun _ => c) where
  fwd X := by
    rw [hF]
    simp only [List.map_map, Function.comp_def, hg]
  inv X := by
    rw [hFi]
    simp only [List.map_map, Function.comp_def, hgi, invAffine_affine W hW, hc, neg_neg]
  surj y := ⟨invAffine W b y, affine_invAffine W hW b y⟩

theorem mul_one_ops (a : ℝ) : realOps.mul a (one realOps) = a := by
  rw [LFIndex.one_real]; exact mul_one a

end passR

/-! ## 2. the linear family -/

section linear
variable (e : Float → ℝ)

theorem _root_.LinearBridge.Denotes.roundTrip_stage {n : Nat} {W : Matrix (Fin n) (Fin n) ℝ} {b : Fin n → ℝ}
    {weight winv : List (List ℝ)} {ld : ℝ} {g gi : List ℝ → List ℝ} (h : Denotes W b weight winv ld g gi) (d : ℝ)
    {F Finv : List (List ℝ) → List (List ℝ) × List ℝ} (hF : PairRowWise F g (realOps.mul ld (one realOps)))
    (hFi : PairRowWise Finv gi (realOps.mul (realOps.neg ld) (one realOps))) :
    RoundTripEq (NF.realX e) (fun z => z.size = n) (fun s => s.size = n) (passStage n d F) (passStage n d Finv) :=
  (passPair_affine hF hFi W b h.det_ne h.row h.invRow (by rw [mul_one_ops, mul_one_ops]; exact (neg_neg _).symm)).roundTrip e d

theorem roundTrip_luStage (p : LUParams ℝ) (hlen : p.udiag.length = p.n) (heps : 0 ≤ p.eps) (hb : p.bias.length = p.n) :
    RoundTripEq (NF.realX e) (fun z => z.size = p.n) (fun s => s.size = p.n)
      (luStage (NF.realX e) p.n p) (luInvStage (NF.realX e) p.n p) :=
  (lu_denotes p hlen heps hb).roundTrip_stage e _ (luForwardLd_pair realOps p) (luInverseLd_pair realOps p)

/-- **`HouseholderSequence`** (q-vectors none zero): the inverse is `y ↦ Qᵀ y = Q⁻¹ y`, both log-dets are zero -/
theorem roundTrip_hhStage {n : Nat} (vs : List (Fin n → ℝ)) (hv : ∀ v ∈ vs, v ⬝ᵥ v ≠ 0) :
    RoundTripEq (NF.realX e) (fun z => z.size = n) (fun s => s.size = n)
      (hhStage (NF.realX e) n (vs.map List.ofFn)) (hhInvStage (NF.realX e) n (vs.map List.ofFn)) :=
  (passPair_affine (hhForwardLd_pair realOps _) (hhInverseLd_pair realOps _) (LinearFamily.Q vs) 0
    (LinearFamily.Q_det_ne_zero vs hv) (hhRow_affine vs)
    (fun y => by rw [hhInvRow_affine, (hh_logdet_is_log_abs_det_fderiv_inverse vs hv).2.2])
    (by rw [LFIndex.zero_real]; exact neg_zero.symm)).roundTrip e _

end linear

/-! ## 3. `Permutation` -/

section perm
variable {α : Type}

theorem perm_entry_one (o : XOps α) (w : Nat) (perm : List Nat) (x : Array α) {k : Nat} (hk : k < w) :
    ((List.range (1 * w)).map fun i => x.getD (i / w * w + perm.getD (i % w) 0) o.zero).toArray[k]?
      = some (x.getD (perm.getD k 0) o.zero) := by
  have := perm_entry o.zero w perm (B := 1) (b := 0) x Nat.one_pos hk
  simpa only [Nat.zero_mul, Nat.zero_add] using this

/-- **`Permutation(perm, dim=1)`** (`perm` a permutation list of `range w`; any `XOps`): on a full row, the forward pass
    (`index_select` with `perm`) undoes the inverse pass (`index_select` with `argsort(perm)`) exactly; both log-dets are zero -/
theorem roundTrip_permStage_gen (o : XOps α) (hneg : o.neg o.zero = o.zero) (w : Nat) (perm : List Nat)
    (hp : LogdetExec.IsPerm w perm) :
    RoundTripEq o (fun z => z.size = w) (fun s => s.size = w) (permStage o w perm) (permInvStage o w perm) := by
  intro z ctx s l hz h
  have hil : (inversePerm perm).length = w := (LogdetExec.inversePerm_length perm).trans hp.length
  have hsz : ∀ (q : List Nat) (x : Array α),
      ((List.range (1 * w)).map fun i => x.getD (i / w * w + q.getD (i % w) 0) o.zero).toArray.size = w := fun q x => by
    rw [List.size_toArray, List.length_map, List.length_range, Nat.one_mul]
  rw [permInvStage, permStage_ok o w _ hil] at h
  simp only [Except.ok.injEq, Prod.mk.injEq] at h
  obtain ⟨rfl, rfl⟩ := h
  refine ⟨hsz _ _, o.zero, rfl, ?_⟩
  rw [permStage_ok o w perm hp.length, hneg]
  refine congrArg Except.ok (Prod.ext ?_ rfl)
  apply Array.ext_getElem?
  intro j
  by_cases hj : j < w
  · have hjz : j < z.size := hz ▸ hj
    show ((List.range (1 * w)).map _).toArray[j]? = _
    rw [perm_entry_one o w perm _ hj, Array.getD_eq_getD_getElem?, perm_entry_one o w _ _ (hp.lt j hj), Option.getD_some,
      LogdetExec.inversePerm_left hp j hj, Array.getD_eq_getD_getElem?, Array.getElem?_eq_getElem hjz, Option.getD_some]
  · rw [getElem?_none_of_not_lt (hz ▸ hj : ¬ j < z.size)]
    exact getElem?_none_of_not_lt (by rw [hsz]; exact hj)

end perm

/-! ## 4. ActNorm (initialised or evaluation mode), BatchNorm (evaluation mode) -/

section norm
variable (e : Float → ℝ)

/-- **`ActNorm`, initialised (or evaluation mode)**: `exp(log_scale) ≠ 0`, so no hypothesis on the parameters; on a full row the
    forward pass `exp(log_scale) * x + shift` undoes the inverse pass `(y - shift) / exp(log_scale)` exactly, log-dets
    `∓ sum(log_scale)` -/
theorem roundTrip_actStage (F : Nat) (s : ActSt ℝ) (hs : s.initialized = true ∨ s.training = false) :
    RoundTripEq (NF.realX e) (fun z => z.size = F) (fun z => z.size = F)
      (actStage (NF.realX e) F s) (actInvStage (NF.realX e) F s) := by
  rw [actStage_eq_passStage (NF.realX e) F s hs, actInvStage_eq_passStage (NF.realX e) F s]
  simp only [NF.sumG_real, realX_zero, realX_add, realX_mul, realX_exp, realX_div, realX_sub, realX_neg]
  exact (LogdetExec.passPair_act F s.logScale s.shift).roundTrip e 0

theorem roundTrip_bnEvalStage (cfg : BNCfg ℝ) (F : Nat) (s : BNSt ℝ) (hs : s.training = false)
    (hvar : ∀ j, j < F → 0 < s.runVar.getD j 0 + cfg.eps)
    (hw : ∀ j, j < F → bnWeight (NF.realX e) cfg s.uweight j ≠ 0) :
    RoundTripEq (NF.realX e) (fun z => z.size = F) (fun z => z.size = F)
      (bnEvalStage (NF.realX e) cfg F s) (bnEvalInvStage (NF.realX e) cfg F s) := by
  rw [bnEvalStage_eq_passStage (NF.realX e) cfg F s hs, bnEvalInvStage_eq_passStage (NF.realX e) cfg F s hs]
  exact (LogdetExec.passPair_bn e cfg F s.runMean s.runVar s.uweight s.bias hw hvar).roundTrip e _

theorem roundTrip_bnEvalStage_of_eps_pos (cfg : BNCfg ℝ) (F : Nat) (s : BNSt ℝ) (hs : s.training = false) (heps : 0 < cfg.eps)
    (hvar : ∀ j, j < F → 0 ≤ s.runVar.getD j 0) :
    RoundTripEq (NF.realX e) (fun z => z.size = F) (fun z => z.size = F)
      (bnEvalStage (NF.realX e) cfg F s) (bnEvalInvStage (NF.realX e) cfg F s) :=
  roundTrip_bnEvalStage e cfg F s hs (fun j hj => by linarith [hvar j hj])
    (fun j _ => (LogdetExec.bnWeight_pos e cfg heps.le s.uweight j).ne')

end norm

/-! ## 5. the remaining element-wise non-linearities: `Sigmoid`, `Logit`, `CauchyCDF`, `CauchyCDFInverse`, `LogTanh` -/

section nonlin
open NonlinExec DualX
variable (e : Float → ℝ)

/-- **`Sigmoid`** (temperature `T = ps[0] ≠ 0`, clamp bounds `0 < ε̂ ≤ 1 − ε̂ < 1`), on rows whose entries lie inside the clamp
    `ε̂ ≤ y ≤ 1 − ε̂` (outside it the inverse returns the logit of the bound: `NonlinExec.sigmoidT_inv_clamped_lo`); no
    condition on `|T x|`: both directions evaluate the same thresholded `softplus` formula at the same point -/
theorem roundTrip_nonlinStage_sigmoid (ds : Array Float) (ps : List ℝ) (hc : SigmoidClamp e (ds.getD 0 0.0))
    (hT : ps.getD 0 0 ≠ 0) (n : Nat) :
    RoundTripEq (NF.realX e)
      (fun z => z.size = n ∧ ∀ y ∈ z.toList, e (ds.getD 0 0.0) ≤ y ∧ y ≤ e (1 - ds.getD 0 0.0)) (fun s => s.size = n)
      (nonlinStage (NF.realX e) "Sigmoid" ds ps false) (nonlinStage (NF.realX e) "Sigmoid" ds ps true) :=
  roundTrip_nonlinStage e "Sigmoid" ds ps (fun y => e (ds.getD 0 0.0) ≤ y ∧ y ≤ e (1 - ds.getD 0 0.0)) (fun y hy x l h => by
    simp only [nonlinEl_Sigmoid, realX_zero] at h ⊢
    exact (sigmoidT_roundtrip' hc hT hy.1 hy.2).undoes h) n

/-- **`Logit`** (`InverseTransform(Sigmoid)`: its inverse pass is the sigmoid), on rows whose sigmoid values lie inside the clamp
    `ε̂ ≤ σ(T y) ≤ 1 − ε̂` -/
theorem roundTrip_nonlinStage_logit (ds : Array Float) (ps : List ℝ) (hT : ps.getD 0 0 ≠ 0) (n : Nat) :
    RoundTripEq (NF.realX e)
      (fun z => z.size = n ∧ ∀ y ∈ z.toList,
        e (ds.getD 0 0.0) ≤ gate (ps.getD 0 0 * y) ∧ gate (ps.getD 0 0 * y) ≤ e (1 - ds.getD 0 0.0))
      (fun s => s.size = n)
      (nonlinStage (NF.realX e) "Logit" ds ps false) (nonlinStage (NF.realX e) "Logit" ds ps true) :=
  roundTrip_nonlinStage e "Logit" ds ps
    (fun y => e (ds.getD 0 0.0) ≤ gate (ps.getD 0 0 * y) ∧ gate (ps.getD 0 0 * y) ≤ e (1 - ds.getD 0 0.0))
    (fun y hy x l h => by
      simp only [nonlinEl_Logit, realX_zero, Bool.not_true, Bool.not_false] at h ⊢
      exact (sigmoidT_roundtrip (ds.getD 0 0.0) hT hy.1 hy.2).undoes h) n

/-- **`CauchyCDF`** (constants read ideally), on rows with entries in the open interval `(0, 1)` (at the end points the ideal
    reading fails: `NonlinExec.cauchyT_fwd_inv_endpoint`) -/
theorem roundTrip_nonlinStage_cauchy (ds : Array Float) (ps : List ℝ) (hc : CauchyConsts e) (n : Nat) :
    RoundTripEq (NF.realX e) (fun z => z.size = n ∧ ∀ y ∈ z.toList, 0 < y ∧ y < 1) (fun s => s.size = n)
      (nonlinStage (NF.realX e) "CauchyCDF" ds ps false) (nonlinStage (NF.realX e) "CauchyCDF" ds ps true) :=
  roundTrip_nonlinStage e "CauchyCDF" ds ps (fun y => 0 < y ∧ y < 1) (fun y hy x l h => by
    rw [nonlinEl_CauchyCDF] at h ⊢
    exact cauchyT_fwd_inv hc y x l hy.1 hy.2 h) n

/-- **`CauchyCDFInverse`** (`InverseTransform(CauchyCDF)`), every row -/
theorem roundTrip_nonlinStage_cauchyInverse (ds : Array Float) (ps : List ℝ) (hc : CauchyConsts e) (n : Nat) :
    RoundTripEq (NF.realX e) (fun z => z.size = n ∧ ∀ y ∈ z.toList, True) (fun s => s.size = n)
      (nonlinStage (NF.realX e) "CauchyCDFInverse" ds ps false) (nonlinStage (NF.realX e) "CauchyCDFInverse" ds ps true) :=
  roundTrip_nonlinStage e "CauchyCDFInverse" ds ps (fun _ => True) (fun y _ x l h => by
    rw [nonlinEl_CauchyCDFInverse] at h ⊢
    exact cauchyT_inv_fwd hc y x l h) n

/-- **`LogTanh`** (the constants the constructor derives from `cut_point` read as `c, tanh c, a, b` with the join condition:
    `LogTanhConsts`), every row -/
theorem roundTrip_nonlinStage_logTanh (ds : Array Float) (ps : List ℝ) {c a b : ℝ}
    (hc : LogTanhConsts e (ds.getD 0 0.0) (logTanhConsts (ds.getD 0 0.0)).1 (logTanhConsts (ds.getD 0 0.0)).2.1
      (logTanhConsts (ds.getD 0 0.0)).2.2 c a b) (n : Nat) :
    RoundTripEq (NF.realX e) (fun z => z.size = n ∧ ∀ y ∈ z.toList, True) (fun s => s.size = n)
      (nonlinStage (NF.realX e) "LogTanh" ds ps false) (nonlinStage (NF.realX e) "LogTanh" ds ps true) :=
  roundTrip_nonlinStage e "LogTanh" ds ps (fun _ => True) (fun y _ x l h => by
    rw [nonlinEl_LogTanh] at h ⊢
    exact (logTanhT_roundtrip' hc y).undoes h) n

end nonlin

/-! ## 6. Glow-style blocks `[ActNorm, LULinear, coupling]`: C04 with no round-trip hypothesis left -/

section glow
variable (e : Float → ℝ)

/-- the parameters of one Glow-style block: an `ActNorm` state, `LULinear` parameters, a coupling layer (element family `cfg`,
    mask, `[C, S]` layout, conditioner `net`; no unconditional transform) -/
structure GlowBlock where
  act : ActSt ℝ
  lu : LUParams ℝ
  cfg : ElCfg
  mask : List ℝ
  S : Nat
  up : Array ℝ
  up' : Array ℝ
  net : Nat → Array ℝ → Array ℝ → Array ℝ

noncomputable def GlowBlock.pairs (w : Nat) (b : GlowBlock) : List (BStage ℝ × BStage ℝ) :=
  [(actStage (NF.realX e) w b.act, actInvStage (NF.realX e) w b.act),
   (luStage (NF.realX e) w b.lu, luInvStage (NF.realX e) w b.lu),
   (couplingStage (NF.realX e) b.cfg b.mask b.S false none b.up' b.net,
    couplingStage (NF.realX e) b.cfg b.mask b.S true none b.up b.net)]

/-- what is assumed of a block of width `w` (context width `cw`): ActNorm is initialised (or in evaluation mode), the LU parameters
    are well shaped (`udiag`, bias of length `n = w`, `eps ≥ 0`), the coupling layer has width `w`, its element family inverts in
    the order inverse-then-forward, its conditioner is row-wise -/
structure GlowBlock.Valid (w cw : Nat) (b : GlowBlock) : Prop where
  hact : b.act.initialized = true ∨ b.act.training = false
  hn : b.lu.n = w
  hlen : b.lu.udiag.length = b.lu.n
  heps : 0 ≤ b.lu.eps
  hb : b.lu.bias.length = b.lu.n
  hw : b.mask.length * b.S = w
  hrev : ∀ params, ElInvertibleRev (NF.realX e) b.cfg (transformIdx (NF.realX e) b.mask).length b.S params 1
  hnet : NetRowWise ((identityIdx (NF.realX e) b.mask).length * b.S) cw
    (paramWidth b.cfg (transformIdx (NF.realX e) b.mask).length * b.S) b.net

variable {e}

theorem GlowBlock.Valid.pair {w cw : Nat} {b : GlowBlock} (h : b.Valid e w cw) :
    ∀ p ∈ b.pairs e w, StagePair e w cw (fun z => z.size = w) p.1 p.2 := by
  intro p hp
  simp only [GlowBlock.pairs, List.mem_cons, List.not_mem_nil, or_false] at hp
  rcases hp with rfl | rfl | rfl
  · exact ⟨rowWise_actStage _ w cw b.act h.hact, rowWise_actInvStage _ w cw b.act, roundTrip_actStage e w b.act h.hact⟩
  · have hr := roundTrip_luStage e b.lu h.hlen h.heps h.hb
    rw [h.hn] at hr
    exact ⟨rowWise_luStage _ w cw b.lu, rowWise_luInvStage _ w cw b.lu, hr⟩
  · have h1 := rowWise_couplingStage _ b.cfg b.mask b.S false none b.up' cw b.net h.hnet
    have h2 := rowWise_couplingStage _ b.cfg b.mask b.S true none b.up cw b.net h.hnet
    have h3 := roundTrip_couplingStage_size e b.cfg b.mask b.S b.up b.up' b.net h.hrev
    rw [h.hw] at h1 h2 h3
    exact ⟨h1, h2, h3⟩

variable (e)

noncomputable def glowPairs (w : Nat) (blocks : List GlowBlock) : List (BStage ℝ × BStage ℝ) :=
  blocks.flatMap (GlowBlock.pairs e w)

/-- `CompositeTransform` of the forward stages of the blocks -/
noncomputable def glowFwd (w : Nat) (blocks : List GlowBlock) : BStage ℝ :=
  compStage (NF.realX e) ((glowPairs e w blocks).map Prod.fst)

noncomputable def glowInv (w : Nat) (blocks : List GlowBlock) : BStage ℝ :=
  compStage (NF.realX e) ((glowPairs e w blocks).reverse.map Prod.snd)

theorem glowFwd_one (w : Nat) (b : GlowBlock) :
    glowFwd e w [b] = compStage (NF.realX e) [actStage (NF.realX e) w b.act, luStage (NF.realX e) w b.lu,
      couplingStage (NF.realX e) b.cfg b.mask b.S false none b.up' b.net] := rfl

theorem glowInv_one (w : Nat) (b : GlowBlock) :
    glowInv e w [b] = compStage (NF.realX e) [couplingStage (NF.realX e) b.cfg b.mask b.S true none b.up b.net,
      luInvStage (NF.realX e) w b.lu, actInvStage (NF.realX e) w b.act] := rfl

variable {e}

theorem glow_stagePair {w cw : Nat} {blocks : List GlowBlock} (hv : ∀ b ∈ blocks, b.Valid e w cw) :
    StagePair e w cw (fun z => z.size = w) (glowFwd e w blocks) (glowInv e w blocks) :=
  StagePair.comp fun p hp => by
    obtain ⟨b, hb, hpb⟩ := List.mem_flatMap.1 hp
    exact (hv b hb).pair p hpb

variable {rcw cw R n : Nat} {emb : Nat → Array ℝ → Array ℝ} {base : BaseD ℝ} {noise ctx : Array ℝ}

/-- **C04 over a stack of `k` Glow-style blocks `[ActNorm, LULinear, coupling] × k`.**  `sample_and_log_prob` runs the inverse
    composite (inverse stages in reversed order) on the merged noise; the value it returns for sample `[i, j]` is what the
    executed `log_prob` (forward composite) assigns to that sample alone under context row `i` alone.  No round-trip hypothesis:
    only the shape / parameter conditions `GlowBlock.Valid`, a row-wise embedding net and base density, and `zr` a one-row copy
    (of exactly `w` entries) of noise row `[i, j]`. -/
theorem flowSalpExec_consistent_glow {w : Nat} {blocks : List GlowBlock} (hv : ∀ b ∈ blocks, b.Valid e w cw)
    (hbase : RowIndepBase cw base) (hemb : EmbRowWise rcw cw emb) (hsize : R * cw ≤ (emb R ctx).size)
    {s : Array ℝ} {lps : List ℝ}
    (h : flowSalpExec (NF.realX e) w cw R n emb (glowInv e w blocks) base noise ctx = .ok (s, lps))
    {i j : Nat} (hi : i < R) (hj : j < n) (zr cr : Array ℝ) (hzr : zr.size = w)
    (hz : RowEq w (i * n + j) 0 noise zr) (hc : RowEq rcw i 0 ctx cr) :
    ∃ (si : Array ℝ) (lp : ℝ), RowEq w (i * n + j) 0 s si ∧ lps[i * n + j]? = some lp ∧
      flowLogProbExec (NF.realX e) w emb (glowFwd e w blocks) base 1 si cr = .ok [lp] :=
  flowSalpExec_consistent_on (NF.realX e) (glow_stagePair hv).inv hbase hemb hsize ((glow_stagePair hv).roundTrip.on w)
    (fun a b => sub_eq_add_neg a b) h hi hj zr cr hzr hz hc

/-- **C04 over one Glow-style block**, the composite spelled out: forward `[ActNorm, LULinear, coupling]`, inverse
    `[coupling⁻¹, LULinear⁻¹, ActNorm⁻¹]` -/
theorem flowSalpExec_consistent_glow_block {w : Nat} {b : GlowBlock} (hv : b.Valid e w cw)
    (hbase : RowIndepBase cw base) (hemb : EmbRowWise rcw cw emb) (hsize : R * cw ≤ (emb R ctx).size)
    {s : Array ℝ} {lps : List ℝ}
    (h : flowSalpExec (NF.realX e) w cw R n emb
      (compStage (NF.realX e) [couplingStage (NF.realX e) b.cfg b.mask b.S true none b.up b.net,
        luInvStage (NF.realX e) w b.lu, actInvStage (NF.realX e) w b.act]) base noise ctx = .ok (s, lps))
    {i j : Nat} (hi : i < R) (hj : j < n) (zr cr : Array ℝ) (hzr : zr.size = w)
    (hz : RowEq w (i * n + j) 0 noise zr) (hc : RowEq rcw i 0 ctx cr) :
    ∃ (si : Array ℝ) (lp : ℝ), RowEq w (i * n + j) 0 s si ∧ lps[i * n + j]? = some lp ∧
      flowLogProbExec (NF.realX e) w emb
        (compStage (NF.realX e) [actStage (NF.realX e) w b.act, luStage (NF.realX e) w b.lu,
          couplingStage (NF.realX e) b.cfg b.mask b.S false none b.up' b.net]) base 1 si cr = .ok [lp] :=
  flowSalpExec_consistent_glow (blocks := [b]) (fun b' hb' => by simp only [List.mem_singleton] at hb'; exact hb' ▸ hv)
    hbase hemb hsize h hi hj zr cr hzr hz hc

theorem GlowBlock.valid_affine {w cw : Nat} {b : GlowBlock} (he : 0 ≤ e 1e-3) (hk : b.cfg.kind = "affine")
    (hact : b.act.initialized = true ∨ b.act.training = false) (hn : b.lu.n = w) (hlen : b.lu.udiag.length = b.lu.n)
    (heps : 0 ≤ b.lu.eps) (hb : b.lu.bias.length = b.lu.n) (hw : b.mask.length * b.S = w)
    (hnet : NetRowWise ((identityIdx (NF.realX e) b.mask).length * b.S) cw
      (paramWidth b.cfg (transformIdx (NF.realX e) b.mask).length * b.S) b.net) : b.Valid e w cw :=
  ⟨hact, hn, hlen, heps, hb, hw, fun params => NF.CouplingJacobian.elInvertibleRev_affine_real e he b.cfg hk _ b.S params 1, hnet⟩

theorem GlowBlock.valid_additive {w cw : Nat} {b : GlowBlock} (hk : b.cfg.kind = "additive")
    (hact : b.act.initialized = true ∨ b.act.training = false) (hn : b.lu.n = w) (hlen : b.lu.udiag.length = b.lu.n)
    (heps : 0 ≤ b.lu.eps) (hb : b.lu.bias.length = b.lu.n) (hw : b.mask.length * b.S = w)
    (hnet : NetRowWise ((identityIdx (NF.realX e) b.mask).length * b.S) cw
      (paramWidth b.cfg (transformIdx (NF.realX e) b.mask).length * b.S) b.net) : b.Valid e w cw :=
  ⟨hact, hn, hlen, heps, hb, hw, fun params => NF.CouplingJacobian.elInvertibleRev_additive_real e b.cfg hk _ b.S params 1, hnet⟩

end glow

/-! ## 7. non-vacuity: explicit parameters, explicit rows; the inverse call is accepted and the forward call undoes it -/

section examples

example (e : Float → ℝ) :
    ∃ s d, permInvStage (NF.realX e) 3 [2, 0, 1] 1 #[10, 20, 30] #[] = .ok (s, [d]) ∧ s.size = 3 ∧
      permStage (NF.realX e) 3 [2, 0, 1] 1 s #[] = .ok (#[10, 20, 30], [-d]) :=
  (roundTrip_permStage_gen (NF.realX e) (by simp) 3 [2, 0, 1] LogdetExec.isPerm_example).run (z := #[10, 20, 30]) rfl
    ⟨_, permStage_ok (NF.realX e) 3 _ rfl 1 _ _⟩

example (e : Float → ℝ) :
    ∃ s d, actInvStage (NF.realX e) 2 ⟨true, true, [2, 3], [1, 1], 1⟩ 1 #[7, 9] #[] = .ok (s, [d]) ∧ s.size = 2 ∧
      actStage (NF.realX e) 2 ⟨true, true, [2, 3], [1, 1], 1⟩ 1 s #[] = .ok (#[7, 9], [-d]) :=
  (roundTrip_actStage e 2 ⟨true, true, [2, 3], [1, 1], 1⟩ (Or.inl rfl)).run (z := #[7, 9]) rfl
    (total_actInvStage _ _ _ _ _ _)

/-- evaluation-mode BatchNorm with `eps = 1/100`, running variance `[3, 8]`, any unconstrained weights whose `softplus + eps`
    is non-zero; here the hypotheses are discharged for `u = [0, 1]` (`softplus ≥ 0`) -/
example (e : Float → ℝ) :
    ∃ s d, bnEvalInvStage (NF.realX e) ⟨1 / 100, 1 / 10⟩ 2 ⟨false, [1, 2], [3, 8], [0, 1], [5, 6], 0⟩ 1 #[7, 9] #[]
        = .ok (s, [d]) ∧ s.size = 2 ∧
      bnEvalStage (NF.realX e) ⟨1 / 100, 1 / 10⟩ 2 ⟨false, [1, 2], [3, 8], [0, 1], [5, 6], 0⟩ 1 s #[] = .ok (#[7, 9], [-d]) :=
  (roundTrip_bnEvalStage_of_eps_pos e ⟨1 / 100, 1 / 10⟩ 2 ⟨false, [1, 2], [3, 8], [0, 1], [5, 6], 0⟩ rfl
      (show (0:ℝ) < 1 / 100 by norm_num) (fun j hj => by interval_cases j <;> norm_num)).run (z := #[7, 9]) rfl
    (total_bnEvalInvStage _ _ _ _ rfl _ _ _)

/-- `LULinear` with `n = 2`, lower `[3]`, upper `[5]`, `udiag = [0, 1]`, bias `[1, -1]`, `eps = 1/1000`, the row `[1, 2]` -/
example (e : Float → ℝ) :
    ∃ s d, luInvStage (NF.realX e) 2 pLU 1 #[1, 2] #[] = .ok (s, [d]) ∧ s.size = 2 ∧
      luStage (NF.realX e) 2 pLU 1 s #[] = .ok (#[1, 2], [-d]) :=
  (roundTrip_luStage e pLU rfl pLU_eps rfl).run (z := #[1, 2]) rfl (total_passStage _ _ _ _ _ _)

/-- `QRLinear` with two non-trivial reflections -/
example (e : Float → ℝ) :
    ∃ s d, qrInvStage (NF.realX e) 2 pQR 1 #[1, 2] #[] = .ok (s, [d]) ∧ s.size = 2 ∧
      qrStage (NF.realX e) 2 pQR 1 s #[] = .ok (#[1, 2], [-d]) :=
  ((qr_denotes pQR _ rfl LinearFamily.vs_ex_ne rfl rfl).roundTrip_stage e _ (qrForwardLd_pair realOps pQR) (qrInverseLd_pair realOps pQR)).run
    (z := #[1, 2]) rfl (total_passStage _ _ _ _ _ _)

/-- `SVDLinear` with one reflection on each side -/
example (e : Float → ℝ) :
    ∃ s d, svdInvStage (NF.realX e) 2 pSVD 1 #[1, 2] #[] = .ok (s, [d]) ∧ s.size = 2 ∧
      svdStage (NF.realX e) 2 pSVD 1 s #[] = .ok (#[1, 2], [-d]) :=
  ((svd_denotes pSVD _ _ rfl rfl v12_ne v03_ne rfl pSVD_eps rfl).roundTrip_stage e _ (svdForwardLd_pair realOps pSVD)
    (svdInverseLd_pair realOps pSVD)).run (z := #[1, 2]) rfl (total_passStage _ _ _ _ _ _)

example (e : Float → ℝ) :
    ∃ s d, hhInvStage (NF.realX e) 2 ([![1, 2], ![0, 3]].map List.ofFn) 1 #[1, 2] #[] = .ok (s, [d]) ∧ s.size = 2 ∧
      hhStage (NF.realX e) 2 ([![1, 2], ![0, 3]].map List.ofFn) 1 s #[] = .ok (#[1, 2], [-d]) :=
  (roundTrip_hhStage e _ LinearFamily.vs_ex_ne).run (z := #[1, 2]) rfl (total_passStage _ _ _ _ _ _)

/-- `NaiveLinear` with the weight `[[0, 2], [1, 1]]` (`det = -2`; the elimination needs a row swap), bias `[1, -1]` -/
example (e : Float → ℝ) :
    ∃ s d, naiveInvStage (NF.realX e) 2 2 (ofMat !![0, 2; 1, 1]) [1, -1] 1 #[1, 2] #[] = .ok (s, [d]) ∧ s.size = 2 ∧
      naiveStage (NF.realX e) 2 2 (ofMat !![0, 2; 1, 1]) [1, -1] 1 s #[] = .ok (#[1, 2], [-d]) :=
  ((NaiveGauss.naive_denotes !![0, 2; 1, 1] (by rw [NaiveGauss.det_ex2]; norm_num) [1, -1] rfl).roundTrip_stage e _
    (naiveForwardLd_pair realOps 2 _ [1, -1]) (naiveInverseLd_pair realOps 2 _ [1, -1])).run (z := #[1, 2]) rfl
    (total_passStage _ _ _ _ _ _)

/-- the permutation hypothesis is forced: for the list `[0, 0]` (right length, entries in range, not injective) `argsort` is `[0, 2]`,
    the inverse pass sends `[5, 7]` to `[5, 0]` and the forward pass returns `[5, 5]` -/
example : ¬ RoundTripEq intX (fun z => z.size = 2) (fun s => s.size = 2) (permStage intX 2 [0, 0]) (permInvStage intX 2 [0, 0]) := by
  intro h
  obtain ⟨-, d, -, hT⟩ := h #[5, 7] #[] #[5, 0] [0] rfl (by decide +kernel)
  have h2 : permStage intX 2 [0, 0] 1 #[5, 0] #[] = .ok (#[5, 5], [0]) := by decide +kernel
  rw [h2] at hT
  simp at hT

end examples

section examples2
open NonlinExec

theorem nonlinStage_accepts (e : Float → ℝ) (kind : String) (ds : Array Float) (ps : List ℝ) (inverse : Bool) (z ctx : Array ℝ)
    (h : ∀ y ∈ z.toList, ∃ r, nonlinEl (NF.realX e) kind ds ps inverse y = .ok r) :
    ∃ r, nonlinStage (NF.realX e) kind ds ps inverse 1 z ctx = .ok r :=
  ⟨_, ofT_of_err_none ((nonlinApply_err_none_iff e kind ds ps 1 z inverse).2 h)⟩

private theorem fq1 : ((1e-6:Float) == 1e-6) = true := FloatFacts.eps_beq_eps
private theorem fq2 : (((1:Float) - 1e-6) == 1e-6) = false := FloatFacts.one_sub_eps_beq_eps

/-- `Sigmoid(temperature=2, eps=1e-6)` at the reading `NonlinExec.eSig`, the row `[1/4, 1/2]` (inside the clamp) -/
example :
    ∃ s d, nonlinStage (NF.realX eSig) "Sigmoid" #[1e-6] [2] true 1 #[1 / 4, 1 / 2] #[] = .ok (s, [d]) ∧ s.size = 2 ∧
      nonlinStage (NF.realX eSig) "Sigmoid" #[1e-6] [2] false 1 s #[] = .ok (#[1 / 4, 1 / 2], [-d]) := by
  have hds : (#[1e-6] : Array Float).getD 0 0.0 = 1e-6 := rfl
  refine (roundTrip_nonlinStage_sigmoid eSig #[1e-6] [2] (by rw [hds]; exact sigmoidClamp_example) (by norm_num) 2).run
    (z := #[1 / 4, 1 / 2]) ⟨rfl, ?_⟩ (nonlinStage_accepts _ _ _ _ _ _ _ ?_)
  · intro y hy
    rw [hds]
    simp only [List.mem_cons, List.not_mem_nil, or_false] at hy
    rcases hy with rfl | rfl <;> (simp only [eSig, fq1, fq2]; norm_num)
  · intro y hy
    simp only [List.mem_cons, List.not_mem_nil, or_false] at hy
    rw [nonlinEl_Sigmoid]
    rcases hy with rfl | rfl <;> exact ⟨_, sigmoidT_inv_run _ _ _ (by norm_num) (by norm_num)⟩

/-- `Logit(temperature=2, eps=1e-6)`, the row `[0, 0]` (`σ(0) = 1/2` is inside the clamp) -/
example :
    ∃ s d, nonlinStage (NF.realX eSig) "Logit" #[1e-6] [2] true 1 #[0, 0] #[] = .ok (s, [d]) ∧ s.size = 2 ∧
      nonlinStage (NF.realX eSig) "Logit" #[1e-6] [2] false 1 s #[] = .ok (#[0, 0], [-d]) := by
  have hds : (#[1e-6] : Array Float).getD 0 0.0 = 1e-6 := rfl
  have hg : gate (([2] : List ℝ).getD 0 0 * 0) = 1 / 2 := by unfold gate; norm_num
  refine (roundTrip_nonlinStage_logit eSig #[1e-6] [2] (by norm_num) 2).run
    (z := #[0, 0]) ⟨rfl, ?_⟩ (nonlinStage_accepts _ _ _ _ _ _ _ ?_)
  · intro y hy
    simp only [List.mem_cons, List.not_mem_nil, or_false, or_self] at hy
    subst hy
    rw [hds, hg]
    simp only [eSig, fq1, fq2]; norm_num
  · intro y _
    rw [nonlinEl_Logit]
    exact ⟨_, sigmoidT_fwd_run _ _ _ _⟩

/-- `CauchyCDF` and `LogTanh`: the theorems apply at the readings `eCauchy` / `eLT` of `Lemmas/NonlinExecLT.lean` (conditional on
    the `Float.log` disequalities, `Float.log` being opaque to the kernel) -/
example (h1 : (-(Float.log 3.141592653589793) == 3.141592653589793) = false)
    (h2 : (-(Float.log 3.141592653589793) == 1 / 3.141592653589793) = false)
    (h3 : (-(Float.log 3.141592653589793) == 0.5) = false) :
    ∃ s d, nonlinStage (NF.realX eCauchy) "CauchyCDF" #[] [] true 1 #[1 / 4, 1 / 2] #[] = .ok (s, [d]) ∧ s.size = 2 ∧
      nonlinStage (NF.realX eCauchy) "CauchyCDF" #[] [] false 1 s #[] = .ok (#[1 / 4, 1 / 2], [-d]) := by
  refine (roundTrip_nonlinStage_cauchy eCauchy #[] [] (cauchyConsts_example h1 h2 h3) 2).run
    (z := #[1 / 4, 1 / 2]) ⟨rfl, ?_⟩ (nonlinStage_accepts _ _ _ _ _ _ _ ?_)
  · intro y hy
    simp only [List.mem_cons, List.not_mem_nil, or_false] at hy
    rcases hy with rfl | rfl <;> norm_num
  · intro y hy
    simp only [List.mem_cons, List.not_mem_nil, or_false] at hy
    rw [nonlinEl_CauchyCDF]
    rcases hy with rfl | rfl <;> exact ⟨_, cauchyT_inv_run _ _ (by norm_num) (by norm_num)⟩

example (n : Nat) (h1 : (-(Float.log 3.141592653589793) == 3.141592653589793) = false)
    (h2 : (-(Float.log 3.141592653589793) == 1 / 3.141592653589793) = false)
    (h3 : (-(Float.log 3.141592653589793) == 0.5) = false) :=
  roundTrip_nonlinStage_cauchyInverse eCauchy #[] [] (cauchyConsts_example h1 h2 h3) n

/-- `LogTanh(cut_point=1)` at the reading `NonlinExec.eLT`: `Float.tanh` / `Float.exp` / `Float.log` are opaque to the kernel, so the
    three derived constants and the five key disequalities enter as hypotheses (all true by evaluation) -/
example (n : Nat) (hk : logTanhConsts 1.0 = (0.7615941559557649, 0.35798500798800026, 8.393411634737944))
    (h1 : (-(Float.log (0.35798500798800026 * 8.393411634737944)) == 1.0) = false)
    (h2 : (-(Float.log (0.35798500798800026 * 8.393411634737944)) == 0.7615941559557649) = false)
    (h3 : (-(Float.log (0.35798500798800026 * 8.393411634737944)) == 0.35798500798800026) = false)
    (h4 : (-(Float.log (0.35798500798800026 * 8.393411634737944)) == 8.393411634737944) = false)
    (h5 : (-(Float.log (0.35798500798800026 * 8.393411634737944)) == 0.5) = false) :=
  roundTrip_nonlinStage_logTanh eLT #[1.0] [] (c := 1) (a := aLib 1) (b := bLib 1)
    (by
      rw [show (#[1.0] : Array Float).getD 0 0.0 = 1.0 from rfl, hk]
      exact logTanhConsts_example h1 h2 h3 h4 h5) n

end examples2

section glowExamples

theorem total_glowInv (e : Float → ℝ) (w : Nat) (blocks : List GlowBlock)
    (herr : ∀ b ∈ blocks, ∀ B x params, (couplingApply (NF.realX e) b.cfg b.mask B b.S x params true none b.up).err = none) :
    TotalStage (glowInv e w blocks) := by
  apply total_compStage
  intro t ht
  simp only [List.mem_map, List.mem_reverse] at ht
  obtain ⟨p, hp, rfl⟩ := ht
  obtain ⟨b, hb, hpb⟩ := List.mem_flatMap.1 hp
  simp only [GlowBlock.pairs, List.mem_cons, List.not_mem_nil, or_false] at hpb
  rcases hpb with rfl | rfl | rfl
  · exact total_actInvStage _ _ _
  · exact total_passStage _ _ _
  · exact total_couplingStage _ _ _ _ _ _ _ (herr b hb)

theorem netRowWise_const {α : Type} (win cin wout : Nat) (v : α) :
    NetRowWise win cin wout (fun B _ _ => Array.replicate (B * wout) v) := by
  intro B B' b b' x x' c c' hb hb' _ _ k hk
  have h1 : b * wout + k < B * wout := RowMajor.lt2 hb hk
  have h2 : b' * wout + k < B' * wout := RowMajor.lt2 hb' hk
  simp [h1, h2]

noncomputable def exBlockA : GlowBlock :=
  { act := ⟨true, true, [2, 3], [1, 1], 1⟩, lu := pLU, cfg := { kind := "affine" }, mask := [1, 0], S := 1, up := #[], up' := #[],
    net := fun B _ _ => Array.replicate (B * (paramWidth { kind := "affine" } (transformIdx (NF.realX fun _ => 0) [1, 0]).length * 1))
      (1 / 2) }

noncomputable def exBlockB : GlowBlock :=
  { act := ⟨false, false, [0, -1], [3, 4], 0⟩, lu := pLU, cfg := { kind := "additive" }, mask := [0, 1], S := 1, up := #[],
    up' := #[],
    net := fun B _ _ => Array.replicate (B * (paramWidth { kind := "additive" } (transformIdx (NF.realX fun _ => 0) [0, 1]).length * 1))
      (1 / 3) }

theorem exBlockA_valid (cw : Nat) : exBlockA.Valid (fun _ => 0) 2 cw :=
  GlowBlock.valid_affine le_rfl rfl (Or.inl rfl) rfl rfl pLU_eps rfl rfl (netRowWise_const _ _ _ _)

theorem exBlockB_valid (cw : Nat) : exBlockB.Valid (fun _ => 0) 2 cw :=
  GlowBlock.valid_additive rfl (Or.inr rfl) rfl rfl pLU_eps rfl rfl (netRowWise_const _ _ _ _)

theorem exBlocks_valid (cw : Nat) : ∀ b ∈ [exBlockA, exBlockB], b.Valid (fun _ => 0) 2 cw := by
  intro b hb
  simp only [List.mem_cons, List.not_mem_nil, or_false] at hb
  rcases hb with rfl | rfl
  · exact exBlockA_valid cw
  · exact exBlockB_valid cw

example (ctx : Array ℝ) :
    ∃ s d, glowInv (fun _ => 0) 2 [exBlockA, exBlockB] 1 #[1, 2] ctx = .ok (s, [d]) ∧ s.size = 2 ∧
      glowFwd (fun _ => 0) 2 [exBlockA, exBlockB] 1 s ctx = .ok (#[1, 2], [-d]) :=
  (glow_stagePair (exBlocks_valid 0)).roundTrip.run (z := #[1, 2]) rfl
    (total_glowInv _ 2 _ (by
      intro b hb
      simp only [List.mem_cons, List.not_mem_nil, or_false] at hb
      rcases hb with rfl | rfl
      · exact fun B x params => coupling_affine_err_none _ _ rfl _ B 1 x params _ true
      · exact fun B x params => coupling_additive_err_none _ _ rfl _ B 1 x params _ true) 1 _ _)

/-- **the C04 headline instantiated at the two concrete blocks**: every hypothesis on the transform is discharged; what is left
    are the hypotheses on the embedding net, the base density and the sample itself -/
example {rcw cw R n : Nat} {emb : Nat → Array ℝ → Array ℝ} {base : BaseD ℝ} {noise ctx : Array ℝ}
    (hbase : RowIndepBase cw base) (hemb : EmbRowWise rcw cw emb) (hsize : R * cw ≤ (emb R ctx).size)
    {s : Array ℝ} {lps : List ℝ}
    (h : flowSalpExec (NF.realX fun _ => 0) 2 cw R n emb (glowInv (fun _ => 0) 2 [exBlockA, exBlockB]) base noise ctx
      = .ok (s, lps))
    {i j : Nat} (hi : i < R) (hj : j < n) (zr cr : Array ℝ) (hzr : zr.size = 2)
    (hz : RowEq 2 (i * n + j) 0 noise zr) (hc : RowEq rcw i 0 ctx cr) :
    ∃ (si : Array ℝ) (lp : ℝ), RowEq 2 (i * n + j) 0 s si ∧ lps[i * n + j]? = some lp ∧
      flowLogProbExec (NF.realX fun _ => 0) 2 emb (glowFwd (fun _ => 0) 2 [exBlockA, exBlockB]) base 1 si cr = .ok [lp] :=
  flowSalpExec_consistent_glow (exBlocks_valid cw) hbase hemb hsize h hi hj zr cr hzr hz hc

/-- … and the one-block form, stages spelled out -/
example {rcw cw R n : Nat} {emb : Nat → Array ℝ → Array ℝ} {base : BaseD ℝ} {noise ctx : Array ℝ}
    (hbase : RowIndepBase cw base) (hemb : EmbRowWise rcw cw emb) (hsize : R * cw ≤ (emb R ctx).size)
    {s : Array ℝ} {lps : List ℝ}
    (h : flowSalpExec (NF.realX fun _ => 0) 2 cw R n emb
      (compStage (NF.realX fun _ => 0) [couplingStage (NF.realX fun _ => 0) { kind := "affine" } [1, 0] 1 true none #[] exBlockA.net,
        luInvStage (NF.realX fun _ => 0) 2 pLU, actInvStage (NF.realX fun _ => 0) 2 ⟨true, true, [2, 3], [1, 1], 1⟩])
      base noise ctx = .ok (s, lps))
    {i j : Nat} (hi : i < R) (hj : j < n) (zr cr : Array ℝ) (hzr : zr.size = 2)
    (hz : RowEq 2 (i * n + j) 0 noise zr) (hc : RowEq rcw i 0 ctx cr) :
    ∃ (si : Array ℝ) (lp : ℝ), RowEq 2 (i * n + j) 0 s si ∧ lps[i * n + j]? = some lp ∧
      flowLogProbExec (NF.realX fun _ => 0) 2 emb
        (compStage (NF.realX fun _ => 0) [actStage (NF.realX fun _ => 0) 2 ⟨true, true, [2, 3], [1, 1], 1⟩,
          luStage (NF.realX fun _ => 0) 2 pLU,
          couplingStage (NF.realX fun _ => 0) { kind := "affine" } [1, 0] 1 false none #[] exBlockA.net]) base 1 si cr = .ok [lp] :=
  flowSalpExec_consistent_glow_block (b := exBlockA) (exBlockA_valid cw) hbase hemb hsize h hi hj zr cr hzr hz hc

end glowExamples

end NF.StageMore
