import NflowsModel.Lemmas.DualXSearch
import NflowsModel.Lemmas.LinWhole
/-!
# Lemmas/DualXLin — the EXECUTED piecewise-linear spline, both directions, run on dual numbers (C16)

Per direction the closed-domain core (`linSpline_dual_closed`, `linSpline_dual_inv_closed`): along any curve of parameters and input,
at every point of the closed domain, the dual run returns the (value, derivative) pairs of the selected bin's closed form — forward
the integer floor reads the value component (bin `min(⌊x'K⌋, K−1)`), inverse the search reads value components; the dual `clamp 0 1`
is the identity on `[0,1]`, ties included.  Read off it:

* zero-tangent parameters, seed `(x, 1)`, on the WHOLE closed domain: the values are `LinWhole.val`, `LinWhole.ld` (`inv`, `invLd`),
  the value tangent is the slope (inverse slope) of the selected bin, the log-det tangent is `0`; strictly inside a bin these ARE the
  derivatives; with the `np.log` readings the value tangent is `exp` of the returned log-det; at a knot the tangent is the RIGHT-hand
  derivative;
* the parameter direction, forward only (`linSpline_dual_param_core`, `linSpline_dual_param`): strictly inside a bin the tangents are the
  derivatives of the real program's outputs along the curve.  NO side condition on the parameters: softmax is sound at ties of its
  max-shift, the last knot, set to `1`, has tangent 0, and the bin index does not depend on the parameters.
-/
open NF DualSound DualX Filter Topology

/-! ## the forward direction -/

namespace DualXLin
open LinWhole DualXParam
noncomputable section
variable {e : Float → ℝ} {box : Box} {eps : Float} {up : List ℝ}

theorem d_floorInt (a : ℝ × ℝ) : (dualX (NF.realX e)).floorInt a = ⌊a.1⌋ := rfl

theorem dual_clamp01_id (v : ℝ × ℝ) (h0 : 0 ≤ v.1) (h1 : v.1 ≤ 1) :
    (dualX (NF.realX e)).clamp (dualX (NF.realX e)).zero (dualX (NF.realX e)).one v = v := by
  unfold XOps.clamp XOps.minA XOps.maxA
  simp only [d_lt, d_zero, d_one, decide_eq_true_eq, if_neg (not_lt.mpr h0), if_neg (not_lt.mpr h1)]

variable (e)
/-- the pieces of the dual run, as `linSpline` at `dualX (NF.realX e)` forms them -/
def dPdf (dup : List (ℝ × ℝ)) : List (ℝ × ℝ) := softmaxG (dualX (NF.realX e)) dup
def dCdf (dup : List (ℝ × ℝ)) : List (ℝ × ℝ) :=
  (dualX (NF.realX e)).zero :: setLast (cumsumG (dualX (NF.realX e)) (dPdf e dup)) (dualX (NF.realX e)).one
def dNx (box : Box) (dx : ℝ × ℝ) : ℝ × ℝ :=
  (dualX (NF.realX e)).div ((dualX (NF.realX e)).sub dx ((dualX (NF.realX e)).ofFloat box.left))
    ((dualX (NF.realX e)).ofFloat (box.right - box.left))
variable {e}

section curve
variable {F : ℝ → List ℝ} {X : ℝ → ℝ} {t : ℝ} {dup : List (ℝ × ℝ)} {dx : ℝ × ℝ}

/-- no side condition: softmax is sound at ties of its max-shift, and the last knot, set to `1`, has tangent 0 -/
theorem pdf_dualL (hU : IsDualL F t dup) : IsDualL (fun s => pdf e (F s)) t (dPdf e dup) := softmaxG_dualL e hU

theorem cdf_dualL (hU : IsDualL F t dup) : IsDualL (fun s => cdf e (F s)) t (dCdf e dup) :=
  IsDualL.cons (IsDual.zero e t) (setLast_dualL (IsDual.one e t) (cumsumG_dualL e (pdf_dualL hU)))

theorem nx_isDual (hv : LinValid e box eps up) (hX : IsDual X t dx) :
    IsDual (fun s => nx e box (X s)) t (dNx e box dx) := by
  refine (IsDual.div e (IsDual.sub e hX (IsDual.ofFloat e box.left t)) (IsDual.ofFloat e (box.right - box.left) t)
    (by rw [d_ofFloat, hv.hdlr]; exact (sub_pos.mpr hv.hlr).ne')).congr_fun (fun s => ?_)
  simp only [NF.realX_div, NF.realX_sub, NF.realX_ofFloat, hv.hdlr]
  rfl

/-- what the dual program forms from the (value, derivative) pairs of the normalised input `x'` and the gathered `p = pdf_i`,
    `c0 = cdf_i`, the line's value in `[0,1]` (the dual `clamp 0 1` is the identity there, ties included) -/
theorem linFwdOut_isDual {x' p c0 : ℝ → ℝ} {dx' dp dc0 : ℝ × ℝ} (box : Box) (K i : ℕ)
    (hdbt : e (box.top - box.bottom) = e box.top - e box.bottom)
    (hx : IsDual x' t dx') (hp : IsDual p t dp) (hc : IsDual c0 t dc0) (hp0 : p t ≠ 0)
    (hu0 : 0 ≤ c0 t + (x' t * (K : ℝ) - (i : ℝ)) * p t) (hu1 : c0 t + (x' t * (K : ℝ) - (i : ℝ)) * p t ≤ 1) :
    ∃ dy dl : ℝ × ℝ, LinWhole.linFwdOut (dualX (NF.realX e)) box K dx' i dp dc0 = (dy, dl) ∧
      IsDual (fun s => (c0 s + (x' s * (K : ℝ) - (i : ℝ)) * p s) * (e box.top - e box.bottom) + e box.bottom) t dy ∧
      IsDual (fun s => Real.log (p s) - e (Float.log (1.0 / K.toFloat)) + e (boxLog box)) t dl := by
  have hin : IsDual (fun s => c0 s + (x' s * (K : ℝ) - (i : ℝ)) * p s) t
      (LinWhole.linFwdInner (dualX (NF.realX e)) K dx' i dp dc0) :=
    (IsDual.add e hc (IsDual.mul e (IsDual.sub e (IsDual.mul e hx (IsDual.ofNat e K t)) (IsDual.ofRat e (i : ℤ) 1 t))
      hp)).congr_fun (fun s => by
        simp only [NF.realX_add, NF.realX_mul, NF.realX_sub, NF.realX_ofRat, NF.realX_ofNat]
        simp)
  have hcl := dual_clamp01_id (e := e) (LinWhole.linFwdInner (dualX (NF.realX e)) K dx' i dp dc0)
    (by rw [hin.1]; exact hu0) (by rw [hin.1]; exact hu1)
  refine ⟨_, _, ?_,
    (IsDual.add e (IsDual.mul e hin (IsDual.ofFloat e (box.top - box.bottom) t)) (IsDual.ofFloat e box.bottom t)).congr_fun
      (fun s => by simp only [NF.realX_add, NF.realX_mul, NF.realX_ofFloat, hdbt]),
    (IsDual.add e (IsDual.sub e (IsDual.log e hp (by rw [hp.1]; exact hp0)) (IsDual.ofFloat e (Float.log (1.0 / K.toFloat)) t))
      (IsDual.ofFloat e (boxLog box) t)).congr_fun
      (fun s => by simp only [NF.realX_add, NF.realX_sub, NF.realX_log, NF.realX_ofFloat])⟩
  unfold LinWhole.linFwdOut
  rw [hcl]

/-- **the dual run on the WHOLE closed domain, knots included, along any differentiable curve of parameters `F` and input
    `X`**: the integer floor reads the value component, so the run selects the bin `i` the real run selects at `t`, and it
    returns the (value, derivative) pairs of that bin's closed form along the curve -/
theorem linSpline_dual_closed (hv : LinValid e box eps (F t)) (hU : IsDualL F t dup) (hX : IsDual X t dx)
    (hx0 : e box.left ≤ X t) (hx1 : X t ≤ e box.right) :
    ∃ dy dl : ℝ × ℝ, linSpline (dualX (NF.realX e)) box eps dup false dx = .ok (dy, dl) ∧
      IsDual (fun s => binF e (F s) (idxF (F t).length (nx e box (X t))) (nx e box (X s)) * (e box.top - e box.bottom)
        + e box.bottom) t dy ∧
      IsDual (fun s => binLdF e (F s) (idxF (F t).length (nx e box (X t))) + e (boxLog box)) t dl := by
  obtain ⟨ht0, ht1⟩ := nx_mem hv (X t) hx0 hx1
  have hK0 := K_pos hv.hK
  obtain ⟨hspec, hidx⟩ := idxF_spec hK0
  obtain ⟨hiK, hle, hr⟩ := hspec (nx e box (X t)) (by rw [kn_zero]; exact ht0) (by rw [kn_last hK0]; exact ht1)
  set i := idxF (F t).length (nx e box (X t)) with hi
  have hle1 : nx e box (X t) ≤ kn (F t).length (i+1) := by
    rcases hr with hr | ⟨hK, hst⟩
    · exact hr.le
    · rw [hK, kn_last hK0]; exact ht1
  have hFl : ∀ s, (F s).length = dup.length := hU.1
  have hP := pdf_dualL (e := e) hU
  have hC := cdf_dualL (e := e) hU
  have hnx := nx_isDual hv hX
  obtain ⟨_, _, hu0, hu1⟩ := binF_mem (e := e) hv.hK i hiK (nx e box (X t)) hle hle1
  rw [binF, hFl t] at hu0 hu1
  obtain ⟨dy, dl, hout, hy, hl⟩ := linFwdOut_isDual box dup.length i hv.hdbt hnx (hP.getD_any i) (hC.getD_any i)
    (pd_pos (e := e) (F t) i hiK).ne' hu0 hu1
  -- the dual run: guard and floor read value components, the gathers are in range
  have hf : (dualX (NF.realX e)).floorInt ((dualX (NF.realX e)).mul (dNx e box dx) ((dualX (NF.realX e)).ofNat dup.length))
      = ⌊nx e box (X t) * ((F t).length : ℝ)⌋ := by
    rw [d_floorInt, (IsDual.mul e hnx (IsDual.ofNat e dup.length t)).1, hFl t]
    simp only [NF.realX_mul, NF.realX_ofNat]
  have hdual := LinWhole.linSpline_of_index (dualX (NF.realX e)) box eps dup dx (pdf := dPdf e dup) (cdf := dCdf e dup)
    (x' := dNx e box dx) rfl rfl (d_guard e _ _ dx (by rw [hX.1]; exact hx0) (by rw [hX.1]; exact hx1)) rfl hf
    (by rw [← hFl t]; exact hidx _ ht0 ht1) (hP.getI (k := i) (by rw [pdf_length]; exact hiK)).2
    (hC.getI (k := i) (by rw [(cdf_facts hv.hK).1]; omega)).2
  refine ⟨dy, dl, by rw [hdual, hout], hy.congr_fun (fun s => ?_), hl.congr_fun (fun s => ?_)⟩
  · rw [binF, hFl s]; rfl
  · rw [binLdF, hFl s]; rfl

end curve

/-! ### zero-tangent parameters, seed `(x, 1)`; strictly inside a bin along any curve -/

variable (e) in
def slope (box : Box) (up : List ℝ) (k : ℕ) : ℝ :=
  pd e up k * (up.length : ℝ) * ((e box.top - e box.bottom) / (e box.right - e box.left))

theorem linSpline_dual_values (hv : LinValid e box eps up) (x : ℝ) (hx0 : e box.left ≤ x) (hx1 : x ≤ e box.right) :
    linSpline (dualX (NF.realX e)) box eps (up.map ι) false (x, 1)
      = .ok ((val e box eps up x, slope e box up (idxF up.length (nx e box x))), (ld e box eps up x, 0)) := by
  obtain ⟨dy, dl, hr, hy, hl⟩ := linSpline_dual_closed (F := fun _ => up) (X := fun s => s) hv (IsDualL.const up x)
    (IsDual.id x) hx0 hx1
  rw [hr, val_eq hv x hx0 hx1, ld_eq hv x hx0 hx1]
  exact congrArg Except.ok (Prod.ext (Prod.ext hy.1 (hy.2.unique (binX_hasDerivAt_slope _ x)))
    (Prod.ext hl.1 (hl.2.unique (hasDerivAt_const x _))))

theorem open_bin_facts (hv : LinValid e box eps up) (k : ℕ) (hk : k < up.length) (x : ℝ)
    (h0 : kn up.length k < nx e box x) (h1 : nx e box x < kn up.length (k+1)) :
    e box.left < x ∧ x < e box.right ∧ idxF up.length (nx e box x) = k :=
  let ⟨hx0, hx1⟩ := (searched hv).open_bin_subset k hk ⟨(nx_bin_iff hv k x).1.mp h0, (nx_bin_iff hv (k+1) x).2.mp h1⟩
  ⟨hx0, hx1, (searchedN (e := e) hv.hK).idx_eq k hk _ h0.le h1⟩

theorem open_bin_nhds (hv : LinValid e box eps up) (k : ℕ) (x : ℝ)
    (h0 : kn up.length k < nx e box x) (h1 : nx e box x < kn up.length (k+1)) :
    {z | kn up.length k < nx e box z ∧ nx e box z < kn up.length (k+1)} ∈ 𝓝 x := by
  have hx0 := (nx_bin_iff hv k x).1.mp h0
  have hx1 := (nx_bin_iff hv (k+1) x).2.mp h1
  refine Filter.mem_of_superset (Ioo_mem_nhds hx0 hx1) (fun z hz => ?_)
  exact ⟨(nx_bin_iff hv k z).1.mpr hz.1, (nx_bin_iff hv (k+1) z).2.mpr hz.2⟩

theorem linValid_of_length (hv : LinValid e box eps up) {up2 : List ℝ} (h : up2.length = up.length) :
    LinValid e box eps up2 where
  hK := by intro h0; rw [h0] at h; exact hv.hK (List.length_eq_zero_iff.mp h.symm)
  hlr := hv.hlr
  hdlr := hv.hdlr
  hbt := hv.hbt
  hdbt := hv.hdbt
  heps := hv.heps

/-- **core, strictly inside a bin**: along ANY differentiable curve of parameters `F` and input `X` the curve stays strictly
    inside bin `k` near `t`, where the real program is that bin's closed form: the dual run returns the (value, derivative) pairs of that
    closed form -/
theorem linSpline_dual_param_core (F : ℝ → List ℝ) (X : ℝ → ℝ) (t : ℝ) (dup : List (ℝ × ℝ)) (dx : ℝ × ℝ)
    (hv : LinValid e box eps (F t)) (hU : IsDualL F t dup) (hX : IsDual X t dx)
    (k : ℕ) (hk : k < (F t).length)
    (h0 : kn (F t).length k < nx e box (X t)) (h1 : nx e box (X t) < kn (F t).length (k+1)) :
    DualRun (fun s => linSpline (NF.realX e) box eps (F s) false (X s)) t (linSpline (dualX (NF.realX e)) box eps dup false dx) := by
  obtain ⟨hxL, hxR, hik⟩ := open_bin_facts hv k hk (X t) h0 h1
  obtain ⟨dy, dl, hrun, hy, hl⟩ := linSpline_dual_closed hv hU hX hxL.le hxR.le
  rw [hik] at hy hl
  have hFt : ∀ s, (F s).length = (F t).length := fun s => by rw [hU.1 s, hU.1 t]
  refine ⟨_, _, dy, dl, hrun, ?_, hy, hl⟩
  filter_upwards [hX.2.continuousAt.eventually (open_bin_nhds hv k (X t) h0 h1)] with s hs
  have hvs := linValid_of_length hv (hFt s)
  rw [← hFt s] at hs
  obtain ⟨hsL, hsR, hsk⟩ := open_bin_facts hvs k (by rw [hFt s]; exact hk) (X s) hs.1 hs.2
  rw [exec_eq_bin hvs (X s) hsL.le hsR.le]
  unfold GF LdF
  rw [hsk]

theorem val_hasDerivAt_slope (hv : LinValid e box eps up) (k : ℕ) (hk : k < up.length) (x : ℝ)
    (h0 : kn up.length k < nx e box x) (h1 : nx e box x < kn up.length (k+1)) :
    HasDerivAt (val e box eps up) (slope e box up k) x :=
  (searched hv).hasDerivAt_bin k hk x _ ((nx_bin_iff hv k x).1.mp h0) ((nx_bin_iff hv (k+1) x).2.mp h1)
    (binX_hasDerivAt_slope k x)

theorem ld_hasDerivAt_zero (hv : LinValid e box eps up) (k : ℕ) (hk : k < up.length) (x : ℝ)
    (h0 : kn up.length k < nx e box x) (h1 : nx e box x < kn up.length (k+1)) :
    HasDerivAt (ld e box eps up) 0 x := by
  have hev : ld e box eps up =ᶠ[𝓝 x] fun _ => binLdF e up k + e (boxLog box) := by
    refine Filter.eventuallyEq_of_mem (open_bin_nhds hv k x h0 h1) (fun z hz => ?_)
    obtain ⟨hzL, hzR, hzk⟩ := open_bin_facts hv k hk z hz.1 hz.2
    show ld e box eps up z = _
    rw [ld_eq hv z hzL.le hzR.le]
    unfold LdF
    rw [hzk]
  exact (hasDerivAt_const x _).congr_of_eventuallyEq hev

theorem linSpline_dual_slope (hv : LinValid e box eps up) (k : ℕ) (hk : k < up.length) (x : ℝ)
    (h0 : kn up.length k < nx e box x) (h1 : nx e box x < kn up.length (k+1)) :
    linSpline (dualX (NF.realX e)) box eps (up.map ι) false (x, 1)
        = .ok ((val e box eps up x, slope e box up k), (ld e box eps up x, 0)) ∧
      HasDerivAt (val e box eps up) (slope e box up k) x ∧ HasDerivAt (ld e box eps up) 0 x := by
  obtain ⟨hxL, hxR, hik⟩ := open_bin_facts hv k hk x h0 h1
  refine ⟨?_, val_hasDerivAt_slope hv k hk x h0 h1, ld_hasDerivAt_zero hv k hk x h0 h1⟩
  rw [linSpline_dual_values hv x hxL.le hxR.le, hik]

/-- **the executed linear spline on dual numbers** (forward): for `x` strictly inside bin `k` the dual run with
    zero-tangent parameters returns `((val x, exp (ld x)), (ld x, 0))` — the real outputs; the tangent of the value is `exp`
    of the returned log-abs-det and IS `d val / dx`; the tangent of the log-det is `0` and IS `d ld / dx` (locally constant).
    `hlogK`, `hbl`: the two Python-side `np.log` constants are read as the real logarithms (the hypotheses of
    `LinWhole.val_hasDerivAt_x`; without them `exp (ld x)` is not the slope, see `linSpline_dual_slope` for the form that
    needs neither) -/
theorem linSpline_dual (hv : LinValid e box eps up)
    (hlogK : e (Float.log (1.0 / up.length.toFloat)) = Real.log (1 / (up.length : ℝ)))
    (hbl : e (boxLog box) = Real.log ((e box.top - e box.bottom) / (e box.right - e box.left)))
    (k : ℕ) (hk : k < up.length) (x : ℝ)
    (h0 : kn up.length k < nx e box x) (h1 : nx e box x < kn up.length (k+1)) :
    linSpline (dualX (NF.realX e)) box eps (up.map ι) false (x, 1)
        = .ok ((val e box eps up x, Real.exp (ld e box eps up x)), (ld e box eps up x, 0)) ∧
      HasDerivAt (val e box eps up) (Real.exp (ld e box eps up x)) x ∧ HasDerivAt (ld e box eps up) 0 x := by
  obtain ⟨hr, hdv, hdl⟩ := linSpline_dual_slope hv k hk x h0 h1
  have hexp : Real.exp (ld e box eps up x) = slope e box up k :=
    (val_hasDerivAt_x hv hlogK hbl k hk x ((nx_bin_iff hv k x).1.mp h0) ((nx_bin_iff hv (k+1) x).2.mp h1)).unique hdv
  rw [hexp]
  exact ⟨hr, hdv, hdl⟩

theorem linSpline_dual_x (hv : LinValid e box eps up)
    (hlogK : e (Float.log (1.0 / up.length.toFloat)) = Real.log (1 / (up.length : ℝ)))
    (hbl : e (boxLog box) = Real.log ((e box.top - e box.bottom) / (e box.right - e box.left)))
    (k : ℕ) (hk : k < up.length) (x : ℝ) (h0 : xk e box up.length k < x) (h1 : x < xk e box up.length (k+1)) :
    linSpline (dualX (NF.realX e)) box eps (up.map ι) false (x, 1)
        = .ok ((val e box eps up x, Real.exp (ld e box eps up x)), (ld e box eps up x, 0)) ∧
      HasDerivAt (val e box eps up) (Real.exp (ld e box eps up x)) x ∧ HasDerivAt (ld e box eps up) 0 x :=
  linSpline_dual hv hlogK hbl k hk x ((nx_bin_iff hv k x).1.mpr h0) ((nx_bin_iff hv (k+1) x).2.mpr h1)

theorem linSpline_dualRes (hv : LinValid e box eps up) (k : ℕ) (hk : k < up.length) (x : ℝ)
    (h0 : kn up.length k < nx e box x) (h1 : nx e box x < kn up.length (k+1)) :
    DualRes (fun s => linSpline (NF.realX e) box eps up false s) x
      (linSpline (dualX (NF.realX e)) box eps (up.map ι) false (x, 1)) :=
  (linSpline_dual_param_core (fun _ => up) (fun s => s) x _ _ hv (IsDualL.const up x) (IsDual.id x) k hk h0 h1).dualRes

/-- **what the dual run returns AT a knot (and anywhere in `[x_k, x_{k+1})`): the right-hand derivative.**  The selected bin
    at `x' = k/K` is the bin to the right, so the tangent is the slope of bin `k`, the derivative of the executed program
    from the right; from the left the slope is that of bin `k−1` (a kink: a convention, as for `torch.autograd`) -/
theorem linSpline_dual_right (hv : LinValid e box eps up) (k : ℕ) (hk : k < up.length) (x : ℝ)
    (h0 : kn up.length k ≤ nx e box x) (h1 : nx e box x < kn up.length (k+1)) :
    linSpline (dualX (NF.realX e)) box eps (up.map ι) false (x, 1)
        = .ok ((val e box eps up x, slope e box up k), (ld e box eps up x, 0)) ∧
      HasDerivWithinAt (val e box eps up) (slope e box up k) (Set.Ici x) x := by
  have P := searched hv
  have hx0 : xk e box up.length k ≤ x := le_of_not_gt fun h => not_lt.2 h0 ((nx_bin_iff hv k x).2.mpr h)
  have hx1 : x < xk e box up.length (k+1) := (nx_bin_iff hv (k+1) x).2.mp h1
  obtain ⟨hxL, hxR⟩ := P.bin_subset k hk ⟨hx0, hx1.le⟩
  refine ⟨?_, ?_⟩
  · rw [linSpline_dual_values hv x hxL hxR, (searchedN (e := e) hv.hK).idx_eq k hk _ h0 h1]
  · have heq : ∀ z ∈ Set.Icc x (xk e box up.length (k+1)), val e box eps up z = binX e box up k z :=
      fun z hz => P.eqOn_bin k hk ⟨hx0.trans hz.1, hz.2⟩
    exact (binX_hasDerivAt_slope k x).hasDerivWithinAt.congr_of_eventuallyEq
      (Filter.eventuallyEq_of_mem (Icc_mem_nhdsGE hx1) heq) (heq _ ⟨le_rfl, hx1.le⟩)

/-! ### non-vacuity -/


theorem nx_unit (x : ℝ) : nx RQWhole.eNV ⟨0.0, 1.0, 0.0, 1.0⟩ x = x := by
  unfold nx; simp [RQWhole.eNV, FloatFacts.zero_beq_zero, FloatFacts.one_beq_zero]

theorem example_mid_bin (x : ℝ) (h0 : 1/3 < x) (h1 : x < 2/3) :
    kn ([0, 1, -1] : List ℝ).length 1 < nx RQWhole.eNV ⟨0.0, 1.0, 0.0, 1.0⟩ x ∧
      nx RQWhole.eNV ⟨0.0, 1.0, 0.0, 1.0⟩ x < kn ([0, 1, -1] : List ℝ).length (1+1) := by
  rw [nx_unit]
  unfold kn
  norm_num
  exact ⟨h0, h1⟩

/-- non-vacuity on the concrete accepted configuration `LinWhole.valid_example` (three bins `[0, 1, −1]` on the unit box) -/
theorem linSpline_dual_example (x : ℝ) (h0 : 1/3 < x) (h1 : x < 2/3) :
    linSpline (dualX (NF.realX RQWhole.eNV)) ⟨0.0, 1.0, 0.0, 1.0⟩ 1e-6 [ι 0, ι 1, ι (-1)] false (x, 1)
        = .ok ((val RQWhole.eNV ⟨0.0, 1.0, 0.0, 1.0⟩ 1e-6 [0, 1, -1] x, slope RQWhole.eNV ⟨0.0, 1.0, 0.0, 1.0⟩ [0, 1, -1] 1),
               (ld RQWhole.eNV ⟨0.0, 1.0, 0.0, 1.0⟩ 1e-6 [0, 1, -1] x, 0)) ∧
      HasDerivAt (val RQWhole.eNV ⟨0.0, 1.0, 0.0, 1.0⟩ 1e-6 [0, 1, -1])
        (slope RQWhole.eNV ⟨0.0, 1.0, 0.0, 1.0⟩ [0, 1, -1] 1) x ∧
      HasDerivAt (ld RQWhole.eNV ⟨0.0, 1.0, 0.0, 1.0⟩ 1e-6 [0, 1, -1]) 0 x := by
  obtain ⟨h0', h1'⟩ := example_mid_bin x h0 h1
  exact linSpline_dual_slope valid_example 1 (by simp) x h0' h1'

/-- non-vacuity of the headline `linSpline_dual` (one bin, unit box) as soon as the two IEEE facts `log(1.0/1.0) == 0.0` and
    `log((1.0−0.0)/(1.0−0.0)) == 0.0` are granted (`Float.log` is opaque to the kernel, see `LinWhole.logs_example`) -/
theorem linSpline_dual_example_logs (h1 : (Float.log (1.0 / (1:ℕ).toFloat) == 0.0) = true)
    (h2 : (boxLog ⟨0.0, 1.0, 0.0, 1.0⟩ == 0.0) = true) (x : ℝ) (hx0 : 0 < x) (hx1 : x < 1) :
    linSpline (dualX (NF.realX RQWhole.eNV)) ⟨0.0, 1.0, 0.0, 1.0⟩ 1e-6 [ι 0] false (x, 1)
        = .ok ((val RQWhole.eNV ⟨0.0, 1.0, 0.0, 1.0⟩ 1e-6 [0] x, Real.exp (ld RQWhole.eNV ⟨0.0, 1.0, 0.0, 1.0⟩ 1e-6 [0] x)),
               (ld RQWhole.eNV ⟨0.0, 1.0, 0.0, 1.0⟩ 1e-6 [0] x, 0)) ∧
      HasDerivAt (val RQWhole.eNV ⟨0.0, 1.0, 0.0, 1.0⟩ 1e-6 [0])
        (Real.exp (ld RQWhole.eNV ⟨0.0, 1.0, 0.0, 1.0⟩ 1e-6 [0] x)) x ∧
      HasDerivAt (ld RQWhole.eNV ⟨0.0, 1.0, 0.0, 1.0⟩ 1e-6 [0]) 0 x := by
  obtain ⟨hl1, hl2⟩ := logs_example h1 h2
  refine linSpline_dual (valid_unit_box [0] (by simp)) hl1 hl2 0 (by simp) x ?_ ?_
  · rw [nx_unit]; unfold kn; simpa using hx0
  · rw [nx_unit]; unfold kn; simpa using hx1

/-! ### the parameter direction along a straight line -/

/-- **PARAMETER (and input) direction, executed linear-spline forward program**: run on the dual input `(x, x')` with the
    unnormalised pdf carrying the tangent list `up'` (any direction), for `x` strictly inside bin `k` the dual program returns
    `((val x, v'), (ld x, l'))` where `v'`, `l'` are the derivatives at `s = 0` of the REAL executed program's two outputs
    along the line `s ↦ (up + s·up', x + s·x')`.  No side condition on the parameters: softmax is sound at ties of its
    max-shift, both clamps are the identity on `[0,1]` (ties included), and the bin index `min(⌊x'K⌋, K−1)` does not depend
    on the parameters. -/
theorem linSpline_dual_param (hv : LinValid e box eps up) (up' : List ℝ) (hl : up.length = up'.length)
    (k : ℕ) (hk : k < up.length) (x x' : ℝ)
    (h0 : kn up.length k < nx e box x) (h1 : nx e box x < kn up.length (k+1)) :
    ∃ v' l' : ℝ, linSpline (dualX (NF.realX e)) box eps (List.zip up up') false (x, x')
        = .ok ((val e box eps up x, v'), (ld e box eps up x, l')) ∧
      HasDerivAt (fun s => val e box eps (DualXParam.lineL up up' s) (x + s * x')) v' 0 ∧
      HasDerivAt (fun s => ld e box eps (DualXParam.lineL up up' s) (x + s * x')) l' 0 := by
  have hU := IsDualL.lineL up up'
  have z : DualXParam.lineL up up' 0 = up := lineL_zero up up' hl.le
  have hx0 : x + 0 * x' = x := by ring
  have := (linSpline_dual_param_core (e := e) (box := box) (eps := eps) (DualXParam.lineL up up') (fun s => x + s * x') 0
    (List.zip up up') (x, x') (by rw [z]; exact hv) hU (IsDual.line x x') k (by rw [z]; exact hk)
    (by rw [z, hx0]; exact h0) (by rw [z, hx0]; exact h1)).dualRes.values
    (f := fun s => val e box eps (DualXParam.lineL up up' s) (x + s * x'))
    (g := fun s => ld e box eps (DualXParam.lineL up up' s) (x + s * x')) (fun _ => rfl) (fun _ => rfl)
  beta_reduce at this
  rwa [z, hx0] at this

theorem linSpline_dual_param_fixed_x (hv : LinValid e box eps up) (up' : List ℝ) (hl : up.length = up'.length)
    (k : ℕ) (hk : k < up.length) (x : ℝ)
    (h0 : kn up.length k < nx e box x) (h1 : nx e box x < kn up.length (k+1)) :
    ∃ v' l' : ℝ, linSpline (dualX (NF.realX e)) box eps (List.zip up up') false (x, 0)
        = .ok ((val e box eps up x, v'), (ld e box eps up x, l')) ∧
      HasDerivAt (fun s => val e box eps (DualXParam.lineL up up' s) x) v' 0 ∧
      HasDerivAt (fun s => ld e box eps (DualXParam.lineL up up' s) x) l' 0 := by
  obtain ⟨v', l', h, hv', hl'⟩ := linSpline_dual_param hv up' hl k hk x 0 h0 h1
  refine ⟨v', l', h, ?_, ?_⟩
  · simpa using hv'
  · simpa using hl'

/-- non-vacuity on the concrete accepted configuration `LinWhole.valid_example` (three bins `[0, 1, −1]` on the unit box),
    EVERY direction `([a, b, c], x')`, `x` in the middle bin -/
theorem linSpline_dual_param_example (a b c x x' : ℝ) (h0 : 1/3 < x) (h1 : x < 2/3) :
    ∃ v' l' : ℝ, linSpline (dualX (NF.realX RQWhole.eNV)) ⟨0.0, 1.0, 0.0, 1.0⟩ 1e-6 [(0, a), (1, b), (-1, c)] false (x, x')
        = .ok ((val RQWhole.eNV ⟨0.0, 1.0, 0.0, 1.0⟩ 1e-6 [0, 1, -1] x, v'),
               (ld RQWhole.eNV ⟨0.0, 1.0, 0.0, 1.0⟩ 1e-6 [0, 1, -1] x, l')) ∧
      HasDerivAt (fun s => val RQWhole.eNV ⟨0.0, 1.0, 0.0, 1.0⟩ 1e-6 [0 + s * a, 1 + s * b, -1 + s * c] (x + s * x')) v' 0 ∧
      HasDerivAt (fun s => ld RQWhole.eNV ⟨0.0, 1.0, 0.0, 1.0⟩ 1e-6 [0 + s * a, 1 + s * b, -1 + s * c] (x + s * x')) l' 0 := by
  obtain ⟨h0', h1'⟩ := example_mid_bin x h0 h1
  exact linSpline_dual_param valid_example [a, b, c] rfl 1 (by simp) x x' h0' h1'

end
end DualXLin

/-! ## the inverse direction -/

namespace DualXLinInv
open LinWhole
noncomputable section

section hom
variable {α β : Type} {o₁ : XOps α} {o₂ : XOps β} {φ : α → β}

theorem hom_linspace01 (h : XHom o₁ o₂ φ) (K : ℕ) : (linspace01 o₁ K).map φ = linspace01 o₂ K := by
  unfold linspace01
  rw [List.map_map]
  apply List.map_congr_left
  intro i _
  simp only [Function.comp, apply_ite φ, h.mul, h.sub, h.div, h.one, h.ofNat]

end hom

variable {e : Float → ℝ} {box : Box} {eps : Float} {up : List ℝ}

theorem dual_bnd (K : ℕ) : linspace01 (dualX (NF.realX e)) K = (bnd e K).map ι :=
  (hom_linspace01 (lift_hom e) K).symm

variable (e) in
def dNy (box : Box) (dx : ℝ × ℝ) : ℝ × ℝ :=
  (dualX (NF.realX e)).div ((dualX (NF.realX e)).sub dx ((dualX (NF.realX e)).ofFloat box.bottom))
    ((dualX (NF.realX e)).ofFloat (box.top - box.bottom))

section curve
open DualXParam DualXLin
variable {F : ℝ → List ℝ} {X : ℝ → ℝ} {t : ℝ} {dup : List (ℝ × ℝ)} {dx : ℝ × ℝ}

theorem ny_isDual (hv : LinValid e box eps up) (hX : IsDual X t dx) :
    IsDual (fun s => ny e box (X s)) t (dNy e box dx) := by
  refine (IsDual.div e (IsDual.sub e hX (IsDual.ofFloat e box.bottom t)) (IsDual.ofFloat e (box.top - box.bottom) t)
    (by rw [d_ofFloat, hv.hdbt]; exact (sub_pos.mpr hv.hbt).ne')).congr_fun (fun s => ?_)
  simp only [NF.realX_div, NF.realX_sub, NF.realX_ofFloat, hv.hdbt]
  rfl

/-- what the dual inverse forms from the (value, derivative) pairs of the normalised input `y`, the slope `s`, the right cdf
    knot `rc` and the right boundary `rb`, the line's value in `[0,1]` (the dual `clamp 0 1` is the identity there, ties
    included) -/
theorem linInvOut_isDual {y s rc rb : ℝ → ℝ} {dy ds drc drb : ℝ × ℝ} (box : Box)
    (hdlr : e (box.right - box.left) = e box.right - e box.left)
    (hy : IsDual y t dy) (hs : IsDual s t ds) (hrc : IsDual rc t drc) (hrb : IsDual rb t drb) (hs0 : s t ≠ 0)
    (hu0 : 0 ≤ rb t + (y t - rc t) / s t) (hu1 : rb t + (y t - rc t) / s t ≤ 1) :
    ∃ dx dl : ℝ × ℝ, LinWhole.linInvOut (dualX (NF.realX e)) box dy ds drc drb = (dx, dl) ∧
      IsDual (fun z => (rb z + (y z - rc z) / s z) * (e box.right - e box.left) + e box.left) t dx ∧
      IsDual (fun z => - Real.log (s z) - e (boxLog box)) t dl := by
  have hsne : ds.1 ≠ 0 := by rw [hs.1]; exact hs0
  have hin : IsDual (fun z => rb z + (y z - rc z) / s z) t
      (LinWhole.linInvInner (dualX (NF.realX e)) dy ds drc drb) :=
    (IsDual.add e hrb (IsDual.div e (IsDual.sub e hy hrc) hs hsne)).congr_fun
      (fun z => by simp only [NF.realX_add, NF.realX_div, NF.realX_sub])
  have hcl := dual_clamp01_id (e := e) (LinWhole.linInvInner (dualX (NF.realX e)) dy ds drc drb)
    (by rw [hin.1]; exact hu0) (by rw [hin.1]; exact hu1)
  refine ⟨_, _, ?_,
    (IsDual.add e (IsDual.mul e hin (IsDual.ofFloat e (box.right - box.left) t)) (IsDual.ofFloat e box.left t)).congr_fun
      (fun z => by simp only [NF.realX_add, NF.realX_mul, NF.realX_ofFloat, hdlr]),
    (IsDual.sub e (IsDual.neg e (IsDual.log e hs hsne)) (IsDual.ofFloat e (boxLog box) t)).congr_fun
      (fun z => by simp only [NF.realX_sub, NF.realX_neg, NF.realX_log, NF.realX_ofFloat])⟩
  unfold LinWhole.linInvOut
  rw [hcl]

/-- **the dual inverse run on the WHOLE closed domain, cdf knots included, along any differentiable curve of parameters `F`
    and input `X`**: the search reads value components, so the run selects the cdf-bin `i` the real run selects at `t`, and
    it returns the (value, derivative) pairs of that bin's closed form along the curve -/
theorem linSpline_dual_inv_closed (hv : LinValid e box eps (F t)) (hU : IsDualL F t dup) (hX : IsDual X t dx)
    (hy0 : e box.bottom ≤ X t) (hy1 : X t ≤ e box.top) :
    ∃ dy dl : ℝ × ℝ, linSpline (dualX (NF.realX e)) box eps dup true dx = .ok (dy, dl) ∧
      IsDual (fun s => binI e (F s) (idxI e eps (F t) (ny e box (X t))) (ny e box (X s)) * (e box.right - e box.left)
        + e box.left) t dy ∧
      IsDual (fun s => binLdI e (F s) (idxI e eps (F t) (ny e box (X t))) - e (boxLog box)) t dl := by
  obtain ⟨hs0, hs1⟩ := ny_mem hv (X t) hy0 hy1
  obtain ⟨hiK, hle, hle1, _⟩ := (searchedInvN hv).sel (searchedN hv.hK) _ hs0 hs1
  set i := idxI e eps (F t) (ny e box (X t)) with hi
  have hFl : ∀ s, (F s).length = dup.length := hU.1
  have hiD : i < dup.length := by rw [← hFl t]; exact hiK
  have hP := pdf_dualL (e := e) hU
  have hC := cdf_dualL (e := e) hU
  have hny := ny_isDual hv hX
  -- the three gathered entries: slope `pdf_i·K`, right cdf knot, right boundary `(i+1)/K`
  have hs : IsDual (fun s => pd e (F s) i * ((F s).length : ℝ)) t
      (((dPdf e dup).map (fun p => (dualX (NF.realX e)).mul p ((dualX (NF.realX e)).ofNat dup.length))).getD i 0) :=
    ((hP.map (gR := fun s p => (NF.realX e).mul p ((NF.realX e).ofNat (F s).length))
      (fun f d _ hf => (IsDual.mul e hf (IsDual.ofNat e dup.length t)).congr_fun (fun s => by rw [hFl s]))).getD_any i).congr_fun
      (fun s => slp_getD (up := F s) i (by rw [hFl s]; exact hiD))
  have hrc : IsDual (fun s => cd e (F s) (i+1)) t (((dCdf e dup).drop 1).getD i 0) :=
    ((IsDualL.drop 1 hC).getD_any i).congr_fun (fun s => SplineExec.getD_drop1 _ i)
  have hrb : IsDual (fun s => kn (F s).length (i+1)) t (((linspace01 (dualX (NF.realX e)) dup.length).drop 1).getD i 0) := by
    have := (IsDualL.drop 1 (IsDualL.const (bnd e dup.length) t)).getD_any i
    rw [← dual_bnd] at this
    refine this.congr_fun (fun s => ?_)
    rw [SplineExec.getD_drop1, hFl s, bnd_getD (Nat.zero_lt_of_lt hiD) (i+1) hiD]
  obtain ⟨_, hu0, hu1⟩ := binI_mem (e := e) hv.hK i hiK _ hle hle1
  obtain ⟨dy, dl, hout, hy, hl⟩ := linInvOut_isDual box hv.hdlr hny hs hrc hrb
    (mul_pos (pd_pos (e := e) (F t) i hiK) (K_posR hv.hK)).ne' hu0 hu1
  -- the dual run: guard and search read value components, the gathers are in range
  have hsr : searchsortedG (dualX (NF.realX e)) eps (dCdf e dup) (dNy e box dx) = ((i : ℕ) : Int) :=
    (searchsortedG_dual_at eps hC hny).trans ((search_specI hv).2 _ hs0 hs1)
  have hdual := LinWhole.linSpline_of_search (dualX (NF.realX e)) box eps dup dx (pdf := dPdf e dup) (cdf := dCdf e dup)
    (x' := dNy e box dx) rfl rfl (d_guard e _ _ dx (by rw [hX.1]; exact hy0) (by rw [hX.1]; exact hy1)) rfl hsr
    (SplineTotal.getI_ok_getD _ i (by rw [List.length_map, ← hP.1 t, pdf_length]; exact hiK) 0)
    (SplineTotal.getI_ok_getD _ i (by rw [List.length_drop, ← hC.1 t, (cdf_facts hv.hK).1]; omega) 0)
    (SplineTotal.getI_ok_getD _ i (by rw [List.length_drop, dual_bnd, List.length_map, bnd_length]; omega) 0)
  exact ⟨dy, dl, by rw [hdual, hout], hy, hl⟩

end curve

variable (e) in
def invSlope (box : Box) (up : List ℝ) (k : ℕ) : ℝ :=
  (e box.right - e box.left) / ((e box.top - e box.bottom) * (pd e up k * (up.length : ℝ)))

theorem bin_in_box (hv : LinValid e box eps up) (k : ℕ) (hk : k < up.length) (y : ℝ)
    (h0 : cd e up k ≤ ny e box y) (h1 : ny e box y < cd e up (k+1)) :
    e box.bottom ≤ y ∧ y < e box.top :=
  have P := searched hv
  ⟨(P.yknot_mem k hk.le).1.trans (le_of_not_gt fun h => not_lt.2 h0 ((ny_bin_iff hv k y).2.mpr h)),
    ((ny_bin_iff hv (k+1) y).2.mp h1).trans_le (P.yknot_mem (k+1) hk).2⟩

theorem open_bin_facts (hv : LinValid e box eps up) (k : ℕ) (hk : k < up.length) (y : ℝ)
    (h0 : cd e up k < ny e box y) (h1 : ny e box y < cd e up (k+1)) :
    e box.bottom < y ∧ y < e box.top ∧ idxI e eps up (ny e box y) = k :=
  let ⟨hy0, hy1⟩ := (searched hv).open_ybin_subset k hk ⟨(ny_bin_iff hv k y).1.mp h0, (ny_bin_iff hv (k+1) y).2.mp h1⟩
  ⟨hy0, hy1, (searchedInvN hv).idxI_eq (searchedN hv.hK) k hk _ h0.le h1⟩

theorem open_bin_nhds (hv : LinValid e box eps up) (k : ℕ) (y : ℝ)
    (h0 : cd e up k < ny e box y) (h1 : ny e box y < cd e up (k+1)) :
    {z | cd e up k < ny e box z ∧ ny e box z < cd e up (k+1)} ∈ 𝓝 y := by
  have hy0 := (ny_bin_iff hv k y).1.mp h0
  have hy1 := (ny_bin_iff hv (k+1) y).2.mp h1
  refine Filter.mem_of_superset (Ioo_mem_nhds hy0 hy1) (fun z hz => ?_)
  exact ⟨(ny_bin_iff hv k z).1.mpr hz.1, (ny_bin_iff hv (k+1) z).2.mpr hz.2⟩

theorem ny_hasDerivAt (y : ℝ) : HasDerivAt (ny e box) (1 / (e box.top - e box.bottom)) y :=
  ExecGlue.unit_hasDerivAt _ _ y

theorem binI_hasDerivAt (up : List ℝ) (k : ℕ) (s : ℝ) :
    HasDerivAt (binI e up k) (1 / (pd e up k * (up.length : ℝ))) s := by
  unfold binI
  simpa using (((hasDerivAt_id s).sub_const (cd e up (k+1))).div_const
    (pd e up k * (up.length : ℝ))).const_add (kn up.length (k+1))

/-- chain rule through `ny`, the bin's line and the rescaling: the product of the three slopes is `invSlope` -/
theorem invSlope_eq (up : List ℝ) (k : ℕ) :
    1 / (pd e up k * (up.length : ℝ)) * (1 / (e box.top - e box.bottom)) * (e box.right - e box.left)
      = invSlope e box up k := by
  unfold invSlope
  rw [div_mul_div_comm, div_mul_eq_mul_div, one_mul, one_mul, mul_comm (e box.top - e box.bottom)]

theorem box_lineI_hasDerivAt (box : Box) (up : List ℝ) (k : ℕ) (y : ℝ) :
    HasDerivAt (fun y => binI e up k (ny e box y) * (e box.right - e box.left) + e box.left) (invSlope e box up k) y :=
  (((HasDerivAt.comp y (binI_hasDerivAt (e := e) up k (ny e box y)) (ny_hasDerivAt y)).mul_const
    (e box.right - e box.left)).add_const (e box.left)).congr_deriv (invSlope_eq up k)

theorem linSpline_dual_inv_values (hv : LinValid e box eps up) (y : ℝ) (hy0 : e box.bottom ≤ y) (hy1 : y ≤ e box.top) :
    linSpline (dualX (NF.realX e)) box eps (up.map ι) true (y, 1)
      = .ok ((inv e box eps up y, invSlope e box up (idxI e eps up (ny e box y))), (invLd e box eps up y, 0)) := by
  obtain ⟨dx, dl, hr, hx, hl⟩ := linSpline_dual_inv_closed (F := fun _ => up) (X := fun s => s) hv
    (DualXParam.IsDualL.const up y) (IsDual.id y) hy0 hy1
  rw [hr, inv_eq hv y hy0 hy1, invLd_eq hv y hy0 hy1]
  exact congrArg Except.ok (Prod.ext (Prod.ext hx.1 (hx.2.unique (box_lineI_hasDerivAt box up _ y)))
    (Prod.ext hl.1 (hl.2.unique (hasDerivAt_const y _))))

theorem inv_hasDerivAt_slope (hv : LinValid e box eps up) (k : ℕ) (hk : k < up.length) (y : ℝ)
    (h0 : cd e up k < ny e box y) (h1 : ny e box y < cd e up (k+1)) :
    HasDerivAt (inv e box eps up) (invSlope e box up k) y := by
  refine (box_lineI_hasDerivAt box up k y).congr_of_eventuallyEq
    (Filter.eventuallyEq_of_mem (open_bin_nhds hv k y h0 h1) (fun z hz => ?_))
  obtain ⟨hz0, hz1, hzk⟩ := open_bin_facts hv k hk z hz.1 hz.2
  show inv e box eps up z = _
  rw [inv_eq hv z hz0.le hz1.le]
  unfold GI
  rw [hzk]

theorem invLd_hasDerivAt_zero (hv : LinValid e box eps up) (k : ℕ) (hk : k < up.length) (y : ℝ)
    (h0 : cd e up k < ny e box y) (h1 : ny e box y < cd e up (k+1)) :
    HasDerivAt (invLd e box eps up) 0 y := by
  have hev : invLd e box eps up =ᶠ[𝓝 y] fun _ => binLdI e up k - e (boxLog box) := by
    refine Filter.eventuallyEq_of_mem (open_bin_nhds hv k y h0 h1) (fun z hz => ?_)
    obtain ⟨hz0, hz1, hzk⟩ := open_bin_facts hv k hk z hz.1 hz.2
    show invLd e box eps up z = _
    rw [invLd_eq hv z hz0.le hz1.le]
    unfold LdI
    rw [hzk]
  exact (hasDerivAt_const y _).congr_of_eventuallyEq hev

theorem linSpline_dual_inv_slope (hv : LinValid e box eps up) (k : ℕ) (hk : k < up.length) (y : ℝ)
    (h0 : cd e up k < ny e box y) (h1 : ny e box y < cd e up (k+1)) :
    linSpline (dualX (NF.realX e)) box eps (up.map ι) true (y, 1)
        = .ok ((inv e box eps up y, invSlope e box up k), (invLd e box eps up y, 0)) ∧
      HasDerivAt (inv e box eps up) (invSlope e box up k) y ∧ HasDerivAt (invLd e box eps up) 0 y := by
  obtain ⟨hy0, hy1, hik⟩ := open_bin_facts hv k hk y h0 h1
  refine ⟨?_, inv_hasDerivAt_slope hv k hk y h0 h1, invLd_hasDerivAt_zero hv k hk y h0 h1⟩
  rw [linSpline_dual_inv_values hv y hy0.le hy1.le, hik]

theorem exp_invLd_bin (hv : LinValid e box eps up)
    (hbl : e (boxLog box) = Real.log ((e box.top - e box.bottom) / (e box.right - e box.left)))
    (k : ℕ) (hk : k < up.length) (y : ℝ) (h0 : cd e up k < ny e box y) (h1 : ny e box y < cd e up (k+1)) :
    Real.exp (invLd e box eps up y) = invSlope e box up k :=
  (inv_hasDerivAt_y hv hbl k hk y ((ny_bin_iff hv k y).1.mp h0) ((ny_bin_iff hv (k+1) y).2.mp h1)).unique
    (inv_hasDerivAt_slope hv k hk y h0 h1)

/-- **the executed linear spline inverse on dual numbers, tangent of the log-det spelled out** (`y` strictly between the
    consecutive output knots `y_k = bottom + cdf_k (top − bottom)`): the dual run with zero-tangent parameters returns
    `((inv y, exp (invLd y)), (invLd y, 0))` — the real outputs; the tangent of the value is `exp` of the returned
    log-abs-det and IS `d inv / dy`; the tangent of the log-det is `0` and IS `d invLd / dy` (locally constant).
    `hbl`: the Python-side constant `boxLog` is read as the real logarithm (the hypothesis of `LinWhole.inv_hasDerivAt_y`;
    see `linSpline_dual_inv_slope` for the form that does not need it) -/
theorem linSpline_dual_inv_zero (hv : LinValid e box eps up)
    (hbl : e (boxLog box) = Real.log ((e box.top - e box.bottom) / (e box.right - e box.left)))
    (k : ℕ) (hk : k < up.length) (y : ℝ) (h0 : yk e box up k < y) (h1 : y < yk e box up (k+1)) :
    linSpline (dualX (NF.realX e)) box eps (up.map ι) true (y, 1)
        = .ok ((inv e box eps up y, Real.exp (invLd e box eps up y)), (invLd e box eps up y, 0)) ∧
      HasDerivAt (inv e box eps up) (Real.exp (invLd e box eps up y)) y ∧ HasDerivAt (invLd e box eps up) 0 y := by
  have h0' := (ny_bin_iff hv k y).1.mpr h0
  have h1' := (ny_bin_iff hv (k+1) y).2.mpr h1
  rw [exp_invLd_bin hv hbl k hk y h0' h1']
  exact linSpline_dual_inv_slope hv k hk y h0' h1'

theorem linSpline_dualRes_inv (hv : LinValid e box eps up) (k : ℕ) (hk : k < up.length) (y : ℝ)
    (h0 : yk e box up k < y) (h1 : y < yk e box up (k+1)) :
    DualRes (fun s => linSpline (NF.realX e) box eps up true s) y
      (linSpline (dualX (NF.realX e)) box eps (up.map ι) true (y, 1)) := by
  have h0' := (ny_bin_iff hv k y).1.mpr h0
  have h1' := (ny_bin_iff hv (k+1) y).2.mpr h1
  obtain ⟨hr, hdv, hdl⟩ := linSpline_dual_inv_slope hv k hk y h0' h1'
  obtain ⟨hy0, hy1, _⟩ := open_bin_facts hv k hk y h0' h1'
  exact ⟨_, _, hr, inv_exec_ok hv y hy0.le hy1.le, hdv, hdl⟩

/-- **what the dual run returns AT a cdf knot (and anywhere in `[y_k, y_{k+1})`): the right-hand derivative.**  The searched
    bin at `y' = cdf_k` is the bin to the right, so the tangent is the inverse slope of bin `k`, the derivative of the
    executed inverse from the right; from the left it is that of bin `k−1` (a kink: a convention, as for `torch.autograd`) -/
theorem linSpline_dual_inv_right (hv : LinValid e box eps up) (k : ℕ) (hk : k < up.length) (y : ℝ)
    (h0 : cd e up k ≤ ny e box y) (h1 : ny e box y < cd e up (k+1)) :
    linSpline (dualX (NF.realX e)) box eps (up.map ι) true (y, 1)
        = .ok ((inv e box eps up y, invSlope e box up k), (invLd e box eps up y, 0)) ∧
      HasDerivWithinAt (inv e box eps up) (invSlope e box up k) (Set.Ici y) y := by
  obtain ⟨hy0, hy1⟩ := bin_in_box hv k hk y h0 h1
  have hT : 0 < e box.top - e box.bottom := sub_pos.mpr hv.hbt
  have hyk : y < yk e box up (k+1) := (ny_bin_iff hv (k+1) y).2.mp h1
  have hykT : yk e box up (k+1) ≤ e box.top := ((searched hv).yknot_mem (k+1) hk).2
  refine ⟨?_, ?_⟩
  · rw [linSpline_dual_inv_values hv y hy0 hy1.le, (searchedInvN hv).idxI_eq (searchedN hv.hK) k hk _ h0 h1]
  · have heq : ∀ z ∈ Set.Ico y (yk e box up (k+1)),
        inv e box eps up z = binI e up k (ny e box z) * (e box.right - e box.left) + e box.left := by
      intro z hz
      have hzn : ny e box y ≤ ny e box z := by
        unfold ny; exact div_le_div_of_nonneg_right (by linarith [hz.1]) hT.le
      have hzn1 : ny e box z < cd e up (k+1) := (ny_bin_iff hv (k+1) z).2.mpr hz.2
      rw [inv_eq hv z (hy0.trans hz.1) (hz.2.le.trans hykT)]
      unfold GI
      rw [(searchedInvN hv).idxI_eq (searchedN hv.hK) k hk _ (h0.trans hzn) hzn1]
    exact (box_lineI_hasDerivAt box up k y).hasDerivWithinAt.congr_of_eventuallyEq
      (Filter.eventuallyEq_of_mem (Ico_mem_nhdsGE hyk) heq) (heq _ ⟨le_rfl, hyk⟩)

/-! ### non-vacuity -/


/-- in the concrete accepted configuration every cdf-bin is non-empty: the hypotheses of the next theorem are satisfiable
    in each of the three bins -/
theorem example_bins_nonempty (k : ℕ) (hk : k < 3) :
    ∃ y : ℝ, yk RQWhole.eNV ⟨0.0, 1.0, 0.0, 1.0⟩ [0, 1, -1] k < y ∧ y < yk RQWhole.eNV ⟨0.0, 1.0, 0.0, 1.0⟩ [0, 1, -1] (k+1) :=
  exists_between ((searched valid_example).ys_strict k hk)

/-- non-vacuity on the concrete accepted configuration `LinWhole.valid_example` (three bins `[0, 1, −1]` on the unit box) -/
theorem linSpline_dual_inv_example (k : ℕ) (hk : k < 3) (y : ℝ)
    (h0 : yk RQWhole.eNV ⟨0.0, 1.0, 0.0, 1.0⟩ [0, 1, -1] k < y)
    (h1 : y < yk RQWhole.eNV ⟨0.0, 1.0, 0.0, 1.0⟩ [0, 1, -1] (k+1)) :
    linSpline (dualX (NF.realX RQWhole.eNV)) ⟨0.0, 1.0, 0.0, 1.0⟩ 1e-6 [ι 0, ι 1, ι (-1)] true (y, 1)
        = .ok ((inv RQWhole.eNV ⟨0.0, 1.0, 0.0, 1.0⟩ 1e-6 [0, 1, -1] y, invSlope RQWhole.eNV ⟨0.0, 1.0, 0.0, 1.0⟩ [0, 1, -1] k),
               (invLd RQWhole.eNV ⟨0.0, 1.0, 0.0, 1.0⟩ 1e-6 [0, 1, -1] y, 0)) ∧
      HasDerivAt (inv RQWhole.eNV ⟨0.0, 1.0, 0.0, 1.0⟩ 1e-6 [0, 1, -1])
        (invSlope RQWhole.eNV ⟨0.0, 1.0, 0.0, 1.0⟩ [0, 1, -1] k) y ∧
      HasDerivAt (invLd RQWhole.eNV ⟨0.0, 1.0, 0.0, 1.0⟩ 1e-6 [0, 1, -1]) 0 y :=
  linSpline_dual_inv_slope valid_example k hk y ((ny_bin_iff valid_example k y).1.mpr h0)
    ((ny_bin_iff valid_example (k+1) y).2.mpr h1)

/-- non-vacuity of `linSpline_dual_inv_zero` (three bins, unit box, every bin) as soon as the IEEE fact
    `log((1.0−0.0)/(1.0−0.0)) == 0.0` is granted (`Float.log` is opaque to the kernel, see `LinWhole.logs_example`) -/
theorem linSpline_dual_inv_example_log (h2 : (boxLog ⟨0.0, 1.0, 0.0, 1.0⟩ == 0.0) = true) (k : ℕ) (hk : k < 3) (y : ℝ)
    (h0 : yk RQWhole.eNV ⟨0.0, 1.0, 0.0, 1.0⟩ [0, 1, -1] k < y)
    (h1 : y < yk RQWhole.eNV ⟨0.0, 1.0, 0.0, 1.0⟩ [0, 1, -1] (k+1)) :
    linSpline (dualX (NF.realX RQWhole.eNV)) ⟨0.0, 1.0, 0.0, 1.0⟩ 1e-6 [ι 0, ι 1, ι (-1)] true (y, 1)
        = .ok ((inv RQWhole.eNV ⟨0.0, 1.0, 0.0, 1.0⟩ 1e-6 [0, 1, -1] y,
                Real.exp (invLd RQWhole.eNV ⟨0.0, 1.0, 0.0, 1.0⟩ 1e-6 [0, 1, -1] y)),
               (invLd RQWhole.eNV ⟨0.0, 1.0, 0.0, 1.0⟩ 1e-6 [0, 1, -1] y, 0)) ∧
      HasDerivAt (inv RQWhole.eNV ⟨0.0, 1.0, 0.0, 1.0⟩ 1e-6 [0, 1, -1])
        (Real.exp (invLd RQWhole.eNV ⟨0.0, 1.0, 0.0, 1.0⟩ 1e-6 [0, 1, -1] y)) y ∧
      HasDerivAt (invLd RQWhole.eNV ⟨0.0, 1.0, 0.0, 1.0⟩ 1e-6 [0, 1, -1]) 0 y := by
  have hbl : RQWhole.eNV (boxLog ⟨0.0, 1.0, 0.0, 1.0⟩)
      = Real.log ((RQWhole.eNV 1.0 - RQWhole.eNV 0.0) / (RQWhole.eNV 1.0 - RQWhole.eNV 0.0)) := by
    simp [RQWhole.eNV, h2, FloatFacts.zero_beq_zero, FloatFacts.one_beq_zero]
  exact linSpline_dual_inv_zero valid_example hbl k hk y h0 h1

end
end DualXLinInv
