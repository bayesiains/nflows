import NflowsModel.Lemmas.DualXCubic
import NflowsModel.Lemmas.WellDefinedCubic
/-!
# Lemmas/DualXCubicInv — the EXECUTED piecewise-cubic spline INVERSE run on dual numbers (C16): a FINDING

The Cardano branch (`Core/Spline.lean`:375-379, `cubic.py:180-192`) takes two cube roots `cbrtG x = sign x · exp (log |x| / 3)`
(`Core/Spline.lean`:285, `torchutils.py:150-152`) whose arguments
multiply to `−δ₁³`, so one of them is `0` exactly when `δ₁ = 0`; on the accepted one-bin configuration `valid_example1`
(`K = 1`, box `[0,1]²`, `min_bin_width = min_bin_height = 0`, `uw = uh = [0]`, `udl = −log 6`, `udr = log (4/3)`: the spline is
`x ↦ ((x+1)³ − 1)/7`) this happens at EVERY `y ∈ [0,1]`.  At a dual number `(0, t)` the dual `cbrtG` returns `(0, 0)` (over ℝ
`log 0 = 0`, `0/0 = 0`; in IEEE the same steps give NaN, the gradient `torch.autograd` returns — a remark, floats are outside
these statements), although the real cube root is not differentiable at `0`; away from `0` the rule is sound.
On the witness: with the tangent on the INPUT `y` the returned tangent is still the derivative of the real program (the
vanishing argument is `0` identically in `y`); with the tangent on the PARAMETER `udl` the vanishing argument is a cube of a
function with non-zero derivative, the rule returns `0` for its cube root, and the returned output tangent is WRONG over ℝ at
`y = 0` and at every `y ∈ (0,1)`.  NOT done here: a general soundness headline for the cubic inverse (trigonometric branch,
quadratic fallback, Cardano with `δ₁ ≠ 0`, `inBin` away from ties).
-/

open NF DualSound DualX Filter Topology

namespace DualXCubicInv
open CubicWhole CubicInverseWhole NF.WellDefined.Cubic

noncomputable section
variable (e : Float → ℝ)

/-! ## the cube root `cbrtG` on dual numbers -/

theorem d_sign (a : ℝ × ℝ) :
    (dualX (NF.realX e)).sign a = (if 0 < a.1 then 1 else if a.1 < 0 then -1 else 0, 0) := by
  unfold XOps.sign
  simp only [d_lt, d_zero, d_one, d_neg, decide_eq_true_eq]
  split_ifs <;> simp

/-- what the dual run forms inside `cbrtG` at value `0`: `|·|` returns `(0, 0)` and the logarithm rule divides by zero,
    `(log 0, 0 / 0)`; over ℝ both components are `0` by the totalisation conventions, in IEEE arithmetic they are
    `-inf` and `NaN` -/
theorem cbrtG_dual_forms_log_zero (t : ℝ) :
    (dualX (NF.realX e)).abs (0, t) = (0, 0) ∧
    (dualX (NF.realX e)).log ((dualX (NF.realX e)).abs (0, t)) = (Real.log 0, (0:ℝ) / 0) := by
  have h := abs_at_zero e t
  exact ⟨h, by rw [h, d_log]⟩

theorem cbrtG_dual_at_zero (t : ℝ) : cbrtG (dualX (NF.realX e)) (0, t) = (0, 0) := by
  unfold cbrtG
  rw [d_sign]
  simp only [d_mul, lt_irrefl, if_false, zero_mul, add_zero]

theorem cbrt_zero : CubicRoots.cbrt 0 = 0 := by simp [CubicRoots.cbrt]

/-- … whereas the real cube root is NOT differentiable at `0` (`cbrt x ^ 3 = x` would give `0 = 1`) -/
theorem cbrt_not_differentiableAt_zero : ¬ DifferentiableAt ℝ CubicRoots.cbrt 0 := by
  intro h
  have hd := h.hasDerivAt
  have h3 : HasDerivAt (fun x => CubicRoots.cbrt x ^ 3) ((3:ℕ) * CubicRoots.cbrt 0 ^ (3 - 1) * deriv CubicRoots.cbrt 0) 0 :=
    hd.pow 3
  have hid : (fun x => CubicRoots.cbrt x ^ 3) = fun x => x := funext CubicRoots.cbrt_cube
  rw [hid, cbrt_zero] at h3
  have := h3.unique (hasDerivAt_id' 0)
  norm_num at this

theorem cbrtG_dual_of_ne (h3 : e 3.0 = 3) (x t : ℝ) (hx : x ≠ 0) :
    cbrtG (dualX (NF.realX e)) (x, t) = (CubicRoots.cbrt x, t * CubicRoots.cbrt x / (3 * x)) := by
  unfold cbrtG CubicRoots.cbrt
  rw [d_sign, d_ofFloat, h3]
  simp only [d_mul, d_exp, d_div, d_log, d_abs, realX_sign]
  rcases lt_or_gt_of_ne hx with hneg | hpos
  · rw [if_neg (not_lt.mpr hneg.le), if_pos hneg, abs_of_neg hneg]
    refine Prod.ext rfl ?_
    show _ = _
    field_simp
    ring
  · rw [if_pos hpos, abs_of_pos hpos]
    refine Prod.ext rfl ?_
    show _ = _
    field_simp
    ring

variable {e}

theorem cbrtG_dual_sound (h3 : e 3.0 ≠ 0) {f : ℝ → ℝ} {t : ℝ} {a : ℝ × ℝ} (ha : IsDual f t a) (h0 : a.1 ≠ 0) :
    IsDual (fun s => cbrtG (NF.realX e) (f s)) t (cbrtG (dualX (NF.realX e)) a) := by
  unfold cbrtG
  refine IsDual.mul e (IsDual.sign e ha h0)
    (IsDual.exp e (IsDual.div e (IsDual.log e (IsDual.abs e ha h0) ?_) (IsDual.ofFloat e 3.0 t) ?_))
  · rw [d_abs]; exact abs_ne_zero.mpr h0
  · rw [d_ofFloat]; exact h3

/-! ## the whole executed inverse program on dual numbers -/

variable {c : CCfg} {uw uh : List ℝ}

/-- the dual normalised input: value `yn`, tangent `y'.2 / (top − bottom)` (quotient rule with a constant divisor) -/
def ynD (e : Float → ℝ) (c : CCfg) (y' : ℝ × ℝ) : ℝ × ℝ := DualXCubic.ynG (dualX (NF.realX e)) c y'

theorem ynD_fst (y' : ℝ × ℝ) : (ynD e c y').1 = yn e c y'.1 := rfl

/-! ### the pieces of `invCore` on dual numbers at the gathered values of the witness
`ia = 1/7`, `ib = ic = 3/7`, `id = 0`, `lcw = 0`, `rcw = 1`, `ih = 1`, in the joint direction: tangent `s` on `udl` (which
reaches `ia ib ic` as `18/49·s`, `−36/49·s`, `18/49·s`), tangent `y'` on the input -/

-- `D[e]` abbreviates the dual-number record `dualX (NF.realX e)` (`DualXFlowStages.DX e`) in the numerals below
local notation "D[" e "]" => dualX (NF.realX e)

local macro "pair_ring" : tactic => `(tactic| (refine Prod.ext ?_ ?_ <;> dsimp only <;> ring))

theorem fallback_dual (c : CCfg) (ia lcw rcw ih : ℝ × ℝ) :
    fallback D[e] c ia lcw rcw ih = fallback (NF.realX e) c ia.1 lcw.1 rcw.1 ih.1 := rfl

theorem inBin_dual_id (l r : ℝ) (a : ℝ × ℝ) (h0 : l ≤ a.1) (h1 : a.1 ≤ r) : inBin D[e] (ι l) (ι r) a = a := by
  have hm : D[e].maxA a (ι l) = a := by
    unfold XOps.maxA
    simp only [d_lt, ι, not_lt.mpr h0, decide_false, Bool.false_eq_true, if_false]
  unfold inBin
  rw [hm]
  unfold XOps.minA
  simp only [d_lt, ι, not_lt.mpr h1, decide_false, Bool.false_eq_true, if_false]

theorem sc_dual_id (hrl : e (c.box.right - c.box.left) = 1) (hl : e c.box.left = 0) (a : ℝ × ℝ)
    (h0 : 0 ≤ a.1) (h1 : a.1 ≤ 1) : sc D[e] c a = a := by
  have hm : D[e].maxA a D[e].zero = a := by
    unfold XOps.maxA
    simp only [d_lt, d_zero, not_lt.mpr h0, decide_false, Bool.false_eq_true, if_false]
  unfold sc XOps.clamp
  rw [hm]
  unfold XOps.minA
  simp only [d_lt, d_one, not_lt.mpr h1, decide_false, Bool.false_eq_true, if_false, d_ofFloat, hrl, hl, d_add, d_mul]
  pair_ring

/-- Blinn's quantities of the dual run at the witness, in the joint direction `s` on `udl` (coefficient tangents
    `18/49·s`, `−36/49·s`, `18/49·s`) and `y'` on the input: `δ₁ = (0, 48/7·s)` — value `0`, tangent `≠ 0` as soon as `s ≠ 0`;
    the discriminant is negative: **the Cardano branch is taken** -/
theorem out0_dual_witness (hc : InvConsts e c) (y s y' : ℝ) (hy : 0 ≤ y) :
    out0 D[e] (1/7, 18/49 * s) (3/7, -36/49 * s) (3/7, 18/49 * s) (ι 0) (ι 0) (ι 1) (y, y')
      = (cardano D[e] (1, -30/7 * s) (-(1 + 7*y), -7 * y' + (18*y - 54/7) * s)
          (-(1 + 7*y)^2, (1 + 7*y) * (-14 * y' + (36*y - 108/7) * s)) (ι 0), []) := by
  have hb : D[e].div (D[e].div (3/7, -36/49 * s) (1/7, 18/49 * s)) (D[e].ofFloat 3.0) = (1, -30/7 * s) := by
    rw [d_ofFloat, hc.h3]; simp only [d_div]; pair_ring
  have hcc : D[e].div (D[e].div (3/7, 18/49 * s) (1/7, 18/49 * s)) (D[e].ofFloat 3.0) = (1, -12/7 * s) := by
    rw [d_ofFloat, hc.h3]; simp only [d_div]; pair_ring
  have hd : D[e].div (D[e].sub (ι 0) (y, y')) (1/7, 18/49 * s) = (-(7*y), -7 * y' + 18 * y * s) := by
    simp only [d_div, d_sub, ι]; pair_ring
  have hδ1 : D[e].add (D[e].neg (D[e].mul (1, -30/7 * s) (1, -30/7 * s))) (1, -12/7 * s) = (0, 48/7 * s) := by
    simp only [d_add, d_neg, d_mul]; pair_ring
  have hδ2 : D[e].add (D[e].neg (D[e].mul (1, -12/7 * s) (1, -30/7 * s))) (-(7*y), -7 * y' + 18 * y * s)
      = (-(1 + 7*y), -7 * y' + (6 + 18*y) * s) := by
    simp only [d_add, d_neg, d_mul]; pair_ring
  have hδ3 : D[e].sub (D[e].mul (1, -30/7 * s) (-(7*y), -7 * y' + 18 * y * s)) (D[e].mul (1, -12/7 * s) (1, -12/7 * s))
      = (-(1 + 7*y), -7 * y' + (48*y + 24/7) * s) := by
    simp only [d_sub, d_mul]; pair_ring
  have hdisc : D[e].sub (D[e].mul (D[e].mul (D[e].ofFloat 4.0) (0, 48/7 * s)) (-(1 + 7*y), -7 * y' + (48*y + 24/7) * s))
      (D[e].mul (-(1 + 7*y), -7 * y' + (6 + 18*y) * s) (-(1 + 7*y), -7 * y' + (6 + 18*y) * s))
      = (-(1 + 7*y)^2, (1 + 7*y) * (-14 * y' + (36*y - 108/7) * s)) := by
    rw [d_ofFloat, hc.h4]; simp only [d_sub, d_mul]; pair_ring
  have hdep1 : D[e].add (D[e].mul (D[e].mul (D[e].ofFloat (-2.0)) (1, -30/7 * s)) (0, 48/7 * s))
      (-(1 + 7*y), -7 * y' + (6 + 18*y) * s) = (-(1 + 7*y), -7 * y' + (18*y - 54/7) * s) := by
    rw [d_ofFloat, hc.hm2]; simp only [d_add, d_mul]; pair_ring
  have hn : -(1 + 7*y)^2 < 0 := neg_neg_of_pos (pow_pos (by linarith only [hy]) 2)
  have hn' : ¬ (0:ℝ) ≤ -(1 + 7*y)^2 := not_le.mpr hn
  unfold out0
  simp only [hb, hcc, hd, hδ1, hδ2, hδ3, hdisc, hdep1]
  simp only [XOps.ge, d_le, d_lt, d_zero, hn, hn', decide_true, decide_false, if_true, if_false, Bool.false_eq_true]

/-- **in the dual run the second `cbrtG` of the Cardano branch is evaluated at the dual number `(0, 0)`, in every direction**
    (value `0`: `log |0|`; tangent `0`: the logarithm rule forms `0 / 0`); the Cardano root of the dual run in closed form -/
theorem cardano_dual_witness (hc : InvConsts e c) (y s y' : ℝ) (hy : 0 ≤ y) :
    D[e].div (D[e].sub (D[e].neg (-(1 + 7*y), -7 * y' + (18*y - 54/7) * s))
        (D[e].sqrt (D[e].neg (-(1 + 7*y)^2, (1 + 7*y) * (-14 * y' + (36*y - 108/7) * s))))) D[e].two = (0, 0) ∧
    cardano D[e] (1, -30/7 * s) (-(1 + 7*y), -7 * y' + (18*y - 54/7) * s)
        (-(1 + 7*y)^2, (1 + 7*y) * (-14 * y' + (36*y - 108/7) * s)) (ι 0)
      = (CubicRoots.cbrt (1 + 7*y) - 1,
          (7 * y' + (54/7 - 18*y) * s) * CubicRoots.cbrt (1 + 7*y) / (3 * (1 + 7*y)) + 30/7 * s) := by
  have hpos : 0 < 1 + 7*y := by linarith only [hy]
  have hsq : D[e].sqrt (D[e].neg (-(1 + 7*y)^2, (1 + 7*y) * (-14 * y' + (36*y - 108/7) * s)))
      = (1 + 7*y, 7 * y' + (54/7 - 18*y) * s) := by
    rw [d_sqrt]
    simp only [d_neg, neg_neg]
    rw [Real.sqrt_sq hpos.le]
    refine Prod.ext rfl ?_
    show -((1 + 7*y) * (-14 * y' + (36*y - 108/7) * s)) / (2 * (1 + 7*y)) = 7 * y' + (54/7 - 18*y) * s
    rw [div_eq_iff (mul_pos two_pos hpos).ne']; ring
  have hq : D[e].div (D[e].sub (D[e].neg (-(1 + 7*y), -7 * y' + (18*y - 54/7) * s))
      (1 + 7*y, 7 * y' + (54/7 - 18*y) * s)) D[e].two = (0, 0) := by
    rw [d_two]; simp only [d_div, d_sub, d_neg]; pair_ring
  have hp : D[e].div (D[e].add (D[e].neg (-(1 + 7*y), -7 * y' + (18*y - 54/7) * s))
      (1 + 7*y, 7 * y' + (54/7 - 18*y) * s)) D[e].two = (1 + 7*y, 7 * y' + (54/7 - 18*y) * s) := by
    rw [d_two]; simp only [d_div, d_add, d_neg]; pair_ring
  refine ⟨by rw [hsq, hq], ?_⟩
  unfold cardano
  simp only [hsq]
  simp only [hq, hp]
  rw [cbrtG_dual_at_zero, cbrtG_dual_of_ne e hc.h3 _ _ hpos.ne']
  simp only [d_add, d_sub, ι]
  pair_ring

/-! ### the witness configuration: one bin on the unit box, `sigmoid udl = 1/7`, `sigmoid udr = 4/7` -/

theorem ex_left : eI cNV.box.left = 0 := eI_zero
theorem ex_right : eI cNV.box.right = 1 := eI_one

theorem witness_yn (y : ℝ) : yn eI cNV y = y := by
  rw [yn_eq valid_example1, ex_bottom, ex_top]; ring

theorem witness_idx (y : ℝ) (h0 : 0 ≤ y) (h1 : y ≤ 1) : idxH eI cNV [0] (yn eI cNV y) = 0 := by
  obtain ⟨ht0, ht1⟩ := yn_unit valid_example1 y (by rw [ex_bottom]; exact h0) (by rw [ex_top]; exact h1)
  obtain ⟨hiK, _, _, _⟩ := selH valid_example1 (yn eI cNV y) ht0 ht1
  have : idxH eI cNV [0] (yn eI cNV y) < 1 := by simpa using hiK
  omega

theorem witness_cws1 : cws eI cNV [0] 1 = 1 := by
  have hcl := cws_last valid_example1
  simpa only [List.length_cons, List.length_nil, zero_add] using hcl

theorem rootN_witness (y : ℝ) (h0 : 0 ≤ y) (h1 : y ≤ 1) :
    rootN eI cNV [0] [0] (-Real.log 6) (Real.log (4/3)) (yn eI cNV y) = CubicRoots.cbrt (1 + 7*y) - 1 := by
  have hfb := (cardano_log_zero_example y h0 h1).1
  have hex : ExactBin eI cNV [0] [0] (-Real.log 6) (Real.log (4/3)) (idxH eI cNV [0] (yn eI cNV y)) := Or.inl hfb
  obtain ⟨ht0, ht1⟩ := yn_unit valid_example1 y (by rw [ex_bottom]; exact h0) (by rw [ex_top]; exact h1)
  have hspec := (rootN_spec valid_example1 consts_example (yn eI cNV y) ht0 ht1 hex).1
  rw [witness_idx y h0 h1, binN_poly, ex1_aK, ex1_bK, ex1_dv0, chs_zero valid_example1, cws_zero valid_example1] at hspec
  rw [witness_yn] at hspec ⊢
  have hc3 : (rootN eI cNV [0] [0] (-Real.log 6) (Real.log (4/3)) y + 1)^3 = CubicRoots.cbrt (1 + 7*y) ^ 3 := by
    rw [CubicRoots.cbrt_cube]; linear_combination 7 * hspec
  exact eq_sub_of_add_eq (CubicRoots.cube_inj hc3)

theorem inv_witness (y : ℝ) (h0 : 0 ≤ y) (h1 : y ≤ 1) :
    inv eI cNV [0] [0] (-Real.log 6) (Real.log (4/3)) y = CubicRoots.cbrt (1 + 7*y) - 1 := by
  rw [inv_eq_root valid_example1 y (by rw [ex_bottom]; exact h0) (by rw [ex_top]; exact h1), rootN_witness y h0 h1,
    ex_right, ex_left]
  ring

theorem cbrt_witness_bounds (y : ℝ) (h0 : 0 ≤ y) (h1 : y ≤ 1) :
    0 ≤ CubicRoots.cbrt (1 + 7*y) - 1 ∧ CubicRoots.cbrt (1 + 7*y) - 1 ≤ 1 := by
  obtain ⟨ht0, ht1⟩ := yn_unit valid_example1 y (by rw [ex_bottom]; exact h0) (by rw [ex_top]; exact h1)
  obtain ⟨_, hr0, hr1⟩ := rootN_mem (udl := -Real.log 6) (udr := Real.log (4/3)) valid_example1 _ ht0 ht1
  rw [rootN_witness y h0 h1] at hr0 hr1
  exact ⟨hr0, hr1⟩

/-- `invCore` of the dual run at the witness, any direction: no fallback, Cardano branch, clamps inactive -/
theorem invCore_dual_witness (y s y' : ℝ) (h0 : 0 ≤ y) (h1 : y ≤ 1) :
    ∃ L : ℝ × ℝ, invCore D[eI] cNV (1/7, 18/49 * s) (3/7, -36/49 * s) (3/7, 18/49 * s) (ι 0) (ι 0) (ι 1) (ι 1) (y, y')
      = ((CubicRoots.cbrt (1 + 7*y) - 1,
          (7 * y' + (54/7 - 18*y) * s) * CubicRoots.cbrt (1 + 7*y) / (3 * (1 + 7*y)) + 30/7 * s), L, []) := by
  have hfb : fallback D[eI] cNV (1/7, 18/49 * s) (ι 0) (ι 1) (ι 1) = false := by
    rw [fallback_dual, fallback_eq]
    simp only [ι, ex_thr]
    norm_num [abs_of_pos]
  have hout1 : out1 D[eI] cNV (1/7, 18/49 * s) (3/7, -36/49 * s) (3/7, 18/49 * s) (ι 0) (ι 0) (ι 1) (ι 1) (y, y')
      = ((CubicRoots.cbrt (1 + 7*y) - 1,
          (7 * y' + (54/7 - 18*y) * s) * CubicRoots.cbrt (1 + 7*y) / (3 * (1 + 7*y)) + 30/7 * s), []) := by
    unfold out1
    rw [hfb]
    simp only [Bool.false_eq_true, if_false]
    rw [out0_dual_witness consts_example y s y' h0, (cardano_dual_witness consts_example y s y' h0).2]
  obtain ⟨hb0, hb1⟩ := cbrt_witness_bounds y h0 h1
  have hrl : eI (cNV.box.right - cNV.box.left) = 1 := by rw [valid_example1.hdlr, ex_right, ex_left]; norm_num
  refine ⟨(invCore D[eI] cNV (1/7, 18/49 * s) (3/7, -36/49 * s) (3/7, 18/49 * s) (ι 0) (ι 0) (ι 1) (ι 1) (y, y')).2.1, ?_⟩
  refine Prod.ext ?_ (Prod.ext rfl ?_)
  · show sc D[eI] cNV (inBin D[eI] (ι 0) (ι 1)
        (out1 D[eI] cNV (1/7, 18/49 * s) (3/7, -36/49 * s) (3/7, 18/49 * s) (ι 0) (ι 0) (ι 1) (ι 1) (y, y')).1) = _
    rw [hout1, inBin_dual_id 0 1 _ hb0 hb1, sc_dual_id hrl ex_left _ hb0 hb1]
  · show ((out1 D[eI] cNV (1/7, 18/49 * s) (3/7, -36/49 * s) (3/7, 18/49 * s) (ι 0) (ι 0) (ι 1) (ι 1) (y, y')).2.map
        (inBin D[eI] (ι 0) (ι 1))).map (sc D[eI] cNV) = _
    rw [hout1]
    rfl

/-- **… and that tangent IS the derivative of the real program** at every interior `y`: on this configuration the
    input-gradient of the dual run is correct over ℝ although the run evaluates `cbrtG` at `(0, 0)` — the defect of the
    input gradient is float-only (`log 0 = -inf`, `0/0 = NaN`, `0 · inf = NaN` in IEEE arithmetic) -/
theorem inv_witness_hasDerivAt (y : ℝ) (h0 : 0 < y) (h1 : y < 1) :
    HasDerivAt (inv eI cNV [0] [0] (-Real.log 6) (Real.log (4/3)))
      (7 * CubicRoots.cbrt (1 + 7*y) / (3 * (1 + 7*y))) y := by
  have hpos : (1 + 7*y) ≠ 0 := by linarith
  have hlin : HasDerivAt (fun s : ℝ => 1 + 7*s) 7 y := by
    simpa using ((hasDerivAt_id y).const_mul (7:ℝ)).const_add 1
  have hd : IsDual (fun s : ℝ => 1 + 7*s) y (1 + 7*y, 7) := ⟨rfl, hlin⟩
  have hs := cbrtG_dual_sound (e := eI) (by rw [consts_example.h3]; norm_num) hd hpos
  rw [cbrtG_dual_of_ne eI consts_example.h3 _ _ hpos] at hs
  have hder : HasDerivAt (fun s => CubicRoots.cbrt (1 + 7*s) - 1) (7 * CubicRoots.cbrt (1 + 7*y) / (3 * (1 + 7*y))) y := by
    have := hs.2.sub_const 1
    simpa only [cbrtG_real eI consts_example.h3] using this
  refine hder.congr_of_eventuallyEq ?_
  filter_upwards [Ioo_mem_nhds h0 h1] with z hz
  exact inv_witness z hz.1.le hz.2.le

/-! ## The rule `cbrtG (0, 0) = (0, 0)` is UNSOUND over ℝ for compositions: parameter gradients

`cbrt ∘ g` can be differentiable at a zero of `g` (when `g` vanishes to third order, e.g. `g s = s³`), and then its
derivative is not `0` in general.  This is exactly what happens in the Cardano branch with respect to a PARAMETER `θ`:
the two `cbrtG` arguments `A₊ A₋` satisfy `A₊·A₋ = −δ₁³`, so `A₋ = (−δ₁/cbrt A₊)³` vanishes to third order where
`δ₁(θ) = 0`, `cbrt A₋ = −δ₁/cbrt A₊` is smooth with derivative `−δ₁'/cbrt A₊ ≠ 0`, while the dual run evaluates `cbrtG` at
the (correct) dual number `(0, 0)` of `A₋` and returns tangent `0`. -/

/-- **the dual `cbrtG` is unsound at a third-order zero**: `(0, 0)` is the correct dual number of `s ↦ s³` at `0`,
    `s ↦ cbrtG (s³) = s` has derivative `1` there, the dual `cbrtG` returns tangent `0` -/
theorem cbrtG_dual_unsound (h3 : e 3.0 = 3) :
    IsDual (fun s : ℝ => s ^ 3) 0 (0, 0) ∧
    HasDerivAt (fun s : ℝ => cbrtG (NF.realX e) (s ^ 3)) 1 0 ∧
    cbrtG D[e] (0, 0) = (0, 0) ∧
    ¬ IsDual (fun s : ℝ => cbrtG (NF.realX e) (s ^ 3)) 0 (cbrtG D[e] (0, 0)) := by
  have hid : (fun s : ℝ => cbrtG (NF.realX e) (s ^ 3)) = fun s => s := by
    funext s
    rw [cbrtG_real e h3]
    exact CubicRoots.cube_inj (CubicRoots.cbrt_cube _)
  have hd : HasDerivAt (fun s : ℝ => cbrtG (NF.realX e) (s ^ 3)) 1 0 := by rw [hid]; exact hasDerivAt_id' 0
  refine ⟨⟨by norm_num, by simpa using hasDerivAt_pow 3 (0:ℝ)⟩, hd, cbrtG_dual_at_zero e 0, ?_⟩
  intro h
  rw [cbrtG_dual_at_zero] at h
  have := h.2.unique hd
  norm_num at this

/-- **the dual `cardano` piece is unsound where `δ₁ = 0`**: along the curve `b_ = 0`, `dep1 = s³ − 1`, `disc = −(1 + s³)²`,
    `lcw = 0` (whose correct dual numbers at `s = 0` are `(0,0)`, `(−1,0)`, `(−1,0)`, `(0,0)`) the real piece is `1 − s`
    near `0`, derivative `−1`; the dual piece returns tangent `0` -/
theorem cardano_dual_unsound (h3 : e 3.0 = 3) :
    IsDual (fun s : ℝ => s ^ 3 - 1) 0 (-1, 0) ∧ IsDual (fun s : ℝ => -(1 + s ^ 3) ^ 2) 0 (-1, 0) ∧
    HasDerivAt (fun s : ℝ => cardano (NF.realX e) 0 (s ^ 3 - 1) (-(1 + s ^ 3) ^ 2) 0) (-1) 0 ∧
    cardano D[e] (0, 0) (-1, 0) (-1, 0) (0, 0) = (1, 0) := by
  have hp3 : HasDerivAt (fun s : ℝ => s ^ 3) 0 0 := by simpa using hasDerivAt_pow 3 (0:ℝ)
  refine ⟨⟨by norm_num, by simpa using hp3.sub_const 1⟩, ⟨by norm_num, ?_⟩, ?_, ?_⟩
  · have h : HasDerivAt (fun s : ℝ => -(1 + s ^ 3) ^ 2) (-(((2:ℕ):ℝ) * (1 + (0:ℝ) ^ 3) ^ (2 - 1) * 0)) 0 :=
      ((hp3.const_add 1).pow 2).neg
    simpa using h
  · have hloc : (fun s : ℝ => 1 - s) =ᶠ[𝓝 0] fun s => cardano (NF.realX e) 0 (s ^ 3 - 1) (-(1 + s ^ 3) ^ 2) 0 := by
      filter_upwards [Ioo_mem_nhds (show (-1:ℝ) < 0 by norm_num) (show (0:ℝ) < 1 by norm_num)] with s hs
      have hs3 : 0 < 1 + s ^ 3 := by
        have h2 : 0 < s ^ 2 - s + 1 := by linarith only [sq_nonneg (s - 1/2)]
        have h3 : 1 + s ^ 3 = (1 + s) * (s ^ 2 - s + 1) := by ring
        rw [h3]; exact mul_pos (by linarith only [hs.1]) h2
      unfold cardano
      simp only [cbrtG_real e h3, NF.realX_sqrt, NF.realX_neg, NF.realX_div, NF.realX_add, NF.realX_sub, NF.realX_two,
        neg_neg, Real.sqrt_sq hs3.le]
      have h1 : (-(s ^ 3 - 1) + (1 + s ^ 3)) / 2 = (1:ℝ) ^ 3 := by ring
      have h2 : (-(s ^ 3 - 1) - (1 + s ^ 3)) / 2 = (-s) ^ 3 := by ring
      rw [h1, h2, CubicRoots.cube_inj (CubicRoots.cbrt_cube ((1:ℝ) ^ 3)), CubicRoots.cube_inj (CubicRoots.cbrt_cube ((-s) ^ 3))]
      ring
    have : HasDerivAt (fun s : ℝ => 1 - s) (-1) 0 := by simpa using (hasDerivAt_id (0:ℝ)).const_sub 1
    exact this.congr_of_eventuallyEq hloc.symm
  · unfold cardano
    have hsq : D[e].sqrt (D[e].neg (-1, 0)) = (1, 0) := by
      rw [d_sqrt]; simp only [d_neg, neg_neg, Real.sqrt_one, neg_zero]; pair_ring
    have hq : D[e].div (D[e].sub (D[e].neg (-1, 0)) (1, 0)) (2, 0) = (0, 0) := by
      simp only [d_div, d_sub, d_neg]; pair_ring
    have hp : D[e].div (D[e].add (D[e].neg (-1, 0)) (1, 0)) (2, 0) = (1, 0) := by
      simp only [d_div, d_add, d_neg]; pair_ring
    have hc1 : CubicRoots.cbrt 1 = 1 := by
      have := CubicRoots.cube_inj (CubicRoots.cbrt_cube ((1:ℝ) ^ 3)); simpa using this
    simp only [hsq, d_two]
    simp only [hq, hp]
    rw [cbrtG_dual_at_zero, cbrtG_dual_of_ne e h3 1 0 one_ne_zero, hc1]
    simp only [d_add, d_sub]
    pair_ring

/-! ## The whole program on the witness with ARBITRARY dual parameters, then the tangent seeded on `udl` -/

theorem list_len1 (l : List ℝ) (h : l.length = 1) : l = [l.getD 0 0] := by
  match l, h with
  | [a], _ => rfl

theorem list_len2 (l : List ℝ) (h : l.length = 2) : l = [l.getD 0 0, l.getD 1 0] := by
  match l, h with
  | [a, b], _ => rfl

theorem witness_W : W eI cNV [0] = [1] := by
  rw [list_len1 _ (W_facts valid_example1).1]
  show [wv eI cNV [0] 0] = [1]
  rw [ex1_wv]

theorem witness_H : H eI cNV [0] = [1] := by
  rw [list_len1 _ (H_facts valid_example1).1]
  show [CubicWhole.hv eI cNV [0] 0] = [1]
  rw [ex1_hv]

theorem witness_slopes : slopes eI cNV [0] [0] = [1] := by
  rw [list_len1 _ (slopes_length valid_example1)]
  show [sv eI cNV [0] [0] 0] = [1]
  rw [ex1_sv]

theorem witness_cumw : cumw eI cNV [0] = [0, 1] := by
  rw [list_len2 _ (cumw_facts valid_example1).1]
  show [cws eI cNV [0] 0, cws eI cNV [0] 1] = [0, 1]
  rw [cws_zero valid_example1, witness_cws1]

theorem witness_cumh : cumh eI cNV [0] = [0, 1] := by
  rw [list_len2 _ (cumh_facts valid_example1).1]
  show [chs eI cNV [0] 0, chs eI cNV [0] 1] = [0, 1]
  have hcl := chs_last valid_example1
  simp only [List.length_cons, List.length_nil, zero_add] at hcl
  rw [chs_zero valid_example1, hcl]

theorem WD_witness : DualXCubic.Wg D[eI] cNV [ι 0] = [ι 1] :=
  calc DualXCubic.Wg D[eI] cNV [ι 0] = (W eI cNV [0]).map ι := (DualXCubic.hom_W (lift_hom eI) cNV [0]).symm
    _ = [ι 1] := by rw [witness_W]; rfl

theorem HD_witness : DualXCubic.Hg D[eI] cNV [ι 0] = [ι 1] :=
  calc DualXCubic.Hg D[eI] cNV [ι 0] = (H eI cNV [0]).map ι := (DualXCubic.hom_H (lift_hom eI) cNV [0]).symm
    _ = [ι 1] := by rw [witness_H]; rfl

theorem slopesD_witness : DualXCubic.slopesG D[eI] cNV [ι 0] [ι 0] = [ι 1] :=
  calc DualXCubic.slopesG D[eI] cNV [ι 0] [ι 0] = (slopes eI cNV [0] [0]).map ι :=
        (DualXCubic.hom_slopes (lift_hom eI) cNV [0] [0]).symm
    _ = [ι 1] := by rw [witness_slopes]; rfl

theorem cumwD_witness : DualXCubic.cumwG D[eI] cNV [ι 0] = [ι 0, ι 1] :=
  calc DualXCubic.cumwG D[eI] cNV [ι 0] = (cumw eI cNV [0]).map ι := (DualXCubic.hom_cumw (lift_hom eI) cNV [0]).symm
    _ = [ι 0, ι 1] := by rw [witness_cumw]; rfl

theorem cumhD_witness : DualXCubic.cumhG D[eI] cNV [ι 0] = [ι 0, ι 1] :=
  calc DualXCubic.cumhG D[eI] cNV [ι 0] = (cumh eI cNV [0]).map ι := (DualXCubic.hom_cumh (lift_hom eI) cNV [0]).symm
    _ = [ι 0, ι 1] := by rw [witness_cumh]; rfl

/-- one bin: there is no interior knot derivative -/
theorem midD_witness :
    List.zipWith D[eI].mul (DualXCubic.msG D[eI] cNV [ι 0] [ι 0]) (DualXCubic.sgnG D[eI] cNV [ι 0] [ι 0]) = [] := by
  unfold DualXCubic.msG DualXCubic.sgnG
  rw [slopesD_witness]
  rfl

/-- the seven gathers of the dual program on the one-bin witness, for ARBITRARY dual end derivatives `dl dr`: `gather_eq`
    holds at every scalar type, so no lift of the parameters is needed -/
theorem gather_dual_K1 (dl dr : ℝ × ℝ) {β : Type}
    (k : ℝ × ℝ → ℝ × ℝ → ℝ × ℝ → ℝ × ℝ → ℝ × ℝ → ℝ × ℝ → ℝ × ℝ → Except Err β) :
    CubicProgram.gather D[eI] cNV 1 [ι 0] [ι 0] [dl, dr] ((0 : ℕ) : Int) k
      = k (D[eI].div (D[eI].sub (D[eI].add dl dr) (D[eI].mul D[eI].two (ι 1))) (D[eI].mul (ι 1) (ι 1)))
          (D[eI].div (D[eI].sub (D[eI].sub (D[eI].mul (D[eI].ofNat 3) (ι 1)) (D[eI].mul D[eI].two dl)) dr) (ι 1))
          dl (ι 0) (ι 0) (ι 1) (ι 1) := by
  have haL : DualXCubic.aLofG D[eI] cNV 1 [ι 0] [ι 0] [dl, dr]
      = [D[eI].div (D[eI].sub (D[eI].add dl dr) (D[eI].mul D[eI].two (ι 1))) (D[eI].mul (ι 1) (ι 1))] := by
    unfold DualXCubic.aLofG
    rw [slopesD_witness, WD_witness]
    rfl
  have hbL : DualXCubic.bLofG D[eI] cNV 1 [ι 0] [ι 0] [dl, dr]
      = [D[eI].div (D[eI].sub (D[eI].sub (D[eI].mul (D[eI].ofNat 3) (ι 1)) (D[eI].mul D[eI].two dl)) dr) (ι 1)] := by
    unfold DualXCubic.bLofG
    rw [slopesD_witness, WD_witness]
    rfl
  rw [CubicProgram.gather_eq D[eI] cNV 1 [ι 0] [ι 0] [dl, dr] 0 (ι 0) Nat.one_pos Nat.one_pos (by rw [cumhD_witness]; exact Nat.zero_lt_two)
      (by rw [cumwD_witness]; exact Nat.one_lt_two) (by rw [HD_witness]; exact Nat.one_pos),
    haL, hbL, cumhD_witness, cumwD_witness, HD_witness]
  rfl

/-- **the dual run on the one-bin witness for ARBITRARY dual parameters `udl udr` and dual input `y'`** (value of `y'` in
    the domain): `invCore` on the dual coefficients -/
theorem cubicSpline_dual_inv_K1 (udlD udrD y' : ℝ × ℝ) (hy0 : 0 ≤ y'.1) (hy1 : y'.1 ≤ 1) :
    cubicSpline D[eI] cNV [ι 0] [ι 0] udlD udrD true y'
      = .ok (invCore D[eI] cNV
          (D[eI].div (D[eI].sub (D[eI].add (D[eI].mul (D[eI].mul (D[eI].sigmoid udlD) (D[eI].ofNat 3)) (ι 1))
            (D[eI].mul (D[eI].mul (D[eI].sigmoid udrD) (D[eI].ofNat 3)) (ι 1))) (D[eI].mul D[eI].two (ι 1)))
            (D[eI].mul (ι 1) (ι 1)))
          (D[eI].div (D[eI].sub (D[eI].sub (D[eI].mul (D[eI].ofNat 3) (ι 1))
            (D[eI].mul D[eI].two (D[eI].mul (D[eI].mul (D[eI].sigmoid udlD) (D[eI].ofNat 3)) (ι 1))))
            (D[eI].mul (D[eI].mul (D[eI].sigmoid udrD) (D[eI].ofNat 3)) (ι 1))) (ι 1))
          (D[eI].mul (D[eI].mul (D[eI].sigmoid udlD) (D[eI].ofNat 3)) (ι 1)) (ι 0) (ι 0) (ι 1) (ι 1) (ynD eI cNV y')) := by
  have hg1 : (D[eI].lt y' (D[eI].ofFloat cNV.box.bottom) || D[eI].lt (D[eI].ofFloat cNV.box.top) y') = false := by
    simp only [d_lt, d_ofFloat, Bool.or_eq_false_iff, decide_eq_false_iff_not, not_lt, ex_bottom, ex_top]
    exact ⟨hy0, hy1⟩
  have hgW : ¬ (cNV.minW * ([ι (0:ℝ)] : List (ℝ × ℝ)).length.toFloat > 1.0) := valid_example1.hgW
  have hgH : ¬ (cNV.minH * ([ι (0:ℝ)] : List (ℝ × ℝ)).length.toFloat > 1.0) := valid_example1.hgH
  have hder : DualXCubic.derivsOfG D[eI] cNV [ι 0] [ι 0] udlD udrD (ι 1) (ι 1)
      = [D[eI].mul (D[eI].mul (D[eI].sigmoid udlD) (D[eI].ofNat 3)) (ι 1),
         D[eI].mul (D[eI].mul (D[eI].sigmoid udrD) (D[eI].ofNat 3)) (ι 1)] := by
    unfold DualXCubic.derivsOfG
    rw [midD_witness]
    rfl
  -- the search sees only the value of the input, and there is one bin
  have hs : searchsortedG D[eI] cNV.seps [ι 0, ι 1] (ynD eI cNV y') = ((0 : ℕ) : Int) := by
    have ht : 0 ≤ (ynD eI cNV y').1 ∧ (ynD eI cNV y').1 ≤ 1 := by rw [ynD_fst, witness_yn]; exact ⟨hy0, hy1⟩
    rw [(fst_hom eI).searchsortedG]
    show searchsortedG (NF.realX eI) cNV.seps [0, 1] (ynD eI cNV y').1 = _
    have h := (search_specH valid_example1).2 _ ht.1 ht.2
    rw [witness_cumh] at h
    have : idxH eI cNV [0] (ynD eI cNV y').1 < 1 := by simpa using (selH valid_example1 _ ht.1 ht.2).1
    rw [h, Nat.lt_one_iff.1 this]
  have h0 : getI [ι (1:ℝ)] 0 = .ok (ι 1) := rfl
  have hl : getI [ι (1:ℝ)] (Int.ofNat ([ι (0:ℝ)] : List (ℝ × ℝ)).length - 1) = .ok (ι 1) := rfl
  rw [CubicProgram.cubicSpline_eq]
  simp only [CubicProgram.core, CubicProgram.normIn, if_true, hg1, hgW, hgH, Bool.false_eq_true, if_false, slopesD_witness,
    h0, hl, bind_ok, hder, cumhD_witness]
  exact (congrArg (fun i => CubicProgram.gather D[eI] cNV 1 [ι 0] [ι 0] _ i _) hs).trans (gather_dual_K1 _ _ _)

/-! ### the whole program on the witness in the joint direction: tangent `s` on `udl = −log 6`, `y'` on the input -/

theorem d_ofNat3 : D[e].ofNat 3 = (3, 0) := by
  unfold XOps.ofNat
  rw [d_ofRat]
  norm_num

/-- left end derivative `3·sigmoid(udl)·s₀`: value `3/7`, tangent `3·σ(1−σ)·s = 18/49·s` -/
theorem dl_witness (s : ℝ) :
    D[eI].mul (D[eI].mul (D[eI].sigmoid (-Real.log 6, s)) (D[eI].ofNat 3)) (ι 1) = (3/7, 18/49 * s) := by
  rw [d_ofNat3]
  unfold XOps.sigmoid
  simp only [d_mul, d_div, d_add, d_one, d_exp, d_neg, ι, neg_neg, Real.exp_log (show (0:ℝ) < 6 by norm_num)]
  pair_ring

theorem dr_witness :
    D[eI].mul (D[eI].mul (D[eI].sigmoid (ι (Real.log (4/3)))) (D[eI].ofNat 3)) (ι 1) = (12/7, 0) := by
  rw [d_ofNat3]
  unfold XOps.sigmoid
  simp only [d_mul, d_div, d_add, d_one, d_exp, d_neg, ι, Real.exp_neg, Real.exp_log (show (0:ℝ) < 4/3 by norm_num)]
  pair_ring

theorem a_witness (s : ℝ) :
    D[eI].div (D[eI].sub (D[eI].add (3/7, 18/49 * s) (12/7, 0)) (D[eI].mul D[eI].two (ι 1))) (D[eI].mul (ι 1) (ι 1))
      = (1/7, 18/49 * s) := by
  rw [d_two]; simp only [d_div, d_sub, d_add, d_mul, ι]; pair_ring

theorem b_witness (s : ℝ) :
    D[eI].div (D[eI].sub (D[eI].sub (D[eI].mul (D[eI].ofNat 3) (ι 1)) (D[eI].mul D[eI].two (3/7, 18/49 * s))) (12/7, 0)) (ι 1)
      = (3/7, -36/49 * s) := by
  rw [d_two, d_ofNat3]; simp only [d_div, d_sub, d_mul, ι]; pair_ring

theorem cubicSpline_dual_inv_witness_dir (y s y' : ℝ) (h0 : 0 ≤ y) (h1 : y ≤ 1) :
    ∃ L : ℝ × ℝ,
      cubicSpline D[eI] cNV [ι 0] [ι 0] (-Real.log 6, s) (ι (Real.log (4/3))) true (y, y')
        = .ok ((inv eI cNV [0] [0] (-Real.log 6) (Real.log (4/3)) y,
                (7 * y' + (54/7 - 18*y) * s) * CubicRoots.cbrt (1 + 7*y) / (3 * (1 + 7*y)) + 30/7 * s), L, []) := by
  obtain ⟨L, hL⟩ := invCore_dual_witness y s y' h0 h1
  have hyD : ynD eI cNV (y, y') = (y, y') := by
    unfold ynD DualXCubic.ynG
    rw [d_ofFloat, d_ofFloat, valid_example1.hdbt, ex_top, ex_bottom]
    simp only [d_div, d_sub]
    pair_ring
  refine ⟨L, ?_⟩
  rw [cubicSpline_dual_inv_K1 _ _ (y, y') h0 h1, dl_witness, dr_witness, a_witness, b_witness, hyD, hL,
    inv_witness y h0 h1]

theorem cubicSpline_dual_inv_witness (y : ℝ) (h0 : 0 ≤ y) (h1 : y ≤ 1) :
    ∃ L : ℝ × ℝ,
      cubicSpline D[eI] cNV [ι 0] [ι 0] (ι (-Real.log 6)) (ι (Real.log (4/3))) true (y, 1)
        = .ok ((inv eI cNV [0] [0] (-Real.log 6) (Real.log (4/3)) y,
                7 * CubicRoots.cbrt (1 + 7*y) / (3 * (1 + 7*y))), L, []) := by
  obtain ⟨L, hL⟩ := cubicSpline_dual_inv_witness_dir y 0 1 h0 h1
  rw [mul_zero, add_zero, mul_zero, add_zero, mul_one] at hL
  exact ⟨L, hL⟩

theorem cubicSpline_dual_inv_witness_param (y : ℝ) (h0 : 0 ≤ y) (h1 : y ≤ 1) :
    ∃ L : ℝ × ℝ,
      cubicSpline D[eI] cNV [ι 0] [ι 0] (-Real.log 6, 1) (ι (Real.log (4/3))) true (ι y)
        = .ok ((inv eI cNV [0] [0] (-Real.log 6) (Real.log (4/3)) y,
                (54/7 - 18*y) * CubicRoots.cbrt (1 + 7*y) / (3 * (1 + 7*y)) + 30/7), L, []) := by
  obtain ⟨L, hL⟩ := cubicSpline_dual_inv_witness_dir y 1 0 h0 h1
  rw [mul_zero, zero_add, mul_one, mul_one] at hL
  exact ⟨L, hL⟩

theorem inv_witness_bottom (udl udr : ℝ) : inv eI cNV [0] [0] udl udr 0 = 0 := by
  have hidx : idxH eI cNV [0] 0 = 0 := by
    have := witness_idx 0 le_rfl zero_le_one
    rwa [witness_yn] at this
  have hr : rootN eI cNV [0] [0] udl udr 0 = 0 := by
    by_cases hfb : fallback (NF.realX eI) cNV (aK eI cNV [0] [0] udl udr 0) (cws eI cNV [0] 0) (cws eI cNV [0] (0+1))
        (CubicWhole.hv eI cNV [0] 0) = true
    · unfold rootN preRoot
      rw [hidx]
      unfold out1
      rw [if_pos hfb, quadRoot_eq consts_example, chs_zero valid_example1, cws_zero valid_example1]
      have hq : CubicRoots.qroot (bK eI cNV [0] [0] udl udr 0) (dv eI cNV [0] [0] udl udr 0) (0 - 0) = 0 := by
        unfold CubicRoots.qroot; simp
      rw [hq, add_zero, inBin_id _ _ _ le_rfl (by rw [zero_add, witness_cws1]; norm_num)]
    · have hex : ExactBin eI cNV [0] [0] udl udr (idxH eI cNV [0] 0) := by
        rw [hidx]; exact Or.inl (by simpa using hfb)
      obtain ⟨hspec, _, _⟩ := rootN_spec valid_example1 consts_example 0 le_rfl zero_le_one hex
      obtain ⟨⟨m0, m1⟩, _, _⟩ := rootN_mem (udl := udl) (udr := udr) valid_example1 0 le_rfl zero_le_one
      rw [hidx] at hspec m0 m1
      have hinj := (bin_strictMonoOn (udl := udl) (udr := udr) valid_example1 0 (by simp)).injOn
      have hend := (bin_endpoints (udl := udl) (udr := udr) valid_example1 0 (by simp)).1
      have := hinj ⟨m0, m1⟩ ⟨le_rfl, (cws_strict valid_example1 0 (by simp)).le⟩
        (hspec.trans (by rw [hend, chs_zero valid_example1]))
      rw [this, cws_zero valid_example1]
  have hb : eI cNV.box.bottom ≤ 0 := by rw [ex_bottom]
  have ht : (0:ℝ) ≤ eI cNV.box.top := by rw [ex_top]; norm_num
  rw [inv_eq_root valid_example1 0 hb ht, witness_yn, hr, ex_right, ex_left]
  ring

/-- **FINDING (proved unsoundness over ℝ, parameter gradient)**: on the accepted one-bin configuration, `udl = −log 6`,
    `udr = log (4/3)`, input `y = 0`, tangent seeded on `udl`: the dual run of the executed cubic inverse returns the
    output `(0, 48/7)`; but the real program returns `0` at `y = 0` for EVERY `udl`, so the derivative of its output with
    respect to `udl` is `0`, not `48/7`. -/
theorem dual_param_gradient_wrong :
    (∃ L : ℝ × ℝ, cubicSpline D[eI] cNV [ι 0] [ι 0] (-Real.log 6, 1) (ι (Real.log (4/3))) true (ι 0)
        = .ok ((0, 48/7), L, [])) ∧
    HasDerivAt (fun θ : ℝ => inv eI cNV [0] [0] θ (Real.log (4/3)) 0) 0 (-Real.log 6) ∧
    ¬ HasDerivAt (fun θ : ℝ => inv eI cNV [0] [0] θ (Real.log (4/3)) 0) (48/7) (-Real.log 6) := by
  have hconst : (fun θ : ℝ => inv eI cNV [0] [0] θ (Real.log (4/3)) 0) = fun _ => 0 :=
    funext fun θ => inv_witness_bottom θ _
  have hd : HasDerivAt (fun θ : ℝ => inv eI cNV [0] [0] θ (Real.log (4/3)) 0) 0 (-Real.log 6) := by
    rw [hconst]; exact hasDerivAt_const _ _
  refine ⟨?_, hd, fun h => ?_⟩
  · obtain ⟨L, hL⟩ := cubicSpline_dual_inv_witness_param 0 le_rfl zero_le_one
    refine ⟨L, ?_⟩
    rw [hL, inv_witness_bottom]
    have hc1 : CubicRoots.cbrt (1 + 7 * 0) = 1 := by
      have := CubicRoots.cube_inj (CubicRoots.cbrt_cube ((1:ℝ) ^ 3)); simpa using this
    rw [hc1]
    norm_num
  · have := h.unique hd
    norm_num at this

/-- **FINDING, at every INTERIOR input**: for every `y ∈ (0,1)` the output tangent the dual run returns with the tangent
    seeded on `udl` (`cubicSpline_dual_inv_witness_param`) is NOT the derivative of the real program's output with respect
    to `udl`.  (Differentiate `a(θ) x³ + b(θ) x² + c(θ) x = y`, valid near `θ₀ = −log 6` where no fallback is taken: the
    returned tangent leaves the residual `144·cbrt(1+7y)/49 ≠ 0`.) -/
theorem dual_param_gradient_wrong_interior (y : ℝ) (h0 : 0 < y) (h1 : y < 1) :
    ¬ HasDerivAt (fun θ : ℝ => inv eI cNV [0] [0] θ (Real.log (4/3)) y)
        ((54/7 - 18*y) * CubicRoots.cbrt (1 + 7*y) / (3 * (1 + 7*y)) + 30/7) (-Real.log 6) := by
  intro hG
  have hGθ0 := inv_witness y h0.le h1.le
  have hu1 : 1 ≤ CubicRoots.cbrt (1 + 7*y) := by linarith [(cbrt_witness_bounds y h0.le h1.le).1]
  have hu3 : CubicRoots.cbrt (1 + 7*y) ^ 3 = 1 + 7*y := CubicRoots.cbrt_cube _
  obtain ⟨u, hu⟩ : ∃ u, u = CubicRoots.cbrt (1 + 7*y) := ⟨_, rfl⟩
  rw [← hu] at hG hGθ0 hu1 hu3
  obtain ⟨T, hT⟩ : ∃ T, T = (54/7 - 18*y) * u / (3 * (1 + 7*y)) + 30/7 := ⟨_, rfl⟩
  rw [← hT] at hG
  have hune : u ≠ 0 := (zero_lt_one.trans_le hu1).ne'
  have hTu : T * (7 * u^2) = 24 - 6 * u^3 + 30 * u^2 := by
    have hT' : (T - 30/7) * (3 * (1 + 7*y)) = (54/7 - 18*y) * u := by
      rw [hT, add_sub_cancel_right, div_mul_cancel₀ _ (mul_pos three_pos (by linarith only [h0])).ne']
    refine mul_left_cancel₀ (mul_ne_zero three_ne_zero hune) ?_
    linear_combination 7 * hT' + (21 * T - 90 + 18 * u) * hu3
  -- the sigmoid and its derivative at `θ₀`
  have hsv : D[eI].sigmoid (-Real.log 6, 1) = (1/7, 6/49) := by
    unfold XOps.sigmoid
    simp only [d_div, d_add, d_one, d_exp, d_neg, neg_neg, Real.exp_log (show (0:ℝ) < 6 by norm_num)]
    pair_ring
  have hsD := IsDual.sigmoid eI (IsDual.id (-Real.log 6))
  rw [hsv] at hsD
  have hs0 : (NF.realX eI).sigmoid (-Real.log 6) = 1/7 := sigmoid_neg_log6
  obtain ⟨G, hGd⟩ : ∃ G : ℝ → ℝ, ∀ θ, G θ = inv eI cNV [0] [0] θ (Real.log (4/3)) y := ⟨_, fun _ => rfl⟩
  obtain ⟨s, hsd⟩ : ∃ s : ℝ → ℝ, ∀ θ, s θ = (NF.realX eI).sigmoid θ := ⟨_, fun _ => rfl⟩
  have hG' : HasDerivAt G T (-Real.log 6) := by
    have : G = fun θ => inv eI cNV [0] [0] θ (Real.log (4/3)) y := funext hGd
    rw [this]; exact hG
  have hs' : HasDerivAt s (6/49) (-Real.log 6) := by
    have : s = fun θ => (NF.realX eI).sigmoid θ := funext hsd
    rw [this]; exact hsD.2
  have hev : ∀ᶠ θ in 𝓝 (-Real.log 6), (1:ℝ)/10 < s θ :=
    hs'.continuousAt.eventually (lt_mem_nhds (by rw [hsd, hs0]; norm_num))
  -- the coefficients of the bin for a general `udl = θ`
  have hdv0 : ∀ θ, dv eI cNV [0] [0] θ (Real.log (4/3)) 0 = s θ * 3 := fun θ => by
    rw [dv_end_left, ex1_sv, hsd]; ring
  have hdv1 : ∀ θ, dv eI cNV [0] [0] θ (Real.log (4/3)) 1 = 12/7 := fun θ => by
    have := dv_end_right (udl := θ) (udr := Real.log (4/3)) valid_example1
    simp only [List.length_cons, List.length_nil, zero_add, Nat.sub_self] at this
    rw [this, ex1_sv, sigmoid_log43]; norm_num
  have haK : ∀ θ, aK eI cNV [0] [0] θ (Real.log (4/3)) 0 = 3 * s θ - 2/7 := fun θ => by
    unfold aK; rw [zero_add, hdv0, hdv1, ex1_sv, ex1_wv]; ring
  have hbK : ∀ θ, bK eI cNV [0] [0] θ (Real.log (4/3)) 0 = 9/7 - 6 * s θ := fun θ => by
    unfold bK; rw [zero_add, hdv0, hdv1, ex1_sv, ex1_wv]; ring
  -- near `θ₀` the program's output solves the bin's cubic exactly
  have hP : (fun θ => (3 * s θ - 2/7) * G θ ^ 3 + (9/7 - 6 * s θ) * G θ ^ 2 + 3 * s θ * G θ) =ᶠ[𝓝 (-Real.log 6)]
      fun _ => y := by
    filter_upwards [hev] with θ hθ
    have hidx := witness_idx y h0.le h1.le
    have hfb : fallback (NF.realX eI) cNV (aK eI cNV [0] [0] θ (Real.log (4/3)) 0) (cws eI cNV [0] 0)
        (cws eI cNV [0] (0+1)) (CubicWhole.hv eI cNV [0] 0) = false := by
      rw [fallback_eq, haK, cws_zero valid_example1, zero_add, witness_cws1, ex1_hv, ex_thr, decide_eq_false_iff_not,
        not_lt, abs_of_pos (by linarith only [hθ])]
      linarith only [hθ]
    have hex : ExactBin eI cNV [0] [0] θ (Real.log (4/3)) (idxH eI cNV [0] (yn eI cNV y)) := by
      rw [hidx]; exact Or.inl hfb
    have hyb : eI cNV.box.bottom ≤ y := by rw [ex_bottom]; exact h0.le
    have hyt : y ≤ eI cNV.box.top := by rw [ex_top]; exact h1.le
    obtain ⟨ht0, ht1⟩ := yn_unit valid_example1 y hyb hyt
    have hspec := (rootN_spec valid_example1 consts_example (yn eI cNV y) ht0 ht1 hex).1
    have hinv := inv_eq_root (udl := θ) (udr := Real.log (4/3)) valid_example1 y hyb hyt
    rw [ex_right, ex_left, ← hGd] at hinv
    have hr : rootN eI cNV [0] [0] θ (Real.log (4/3)) (yn eI cNV y) = G θ := by rw [hinv]; ring
    rw [hidx, binN_poly, haK, hbK, hdv0, chs_zero valid_example1, cws_zero valid_example1, hr, witness_yn] at hspec
    show (3 * s θ - 2/7) * G θ ^ 3 + (9/7 - 6 * s θ) * G θ ^ 2 + 3 * s θ * G θ = y
    linear_combination hspec
  -- differentiate
  have hsum := ((((hs'.const_mul 3).sub_const (2/7)).mul (hG'.pow 3)).add
    (((hs'.const_mul 6).const_sub (9/7)).mul (hG'.pow 2))).add ((hs'.const_mul 3).mul hG')
  have key := hsum.unique ((hasDerivAt_const (-Real.log 6) y).congr_of_eventuallyEq hP)
  rw [Pi.pow_apply, Pi.pow_apply, hsd, hs0, hGd, hGθ0] at key
  -- the implicit-function equation leaves the residual `144 u / 49`
  have : 144 * u / 49 = 0 := by linear_combination key - (3/49) * hTu
  linarith only [this, hu1]

end
end DualXCubicInv
