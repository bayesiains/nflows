import Mathlib.Tactic
import NflowsModel.Core.Multiscale
import NflowsModel.Lemmas.WrappersExec
/-!
# Lemmas/MultiscaleExec — helper lemmas about the EXECUTABLE multiscale model of `Core/Multiscale.lean`
(block walks on row-major data, shapes `pre ++ n :: suf`, chunk/cat, the stage loops)
-/
namespace NF.Wrap

variable {α : Type}

/-! ### blocks -/

theorem length_drop_block {l : List α} {m k : Nat} (h : l.length = (m + 1) * k) : (l.drop k).length = m * k := by
  rw [List.length_drop, h, Nat.succ_mul, Nat.add_sub_cancel]

theorem length_take_block {l : List α} {m k : Nat} (h : l.length = (m + 1) * k) : (l.take k).length = k := by
  rw [List.length_take, h, Nat.succ_mul]
  exact Nat.min_eq_left (Nat.le_add_left _ _)

theorem splitBlocks_length (blk k : Nat) (hk : k ≤ blk) : ∀ (m : Nat) (l : List α), l.length = m * blk →
    (splitBlocks blk k m l).1.length = m * k ∧ (splitBlocks blk k m l).2.length = m * (blk - k)
  | 0, l, _ => by simp [splitBlocks]
  | m + 1, l, hl => by
    obtain ⟨h1, h2⟩ := splitBlocks_length blk k hk m (l.drop blk) (length_drop_block hl)
    simp only [splitBlocks, List.length_append, List.length_take, List.length_drop, length_take_block hl, h1, h2,
      Nat.succ_mul, Nat.min_eq_left hk]
    omega

theorem merge_split (blk k : Nat) (hk : k ≤ blk) : ∀ (m : Nat) (l : List α), l.length = m * blk →
    mergeBlocks k (blk - k) m (splitBlocks blk k m l).1 (splitBlocks blk k m l).2 = l
  | 0, l, hl => by
    rw [Nat.zero_mul] at hl
    rw [List.eq_nil_of_length_eq_zero hl]
    rfl
  | m + 1, l, hl => by
    have hb := length_take_block hl
    have hA : ((l.take blk).take k).length = k := by rw [List.length_take, hb, Nat.min_eq_left hk]
    have hB : ((l.take blk).drop k).length = blk - k := by rw [List.length_drop, hb]
    simp only [splitBlocks, mergeBlocks]
    rw [List.take_left' hA, List.drop_left' hA, List.take_left' hB, List.drop_left' hB,
      merge_split blk k hk m (l.drop blk) (length_drop_block hl), ← List.append_assoc, List.take_append_drop,
      List.take_append_drop]

theorem split_merge (ka kb : Nat) : ∀ (m : Nat) (a b : List α), a.length = m * ka → b.length = m * kb →
    splitBlocks (ka + kb) ka m (mergeBlocks ka kb m a b) = (a, b)
  | 0, a, b, ha, hb => by
    rw [Nat.zero_mul] at ha hb
    rw [List.eq_nil_of_length_eq_zero ha, List.eq_nil_of_length_eq_zero hb]
    rfl
  | m + 1, a, b, ha, hb => by
    have hA := length_take_block ha
    have hB := length_take_block hb
    have hAB : (a.take ka ++ b.take kb).length = ka + kb := by rw [List.length_append, hA, hB]
    simp only [splitBlocks, mergeBlocks]
    rw [← List.append_assoc, List.take_left' hAB, List.drop_left' hAB, List.take_left' hA, List.drop_left' hA,
      split_merge ka kb m (a.drop ka) (b.drop kb) (length_drop_block ha) (length_drop_block hb),
      List.take_append_drop, List.take_append_drop]

theorem mergeBlocks_length (ka kb : Nat) : ∀ (m : Nat) (a b : List α), a.length = m * ka → b.length = m * kb →
    (mergeBlocks ka kb m a b).length = m * (ka + kb)
  | 0, a, b, _, _ => by rw [mergeBlocks, Nat.zero_mul]; rfl
  | m + 1, a, b, ha, hb => by
    rw [mergeBlocks, List.length_append, List.length_append, length_take_block ha, length_take_block hb,
      mergeBlocks_length ka kb m (a.drop ka) (b.drop kb) (length_drop_block ha) (length_drop_block hb),
      Nat.succ_mul]
    omega

theorem splitBlocks_perm (blk k : Nat) : ∀ (m : Nat) (l : List α), l.length = m * blk →
    ((splitBlocks blk k m l).1 ++ (splitBlocks blk k m l).2).Perm l
  | 0, l, hl => by
    have : l = [] := List.eq_nil_of_length_eq_zero (by simpa using hl)
    simp [splitBlocks, this]
  | m + 1, l, hl => by
    have ih := splitBlocks_perm blk k m (l.drop blk) (length_drop_block hl)
    simp only [splitBlocks]
    have h1 : (((l.take blk).take k ++ (splitBlocks blk k m (l.drop blk)).1) ++
        ((l.take blk).drop k ++ (splitBlocks blk k m (l.drop blk)).2)).Perm
        (((l.take blk).take k ++ (l.take blk).drop k) ++
          ((splitBlocks blk k m (l.drop blk)).1 ++ (splitBlocks blk k m (l.drop blk)).2)) := by
      rw [List.append_assoc, List.append_assoc]
      exact List.Perm.append_left _ (List.perm_append_comm_assoc _ _ _)
    refine h1.trans ?_
    rw [List.take_append_drop]
    have := List.Perm.append_left (l.take blk) ih
    rwa [List.take_append_drop] at this

theorem splitBlocks_map {β : Type} (g : α → β) (blk k : Nat) : ∀ (m : Nat) (l : List α),
    splitBlocks blk k m (l.map g) = ((splitBlocks blk k m l).1.map g, (splitBlocks blk k m l).2.map g)
  | 0, l => by simp [splitBlocks]
  | m + 1, l => by
    simp only [splitBlocks, ← List.map_drop, ← List.map_take, splitBlocks_map g blk k m, List.map_append]

/-! ### shapes `pre ++ n :: suf` (split dimension = `pre.length`) -/

theorem prod_append (a b : List Nat) : prod (a ++ b) = prod a * prod b := by
  induction a with
  | nil => simp [prod]
  | cons x a ih => simp [prod, ih, Nat.mul_assoc]

theorem prod_mid (pre suf : List Nat) (n : Nat) : prod (pre ++ n :: suf) = prod pre * (n * prod suf) := by
  rw [prod_append]; rfl

theorem getElem?_mid (pre suf : List Nat) (n : Nat) : (pre ++ n :: suf)[pre.length]? = some n := by simp
theorem getD_mid (pre suf : List Nat) (n : Nat) : (pre ++ n :: suf).getD pre.length 0 = n := by simp
theorem take_mid (pre suf : List Nat) (n : Nat) : (pre ++ n :: suf).take pre.length = pre := by simp
theorem drop_mid (pre suf : List Nat) (n : Nat) : (pre ++ n :: suf).drop (pre.length + 1) = suf := by simp
theorem set_mid (pre suf : List Nat) (n v : Nat) : (pre ++ n :: suf).set pre.length v = pre ++ v :: suf := by simp

def WF (x : Item α) : Prop := x.data.length = prod x.shape

theorem half_le (n : Nat) : (n + 1) / 2 ≤ n := by omega
theorem sub_half (n : Nat) : n - (n + 1) / 2 = n / 2 := by omega
theorem half_add (n : Nat) : (n + 1) / 2 + n / 2 = n := by omega

theorem chunk2_mid (pre suf : List Nat) (n : Nat) (hn : n ≠ 1) (data : List α) :
    chunk2 pre.length ⟨pre ++ n :: suf, data⟩ =
      .ok (⟨pre ++ ((n + 1) / 2) :: suf, (splitBlocks (n * prod suf) ((n + 1) / 2 * prod suf) (prod pre) data).1⟩,
           ⟨pre ++ (n / 2) :: suf, (splitBlocks (n * prod suf) ((n + 1) / 2 * prod suf) (prod pre) data).2⟩) := by
  simp only [chunk2, getElem?_mid, if_neg hn, drop_mid, take_mid, set_mid, sub_half]

theorem chunk2_one (pre suf : List Nat) (data : List α) :
    chunk2 pre.length ⟨pre ++ 1 :: suf, data⟩ = .error .valueError := by
  simp [chunk2]

theorem cat2_mid (pre suf : List Nat) (na nb : Nat) (da db : List α) :
    cat2 pre.length ⟨pre ++ na :: suf, da⟩ ⟨pre ++ nb :: suf, db⟩ =
      .ok ⟨pre ++ (na + nb) :: suf, mergeBlocks (na * prod suf) (nb * prod suf) (prod pre) da db⟩ := by
  simp only [cat2, getElem?_mid, drop_mid, take_mid, set_mid, and_self, if_true]

theorem half_mul_le (n p : Nat) : (n + 1) / 2 * p ≤ n * p ∨ n = 0 :=
  Or.inl (Nat.mul_le_mul_right p (half_le n))

theorem sub_half_mul (n p : Nat) : n * p - (n + 1) / 2 * p = n / 2 * p := by
  rw [← Nat.sub_mul, sub_half]

theorem half_add_mul (n p : Nat) : (n + 1) / 2 * p + n / 2 * p = n * p := by
  rw [← Nat.add_mul, half_add]

theorem splitBlocks_half_length (P n I : Nat) (l : List α) (hl : l.length = P * (n * I)) :
    (splitBlocks (n * I) ((n + 1) / 2 * I) P l).1.length = P * ((n + 1) / 2 * I) ∧
    (splitBlocks (n * I) ((n + 1) / 2 * I) P l).2.length = P * (n / 2 * I) := by
  have := splitBlocks_length (n * I) ((n + 1) / 2 * I) (Nat.mul_le_mul_right _ (half_le n)) P l hl
  rwa [sub_half_mul] at this

theorem chunk2_wf (pre suf : List Nat) (n : Nat) (data : List α) (hwf : data.length = prod (pre ++ n :: suf)) :
    let s := splitBlocks (n * prod suf) ((n + 1) / 2 * prod suf) (prod pre) data
    s.1.length = prod (pre ++ ((n + 1) / 2) :: suf) ∧ s.2.length = prod (pre ++ (n / 2) :: suf) := by
  simpa [prod_mid] using splitBlocks_half_length (prod pre) n (prod suf) data (by rw [hwf, prod_mid])

theorem cat2_chunk2 (pre suf : List Nat) (n : Nat) (data : List α) (hwf : data.length = prod (pre ++ n :: suf)) :
    let s := splitBlocks (n * prod suf) ((n + 1) / 2 * prod suf) (prod pre) data
    cat2 pre.length ⟨pre ++ ((n + 1) / 2) :: suf, s.1⟩ ⟨pre ++ (n / 2) :: suf, s.2⟩ = .ok ⟨pre ++ n :: suf, data⟩ := by
  intro s
  have hk : (n + 1) / 2 * prod suf ≤ n * prod suf := Nat.mul_le_mul_right _ (half_le n)
  have hm := merge_split (n * prod suf) ((n + 1) / 2 * prod suf) hk (prod pre) data (by rw [hwf, prod_mid])
  rw [sub_half_mul] at hm
  rw [cat2_mid, half_add]
  simp only [s, hm]

theorem chunk2_cat2 (pre suf : List Nat) (n : Nat) (hn : n ≠ 1) (da db : List α)
    (ha : da.length = prod (pre ++ ((n + 1) / 2) :: suf)) (hb : db.length = prod (pre ++ (n / 2) :: suf)) :
    chunk2 pre.length ⟨pre ++ n :: suf, mergeBlocks ((n + 1) / 2 * prod suf) (n / 2 * prod suf) (prod pre) da db⟩ =
      .ok (⟨pre ++ ((n + 1) / 2) :: suf, da⟩, ⟨pre ++ (n / 2) :: suf, db⟩) := by
  rw [chunk2_mid pre suf n hn]
  have h := split_merge ((n + 1) / 2 * prod suf) (n / 2 * prod suf) (prod pre) da db
    (by rw [ha, prod_mid]) (by rw [hb, prod_mid])
  rw [half_add_mul] at h
  rw [h]

/-! ### the stage loops -/
variable {C L : Type}

def shiftOut (A : LD L) (acc : List α) (l : L) : Except Err (List α × L) → Except Err (List α × L)
  | .error e => .error e
  | .ok r => .ok (acc ++ r.1, A.add l r.2)

@[simp] theorem shiftOut_ok (A : LD L) (acc : List α) (l : L) (r : List α × L) :
    shiftOut A acc l (.ok r) = .ok (acc ++ r.1, A.add l r.2) := rfl
@[simp] theorem shiftOut_error (A : LD L) (acc : List α) (l : L) (e : Err) :
    shiftOut A acc l (.error e : Except Err (List α × L)) = .error e := rfl

/-- the accumulators `all_outputs` / `total_logabsdet` only prepend -/
theorem fwdStages_acc (A : LD L) (hA : A.Lawful) (d : Nat) :
    ∀ (ts : List (Tr (Item α) C L)) (shs : List (List Nat)) (h : Item α) (acc : List α) (l : L) (c : C),
      fwdStages A d ts shs h acc l c = shiftOut A acc l (fwdStages A d ts shs h [] A.zero c)
  | [], _, _, _, _, _ => by simp [fwdStages]
  | [t], shs, h, acc, l, c => by
    simp only [fwdStages]
    rcases t.fwd h c with e | ⟨y, ld⟩
    · simp
    · simp [hA.zero_add]
  | t :: t' :: ts, shs, h, acc, l, c => by
    simp only [fwdStages]
    rcases t.fwd h c with e | ⟨y, ld⟩
    · simp
    · simp only []
      rcases chunk2 d y with e | ⟨o, h'⟩
      · simp
      · simp only []
        split
        · simp
        · rw [fwdStages_acc A hA d (t' :: ts) shs.tail h' (acc ++ o.data) (A.add l ld) c,
            fwdStages_acc A hA d (t' :: ts) shs.tail h' ([] ++ o.data) (A.add A.zero ld) c]
          rcases fwdStages A d (t' :: ts) shs.tail h' [] A.zero c with e | ⟨flat, l'⟩
          · simp
          · simp [hA.zero_add, hA.add_assoc]

/-- **forward, unrolled by one stage**: the output is the flattened first chunk of the first stage's output followed
    by the output of the remaining stages on the second chunk; log-dets add up. -/
theorem fwdStages_cons (A : LD L) (hA : A.Lawful) (d : Nat) (t t' : Tr (Item α) C L) (ts : List (Tr (Item α) C L))
    (sh : List Nat) (shs : List (List Nat)) (h : Item α) (c : C) :
    fwdStages A d (t :: t' :: ts) (sh :: shs) h [] A.zero c =
      match t.fwd h c with
      | .error e => .error e
      | .ok (y, ld) =>
        match chunk2 d y with
        | .error e => .error e
        | .ok (o, h') =>
          if sh ≠ o.shape then .error .assertion
          else shiftOut A o.data ld (fwdStages A d (t' :: ts) shs h' [] A.zero c) := by
  simp only [fwdStages]
  rcases t.fwd h c with e | ⟨y, ld⟩
  · rfl
  · simp only []
    rcases chunk2 d y with e | ⟨o, h'⟩
    · rfl
    · simp only [List.head?_cons, List.tail_cons, ne_eq, Option.some.injEq, List.nil_append]
      split
      · rfl
      · rw [fwdStages_acc A hA, hA.zero_add]

theorem fwdStages_single (A : LD L) (hA : A.Lawful) (d : Nat) (t : Tr (Item α) C L) (shs : List (List Nat))
    (h : Item α) (c : C) :
    fwdStages A d [t] shs h [] A.zero c =
      match t.fwd h c with
      | .error e => .error e
      | .ok (y, ld) => .ok (y.data, ld) := by
  simp only [fwdStages]
  rcases t.fwd h c with e | ⟨y, ld⟩
  · rfl
  · simp [hA.zero_add]

/-! ### the shapes `add_transform` records -/

/-- recorded `_output_shapes` for `k` stages on a split dimension of size `n` -/
def outShapes (pre suf : List Nat) : Nat → Nat → List (List Nat)
  | 0, _ => []
  | 1, n => [pre ++ n :: suf]
  | k + 2, n => (pre ++ ((n + 1) / 2) :: suf) :: outShapes pre suf (k + 1) (n / 2)

theorem outShapes_length (pre suf : List Nat) : ∀ (k n : Nat), (outShapes pre suf k n).length = k
  | 0, _ => rfl
  | 1, _ => rfl
  | k + 2, n => by simp [outShapes, outShapes_length pre suf (k + 1) (n / 2)]

theorem two_le_of_pow_le {k n : Nat} (h : 2 ^ (k + 1) ≤ n) : 2 ≤ n :=
  le_trans (by have := Nat.one_le_two_pow (n := k); omega) h

theorem pow_le_half {k n : Nat} (h : 2 ^ (k + 1) ≤ n) : 2 ^ k ≤ n / 2 := by
  rw [Nat.le_div_iff_mul_le (by norm_num)]; rw [pow_succ] at h; exact h

/-- what a successful `add_transform` returns -/
def MS.added (m : MS α C L) (t : Tr (Item α) C L) (shape : List Nat) : MS α C L × Option (List Nat) :=
  let d := m.splitDim - 1
  let n := shape.getD d 0
  if (m.transforms.length : Int) + 1 = m.numTransforms then
    ({ m with transforms := m.transforms ++ [t], outputShapes := m.outputShapes ++ [shape] }, none)
  else
    ({ m with transforms := m.transforms ++ [t], outputShapes := m.outputShapes ++ [shape.set d ((n + 1) / 2)] },
      some (shape.set d (n / 2)))

/-- `add_transform` in one equation: the four refusals in the order of the code, else `MS.added` -/
theorem addTransform_eq (m : MS α C L) (t : Tr (Item α) C L) (shape : List Nat) :
    m.addTransform t shape =
      if m.numTransforms < m.transforms.length then .error .assertion
      else if (m.transforms.length : Int) = m.numTransforms then .error .runtime
      else if shape.length ≤ m.splitDim - 1 then .error .valueError
      else if shape.getD (m.splitDim - 1) 0 < 2 then .error .valueError
      else .ok (m.added t shape) := by
  unfold MS.addTransform MS.added
  simp only [Int.not_le, ge_iff_le, List.length_append, List.length_singleton, Nat.cast_add, Nat.cast_one, ne_eq,
    ite_not, apply_ite (Except.ok (ε := Err))]

theorem addTransform_errors (m : MS α C L) (t : Tr (Item α) C L) (shape : List Nat) :
    (m.numTransforms < m.transforms.length → m.addTransform t shape = .error .assertion) ∧
    (m.numTransforms = m.transforms.length → m.addTransform t shape = .error .runtime) ∧
    ((m.transforms.length : Int) < m.numTransforms → shape.length ≤ m.splitDim - 1 →
      m.addTransform t shape = .error .valueError) ∧
    ((m.transforms.length : Int) < m.numTransforms → m.splitDim - 1 < shape.length →
      shape.getD (m.splitDim - 1) 0 < 2 → m.addTransform t shape = .error .valueError) := by
  rw [addTransform_eq]
  refine ⟨fun h => if_pos h, fun h => ?_, fun h h' => ?_, fun h h' h'' => ?_⟩
  · rw [if_neg (Int.not_lt.mpr h.ge), if_pos h.symm]
  · rw [if_neg (Int.not_lt.mpr h.le), if_neg h.ne, if_pos h']
  · rw [if_neg (Int.not_lt.mpr h.le), if_neg h.ne, if_neg (Nat.not_le.mpr h'), if_pos h'']

theorem addTransform_ok_iff (m m' : MS α C L) (t : Tr (Item α) C L) (shape : List Nat) (r : Option (List Nat)) :
    m.addTransform t shape = .ok (m', r) ↔
      ((m.transforms.length : Int) < m.numTransforms ∧ m.splitDim - 1 < shape.length ∧
        2 ≤ shape.getD (m.splitDim - 1) 0) ∧ m.added t shape = (m', r) := by
  rw [addTransform_eq]
  by_cases h0 : m.numTransforms < m.transforms.length
  · rw [if_pos h0]; exact ⟨nofun, fun h => absurd h.1.1 h0.asymm⟩
  by_cases h1 : (m.transforms.length : Int) = m.numTransforms
  · rw [if_neg h0, if_pos h1]; exact ⟨nofun, fun h => absurd h1 h.1.1.ne⟩
  by_cases h2 : shape.length ≤ m.splitDim - 1
  · rw [if_neg h0, if_neg h1, if_pos h2]; exact ⟨nofun, fun h => absurd h2 (Nat.not_le.mpr h.1.2.1)⟩
  by_cases h3 : shape.getD (m.splitDim - 1) 0 < 2
  · rw [if_neg h0, if_neg h1, if_neg h2, if_pos h3]; exact ⟨nofun, fun h => absurd h3 (Nat.not_lt.mpr h.1.2.2)⟩
  rw [if_neg h0, if_neg h1, if_neg h2, if_neg h3]
  exact ⟨fun h => ⟨⟨lt_of_le_of_ne (Int.not_lt.mp h0) h1, Nat.lt_of_not_le h2, Nat.le_of_not_lt h3⟩, Except.ok.inj h⟩,
    fun h => congrArg Except.ok h.2⟩

theorem addTransform_ok_fst {m m' : MS α C L} {t : Tr (Item α) C L} {shape : List Nat} {r : Option (List Nat)}
    (h : m.addTransform t shape = .ok (m', r)) :
    ∃ s, m' = { m with transforms := m.transforms ++ [t], outputShapes := m.outputShapes ++ [s] } := by
  have h := ((addTransform_ok_iff m m' t shape r).mp h).2
  unfold MS.added at h
  split at h <;> exact ⟨_, (Prod.mk.inj h).1.symm⟩

theorem addTransform_shapes (m : MS α C L) (t : Tr (Item α) C L) (pre suf : List Nat) (n : Nat)
    (hsd : m.splitDim = pre.length + 1) (hn : 2 ≤ n) (hroom : (m.transforms.length : Int) < m.numTransforms) :
    m.addTransform t (pre ++ n :: suf) =
      if (m.transforms.length : Int) + 1 ≠ m.numTransforms then
        .ok ({ m with transforms := m.transforms ++ [t],
                      outputShapes := m.outputShapes ++ [pre ++ ((n + 1) / 2) :: suf] },
             some (pre ++ (n / 2) :: suf))
      else
        .ok ({ m with transforms := m.transforms ++ [t], outputShapes := m.outputShapes ++ [pre ++ n :: suf] }, none) := by
  have hd : m.splitDim - 1 = pre.length := by rw [hsd, Nat.add_sub_cancel]
  rw [addTransform_eq, if_neg (Int.not_lt.mpr hroom.le), if_neg hroom.ne, hd, getD_mid,
    if_neg (by rw [List.length_append, List.length_cons]; omega), if_neg (Nat.not_lt.mpr hn), MS.added, hd]
  simp only [getD_mid, set_mid, ne_eq, ite_not]
  split <;> rfl

/-- one `add_transform` call on a declared shape `pre ++ n :: suf` with `j + 1` stages still to be added -/
theorem addTransform_mid (m : MS α C L) (t : Tr (Item α) C L) (pre suf : List Nat) (n j : Nat)
    (hsd : m.splitDim = pre.length + 1)
    (hnum : m.numTransforms = ((m.transforms.length + (j + 1) : Nat) : Int)) :
    m.addTransform t (pre ++ n :: suf) =
      if n < 2 then .error .valueError
      else if j = 0 then
        .ok ({ m with transforms := m.transforms ++ [t], outputShapes := m.outputShapes ++ [pre ++ n :: suf] }, none)
      else
        .ok ({ m with transforms := m.transforms ++ [t],
                      outputShapes := m.outputShapes ++ [pre ++ ((n + 1) / 2) :: suf] },
             some (pre ++ (n / 2) :: suf)) := by
  have hroom : (m.transforms.length : Int) < m.numTransforms := by rw [hnum]; omega
  by_cases hn : n < 2
  · rw [if_pos hn]
    refine (addTransform_errors m t _).2.2.2 hroom ?_ ?_
    · rw [hsd, List.length_append, List.length_cons]; omega
    · rw [hsd, Nat.add_sub_cancel, getD_mid]; exact hn
  · have hj : (m.transforms.length : Int) + 1 ≠ m.numTransforms ↔ ¬ j = 0 := by rw [hnum]; omega
    rw [if_neg hn, addTransform_shapes m t pre suf n hsd (Nat.le_of_not_lt hn) hroom]
    simp only [hj, ite_not]

/-- the documented chain of `add_transform` calls succeeds when the split dimension can be halved often enough,
    and records `outShapes`; otherwise it is refused with `ValueError` ("Size of dimension must be at least 2") -/
theorem addChain_eq (pre suf : List Nat) :
    ∀ (ts : List (Tr (Item α) C L)) (m0 : MS α C L) (n : Nat), ts ≠ [] → m0.splitDim = pre.length + 1 →
      m0.numTransforms = ((m0.transforms.length + ts.length : Nat) : Int) →
      addChain m0 ts (some (pre ++ n :: suf)) =
        if 2 ^ ts.length ≤ n then
          .ok { m0 with transforms := m0.transforms ++ ts,
                        outputShapes := m0.outputShapes ++ outShapes pre suf ts.length n }
        else .error .valueError
  | [], _, _, h, _, _ => absurd rfl h
  | [t], m0, n, _, hsd, hnum => by
    rw [addChain, addTransform_mid m0 t pre suf n 0 hsd hnum]
    by_cases h : n < 2
    · rw [if_pos h, if_neg (by rw [List.length_singleton, pow_one]; exact Nat.not_le.mpr h)]
    · rw [if_neg h, if_pos rfl, if_pos (by rw [List.length_singleton, pow_one]; exact Nat.le_of_not_lt h)]; rfl
  | t :: t' :: ts, m0, n, _, hsd, hnum => by
    have hiff : 2 ^ (ts.length + 1) ≤ n / 2 ↔ 2 ^ (ts.length + 1 + 1) ≤ n := by
      rw [Nat.le_div_iff_mul_le two_pos, ← pow_succ]
    rw [addChain, addTransform_mid m0 t pre suf n (ts.length + 1) hsd hnum]
    by_cases h : n < 2
    · have h' : ¬ 2 ^ (t :: t' :: ts).length ≤ n := fun hle =>
        Nat.not_le.mpr h (two_le_of_pow_le (k := ts.length + 1) hle)
      rw [if_pos h, if_neg h']
    · rw [if_neg h, if_neg (Nat.succ_ne_zero _)]
      refine (addChain_eq pre suf (t' :: ts) _ (n / 2) (List.cons_ne_nil _ _) (by exact hsd) ?_).trans ?_
      · show m0.numTransforms = (((m0.transforms ++ [t]).length + (t' :: ts).length : Nat) : Int)
        rw [hnum, List.length_append, List.length_cons, List.length_cons, List.length_singleton]; omega
      · simp only [hiff, outShapes, List.length_cons, List.append_assoc, List.singleton_append]
/-! ### round trips -/
section roundtrip
variable {G : Type} [AddCommGroup G]

def StageOK (t : Tr (Item α) C G) (S : List Nat) : Prop :=
  ∀ x c, x.shape = S → WF x → ∃ y l, t.fwd x c = .ok (y, l) ∧ y.shape = S ∧ WF y ∧ t.inv y c = .ok (x, -l)

def StagesOK (pre suf : List Nat) : List (Tr (Item α) C G) → Nat → Prop
  | [], _ => True
  | t :: ts, n => StageOK t (pre ++ n :: suf) ∧ StagesOK pre suf ts (n / 2)

theorem item_eta (y : Item α) (S : List Nat) (h : y.shape = S) : (⟨S, y.data⟩ : Item α) = y := by
  cases y; simp_all

theorem prod_halves (pre suf : List Nat) (n : Nat) :
    prod (pre ++ ((n + 1) / 2) :: suf) + prod (pre ++ (n / 2) :: suf) = prod (pre ++ n :: suf) := by
  simp only [prod_mid]
  rw [← Nat.mul_add, half_add_mul]

theorem fwd_then_inv (pre suf : List Nat) (c : C) :
    ∀ (ts : List (Tr (Item α) C G)) (n : Nat) (x : Item α), ts ≠ [] → StagesOK pre suf ts n →
      2 ^ (ts.length - 1) ≤ n → x.shape = pre ++ n :: suf → WF x →
      ∃ flat l, fwdStages (LD.std G) pre.length ts (outShapes pre suf ts.length n) x [] (LD.std G).zero c = .ok (flat, l) ∧
        flat.length = prod (pre ++ n :: suf) ∧
        ∀ rest, ∃ slices, splitFlat (outShapes pre suf ts.length n) (flat ++ rest) = .ok slices ∧
          invStages (LD.std G) pre.length ts slices c = .ok (x, -l) := by
  intro ts
  induction ts with
  | nil => exact fun _ _ h => absurd rfl h
  | cons t ts ih =>
    intro n x _ hok hn hx hwf
    cases ts with
    | nil =>
      obtain ⟨y, l, hf, hs, hw, hi⟩ := hok.1 x c hx hwf
      have hlen : y.data.length = prod (pre ++ n :: suf) := by rw [← hs]; exact hw
      refine ⟨y.data, l, ?_, hlen, ?_⟩
      · rw [fwdStages_single _ (LD.std_lawful G), hf]
      · intro rest
        refine ⟨[y], ?_, ?_⟩
        · simp [outShapes, splitFlat, List.take_left' hlen, item_eta y _ hs, hlen]
        · simp [invStages, hi]
    | cons t' ts =>
      have hn2 : 2 ^ (ts.length + 1) ≤ n := hn
      have h2 : n ≠ 1 := Nat.ne_of_gt (two_le_of_pow_le hn2)
      obtain ⟨y, l1, hf, hs, hw, hi⟩ := hok.1 x c hx hwf
      obtain ⟨ysh, yd⟩ := y
      simp only at hs; subst hs
      have hyd : yd.length = prod (pre ++ n :: suf) := hw
      obtain ⟨hw1, hw2⟩ := chunk2_wf pre suf n yd hyd
      have ih := ih (n / 2)
        ⟨pre ++ (n / 2) :: suf, (splitBlocks (n * prod suf) ((n + 1) / 2 * prod suf) (prod pre) yd).2⟩
        (List.cons_ne_nil _ _) hok.2 (pow_le_half hn2) rfl hw2
      obtain ⟨flat', l', hf', hlen', hinv'⟩ := ih
      rw [List.length_cons] at hf'
      refine ⟨(splitBlocks (n * prod suf) ((n + 1) / 2 * prod suf) (prod pre) yd).1 ++ flat', l1 + l', ?_, ?_, ?_⟩
      · simp only [List.length_cons, outShapes, fwdStages_cons _ (LD.std_lawful G), hf, chunk2_mid pre suf n h2, ne_eq,
          not_true_eq_false, if_false, hf', shiftOut_ok, LD.std_add]
      · rw [List.length_append, hw1, hlen', prod_halves]
      · intro rest
        obtain ⟨slices', hsp, hiv⟩ := hinv' rest
        refine ⟨⟨pre ++ ((n + 1) / 2) :: suf, (splitBlocks (n * prod suf) ((n + 1) / 2 * prod suf) (prod pre) yd).1⟩ :: slices', ?_, ?_⟩
        · rw [List.length_cons] at hsp
          simp only [List.length_cons, outShapes, splitFlat, List.append_assoc, List.take_left' hw1,
            List.drop_left' hw1, hsp, hw1, ne_eq, not_true_eq_false, if_false]
        · simp only [invStages, hiv, cat2_chunk2 pre suf n yd hyd, hi, LD.std_add, neg_add_rev]

theorem inv_then_fwd (pre suf : List Nat) (c : C) :
    ∀ (ts : List (Tr (Item α) C G)) (n : Nat) (flat : List α), ts ≠ [] → StagesOK pre suf (ts.map inverseTr) n →
      2 ^ (ts.length - 1) ≤ n → flat.length = prod (pre ++ n :: suf) →
      ∃ slices x l, splitFlat (outShapes pre suf ts.length n) flat = .ok slices ∧
        invStages (LD.std G) pre.length ts slices c = .ok (x, l) ∧ x.shape = pre ++ n :: suf ∧ WF x ∧
        fwdStages (LD.std G) pre.length ts (outShapes pre suf ts.length n) x [] (LD.std G).zero c = .ok (flat, -l) := by
  intro ts
  induction ts with
  | nil => exact fun _ _ h => absurd rfl h
  | cons t ts ih =>
    intro n flat _ hok hn hlen
    cases ts with
    | nil =>
      obtain ⟨x, l, hi, hs, hw, hf⟩ := hok.1 ⟨pre ++ n :: suf, flat⟩ c rfl hlen
      simp only [inverseTr] at hi hf
      refine ⟨[⟨pre ++ n :: suf, flat⟩], x, l, ?_, ?_, hs, hw, ?_⟩
      · have : flat.take (prod (pre ++ n :: suf)) = flat := List.take_of_length_le (le_of_eq hlen)
        simp [outShapes, splitFlat, this, hlen]
      · simp [invStages, hi]
      · rw [fwdStages_single _ (LD.std_lawful G), hf]
    | cons t' ts =>
      have hn2 : 2 ^ (ts.length + 1) ≤ n := hn
      have h2 : n ≠ 1 := Nat.ne_of_gt (two_le_of_pow_le hn2)
      have hsum := prod_halves pre suf n
      have ha : (flat.take (prod (pre ++ ((n + 1) / 2) :: suf))).length = prod (pre ++ ((n + 1) / 2) :: suf) := by
        rw [List.length_take, hlen, ← hsum]; exact Nat.min_eq_left (Nat.le_add_right _ _)
      have hb : (flat.drop (prod (pre ++ ((n + 1) / 2) :: suf))).length = prod (pre ++ (n / 2) :: suf) := by
        rw [List.length_drop, hlen, ← hsum, Nat.add_sub_cancel_left]
      have ih := ih (n / 2) (flat.drop (prod (pre ++ ((n + 1) / 2) :: suf)))
        (List.cons_ne_nil _ _) hok.2 (pow_le_half hn2) hb
      obtain ⟨slices', h, l', hsp, hiv, hhs, hhw, hf'⟩ := ih
      rw [List.length_cons] at hsp hf'
      obtain ⟨hsh, hd⟩ := h
      simp only at hhs; subst hhs
      have hhd : hd.length = prod (pre ++ (n / 2) :: suf) := hhw
      have hcat := cat2_mid pre suf ((n + 1) / 2) (n / 2) (flat.take (prod (pre ++ ((n + 1) / 2) :: suf))) hd
      rw [half_add] at hcat
      have hzw : WF (⟨pre ++ n :: suf, mergeBlocks ((n + 1) / 2 * prod suf) (n / 2 * prod suf) (prod pre)
          (flat.take (prod (pre ++ ((n + 1) / 2) :: suf))) hd⟩ : Item α) := by
        show (mergeBlocks _ _ _ _ _).length = prod (pre ++ n :: suf)
        rw [mergeBlocks_length _ _ _ _ _ (by rw [ha, prod_mid]) (by rw [hhd, prod_mid]), half_add_mul, prod_mid]
      obtain ⟨x, l1, hi, hs, hw, hf⟩ := hok.1 _ c rfl hzw
      simp only [inverseTr] at hi hf
      refine ⟨⟨pre ++ ((n + 1) / 2) :: suf, flat.take (prod (pre ++ ((n + 1) / 2) :: suf))⟩ :: slices', x, l' + l1, ?_, ?_, hs, hw, ?_⟩
      · simp only [List.length_cons, outShapes, splitFlat, hsp, ha, ne_eq, not_true_eq_false, if_false]
      · simp only [invStages, hiv, hcat, hi, LD.std_add]
      · simp only [List.length_cons, outShapes, fwdStages_cons _ (LD.std_lawful G), hf,
          chunk2_cat2 pre suf n h2 _ _ ha hhd, ne_eq, not_true_eq_false, if_false, hf', shiftOut_ok, LD.std_add,
          List.take_append_drop, neg_add_rev]

end roundtrip

/-! ### routing -/

theorem routeSegs_map {β : Type} (g : α → β) (outer inner : Nat) : ∀ (k n : Nat) (l : List α),
    routeSegs outer inner k n (l.map g) = (routeSegs outer inner k n l).map (List.map g)
  | 0, _, _ => rfl
  | 1, _, _ => rfl
  | k + 2, n, l => by
    simp only [routeSegs, splitBlocks_map, List.map_cons, routeSegs_map g outer inner (k + 1) (n / 2)]

theorem routeSegs_perm (outer inner : Nat) : ∀ (k n : Nat) (l : List α), 0 < k → l.length = outer * (n * inner) →
    (routeSegs outer inner k n l).flatten.Perm l
  | 1, _, l, _, _ => by simp [routeSegs]
  | k + 2, n, l, _, hl => by
    have ih := routeSegs_perm outer inner (k + 1) (n / 2) _ k.succ_pos (splitBlocks_half_length outer n inner l hl).2
    simp only [routeSegs, List.flatten_cons]
    exact (List.Perm.append_left _ ih).trans (splitBlocks_perm _ _ outer l hl)

theorem sizes_sum_aux (pre suf : List Nat) : ∀ (k n : Nat), 0 < k →
    ((outShapes pre suf k n).map prod).sum = prod (pre ++ n :: suf)
  | 1, n, _ => by simp [outShapes]
  | k + 2, n, _ => by
    simp only [outShapes, List.map_cons, List.sum_cons, sizes_sum_aux pre suf (k + 1) (n / 2) k.succ_pos, prod_halves]

theorem zipWith_prefix (g : α → α) : ∀ (P : List (α → α)) (segs : List (List α)),
    List.zipWith (fun f seg => List.map f seg) (P.map (fun f => f ∘ g)) segs =
      List.zipWith (fun f seg => List.map f seg) P (segs.map (List.map g))
  | [], _ => by simp
  | _ :: _, [] => by simp
  | f :: P, s :: segs => by simp [zipWith_prefix g P segs]

def IsPointwise (t : Tr (Item α) C L) (g : C → α → α) : Prop :=
  ∀ x c, ∃ l, t.fwd x c = .ok (⟨x.shape, x.data.map (g c)⟩, l)

/-- the executed loop with element-wise stages, arbitrary entry accumulators, no law on `A` -/
theorem fwdStages_pointwise_acc (A : LD L) (pre suf : List Nat) (c : C) :
    ∀ (ts : List (Tr (Item α) C L)) (gs : List (C → α → α)) (n : Nat) (data acc : List α) (l0 : L),
      List.Forall₂ IsPointwise ts gs → ts ≠ [] → 2 ^ (ts.length - 1) ≤ n →
      ∃ l, fwdStages A pre.length ts (outShapes pre suf ts.length n) ⟨pre ++ n :: suf, data⟩ acc l0 c =
        .ok (acc ++ (List.zipWith (fun f seg => List.map f seg) (prefixMaps (gs.map (fun g => g c)))
              (routeSegs (prod pre) (prod suf) ts.length n data)).flatten, l) := by
  intro ts
  induction ts with
  | nil => exact fun _ _ _ _ _ _ h => absurd rfl h
  | cons t ts ih =>
    intro gs n data acc l0 hpw _ hn
    cases ts with
    | nil =>
      cases hpw with
      | cons h1 hrest =>
        cases hrest
        obtain ⟨l, hl⟩ := h1 ⟨pre ++ n :: suf, data⟩ c
        refine ⟨A.add l0 l, ?_⟩
        rw [fwdStages, hl]
        simp only [List.length_singleton, routeSegs, List.map_cons, List.map_nil, prefixMaps, List.zipWith_cons_cons,
          List.zipWith_nil_right, List.flatten_cons, List.flatten_nil, List.append_nil]
    | cons t' ts =>
      have hn2 : 2 ^ (ts.length + 1) ≤ n := hn
      have h2 : n ≠ 1 := Nat.ne_of_gt (two_le_of_pow_le hn2)
      cases hpw with
      | @cons _ g _ gs' h1 hrest =>
        obtain ⟨l1, hl1⟩ := h1 ⟨pre ++ n :: suf, data⟩ c
        obtain ⟨l', hl'⟩ := ih gs' (n / 2)
          ((splitBlocks (n * prod suf) ((n + 1) / 2 * prod suf) (prod pre) data).2.map (g c))
          (acc ++ (splitBlocks (n * prod suf) ((n + 1) / 2 * prod suf) (prod pre) data).1.map (g c)) (A.add l0 l1)
          hrest (List.cons_ne_nil _ _) (pow_le_half hn2)
        refine ⟨l', ?_⟩
        rw [List.length_cons] at hl'
        rw [List.length_cons, List.length_cons, outShapes, fwdStages, hl1]
        simp only []
        rw [chunk2_mid pre suf n h2, splitBlocks_map]
        simp only [List.head?_cons, ne_eq, not_true_eq_false, if_false, List.tail_cons]
        rw [hl']
        simp only [routeSegs, List.map_cons, prefixMaps, routeSegs_map, zipWith_prefix, List.zipWith_cons_cons,
          List.flatten_cons, List.append_assoc]

theorem foldl_comp_init (l : List (α → α)) (h : α → α) :
    l.foldl (fun f g => g ∘ f) h = (l.foldl (fun f g => g ∘ f) id) ∘ h := by
  induction l generalizing h with
  | nil => rfl
  | cons g l ih => simp only [List.foldl_cons]; rw [ih (g ∘ h), ih (g ∘ id)]; rfl

theorem prefixMaps_getElem? : ∀ (gs : List (α → α)) (k : Nat), k < gs.length →
    (prefixMaps gs)[k]? = some ((gs.take (k + 1)).foldl (fun f g => g ∘ f) id)
  | [], _, h => by simp at h
  | g :: gs, 0, _ => by simp [prefixMaps]
  | g :: gs, k + 1, h => by
    have ih := prefixMaps_getElem? gs k (by simpa using h)
    simp only [prefixMaps, List.getElem?_cons_succ, List.getElem?_map, ih, Option.map_some, List.take_succ_cons,
      List.foldl_cons]
    rw [foldl_comp_init _ (g ∘ id)]
    rfl

/-! ### building the documented way -/

theorem build_eq (pre suf : List Nat) (ts : List (Tr (Item α) C L)) (n : Nat) (hts : ts ≠ []) :
    MS.build (ts.length : Int) (.int ((pre.length : Int) + 1)) ts (pre ++ n :: suf) =
      if 2 ^ ts.length ≤ n then .ok ⟨ts.length, pre.length + 1, ts, outShapes pre suf ts.length n⟩
      else .error .valueError := by
  have h2 : (0 : Int) < (pre.length : Int) + 1 := Int.lt_add_one_iff.mpr (Int.natCast_nonneg _)
  simp only [MS.build, MS.new, gt_iff_lt, h2, if_true, Int.toNat_natCast_add_one]
  rw [addChain_eq pre suf ts _ n hts rfl (by simp)]
  split <;> simp

theorem build_ok (pre suf : List Nat) (ts : List (Tr (Item α) C L)) (n : Nat) (hts : ts ≠ []) (hn : 2 ^ ts.length ≤ n) :
    MS.build (ts.length : Int) (.int ((pre.length : Int) + 1)) ts (pre ++ n :: suf) =
      .ok ⟨ts.length, pre.length + 1, ts, outShapes pre suf ts.length n⟩ :=
  (build_eq pre suf ts n hts).trans (if_pos hn)

theorem build_small (pre suf : List Nat) (ts : List (Tr (Item α) C L)) (n : Nat) (hts : ts ≠ []) (hn : ¬ 2 ^ ts.length ≤ n) :
    MS.build (ts.length : Int) (.int ((pre.length : Int) + 1)) ts (pre ++ n :: suf) = .error .valueError :=
  (build_eq pre suf ts n hts).trans (if_neg hn)

theorem build_inv (pre suf : List Nat) (ts : List (Tr (Item α) C L)) (n : Nat) (hts : ts ≠ []) {m : MS α C L}
    (hb : MS.build (ts.length : Int) (.int ((pre.length : Int) + 1)) ts (pre ++ n :: suf) = .ok m) :
    2 ^ ts.length ≤ n ∧ m = ⟨ts.length, pre.length + 1, ts, outShapes pre suf ts.length n⟩ := by
  rw [build_eq pre suf ts n hts] at hb
  split at hb
  · exact ⟨‹_›, (Except.ok.inj hb).symm⟩
  · cases hb

/-! ### the built object's `forward` on element-wise stages -/

theorem forward_of_stages (A : LD L) (m : MS α C L) (d : Nat) (x : Item α) (c : C) (flat : List α) (l : L)
    (hsd : m.splitDim = d + 1) (hd : d < x.shape.length) (hnum : m.numTransforms = (m.transforms.length : Int))
    (hf : fwdStages A d m.transforms m.outputShapes x [] A.zero c = .ok (flat, l)) :
    m.forward A x c = .ok (⟨[flat.length], flat⟩, l) := by
  rw [MS.forward, if_neg (by rw [hsd]; exact Nat.not_le.mpr (Nat.succ_lt_succ hd)), if_neg (not_not.mpr hnum), hsd, Nat.add_sub_cancel, hf]

theorem prefixMaps_length : ∀ (gs : List (α → α)), (prefixMaps gs).length = gs.length
  | [] => rfl
  | g :: gs => by simp [prefixMaps, prefixMaps_length gs]

theorem prefixMaps_all_id : ∀ (gs : List (α → α)), (∀ g ∈ gs, g = id) → ∀ f ∈ prefixMaps gs, f = id
  | [], _, f, hf => by simp [prefixMaps] at hf
  | g :: gs, h, f, hf => by
    have hg : g = id := h g List.mem_cons_self
    simp only [prefixMaps, List.mem_cons, List.mem_map] at hf
    rcases hf with rfl | ⟨f', hf', rfl⟩
    · exact hg
    · rw [prefixMaps_all_id gs (fun g' hg' => h g' (List.mem_cons_of_mem _ hg')) f' hf', hg]; rfl

theorem routeSegs_length (outer inner : Nat) : ∀ (k n : Nat) (l : List α), (routeSegs outer inner k n l).length = k
  | 0, _, _ => rfl
  | 1, _, _ => rfl
  | k + 2, n, l => by simp [routeSegs, routeSegs_length outer inner (k + 1) (n / 2)]

theorem zipWith_all_id : ∀ (P : List (α → α)) (segs : List (List α)), (∀ f ∈ P, f = id) → P.length = segs.length →
    List.zipWith (fun f seg => List.map f seg) P segs = segs
  | [], [], _, _ => rfl
  | [], _ :: _, _, h => by simp at h
  | _ :: _, [], _, h => by simp at h
  | f :: P, s :: segs, hP, h => by
    have hf : f = id := hP f List.mem_cons_self
    simp only [List.zipWith_cons_cons, hf, List.map_id]
    rw [zipWith_all_id P segs (fun f' hf' => hP f' (List.mem_cons_of_mem _ hf')) (by simpa using h)]

theorem zipWith_prefixMaps_id (P I : Nat) (gs : List (α → α)) (hgs : ∀ g ∈ gs, g = id) {k : Nat} (hk : gs.length = k)
    (n : Nat) (l : List α) :
    List.zipWith (fun f seg => List.map f seg) (prefixMaps gs) (routeSegs P I k n l) = routeSegs P I k n l :=
  zipWith_all_id _ _ (prefixMaps_all_id gs hgs) (by rw [prefixMaps_length, routeSegs_length, hk])

/-- **executed `forward`, element-wise stages** (no law on the log-det accumulator): an object built the documented way
    returns the routing segments of the input data, segment `k` mapped through `gₖ ∘ … ∘ g₁` -/
theorem forward_pointwise (A : LD L) (pre suf : List Nat) (n : Nat) (ts : List (Tr (Item α) C L))
    (gs : List (C → α → α)) (hpw : List.Forall₂ IsPointwise ts gs) (hts : ts ≠ []) (m : MS α C L)
    (hb : MS.build (ts.length : Int) (.int ((pre.length : Int) + 1)) ts (pre ++ n :: suf) = .ok m)
    (data : List α) (c : C) :
    ∃ l, m.forward A ⟨pre ++ n :: suf, data⟩ c =
      .ok (⟨[((List.zipWith (fun f seg => List.map f seg) (prefixMaps (gs.map (fun g => g c)))
              (routeSegs (prod pre) (prod suf) ts.length n data)).flatten).length],
            (List.zipWith (fun f seg => List.map f seg) (prefixMaps (gs.map (fun g => g c)))
              (routeSegs (prod pre) (prod suf) ts.length n data)).flatten⟩, l) := by
  obtain ⟨hn, rfl⟩ := build_inv pre suf ts n hts hb
  obtain ⟨l, hl⟩ := fwdStages_pointwise_acc A pre suf c ts gs n data [] A.zero hpw hts
    (le_trans (Nat.pow_le_pow_right two_pos (Nat.sub_le _ _)) hn)
  exact ⟨l, forward_of_stages A _ pre.length _ c _ l rfl (by simp) rfl hl⟩

/-- **executed `forward`, identity stages, law-free**: an object built the documented way returns the flat
    concatenation of the routing segments of the input data. -/
theorem forward_id (A : LD L) (pre suf : List Nat) (n : Nat) (ts : List (Tr (Item α) C L))
    (hid : ∀ t ∈ ts, IsPointwise t (fun _ => id)) (hts : ts ≠ []) (m : MS α C L)
    (hb : MS.build (ts.length : Int) (.int ((pre.length : Int) + 1)) ts (pre ++ n :: suf) = .ok m)
    (data : List α) (c : C) :
    ∃ l, m.forward A ⟨pre ++ n :: suf, data⟩ c =
      .ok (⟨[((routeSegs (prod pre) (prod suf) ts.length n data).flatten).length],
            (routeSegs (prod pre) (prod suf) ts.length n data).flatten⟩, l) := by
  obtain ⟨l, hl⟩ := forward_pointwise A pre suf n ts (ts.map fun _ _ => id)
    (List.forall₂_map_right_iff.mpr (List.forall₂_same.mpr hid)) hts m hb data c
  rw [zipWith_prefixMaps_id _ _ _ (fun g hg => ?_) (by simp)] at hl
  · exact ⟨l, hl⟩
  · simp only [List.map_map, List.mem_map] at hg
    obtain ⟨_, _, rfl⟩ := hg
    rfl
/-! ### a concrete stage for the checks -/

def negStage : Tr (Item Int) Unit Int :=
  ⟨fun x _ => .ok (⟨x.shape, x.data.map (fun v => -v)⟩, 1), fun x _ => .ok (⟨x.shape, x.data.map (fun v => -v)⟩, -1)⟩

theorem negStage_ok (S : List Nat) : StageOK negStage S := by
  intro x c hx hw
  refine ⟨⟨x.shape, x.data.map (fun v => -v)⟩, 1, rfl, hx, by simpa [WF] using hw, ?_⟩
  cases x; simp [negStage]


end NF.Wrap
