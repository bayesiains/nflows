import Mathlib.Probability.Distributions.Gaussian.Real
import Mathlib.MeasureTheory.Integral.Pi
import Mathlib.Tactic

namespace Gaussian

noncomputable section
open MeasureTheory ProbabilityTheory Real

/-- `StandardNormal._log_prob` (normal.py:23-33) -/
def stdNormalLogp {D : ℕ} (x : Fin D → ℝ) : ℝ := -(1/2) * ∑ i, (x i)^2 - (1/2) * D * Real.log (2 * π)

/-- diagonal normal per row (normal.py:95-114) -/
def diagNormalLogp {D : ℕ} (μ ls : Fin D → ℝ) (x : Fin D → ℝ) : ℝ :=
  -(1/2) * ∑ i, ((x i - μ i) * Real.exp (- ls i))^2 - ∑ i, ls i - (1/2) * D * Real.log (2 * π)

def var (ls : ℝ) : NNReal := ⟨Real.exp (2*ls), (Real.exp_pos _).le⟩
@[simp] theorem var_coe (ls : ℝ) : ((var ls : NNReal) : ℝ) = Real.exp (2*ls) := rfl
theorem var_ne_zero (ls : ℝ) : var ls ≠ 0 := by
  intro h; have := congrArg NNReal.toReal h; simp at this

theorem integral_mixture {E ι : Type*} [MeasurableSpace E] {ν : Measure E} [Fintype ι] (w : ι → ℝ) (p : ι → E → ℝ)
    (hp : ∀ k, ∫ x, p k x ∂ν = 1) : ∫ x, ∑ k, w k * p k x ∂ν = ∑ k, w k := by
  rw [integral_finsetSum _ fun k _ => (integrable_of_integral_eq_one (hp k)).const_mul _]
  simp_rw [integral_const_mul, hp, mul_one]

theorem stdNormal_map_affine (μ c : ℝ) :
    (gaussianReal 0 1).map (fun ε => μ + c * ε) = gaussianReal μ ⟨c ^ 2, sq_nonneg c⟩ := by
  have h : (fun ε => μ + c * ε) = (fun y => y + μ) ∘ (fun ε => c * ε) := funext fun ε => add_comm _ _
  rw [h, ← Measure.map_map (measurable_add_const μ) (measurable_const_mul c), gaussianReal_map_const_mul,
    gaussianReal_map_add_const, mul_zero, zero_add, mul_one]
  rfl

/-- the Gaussian density with variance `σ²` as `exp` of the quadratic the code computes -/
theorem gaussianPDFReal_eq_exp (μ x : ℝ) {σ : ℝ} (hσ : 0 < σ) {v : NNReal} (hv : (v : ℝ) = σ ^ 2) :
    gaussianPDFReal μ v x
      = Real.exp (-(1/2) * ((x - μ) / σ) ^ 2 - Real.log σ - (1/2) * Real.log (2 * π)) := by
  have h2pi : (0:ℝ) < 2 * π := by positivity
  have hsqrt : Real.exp ((1/2) * Real.log (2 * π)) = Real.sqrt (2 * π) := by
    rw [show (1/2) * Real.log (2 * π) = Real.log (2 * π) / 2 by ring, ← Real.log_sqrt h2pi.le,
      Real.exp_log (Real.sqrt_pos.mpr h2pi)]
  rw [gaussianPDFReal, hv, Real.sqrt_mul h2pi.le, Real.sqrt_sq hσ.le, Real.exp_sub, Real.exp_sub, hsqrt,
    Real.exp_log hσ, show -(x - μ) ^ 2 / (2 * σ ^ 2) = -(1/2) * ((x - μ) / σ) ^ 2 by ring]
  ring

theorem gauss_factor (μ ls x : ℝ) :
    Real.exp (-(1/2) * ((x - μ) * Real.exp (-ls))^2 - ls - (1/2) * Real.log (2 * π))
      = gaussianPDFReal μ (var ls) x := by
  rw [gaussianPDFReal_eq_exp μ x (Real.exp_pos ls) (v := var ls) (by rw [var_coe, two_mul, Real.exp_add, sq]),
    Real.log_exp, Real.exp_neg, ← div_eq_mul_inv]

theorem diagNormal_factor {D : ℕ} (μ ls x : Fin D → ℝ) :
    Real.exp (diagNormalLogp μ ls x) = ∏ i, gaussianPDFReal (μ i) (var (ls i)) (x i) := by
  simp_rw [← gauss_factor]
  rw [← Real.exp_sum]
  congr 1
  unfold diagNormalLogp
  simp only [Finset.sum_sub_distrib, Finset.mul_sum, Finset.sum_const, Finset.card_univ, Fintype.card_fin, nsmul_eq_mul]
  ring

theorem diagNormal_normalised {D : ℕ} (μ ls : Fin D → ℝ) :
    ∫ x : Fin D → ℝ, Real.exp (diagNormalLogp μ ls x) = 1 := by
  simp_rw [diagNormal_factor]
  rw [integral_fintype_prod_volume_eq_prod (fun i (t : ℝ) => gaussianPDFReal (μ i) (var (ls i)) t)]
  exact Finset.prod_eq_one fun i _ => integral_gaussianPDFReal_eq_one _ (var_ne_zero _)

end
end Gaussian
