import Mathlib.Data.List.GetD
import NflowsModel.Core.LinearFamily
import NflowsModel.Core.Norm
import NflowsModel.Lemmas.DualList
import NflowsModel.Lemmas.LFIndex
import NflowsModel.Lemmas.NormMachine
import Mathlib.Tactic
/-!
# Lemmas/DualXLU — the EXECUTED `LULinear` programs run on dual numbers (C16)

The harness compares `torch.autograd` with the model run at dual numbers, `(dualX (NF.realX e)).toOps : Ops (ℝ × ℝ)`.  The list
programs of `Core/LinearFamily.lean` (and the evaluation-mode normalisation layers of `Core/Norm.lean`) run on dual numbers
return, entry by entry, (value of the real program, its derivative along the seeded direction).  The method: `DL rel F ds`
(`Lemmas/DualList.lean`) relates an `s`-dependent list to a list of dual data entry by entry and is closed under `map`, `zipWith`,
`foldl`, `getD`, tabulation, so a program is followed combinator by combinator, for ARBITRARY differentiable curves of inputs and
parameters and without shape hypotheses (both runs truncate alike); the headlines read the result along straight lines `p + s·ṗ`
in all tensors at once.
-/
open NF DualSound DualX Filter Topology

namespace DualXLU
noncomputable section

/-! ## 1. the two scalar semantics -/

variable (e : Float → ℝ)

/-- abbreviation: the real scalar operations `(NF.realX e).toOps` the theorems are about (definitionally
    `DualSound.realOps`) -/
abbrev Rr : Ops ℝ := (NF.realX e).toOps
/-- abbreviation: the dual-number scalar operations `(dualX (NF.realX e)).toOps` the driver runs (definitionally
    `dualOps DualSound.realOps`) -/
abbrev Dd : Ops (ℝ × ℝ) := (dualX (NF.realX e)).toOps

variable {e}
variable {t : ℝ}

theorem zero_dual : IsDual (fun _ => LF.zero (Rr e)) t (LF.zero (Dd e)) := IsDual.ofRat e 0 1 t
theorem one_dual : IsDual (fun _ => LF.one (Rr e)) t (LF.one (Dd e)) := IsDual.ofRat e 1 1 t

theorem zero_R : LF.zero (Rr e) = 0 := by show ((0:ℤ):ℝ) / ((1:ℕ):ℝ) = 0; norm_num
theorem one_R : LF.one (Rr e) = 1 := by show ((1:ℤ):ℝ) / ((1:ℕ):ℝ) = 1; norm_num
theorem zero_D : LF.zero (Dd e) = (0, 0) := by show (dualX (NF.realX e)).ofRat 0 1 = _; rw [d_ofRat]; norm_num
theorem one_D : LF.one (Dd e) = (1, 0) := by show (dualX (NF.realX e)).ofRat 1 1 = _; rw [d_ofRat]; norm_num

/-! ## 2. generic programs: `sum`, `dot`, `addV`, `subV`, `matVec`, `linear0`, `linear` -/

theorem sum_dual {F : ℝ → List ℝ} {ds : List (ℝ × ℝ)} (h : DV t F ds) :
    IsDual (fun s => LF.sum (Rr e) (F s)) t (LF.sum (Dd e) ds) :=
  DL.foldl' (rel₀ := fun f d => IsDual f t d) (fun _ => (Rr e).add) (Dd e).add h
    (fun _ _ _ _ ha hd => IsDual.add e ha hd) zero_dual

theorem mulV_dual {F G : ℝ → List ℝ} {ds es : List (ℝ × ℝ)} (hx : DV t F ds) (hy : DV t G es) :
    DV t (fun s => List.zipWith (Rr e).mul (F s) (G s)) (List.zipWith (Dd e).mul ds es) :=
  DL.zipWith' (fun _ => (Rr e).mul) (Dd e).mul hx hy (fun _ _ _ _ ha hb => IsDual.mul e ha hb)

theorem dot_dual {F G : ℝ → List ℝ} {ds es : List (ℝ × ℝ)} (hx : DV t F ds) (hy : DV t G es) :
    IsDual (fun s => LF.dot (Rr e) (F s) (G s)) t (LF.dot (Dd e) ds es) :=
  sum_dual (mulV_dual hx hy)

theorem addV_dual {F G : ℝ → List ℝ} {ds es : List (ℝ × ℝ)} (hx : DV t F ds) (hy : DV t G es) :
    DV t (fun s => LF.addV (Rr e) (F s) (G s)) (LF.addV (Dd e) ds es) :=
  DL.zipWith' (fun _ => (Rr e).add) (Dd e).add hx hy (fun _ _ _ _ ha hb => IsDual.add e ha hb)

theorem subV_dual {F G : ℝ → List ℝ} {ds es : List (ℝ × ℝ)} (hx : DV t F ds) (hy : DV t G es) :
    DV t (fun s => LF.subV (Rr e) (F s) (G s)) (LF.subV (Dd e) ds es) :=
  DL.zipWith' (fun _ => (Rr e).sub) (Dd e).sub hx hy (fun _ _ _ _ ha hb => IsDual.sub e ha hb)

theorem matVec_dual {M : ℝ → List (List ℝ)} {dM : List (List (ℝ × ℝ))} {F : ℝ → List ℝ} {ds : List (ℝ × ℝ)}
    (hM : DM t M dM) (hx : DV t F ds) :
    DV t (fun s => LF.matVec (Rr e) (M s) (F s)) (LF.matVec (Dd e) dM ds) :=
  DL.map' (fun s row => LF.dot (Rr e) row (F s)) (fun row => LF.dot (Dd e) row ds) hM
    (fun _ _ _ hrow => dot_dual hrow hx)

theorem linear0_dual {W X : ℝ → List (List ℝ)} {dW dX : List (List (ℝ × ℝ))} (hW : DM t W dW) (hX : DM t X dX) :
    DM t (fun s => LF.linear0 (Rr e) (W s) (X s)) (LF.linear0 (Dd e) dW dX) :=
  DL.map' (fun s x => LF.matVec (Rr e) (W s) x) (fun x => LF.matVec (Dd e) dW x) hX
    (fun _ _ _ hx => matVec_dual hW hx)

theorem linear_dual {W X : ℝ → List (List ℝ)} {dW dX : List (List (ℝ × ℝ))} {b : ℝ → List ℝ} {db : List (ℝ × ℝ)}
    (hW : DM t W dW) (hb : DV t b db) (hX : DM t X dX) :
    DM t (fun s => LF.linear (Rr e) (W s) (b s) (X s)) (LF.linear (Dd e) dW db dX) :=
  DL.map' (fun s x => LF.addV (Rr e) (LF.matVec (Rr e) (W s) x) (b s))
    (fun x => LF.addV (Dd e) (LF.matVec (Dd e) dW x) db) hX
    (fun _ _ _ hx => addV_dual (matVec_dual hW hx) hb)

/-! ## 3. the executed `F.softplus` of the linear family (threshold 20, compensated `log1p`) -/

theorem lt_one_u_R (x : ℝ) : (Rr e).lt (LF.one (Rr e)) ((Rr e).add (LF.one (Rr e)) ((Rr e).exp x)) = true := by
  rw [one_R]
  show decide ((1:ℝ) < 1 + Real.exp x) = true
  simp [Real.exp_pos]

theorem lt_one_u_D (a : ℝ × ℝ) : (Dd e).lt (LF.one (Dd e)) ((Dd e).add (LF.one (Dd e)) ((Dd e).exp a)) = true := by
  rw [one_D]
  show decide ((1:ℝ) < 1 + Real.exp a.1) = true
  simp [Real.exp_pos]

theorem softplus_R_unfold (x : ℝ) :
    LF.softplus (Rr e) x = if (Rr e).lt ((Rr e).ofRat 20 1) x then x else
      (Rr e).div ((Rr e).mul ((Rr e).log ((Rr e).add (LF.one (Rr e)) ((Rr e).exp x))) ((Rr e).exp x))
        ((Rr e).sub ((Rr e).add (LF.one (Rr e)) ((Rr e).exp x)) (LF.one (Rr e))) := by
  unfold LF.softplus
  simp only [lt_one_u_R, Bool.or_true, if_true]

theorem softplus_D_unfold (a : ℝ × ℝ) :
    LF.softplus (Dd e) a = if (Dd e).lt ((Dd e).ofRat 20 1) a then a else
      (Dd e).div ((Dd e).mul ((Dd e).log ((Dd e).add (LF.one (Dd e)) ((Dd e).exp a))) ((Dd e).exp a))
        ((Dd e).sub ((Dd e).add (LF.one (Dd e)) ((Dd e).exp a)) (LF.one (Dd e))) := by
  unfold LF.softplus
  simp only [lt_one_u_D, Bool.or_true, if_true]

/-- **the executed `F.softplus` on dual numbers**, side condition: the argument is not AT the threshold 20 (where the executed
    function jumps, `NF.softplus_not_continuousAt_threshold`) -/
theorem softplus_dual {f : ℝ → ℝ} {a : ℝ × ℝ} (ha : IsDual f t a) (hthr : a.1 ≠ 20) :
    IsDual (fun s => LF.softplus (Rr e) (f s)) t (LF.softplus (Dd e) a) := by
  have hrw : (fun s => LF.softplus (Rr e) (f s)) = fun s =>
      if (NF.realX e).lt ((fun _ => (NF.realX e).ofRat 20 1) s) (f s) then f s else
        (fun s => (Rr e).div ((Rr e).mul ((Rr e).log ((Rr e).add (LF.one (Rr e)) ((Rr e).exp (f s)))) ((Rr e).exp (f s)))
          ((Rr e).sub ((Rr e).add (LF.one (Rr e)) ((Rr e).exp (f s))) (LF.one (Rr e)))) s :=
    funext fun s => softplus_R_unfold (f s)
  rw [hrw, softplus_D_unfold]
  refine IsDual.ite_lt e (IsDual.ofRat e 20 1 t) ha ?_ (fun _ => ha) (fun _ => ?_)
  · rw [d_ofRat]; norm_num; exact Ne.symm hthr
  · have hex := IsDual.exp e ha
    have hu := IsDual.add e (one_dual (e := e) (t := t)) hex
    have hpos : 0 < Real.exp a.1 := Real.exp_pos _
    refine IsDual.div e (IsDual.mul e (IsDual.log e hu ?_) hex) (IsDual.sub e hu one_dual) ?_
    · rw [one_D]; exact (add_pos one_pos hpos).ne'
    · rw [one_D]; show (1:ℝ) + Real.exp a.1 - 1 ≠ 0; rw [add_sub_cancel_left]; exact hpos.ne'

theorem posDiag_dual {U : ℝ → List ℝ} {du : List (ℝ × ℝ)} {eps : ℝ → ℝ} {deps : ℝ × ℝ} (hU : DV t U du)
    (heps : IsDual eps t deps) (hthr : ∀ d ∈ du, d.1 ≠ 20) :
    DV t (fun s => LF.posDiag (Rr e) (eps s) (U s)) (LF.posDiag (Dd e) deps du) :=
  DL.map' (fun s x => (Rr e).add (LF.softplus (Rr e) x) (eps s)) (fun x => (Dd e).add (LF.softplus (Dd e) x) deps) hU
    (fun _ d hd ha => IsDual.add e (softplus_dual ha (hthr d hd)) heps)

theorem sumLog_posDiag_dual {U : ℝ → List ℝ} {du : List (ℝ × ℝ)} {eps : ℝ → ℝ} {deps : ℝ × ℝ} (hU : DV t U du)
    (heps : IsDual eps t deps) (hthr : ∀ d ∈ du, d.1 ≠ 20)
    (hne : ∀ d ∈ du, LF.softplus (Rr e) d.1 + deps.1 ≠ 0) :
    IsDual (fun s => LF.sumLog (Rr e) (LF.posDiag (Rr e) (eps s) (U s))) t
      (LF.sumLog (Dd e) (LF.posDiag (Dd e) deps du)) := by
  unfold LF.sumLog LF.posDiag
  simp only [List.map_map]
  refine sum_dual (DL.map' (fun s => (Rr e).log ∘ fun x => (Rr e).add (LF.softplus (Rr e) x) (eps s))
    ((Dd e).log ∘ fun x => (Dd e).add (LF.softplus (Dd e) x) deps) hU (fun f d hd ha => ?_))
  have hs := IsDual.add e (softplus_dual (e := e) ha (hthr d hd)) heps
  refine IsDual.log e hs ?_
  rw [hs.val]
  show LF.softplus (Rr e) (f t) + eps t ≠ 0
  rw [← ha.val, ← heps.val]
  exact hne d hd

theorem softplus_add_ne {eps : ℝ} (heps : 0 ≤ eps) (x : ℝ) : LF.softplus (Rr e) x + eps ≠ 0 :=
  (add_pos_of_pos_of_nonneg (LFIndex.softplus_real_pos x) heps).ne'

/-! ## 4. assembly of the triangular factors -/

theorem lookupIdx_nil_left {α : Type} (vals : List α) (i j : ℕ) : LF.lookupIdx [] vals i j = none := by
  simp [LF.lookupIdx]
theorem lookupIdx_nil_right {α : Type} (idx : List (ℕ × ℕ)) (i j : ℕ) : LF.lookupIdx idx ([] : List α) i j = none := by
  simp [LF.lookupIdx]
theorem lookupIdx_cons_cons {α : Type} (a : ℕ × ℕ) (idx : List (ℕ × ℕ)) (v : α) (vals : List α) (i j : ℕ) :
    LF.lookupIdx (a :: idx) (v :: vals) i j = if a == (i, j) then some v else LF.lookupIdx idx vals i j := by
  by_cases h : (a == (i, j)) = true <;> simp [LF.lookupIdx, h]

theorem lookup_dual {V : ℝ → List ℝ} {dv : List (ℝ × ℝ)} (idx : List (ℕ × ℕ)) (h : DV t V dv) (i j : ℕ)
    {z : ℝ → ℝ} {z' : ℝ × ℝ} (h0 : IsDual z t z') :
    IsDual (fun s => (LF.lookupIdx idx (V s) i j).getD (z s)) t ((LF.lookupIdx idx dv i j).getD z') := by
  obtain ⟨fs, hF, h2⟩ := h
  have hrw : (fun s => (LF.lookupIdx idx (V s) i j).getD (z s))
      = fun s => (LF.lookupIdx idx (fs.map (fun f => f s)) i j).getD (z s) := funext fun s => by rw [hF]
  rw [hrw]
  clear hrw hF
  induction idx generalizing fs dv with
  | nil => simpa only [lookupIdx_nil_left, Option.getD_none] using h0
  | cons a idx ih =>
    cases h2 with
    | nil => simpa only [List.map_nil, lookupIdx_nil_right, Option.getD_none] using h0
    | cons hab hrest =>
      simp only [List.map_cons, lookupIdx_cons_cons]
      by_cases hc : (a == (i, j)) = true
      · simpa only [hc, if_true, Option.getD_some] using hab
      · simpa only [hc, Bool.false_eq_true, if_false] using ih _ hrest

theorem tab2_dual (n : ℕ) (g : ℝ → ℕ → ℕ → ℝ) (g' : ℕ → ℕ → ℝ × ℝ)
    (h : ∀ i j, IsDual (fun s => g s i j) t (g' i j)) :
    DM t (fun s => LF.tab2 n (g s)) (LF.tab2 n g') :=
  DL.ofMap (List.range n) (fun s i => (List.range n).map (g s i)) (fun i => (List.range n).map (g' i))
    (fun i _ => DL.ofMap (List.range n) (fun s => g s i) (g' i) (fun j _ => h i j))

theorem tab2_diag_dual (n : ℕ) {a : ℝ → ℕ → ℝ} {a' : ℕ → ℝ × ℝ} {b : ℝ → ℕ → ℕ → ℝ} {b' : ℕ → ℕ → ℝ × ℝ}
    (ha : ∀ i, IsDual (fun s => a s i) t (a' i)) (hb : ∀ i j, IsDual (fun s => b s i j) t (b' i j)) :
    DM t (fun s => LF.tab2 n (fun i j => if i = j then a s i else b s i j))
      (LF.tab2 n (fun i j => if i = j then a' i else b' i j)) := by
  refine tab2_dual n _ _ (fun i j => ?_)
  by_cases hij : i = j
  · simp only [if_pos hij]; exact ha i
  · simp only [if_neg hij]; exact hb i j

theorem luLower_dual (n : ℕ) {lo : ℝ → List ℝ} {dlo : List (ℝ × ℝ)} (h : DV t lo dlo) :
    DM t (fun s => LF.luLower (Rr e) n (lo s)) (LF.luLower (Dd e) n dlo) :=
  tab2_diag_dual n (fun _ => one_dual) (fun i j => lookup_dual _ h i j zero_dual)

theorem mkUpper_dual (n : ℕ) {up d : ℝ → List ℝ} {dup dd : List (ℝ × ℝ)} (h : DV t up dup) (hd : DV t d dd) :
    DM t (fun s => LF.mkUpper (Rr e) n (up s) (d s)) (LF.mkUpper (Dd e) n dup dd) :=
  tab2_diag_dual n (fun i => DL.getD' hd i zero_dual) (fun i j => lookup_dual _ h i j zero_dual)

/-! ## 5. `LULinear` along an arbitrary differentiable curve of (parameters, inputs) -/

structure LUCurve (t : ℝ) (P : ℝ → LF.LUParams ℝ) (dp : LF.LUParams (ℝ × ℝ)) : Prop where
  n : ∀ s, (P s).n = dp.n
  lower : DV t (fun s => (P s).lower) dp.lower
  upper : DV t (fun s => (P s).upper) dp.upper
  udiag : DV t (fun s => (P s).udiag) dp.udiag
  bias : DV t (fun s => (P s).bias) dp.bias
  eps : IsDual (fun s => (P s).eps) t dp.eps

theorem luL_dual {P : ℝ → LF.LUParams ℝ} {dp : LF.LUParams (ℝ × ℝ)} (hP : LUCurve t P dp) :
    DM t (fun s => LF.luL (Rr e) (P s)) (LF.luL (Dd e) dp) := by
  unfold LF.luL; simp only [hP.n]
  exact luLower_dual _ hP.lower

theorem luU_dual {P : ℝ → LF.LUParams ℝ} {dp : LF.LUParams (ℝ × ℝ)} (hP : LUCurve t P dp)
    (hthr : ∀ d ∈ dp.udiag, d.1 ≠ 20) : DM t (fun s => LF.luU (Rr e) (P s)) (LF.luU (Dd e) dp) := by
  unfold LF.luU; simp only [hP.n]
  exact mkUpper_dual _ hP.upper (posDiag_dual hP.udiag hP.eps hthr)

theorem luForward_dual_curve {P : ℝ → LF.LUParams ℝ} {dp : LF.LUParams (ℝ × ℝ)} {X : ℝ → List (List ℝ)}
    {dX : List (List (ℝ × ℝ))} (hP : LUCurve t P dp) (hX : DM t X dX) (hthr : ∀ d ∈ dp.udiag, d.1 ≠ 20) :
    DM t (fun s => LF.luForward (Rr e) (P s) (X s)) (LF.luForward (Dd e) dp dX) :=
  linear_dual (luL_dual hP) hP.bias (linear0_dual (luU_dual hP hthr) hX)

theorem luLogabsdet_dual_curve {P : ℝ → LF.LUParams ℝ} {dp : LF.LUParams (ℝ × ℝ)} (hP : LUCurve t P dp)
    (hthr : ∀ d ∈ dp.udiag, d.1 ≠ 20) (hne : ∀ d ∈ dp.udiag, LF.softplus (Rr e) d.1 + dp.eps.1 ≠ 0) :
    IsDual (fun s => LF.luLogabsdet (Rr e) (P s)) t (LF.luLogabsdet (Dd e) dp) :=
  sumLog_posDiag_dual hP.udiag hP.eps hthr hne

/-! ## 6. straight lines `primal + s · tangent` in ALL of (input, lower, upper, unconstrained diagonal, bias, eps): the readings
    `Properties/C16L.lean` states -/

def lineP (s : ℝ) (dp : LF.LUParams (ℝ × ℝ)) : LF.LUParams ℝ :=
  ⟨dp.n, lineV s dp.lower, lineV s dp.upper, lineV s dp.udiag, lineV s dp.bias, line s dp.eps⟩

theorem lineP_curve (dp : LF.LUParams (ℝ × ℝ)) : LUCurve 0 (fun s => lineP s dp) dp :=
  ⟨fun _ => rfl, lineV_dual _, lineV_dual _, lineV_dual _, lineV_dual _, line_dual _⟩

variable (e)

/-! ### non-vacuity: `n = 2`, explicit numbers, every tensor moving -/

/-- `L = [[1,0],[½,1]]`, `U = [[softplus 0 + 10⁻³, −1],[0, softplus 1 + 10⁻³]]`, bias `(0, 3)`; tangents on every entry -/
def exP : LF.LUParams (ℝ × ℝ) := ⟨2, [(1/2, 1)], [(-1, 2)], [(0, 1), (1, -1)], [(0, 1), (3, 0)], (1/1000, 0)⟩

theorem exP_thr : ∀ d ∈ exP.udiag, d.1 ≠ 20 := by
  intro d hd
  simp only [exP, List.mem_cons, List.not_mem_nil, or_false] at hd
  rcases hd with rfl | rfl <;> norm_num

example (r c : ℕ) :
    (((LF.luForward (Dd e) exP [[(1, 1), (2, 0)], [(0, 0), (-1, 1)]]).getD r []).getD c (0, 0)).1
        = ((LF.luForward (Rr e) (lineP 0 exP) (lineM 0 [[(1, 1), (2, 0)], [(0, 0), (-1, 1)]])).getD r []).getD c 0 ∧
    HasDerivAt (fun s => ((LF.luForward (Rr e) (lineP s exP) (lineM s [[(1, 1), (2, 0)], [(0, 0), (-1, 1)]])).getD r []).getD c 0)
      (((LF.luForward (Dd e) exP [[(1, 1), (2, 0)], [(0, 0), (-1, 1)]]).getD r []).getD c (0, 0)).2 0 :=
  (luForward_dual_curve (e := e) (lineP_curve exP) (lineM_dual _) exP_thr).line_sound.2 r c

example :
    (LF.luLogabsdet (Dd e) exP).1 = LF.luLogabsdet (Rr e) (lineP 0 exP) ∧
    HasDerivAt (fun s => LF.luLogabsdet (Rr e) (lineP s exP)) (LF.luLogabsdet (Dd e) exP).2 0 :=
  luLogabsdet_dual_curve (e := e) (lineP_curve exP) exP_thr (fun d _ => softplus_add_ne (by norm_num [exP]) d.1)

/-! ### the threshold hypothesis is forced -/

theorem softplus_R_eq (x : ℝ) : LF.softplus (Rr e) x = (NF.realX e).softplus x := by
  rw [realX_softplus]; exact LFIndex.softplus_real x

/-- the `1 × 1` layer with unconstrained diagonal `20` (AT the threshold) moving with velocity `1`, input `1`, no bias, `eps = 0` -/
def thrP : LF.LUParams (ℝ × ℝ) := ⟨1, [], [], [(20, 1)], [(0, 0)], (0, 0)⟩

theorem thr_forward_eq (s : ℝ) :
    ((LF.luForward (Rr e) (lineP s thrP) (lineM s [[(1, 0)]])).getD 0 []).getD 0 0 = (NF.realX e).softplus (20 + s) := by
  rw [← softplus_R_eq]
  simp [LF.luForward, LF.linear, LF.linear0, LF.matVec, LF.dot, LF.sum, LF.addV, LF.luL, LF.luU, LF.luLower, LF.mkUpper,
    LF.tab2, LF.posDiag, lineP, lineM, lineV, line, thrP, zero_R, one_R, List.range_succ]

/-- a function that follows the executed softplus through its threshold, `f s = softplus (20 + s)`, is not continuous at `0`, so
    no number is its derivative there -/
theorem not_hasDerivAt_of_eq_softplus_threshold {f : ℝ → ℝ} (hf : ∀ s, f s = (NF.realX e).softplus (20 + s)) :
    ¬ ∃ d' : ℝ, HasDerivAt f d' 0 := by
  rintro ⟨d', h⟩
  refine softplus_not_continuousAt_threshold e ?_
  have h2 : ContinuousAt (fun x : ℝ => x - 20) 20 := (continuous_id.sub continuous_const).continuousAt
  have hc : ContinuousAt f ((fun x : ℝ => x - 20) 20) := by simpa using h.continuousAt
  refine (ContinuousAt.comp (g := f) (f := fun x : ℝ => x - 20) hc h2).congr (Filter.Eventually.of_forall fun x => ?_)
  simp [hf]

/-- **the hypothesis `≠ 20` of `Properties.C16.lu_forward_dual_sound` cannot be dropped**: with the unconstrained diagonal entry
    AT the threshold the real executed forward pass is not differentiable (not even continuous) along the direction, so NO
    number is its derivative — in particular not the tangent the dual run (or `torch.autograd`) returns -/
theorem lu_forward_not_differentiable_at_threshold :
    ¬ ∃ d' : ℝ, HasDerivAt
      (fun s => ((LF.luForward (Rr e) (lineP s thrP) (lineM s [[(1, 0)]])).getD 0 []).getD 0 0) d' 0 :=
  not_hasDerivAt_of_eq_softplus_threshold e (thr_forward_eq e)

/-! ## 7. normalisation layers in evaluation mode (`Core/Norm.lean`) -/

section norm
open NF.Norm
variable {e}

theorem bnWeight_dual {cfg : ℝ → BNCfg ℝ} {dcfg : BNCfg (ℝ × ℝ)} {uw : ℝ → List ℝ} {duw : List (ℝ × ℝ)}
    (heps : IsDual (fun s => (cfg s).eps) t dcfg.eps) (huw : DV t uw duw) (j : ℕ) (hthr : (duw.getD j (0, 0)).1 ≠ 20) :
    IsDual (fun s => bnWeight (NF.realX e) (cfg s) (uw s) j) t (bnWeight (dualX (NF.realX e)) dcfg duw j) := by
  refine IsDual.add e (IsDual.softplus e (DL.getD' huw j (IsDual.zero e t)) ?_) heps
  rw [d_zero]; exact hthr

/-- **BatchNorm, evaluation mode, outputs**, along any differentiable curve of (inputs, running mean, running variance,
    unconstrained weight, bias, eps).  Side conditions: no unconstrained weight at the softplus threshold, `var + eps > 0` -/
theorem bnNormalise_dual_curve {cfg : ℝ → BNCfg ℝ} {dcfg : BNCfg (ℝ × ℝ)} (F : ℕ) {mean var uw bias : ℝ → List ℝ}
    {dmean dvar duw dbias : List (ℝ × ℝ)} {rows : ℝ → List (List ℝ)} {drows : List (List (ℝ × ℝ))}
    (heps : IsDual (fun s => (cfg s).eps) t dcfg.eps) (hmean : DV t mean dmean) (hvar : DV t var dvar)
    (huw : DV t uw duw) (hbias : DV t bias dbias) (hrows : DM t rows drows)
    (hthr : ∀ j < F, (duw.getD j (0, 0)).1 ≠ 20) (hpos : ∀ j < F, 0 < (dvar.getD j (0, 0)).1 + dcfg.eps.1) :
    DM t (fun s => bnNormalise (NF.realX e) (cfg s) F (mean s) (var s) (uw s) (bias s) (rows s))
      (bnNormalise (dualX (NF.realX e)) dcfg F dmean dvar duw dbias drows) := by
  unfold bnNormalise
  refine DL.map' _ _ hrows (fun f d _ hrow => ?_)
  refine DL.ofMap _ _ _ (fun j hj => ?_)
  have hj' : j < F := List.mem_range.mp hj
  have hx := DL.getD' hrow j (IsDual.zero e t)
  have hm := DL.getD' hmean j (IsDual.zero e t)
  have hb := DL.getD' hbias j (IsDual.zero e t)
  have hve := IsDual.add e (DL.getD' hvar j (IsDual.zero e t)) heps
  have hp : 0 < ((dualX (NF.realX e)).add (dvar.getD j (dualX (NF.realX e)).zero) dcfg.eps).1 := by
    rw [d_zero]; exact hpos j hj'
  refine IsDual.add e (IsDual.mul e (bnWeight_dual heps huw j (hthr j hj'))
    (IsDual.div e (IsDual.sub e hx hm) (IsDual.sqrt e hve hp.ne') ?_)) hb
  exact (Real.sqrt_ne_zero'.mpr hp)

/-- **BatchNorm, evaluation mode, log-abs-det** (both directions).  Side conditions: no unconstrained weight at the softplus
    threshold, `weight ≠ 0`, `var + eps ≠ 0` -/
theorem bnLogdet_dual_curve {cfg : ℝ → BNCfg ℝ} {dcfg : BNCfg (ℝ × ℝ)} (F : ℕ) {var uw : ℝ → List ℝ}
    {dvar duw : List (ℝ × ℝ)} (B : ℕ) (inverse : Bool)
    (heps : IsDual (fun s => (cfg s).eps) t dcfg.eps) (hvar : DV t var dvar) (huw : DV t uw duw)
    (hthr : ∀ j < F, (duw.getD j (0, 0)).1 ≠ 20)
    (hw : ∀ j < F, (NF.realX e).softplus (duw.getD j (0, 0)).1 + dcfg.eps.1 ≠ 0)
    (hv : ∀ j < F, (dvar.getD j (0, 0)).1 + dcfg.eps.1 ≠ 0) :
    DV t (fun s => bnLogdet (NF.realX e) (cfg s) F (var s) (uw s) B inverse)
      (bnLogdet (dualX (NF.realX e)) dcfg F dvar duw B inverse) := by
  unfold bnLogdet
  refine DL.replicate B (rel := fun f d => IsDual f t d) (sumG_dual (DL.ofMap _ _ _ (fun j hj => ?_)))
  have hj' : j < F := List.mem_range.mp hj
  have hwd := bnWeight_dual (e := e) heps huw j (hthr j hj')
  have hve := IsDual.add e (DL.getD' hvar j (IsDual.zero e t)) heps
  have hlw := IsDual.log e hwd (by
    rw [hwd.val]
    show (NF.realX e).softplus ((uw t).getD j (NF.realX e).zero) + (cfg t).eps ≠ 0
    rw [← (DL.getD' huw j (IsDual.zero e t)).val, ← heps.val, d_zero]
    exact hw j hj')
  have hlv := IsDual.mul e (IsDual.ofRat e 1 2 t) (IsDual.log e hve (by rw [d_zero]; exact hv j hj'))
  cases inverse
  · simpa only [Bool.false_eq_true, if_false] using IsDual.sub e hlw hlv
  · simpa only [if_true] using IsDual.add e (IsDual.neg e hlw) hlv

theorem bnStep_eval {α : Type} (o : XOps α) (cfg : BNCfg α) (F : ℕ) (st : BNSt α) (h : st.training = false)
    (rows : List (List α)) :
    bnStep o cfg F st (.fwd (.d2 rows)) =
      (st, some (.ok (.d2 (bnNormalise o cfg F st.runMean st.runVar st.uweight st.bias rows),
                      bnLogdet o cfg F st.runVar st.uweight rows.length false))) :=
  bnStep_eval_fwd o cfg F st h rows

def lineBN (s : ℝ) (st : BNSt (ℝ × ℝ)) : BNSt ℝ :=
  ⟨st.training, lineV s st.runMean, lineV s st.runVar, lineV s st.uweight, lineV s st.bias, st.updates⟩
def lineCfg (s : ℝ) (c : BNCfg (ℝ × ℝ)) : BNCfg ℝ := ⟨line s c.eps, line s c.momentum⟩

variable (e)

/-- **`BatchNorm.forward` in evaluation mode on dual numbers is sound** (C16): direction in inputs, unconstrained weight, bias
    (and the buffers, eps) simultaneously.  Every output entry and every log-abs-det entry of the dual run is (value at the
    primal parts, derivative along `primal + s · tangent` at `s = 0`).  Side conditions: no unconstrained weight AT the
    softplus threshold 20; `running_var + eps > 0`; `weight ≠ 0` (automatic for `eps ≥ 0`). -/
theorem batchnorm_eval_dual_sound (dcfg : BNCfg (ℝ × ℝ)) (F : ℕ) (st : BNSt (ℝ × ℝ)) (drows : List (List (ℝ × ℝ)))
    (hthr : ∀ j < F, (st.uweight.getD j (0, 0)).1 ≠ 20)
    (hpos : ∀ j < F, 0 < (st.runVar.getD j (0, 0)).1 + dcfg.eps.1)
    (hw : ∀ j < F, (NF.realX e).softplus (st.uweight.getD j (0, 0)).1 + dcfg.eps.1 ≠ 0) :
    (∀ r c : ℕ, IsDual (fun s => ((bnNormalise (NF.realX e) (lineCfg s dcfg) F (lineBN s st).runMean (lineBN s st).runVar
          (lineBN s st).uweight (lineBN s st).bias (lineM s drows)).getD r []).getD c 0) 0
        (((bnNormalise (dualX (NF.realX e)) dcfg F st.runMean st.runVar st.uweight st.bias drows).getD r []).getD c (0, 0))) ∧
    (∀ k : ℕ, IsDual (fun s => (bnLogdet (NF.realX e) (lineCfg s dcfg) F (lineBN s st).runVar (lineBN s st).uweight
          drows.length false).getD k 0) 0
        ((bnLogdet (dualX (NF.realX e)) dcfg F st.runVar st.uweight drows.length false).getD k (0, 0))) := by
  have heps : IsDual (fun s => (lineCfg s dcfg).eps) 0 dcfg.eps := line_dual _
  refine ⟨fun r c => ?_, fun k => ?_⟩
  · exact (bnNormalise_dual_curve (e := e) F heps (lineV_dual _) (lineV_dual _) (lineV_dual _) (lineV_dual _)
      (lineM_dual drows) hthr hpos).entry r c
  · exact (bnLogdet_dual_curve (e := e) F drows.length false heps (lineV_dual _) (lineV_dual _) hthr hw
      (fun j hj => (hpos j hj).ne')).entry k

example (r c : ℕ) := (batchnorm_eval_dual_sound e ⟨(1/100000, 0), (1/10, 0)⟩ 2
    ⟨false, [(0, 0), (1, 0)], [(1, 0), (2, 0)], [(0, 1), (1, -1)], [(0, 1), (3, 2)], 0⟩ [[(1, 1), (2, 0)], [(0, 0), (-1, 1)]]
    (by intro j hj; interval_cases j <;> simp only [List.getD_cons_zero, List.getD_cons_succ] <;> norm_num)
    (by intro j hj; interval_cases j <;> simp only [List.getD_cons_zero, List.getD_cons_succ] <;> norm_num)
    (fun j _ => by rw [← softplus_R_eq]; exact softplus_add_ne (by norm_num) _)).1 r c

/-! ### ActNorm (initialised; no side condition: `exp`, `·`, `+` only) -/

inductive DB (t : ℝ) : (ℝ → Batch ℝ) → Batch (ℝ × ℝ) → Prop
  | d2 {rows : ℝ → List (List ℝ)} {drows : List (List (ℝ × ℝ))} (h : DM t rows drows) :
      DB t (fun s => .d2 (rows s)) (.d2 drows)
  | d4 (h w : ℕ) {imgs : ℝ → List (List (List ℝ))} {dimgs : List (List (List (ℝ × ℝ)))} (hi : DL (DM t) imgs dimgs) :
      DB t (fun s => .d4 h w (imgs s)) (.d4 h w dimgs)
  | bad (n : ℕ) : DB t (fun _ => .bad n) (.bad n)

variable {e}

theorem mapCh_dual (F : ℕ) (g : ℝ → ℕ → ℝ → ℝ) (g' : ℕ → ℝ × ℝ → ℝ × ℝ)
    (hg : ∀ j f d, IsDual f t d → IsDual (fun s => g s j (f s)) t (g' j d))
    {b : ℝ → Batch ℝ} {db : Batch (ℝ × ℝ)} (hb : DB t b db) :
    DB t (fun s => (b s).mapCh (NF.realX e) F (g s)) (db.mapCh (dualX (NF.realX e)) F g') := by
  cases hb with
  | d2 h =>
    refine DB.d2 (DL.map' _ _ h (fun f d _ hrow => ?_))
    exact DL.ofMap _ _ _ (fun j _ => hg j _ _ (DL.getD' hrow j (IsDual.zero e t)))
  | d4 hh w hi =>
    refine DB.d4 hh w (DL.map' _ _ hi (fun f d _ himg => ?_))
    refine DL.ofMap _ _ _ (fun c _ => ?_)
    have hnil : DV t (fun _ => ([] : List ℝ)) [] := ⟨[], fun _ => rfl, .nil⟩
    exact DL.map' _ _ (DL.getD' himg c hnil) (fun f d _ hx => hg c f d hx)
  | bad n => exact DB.bad n

theorem actApply_dual_curve (F : ℕ) {ls sh : ℝ → List ℝ} {dls dsh : List (ℝ × ℝ)} {b : ℝ → Batch ℝ}
    {db : Batch (ℝ × ℝ)} (hls : DV t ls dls) (hsh : DV t sh dsh) (hb : DB t b db) :
    DB t (fun s => actApply (NF.realX e) F (ls s) (sh s) (b s)) (actApply (dualX (NF.realX e)) F dls dsh db) :=
  mapCh_dual F (fun s j x => (NF.realX e).add ((NF.realX e).mul ((NF.realX e).exp ((ls s).getD j (NF.realX e).zero)) x)
      ((sh s).getD j (NF.realX e).zero))
    (fun j x => (dualX (NF.realX e)).add ((dualX (NF.realX e)).mul ((dualX (NF.realX e)).exp
      (dls.getD j (dualX (NF.realX e)).zero)) x) (dsh.getD j (dualX (NF.realX e)).zero))
    (fun j _ _ hx => IsDual.add e (IsDual.mul e (IsDual.exp e (DL.getD' hls j (IsDual.zero e t))) hx)
    (DL.getD' hsh j (IsDual.zero e t))) hb

theorem actUnapply_dual_curve (F : ℕ) {ls sh : ℝ → List ℝ} {dls dsh : List (ℝ × ℝ)} {b : ℝ → Batch ℝ}
    {db : Batch (ℝ × ℝ)} (hls : DV t ls dls) (hsh : DV t sh dsh) (hb : DB t b db) :
    DB t (fun s => actUnapply (NF.realX e) F (ls s) (sh s) (b s)) (actUnapply (dualX (NF.realX e)) F dls dsh db) :=
  mapCh_dual F (fun s j x => (NF.realX e).div ((NF.realX e).sub x ((sh s).getD j (NF.realX e).zero))
      ((NF.realX e).exp ((ls s).getD j (NF.realX e).zero)))
    (fun j x => (dualX (NF.realX e)).div ((dualX (NF.realX e)).sub x (dsh.getD j (dualX (NF.realX e)).zero))
      ((dualX (NF.realX e)).exp (dls.getD j (dualX (NF.realX e)).zero)))
    (fun j _ _ hx => IsDual.div e (IsDual.sub e hx (DL.getD' hsh j (IsDual.zero e t)))
    (IsDual.exp e (DL.getD' hls j (IsDual.zero e t))) (Real.exp_pos _).ne') hb

theorem DB.size {b : ℝ → Batch ℝ} {db : Batch (ℝ × ℝ)} (hb : DB t b db) (s : ℝ) : (b s).size = db.size := by
  cases hb with
  | d2 h => exact DL.length h s
  | d4 hh w hi => exact DL.length hi s
  | bad n => rfl

theorem actLogdet_dual_curve {ls : ℝ → List ℝ} {dls : List (ℝ × ℝ)} {b : ℝ → Batch ℝ} {db : Batch (ℝ × ℝ)}
    (hls : DV t ls dls) (hb : DB t b db) (inverse : Bool) :
    DV t (fun s => actLogdet (NF.realX e) (ls s) (b s) inverse) (actLogdet (dualX (NF.realX e)) dls db inverse) := by
  have hs := sumG_dual (e := e) hls
  -- the entry: `v`, negated for the inverse
  have hneg : ∀ {v : ℝ → ℝ} {dv : ℝ × ℝ}, IsDual v t dv →
      IsDual (fun s => if inverse then (NF.realX e).neg (v s) else v s) t (if inverse then (dualX (NF.realX e)).neg dv else dv) :=
    fun hv => by cases inverse; exacts [hv, IsDual.neg e hv]
  have hsz := hb.size
  cases hb with
  | d2 h => simp only [actLogdet, hsz]; exact DL.replicate _ (hneg hs)
  | d4 hh w hi => simp only [actLogdet, hsz]; exact DL.replicate _ (hneg (IsDual.mul e (IsDual.ofNat e (hh * w) t) hs))
  | bad n => exact DL.replicate _ (hneg hs)

def lineB (s : ℝ) : Batch (ℝ × ℝ) → Batch ℝ
  | .d2 rows => .d2 (lineM s rows)
  | .d4 h w imgs => .d4 h w (imgs.map (lineM s))
  | .bad n => .bad n

theorem lineB_dual (db : Batch (ℝ × ℝ)) : DB 0 (fun s => lineB s db) db := by
  cases db with
  | d2 rows => exact DB.d2 (lineM_dual rows)
  | d4 h w imgs =>
    have hi := DL.ofMap (rel := DM 0) imgs (fun s d => lineM s d) id (fun d _ => lineM_dual d)
    rw [List.map_id] at hi
    exact DB.d4 h w hi
  | bad n => exact DB.bad n

variable (e)

/-- **`ActNorm.forward` (initialised layer) on dual numbers is sound** (C16), no side condition: direction in inputs (2-D or
    4-D), `log_scale` and `shift` simultaneously; `DB 0` says: the dual run has the constructor / image size / shape of the real
    run at every `s`, and every entry is (value at the primal parts, derivative along `primal + s · tangent` at `s = 0`);
    the log-abs-det vector likewise (`DV 0`, entry-wise reading `DV.entry`). -/
theorem actnorm_dual_sound (F : ℕ) (dls dsh : List (ℝ × ℝ)) (db : Batch (ℝ × ℝ)) :
    DB 0 (fun s => actApply (NF.realX e) F (lineV s dls) (lineV s dsh) (lineB s db))
        (actApply (dualX (NF.realX e)) F dls dsh db) ∧
    DV 0 (fun s => actLogdet (NF.realX e) (lineV s dls) (lineB s db) false)
        (actLogdet (dualX (NF.realX e)) dls db false) :=
  ⟨actApply_dual_curve F (lineV_dual dls) (lineV_dual dsh) (lineB_dual db),
   actLogdet_dual_curve (lineV_dual dls) (lineB_dual db) false⟩

/-- the 2-D case entry by entry -/
theorem actnorm_dual_sound_d2 (F : ℕ) (dls dsh : List (ℝ × ℝ)) (drows : List (List (ℝ × ℝ))) (r c k : ℕ) :
    IsDual (fun s => (((List.map (fun row => (List.range F).map (fun j =>
          (NF.realX e).add ((NF.realX e).mul ((NF.realX e).exp ((lineV s dls).getD j (NF.realX e).zero))
            (row.getD j (NF.realX e).zero)) ((lineV s dsh).getD j (NF.realX e).zero))) (lineM s drows))).getD r []).getD c 0) 0
      (((List.map (fun row => (List.range F).map (fun j =>
          (dualX (NF.realX e)).add ((dualX (NF.realX e)).mul ((dualX (NF.realX e)).exp (dls.getD j (dualX (NF.realX e)).zero))
            (row.getD j (dualX (NF.realX e)).zero)) (dsh.getD j (dualX (NF.realX e)).zero))) drows).getD r []).getD c (0, 0)) ∧
    IsDual (fun s => (actLogdet (NF.realX e) (lineV s dls) (.d2 (lineM s drows)) false).getD k 0) 0
      ((actLogdet (dualX (NF.realX e)) dls (.d2 drows) false).getD k (0, 0)) := by
  obtain ⟨h1, h2⟩ := actnorm_dual_sound e F dls dsh (.d2 drows)
  refine ⟨?_, h2.entry k⟩
  have h1' : DB 0 (fun s => Batch.d2 ((lineM s drows).map (fun row => (List.range F).map (fun j =>
          (NF.realX e).add ((NF.realX e).mul ((NF.realX e).exp ((lineV s dls).getD j (NF.realX e).zero))
            (row.getD j (NF.realX e).zero)) ((lineV s dsh).getD j (NF.realX e).zero)))))
      (.d2 (drows.map (fun row => (List.range F).map (fun j =>
          (dualX (NF.realX e)).add ((dualX (NF.realX e)).mul ((dualX (NF.realX e)).exp (dls.getD j (dualX (NF.realX e)).zero))
            (row.getD j (dualX (NF.realX e)).zero)) (dsh.getD j (dualX (NF.realX e)).zero))))) := h1
  -- `h1'` relates two `Batch.d2` values; name the real one so that `cases` can match on the constructor of the relation
  generalize hb : (fun s => Batch.d2 ((lineM s drows).map (fun row => (List.range F).map (fun j =>
          (NF.realX e).add ((NF.realX e).mul ((NF.realX e).exp ((lineV s dls).getD j (NF.realX e).zero))
            (row.getD j (NF.realX e).zero)) ((lineV s dsh).getD j (NF.realX e).zero))))) = bb at h1'
  cases h1' with
  | d2 h =>
    have := fun s => Batch.d2.inj (congrFun hb s)
    exact DM.entry (h.congr this) r c

example (r c k : ℕ) := actnorm_dual_sound_d2 e 2 [(0, 1), (1/2, -1)] [(1, 0), (-1, 2)] [[(1, 1), (2, 0)], [(0, 0), (-1, 1)]] r c k

end norm

/-! ## 8. `LULinear.inverse_no_cache`: the two triangular solves -/

section inverse
variable {e}

theorem solveLowerAux_dual {acc : ℝ → List ℝ} {dacc : List (ℝ × ℝ)} {L : ℝ → List (List ℝ)} {dL : List (List (ℝ × ℝ))}
    {b : ℝ → List ℝ} {db : List (ℝ × ℝ)} (hacc : DV t acc dacc) (hL : DM t L dL) (hb : DV t b db) :
    DV t (fun s => LF.solveLowerUnitAux (Rr e) (acc s) (L s) (b s)) (LF.solveLowerUnitAux (Dd e) dacc dL db) := by
  obtain ⟨Ls, hLs, hL2⟩ := hL
  obtain ⟨bs, hbs, hb2⟩ := hb
  have hrw : (fun s => LF.solveLowerUnitAux (Rr e) (acc s) (L s) (b s)) = fun s =>
      LF.solveLowerUnitAux (Rr e) (acc s) (Ls.map (fun f => f s)) (bs.map (fun f => f s)) :=
    funext fun s => by rw [hLs, hbs]
  rw [hrw]
  clear hrw hLs hbs
  induction hL2 generalizing acc dacc bs db with
  | nil => simpa [LF.solveLowerUnitAux] using hacc
  | cons hrow _ ih =>
    cases hb2 with
    | nil => simpa [LF.solveLowerUnitAux] using hacc
    | cons hbi hrest =>
      simp only [List.map_cons, LF.solveLowerUnitAux]
      exact ih (DL.append hacc (DL.cons (IsDual.sub e hbi (dot_dual hrow hacc)) DL.nil)) _ hrest

theorem solveUpperAux_dual (i : ℕ) {U : ℝ → List (List ℝ)} {dU : List (List (ℝ × ℝ))}
    {b : ℝ → List ℝ} {db : List (ℝ × ℝ)} (hU : DM t U dU) (hb : DV t b db)
    (hdiag : ∀ k, k < dU.length → ((dU.getD k []).getD (i + k) (LF.zero (Dd e))).1 ≠ 0) :
    DV t (fun s => LF.solveUpperAux (Rr e) i (U s) (b s)) (LF.solveUpperAux (Dd e) i dU db) := by
  obtain ⟨Us, hUs, hU2⟩ := hU
  obtain ⟨bs, hbs, hb2⟩ := hb
  have hrw : (fun s => LF.solveUpperAux (Rr e) i (U s) (b s)) = fun s =>
      LF.solveUpperAux (Rr e) i (Us.map (fun f => f s)) (bs.map (fun f => f s)) :=
    funext fun s => by rw [hUs, hbs]
  rw [hrw]
  clear hrw hUs hbs
  induction hU2 generalizing i bs db with
  | nil => simpa [LF.solveUpperAux] using (DL.nil : DV t (fun _ => []) [])
  | cons hrow _ ih =>
    cases hb2 with
    | nil => simpa [LF.solveUpperAux] using (DL.nil : DV t (fun _ => []) [])
    | cons hbi hrest =>
      simp only [List.map_cons, LF.solveUpperAux]
      have hxs := ih (i + 1) (fun k hk => by
        have := hdiag (k + 1) (Nat.succ_lt_succ hk)
        rwa [List.getD_cons_succ, ← Nat.add_assoc, Nat.add_right_comm] at this) _ hrest
      exact DL.cons (IsDual.div e (IsDual.sub e hbi (dot_dual (DL.drop hrow (i + 1)) hxs))
        (DL.getD' hrow i zero_dual) (hdiag 0 (Nat.succ_pos _))) hxs

/-- `LULinear.inverse_no_cache` along any differentiable curve of (parameters, inputs); side conditions: no unconstrained
    diagonal entry at the softplus threshold, and the diagonal of the dual `U` has non-zero value components (`luU_diag_ne`: so it
    is for `eps ≥ 0` when `udiag` has `n` entries) -/
theorem luInverse_dual_curve {P : ℝ → LF.LUParams ℝ} {dp : LF.LUParams (ℝ × ℝ)} {X : ℝ → List (List ℝ)}
    {dX : List (List (ℝ × ℝ))} (hP : LUCurve t P dp) (hX : DM t X dX) (hthr : ∀ d ∈ dp.udiag, d.1 ≠ 20)
    (hdiag : ∀ k, k < (LF.luU (Dd e) dp).length → (((LF.luU (Dd e) dp).getD k []).getD (0 + k) (LF.zero (Dd e))).1 ≠ 0) :
    DM t (fun s => LF.luInverse (Rr e) (P s) (X s)) (LF.luInverse (Dd e) dp dX) := by
  unfold LF.luInverse
  exact DL.map' _ _ hX (fun f d _ hx =>
    solveUpperAux_dual 0 (luU_dual hP hthr) (solveLowerAux_dual DL.nil (luL_dual hP) (subV_dual hx hP.bias)) hdiag)

theorem softplus_D_val (a : ℝ × ℝ) (h : a.1 ≠ 20) : (LF.softplus (Dd e) a).1 = LF.softplus (Rr e) a.1 := by
  have := (softplus_dual (e := e) (line_dual a) h).val
  simpa using this

theorem mkUpper_diag_ne (n : ℕ) (up dd : List (ℝ × ℝ)) (hn : n ≤ dd.length) (hne : ∀ d ∈ dd, d.1 ≠ 0) (k : ℕ)
    (hk : k < (LF.mkUpper (Dd e) n up dd).length) :
    (((LF.mkUpper (Dd e) n up dd).getD k []).getD (0 + k) (LF.zero (Dd e))).1 ≠ 0 := by
  have hk' : k < n := by rwa [LF.mkUpper, LFIndex.tab2_length] at hk
  have hlt : k < dd.length := lt_of_lt_of_le hk' hn
  rw [Nat.zero_add, show ((LF.mkUpper (Dd e) n up dd).getD k []).getD k (LF.zero (Dd e)) = dd.getD k (LF.zero (Dd e)) from
    LFIndex.mkUpper_diag (Dd e) n up dd hk', List.getD_eq_getElem _ _ hlt]
  exact hne _ (List.getElem_mem hlt)

theorem luU_diag_ne (dp : LF.LUParams (ℝ × ℝ)) (hthr : ∀ d ∈ dp.udiag, d.1 ≠ 20) (heps : 0 ≤ dp.eps.1)
    (hn : dp.n ≤ dp.udiag.length) (k : ℕ) (hk : k < (LF.luU (Dd e) dp).length) :
    (((LF.luU (Dd e) dp).getD k []).getD (0 + k) (LF.zero (Dd e))).1 ≠ 0 := by
  refine mkUpper_diag_ne dp.n dp.upper _ (by rw [LF.posDiag, List.length_map]; exact hn) (fun d hd => ?_) k hk
  obtain ⟨x, hx, rfl⟩ := List.mem_map.mp hd
  show (LF.softplus (Dd e) x).1 + dp.eps.1 ≠ 0
  rw [softplus_D_val _ (hthr x hx)]
  exact softplus_add_ne heps _

variable (e)

example (r c : ℕ) := (luInverse_dual_curve (e := e) (lineP_curve exP) (lineM_dual [[(1, 1), (2, 0)], [(0, 0), (-1, 1)]]) exP_thr
  (luU_diag_ne exP exP_thr (by norm_num [exP]) (by simp [exP]))).line_sound.2 r c

end inverse

end
end DualXLU
