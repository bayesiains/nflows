import NflowsModel.Core.Dist
import Mathlib.Tactic
import NflowsModel.Lemmas.RowMajor
/-!
# Lemmas/DistContract — helper lemmas for C18: torch shape primitives, the hook contract, the generic interface
-/
namespace NF.Dist

def Pos (s : Shape) : Prop := ∀ d ∈ s, 0 < d

theorem numel_pos {s : Shape} (h : Pos s) : 0 < numel s := by
  induction s with
  | nil => simp [numel]
  | cons d r ih =>
    simp only [numel]
    exact Nat.mul_pos (h d (by simp)) (ih (fun x hx => h x (by simp [hx])))

theorem Pos.tail {d : Nat} {s : Shape} (h : Pos (d :: s)) : Pos s := fun x hx => h x (by simp [hx])

theorem Pos.singleton {w : Nat} (h : 0 < w) : Pos [w] := fun d hd => by
  rw [List.mem_singleton.mp hd]; exact h

/-! ### reshape -/

theorem reshapeInfer0_ok (x rest : Shape) (k : Nat) (hP : 0 < numel rest) (hx : numel x = k * numel rest) :
    reshapeInfer0 x rest = .ok (k :: rest) := by
  unfold reshapeInfer0
  have h1 : ¬ numel rest = 0 := by omega
  have h2 : ¬ (numel x % numel rest ≠ 0) := by rw [hx]; simp
  have h3 : numel x / numel rest = k := by rw [hx]; exact Nat.mul_div_cancel k hP
  simp only [h1, h2, if_false, h3]

theorem mergeLeadingDims2_ok (a b : Nat) (rest : Shape) (hP : 0 < numel rest) :
    mergeLeadingDims2 (a :: b :: rest) = .ok (a * b :: rest) := by
  unfold mergeLeadingDims2
  exact reshapeInfer0_ok _ _ _ hP (by simp [numel, Nat.mul_assoc])

theorem splitLeadingDim2_ok (a b : Nat) (rest : Shape) :
    splitLeadingDim2 (a * b :: rest) a b = .ok (a :: b :: rest) := by
  simp [splitLeadingDim2, reshapeTo, numel, Nat.mul_assoc]

theorem splitLeadingDimInfer_ok (R n : Nat) (rest : Shape) (hn : 0 < n) (hP : 0 < numel rest) :
    splitLeadingDimInfer (R * n :: rest) n = .ok (R :: n :: rest) := by
  unfold splitLeadingDimInfer
  exact reshapeInfer0_ok _ _ _ (by simp only [numel]; exact Nat.mul_pos hn hP) (by simp [numel, Nat.mul_assoc])

theorem repeatRows_ok (r : Nat) (rest : Shape) (num : PyVal) (hnum : isPositiveInt num = true) (hP : 0 < numel rest) :
    repeatRows (r :: rest) num = .ok (r * num.toNat :: rest) := by
  unfold repeatRows
  simp only [hnum, Bool.not_true, Bool.false_eq_true, if_false]
  exact mergeLeadingDims2_ok _ _ _ hP

theorem repeatRows_typeError (x : Shape) (num : PyVal) (hnum : isPositiveInt num = false) :
    repeatRows x num = .error .typeError := by
  simp [repeatRows, hnum]

theorem toNat_pos {num : PyVal} (h : isPositiveInt num = true) : 0 < num.toNat := by
  cases num with
  | int n => simp [isPositiveInt] at h; simp [PyVal.toNat]; omega
  | bool b => simp [isPositiveInt] at h; subst h; simp [PyVal.toNat]
  | float => simp [isPositiveInt] at h
  | none => simp [isPositiveInt] at h
  | str => simp [isPositiveInt] at h

/-! ### broadcasting -/

theorem broadcastRev_self (s : Shape) : broadcastRev s s = .ok s := by
  induction s with
  | nil => simp [broadcastRev]
  | cons a r ih => simp [broadcastRev, ih, Except.map]

theorem broadcast_self (s : Shape) : broadcast s s = .ok s := by
  simp [broadcast, broadcastRev_self, Except.map]

/-! ### cat -/

theorem agreeOff_set (dim : Nat) (s : Shape) (b : Nat) : agreeOff dim s (s.set dim b) = true := by
  simp only [agreeOff, List.length_set, beq_self_eq_true, Bool.true_and, List.all_eq_true, Bool.or_eq_true, beq_iff_eq]
  intro i _
  by_cases h : i = dim
  · exact Or.inl h
  · exact Or.inr (by rw [List.getD_eq_getElem?_getD, List.getD_eq_getElem?_getD, List.getElem?_set_ne (Ne.symm h)])

theorem cat_set (dim : Nat) (s : Shape) (hdim : dim < s.length) : ∀ l : List Nat, l ≠ [] →
    catShapes dim (l.map fun a => s.set dim a) = .ok (s.set dim l.sum)
  | [], hl => absurd rfl hl
  | a :: t, _ => by
    have hall : (t.map fun a => s.set dim a).all (agreeOff dim (s.set dim a)) = true := by
      rw [List.all_eq_true]
      intro x hx
      obtain ⟨b, _, rfl⟩ := List.mem_map.mp hx
      rw [← List.set_set a (l := s) (b := b)]
      exact agreeOff_set dim _ b
    have hget : ∀ b, (s.set dim b).getD dim 0 = b := fun b => by
      rw [List.getD_eq_getElem?_getD, List.getElem?_set_self hdim, Option.getD_some]
    simp only [List.map_cons, catShapes, List.length_set, hdim, decide_true, hall, Bool.and_self, if_true, List.set_set,
      List.sum_cons, List.map_map, Function.comp_def, hget, List.map_id']

theorem cat_dim0 (event : Shape) (l : List Nat) (hl : l ≠ []) :
    catShapes 0 (l.map (fun a => a :: event)) = .ok (l.sum :: event) :=
  cat_set 0 (0 :: event) (Nat.succ_pos _) l hl

theorem cat_dim1 (R : Nat) (event : Shape) (l : List Nat) (hl : l ≠ []) :
    catShapes 1 (l.map (fun a => R :: a :: event)) = .ok (R :: l.sum :: event) :=
  cat_set 1 (R :: 0 :: event) (Nat.succ_lt_succ (Nat.succ_pos _)) l hl

theorem sum_replicate (q b : Nat) : (List.replicate q b).sum = q * b := List.sum_replicate_nat

theorem batchSizes_sum (n b : Nat) : (batchSizes n b).sum = n := by
  have hrest : (if n % b > 0 then [n % b] else []).sum = n % b := by
    split
    · exact List.sum_singleton
    · exact (Nat.eq_zero_of_not_pos ‹¬ n % b > 0›).symm
  rw [batchSizes, List.sum_append, sum_replicate, hrest, Nat.mul_comm]
  exact Nat.div_add_mod n b

theorem batchSizes_ne_nil (n b : Nat) (hn : 0 < n) (hb : 0 < b) : batchSizes n b ≠ [] := by
  unfold batchSizes
  by_cases h : n % b > 0
  · rw [if_pos h]
    exact List.append_ne_nil_of_right_ne_nil _ (List.cons_ne_nil _ _)
  · have hq : 0 < n / b :=
      Nat.div_pos (Nat.le_of_dvd hn (Nat.dvd_of_mod_eq_zero (Nat.eq_zero_of_not_pos h))) hb
    rw [if_neg h, List.append_nil, ne_eq, List.replicate_eq_nil_iff]
    exact hq.ne'

/-! ### the hook contract: what a subclass owes the generic interface -/

/-- `_sample` of a class with event shape `event`, for contexts whose ROW shape satisfies `okRow`
    (`none` = no context; `some rest` = a context of shape `[R] ++ rest` for any `R`).
    Without a context the count must not be a `bool` (`torch.randn(True, …)` is a TypeError). -/
structure SampleSpec (h : Hooks) (event : Shape) (okRow : Option Shape → Prop) : Prop where
  noctx : okRow none → ∀ num, isPositiveInt num = true → num.isBool = false →
    h.sampleHook num none = .ok (num.toNat :: event)
  ctx : ∀ R rest, okRow (some rest) → Pos rest → ∀ num, isPositiveInt num = true →
    h.sampleHook num (some (R :: rest)) = .ok (R :: num.toNat :: event)

/-- `_log_prob` of a class with event shape `event` -/
structure LogProbSpec (h : Hooks) (event : Shape) (okRow : Option Shape → Prop) : Prop where
  noctx : okRow none → ∀ rows, h.logProbHook (rows :: event) none = .ok [rows]
  ctx : ∀ rows rest, okRow (some rest) → Pos rest → h.logProbHook (rows :: event) (some (rows :: rest)) = .ok [rows]

/-- the full contract of a distribution object (hooks + its public `sample_and_log_prob`) -/
structure DistSpec (d : Dist) (event : Shape) (okRow : Option Shape → Prop) : Prop where
  sample : SampleSpec d.hooks event okRow
  logProb : LogProbSpec d.hooks event okRow
  salp_noctx : okRow none → ∀ num, isPositiveInt num = true → num.isBool = false →
    d.salp num none = .ok (num.toNat :: event, [num.toNat])
  salp_ctx : ∀ R rest, okRow (some rest) → Pos rest → ∀ num, isPositiveInt num = true →
    d.salp num (some (R :: rest)) = .ok (R :: num.toNat :: event, [R, num.toNat])

/-! ### the generic public interface -/

theorem sample_typeError_of_not_posInt (h : Hooks) (num : PyVal) (ctx : Option Shape) (batch : PyVal)
    (hn : isPositiveInt num = false) : h.sample num ctx batch = .error .typeError := by
  simp [Hooks.sample, hn]

theorem sample_typeError_of_bad_batch (h : Hooks) (num : PyVal) (ctx : Option Shape) (batch : PyVal)
    (hb : isPositiveInt batch = false) (hb' : batch ≠ .none) : h.sample num ctx batch = .error .typeError := by
  cases batch with
  | none => exact absurd rfl hb'
  | int _ | bool _ | float | str => simp only [Hooks.sample, hb, Bool.not_false, if_true, ite_self]

theorem sample_unbatched (h : Hooks) (num : PyVal) (ctx : Option Shape) (hn : isPositiveInt num = true) :
    h.sample num ctx .none = h.sampleHook num ctx := by
  simp [Hooks.sample, hn]

@[simp] theorem ok_bind {α β : Type} (a : α) (f : α → Except DErr β) : (Except.ok a >>= f) = f a := rfl
@[simp] theorem error_bind {α β : Type} (e : DErr) (f : α → Except DErr β) : (Except.error e >>= f) = .error e := rfl
@[simp] theorem pure_eq_ok {α : Type} (a : α) : (pure a : Except DErr α) = .ok a := rfl
@[simp] theorem map_ok {α β : Type} (a : α) (f : α → β) : Except.map f (Except.ok a : Except DErr α) = .ok (f a) := rfl
@[simp] theorem map_error {α β : Type} (e : DErr) (f : α → β) : Except.map f (Except.error e : Except DErr α) = .error e := rfl

theorem mapM_replicate_ok {α β : Type} (f : α → Except DErr β) (a : α) (b : β) (hf : f a = .ok b) (q : Nat) :
    (List.replicate q a).mapM f = .ok (List.replicate q b) := by
  induction q with
  | zero => rfl
  | succ k ih => simp [List.replicate_succ, List.mapM_cons, hf, ih]

theorem isPositiveInt_natCast {k : Nat} (hk : 0 < k) : isPositiveInt (.int (k : Int)) = true :=
  decide_eq_true (Int.natCast_pos.mpr hk)

/-! ### the list that `Hooks.sample` concatenates -/

/-- the pieces `Hooks.sample` generates for `batch_size = b` (base.py:76-80): the argument of `catShapes` -/
def samplePieces (h : Hooks) (num : PyVal) (ctx : Option Shape) (b : PyVal) : Except DErr (List Shape) :=
  ((List.replicate (num.toNat / b.toNat) b).mapM (fun k => h.sampleHook k ctx)) >>= fun full =>
  (if num.toNat % b.toNat > 0
   then (h.sampleHook (.int (num.toNat % b.toNat : Nat)) ctx).map (fun s => [s])
   else .ok []) >>= fun rest =>
  .ok (full ++ rest)

/-- `Hooks.sample` after its two argument checks -/
theorem sample_unfold (h : Hooks) (num : PyVal) (ctx : Option Shape) (b : PyVal)
    (hnum : isPositiveInt num = true) (hb : isPositiveInt b = true) :
    h.sample num ctx b =
      (((List.replicate (num.toNat / b.toNat) b).mapM (fun k => h.sampleHook k ctx)) >>= fun full =>
      (if num.toNat % b.toNat > 0
       then (h.sampleHook (.int (num.toNat % b.toNat : Nat)) ctx).map (fun s => [s])
       else .ok []) >>= fun rest =>
      catShapes (catDim ctx) (full ++ rest)) := by
  cases b with
  | none => simp [isPositiveInt] at hb
  | int _ | bool _ | float | str =>
    simp only [Hooks.sample, hnum, hb, Bool.not_true, Bool.false_eq_true, if_false]

theorem sample_eq_cat_samplePieces (h : Hooks) (num : PyVal) (ctx : Option Shape) (b : PyVal)
    (hnum : isPositiveInt num = true) (hb : isPositiveInt b = true) :
    h.sample num ctx b = samplePieces h num ctx b >>= catShapes (catDim ctx) := by
  unfold samplePieces
  rw [sample_unfold h num ctx b hnum hb]
  cases (List.replicate _ _).mapM (fun k => h.sampleHook k ctx) with
  | error e => rfl
  | ok full =>
    simp only [ok_bind]
    split
    · cases h.sampleHook _ ctx with
      | error e => rfl
      | ok s => rfl
    · rfl

theorem samplePieces_generic (h : Hooks) (ctx : Option Shape) (n b : Nat) (hb : 0 < b) (mk : Nat → Shape)
    (hhook : ∀ k : Nat, 0 < k → h.sampleHook (.int k) ctx = .ok (mk k)) :
    samplePieces h (.int n) ctx (.int b) = .ok ((batchSizes n b).map mk) := by
  unfold samplePieces
  simp only [PyVal.toNat, Int.toNat_natCast]
  rw [mapM_replicate_ok (fun k => h.sampleHook k ctx) _ _ (hhook b hb)]
  simp only [ok_bind]
  by_cases hr : n % b > 0
  · have hk := hhook (n % b) hr
    simp only [hr, if_true, hk, map_ok, ok_bind]
    simp [batchSizes, hr, List.map_replicate]
  · simp only [hr, if_false, ok_bind]
    simp [batchSizes, hr, List.map_replicate]

theorem sample_batched_generic (h : Hooks) (ctx : Option Shape) (n b : Nat) (hn : 0 < n) (hb : 0 < b)
    (mk : Nat → Shape)
    (hhook : ∀ k : Nat, 0 < k → h.sampleHook (.int k) ctx = .ok (mk k))
    (hcat : ∀ l : List Nat, l ≠ [] → catShapes (catDim ctx) (l.map mk) = .ok (mk l.sum)) :
    h.sample (.int n) ctx (.int b) = .ok (mk n) := by
  rw [sample_eq_cat_samplePieces h _ ctx _ (isPositiveInt_natCast hn) (isPositiveInt_natCast hb),
    samplePieces_generic h ctx n b hb mk hhook, ok_bind, hcat _ (batchSizes_ne_nil n b hn hb), batchSizes_sum]

/-! ### log_prob -/

theorem logProb_valueError_of_rows_ne (h : Hooks) (i r : Nat) (it ct : Shape) (hne : i ≠ r) :
    h.logProb (i :: it) (some (r :: ct)) = .error .valueError := by
  simp [Hooks.logProb, hne]

theorem logProb_ctx_ok {h : Hooks} {event : Shape} {okRow : Option Shape → Prop} (L : LogProbSpec h event okRow)
    (rows : Nat) (rest : Shape) (hok : okRow (some rest)) (hrest : Pos rest) :
    h.logProb (rows :: event) (some (rows :: rest)) = .ok [rows] := by
  simp [Hooks.logProb, L.ctx rows rest hok hrest]

theorem logProb_noctx_ok {h : Hooks} {event : Shape} {okRow : Option Shape → Prop} (L : LogProbSpec h event okRow)
    (rows : Nat) (hok : okRow none) : h.logProb (rows :: event) none = .ok [rows] := by
  simp [Hooks.logProb, L.noctx hok rows]

/-! ### the default sample_and_log_prob -/

theorem salp_default_noctx {h : Hooks} {event : Shape} {okRow : Option Shape → Prop}
    (S : SampleSpec h event okRow) (L : LogProbSpec h event okRow) (hok : okRow none)
    (num : PyVal) (hnum : isPositiveInt num = true) (hb : num.isBool = false) :
    h.sampleAndLogProb num none = .ok (num.toNat :: event, [num.toNat]) := by
  unfold Hooks.sampleAndLogProb
  rw [sample_unbatched h num none hnum, S.noctx hok num hnum hb]
  simp [logProb_noctx_ok L _ hok]

theorem salp_default_ctx {h : Hooks} {event : Shape} {okRow : Option Shape → Prop}
    (S : SampleSpec h event okRow) (L : LogProbSpec h event okRow) (hev : Pos event)
    (R : Nat) (rest : Shape) (hok : okRow (some rest)) (hrest : Pos rest)
    (num : PyVal) (hnum : isPositiveInt num = true) :
    h.sampleAndLogProb num (some (R :: rest)) = .ok (R :: num.toNat :: event, [R, num.toNat]) := by
  unfold Hooks.sampleAndLogProb
  rw [sample_unbatched h num _ hnum, S.ctx R rest hok hrest num hnum]
  have hn := toNat_pos hnum
  simp only [ok_bind, mergeLeadingDims2_ok R num.toNat event (numel_pos hev),
    repeatRows_ok R rest num hnum (numel_pos hrest), List.head?_cons, ne_eq, not_true_eq_false, if_false,
    logProb_ctx_ok L (R * num.toNat) rest hok hrest,
    splitLeadingDimInfer_ok R num.toNat event hn (numel_pos hev)]
  have : splitLeadingDimInfer [R * num.toNat] num.toNat = .ok [R, num.toNat] :=
    splitLeadingDimInfer_ok R num.toNat [] hn Nat.one_pos
  simp [this]

theorem salp_default_typeError (h : Hooks) (num : PyVal) (ctx : Option Shape) (hnum : isPositiveInt num = false) :
    h.sampleAndLogProb num ctx = .error .typeError := by
  unfold Hooks.sampleAndLogProb
  rw [sample_typeError_of_not_posInt h num ctx .none hnum]
  rfl

/-- a plain `Distribution` subclass meets the full contract as soon as its two hooks do -/
theorem toDist_spec {h : Hooks} {event : Shape} {okRow : Option Shape → Prop}
    (S : SampleSpec h event okRow) (L : LogProbSpec h event okRow) (hev : Pos event) :
    DistSpec h.toDist event okRow where
  sample := S
  logProb := L
  salp_noctx := fun hok num hnum hb => salp_default_noctx S L hok num hnum hb
  salp_ctx := fun R rest hok hrest num hnum => salp_default_ctx S L hev R rest hok hrest num hnum

/-! ### the concrete classes meet the hook contract -/

theorem stdNormal_sampleSpec (event : Shape) : SampleSpec (stdNormal event) event (fun _ => True) where
  noctx := fun _ num _ hb => by simp [stdNormal, hb]
  ctx := fun R rest _ _ num _ => by simp [stdNormal, splitLeadingDim2_ok]

theorem stdNormal_logProbSpec (event : Shape) : LogProbSpec (stdNormal event) event (fun _ => True) where
  noctx := fun _ rows => by simp [stdNormal]
  ctx := fun rows rest _ _ => by simp [stdNormal]

theorem diagNormal_logProbSpec (event : Shape) : LogProbSpec (diagNormal event) event (fun _ => True) where
  noctx := fun _ rows => by simp [diagNormal]
  ctx := fun rows rest _ _ => by simp [diagNormal]

theorem cdnParams_ok (event : Shape) (R : Nat) : cdnParams event (some [R, 2 * numel event]) = .ok (R :: event) := by
  simp [cdnParams, reshapeTo, numel]

theorem condDiagNormal_sampleSpec (event : Shape) (hev : Pos event) :
    SampleSpec (condDiagNormal event) event (fun r => r = some [2 * numel event]) where
  noctx := fun h => by simp at h
  ctx := fun R rest hok _ num hnum => by
    simp only [Option.some.injEq] at hok
    subst hok
    simp only [condDiagNormal, cdnParams_ok, ok_bind, repeatRows_ok R event num hnum (numel_pos hev), splitLeadingDim2_ok]

theorem condDiagNormal_logProbSpec (event : Shape) :
    LogProbSpec (condDiagNormal event) event (fun r => r = some [2 * numel event]) where
  noctx := fun h => by simp at h
  ctx := fun rows rest hok _ => by
    simp only [Option.some.injEq] at hok
    subst hok
    simp only [condDiagNormal, cdnParams_ok, ok_bind, ne_eq, not_true_eq_false, if_false]

theorem bernParams_ok (event : Shape) (R : Nat) : bernParams event (some [R, numel event]) = .ok (R :: event) := by
  simp [bernParams, reshapeTo, numel]

theorem condBernoulli_sampleSpec (event : Shape) (hev : Pos event) :
    SampleSpec (condBernoulli event) event (fun r => r = some [numel event]) where
  noctx := fun h => by simp at h
  ctx := fun R rest hok _ num hnum => by
    simp only [Option.some.injEq] at hok
    subst hok
    simp only [condBernoulli, bernParams_ok, ok_bind, repeatRows_ok R event num hnum (numel_pos hev), splitLeadingDim2_ok]

theorem condBernoulli_logProbSpec (event : Shape) :
    LogProbSpec (condBernoulli event) event (fun r => r = some [numel event]) where
  noctx := fun h => by simp at h
  ctx := fun rows rest hok _ => by
    simp only [Option.some.injEq] at hok
    subst hok
    simp only [condBernoulli, bernParams_ok, ok_bind, ne_eq, not_true_eq_false, if_false]

theorem madeMoG_sampleSpec (D C : Nat) (hD : 0 < D) (hC : 0 < C) :
    SampleSpec (madeMoG D C) [D] (fun r => r = some [C]) where
  noctx := fun h => by simp at h
  ctx := fun R rest hok _ num hnum => by
    simp only [Option.some.injEq] at hok
    subst hok
    have hn := toNat_pos hnum
    have h1 : repeatRows [R, C] num = .ok [R * num.toNat, C] := repeatRows_ok R [C] num hnum (Nat.mul_pos hC Nat.one_pos)
    have h2 : reshapeInfer0 [R * num.toNat, D] [num.toNat, D] = .ok [R, num.toNat, D] :=
      reshapeInfer0_ok _ _ R (Nat.mul_pos hn (Nat.mul_pos hD Nat.one_pos)) (Nat.mul_assoc _ _ _)
    simp only [madeMoG, h1, ok_bind, ne_eq, not_true_eq_false, if_false, h2]

theorem madeMoG_logProbSpec (D C : Nat) :
    LogProbSpec (madeMoG D C) [D] (fun r => r = none ∨ r = some [C]) where
  noctx := fun _ rows => by simp only [madeMoG, ne_eq, not_true_eq_false, if_false]
  ctx := fun rows rest hok _ => by
    rcases hok with h | h
    · simp at h
    · simp only [Option.some.injEq] at h
      subst h
      simp only [madeMoG, ne_eq, not_true_eq_false, if_false, broadcast_self, map_ok]

theorem LogProbSpec.mono {h : Hooks} {event : Shape} {ok ok' : Option Shape → Prop}
    (L : LogProbSpec h event ok) (himp : ∀ r, ok' r → ok r) : LogProbSpec h event ok' where
  noctx := fun hr rows => L.noctx (himp _ hr) rows
  ctx := fun rows rest hr hp => L.ctx rows rest (himp _ hr) hp

/-! ### Flow inherits the contract from its base distribution -/

def embWidth : Emb → Nat → Option Nat
  | .identity, w => some w
  | .linear cin cout, w => if w = cin then some cout else none

/-- the raw contexts a flow accepts (by row shape), given what its base distribution accepts:
    no context needs the identity embedding; a context row of width `w` must embed to the width `w'` the
    transform was built for, and the base must accept rows of that width -/
def okFlow (tr : Tr) (emb : Emb) (okB : Option Shape → Prop) : Option Shape → Prop
  | none => emb = .identity ∧ okB none
  | some rest => ∃ w w', rest = [w] ∧ embWidth emb w = some w' ∧ 0 < w' ∧ tr = .ctxAware w' ∧ okB (some [w'])

theorem emb_apply_ok {emb : Emb} {w w' : Nat} (h : embWidth emb w = some w') (R : Nat) :
    emb.apply (some [R, w]) = .ok (some [R, w']) := by
  cases emb with
  | identity => simp [embWidth] at h; subst h; rfl
  | linear cin cout =>
    simp only [embWidth] at h
    split at h
    · rename_i hw
      simp only [Option.some.injEq] at h
      subst h hw
      simp [Emb.apply]
    · simp at h

theorem tr_apply_noctx (tr : Tr) (event : Shape) (rows : Nat) :
    tr.apply event (rows :: event) none = .ok (rows :: event, [rows]) := by
  cases tr <;> simp [Tr.apply]

theorem tr_apply_ctx (C : Nat) (event : Shape) (rows : Nat) :
    (Tr.ctxAware C).apply event (rows :: event) (some [rows, C]) = .ok (rows :: event, [rows]) := by
  simp [Tr.apply]

theorem flow_spec {tr : Tr} {event : Shape} {base : Dist} {emb : Emb} {okB : Option Shape → Prop}
    (B : DistSpec base event okB) (hev : Pos event) :
    DistSpec (flow tr event base emb) event (okFlow tr emb okB) where
  sample :=
    { noctx := fun hok num hnum hb => by
        obtain ⟨he, hB⟩ := hok
        subst he
        simp only [flow, flowHooks, Emb.apply, ok_bind, Dist.sample, sample_unbatched _ num none hnum,
          B.sample.noctx hB num hnum hb, tr_apply_noctx, pure_eq_ok]
      ctx := fun R rest hok hrest num hnum => by
        obtain ⟨w, w', hr, hw, hw'pos, htr, hB⟩ := hok
        subst hr htr
        have hp := Pos.singleton hw'pos
        have hn := toNat_pos hnum
        simp only [flow, flowHooks, emb_apply_ok hw R, ok_bind, Dist.sample, sample_unbatched _ num _ hnum,
          B.sample.ctx R [w'] hB hp num hnum, mergeLeadingDims2_ok R num.toNat event (numel_pos hev),
          repeatRows_ok R [w'] num hnum (numel_pos hp), tr_apply_ctx,
          splitLeadingDimInfer_ok R num.toNat event hn (numel_pos hev)] }
  logProb :=
    { noctx := fun hok rows => by
        obtain ⟨he, hB⟩ := hok
        subst he
        simp only [flow, flowHooks, Emb.apply, ok_bind, tr_apply_noctx, Dist.logProb,
          logProb_noctx_ok B.logProb rows hB, broadcast_self]
      ctx := fun rows rest hok hrest => by
        obtain ⟨w, w', hr, hw, hw'pos, htr, hB⟩ := hok
        subst hr htr
        have hp := Pos.singleton hw'pos
        simp only [flow, flowHooks, emb_apply_ok hw rows, ok_bind, tr_apply_ctx, Dist.logProb,
          logProb_ctx_ok B.logProb rows [w'] hB hp, broadcast_self] }
  salp_noctx := fun hok num hnum hb => by
    obtain ⟨he, hB⟩ := hok
    subst he
    simp only [flow, flowSalp, Emb.apply, ok_bind, B.salp_noctx hB num hnum hb, tr_apply_noctx, broadcast_self,
      pure_eq_ok]
  salp_ctx := fun R rest hok hrest num hnum => by
    obtain ⟨w, w', hr, hw, hw'pos, htr, hB⟩ := hok
    subst hr htr
    have hp := Pos.singleton hw'pos
    have hn := toNat_pos hnum
    have hl : splitLeadingDimInfer [R * num.toNat] num.toNat = .ok [R, num.toNat] :=
      splitLeadingDimInfer_ok R num.toNat [] hn Nat.one_pos
    simp only [flow, flowSalp, emb_apply_ok hw R, ok_bind, B.salp_ctx R [w'] hB hp num hnum,
      mergeLeadingDims2_ok R num.toNat event (numel_pos hev), repeatRows_ok R [w'] num hnum (numel_pos hp),
      tr_apply_ctx, splitLeadingDimInfer_ok R num.toNat event hn (numel_pos hev), hl, broadcast_self, pure_eq_ok]

/-! ### value level of batched generation -/

theorem piecesLayout_length (p : Nat) (l : List Nat) : (piecesLayout p l).length = l.sum := by
  induction l generalizing p with
  | nil => simp [piecesLayout]
  | cons a t ih => simp [piecesLayout, ih]

theorem piecesLayout_replicate (b : Nat) (hb : 0 < b) (t : List Nat) (m p : Nat) :
    piecesLayout p (List.replicate m b ++ t)
      = (List.range (m * b)).map (fun k => (p + k / b, k % b)) ++ piecesLayout (p + m) t := by
  induction m generalizing p with
  | zero => simp
  | succ m ih =>
    have hfirst : (List.range b).map (fun k => (p + k / b, k % b)) = (List.range b).map (fun q => (p, q)) :=
      List.map_congr_left fun k hk => by
        rw [List.mem_range] at hk
        rw [Nat.div_eq_of_lt hk, Nat.mod_eq_of_lt hk, Nat.add_zero]
    have hshift : (fun k => (p + k / b, k % b)) ∘ (fun k => b + k) = fun k => (p + 1 + k / b, k % b) := by
      funext k
      rw [Function.comp_apply, Nat.add_div_left _ hb, Nat.add_mod_left, Nat.add_right_comm]
      rfl
    rw [List.replicate_succ, List.cons_append, piecesLayout, ih (p + 1), Nat.add_mul, Nat.one_mul,
      Nat.add_comm (m * b) b, List.range_add, List.map_append, List.map_map, hfirst, hshift, List.append_assoc,
      Nat.add_right_comm p 1 m]
    rfl

/-- the draws of a batched `sample(n, batch_size=b)` in order: draw `k` is draw `k mod b` of batch `k div b` -/
theorem batchLayout_eq (n b : Nat) (hb : 0 < b) : batchLayout n b = (List.range n).map fun k => (k / b, k % b) := by
  have hlast : piecesLayout (0 + n / b) (if n % b > 0 then [n % b] else [])
      = (List.range (n % b)).map fun q => (n / b, q) := by
    split
    · rw [piecesLayout, piecesLayout, List.append_nil, Nat.zero_add]
    · rw [(Nat.eq_zero_of_not_pos ‹¬ n % b > 0› : n % b = 0)]; rfl
  have hshift : (List.range (n % b)).map ((fun k => (k / b, k % b)) ∘ fun q => n / b * b + q)
      = (List.range (n % b)).map fun q => (n / b, q) :=
    List.map_congr_left fun q hq => by
      have hq' : q < b := Nat.lt_trans (List.mem_range.mp hq) (Nat.mod_lt n hb)
      rw [Function.comp_apply, RowMajor.div _ hq', RowMajor.mod _ hq']
  have hn : n / b * b + n % b = n := by rw [Nat.mul_comm]; exact Nat.div_add_mod n b
  rw [batchLayout, batchSizes, piecesLayout_replicate b hb, hlast]
  simp only [Nat.zero_add]
  conv_rhs => rw [← hn, List.range_add, List.map_append, List.map_map, hshift]

theorem batchLayout_spec (n b : Nat) (hb : 0 < b) :
    (batchLayout n b).length = n ∧ ∀ k, k < n → (batchLayout n b)[k]? = some (k / b, k % b) := by
  rw [batchLayout_eq n b hb]
  exact ⟨by rw [List.length_map, List.length_range],
    fun k hk => by rw [List.getElem?_map, List.getElem?_range hk]; rfl⟩

/-! ### unified statements over "no context / a context the class accepts" -/

/-- the context argument is one the class accepts: `None` if the class works unconditionally, or a tensor
    `[R] ++ rest` (any `R`) with positive row dimensions of an accepted row shape -/
def Accepts (okRow : Option Shape → Prop) : Option Shape → Prop
  | none => okRow none
  | some [] => False
  | some (_ :: rest) => okRow (some rest) ∧ Pos rest

def ctxRows : Option Shape → Option Nat
  | none => none
  | some [] => none
  | some (r :: _) => some r

/-- an argument the documentation allows for `batch_size`: `None` or a positive `int` -/
def GoodBatch : PyVal → Prop
  | .none => True
  | .int b => 0 < b
  | _ => False

/-- the shape a hook owes for `k` draws -/
def pieceShape (event : Shape) (ctx : Option Shape) (k : Nat) : Shape := contractSample event (ctxRows ctx) k

theorem hook_pieceShape {h : Hooks} {event : Shape} {okRow : Option Shape → Prop} (S : SampleSpec h event okRow)
    (ctx : Option Shape) (hctx : Accepts okRow ctx) (k : Nat) (hk : 0 < k) :
    h.sampleHook (.int k) ctx = .ok (pieceShape event ctx k) := by
  match ctx, hctx with
  | none, hc => exact S.noctx hc (.int k) (isPositiveInt_natCast hk) rfl
  | some (R :: rest), hc => exact S.ctx R rest hc.1 hc.2 (.int k) (isPositiveInt_natCast hk)

theorem accepts_ne_nil {okRow : Option Shape → Prop} {ctx : Option Shape} (h : Accepts okRow ctx) : ctx ≠ some [] := by
  rintro rfl; exact h

theorem cat_pieceShape (event : Shape) (ctx : Option Shape) (hctx : ctx ≠ some []) (l : List Nat) (hl : l ≠ []) :
    catShapes (catDim ctx) (l.map (pieceShape event ctx)) = .ok (pieceShape event ctx l.sum) := by
  match ctx, hctx with
  | none, _ => exact cat_dim0 event l hl
  | some (R :: rest), _ => exact cat_dim1 R event l hl

theorem sample_ok {h : Hooks} {event : Shape} {okRow : Option Shape → Prop} (S : SampleSpec h event okRow)
    (ctx : Option Shape) (hctx : Accepts okRow ctx) (n : Nat) (hn : 0 < n) (batch : PyVal) (hb : GoodBatch batch) :
    h.sample (.int n) ctx batch = .ok (contractSample event (ctxRows ctx) n) := by
  cases batch with
  | none =>
    rw [sample_unbatched h _ ctx (isPositiveInt_natCast hn)]
    exact hook_pieceShape S ctx hctx n hn
  | int b =>
    have hb' : 0 < b := hb
    obtain ⟨b', rfl⟩ : ∃ b' : Nat, b = (b' : Int) := ⟨b.toNat, by omega⟩
    exact sample_batched_generic h ctx n b' hn (by exact_mod_cast hb') _ (hook_pieceShape S ctx hctx)
      (cat_pieceShape event ctx (accepts_ne_nil hctx))
  | bool _ => exact absurd hb (by simp [GoodBatch])
  | float => exact absurd hb (by simp [GoodBatch])
  | str => exact absurd hb (by simp [GoodBatch])

theorem logProb_ok {h : Hooks} {event : Shape} {okRow : Option Shape → Prop} (L : LogProbSpec h event okRow)
    (rows : Nat) (ctx : Option Shape) (hctx : Accepts okRow ctx) (hrows : ∀ r, ctxRows ctx = some r → r = rows) :
    h.logProb (rows :: event) ctx = .ok [rows] := by
  match ctx, hctx with
  | none, hc => exact logProb_noctx_ok L rows hc
  | some (R :: rest), hc =>
    have : R = rows := hrows R rfl
    subst this
    exact logProb_ctx_ok L R rest hc.1 hc.2

theorem salp_ok {d : Dist} {event : Shape} {okRow : Option Shape → Prop} (D : DistSpec d event okRow)
    (ctx : Option Shape) (hctx : Accepts okRow ctx) (n : Nat) (hn : 0 < n) :
    d.salp (.int n) ctx = .ok (contractSample event (ctxRows ctx) n, contractLogProb (ctxRows ctx) n) := by
  have hpos := isPositiveInt_natCast hn
  match ctx, hctx with
  | none, hc => exact D.salp_noctx hc (.int n) hpos rfl
  | some (R :: rest), hc => exact D.salp_ctx R rest hc.1 hc.2 (.int n) hpos

end NF.Dist
