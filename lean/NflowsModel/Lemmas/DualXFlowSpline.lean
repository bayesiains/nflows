import NflowsModel.Lemmas.DualXFlowStages
import NflowsModel.Lemmas.DualXTails
import NflowsModel.Lemmas.StructureExecRQTails
import Mathlib.Tactic
/-!
# Lemmas/DualXFlowSpline — coupling layers whose element is sound only on a set, as stages of a flow on dual numbers (C16)

The coupling layer built on the executed RQ spline WITH LINEAR TAILS (every unnormalised parameter and the input moving:
`DualXTails.rqSplineTails_dual_param_curve`) as a `DualSoundStageOn` the set `CouplingAdm` of dual inputs all of whose executed
elements are admissible (input in a tail or strictly inside a bin, no PADDED unnormalised derivative on the softplus threshold),
and `Flow.log_prob` of `[ActNorm, LULinear, RQ-tails coupling]` with the conditioner `affNet`.
-/
open NF DualSound DualX DualXLU Filter Topology NF.Density NF.FlowRowsExec NF.StageMore NF.Norm LinearFresh
  NF.RowIndependenceMore NonlinExec DualXFlow DualXFlowStages

namespace DualXFlowSpline
noncomputable section

variable {e : Float → ℝ} {t : ℝ}

/-- the admissible dual inputs of a coupling stage: every executed element `(b, tp, sp)` — input entry read from `dX`,
    parameters the dual conditioner output — satisfies the element predicate `Q Ft b tp sp dP dx` -/
def CouplingAdm (e : Float → ℝ) (dmask : List (ℝ × ℝ)) (S : ℕ)
    (netD : ℕ → Array (ℝ × ℝ) → Array (ℝ × ℝ) → Array (ℝ × ℝ))
    (Q : ℕ → ℕ → ℕ → ℕ → Array (ℝ × ℝ) → ℝ × ℝ → Prop) (B : ℕ) (dX dc : Array (ℝ × ℝ)) : Prop :=
  ∀ b ∈ List.range B, ∀ p ∈ rowIter (transformIdx (DX e) dmask).length S,
    Q (transformIdx (DX e) dmask).length b p.1 p.2
      (netD B (gatherCh dX B dmask.length S (identityIdx (DX e) dmask) (DX e).zero) dc)
      (dX.getD (flatIdx dmask.length S b ((transformIdx (DX e) dmask).getD p.1 0) p.2) (DX e).zero)

variable (e) in
theorem dualSoundOn_couplingStage_of_el (c : ElCfg) (dmask : List (ℝ × ℝ)) (S : ℕ)
    (Q : ℕ → ℕ → ℕ → ℕ → Array (ℝ × ℝ) → ℝ × ℝ → Prop)
    (hel : ∀ (Ft b tp sp : ℕ) (P : ℝ → Array ℝ) (dP : Array (ℝ × ℝ)) (fx : ℝ → ℝ) (dx : ℝ × ℝ), DA t P dP → IsDual fx t dx →
      Q Ft b tp sp dP dx →
      RelEl t (fun s => couplingEl (RX e) c Ft S (P s) false b tp sp (fx s)) (couplingEl (DX e) c Ft S dP false b tp sp dx))
    {netR : ℝ → ℕ → Array ℝ → Array ℝ → Array ℝ} {netD : ℕ → Array (ℝ × ℝ) → Array (ℝ × ℝ) → Array (ℝ × ℝ)}
    (hnet : DualSoundNet t netR netD) :
    DualSoundStageOn t (CouplingAdm e dmask S netD Q)
      (fun s => couplingStage (NF.realX e) c (dmask.map Prod.fst) S false none #[] (netR s))
      (couplingStage (dualX (NF.realX e)) c dmask S false none #[] netD) :=
  .of_accepted fun B X c' dX dc hadm hX hc => couplingStage_key e c dmask S Q hel hnet B X c' dX dc hadm hX hc

/-! ## one element of the executed coupling layer (`kind = "rq"`, `tails = true`), and the layer as a stage -/

section element
open RQWhole TailsWhole DualXParam NF.StructureExec DualXCoupling

/-- the admissible (parameter row, input) pairs of one RQ-tails element: no PADDED derivative parameter (the two padding
    constants included) on the softplus threshold `β·u = 20`, and the input outside `[-B, B]` or strictly inside a bin.
    `tTb c`, `tMW c`, `tMH c`, `tMD c`, `tBe c` are the tail bound `B`, the minimal bin width / height / derivative and the softplus
    `β` the element reads from `c.ds` (`Lemmas/StructureExecRQTails.lean`); `TailsWhole.cfgT` is the RQ configuration on `[-B, B]²`,
    `TailsWhole.udT` the derivative row padded with the constant at both ends -/
def TailsElAdm (e : Float → ℝ) (c : ElCfg) (p : List ℝ) (x : ℝ) : Prop :=
  (∀ k < (udT e (tMD c) (rqD c p)).length, e (tBe c) * (udT e (tMD c) (rqD c p)).getD k 0 ≠ 20) ∧
  ((x < -e (tTb c) ∨ e (tTb c) < x) ∨
    ∃ k, k < (rqW (NF.realX e) c p).length ∧
      xs e (cfgT (tTb c) (tMW c) (tMH c) (tMD c) (tBe c)) (rqW (NF.realX e) c p) k < x ∧
      x < xs e (cfgT (tTb c) (tMW c) (tMH c) (tMD c) (tBe c)) (rqW (NF.realX e) c p) (k+1))

def tY (e : Float → ℝ) (c : ElCfg) (p : List ℝ) (x : ℝ) : ℝ :=
  valT e (tTb c) (tMW c) (tMH c) (tMD c) (tBe c) (rqW (NF.realX e) c p) (rqH (NF.realX e) c p) (rqD c p) x
def tL (e : Float → ℝ) (c : ElCfg) (p : List ℝ) (x : ℝ) : ℝ :=
  ldT e (tTb c) (tMW c) (tMH c) (tMD c) (tBe c) (rqW (NF.realX e) c p) (rqH (NF.realX e) c p) (rqD c p) x

theorem elTransform_rqTails_dual {c : ElCfg} (hc : RQTailsCfgValid e c) {P : ℝ → List ℝ} {FX : ℝ → ℝ} {dp : List (ℝ × ℝ)}
    {dx : ℝ × ℝ} (hP : IsDualL P t dp) (hlen : (P t).length = 3 * c.K - 1) (hX : IsDual FX t dx)
    (hin : TailsElAdm e c (P t) (FX t)) :
    ∃ y' l' : ℝ, elTransform (dualX (NF.realX e)) c false dp dx
        = .ok ((tY e c (P t) (FX t), y'), (tL e c (P t) (FX t), l'), []) ∧
      HasDerivAt (fun s => tY e c (P s) (FX s)) y' t ∧ HasDerivAt (fun s => tL e c (P s) (FX s)) l' t := by
  obtain ⟨y', l', hrun, hy, hl⟩ := (DualXTails.rqSplineTails_dual_param_curve (tb := tTb c) (minW := tMW c) (minH := tMH c)
    (minD := tMD c) (beta := tBe c) (rqW_dualL (e := e) c hP) (rqH_dualL (e := e) c hP) (rqD_dualL c hP) hX
    (rqTailsSliceValid_of_cfg hc (P t) hlen) hin.1 hin.2).values (f := fun s => tY e c (P s) (FX s))
    (g := fun s => tL e c (P s) (FX s)) (fun _ => rfl) (fun _ => rfl)
  refine ⟨y', l', ?_, hy, hl⟩
  rw [TailsWhole.elTransform_rq_tails _ c hc.hk hc.ht, hrun]
  rfl

variable (e) in
theorem couplingEl_rqTails_rel {c : ElCfg} (hc : RQTailsCfgValid e c) (Ft S b tp sp : ℕ) {P : ℝ → Array ℝ}
    {dP : Array (ℝ × ℝ)} {fx : ℝ → ℝ} {dx : ℝ × ℝ} (hP : DA t P dP) (hx : IsDual fx t dx)
    (hin : TailsElAdm e c ((condSlice (DX e) c.mult Ft S dP b tp sp).map Prod.fst) dx.1) :
    RelEl t (fun s => couplingEl (RX e) c Ft S (P s) false b tp sp (fx s)) (couplingEl (DX e) c Ft S dP false b tp sp dx) := by
  have hk1 : c.kind ≠ "affine" := by rw [hc.hk]; decide
  have hk2 : c.kind ≠ "additive" := by rw [hc.hk]; decide
  have hS := condSlice_dualL (e := e) (DL.isDualL hP) c.mult Ft S b tp sp
  have hlen : ∀ s, (condSlice (NF.realX e) c.mult Ft S (P s) b tp sp).length = 3 * c.K - 1 := fun s => by
    rw [condSlice_length, mult_rq_tails hc.hk hc.ht]
  rw [hS.map_fst, hx.1] at hin
  obtain ⟨y', l', hrun, hy, hl⟩ := elTransform_rqTails_dual hc hS (hlen t) hx hin
  refine ⟨fun s => tY e c (condSlice (NF.realX e) c.mult Ft S (P s) b tp sp) (fx s),
    fun s => tL e c (condSlice (NF.realX e) c.mult Ft S (P s) b tp sp) (fx s), fun _ => [],
    (tY e c (condSlice (NF.realX e) c.mult Ft S (P t) b tp sp) (fx t), y'),
    (tL e c (condSlice (NF.realX e) c.mult Ft S (P t) b tp sp) (fx t), l'), [], fun s => ?_, ?_,
    ⟨rfl, hy⟩, ⟨rfl, hl⟩⟩
  · show couplingEl (RX e) c Ft S (P s) false b tp sp (fx s) = _
    rw [couplingEl_spline _ c S (P s) false hk1 hk2]
    exact (rqTails_el_total e c hc.hk hc.ht _ (rqTailsSliceValid_of_cfg hc _ (hlen s)) (fx s)).1
  · rw [couplingEl_spline _ c S dP false hk1 hk2]
    exact hrun

def TailsQ (e : Float → ℝ) (c : ElCfg) (S : ℕ) : ℕ → ℕ → ℕ → ℕ → Array (ℝ × ℝ) → ℝ × ℝ → Prop :=
  fun Ft b tp sp dP dx => TailsElAdm e c ((condSlice (DX e) c.mult Ft S dP b tp sp).map Prod.fst) dx.1

variable (e) in
/-- **HEADLINE: the executed forward coupling stage with RQ-linear-tails elements and any dual-sound conditioner is dual sound
    (never raising, accepted at EVERY `s`) on the admissible set**: every executed element has its input outside `[-B, B]` or
    strictly inside a bin of the knots computed from the conditioner's output (not ON a knot; `±B` are the first / last knot),
    and no padded unnormalised derivative on the softplus threshold. -/
theorem dualSound_couplingStage_rqTails {c : ElCfg} (hc : RQTailsCfgValid e c) (dmask : List (ℝ × ℝ)) (S : ℕ)
    {netR : ℝ → ℕ → Array ℝ → Array ℝ → Array ℝ} {netD : ℕ → Array (ℝ × ℝ) → Array (ℝ × ℝ) → Array (ℝ × ℝ)}
    (hnet : DualSoundNet t netR netD) :
    DualSoundStageOn t (CouplingAdm e dmask S netD (TailsQ e c S))
      (fun s => couplingStage (NF.realX e) c (dmask.map Prod.fst) S false none #[] (netR s))
      (couplingStage (dualX (NF.realX e)) c dmask S false none #[] netD) :=
  dualSoundOn_couplingStage_of_el e c dmask S (TailsQ e c S)
    (fun Ft b tp sp _ _ _ _ hP hx hQ => couplingEl_rqTails_rel e hc Ft S b tp sp hP hx hQ) hnet

end element

/-! ## `Flow._log_prob` over stages that are dual sound ON A SET: acceptance at every `s` -/

section flow

variable (e) in
/-- **`Flow.log_prob` along straight lines for a `CompositeTransform` of stages dual sound on sets**, acceptance at every `s` -/
theorem flow_logprob_dual_sound_on (w : ℕ) {Ts : List NearTriple} (hT : ∀ T ∈ Ts, DualSoundStageOn 0 T.1 T.2.1 T.2.2)
    {bR : ℝ → BaseD ℝ} {bD : BaseD (ℝ × ℝ)} (hb : DualSoundBase 0 bR bD) (B : ℕ) (dX dctx : Array (ℝ × ℝ))
    (hP : cascadeP B dctx Ts dX) :
    (∀ dlps, flowLogProbExec (dualX (NF.realX e)) w (fun _ a => a) (compStage (dualX (NF.realX e)) (Ts.map fun T => T.2.2)) bD B
        dX dctx = .ok dlps →
      ∃ lps : ℝ → List ℝ,
        (∀ s, flowLogProbExec (NF.realX e) w (fun _ a => a) (compStage (NF.realX e) (Ts.map fun T => T.2.1 s))
          (bR s) B (lineA s dX) (lineA s dctx) = .ok (lps s)) ∧
        (∀ s, (lps s).length = dlps.length) ∧
        ∀ i, (dlps.getD i (0, 0)).1 = (lps 0).getD i 0 ∧ HasDerivAt (fun s => (lps s).getD i 0) (dlps.getD i (0, 0)).2 0) ∧
    (∀ err, flowLogProbExec (dualX (NF.realX e)) w (fun _ a => a) (compStage (dualX (NF.realX e)) (Ts.map fun T => T.2.2)) bD B
        dX dctx = .error err →
      ∀ s, flowLogProbExec (NF.realX e) w (fun _ a => a) (compStage (NF.realX e) (Ts.map fun T => T.2.1 s)) (bR s) B
        (lineA s dX) (lineA s dctx) = .error err) :=
  by
  simpa only [eventually_top] using flow_logprob_line_along (e := e) le_rfl w
    (dualSoundStageOn_iff_along.1 (dualSoundOn_compStage e hT)) hb B dX dctx hP

end flow

/-! ## `Flow.log_prob` of `[ActNorm, LULinear, RQ-tails coupling]` with an affine-map conditioner, every parameter moving -/

section rqflow
open NF.StructureExec

/-- the three stages with their admissible sets: `ActNorm` and `LULinear` are sound everywhere, the coupling on `CouplingAdm` -/
def rqTs (e : Float → ℝ) (w : ℕ) (ds : ActSt (ℝ × ℝ)) (dp : LF.LUParams (ℝ × ℝ)) (c : ElCfg) (dmask : List (ℝ × ℝ))
    (S win wout : ℕ) (dW : List (List (ℝ × ℝ))) (db : List (ℝ × ℝ)) : List NearTriple :=
  [(fun _ _ _ => True, fun s => actStage (NF.realX e) w (lineAct s ds), actStage (dualX (NF.realX e)) w ds),
   (fun _ _ _ => True, fun s => luStage (NF.realX e) w (lineP s dp), luStage (dualX (NF.realX e)) w dp),
   (CouplingAdm e dmask S (affNet (dualX (NF.realX e)) win wout dW db) (TailsQ e c S),
    fun s => couplingStage (NF.realX e) c (dmask.map Prod.fst) S false none #[]
      (affNet (NF.realX e) win wout (lineM s dW) (lineV s db)),
    couplingStage (dualX (NF.realX e)) c dmask S false none #[] (affNet (dualX (NF.realX e)) win wout dW db))]

variable (e) in
/-- **HEADLINE: the flow `[ActNorm, LULinear, PiecewiseRationalQuadraticCouplingTransform(tails="linear")]` with a
    standard-normal base, `log_prob` on dual numbers.**  Inputs, context, `log_scale`, `shift`, every `LULinear` tensor and the
    weights / bias of the coupling's conditioner `x_id ↦ W x_id + b` (which produces the unnormalised widths, heights and
    derivatives of every spline) move along `primal + s · tangent`.  On dual inputs admissible for the cascade (`cascadeP`: what
    the dual `LULinear` stage hands to the coupling has every transformed entry off the knots of its own spline, and no padded
    unnormalised derivative on the softplus threshold): if the dual run returns `dlps`, the real run is accepted at EVERY `s` and
    each entry of `dlps` is (real `log_prob` of the row, its derivative at `s = 0`); if the dual run raises, the real run raises
    the same exception at every `s`. -/
theorem flow_rq_coupling_logprob_dual_sound (w : ℕ) (ds : ActSt (ℝ × ℝ)) (dp : LF.LUParams (ℝ × ℝ)) {c : ElCfg}
    (hc : RQTailsCfgValid e c) (dmask : List (ℝ × ℝ)) (S win wout : ℕ) (dW : List (List (ℝ × ℝ))) (db : List (ℝ × ℝ))
    (hs : ds.initialized = true ∨ ds.training = false) (hthr : ∀ d ∈ dp.udiag, d.1 ≠ 20) (heps : 0 ≤ dp.eps.1)
    (shape inShape : List ℕ) (cf : Bool) (B : ℕ) (dX dctx : Array (ℝ × ℝ))
    (hP : cascadeP B dctx (rqTs e w ds dp c dmask S win wout dW db) dX) :
    let flowD := flowLogProbExec (dualX (NF.realX e)) w (fun _ a => a)
      (compStage (dualX (NF.realX e)) [actStage (dualX (NF.realX e)) w ds, luStage (dualX (NF.realX e)) w dp,
        couplingStage (dualX (NF.realX e)) c dmask S false none #[] (affNet (dualX (NF.realX e)) win wout dW db)])
      (fun B rows _ => stdNormalLogProb (dualX (NF.realX e)) shape inShape (ctxOf cf B) rows) B dX dctx
    let flowR := fun s : ℝ => flowLogProbExec (NF.realX e) w (fun _ a => a)
      (compStage (NF.realX e) [actStage (NF.realX e) w (lineAct s ds), luStage (NF.realX e) w (lineP s dp),
        couplingStage (NF.realX e) c (dmask.map Prod.fst) S false none #[]
          (affNet (NF.realX e) win wout (lineM s dW) (lineV s db))])
      (fun B rows _ => stdNormalLogProb (NF.realX e) shape inShape (ctxOf cf B) rows) B
        (lineA s dX) (lineA s dctx)
    (∀ dlps, flowD = .ok dlps → ∃ lps : ℝ → List ℝ, (∀ s, flowR s = .ok (lps s)) ∧ (∀ s, (lps s).length = dlps.length) ∧
      ∀ i, (dlps.getD i (0, 0)).1 = (lps 0).getD i 0 ∧ HasDerivAt (fun s => (lps s).getD i 0) (dlps.getD i (0, 0)).2 0) ∧
    (∀ err, flowD = .error err → ∀ s, flowR s = .error err) := by
  have hT : ∀ T ∈ rqTs e w ds dp c dmask S win wout dW db, DualSoundStageOn 0 T.1 T.2.1 T.2.2 :=
    List.forall_mem_cons.2 ⟨DualXFlowStages.DualSoundStage.on (dualSound_actStage e w (lineAct_curve ds) hs) _,
      List.forall_mem_cons.2 ⟨DualXFlowStages.DualSoundStage.on (dualSound_luStage_line e w dp hthr heps) _,
        List.forall_mem_cons.2 ⟨dualSound_couplingStage_rqTails e hc dmask S
          (dualSoundNet_affNet e win wout (lineM_dual dW) (lineV_dual db)), fun _ h => absurd h List.not_mem_nil⟩⟩⟩
  exact flow_logprob_dual_sound_on e w hT (standard_normal_logprob_dual_sound e shape inShape cf) B dX dctx hP

end rqflow

/-! ## non-vacuity: width 2, mask `(0, 1)`, `K = 2` bins, tail bound 1 (`cT2`), conditioner `x₀ ↦ (a,b,p,q,r)·s·x₀ + bias` -/

section witness
open NF.StructureExec TailsWhole

theorem netEx (z z' a b p q r : ℝ) :
    affNet (dualX (NF.realX eW)) 1 5 [[(0, a)], [(0, b)], [(0, p)], [(0, q)], [(0, r)]] [(0, 1), (0, 0), (0, 1), (0, 0), (0, 1)]
      1 #[(z, z')] #[] = #[(0, a * z + 1), (0, b * z), (0, p * z + 1), (0, q * z), (0, r * z + 1)] := by
  simp [affNet, LF.linear, LF.matVec, LF.addV, LF.dot, LF.sum, LF.zero, rowsD, rowD, fitRow, List.range_succ, d_ofRat]

theorem ite_le_of_le {c : Prop} [Decidable c] {a b m : ℝ} (ha : a ≤ m) (hb : b ≤ m) : ite c a b ≤ m := by
  split <;> assumption

theorem eW_le_two (f : Float) : eW f ≤ 2 :=
  ite_le_of_le (by norm_num) (ite_le_of_le (by norm_num) (ite_le_of_le (by norm_num) (ite_le_of_le le_rfl one_le_two)))

/-- **the admissible set of the RQ-tails coupling stage is not empty**: one row `(z, 2)`, feature 0 conditions feature 1, the
    transformed entry `2` lies in the upper linear tail (`B = 1`), the three padded unnormalised derivatives are off the
    threshold; every weight and bias of the conditioner and both inputs carry arbitrary tangents -/
theorem couplingAdm_example (z z' x' a b p q r : ℝ) :
    CouplingAdm eW [(0, 0), (1, 0)] 1
      (affNet (dualX (NF.realX eW)) 1 5 [[(0, a)], [(0, b)], [(0, p)], [(0, q)], [(0, r)]] [(0, 1), (0, 0), (0, 1), (0, 0), (0, 1)])
      (TailsQ eW cT2 1) 1 #[(z, z'), (2, x')] #[] := by
  have hid : identityIdx (DX eW) [(0, 0), (1, 0)] = [0] := by
    show List.filter (fun i => decide (([((0:ℝ), (0:ℝ)), (1, 0)].getD i (DX eW).zero).1 ≤ (DX eW).zero.1)) [0, 1] = [0]
    simp only [List.filter_cons, List.filter_nil, List.getD_cons_zero, List.getD_cons_succ, d_zero]
    norm_num
  have htr : transformIdx (DX eW) [(0, 0), (1, 0)] = [1] := by
    show List.filter (fun i => decide ((DX eW).zero.1 < ([((0:ℝ), (0:ℝ)), (1, 0)].getD i (DX eW).zero).1)) [0, 1] = [1]
    simp only [List.filter_cons, List.filter_nil, List.getD_cons_zero, List.getD_cons_succ, d_zero]
    norm_num
  unfold CouplingAdm
  rw [htr, hid]
  intro b hb p hp
  obtain rfl : b = 0 := by simpa using hb
  obtain rfl : p = (0, 0) := by simpa [rowIter] using hp
  have hg : gatherCh #[(z, z'), ((2:ℝ), x')] 1 2 1 [0] (DX eW).zero = #[(z, z')] := rfl
  rw [show ([((0:ℝ), (0:ℝ)), (1, 0)] : List (ℝ × ℝ)).length = 2 from rfl, hg, netEx]
  refine ⟨fun k hk => ?_, Or.inl (Or.inr ?_)⟩
  · -- the padded unnormalised derivatives are `cstT, 0, cstT`, and a value of `eW` is at most `2`
    have h2 : ∀ u : ℝ, u ≤ 2 → eW 1.0 * u ≠ 20 := fun u h => by
      rw [eW_one, one_mul]; exact ne_of_lt (lt_of_le_of_lt h (by norm_num))
    change k < 3 at hk
    interval_cases k
    · exact h2 _ (eW_le_two _)
    · exact h2 _ zero_le_two
    · exact h2 _ (eW_le_two _)
  · show eW 1.0 < 2
    rw [eW_one]; exact one_lt_two

/-- … and there the dual coupling stage IS accepted, the real stage is accepted at EVERY `s` along the line, and the dual outputs
    are (value, derivative at 0) of the real outputs and row log-dets -/
example (z z' x' a b p q r : ℝ) :
    ∃ (Y : ℝ → Array ℝ) (L : ℝ → List ℝ) (dY : Array (ℝ × ℝ)) (dL : List (ℝ × ℝ)),
      couplingStage (dualX (NF.realX eW)) cT2 [(0, 0), (1, 0)] 1 false none #[]
        (affNet (dualX (NF.realX eW)) 1 5 [[(0, a)], [(0, b)], [(0, p)], [(0, q)], [(0, r)]]
          [(0, 1), (0, 0), (0, 1), (0, 0), (0, 1)]) 1 #[(z, z'), (2, x')] #[] = .ok (dY, dL) ∧
      (∀ s, couplingStage (NF.realX eW) cT2 ([((0:ℝ), (0:ℝ)), (1, 0)].map Prod.fst) 1 false none #[]
          (affNet (NF.realX eW) 1 5 (lineM s [[(0, a)], [(0, b)], [(0, p)], [(0, q)], [(0, r)]])
            (lineV s [(0, 1), (0, 0), (0, 1), (0, 0), (0, 1)])) 1 (lineA s #[(z, z'), (2, x')]) (lineA s #[]) = .ok (Y s, L s)) ∧
      DA 0 Y dY ∧ DV 0 L dL :=
  couplingStage_key (t := 0) eW cT2 [(0, 0), (1, 0)] 1 (TailsQ eW cT2 1)
    (fun Ft b tp sp _ _ _ _ hP hx hQ => couplingEl_rqTails_rel eW rqTailsCfgValid_example Ft 1 b tp sp hP hx hQ)
    (dualSoundNet_affNet eW 1 5 (lineM_dual [[(0, a)], [(0, b)], [(0, p)], [(0, q)], [(0, r)]])
      (lineV_dual [(0, 1), (0, 0), (0, 1), (0, 0), (0, 1)]))
    1 _ _ _ _ (couplingAdm_example z z' x' a b p q r) (lineA_dual _) (lineA_dual _)

end witness

end
end DualXFlowSpline
