import Mathlib.Tactic

namespace AutoregInverse

/-! generic autoregressive inverse (autoregressive.py:43-52): D passes are exact -/
variable {n : ℕ} {X P : Type}

/-- conditioner is strictly autoregressive: output i only looks at coordinates < i (C06) -/
def StrictAR (g : (Fin n → X) → Fin n → P) : Prop :=
  ∀ x x' i, (∀ j, j < i → x j = x' j) → g x i = g x' i

def arForward (g : (Fin n → X) → Fin n → P) (f : P → X → X) (x : Fin n → X) : Fin n → X :=
  fun i => f (g x i) (x i)

def arPass (g : (Fin n → X) → Fin n → P) (finv : P → X → X) (y : Fin n → X) (cur : Fin n → X) : Fin n → X :=
  fun i => finv (g cur i) (y i)

def arIter (g : (Fin n → X) → Fin n → P) (finv : P → X → X) (y : Fin n → X) (z0 : Fin n → X) : ℕ → (Fin n → X)
  | 0 => z0
  | k+1 => arPass g finv y (arIter g finv y z0 k)

theorem arIter_prefix (g : (Fin n → X) → Fin n → P) (f finv : P → X → X)
    (hg : StrictAR g) (hinv : ∀ p x, finv p (f p x) = x) (x z0 : Fin n → X) (k : ℕ) :
    ∀ i : Fin n, (i : ℕ) < k → arIter g finv (arForward g f x) z0 k i = x i := by
  induction k with
  | zero => intro i hi; exact absurd hi (Nat.not_lt_zero _)
  | succ k ih =>
    intro i hi
    simp only [arIter, arPass, arForward]
    have : g (arIter g finv (arForward g f x) z0 k) i = g x i := by
      apply hg
      intro j hj
      exact ih j (by have : (j : ℕ) < i := hj; omega)
    rw [this, hinv]

/-- after n passes the inverse is exact, from any starting point (the code starts from zeros) -/
theorem autoregressive_inverse_exact (g : (Fin n → X) → Fin n → P) (f finv : P → X → X)
    (hg : StrictAR g) (hinv : ∀ p x, finv p (f p x) = x) (x z0 : Fin n → X) :
    arIter g finv (arForward g f x) z0 n = x := by
  funext i; exact arIter_prefix g f finv hg hinv x z0 n i i.isLt

/-- and the parameters used by the last pass (for the log-det) are the forward parameters -/
theorem last_pass_params (g : (Fin n → X) → Fin n → P) (f finv : P → X → X)
    (hg : StrictAR g) (hinv : ∀ p x, finv p (f p x) = x) (x z0 : Fin n → X) (hn : 0 < n) :
    g (arIter g finv (arForward g f x) z0 (n-1)) = g x := by
  funext i
  apply hg
  intro j hj
  exact arIter_prefix g f finv hg hinv x z0 (n-1) j (by have : (j:ℕ) < i := hj; have := i.isLt; omega)


end AutoregInverse
