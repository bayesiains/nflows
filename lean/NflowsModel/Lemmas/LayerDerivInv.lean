import NflowsModel.Lemmas.LayerDerivMore
import NflowsModel.Lemmas.StructureExecRQ
/-!
# Lemmas/LayerDerivInv — C01 / C02 inside the executed coupling layer, INVERSE pass

Continues `Lemmas/LayerDerivMore.lean` (same generic step `ElLawAt` / `coupling_logdet_of_elLawAt`, same statement form
`ld[b]? = some (log |det L|)`, `L` the Fréchet derivative of the executed row map as a hypothesis).

The element laws of the inverse direction (bounded RQ, quadratic, cubic), the bounded RQ coupling layer in both passes and
the RQ-with-tails one, and the consistency of the two passes (C02's log-det sentence from C01 in both directions, the round
trip and the chain rule).  The inverse-pass layer theorems of the quadratic and cubic families are the instances in
`Properties/C01V.lean`.
-/
open NF DualSound

namespace NF.LayerDerivInv
open NF.StructureExec NF.CouplingJacobian NF.ARWhole NF.LayerDerivMore

/-! ## 1. Bounded rational-quadratic element, INVERSE (the forward law is `LayerDerivMore.rq_elLawAt`) -/

/-- **bounded RQ element, INVERSE, strictly inside an output bin** (`RQInverseWhole.inv_hasDerivAt`) -/
theorem rq_inv_elLawAt (e : Float → ℝ) (c : ElCfg) (hk : c.kind = "rq") (ht : c.tails = false) (p : List ℝ)
    (hv : RQWhole.RQValid e (rqCfgOf c) (rqW (NF.realX e) c p) (rqH (NF.realX e) c p) (rqD c p))
    (k : ℕ) (hkK : k < (rqW (NF.realX e) c p).length) (y : ℝ)
    (h0 : RQWhole.ys e (rqCfgOf c) (rqH (NF.realX e) c p) k < y)
    (h1 : y < RQWhole.ys e (rqCfgOf c) (rqH (NF.realX e) c p) (k + 1)) :
    ElLawAt (elTransform (NF.realX e) c true p) y :=
  have S := RQWhole.searched hv
  .of_prog (elTransform_rq _ c hk ht true p) (S.ybox_mem_nhds hkK h0 h1)
    (fun s hs => (RQInverseWhole.boxPair hv).totalI s hs.1 hs.2) (RQInverseWhole.inv_hasDerivAt hv k hkK y h0 h1)

/-! ## 2. Bounded piecewise-quadratic element, INVERSE: the `yk` end-point facts and the element law -/

theorem quad_yk_facts {e : Float → ℝ} {c : QCfg} {uw uh : List ℝ} (hv : QuadWhole.QuadValid e c uw uh) :
    QuadInverseWhole.yk e c (QuadWhole.Wq e c uw) (QuadWhole.Uq e uh) 0 = e c.box.bottom ∧
    QuadInverseWhole.yk e c (QuadWhole.Wq e c uw) (QuadWhole.Uq e uh) uw.length = e c.box.top ∧
    ∀ k < uw.length, QuadInverseWhole.yk e c (QuadWhole.Wq e c uw) (QuadWhole.Uq e uh) k
      < QuadInverseWhole.yk e c (QuadWhole.Wq e c uw) (QuadWhole.Uq e uh) (k + 1) := by
  have S := (QuadInverseWhole.runs_of_valid hv).searched
  rw [← QuadWhole.Wq_length (e := e) c uw]
  exact ⟨S.y0, S.yK, S.ys_strict⟩

/-- the `k`-th output (cdf) knot of the bounded quadratic element with parameter vector `p`, in box coordinates -/
noncomputable abbrev quadYk (e : Float → ℝ) (c : ElCfg) (p : List ℝ) (k : ℕ) : ℝ :=
  QuadInverseWhole.yk e (quadCfgOf c) (QuadWhole.Wq e (quadCfgOf c) (quadW (NF.realX e) c p))
    (QuadWhole.Uq e (quadH (NF.realX e) c p)) k

/-- **bounded piecewise-quadratic element, INVERSE, strictly inside an output bin** (`QuadInverseWhole.inv_hasDerivAt_y`) -/
theorem quad_inv_elLawAt (e : Float → ℝ) (c : ElCfg) (hk : c.kind = "quad") (ht : c.tails = false) (p : List ℝ)
    (hv : QuadWhole.QuadValid e (quadCfgOf c) (quadW (NF.realX e) c p) (quadH (NF.realX e) c p))
    (hbl : e (boxLog (quadCfgOf c).box) = Real.log ((e (quadCfgOf c).box.top - e (quadCfgOf c).box.bottom)
      / (e (quadCfgOf c).box.right - e (quadCfgOf c).box.left)))
    (k : ℕ) (hkK : k < (quadW (NF.realX e) c p).length) (y : ℝ)
    (h0 : quadYk e c p k < y) (h1 : y < quadYk e c p (k + 1)) :
    ElLawAt (elTransform (NF.realX e) c true p) y :=
  have R := QuadInverseWhole.runs_of_valid hv
  have hkW := hkK.trans_eq (QuadWhole.Wq_length (e := e) (quadCfgOf c) _).symm
  .of_prog (elTransform_quad _ c hk ht true p) (R.searched.ybox_mem_nhds hkW h0 h1)
    (fun s hs => (QuadInverseWhole.quad_boxPair R).totalI s hs.1 hs.2) (QuadInverseWhole.inv_hasDerivAt_y hv hbl k hkK y h0 h1)

/-! ## 3. Bounded piecewise-cubic element, INVERSE

The executed cubic inverse is NOT an inverse of the forward program in general (`Properties/C17W`
`cubic_inverse_cardano_log_zero`, `CubicInverseWhole.round_trip_counterexample`: a bin taking the approximate quadratic
fallback `|a|·w³ < thr·h` with `a ≠ 0`); the law is proved under the hypotheses of the whole-program theorem
`CubicInverseWhole.inv_hasDerivAt_all`: the literals of the root formulas are read exactly (`InvConsts`) and no bin of the
slice takes the approximate fallback (`CubicLayers.SliceExact`). -/

/-- **bounded piecewise-cubic element, INVERSE, at every point of the OPEN output box** (y-knots included) -/
theorem cubic_inv_elLawAt (e : Float → ℝ) (c : ElCfg) (hk : c.kind = "cubic") (ht : c.tails = false) (p : List ℝ)
    (hv : CubicLayers.SliceValid e c (CubicLayers.cubicCfgOf c) p)
    (hc : CubicInverseWhole.InvConsts e (CubicLayers.cubicCfgOf c))
    (hall : CubicLayers.SliceExact e c (CubicLayers.cubicCfgOf c) p)
    (hbl : e (boxLog (CubicLayers.cubicCfgOf c).box)
      = Real.log ((e (CubicLayers.cubicCfgOf c).box.top - e (CubicLayers.cubicCfgOf c).box.bottom)
      / (e (CubicLayers.cubicCfgOf c).box.right - e (CubicLayers.cubicCfgOf c).box.left)))
    (y : ℝ) (h0 : e (CubicLayers.cubicCfgOf c).box.bottom < y) (h1 : y < e (CubicLayers.cubicCfgOf c).box.top) :
    ElLawAt (elTransform (NF.realX e) c true p) y :=
  .of_Ioo h0 h1 (CubicInverseWhole.inv_hasDerivAt_all hv hc hall hbl y h0 h1) fun s hs0 hs1 =>
    ⟨_, by rw [CubicLayers.elTransform_cubic _ c hk ht]; exact CubicInverseWhole.exec_ok hv s hs0 hs1⟩

/-! ## 4. The executed COUPLING layer: bounded RQ (both passes) and RQ with linear tails (either pass).  Statement form of
`LayerDerivMore.coupling_linear_logdet_is_jacobian`. -/

section coupling
variable (e : Float → ℝ) (c : ElCfg) (mask : List ℝ) (B : Nat) (net : Array ℝ → Array ℝ) (x : Array ℝ)

/-- **C01, bounded RQ coupling layer** (`PiecewiseRationalQuadraticCouplingTransform`, no tails), FORWARD pass: every
    transformed entry of row `b` strictly inside an input bin of its own spline -/
theorem coupling_rq_logdet_is_jacobian (hk : c.kind = "rq") (ht : c.tails = false)
    (hx : x.size = B * mask.length) {b : Nat} (hb : b < B)
    (hv : RQParamsValid e c (nT e mask) 1 (cParams e mask B net x) B)
    (hbin : ∀ i, isT (NF.realX e) mask i = true → ∃ k,
      k < (rqW (NF.realX e) c (chanSlice e c mask (cParams e mask B net x) b i)).length ∧
      RQWhole.xs e (rqCfgOf c) (rqW (NF.realX e) c (chanSlice e c mask (cParams e mask B net x) b i)) k
        < rowOf (NF.realX e) mask.length b x i ∧
      rowOf (NF.realX e) mask.length b x i
        < RQWhole.xs e (rqCfgOf c) (rqW (NF.realX e) c (chanSlice e c mask (cParams e mask B net x) b i)) (k + 1))
    {L : (Fin mask.length → ℝ) →L[ℝ] (Fin mask.length → ℝ)}
    (hL : HasFDerivAt (couplingRowMap e c mask B net false x b) L (rowOf (NF.realX e) mask.length b x)) :
    (couplingRun (NF.realX e) c mask B net false x).ld[b]?
      = some (Real.log |LinearMap.det (L : (Fin mask.length → ℝ) →ₗ[ℝ] (Fin mask.length → ℝ))|) := by
  refine coupling_logdet_of_elLawAt e c mask B net x hk (by decide) (by decide) false hx hb hL fun i hi => ?_
  obtain ⟨k, hkK, h0, h1⟩ := hbin i hi
  exact rq_elLawAt e c hk ht _ (hv b _ 0 hb (tpos_lt e mask i hi) Nat.one_pos) k hkK _ h0 h1

/-- **C01 / C02, bounded RQ coupling layer, INVERSE pass**: every transformed entry of row `b` strictly inside an OUTPUT
    bin (`ys k < y_i < ys (k+1)`) of its own spline; the returned `ld[b]` is `log |det|` of the Fréchet derivative of the
    executed inverse row map -/
theorem coupling_rq_inverse_logdet_is_jacobian (hk : c.kind = "rq") (ht : c.tails = false)
    (hx : x.size = B * mask.length) {b : Nat} (hb : b < B)
    (hv : RQParamsValid e c (nT e mask) 1 (cParams e mask B net x) B)
    (hbin : ∀ i, isT (NF.realX e) mask i = true → ∃ k,
      k < (rqW (NF.realX e) c (chanSlice e c mask (cParams e mask B net x) b i)).length ∧
      RQWhole.ys e (rqCfgOf c) (rqH (NF.realX e) c (chanSlice e c mask (cParams e mask B net x) b i)) k
        < rowOf (NF.realX e) mask.length b x i ∧
      rowOf (NF.realX e) mask.length b x i
        < RQWhole.ys e (rqCfgOf c) (rqH (NF.realX e) c (chanSlice e c mask (cParams e mask B net x) b i)) (k + 1))
    {L : (Fin mask.length → ℝ) →L[ℝ] (Fin mask.length → ℝ)}
    (hL : HasFDerivAt (couplingRowMap e c mask B net true x b) L (rowOf (NF.realX e) mask.length b x)) :
    (couplingRun (NF.realX e) c mask B net true x).ld[b]?
      = some (Real.log |LinearMap.det (L : (Fin mask.length → ℝ) →ₗ[ℝ] (Fin mask.length → ℝ))|) := by
  refine coupling_logdet_of_elLawAt e c mask B net x hk (by decide) (by decide) true hx hb hL fun i hi => ?_
  obtain ⟨k, hkK, h0, h1⟩ := hbin i hi
  exact rq_inv_elLawAt e c hk ht _ (hv b _ 0 hb (tpos_lt e mask i hi) Nat.one_pos) k hkK _ h0 h1

/-- **C01 / C02, RQ coupling layer with linear tails, INVERSE pass** (and the forward pass: `inverse` is a parameter), at
    EVERY real input row, ANY conditioner: `log` form of `CouplingJacobian.coupling_rq_tails_row_abs_det` -/
theorem coupling_rq_tails_logdet_is_jacobian (hc : RQTailsCfgValid e c)
    (hp : TailsWhole.PadExact e (tMD c) (tBe c)) (inverse : Bool)
    (hx : x.size = B * mask.length) {b : Nat} (hb : b < B)
    {L : (Fin mask.length → ℝ) →L[ℝ] (Fin mask.length → ℝ)}
    (hL : HasFDerivAt (couplingRowMap e c mask B net inverse x b) L (rowOf (NF.realX e) mask.length b x)) :
    (couplingRun (NF.realX e) c mask B net inverse x).ld[b]?
      = some (Real.log |LinearMap.det (L : (Fin mask.length → ℝ) →ₗ[ℝ] (Fin mask.length → ℝ))|) :=
  coupling_row_logdet e c mask B net inverse x hx hb hL
    (fun i _ => couplingElMap_rq_tails_hasDerivAt e c hc hp mask _ inverse b i _)

end coupling

/-! ## 5. Consistency (the last sentence of C02 at the layer level): the inverse pass's log-det at `y` is minus the forward
pass's log-det at `inverse(y)`, AS A CONSEQUENCE of the two Jacobian statements and the round trip (chain rule) -/

section consistency
variable (e : Float → ℝ) (c : ElCfg) (mask : List ℝ) (B : Nat) (net : Array ℝ → Array ℝ) (y : Array ℝ)

theorem rowOf_out_identity (inverse : Bool) (hy : y.size = B * mask.length) {b' : Nat} (hb' : b' < B)
    (i : Fin mask.length) (hi : isT (NF.realX e) mask i = false) :
    rowOf (NF.realX e) mask.length b' (couplingRun (NF.realX e) c mask B net inverse y).out i
      = rowOf (NF.realX e) mask.length b' y i := by
  rw [← couplingRowMap_self e c mask B net inverse y hy b', couplingRowMap_apply e c mask B net inverse y hb', hi]
  rfl

/-- **the conditioner sees the same array on the way back**: for any row `v`, the identity split of
    `(inverse y).out` with row `b` replaced by the inverse row map at `v` is the identity split of `y` with row `b`
    replaced by `v` -/
theorem idSplit_roundtrip (hy : y.size = B * mask.length) {b : Nat} (hb : b < B) (v : Fin mask.length → ℝ) :
    idSplit (NF.realX e) mask B (setRow B mask.length (couplingRun (NF.realX e) c mask B net true y).out b
        (couplingRowMap e c mask B net true y b v))
      = idSplit (NF.realX e) mask B (setRow B mask.length y b v) := by
  unfold idSplit
  apply gatherCh_congr
  intro b' ch s hb' hch hs
  have hs0 : s = 0 := by omega
  subst hs0
  have hlt := (identityIdx_ok (NF.realX e) mask).lt _ hch
  have hnT := not_isT_of_mem_identityIdx e mask hch hlt
  rw [flatIdx_one, setRow_getElem? _ _ _ b _ hb' hlt, setRow_getElem? _ _ y b v hb' hlt]
  by_cases hbb : b' = b
  · rw [if_pos hbb, if_pos hbb, couplingRowMap_apply e c mask B net true y hb v ⟨ch, hlt⟩, hnT]
    rfl
  · have h := rowOf_out_identity e c mask B net y true hy hb' ⟨ch, hlt⟩ hnT
    unfold rowOf at h
    rw [flatIdx_one, realX_zero] at h
    rw [if_neg hbb, if_neg hbb, h]

/-- **row-level round trip from the element-level one**: if, at the parameters the conditioner returns for the batch with
    row `b` replaced by `v`, every transformed element satisfies `forward (inverse (v i)) = v i`, then the forward row map
    based at `x = (inverse y).out` undoes the inverse row map based at `y`, at `v` -/
theorem couplingRowMap_roundtrip (hy : y.size = B * mask.length) {b : Nat} (hb : b < B) (v : Fin mask.length → ℝ)
    (hel : ∀ i, isT (NF.realX e) mask i = true →
      couplingElMap e c mask (net (idSplit (NF.realX e) mask B (setRow B mask.length y b v))) false b i
        (couplingElMap e c mask (net (idSplit (NF.realX e) mask B (setRow B mask.length y b v))) true b i (v i)) = v i) :
    couplingRowMap e c mask B net false (couplingRun (NF.realX e) c mask B net true y).out b
      (couplingRowMap e c mask B net true y b v) = v := by
  funext i
  rw [couplingRowMap_apply e c mask B net false _ hb, idSplit_roundtrip e c mask B net y hy hb v,
    couplingRowMap_apply e c mask B net true y hb v i]
  by_cases hi : isT (NF.realX e) mask i = true
  · rw [if_pos hi, if_pos hi]; exact hel i hi
  · rw [if_neg hi, if_neg hi]

/-- **C02's log-det sentence from C01 in both directions + the round trip (chain rule)**, any element family: let
    `x = (inverse y).out`.  If the inverse pass's `ld[b]` is `log |det Li|` (`Li` the Fréchet derivative of the inverse row
    map at row `b` of `y`), the forward pass's `ld[b]` at `x` is `log |det Lf|` (`Lf` the Fréchet derivative of the forward
    row map at row `b` of `x`) — the conclusions of the `*_logdet_is_jacobian` headlines — and for rows `v` near row `b` of
    `y` every transformed element round-trips at the conditioner's parameters, then
    `inverse(y).ld[b] = − forward(inverse(y).out).ld[b]`. -/
theorem coupling_inverse_logdet_eq_neg_forward (hy : y.size = B * mask.length) {b : Nat} (hb : b < B)
    {Li Lf : (Fin mask.length → ℝ) →L[ℝ] (Fin mask.length → ℝ)}
    (hLi : HasFDerivAt (couplingRowMap e c mask B net true y b) Li (rowOf (NF.realX e) mask.length b y))
    (hLf : HasFDerivAt (couplingRowMap e c mask B net false (couplingRun (NF.realX e) c mask B net true y).out b) Lf
      (rowOf (NF.realX e) mask.length b (couplingRun (NF.realX e) c mask B net true y).out))
    (hinv : (couplingRun (NF.realX e) c mask B net true y).ld[b]?
      = some (Real.log |LinearMap.det (Li : (Fin mask.length → ℝ) →ₗ[ℝ] (Fin mask.length → ℝ))|))
    (hfwd : (couplingRun (NF.realX e) c mask B net false (couplingRun (NF.realX e) c mask B net true y).out).ld[b]?
      = some (Real.log |LinearMap.det (Lf : (Fin mask.length → ℝ) →ₗ[ℝ] (Fin mask.length → ℝ))|))
    (hel : ∀ᶠ v in nhds (rowOf (NF.realX e) mask.length b y), ∀ i, isT (NF.realX e) mask i = true →
      couplingElMap e c mask (net (idSplit (NF.realX e) mask B (setRow B mask.length y b v))) false b i
        (couplingElMap e c mask (net (idSplit (NF.realX e) mask B (setRow B mask.length y b v))) true b i (v i)) = v i) :
    (couplingRun (NF.realX e) c mask B net true y).ld[b]?
      = ((couplingRun (NF.realX e) c mask B net false (couplingRun (NF.realX e) c mask B net true y).out).ld[b]?).map
          (fun l => -l) := by
  rw [hinv, hfwd, Option.map_some]
  congr 1
  have hgy : couplingRowMap e c mask B net true y b (rowOf (NF.realX e) mask.length b y)
      = rowOf (NF.realX e) mask.length b (couplingRun (NF.realX e) c mask B net true y).out :=
    couplingRowMap_self e c mask B net true y hy b
  rw [← hgy] at hLf
  refine RankedDet.logdet_eq_neg_of_roundtrip _ _ _ hLi hLf ?_
  filter_upwards [hel] with v hv
  exact couplingRowMap_roundtrip e c mask B net y hy hb v hv

/-- … in particular when the transformed entries of row `b` of `y` lie in an open interval `(lo, hi)` on whose closure
    the element maps round-trip, at the parameters of every replacement `v` of the row -/
theorem coupling_inverse_logdet_eq_neg_forward_of_box (hy : y.size = B * mask.length) {b : Nat} (hb : b < B)
    {Li Lf : (Fin mask.length → ℝ) →L[ℝ] (Fin mask.length → ℝ)}
    (hLi : HasFDerivAt (couplingRowMap e c mask B net true y b) Li (rowOf (NF.realX e) mask.length b y))
    (hLf : HasFDerivAt (couplingRowMap e c mask B net false (couplingRun (NF.realX e) c mask B net true y).out b) Lf
      (rowOf (NF.realX e) mask.length b (couplingRun (NF.realX e) c mask B net true y).out))
    (hinv : (couplingRun (NF.realX e) c mask B net true y).ld[b]?
      = some (Real.log |LinearMap.det (Li : (Fin mask.length → ℝ) →ₗ[ℝ] (Fin mask.length → ℝ))|))
    (hfwd : (couplingRun (NF.realX e) c mask B net false (couplingRun (NF.realX e) c mask B net true y).out).ld[b]?
      = some (Real.log |LinearMap.det (Lf : (Fin mask.length → ℝ) →ₗ[ℝ] (Fin mask.length → ℝ))|))
    {lo hi : ℝ}
    (hbox : ∀ i, isT (NF.realX e) mask i = true →
      lo < rowOf (NF.realX e) mask.length b y i ∧ rowOf (NF.realX e) mask.length b y i < hi)
    (hrt : ∀ v i, isT (NF.realX e) mask i = true → lo ≤ v i → v i ≤ hi →
      couplingElMap e c mask (net (idSplit (NF.realX e) mask B (setRow B mask.length y b v))) false b i
        (couplingElMap e c mask (net (idSplit (NF.realX e) mask B (setRow B mask.length y b v))) true b i (v i)) = v i) :
    (couplingRun (NF.realX e) c mask B net true y).ld[b]?
      = ((couplingRun (NF.realX e) c mask B net false (couplingRun (NF.realX e) c mask B net true y).out).ld[b]?).map
          (fun l => -l) := by
  refine coupling_inverse_logdet_eq_neg_forward e c mask B net y hy hb hLi hLf hinv hfwd ?_
  rw [Filter.eventually_all]
  intro i
  by_cases hi : isT (NF.realX e) mask i = true
  · obtain ⟨h0, h1⟩ := hbox i hi
    filter_upwards [(continuous_apply i).continuousAt.eventually (Ioo_mem_nhds h0 h1)] with v hv _
    exact hrt v i hi hv.1.le hv.2.le
  · exact .of_forall fun v h => absurd h hi

theorem couplingRun_out_size (inverse : Bool) (hy : y.size = B * mask.length) :
    (couplingRun (NF.realX e) c mask B net inverse y).out.size = B * mask.length := by
  unfold couplingRun
  rw [coupling_out_size, hy]

theorem cParams_out (inverse : Bool) :
    cParams e mask B net (couplingRun (NF.realX e) c mask B net inverse y).out = cParams e mask B net y := by
  unfold cParams couplingRun
  rw [idSplit_out e c mask B y _ _ inverse]

theorem rowOf_out_transformed (inverse : Bool) (hy : y.size = B * mask.length) {b : Nat} (hb : b < B)
    (i : Fin mask.length) (hi : isT (NF.realX e) mask i = true) :
    rowOf (NF.realX e) mask.length b (couplingRun (NF.realX e) c mask B net inverse y).out i
      = couplingElMap e c mask (cParams e mask B net y) inverse b i (rowOf (NF.realX e) mask.length b y i) := by
  rw [← couplingRowMap_self e c mask B net inverse y hy b,
    couplingRowMap_eq e c mask B net inverse y hy hb _ (fun _ _ => rfl) i, if_pos hi]

/-- the element map of a transformed channel of a spline family is the value its two-output program `P` returns (`heq`, the
    family's branch equation), wherever `P` returns -/
theorem couplingElMap_of_prog (hk : c.kind ≠ "affine" ∧ c.kind ≠ "additive") {P : ℝ → Except Err (ℝ × ℝ)} {d : Bool}
    {params : Array ℝ} {b : Nat} {i : Fin mask.length}
    (heq : ∀ s, elTransform (NF.realX e) c d (chanSlice e c mask params b i) s = (P s).map fun ab => (ab.1, ab.2, []))
    {s : ℝ} (h : ∃ r, P s = .ok r) : couplingElMap e c mask params d b i s = QuadWhole.valOf (P s) := by
  unfold couplingElMap StructureExec.applyEl
  rw [chanEl_spline (NF.realX e) c mask params b i hk.1 hk.2, heq, ElemPair.map_ok_eta h]

theorem couplingElMap_cancel_of_pair (hk : c.kind ≠ "affine" ∧ c.kind ≠ "additive") {P : Bool → ℝ → Except Err (ℝ × ℝ)}
    {params : Array ℝ} {b : Nat} {i : Fin mask.length}
    (heq : ∀ d s, elTransform (NF.realX e) c d (chanSlice e c mask params b i) s = (P d s).map fun ab => (ab.1, ab.2, []))
    {x0 x1 y0 y1 : ℝ} (bp : ElemPair.BoxPair (P false) (P true) x0 x1 y0 y1) {s : ℝ} (h0 : y0 ≤ s) (h1 : s ≤ y1) :
    couplingElMap e c mask params false b i (couplingElMap e c mask params true b i s) = s := by
  have hm := bp.rinv.inv_mapsTo ⟨h0, h1⟩
  rw [couplingElMap_of_prog e c mask hk (heq true) (bp.totalI s h0 h1),
    couplingElMap_of_prog e c mask hk (heq false) (bp.total _ hm.1 hm.2)]
  exact bp.rinv.right_inv s ⟨h0, h1⟩

/-! ### the bounded RQ instance: every hypothesis of `coupling_inverse_logdet_eq_neg_forward` is DERIVED -/

/-- **C02's log-det sentence for the bounded RQ coupling layer, derived from C01 in both directions and the round trip.**
    If the conditioner's output is an accepted configuration for every replacement `v` of row `b` (`RQValid` constrains
    the constants and the LENGTHS of the slices only) and every transformed entry of row `b` of `y` lies strictly inside an
    output bin of its own spline, then — `Li`, `Lf` the Fréchet derivatives of the executed inverse row map at `y` and of
    the executed forward row map at `x = inverse(y).out` —
    `inverse(y).ld[b] = log |det Li| = − log |det Lf| = − forward(x).ld[b]`. -/
theorem coupling_rq_inverse_logdet_eq_neg_forward (hk : c.kind = "rq") (ht : c.tails = false)
    (hy : y.size = B * mask.length) {b : Nat} (hb : b < B)
    (hvn : ∀ v, RQParamsValid e c (nT e mask) 1
      (net (idSplit (NF.realX e) mask B (setRow B mask.length y b v))) B)
    (hbin : ∀ i, isT (NF.realX e) mask i = true → ∃ k,
      k < (rqW (NF.realX e) c (chanSlice e c mask (cParams e mask B net y) b i)).length ∧
      RQWhole.ys e (rqCfgOf c) (rqH (NF.realX e) c (chanSlice e c mask (cParams e mask B net y) b i)) k
        < rowOf (NF.realX e) mask.length b y i ∧
      rowOf (NF.realX e) mask.length b y i
        < RQWhole.ys e (rqCfgOf c) (rqH (NF.realX e) c (chanSlice e c mask (cParams e mask B net y) b i)) (k + 1))
    {Li Lf : (Fin mask.length → ℝ) →L[ℝ] (Fin mask.length → ℝ)}
    (hLi : HasFDerivAt (couplingRowMap e c mask B net true y b) Li (rowOf (NF.realX e) mask.length b y))
    (hLf : HasFDerivAt (couplingRowMap e c mask B net false (couplingRun (NF.realX e) c mask B net true y).out b) Lf
      (rowOf (NF.realX e) mask.length b (couplingRun (NF.realX e) c mask B net true y).out)) :
    (couplingRun (NF.realX e) c mask B net true y).ld[b]?
        = some (Real.log |LinearMap.det (Li : (Fin mask.length → ℝ) →ₗ[ℝ] (Fin mask.length → ℝ))|) ∧
    (couplingRun (NF.realX e) c mask B net false (couplingRun (NF.realX e) c mask B net true y).out).ld[b]?
        = some (Real.log |LinearMap.det (Lf : (Fin mask.length → ℝ) →ₗ[ℝ] (Fin mask.length → ℝ))|) ∧
    (couplingRun (NF.realX e) c mask B net true y).ld[b]?
      = ((couplingRun (NF.realX e) c mask B net false (couplingRun (NF.realX e) c mask B net true y).out).ld[b]?).map
          (fun l => -l) := by
  have hv : RQParamsValid e c (nT e mask) 1 (cParams e mask B net y) B := by
    have := hvn (rowOf (NF.realX e) mask.length b y)
    rwa [setRow_rowOf e B _ y hy b] at this
  have hvi := fun i hi => hv b _ 0 hb (tpos_lt e mask i hi) Nat.one_pos
  have hks := spline_kind_ne (Or.inl hk)
  -- position of `y_i` in the output box, from its bin
  have hbox : ∀ i, isT (NF.realX e) mask i = true →
      e (rqCfgOf c).box.bottom < rowOf (NF.realX e) mask.length b y i ∧
      rowOf (NF.realX e) mask.length b y i < e (rqCfgOf c).box.top := by
    intro i hi
    obtain ⟨k, hkK, h0, h1⟩ := hbin i hi
    exact (RQWhole.searched (hvi i hi)).open_ybin_subset k hkK ⟨h0, h1⟩
  have hinv := coupling_rq_inverse_logdet_is_jacobian e c mask B net y hk ht hy hb hv hbin hLi
  -- the entries of row `b` of `x` are the executed inverses of those of `y`: the strictly increasing inverse sends output
  -- bin `k` into input bin `k`
  have hfwd := coupling_rq_logdet_is_jacobian e c mask B net _ hk ht (couplingRun_out_size e c mask B net y true hy) hb
    (by rw [cParams_out]; exact hv)
    (fun i hi => by
      obtain ⟨k, hkK, h0, h1⟩ := hbin i hi
      obtain ⟨hy0, hy1⟩ := hbox i hi
      rw [cParams_out, rowOf_out_transformed e c mask B net y true hy hb i hi,
        couplingElMap_of_prog e c mask hks (elTransform_rq _ c hk ht true _)
          ((RQInverseWhole.boxPair (hvi i hi)).totalI _ hy0.le hy1.le)]
      exact ⟨k, hkK, (RQInverseWhole.searchedInv (hvi i hi)).inv_mem_open (RQWhole.searched (hvi i hi)) k hkK _ h0 h1⟩) hLf
  refine ⟨hinv, hfwd, coupling_inverse_logdet_eq_neg_forward_of_box e c mask B net y hy hb hLi hLf hinv hfwd hbox
    fun v i hi h0 h1 => ?_⟩
  exact couplingElMap_cancel_of_pair e c mask hks (fun d => elTransform_rq _ c hk ht d _)
    (RQInverseWhole.boxPair (hvn v b _ 0 hb (tpos_lt e mask i hi) Nat.one_pos)) h0 h1

/-! ### the bounded piecewise-LINEAR instance -/

/-- **C02's log-det sentence for the bounded piecewise-LINEAR coupling layer, derived from C01 in both directions and the
    round trip**: same statement as `coupling_rq_inverse_logdet_eq_neg_forward`; every transformed entry of row `b` of `y`
    strictly inside an OUTPUT bin of its own spline -/
theorem coupling_linear_inverse_logdet_eq_neg_forward (hk : c.kind = "lin") (ht : c.tails = false)
    (hbl : e (boxLog (linBoxOf c)) = Real.log ((e (linBoxOf c).top - e (linBoxOf c).bottom)
      / (e (linBoxOf c).right - e (linBoxOf c).left)))
    (hy : y.size = B * mask.length) {b : Nat} (hb : b < B)
    (hvn : ∀ v, LinTails.LinParamsValid e c (nT e mask) 1
      (net (idSplit (NF.realX e) mask B (setRow B mask.length y b v))) B)
    (hbin : ∀ i, isT (NF.realX e) mask i = true → ∃ k, k < c.K ∧
      LinWhole.yk e (linBoxOf c) (chanSlice e c mask (cParams e mask B net y) b i) k < rowOf (NF.realX e) mask.length b y i ∧
      rowOf (NF.realX e) mask.length b y i < LinWhole.yk e (linBoxOf c) (chanSlice e c mask (cParams e mask B net y) b i) (k + 1))
    {Li Lf : (Fin mask.length → ℝ) →L[ℝ] (Fin mask.length → ℝ)}
    (hLi : HasFDerivAt (couplingRowMap e c mask B net true y b) Li (rowOf (NF.realX e) mask.length b y))
    (hLf : HasFDerivAt (couplingRowMap e c mask B net false (couplingRun (NF.realX e) c mask B net true y).out b) Lf
      (rowOf (NF.realX e) mask.length b (couplingRun (NF.realX e) c mask B net true y).out)) :
    (couplingRun (NF.realX e) c mask B net true y).ld[b]?
        = some (Real.log |LinearMap.det (Li : (Fin mask.length → ℝ) →ₗ[ℝ] (Fin mask.length → ℝ))|) ∧
    (couplingRun (NF.realX e) c mask B net false (couplingRun (NF.realX e) c mask B net true y).out).ld[b]?
        = some (Real.log |LinearMap.det (Lf : (Fin mask.length → ℝ) →ₗ[ℝ] (Fin mask.length → ℝ))|) ∧
    (couplingRun (NF.realX e) c mask B net true y).ld[b]?
      = ((couplingRun (NF.realX e) c mask B net false (couplingRun (NF.realX e) c mask B net true y).out).ld[b]?).map
          (fun l => -l) := by
  have hlen : ∀ params : Array ℝ, ∀ i : Fin mask.length, (chanSlice e c mask params b i).length = c.K := by
    intro params i; rw [condSlice_length, LinTails.mult_lin hk]
  have hv : LinTails.LinParamsValid e c (nT e mask) 1 (cParams e mask B net y) B := by
    have := hvn (rowOf (NF.realX e) mask.length b y)
    rwa [setRow_rowOf e B _ y hy b] at this
  have hvi : ∀ i, isT (NF.realX e) mask i = true →
      LinWhole.LinValid e (linBoxOf c) 1e-6 (chanSlice e c mask (cParams e mask B net y) b i) :=
    fun i hi => (hv b _ 0 hb (tpos_lt e mask i hi) Nat.one_pos).1
  have hks := spline_kind_ne (Or.inr (Or.inr (Or.inl hk)))
  have hbox : ∀ i, isT (NF.realX e) mask i = true →
      e (linBoxOf c).bottom < rowOf (NF.realX e) mask.length b y i ∧ rowOf (NF.realX e) mask.length b y i < e (linBoxOf c).top := by
    intro i hi
    obtain ⟨k, hkK, h0, h1⟩ := hbin i hi
    have S := LinWhole.searched (hvi i hi)
    rw [← hlen _ i] at hkK
    exact S.open_ybin_subset k hkK ⟨h0, h1⟩
  have hinv := coupling_linear_inverse_logdet_is_jacobian e c mask B net y hk ht hbl hy hb hv hbin hLi
  -- the strictly increasing inverse sends output bin `k` into input bin `k`
  have hfwd := coupling_linear_logdet_is_jacobian e c mask B net _ hk ht hbl (couplingRun_out_size e c mask B net y true hy)
    hb (by rw [cParams_out]; exact hv)
    (fun i hi => by
      obtain ⟨k, hkK, h0, h1⟩ := hbin i hi
      obtain ⟨hy0, hy1⟩ := hbox i hi
      rw [rowOf_out_transformed e c mask B net y true hy hb i hi,
        couplingElMap_of_prog e c mask hks (LinTails.elTransform_lin _ c hk ht true _)
          ((LinWhole.boxPair (hvi i hi)).totalI _ hy0.le hy1.le)]
      have hm := (LinWhole.searchedInv (hvi i hi)).inv_mem_open (LinWhole.searched (hvi i hi)) k ((hlen _ i).symm ▸ hkK) _ h0 h1
      rw [hlen _ i] at hm
      exact ⟨k, hkK, hm⟩) hLf
  refine ⟨hinv, hfwd, coupling_inverse_logdet_eq_neg_forward_of_box e c mask B net y hy hb hLi hLf hinv hfwd hbox
    fun v i hi h0 h1 => ?_⟩
  exact couplingElMap_cancel_of_pair e c mask hks (fun d => LinTails.elTransform_lin _ c hk ht d _)
    (LinWhole.boxPair (hvn v b _ 0 hb (tpos_lt e mask i hi) Nat.one_pos).1) h0 h1

end consistency

/-! ## 6. Non-vacuity: the hypothesis bundles of the headlines are satisfiable

Same witnesses as `LayerDerivMore` §5 / the `*Whole` files: unit box, one bin (cubic: two bins), two-valued readings,
conditioner returning the empty array where the validity bundle depends on the conditioner output.  `Float.log` is opaque
to the kernel, so the `boxLog` reading is granted as a `Float` equality an evaluator confirms.  What is left is a hypothesis
on the DATA only (entries in `(0, 1)`) and Fréchet differentiability of the row map. -/

section witness

private theorem w00 : ((0.0:Float) == 0.0) = true := FloatFacts.zero_beq_zero
private theorem w10 : ((1.0:Float) == 0.0) = false := FloatFacts.one_beq_zero

theorem rq_slice_example (mask : List ℝ) (B : Nat) (x : Array ℝ) (b : Nat) (i : Fin mask.length) :
    chanSlice RQWhole.eNV cW mask (cParams RQWhole.eNV mask B (fun _ => #[]) x) b i = [0, 0, 0, 0] := by
  have hm : cW.mult = 4 := by decide
  unfold chanSlice cParams
  rw [hm]
  simp [condSlice, List.range_succ]

theorem rq_parts_example : rqW (NF.realX RQWhole.eNV) cW [0, 0, 0, 0] = [0] ∧ rqH (NF.realX RQWhole.eNV) cW [0, 0, 0, 0] = [0] :=
  ⟨by simp [rqW, rqScale, cW], by simp [rqH, rqScale, cW]⟩

/-- `(0, 1)` is the one input bin of the RQ witness `cW` on the zero slice -/
theorem rq_xbin_example {s : ℝ} (h0 : 0 < s) (h1 : s < 1) :
    ∃ k, k < (rqW (NF.realX RQWhole.eNV) cW [0, 0, 0, 0]).length ∧
      RQWhole.xs RQWhole.eNV (rqCfgOf cW) (rqW (NF.realX RQWhole.eNV) cW [0, 0, 0, 0]) k < s ∧
      s < RQWhole.xs RQWhole.eNV (rqCfgOf cW) (rqW (NF.realX RQWhole.eNV) cW [0, 0, 0, 0]) (k + 1) := by
  have e0 : RQWhole.eNV RQWhole.cNV.box.left = 0 := if_pos w00
  have e1 : RQWhole.eNV RQWhole.cNV.box.right = 1 := RQWhole.eNV_of_ne w10
  have hK := (RQWhole.xs_last RQWhole.valid_example).trans e1
  rw [rq_parts_example.1, show rqCfgOf cW = RQWhole.cNV from rfl]
  exact ⟨0, Nat.one_pos, by rw [RQWhole.xs_zero RQWhole.valid_example, e0]; exact h0, h1.trans_eq hK.symm⟩

/-- … and the one output bin -/
theorem rq_ybin_example {s : ℝ} (h0 : 0 < s) (h1 : s < 1) :
    ∃ k, k < (rqW (NF.realX RQWhole.eNV) cW [0, 0, 0, 0]).length ∧
      RQWhole.ys RQWhole.eNV (rqCfgOf cW) (rqH (NF.realX RQWhole.eNV) cW [0, 0, 0, 0]) k < s ∧
      s < RQWhole.ys RQWhole.eNV (rqCfgOf cW) (rqH (NF.realX RQWhole.eNV) cW [0, 0, 0, 0]) (k + 1) := by
  have e0 : RQWhole.eNV RQWhole.cNV.box.bottom = 0 := if_pos w00
  have e1 : RQWhole.eNV RQWhole.cNV.box.top = 1 := RQWhole.eNV_of_ne w10
  have hK := (RQWhole.ys_last RQWhole.valid_example).trans e1
  rw [rq_parts_example.1, rq_parts_example.2, show rqCfgOf cW = RQWhole.cNV from rfl]
  exact ⟨0, Nat.one_pos, by rw [RQWhole.ys_zero RQWhole.valid_example, e0]; exact h0, h1.trans_eq hK.symm⟩

/-- bounded RQ coupling, FORWARD pass: one bin, conditioner returning the empty array, entries in `(0, 1)` -/
example (mask : List ℝ) (B : Nat) (x : Array ℝ) (hx : x.size = B * mask.length) {b : Nat} (hb : b < B)
    (hin : ∀ i, isT (NF.realX RQWhole.eNV) mask i = true →
      0 < rowOf (NF.realX RQWhole.eNV) mask.length b x i ∧ rowOf (NF.realX RQWhole.eNV) mask.length b x i < 1)
    {L : (Fin mask.length → ℝ) →L[ℝ] (Fin mask.length → ℝ)}
    (hL : HasFDerivAt (couplingRowMap RQWhole.eNV cW mask B (fun _ => #[]) false x b) L
      (rowOf (NF.realX RQWhole.eNV) mask.length b x)) :
    (couplingRun (NF.realX RQWhole.eNV) cW mask B (fun _ => #[]) false x).ld[b]?
      = some (Real.log |LinearMap.det (L : (Fin mask.length → ℝ) →ₗ[ℝ] (Fin mask.length → ℝ))|) := by
  refine coupling_rq_logdet_is_jacobian RQWhole.eNV cW mask B (fun _ => #[]) x rfl rfl hx hb
    (rqParamsValid_example _ 1 B) (fun i hi => ?_) hL
  rw [rq_slice_example]
  exact rq_xbin_example (hin i hi).1 (hin i hi).2

/-- bounded RQ coupling, INVERSE pass: one bin, conditioner returning the empty array, entries in `(0, 1)` -/
example (mask : List ℝ) (B : Nat) (x : Array ℝ) (hx : x.size = B * mask.length) {b : Nat} (hb : b < B)
    (hin : ∀ i, isT (NF.realX RQWhole.eNV) mask i = true →
      0 < rowOf (NF.realX RQWhole.eNV) mask.length b x i ∧ rowOf (NF.realX RQWhole.eNV) mask.length b x i < 1)
    {L : (Fin mask.length → ℝ) →L[ℝ] (Fin mask.length → ℝ)}
    (hL : HasFDerivAt (couplingRowMap RQWhole.eNV cW mask B (fun _ => #[]) true x b) L
      (rowOf (NF.realX RQWhole.eNV) mask.length b x)) :
    (couplingRun (NF.realX RQWhole.eNV) cW mask B (fun _ => #[]) true x).ld[b]?
      = some (Real.log |LinearMap.det (L : (Fin mask.length → ℝ) →ₗ[ℝ] (Fin mask.length → ℝ))|) := by
  refine coupling_rq_inverse_logdet_is_jacobian RQWhole.eNV cW mask B (fun _ => #[]) x rfl rfl hx hb
    (rqParamsValid_example _ 1 B) (fun i hi => ?_) hL
  rw [rq_slice_example]
  exact rq_ybin_example (hin i hi).1 (hin i hi).2

/-- the consistency corollary for the bounded RQ coupling layer: one bin, conditioner returning the empty array, the
    transformed entries of row `b` of `y` in `(0, 1)`; only the two differentiability hypotheses are left -/
example (mask : List ℝ) (B : Nat) (y : Array ℝ) (hy : y.size = B * mask.length) {b : Nat} (hb : b < B)
    (hin : ∀ i, isT (NF.realX RQWhole.eNV) mask i = true →
      0 < rowOf (NF.realX RQWhole.eNV) mask.length b y i ∧ rowOf (NF.realX RQWhole.eNV) mask.length b y i < 1)
    {Li Lf : (Fin mask.length → ℝ) →L[ℝ] (Fin mask.length → ℝ)}
    (hLi : HasFDerivAt (couplingRowMap RQWhole.eNV cW mask B (fun _ => #[]) true y b) Li
      (rowOf (NF.realX RQWhole.eNV) mask.length b y))
    (hLf : HasFDerivAt (couplingRowMap RQWhole.eNV cW mask B (fun _ => #[]) false
        (couplingRun (NF.realX RQWhole.eNV) cW mask B (fun _ => #[]) true y).out b) Lf
      (rowOf (NF.realX RQWhole.eNV) mask.length b (couplingRun (NF.realX RQWhole.eNV) cW mask B (fun _ => #[]) true y).out)) :
    (couplingRun (NF.realX RQWhole.eNV) cW mask B (fun _ => #[]) true y).ld[b]?
      = ((couplingRun (NF.realX RQWhole.eNV) cW mask B (fun _ => #[]) false
          (couplingRun (NF.realX RQWhole.eNV) cW mask B (fun _ => #[]) true y).out).ld[b]?).map (fun l => -l) := by
  refine (coupling_rq_inverse_logdet_eq_neg_forward RQWhole.eNV cW mask B (fun _ => #[]) y rfl rfl hy hb
    (fun _ => rqParamsValid_example _ 1 B) (fun i hi => ?_) hLi hLf).2.2
  rw [rq_slice_example]
  exact rq_ybin_example (hin i hi).1 (hin i hi).2

/-- the consistency corollary for the bounded LINEAR coupling layer: `LayerDerivMore.cLi` (one bin), ANY conditioner, the
    transformed entries of row `b` of `y` in `(0, 1)` -/
example (h1 : (Float.log (1.0 / (1:ℕ).toFloat) == 0.0) = true) (h2 : (boxLog ⟨0.0, 1.0, 0.0, 1.0⟩ == 0.0) = true)
    (mask : List ℝ) (B : Nat) (net : Array ℝ → Array ℝ) (y : Array ℝ) (hy : y.size = B * mask.length) {b : Nat} (hb : b < B)
    (hin : ∀ i, isT (NF.realX RQWhole.eNV) mask i = true →
      0 < rowOf (NF.realX RQWhole.eNV) mask.length b y i ∧ rowOf (NF.realX RQWhole.eNV) mask.length b y i < 1)
    {Li Lf : (Fin mask.length → ℝ) →L[ℝ] (Fin mask.length → ℝ)}
    (hLi : HasFDerivAt (couplingRowMap RQWhole.eNV cLi mask B net true y b) Li
      (rowOf (NF.realX RQWhole.eNV) mask.length b y))
    (hLf : HasFDerivAt (couplingRowMap RQWhole.eNV cLi mask B net false
        (couplingRun (NF.realX RQWhole.eNV) cLi mask B net true y).out b) Lf
      (rowOf (NF.realX RQWhole.eNV) mask.length b (couplingRun (NF.realX RQWhole.eNV) cLi mask B net true y).out)) :
    (couplingRun (NF.realX RQWhole.eNV) cLi mask B net true y).ld[b]?
      = ((couplingRun (NF.realX RQWhole.eNV) cLi mask B net false
          (couplingRun (NF.realX RQWhole.eNV) cLi mask B net true y).out).ld[b]?).map (fun l => -l) := by
  obtain ⟨hv, hbl⟩ := lin_bundle_example h1 h2 (nT RQWhole.eNV mask) 1 (cParams RQWhole.eNV mask B net y) B
  refine (coupling_linear_inverse_logdet_eq_neg_forward RQWhole.eNV cLi mask B net y rfl rfl hbl hy hb
    (fun _ => (lin_bundle_example h1 h2 _ 1 _ B).1) (fun i hi => ?_) hLi hLf).2.2
  exact lin_ybin_example (hv b _ 0 hb (tpos_lt RQWhole.eNV mask i hi) Nat.one_pos).1
    (by rw [condSlice_length]; decide) (hin i hi).1 (hin i hi).2

/-- RQ coupling with linear tails, INVERSE pass: `CouplingJacobian.cC1` (one bin, tail bound 1), ANY conditioner, EVERY
    real row (the seven `Float` comparisons of `pad_cfg_example_coupling` are what an evaluator confirms) -/
example (hk : (TailsWhole.kP == TailsWhole.kP) = true) (h0 : ((0.0:Float) == TailsWhole.kP) = false)
    (h1 : ((1.0:Float) == TailsWhole.kP) = false) (hm1 : ((-(1.0:Float)) == TailsWhole.kP) = false)
    (h2 : (((1.0:Float) - (-(1.0:Float))) == TailsWhole.kP) = false) (h6 : ((1e-6:Float) == TailsWhole.kP) = false)
    (hcc : (((1:Float) - 0.0 * (1:Nat).toFloat) == TailsWhole.kP) = false)
    (mask : List ℝ) (B : Nat) (net : Array ℝ → Array ℝ) (x : Array ℝ) (hx : x.size = B * mask.length) {b : Nat} (hb : b < B)
    {L : (Fin mask.length → ℝ) →L[ℝ] (Fin mask.length → ℝ)}
    (hL : HasFDerivAt (couplingRowMap TailsWhole.eP cC1 mask B net true x b) L
      (rowOf (NF.realX TailsWhole.eP) mask.length b x)) :
    (couplingRun (NF.realX TailsWhole.eP) cC1 mask B net true x).ld[b]?
      = some (Real.log |LinearMap.det (L : (Fin mask.length → ℝ) →ₗ[ℝ] (Fin mask.length → ℝ))|) := by
  obtain ⟨hc, hp⟩ := pad_cfg_example_coupling hk h0 h1 hm1 h2 h6 hcc
  exact coupling_rq_tails_logdet_is_jacobian TailsWhole.eP cC1 mask B net x hc hp true hx hb hL

/-- bounded quadratic coupling, INVERSE pass: `StructureExec.cQ` (one bin), conditioner returning the empty array -/
example (hlog : (boxLog QuadWhole.cNV.box == 0.0) = true) (mask : List ℝ) (B : Nat) (x : Array ℝ)
    (hx : x.size = B * mask.length) {b : Nat} (hb : b < B)
    (hin : ∀ i, isT (NF.realX QuadWhole.eNV) mask i = true →
      0 < rowOf (NF.realX QuadWhole.eNV) mask.length b x i ∧ rowOf (NF.realX QuadWhole.eNV) mask.length b x i < 1)
    {L : (Fin mask.length → ℝ) →L[ℝ] (Fin mask.length → ℝ)}
    (hL : HasFDerivAt (couplingRowMap QuadWhole.eNV cQ mask B (fun _ => #[]) true x b) L
      (rowOf (NF.realX QuadWhole.eNV) mask.length b x)) :
    (couplingRun (NF.realX QuadWhole.eNV) cQ mask B (fun _ => #[]) true x).ld[b]?
      = some (Real.log |LinearMap.det (L : (Fin mask.length → ℝ) →ₗ[ℝ] (Fin mask.length → ℝ))|) := by
  refine coupling_logdet_of_elLawAt QuadWhole.eNV cQ mask B (fun _ => #[]) x (rfl : cQ.kind = "quad") (by decide) (by decide)
    true hx hb hL fun i hi => ?_
  obtain ⟨f0, fK, _⟩ := quad_yk_facts QuadWhole.valid_example
  have e0 : QuadWhole.eNV QuadWhole.cNV.box.bottom = 0 := if_pos w00
  have e1 : QuadWhole.eNV QuadWhole.cNV.box.top = 1 := QuadWhole.eNV_of_ne w10
  rw [quad_slice_example]
  refine quad_inv_elLawAt QuadWhole.eNV cQ rfl rfl _
    (by rw [quad_parts_example.1, quad_parts_example.2]; exact QuadWhole.valid_example) (QuadWhole.boxLog_example hlog) 0
    (by rw [quad_parts_example.1]; exact Nat.one_pos) _ ?_ ?_
  · unfold quadYk
    rw [quad_parts_example.1, quad_parts_example.2, show quadCfgOf cQ = QuadWhole.cNV from rfl, f0, e0]
    exact (hin i hi).1
  · unfold quadYk
    rw [quad_parts_example.1, quad_parts_example.2, show quadCfgOf cQ = QuadWhole.cNV from rfl,
      show QuadInverseWhole.yk QuadWhole.eNV QuadWhole.cNV (QuadWhole.Wq QuadWhole.eNV QuadWhole.cNV [0])
        (QuadWhole.Uq QuadWhole.eNV [0, 0]) (0 + 1) = 1 from fK.trans e1]
    exact (hin i hi).2

private theorem kI0 : CubicInverseWhole.codeI 0.0 = 0 := CubicInverseWhole.codeI_key 0 rfl
private theorem kI1 : CubicInverseWhole.codeI 1.0 = 8 := CubicInverseWhole.codeI_one

/-- bounded cubic coupling, INVERSE pass: `CubicLayers.cC` (two bins), the reading `CubicInverseWhole.eI`, conditioner
    returning the empty array (every slice exact: `CubicLayers.cubicParamsExact_example`), entries in `(0, 1)` -/
example (hlog : (boxLog CubicWhole.cNV.box == 0.0) = true) (mask : List ℝ) (B : Nat) (x : Array ℝ)
    (hx : x.size = B * mask.length) {b : Nat} (hb : b < B)
    (hin : ∀ i, isT (NF.realX CubicInverseWhole.eI) mask i = true →
      0 < rowOf (NF.realX CubicInverseWhole.eI) mask.length b x i ∧
      rowOf (NF.realX CubicInverseWhole.eI) mask.length b x i < 1)
    {L : (Fin mask.length → ℝ) →L[ℝ] (Fin mask.length → ℝ)}
    (hL : HasFDerivAt (couplingRowMap CubicInverseWhole.eI CubicLayers.cC mask B (fun _ => #[]) true x b) L
      (rowOf (NF.realX CubicInverseWhole.eI) mask.length b x)) :
    (couplingRun (NF.realX CubicInverseWhole.eI) CubicLayers.cC mask B (fun _ => #[]) true x).ld[b]?
      = some (Real.log |LinearMap.det (L : (Fin mask.length → ℝ) →ₗ[ℝ] (Fin mask.length → ℝ))|) := by
  have e0 : CubicInverseWhole.eI CubicWhole.cNV.box.bottom = 0 := CubicInverseWhole.ex_bottom
  have e1 : CubicInverseWhole.eI CubicWhole.cNV.box.top = 1 := CubicInverseWhole.ex_top
  have eL : CubicInverseWhole.eI CubicWhole.cNV.box.left = 0 := congrArg CubicInverseWhole.tableI kI0
  have eR : CubicInverseWhole.eI CubicWhole.cNV.box.right = 1 := congrArg CubicInverseWhole.tableI kI1
  have hb0 : CubicInverseWhole.eI (boxLog CubicWhole.cNV.box) = 0 := by
    unfold CubicInverseWhole.eI CubicInverseWhole.codeI; rw [if_pos hlog]; rfl
  refine coupling_logdet_of_elLawAt CubicInverseWhole.eI CubicLayers.cC mask B (fun _ => #[]) x
    (rfl : CubicLayers.cC.kind = "cubic") (by decide) (by decide) true hx hb hL fun i hi => ?_
  obtain ⟨hv1, hv2⟩ := CubicLayers.cubicParamsExact_example (nT CubicInverseWhole.eI mask) 1 B b _ 0 hb
    (tpos_lt CubicInverseWhole.eI mask i hi) Nat.one_pos
  refine cubic_inv_elLawAt CubicInverseWhole.eI CubicLayers.cC rfl rfl _ hv1 CubicInverseWhole.consts_example hv2 ?_ _ ?_ ?_
  · rw [CubicLayers.cubicCfgOf_cC, hb0, e0, e1, eL, eR]; simp
  · rw [CubicLayers.cubicCfgOf_cC, e0]; exact (hin i hi).1
  · rw [CubicLayers.cubicCfgOf_cC, e1]; exact (hin i hi).2

end witness

end NF.LayerDerivInv
