import NflowsModel.Lemmas.RQWhole
/-!
# Lemmas/RQDefaultWitness — `RQValid` at the LIBRARY DEFAULTS, with an honest reading of the constants

The witnesses next to the whole-program theorems use a two-valued reading `eNV` (every non-zero double ↦ 1), the unit box, one or
two bins and zero parameters — enough to show that the hypothesis bundles are consistent, but degenerate.  Here: `K = 3` bins, the
box `[-3, 3]²`, `min_bin_width = min_bin_height = min_derivative = 1e-3` (the defaults of `rational_quadratic_spline`), non-zero
parameters, and a reading `eH` that sends each double the configuration mentions to its decimal value (`1e-3 ↦ 1/1000`,
`1 - 1e-3*3 ↦ 997/1000`, …).  Note what the bundle idealises: `e (1 - minW*K) = 1 - e minW * K` holds for `eH` because `eH` is a
reading of the SYMBOLIC constant; the double `1 - 0.001*3` itself is a rounded number — the theorems are about the program with
exact constant arithmetic, floats are carried by executing the model.
-/
open NF

namespace RQWhole

/-- an "honest" reading of the doubles the default configuration mentions -/
noncomputable def eH (f : Float) : ℝ :=
  if f == 1e-3 then 1/1000
  else if f == (1 - (1e-3:Float) * (3:Nat).toFloat) then 1 - 3/1000
  else if f == 3.0 then 3
  else if f == (-(3.0:Float)) then -3
  else if f == ((3.0:Float) - (-(3.0:Float))) then 6
  else if f == 1e-6 then 1/1000000
  else if f == 1.0 then 1
  else 0

def cH : RQCfg := { box := ⟨-(3.0:Float), 3.0, -(3.0:Float), 3.0⟩, minW := 1e-3, minH := 1e-3, minD := 1e-3 }

theorem eH_key (i : Nat) {k : Float} {v : ℝ}
    (hi : [((1e-3:Float), (1/1000:ℝ)), (1 - (1e-3:Float) * (3:Nat).toFloat, 1 - 3/1000), (3.0, 3), (-(3.0:Float), -3),
      ((3.0:Float) - (-(3.0:Float)), 6), (1e-6, 1/1000000), (1.0, 1)][i]? = some (k, v)) : eH k = v :=
  FloatFacts.readTbl_key 0 i hi FloatFacts.rqDefault_keys

theorem valid_default : RQValid eH cH [0.3, -1.2, 2] [1, 0, -0.5] [0.1, 0.2, -3, 4] where
  hK := List.cons_ne_nil _ _
  hlenh := rfl
  hlend := rfl
  hgW := FloatFacts.guard_default
  hgH := FloatFacts.guard_default
  hmW0 := by show 0 ≤ eH 1e-3; rw [eH_key 0 rfl]; norm_num
  hcW := by
    show eH (1 - 1e-3 * (3:Nat).toFloat) = 1 - eH 1e-3 * ((3:ℕ):ℝ)
    rw [eH_key 1 rfl, eH_key 0 rfl]; norm_num
  hmWK := by show eH 1e-3 * ((3:ℕ):ℝ) ≤ 1; rw [eH_key 0 rfl]; norm_num
  hmH0 := by show 0 ≤ eH 1e-3; rw [eH_key 0 rfl]; norm_num
  hcH := by
    show eH (1 - 1e-3 * (3:Nat).toFloat) = 1 - eH 1e-3 * ((3:ℕ):ℝ)
    rw [eH_key 1 rfl, eH_key 0 rfl]; norm_num
  hmHK := by show eH 1e-3 * ((3:ℕ):ℝ) ≤ 1; rw [eH_key 0 rfl]; norm_num
  hlr := by show eH (-(3.0)) < eH 3.0; rw [eH_key 3 rfl, eH_key 2 rfl]; norm_num
  hdlr := by
    show eH (3.0 - -(3.0)) = eH 3.0 - eH (-(3.0))
    rw [eH_key 4 rfl, eH_key 2 rfl, eH_key 3 rfl]; norm_num
  hbt := by show eH (-(3.0)) < eH 3.0; rw [eH_key 3 rfl, eH_key 2 rfl]; norm_num
  hdbt := by
    show eH (3.0 - -(3.0)) = eH 3.0 - eH (-(3.0))
    rw [eH_key 4 rfl, eH_key 2 rfl, eH_key 3 rfl]; norm_num
  heps := by show 0 < eH 1e-6; rw [eH_key 5 rfl]; norm_num
  hminD := by show 0 ≤ eH 1e-3; rw [eH_key 0 rfl]; norm_num
  hbeta := by show 0 < eH 1.0; rw [eH_key 6 rfl]; exact one_pos


end RQWhole
