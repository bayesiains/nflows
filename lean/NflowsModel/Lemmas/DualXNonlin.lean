import NflowsModel.Lemmas.DualX
import NflowsModel.Lemmas.SplineExec
/-!
# Lemmas/DualXNonlin — the element-wise transforms of `Core/Nonlin.lean` run on dual numbers (C16)

For every model function `F` of `Core/Nonlin.lean` and both directions: running `F` at `NF.dualX (NF.realX e)` on inputs
that are `IsDual` of functions `fx, fp, …` of a parameter `t` returns `.ok (dy, dl)` where
`(dy.1, dl.1)` is what `F` returns at `NF.realX e`, and `dy.2`, `dl.2` are the derivatives at `t` of the two outputs of the
REAL PROGRAM `s ↦ F (NF.realX e) (fp s) … (fx s)` (`DualRes`).  Seeding `(x, 1)` on the input and `(p, 0)` on the
parameters gives `∂/∂x` (`*_dx` corollaries); seeding a parameter gives the partial derivative w.r.t. that parameter.

A NEW element-wise layer `fooT` is carried through in these steps: `fooT_fwd_dual` / `fooT_inv_dual` here by `DualRes.intro`
(or `DualRes.intro'` when a domain guard has to be reduced first) from the `IsDual` rules of its primitives; its case in
`XHom.nonlinEl` (Lemmas/DualXSpline.lean); the readings `nonlinEl_Foo` (Lemmas/NonlinExec.lean) and, when it never raises,
`nonlinEl_Foo_total` (Lemmas/DualXFlowStages.lean); then `dualSound_nonlinStage_gen` (same file) turns it into a sound stage.

In the docstrings a hat marks the real reading by `e` of a double of the code: `ε̂ = e eps`, `ĉ = e cut`, `α̂ = e alpha`,
`β̂ = e beta`, `π̂ = e 3.141592653589793`.
-/
open NF DualSound Filter Topology

namespace DualX
noncomputable section

def outY (r : Except Err (ℝ × ℝ)) : ℝ := match r with | .ok p => p.1 | .error _ => 0
def outL (r : Except Err (ℝ × ℝ)) : ℝ := match r with | .ok p => p.2 | .error _ => 0

@[simp] theorem outY_ok (p : ℝ × ℝ) : outY (.ok p) = p.1 := rfl
@[simp] theorem outL_ok (p : ℝ × ℝ) : outL (.ok p) = p.2 := rfl

theorem hasDerivAt_outY_of_eventually {F : ℝ → Except Err (ℝ × ℝ)} {fy fl : ℝ → ℝ} {x d : ℝ}
    (hF : ∀ᶠ s in 𝓝 x, F s = .ok (fy s, fl s)) (hd : HasDerivAt fy d x) : HasDerivAt (fun s => outY (F s)) d x := by
  refine hd.congr_of_eventuallyEq ?_
  filter_upwards [hF] with s hs
  rw [hs]; rfl

theorem hasDerivAt_outL_of_eventually {F : ℝ → Except Err (ℝ × ℝ)} {fy fl : ℝ → ℝ} {x d : ℝ}
    (hF : ∀ᶠ s in 𝓝 x, F s = .ok (fy s, fl s)) (hd : HasDerivAt fl d x) : HasDerivAt (fun s => outL (F s)) d x := by
  refine hd.congr_of_eventuallyEq ?_
  filter_upwards [hF] with s hs
  rw [hs]; rfl

/-- the dual run `r` is sound for the real program `F` at `t`: it succeeds, its value components are the outputs of `F t`
    and its tangent components are the derivatives of the two outputs of `s ↦ F s` at `t` -/
def DualRes (F : ℝ → Except Err (ℝ × ℝ)) (t : ℝ) (r : Except Err ((ℝ × ℝ) × (ℝ × ℝ))) : Prop :=
  ∃ dy dl : ℝ × ℝ, r = .ok (dy, dl) ∧ F t = .ok (dy.1, dl.1) ∧
    HasDerivAt (fun s => outY (F s)) dy.2 t ∧ HasDerivAt (fun s => outL (F s)) dl.2 t

variable {e : Float → ℝ} {t : ℝ}

theorem DualRes.intro {F : ℝ → Except Err (ℝ × ℝ)} {fy fl : ℝ → ℝ} {dy dl : ℝ × ℝ}
    (hF : ∀ᶠ s in 𝓝 t, F s = .ok (fy s, fl s)) (hy : IsDual fy t dy) (hl : IsDual fl t dl) :
    DualRes F t (.ok (dy, dl)) := by
  refine ⟨dy, dl, rfl, ?_, hasDerivAt_outY_of_eventually hF hy.2, hasDerivAt_outL_of_eventually hF hl.2⟩
  rw [hF.self_of_nhds, hy.1, hl.1]

theorem DualRes.elim {F : ℝ → Except Err (ℝ × ℝ)} {r} (h : DualRes F t r) :
    ∃ y y' l l' : ℝ, r = .ok ((y, y'), (l, l')) ∧ F t = .ok (y, l) ∧
      HasDerivAt (fun s => outY (F s)) y' t ∧ HasDerivAt (fun s => outL (F s)) l' t := by
  obtain ⟨dy, dl, h1, h2, h3, h4⟩ := h
  exact ⟨dy.1, dy.2, dl.1, dl.2, h1, h2, h3, h4⟩

variable {fx fp fq : ℝ → ℝ} {dx dp dq : ℝ × ℝ}
variable (e)

/-! ## Exp -/

theorem expT_fwd_dual (hx : IsDual fx t dx) :
    DualRes (fun s => expT (realX e) false (fx s)) t (expT (dualX (realX e)) false dx) :=
  DualRes.intro (Eventually.of_forall fun _ => rfl) (IsDual.exp e hx) hx

theorem expT_inv_dual (hx : IsDual fx t dx) (h0 : 0 < dx.1) :
    DualRes (fun s => expT (realX e) true (fx s)) t (expT (dualX (realX e)) true dx) := by
  have hd : expT (dualX (realX e)) true dx = .ok ((dualX (realX e)).log dx, (dualX (realX e)).neg ((dualX (realX e)).log dx)) := by
    unfold expT
    simp only [if_true, d_le, d_zero, decide_eq_true_eq, if_neg (not_le.mpr h0)]
  rw [hd]
  have hl := IsDual.log e hx h0.ne'
  refine DualRes.intro ?_ hl (IsDual.neg e hl)
  rw [hx.1] at h0
  filter_upwards [hx.2.continuousAt.eventually (Ioi_mem_nhds h0)] with s hs
  unfold expT
  simp only [if_true, realX_le, realX_zero, decide_eq_true_eq, if_neg (not_le.mpr hs)]

theorem DualRes.intro' {F : ℝ → Except Err (ℝ × ℝ)} {fy fl : ℝ → ℝ} {dy dl : ℝ × ℝ} {r}
    (hr : r = .ok (dy, dl)) (hF : ∀ᶠ s in 𝓝 t, F s = .ok (fy s, fl s)) (hy : IsDual fy t dy) (hl : IsDual fl t dl) :
    DualRes F t r := hr ▸ DualRes.intro hF hy hl

theorem DualRes.congr {F G : ℝ → Except Err (ℝ × ℝ)} {r} (h : DualRes F t r) (hFG : ∀ᶠ s in 𝓝 t, F s = G s) :
    DualRes G t r := by
  obtain ⟨dy, dl, hr, hF, hy, hl⟩ := h
  refine ⟨dy, dl, hr, hFG.self_of_nhds ▸ hF, hy.congr_of_eventuallyEq ?_, hl.congr_of_eventuallyEq ?_⟩
  · filter_upwards [hFG] with s hs
    rw [hs]
  · filter_upwards [hFG] with s hs
    rw [hs]

/-- the form of the parameter-direction headlines: `f`, `g` name the two outputs of the real program -/
theorem DualRes.values {F : ℝ → Except Err (ℝ × ℝ)} {r} {f g : ℝ → ℝ} (h : DualRes F t r)
    (hf : ∀ s, f s = outY (F s)) (hg : ∀ s, g s = outL (F s)) :
    ∃ v' l' : ℝ, r = .ok ((f t, v'), (g t, l')) ∧ HasDerivAt f v' t ∧ HasDerivAt g l' t := by
  obtain ⟨dy, dl, hr, hF, hy, hl⟩ := h
  refine ⟨dy.2, dl.2, ?_, hy.congr_of_eventuallyEq (Eventually.of_forall hf),
    hl.congr_of_eventuallyEq (Eventually.of_forall hg)⟩
  rw [hr, hf, hg, hF]
  rfl

/-! ## Tanh (forward log-det in the stable form `2 (log 2 − x − softplus (−2x))`) -/

/-- side condition: away from the `softplus` threshold `−2 x = 20` (i.e. `x ≠ −10` when `e (-2.0) = -2`) -/
theorem tanhT_fwd_dual (hx : IsDual fx t dx) (hthr : e (-2.0) * dx.1 ≠ 20) :
    DualRes (fun s => tanhT (realX e) false (fx s)) t (tanhT (dualX (realX e)) false dx) :=
  DualRes.intro (Eventually.of_forall fun _ => rfl) (IsDual.tanh e hx)
    (IsDual.mul e (IsDual.ofFloat e 2.0 t) (IsDual.sub e (IsDual.sub e (IsDual.ofFloat e (Float.log 2.0) t) hx)
      (IsDual.softplus e (IsDual.mul e (IsDual.ofFloat e (-2.0) t) hx)
        (by simpa only [d_mul, d_ofFloat] using hthr))))

/-- `artanh` as the code spells it, `½ log ((1 + x) / (1 − x))`, and its log-det `−log (1 − x²)`: sound for `x ≠ ±1`
    (shared by `Tanh.inverse` and the middle branch of `LogTanh.inverse`) -/
theorem artanh_dual (hx : IsDual fx t dx) (h1 : 1 - dx.1 ≠ 0) (h2 : 1 + dx.1 ≠ 0) :
    IsDual (fun s => (realX e).mul ((realX e).ofFloat 0.5) ((realX e).log
        ((realX e).div ((realX e).add (realX e).one (fx s)) ((realX e).sub (realX e).one (fx s))))) t
      ((dualX (realX e)).mul ((dualX (realX e)).ofFloat 0.5) ((dualX (realX e)).log
        ((dualX (realX e)).div ((dualX (realX e)).add (dualX (realX e)).one dx) ((dualX (realX e)).sub (dualX (realX e)).one dx)))) ∧
    IsDual (fun s => (realX e).neg ((realX e).log ((realX e).sub (realX e).one ((realX e).mul (fx s) (fx s))))) t
      ((dualX (realX e)).neg ((dualX (realX e)).log
        ((dualX (realX e)).sub (dualX (realX e)).one ((dualX (realX e)).mul dx dx)))) := by
  refine ⟨IsDual.mul e (IsDual.ofFloat e 0.5 t) (IsDual.log e (IsDual.div e (IsDual.add e (IsDual.one e t) hx)
      (IsDual.sub e (IsDual.one e t) hx) ?_) ?_),
    IsDual.neg e (IsDual.log e (IsDual.sub e (IsDual.one e t) (IsDual.mul e hx hx)) ?_)⟩
  · simpa only [d_sub, d_one] using h1
  · simp only [d_div, d_add, d_sub, d_one]; exact div_ne_zero h2 h1
  · simp only [d_sub, d_one, d_mul]
    rw [show 1 - dx.1 * dx.1 = (1 - dx.1) * (1 + dx.1) by ring]
    exact mul_ne_zero h1 h2

theorem tanhT_inv_dual (hx : IsDual fx t dx) (h1 : -1 < dx.1) (h2 : dx.1 < 1) :
    DualRes (fun s => tanhT (realX e) true (fx s)) t (tanhT (dualX (realX e)) true dx) := by
  obtain ⟨hy, hl⟩ := artanh_dual e hx (sub_pos.mpr h2).ne' (neg_lt_iff_pos_add'.mp h1).ne'
  refine DualRes.intro' ?_ ?_ hy hl
  · unfold tanhT
    simp only [if_true, d_le, XOps.ge, d_neg, d_one, neg_zero, decide_eq_true_eq, Bool.or_eq_true, not_le.mpr h1, not_le.mpr h2,
      or_self, if_false]
  · rw [hx.1] at h1 h2
    filter_upwards [hx.2.continuousAt.eventually (Ioi_mem_nhds h1), hx.2.continuousAt.eventually (Iio_mem_nhds h2)] with s hs1 hs2
    unfold tanhT
    simp only [if_true, realX_le, XOps.ge, realX_neg, realX_one, decide_eq_true_eq, Bool.or_eq_true, not_le.mpr hs1,
      not_le.mpr hs2, or_self, if_false]

/-! ## Affine / scale-shift / GLU -/

/-- side condition: `scale ≠ 0` (the kink of `log |scale|`; the constructor rejects it) -/
theorem affineT_fwd_dual (hx : IsDual fx t dx) (hp : IsDual fp t dp) (hq : IsDual fq t dq) (h0 : dp.1 ≠ 0) :
    DualRes (fun s => affineT (realX e) (fp s) (fq s) false (fx s)) t (affineT (dualX (realX e)) dp dq false dx) :=
  DualRes.intro (Eventually.of_forall fun _ => rfl) (IsDual.add e (IsDual.mul e hx hp) hq)
    (IsDual.log e (IsDual.abs e hp h0) (by simpa only [d_abs, abs_ne_zero] using h0))

theorem affineT_inv_dual (hx : IsDual fx t dx) (hp : IsDual fp t dp) (hq : IsDual fq t dq) (h0 : dp.1 ≠ 0) :
    DualRes (fun s => affineT (realX e) (fp s) (fq s) true (fx s)) t (affineT (dualX (realX e)) dp dq true dx) :=
  DualRes.intro (Eventually.of_forall fun _ => rfl) (IsDual.div e (IsDual.sub e hx hq) hp h0)
    (IsDual.neg e (IsDual.log e (IsDual.abs e hp h0) (by simpa only [d_abs, abs_ne_zero] using h0)))

theorem scaleShiftT_fwd_dual (hx : IsDual fx t dx) (hp : IsDual fp t dp) (hq : IsDual fq t dq) (h0 : dp.1 ≠ 0) :
    DualRes (fun s => scaleShiftT (realX e) (fp s) (fq s) false (fx s)) t (scaleShiftT (dualX (realX e)) dp dq false dx) :=
  DualRes.intro (Eventually.of_forall fun _ => rfl) (IsDual.add e (IsDual.mul e hx hp) hq) (IsDual.log e hp h0)

theorem scaleShiftT_inv_dual (hx : IsDual fx t dx) (hp : IsDual fp t dp) (hq : IsDual fq t dq) (h0 : dp.1 ≠ 0) :
    DualRes (fun s => scaleShiftT (realX e) (fp s) (fq s) true (fx s)) t (scaleShiftT (dualX (realX e)) dp dq true dx) :=
  DualRes.intro (Eventually.of_forall fun _ => rfl) (IsDual.div e (IsDual.sub e hx hq) hp h0)
    (IsDual.neg e (IsDual.log e hp h0))

/-- no side condition: the gate `sigmoid ctx` is positive -/
theorem gluT_fwd_dual (hx : IsDual fx t dx) (hp : IsDual fp t dp) :
    DualRes (fun s => gluT (realX e) (fp s) false (fx s)) t (gluT (dualX (realX e)) dp false dx) :=
  DualRes.intro (Eventually.of_forall fun _ => rfl) (IsDual.mul e hx (IsDual.sigmoid e hp))
    (IsDual.log e (IsDual.sigmoid e hp) (d_sigmoid_pos e dp).ne')

theorem gluT_inv_dual (hx : IsDual fx t dx) (hp : IsDual fp t dp) :
    DualRes (fun s => gluT (realX e) (fp s) true (fx s)) t (gluT (dualX (realX e)) dp true dx) :=
  DualRes.intro (Eventually.of_forall fun _ => rfl) (IsDual.div e hx (IsDual.sigmoid e hp) (d_sigmoid_pos e dp).ne')
    (IsDual.neg e (IsDual.log e (IsDual.sigmoid e hp) (d_sigmoid_pos e dp).ne'))

/-! ## LeakyReLU -/

/-- side condition: away from the kink `x = 0`; `logSlope` may itself be differentiated -/
theorem leakyReluT_fwd_dual (slope : Float) (hx : IsDual fx t dx) (hp : IsDual fp t dp) (h0 : dx.1 ≠ 0) :
    DualRes (fun s => leakyReluT (realX e) slope (fp s) false (fx s)) t (leakyReluT (dualX (realX e)) slope dp false dx) :=
  DualRes.intro (Eventually.of_forall fun _ => rfl)
    (IsDual.ite_lt e hx (IsDual.zero e t) (by rw [d_zero]; exact h0) (fun _ => IsDual.mul e (IsDual.ofFloat e slope t) hx) (fun _ => hx))
    (IsDual.mul e hp (IsDual.ite_lt e hx (IsDual.zero e t) (by rw [d_zero]; exact h0) (fun _ => IsDual.one e t) (fun _ => IsDual.zero e t)))

theorem leakyReluT_inv_dual (slope : Float) (hx : IsDual fx t dx) (hp : IsDual fp t dp) (h0 : dx.1 ≠ 0) :
    DualRes (fun s => leakyReluT (realX e) slope (fp s) true (fx s)) t (leakyReluT (dualX (realX e)) slope dp true dx) :=
  DualRes.intro (Eventually.of_forall fun _ => rfl)
    (IsDual.ite_lt e hx (IsDual.zero e t) (by rw [d_zero]; exact h0) (fun _ => IsDual.mul e (IsDual.ofFloat e (1.0 / slope) t) hx) (fun _ => hx))
    (IsDual.neg e (IsDual.mul e hp (IsDual.ite_lt e hx (IsDual.zero e t) (by rw [d_zero]; exact h0) (fun _ => IsDual.one e t) (fun _ => IsDual.zero e t))))

/-! ## CauchyCDF -/

theorem cauchyT_fwd_dual (hx : IsDual fx t dx) :
    DualRes (fun s => cauchyT (realX e) false (fx s)) t (cauchyT (dualX (realX e)) false dx) :=
  DualRes.intro (Eventually.of_forall fun _ => rfl)
    (IsDual.add e (IsDual.mul e (IsDual.ofFloat e _ t) (IsDual.atan e hx)) (IsDual.ofFloat e _ t))
    (IsDual.sub e (IsDual.ofFloat e _ t) (IsDual.log e (IsDual.add e (IsDual.one e t) (IsDual.mul e hx hx))
      (by simp only [d_add, d_one, d_mul]; exact (add_pos_of_pos_of_nonneg one_pos (mul_self_nonneg _)).ne')))

/-- side conditions: inside the open domain `0 < x < 1`, and `cos (π̂ (x − ½)) ≠ 0` for the double `π̂` the code uses
    (automatic when `e` reads `π̂` as a real in `(0, π]` and `e 0.5 = 1/2`) -/
theorem cauchyT_inv_dual (hx : IsDual fx t dx) (h1 : 0 < dx.1) (h2 : dx.1 < 1)
    (hcos : Real.cos (e 3.141592653589793 * (dx.1 - e 0.5)) ≠ 0) :
    DualRes (fun s => cauchyT (realX e) true (fx s)) t (cauchyT (dualX (realX e)) true dx) := by
  have hy := IsDual.tan e (IsDual.mul e (IsDual.ofFloat e 3.141592653589793 t) (IsDual.sub e hx (IsDual.ofFloat e 0.5 t)))
    (by simpa only [d_mul, d_sub, d_ofFloat] using hcos)
  refine DualRes.intro' ?_ ?_ hy
    (IsDual.neg e (IsDual.sub e (IsDual.ofFloat e (-(Float.log 3.141592653589793)) t)
      (IsDual.log e (IsDual.add e (IsDual.one e t) (IsDual.mul e hy hy)) ?_)))
  · unfold cauchyT
    simp only [if_true, d_lt, XOps.gt, d_zero, d_one, decide_eq_true_eq, Bool.or_eq_true, not_lt.mpr h1.le, not_lt.mpr h2.le,
      or_self, if_false]
  · rw [hx.1] at h1 h2
    filter_upwards [hx.2.continuousAt.eventually (Ioi_mem_nhds h1), hx.2.continuousAt.eventually (Iio_mem_nhds h2)] with s hs1 hs2
    unfold cauchyT
    simp only [if_true, realX_lt, XOps.gt, realX_zero, realX_one, decide_eq_true_eq, Bool.or_eq_true, not_lt.mpr hs1.le,
      not_lt.mpr hs2.le, or_self, if_false]
  · simp only [d_add, d_one, d_mul]
    exact (add_pos_of_pos_of_nonneg one_pos (mul_self_nonneg _)).ne'

/-! ## Sigmoid / Logit with temperature -/

/-- side conditions: `T ≠ 0` (`log T`) and `T x ≠ ±20` (the two `softplus` thresholds); `T` may itself be differentiated -/
theorem sigmoidT_fwd_dual (eps : Float) (hx : IsDual fx t dx) (hp : IsDual fp t dp) (hT : dp.1 ≠ 0)
    (hthr1 : dp.1 * dx.1 ≠ 20) (hthr2 : dp.1 * dx.1 ≠ -20) :
    DualRes (fun s => sigmoidT (realX e) (fp s) eps false (fx s)) t (sigmoidT (dualX (realX e)) dp eps false dx) :=
  DualRes.intro (Eventually.of_forall fun _ => rfl) (IsDual.sigmoid e (IsDual.mul e hp hx))
    (IsDual.sub e (IsDual.sub e (IsDual.log e hp hT)
      (IsDual.softplus e (IsDual.neg e (IsDual.mul e hp hx))
        (by simp only [d_neg, d_mul]; intro h; exact hthr2 (by linarith))))
      (IsDual.softplus e (IsDual.mul e hp hx) (by simpa only [d_mul] using hthr1)))

/-- the clamped argument of `Sigmoid.inverse`, on value components -/
def clampR (lo hi x : ℝ) : ℝ := min (max x lo) hi

/-- `Sigmoid.inverse`, output as a function of the temperature and the clamped input -/
def sigInvY {α : Type} (o : XOps α) (T xc : α) : α :=
  o.mul (o.div o.one T) (o.sub (o.log xc) (o.log1p (o.neg xc)))
/-- `Sigmoid.inverse`, log-det as a function of the temperature and the output -/
def sigInvL {α : Type} (o : XOps α) (T y : α) : α :=
  o.neg (o.sub (o.sub (o.log T) (o.softplus (o.neg (o.mul T y)))) (o.softplus (o.mul T y)))

theorem sigInvY_real (T xc : ℝ) :
    sigInvY (realX e) T xc = 1 / T * (Real.log xc - Real.log (1 + -xc)) := by
  simp only [sigInvY, realX_mul, realX_div, realX_one, realX_sub, realX_log, realX_log1p, realX_neg]

theorem sigInvY_val (dT dxc : ℝ × ℝ) : (sigInvY (dualX (realX e)) dT dxc).1 = sigInvY (realX e) dT.1 dxc.1 := by
  simp only [sigInvY, d_mul, d_div, d_one, d_sub, d_log, d_log1p_val, d_neg, realX_mul, realX_div, realX_one, realX_sub,
    realX_log, realX_neg]

variable {fc : ℝ → ℝ} {dxc : ℝ × ℝ}

theorem sigInvY_dual (hp : IsDual fp t dp) (hxc : IsDual fc t dxc) (hT : dp.1 ≠ 0) (h0 : dxc.1 ≠ 0) (h1 : dxc.1 ≠ 1) :
    IsDual (fun s => sigInvY (realX e) (fp s) (fc s)) t (sigInvY (dualX (realX e)) dp dxc) :=
  IsDual.mul e (IsDual.div e (IsDual.one e t) hp hT)
    (IsDual.sub e (IsDual.log e hxc h0) (IsDual.log1p e (IsDual.neg e hxc)
      (by simp only [d_neg]; intro h; exact h1 (by linarith))))

variable {fy : ℝ → ℝ} {dy : ℝ × ℝ}

theorem sigInvL_dual (hp : IsDual fp t dp) (hy : IsDual fy t dy) (hT : dp.1 ≠ 0)
    (hthr1 : dp.1 * dy.1 ≠ 20) (hthr2 : dp.1 * dy.1 ≠ -20) :
    IsDual (fun s => sigInvL (realX e) (fp s) (fy s)) t (sigInvL (dualX (realX e)) dp dy) :=
  IsDual.neg e (IsDual.sub e (IsDual.sub e (IsDual.log e hp hT)
    (IsDual.softplus e (IsDual.neg e (IsDual.mul e hp hy))
      (by simp only [d_neg, d_mul]; intro h; exact hthr2 (by linarith))))
    (IsDual.softplus e (IsDual.mul e hp hy) (by simpa only [d_mul] using hthr1)))

/-- side conditions: inside the open domain `0 < x < 1`; away from the two clamp ties (`x ≠ ε̂`, `max x ε̂ ≠ 1 − ε̂`);
    the clamped value `xc` is neither `0` nor `1`; `T ≠ 0`; and `T y ≠ ±20` where `y = 1/T · (log xc − log (1 − xc))` -/
theorem sigmoidT_inv_dual (eps : Float) (hx : IsDual fx t dx) (hp : IsDual fp t dp) (hT : dp.1 ≠ 0)
    (h1 : 0 < dx.1) (h2 : dx.1 < 1) (hc1 : dx.1 ≠ e eps) (hc2 : max dx.1 (e eps) ≠ e (1 - eps))
    (hxc0 : clampR (e eps) (e (1 - eps)) dx.1 ≠ 0) (hxc1 : clampR (e eps) (e (1 - eps)) dx.1 ≠ 1)
    (hthr1 : dp.1 * (1 / dp.1 * (Real.log (clampR (e eps) (e (1 - eps)) dx.1)
        - Real.log (1 + -clampR (e eps) (e (1 - eps)) dx.1))) ≠ 20)
    (hthr2 : dp.1 * (1 / dp.1 * (Real.log (clampR (e eps) (e (1 - eps)) dx.1)
        - Real.log (1 + -clampR (e eps) (e (1 - eps)) dx.1))) ≠ -20) :
    DualRes (fun s => sigmoidT (realX e) (fp s) eps true (fx s)) t (sigmoidT (dualX (realX e)) dp eps true dx) := by
  have hxc := IsDual.clamp e (IsDual.ofFloat e eps t) (IsDual.ofFloat e (1 - eps) t) hx
    (by rw [d_ofFloat]; exact hc1) (by rw [d_ofFloat, d_ofFloat]; exact hc2)
  have hv : ((dualX (realX e)).clamp ((dualX (realX e)).ofFloat eps) ((dualX (realX e)).ofFloat (1 - eps)) dx).1
      = clampR (e eps) (e (1 - eps)) dx.1 := by
    unfold XOps.clamp clampR
    rw [d_minA_val, d_maxA_val, d_ofFloat, d_ofFloat]
  have hy := sigInvY_dual e hp hxc hT (by rw [hv]; exact hxc0) (by rw [hv]; exact hxc1)
  have hyv := sigInvY_val e dp ((dualX (realX e)).clamp ((dualX (realX e)).ofFloat eps) ((dualX (realX e)).ofFloat (1 - eps)) dx)
  rw [hv, sigInvY_real] at hyv
  have hl := sigInvL_dual e hp hy hT (by rw [hyv]; exact hthr1) (by rw [hyv]; exact hthr2)
  refine DualRes.intro' ?_ ?_ hy hl
  · unfold sigmoidT
    simp only [if_true, d_lt, XOps.gt, d_zero, d_one, decide_eq_true_eq, Bool.or_eq_true, not_lt.mpr h1.le, not_lt.mpr h2.le,
      or_self, if_false, sigInvY, sigInvL]
  · rw [hx.1] at h1 h2
    filter_upwards [hx.2.continuousAt.eventually (Ioi_mem_nhds h1), hx.2.continuousAt.eventually (Iio_mem_nhds h2)] with s hs1 hs2
    unfold sigmoidT
    simp only [if_true, realX_lt, XOps.gt, realX_zero, realX_one, decide_eq_true_eq, Bool.or_eq_true, not_lt.mpr hs1.le,
      not_lt.mpr hs2.le, or_self, if_false, sigInvY, sigInvL]

/-- the same on the un-clamped interior `ε̂ < x < 1 − ε̂ ⊂ (0, 1)`: there `T y = logit x` and the thresholds are
    `logit x ≠ ±20` -/
theorem sigmoidT_inv_dual_interior (eps : Float) (hx : IsDual fx t dx) (hp : IsDual fp t dp) (hT : dp.1 ≠ 0)
    (h1 : 0 < dx.1) (h2 : dx.1 < 1) (hc1 : e eps < dx.1) (hc2 : dx.1 < e (1 - eps))
    (hthr1 : Real.log dx.1 - Real.log (1 - dx.1) ≠ 20) (hthr2 : Real.log dx.1 - Real.log (1 - dx.1) ≠ -20) :
    DualRes (fun s => sigmoidT (realX e) (fp s) eps true (fx s)) t (sigmoidT (dualX (realX e)) dp eps true dx) := by
  have hcl : clampR (e eps) (e (1 - eps)) dx.1 = dx.1 := by
    unfold clampR; rw [max_eq_left hc1.le, min_eq_left hc2.le]
  have hTy : dp.1 * (1 / dp.1 * (Real.log dx.1 - Real.log (1 + -dx.1))) = Real.log dx.1 - Real.log (1 - dx.1) := by
    rw [← sub_eq_add_neg]; field_simp
  refine sigmoidT_inv_dual e eps hx hp hT h1 h2 hc1.ne' ?_ ?_ ?_ ?_ ?_
  · rw [max_eq_left hc1.le]; exact hc2.ne
  · rw [hcl]; exact h1.ne'
  · rw [hcl]; exact h2.ne
  · rw [hcl, hTy]; exact hthr1
  · rw [hcl, hTy]; exact hthr2

/-! ## LogTanh (three branches per direction; the cut points themselves are excluded) -/

/-- forward, upper tail `x > ĉ`: side conditions `x ≠ 0` (automatic for `ĉ ≥ 0`), `α̂ ≠ 0`, `β̂ ≠ 0` -/
theorem logTanhT_fwd_hi_dual (cut invCut alpha beta : Float) (hx : IsDual fx t dx) (hc : e cut < dx.1)
    (hx0 : dx.1 ≠ 0) (hα : e alpha ≠ 0) (hβ : e beta ≠ 0) :
    DualRes (fun s => logTanhT (realX e) cut invCut alpha beta false (fx s)) t
      (logTanhT (dualX (realX e)) cut invCut alpha beta false dx) := by
  refine DualRes.intro' ?_ ?_
    (IsDual.mul e (IsDual.ofFloat e alpha t) (IsDual.log e (IsDual.mul e (IsDual.ofFloat e beta t) hx) ?_))
    (IsDual.log e (IsDual.div e (IsDual.ofFloat e alpha t) hx hx0) ?_)
  · unfold logTanhT
    simp only [Bool.false_eq_true, if_false, XOps.gt, d_lt, d_ofFloat, decide_eq_true_eq, if_pos hc]
  · rw [hx.1] at hc
    filter_upwards [hx.2.continuousAt.eventually (Ioi_mem_nhds hc)] with s hs
    unfold logTanhT
    simp only [Bool.false_eq_true, if_false, XOps.gt, realX_lt, realX_ofFloat, decide_eq_true_eq, if_pos hs]
  · simp only [d_mul, d_ofFloat]; exact mul_ne_zero hβ hx0
  · simp only [d_div, d_ofFloat]; exact div_ne_zero hα hx0

/-- forward, lower tail `x < −ĉ` (and `x < ĉ`, automatic for `ĉ ≥ 0`) -/
theorem logTanhT_fwd_lo_dual (cut invCut alpha beta : Float) (hx : IsDual fx t dx) (hc1 : dx.1 < e cut) (hc2 : dx.1 < -e cut)
    (hx0 : dx.1 ≠ 0) (hα : e alpha ≠ 0) (hβ : e beta ≠ 0) :
    DualRes (fun s => logTanhT (realX e) cut invCut alpha beta false (fx s)) t
      (logTanhT (dualX (realX e)) cut invCut alpha beta false dx) := by
  refine DualRes.intro' ?_ ?_
    (IsDual.mul e (IsDual.ofFloat e alpha t) (IsDual.neg e (IsDual.log e
      (IsDual.mul e (IsDual.neg e (IsDual.ofFloat e beta t)) hx) ?_)))
    (IsDual.log e (IsDual.div e (IsDual.neg e (IsDual.ofFloat e alpha t)) hx hx0) ?_)
  · unfold logTanhT
    simp only [Bool.false_eq_true, if_false, XOps.gt, d_lt, d_neg, d_ofFloat, decide_eq_true_eq, if_neg (not_lt.mpr hc1.le),
      if_pos hc2]
  · rw [hx.1] at hc1 hc2
    filter_upwards [hx.2.continuousAt.eventually (Iio_mem_nhds hc1), hx.2.continuousAt.eventually (Iio_mem_nhds hc2)] with s hs1 hs2
    unfold logTanhT
    simp only [Bool.false_eq_true, if_false, XOps.gt, realX_lt, realX_neg, realX_ofFloat, decide_eq_true_eq,
      if_neg (not_lt.mpr hs1.le), if_pos hs2]
  · simp only [d_mul, d_neg, d_ofFloat]; exact mul_ne_zero (neg_ne_zero.mpr hβ) hx0
  · simp only [d_div, d_neg, d_ofFloat]; exact div_ne_zero (neg_ne_zero.mpr hα) hx0

/-- forward, middle branch `−ĉ < x < ĉ`: `tanh` with log-det `log (1 − tanh² x)`; no further side condition -/
theorem logTanhT_fwd_mid_dual (cut invCut alpha beta : Float) (hx : IsDual fx t dx) (hc1 : dx.1 < e cut) (hc2 : -e cut < dx.1) :
    DualRes (fun s => logTanhT (realX e) cut invCut alpha beta false (fx s)) t
      (logTanhT (dualX (realX e)) cut invCut alpha beta false dx) := by
  refine DualRes.intro' ?_ ?_ (IsDual.tanh e hx)
    (IsDual.log e (IsDual.sub e (IsDual.one e t) (IsDual.mul e (IsDual.tanh e hx) (IsDual.tanh e hx))) ?_)
  · unfold logTanhT
    simp only [Bool.false_eq_true, if_false, XOps.gt, d_lt, d_neg, d_ofFloat, decide_eq_true_eq, if_neg (not_lt.mpr hc1.le),
      if_neg (not_lt.mpr hc2.le)]
  · rw [hx.1] at hc1 hc2
    filter_upwards [hx.2.continuousAt.eventually (Iio_mem_nhds hc1), hx.2.continuousAt.eventually (Ioi_mem_nhds hc2)] with s hs1 hs2
    unfold logTanhT
    simp only [Bool.false_eq_true, if_false, XOps.gt, realX_lt, realX_neg, realX_ofFloat, decide_eq_true_eq,
      if_neg (not_lt.mpr hs1.le), if_neg (not_lt.mpr hs2.le)]
  · rw [d_tanh]; simp only [d_sub, d_one, d_mul]
    exact (sub_pos.mpr (by rw [← sq]; exact Real.tanh_sq_lt_one dx.1)).ne'

theorem logTanhT_inv_hi_dual (cut invCut alpha beta : Float) (hx : IsDual fx t dx) (hc : e invCut < dx.1)
    (hα : e alpha ≠ 0) (hβ : e beta ≠ 0) :
    DualRes (fun s => logTanhT (realX e) cut invCut alpha beta true (fx s)) t
      (logTanhT (dualX (realX e)) cut invCut alpha beta true dx) := by
  have hxa := IsDual.div e hx (IsDual.ofFloat e alpha t) (by rw [d_ofFloat]; exact hα)
  refine DualRes.intro' ?_ ?_
    (IsDual.div e (IsDual.exp e hxa) (IsDual.ofFloat e beta t) (by rw [d_ofFloat]; exact hβ))
    (IsDual.add e (IsDual.ofFloat e (-(Float.log (alpha * beta))) t) hxa)
  · unfold logTanhT
    simp only [if_true, XOps.gt, d_lt, d_ofFloat, decide_eq_true_eq, if_pos hc]
  · rw [hx.1] at hc
    filter_upwards [hx.2.continuousAt.eventually (Ioi_mem_nhds hc)] with s hs
    unfold logTanhT
    simp only [if_true, XOps.gt, realX_lt, realX_ofFloat, decide_eq_true_eq, if_pos hs]

theorem logTanhT_inv_lo_dual (cut invCut alpha beta : Float) (hx : IsDual fx t dx) (hc1 : dx.1 < e invCut)
    (hc2 : dx.1 < -e invCut) (hα : e alpha ≠ 0) (hβ : e beta ≠ 0) :
    DualRes (fun s => logTanhT (realX e) cut invCut alpha beta true (fx s)) t
      (logTanhT (dualX (realX e)) cut invCut alpha beta true dx) := by
  refine DualRes.intro' ?_ ?_
    (IsDual.div e (IsDual.neg e (IsDual.exp e (IsDual.div e (IsDual.neg e hx) (IsDual.ofFloat e alpha t)
      (by rw [d_ofFloat]; exact hα)))) (IsDual.ofFloat e beta t) (by rw [d_ofFloat]; exact hβ))
    (IsDual.sub e (IsDual.ofFloat e (-(Float.log (alpha * beta))) t)
      (IsDual.div e hx (IsDual.ofFloat e alpha t) (by rw [d_ofFloat]; exact hα)))
  · unfold logTanhT
    simp only [if_true, XOps.gt, d_lt, d_neg, d_ofFloat, decide_eq_true_eq, if_neg (not_lt.mpr hc1.le), if_pos hc2]
  · rw [hx.1] at hc1 hc2
    filter_upwards [hx.2.continuousAt.eventually (Iio_mem_nhds hc1), hx.2.continuousAt.eventually (Iio_mem_nhds hc2)] with s hs1 hs2
    unfold logTanhT
    simp only [if_true, XOps.gt, realX_lt, realX_neg, realX_ofFloat, decide_eq_true_eq, if_neg (not_lt.mpr hs1.le), if_pos hs2]

/-- inverse, middle branch `−tanh ĉ < x < tanh ĉ`: `artanh`; side conditions `x ≠ ±1` (automatic for `tanh ĉ ≤ 1`) -/
theorem logTanhT_inv_mid_dual (cut invCut alpha beta : Float) (hx : IsDual fx t dx) (hc1 : dx.1 < e invCut)
    (hc2 : -e invCut < dx.1) (hne1 : dx.1 ≠ 1) (hne2 : dx.1 ≠ -1) :
    DualRes (fun s => logTanhT (realX e) cut invCut alpha beta true (fx s)) t
      (logTanhT (dualX (realX e)) cut invCut alpha beta true dx) := by
  obtain ⟨hy, hl⟩ := artanh_dual e hx (sub_ne_zero.mpr hne1.symm) (fun h => hne2 (eq_neg_of_add_eq_zero_right h))
  refine DualRes.intro' ?_ ?_ hy hl
  · unfold logTanhT
    simp only [if_true, XOps.gt, d_lt, d_neg, d_ofFloat, decide_eq_true_eq, if_neg (not_lt.mpr hc1.le), if_neg (not_lt.mpr hc2.le)]
  · rw [hx.1] at hc1 hc2
    filter_upwards [hx.2.continuousAt.eventually (Iio_mem_nhds hc1), hx.2.continuousAt.eventually (Ioi_mem_nhds hc2)] with s hs1 hs2
    unfold logTanhT
    simp only [if_true, XOps.gt, realX_lt, realX_neg, realX_ofFloat, decide_eq_true_eq, if_neg (not_lt.mpr hs1.le),
      if_neg (not_lt.mpr hs2.le)]

/-! ## Corollaries: derivative in the input (`(x, 1)`, parameters `(p, 0)`) -/

theorem expT_fwd_dx (x : ℝ) :
    DualRes (fun s => expT (realX e) false s) x (expT (dualX (realX e)) false (x, 1)) :=
  expT_fwd_dual e (IsDual.id x)
theorem expT_inv_dx (x : ℝ) (h0 : 0 < x) :
    DualRes (fun s => expT (realX e) true s) x (expT (dualX (realX e)) true (x, 1)) :=
  expT_inv_dual e (IsDual.id x) h0
/-- with the constant read exactly (`e (-2.0) = -2`) the only excluded point is the softplus threshold `x = −10` -/
theorem tanhT_fwd_dx (x : ℝ) (hm2 : e (-2.0) = -2) (hthr : x ≠ -10) :
    DualRes (fun s => tanhT (realX e) false s) x (tanhT (dualX (realX e)) false (x, 1)) :=
  tanhT_fwd_dual e (IsDual.id x) (by rw [hm2]; intro h; exact hthr (by linarith))
theorem tanhT_inv_dx (x : ℝ) (h1 : -1 < x) (h2 : x < 1) :
    DualRes (fun s => tanhT (realX e) true s) x (tanhT (dualX (realX e)) true (x, 1)) :=
  tanhT_inv_dual e (IsDual.id x) h1 h2
theorem sigmoidT_fwd_dx (T : ℝ) (eps : Float) (x : ℝ) (hT : T ≠ 0) (hthr1 : T * x ≠ 20) (hthr2 : T * x ≠ -20) :
    DualRes (fun s => sigmoidT (realX e) T eps false s) x (sigmoidT (dualX (realX e)) (T, 0) eps false (x, 1)) :=
  sigmoidT_fwd_dual e eps (IsDual.id x) (IsDual.const T x) hT hthr1 hthr2
theorem sigmoidT_inv_dx (T : ℝ) (eps : Float) (x : ℝ) (hT : T ≠ 0) (h1 : 0 < x) (h2 : x < 1) (hc1 : e eps < x)
    (hc2 : x < e (1 - eps)) (hthr1 : Real.log x - Real.log (1 - x) ≠ 20) (hthr2 : Real.log x - Real.log (1 - x) ≠ -20) :
    DualRes (fun s => sigmoidT (realX e) T eps true s) x (sigmoidT (dualX (realX e)) (T, 0) eps true (x, 1)) :=
  sigmoidT_inv_dual_interior e eps (IsDual.id x) (IsDual.const T x) hT h1 h2 hc1 hc2 hthr1 hthr2
theorem cauchyT_fwd_dx (x : ℝ) :
    DualRes (fun s => cauchyT (realX e) false s) x (cauchyT (dualX (realX e)) false (x, 1)) :=
  cauchyT_fwd_dual e (IsDual.id x)
/-- with `π̂` read as a real in `(0, π]` and `e 0.5 = 1/2`, the whole open domain `(0, 1)` is covered -/
theorem cauchyT_inv_dx (x : ℝ) (h1 : 0 < x) (h2 : x < 1) (hpi0 : 0 < e 3.141592653589793)
    (hpi : e 3.141592653589793 ≤ Real.pi) (hhalf : e 0.5 = 1 / 2) :
    DualRes (fun s => cauchyT (realX e) true s) x (cauchyT (dualX (realX e)) true (x, 1)) := by
  refine cauchyT_inv_dual e (IsDual.id x) h1 h2 ?_
  show Real.cos (e 3.141592653589793 * (x - e 0.5)) ≠ 0
  rw [hhalf]
  refine (Real.cos_pos_of_mem_Ioo ⟨?_, ?_⟩).ne'
  · have : e 3.141592653589793 * -(1/2) < e 3.141592653589793 * (x - 1/2) := mul_lt_mul_of_pos_left (by linarith) hpi0
    linarith
  · have : e 3.141592653589793 * (x - 1/2) < e 3.141592653589793 * (1/2) := mul_lt_mul_of_pos_left (by linarith) hpi0
    linarith
theorem leakyReluT_fwd_dx (slope : Float) (ls x : ℝ) (h0 : x ≠ 0) :
    DualRes (fun s => leakyReluT (realX e) slope ls false s) x (leakyReluT (dualX (realX e)) slope (ls, 0) false (x, 1)) :=
  leakyReluT_fwd_dual e slope (IsDual.id x) (IsDual.const ls x) h0
theorem leakyReluT_inv_dx (slope : Float) (ls x : ℝ) (h0 : x ≠ 0) :
    DualRes (fun s => leakyReluT (realX e) slope ls true s) x (leakyReluT (dualX (realX e)) slope (ls, 0) true (x, 1)) :=
  leakyReluT_inv_dual e slope (IsDual.id x) (IsDual.const ls x) h0
theorem affineT_fwd_dx (scale shift x : ℝ) (h0 : scale ≠ 0) :
    DualRes (fun s => affineT (realX e) scale shift false s) x (affineT (dualX (realX e)) (scale, 0) (shift, 0) false (x, 1)) :=
  affineT_fwd_dual e (IsDual.id x) (IsDual.const scale x) (IsDual.const shift x) h0
theorem affineT_inv_dx (scale shift x : ℝ) (h0 : scale ≠ 0) :
    DualRes (fun s => affineT (realX e) scale shift true s) x (affineT (dualX (realX e)) (scale, 0) (shift, 0) true (x, 1)) :=
  affineT_inv_dual e (IsDual.id x) (IsDual.const scale x) (IsDual.const shift x) h0
theorem scaleShiftT_fwd_dx (scale shift x : ℝ) (h0 : scale ≠ 0) :
    DualRes (fun s => scaleShiftT (realX e) scale shift false s) x
      (scaleShiftT (dualX (realX e)) (scale, 0) (shift, 0) false (x, 1)) :=
  scaleShiftT_fwd_dual e (IsDual.id x) (IsDual.const scale x) (IsDual.const shift x) h0
theorem scaleShiftT_inv_dx (scale shift x : ℝ) (h0 : scale ≠ 0) :
    DualRes (fun s => scaleShiftT (realX e) scale shift true s) x
      (scaleShiftT (dualX (realX e)) (scale, 0) (shift, 0) true (x, 1)) :=
  scaleShiftT_inv_dual e (IsDual.id x) (IsDual.const scale x) (IsDual.const shift x) h0
theorem gluT_fwd_dx (ctx x : ℝ) :
    DualRes (fun s => gluT (realX e) ctx false s) x (gluT (dualX (realX e)) (ctx, 0) false (x, 1)) :=
  gluT_fwd_dual e (IsDual.id x) (IsDual.const ctx x)
theorem gluT_inv_dx (ctx x : ℝ) :
    DualRes (fun s => gluT (realX e) ctx true s) x (gluT (dualX (realX e)) (ctx, 0) true (x, 1)) :=
  gluT_inv_dual e (IsDual.id x) (IsDual.const ctx x)

/-! ## Corollaries: derivative in a parameter (input `(x, 0)`, the parameter `(p, 1)`) -/

theorem affineT_fwd_dscale (scale shift x : ℝ) (h0 : scale ≠ 0) :
    DualRes (fun s => affineT (realX e) s shift false x) scale (affineT (dualX (realX e)) (scale, 1) (shift, 0) false (x, 0)) :=
  affineT_fwd_dual e (IsDual.const x scale) (IsDual.id scale) (IsDual.const shift scale) h0
theorem affineT_fwd_dshift (scale shift x : ℝ) (h0 : scale ≠ 0) :
    DualRes (fun s => affineT (realX e) scale s false x) shift (affineT (dualX (realX e)) (scale, 0) (shift, 1) false (x, 0)) :=
  affineT_fwd_dual e (IsDual.const x shift) (IsDual.const scale shift) (IsDual.id shift) h0
theorem affineT_inv_dscale (scale shift x : ℝ) (h0 : scale ≠ 0) :
    DualRes (fun s => affineT (realX e) s shift true x) scale (affineT (dualX (realX e)) (scale, 1) (shift, 0) true (x, 0)) :=
  affineT_inv_dual e (IsDual.const x scale) (IsDual.id scale) (IsDual.const shift scale) h0
theorem affineT_inv_dshift (scale shift x : ℝ) (h0 : scale ≠ 0) :
    DualRes (fun s => affineT (realX e) scale s true x) shift (affineT (dualX (realX e)) (scale, 0) (shift, 1) true (x, 0)) :=
  affineT_inv_dual e (IsDual.const x shift) (IsDual.const scale shift) (IsDual.id shift) h0
theorem scaleShiftT_fwd_dscale (scale shift x : ℝ) (h0 : scale ≠ 0) :
    DualRes (fun s => scaleShiftT (realX e) s shift false x) scale
      (scaleShiftT (dualX (realX e)) (scale, 1) (shift, 0) false (x, 0)) :=
  scaleShiftT_fwd_dual e (IsDual.const x scale) (IsDual.id scale) (IsDual.const shift scale) h0
theorem scaleShiftT_fwd_dshift (scale shift x : ℝ) (h0 : scale ≠ 0) :
    DualRes (fun s => scaleShiftT (realX e) scale s false x) shift
      (scaleShiftT (dualX (realX e)) (scale, 0) (shift, 1) false (x, 0)) :=
  scaleShiftT_fwd_dual e (IsDual.const x shift) (IsDual.const scale shift) (IsDual.id shift) h0
theorem scaleShiftT_inv_dscale (scale shift x : ℝ) (h0 : scale ≠ 0) :
    DualRes (fun s => scaleShiftT (realX e) s shift true x) scale
      (scaleShiftT (dualX (realX e)) (scale, 1) (shift, 0) true (x, 0)) :=
  scaleShiftT_inv_dual e (IsDual.const x scale) (IsDual.id scale) (IsDual.const shift scale) h0
theorem sigmoidT_fwd_dT (T : ℝ) (eps : Float) (x : ℝ) (hT : T ≠ 0) (hthr1 : T * x ≠ 20) (hthr2 : T * x ≠ -20) :
    DualRes (fun s => sigmoidT (realX e) s eps false x) T (sigmoidT (dualX (realX e)) (T, 1) eps false (x, 0)) :=
  sigmoidT_fwd_dual e eps (IsDual.const x T) (IsDual.id T) hT hthr1 hthr2
theorem sigmoidT_inv_dT (T : ℝ) (eps : Float) (x : ℝ) (hT : T ≠ 0) (h1 : 0 < x) (h2 : x < 1) (hc1 : e eps < x)
    (hc2 : x < e (1 - eps)) (hthr1 : Real.log x - Real.log (1 - x) ≠ 20) (hthr2 : Real.log x - Real.log (1 - x) ≠ -20) :
    DualRes (fun s => sigmoidT (realX e) s eps true x) T (sigmoidT (dualX (realX e)) (T, 1) eps true (x, 0)) :=
  sigmoidT_inv_dual_interior e eps (IsDual.const x T) (IsDual.id T) hT h1 h2 hc1 hc2 hthr1 hthr2
theorem leakyReluT_fwd_dlogSlope (slope : Float) (ls x : ℝ) (h0 : x ≠ 0) :
    DualRes (fun s => leakyReluT (realX e) slope s false x) ls (leakyReluT (dualX (realX e)) slope (ls, 1) false (x, 0)) :=
  leakyReluT_fwd_dual e slope (IsDual.const x ls) (IsDual.id ls) h0
theorem gluT_fwd_dctx (ctx x : ℝ) :
    DualRes (fun s => gluT (realX e) s false x) ctx (gluT (dualX (realX e)) (ctx, 1) false (x, 0)) :=
  gluT_fwd_dual e (IsDual.const x ctx) (IsDual.id ctx)

/-! ## Closed forms (sanity: what the dual run literally returns) -/

theorem expT_fwd_closed (x : ℝ) :
    expT (dualX (realX e)) false (x, 1) = .ok ((Real.exp x, Real.exp x), (x, 1)) := by
  unfold expT
  simp only [Bool.false_eq_true, if_false, d_exp, one_mul]

theorem affineT_fwd_closed (scale shift x : ℝ) :
    affineT (dualX (realX e)) (scale, 0) (shift, 0) false (x, 1)
      = .ok ((x * scale + shift, scale), (Real.log |scale|, 0)) := by
  unfold affineT
  simp only [Bool.false_eq_true, if_false, d_add, d_mul, d_log, d_abs, one_mul, mul_zero, add_zero, zero_div]

theorem leakyReluT_fwd_closed_neg (slope : Float) (ls x : ℝ) (h0 : x < 0) :
    leakyReluT (dualX (realX e)) slope (ls, 0) false (x, 1) = .ok ((e slope * x, e slope), (ls, 0)) := by
  unfold leakyReluT
  simp only [Bool.false_eq_true, if_false, d_lt, d_zero, h0, decide_true, if_true, d_mul, d_ofFloat, d_one, zero_mul,
    zero_add, mul_one, mul_zero, add_zero]

/-- the statement in the literal form "`.ok ((y, y'), (l, l'))` with `(y, l)` the real outputs and `y'`, `l'` the
    derivatives of the real program", for one function (every `DualRes` unpacks this way by `DualRes.elim`) -/
theorem tanhT_fwd_literal (x : ℝ) (hm2 : e (-2.0) = -2) (hthr : x ≠ -10) :
    ∃ y y' l l' : ℝ, tanhT (dualX (realX e)) false (x, 1) = .ok ((y, y'), (l, l')) ∧
      tanhT (realX e) false x = .ok (y, l) ∧
      HasDerivAt (fun s => outY (tanhT (realX e) false s)) y' x ∧
      HasDerivAt (fun s => outL (tanhT (realX e) false s)) l' x :=
  (tanhT_fwd_dx e x hm2 hthr).elim

/-! ## Conventions at kinks (excluded by the side conditions above) -/

/-- **LeakyReLU at the kink `x = 0`**: the dual model returns the tangent of the identity branch (`1`), whereas
    `F.leaky_relu`'s backward uses `x > 0 ? g : g * slope`, i.e. `slope` at `0` (a convention at a non-differentiable
    point; the harness avoids `x = 0` for this class) -/
theorem leakyReluT_fwd_at_kink (slope : Float) (ls : ℝ) :
    leakyReluT (dualX (realX e)) slope (ls, 0) false (0, 1) = .ok ((0, 1), (0, 0)) := by
  unfold leakyReluT
  simp only [Bool.false_eq_true, if_false, d_lt, d_zero, lt_irrefl, decide_false, d_mul, mul_zero, add_zero]

/-! ## Non-vacuity: the side conditions are satisfiable (concrete inputs, concrete readings of the doubles) -/

def eTwo (f : Float) : ℝ := if f == 0.0 then 0 else 1
private theorem t0 : ((0.0:Float) == 0.0) = true := FloatFacts.zero_beq_zero
private theorem t1 : (((1:Float) - 0.0) == 0.0) = false := by
  rw [FloatFacts.ofNat_one_sub_zero_eq]; exact FloatFacts.one_beq_zero

example : DualRes (fun s => tanhT (realX e) true s) (1/2) (tanhT (dualX (realX e)) true (1/2, 1)) :=
  tanhT_inv_dx e (1/2) (by norm_num) (by norm_num)
example : DualRes (fun s => sigmoidT (realX e) 2 1e-6 false s) 3 (sigmoidT (dualX (realX e)) (2, 0) 1e-6 false (3, 1)) :=
  sigmoidT_fwd_dx e 2 1e-6 3 (by norm_num) (by norm_num) (by norm_num)
example : DualRes (fun s => sigmoidT (realX eTwo) 2 0.0 true s) (1/2) (sigmoidT (dualX (realX eTwo)) (2, 0) 0.0 true (1/2, 1)) :=
  sigmoidT_inv_dx eTwo 2 0.0 (1/2) (by norm_num) (by norm_num) (by norm_num)
    (by simp [eTwo, FloatFacts.zero_beq_zero]) (by simp [eTwo, t1]; norm_num)
    (by rw [show (1:ℝ) - 1/2 = 1/2 by norm_num, sub_self]; norm_num)
    (by rw [show (1:ℝ) - 1/2 = 1/2 by norm_num, sub_self]; norm_num)
example : DualRes (fun s => logTanhT (realX (fun _ => 1)) 1.0 0.76 0.24 3.3 false s) 2
    (logTanhT (dualX (realX (fun _ => 1))) 1.0 0.76 0.24 3.3 false (2, 1)) :=
  logTanhT_fwd_hi_dual (fun _ => 1) 1.0 0.76 0.24 3.3 (IsDual.id 2) (by norm_num) (by norm_num) (by norm_num) (by norm_num)
example : DualRes (fun s => leakyReluT (realX e) 0.01 s false (-1)) 5 (leakyReluT (dualX (realX e)) 0.01 (5, 1) false (-1, 0)) :=
  leakyReluT_fwd_dlogSlope e 0.01 5 (-1) (by norm_num)

end
end DualX
