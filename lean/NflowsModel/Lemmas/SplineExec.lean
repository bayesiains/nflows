import NflowsModel.Core.Spline
import NflowsModel.Real.RealX
import NflowsModel.Lemmas.FloatFacts
import Mathlib.Tactic
/-!
# Lemmas/SplineExec — facts about the EXECUTABLE stage-A list code of `Core/Spline`, at the real instance

`softmaxG`, `flooredSoftmax`, `cumsumG`, `rqKnots` are the functions the driver runs (at `floatX`); here they are
instantiated at `realX e` and shown to produce valid knots: positive widths summing to one, strictly increasing
cumulative knots pinned to the ends of the interval — for every bin count and every unnormalised parameter vector.
-/
open NF DualSound

namespace SplineExec
variable (e : Float → ℝ)

theorem softmaxG_eq (xs : List ℝ) :
    softmaxG (realX e) xs
      = xs.map (fun x => Real.exp (x - maxG (realX e) xs) / (xs.map (fun y => Real.exp (y - maxG (realX e) xs))).sum) := by
  simp only [softmaxG, sumG_real, List.map_map, Function.comp_def, realX_exp, realX_sub, realX_div]

theorem softmaxG_length (xs : List ℝ) : (softmaxG (realX e) xs).length = xs.length := by
  rw [softmaxG_eq, List.length_map]

theorem sum_exp_pos (xs : List ℝ) (m : ℝ) (h : xs ≠ []) : 0 < (xs.map (fun y => Real.exp (y - m))).sum :=
  List.sum_pos _ (fun _ ha => by obtain ⟨y, _, rfl⟩ := List.mem_map.mp ha; exact Real.exp_pos _)
    (fun h' => h (List.map_eq_nil_iff.mp h'))

theorem softmax_divisor_pos (u : List ℝ) (hu : u ≠ []) :
    0 < sumG (realX e) (u.map fun t => (realX e).exp ((realX e).sub t (maxG (realX e) u))) := by
  rw [sumG_real]
  exact sum_exp_pos u _ hu

theorem softmaxG_pos (xs : List ℝ) : ∀ y ∈ softmaxG (realX e) xs, 0 < y := by
  intro y hy
  rw [softmaxG_eq] at hy
  obtain ⟨x, hx, rfl⟩ := List.mem_map.mp hy
  exact div_pos (Real.exp_pos _) (sum_exp_pos xs _ (List.ne_nil_of_mem hx))

theorem sum_map_div (l : List ℝ) (c : ℝ) : (l.map (fun x => x / c)).sum = l.sum / c := by
  induction l with
  | nil => simp
  | cons a l ih => simp [ih, add_div]

theorem softmaxG_sum (xs : List ℝ) (h : xs ≠ []) : (softmaxG (realX e) xs).sum = 1 := by
  have hm := sum_map_div (xs.map (fun x => Real.exp (x - maxG (realX e) xs)))
    (xs.map (fun y => Real.exp (y - maxG (realX e) xs))).sum
  rw [List.map_map] at hm
  rw [softmaxG_eq]
  exact hm.trans (div_self (sum_exp_pos xs _ h).ne')

theorem flooredSoftmax_eq (m : Float) (u : List ℝ) :
    flooredSoftmax (realX e) m u = (softmaxG (realX e) u).map (fun s => e m + e (1 - m * u.length.toFloat) * s) := rfl

theorem flooredSoftmax_length (m : Float) (u : List ℝ) : (flooredSoftmax (realX e) m u).length = u.length := by
  rw [flooredSoftmax_eq, List.length_map, softmaxG_length]

theorem flooredSoftmax_valid (m : Float) (u : List ℝ) (hu : u ≠ [])
    (hm0 : 0 ≤ e m) (hc : e (1 - m * u.length.toFloat) = 1 - e m * u.length) (hmK : e m * u.length ≤ 1) :
    (∀ w ∈ flooredSoftmax (realX e) m u, 0 < w) ∧ (flooredSoftmax (realX e) m u).sum = 1 := by
  rw [flooredSoftmax_eq, hc]
  constructor
  · intro w hw
    obtain ⟨s, hs, rfl⟩ := List.mem_map.mp hw
    have hspos := softmaxG_pos e u s hs
    -- `m + (1 - mK)s` with `m ≥ 0`, `1 - mK ≥ 0`, `s > 0`: positive unless `m = 0` and `1 - mK = 0` at once
    rcases eq_or_lt_of_le hm0 with h0 | h0
    · rw [← h0, zero_mul, sub_zero, one_mul, zero_add]; exact hspos
    · exact add_pos_of_pos_of_nonneg h0 (mul_nonneg (sub_nonneg.mpr hmK) hspos.le)
  · have : ∀ l : List ℝ, (l.map (fun s => e m + (1 - e m * u.length) * s)).sum
        = e m * l.length + (1 - e m * u.length) * l.sum := by
      intro l
      induction l with
      | nil => simp
      | cons a l ih => simp [ih]; ring
    rw [this, softmaxG_length, softmaxG_sum e u hu]; ring

theorem cumsumG_eq (xs : List ℝ) : cumsumG (realX e) xs = (List.range xs.length).map (fun k => (xs.take (k+1)).sum) := by
  unfold cumsumG
  simp only [realX_add, realX_zero]
  have key : ∀ (xs : List ℝ) (acc : ℝ) (out : List ℝ),
      (xs.foldl (fun (st : ℝ × List ℝ) x => (st.1 + x, (st.1 + x) :: st.2)) (acc, out)).2.reverse
        = out.reverse ++ (List.range xs.length).map (fun k => acc + (xs.take (k+1)).sum) := by
    intro xs
    induction xs with
    | nil => intro acc out; simp
    | cons x xs ih =>
      intro acc out
      simp only [List.foldl_cons, List.length_cons]
      rw [ih, List.range_succ_eq_map]
      simp [add_assoc, Function.comp_def]
  have := key xs 0 []
  simpa using this

theorem cumsumG_length (xs : List ℝ) : (cumsumG (realX e) xs).length = xs.length := by
  rw [cumsumG_eq, List.length_map, List.length_range]

theorem cumsumG_last (xs : List ℝ) (h : xs ≠ []) : (cumsumG (realX e) xs).getLast? = some xs.sum := by
  rw [cumsumG_eq]
  obtain ⟨n, hn⟩ : ∃ n, xs.length = n + 1 := ⟨xs.length - 1, by have := List.length_pos_of_ne_nil h; omega⟩
  rw [hn, List.range_succ]
  simp [← hn]

theorem cumsumG_pos (xs : List ℝ) (hpos : ∀ x ∈ xs, 0 < x) : ∀ a ∈ cumsumG (realX e) xs, 0 < a := by
  intro a ha
  rw [cumsumG_eq] at ha
  obtain ⟨k, hk, rfl⟩ := List.mem_map.mp ha
  refine List.sum_pos _ (fun x hx => hpos x (List.mem_of_mem_take hx)) (fun h => ?_)
  have := congrArg List.length h
  rw [List.length_take, List.length_nil] at this
  have := List.mem_range.mp hk
  omega

theorem cumsumG_strict (xs : List ℝ) (hpos : ∀ x ∈ xs, 0 < x) : (cumsumG (realX e) xs).Pairwise (· < ·) := by
  rw [cumsumG_eq, List.pairwise_map]
  refine List.Pairwise.imp_of_mem ?_ (List.pairwise_lt_range)
  intro a b ha hb hab
  have hb := List.mem_range.mp hb
  -- `take (b+1) = take (a+1) ++ rest` with `rest` non-empty
  have hsplit := List.take_append_drop (a+1) (xs.take (b+1))
  rw [List.take_take, min_eq_left (by omega)] at hsplit
  have hrest : 0 < ((xs.take (b+1)).drop (a+1)).sum :=
    List.sum_pos _ (fun x hx => hpos x (List.mem_of_mem_take (List.mem_of_mem_drop hx)))
      (fun h => by
        have := congrArg List.length h
        rw [List.length_drop, List.length_take, List.length_nil] at this
        omega)
  rw [← hsplit, List.sum_append]
  exact lt_add_of_pos_right _ hrest

theorem setFirst_head {α : Type} (x : α) (l : List α) : setFirst (x :: l) x = x :: l := rfl

theorem setLast_of_getLast {α : Type} (l : List α) (v : α) (h : l.getLast? = some v) : setLast l v = l := by
  obtain ⟨r, rfl⟩ := List.getLast?_eq_some_iff.mp h
  simp [setLast]

/-- **Executable knots are valid** (rational-quadratic style `rqKnots`, as the driver runs it, at the reals): for
    positive widths summing to one and `lo < hi`, the knot list has `K+1` entries, starts at `lo`, ends at `hi` and is
    strictly increasing; pinning the ends changes nothing. -/
theorem rqKnots_valid (lo hi : Float) (w : List ℝ) (hw : w ≠ []) (hpos : ∀ x ∈ w, 0 < x) (hsum : w.sum = 1)
    (hlt : e lo < e hi) (hd : e (hi - lo) = e hi - e lo) :
    let kn := (rqKnots (realX e) lo hi w).1
    kn.length = w.length + 1 ∧ kn.head? = some (e lo) ∧ kn.getLast? = some (e hi) ∧ kn.Pairwise (· < ·) := by
  intro kn
  have hD : 0 < e hi - e lo := sub_pos.mpr hlt
  -- already before `setFirst`/`setLast` the list starts at `lo` and ends at `hi`
  set cum : List ℝ := (0 :: cumsumG (realX e) w).map (fun c => (e hi - e lo) * c + e lo) with hcum
  have hlastc : cum.getLast? = some (e hi) := by
    have h := cumsumG_last e w hw
    rw [hcum, List.getLast?_map, List.getLast?_cons, h, hsum]
    simp
  have hkn : kn = cum := by
    have hc' : cum = e lo :: (cumsumG (realX e) w).map (fun c => (e hi - e lo) * c + e lo) := by simp [hcum]
    show (rqKnots (realX e) lo hi w).1 = cum
    unfold rqKnots
    simp only [realX_zero, realX_add, realX_mul, realX_ofFloat, hd, ← hcum]
    rw [hc', setFirst_head, ← hc', setLast_of_getLast _ _ hlastc]
  rw [hkn]
  refine ⟨by simp [hcum, cumsumG_length], by simp [hcum], hlastc, ?_⟩
  rw [hcum, List.pairwise_map]
  exact (List.pairwise_cons.mpr ⟨cumsumG_pos e w hpos, cumsumG_strict e w hpos⟩).imp
    (fun {a b} hab => by nlinarith)

/-- the knots `rqSpline` forms on one axis — floored softmax of the unnormalised vector, cumulated and scaled into
    `[lo, hi]` — are valid, for every unnormalised vector -/
theorem rqKnots_flooredSoftmax (lo hi m : Float) (u : List ℝ) (hu : u ≠ [])
    (hm0 : 0 ≤ e m) (hc : e (1 - m * u.length.toFloat) = 1 - e m * u.length) (hmK : e m * u.length ≤ 1)
    (hlt : e lo < e hi) (hd : e (hi - lo) = e hi - e lo) :
    let kn := (rqKnots (realX e) lo hi (flooredSoftmax (realX e) m u)).1
    kn.length = u.length + 1 ∧ kn.head? = some (e lo) ∧ kn.getLast? = some (e hi) ∧ kn.Pairwise (· < ·) := by
  have h := flooredSoftmax_valid e m u hu hm0 hc hmK
  have hne : flooredSoftmax (realX e) m u ≠ [] :=
    fun h' => hu (List.length_eq_zero_iff.mp (by rw [← flooredSoftmax_length e m u, h', List.length_nil]))
  have := rqKnots_valid e lo hi _ hne h.1 h.2 hlt hd
  rwa [flooredSoftmax_length] at this

/-- **Executable cdf knots of the linear / quadratic / cubic splines** (`0 :: setLast (cumsum w) 1`, normalised
    coordinates): for positive masses summing to one the list has `K+1` entries, starts at 0, ends at 1 and is strictly
    increasing; pinning the last entry to 1 changes nothing. -/
theorem unitKnots_valid (w : List ℝ) (hw : w ≠ []) (hpos : ∀ x ∈ w, 0 < x) (hsum : w.sum = 1) :
    let kn := (0 : ℝ) :: setLast (cumsumG (realX e) w) 1
    kn.length = w.length + 1 ∧ kn.head? = some 0 ∧ kn.getLast? = some 1 ∧ kn.Pairwise (· < ·) := by
  intro kn
  have hl := cumsumG_last e w hw
  rw [hsum] at hl
  have hk : kn = (0:ℝ) :: cumsumG (realX e) w := by
    show (0:ℝ) :: setLast (cumsumG (realX e) w) 1 = _
    rw [setLast_of_getLast _ _ hl]
  rw [hk]
  refine ⟨by rw [List.length_cons, cumsumG_length], rfl, ?_,
    List.pairwise_cons.mpr ⟨cumsumG_pos e w hpos, cumsumG_strict e w hpos⟩⟩
  rw [List.getLast?_cons, hl]; rfl

/-! ### reading lists by `getD`: what the gathers of the spline programs return -/

theorem getElem_eq_getD (l : List ℝ) (i : ℕ) (h : i < l.length) : l[i] = l.getD i 0 := by
  simp [List.getD, h]

theorem getD_mem (l : List ℝ) (i : ℕ) (h : i < l.length) : l.getD i 0 ∈ l :=
  getElem_eq_getD l i h ▸ List.getElem_mem h

theorem head_getD (l : List ℝ) (a : ℝ) (h : l.head? = some a) : l.getD 0 0 = a := by
  cases l with
  | nil => simp at h
  | cons b t => simp at h; simp [h]

theorem last_getD (l : List ℝ) (a : ℝ) (n : ℕ) (hl : l.length = n + 1) (h : l.getLast? = some a) : l.getD n 0 = a := by
  rcases List.getLast?_eq_some_iff.mp h with ⟨ys, rfl⟩
  have : ys.length = n := by simpa using hl
  subst this
  simp [List.getD]

theorem pairwise_getD_lt (l : List ℝ) (hp : l.Pairwise (· < ·)) (k : ℕ) (hk : k + 1 < l.length) :
    l.getD k 0 < l.getD (k+1) 0 := by
  have h1 : k < l.length := by omega
  rw [← getElem_eq_getD l k h1, ← getElem_eq_getD l (k+1) hk]
  exact List.pairwise_iff_getElem.mp hp k (k+1) h1 hk (by omega)

theorem diffsG_getD (l : List ℝ) (i : ℕ) (h : i + 1 < l.length) :
    (diffsG (NF.realX e) l).getD i 0 = l.getD (i+1) 0 - l.getD i 0 := by
  induction l generalizing i with
  | nil => simp at h
  | cons a t ih =>
    cases t with
    | nil => simp at h
    | cons b r =>
      cases i with
      | zero => rfl
      | succ j => exact ih j (Nat.lt_of_succ_lt_succ h)

theorem evalX_eq_evalR (l : List ℝ) (E : Expr) : evalX (NF.realX e) l E = evalR (envOf l 0) E := by
  unfold evalX
  rw [NF.realX_zero]
  rfl

theorem getD_drop1 (l : List ℝ) (i : ℕ) : (l.drop 1).getD i 0 = l.getD (i+1) 0 := by
  simp [List.getD]

theorem zcum_getD (l : List ℝ) (k : ℕ) (hk : k ≤ l.length) :
    ((0:ℝ) :: cumsumG (NF.realX e) l).getD k 0 = (l.take k).sum := by
  cases k with
  | zero => simp
  | succ j =>
    rw [List.getD_cons_succ, SplineExec.cumsumG_eq]
    have hj : j < l.length := hk
    simp [List.getD, hj]

theorem zcum_step (l : List ℝ) (k : ℕ) (hk : k < l.length) :
    ((0:ℝ) :: cumsumG (NF.realX e) l).getD (k+1) 0 = ((0:ℝ) :: cumsumG (NF.realX e) l).getD k 0 + l.getD k 0 := by
  rw [zcum_getD e l (k+1) hk, zcum_getD e l k hk.le, List.sum_take_succ l k hk]
  simp [List.getD, hk]

/-- consecutive entries of the cdf knots `0 :: setLast (cumsum w) 1` of masses summing to one differ by the mass of the bin
    (the last cumulative sum is already 1, so `setLast` changes nothing) -/
theorem unitKnots_step (w : List ℝ) (hw : w ≠ []) (hsum : w.sum = 1) (k : ℕ) (hk : k < w.length) :
    ((NF.realX e).zero :: setLast (cumsumG (NF.realX e) w) (NF.realX e).one).getD (k+1) 0
      = ((NF.realX e).zero :: setLast (cumsumG (NF.realX e) w) (NF.realX e).one).getD k 0 + w.getD k 0 := by
  have hl := cumsumG_last e w hw
  rw [hsum] at hl
  rw [NF.realX_zero, NF.realX_one, setLast_of_getLast _ _ hl]
  exact zcum_step e w k hk

end SplineExec
