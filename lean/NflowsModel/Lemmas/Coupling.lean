import Mathlib.Tactic

namespace Coupling

/-! C07/C08 structural models, generic in the element type: `Coupling.Coupling`, the coupling layer on one row (C07);
    `Coupling.Wrappers`, transforms as forward / inverse pairs with the composite and the inverse wrapper (C08) -/

namespace Coupling
variable {α P C : Type} {n : ℕ}

/-- the coupling layer on one row (`forward`: coupling.py:73-100, `inverse`: 102-130): `isT i` ⇔ mask[i] > 0.
    `cond` sees `idPart`, the identity features (others blanked by `blank`), and the context; `f` is the element-wise map. -/
def idPart (isT : Fin n → Bool) (blank : α) (x : Fin n → α) : Fin n → α := fun i => if isT i then blank else x i

def forward (isT : Fin n → Bool) (blank : α) (cond : (Fin n → α) → C → Fin n → P) (f : P → α → α)
    (x : Fin n → α) (c : C) : Fin n → α :=
  fun i => if isT i then f (cond (idPart isT blank x) c i) (x i) else x i

def inverse (isT : Fin n → Bool) (blank : α) (cond : (Fin n → α) → C → Fin n → P) (finv : P → α → α)
    (y : Fin n → α) (c : C) : Fin n → α :=
  fun i => if isT i then finv (cond (idPart isT blank y) c i) (y i) else y i

theorem identity_passthrough (isT : Fin n → Bool) (blank : α) (cond) (f : P → α → α) (x : Fin n → α) (c : C)
    (i : Fin n) (hi : isT i = false) : forward isT blank cond f x c i = x i := by simp [forward, hi]

theorem idPart_forward (isT : Fin n → Bool) (blank : α) (cond) (f : P → α → α) (x : Fin n → α) (c : C) :
    idPart isT blank (forward isT blank cond f x c) = idPart isT blank x := by
  funext i; by_cases h : isT i <;> simp [idPart, forward, h]

theorem transformed_depends_on (isT : Fin n → Bool) (blank : α) (cond) (f : P → α → α) (x x' : Fin n → α) (c : C)
    (t : Fin n) (hid : ∀ i, isT i = false → x i = x' i) (ht : x t = x' t) :
    forward isT blank cond f x c t = forward isT blank cond f x' c t := by
  have : idPart isT blank x = idPart isT blank x' := by
    funext i; by_cases h : isT i
    · simp [idPart, h]
    · have h' : isT i = false := by simpa using h
      simp [idPart, h', hid i h']
  simp [forward, this, ht]

theorem inverse_forward (isT : Fin n → Bool) (blank : α) (cond) (f finv : P → α → α)
    (hinv : ∀ p a, finv p (f p a) = a) (x : Fin n → α) (c : C) :
    inverse isT blank cond finv (forward isT blank cond f x c) c = x := by
  funext i
  by_cases h : isT i
  · simp only [inverse, h, if_true, idPart_forward]
    simp [forward, h, hinv]
  · have h' : isT i = false := by simpa using h
    simp [inverse, forward, h']
end Coupling

namespace Wrappers
variable {α C : Type}
/-- a transform: forward and inverse, each returning (outputs, logabsdet) -/
structure Tr (α C : Type) where
  fwd : α → C → α × ℝ
  inv : α → C → α × ℝ

/-- `_cascade` (base.py:45-52) -/
def cascade (fs : List (α → C → α × ℝ)) (x : α) (c : C) : α × ℝ :=
  fs.foldl (fun acc f => let r := f acc.1 c; (r.1, acc.2 + r.2)) (x, 0)

def composite (ts : List (Tr α C)) : Tr α C where
  fwd := cascade (ts.map (·.fwd))
  inv := cascade (ts.reverse.map (·.inv))

def inverseTransform (t : Tr α C) : Tr α C := ⟨t.inv, t.fwd⟩

def Good (t : Tr α C) : Prop := ∀ x c, (t.inv (t.fwd x c).1 c).1 = x ∧ (t.inv (t.fwd x c).1 c).2 = - (t.fwd x c).2

theorem cascade_acc (fs : List (α → C → α × ℝ)) (x : α) (c : C) (l0 : ℝ) :
    fs.foldl (fun acc f => let r := f acc.1 c; (r.1, acc.2 + r.2)) (x, l0)
      = ((cascade fs x c).1, l0 + (cascade fs x c).2) := by
  induction fs generalizing x l0 with
  | nil => simp [cascade]
  | cons f fs ih =>
    simp only [cascade, List.foldl_cons]
    rw [ih, ih (f x c).1 (0 + (f x c).2)]
    simp [cascade]; ring

theorem cascade_cons (f : α → C → α × ℝ) (fs) (x : α) (c : C) :
    cascade (f :: fs) x c = ((cascade fs (f x c).1 c).1, (f x c).2 + (cascade fs (f x c).1 c).2) := by
  simp only [cascade, List.foldl_cons]
  rw [cascade_acc]; simp [cascade]

theorem cascade_append (fs gs : List (α → C → α × ℝ)) (x : α) (c : C) :
    cascade (fs ++ gs) x c = ((cascade gs (cascade fs x c).1 c).1, (cascade fs x c).2 + (cascade gs (cascade fs x c).1 c).2) := by
  induction fs generalizing x with
  | nil => simp [cascade]
  | cons f fs ih => rw [List.cons_append, cascade_cons, ih, cascade_cons]; simp; ring

theorem cascade_singleton (f : α → C → α × ℝ) (x : α) (c : C) : cascade [f] x c = f x c := by
  simp [cascade]

theorem composite_fwd_cons (t : Tr α C) (ts : List (Tr α C)) (x : α) (c : C) :
    (composite (t :: ts)).fwd x c
      = (((composite ts).fwd (t.fwd x c).1 c).1, (t.fwd x c).2 + ((composite ts).fwd (t.fwd x c).1 c).2) := by
  simp only [composite, List.map_cons]; exact cascade_cons _ _ _ _

theorem composite_inv_cons (t : Tr α C) (ts : List (Tr α C)) (z : α) (c : C) :
    (composite (t :: ts)).inv z c
      = ((t.inv ((composite ts).inv z c).1 c).1, ((composite ts).inv z c).2 + (t.inv ((composite ts).inv z c).1 c).2) := by
  simp only [composite, List.reverse_cons, List.map_append, List.map_cons, List.map_nil]
  rw [cascade_append, cascade_singleton]

/-- the composite's inverse (reversed order, as coded) undoes its forward and negates the summed log-det -/
theorem composite_good (ts : List (Tr α C)) (h : ∀ t ∈ ts, Good t) : Good (composite ts) := by
  induction ts with
  | nil => intro x c; simp [composite, cascade]
  | cons t ts ih =>
    intro x c
    obtain ⟨e3, e4⟩ := h t (List.mem_cons_self) x c
    obtain ⟨e1, e2⟩ := ih (fun s hs => h s (List.mem_cons_of_mem _ hs)) (t.fwd x c).1 c
    rw [composite_fwd_cons, composite_inv_cons]
    simp only [e1, e2, e3, e4]
    exact ⟨trivial, by ring⟩
end Wrappers


end Coupling
