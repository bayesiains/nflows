import NflowsModel.Properties.C03
import NflowsModel.Properties.C11
import NflowsModel.Lemmas.StructureExecRQTails
import NflowsModel.Core.Reshape
import NflowsModel.Lemmas.MatrixCLM
import NflowsModel.Lemmas.PermuteDim
import Mathlib.Analysis.Calculus.FDeriv.Prod
import Mathlib.Analysis.Calculus.FDeriv.Add
import Mathlib.LinearAlgebra.Matrix.Permutation
import Mathlib.LinearAlgebra.Matrix.ToLin
import Mathlib.LinearAlgebra.Matrix.NonsingularInverse
import Mathlib.Topology.Algebra.Module.FiniteDimension
/-!
# Lemmas/FlowWholeND — the n-dimensional flow density theorem (C03) instantiated with EXECUTED layers

`Properties/C03.lean` proves: a program `progN parts` of n-D parts (`DiffeoN n`: bijection of `Fin n → ℝ`, Fréchet derivative whose `|det|`
is `exp` of the returned log-abs-det) over a normalised base is a normalised density.  This file inhabits `DiffeoN n` with what the driver
runs: products of 1-D parts (`piDiffeo`: the executed RQ-CDF with linear tails), affine maps with `det W ≠ 0` (`affineDiffeo`: the executed
LU / QR / SVD passes), coordinate permutations (the executed `permuteDim`) — none with a differentiability hypothesis — and, under the
explicit hypothesis `ARRowHyp` that its row map is differentiable (the conditioner is a neural network: ReLU kinks are where it can fail,
DESIGN §8.4; satisfiable: `arRowHyp_const_net`), the executed masked autoregressive RQ layer.  `ExecLayer.run` RUNS each layer by its
executed program on a one-row batch (other rows: C12), `ExecLayer.run_eq` identifies it with its part, and
`executed_pipeline_normalised` is the end-to-end statement over the executed `StandardNormal` row (`runAll_eq` puts any other base
of `executed_flow_normalised_*` in its place).

Taken from `Properties/`: the definitions `Diffeo1`, `DiffeoN`, `progN`, `rqTailsDiffeo` and the theorem `flow_normalised_progN` (C03); the
normalised executed Gaussian rows `stdNormal_normalised`, `diagNormal_normalised`, `condNormal_row_normalised` (C05, through C03); C11 is
imported for `Real/LinearBridge` (the executed LU / QR / SVD facts), which it imports.
-/
open MeasureTheory NF DualSound Properties.C03

namespace FlowWholeND

/-! ## 1. The element-wise layer: a product of 1-D parts is an n-D part -/

noncomputable def diagCLM {n : ℕ} (c : Fin n → ℝ) : (Fin n → ℝ) →L[ℝ] (Fin n → ℝ) :=
  ContinuousLinearMap.pi fun i => c i • ContinuousLinearMap.proj i

theorem diagCLM_apply {n : ℕ} (c : Fin n → ℝ) (v : Fin n → ℝ) (i : Fin n) : diagCLM c v i = c i * v i := by
  simp [diagCLM]

theorem diagCLM_det {n : ℕ} (c : Fin n → ℝ) : (diagCLM c).det = ∏ i, c i := by
  rw [diagCLM, MatrixCLM.pi_smul_proj_eq, MatrixCLM.ofMat_det, Matrix.det_diagonal]


/-- **Element-wise layer**: the product map `x ↦ fun i => (d i).f (x i)` of 1-D parts with
    `ld x = ∑ i, (d i).ld (x i)` (`sum_except_batch` of the per-element log-dets) is an n-D part -/
noncomputable def piDiffeo {n : ℕ} (d : Fin n → Diffeo1) : DiffeoN n where
  T := fun x i => (d i).f (x i)
  T' := fun x => diagCLM fun i => Real.exp ((d i).ld (x i))
  ld := fun x => ∑ i, (d i).ld (x i)
  bij := by
    constructor
    · intro x y h
      funext i
      exact (d i).bij.1 (congrFun h i)
    · intro y
      choose g hg using fun i => (d i).bij.2 (y i)
      exact ⟨g, funext hg⟩
  deriv := by
    intro x
    unfold diagCLM
    rw [hasFDerivAt_pi]
    intro i
    have h1 : HasFDerivAt (fun v : Fin n → ℝ => v i) (ContinuousLinearMap.proj (R := ℝ) (φ := fun _ : Fin n => ℝ) i) x :=
      hasFDerivAt_apply i x
    exact ((d i).deriv (x i)).comp_hasFDerivAt x h1
  ld_eq := by
    intro x
    rw [diagCLM_det, RankedDet.abs_prod_exp]

@[simp] theorem piDiffeo_T {n : ℕ} (d : Fin n → Diffeo1) (x : Fin n → ℝ) (i : Fin n) :
    (piDiffeo d).T x i = (d i).f (x i) := rfl
@[simp] theorem piDiffeo_ld {n : ℕ} (d : Fin n → Diffeo1) (x : Fin n → ℝ) :
    (piDiffeo d).ld x = ∑ i, (d i).ld (x i) := rfl


/-! ## 2. Affine layers (the linear family, permutations) -/

noncomputable def matCLM {n : ℕ} (W : Matrix (Fin n) (Fin n) ℝ) : (Fin n → ℝ) →L[ℝ] (Fin n → ℝ) :=
  LinearMap.toContinuousLinearMap (Matrix.toLin' W)

theorem matCLM_apply {n : ℕ} (W : Matrix (Fin n) (Fin n) ℝ) (v : Fin n → ℝ) : matCLM W v = W.mulVec v :=
  MatrixCLM.ofMat_apply W v

theorem matCLM_det {n : ℕ} (W : Matrix (Fin n) (Fin n) ℝ) : (matCLM W).det = W.det := MatrixCLM.ofMat_det W

theorem affine_bijective {n : ℕ} (W : Matrix (Fin n) (Fin n) ℝ) (b : Fin n → ℝ) (hW : W.det ≠ 0) :
    Function.Bijective fun x : Fin n → ℝ => W.mulVec x + b := MatrixCLM.bijective_affine W b hW

noncomputable def affineDiffeo {n : ℕ} (W : Matrix (Fin n) (Fin n) ℝ) (b : Fin n → ℝ) (hW : W.det ≠ 0) : DiffeoN n where
  T := fun x => W.mulVec x + b
  T' := fun _ => matCLM W
  ld := fun _ => Real.log |W.det|
  bij := affine_bijective W b hW
  deriv := by
    intro x
    have h := ((matCLM W).hasFDerivAt (x := x)).add_const b
    refine h.congr_of_eventuallyEq (Filter.Eventually.of_forall fun v => ?_)
    simp [matCLM_apply]
  ld_eq := by
    intro x
    rw [matCLM_det, Real.exp_log (abs_pos.2 hW)]

@[simp] theorem affineDiffeo_T {n : ℕ} (W : Matrix (Fin n) (Fin n) ℝ) (b : Fin n → ℝ) (hW : W.det ≠ 0) (x : Fin n → ℝ) :
    (affineDiffeo W b hW).T x = W.mulVec x + b := rfl
@[simp] theorem affineDiffeo_ld {n : ℕ} (W : Matrix (Fin n) (Fin n) ℝ) (b : Fin n → ℝ) (hW : W.det ≠ 0) (x : Fin n → ℝ) :
    (affineDiffeo W b hW).ld x = Real.log |W.det| := rfl

/-- **Permutation of the coordinates** (`Permutation`, `ReversePermutation`, `RandomPermutation` on a `[B, n]` input):
    `x ↦ x ∘ σ` is an n-D part with `ld = 0` (`|det| = |sign σ| = 1`) -/
noncomputable def permDiffeo {n : ℕ} (σ : Equiv.Perm (Fin n)) : DiffeoN n where
  T := fun x k => x (σ k)
  T' := fun _ => matCLM (σ.permMatrix ℝ)
  ld := fun _ => 0
  bij := by
    rw [Function.bijective_iff_has_inverse]
    refine ⟨fun y k => y (σ.symm k), ?_, ?_⟩
    · intro x; funext k; simp
    · intro y; funext k; simp
  deriv := by
    intro x
    have h := (matCLM (σ.permMatrix ℝ)).hasFDerivAt (x := x)
    refine h.congr_of_eventuallyEq (Filter.Eventually.of_forall fun v => ?_)
    rw [matCLM_apply, Matrix.permMatrix_mulVec]
    rfl
  ld_eq := by
    intro x
    rw [matCLM_det, Matrix.det_permutation, Real.exp_zero]
    rcases Int.units_eq_one_or (Equiv.Perm.sign σ) with h | h <;> simp [h]

@[simp] theorem permDiffeo_T {n : ℕ} (σ : Equiv.Perm (Fin n)) (x : Fin n → ℝ) (k : Fin n) :
    (permDiffeo σ).T x k = x (σ k) := rfl
@[simp] theorem permDiffeo_ld {n : ℕ} (σ : Equiv.Perm (Fin n)) (x : Fin n → ℝ) : (permDiffeo σ).ld x = 0 := rfl

/-! ## 3. Headline: every program of such parts over a normalised base is a normalised density -/

theorem flow_logprob_normalised_progN {n : ℕ} (parts : List (DiffeoN n)) (logp : (Fin n → ℝ) → ℝ)
    (hp : ∫ z, Real.exp (logp z) = 1) :
    ∫ x, Real.exp (logp ((progN parts).T x) + (progN parts).ld x) = 1 := by
  simp_rw [Real.exp_add]
  exact flow_normalised_progN parts (fun z => Real.exp (logp z)) hp


/-! ## 4. The EXECUTED `PiecewiseRationalQuadraticCDF(tails='linear')` is such an element-wise part -/

section cdf
open NF.StructureExec

def batchRow (x : Array ℝ) (n b : ℕ) : Fin n → ℝ := fun i => x.getD (b * n + i) 0

/-- the parameter vector `params[i, :]` that `cdfEl` hands to the dispatcher -/
def cdfSlice (c : ElCfg) (params : Array ℝ) (i : ℕ) : List ℝ :=
  (List.range c.mult).map (fun k => params.getD (i * c.mult + k) 0)

theorem cdfSlice_length {e : Float → ℝ} {c : ElCfg} (hc : RQTailsCfgValid e c) (params : Array ℝ) (i : ℕ) :
    (cdfSlice c params i).length = 3 * c.K - 1 := by
  simp [cdfSlice, mult_rq_tails hc.hk hc.ht]

theorem cdfSlice_valid {e : Float → ℝ} {c : ElCfg} (hc : RQTailsCfgValid e c) (params : Array ℝ) (i : ℕ) :
    RQTailsSliceValid e c (cdfSlice c params i) :=
  rqTailsSliceValid_of_cfg hc _ (cdfSlice_length hc params i)

theorem cdfEl_eq (e : Float → ℝ) (c : ElCfg) (n : ℕ) (x params : Array ℝ) (inverse : Bool) (b : ℕ) (i : Fin n) :
    cdfEl (NF.realX e) c n x params inverse b i
      = elTransform (NF.realX e) c inverse (cdfSlice c params i) (batchRow x n b i) := by
  simp [cdfEl, cdfSlice, batchRow]

variable (e : Float → ℝ) (c : ElCfg) (hc : RQTailsCfgValid e c) (hp : TailsWhole.PadExact e (tMD c) (tBe c))

noncomputable def rqCdfEl (params : Array ℝ) (i : ℕ) : Diffeo1 :=
  rqTailsDiffeo e (tTb c) (tMW c) (tMH c) (tMD c) (tBe c)
    (rqW (NF.realX e) c (cdfSlice c params i)) (rqH (NF.realX e) c (cdfSlice c params i)) (rqD c (cdfSlice c params i))
    (rqTailsSliceValid_of_cfg hc _ (cdfSlice_length hc params i)) hp

noncomputable def rqCdfDiffeo (n : ℕ) (params : Array ℝ) : DiffeoN n :=
  piDiffeo fun i : Fin n => rqCdfEl e c hc hp params i

theorem rqCdfDiffeo_T (n : ℕ) (params : Array ℝ) (v : Fin n → ℝ) (i : Fin n) :
    (rqCdfDiffeo e c hc hp n params).T v i = (rqCdfEl e c hc hp params i).f (v i) := rfl

theorem rqCdfDiffeo_ld (n : ℕ) (params : Array ℝ) (v : Fin n → ℝ) :
    (rqCdfDiffeo e c hc hp n params).ld v = ∑ i : Fin n, (rqCdfEl e c hc hp params i).ld (v i) := rfl

/-- **row `b` of the executed `cdfApply` (forward) IS the product-map part**: the outputs of row `b` are
    `(rqCdfDiffeo …).T` of row `b` of the input, entry `b` of the returned log-abs-det is its `ld`, and nothing raises —
    every `B`, `n`, number of bins, parameter array and real input array -/
theorem cdfApply_rq_tails_row (B n : ℕ) (x params : Array ℝ) {b : ℕ} (hb : b < B) :
    (∀ i : Fin n, (cdfApply (NF.realX e) c B n x params false).out[b * n + i]?
        = some ((rqCdfDiffeo e c hc hp n params).T (batchRow x n b) i))
    ∧ (cdfApply (NF.realX e) c B n x params false).ld[b]? = some ((rqCdfDiffeo e c hc hp n params).ld (batchRow x n b)) := by
  have hel : ∀ i : Fin n, cdfEl (NF.realX e) c n x params false b i
      = .ok ((rqCdfEl e c hc hp params i).f (batchRow x n b i), (rqCdfEl e c hc hp params i).ld (batchRow x n b i), []) := by
    intro i
    rw [cdfEl_eq]
    exact (rqTails_el_total e c hc.hk hc.ht _ (cdfSlice_valid hc params i) _).1
  constructor
  · intro i
    rw [cdfApply, elemwise_out_getElem? _ B n _ hb i.2, hel i]
    rfl
  · rw [cdf_ld_real e c B n x params false hb]
    congr 1
    apply Finset.sum_congr rfl
    intro i _
    rw [hel i]
    rfl

/-- **C02 for the executed RQ-CDF layer with linear tails**: the executed inverse pass on the forward output returns row
    `b` of the input exactly and the negated log-abs-det — every `B`, `n`, parameter array, real input -/
theorem cdfApply_rq_tails_roundtrip_row (B n : ℕ) (x params : Array ℝ) {b : ℕ} (hb : b < B) :
    (∀ i : Fin n, (cdfApply (NF.realX e) c B n (cdfApply (NF.realX e) c B n x params false).out params true).out[b * n + i]?
        = some (batchRow x n b i))
    ∧ (cdfApply (NF.realX e) c B n (cdfApply (NF.realX e) c B n x params false).out params true).ld[b]?
        = some (-(rqCdfDiffeo e c hc hp n params).ld (batchRow x n b)) := by
  obtain ⟨hout, hld⟩ := (rq_tails_undoes e c hc.hk hc.ht false).cdf_roundtrip_row e B n x params
    (fun i _ => by rw [realX_zero]; exact cdfSlice_valid hc params i) hb
    (fun i hi => by
      rw [cdfEl_eq e c n x params false b ⟨i, hi⟩]
      exact ⟨_, (rqTails_el_total e c hc.hk hc.ht _ (cdfSlice_valid hc params i) _).1⟩)
  refine ⟨fun i => (hout i i.2).2, hld.trans ?_⟩
  rw [(cdfApply_rq_tails_row e c hc hp B n x params hb).2]
  rfl

include hc in
theorem cdfApply_rq_tails_err_none (B n : ℕ) (x params : Array ℝ) (inverse : Bool) :
    (cdfApply (NF.realX e) c B n x params inverse).err = none :=
  ((rq_tails_accepts e c hc.hk hc.ht).cdf_err_none_iff B n x params inverse fun i _ => by
    rw [realX_zero]; exact cdfSlice_valid hc params i).2 fun _ _ _ _ => trivial

end cdf


/-! ## 5. The EXECUTED linear family (`LULinear`, `QRLinear`, `SVDLinear`) and `Permutation` are affine parts -/

section linear
open NF.LF LinearBridge Matrix

theorem luW_det_ne_zero (p : LUParams ℝ) (hlen : p.udiag.length = p.n) (heps : 0 ≤ p.eps) : (luW p).det ≠ 0 :=
  LinearBridge.luW_det_ne_zero p hlen heps

/-- `LULinear` (lu.py) with the parameters `p` (unconstrained diagonal of length `n`, `eps ≥ 0`) as an n-D part:
    `x ↦ (L U) x + b`, `ld = log |det (L U)|` -/
noncomputable def luDiffeo (p : LUParams ℝ) (hlen : p.udiag.length = p.n) (heps : 0 ≤ p.eps) : DiffeoN p.n :=
  affineDiffeo (luW p) (vecFn p.n p.bias) (luW_det_ne_zero p hlen heps)

theorem luDiffeo_executed (p : LUParams ℝ) (hlen : p.udiag.length = p.n) (heps : 0 ≤ p.eps) (hb : p.bias.length = p.n)
    (x : Fin p.n → ℝ) :
    luForward realOps p [List.ofFn x] = [List.ofFn ((luDiffeo p hlen heps).T x)]
      ∧ luLogabsdet realOps p = (luDiffeo p hlen heps).ld x :=
  ⟨(lu_denotes p hlen heps hb).forward_single (LinearJacobian.luForward_rowwise _ p) x, luLogabsdet_executed p hlen heps⟩

/-- `logabsdet()` is the sum of the logs of the (positive) diagonal of `U`, as lu.py:123-131 computes it -/
theorem luDiffeo_ld_sum (p : LUParams ℝ) (hlen : p.udiag.length = p.n) (heps : 0 ≤ p.eps) (x : Fin p.n → ℝ) :
    (luDiffeo p hlen heps).ld x = sumLog realOps (posDiag realOps p.eps p.udiag) :=
  (luLogabsdet_executed p hlen heps).symm

theorem qrW_det_ne_zero (p : QRParams ℝ) (vs : List (Fin p.n → ℝ)) (hq : p.qs = vs.map List.ofFn)
    (hv : ∀ v ∈ vs, v ⬝ᵥ v ≠ 0) (hl : p.logDiag.length = p.n) : (qrW p vs).det ≠ 0 :=
  LinearBridge.qrW_det_ne_zero p vs hv

/-- `QRLinear` (qr.py) as an n-D part -/
noncomputable def qrDiffeo (p : QRParams ℝ) (vs : List (Fin p.n → ℝ)) (hq : p.qs = vs.map List.ofFn)
    (hv : ∀ v ∈ vs, v ⬝ᵥ v ≠ 0) (hl : p.logDiag.length = p.n) : DiffeoN p.n :=
  affineDiffeo (qrW p vs) (vecFn p.n p.bias) (qrW_det_ne_zero p vs hq hv hl)

theorem qrDiffeo_executed (p : QRParams ℝ) (vs : List (Fin p.n → ℝ)) (hq : p.qs = vs.map List.ofFn)
    (hv : ∀ v ∈ vs, v ⬝ᵥ v ≠ 0) (hl : p.logDiag.length = p.n) (hb : p.bias.length = p.n) (x : Fin p.n → ℝ) :
    qrForward realOps p [List.ofFn x] = [List.ofFn ((qrDiffeo p vs hq hv hl).T x)]
      ∧ qrLogabsdet realOps p = (qrDiffeo p vs hq hv hl).ld x :=
  ⟨(qr_denotes p vs hq hv hl hb).forward_single (LinearJacobian.qrForward_rowwise _ p) x, qrLogabsdet_executed p vs hv hl⟩

theorem svdW_det_ne_zero (p : SVDParams ℝ) (vs1 vs2 : List (Fin p.n → ℝ)) (h1 : p.qs1 = vs1.map List.ofFn)
    (h2 : p.qs2 = vs2.map List.ofFn) (hv1 : ∀ v ∈ vs1, v ⬝ᵥ v ≠ 0) (hv2 : ∀ v ∈ vs2, v ⬝ᵥ v ≠ 0)
    (hl : p.udiag.length = p.n) (heps : 0 ≤ p.eps) : (svdW p vs1 vs2).det ≠ 0 :=
  LinearBridge.svdW_det_ne_zero p vs1 vs2 hv1 hv2 hl heps

/-- `SVDLinear` (svd.py) as an n-D part -/
noncomputable def svdDiffeo (p : SVDParams ℝ) (vs1 vs2 : List (Fin p.n → ℝ)) (h1 : p.qs1 = vs1.map List.ofFn)
    (h2 : p.qs2 = vs2.map List.ofFn) (hv1 : ∀ v ∈ vs1, v ⬝ᵥ v ≠ 0) (hv2 : ∀ v ∈ vs2, v ⬝ᵥ v ≠ 0)
    (hl : p.udiag.length = p.n) (heps : 0 ≤ p.eps) : DiffeoN p.n :=
  affineDiffeo (svdW p vs1 vs2) (vecFn p.n p.bias) (svdW_det_ne_zero p vs1 vs2 h1 h2 hv1 hv2 hl heps)

theorem svdDiffeo_executed (p : SVDParams ℝ) (vs1 vs2 : List (Fin p.n → ℝ)) (h1 : p.qs1 = vs1.map List.ofFn)
    (h2 : p.qs2 = vs2.map List.ofFn) (hv1 : ∀ v ∈ vs1, v ⬝ᵥ v ≠ 0) (hv2 : ∀ v ∈ vs2, v ⬝ᵥ v ≠ 0)
    (hl : p.udiag.length = p.n) (heps : 0 ≤ p.eps) (hb : p.bias.length = p.n) (x : Fin p.n → ℝ) :
    svdForward realOps p [List.ofFn x] = [List.ofFn ((svdDiffeo p vs1 vs2 h1 h2 hv1 hv2 hl heps).T x)]
      ∧ svdLogabsdet realOps p = (svdDiffeo p vs1 vs2 h1 h2 hv1 hv2 hl heps).ld x :=
  ⟨(svd_denotes p vs1 vs2 h1 h2 hv1 hv2 hl heps hb).forward_single (LinearJacobian.svdForward_rowwise _ p) x,
    svdLogabsdet_executed p vs1 vs2 hv1 hv2 hl heps⟩

end linear

/-- the index list of a permutation of `Fin n`, as `Permutation.__init__` receives it -/
def permList {n : ℕ} (σ : Equiv.Perm (Fin n)) : List ℕ := List.ofFn fun k => (σ k : ℕ)

/-- **the executed `Permutation(perm, dim=1)` on a `[B, n]` input IS `permDiffeo`**: it does not raise, and row `b` of
    the output is `(permDiffeo σ).T` of row `b` of the input (the returned log-abs-det is the constant zero,
    permutations.py:37-39) -/
theorem permuteDim_row {n : ℕ} (σ : Equiv.Perm (Fin n)) (B : ℕ) (x : Array ℝ) :
    ∃ y, NF.permuteDim [B, n] 1 (permList σ) x 0 = .ok y ∧ y.size = B * n ∧
      ∀ b, b < B → ∀ k : Fin n, y[b * n + k]? = some ((permDiffeo σ).T (batchRow x n b) k) := by
  refine ⟨_, permuteDim_2d B n (permList σ) (by simp [permList]) x 0, by simp, ?_⟩
  intro b hb k
  rw [perm_entry 0 n (permList σ) x hb k.2]
  simp [permList, batchRow]


/-! ## 6. Headline over the EXECUTED bases -/

/-- **`Flow(CompositeTransform(parts), StandardNormal([D])).log_prob` is a normalised density**, for every list of
    n-D parts (any depth, any order — `luDiffeo`, `qrDiffeo`, `svdDiffeo`, `rqCdfDiffeo`, `permDiffeo`, …), every dimension
    `D`: the base is the EXECUTED `stdNormalRow` program, assembled as flows/base.py:42-49 does -/
theorem executed_flow_normalised (e : Float → ℝ) {D : ℕ} (parts : List (DiffeoN D)) :
    ∫ x : Fin D → ℝ, Real.exp (NF.Density.stdNormalRow (NF.realX e) D (List.ofFn ((progN parts).T x))
        + (progN parts).ld x) = 1 :=
  flow_logprob_normalised_progN parts (fun z => NF.Density.stdNormalRow (NF.realX e) D (List.ofFn z))
    (Properties.C05.stdNormal_normalised e D)

theorem executed_flow_normalised_diag (e : Float → ℝ) {D : ℕ} (μ ls : Fin D → ℝ) (parts : List (DiffeoN D)) :
    ∫ x : Fin D → ℝ, Real.exp (NF.Density.diagNormalRow (NF.realX e) D (List.ofFn μ) (List.ofFn ls)
        (List.ofFn ((progN parts).T x)) + (progN parts).ld x) = 1 :=
  flow_logprob_normalised_progN parts
    (fun z => NF.Density.diagNormalRow (NF.realX e) D (List.ofFn μ) (List.ofFn ls) (List.ofFn z))
    (Properties.C05.diagNormal_normalised e μ ls)

/-- the same over the executed `ConditionalDiagonalNormal` base, per context row: whatever `(means, log_stds)` of the
    event size the context encoder produced -/
theorem executed_flow_normalised_cond (e : Float → ℝ) {D : ℕ} (means logStds : List ℝ) (hm : means.length = D)
    (hl : logStds.length = D) (parts : List (DiffeoN D)) :
    ∫ x : Fin D → ℝ, Real.exp (NF.Density.diagNormalRow (NF.realX e) D means logStds
        (List.ofFn ((progN parts).T x)) + (progN parts).ld x) = 1 :=
  flow_logprob_normalised_progN parts
    (fun z => NF.Density.diagNormalRow (NF.realX e) D means logStds (List.ofFn z))
    (Properties.C05.condNormal_row_normalised e means logStds hm hl)

/-- a mixed pipeline: `[LU-linear, RQ-CDF with tails, permutation, RQ-CDF with tails]` over `StandardNormal` -/
example (e : Float → ℝ) (c : ElCfg) (hc : NF.StructureExec.RQTailsCfgValid e c)
    (hp : TailsWhole.PadExact e (NF.StructureExec.tMD c) (NF.StructureExec.tBe c))
    (p : NF.LF.LUParams ℝ) (hlen : p.udiag.length = p.n) (heps : 0 ≤ p.eps)
    (params params' : Array ℝ) (σ : Equiv.Perm (Fin p.n)) :
    let parts := [luDiffeo p hlen heps, rqCdfDiffeo e c hc hp p.n params, permDiffeo σ, rqCdfDiffeo e c hc hp p.n params']
    ∫ x : Fin p.n → ℝ, Real.exp (NF.Density.stdNormalRow (NF.realX e) p.n (List.ofFn ((progN parts).T x))
        + (progN parts).ld x) = 1 :=
  executed_flow_normalised e _


/-! ## 7. The executed masked-autoregressive RQ layer with linear tails, UNDER the explicit hypothesis that its row map
is differentiable (the conditioner is a neural network: ReLU kinks are where the hypothesis can fail, DESIGN §8.4) -/

section ar
open NF.ARWhole NF.StructureExec

/-- the determinant form of `ARWhole.ar_row_logdet`: the Jacobian of the row map has `|det| = exp (ld[b])` — in particular it is
    non-zero -/
theorem ar_row_abs_det (e : Float → ℝ) (c : ElCfg) (B F : Nat) (net : Array ℝ → Array ℝ) (x : Array ℝ)
    (hnet : AutoregNet B F (pw c) net) (hx : x.size = B * F) {b : Nat} (hb : b < B)
    {L : (Fin F → ℝ) →L[ℝ] (Fin F → ℝ)}
    (hL : HasFDerivAt (rowMap e c B F net x b) L (fun i => x.getD (b * F + i.1) 0))
    (hdiag : ∀ i : Fin F, HasDerivAt (elMap e c F (net x) b i)
      (Real.exp (ldOf (NF.realX e) (arEl (NF.realX e) c F x (net x) false b i))) (x.getD (b * F + i.1) 0)) :
    ∃ l, (arForward (NF.realX e) c B F net x).ld[b]? = some l ∧ |L.det| = Real.exp l := by
  refine ⟨_, ar_forward_ld_real e c B F net x hb, ?_⟩
  rw [ContinuousLinearMap.det, ar_row_det e c B F net x hnet hx hb hL hdiag, RankedDet.abs_prod_exp]

theorem ofFn_getD {F : ℕ} (a : Array ℝ) (h : a.size = F) : Array.ofFn (fun i : Fin F => a.getD i 0) = a := by
  apply Array.ext
  · simp [h]
  · intro i h1 h2
    simp [Array.getD_eq_getD_getElem?, Array.getElem?_eq_getElem h2]

theorem ofFn_inj {F : ℕ} {v w : Fin F → ℝ} (h : Array.ofFn v = Array.ofFn w) : v = w := by
  funext i
  have := congrArg (fun a : Array ℝ => a.getD i 0) h
  simpa using this

theorem setRow_one (F : ℕ) (x : Array ℝ) (w : Fin F → ℝ) : setRow 1 F x 0 w = Array.ofFn w := by
  apply Array.ext
  · simp [setRow]
  · intro i h1 h2
    have hi : i < F := by simpa using h2
    simp [setRow, Nat.mod_eq_of_lt hi, hi]

variable (e : Float → ℝ) (c : ElCfg) (F : ℕ) (net : Array ℝ → Array ℝ)

noncomputable def arRowT (v : Fin F → ℝ) : Fin F → ℝ :=
  fun i => (arForward (NF.realX e) c 1 F net (Array.ofFn v)).out.getD i 0

noncomputable def arRowLd (v : Fin F → ℝ) : ℝ := (arForward (NF.realX e) c 1 F net (Array.ofFn v)).ld.getD 0 0

theorem rowMap_one (x : Array ℝ) : rowMap e c 1 F net x 0 = arRowT e c F net := by
  funext w i
  simp [rowMap, arRowT, setRow_one]

theorem arForward_out_ofFn (v : Fin F → ℝ) :
    (arForward (NF.realX e) c 1 F net (Array.ofFn v)).out = Array.ofFn (arRowT e c F net v) := by
  unfold arRowT
  rw [ofFn_getD]
  rw [arForward, arApply_out_size, Nat.one_mul]

/-- the hypotheses: an accepted configuration, the padding constant read exactly, a strictly autoregressive conditioner
    (C06; `madeNet` of every `build`-accepted architecture is one), and — explicitly — differentiability of the row map -/
structure ARRowHyp : Prop where
  hc : RQTailsCfgValid e c
  hp : TailsWhole.PadExact e (tMD c) (tBe c)
  hnet : AutoregNet 1 F (3 * c.K - 1) net
  hdiff : Differentiable ℝ (arRowT e c F net)

variable {e c F net}

theorem arRow_bijective_of
    (h1 : ∀ v : Fin F → ℝ,
      (arInverse (NF.realX e) c 1 F net (arForward (NF.realX e) c 1 F net (Array.ofFn v)).out).out = Array.ofFn v)
    (h2 : ∀ y : Fin F → ℝ,
      (arForward (NF.realX e) c 1 F net (arInverse (NF.realX e) c 1 F net (Array.ofFn y)).out).out = Array.ofFn y) :
    Function.Bijective (arRowT e c F net) := by
  constructor
  · intro v w hvw
    have e1 := h1 v
    have e2 := h1 w
    rw [arForward_out_ofFn, hvw] at e1
    rw [arForward_out_ofFn] at e2
    exact ofFn_inj (e1.symm.trans e2)
  · intro y
    have hinv : (arInverse (NF.realX e) c 1 F net (Array.ofFn y)).out.size = F := by
      rw [arInverse_eq_iter, arIter_out_size _ c 1 F net _ (by simp), Nat.one_mul]
    refine ⟨fun i => (arInverse (NF.realX e) c 1 F net (Array.ofFn y)).out.getD i 0, ?_⟩
    have e1 := h2 y
    rw [← ofFn_getD _ hinv, arForward_out_ofFn] at e1
    exact ofFn_inj e1

/-- `|det D(arRowT)| = exp (returned log-det)` wherever the row map is differentiable and the elements obey the law -/
theorem arRow_abs_det_of (hnet : AutoregNet 1 F (pw c) net) (v : Fin F → ℝ)
    (hdiff : DifferentiableAt ℝ (arRowT e c F net) v)
    (hdiag : ∀ i : Fin F, HasDerivAt (elMap e c F (net (Array.ofFn v)) 0 i)
      (Real.exp (ldOf (NF.realX e) (arEl (NF.realX e) c F (Array.ofFn v) (net (Array.ofFn v)) false 0 i)))
      ((Array.ofFn v).getD (0 * F + i.1) 0)) :
    |(fderiv ℝ (arRowT e c F net) v).det| = Real.exp (arRowLd e c F net v) := by
  have hpt : (fun i : Fin F => (Array.ofFn v).getD (0 * F + i.1) 0) = v := by
    funext i; simp
  have hL : HasFDerivAt (rowMap e c 1 F net (Array.ofFn v) 0) (fderiv ℝ (arRowT e c F net) v)
      (fun i : Fin F => (Array.ofFn v).getD (0 * F + i.1) 0) := by
    rw [rowMap_one, hpt]
    exact hdiff.hasFDerivAt
  obtain ⟨l, hl, hdet⟩ := ar_row_abs_det e c 1 F net (Array.ofFn v) hnet (by simp) (b := 0) (by omega) hL hdiag
  rw [hdet, arRowLd, List.getD_eq_getElem?_getD, hl]
  rfl

theorem arRow_bijective (h : ARRowHyp e c F net) : Function.Bijective (arRowT e c F net) :=
  arRow_bijective_of
    (fun v => (ar_rq_tails_roundtrip_real e c h.hc 1 F net h.hnet (Array.ofFn v) (by simp)).1.2.2.1)
    (fun y => (ar_rq_tails_roundtrip_real e c h.hc 1 F net h.hnet (Array.ofFn y) (by simp)).2.2.2.1)

theorem arRow_abs_det (h : ARRowHyp e c F net) (v : Fin F → ℝ) :
    |(fderiv ℝ (arRowT e c F net) v).det| = Real.exp (arRowLd e c F net v) :=
  arRow_abs_det_of (by rw [pw_rq_tails h.hc.hk h.hc.ht]; exact h.hnet) v (h.hdiff v)
    fun i => elMap_rq_tails_hasDerivAt e c h.hc h.hp F (Array.ofFn v) (net (Array.ofFn v)) 0 i

noncomputable def arRowDiffeo (h : ARRowHyp e c F net) : DiffeoN F where
  T := arRowT e c F net
  T' := fun v => fderiv ℝ (arRowT e c F net) v
  ld := arRowLd e c F net
  bij := arRow_bijective h
  deriv := fun v => (h.hdiff v).hasFDerivAt
  ld_eq := arRow_abs_det h

theorem arRowT_eq (v : Fin F → ℝ) (i : Fin F) :
    arRowT e c F net v i = elMap e c F (net (Array.ofFn v)) 0 i (v i) := by
  unfold arRowT elMap
  have h := elemwise_out_getElem? (NF.realX e) 1 F (arEl (NF.realX e) c F (Array.ofFn v) (net (Array.ofFn v)) false)
    (b := 0) (by omega) i.2
  rw [Nat.zero_mul, Nat.zero_add] at h
  rw [Array.getD_eq_getD_getElem?, arForward, arApply, h, arEl_eq]
  simp

/-- **`ARRowHyp` is satisfiable**: for a conditioner that ignores its input (any constant parameter tensor — e.g. a MADE
    whose weights are zero, biases arbitrary) the row map is differentiable, so the hypothesis holds whenever the
    configuration is accepted -/
theorem arRowHyp_const_net (hc : RQTailsCfgValid e c) (hp : TailsWhole.PadExact e (tMD c) (tBe c)) (params : Array ℝ) :
    ARRowHyp e c F (fun _ => params) := by
  refine ⟨hc, hp, fun _ _ _ _ _ _ _ _ _ _ _ => rfl, ?_⟩
  rw [differentiable_pi]
  intro i
  have hfun : (fun v : Fin F → ℝ => arRowT e c F (fun _ => params) v i)
      = (elMap e c F params 0 i) ∘ (fun v : Fin F → ℝ => v i) := by
    funext v; exact arRowT_eq v i
  rw [hfun]
  have h1 : Differentiable ℝ (elMap e c F params 0 i) := by
    intro s
    rw [elMap_rq_tails e c hc.hk hc.ht]
    exact (TailsWhole.valT_hasDerivAt_all (arSliceValid_rq_tails e c hc F params 0 i) hp s).differentiableAt
  exact h1.comp (differentiable_apply i)

section made
open NF.Made

/-- `MaskedPiecewiseRationalQuadraticAutoregressiveTransform(tails='linear')` with the MADE conditioner of any
    `build`-accepted architecture: `ARRowHyp` reduces to the configuration and differentiability of the row map -/
theorem made_arRowHyp (hc : RQTailsCfgValid e c) (hp : TailsWhole.PadExact e (tMD c) (tBe c)) (a : Arch) (n : Net)
    (hbuild : build a = .ok n) (hmult : a.mult = 3 * c.K - 1) (W : ℕ → ℕ → ℕ → ℝ) (bias : ℕ → ℕ → ℝ)
    (ctxv : ℕ → ℕ → Fin 1 → ℝ) (g : ℕ → Slot → ℕ → (Fin 1 → ℝ) → Fin 1 → ℝ)
    (hdiff : Differentiable ℝ (arRowT e c a.F (madeNet n W bias 1 ctxv g))) :
    ARRowHyp e c a.F (madeNet n W bias 1 ctxv g) :=
  ⟨hc, hp, (madeNet_autoreg_of_build hbuild hmult W bias 1 ctxv g).2, hdiff⟩

end made
end ar

/-! ## 8. End to end: a pipeline of EXECUTED layers followed by the EXECUTED base

Every layer below is RUN by the program the driver runs (`cdfApply`, `permuteDim`, `luForward` / `luLogabsdet`,
`qrForward` / `qrLogabsdet`, `svdForward` / `svdLogabsdet`, `arForward`), on a one-row batch (other rows: C12,
`cdf_row_independent`, `ar_row_independent`); the log-abs-dets are accumulated as `_cascade` does and the executed
`StandardNormal` / `DiagonalNormal` row is added, as `Flow._log_prob` does.  Each layer carries its own configuration
and parameters. -/

section pipeline
open NF.StructureExec NF.LF LinearBridge NF.ARWhole

inductive ExecLayer (e : Float → ℝ) (n : ℕ) where
  /-- `PiecewiseRationalQuadraticCDF(shape=[n], tails='linear')`, unnormalised parameters `params : [n, 3K-1]` -/
  | cdf (c : ElCfg) (hc : RQTailsCfgValid e c) (hp : TailsWhole.PadExact e (tMD c) (tBe c)) (params : Array ℝ)
  /-- `Permutation(perm, dim=1)` (`ReversePermutation`, `RandomPermutation`) -/
  | perm (σ : Equiv.Perm (Fin n))
  /-- `LULinear(n)` -/
  | lu (lower upper udiag bias : List ℝ) (eps : ℝ) (hlen : udiag.length = n) (heps : 0 ≤ eps) (hb : bias.length = n)
  /-- `QRLinear(n, num_householder)`, no q-vector zero -/
  | qr (upper logDiag bias : List ℝ) (vs : List (Fin n → ℝ)) (hv : ∀ v ∈ vs, v ⬝ᵥ v ≠ 0) (hl : logDiag.length = n)
      (hb : bias.length = n)
  /-- `SVDLinear(n, num_householder)`, no q-vector zero -/
  | svd (udiag bias : List ℝ) (eps : ℝ) (vs1 vs2 : List (Fin n → ℝ)) (hv1 : ∀ v ∈ vs1, v ⬝ᵥ v ≠ 0)
      (hv2 : ∀ v ∈ vs2, v ⬝ᵥ v ≠ 0) (hl : udiag.length = n) (heps : 0 ≤ eps) (hb : bias.length = n)
  /-- `MaskedPiecewiseRationalQuadraticAutoregressiveTransform(tails='linear')` with conditioner `net`, under the
      explicit differentiability hypothesis inside `ARRowHyp` -/
  | ar (c : ElCfg) (net : Array ℝ → Array ℝ) (h : ARRowHyp e c n net)

theorem batchRow_ofFn {n : ℕ} (v : Fin n → ℝ) : batchRow (Array.ofFn v) n 0 = v := by
  funext i
  simp [batchRow]

theorem ofFn_getD_fin {n : ℕ} (w : Fin n → ℝ) : (fun i : Fin n => (List.ofFn w).getD i 0) = w := by
  funext i
  simp [List.getD_eq_getElem?_getD]

/-- a pass run on the one-row batch `[v]` that returns the row `w` and the log-det `d`, read back as `run` reads it -/
theorem run_of_single {n : ℕ} {out : List (List ℝ)} {w : Fin n → ℝ} {c d : ℝ} (h : out = [List.ofFn w] ∧ c = d) :
    ((fun i : Fin n => (out.headD []).getD i 0), c) = (w, d) := by
  obtain ⟨rfl, rfl⟩ := h
  rw [List.headD_cons, ofFn_getD_fin]

variable {e : Float → ℝ}

noncomputable def ExecLayer.run {n : ℕ} : ExecLayer e n → (Fin n → ℝ) → (Fin n → ℝ) × ℝ
  | .cdf c _ _ params, v =>
    let r := cdfApply (NF.realX e) c 1 n (Array.ofFn v) params false
    (fun i => r.out.getD i 0, r.ld.getD 0 0)
  | .perm σ, v =>
    match NF.permuteDim [1, n] 1 (permList σ) (Array.ofFn v) 0 with
    | .ok y => (fun i => y.getD i 0, 0)
    | .error _ => (v, 0)  -- never taken: `permList σ` has length `n` (`permuteDim_row`)
  | .lu lower upper udiag bias eps _ _ _, v =>
    let p : LUParams ℝ := { n := n, lower := lower, upper := upper, udiag := udiag, bias := bias, eps := eps }
    (fun i => ((luForward realOps p [List.ofFn v]).headD []).getD i 0, luLogabsdet realOps p)
  | .qr upper logDiag bias vs _ _ _, v =>
    let p : QRParams ℝ := { n := n, upper := upper, logDiag := logDiag, qs := vs.map List.ofFn, bias := bias }
    (fun i => ((qrForward realOps p [List.ofFn v]).headD []).getD i 0, qrLogabsdet realOps p)
  | .svd udiag bias eps vs1 vs2 _ _ _ _ _, v =>
    let p : SVDParams ℝ :=
      { n := n, udiag := udiag, qs1 := vs1.map List.ofFn, qs2 := vs2.map List.ofFn, bias := bias, eps := eps }
    (fun i => ((svdForward realOps p [List.ofFn v]).headD []).getD i 0, svdLogabsdet realOps p)
  | .ar c net _, v =>
    let r := arForward (NF.realX e) c 1 n net (Array.ofFn v)
    (fun i => r.out.getD i 0, r.ld.getD 0 0)

noncomputable def ExecLayer.part {n : ℕ} : ExecLayer e n → DiffeoN n
  | .cdf c hc hp params => rqCdfDiffeo e c hc hp n params
  | .perm σ => permDiffeo σ
  | .lu lower upper udiag bias eps hlen heps _ =>
    luDiffeo { n := n, lower := lower, upper := upper, udiag := udiag, bias := bias, eps := eps } hlen heps
  | .qr upper logDiag bias vs hv hl _ =>
    qrDiffeo { n := n, upper := upper, logDiag := logDiag, qs := vs.map List.ofFn, bias := bias } vs rfl hv hl
  | .svd udiag bias eps vs1 vs2 hv1 hv2 hl heps _ =>
    svdDiffeo { n := n, udiag := udiag, qs1 := vs1.map List.ofFn, qs2 := vs2.map List.ofFn, bias := bias, eps := eps }
      vs1 vs2 rfl rfl hv1 hv2 hl heps
  | .ar _ _ h => arRowDiffeo h

theorem ExecLayer.run_eq {n : ℕ} (L : ExecLayer e n) (v : Fin n → ℝ) : L.run v = (L.part.T v, L.part.ld v) := by
  cases L with
  | cdf c hc hp params =>
    obtain ⟨h1, h2⟩ := cdfApply_rq_tails_row e c hc hp 1 n (Array.ofFn v) params (b := 0) (by omega)
    rw [batchRow_ofFn] at h1 h2
    simp only [ExecLayer.run, ExecLayer.part]
    congr 1
    · funext i
      have := h1 i
      rw [Nat.zero_mul, Nat.zero_add] at this
      rw [Array.getD_eq_getD_getElem?, this]; rfl
    · rw [List.getD_eq_getElem?_getD, h2]; rfl
  | perm σ =>
    obtain ⟨y, hy, _, h1⟩ := permuteDim_row σ 1 (Array.ofFn v)
    simp only [ExecLayer.run, ExecLayer.part, hy]
    congr 1
    funext i
    have := h1 0 (by omega) i
    rw [Nat.zero_mul, Nat.zero_add, batchRow_ofFn] at this
    rw [Array.getD_eq_getD_getElem?, this]; rfl
  | lu lower upper udiag bias eps hlen heps hb =>
    exact run_of_single (luDiffeo_executed
      { n := n, lower := lower, upper := upper, udiag := udiag, bias := bias, eps := eps } hlen heps hb v)
  | qr upper logDiag bias vs hv hl hb =>
    exact run_of_single (qrDiffeo_executed
      { n := n, upper := upper, logDiag := logDiag, qs := vs.map List.ofFn, bias := bias } vs rfl hv hl hb v)
  | svd udiag bias eps vs1 vs2 hv1 hv2 hl heps hb =>
    exact run_of_single (svdDiffeo_executed
      { n := n, udiag := udiag, qs1 := vs1.map List.ofFn, qs2 := vs2.map List.ofFn, bias := bias, eps := eps }
      vs1 vs2 rfl rfl hv1 hv2 hl heps hb v)
  | ar c net h => rfl

/-- RUN a list of layers in the order given, accumulating the log-abs-dets (`CompositeTransform._cascade`) -/
noncomputable def runAll {n : ℕ} : List (ExecLayer e n) → (Fin n → ℝ) → (Fin n → ℝ) × ℝ
  | [], v => (v, 0)
  | L :: rest, v => ((runAll rest (L.run v).1).1, (L.run v).2 + (runAll rest (L.run v).1).2)

theorem runAll_eq {n : ℕ} (Ls : List (ExecLayer e n)) (v : Fin n → ℝ) :
    runAll Ls v = ((progN (Ls.map ExecLayer.part)).T v, (progN (Ls.map ExecLayer.part)).ld v) := by
  induction Ls generalizing v with
  | nil => rfl
  | cons L rest ih =>
    simp only [runAll, List.map_cons, ExecLayer.run_eq L v, ih]
    rfl

/-- **End to end, n dimensions**: `Flow(CompositeTransform(layers), StandardNormal([n])).log_prob`, every layer RUN by its
    executed program and the base by the executed `stdNormalRow`, is a normalised probability density — for every list
    of RQ-CDF (linear tails) / permutation / LU / QR / SVD-linear layers (and masked-autoregressive RQ layers whose row
    map is differentiable), any depth, any `n`, any parameters. -/
theorem executed_pipeline_normalised {n : ℕ} (Ls : List (ExecLayer e n)) :
    ∫ x : Fin n → ℝ, Real.exp (NF.Density.stdNormalRow (NF.realX e) n (List.ofFn (runAll Ls x).1) + (runAll Ls x).2) = 1 := by
  simp_rw [runAll_eq Ls]
  exact executed_flow_normalised e _

end pipeline

/-! ## 9. Non-vacuity -/

section witness
open NF.StructureExec

/-- the product of two different affine 1-D parts -/
example : ∃ d : Fin 2 → Diffeo1, (piDiffeo d).T ![1, 1] = ![3, 1] ∧ (piDiffeo d).ld ![1, 1] = Real.log 2 := by
  refine ⟨![Diffeo1.affine 2 1 two_pos, Diffeo1.id], ?_, ?_⟩
  · funext i
    fin_cases i
    · simp [Diffeo1.affine]; norm_num
    · simp [Diffeo1.id]
  · simp [Fin.sum_univ_two, Diffeo1.affine, Diffeo1.id]

/-- an affine part with a non-trivial matrix -/
example : ∃ d : DiffeoN 2, d.T ![1, 1] = ![4, 1] ∧ d.ld ![1, 1] = Real.log 2 := by
  have hW : (!![2, 1; 0, 1] : Matrix (Fin 2) (Fin 2) ℝ).det ≠ 0 := by simp [Matrix.det_fin_two]
  refine ⟨affineDiffeo !![2, 1; 0, 1] ![1, 0] hW, ?_, ?_⟩
  · funext i
    fin_cases i
    · simp; norm_num
    · simp
  · simp [Matrix.det_fin_two]

/-- a pipeline without spline layers: any interpretation `e` of the constants -/
example (e : Float → ℝ) :
    ∫ x : Fin 2 → ℝ, Real.exp (NF.Density.stdNormalRow (NF.realX e) 2 (List.ofFn
        (runAll (e := e) [.lu [3] [5] [0, 1] [1, -1] (1 / 1000) rfl (by norm_num) rfl, .perm (Equiv.swap 0 1)] x).1)
      + (runAll (e := e) [.lu [3] [5] [0, 1] [1, -1] (1 / 1000) rfl (by norm_num) rfl, .perm (Equiv.swap 0 1)] x).2) = 1 :=
  executed_pipeline_normalised _

/-- `[LU-linear, RQ-CDF with tails, permutation, RQ-CDF with tails]` at the concrete configuration `cT1` (one bin, tail
    bound 1) and the interpretation `TailsWhole.eP`: the hypotheses `RQTailsCfgValid`, `PadExact` are jointly satisfiable
    (`Float.log` / `Float.exp` are opaque to the kernel, so — exactly as `NF.ARWhole.pad_cfg_example` — conditional on the
    seven `Float` comparisons an evaluator confirms) -/
example (hk : (TailsWhole.kP == TailsWhole.kP) = true) (h0 : ((0.0:Float) == TailsWhole.kP) = false)
    (h1 : ((1.0:Float) == TailsWhole.kP) = false) (hm1 : ((-(1.0:Float)) == TailsWhole.kP) = false)
    (h2 : (((1.0:Float) - (-(1.0:Float))) == TailsWhole.kP) = false) (h6 : ((1e-6:Float) == TailsWhole.kP) = false)
    (hcc : (((1:Float) - 0.0 * (1:Nat).toFloat) == TailsWhole.kP) = false) (params params' : Array ℝ) :
    ∃ Ls : List (ExecLayer TailsWhole.eP 2), Ls.length = 4 ∧
      ∫ x : Fin 2 → ℝ, Real.exp (NF.Density.stdNormalRow (NF.realX TailsWhole.eP) 2 (List.ofFn (runAll Ls x).1)
        + (runAll Ls x).2) = 1 := by
  obtain ⟨hc, hp⟩ := NF.ARWhole.pad_cfg_example hk h0 h1 hm1 h2 h6 hcc
  exact ⟨[.lu [3] [5] [0, 1] [1, -1] (1 / 1000) rfl (by norm_num) rfl, .cdf cT1 hc hp params,
    .perm (Equiv.swap 0 1), .cdf cT1 hc hp params'], rfl, executed_pipeline_normalised _⟩

end witness

end FlowWholeND
