import NflowsModel.Lemmas.TailsWhole
import NflowsModel.Lemmas.ARWholeMadeRow
/-!
# Lemmas/StructureExecRQTails — the rational-quadratic spline WITH LINEAR TAILS inside the executed layers (C02, C17, C01)

`PiecewiseRationalQuadraticCouplingTransform(tails='linear')` and
`MaskedPiecewiseRationalQuadraticAutoregressiveTransform(tails='linear')` are the flagship layers of the library.  The
element (`rqSplineTails`, `Lemmas/TailsWhole.lean`), the executed coupling layer (`Lemmas/StructureExec.lean`) and the
executed autoregressive transform with the MADE conditioner (`Lemmas/ARWhole.lean`) each have whole-program theorems;
this file joins them: the RQ family with tails is an element family of the layers over `NF.realX e` (`rq_tails_accepts`,
`rq_tails_undoes`), and the layer theorems become unconditional in the network, the parameters and the inputs (the tails
accept every real).
-/
open NF DualSound

namespace NF.StructureExec
variable {α : Type}

/-! ## 1. One element -/

/-- the five constants `elTransform` reads for the RQ family with tails: tail bound, `min_bin_width`, `min_bin_height`,
    `min_derivative`, softplus `beta` -/
abbrev tTb (c : ElCfg) : Float := c.ds.getD 0 0.0
abbrev tMW (c : ElCfg) : Float := c.ds.getD 1 0.0
abbrev tMH (c : ElCfg) : Float := c.ds.getD 2 0.0
abbrev tMD (c : ElCfg) : Float := c.ds.getD 3 0.0
abbrev tBe (c : ElCfg) : Float := c.ds.getD 4 0.0

/-- the parameter vector `p` is sliced (and scaled by `1/sqrt(hidden_features)`) into an accepted tails configuration:
    `K` widths, `K` heights, `K - 1` interior derivatives (the program pads them to `K + 1`) -/
def RQTailsSliceValid (e : Float → ℝ) (c : ElCfg) (p : List ℝ) : Prop :=
  TailsWhole.RQTailsValid e (tTb c) (tMW c) (tMH c) (tMD c) (tBe c)
    (rqW (NF.realX e) c p) (rqH (NF.realX e) c p) (rqD c p)

/-- the tails program is `tailsWrap` around the bounded program on the padded derivative vector (`TailsWhole.rq_wrapPair`) -/
theorem rq_tails_accepts (e : Float → ℝ) (c : ElCfg) (hk : c.kind = "rq") (ht : c.tails = true) :
    ElAccepts (NF.realX e) c (RQTailsSliceValid e c) (fun _ _ => True) :=
  ElAccepts.of_prog (TailsWhole.elTransform_rq_tails _ c hk ht) (fun _ hv => (TailsWhole.rq_wrapPair hv).accepts)

theorem rq_tails_undoes (e : Float → ℝ) (c : ElCfg) (hk : c.kind = "rq") (ht : c.tails = true) (d : Bool) :
    ElUndoes Eq d (NF.realX e) c (RQTailsSliceValid e c) :=
  ElUndoes.of_prog (TailsWhole.elTransform_rq_tails _ c hk ht)
    (fun _ hv => (TailsWhole.rq_wrapPair hv).undoes (TailsWhole.rq_ldLaw hv)) d

/-- what the dispatcher returns for an accepted slice, either direction: it never raises -/
theorem rqTails_el_total (e : Float → ℝ) (c : ElCfg) (hk : c.kind = "rq") (ht : c.tails = true) (p : List ℝ)
    (hv : RQTailsSliceValid e c p) (x : ℝ) :
    elTransform (NF.realX e) c false p x
        = .ok (TailsWhole.valT e (tTb c) (tMW c) (tMH c) (tMD c) (tBe c) (rqW (NF.realX e) c p) (rqH (NF.realX e) c p) (rqD c p) x,
               TailsWhole.ldT e (tTb c) (tMW c) (tMH c) (tMD c) (tBe c) (rqW (NF.realX e) c p) (rqH (NF.realX e) c p) (rqD c p) x, [])
    ∧ elTransform (NF.realX e) c true p x
        = .ok (TailsWhole.invT e (tTb c) (tMW c) (tMH c) (tMD c) (tBe c) (rqW (NF.realX e) c p) (rqH (NF.realX e) c p) (rqD c p) x,
               TailsWhole.invLdT e (tTb c) (tMW c) (tMH c) (tMD c) (tBe c) (rqW (NF.realX e) c p) (rqH (NF.realX e) c p) (rqD c p) x, []) := by
  constructor
  · rw [TailsWhole.elTransform_rq_tails _ c hk ht, TailsWhole.tails_total hv x]; rfl
  · rw [TailsWhole.elTransform_rq_tails _ c hk ht, TailsWhole.tails_total_inv hv x]; rfl

/-! ## 2. Validity depends on the configuration and the LENGTH of the parameter vector only -/

/-- `RQTailsValid` constrains the constants and the LENGTHS of the three parameter lists, not their values -/
theorem rqTailsValid_of_lengths {e : Float → ℝ} {tb mW mH mD be : Float} {uw uh ud uw' uh' ud' : List ℝ}
    (hv : TailsWhole.RQTailsValid e tb mW mH mD be uw uh ud) (hw : uw'.length = uw.length)
    (hh : uh'.length = uw.length) (hd : ud'.length + 1 = uw.length) :
    TailsWhole.RQTailsValid e tb mW mH mD be uw' uh' ud' where
  hK := by
    have := List.length_pos_of_ne_nil hv.hK
    exact List.ne_nil_of_length_pos (by omega)
  hlenh := by rw [hh, hw]
  hlend := by rw [hd, hw]
  hgW := by rw [hw]; exact hv.hgW
  hgH := by rw [hw]; exact hv.hgH
  hmW0 := hv.hmW0
  hcW := by rw [hw]; exact hv.hcW
  hmWK := by rw [hw]; exact hv.hmWK
  hmH0 := hv.hmH0
  hcH := by rw [hh, ← hv.hlenh]; exact hv.hcH
  hmHK := by rw [hh, ← hv.hlenh]; exact hv.hmHK
  hB := hv.hB
  hneg := hv.hneg
  hdiff := hv.hdiff
  heps := hv.heps
  hminD := hv.hminD
  hbeta := hv.hbeta

/-- **an accepted RQ-with-tails element configuration**: `K ≥ 1` bins and the constants of the spline (tail bound,
    minimal width / height / derivative, beta) are accepted for one — hence (`rqTailsValid_of_lengths`) every —
    parameter vector with `K` widths, `K` heights, `K - 1` interior derivatives.  Nothing is assumed about any
    parameter VALUE: whatever a conditioner returns is accepted. -/
structure RQTailsCfgValid (e : Float → ℝ) (c : ElCfg) : Prop where
  hk : c.kind = "rq"
  ht : c.tails = true
  hK : 0 < c.K
  hv : TailsWhole.RQTailsValid e (tTb c) (tMW c) (tMH c) (tMD c) (tBe c)
        (List.replicate c.K 0) (List.replicate c.K 0) (List.replicate (c.K - 1) 0)

theorem mult_rq_tails {c : ElCfg} (hk : c.kind = "rq") (ht : c.tails = true) : c.mult = 3 * c.K - 1 := by
  simp [ElCfg.mult, hk, ht]

theorem rqTailsSliceValid_of_cfg {e : Float → ℝ} {c : ElCfg} (hc : RQTailsCfgValid e c) (p : List ℝ)
    (hlen : p.length = 3 * c.K - 1) : RQTailsSliceValid e c p := by
  have hK := hc.hK
  obtain ⟨hw, hh⟩ := rqW_rqH_length (NF.realX e) c (p := p) (by omega)
  apply rqTailsValid_of_lengths hc.hv
  · rw [hw, List.length_replicate]
  · rw [hh, List.length_replicate]
  · rw [rqD_length, List.length_replicate, hlen]; omega

/-! ## 3. The executed coupling layer -/

theorem RQTailsCfgValid.kind_ne {e : Float → ℝ} {c : ElCfg} (hc : RQTailsCfgValid e c) :
    c.kind ≠ "affine" ∧ c.kind ≠ "additive" :=
  spline_kind_ne (.inl hc.hk)

theorem RQTailsCfgValid.slicesValid {e : Float → ℝ} {c : ElCfg} (hc : RQTailsCfgValid e c) (Ft S : Nat)
    (params : Array ℝ) (B : Nat) : SlicesValid (NF.realX e) c (RQTailsSliceValid e c) Ft S params B :=
  fun _ _ _ _ _ _ => rqTailsSliceValid_of_cfg hc _ (by rw [condSlice_length, mult_rq_tails hc.hk hc.ht])

theorem elInvertible_rq_tails_real (e : Float → ℝ) (c : ElCfg) (hc : RQTailsCfgValid e c) (Ft S : Nat)
    (params : Array ℝ) (B : Nat) : ElInvertible (NF.realX e) c Ft S params B :=
  (rq_tails_undoes e c hc.hk hc.ht false).elInvertible hc.kind_ne (hc.slicesValid Ft S params B)

theorem coupling_rq_tails_err_none (e : Float → ℝ) (c : ElCfg) (hc : RQTailsCfgValid e c) (mask : List ℝ) (B S : Nat)
    (x params uparams : Array ℝ) (inverse : Bool) :
    (couplingApply (NF.realX e) c mask B S x params inverse none uparams).err = none :=
  ((rq_tails_accepts e c hc.hk hc.ht).coupling_err_none_iff hc.kind_ne mask B S x params uparams inverse
    (hc.slicesValid _ S params B)).2 (fun _ _ _ _ _ _ => trivial)

/-- **C02 (executed rational-quadratic coupling layer with linear tails over the reals), unconditional.**
    `PiecewiseRationalQuadraticCouplingTransform(tails='linear')`: any mask, `B`, `S`, ANY parameter array (whatever the
    conditioner returned) and ANY real input array filling the shape — no domain hypothesis, the tails accept every
    real: the forward pass raises nothing, the inverse pass on the forward output with the same parameters raises
    nothing, returns the input array exactly, is given the same conditioner input, and returns the negated row
    log-dets. -/
theorem coupling_rq_tails_roundtrip_real (e : Float → ℝ) (c : ElCfg) (hc : RQTailsCfgValid e c)
    (mask : List ℝ) (B S : Nat) (x params uparams uparams' : Array ℝ) (hsz : B * mask.length * S ≤ x.size) :
    let fwd := couplingApply (NF.realX e) c mask B S x params false none uparams
    let inv := couplingApply (NF.realX e) c mask B S fwd.out params true none uparams'
    fwd.err = none ∧ inv.out = x ∧ inv.err = none ∧ inv.condIn = fwd.condIn
      ∧ ∀ b, b < B → inv.ld[b]? = (fwd.ld[b]?).map (fun l => -l) :=
  ⟨coupling_rq_tails_err_none e c hc mask B S x params uparams false,
   (rq_tails_undoes e c hc.hk hc.ht false).coupling_roundtrip_real e hc.kind_ne mask B S x params uparams
    uparams' (hc.slicesValid _ S params B) (coupling_rq_tails_err_none e c hc mask B S x params uparams false) hsz⟩


/-- **C01 for one executed RQ-with-tails element as the dispatcher runs it, at EVERY real input, both directions**: for
    any parameter vector of the right length, `s ↦ output of elTransform` is differentiable at every real `x` with
    derivative `exp` of the log-det returned at `x` (`PadExact`: padding constant read exactly, `min_derivative < 1`,
    `beta = 1`) -/
theorem elTransform_rq_tails_hasDerivAt (e : Float → ℝ) (c : ElCfg) (hc : RQTailsCfgValid e c)
    (hp : TailsWhole.PadExact e (tMD c) (tBe c)) (p : List ℝ) (hlen : p.length = 3 * c.K - 1) (inverse : Bool) (x : ℝ) :
    HasDerivAt (fun s => outOf (NF.realX e) (elTransform (NF.realX e) c inverse p s))
      (Real.exp (ldOf (NF.realX e) (elTransform (NF.realX e) c inverse p x))) x := by
  have hv := rqTailsSliceValid_of_cfg hc p hlen
  cases inverse
  · have hf : (fun s => outOf (NF.realX e) (elTransform (NF.realX e) c false p s))
        = TailsWhole.valT e (tTb c) (tMW c) (tMH c) (tMD c) (tBe c) (rqW (NF.realX e) c p) (rqH (NF.realX e) c p) (rqD c p) := by
      funext s; rw [(rqTails_el_total e c hc.hk hc.ht p hv s).1]; rfl
    rw [hf, (rqTails_el_total e c hc.hk hc.ht p hv x).1]
    exact TailsWhole.valT_hasDerivAt_all hv hp x
  · have hf : (fun s => outOf (NF.realX e) (elTransform (NF.realX e) c true p s))
        = TailsWhole.invT e (tTb c) (tMW c) (tMH c) (tMD c) (tBe c) (rqW (NF.realX e) c p) (rqH (NF.realX e) c p) (rqD c p) := by
      funext s; rw [(rqTails_el_total e c hc.hk hc.ht p hv s).2]; rfl
    rw [hf, (rqTails_el_total e c hc.hk hc.ht p hv x).2]
    exact TailsWhole.invT_hasDerivAt_all hv hp x

theorem couplingEl_rq_tails_hasDerivAt (e : Float → ℝ) (c : ElCfg) (hc : RQTailsCfgValid e c)
    (hp : TailsWhole.PadExact e (tMD c) (tBe c)) (Ft S : Nat) (params : Array ℝ) (inverse : Bool) (b t s : Nat) (x : ℝ) :
    HasDerivAt (fun z => outOf (NF.realX e) (couplingEl (NF.realX e) c Ft S params inverse b t s z))
      (Real.exp (ldOf (NF.realX e) (couplingEl (NF.realX e) c Ft S params inverse b t s x))) x := by
  have hk1 : c.kind ≠ "affine" := by rw [hc.hk]; decide
  have hk2 : c.kind ≠ "additive" := by rw [hc.hk]; decide
  simp only [couplingEl_spline (NF.realX e) c S params inverse hk1 hk2]
  exact elTransform_rq_tails_hasDerivAt e c hc hp _ (by rw [condSlice_length, mult_rq_tails hc.hk hc.ht]) inverse x

/-! ## 3b. The other order: forward ∘ inverse -/

theorem elInvertibleRev_rq_tails_real (e : Float → ℝ) (c : ElCfg) (hc : RQTailsCfgValid e c) (Ft S : Nat)
    (params : Array ℝ) (B : Nat) : ElInvertibleRev (NF.realX e) c Ft S params B :=
  (rq_tails_undoes e c hc.hk hc.ht true).elInvertibleRev hc.kind_ne (hc.slicesValid Ft S params B)

/-- **C02, the other order (executed RQ coupling layer with linear tails over the reals), unconditional**: the inverse
    pass raises nothing on ANY real array; the forward pass on its output with the same parameters raises nothing,
    returns the array exactly, is given the same conditioner input, and returns the negated row log-dets.  With
    `coupling_rq_tails_roundtrip_real`: for fixed parameters the layer is a bijection of `ℝ^(B·C·S)` whose inverse is
    the executed inverse pass. -/
theorem coupling_rq_tails_roundtrip_rev_real (e : Float → ℝ) (c : ElCfg) (hc : RQTailsCfgValid e c)
    (mask : List ℝ) (B S : Nat) (y params uparams uparams' : Array ℝ) (hsz : B * mask.length * S ≤ y.size) :
    let inv := couplingApply (NF.realX e) c mask B S y params true none uparams
    let fwd := couplingApply (NF.realX e) c mask B S inv.out params false none uparams'
    inv.err = none ∧ fwd.out = y ∧ fwd.err = none ∧ fwd.condIn = inv.condIn
      ∧ ∀ b, b < B → fwd.ld[b]? = (inv.ld[b]?).map (fun l => -l) :=
  ⟨coupling_rq_tails_err_none e c hc mask B S y params uparams true,
   (rq_tails_undoes e c hc.hk hc.ht true).coupling_roundtrip_real e hc.kind_ne mask B S y params uparams
    uparams' (hc.slicesValid _ S params B) (coupling_rq_tails_err_none e c hc mask B S y params uparams true) hsz⟩

end NF.StructureExec

namespace NF.ARWhole
open NF.StructureExec
variable {α : Type}

/-! ## 4. The executed autoregressive transform -/

theorem pw_rq_tails {c : ElCfg} (hk : c.kind = "rq") (ht : c.tails = true) : pw c = 3 * c.K - 1 := by
  simp [pw, ElCfg.mult, hk, ht]

theorem arSliceValid_rq_tails (e : Float → ℝ) (c : ElCfg) (hc : RQTailsCfgValid e c) (F : Nat) (params : Array ℝ)
    (b i : Nat) : RQTailsSliceValid e c (arSlice (NF.realX e) c F params b i) :=
  rqTailsSliceValid_of_cfg hc _ (by rw [arSlice_length, pw_rq_tails hc.hk hc.ht])

theorem arElInvertible_rq_tails_real (e : Float → ℝ) (c : ElCfg) (hc : RQTailsCfgValid e c) (F : Nat)
    (params : Array ℝ) (B : Nat) :
    ArElInvertible (NF.realX e) c F params B ∧ ArElInvertibleRev (NF.realX e) c F params B :=
  ⟨(rq_tails_undoes e c hc.hk hc.ht false).arElInvertible (fun b i _ _ => arSliceValid_rq_tails e c hc F params b i),
    (rq_tails_undoes e c hc.hk hc.ht true).arElInvertibleRev (fun b i _ _ => arSliceValid_rq_tails e c hc F params b i)⟩

/-- **C02 for the executed autoregressive RQ transform with linear tails over the reals**: any autoregressive
    conditioner, any `B`, `F`, ANY real input array of the right size, both orders — no element hypothesis, no domain
    hypothesis, no validity hypothesis on the conditioner's outputs. -/
theorem ar_rq_tails_roundtrip_real (e : Float → ℝ) (c : ElCfg) (hc : RQTailsCfgValid e c) (B F : Nat)
    (net : Array ℝ → Array ℝ) (hnet : AutoregNet B F (3 * c.K - 1) net) (x : Array ℝ) (hx : x.size = B * F) :
    (let fwd := arForward (NF.realX e) c B F net x
     let inv := arInverse (NF.realX e) c B F net fwd.out
     fwd.err = none ∧ inv.err = none ∧ inv.out = x
      ∧ (∀ k, AgreeBelow B F k (arIter (NF.realX e) c B F net fwd.out k).out x)
      ∧ (0 < F → ∀ b, b < B → inv.ld[b]? = (fwd.ld[b]?).map (fun l => -l)))
    ∧ (let inv := arInverse (NF.realX e) c B F net x
       let fwd := arForward (NF.realX e) c B F net inv.out
       inv.err = none ∧ fwd.err = none ∧ fwd.out = x
        ∧ (0 < F → ∀ b, b < B → fwd.ld[b]? = (inv.ld[b]?).map (fun l => -l))) := by
  have hnet' : AutoregNet B F (pw c) net := by rw [pw_rq_tails hc.hk hc.ht]; exact hnet
  have hv : ∀ z : Array ℝ, z.size = B * F → ArSlicesValid (NF.realX e) c (RQTailsSliceValid e c) F (net z) B :=
    fun z _ b i _ _ => arSliceValid_rq_tails e c hc F (net z) b i
  exact ⟨ar_roundtrip_real_of e (rq_tails_undoes e c hc.hk hc.ht) (rq_tails_accepts e c hc.hk hc.ht) B F net hnet' hv x hx
      (hv x hx) (fun _ _ => trivial),
    ar_roundtrip_rev_real_of e (rq_tails_undoes e c hc.hk hc.ht) (rq_tails_accepts e c hc.hk hc.ht) B F net hnet' hv x hx
      (hv _ (arInverse_out_size _ c B F net x hx)) (fun _ _ => trivial)⟩

section made
open NF.Made

/-- **The masked autoregressive rational-quadratic flow layer with linear tails is exactly invertible on all of `ℝ^F`,
    with negated log-dets** (`MaskedPiecewiseRationalQuadraticAutoregressiveTransform(tails='linear')`).  Every
    architecture accepted by `Made.build` with multiplier `3K - 1`, every weight / bias / context / activation /
    batch-norm / dropout assignment, every batch size `B`, EVERY real `[B, F]` input: the forward pass raises nothing;
    no pass of the `F`-pass inverse loop raises; the loop started from zeros returns the input exactly (after pass `k`
    the first `k` features are correct) and the negated row log-dets; and in the other order the forward pass undoes
    the loop on every real `[B, F]` array.  The only hypothesis is on the five constants of the configuration. -/
theorem made_rq_tails_roundtrip_real (e : Float → ℝ) (c : ElCfg) (hc : RQTailsCfgValid e c) (a : Arch) (n : Net)
    (hbuild : build a = .ok n) (hmult : a.mult = 3 * c.K - 1) (W : ℕ → ℕ → ℕ → ℝ) (bias : ℕ → ℕ → ℝ) (B : Nat)
    (ctxv : ℕ → ℕ → Fin B → ℝ) (g : ℕ → Slot → ℕ → (Fin B → ℝ) → Fin B → ℝ) :
    let net := madeNet n W bias B ctxv g
    (∀ x : Array ℝ, x.size = B * a.F →
      let fwd := arForward (NF.realX e) c B a.F net x
      let inv := arInverse (NF.realX e) c B a.F net fwd.out
      fwd.err = none ∧ inv.err = none ∧ inv.out = x
        ∧ (∀ k, AgreeBelow B a.F k (arIter (NF.realX e) c B a.F net fwd.out k).out x)
        ∧ (∀ b, b < B → inv.ld[b]? = (fwd.ld[b]?).map (fun l => -l)))
    ∧ (∀ y : Array ℝ, y.size = B * a.F →
      let inv := arInverse (NF.realX e) c B a.F net y
      let fwd := arForward (NF.realX e) c B a.F net inv.out
      inv.err = none ∧ fwd.err = none ∧ fwd.out = y
        ∧ (∀ b, b < B → fwd.ld[b]? = (inv.ld[b]?).map (fun l => -l))) := by
  have h := made_roundtrip_real_of e (rq_tails_undoes e c hc.hk hc.ht) (rq_tails_accepts e c hc.hk hc.ht) a n hbuild
    (hmult.trans (pw_rq_tails hc.hk hc.ht).symm) W bias B ctxv g
    (fun z _ b i _ _ => arSliceValid_rq_tails e c hc a.F _ b i)
  exact ⟨fun x hx => h.1 x hx (fun _ _ => trivial) (fun b i _ _ => arSliceValid_rq_tails e c hc a.F _ b i),
    fun y hy => h.2 y hy (fun _ _ => trivial) (fun b i _ _ => arSliceValid_rq_tails e c hc a.F _ b i)⟩

/-- the same with the MADE model run ROW BY ROW on plain reals (`ARWholeMadeRow.madeRowNet`, the program a numeric driver
    runs in evaluation mode) as the conditioner -/
theorem madeRow_rq_tails_roundtrip_real (e : Float → ℝ) (c : ElCfg) (hc : RQTailsCfgValid e c) (a : Arch) (n : Net)
    (hbuild : build a = .ok n) (hmult : a.mult = 3 * c.K - 1) (W : ℕ → ℕ → ℕ → ℝ) (bias : ℕ → ℕ → ℝ) (B : Nat)
    (ctxr : ℕ → ℕ → ℕ → ℝ) (act : ℕ → Slot → ℕ → ℝ → ℝ) :
    let net := madeRowNet n W bias B ctxr act
    (∀ x : Array ℝ, x.size = B * a.F →
      let fwd := arForward (NF.realX e) c B a.F net x
      let inv := arInverse (NF.realX e) c B a.F net fwd.out
      fwd.err = none ∧ inv.err = none ∧ inv.out = x
        ∧ (∀ k, AgreeBelow B a.F k (arIter (NF.realX e) c B a.F net fwd.out k).out x)
        ∧ (∀ b, b < B → inv.ld[b]? = (fwd.ld[b]?).map (fun l => -l)))
    ∧ (∀ y : Array ℝ, y.size = B * a.F →
      let inv := arInverse (NF.realX e) c B a.F net y
      let fwd := arForward (NF.realX e) c B a.F net inv.out
      inv.err = none ∧ fwd.err = none ∧ fwd.out = y
        ∧ (∀ b, b < B → fwd.ld[b]? = (inv.ld[b]?).map (fun l => -l))) := by
  rw [madeRowNet_eq]
  exact made_rq_tails_roundtrip_real e c hc a n hbuild hmult W bias B _ _

end made

/-! ## 5. C01: the derivative law at EVERY real input -/

theorem elMap_rq_tails (e : Float → ℝ) (c : ElCfg) (hk : c.kind = "rq") (ht : c.tails = true) (F : Nat)
    (params : Array ℝ) (b i : Nat) :
    elMap e c F params b i = TailsWhole.valT e (tTb c) (tMW c) (tMH c) (tMD c) (tBe c)
      (rqW (NF.realX e) c (arSlice (NF.realX e) c F params b i))
      (rqH (NF.realX e) c (arSlice (NF.realX e) c F params b i))
      (rqD c (arSlice (NF.realX e) c F params b i)) := by
  funext s
  unfold elMap TailsWhole.valT
  rw [TailsWhole.elTransform_rq_tails _ c hk ht]
  cases rqSplineTails (NF.realX e) (c.ds.getD 0 0.0) (c.ds.getD 1 0.0) (c.ds.getD 2 0.0) (c.ds.getD 3 0.0)
    (c.ds.getD 4 0.0) (rqW (NF.realX e) c (arSlice (NF.realX e) c F params b i))
    (rqH (NF.realX e) c (arSlice (NF.realX e) c F params b i)) (rqD c (arSlice (NF.realX e) c F params b i)) false s with
  | error err => simp [Except.map, outOf]
  | ok v => rfl

/-- **C01 for one executed RQ-with-tails element at EVERY real input** (tails, junctions `±B`, interior knots, open
    bins): the scalar element map at any parameter vector the conditioner returned is differentiable with derivative
    `exp` of the log-det the program returns.  `PadExact`: the padding constant `log(exp(1 - min_derivative) - 1)` is
    read exactly, `min_derivative < 1`, and the softplus runs with `beta = 1` (`enable_identity_init = False`; with
    `0 < beta < 1` the law FAILS at `±B`, see `TailsWhole.valT_not_differentiableAt_of_beta_lt_one`). -/
theorem elMap_rq_tails_hasDerivAt (e : Float → ℝ) (c : ElCfg) (hc : RQTailsCfgValid e c)
    (hp : TailsWhole.PadExact e (tMD c) (tBe c)) (F : Nat) (x params : Array ℝ) (b i : Nat) :
    HasDerivAt (elMap e c F params b i)
      (Real.exp (ldOf (NF.realX e) (arEl (NF.realX e) c F x params false b i))) (x.getD (b * F + i) 0) := by
  rw [arEl_eq, realX_zero]
  exact elTransform_rq_tails_hasDerivAt e c hc hp _ (by rw [arSlice_length, pw_rq_tails hc.hk hc.ht]) false _

/-- **C01 for a row of the executed RQ-with-tails autoregressive transform, at EVERY real input row**: `ld[b]` returned
    by the forward pass is `log |det J_b|`, `J_b` the Jacobian of the row map — no "strictly inside a bin" restriction
    (compare `ar_rq_row_logdet`), because the executed tails program is C¹ on the whole line when the padding constant is
    exact. -/
theorem ar_rq_tails_row_logdet (e : Float → ℝ) (c : ElCfg) (hc : RQTailsCfgValid e c)
    (hp : TailsWhole.PadExact e (tMD c) (tBe c)) (B F : Nat)
    (net : Array ℝ → Array ℝ) (x : Array ℝ) (hnet : AutoregNet B F (3 * c.K - 1) net) (hx : x.size = B * F)
    {b : Nat} (hb : b < B) {L : (Fin F → ℝ) →L[ℝ] (Fin F → ℝ)}
    (hL : HasFDerivAt (rowMap e c B F net x b) L (fun i => x.getD (b * F + i.1) 0)) :
    (arForward (NF.realX e) c B F net x).ld[b]?
      = some (Real.log |LinearMap.det (L : (Fin F → ℝ) →ₗ[ℝ] (Fin F → ℝ))|) := by
  apply ar_row_logdet e c B F net x (by rw [pw_rq_tails hc.hk hc.ht]; exact hnet) hx hb hL
  intro i
  exact elMap_rq_tails_hasDerivAt e c hc hp F x (net x) b i

section madeC01
open NF.Made

theorem made_rq_tails_row_logdet (e : Float → ℝ) (c : ElCfg) (hc : RQTailsCfgValid e c)
    (hp : TailsWhole.PadExact e (tMD c) (tBe c)) (a : Arch) (n : Net)
    (hbuild : build a = .ok n) (hmult : a.mult = 3 * c.K - 1) (W : ℕ → ℕ → ℕ → ℝ) (bias : ℕ → ℕ → ℝ) (B : Nat)
    (ctxv : ℕ → ℕ → Fin B → ℝ) (g : ℕ → Slot → ℕ → (Fin B → ℝ) → Fin B → ℝ)
    (x : Array ℝ) (hx : x.size = B * a.F) {b : Nat} (hb : b < B) {L : (Fin a.F → ℝ) →L[ℝ] (Fin a.F → ℝ)}
    (hL : HasFDerivAt (rowMap e c B a.F (madeNet n W bias B ctxv g) x b) L (fun i => x.getD (b * a.F + i.1) 0)) :
    (arForward (NF.realX e) c B a.F (madeNet n W bias B ctxv g) x).ld[b]?
      = some (Real.log |LinearMap.det (L : (Fin a.F → ℝ) →ₗ[ℝ] (Fin a.F → ℝ))|) :=
  ar_rq_tails_row_logdet e c hc hp B a.F _ x (madeNet_autoreg_of_build hbuild hmult W bias B ctxv g).2 hx hb hL

end madeC01

end NF.ARWhole

/-! ## 6. Non-vacuity: concrete accepted configurations, a concrete MADE architecture, the theorems instantiated -/

namespace NF.StructureExec
section witness
open TailsWhole


/-- RQ with linear tails: two bins, ONE interior derivative (padded to three by the program), tail bound 1 -/
theorem rq_valid_example2 : RQTailsValid eW 1.0 0.0 0.0 0.0 1.0 [0, 0] [0, 0] [0] :=
  have hc : eW ((1:Float) - 0.0 * (2:Nat).toFloat) = 1 - eW 0.0 * ((2:ℕ):ℝ) := by
    rw [eW_floor_two, eW_zero, zero_mul, sub_zero]
  have hK : eW 0.0 * ((2:ℕ):ℝ) ≤ 1 := by rw [eW_zero, zero_mul]; exact zero_le_one
  have h1 : 0 < eW 1.0 := by rw [eW_one]; exact one_pos
  { hK := List.cons_ne_nil _ _, hlenh := rfl, hlend := rfl, hgW := FloatFacts.guard_two, hgH := FloatFacts.guard_two,
    hmW0 := eW_zero.ge, hcW := hc, hmWK := hK, hmH0 := eW_zero.ge, hcH := hc, hmHK := hK,
    hB := h1, hneg := eW_neg,
    hdiff := by rw [eW_two, eW_one, eW_neg_one]; norm_num
    heps := by rw [eW_eps]; exact one_pos
    hminD := eW_zero.ge, hbeta := h1 }

/-- the layer configurations: `K = 2`, tail bound 1, `min_* = 0`, `beta = 1`; the autoregressive one with
    `hidden_features = 4` so that the `1/sqrt(hidden_features)` scaling of widths and heights is switched on -/
def cT2 : ElCfg := { container := "coupling", kind := "rq", tails := true, K := 2, ds := #[1.0, 0.0, 0.0, 0.0, 1.0] }
def cT2ar : ElCfg :=
  { container := "ar", kind := "rq", tails := true, K := 2, ds := #[1.0, 0.0, 0.0, 0.0, 1.0], hiddenFeatures := 4.0 }
def cT1 : ElCfg := { container := "ar", kind := "rq", tails := true, K := 1, ds := #[1.0, 0.0, 0.0, 0.0, 1.0] }

theorem rqTailsCfgValid_example : RQTailsCfgValid eW cT2 := ⟨rfl, rfl, by decide, rq_valid_example2⟩
theorem rqTailsCfgValid_example_ar : RQTailsCfgValid eW cT2ar := ⟨rfl, rfl, by decide, rq_valid_example2⟩
theorem rqTailsCfgValid_example1 : RQTailsCfgValid eW cT1 := ⟨rfl, rfl, by decide, rq_valid_example⟩

theorem cT2ar_scaling : cT2ar.scaling.2.1 = true ∧ cT2ar.scaling.2.2 = true := by decide +kernel

theorem coupling_rq_tails_example (mask : List ℝ) (B S : Nat) (x params : Array ℝ) (hsz : B * mask.length * S ≤ x.size) :
    (couplingApply (NF.realX eW) cT2 mask B S
      (couplingApply (NF.realX eW) cT2 mask B S x params false none #[]).out params true none #[]).out = x :=
  (coupling_rq_tails_roundtrip_real eW cT2 rqTailsCfgValid_example mask B S x params #[] #[] hsz).2.1

end witness
end NF.StructureExec

namespace NF.ARWhole
section witness
open NF.StructureExec NF.Made

/-- a concrete architecture `Made.build` accepts: 3 features, 4 hidden units, one feed-forward block, multiplier
    `3·2 − 1 = 5` -/
def aT : Arch := { F := 3, H := 4, nBlocks := 1, mult := 5, residual := false, random := false, nde := false,
                   ctx := 0, bn := false }

theorem aT_builds : ∃ n, build aT = .ok n := ⟨_, rfl⟩

/-- `made_rq_tails_roundtrip_real` instantiated: the hypotheses are jointly satisfiable -/
theorem made_rq_tails_example (n : Net) (hbuild : build aT = .ok n) (W : ℕ → ℕ → ℕ → ℝ) (bias : ℕ → ℕ → ℝ) (B : Nat)
    (ctxv : ℕ → ℕ → Fin B → ℝ) (g : ℕ → Slot → ℕ → (Fin B → ℝ) → Fin B → ℝ) (x : Array ℝ) (hx : x.size = B * 3) :
    (arInverse (NF.realX TailsWhole.eW) cT2ar B 3 (madeNet n W bias B ctxv g)
      (arForward (NF.realX TailsWhole.eW) cT2ar B 3 (madeNet n W bias B ctxv g) x).out).out = x :=
  ((made_rq_tails_roundtrip_real TailsWhole.eW cT2ar rqTailsCfgValid_example_ar aT n hbuild rfl W bias B ctxv g).1
    x hx).2.2.1

/-- the `PadExact` hypothesis of the C01 theorems jointly with `RQTailsCfgValid` (`Float.log` / `Float.exp` are opaque
    to the kernel, so — exactly as `TailsWhole.pad_example` — conditional on the seven `Float` comparisons an evaluator
    confirms) -/
theorem pad_cfg_example (hk : (TailsWhole.kP == TailsWhole.kP) = true) (h0 : ((0.0:Float) == TailsWhole.kP) = false)
    (h1 : ((1.0:Float) == TailsWhole.kP) = false) (hm1 : ((-(1.0:Float)) == TailsWhole.kP) = false)
    (h2 : (((1.0:Float) - (-(1.0:Float))) == TailsWhole.kP) = false) (h6 : ((1e-6:Float) == TailsWhole.kP) = false)
    (hc : (((1:Float) - 0.0 * (1:Nat).toFloat) == TailsWhole.kP) = false) :
    RQTailsCfgValid TailsWhole.eP cT1 ∧ TailsWhole.PadExact TailsWhole.eP (tMD cT1) (tBe cT1) :=
  ⟨⟨rfl, rfl, by decide, (TailsWhole.pad_example hk h0 h1 hm1 h2 h6 hc).1⟩,
   (TailsWhole.pad_example hk h0 h1 hm1 h2 h6 hc).2⟩

end witness
end NF.ARWhole
