import NflowsModel.Core.Nonlin
import NflowsModel.Real.RealX
import NflowsModel.Lemmas.Nonlin
import Mathlib.Analysis.SpecialFunctions.Trigonometric.DerivHyp
import Mathlib.Analysis.SpecialFunctions.Log.Basic
import Mathlib.Tactic
/-!
# Lemmas/TanhStable — the form `2 (log 2 − x − softplus (−2x))` in which `Tanh.forward` computes `log (1 − tanh² x)`
(nonlinearities.py:40-42: the direct form is `−∞` once `tanh x` rounds to 1), and the executed `tanhT` at the reals
-/
open NF

namespace TanhStable

theorem one_sub_tanh_sq (x : ℝ) : 1 - Real.tanh x ^ 2 = 1 / Real.cosh x ^ 2 := by
  have hc : Real.cosh x ≠ 0 := (Real.cosh_pos x).ne'
  rw [Real.tanh_eq_sinh_div_cosh]
  field_simp
  nlinarith [Real.cosh_sq x]

theorem cosh_eq_exp (x : ℝ) : Real.cosh x = Real.exp x * (1 + Real.exp (-2 * x)) / 2 := by
  rw [Real.cosh_eq]
  have : Real.exp x * Real.exp (-2 * x) = Real.exp (-x) := by
    rw [← Real.exp_add]; congr 1; ring
  rw [mul_add, mul_one, this]

theorem stable_eq (x : ℝ) :
    2 * (Real.log 2 - x - Real.log (1 + Real.exp (-2 * x))) = Real.log (1 - Real.tanh x ^ 2) := by
  have hp : 0 < 1 + Real.exp (-2 * x) := by positivity
  rw [one_sub_tanh_sq, one_div, Real.log_inv, Real.log_pow, cosh_eq_exp,
    Real.log_div (by positivity) (by norm_num), Real.log_mul (Real.exp_pos x).ne' hp.ne', Real.log_exp]
  push_cast
  ring

variable (e : Float → ℝ)

/-- **executed `Tanh.forward` over the reals**: `−10 ≤ x` keeps the argument `−2x` of `F.softplus` at or below its
    threshold 20, where it is `log (1 + exp ·)`; the returned log-det is then exactly `log (1 − tanh² x)` -/
theorem tanhT_forward (x : ℝ) (h2 : e 2.0 = 2) (hm2 : e (-2.0) = -2) (hl : e (Float.log 2.0) = Real.log 2) (hx : -10 ≤ x) :
    tanhT (NF.realX e) false x = .ok (Real.tanh x, Real.log (1 - Real.tanh x ^ 2)) ∧
    HasDerivAt Real.tanh (Real.exp (Real.log (1 - Real.tanh x ^ 2))) x := by
  constructor
  · unfold tanhT
    simp only [Bool.false_eq_true, if_false, NF.realX_mul, NF.realX_sub, NF.realX_ofFloat, h2, hm2, hl, NF.realX_softplus]
    have hnot : ¬ (20 < -2 * x) := by linarith
    rw [if_neg hnot, stable_eq]
    rfl
  · exact Nonlin.tanh_deriv x

/-- … and past the threshold (`−2x > 20`, i.e. `x < −10`) `F.softplus` returns its argument: the returned log-det is
    `2 (log 2 + x)`, within `2 e^{2x} ≤ 2 e^{−20}` of the exact value -/
theorem tanhT_forward_threshold (x : ℝ) (h2 : e 2.0 = 2) (hm2 : e (-2.0) = -2) (hl : e (Float.log 2.0) = Real.log 2) (hx : x < -10) :
    tanhT (NF.realX e) false x = .ok (Real.tanh x, 2 * (Real.log 2 + x)) ∧
    |2 * (Real.log 2 + x) - Real.log (1 - Real.tanh x ^ 2)| ≤ 2 * Real.exp (2 * x) := by
  constructor
  · unfold tanhT
    simp only [Bool.false_eq_true, if_false, NF.realX_mul, NF.realX_sub, NF.realX_ofFloat, h2, hm2, hl, NF.realX_softplus]
    have hyes : (20 : ℝ) < -2 * x := by linarith
    rw [if_pos hyes]
    congr 2
    ring
  · rw [← stable_eq]
    have hlog : Real.log (1 + Real.exp (-2 * x)) = -2 * x + Real.log (1 + Real.exp (2 * x)) := by
      rw [Nonlin.log_one_add_exp (-2 * x), neg_mul, neg_neg]
    rw [hlog]
    have h0 : 0 ≤ Real.log (1 + Real.exp (2 * x)) := Real.log_nonneg (by linarith [Real.exp_pos (2 * x)])
    have h1 : Real.log (1 + Real.exp (2 * x)) ≤ Real.exp (2 * x) := by
      have := Real.log_le_sub_one_of_pos (show 0 < 1 + Real.exp (2 * x) by positivity)
      linarith
    have : 2 * (Real.log 2 + x) - 2 * (Real.log 2 - x - (-2 * x + Real.log (1 + Real.exp (2 * x))))
        = 2 * Real.log (1 + Real.exp (2 * x)) := by ring
    rw [this, abs_of_nonneg (by linarith)]
    linarith

end TanhStable
