import NflowsModel.Lemmas.QuadWhole
import NflowsModel.Lemmas.StableRoot
/-!
# Lemmas/QuadInverseWhole — the executed piecewise-quadratic spline, inverse direction, over the reals

`quadSpline (NF.realX e) c uw uh true` is split as guards → `padU` (the same padding step as the forward program) →
`quadRestI`: search over the cdf knots `blc`, the numerically stable root `α = 2c/(−b − √(b² − 4ac))`,
`out = clamp 0 1 (α·w + loc)`, `ld = −log(α(hr − hl) + hl) − boxLog`.  Everything reuses the lists and the `CoreValid` layer of
`Lemmas/QuadWhole`, so both shapes of `uh` are two instantiations of the same statements: totality with the closed form
and a well-defined root (C17; bins with equal edge heights, finding F2, are NOT excluded: `alphaN_flat`), round trips and
the negated log-abs-det against the executed forward program on the whole closed box, knots included (C02; the two
searches agree, `idx_inv`), monotone bijection (C09), derivative inside the open cdf-bins (C01).
-/
open NF DualSound

namespace QuadInverseWhole
open QuadWhole
noncomputable section
variable (e : Float → ℝ)

/-! ### the inverse program after the (optional) tails padding of the unnormalised heights -/

/-- the text of `quadSpline … true` from `area` on, as a function of the widths, the (padded) unnormalised heights and
    the normalised input `y'` -/
def quadRestI {α : Type} (o : XOps α) (c : QCfg) (widths uhe : List α) (y' : α) : Except Err (α × α) := do
  let area := sumG o (List.zipWith o.mul (pairMeans o uhe) widths)
  let heights := uhe.map (fun u => o.add (o.ofFloat c.minH) (o.mul (o.ofFloat (1 - c.minH)) (o.div u area)))
  let blc := cumsumG o (List.zipWith o.mul (pairMeans o heights) widths)
  let blc := o.zero :: setLast blc o.one
  let locs := o.zero :: setLast (cumsumG o widths) o.one
  let idx := searchsortedG o c.eps blc y'
  let loc ← getI locs idx
  let w ← getI widths idx
  let lcdf ← getI blc idx
  let hl ← getI heights idx
  let hr ← getI heights (idx + 1)
  let env := [y', loc, w, lcdf, hl, hr]
  let bl := o.ofFloat (boxLog c.box)
  let al := evalX o env quadInvAlphaE
  let out := o.clamp o.zero o.one (o.add (o.mul al w) loc)
  let ld := o.neg (o.log (o.add (o.mul al (o.sub hr hl)) hl))
  return (o.add (o.mul out (o.ofFloat (c.box.right - c.box.left))) (o.ofFloat c.box.left), o.sub ld bl)

def invOut {α : Type} (o : XOps α) (c : QCfg) (y loc w lcdf hl hr : α) : α × α :=
  (o.add (o.mul (o.clamp o.zero o.one (o.add (o.mul (evalX o [y, loc, w, lcdf, hl, hr] quadInvAlphaE) w) loc))
      (o.ofFloat (c.box.right - c.box.left))) (o.ofFloat c.box.left),
    o.sub (o.neg (o.log (o.add (o.mul (evalX o [y, loc, w, lcdf, hl, hr] quadInvAlphaE) (o.sub hr hl)) hl)))
      (o.ofFloat (boxLog c.box)))

/-- **`quadRestI` after its control flow**, over any `XOps` (the inverse searches the cdf knots, and gathers the same five
    entries as `QuadWhole.quadRest_of_search`) -/
theorem quadRestI_of_search {α : Type} (o : XOps α) (c : QCfg) (W U : List α) (x : α) {hts blc locs : List α}
    (hH : U.map (fun u => o.add (o.ofFloat c.minH) (o.mul (o.ofFloat (1 - c.minH))
      (o.div u (sumG o (List.zipWith o.mul (pairMeans o U) W))))) = hts)
    (hB : o.zero :: setLast (cumsumG o (List.zipWith o.mul (pairMeans o hts) W)) o.one = blc)
    (hL : o.zero :: setLast (cumsumG o W) o.one = locs)
    {i : ℕ} {loc w lcdf hl hr : α} (h1 : getI locs (i : Int) = .ok loc) (h2 : getI W (i : Int) = .ok w)
    (h3 : getI blc (i : Int) = .ok lcdf) (h4 : getI hts (i : Int) = .ok hl) (h5 : getI hts ((i : Int) + 1) = .ok hr)
    (hs : searchsortedG o c.eps blc x = (i : Int)) :
    quadRestI o c W U x = .ok (invOut o c x loc w lcdf hl hr) := by
  unfold quadRestI
  simp only [hH, hB, hL, hs, h1, h2, h3, h4, h5]
  rfl

/-- `quadSpline … true` = guards, then the padding step (the SAME `padU` as the forward program), then `quadRestI`
    on the normalised input (any scalar type, by unfolding only) -/
theorem quadSpline_splitI {α : Type} (o : XOps α) (c : QCfg) (uw uh : List α) (y : α)
    (hg : (o.lt y (o.ofFloat c.box.bottom) || o.lt (o.ofFloat c.box.top) y) = false)
    (hgW : ¬ (c.minW * uw.length.toFloat > 1.0)) (hgH : ¬ (c.minH * uw.length.toFloat > 1.0)) :
    quadSpline o c uw uh true y
      = (padU o (flooredSoftmax o c.minW uw) (uh.map (fun u => o.add (o.softplus u) (o.ofFloat 1e-3))) uw.length) >>= fun U =>
        quadRestI o c (flooredSoftmax o c.minW uw) U
          (o.div (o.sub y (o.ofFloat c.box.bottom)) (o.ofFloat (c.box.top - c.box.bottom))) := by
  unfold quadSpline quadRestI padU cstOf
  simp only [if_true, hg, hgW, hgH, Bool.false_eq_true, if_false]

/-! ### search over the cdf knots `blc`, and the per-bin closed forms of the inverse (normalised coordinates) -/

/- `idxB` the bin searched over the cdf knots `blc`; `alphaN radN` root and radicand of bin `k`; `binInvN binInvLdN` the closed
   forms of the inverse in bin `k`; `GI LdI` the whole normalised inverse and its log-density; `ny` the normalised input of
   the inverse; `gen_*I` the statements for any program running `quadRestI`. -/
def idxB (c : QCfg) (Wd U : List ℝ) (s : ℝ) : ℕ := (searchsortedG (NF.realX e) c.eps (blc e c Wd U) s).toNat

/-- the executed root term of bin `k` (relative position in the bin) -/
def alphaN (c : QCfg) (Wd U : List ℝ) (k : ℕ) (s : ℝ) : ℝ := evalR (envN e c Wd U k s) quadInvAlphaE
/-- the radicand `b² − 4ac` the executed root term takes the square root of -/
def radN (c : QCfg) (Wd U : List ℝ) (k : ℕ) (s : ℝ) : ℝ :=
  (ht e c Wd U k * wd Wd k) ^ 2 - 4 * ((1/2 : ℝ) * (ht e c Wd U (k+1) - ht e c Wd U k) * wd Wd k) * (bl e c Wd U k - s)
def binInvN (c : QCfg) (Wd U : List ℝ) (k : ℕ) (s : ℝ) : ℝ := alphaN e c Wd U k s * wd Wd k + lc e Wd k
def binInvLdN (c : QCfg) (Wd U : List ℝ) (k : ℕ) (s : ℝ) : ℝ :=
  - Real.log (alphaN e c Wd U k s * (ht e c Wd U (k+1) - ht e c Wd U k) + ht e c Wd U k)

variable {e}
variable {c : QCfg} {Wd U : List ℝ}

/-- the executed root term is the stable root `2c / (−b − √(b² − 4ac))`, `a = ½(hr − hl)w`, `b = hl·w`, `c = lcdf − s` -/
theorem alphaN_eq (k : ℕ) (s : ℝ) :
    alphaN e c Wd U k s
      = 2 * (bl e c Wd U k - s) / (-(ht e c Wd U k * wd Wd k) - Real.sqrt (radN e c Wd U k s)) := by
  unfold alphaN envN radN
  rw [Bridge.quadInvAlphaE_eq]

theorem search_specB (hv : CoreValid e c Wd U) :
    ExecGlue.SearchSpec (bl e c Wd U) Wd.length (idxB e c Wd U) ∧
    ∀ t, 0 ≤ t → t ≤ 1 → searchsortedG (NF.realX e) c.eps (blc e c Wd U) t = ((idxB e c Wd U t : ℕ) : Int) :=
  SplineTotal.search_spec_list e c.eps hv.heps (blc e c Wd U) Wd.length 0 1 (List.length_pos_of_ne_nil hv.hK) (blc_facts hv)

/-- one quadratic bin inverted by the stable root, as a fact about its five numbers: for `s` between the two cdf
    knots `c₀` and `c₀ + ½(hl+hr)w` the radicand is non-negative, the denominator negative, the root in `[0,1]`, and the
    bin's cdf takes the root back to `s`.  `hl = hr` (`a = 0`) is not excluded. -/
theorem cdf_stable_root {hl hr w c₀ s : ℝ} (hw : 0 < w) (h0 : 0 < hl) (hs0 : c₀ ≤ s)
    (hs1 : s ≤ c₀ + (hl + hr) / 2 * w) :
    let rad := (hl * w) ^ 2 - 4 * ((1/2 : ℝ) * (hr - hl) * w) * (c₀ - s)
    let α := 2 * (c₀ - s) / (-(hl * w) - Real.sqrt rad)
    0 ≤ rad ∧ -(hl * w) - Real.sqrt rad < 0 ∧ 0 ≤ α ∧ α ≤ 1 ∧ Quad.cdf hl hr w c₀ α = s := by
  intro rad α
  obtain ⟨hrad, hden, ha0, ha1, hroot⟩ := StableRoot.stable_root (a := (1/2 : ℝ) * (hr - hl) * w) (b := hl * w)
    (c := c₀ - s) (sub_nonpos.2 hs0) (by linarith) (fun _ => mul_pos h0 hw)
  refine ⟨hrad, ?_, ha0, ha1, ?_⟩
  · rw [← neg_add']; exact neg_neg_of_pos hden
  · unfold Quad.cdf
    linear_combination hroot

/-- **per-bin facts about the executed inverse terms** for `s` in the closed cdf-bin `k`: the radicand is non-negative,
    the denominator `−b − √rad` is strictly negative (in particular non-zero), the root lies in `[0,1]`, and the executed
    forward closed form of bin `k` maps the output back to `s`.  No case split on `hl = hr`: where the two edge heights
    of the bin are equal (`a = 0`, finding F2 for the textbook root `(−b + √rad)/(2a)`), all five statements hold as
    they are — see `alphaN_flat` for the value. -/
theorem bin_factsI (hv : CoreValid e c Wd U) (k : ℕ) (hk : k < Wd.length) (s : ℝ)
    (hs0 : bl e c Wd U k ≤ s) (hs1 : s ≤ bl e c Wd U (k+1)) :
    0 ≤ radN e c Wd U k s ∧
    -(ht e c Wd U k * wd Wd k) - Real.sqrt (radN e c Wd U k s) < 0 ∧
    0 ≤ alphaN e c Wd U k s ∧ alphaN e c Wd U k s ≤ 1 ∧
    binN e c Wd U k (binInvN e c Wd U k s) = s := by
  have hw := wd_pos hv k hk
  rw [bl_step hv k hk] at hs1
  obtain ⟨hrad, hden, ha0, ha1, hroot⟩ := cdf_stable_root hw (ht_pos hv k (Nat.lt_succ_of_lt hk)) hs0 hs1
  have hα := alphaN_eq (e := e) (c := c) (Wd := Wd) (U := U) k s
  refine ⟨hrad, hden, hα ▸ ha0, hα ▸ ha1, ?_⟩
  rw [binN_eq, binInvN, ExecGlue.scale_unit hw.ne', hα]
  exact hroot

/-- **bins with equal edge heights** (`hl = hr`, so `a = 0`): the radicand is `b²`, and the executed stable root is the
    linear solution `(s − lcdf)/(hl·w)` — well defined, no `0/0` (the textbook root `(−b+√rad)/(2a)` is `0/0` here:
    `Quad.inverse_counterexample`, finding F2, repaired in /repo by 35fe8c1) -/
theorem alphaN_flat (hv : CoreValid e c Wd U) (k : ℕ) (hk : k < Wd.length) (s : ℝ)
    (hflat : ht e c Wd U k = ht e c Wd U (k+1)) :
    radN e c Wd U k s = (ht e c Wd U k * wd Wd k) ^ 2 ∧
    alphaN e c Wd U k s = (s - bl e c Wd U k) / (ht e c Wd U k * wd Wd k) := by
  have hw := wd_pos hv k hk
  have h0 := ht_pos hv k (by omega)
  have hb : 0 < ht e c Wd U k * wd Wd k := mul_pos h0 hw
  have hr : radN e c Wd U k s = (ht e c Wd U k * wd Wd k) ^ 2 := by
    unfold radN; rw [← hflat]; ring
  refine ⟨hr, ?_⟩
  rw [alphaN_eq, hr, Real.sqrt_sq hb.le]
  field_simp
  ring

theorem binInv_mem (hv : CoreValid e c Wd U) (k : ℕ) (hk : k < Wd.length) (s : ℝ)
    (hs0 : bl e c Wd U k ≤ s) (hs1 : s ≤ bl e c Wd U (k+1)) :
    binInvN e c Wd U k s ∈ Set.Icc (lc e Wd k) (lc e Wd (k+1)) ∧ 0 ≤ binInvN e c Wd U k s ∧ binInvN e c Wd U k s ≤ 1 := by
  obtain ⟨_, _, ha0, ha1, _⟩ := bin_factsI hv k hk s hs0 hs1
  have hw := wd_pos hv k hk
  have h1 : lc e Wd k ≤ binInvN e c Wd U k s := le_add_of_nonneg_left (mul_nonneg ha0 hw.le)
  have h2 : binInvN e c Wd U k s ≤ lc e Wd (k+1) := by
    rw [lc_step hv k hk, add_comm]
    exact add_le_add_left (mul_le_of_le_one_left hw.le ha1) _
  exact ⟨⟨h1, h2⟩, (searchedN hv).bin_subset k hk ⟨h1, h2⟩⟩

/-! ### the whole normalised inverse `GI : [0,1] → [0,1]` (search a cdf-bin, evaluate its inverse closed form) against
the whole normalised forward cdf `QuadWhole.GN` -/

variable (e)
def GI (c : QCfg) (Wd U : List ℝ) (s : ℝ) : ℝ := binInvN e c Wd U (idxB e c Wd U s) s
def LdI (c : QCfg) (Wd U : List ℝ) (s : ℝ) : ℝ := binInvLdN e c Wd U (idxB e c Wd U s) s
variable {e}

theorem searchedInvN (hv : CoreValid e c Wd U) :
    ExecGlue.SearchedInv Wd.length (lc e Wd) (bl e c Wd U) 0 1 (binN e c Wd U) (binInvN e c Wd U) (idxB e c Wd U)
      (GI e c Wd U) where
  specI := (search_specB hv).1
  eqI := fun _ _ _ => rfl
  mem := fun k hk s h0 h1 => (binInv_mem hv k hk s h0 h1).1
  root := fun k hk s h0 h1 => (bin_factsI hv k hk s h0 h1).2.2.2.2

theorem idxB_GN (hv : CoreValid e c Wd U) (t : ℝ) (ht0 : 0 ≤ t) (ht1 : t ≤ 1) :
    idxB e c Wd U (GN e c Wd U t) = idxN e c Wd t := (searchedInvN hv).idxI_val (searchedN hv) t ht0 ht1

theorem restI_eq_bin (hv : CoreValid e c Wd U) (hdlr : e (c.box.right - c.box.left) = e c.box.right - e c.box.left)
    (s : ℝ) (hs0 : 0 ≤ s) (hs1 : s ≤ 1) :
    quadRestI (NF.realX e) c Wd U s
      = .ok (binInvN e c Wd U (idxB e c Wd U s) s * (e c.box.right - e c.box.left) + e c.box.left,
             binInvLdN e c Wd U (idxB e c Wd U s) s - e (boxLog c.box)) := by
  obtain ⟨hiK, hle, hle1, _⟩ := (searchedInvN hv).sel (searchedN hv) s hs0 hs1
  obtain ⟨_, hu0, hu1⟩ := binInv_mem hv _ hiK s hle hle1
  have hi0 : idxB e c Wd U s < Wd.length + 1 := Nat.lt_succ_of_lt hiK
  have hi1 : idxB e c Wd U s + 1 < Wd.length + 1 := Nat.succ_lt_succ hiK
  rw [quadRestI_of_search (NF.realX e) c Wd U s (hts := hts e c Wd U) (blc := blc e c Wd U) (locs := locs e Wd) rfl rfl rfl
    (SplineTotal.getI_getD _ _ ((locs_facts hv).1 ▸ hi0)) (SplineTotal.getI_getD _ _ hiK)
    (SplineTotal.getI_getD _ _ ((blc_facts hv).1 ▸ hi0)) (SplineTotal.getI_getD _ _ (hts_length hv ▸ hi0))
    (SplineTotal.getI_getD _ (idxB e c Wd U s + 1) (hts_length hv ▸ hi1)) ((search_specB hv).2 s hs0 hs1)]
  have hal : evalX (NF.realX e) [s, (locs e Wd).getD (idxB e c Wd U s) 0, Wd.getD (idxB e c Wd U s) 0,
      (blc e c Wd U).getD (idxB e c Wd U s) 0, (hts e c Wd U).getD (idxB e c Wd U s) 0,
      (hts e c Wd U).getD (idxB e c Wd U s + 1) 0] quadInvAlphaE = alphaN e c Wd U (idxB e c Wd U s) s :=
    SplineExec.evalX_eq_evalR e _ _
  unfold invOut
  rw [hal]
  have hout : (NF.realX e).add ((NF.realX e).mul (alphaN e c Wd U (idxB e c Wd U s) s) (Wd.getD (idxB e c Wd U s) 0))
      ((locs e Wd).getD (idxB e c Wd U s) 0) = binInvN e c Wd U (idxB e c Wd U s) s := rfl
  rw [hout, NF.realX_clamp01 e _ hu0 hu1]
  simp only [NF.realX_add, NF.realX_mul, NF.realX_sub, NF.realX_neg, NF.realX_log, NF.realX_ofFloat, hdlr]
  rfl

/-! ### from normalised coordinates to the box: any pair of programs that are `quadRest` / `quadRestI` on the
normalised input -/

variable (e)
def ny (c : QCfg) (y : ℝ) : ℝ := (y - e c.box.bottom) / (e c.box.top - e c.box.bottom)
variable {e}

theorem ny_mem (hb : BoxValid e c) (y : ℝ) (hy0 : e c.box.bottom ≤ y) (hy1 : y ≤ e c.box.top) :
    0 ≤ ny e c y ∧ ny e c y ≤ 1 :=
  ExecGlue.unit_mem hb.hbt hy0 hy1

section generic
variable {P Q : ℝ → Except Err (ℝ × ℝ)}

def RunsRestI (e : Float → ℝ) (c : QCfg) (Wd U : List ℝ) (Q : ℝ → Except Err (ℝ × ℝ)) : Prop :=
  ∀ y, e c.box.bottom ≤ y → y ≤ e c.box.top → Q y = quadRestI (NF.realX e) c Wd U (ny e c y)

theorem gen_execI (hv : CoreValid e c Wd U) (hb : BoxValid e c) (hQ : RunsRestI e c Wd U Q)
    (y : ℝ) (hy0 : e c.box.bottom ≤ y) (hy1 : y ≤ e c.box.top) :
    Q y = .ok (GI e c Wd U (ny e c y) * (e c.box.right - e c.box.left) + e c.box.left,
               LdI e c Wd U (ny e c y) - e (boxLog c.box)) := by
  obtain ⟨h0, h1⟩ := ny_mem hb y hy0 hy1
  rw [hQ y hy0 hy1, restI_eq_bin hv hb.hdlr _ h0 h1]
  rfl

theorem gen_valI (hv : CoreValid e c Wd U) (hb : BoxValid e c) (hQ : RunsRestI e c Wd U Q)
    (y : ℝ) (hy0 : e c.box.bottom ≤ y) (hy1 : y ≤ e c.box.top) :
    valOf (Q y) = GI e c Wd U (ny e c y) * (e c.box.right - e c.box.left) + e c.box.left := by
  rw [gen_execI hv hb hQ y hy0 hy1]; rfl

theorem gen_ldI (hv : CoreValid e c Wd U) (hb : BoxValid e c) (hQ : RunsRestI e c Wd U Q)
    (y : ℝ) (hy0 : e c.box.bottom ≤ y) (hy1 : y ≤ e c.box.top) :
    ldOf (Q y) = LdI e c Wd U (ny e c y) - e (boxLog c.box) := by
  rw [gen_execI hv hb hQ y hy0 hy1]; rfl

end generic

/-! ### the pair of programs on the box: ONE instance for both shapes of `uh` -/

variable (e)
def yk (c : QCfg) (Wd U : List ℝ) (k : ℕ) : ℝ := e c.box.bottom + (e c.box.top - e c.box.bottom) * bl e c Wd U k
variable {e}

theorem ny_bin_iff (hb : BoxValid e c) (Wd U : List ℝ) (k : ℕ) (y : ℝ) :
    (bl e c Wd U k < ny e c y ↔ yk e c Wd U k < y) ∧ (ny e c y < bl e c Wd U k ↔ y < yk e c Wd U k) :=
  ExecGlue.unit_lt_iff hb.hbt

variable (e c Wd U) in
def binY (k : ℕ) (y : ℝ) : ℝ := binInvN e c Wd U k (ny e c y) * (e c.box.right - e c.box.left) + e c.box.left
variable (e c Wd U) in
def ldY (k : ℕ) (y : ℝ) : ℝ := binInvLdN e c Wd U k (ny e c y) - e (boxLog c.box)

/-- `P` and `Q` run the second stages of the forward and of the inverse program on widths `Wd` and (padded) unnormalised
    heights `U`: all that the whole-function theorems need to know of the executed pair, whatever the shape of `uh` -/
structure Runs (e : Float → ℝ) (c : QCfg) (Wd U : List ℝ) (P Q : ℝ → Except Err (ℝ × ℝ)) : Prop where
  core : CoreValid e c Wd U
  box : BoxValid e c
  fwd : RunsRest e c Wd U P
  bwd : RunsRestI e c Wd U Q

namespace Runs
variable {P Q : ℝ → Except Err (ℝ × ℝ)} (R : Runs e c Wd U P Q)
include R

theorem searched :
    ExecGlue.Searched Wd.length (xkW e c Wd) (yk e c Wd U) (e c.box.left) (e c.box.right) (e c.box.bottom) (e c.box.top)
      (binX e c Wd U) (fun x => idxN e c Wd (nx e c x)) (fun x => valOf (P x)) := QuadWhole.searched R.core R.box R.fwd

theorem searchedInv :
    ExecGlue.SearchedInv Wd.length (xkW e c Wd) (yk e c Wd U) (e c.box.bottom) (e c.box.top)
      (binX e c Wd U) (binY e c Wd U) (fun y => idxB e c Wd U (ny e c y)) (fun y => valOf (Q y)) :=
  (searchedInvN R.core).rescale R.box.hlr R.box.hbt (gen_valI R.core R.box R.bwd)

theorem ld_eq (x : ℝ) (h0 : e c.box.left ≤ x) (h1 : x ≤ e c.box.right) :
    ldOf (P x) = ldX e c Wd U (idxN e c Wd (nx e c x)) x := gen_ld R.core R.box R.fwd x h0 h1

theorem invLd_eq (y : ℝ) (h0 : e c.box.bottom ≤ y) (h1 : y ≤ e c.box.top) :
    ldOf (Q y) = ldY e c Wd U (idxB e c Wd U (ny e c y)) y := gen_ldI R.core R.box R.bwd y h0 h1

/-- per-bin log-abs-det law: both programs use the same constant `e (boxLog box)` (added by the forward, subtracted by the
    inverse), so nothing about its value is needed -/
theorem ld_law (k : ℕ) (hk : k < Wd.length) (y : ℝ) (_ : yk e c Wd U k ≤ y) (_ : y ≤ yk e c Wd U (k+1)) :
    ldY e c Wd U k y = - ldX e c Wd U k (binY e c Wd U k y) := by
  unfold ldY ldX binY nx
  rw [ExecGlue.scale_unit (sub_pos.2 R.box.hlr).ne', binLdN_eq]
  unfold binInvLdN binInvN Quad.pdf
  rw [ExecGlue.scale_unit (wd_pos R.core k hk).ne', neg_add, sub_eq_add_neg]

theorem invLd_eq_neg_ld (y : ℝ) (hy0 : e c.box.bottom ≤ y) (hy1 : y ≤ e c.box.top) :
    ldOf (Q y) = - ldOf (P (valOf (Q y))) :=
  R.searchedInv.invLd_eq_neg_ld R.searched R.ld_eq R.invLd_eq R.ld_law y hy0 hy1

/-- **C01 (inverse) in box coordinates**: for `y` strictly between two consecutive cdf knots (`hbl`: the `Float` constant
    `boxLog` is read as the real logarithm) -/
theorem inv_hasDerivAt
    (hbl : e (boxLog c.box) = Real.log ((e c.box.top - e c.box.bottom) / (e c.box.right - e c.box.left)))
    (k : ℕ) (hk : k < Wd.length) (y : ℝ) (h0 : yk e c Wd U k < y) (h1 : y < yk e c Wd U (k+1)) :
    HasDerivAt (fun y => valOf (Q y)) (Real.exp (ldOf (Q y))) y :=
  R.searchedInv.inv_hasDerivAt R.searched R.invLd_eq R.ld_law
    (fun k hk x h0 h1 => binX_hasDerivAt R.core R.box hbl k hk x h0.le h1.le) k hk y h0 h1

end Runs

/-! ### the executed program `quadSpline … true`, bounded case -/

variable (e)
/-- what the inverse program returns (0 on the error branch, which `exec_eq_bin` shows is not taken in the domain) -/
def inv (c : QCfg) (uw uh : List ℝ) (y : ℝ) : ℝ := valOf (quadSpline (NF.realX e) c uw uh true y)
def invLd (c : QCfg) (uw uh : List ℝ) (y : ℝ) : ℝ := ldOf (quadSpline (NF.realX e) c uw uh true y)
variable {e}
variable {uw uh : List ℝ}

theorem ny_eq (hb : BoxValid e c) (y : ℝ) :
    (NF.realX e).div ((NF.realX e).sub y ((NF.realX e).ofFloat c.box.bottom)) ((NF.realX e).ofFloat (c.box.top - c.box.bottom))
      = ny e c y := by
  unfold ny
  rw [← hb.hdbt]
  rfl

theorem runsRestI_of_pad {U : List ℝ} (hgW : ¬ (c.minW * uw.length.toFloat > 1.0))
    (hgH : ¬ (c.minH * uw.length.toFloat > 1.0)) (hb : BoxValid e c)
    (hpad : padU (NF.realX e) (Wq e c uw) (Uq e uh) uw.length = .ok U) :
    RunsRestI e c (Wq e c uw) U (quadSpline (NF.realX e) c uw uh true) := by
  intro y hy0 hy1
  have h1 : flooredSoftmax (NF.realX e) c.minW uw = Wq e c uw := rfl
  have h2 : uh.map (fun u => (NF.realX e).add ((NF.realX e).softplus u) ((NF.realX e).ofFloat 1e-3)) = Uq e uh := rfl
  rw [quadSpline_splitI (NF.realX e) c uw uh y (SplineTotal.guard_false _ _ y hy0 hy1) hgW hgH, h1, h2, hpad, ExecGlue.ok_bind,
    ny_eq hb]

theorem runsRestI_of_valid (hv : QuadValid e c uw uh) :
    RunsRestI e c (Wq e c uw) (Uq e uh) (quadSpline (NF.realX e) c uw uh true) :=
  runsRestI_of_pad hv.hgW hv.hgH hv.hbox (padU_of_ne _ _ _ _ (by rw [Uq_length, hv.hlenh]; omega))

theorem runsRestI_of_validT (hv : QuadValidT e c uw uh) :
    RunsRestI e c (Wq e c uw) (Ut e c uw uh) (quadSpline (NF.realX e) c uw uh true) :=
  runsRestI_of_pad hv.hgW hv.hgH hv.hbox (padU_tails hv)

theorem runs_of_valid (hv : QuadValid e c uw uh) :
    Runs e c (Wq e c uw) (Uq e uh) (quadSpline (NF.realX e) c uw uh false) (quadSpline (NF.realX e) c uw uh true) :=
  ⟨core_of_valid hv, hv.hbox, runsRest_of_valid hv, runsRestI_of_valid hv⟩

theorem runs_of_validT (hv : QuadValidT e c uw uh) :
    Runs e c (Wq e c uw) (Ut e c uw uh) (quadSpline (NF.realX e) c uw uh false) (quadSpline (NF.realX e) c uw uh true) :=
  ⟨core_of_validT hv, hv.hbox, runsRest_of_validT hv, runsRestI_of_validT hv⟩

theorem runs_of_either (hv : QuadValid e c uw uh ∨ QuadValidT e c uw uh) :
    ∃ U, Runs e c (Wq e c uw) U (quadSpline (NF.realX e) c uw uh false) (quadSpline (NF.realX e) c uw uh true) :=
  hv.elim (fun h => ⟨_, runs_of_valid h⟩) fun h => ⟨_, runs_of_validT h⟩

/-- the bounded quadratic element as a pair, for either shape of `uh` (`runs_of_valid`, `runs_of_validT`) -/
theorem quad_boxPair {U : List ℝ}
    (R : Runs e c (Wq e c uw) U (quadSpline (NF.realX e) c uw uh false) (quadSpline (NF.realX e) c uw uh true)) :
    ElemPair.BoxPair (quadSpline (NF.realX e) c uw uh false) (quadSpline (NF.realX e) c uw uh true)
      (e c.box.left) (e c.box.right) (e c.box.bottom) (e c.box.top) where
  dom := fun x _ h => SplineTotal.ok_dom_of_rejects (SplineTotal.quadSpline_rejects_outside _ c uw uh false x) h
  domI := fun y _ h => SplineTotal.ok_dom_of_rejects (SplineTotal.quadSpline_rejects_outside _ c uw uh true y) h
  total := fun x h0 h1 => ⟨_, gen_exec R.core R.box R.fwd x h0 h1⟩
  totalI := fun y h0 h1 => ⟨_, gen_execI R.core R.box R.bwd y h0 h1⟩
  rinv := R.searchedInv.rightInv R.searched

/-- root term well defined at the searched bin, for every normalised input of the domain -/
theorem root_facts (hv : CoreValid e c Wd U) (s : ℝ) (hs0 : 0 ≤ s) (hs1 : s ≤ 1) :
    idxB e c Wd U s < Wd.length ∧
    0 ≤ radN e c Wd U (idxB e c Wd U s) s ∧
    -(ht e c Wd U (idxB e c Wd U s) * wd Wd (idxB e c Wd U s)) - Real.sqrt (radN e c Wd U (idxB e c Wd U s) s) < 0 ∧
    0 ≤ alphaN e c Wd U (idxB e c Wd U s) s ∧ alphaN e c Wd U (idxB e c Wd U s) s ≤ 1 ∧
    (NF.realX e).clamp (NF.realX e).zero (NF.realX e).one (binInvN e c Wd U (idxB e c Wd U s) s)
      = binInvN e c Wd U (idxB e c Wd U s) s := by
  obtain ⟨hiK, hle, hle1, _⟩ := (searchedInvN hv).sel (searchedN hv) s hs0 hs1
  obtain ⟨hr, hd, ha0, ha1, _⟩ := bin_factsI hv _ hiK s hle hle1
  obtain ⟨_, hu0, hu1⟩ := binInv_mem hv _ hiK s hle hle1
  exact ⟨hiK, hr, hd, ha0, ha1, NF.realX_clamp01 e _ hu0 hu1⟩

/-! #### bounded shape (`uh` has `K+1` entries, `QuadWhole.QuadValid`) -/

/-- **C17, totality + closed form (inverse, bounded)**: for every `y ∈ [bottom, top]` the executed inverse program
    returns a value, and it is the inverse closed form of the bin the executed search over the cdf knots selected
    (rescaled to the box; log-det minus the box term) -/
theorem exec_eq_bin (hv : QuadValid e c uw uh) (y : ℝ) (hy0 : e c.box.bottom ≤ y) (hy1 : y ≤ e c.box.top) :
    quadSpline (NF.realX e) c uw uh true y
      = .ok (binInvN e c (Wq e c uw) (Uq e uh) (idxB e c (Wq e c uw) (Uq e uh) (ny e c y)) (ny e c y)
                * (e c.box.right - e c.box.left) + e c.box.left,
             binInvLdN e c (Wq e c uw) (Uq e uh) (idxB e c (Wq e c uw) (Uq e uh) (ny e c y)) (ny e c y)
                - e (boxLog c.box)) :=
  gen_execI (core_of_valid hv) hv.hbox (runsRestI_of_valid hv) y hy0 hy1

/-- **C17**: the program returns `.ok (inv y, invLd y)` on the whole domain (no `outsideDomain`, `valueError`, index error) -/
theorem exec_ok (hv : QuadValid e c uw uh) (y : ℝ) (hy0 : e c.box.bottom ≤ y) (hy1 : y ≤ e c.box.top) :
    quadSpline (NF.realX e) c uw uh true y = .ok (inv e c uw uh y, invLd e c uw uh y) := by
  unfold inv invLd; rw [exec_eq_bin hv y hy0 hy1]; rfl

/-- **C17 (the root is well defined on the whole domain, bounded)**: at the bin the search selected the radicand
    `b² − 4ac` is non-negative, the denominator `−b − √(b² − 4ac)` is strictly negative (so non-zero), the root is in
    `[0,1]`, and the final clamp to `[0,1]` is the identity.  Bins with equal edge heights (`a = 0`) are NOT excluded. -/
theorem root_welldefined (hv : QuadValid e c uw uh) (y : ℝ) (hy0 : e c.box.bottom ≤ y) (hy1 : y ≤ e c.box.top) :
    idxB e c (Wq e c uw) (Uq e uh) (ny e c y) < uw.length ∧
    0 ≤ radN e c (Wq e c uw) (Uq e uh) (idxB e c (Wq e c uw) (Uq e uh) (ny e c y)) (ny e c y) ∧
    -(ht e c (Wq e c uw) (Uq e uh) (idxB e c (Wq e c uw) (Uq e uh) (ny e c y))
        * wd (Wq e c uw) (idxB e c (Wq e c uw) (Uq e uh) (ny e c y)))
      - Real.sqrt (radN e c (Wq e c uw) (Uq e uh) (idxB e c (Wq e c uw) (Uq e uh) (ny e c y)) (ny e c y)) < 0 ∧
    0 ≤ alphaN e c (Wq e c uw) (Uq e uh) (idxB e c (Wq e c uw) (Uq e uh) (ny e c y)) (ny e c y) ∧
    alphaN e c (Wq e c uw) (Uq e uh) (idxB e c (Wq e c uw) (Uq e uh) (ny e c y)) (ny e c y) ≤ 1 ∧
    (NF.realX e).clamp (NF.realX e).zero (NF.realX e).one
        (binInvN e c (Wq e c uw) (Uq e uh) (idxB e c (Wq e c uw) (Uq e uh) (ny e c y)) (ny e c y))
      = binInvN e c (Wq e c uw) (Uq e uh) (idxB e c (Wq e c uw) (Uq e uh) (ny e c y)) (ny e c y) := by
  obtain ⟨h0, h1⟩ := ny_mem hv.hbox y hy0 hy1
  have := root_facts (core_of_valid hv) (ny e c y) h0 h1
  rw [Wq_length] at this
  exact this

theorem idx_inv (hv : QuadValid e c uw uh) (y : ℝ) (hy0 : e c.box.bottom ≤ y) (hy1 : y ≤ e c.box.top) :
    idxN e c (Wq e c uw) (nx e c (inv e c uw uh y)) = idxB e c (Wq e c uw) (Uq e uh) (ny e c y) :=
  (runs_of_valid hv).searchedInv.idx_inv (runs_of_valid hv).searched y hy0 hy1

/-- **C09 (inverse)**: `bottom ↦ left`, `top ↦ right`, exactly -/
theorem inv_endpoints (hv : QuadValid e c uw uh) :
    inv e c uw uh (e c.box.bottom) = e c.box.left ∧ inv e c uw uh (e c.box.top) = e c.box.right :=
  (runs_of_valid hv).searchedInv.inv_endpoints (runs_of_valid hv).searched

/-! #### tails shape (`uh` has `K−1` entries, `QuadWhole.QuadValidT`): same statements on the padded heights `Ut` -/

theorem exec_ok_T (hv : QuadValidT e c uw uh) (y : ℝ) (hy0 : e c.box.bottom ≤ y) (hy1 : y ≤ e c.box.top) :
    quadSpline (NF.realX e) c uw uh true y = .ok (inv e c uw uh y, invLd e c uw uh y) := by
  unfold inv invLd; rw [gen_execI (core_of_validT hv) hv.hbox (runsRestI_of_validT hv) y hy0 hy1]; rfl

theorem root_welldefined_T (hv : QuadValidT e c uw uh) (y : ℝ) (hy0 : e c.box.bottom ≤ y) (hy1 : y ≤ e c.box.top) :
    idxB e c (Wq e c uw) (Ut e c uw uh) (ny e c y) < uw.length ∧
    0 ≤ radN e c (Wq e c uw) (Ut e c uw uh) (idxB e c (Wq e c uw) (Ut e c uw uh) (ny e c y)) (ny e c y) ∧
    -(ht e c (Wq e c uw) (Ut e c uw uh) (idxB e c (Wq e c uw) (Ut e c uw uh) (ny e c y))
        * wd (Wq e c uw) (idxB e c (Wq e c uw) (Ut e c uw uh) (ny e c y)))
      - Real.sqrt (radN e c (Wq e c uw) (Ut e c uw uh) (idxB e c (Wq e c uw) (Ut e c uw uh) (ny e c y)) (ny e c y)) < 0 ∧
    0 ≤ alphaN e c (Wq e c uw) (Ut e c uw uh) (idxB e c (Wq e c uw) (Ut e c uw uh) (ny e c y)) (ny e c y) ∧
    alphaN e c (Wq e c uw) (Ut e c uw uh) (idxB e c (Wq e c uw) (Ut e c uw uh) (ny e c y)) (ny e c y) ≤ 1 ∧
    (NF.realX e).clamp (NF.realX e).zero (NF.realX e).one
        (binInvN e c (Wq e c uw) (Ut e c uw uh) (idxB e c (Wq e c uw) (Ut e c uw uh) (ny e c y)) (ny e c y))
      = binInvN e c (Wq e c uw) (Ut e c uw uh) (idxB e c (Wq e c uw) (Ut e c uw uh) (ny e c y)) (ny e c y) := by
  obtain ⟨h0, h1⟩ := ny_mem hv.hbox y hy0 hy1
  have := root_facts (core_of_validT hv) (ny e c y) h0 h1
  rw [Wq_length] at this
  exact this

theorem idx_inv_T (hv : QuadValidT e c uw uh) (y : ℝ) (hy0 : e c.box.bottom ≤ y) (hy1 : y ≤ e c.box.top) :
    idxN e c (Wq e c uw) (nx e c (inv e c uw uh y)) = idxB e c (Wq e c uw) (Ut e c uw uh) (ny e c y) :=
  (runs_of_validT hv).searchedInv.idx_inv (runs_of_validT hv).searched y hy0 hy1

theorem inv_endpoints_T (hv : QuadValidT e c uw uh) :
    inv e c uw uh (e c.box.bottom) = e c.box.left ∧ inv e c uw uh (e c.box.top) = e c.box.right :=
  (runs_of_validT hv).searchedInv.inv_endpoints (runs_of_validT hv).searched

/-! ### non-vacuity: the statements at the concrete accepted configurations of `QuadWhole` -/


theorem example_roundtrip (y : ℝ) (hy0 : 0 ≤ y) (hy1 : y ≤ 1) :
    quadSpline (NF.realX eNV) cNV [0] [0, 0] true y = .ok (inv eNV cNV [0] [0, 0] y, invLd eNV cNV [0] [0, 0] y) ∧
    val eNV cNV [0] [0, 0] (inv eNV cNV [0] [0, 0] y) = y ∧
    invLd eNV cNV [0] [0, 0] y = - ld eNV cNV [0] [0, 0] (inv eNV cNV [0] [0, 0] y) := by
  have hb : eNV cNV.box.bottom = 0 := by simp [eNV, cNV, FloatFacts.zero_beq_zero]
  have ht : eNV cNV.box.top = 1 := by simp [eNV, cNV, FloatFacts.one_beq_zero]
  have h0 : eNV cNV.box.bottom ≤ y := by rw [hb]; exact hy0
  have h1 : y ≤ eNV cNV.box.top := by rw [ht]; exact hy1
  exact ⟨exec_ok valid_example y h0 h1, (runs_of_valid valid_example).searchedInv.val_inv (runs_of_valid valid_example).searched y h0 h1,
    (runs_of_valid valid_example).invLd_eq_neg_ld y h0 h1⟩

theorem example_roundtrip_T (y : ℝ) (hy0 : 0 ≤ y) (hy1 : y ≤ 1) :
    quadSpline (NF.realX eT) cNV [0, 0] [0] true y = .ok (inv eT cNV [0, 0] [0] y, invLd eT cNV [0, 0] [0] y) ∧
    val eT cNV [0, 0] [0] (inv eT cNV [0, 0] [0] y) = y ∧
    invLd eT cNV [0, 0] [0] y = - ld eT cNV [0, 0] [0] (inv eT cNV [0, 0] [0] y) := by
  have hb : eT cNV.box.bottom = 0 := by simp [eT, cNV, FloatFacts.zero_beq_zero]
  have ht : eT cNV.box.top = 1 := by simp [eT, cNV, FloatFacts.one_beq_zero, FloatFacts.one_beq_half]
  have h0 : eT cNV.box.bottom ≤ y := by rw [hb]; exact hy0
  have h1 : y ≤ eT cNV.box.top := by rw [ht]; exact hy1
  exact ⟨exec_ok_T valid_example_T y h0 h1, (runs_of_validT valid_example_T).searchedInv.val_inv (runs_of_validT valid_example_T).searched y h0 h1,
    (runs_of_validT valid_example_T).invLd_eq_neg_ld y h0 h1⟩


/-! ### knot ↦ knot, derivative between two consecutive cdf knots -/

theorem inv_knot (hv : QuadValid e c uw uh) (j : ℕ) (hj : j ≤ uw.length) :
    inv e c uw uh (yk e c (Wq e c uw) (Uq e uh) j) = xk e c uw j :=
  (runs_of_valid hv).searchedInv.inv_knot (runs_of_valid hv).searched j ((Wq_length c uw).symm ▸ hj)

theorem inv_knot_T (hv : QuadValidT e c uw uh) (j : ℕ) (hj : j ≤ uw.length) :
    inv e c uw uh (yk e c (Wq e c uw) (Ut e c uw uh) j) = xk e c uw j :=
  (runs_of_validT hv).searchedInv.inv_knot (runs_of_validT hv).searched j ((Wq_length c uw).symm ▸ hj)

/-- **C01 (inverse) in box coordinates**: for `y` strictly between two consecutive cdf knots -/
theorem inv_hasDerivAt_y (hv : QuadValid e c uw uh)
    (hbl : e (boxLog c.box) = Real.log ((e c.box.top - e c.box.bottom) / (e c.box.right - e c.box.left)))
    (k : ℕ) (hk : k < uw.length) (y : ℝ)
    (h0 : yk e c (Wq e c uw) (Uq e uh) k < y) (h1 : y < yk e c (Wq e c uw) (Uq e uh) (k+1)) :
    HasDerivAt (inv e c uw uh) (Real.exp (invLd e c uw uh y)) y :=
  (runs_of_valid hv).inv_hasDerivAt hbl k ((Wq_length c uw).symm ▸ hk) y h0 h1

theorem inv_hasDerivAt_y_T (hv : QuadValidT e c uw uh)
    (hbl : e (boxLog c.box) = Real.log ((e c.box.top - e c.box.bottom) / (e c.box.right - e c.box.left)))
    (k : ℕ) (hk : k < uw.length) (y : ℝ)
    (h0 : yk e c (Wq e c uw) (Ut e c uw uh) k < y) (h1 : y < yk e c (Wq e c uw) (Ut e c uw uh) (k+1)) :
    HasDerivAt (inv e c uw uh) (Real.exp (invLd e c uw uh y)) y :=
  (runs_of_validT hv).inv_hasDerivAt hbl k ((Wq_length c uw).symm ▸ hk) y h0 h1

/-! ### outside the domain: the inverse program raises `InputOutsideDomain` (so `[bottom, top]` is exactly where it is total) -/

theorem outside_domain (c : QCfg) (uw uh : List ℝ) (y : ℝ) (hy : y < e c.box.bottom ∨ e c.box.top < y) :
    quadSpline (NF.realX e) c uw uh true y = .error .outsideDomain :=
  SplineTotal.quadSpline_rejects_outside _ c uw uh true y ((SplineTotal.guard_real e _ _ y).mpr hy)

/-! ### F2 made concrete: the accepted configuration `QuadWhole.valid_example` consists of ONE FLAT bin -/

/-- in `valid_example` (one bin, both height parameters 0) the two edge heights of the bin are equal, i.e. `a = 0`:
    exactly the situation in which the textbook root is `0/0`; `example_roundtrip` holds for it -/
theorem example_flat_bin :
    ht eNV cNV (Wq eNV cNV [0]) (Uq eNV [0, 0]) 0 = ht eNV cNV (Wq eNV cNV [0]) (Uq eNV [0, 0]) 1 := by
  simp [ht, hts, Uq]

theorem example_flat_root (s : ℝ) :
    alphaN eNV cNV (Wq eNV cNV [0]) (Uq eNV [0, 0]) 0 s
      = (s - bl eNV cNV (Wq eNV cNV [0]) (Uq eNV [0, 0]) 0)
          / (ht eNV cNV (Wq eNV cNV [0]) (Uq eNV [0, 0]) 0 * wd (Wq eNV cNV [0]) 0) :=
  (alphaN_flat (core_of_valid valid_example) 0 (by rw [Wq_length]; simp) s example_flat_bin).2


end
end QuadInverseWhole
