import NflowsModel.Core.Structure
import NflowsModel.Core.Wrappers
import NflowsModel.Core.Density
import NflowsModel.Core.FlowPairing
import NflowsModel.Lemmas.StructureExec
import NflowsModel.Lemmas.RowErr
import NflowsModel.Lemmas.RowIndependenceMore
import NflowsModel.Lemmas.Pairing
import Mathlib.Tactic
/-!
# Lemmas/FlowRowsExec — `Flow.log_prob` of a batch over the EXECUTED transform passes (C12), and the sampling side (C04)

`Lemmas/RowIndependenceMore.lean` proves row independence at a pure list level, for transforms that never raise.  Here the passes are the
`TResult`-returning, `err`-carrying `couplingApply` / `arApply` / `cdfApply` of `Core/Structure.lean` on flat `[B, w]` arrays, composed by
`Wrap.cascade` (`CompositeTransform._cascade`), and the base density is an `Except`-returning `log_prob` of `Core/Density.lean`; generic in
`o : XOps α`, so everything holds bit for bit for the `Float` run.  The notion is `RowWiseStage`: two accepted calls agree on the rows they
share, a batch is accepted iff every row alone is, one log-det per row; it is closed under `CompositeTransform` and holds of the executed
passes.  From it: `flowLogProbExec` (flows/base.py:42-49) is row independent in values and in errors, and `flowSalpExec` (flows/base.py:77-106
on the merged `[R·n, w]` batch) pairs sample `[i, j]` with noise row `[i, j]` and context row `i`, consistently with `log_prob` at every
noise row on which the forward pass undoes the accepted inverse call (`flowSalpExec_consistent_at`; `RoundTripStage` asks that of every
array and is too strong for element-wise stages: see its docstring).  Concrete instances at the toy `Int` semantics of
`RowIndependenceMore` close the file.

Hypotheses that are not theorems: the conditioner / autoregressive / embedding / context-encoder NETWORKS are row-wise (`NetRowWise`,
`EmbRowWise`, `EncRowWise`; the networks are not modelled at this level).  All stages of a composite have one width `w`.  Rows are compared
with `getElem?` (`RowEq`), so no size hypothesis on the arrays is needed, except `R * cw ≤ (emb R ctx).size` for `repeat_rows`.  Forced:
`0 < B` in `flowExec_raises_iff` (an empty batch can be rejected by the base density's shape check while there is no row to reject).
-/
open NF NF.StructureExec NF.RowErr NF.RowIndependenceMore NF.Density

namespace NF.FlowRowsExec
variable {α : Type}

/-! ## 1. row-wise batch stages and `CompositeTransform` -/

def RowEq (w b b' : Nat) (x x' : Array α) : Prop := ∀ k, k < w → x[b * w + k]? = x'[b' * w + k]?

theorem RowEq.refl (w b : Nat) (x : Array α) : RowEq w b b x x := fun _ _ => rfl

theorem RowEq.symm {w b b' : Nat} {x x' : Array α} (h : RowEq w b b' x x') : RowEq w b' b x' x :=
  fun k hk => (h k hk).symm

theorem RowEq.trans {w b b' b'' : Nat} {x x' x'' : Array α} (h : RowEq w b b' x x') (h' : RowEq w b' b'' x' x'') :
    RowEq w b b'' x x'' := fun k hk => (h k hk).trans (h' k hk)

/-! `StructureExec.RowAgree C S` is the same relation in `[_, C, S]` coordinates: `RowAgree C S = RowEq (C * S)`
(`rowAgree_of_rowEq`, `rowEq_of_rowAgree`; the flat index `flatIdx C S b ch s` is `b * (C * S) + (ch * S + s)`). -/

theorem rowAgree_of_rowEq {C S b b' : Nat} {x x' : Array α} (h : RowEq (C * S) b b' x x') : RowAgree C S b b' x x' := by
  intro ch s hch hs
  rw [flatIdx_row, flatIdx_row]
  exact h _ (RowMajor.lt2 hch hs)

theorem rowEq_of_rowAgree {C S b b' : Nat} {x x' : Array α} (h : RowAgree C S b b' x x') : RowEq (C * S) b b' x x' := by
  intro k hk
  have hS : 0 < S := Nat.pos_of_lt_mul_left hk
  have hch : k / S < C := Nat.div_lt_of_lt_mul (by rwa [Nat.mul_comm] at hk)
  have hs : k % S < S := Nat.mod_lt _ hS
  have hk' : k = (k / S) * S + k % S := by rw [Nat.mul_comm]; exact (Nat.div_add_mod k S).symm
  have := h (k / S) (k % S) hch hs
  rw [flatIdx_row, flatIdx_row, ← hk'] at this
  exact this

/-- what a transform call returns: `(outputs, logabsdet)` (flat `[B, w]`, one log-det per row) or the exception raised -/
abbrev BRes (α : Type) := Except Err (Array α × List α)

/-- a transform pass at batch level: batch size, flat input `[B, w]`, flat (embedded) context `[B, cw]` -/
abbrev BStage (α : Type) := Nat → Array α → Array α → BRes α

def ofT (r : TResult α) : BRes α :=
  match r.err with
  | some e => .error e
  | none => .ok (r.out, r.ld)

theorem ofT_ok_iff (r : TResult α) : (∃ p, ofT r = .ok p) ↔ r.err = none := by
  unfold ofT
  cases r.err with
  | none => exact ⟨fun _ => rfl, fun _ => ⟨_, rfl⟩⟩
  | some e => exact ⟨fun ⟨_, h⟩ => (nomatch h), fun h => (nomatch h)⟩

theorem ofT_eq_ok {r : TResult α} {y : Array α} {l : List α} (h : ofT r = .ok (y, l)) :
    r.err = none ∧ y = r.out ∧ l = r.ld := by
  unfold ofT at h
  cases he : r.err with
  | some e => rw [he] at h; cases h
  | none => rw [he] at h; cases h; exact ⟨rfl, rfl, rfl⟩

theorem ofT_eq_error {r : TResult α} {e : Err} (h : ofT r = .error e) : r.err = some e := by
  unfold ofT at h
  cases he : r.err with
  | some e' => rw [he] at h; cases h; rfl
  | none => rw [he] at h; cases h

theorem ofT_of_err_none {r : TResult α} (h : r.err = none) : ofT r = .ok (r.out, r.ld) := by
  unfold ofT; rw [h]

/-- **a batch stage is row-wise**:
    * `agree`: two accepted calls (batch sizes may differ: e.g. the row evaluated alone) whose inputs and contexts agree on row
      `b` / `b'` agree on that row of the outputs and on that entry of the log-det;
    * `accept`: the batch call is accepted iff every row evaluated alone (any one-row arrays `xr b`, `cr b` holding row `b` of
      the input and of the context) is accepted;
    * `ld_len`: one log-det per row. -/
structure RowWiseStage (w cw : Nat) (T : BStage α) : Prop where
  agree : ∀ {B B' b b' : Nat} (x x' c c' y y' : Array α) (l l' : List α), b < B → b' < B' →
    RowEq w b b' x x' → RowEq cw b b' c c' → T B x c = .ok (y, l) → T B' x' c' = .ok (y', l') →
    RowEq w b b' y y' ∧ l[b]? = l'[b']?
  accept : ∀ (B : Nat) (x c : Array α) (xr cr : Nat → Array α), (∀ b, b < B → RowEq w b 0 x (xr b)) →
    (∀ b, b < B → RowEq cw b 0 c (cr b)) →
    ((∃ r, T B x c = .ok r) ↔ ∀ b, b < B → ∃ r, T 1 (xr b) (cr b) = .ok r)
  ld_len : ∀ (B : Nat) (x c y : Array α) (l : List α), T B x c = .ok (y, l) → l.length = B

/-- `total_logabsdet = inputs.new_zeros(batch_size)`, `total_logabsdet += logabsdet` (transforms/base.py:48, 51) -/
def ldLD (o : XOps α) (B : Nat) : Wrap.LD (List α) := ⟨List.replicate B o.zero, List.zipWith o.add⟩

/-- `CompositeTransform(ts).forward` on a batch: `Wrap.cascade` over the batch-level passes (the first stage that raises aborts
    the call; log-dets are added row by row onto zeros) -/
def compStage (o : XOps α) (ts : List (BStage α)) : BStage α :=
  fun B x c => Wrap.cascade (ldLD o B) (ts.map fun t => t B) x c

theorem cascadeFrom_cons_ok {T C L : Type} (A : Wrap.LD L) (f : T → C → Except Err (T × L)) (fs) (x : T) (l : L) (c : C)
    (r : T × L) :
    Wrap.cascadeFrom A (f :: fs) x l c = .ok r ↔
      ∃ y ld, f x c = .ok (y, ld) ∧ Wrap.cascadeFrom A fs y (A.add l ld) c = .ok r := by
  rw [Wrap.cascadeFrom]
  cases h : f x c with
  | error e => exact ⟨fun h' => (nomatch h'), fun ⟨_, _, h', _⟩ => (nomatch h')⟩
  | ok p =>
    obtain ⟨y, ld⟩ := p
    exact ⟨fun h' => ⟨y, ld, rfl, h'⟩, fun ⟨_, _, h1, h2⟩ => by cases h1; exact h2⟩

theorem cascadeFrom_cons_error {T C L : Type} (A : Wrap.LD L) (f : T → C → Except Err (T × L)) (fs) (x : T) (l : L) (c : C)
    (e : Err) :
    Wrap.cascadeFrom A (f :: fs) x l c = .error e ↔
      f x c = .error e ∨ ∃ y ld, f x c = .ok (y, ld) ∧ Wrap.cascadeFrom A fs y (A.add l ld) c = .error e := by
  rw [Wrap.cascadeFrom]
  cases h : f x c with
  | error e' => exact ⟨Or.inl, fun h' => h'.elim id fun ⟨_, _, h1, _⟩ => (nomatch h1)⟩
  | ok p =>
    obtain ⟨y, ld⟩ := p
    exact ⟨fun h' => Or.inr ⟨y, ld, rfl, h'⟩, fun h' => h'.elim (fun h1 => (nomatch h1)) fun ⟨_, _, h1, h2⟩ => by
      cases h1; exact h2⟩

section comp
variable (o : XOps α) {w cw : Nat}

theorem comp_agree_from (ts : List (BStage α)) (hts : ∀ t ∈ ts, RowWiseStage w cw t) {B B' b b' : Nat}
    (hb : b < B) (hb' : b' < B') (c c' : Array α) (hc : RowEq cw b b' c c') :
    ∀ (x x' : Array α) (l0 l0' : List α) (y y' : Array α) (l l' : List α), RowEq w b b' x x' → l0[b]? = l0'[b']? →
      Wrap.cascadeFrom (ldLD o B) (ts.map fun t => t B) x l0 c = .ok (y, l) →
      Wrap.cascadeFrom (ldLD o B') (ts.map fun t => t B') x' l0' c' = .ok (y', l') →
      RowEq w b b' y y' ∧ l[b]? = l'[b']? := by
  induction ts with
  | nil =>
    intro x x' l0 l0' y y' l l' hx hl h h'
    simp only [List.map_nil, Wrap.cascadeFrom, Except.ok.injEq, Prod.mk.injEq] at h h'
    obtain ⟨rfl, rfl⟩ := h
    obtain ⟨rfl, rfl⟩ := h'
    exact ⟨hx, hl⟩
  | cons t ts ih =>
    intro x x' l0 l0' y y' l l' hx hl h h'
    rw [List.map_cons, cascadeFrom_cons_ok] at h h'
    obtain ⟨y1, ld1, h1, h2⟩ := h
    obtain ⟨y1', ld1', h1', h2'⟩ := h'
    obtain ⟨hy1, hld1⟩ := (hts t List.mem_cons_self).agree x x' c c' y1 y1' ld1 ld1' hb hb' hx hc h1 h1'
    refine ih (fun t' ht' => hts t' (List.mem_cons_of_mem _ ht')) y1 y1' _ _ y y' l l' hy1 ?_ h2 h2'
    simp only [ldLD, List.getElem?_zipWith, hl, hld1]

theorem comp_len_from (ts : List (BStage α)) (hts : ∀ t ∈ ts, RowWiseStage w cw t) (B : Nat) (c : Array α) :
    ∀ (x : Array α) (l0 : List α) (y : Array α) (l : List α), l0.length = B →
      Wrap.cascadeFrom (ldLD o B) (ts.map fun t => t B) x l0 c = .ok (y, l) → l.length = B := by
  induction ts with
  | nil =>
    intro x l0 y l hl h
    simp only [List.map_nil, Wrap.cascadeFrom, Except.ok.injEq, Prod.mk.injEq] at h
    obtain ⟨rfl, rfl⟩ := h
    exact hl
  | cons t ts ih =>
    intro x l0 y l hl h
    rw [List.map_cons, cascadeFrom_cons_ok] at h
    obtain ⟨y1, ld1, h1, h2⟩ := h
    have := (hts t List.mem_cons_self).ld_len B x c y1 ld1 h1
    exact ih (fun t' ht' => hts t' (List.mem_cons_of_mem _ ht')) y1 _ y l
      (by simp [ldLD, hl, this]) h2

def outOr (r : BRes α) : Array α := match r with | .ok (y, _) => y | .error _ => #[]

/-- Acceptance does not depend on the accumulated log-dets, so `l0` and `l1 b` are arbitrary: the induction needs them so, because the
    batch and the one-row cascades accumulate different lists. -/
theorem comp_accept_from (ts : List (BStage α)) (hts : ∀ t ∈ ts, RowWiseStage w cw t) (B : Nat) (c : Array α)
    (cr : Nat → Array α) (hc : ∀ b, b < B → RowEq cw b 0 c (cr b)) :
    ∀ (x : Array α) (xr : Nat → Array α) (l0 : List α) (l1 : Nat → List α), (∀ b, b < B → RowEq w b 0 x (xr b)) →
      ((∃ r, Wrap.cascadeFrom (ldLD o B) (ts.map fun t => t B) x l0 c = .ok r) ↔
        ∀ b, b < B → ∃ r, Wrap.cascadeFrom (ldLD o 1) (ts.map fun t => t 1) (xr b) (l1 b) (cr b) = .ok r) := by
  induction ts with
  | nil =>
    intro x xr l0 l1 hx
    simp [Wrap.cascadeFrom]
  | cons t ts ih =>
    intro x xr l0 l1 hx
    have ht := hts t List.mem_cons_self
    have hts' : ∀ t' ∈ ts, RowWiseStage w cw t' := fun t' ht' => hts t' (List.mem_cons_of_mem _ ht')
    have hacc := ht.accept B x c xr cr hx hc
    simp only [List.map_cons]
    constructor
    · rintro ⟨r, hr⟩ b hb
      rw [cascadeFrom_cons_ok] at hr
      obtain ⟨y1, ld1, h1, h2⟩ := hr
      obtain ⟨⟨yb, ldb⟩, hyb⟩ := hacc.1 ⟨_, h1⟩ b hb
      -- the rest of the cascade on the batch output vs on the outputs of the rows alone
      have hx' : ∀ b, b < B → RowEq w b 0 y1 (outOr (t 1 (xr b) (cr b))) := by
        intro b' hb'
        obtain ⟨⟨yb', ldb'⟩, hyb'⟩ := hacc.1 ⟨_, h1⟩ b' hb'
        rw [hyb']
        exact (ht.agree x (xr b') c (cr b') y1 yb' ld1 ldb' hb' Nat.one_pos (hx b' hb') (hc b' hb') h1 hyb').1
      have := (ih hts' y1 (fun b => outOr (t 1 (xr b) (cr b))) ((ldLD o B).add l0 ld1)
        (fun b => (ldLD o 1).add (l1 b) (match t 1 (xr b) (cr b) with | .ok (_, l) => l | .error _ => [])) hx').1 ⟨r, h2⟩ b hb
      obtain ⟨r', hr'⟩ := this
      refine ⟨r', ?_⟩
      rw [cascadeFrom_cons_ok]
      refine ⟨yb, ldb, hyb, ?_⟩
      rw [hyb] at hr'
      exact hr'
    · intro hall
      have hhead : ∀ b, b < B → ∃ r, t 1 (xr b) (cr b) = .ok r := by
        intro b hb
        obtain ⟨r, hr⟩ := hall b hb
        rw [cascadeFrom_cons_ok] at hr
        obtain ⟨y1, ld1, h1, -⟩ := hr
        exact ⟨_, h1⟩
      obtain ⟨⟨y1, ld1⟩, h1⟩ := hacc.2 hhead
      have hx' : ∀ b, b < B → RowEq w b 0 y1 (outOr (t 1 (xr b) (cr b))) := by
        intro b' hb'
        obtain ⟨⟨yb', ldb'⟩, hyb'⟩ := hhead b' hb'
        rw [hyb']
        exact (ht.agree x (xr b') c (cr b') y1 yb' ld1 ldb' hb' Nat.one_pos (hx b' hb') (hc b' hb') h1 hyb').1
      have := (ih hts' y1 (fun b => outOr (t 1 (xr b) (cr b))) ((ldLD o B).add l0 ld1)
        (fun b => (ldLD o 1).add (l1 b) (match t 1 (xr b) (cr b) with | .ok (_, l) => l | .error _ => [])) hx').2 (by
          intro b hb
          obtain ⟨r, hr⟩ := hall b hb
          rw [cascadeFrom_cons_ok] at hr
          obtain ⟨yb, ldb, hyb, h2⟩ := hr
          rw [hyb]
          exact ⟨r, h2⟩)
      obtain ⟨r, hr⟩ := this
      exact ⟨r, by rw [cascadeFrom_cons_ok]; exact ⟨y1, ld1, h1, hr⟩⟩

theorem rowWise_compStage (ts : List (BStage α)) (hts : ∀ t ∈ ts, RowWiseStage w cw t) :
    RowWiseStage w cw (compStage o ts) where
  agree := by
    intro B B' b b' x x' c c' y y' l l' hb hb' hx hc h h'
    exact comp_agree_from o ts hts hb hb' c c' hc x x' _ _ y y' l l' hx
      (by simp [ldLD, hb, hb']) h h'
  accept := by
    intro B x c xr cr hx hc
    exact comp_accept_from o ts hts B c cr hc x xr _ (fun _ => (ldLD o 1).zero) hx
  ld_len := by
    intro B x c y l h
    exact comp_len_from o ts hts B c x _ y l (by simp [ldLD]) h

end comp

/-! ## 2. the executed passes are row-wise stages -/

section idx

theorem flatMap_range_getElem? {β : Type} (g : Nat → List β) (m B b k : Nat) (hlen : ∀ b, (g b).length = m)
    (hb : b < B) (hk : k < m) : ((List.range B).flatMap g)[b * m + k]? = (g b)[k]? := by
  have h := Pairing.mergeLeading_get ((List.range B).map g) m b k
    (fun l hl => by obtain ⟨b, _, rfl⟩ := List.mem_map.mp hl; exact hlen b) (by rwa [List.length_map, List.length_range]) hk
  rwa [Pairing.mergeLeading, ← List.flatMap_def, List.getElem?_map, List.getElem?_range hb, Option.map_some,
    Option.bind_some] at h

theorem flatMap_map_range_length {β : Type} (idx : List Nat) (S : Nat) (f : Nat → Nat → β) :
    (idx.flatMap fun c => (List.range S).map (f c)).length = idx.length * S := by
  induction idx with
  | nil => simp
  | cons a t ih => rw [List.flatMap_cons, List.length_append, ih]; simp [Nat.add_mul, Nat.add_comm]

theorem gatherCh_rowEq_idx (S : Nat) {C B B' b b' : Nat} {idx : List Nat} (x x' : Array α) (d : α)
    (hb : b < B) (hb' : b' < B')
    (h : ∀ ch s, ch ∈ idx → s < S → x[flatIdx C S b ch s]? = x'[flatIdx C S b' ch s]?) :
    RowEq (idx.length * S) b b' (gatherCh x B C S idx d) (gatherCh x' B' C S idx d) := by
  intro k hk
  unfold gatherCh
  rw [List.getElem?_toArray, List.getElem?_toArray,
    flatMap_range_getElem? _ (idx.length * S) B b k (fun _ => flatMap_map_range_length idx S _) hb hk,
    flatMap_range_getElem? _ (idx.length * S) B' b' k (fun _ => flatMap_map_range_length idx S _) hb' hk]
  congr 1
  apply List.flatMap_congr
  intro ch hch
  apply List.map_congr_left
  intro s hs
  exact getD_congr (h ch s hch (List.mem_range.1 hs)) d

theorem gatherCh_rowEq {C S B B' b b' : Nat} {idx : List Nat} (hidx : ∀ ch ∈ idx, ch < C) (x x' : Array α) (d : α)
    (hb : b < B) (hb' : b' < B') (h : RowAgree C S b b' x x') :
    RowEq (idx.length * S) b b' (gatherCh x B C S idx d) (gatherCh x' B' C S idx d) :=
  gatherCh_rowEq_idx S x x' d hb hb' fun ch s hch hs => h ch s (hidx ch hch) hs

end idx

/-- a conditioner / embedding network at batch level is row-wise: row `b` of its output (`[B, wout]`) depends only on row `b` of its
    two inputs (`[B, win]`, `[B, cin]`), also across batch sizes.  (The networks themselves are not modelled: this is the hypothesis
    the row-vs-batch oracle checks numerically.) -/
def NetRowWise (win cin wout : Nat) (net : Nat → Array α → Array α → Array α) : Prop :=
  ∀ {B B' b b' : Nat} (x x' c c' : Array α), b < B → b' < B' → RowEq win b b' x x' → RowEq cin b b' c c' →
    RowEq wout b b' (net B x c) (net B' x' c')

section elemwise
variable (o : XOps α)

theorem elemwise_ld_length (B n : Nat) (el : Nat → Nat → ElRes α) : (elemwiseResult o B n el).ld.length = B := by
  simp only [elemwiseResult, sumRows, List.length_map, List.length_range]

theorem rowWise_elemwise (n cw : Nat) (elOf : Nat → Array α → Array α → Nat → Nat → ElRes α)
    (hel : ∀ {B B' b b' : Nat} (x x' c c' : Array α), b < B → b' < B' → RowEq n b b' x x' → RowEq cw b b' c c' →
      ∀ i, i < n → elOf B x c b i = elOf B' x' c' b' i) :
    RowWiseStage n cw (fun B x c => ofT (elemwiseResult o B n (elOf B x c))) where
  agree := by
    intro B B' b b' x x' c c' y y' l l' hb hb' hx hc h h'
    obtain ⟨-, rfl, rfl⟩ := ofT_eq_ok h
    obtain ⟨-, rfl, rfl⟩ := ofT_eq_ok h'
    exact elemwise_row_congr o _ n _ _ hb hb' (hel x x' c c' hb hb' hx hc)
  accept := by
    intro B x c xr cr hx hc
    simp only [ofT_ok_iff]
    rw [elemwise_err_rows, List.findSome?_eq_none_iff]
    simp only [List.mem_range]
    constructor
    · intro h b hb
      rw [← h b hb]
      exact (elemwise_err_one_congr o n _ _ (fun i hi => hel x (xr b) c (cr b) hb Nat.one_pos (hx b hb) (hc b hb) i hi)).symm
    · intro h b hb
      rw [← h b hb]
      exact elemwise_err_one_congr o n _ _ (fun i hi => hel x (xr b) c (cr b) hb Nat.one_pos (hx b hb) (hc b hb) i hi)
  ld_len := by
    intro B x c y l h
    obtain ⟨-, -, rfl⟩ := ofT_eq_ok h
    exact elemwise_ld_length o B n _

/-- which error wins in an element-wise stage: the first error, in row order, among the rows evaluated alone -/
theorem elemwise_stage_error_first (n cw : Nat) (elOf : Nat → Array α → Array α → Nat → Nat → ElRes α)
    (hel : ∀ {B B' b b' : Nat} (x x' c c' : Array α), b < B → b' < B' → RowEq n b b' x x' → RowEq cw b b' c c' →
      ∀ i, i < n → elOf B x c b i = elOf B' x' c' b' i)
    (B : Nat) (x c : Array α) (xr cr : Nat → Array α) (hx : ∀ b, b < B → RowEq n b 0 x (xr b))
    (hc : ∀ b, b < B → RowEq cw b 0 c (cr b)) :
    (elemwiseResult o B n (elOf B x c)).err
      = (List.range B).findSome? fun b => (elemwiseResult o 1 n (elOf 1 (xr b) (cr b))).err := by
  rw [elemwise_err_rows]
  apply findSome?_congr'
  intro b hb
  have hb' := List.mem_range.1 hb
  exact elemwise_err_one_congr o n _ _ (fun i hi => hel x (xr b) c (cr b) hb' Nat.one_pos (hx b hb') (hc b hb') i hi)

end elemwise

section cdf
variable (o : XOps α) (c : ElCfg) (n : Nat) (inverse : Bool) (params : Array α)

/-- **`Piecewise*CDF` as a batch-level call** (nonlinearities.py:238-475; parameters shared across the batch, context ignored) -/
def cdfStage : BStage α := fun B x _ => ofT (cdfApply o c B n x params inverse)

theorem rowWise_cdfStage (cw : Nat) : RowWiseStage n cw (cdfStage o c n inverse params) :=
  rowWise_elemwise o n cw (fun _ x _ => cdfEl o c n x params inverse)
    (fun x x' _ _ _ _ hx _ i hi => by
      unfold cdfEl
      rw [getD_congr (hx i hi)])

end cdf

section ar
variable (o : XOps α) (c : ElCfg) (F : Nat) (inverse : Bool)

/-- conditioner outputs per feature of the autoregressive pass (the same number as `ARWhole.pw`: `StageMore.arMult_eq_pw`; neither
    file imports the other) -/
def arMult (c : ElCfg) : Nat := if c.kind == "araffine" then 2 else c.mult

/-- **one element-wise pass of an autoregressive transform as a batch-level call** (autoregressive.py:38-41): the autoregressive
    network `net` (MADE: batch size, inputs `[B, F]`, context `[B, cw]` ↦ `[B, F * m]`) is run on the batch, then `arApply` -/
def arStage (net : Nat → Array α → Array α → Array α) : BStage α :=
  fun B x ctx => ofT (arApply o c B F x (net B x ctx) inverse)

theorem arEl_rows {B B' b b' : Nat} (net : Nat → Array α → Array α → Array α) (cw : Nat)
    (hnet : NetRowWise F cw (F * arMult c) net) (x x' ctx ctx' : Array α) (hb : b < B) (hb' : b' < B')
    (hx : RowEq F b b' x x') (hc : RowEq cw b b' ctx ctx') (i : Nat) (hi : i < F) :
    arEl o c F x (net B x ctx) inverse b i = arEl o c F x' (net B' x' ctx') inverse b' i := by
  have hp := hnet x x' ctx ctx' hb hb' hx hc
  refine arEl_congr o c F inverse x x' _ _ hx (fun i k hi hk => ?_) hi
  rw [RowMajor.assoc, RowMajor.assoc]
  exact hp _ (RowMajor.lt2 hi hk)

theorem rowWise_arStage (cw : Nat) (net : Nat → Array α → Array α → Array α) (hnet : NetRowWise F cw (F * arMult c) net) :
    RowWiseStage F cw (arStage o c F inverse net) :=
  rowWise_elemwise o F cw (fun B x ctx => arEl o c F x (net B x ctx) inverse)
    (fun x x' ctx ctx' hb hb' hx hc i hi => arEl_rows o c F inverse net cw hnet x x' ctx ctx' hb hb' hx hc i hi)

end ar

section coupling
variable (o : XOps α) (c : ElCfg) (mask : List α) (S : Nat) (inverse : Bool) (uc : Option ElCfg) (uparams : Array α)

/-- what the conditioner of the coupling layer is given (coupling.py:82-85 forward: the raw identity split; coupling.py:111-120
    inverse: the identity split after the inverse unconditional transform) -/
def condInOf (B : Nat) (x : Array α) : Array α :=
  if inverse then gatherCh (couplingUncond o mask B S x inverse uc uparams) B mask.length S (identityIdx o mask) o.zero
  else gatherCh x B mask.length S (identityIdx o mask) o.zero

theorem condInOf_eq (B : Nat) (x params : Array α) :
    (couplingApply o c mask B S x params inverse uc uparams).condIn = condInOf o mask S inverse uc uparams B x :=
  coupling_condIn_eq o c mask B S x params inverse uc uparams

/-- **the coupling layer as a batch-level call** (coupling.py:73-143): the conditioner `net` (batch size, identity split
    `[B, |id|, S]`, context `[B, cw]` ↦ `[B, paramWidth, S]`) is run on the batch, then `couplingApply` -/
def couplingStage (net : Nat → Array α → Array α → Array α) : BStage α :=
  fun B x ctx => ofT (couplingApply o c mask B S x (net B (condInOf o mask S inverse uc uparams B x) ctx) inverse uc uparams)

theorem condInOf_rowEq {B B' b b' : Nat} (x x' : Array α) (hb : b < B) (hb' : b' < B')
    (hx : RowAgree mask.length S b b' x x') :
    RowEq ((identityIdx o mask).length * S) b b' (condInOf o mask S inverse uc uparams B x)
      (condInOf o mask S inverse uc uparams B' x') := by
  unfold condInOf
  cases inverse with
  | false => exact gatherCh_rowEq (identityIdx_ok o mask).lt x x' _ hb hb' hx
  | true =>
    exact gatherCh_rowEq (identityIdx_ok o mask).lt _ _ _ hb hb'
      (couplingUncond_row_congr o mask S true uc uparams x x' hb hb' hx)

theorem couplingParams_rows {B B' b b' : Nat} (cw : Nat) (net : Nat → Array α → Array α → Array α)
    (hnet : NetRowWise ((identityIdx o mask).length * S) cw (paramWidth c (transformIdx o mask).length * S) net)
    (x x' ctx ctx' : Array α) (hb : b < B) (hb' : b' < B') (hx : RowEq (mask.length * S) b b' x x')
    (hc : RowEq cw b b' ctx ctx') :
    RowAgree (paramWidth c (transformIdx o mask).length) S b b' (net B (condInOf o mask S inverse uc uparams B x) ctx)
      (net B' (condInOf o mask S inverse uc uparams B' x') ctx') :=
  rowAgree_of_rowEq (hnet _ _ ctx ctx' hb hb'
    (condInOf_rowEq o mask S inverse uc uparams x x' hb hb' (rowAgree_of_rowEq hx)) hc)

theorem rowWise_couplingStage (cw : Nat) (net : Nat → Array α → Array α → Array α)
    (hnet : NetRowWise ((identityIdx o mask).length * S) cw (paramWidth c (transformIdx o mask).length * S) net) :
    RowWiseStage (mask.length * S) cw (couplingStage o c mask S inverse uc uparams net) where
  agree := by
    intro B B' b b' x x' ctx ctx' y y' l l' hb hb' hx hc h h'
    obtain ⟨-, rfl, rfl⟩ := ofT_eq_ok h
    obtain ⟨-, rfl, rfl⟩ := ofT_eq_ok h'
    have := coupling_row_independent o c mask S inverse uc uparams x x' _ _ hb hb' (rowAgree_of_rowEq hx)
      (couplingParams_rows o c mask S inverse uc uparams cw net hnet x x' ctx ctx' hb hb' hx hc)
    exact ⟨rowEq_of_rowAgree this.1, this.2⟩
  accept := by
    intro B x ctx xr cr hx hc
    simp only [couplingStage, ofT_ok_iff]
    exact coupling_err_none_iff_alone o c mask S inverse uc uparams x _ xr
      (fun b => net 1 (condInOf o mask S inverse uc uparams 1 (xr b)) (cr b))
      (fun b hb => rowAgree_of_rowEq (hx b hb))
      (fun b hb => couplingParams_rows o c mask S inverse uc uparams cw net hnet x (xr b) ctx (cr b) hb Nat.one_pos
        (hx b hb) (hc b hb))
  ld_len := by
    intro B x ctx y l h
    obtain ⟨-, -, rfl⟩ := ofT_eq_ok h
    exact coupling_ld_length o c mask S inverse uc uparams B x _

end coupling

/-! ## 3. `Flow.log_prob` of a batch over the executed passes (flows/base.py:42-49) -/

section flow
variable (o : XOps α)

/-- a base density at batch level: batch size, noise rows, flat embedded context `[B, cw]` ↦ one `log_prob` per row, or raises -/
abbrev BaseD (α : Type) := Nat → List (List α) → Array α → Except DErr (List α)

def RowIndepBase (cw : Nat) (base : BaseD α) : Prop :=
  ∀ (B : Nat) (rows : List (List α)) (e : Array α) (er : Nat → Array α), rows.length = B →
    (∀ b, b < B → RowEq cw b 0 e (er b)) →
    RowIndep (base B rows e) B (fun i => base 1 [rows.getD i []] (er i))

def EmbRowWise (rcw cw : Nat) (emb : Nat → Array α → Array α) : Prop :=
  ∀ {B B' b b' : Nat} (c c' : Array α), b < B → b' < B' → RowEq rcw b b' c c' → RowEq cw b b' (emb B c) (emb B' c')

/-- **`Flow._log_prob(inputs, context)` as the code runs it on a whole batch** (flows/base.py:42-49):
    `embedded = embedding_net(context)`; `noise, logabsdet = transform(inputs, embedded)` (an exception of the transform aborts the
    call); `log_prob = distribution.log_prob(noise, embedded)` (may raise); `return log_prob + logabsdet`.
    `x : [B, w]`, `ctx : [B, rcw]` flat; the noise is handed to the base density as `B` rows of length `w`. -/
def flowLogProbExec (w : Nat) (emb : Nat → Array α → Array α) (T : BStage α) (base : BaseD α) (B : Nat)
    (x ctx : Array α) : Except DErr (List α) :=
  match T B x (emb B ctx) with
  | .error err => .error (.base err)
  | .ok (z, ld) =>
    match base B (rowsOf w B z.toList) (emb B ctx) with
    | .error err => .error err
    | .ok lp => .ok (List.zipWith o.add lp ld)

theorem rowsOf_length (d n : Nat) (flat : List α) : (rowsOf d n flat).length = n := by simp [rowsOf]

theorem rowsOf_getD (d n : Nat) (flat : List α) {i : Nat} (hi : i < n) :
    (rowsOf d n flat).getD i [] = (flat.drop (i * d)).take d := by
  simp [rowsOf, List.getD_eq_getElem?_getD, hi]

theorem row_list_eq {w b b' : Nat} {z z' : Array α} (h : RowEq w b b' z z') :
    (z.toList.drop (b * w)).take w = (z'.toList.drop (b' * w)).take w := by
  apply List.ext_getElem?
  intro k
  simp only [List.getElem?_take, List.getElem?_drop]
  split_ifs with hk
  · rw [Array.getElem?_toList, Array.getElem?_toList]; exact h k hk
  · rfl

theorem rowsOf_single {w B b : Nat} {z z' : Array α} (hb : b < B) (h : RowEq w b 0 z z') :
    rowsOf w 1 z'.toList = [(rowsOf w B z.toList).getD b []] := by
  rw [rowsOf_getD w B _ hb, row_list_eq h]
  simp [rowsOf]

theorem list_len_one {β : Type} (l : List β) (h : l.length = 1) : ∃ a, l = [a] := List.length_eq_one_iff.1 h

theorem flow_of_T_error {w : Nat} {emb : Nat → Array α → Array α} {T : BStage α} {base : BaseD α} {B : Nat}
    {x ctx : Array α} {err : Err} (h : T B x (emb B ctx) = .error err) :
    flowLogProbExec o w emb T base B x ctx = .error (.base err) := by
  simp only [flowLogProbExec, h]

theorem flow_of_base_error {w : Nat} {emb : Nat → Array α → Array α} {T : BStage α} {base : BaseD α} {B : Nat}
    {x ctx z : Array α} {ld : List α} {err : DErr} (h : T B x (emb B ctx) = .ok (z, ld))
    (h' : base B (rowsOf w B z.toList) (emb B ctx) = .error err) :
    flowLogProbExec o w emb T base B x ctx = .error err := by
  simp only [flowLogProbExec, h, h']

theorem flow_of_ok {w : Nat} {emb : Nat → Array α → Array α} {T : BStage α} {base : BaseD α} {B : Nat}
    {x ctx z : Array α} {ld lp : List α} (h : T B x (emb B ctx) = .ok (z, ld))
    (h' : base B (rowsOf w B z.toList) (emb B ctx) = .ok lp) :
    flowLogProbExec o w emb T base B x ctx = .ok (List.zipWith o.add lp ld) := by
  simp only [flowLogProbExec, h, h']

structure FlowRows (w rcw cw : Nat) (emb : Nat → Array α → Array α) (T : BStage α) (base : BaseD α) (B : Nat)
    (x ctx : Array α) (xr cr : Nat → Array α) : Prop where
  hT : RowWiseStage w cw T
  hbase : RowIndepBase cw base
  hemb : EmbRowWise rcw cw emb
  hx : ∀ b, b < B → RowEq w b 0 x (xr b)
  hctx : ∀ b, b < B → RowEq rcw b 0 ctx (cr b)

variable {w rcw cw : Nat} {emb : Nat → Array α → Array α} {T : BStage α} {base : BaseD α} {B : Nat}
  {x ctx : Array α} {xr cr : Nat → Array α}

theorem FlowRows.he (H : FlowRows w rcw cw emb T base B x ctx xr cr) :
    ∀ b, b < B → RowEq cw b 0 (emb B ctx) (emb 1 (cr b)) :=
  fun b hb => H.hemb ctx (cr b) hb Nat.one_pos (H.hctx b hb)

theorem FlowRows.row_of_T_ok (H : FlowRows w rcw cw emb T base B x ctx xr cr) {z : Array α} {ld : List α}
    (hT : T B x (emb B ctx) = .ok (z, ld)) {i : Nat} (hi : i < B) :
    ∃ (zi : Array α) (d : α), T 1 (xr i) (emb 1 (cr i)) = .ok (zi, [d]) ∧ ld[i]? = some d ∧
      rowsOf w 1 zi.toList = [(rowsOf w B z.toList).getD i []] := by
  obtain ⟨⟨zi, ldi⟩, hzi⟩ := (H.hT.accept B x (emb B ctx) xr (fun b => emb 1 (cr b)) H.hx H.he).1 ⟨_, hT⟩ i hi
  obtain ⟨hz, hl⟩ := H.hT.agree x (xr i) (emb B ctx) (emb 1 (cr i)) z zi ld ldi hi Nat.one_pos (H.hx i hi) (H.he i hi) hT hzi
  obtain ⟨d, rfl⟩ := list_len_one ldi (H.hT.ld_len 1 _ _ _ _ hzi)
  exact ⟨zi, d, hzi, by simpa using hl, rowsOf_single hi hz⟩

/-- **(a) `Flow.log_prob` over the executed passes: the values.**  If the batch call returns `lps`, it has one entry per row and
    entry `i` is what the call on row `i` alone (inputs row `i`, context row `i`, batch size one) returns. -/
theorem flowExec_row_independent (H : FlowRows w rcw cw emb T base B x ctx xr cr) (lps : List α)
    (h : flowLogProbExec o w emb T base B x ctx = .ok lps) :
    lps.length = B ∧ ∀ i, i < B → ∃ l, lps[i]? = some l ∧
      flowLogProbExec o w emb T base 1 (xr i) (cr i) = .ok [l] := by
  cases hT : T B x (emb B ctx) with
  | error err => rw [flow_of_T_error o hT] at h; cases h
  | ok p =>
    obtain ⟨z, ld⟩ := p
    cases hB : base B (rowsOf w B z.toList) (emb B ctx) with
    | error err => rw [flow_of_base_error o hT hB] at h; cases h
    | ok lp =>
      rw [flow_of_ok o hT hB] at h
      cases h
      have hld : ld.length = B := H.hT.ld_len B _ _ _ _ hT
      obtain ⟨hlp, hrows⟩ := (H.hbase B _ (emb B ctx) (fun b => emb 1 (cr b)) (rowsOf_length w B _) H.he).1 lp hB
      refine ⟨by rw [List.length_zipWith, hlp, hld, Nat.min_self], ?_⟩
      intro i hi
      obtain ⟨l, hl, hsingle⟩ := hrows i hi
      obtain ⟨zi, d, hzi, hd, hrow⟩ := H.row_of_T_ok hT hi
      refine ⟨o.add l d, by rw [List.getElem?_zipWith, hl, hd], ?_⟩
      simp only [← hrow] at hsingle
      rw [flow_of_ok o hzi hsingle]
      rfl

theorem flowExec_transform_error (H : FlowRows w rcw cw emb T base B x ctx xr cr) (err : Err)
    (hT : T B x (emb B ctx) = .error err) :
    flowLogProbExec o w emb T base B x ctx = .error (.base err) ∧
      ∃ i, i < B ∧ ∃ err', T 1 (xr i) (emb 1 (cr i)) = .error err' ∧
        flowLogProbExec o w emb T base 1 (xr i) (cr i) = .error (.base err') := by
  refine ⟨flow_of_T_error o hT, ?_⟩
  by_contra hno
  have hall : ∀ b, b < B → ∃ r, T 1 (xr b) (emb 1 (cr b)) = .ok r := by
    intro b hb
    cases hr : T 1 (xr b) (emb 1 (cr b)) with
    | ok r => exact ⟨r, rfl⟩
    | error e' => exact absurd ⟨b, hb, e', hr, flow_of_T_error o hr⟩ hno
  obtain ⟨r, hr⟩ := (H.hT.accept B x (emb B ctx) xr (fun b => emb 1 (cr b)) H.hx H.he).2 hall
  rw [hT] at hr
  cases hr

theorem flowExec_base_error (H : FlowRows w rcw cw emb T base B x ctx xr cr) {z : Array α} {ld : List α} (err : DErr)
    (hT : T B x (emb B ctx) = .ok (z, ld)) (hB : base B (rowsOf w B z.toList) (emb B ctx) = .error err) :
    flowLogProbExec o w emb T base B x ctx = .error err ∧
      ∀ i, i < B → flowLogProbExec o w emb T base 1 (xr i) (cr i) = .error err := by
  refine ⟨flow_of_base_error o hT hB, ?_⟩
  intro i hi
  obtain ⟨zi, d, hzi, -, hrow⟩ := H.row_of_T_ok hT hi
  have := (H.hbase B _ (emb B ctx) (fun b => emb 1 (cr b)) (rowsOf_length w B _) H.he).2 err hB i hi
  simp only [← hrow] at this
  exact flow_of_base_error o hzi this

/-- **(b) the batch call raises iff some row alone raises** (non-empty batch).  Which error: the transform's (first stage that
    raises, `flowExec_transform_error`) if it raises, else the base density's, which every row alone raises too. -/
theorem flowExec_raises_iff (H : FlowRows w rcw cw emb T base B x ctx xr cr) (hB : 0 < B) :
    (∃ err, flowLogProbExec o w emb T base B x ctx = .error err) ↔
      ∃ i, i < B ∧ ∃ err, flowLogProbExec o w emb T base 1 (xr i) (cr i) = .error err := by
  constructor
  · rintro ⟨err, h⟩
    cases hT : T B x (emb B ctx) with
    | error e =>
      obtain ⟨-, i, hi, e', -, h'⟩ := flowExec_transform_error o H e hT
      exact ⟨i, hi, _, h'⟩
    | ok p =>
      obtain ⟨z, ld⟩ := p
      cases hb : base B (rowsOf w B z.toList) (emb B ctx) with
      | error e => exact ⟨0, hB, e, (flowExec_base_error o H e hT hb).2 0 hB⟩
      | ok lp => rw [flow_of_ok o hT hb] at h; cases h
  · rintro ⟨i, hi, err, h⟩
    cases hf : flowLogProbExec o w emb T base B x ctx with
    | error e => exact ⟨e, rfl⟩
    | ok lps =>
      obtain ⟨l, -, hl⟩ := (flowExec_row_independent o H lps hf).2 i hi
      rw [hl] at h
      cases h

theorem flowExec_accepted_iff (H : FlowRows w rcw cw emb T base B x ctx xr cr) (hB : 0 < B) :
    (∃ lps, flowLogProbExec o w emb T base B x ctx = .ok lps) ↔
      ∀ i, i < B → ∃ l, flowLogProbExec o w emb T base 1 (xr i) (cr i) = .ok [l] := by
  constructor
  · rintro ⟨lps, h⟩ i hi
    obtain ⟨l, -, hl⟩ := (flowExec_row_independent o H lps h).2 i hi
    exact ⟨l, hl⟩
  · intro hall
    cases hf : flowLogProbExec o w emb T base B x ctx with
    | ok lps => exact ⟨lps, rfl⟩
    | error e =>
      obtain ⟨i, hi, e', he'⟩ := (flowExec_raises_iff o H hB).1 ⟨e, hf⟩
      obtain ⟨l, hl⟩ := hall i hi
      rw [hl] at he'
      cases he'

end flow

/-! ### base densities of `Core/Density.lean` -/

section bases
variable (o : XOps α)

theorem RowIndep.congr_single {batch : Except DErr (List α)} {n : Nat} {single single' : Nat → Except DErr (List α)}
    (h : RowIndep batch n single) (hs : ∀ i, i < n → single i = single' i) : RowIndep batch n single' := by
  refine ⟨fun lps hl => ⟨(h.1 lps hl).1, fun i hi => ?_⟩, fun err he i hi => ?_⟩
  · obtain ⟨l, h1, h2⟩ := (h.1 lps hl).2 i hi
    exact ⟨l, h1, by rw [← hs i hi]; exact h2⟩
  · rw [← hs i hi]; exact h.2 err he i hi

/-- the executed `StandardNormal.log_prob` (context ignored; `c` = whether a context is passed) is a row independent base -/
theorem rowIndepBase_stdNormal (shape inShape : List Nat) (c : Bool) (cw : Nat) :
    RowIndepBase cw (fun B rows _ => stdNormalLogProb o shape inShape (ctxOf c B) rows) := by
  intro B rows e er hlen _
  subst hlen
  exact stdNormal_logProb_row_independent o shape inShape c rows

theorem rowIndepBase_diagNormal (shape inShape : List Nat) (c : Bool) (mean logStd : List α) (cw : Nat) :
    RowIndepBase cw (fun B rows _ => diagNormalLogProb o shape inShape (ctxOf c B) mean logStd rows) := by
  intro B rows e er hlen _
  subst hlen
  exact diagNormal_logProb_row_independent o shape inShape c mean logStd rows

/-- the context encoder of `ConditionalDiagonalNormal` at batch level (`[B, cw]` ↦ `B` parameter rows) is row-wise -/
structure EncRowWise (cw : Nat) (enc : Nat → Array α → List (List α)) : Prop where
  len : ∀ B e, (enc B e).length = B
  rows : ∀ {B B' b b' : Nat} (e e' : Array α), b < B → b' < B' → RowEq cw b b' e e' →
    (enc B e).getD b [] = (enc B' e').getD b' []

theorem rowIndepBase_condNormal (shape inShape pShape : List Nat) (hp : pShape ≠ []) (cw : Nat)
    (enc : Nat → Array α → List (List α)) (henc : EncRowWise cw enc) :
    RowIndepBase cw (fun B rows e => condNormalLogProb o shape inShape (some B) B pShape (enc B e) rows) := by
  intro B rows e er hlen he
  subst hlen
  refine RowIndep.congr_single
    (condNormal_logProb_row_independent o shape inShape pShape hp (enc rows.length e) rows (henc.len _ _)) ?_
  intro i hi
  obtain ⟨a, ha⟩ := list_len_one (enc 1 (er i)) (henc.len 1 _)
  have := henc.rows e (er i) hi Nat.one_pos (he i hi)
  rw [ha] at this
  simp only [List.getD_cons_zero] at this
  show condNormalLogProb o shape inShape (some 1) 1 pShape [(enc rows.length e).getD i []] [rows.getD i []]
    = condNormalLogProb o shape inShape (some 1) 1 pShape (enc 1 (er i)) [rows.getD i []]
  rw [ha, this]

end bases

/-! ## 4. the sampling side (C04): `Flow.sample_and_log_prob(n, context)` over an executed row-wise inverse pass -/

section salp
variable (o : XOps α)

/-- `repeat_rows(embedded_context, num_reps = n)` on a flat `[R, cw]` array (torchutils.py:50-57): flat row `i·n + j` is row `i` -/
def repeatRowsArr (cw R n : Nat) (e : Array α) : Array α :=
  ((List.range (R * n)).flatMap fun r => (List.range cw).map fun k => e.getD ((r / n) * cw + k) o.zero).toArray

theorem repeatRowsArr_rowEq (cw R n : Nat) (e : Array α) (he : R * cw ≤ e.size) {i j : Nat} (hi : i < R) (hj : j < n) :
    RowEq cw (i * n + j) i (repeatRowsArr o cw R n e) e := by
  intro k hk
  have hlt : i * cw + k < e.size := lt_of_lt_of_le (RowMajor.lt2 hi hk) he
  unfold repeatRowsArr
  rw [List.getElem?_toArray, flatRange_getElem? _ (R * n) cw (i * n + j) k (RowMajor.lt2 hi hj) hk, RowMajor.div i hj]
  simp [Array.getD_eq_getD_getElem?, hlt]

/-- **`Flow.sample_and_log_prob(n, context)` as the code runs it** (flows/base.py:77-106, distributions/base.py:107-122), as a
    function of the merged noise `[R·n, w]` the base distribution drew: the embedded context is `repeat_rows`-ed, the base
    `log_prob` of the merged noise under the repeated context is computed (may raise), the inverse transform runs on the merged
    batch (may raise), and `log_prob - logabsdet` is returned.  (`split_leading_dim` is a view: sample `[i, j]` is flat row `i·n + j`.) -/
def flowSalpExec (w cw R n : Nat) (emb : Nat → Array α → Array α) (Tinv : BStage α) (base : BaseD α)
    (noise ctx : Array α) : Except DErr (Array α × List α) :=
  let e' := repeatRowsArr o cw R n (emb R ctx)
  match base (R * n) (rowsOf w (R * n) noise.toList) e' with
  | .error err => .error err
  | .ok lp =>
    match Tinv (R * n) noise e' with
    | .error err => .error (.base err)
    | .ok (s, lad) => .ok (s, List.zipWith o.sub lp lad)

/-- **C04, pairing over the executed passes.**  If the call returns `(samples, lps)`: for context row `i` and draw `j`, the
    inverse pass run ALONE on noise row `[i, j]` (`zr`) under the embedded context row `i` (`emb 1 (cr i)`) is accepted, returns
    exactly sample `[i, j]` and a log-det `d`; the base density alone accepts that noise row under that context row with value `l`;
    and the returned `lps[i, j] = l - d`.  No other row of the noise or of the context enters. -/
theorem flowSalpExec_pairing {w rcw cw R n : Nat} {emb : Nat → Array α → Array α} {Tinv : BStage α} {base : BaseD α}
    {noise ctx : Array α} (hT : RowWiseStage w cw Tinv) (hbase : RowIndepBase cw base) (hemb : EmbRowWise rcw cw emb)
    (hsize : R * cw ≤ (emb R ctx).size) {s : Array α} {lps : List α}
    (h : flowSalpExec o w cw R n emb Tinv base noise ctx = .ok (s, lps))
    {i j : Nat} (hi : i < R) (hj : j < n) (zr cr : Array α) (hz : RowEq w (i * n + j) 0 noise zr)
    (hc : RowEq rcw i 0 ctx cr) :
    ∃ (si : Array α) (d l : α), Tinv 1 zr (emb 1 cr) = .ok (si, [d]) ∧ RowEq w (i * n + j) 0 s si ∧
      base 1 (rowsOf w 1 zr.toList) (emb 1 cr) = .ok [l] ∧ lps[i * n + j]? = some (o.sub l d) := by
  have hr : i * n + j < R * n := RowMajor.lt2 hi hj
  have he : RowEq cw (i * n + j) 0 (repeatRowsArr o cw R n (emb R ctx)) (emb 1 cr) :=
    (repeatRowsArr_rowEq o cw R n _ hsize hi hj).trans (hemb ctx cr hi Nat.one_pos hc)
  unfold flowSalpExec at h
  simp only at h
  cases hB : base (R * n) (rowsOf w (R * n) noise.toList) (repeatRowsArr o cw R n (emb R ctx)) with
  | error err => rw [hB] at h; cases h
  | ok lp =>
    rw [hB] at h
    cases hTi : Tinv (R * n) noise (repeatRowsArr o cw R n (emb R ctx)) with
    | error err => rw [hTi] at h; cases h
    | ok p =>
      obtain ⟨s', lad⟩ := p
      rw [hTi] at h
      simp only [Except.ok.injEq, Prod.mk.injEq] at h
      obtain ⟨rfl, rfl⟩ := h
      -- the other rows: run them on their own slices
      let xr : Nat → Array α := fun b => if b = i * n + j then zr else rowSlice w noise b
      let er : Nat → Array α := fun b => if b = i * n + j then emb 1 cr
        else rowSlice cw (repeatRowsArr o cw R n (emb R ctx)) b
      have hslice : ∀ (w : Nat) (a : Array α) (b : Nat), RowEq w b 0 a (rowSlice w a b) := by
        intro w a b k hk
        rw [Nat.zero_mul, Nat.zero_add, rowSlice_getElem? w a b hk]
      have hxr : ∀ b, b < R * n → RowEq w b 0 noise (xr b) := by
        intro b _
        by_cases hb : b = i * n + j
        · simp only [xr, hb, if_true]; exact hz
        · simp only [xr, hb, if_false]; exact hslice w noise b
      have her : ∀ b, b < R * n → RowEq cw b 0 (repeatRowsArr o cw R n (emb R ctx)) (er b) := by
        intro b _
        by_cases hb : b = i * n + j
        · simp only [er, hb, if_true]; exact he
        · simp only [er, hb, if_false]; exact hslice cw _ b
      have hxi : xr (i * n + j) = zr := if_pos rfl
      have hei : er (i * n + j) = emb 1 cr := if_pos rfl
      obtain ⟨⟨si, ldi⟩, hsi⟩ := (hT.accept (R * n) noise _ xr er hxr her).1 ⟨_, hTi⟩ (i * n + j) hr
      rw [hxi, hei] at hsi
      obtain ⟨hs, hl⟩ := hT.agree noise zr _ (emb 1 cr) s' si lad ldi hr Nat.one_pos hz he hTi hsi
      obtain ⟨d, rfl⟩ := list_len_one ldi (hT.ld_len 1 _ _ _ _ hsi)
      obtain ⟨-, hrows⟩ := (hbase (R * n) _ _ er (rowsOf_length w (R * n) _) her).1 lp hB
      obtain ⟨l, hl1, hl2⟩ := hrows (i * n + j) hr
      simp only [hei, ← rowsOf_single hr hz] at hl2
      refine ⟨si, d, l, hsi, hs, hl2, ?_⟩
      have hd : lad[i * n + j]? = some d := hl
      rw [List.getElem?_zipWith, hl1, hd]

/-- the round-trip law of a forward / inverse pair: about ONE-ROW calls only (`B = 1`), and in ONE order only (the forward pass undoes
    an accepted inverse call, with the negated log-det; nothing is said about inverse ∘ forward).  It quantifies over arrays `z` of any
    size and is therefore FALSE for an element-wise stage of width `w` on a row shorter than `w`
    (`StageMore.roundTripStage_cdf_short_false`); the forms to use are `StageMore.RoundTripOn` (this law for inputs satisfying a
    predicate) and `StageMore.RoundTripEq` (exact return of the input array), which the executed stages satisfy over the reals. -/
def RoundTripStage (w : Nat) (T Tinv : BStage α) : Prop :=
  ∀ (z e s : Array α) (d : α), Tinv 1 z e = .ok (s, [d]) → ∃ z', T 1 s e = .ok (z', [o.neg d]) ∧ RowEq w 0 0 z' z

/-- **C04, consistency over the executed passes**, the round-trip law being needed at the one noise row `zr` only: the value
    returned for sample `[i, j]` is exactly what the executed `Flow.log_prob` assigns to that sample alone under context row `i`
    alone (given `a - b = a + (-b)`). -/
theorem flowSalpExec_consistent_at {w rcw cw R n : Nat} {emb : Nat → Array α → Array α} {T Tinv : BStage α} {base : BaseD α}
    {noise ctx : Array α} (hT : RowWiseStage w cw Tinv) (hbase : RowIndepBase cw base) (hemb : EmbRowWise rcw cw emb)
    (hsize : R * cw ≤ (emb R ctx).size) (hsub : ∀ a b : α, o.sub a b = o.add a (o.neg b)) {s : Array α} {lps : List α}
    (h : flowSalpExec o w cw R n emb Tinv base noise ctx = .ok (s, lps))
    {i j : Nat} (hi : i < R) (hj : j < n) (zr cr : Array α) (hz : RowEq w (i * n + j) 0 noise zr)
    (hc : RowEq rcw i 0 ctx cr)
    (hround : ∀ (e s : Array α) (d : α), Tinv 1 zr e = .ok (s, [d]) →
      ∃ z', T 1 s e = .ok (z', [o.neg d]) ∧ RowEq w 0 0 z' zr) :
    ∃ (si : Array α) (lp : α), RowEq w (i * n + j) 0 s si ∧ lps[i * n + j]? = some lp ∧
      flowLogProbExec o w emb T base 1 si cr = .ok [lp] := by
  obtain ⟨si, d, l, hsi, hs, hb, hl⟩ := flowSalpExec_pairing o hT hbase hemb hsize h hi hj zr cr hz hc
  obtain ⟨z', hz', hzz⟩ := hround (emb 1 cr) si d hsi
  refine ⟨si, o.sub l d, hs, hl, ?_⟩
  have hrow : rowsOf w 1 z'.toList = rowsOf w 1 zr.toList := by
    simp only [rowsOf, List.range_one, List.map_cons, List.map_nil]
    rw [row_list_eq hzz]
  rw [← hrow] at hb
  rw [flow_of_ok o hz' hb, hsub]
  rfl

/-- **C04, consistency over the executed passes**, under the round-trip law for all rows -/
theorem flowSalpExec_consistent {w rcw cw R n : Nat} {emb : Nat → Array α → Array α} {T Tinv : BStage α} {base : BaseD α}
    {noise ctx : Array α} (hT : RowWiseStage w cw Tinv) (hbase : RowIndepBase cw base) (hemb : EmbRowWise rcw cw emb)
    (hsize : R * cw ≤ (emb R ctx).size) (hround : RoundTripStage o w T Tinv)
    (hsub : ∀ a b : α, o.sub a b = o.add a (o.neg b)) {s : Array α} {lps : List α}
    (h : flowSalpExec o w cw R n emb Tinv base noise ctx = .ok (s, lps))
    {i j : Nat} (hi : i < R) (hj : j < n) (zr cr : Array α) (hz : RowEq w (i * n + j) 0 noise zr)
    (hc : RowEq rcw i 0 ctx cr) :
    ∃ (si : Array α) (lp : α), RowEq w (i * n + j) 0 s si ∧ lps[i * n + j]? = some lp ∧
      flowLogProbExec o w emb T base 1 si cr = .ok [lp] :=
  flowSalpExec_consistent_at o hT hbase hemb hsize hsub h hi hj zr cr hz hc (hround zr)

end salp

/-! ## 5. the headline statement for a composite of executed stages, and concrete instances -/

section headlines
variable (o : XOps α) {rcw cw : Nat} {emb : Nat → Array α → Array α} {base : BaseD α} {B : Nat} {x ctx : Array α}
  {xr cr : Nat → Array α}

/-- **(c) `Flow.log_prob` with a `CompositeTransform` of row-wise stages** (in particular any list of executed coupling /
    autoregressive / CDF passes of one width): values of an accepted batch = the rows alone; raises iff some row alone raises. -/
theorem flowExec_composite {w : Nat} (ts : List (BStage α)) (hts : ∀ t ∈ ts, RowWiseStage w cw t)
    (hbase : RowIndepBase cw base) (hemb : EmbRowWise rcw cw emb) (hx : ∀ b, b < B → RowEq w b 0 x (xr b))
    (hctx : ∀ b, b < B → RowEq rcw b 0 ctx (cr b)) :
    (∀ lps, flowLogProbExec o w emb (compStage o ts) base B x ctx = .ok lps → lps.length = B ∧ ∀ i, i < B →
      ∃ l, lps[i]? = some l ∧ flowLogProbExec o w emb (compStage o ts) base 1 (xr i) (cr i) = .ok [l]) ∧
    (0 < B → ((∃ err, flowLogProbExec o w emb (compStage o ts) base B x ctx = .error err) ↔
      ∃ i, i < B ∧ ∃ err, flowLogProbExec o w emb (compStage o ts) base 1 (xr i) (cr i) = .error err)) :=
  have H : FlowRows w rcw cw emb (compStage o ts) base B x ctx xr cr := ⟨rowWise_compStage o ts hts, hbase, hemb, hx, hctx⟩
  ⟨flowExec_row_independent o H, flowExec_raises_iff o H⟩

end headlines

section examples

/-- a toy conditioner (one identity feature, one context feature per row): `params[b] = cond_in[b] + context[b]` -/
def toyNet : Nat → Array Int → Array Int → Array Int :=
  fun B xin c => ((List.range B).map fun b => xin.getD b 0 + c.getD b 0).toArray
def toyEmb : Nat → Array Int → Array Int := fun _ c => (c.toList.map (· + 100)).toArray
/-- a toy MADE: `params[b, :] = x[b, 0] + context[b] + (0, 1, 2, 3)` -/
def toyArNet : Nat → Array Int → Array Int → Array Int :=
  fun B x c => ((List.range (B * 4)).map fun t => x.getD (t / 4 * 2) 0 + c.getD (t / 4) 0 + (t % 4 : Nat)).toArray

def toyT : BStage Int := couplingStage intX { kind := "additive" } [0, 1] 1 false none #[] toyNet
def toyTinv : BStage Int := couplingStage intX { kind := "additive" } [0, 1] 1 true none #[] toyNet
def toyAr : BStage Int := arStage intX { container := "ar", kind := "araffine" } 2 false toyArNet
def toyDom : BStage Int := fun B x _ => ofT (elemwiseResult intX B 2 fun b i =>
  if x.getD (b * 2 + i) 0 < 0 then .error .outsideDomain else .ok (x.getD (b * 2 + i) 0 + 1, 7, []))
def toyStd : BaseD Int := fun B rows _ => stdNormalLogProb intX [2] [2] (some B) rows
def toyEnc : Nat → Array Int → List (List Int) := fun B e => (List.range B).map fun b => [e.getD b 0, 0, 1, 1]
def toyCond : BaseD Int := fun B rows e => condNormalLogProb intX [2] [2] (some B) B [4] (toyEnc B e) rows

theorem rowEq_one {b b' : Nat} {x x' : Array Int} (h : RowEq 1 b b' x x') : x[b]? = x'[b']? := by
  have := h 0 Nat.one_pos
  simpa only [Nat.mul_one, Nat.add_zero] using this

theorem toyNet_rowWise : NetRowWise 1 1 1 toyNet := by
  intro B B' b b' x x' c c' hb hb' hx hc k hk
  obtain rfl : k = 0 := by omega
  simp [toyNet, hb, hb', rowEq_one hx, rowEq_one hc]

theorem toyEmb_rowWise : EmbRowWise 1 1 toyEmb := by
  intro B B' b b' c c' hb hb' hc k hk
  obtain rfl : k = 0 := by omega
  have := hc 0 Nat.one_pos
  simp only [Nat.mul_one, Nat.add_zero] at this ⊢
  simp [toyEmb, this]

theorem toyEnc_rowWise : EncRowWise 1 toyEnc where
  len := by intro B e; simp [toyEnc]
  rows := by
    intro B B' b b' e e' hb hb' he
    simp [toyEnc, List.getD_eq_getElem?_getD, hb, hb', rowEq_one he]

theorem toy_flowRows : FlowRows 2 1 1 toyEmb toyT toyCond 2 #[1, 2, 3, 4] #[10, 20]
    (fun b => if b = 0 then #[1, 2] else #[3, 4]) (fun b => if b = 0 then #[10] else #[20]) where
  hT := rowWise_couplingStage intX _ [0, 1] 1 false none #[] 1 toyNet (by
    have h1 : (identityIdx intX [0, 1]).length = 1 := by decide
    have h2 : paramWidth { kind := "additive" } (transformIdx intX [0, 1]).length = 1 := by decide +kernel
    rw [h1, h2]; exact @toyNet_rowWise)
  hbase := rowIndepBase_condNormal intX [2] [2] [4] (by simp) 1 toyEnc toyEnc_rowWise
  hemb := toyEmb_rowWise
  hx := by
    intro b hb k hk
    interval_cases b <;> interval_cases k <;> rfl
  hctx := by
    intro b hb k hk
    interval_cases b <;> interval_cases k <;> rfl

/-- (a) executed additive coupling + `ConditionalDiagonalNormal`: the batch of two, and its rows alone -/
example :
    flowLogProbExec intX 2 toyEmb toyT toyCond 2 #[1, 2, 3, 4] #[10, 20] = .ok [-24651, -29819] ∧
    flowLogProbExec intX 2 toyEmb toyT toyCond 1 #[1, 2] #[10] = .ok [-24651] ∧
    flowLogProbExec intX 2 toyEmb toyT toyCond 1 #[3, 4] #[20] = .ok [-29819] := by
  decide +kernel

/-- (c) a `CompositeTransform` of an executed coupling layer, an executed autoregressive pass and a raising element-wise pass -/
example :
    compStage intX [toyT, toyAr, toyDom] 2 #[1, 2, 3, 4] #[110, 120] = .ok (#[224, 12884, 494, 16002], [239, 263]) ∧
    compStage intX [toyT, toyAr, toyDom] 1 #[3, 4] #[120] = .ok (#[494, 16002], [263]) ∧
    flowLogProbExec intX 2 toyEmb (compStage intX [toyT, toyAr, toyDom]) toyCond 2 #[1, 2, 3, 4] #[10, 20]
      = .ok [-166010215, -256203619] ∧
    flowLogProbExec intX 2 toyEmb (compStage intX [toyT, toyAr, toyDom]) toyCond 1 #[3, 4] #[20] = .ok [-256203619] := by
  decide +kernel

/-- (b) errors: row 1 is outside the domain of the first stage: the batch raises that error, row 0 alone is accepted, row 1 alone
    raises; and a base-density rejection (event shape `[3]` against inputs of shape `[2]`) is raised by the batch and by every row -/
example :
    flowLogProbExec intX 2 toyEmb (compStage intX [toyDom, toyT]) toyCond 2 #[1, 2, -3, 4] #[10, 20]
      = .error (.base .outsideDomain) ∧
    flowLogProbExec intX 2 toyEmb (compStage intX [toyDom, toyT]) toyCond 1 #[1, 2] #[10] = .ok [-24876] ∧
    flowLogProbExec intX 2 toyEmb (compStage intX [toyDom, toyT]) toyCond 1 #[-3, 4] #[20] = .error (.base .outsideDomain) ∧
    flowLogProbExec intX 2 toyEmb toyT (fun B rows _ => stdNormalLogProb intX [3] [2] (some B) rows) 2 #[1, 2, 3, 4] #[10, 20]
      = .error valueErr ∧
    flowLogProbExec intX 2 toyEmb toyT (fun B rows _ => stdNormalLogProb intX [3] [2] (some B) rows) 1 #[3, 4] #[20]
      = .error valueErr := by
  decide +kernel

/-- C04: `sample_and_log_prob(2, context[2])` over the executed inverse coupling pass: sample `[1, 0]` (flat row 2) is the inverse
    pass alone on noise row 2 under embedded context row 1, and its returned value is `log_prob` of that sample under context row 1 -/
example :
    flowSalpExec intX 2 1 2 2 toyEmb toyTinv toyCond #[1, 2, 3, 4, 5, 6, 7, 8] #[10, 20]
      = .ok (#[1, -109, 3, -109, 5, -119, 7, -119], [-11886, -11466, -13262, -12834]) ∧
    toyTinv 1 #[5, 6] (toyEmb 1 #[20]) = .ok (#[5, -119], [-1]) ∧
    flowLogProbExec intX 2 toyEmb toyT toyCond 1 #[5, -119] #[20] = .ok [-13262] := by
  decide +kernel

example : ∃ l, ([-24651, -29819] : List Int)[1]? = some l ∧
    flowLogProbExec intX 2 toyEmb toyT toyCond 1 #[3, 4] #[20] = .ok [l] :=
  (flowExec_row_independent intX toy_flowRows [-24651, -29819] (by decide +kernel)).2 1 (by decide)

/-- `RoundTripStage` is satisfiable (the identity stage at the toy semantics, where `-0 = 0`) -/
example : RoundTripStage intX 2 (fun B x _ => .ok (x, List.replicate B 0)) (fun B x _ => .ok (x, List.replicate B 0)) := by
  intro z e s d h
  simp only [List.replicate_one, Except.ok.injEq, Prod.mk.injEq, List.cons.injEq, and_true] at h
  obtain ⟨rfl, rfl⟩ := h
  exact ⟨z, rfl, RowEq.refl _ _ _⟩

/-- `0 < B` in `flowExec_raises_iff` is forced: the empty batch is rejected by the base density's shape check, with no row to blame -/
example : flowLogProbExec intX 2 toyEmb toyT (fun B rows _ => stdNormalLogProb intX [3] [2] (some B) rows) 0 #[] #[]
    = .error valueErr := by
  decide +kernel

end examples

end NF.FlowRowsExec
