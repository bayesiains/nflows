import NflowsModel.Lemmas.FlowRowsExec
/-!
# Lemmas/CouplingExec — the executed coupling layer with its conditioner in the loop, for every `XOps α`

The programs (`couplingRun` on 2-D inputs, `layer` on `[B, C, S]` inputs: the conditioner is run on what the program hands
it), and what holds of them for every scalar type: the parameters depend only on the identity entries and the context, there
is no cross dependence between transformed entries, identity entries pass through under the weakest hypothesis on the mask.
§1 is in the namespace `NF.CouplingJacobian`, §2–§3 in `NF.CouplingConsequences`: the files of those names build on this one.
-/
open NF

namespace NF.CouplingJacobian
open NF.StructureExec

variable {α : Type}

/-! ## 1. The executed programs: the conditioner is run on the identity split -/

/-- the identity split `inputs[:, identity_features]` of a `[B, C]` input (coupling.py:82): what the conditioner is given -/
def idSplit (o : XOps α) (mask : List α) (B : Nat) (x : Array α) : Array α :=
  gatherCh x B mask.length 1 (identityIdx o mask) o.zero

/-- `CouplingTransform.forward` on 2-D inputs (coupling.py:73-100), no unconditional transform: the conditioner `net`
    is applied to the identity split, `couplingApply` to its output -/
def couplingForward (o : XOps α) (c : ElCfg) (mask : List α) (B : Nat) (net : Array α → Array α) (x : Array α) :
    TResult α :=
  couplingApply o c mask B 1 x (net (idSplit o mask B x)) false

/-- `CouplingTransform.inverse` (coupling.py:102-130), no unconditional transform -/
def couplingInverse (o : XOps α) (c : ElCfg) (mask : List α) (B : Nat) (net : Array α → Array α) (y : Array α) :
    TResult α :=
  couplingApply o c mask B 1 y (net (idSplit o mask B y)) true

def couplingRun (o : XOps α) (c : ElCfg) (mask : List α) (B : Nat) (net : Array α → Array α) (inverse : Bool)
    (x : Array α) : TResult α :=
  couplingApply o c mask B 1 x (net (idSplit o mask B x)) inverse

theorem couplingRun_false (o : XOps α) (c : ElCfg) (mask : List α) (B : Nat) (net : Array α → Array α) (x : Array α) :
    couplingRun o c mask B net false x = couplingForward o c mask B net x := rfl

theorem couplingRun_true (o : XOps α) (c : ElCfg) (mask : List α) (B : Nat) (net : Array α → Array α) (x : Array α) :
    couplingRun o c mask B net true x = couplingInverse o c mask B net x := rfl

theorem couplingForward_condIn (o : XOps α) (c : ElCfg) (mask : List α) (B : Nat) (net : Array α → Array α)
    (x : Array α) : (couplingForward o c mask B net x).condIn = idSplit o mask B x :=
  coupling_condIn_forward o c mask B 1 x _ none #[]

theorem couplingInverse_condIn (o : XOps α) (c : ElCfg) (mask : List α) (B : Nat) (net : Array α → Array α)
    (y : Array α) : (couplingInverse o c mask B net y).condIn = idSplit o mask B y :=
  coupling_condIn_none o c mask B 1 y _ true #[]

theorem flatIdx_one (C b ch : Nat) : flatIdx C 1 b ch 0 = b * C + ch := by simp [flatIdx]

end NF.CouplingJacobian

namespace NF.CouplingConsequences
open NF.StructureExec NF.CouplingJacobian NF.FlowRowsExec

variable {α : Type}

/-! ## 2. Parameters depend only on the identity features and the context (every `XOps α`) -/

section generic
variable (o : XOps α) (c : ElCfg) (mask : List α) (S : Nat) (inverse : Bool) (uc : Option ElCfg) (uparams : Array α)

def IdAgree (B : Nat) (x x' : Array α) : Prop :=
  ∀ b ch s, b < B → ch ∈ identityIdx o mask → s < S →
    x[flatIdx mask.length S b ch s]? = x'[flatIdx mask.length S b ch s]?

theorem IdAgree.refl (B : Nat) (x : Array α) : IdAgree o mask S B x x := fun _ _ _ _ _ _ => rfl

theorem couplingUncond_entry_congr {B B' b b' ch s : Nat} (x x' : Array α) (hb : b < B) (hb' : b' < B')
    (hch : ch < mask.length) (hs : s < S)
    (h : x[flatIdx mask.length S b ch s]? = x'[flatIdx mask.length S b' ch s]?) :
    (couplingUncond o mask B S x inverse uc uparams)[flatIdx mask.length S b ch s]?
      = (couplingUncond o mask B' S x' inverse uc uparams)[flatIdx mask.length S b' ch s]? := by
  cases uc with
  | none => simpa using h
  | some ucfg =>
    by_cases hm : ch ∈ identityIdx o mask
    · obtain ⟨t, ht, rfl⟩ := exists_getD_of_mem hm
      rw [couplingUncond_identity o mask B S x inverse uparams ucfg hb ht hs,
        couplingUncond_identity o mask B' S x' inverse uparams ucfg hb' ht hs, getD_congr h, h]
    · rw [couplingUncond_other o mask B S x inverse (some ucfg) uparams hch hs hm,
        couplingUncond_other o mask B' S x' inverse (some ucfg) uparams hch hs hm]
      exact h

/-- in the inverse direction the conditioner sees the un-transformed identity features, which are functions of the
    identity features -/
theorem condInOf_congr {B : Nat} {x x' : Array α} (h : IdAgree o mask S B x x') :
    condInOf o mask S inverse uc uparams B x = condInOf o mask S inverse uc uparams B x' := by
  unfold condInOf
  cases inverse with
  | false =>
    simp only [Bool.false_eq_true, if_false]
    exact gatherCh_congr x x' B mask.length S _ _ h
  | true =>
    simp only [if_true]
    apply gatherCh_congr
    intro b ch s hb hch hs
    exact couplingUncond_entry_congr o mask S true uc uparams x x' hb hb ((identityIdx_ok o mask).lt _ hch) hs
      (h b ch s hb hch hs)

/-- the conditioner output the executed layer is run with: `net` (identity split ↦ context ↦ parameters) applied to what
    the program hands it -/
def paramsOf (net : Array α → Array α → Array α) (B : Nat) (x ctx : Array α) : Array α :=
  net (condInOf o mask S inverse uc uparams B x) ctx

/-- the executed coupling layer with the conditioner in the loop (coupling.py:73-130), any `S` -/
def layer (net : Array α → Array α → Array α) (B : Nat) (x ctx : Array α) : TResult α :=
  couplingApply o c mask B S x (paramsOf o mask S inverse uc uparams net B x ctx) inverse uc uparams

theorem couplingStage_eq_layer (net : Nat → Array α → Array α → Array α) (B : Nat) (x ctx : Array α) :
    couplingStage o c mask S inverse uc uparams net B x ctx
      = ofT (layer o c mask S inverse uc uparams (net B) B x ctx) := rfl

theorem condInOf_one (B : Nat) (x : Array α) : condInOf o mask 1 inverse none #[] B x = idSplit o mask B x := by
  unfold condInOf idSplit
  rw [couplingUncond_none, ite_self]

theorem paramsOf_one (net : Array α → Array α) (B : Nat) (x ctx : Array α) :
    paramsOf o mask 1 inverse none #[] (fun z _ => net z) B x ctx = net (idSplit o mask B x) := by
  unfold paramsOf
  rw [condInOf_one]

theorem layer_one_eq_couplingRun (net : Array α → Array α) (B : Nat) (x ctx : Array α) :
    layer o c mask 1 inverse none #[] (fun z _ => net z) B x ctx = couplingRun o c mask B net inverse x := by
  unfold layer couplingRun
  rw [paramsOf_one]

theorem layer_condIn (net : Array α → Array α → Array α) (B : Nat) (x ctx : Array α) :
    (layer o c mask S inverse uc uparams net B x ctx).condIn = condInOf o mask S inverse uc uparams B x :=
  condInOf_eq o c mask S inverse uc uparams B x _

/-- **C07, parameters depend only on identity features and context** — the executed layer, ANY conditioner `net`, any mask
    (no hypothesis: NaN entries, overlapping `≤`/`>` allowed), any `B`, `S ≥ 0`, family, direction, unconditional
    transform.  For two inputs that agree on the identity channels and the same context: the conditioner is handed the same
    array, returns the same parameter array, and EVERY transformed element `(b, t, s)` is the same function of its own
    input — for the spline families it is handed the same parameter slice `condSlice`. -/
theorem exec_coupling_param_dependence (net : Array α → Array α → Array α) {B : Nat} {x x' : Array α} (ctx : Array α)
    (h : IdAgree o mask S B x x') :
    (layer o c mask S inverse uc uparams net B x ctx).condIn = (layer o c mask S inverse uc uparams net B x' ctx).condIn
    ∧ paramsOf o mask S inverse uc uparams net B x ctx = paramsOf o mask S inverse uc uparams net B x' ctx
    ∧ (∀ b t s, condSlice o c.mult (transformIdx o mask).length S (paramsOf o mask S inverse uc uparams net B x ctx) b t s
        = condSlice o c.mult (transformIdx o mask).length S (paramsOf o mask S inverse uc uparams net B x' ctx) b t s)
    ∧ (∀ b t s xi, couplingEl o c (transformIdx o mask).length S (paramsOf o mask S inverse uc uparams net B x ctx) inverse b t s xi
        = couplingEl o c (transformIdx o mask).length S (paramsOf o mask S inverse uc uparams net B x' ctx) inverse b t s xi) := by
  have hp : paramsOf o mask S inverse uc uparams net B x ctx = paramsOf o mask S inverse uc uparams net B x' ctx := by
    unfold paramsOf
    rw [condInOf_congr o mask S inverse uc uparams h]
  refine ⟨?_, hp, fun b t s => by rw [hp], fun b t s xi => by rw [hp]⟩
  rw [layer_condIn, layer_condIn, condInOf_congr o mask S inverse uc uparams h]

theorem condInOf_rowEq_id {B B' b b' : Nat} (x x' : Array α) (hb : b < B) (hb' : b' < B')
    (h : ∀ ch s, ch ∈ identityIdx o mask → s < S →
      x[flatIdx mask.length S b ch s]? = x'[flatIdx mask.length S b' ch s]?) :
    RowEq ((identityIdx o mask).length * S) b b' (condInOf o mask S inverse uc uparams B x)
      (condInOf o mask S inverse uc uparams B' x') := by
  unfold condInOf
  cases inverse with
  | false => exact gatherCh_rowEq_idx S x x' _ hb hb' h
  | true =>
    refine gatherCh_rowEq_idx S _ _ _ hb hb' ?_
    intro ch s hch hs
    exact couplingUncond_entry_congr o mask S true uc uparams x x' hb hb' ((identityIdx_ok o mask).lt _ hch) hs
      (h ch s hch hs)

/-- **the row form** (one row of a batch, possibly of another batch size, e.g. the row run alone): with a conditioner that
    is row-wise (`NetRowWise`, the only hypothesis), two rows that agree on their identity channels and their context row
    get the same parameter row, hence the same transformed elements -/
theorem exec_coupling_param_dependence_row (cw : Nat) (net : Nat → Array α → Array α → Array α)
    (hnet : NetRowWise ((identityIdx o mask).length * S) cw (paramWidth c (transformIdx o mask).length * S) net)
    {B B' b b' : Nat} (x x' ctx ctx' : Array α) (hb : b < B) (hb' : b' < B')
    (h : ∀ ch s, ch ∈ identityIdx o mask → s < S →
      x[flatIdx mask.length S b ch s]? = x'[flatIdx mask.length S b' ch s]?)
    (hc : RowEq cw b b' ctx ctx') :
    RowAgree (paramWidth c (transformIdx o mask).length) S b b'
        (net B (condInOf o mask S inverse uc uparams B x) ctx) (net B' (condInOf o mask S inverse uc uparams B' x') ctx')
    ∧ ∀ t s xi, t < (transformIdx o mask).length → s < S →
        couplingEl o c (transformIdx o mask).length S (net B (condInOf o mask S inverse uc uparams B x) ctx) inverse b t s xi
          = couplingEl o c (transformIdx o mask).length S (net B' (condInOf o mask S inverse uc uparams B' x') ctx')
              inverse b' t s xi := by
  have hp := rowAgree_of_rowEq (hnet _ _ ctx ctx' hb hb'
    (condInOf_rowEq_id o mask S inverse uc uparams x x' hb hb' h) hc)
  exact ⟨hp, fun t s xi ht hs => couplingEl_congr o c _ S _ _ inverse b b' t s xi ht hs hp⟩

/-- **C07, no cross dependence between transformed features**: entry `(b, t, s)` of a transformed channel of the OUTPUT
    of the executed layer is a function of the same entry of the input, of the identity channels and of the context —
    whatever the other transformed channels hold.  Any `XOps α` (an equality in `α`: bit-for-bit at `Float`), errors or
    not. -/
theorem exec_coupling_no_cross_dependence (net : Array α → Array α → Array α) {B b t s : Nat} (hb : b < B)
    (ht : t < (transformIdx o mask).length) (hs : s < S) {x x' : Array α} (ctx : Array α)
    (hid : IdAgree o mask S B x x')
    (hself : x[flatIdx mask.length S b ((transformIdx o mask).getD t 0) s]?
      = x'[flatIdx mask.length S b ((transformIdx o mask).getD t 0) s]?) :
    (layer o c mask S inverse uc uparams net B x ctx).out[flatIdx mask.length S b ((transformIdx o mask).getD t 0) s]?
      = (layer o c mask S inverse uc uparams net B x' ctx).out[flatIdx mask.length S b ((transformIdx o mask).getD t 0) s]? := by
  unfold layer
  rw [(exec_coupling_param_dependence o c mask S inverse uc uparams net ctx hid).2.1,
    coupling_out_transformed o c mask B S x _ inverse uc uparams hb ht hs,
    coupling_out_transformed o c mask B S x' _ inverse uc uparams hb ht hs, getD_congr hself,
    couplingUncond_entry_congr o mask S inverse uc uparams x x' hb hb ((transformIdx_ok o mask).getD_lt ht) hs hself]

/-- the same for the row log-det: it depends on the row and the identity channels — stated for the element OUTCOMES
    (value, log-det, alternatives, or the error) of the transformed elements -/
theorem exec_coupling_element_outcome (net : Array α → Array α → Array α) {B b t s : Nat} {x x' : Array α}
    (ctx : Array α) (hid : IdAgree o mask S B x x')
    (hself : x[flatIdx mask.length S b ((transformIdx o mask).getD t 0) s]?
      = x'[flatIdx mask.length S b ((transformIdx o mask).getD t 0) s]?) :
    couplingEl o c (transformIdx o mask).length S (paramsOf o mask S inverse uc uparams net B x ctx) inverse b t s
        (x.getD (flatIdx mask.length S b ((transformIdx o mask).getD t 0) s) o.zero)
      = couplingEl o c (transformIdx o mask).length S (paramsOf o mask S inverse uc uparams net B x' ctx) inverse b t s
        (x'.getD (flatIdx mask.length S b ((transformIdx o mask).getD t 0) s) o.zero) := by
  rw [(exec_coupling_param_dependence o c mask S inverse uc uparams net ctx hid).2.1, getD_congr hself]

/-- **changing ANOTHER transformed entry leaves output `(b, t, s)` unchanged**: overwrite entry `(b₂, ch₂, s₂)` of the
    input, `ch₂` not an identity channel and `(b₂, ch₂, s₂) ≠ (b, transformIdx[t], s)`, by any value -/
theorem exec_coupling_no_cross_dependence_set (net : Array α → Array α → Array α) {B b t s b₂ ch₂ s₂ : Nat}
    (hb : b < B) (ht : t < (transformIdx o mask).length) (hs : s < S) (x ctx : Array α) (v : α)
    (hch₂ : ch₂ < mask.length) (hs₂ : s₂ < S) (hni : ch₂ ∉ identityIdx o mask)
    (hne : ¬ (b₂ = b ∧ ch₂ = (transformIdx o mask).getD t 0 ∧ s₂ = s)) :
    (layer o c mask S inverse uc uparams net B (x.setIfInBounds (flatIdx mask.length S b₂ ch₂ s₂) v) ctx).out[
        flatIdx mask.length S b ((transformIdx o mask).getD t 0) s]?
      = (layer o c mask S inverse uc uparams net B x ctx).out[flatIdx mask.length S b ((transformIdx o mask).getD t 0) s]? := by
  have hget : ∀ j, j ≠ flatIdx mask.length S b₂ ch₂ s₂ →
      (x.setIfInBounds (flatIdx mask.length S b₂ ch₂ s₂) v)[j]? = x[j]? := by
    intro j hj
    rw [Array.getElem?_setIfInBounds_ne (Ne.symm hj)]
  apply exec_coupling_no_cross_dependence o c mask S inverse uc uparams net hb ht hs ctx
  · intro b' ch s' _ hch hs'
    apply hget
    intro heq
    have := (flatIdx_inj ((identityIdx_ok o mask).lt _ hch) hch₂ hs' hs₂ heq).2.1
    exact hni (this ▸ hch)
  · apply hget
    intro heq
    obtain ⟨h1, h2, h3⟩ := flatIdx_inj ((transformIdx_ok o mask).getD_lt ht) hch₂ hs hs₂ heq
    exact hne ⟨h1.symm, h2.symm, h3.symm⟩

/-! ## 3. Pass-through under the weakest hypothesis, generic in `α` -/

theorem not_mem_transformIdx_of_gt_false {ch : Nat} (h : o.gt (mask.getD ch o.zero) o.zero = false) :
    ch ∉ transformIdx o mask := by
  intro hm
  simp only [transformIdx, List.mem_filter] at hm
  rw [h] at hm
  exact Bool.noConfusion hm.2

theorem mem_transformIdx_of_gt {ch : Nat} (hch : ch < mask.length) (h : o.gt (mask.getD ch o.zero) o.zero = true) :
    ch ∈ transformIdx o mask := by
  simp only [transformIdx, List.mem_filter, List.mem_range]
  exact ⟨hch, h⟩

/-- **C07, identity features, every `XOps α`, weakest hypothesis**: a channel whose mask entry does NOT compare `> 0`
    (nothing is assumed about `≤`: the entry may be a NaN, and no other channel is constrained — `MaskDisjoint` is not
    needed) is returned unchanged at every position, both directions, every `B`, `S`, parameter array, errors or not,
    when no unconditional transform was requested.  An equality in `α`: bit-for-bit at `Float`. -/
theorem exec_identity_passthrough_weak (B : Nat) (x params : Array α) {b ch s : Nat} (hch : ch < mask.length) (hs : s < S)
    (hgt : o.gt (mask.getD ch o.zero) o.zero = false) :
    (couplingApply o c mask B S x params inverse none uparams).out[flatIdx mask.length S b ch s]?
      = x[flatIdx mask.length S b ch s]? :=
  coupling_identity_passthrough o c mask B S x params inverse uparams hch hs
    (not_mem_transformIdx_of_gt_false o mask hgt)

/-- the per-mask form: `MaskDisjoint` follows from "`m ≤ 0` excludes `m > 0`" for the entries of the mask, and then
    every identity channel passes through -/
theorem exec_identity_passthrough_of_entries (B : Nat) (x params : Array α)
    (hm : ∀ m ∈ mask, o.le m o.zero = true → o.gt m o.zero = false) {b ch s : Nat}
    (hch : ch ∈ identityIdx o mask) (hs : s < S) :
    (couplingApply o c mask B S x params inverse none uparams).out[flatIdx mask.length S b ch s]?
      = x[flatIdx mask.length S b ch s]? :=
  coupling_identity_passthrough' o c mask B S x params inverse uparams (maskDisjoint_of o mask hm) hch hs

/-- **"unless an unconditional transform was requested"**: then entry `(b, ipos, sp)` of an identity channel (that is not
    also listed as transformed) holds the outcome of the unconditional element on the input entry, with the batch-shared
    parameter slice of `(ipos, sp)` — still a function of that input entry alone -/
theorem exec_identity_unconditional (ucfg : ElCfg) (B : Nat) (x params : Array α) {b t s : Nat} (hb : b < B)
    (ht : t < (identityIdx o mask).length) (hs : s < S)
    (hni : (identityIdx o mask).getD t 0 ∉ transformIdx o mask) :
    (couplingApply o c mask B S x params inverse (some ucfg) uparams).out[
        flatIdx mask.length S b ((identityIdx o mask).getD t 0) s]?
      = selOut (elTransform o ucfg inverse (ucSlice o ucfg.mult S uparams t s)
                  (x.getD (flatIdx mask.length S b ((identityIdx o mask).getD t 0) s) o.zero))
          x[flatIdx mask.length S b ((identityIdx o mask).getD t 0) s]? := by
  rw [coupling_out_other_channel o c mask B S x params inverse (some ucfg) uparams
      ((identityIdx_ok o mask).getD_lt ht) hs hni,
    couplingUncond_identity o mask B S x inverse uparams ucfg hb ht hs]

/-- **converse**: a channel whose mask entry compares `> 0` holds the element's outcome (success overwrites) — so the
    hypothesis of `exec_identity_passthrough_weak` cannot be dropped -/
theorem exec_transformed_entry (B : Nat) (x params : Array α) {b ch s : Nat} (hb : b < B) (hch : ch < mask.length)
    (hs : s < S) (hgt : o.gt (mask.getD ch o.zero) o.zero = true) :
    ∃ t, t < (transformIdx o mask).length ∧ (transformIdx o mask).getD t 0 = ch ∧
      (couplingApply o c mask B S x params inverse none uparams).out[flatIdx mask.length S b ch s]?
        = selOut (couplingEl o c (transformIdx o mask).length S params inverse b t s
            (x.getD (flatIdx mask.length S b ch s) o.zero)) x[flatIdx mask.length S b ch s]? := by
  obtain ⟨t, ht, rfl⟩ := exists_getD_of_mem (mem_transformIdx_of_gt o mask hch hgt)
  refine ⟨t, ht, rfl, ?_⟩
  rw [coupling_out_transformed o c mask B S x params inverse none uparams hb ht hs, couplingUncond_none]

end generic

end NF.CouplingConsequences
