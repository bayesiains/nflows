import Mathlib.Analysis.SpecialFunctions.Log.Basic
import Mathlib.Algebra.BigOperators.Ring.Finset
import Mathlib.Data.Fintype.BigOperators
import Mathlib.Tactic

namespace Bernoulli

noncomputable section
open Real

def softplus (l : ℝ) : ℝ := Real.log (1 + Real.exp l)

def ind (x : Bool) : ℝ := if x then 1 else 0
/-- per-feature log-likelihood as coded (discrete.py:54), x ∈ {0,1} -/
def bernLogp (l : ℝ) (x : Bool) : ℝ := -(ind x) * softplus (-l) - (1 - ind x) * softplus l

theorem exp_neg_softplus (l : ℝ) : Real.exp (- softplus l) = 1 / (1 + Real.exp l) := by
  unfold softplus
  rw [Real.exp_neg, Real.exp_log (by positivity)]; simp

theorem exp_bernLogp_true (l : ℝ) : Real.exp (bernLogp l true) = 1 / (1 + Real.exp (-l)) := by
  rw [← exp_neg_softplus]; congr 1; simp [bernLogp, ind]

theorem exp_bernLogp_false (l : ℝ) : Real.exp (bernLogp l false) = 1 / (1 + Real.exp l) := by
  rw [← exp_neg_softplus]; congr 1; simp [bernLogp, ind]

theorem bern_two (l : ℝ) : Real.exp (bernLogp l true) + Real.exp (bernLogp l false) = 1 := by
  rw [exp_bernLogp_true, exp_bernLogp_false, Real.exp_neg]
  have : (0:ℝ) < Real.exp l := Real.exp_pos l
  field_simp
  ring

theorem bernoulli_sum_one {D : ℕ} (logits : Fin D → ℝ) :
    ∑ x : Fin D → Bool, Real.exp (∑ i, bernLogp (logits i) (x i)) = 1 := by
  have h1 : ∀ x : Fin D → Bool, Real.exp (∑ i, bernLogp (logits i) (x i)) = ∏ i, Real.exp (bernLogp (logits i) (x i)) :=
    fun x => Real.exp_sum _ _
  simp_rw [h1]
  rw [← Fintype.prod_sum (fun i (b : Bool) => Real.exp (bernLogp (logits i) b))]
  apply Finset.prod_eq_one
  intro i _
  rw [Fintype.sum_bool]
  exact bern_two (logits i)


end
end Bernoulli
