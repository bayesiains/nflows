import NflowsModel.Lemmas.NonlinExec
import Mathlib.Analysis.SpecialFunctions.Trigonometric.ArctanDeriv
import Mathlib.Analysis.Complex.ExponentialBounds
import Mathlib.Analysis.Real.Pi.Bounds
import Mathlib.Analysis.Calculus.Deriv.MeanValue
import Mathlib.Analysis.Calculus.TangentCone.Real
/-!
# Lemmas/NonlinExecLT — the EXECUTED `cauchyT` and `logTanhT` of `Core/Nonlin.lean` at `NF.realX e`

The development of `Lemmas/NonlinExec.lean` for the two elements that need trigonometric / hyperbolic calculus.  For both
and both directions:
* A1 (C17) the exact run: which branch is taken, `.ok` closed form / `.error` characterisation;
* A2 (C01) `exp (returned log-det)` is the derivative of the returned value as a function of the input, stated as
  `HasDerivAt (outY ∘ F) (exp (outL (F x))) x` — with the success of the run this is `IncLogDetAt F x`
  (`incLogDetAt_iff`).  Forward: from the closed form (`hasDerivAt_of_run`); inverse: from the forward statement and A3
  (`hasDerivAt_of_inverse_run`), nothing about an inverse function is differentiated;
* A3 (C02) the executed inverse on the executed forward output returns `(x, -ld)`, and conversely (`RoundTrip`; for
  `cauchyT` as a rule `fwd x = .ok (y, ld) → inv y = .ok (x, -ld)`, `RoundTrip.undoes`).
-/
open NF DualX Filter Topology Set

namespace NonlinExec
noncomputable section

variable (e : Float → ℝ)

@[simp] theorem realX_tan (a : ℝ) : (NF.realX e).tan a = Real.tan a := rfl
@[simp] theorem realX_tanh (a : ℝ) : (NF.realX e).tanh a = Real.tanh a := rfl

/-! ## The law as `HasDerivAt (outY ∘ F) (exp (outL (F x))) x`: from the closed form, and from the other direction -/

theorem hasDerivAt_of_run {F : ℝ → Except Err (ℝ × ℝ)} {f l : ℝ → ℝ} {x d : ℝ}
    (hF : ∀ᶠ s in 𝓝 x, F s = .ok (f s, l s)) (hd : HasDerivAt f d x) (hl : Real.exp (l x) = d) :
    HasDerivAt (fun s => outY (F s)) (Real.exp (outL (F x))) x :=
  (incLogDetAt_iff.mp (incLogDetAt_of_eventually hF (hl ▸ hd))).2

theorem hasDerivAt_of_inverse_run {F G : ℝ → Except Err (ℝ × ℝ)} {g m : ℝ → ℝ} {y : ℝ}
    (hG : ∀ᶠ s in 𝓝 y, G s = .ok (g s, m s)) (hc : ContinuousAt g y)
    (hFG : ∀ᶠ s in 𝓝 y, F (g s) = .ok (s, -m s))
    (hF : HasDerivAt (fun s => outY (F s)) (Real.exp (outL (F (g y)))) (g y)) :
    HasDerivAt (fun s => outY (G s)) (Real.exp (outL (G y))) y :=
  (incLogDetAt_iff.mp (IncLogDetAt.of_roundTrip hG hc ((hG.and hFG).mono fun _ hs => ⟨_, _, hs.1, hs.2⟩)
    (incLogDetAt_iff.mpr ⟨⟨_, hFG.self_of_nhds⟩, hF⟩))).2

/-! ## CauchyCDF -/

/-- A1 forward: total, raw closed form in terms of the readings of the four doubles the code forms -/
theorem cauchyT_fwd_run (x : ℝ) :
    cauchyT (NF.realX e) false x
      = .ok (e (1 / 3.141592653589793) * Real.arctan x + e 0.5,
             e (-(Float.log 3.141592653589793)) - Real.log (1 + x * x)) := by
  unfold cauchyT
  simp only [Bool.false_eq_true, if_false, NF.realX_add, NF.realX_mul, NF.realX_sub, NF.realX_ofFloat, NF.realX_atan,
    NF.realX_log, NF.realX_one]

theorem cauchyT_inv_error_iff (x : ℝ) :
    cauchyT (NF.realX e) true x = .error .outsideDomain ↔ x < 0 ∨ 1 < x :=
  (cauchyT_rejects_iff (NF.realX e) x).trans (by
    simp only [NF.realX_lt, XOps.gt, NF.realX_zero, NF.realX_one, decide_eq_true_eq, Bool.or_eq_true])

/-- A1 inverse: raw closed form on `[0, 1]` (end points included: the model, like the code, accepts them) -/
theorem cauchyT_inv_run (x : ℝ) (h0 : 0 ≤ x) (h1 : x ≤ 1) :
    cauchyT (NF.realX e) true x
      = .ok (Real.tan (e 3.141592653589793 * (x - e 0.5)),
             -(e (-(Float.log 3.141592653589793))
                - Real.log (1 + Real.tan (e 3.141592653589793 * (x - e 0.5))
                              * Real.tan (e 3.141592653589793 * (x - e 0.5))))) := by
  unfold cauchyT
  simp [XOps.gt, not_lt.mpr h0, not_lt.mpr h1]

theorem cauchyT_inv_total (x : ℝ) :
    (∃ p, cauchyT (NF.realX e) true x = .ok p) ∨ cauchyT (NF.realX e) true x = .error .outsideDomain := by
  by_cases h : x < 0 ∨ 1 < x
  · exact Or.inr ((cauchyT_inv_error_iff e x).2 h)
  · rw [not_or, not_lt, not_lt] at h
    exact Or.inl ⟨_, cauchyT_inv_run e x h.1 h.2⟩

/-- the readings of the four double constants of `CauchyCDF` as the ideal reals -/
structure CauchyConsts : Prop where
  hpi : e 3.141592653589793 = Real.pi
  hinv : e (1 / 3.141592653589793) = 1 / Real.pi
  hhalf : e 0.5 = 1 / 2
  hlog : e (-(Float.log 3.141592653589793)) = -Real.log Real.pi

variable {e}

/-! ### `π̂` read as a real `0 < p ≤ π`

The double is BELOW `π`, so `p < π` is the honest reading and `p = π` (`CauchyConsts`) the ideal one; both are covered.
With `p < π` the end points `0, 1` of the inverse are regular (`tan (∓p/2)` is finite, as in the code) and
forward ∘ inverse holds on the CLOSED interval, but inverse ∘ forward is only available while `|arctan x| ≤ p/2`: beyond,
the forward output `1/p · arctan x + 1/2` leaves `[0,1]` and the inverse raises (`cauchyT_inv_fwd_p_fails`).  (In binary64
the product `fl(1/π̂) · atan x` is at most `0.5`, so the code does not raise; that is a rounding fact outside this real
reading.) -/

structure CauchyConstsP (e : Float → ℝ) (p : ℝ) : Prop where
  p_pos : 0 < p
  p_le : p ≤ Real.pi
  hpi : e 3.141592653589793 = p
  hinv : e (1 / 3.141592653589793) = 1 / p
  hhalf : e 0.5 = 1 / 2
  hlog : e (-(Float.log 3.141592653589793)) = -Real.log p

theorem CauchyConsts.toP (h : CauchyConsts e) : CauchyConstsP e Real.pi :=
  ⟨Real.pi_pos, le_rfl, h.hpi, h.hinv, h.hhalf, h.hlog⟩

variable {p : ℝ}

theorem cauchyT_fwd_p (h : CauchyConstsP e p) (x : ℝ) :
    cauchyT (NF.realX e) false x = .ok (1 / p * Real.arctan x + 1 / 2, -Real.log p - Real.log (1 + x * x)) := by
  rw [cauchyT_fwd_run, h.hinv, h.hhalf, h.hlog]

theorem cauchyT_inv_p (h : CauchyConstsP e p) (x : ℝ) (h0 : 0 ≤ x) (h1 : x ≤ 1) :
    cauchyT (NF.realX e) true x
      = .ok (Real.tan (p * (x - 1 / 2)),
             -(-Real.log p - Real.log (1 + Real.tan (p * (x - 1 / 2)) * Real.tan (p * (x - 1 / 2))))) := by
  rw [cauchyT_inv_run e x h0 h1, h.hpi, h.hhalf, h.hlog]

/-- the argument of `tan` stays strictly inside `(−π/2, π/2)`: on `[0,1]` when `p < π`, on `(0,1)` when `p = π` -/
theorem cauchy_arg_lt (h : CauchyConstsP e p) {y : ℝ} (h0 : 0 ≤ y) (h1 : y ≤ 1)
    (hreg : p < Real.pi ∨ (0 < y ∧ y < 1)) : |p * (y - 1 / 2)| < Real.pi / 2 := by
  have hp := h.p_pos
  rw [abs_mul, abs_of_pos hp]
  rcases hreg with hlt | ⟨g0, g1⟩
  · have hy : |y - 1 / 2| ≤ 1 / 2 :=
      abs_le.mpr ⟨by rw [le_sub_iff_add_le, neg_add_cancel]; exact h0, sub_le_iff_le_add.mpr (h1.trans_eq (add_halves 1).symm)⟩
    calc p * |y - 1 / 2| ≤ p * (1 / 2) := mul_le_mul_of_nonneg_left hy hp.le
      _ = p / 2 := mul_one_div p 2
      _ < Real.pi / 2 := div_lt_div_of_pos_right hlt two_pos
  · have hy : |y - 1 / 2| < 1 / 2 :=
      abs_lt.mpr ⟨by rw [lt_sub_iff_add_lt, neg_add_cancel]; exact g0, sub_lt_iff_lt_add.mpr (g1.trans_eq (add_halves 1).symm)⟩
    calc p * |y - 1 / 2| < p * (1 / 2) := mul_lt_mul_of_pos_left hy hp
      _ = p / 2 := mul_one_div p 2
      _ ≤ Real.pi / 2 := div_le_div_of_nonneg_right h.p_le two_pos.le

theorem cauchyT_fwd_hasDerivAt_p (h : CauchyConstsP e p) (x : ℝ) :
    HasDerivAt (fun s => outY (cauchyT (NF.realX e) false s))
      (Real.exp (outL (cauchyT (NF.realX e) false x))) x := by
  have hp := h.p_pos
  refine hasDerivAt_of_run (f := fun s => 1 / p * Real.arctan s + 1 / 2)
    (l := fun s => -Real.log p - Real.log (1 + s * s)) (d := 1 / p * (1 / (1 + x ^ 2)))
    (Eventually.of_forall fun s => cauchyT_fwd_p h s)
    (((Real.hasDerivAt_arctan x).const_mul (1 / p)).add_const (1 / 2)) ?_
  have h1 : (0:ℝ) < 1 + x * x := add_pos_of_pos_of_nonneg one_pos (mul_self_nonneg x)
  show Real.exp (-Real.log p - Real.log (1 + x * x)) = _
  rw [Real.exp_sub, Real.exp_neg, Real.exp_log hp, Real.exp_log h1, pow_two, one_div, one_div, div_eq_mul_inv]

/-- A3: inverse ∘ forward while the forward output stays in `[0,1]`, i.e. `|arctan x| ≤ p/2` -/
theorem cauchyT_inv_fwd_p (h : CauchyConstsP e p) (x y ld : ℝ) (hx : |Real.arctan x| ≤ p / 2)
    (hf : cauchyT (NF.realX e) false x = .ok (y, ld)) :
    cauchyT (NF.realX e) true y = .ok (x, -ld) := by
  have hp := h.p_pos
  rw [cauchyT_fwd_p h] at hf
  injection hf with hf
  injection hf with hy hl
  subst hy hl
  have hq : |Real.arctan x / p| ≤ 1 / 2 := by
    rw [abs_div, abs_of_pos hp, div_le_iff₀ hp, one_div_mul_eq_div]; exact hx
  obtain ⟨q0, q1⟩ := abs_le.mp hq
  rw [one_div_mul_eq_div, cauchyT_inv_p h _ (neg_le_iff_add_nonneg.mp q0) ((add_le_add q1 le_rfl).trans_eq (add_halves 1)),
    add_sub_cancel_right, mul_div_cancel₀ _ hp.ne', Real.tan_arctan]

/-- FINDING (of the reading `p < π`, not of the binary64 code): beyond `tan (p/2)` the executed inverse rejects the
    executed forward output -/
theorem cauchyT_inv_fwd_p_fails (h : CauchyConstsP e p) (hlt : p < Real.pi) :
    ∃ x : ℝ, cauchyT (NF.realX e) true (outY (cauchyT (NF.realX e) false x)) = .error .outsideDomain := by
  have hp := h.p_pos
  -- the arctangent of the witness is the midpoint of `p/2` and `π/2`
  have hlo : p / 2 < (p / 2 + Real.pi / 2) / 2 := left_lt_add_div_two.mpr (div_lt_div_of_pos_right hlt two_pos)
  have hhi : (p / 2 + Real.pi / 2) / 2 < Real.pi / 2 := add_div_two_lt_right.mpr (div_lt_div_of_pos_right hlt two_pos)
  refine ⟨Real.tan ((p / 2 + Real.pi / 2) / 2), ?_⟩
  rw [cauchyT_fwd_p h, outY_ok, cauchyT_inv_error_iff]
  right
  show 1 < 1 / p * Real.arctan (Real.tan ((p / 2 + Real.pi / 2) / 2)) + 1 / 2
  rw [Real.arctan_tan ((neg_lt_zero.mpr (half_pos Real.pi_pos)).trans ((half_pos hp).trans hlo)) hhi, one_div_mul_eq_div]
  have : 1 / 2 < (p / 2 + Real.pi / 2) / 2 / p := by rw [lt_div_iff₀ hp, one_div_mul_eq_div]; exact hlo
  exact (add_halves (1:ℝ)).symm.trans_lt (add_lt_add_of_lt_of_le this le_rfl)

/-- A3: forward ∘ inverse; for `p < π` on the closed interval `[0,1]`, for `p = π` on the open one -/
theorem cauchyT_fwd_inv_p (h : CauchyConstsP e p) (y x ld : ℝ) (h0 : 0 ≤ y) (h1 : y ≤ 1)
    (hreg : p < Real.pi ∨ (0 < y ∧ y < 1))
    (hi : cauchyT (NF.realX e) true y = .ok (x, ld)) :
    cauchyT (NF.realX e) false x = .ok (y, -ld) := by
  rw [cauchyT_inv_p h y h0 h1] at hi
  injection hi with hi
  injection hi with hx hl
  subst hx hl
  obtain ⟨m0, m1⟩ := abs_lt.mp (cauchy_arg_lt h h0 h1 hreg)
  rw [cauchyT_fwd_p h, Real.arctan_tan m0 m1, neg_neg, one_div, inv_mul_cancel_left₀ h.p_pos.ne', sub_add_cancel]

/-- A2 inverse: from the
    forward statement and forward ∘ inverse (the tangent is continuous away from its poles) -/
theorem cauchyT_inv_hasDerivAt_p (h : CauchyConstsP e p) (x : ℝ) (h0 : 0 < x) (h1 : x < 1) :
    HasDerivAt (fun s => outY (cauchyT (NF.realX e) true s))
      (Real.exp (outL (cauchyT (NF.realX e) true x))) x := by
  have hcos : Real.cos (p * (x - 1 / 2)) ≠ 0 :=
    (Real.cos_pos_of_mem_Ioo (abs_lt.mp (cauchy_arg_lt h h0.le h1.le (Or.inr ⟨h0, h1⟩)))).ne'
  have hI : ∀ᶠ s in 𝓝 x, 0 < s ∧ s < 1 := Ioo_mem_nhds h0 h1
  refine hasDerivAt_of_inverse_run (F := cauchyT (NF.realX e) false)
    (hI.mono fun s hs => cauchyT_inv_p h s hs.1.le hs.2.le) ?_
    (hI.mono fun s hs => cauchyT_fwd_inv_p h s _ _ hs.1.le hs.2.le (Or.inr hs) (cauchyT_inv_p h s hs.1.le hs.2.le))
    (cauchyT_fwd_hasDerivAt_p h _)
  exact ContinuousAt.comp (g := Real.tan) (Real.continuousAt_tan.mpr hcos)
    (continuous_const.mul (continuous_id.sub continuous_const)).continuousAt

/-- non-vacuity of the reading `p < π` (here `p = 3`), conditional on three evaluated `Float` disequalities
    (see `cauchyConsts_example`) -/
def eCauchy3 (f : Float) : ℝ :=
  if f == 3.141592653589793 then 3
  else if f == 1 / 3.141592653589793 then 1 / 3
  else if f == 0.5 then 1 / 2 else -Real.log 3

theorem eCauchy3_key (i : Nat) {k : Float} {v : ℝ}
    (hi : [((3.141592653589793:Float), (3:ℝ)), (1 / 3.141592653589793, 1 / 3), (0.5, 1 / 2)][i]? = some (k, v)) :
    eCauchy3 k = v :=
  FloatFacts.readTbl_key (-Real.log 3) i hi FloatFacts.cauchy_keys

theorem cauchyConstsP_example
    (h1 : (-(Float.log 3.141592653589793) == 3.141592653589793) = false)
    (h2 : (-(Float.log 3.141592653589793) == 1 / 3.141592653589793) = false)
    (h3 : (-(Float.log 3.141592653589793) == 0.5) = false) : CauchyConstsP eCauchy3 3 where
  p_pos := by norm_num
  p_le := le_of_lt Real.pi_gt_three
  hpi := eCauchy3_key 0 rfl
  hinv := eCauchy3_key 1 rfl
  hhalf := eCauchy3_key 2 rfl
  hlog := by simp [eCauchy3, h1, h2, h3]

/-! ### the ideal reading `p = π` -/

/-- the end points under the ideal reading: value `0` (Mathlib's junk `tan (±π/2)`; the Python code returns
    `tan (∓π̂/2) ≈ ∓1.6e16`, finite because the double `π̂` is below `π`), log-det `log π`.  So the ideal reading is faithful
    only on the open interval. -/
theorem cauchyT_inv_ideal_endpoints (h : CauchyConsts e) :
    cauchyT (NF.realX e) true 0 = .ok (0, -(-Real.log Real.pi - Real.log (1 + 0 * 0))) ∧
    cauchyT (NF.realX e) true 1 = .ok (0, -(-Real.log Real.pi - Real.log (1 + 0 * 0))) := by
  constructor
  · rw [cauchyT_inv_p h.toP 0 le_rfl zero_le_one]
    have : Real.pi * (0 - 1 / 2) = -(Real.pi / 2) := by ring
    rw [this, Real.tan_neg, Real.tan_pi_div_two, neg_zero]
  · rw [cauchyT_inv_p h.toP 1 zero_le_one le_rfl]
    have : Real.pi * (1 - 1 / 2) = Real.pi / 2 := by ring
    rw [this, Real.tan_pi_div_two]

theorem cauchyT_inv_hasDerivAt (h : CauchyConsts e) (x : ℝ) (h0 : 0 < x) (h1 : x < 1) :
    HasDerivAt (fun s => outY (cauchyT (NF.realX e) true s))
      (Real.exp (outL (cauchyT (NF.realX e) true x))) x :=
  cauchyT_inv_hasDerivAt_p h.toP x h0 h1

theorem cauchyT_inv_fwd (h : CauchyConsts e) (x y ld : ℝ) (hf : cauchyT (NF.realX e) false x = .ok (y, ld)) :
    cauchyT (NF.realX e) true y = .ok (x, -ld) :=
  cauchyT_inv_fwd_p h.toP x y ld
    (abs_le.mpr ⟨(Real.neg_pi_div_two_lt_arctan x).le, (Real.arctan_lt_pi_div_two x).le⟩) hf

theorem cauchyT_fwd_inv (h : CauchyConsts e) (y x ld : ℝ) (h0 : 0 < y) (h1 : y < 1)
    (hi : cauchyT (NF.realX e) true y = .ok (x, ld)) :
    cauchyT (NF.realX e) false x = .ok (y, -ld) :=
  cauchyT_fwd_inv_p h.toP y x ld h0.le h1.le (Or.inr ⟨h0, h1⟩) hi

/-- at the end points the round trip FAILS under the ideal reading (value `0 ↦ 1/2`), which is an artefact of
    `Real.tan (π/2) = 0`; the code returns `tan (−π̂/2) ≈ −1.6e16` there and `atan` of it rounds back to `0.0` -/
theorem cauchyT_fwd_inv_endpoint (h : CauchyConsts e) :
    ∃ x ld, cauchyT (NF.realX e) true 0 = .ok (x, ld) ∧
      cauchyT (NF.realX e) false x = .ok (1 / 2, -ld) := by
  refine ⟨0, _, (cauchyT_inv_ideal_endpoints h).1, ?_⟩
  rw [cauchyT_fwd_p h.toP]
  simp

/-! ### non-vacuity of `CauchyConsts`

`Float.log` is kernel-opaque, so the key `-(Float.log π̂)` cannot be compared with the three literal keys inside the logic, and
the bundle is NOT unconditionally satisfiable in the logic (were `-(Float.log π̂)` the same double as `0.5`, the bundle would
force `1/2 = -log π`).  The witness is therefore conditional on the three `Float` disequalities, which are true by evaluation:
`#eval (-(Float.log 3.141592653589793) == 3.141592653589793, -(Float.log 3.141592653589793) == 1 / 3.141592653589793,
 -(Float.log 3.141592653589793) == 0.5)` prints `(false, false, false)` (the key is `-1.1447298858494002`). -/

def eCauchy (f : Float) : ℝ :=
  if f == 3.141592653589793 then Real.pi
  else if f == 1 / 3.141592653589793 then 1 / Real.pi
  else if f == 0.5 then 1 / 2 else -Real.log Real.pi

theorem eCauchy_key (i : Nat) {k : Float} {v : ℝ}
    (hi : [((3.141592653589793:Float), Real.pi), (1 / 3.141592653589793, 1 / Real.pi), (0.5, 1 / 2)][i]? = some (k, v)) :
    eCauchy k = v :=
  FloatFacts.readTbl_key (-Real.log Real.pi) i hi FloatFacts.cauchy_keys

theorem cauchyConsts_example
    (h1 : (-(Float.log 3.141592653589793) == 3.141592653589793) = false)
    (h2 : (-(Float.log 3.141592653589793) == 1 / 3.141592653589793) = false)
    (h3 : (-(Float.log 3.141592653589793) == 0.5) = false) : CauchyConsts eCauchy where
  hpi := eCauchy_key 0 rfl
  hinv := eCauchy_key 1 rfl
  hhalf := eCauchy_key 2 rfl
  hlog := by simp [eCauchy, h1, h2, h3]

/-! ## LogTanh -/

section LogTanh
variable (e : Float → ℝ) (cut invCut alpha beta : Float)

theorem logTanhT_fwd_run (x : ℝ) :
    logTanhT (NF.realX e) cut invCut alpha beta false x
      = .ok (if e cut < x then (e alpha * Real.log (e beta * x), Real.log (e alpha / x))
             else if x < -e cut then (e alpha * -Real.log (-e beta * x), Real.log (-e alpha / x))
             else (Real.tanh x, Real.log (1 - Real.tanh x * Real.tanh x))) := by
  unfold logTanhT
  simp only [Bool.false_eq_true, if_false, XOps.gt, NF.realX_lt, NF.realX_ofFloat, NF.realX_neg, NF.realX_mul,
    NF.realX_log, NF.realX_div, NF.realX_sub, NF.realX_one, realX_tanh, decide_eq_true_eq]
  split_ifs <;> rfl

theorem logTanhT_inv_run (y : ℝ) :
    logTanhT (NF.realX e) cut invCut alpha beta true y
      = .ok (if e invCut < y then
               (Real.exp (y / e alpha) / e beta, e (-(Float.log (alpha * beta))) + y / e alpha)
             else if y < -e invCut then
               (-Real.exp (-y / e alpha) / e beta, e (-(Float.log (alpha * beta))) - y / e alpha)
             else (e 0.5 * Real.log ((1 + y) / (1 - y)), -Real.log (1 - y * y))) := by
  unfold logTanhT
  simp only [if_true, XOps.gt, NF.realX_lt, NF.realX_ofFloat, NF.realX_neg, NF.realX_mul, NF.realX_add,
    NF.realX_log, NF.realX_div, NF.realX_sub, NF.realX_one, NF.realX_exp, decide_eq_true_eq]
  split_ifs <;> rfl

/-- C17: `LogTanh` has no error branch in either direction -/
theorem logTanhT_total (inverse : Bool) (x : ℝ) :
    ∃ p, logTanhT (NF.realX e) cut invCut alpha beta inverse x = .ok p := by
  cases inverse
  · exact ⟨_, logTanhT_fwd_run e cut invCut alpha beta x⟩
  · exact ⟨_, logTanhT_inv_run e cut invCut alpha beta x⟩

/-- the readings of the constants of a `LogTanh` instance: cut point `c > 0`, `inv_cut = tanh c`, positive `alpha = a`,
    `beta = b`, the double `-np.log(alpha*beta)`, and the CONTINUITY condition `a log (b c) = tanh c` at the cut (which the
    constructor's `beta` satisfies over ℝ for every `a ≠ 0`: `lib_join` below, `Properties.C03.logtanh_tail_joins`).  No C¹
    condition: see `logTanhT_fwd_kink` below. -/
structure LogTanhConsts (c a b : ℝ) : Prop where
  hcut : e cut = c
  hinv : e invCut = Real.tanh c
  halpha : e alpha = a
  hbeta : e beta = b
  hlog : e (-(Float.log (alpha * beta))) = -Real.log (a * b)
  hhalf : e 0.5 = 1 / 2
  c_pos : 0 < c
  a_pos : 0 < a
  b_pos : 0 < b
  join : a * Real.log (b * c) = Real.tanh c

variable {e cut invCut alpha beta} {c a b : ℝ}

theorem tanh_strictMono : StrictMono Real.tanh := by
  refine strictMono_of_deriv_pos fun x => ?_
  rw [(Nonlin.hasDerivAt_tanh x).deriv]
  exact sub_pos.mpr (Real.tanh_sq_lt_one x)

theorem tanh_pos {c : ℝ} (hc : 0 < c) : 0 < Real.tanh c := by
  have := tanh_strictMono hc
  rwa [Real.tanh_zero] at this

/-! ### the closed forms of the two tails (`s ↦ a log (b s)` beyond the cut, its inverse `t ↦ e^{t/a} / b`) -/

theorem hasDerivAt_logTail {a b x : ℝ} (hb : 0 < b) (hx : 0 < x) :
    HasDerivAt (fun s => a * Real.log (b * s)) (a / x) x := by
  have h1 : HasDerivAt (fun s : ℝ => b * s) (b * 1) x := (hasDerivAt_id x).const_mul b
  refine ((h1.log (mul_pos hb hx).ne').const_mul a).congr_deriv ?_
  rw [mul_one, div_mul_cancel_left₀ hb.ne', div_eq_mul_inv]

theorem tanh_lt_logTail (h : LogTanhConsts e cut invCut alpha beta c a b) {x : ℝ} (hx : c < x) :
    Real.tanh c < a * Real.log (b * x) := by
  rw [← h.join]
  exact mul_lt_mul_of_pos_left
    (Real.log_lt_log (mul_pos h.b_pos h.c_pos) (mul_lt_mul_of_pos_left hx h.b_pos)) h.a_pos

theorem cut_lt_expTail (h : LogTanhConsts e cut invCut alpha beta c a b) {y : ℝ} (hy : Real.tanh c < y) :
    c < Real.exp (y / a) / b := by
  have hlog : Real.log (b * c) = Real.tanh c / a := by rw [← h.join, mul_div_cancel_left₀ _ h.a_pos.ne']
  rw [lt_div_iff₀ h.b_pos, mul_comm, ← Real.exp_log (mul_pos h.b_pos h.c_pos), hlog]
  exact Real.exp_lt_exp.mpr (div_lt_div_of_pos_right hy h.a_pos)

/-! ### the three branches of each direction, under the readings; the lower tail is the mirror image of the upper one
(`LogTanh` is odd), and is stated at `-x` so that everything about it follows from the upper tail -/

theorem logTanhT_fwd_hi (h : LogTanhConsts e cut invCut alpha beta c a b) {x : ℝ} (hx : c < x) :
    logTanhT (NF.realX e) cut invCut alpha beta false x = .ok (a * Real.log (b * x), Real.log (a / x)) := by
  rw [logTanhT_fwd_run, h.hcut, h.halpha, h.hbeta, if_pos hx]

theorem logTanhT_fwd_lo (h : LogTanhConsts e cut invCut alpha beta c a b) {x : ℝ} (hx : c < x) :
    logTanhT (NF.realX e) cut invCut alpha beta false (-x) = .ok (-(a * Real.log (b * x)), Real.log (a / x)) := by
  have hx' : -x < -c := neg_lt_neg hx
  rw [logTanhT_fwd_run, h.hcut, h.halpha, h.hbeta, if_neg (lt_asymm (hx'.trans (neg_lt_self h.c_pos))), if_pos hx',
    neg_mul_neg, neg_div_neg_eq, mul_neg]

theorem logTanhT_fwd_mid (h : LogTanhConsts e cut invCut alpha beta c a b) {x : ℝ} (h1 : -c ≤ x) (h2 : x ≤ c) :
    logTanhT (NF.realX e) cut invCut alpha beta false x
      = .ok (Real.tanh x, Real.log (1 - Real.tanh x * Real.tanh x)) := by
  rw [logTanhT_fwd_run, h.hcut, if_neg (not_lt.mpr h2), if_neg (not_lt.mpr h1)]

theorem logTanhT_inv_hi (h : LogTanhConsts e cut invCut alpha beta c a b) {y : ℝ} (hy : Real.tanh c < y) :
    logTanhT (NF.realX e) cut invCut alpha beta true y
      = .ok (Real.exp (y / a) / b, -Real.log (a * b) + y / a) := by
  rw [logTanhT_inv_run, h.hinv, h.halpha, h.hbeta, h.hlog, if_pos hy]

theorem logTanhT_inv_lo (h : LogTanhConsts e cut invCut alpha beta c a b) {y : ℝ} (hy : Real.tanh c < y) :
    logTanhT (NF.realX e) cut invCut alpha beta true (-y)
      = .ok (-(Real.exp (y / a) / b), -Real.log (a * b) + y / a) := by
  have hy' : -y < -Real.tanh c := neg_lt_neg hy
  rw [logTanhT_inv_run, h.hinv, h.halpha, h.hbeta, h.hlog,
    if_neg (lt_asymm (hy'.trans (neg_lt_self (tanh_pos h.c_pos)))), if_pos hy']
  simp only [neg_neg, neg_div, sub_neg_eq_add]

theorem logTanhT_inv_mid (h : LogTanhConsts e cut invCut alpha beta c a b) {y : ℝ}
    (h1 : -Real.tanh c ≤ y) (h2 : y ≤ Real.tanh c) :
    logTanhT (NF.realX e) cut invCut alpha beta true y = .ok (artanh y, -Real.log (1 - y * y)) := by
  rw [logTanhT_inv_run, h.hinv, h.hhalf, if_neg (not_lt.mpr h2), if_neg (not_lt.mpr h1)]
  rfl

/-! ### A2 (C01), forward, strictly inside each branch -/

theorem logTanhT_fwd_hi_hasDerivAt (h : LogTanhConsts e cut invCut alpha beta c a b) (x : ℝ) (hx : c < x) :
    HasDerivAt (fun s => outY (logTanhT (NF.realX e) cut invCut alpha beta false s))
      (Real.exp (outL (logTanhT (NF.realX e) cut invCut alpha beta false x))) x := by
  have hx0 : 0 < x := h.c_pos.trans hx
  refine hasDerivAt_of_run (f := fun s => a * Real.log (b * s)) (l := fun s => Real.log (a / s)) (d := a / x) ?_
    (hasDerivAt_logTail h.b_pos hx0) (Real.exp_log (div_pos h.a_pos hx0))
  filter_upwards [Ioi_mem_nhds hx] with s hs
  exact logTanhT_fwd_hi h hs

theorem logTanhT_fwd_lo_hasDerivAt (h : LogTanhConsts e cut invCut alpha beta c a b) (x : ℝ) (hx : x < -c) :
    HasDerivAt (fun s => outY (logTanhT (NF.realX e) cut invCut alpha beta false s))
      (Real.exp (outL (logTanhT (NF.realX e) cut invCut alpha beta false x))) x := by
  have hnx : 0 < -x := h.c_pos.trans (lt_neg_of_lt_neg hx)
  refine hasDerivAt_of_run (f := fun s => -(a * Real.log (b * -s))) (l := fun s => Real.log (a / -s)) (d := a / -x) ?_
    ?_ (Real.exp_log (div_pos h.a_pos hnx))
  · filter_upwards [Iio_mem_nhds hx] with s hs
    have := logTanhT_fwd_lo h (x := -s) (lt_neg_of_lt_neg hs)
    rwa [neg_neg] at this
  · exact (((hasDerivAt_logTail h.b_pos hnx).comp x (hasDerivAt_neg x)).neg).congr_deriv (by rw [mul_neg_one, neg_neg])

theorem logTanhT_fwd_mid_hasDerivAt (h : LogTanhConsts e cut invCut alpha beta c a b) (x : ℝ) (h1 : -c < x) (h2 : x < c) :
    HasDerivAt (fun s => outY (logTanhT (NF.realX e) cut invCut alpha beta false s))
      (Real.exp (outL (logTanhT (NF.realX e) cut invCut alpha beta false x))) x := by
  refine hasDerivAt_of_run (f := Real.tanh) (l := fun s => Real.log (1 - Real.tanh s * Real.tanh s))
    (d := Real.exp (Real.log (1 - Real.tanh x ^ 2))) ?_ (Nonlin.tanh_deriv x) ?_
  · filter_upwards [Ioo_mem_nhds h1 h2] with s hs
    exact logTanhT_fwd_mid h hs.1.le hs.2.le
  · show Real.exp (Real.log (1 - Real.tanh x * Real.tanh x)) = _
    rw [pow_two]

/-! ### A3 (C02), both orders: the arithmetic of a tail once, then branch by branch (the lower tail by the same arithmetic) -/

/-- `t ↦ e^{t/a} / b` undoes the tail `s ↦ a log (b s)`, and the two log-dets are negatives -/
theorem logTail_undo {a b x : ℝ} (ha : 0 < a) (hb : 0 < b) (hx : 0 < x) :
    Real.exp (a * Real.log (b * x) / a) / b = x ∧ -Real.log (a * b) + a * Real.log (b * x) / a = -Real.log (a / x) := by
  constructor
  · rw [mul_div_cancel_left₀ _ ha.ne', Real.exp_log (mul_pos hb hx), mul_div_cancel_left₀ _ hb.ne']
  · rw [mul_div_cancel_left₀ _ ha.ne', Real.log_mul ha.ne' hb.ne', Real.log_mul hb.ne' hx.ne', Real.log_div ha.ne' hx.ne']
    ring

theorem expTail_undo {a b : ℝ} (ha : 0 < a) (hb : 0 < b) (y : ℝ) :
    a * Real.log (b * (Real.exp (y / a) / b)) = y ∧
      Real.log (a / (Real.exp (y / a) / b)) = -(-Real.log (a * b) + y / a) := by
  constructor
  · rw [mul_div_cancel₀ _ hb.ne', Real.log_exp, mul_div_cancel₀ _ ha.ne']
  · rw [div_div_eq_mul_div, Real.log_div (mul_pos ha hb).ne' (Real.exp_pos _).ne', Real.log_exp]
    ring

theorem logTanhT_roundtrip_hi (h : LogTanhConsts e cut invCut alpha beta c a b) {x : ℝ} (hx : c < x) :
    RoundTrip (logTanhT (NF.realX e) cut invCut alpha beta false) (logTanhT (NF.realX e) cut invCut alpha beta true) x := by
  obtain ⟨e1, e2⟩ := logTail_undo h.a_pos h.b_pos (h.c_pos.trans hx)
  exact ⟨_, _, logTanhT_fwd_hi h hx, by rw [logTanhT_inv_hi h (tanh_lt_logTail h hx), e1, e2]⟩

theorem logTanhT_roundtrip_lo (h : LogTanhConsts e cut invCut alpha beta c a b) {x : ℝ} (hx : x < -c) :
    RoundTrip (logTanhT (NF.realX e) cut invCut alpha beta false) (logTanhT (NF.realX e) cut invCut alpha beta true) x := by
  obtain ⟨u, rfl⟩ : ∃ u, x = -u := ⟨-x, (neg_neg x).symm⟩
  have hu : c < u := neg_lt_neg_iff.mp hx
  obtain ⟨e1, e2⟩ := logTail_undo h.a_pos h.b_pos (h.c_pos.trans hu)
  exact ⟨_, _, logTanhT_fwd_lo h hu, by rw [logTanhT_inv_lo h (tanh_lt_logTail h hu), e1, e2]⟩

/-- the middle branch (cut points included: the tests are strict) -/
theorem logTanhT_roundtrip_mid (h : LogTanhConsts e cut invCut alpha beta c a b) {x : ℝ} (h1 : -c ≤ x) (h2 : x ≤ c) :
    RoundTrip (logTanhT (NF.realX e) cut invCut alpha beta false) (logTanhT (NF.realX e) cut invCut alpha beta true) x := by
  have hge : -Real.tanh c ≤ Real.tanh x := by
    rw [← Real.tanh_neg]; exact tanh_strictMono.monotone h1
  exact ⟨_, _, logTanhT_fwd_mid h h1 h2, by rw [logTanhT_inv_mid h hge (tanh_strictMono.monotone h2), artanh_tanh]⟩

/-- **A3, inverse ∘ forward, every real input** -/
theorem logTanhT_roundtrip (h : LogTanhConsts e cut invCut alpha beta c a b) (x : ℝ) :
    RoundTrip (logTanhT (NF.realX e) cut invCut alpha beta false) (logTanhT (NF.realX e) cut invCut alpha beta true) x := by
  rcases lt_or_ge c x with hx | hx
  · exact logTanhT_roundtrip_hi h hx
  · rcases lt_or_ge x (-c) with hx' | hx'
    · exact logTanhT_roundtrip_lo h hx'
    · exact logTanhT_roundtrip_mid h hx' hx

theorem logTanhT_roundtrip'_hi (h : LogTanhConsts e cut invCut alpha beta c a b) {y : ℝ} (hy : Real.tanh c < y) :
    RoundTrip (logTanhT (NF.realX e) cut invCut alpha beta true) (logTanhT (NF.realX e) cut invCut alpha beta false) y := by
  obtain ⟨e1, e2⟩ := expTail_undo h.a_pos h.b_pos y
  exact ⟨_, _, logTanhT_inv_hi h hy, by rw [logTanhT_fwd_hi h (cut_lt_expTail h hy), e1, e2]⟩

theorem logTanhT_roundtrip'_lo (h : LogTanhConsts e cut invCut alpha beta c a b) {y : ℝ} (hy : y < -Real.tanh c) :
    RoundTrip (logTanhT (NF.realX e) cut invCut alpha beta true) (logTanhT (NF.realX e) cut invCut alpha beta false) y := by
  obtain ⟨v, rfl⟩ : ∃ v, y = -v := ⟨-y, (neg_neg y).symm⟩
  have hv : Real.tanh c < v := neg_lt_neg_iff.mp hy
  obtain ⟨e1, e2⟩ := expTail_undo h.a_pos h.b_pos v
  exact ⟨_, _, logTanhT_inv_lo h hv, by rw [logTanhT_fwd_lo h (cut_lt_expTail h hv), e1, e2]⟩

theorem logTanhT_roundtrip'_mid (h : LogTanhConsts e cut invCut alpha beta c a b) {y : ℝ}
    (h1 : -Real.tanh c ≤ y) (h2 : y ≤ Real.tanh c) :
    RoundTrip (logTanhT (NF.realX e) cut invCut alpha beta true) (logTanhT (NF.realX e) cut invCut alpha beta false) y := by
  have ht := tanh_artanh ((neg_lt_neg (Real.tanh_lt_one c)).trans_le h1) (h2.trans_lt (Real.tanh_lt_one c))
  have hle : artanh y ≤ c := by
    rw [← tanh_strictMono.le_iff_le, ht]; exact h2
  have hge : -c ≤ artanh y := by
    rw [← tanh_strictMono.le_iff_le, ht, Real.tanh_neg]; exact h1
  exact ⟨_, _, logTanhT_inv_mid h h1 h2, by rw [logTanhT_fwd_mid h hge hle, ht, neg_neg]⟩

/-- **A3, forward ∘ inverse, every real input** -/
theorem logTanhT_roundtrip' (h : LogTanhConsts e cut invCut alpha beta c a b) (y : ℝ) :
    RoundTrip (logTanhT (NF.realX e) cut invCut alpha beta true) (logTanhT (NF.realX e) cut invCut alpha beta false) y := by
  rcases lt_or_ge (Real.tanh c) y with hy | hy
  · exact logTanhT_roundtrip'_hi h hy
  · rcases lt_or_ge y (-Real.tanh c) with hy' | hy'
    · exact logTanhT_roundtrip'_lo h hy'
    · exact logTanhT_roundtrip'_mid h hy' hy

/-! ### A2 (C01), inverse, strictly inside each branch: from the forward statement of the branch and forward ∘ inverse -/

theorem logTanhT_inv_hi_hasDerivAt (h : LogTanhConsts e cut invCut alpha beta c a b) (y : ℝ) (hy : Real.tanh c < y) :
    HasDerivAt (fun s => outY (logTanhT (NF.realX e) cut invCut alpha beta true s))
      (Real.exp (outL (logTanhT (NF.realX e) cut invCut alpha beta true y))) y := by
  have hI : ∀ᶠ s in 𝓝 y, Real.tanh c < s := Ioi_mem_nhds hy
  exact hasDerivAt_of_inverse_run (F := logTanhT (NF.realX e) cut invCut alpha beta false)
    (hI.mono fun s hs => logTanhT_inv_hi h hs)
    ((Real.continuous_exp.continuousAt.comp (continuousAt_id.div_const a)).div_const b)
    (hI.mono fun s hs => (logTanhT_roundtrip'_hi h hs).undoes (logTanhT_inv_hi h hs))
    (logTanhT_fwd_hi_hasDerivAt h _ (cut_lt_expTail h hy))

theorem logTanhT_inv_lo_hasDerivAt (h : LogTanhConsts e cut invCut alpha beta c a b) (y : ℝ) (hy : y < -Real.tanh c) :
    HasDerivAt (fun s => outY (logTanhT (NF.realX e) cut invCut alpha beta true s))
      (Real.exp (outL (logTanhT (NF.realX e) cut invCut alpha beta true y))) y := by
  have hI : ∀ᶠ s in 𝓝 y, s < -Real.tanh c := Iio_mem_nhds hy
  have hrun : ∀ s, s < -Real.tanh c → logTanhT (NF.realX e) cut invCut alpha beta true s
      = .ok (-(Real.exp (-s / a) / b), -Real.log (a * b) + -s / a) := fun s hs => by
    have := logTanhT_inv_lo h (y := -s) (lt_neg_of_lt_neg hs)
    rwa [neg_neg] at this
  exact hasDerivAt_of_inverse_run (F := logTanhT (NF.realX e) cut invCut alpha beta false) (hI.mono hrun)
    ((Real.continuous_exp.comp (continuous_neg.div_const a)).div_const b).neg.continuousAt
    (hI.mono fun s hs => (logTanhT_roundtrip'_lo h hs).undoes (hrun s hs))
    (logTanhT_fwd_lo_hasDerivAt h _ (neg_lt_neg (cut_lt_expTail h (lt_neg_of_lt_neg hy))))

theorem logTanhT_inv_mid_hasDerivAt (h : LogTanhConsts e cut invCut alpha beta c a b) (y : ℝ)
    (h1 : -Real.tanh c < y) (h2 : y < Real.tanh c) :
    HasDerivAt (fun s => outY (logTanhT (NF.realX e) cut invCut alpha beta true s))
      (Real.exp (outL (logTanhT (NF.realX e) cut invCut alpha beta true y))) y := by
  have hy1 : y < 1 := h2.trans (Real.tanh_lt_one c)
  have hy2 : -1 < y := (neg_lt_neg (Real.tanh_lt_one c)).trans h1
  have hI : ∀ᶠ s in 𝓝 y, -Real.tanh c < s ∧ s < Real.tanh c := Ioo_mem_nhds h1 h2
  have ht := tanh_artanh hy2 hy1
  refine hasDerivAt_of_inverse_run (F := logTanhT (NF.realX e) cut invCut alpha beta false)
    (hI.mono fun s hs => logTanhT_inv_mid h hs.1.le hs.2.le) (continuousAt_artanh hy2 hy1)
    (hI.mono fun s hs => (logTanhT_roundtrip'_mid h hs.1.le hs.2.le).undoes (logTanhT_inv_mid h hs.1.le hs.2.le))
    (logTanhT_fwd_mid_hasDerivAt h _ ?_ ?_)
  · rw [← tanh_strictMono.lt_iff_lt, ht, Real.tanh_neg]; exact h1
  · rw [← tanh_strictMono.lt_iff_lt, ht]; exact h2

/-! ### the cut point: one-sided derivatives, and the KINK of the library's constants

At `x = ±c` the tests are strict, so the run takes the middle branch and returns the log-det `log (1 − tanh² c)`.
The executed forward value map has right derivative `a / c` and left derivative `1 − tanh² c` at `c`; it is differentiable
there iff `a = c (1 − tanh² c)`.  The constructor's `alpha = (1 − tanh (tanh c)) / c` (nonlinearities.py:71, with the doubled
`np.tanh(np.tanh(cut_point))` and a division instead of a multiplication) does NOT satisfy this: see `lib_alpha_kink_one`
(default `cut_point = 1`) and `lib_alpha_kink_small` (`0 < c ≤ 3/5`).  The docstring "alpha and beta are set to match the
value and the first derivative of tanh at cut_point" is therefore false of the library: only the value matches. -/

theorem logTanhT_fwd_at_cut (h : LogTanhConsts e cut invCut alpha beta c a b) :
    logTanhT (NF.realX e) cut invCut alpha beta false c = .ok (Real.tanh c, Real.log (1 - Real.tanh c * Real.tanh c)) :=
  logTanhT_fwd_mid h (neg_lt_self h.c_pos).le le_rfl

theorem logTanhT_fwd_right_deriv_at_cut (h : LogTanhConsts e cut invCut alpha beta c a b) :
    HasDerivWithinAt (fun s => outY (logTanhT (NF.realX e) cut invCut alpha beta false s)) (a / c) (Ici c) c := by
  refine (hasDerivAt_logTail (a := a) h.b_pos h.c_pos).hasDerivWithinAt.congr ?_ ?_
  · intro s hs
    rcases (show c ≤ s from hs).lt_or_eq with hs | hs
    · rw [logTanhT_fwd_hi h hs]; rfl
    · rw [← hs, logTanhT_fwd_at_cut h, outY_ok, h.join]
  · rw [logTanhT_fwd_at_cut h, outY_ok, h.join]

theorem logTanhT_fwd_left_deriv_at_cut (h : LogTanhConsts e cut invCut alpha beta c a b) :
    HasDerivWithinAt (fun s => outY (logTanhT (NF.realX e) cut invCut alpha beta false s)) (1 - Real.tanh c ^ 2) (Iic c) c := by
  have h0 := Nonlin.hasDerivAt_tanh c
  have h1 : HasDerivWithinAt (fun s => outY (logTanhT (NF.realX e) cut invCut alpha beta false s)) (1 - Real.tanh c ^ 2)
      (Icc (-c) c) c := by
    refine h0.hasDerivWithinAt.congr ?_ ?_
    · intro s hs
      rw [logTanhT_fwd_mid h hs.1 hs.2]; rfl
    · rw [logTanhT_fwd_at_cut h]; rfl
  exact h1.mono_of_mem_nhdsWithin (Icc_mem_nhdsLE (neg_lt_self h.c_pos))

/-- the returned log-det at the cut is the log of the LEFT derivative -/
theorem logTanhT_fwd_ld_at_cut (h : LogTanhConsts e cut invCut alpha beta c a b) :
    Real.exp (outL (logTanhT (NF.realX e) cut invCut alpha beta false c)) = 1 - Real.tanh c ^ 2 := by
  rw [logTanhT_fwd_at_cut h, outL_ok]
  show Real.exp (Real.log (1 - Real.tanh c * Real.tanh c)) = _
  rw [← pow_two, Real.exp_log (sub_pos.mpr (Real.tanh_sq_lt_one c))]

theorem logTanhT_fwd_differentiableAt_cut_iff (h : LogTanhConsts e cut invCut alpha beta c a b) :
    DifferentiableAt ℝ (fun s => outY (logTanhT (NF.realX e) cut invCut alpha beta false s)) c
      ↔ a / c = 1 - Real.tanh c ^ 2 := by
  constructor
  · intro hd
    have hd' := hd.hasDerivAt
    have e1 := (uniqueDiffWithinAt_Ici c).eq_deriv _ hd'.hasDerivWithinAt (logTanhT_fwd_right_deriv_at_cut h)
    have e2 := (uniqueDiffWithinAt_Iic c).eq_deriv _ hd'.hasDerivWithinAt (logTanhT_fwd_left_deriv_at_cut h)
    rw [← e1, ← e2]
  · intro hk
    have hr := logTanhT_fwd_right_deriv_at_cut h
    rw [hk] at hr
    have hu := (logTanhT_fwd_left_deriv_at_cut h).union hr
    rw [Iic_union_Ici, hasDerivWithinAt_univ] at hu
    exact hu.differentiableAt

theorem logTanhT_fwd_cut_hasDerivAt (h : LogTanhConsts e cut invCut alpha beta c a b) (hk : a / c = 1 - Real.tanh c ^ 2) :
    HasDerivAt (fun s => outY (logTanhT (NF.realX e) cut invCut alpha beta false s))
      (Real.exp (outL (logTanhT (NF.realX e) cut invCut alpha beta false c))) c := by
  rw [logTanhT_fwd_ld_at_cut h]
  have hr := logTanhT_fwd_right_deriv_at_cut h
  rw [hk] at hr
  have hu := (logTanhT_fwd_left_deriv_at_cut h).union hr
  rwa [Iic_union_Ici, hasDerivWithinAt_univ] at hu

/-- FINDING, forced-hypothesis form: when `a / c ≠ 1 − tanh² c` the forward map has a kink at the cut: it has no derivative
    there, so the returned log-det at `x = c` is the log of a one-sided derivative only -/
theorem logTanhT_fwd_kink (h : LogTanhConsts e cut invCut alpha beta c a b) (hk : a / c ≠ 1 - Real.tanh c ^ 2) :
    ¬ DifferentiableAt ℝ (fun s => outY (logTanhT (NF.realX e) cut invCut alpha beta false s)) c :=
  fun hd => hk ((logTanhT_fwd_differentiableAt_cut_iff h).1 hd)

/-! ### the library's `alpha = (1 − tanh (tanh c)) / c` over ℝ is not the C¹-matching `c (1 − tanh² c)` -/

theorem tanh_eq_exp_two (x : ℝ) : Real.tanh x = (Real.exp (2 * x) - 1) / (Real.exp (2 * x) + 1) := by
  have he : Real.exp (2 * x) = Real.exp x * Real.exp x := by rw [← Real.exp_add, two_mul]
  have hp := Real.exp_pos x
  rw [Real.tanh_eq, he, Real.exp_neg]
  field_simp

theorem tanh_le_self {x : ℝ} (hx : 0 ≤ x) : Real.tanh x ≤ x := by
  have hd : ∀ y : ℝ, HasDerivAt (fun s => s - Real.tanh s) (1 - (1 - Real.tanh y ^ 2)) y := fun y =>
    (hasDerivAt_id y).sub (Nonlin.hasDerivAt_tanh y)
  have hm : Monotone (fun s => s - Real.tanh s) := by
    refine monotone_of_deriv_nonneg (fun y => (hd y).differentiableAt) fun y => ?_
    rw [(hd y).deriv, sub_sub_cancel]
    exact sq_nonneg _
  have : 0 - Real.tanh 0 ≤ x - Real.tanh x := hm hx
  rw [Real.tanh_zero, sub_zero] at this
  exact sub_nonneg.mp this

/-- for every cut point `0 < c ≤ 3/5` the library's alpha gives a right slope `alpha / c > 1 > 1 − tanh² c` -/
theorem lib_alpha_kink_small {c : ℝ} (hc : 0 < c) (hc' : c ≤ 3 / 5) :
    (1 - Real.tanh (Real.tanh c)) / c / c ≠ 1 - Real.tanh c ^ 2 := by
  have ht := tanh_pos hc
  have h1 : Real.tanh (Real.tanh c) ≤ c := (tanh_le_self ht.le).trans (tanh_le_self hc.le)
  have hcc : c * c ≤ 3 / 5 * (3 / 5) := mul_le_mul hc' hc' hc.le (by norm_num)
  have h2 : 1 ≤ (1 - Real.tanh (Real.tanh c)) / c / c := by
    rw [div_div, le_div_iff₀ (mul_pos hc hc)]
    linarith only [hcc, h1, hc']
  exact ((sub_lt_self 1 (pow_pos ht 2)).trans_le h2).ne'

theorem tanh_one_bounds : 3 / 4 < Real.tanh 1 ∧ Real.tanh 1 < 77 / 100 := by
  have g : (27 / 10 : ℝ) < Real.exp 1 := lt_trans (by norm_num) Real.exp_one_gt_d9
  have l : Real.exp 1 < 68 / 25 := lt_trans Real.exp_one_lt_d9 (by norm_num)
  have hE : Real.exp 2 = Real.exp 1 * Real.exp 1 := by rw [← Real.exp_add, one_add_one_eq_two]
  have g2 : (7:ℝ) < Real.exp 2 := by
    rw [hE]; exact lt_trans (by norm_num) (mul_lt_mul'' g g (by norm_num) (by norm_num))
  have l2 : Real.exp 2 < 37 / 5 := by
    rw [hE]; exact lt_trans (mul_lt_mul'' l l (Real.exp_pos 1).le (Real.exp_pos 1).le) (by norm_num)
  have hp : 0 < Real.exp 2 + 1 := by positivity
  rw [tanh_eq_exp_two, mul_one]
  constructor
  · rw [lt_div_iff₀ hp]; linarith only [g2]
  · rw [div_lt_iff₀ hp]; linarith only [l2]

/-- at the DEFAULT cut point `c = 1`: `tanh (tanh 1) > tanh² 1` (≈ 0.642 vs 0.580), so the library's
    `alpha / c = 1 − tanh (tanh 1) ≈ 0.358` is not the slope `1 − tanh² 1 ≈ 0.420` of `tanh` at the cut -/
theorem tanh_tanh_one_gt : Real.tanh 1 ^ 2 < Real.tanh (Real.tanh 1) := by
  obtain ⟨b1, b2⟩ := tanh_one_bounds
  -- `tanh 1 > 3/4` gives `e^{2 tanh 1} ≥ e · e^{1/2} ≥ 2.7 · 1.5 > 4`, i.e. `tanh (tanh 1) > 3/5`, while `tanh² 1 < 0.77² < 3/5`
  have hE : 4 < Real.exp (2 * Real.tanh 1) := by
    have h1 : Real.exp 1 * Real.exp (1 / 2) ≤ Real.exp (2 * Real.tanh 1) := by
      rw [← Real.exp_add]; exact Real.exp_le_exp.mpr (by linarith only [b1])
    have h2 : (27 / 10 : ℝ) * (1 / 2 + 1) ≤ Real.exp 1 * Real.exp (1 / 2) :=
      mul_le_mul (le_trans (by norm_num) Real.exp_one_gt_d9.le) (Real.add_one_le_exp _) (by norm_num) (Real.exp_pos 1).le
    linarith only [h1, h2]
  have ht2 : Real.tanh 1 ^ 2 < 3 / 5 :=
    calc Real.tanh 1 ^ 2 < (77 / 100) ^ 2 := pow_lt_pow_left₀ b2 (by linarith only [b1]) two_ne_zero
      _ < 3 / 5 := by norm_num
  refine ht2.trans ?_
  rw [tanh_eq_exp_two, lt_div_iff₀ (add_pos (Real.exp_pos _) one_pos)]
  linarith only [hE]

theorem lib_alpha_kink_one : (1 - Real.tanh (Real.tanh 1)) / 1 / 1 ≠ 1 - Real.tanh 1 ^ 2 := by
  have := tanh_tanh_one_gt
  rw [div_one, div_one]
  linarith

/-! ### the constructor's constants over ℝ, and the kink for them -/

/-- `alpha` of `LogTanh.__init__` over ℝ, as coded -/
def aLib (c : ℝ) : ℝ := (1 - Real.tanh (Real.tanh c)) / c
/-- `beta` of `LogTanh.__init__` over ℝ, as coded -/
def bLib (c : ℝ) : ℝ := Real.exp ((Real.tanh c - aLib c * Real.log c) / aLib c)

theorem aLib_pos {c : ℝ} (hc : 0 < c) : 0 < aLib c :=
  div_pos (by linarith [Real.tanh_lt_one (Real.tanh c)]) hc

theorem bLib_pos (c : ℝ) : 0 < bLib c := Real.exp_pos _

/-- the constructor's `beta` makes the tail join `tanh` continuously at the cut (for the constructor's, and any nonzero, alpha) -/
theorem lib_join {c : ℝ} (hc : 0 < c) : aLib c * Real.log (bLib c * c) = Real.tanh c := by
  have ha := (aLib_pos hc).ne'
  unfold bLib
  rw [Real.log_mul (Real.exp_pos _).ne' hc.ne', Real.log_exp]
  field_simp
  ring

theorem LogTanhConsts.of_lib {c : ℝ} (hc : 0 < c) (hcut : e cut = c) (hinv : e invCut = Real.tanh c)
    (halpha : e alpha = aLib c) (hbeta : e beta = bLib c)
    (hlog : e (-(Float.log (alpha * beta))) = -Real.log (aLib c * bLib c)) (hhalf : e 0.5 = 1 / 2) :
    LogTanhConsts e cut invCut alpha beta c (aLib c) (bLib c) :=
  ⟨hcut, hinv, halpha, hbeta, hlog, hhalf, hc, aLib_pos hc, bLib_pos c, lib_join hc⟩

/-- **FINDING (library)**: with the constructor's constants read exactly, the executed forward map is NOT differentiable at
    the cut point, for every `0 < c ≤ 3/5` (and at the default `c = 1`, `lib_alpha_kink_one`: right slope
    `1 − tanh (tanh 1) ≈ 0.358`, left slope `1 − tanh² 1 ≈ 0.420`; the returned log-det there is the log of the left slope) -/
theorem logTanhT_lib_kink_small {c : ℝ} (hc' : c ≤ 3 / 5) (h : LogTanhConsts e cut invCut alpha beta c (aLib c) (bLib c)) :
    ¬ DifferentiableAt ℝ (fun s => outY (logTanhT (NF.realX e) cut invCut alpha beta false s)) c :=
  logTanhT_fwd_kink h (lib_alpha_kink_small h.c_pos hc')

/-! ### non-vacuity of `LogTanhConsts`, with LITERAL doubles (those numpy computes for `cut_point = 1`) and the
constructor's ideal reals.  As for `CauchyConsts`, the key `-(Float.log (alpha * beta))` is kernel-opaque, so the witness is
conditional on its being a different double from the five literal keys; by evaluation
`#eval -(Float.log (0.35798500798800026 * 8.393411634737944))` is `-1.1001828983175326`, so all five tests are `false`. -/

def eLT (f : Float) : ℝ :=
  if f == 1.0 then 1
  else if f == 0.7615941559557649 then Real.tanh 1
  else if f == 0.35798500798800026 then aLib 1
  else if f == 8.393411634737944 then bLib 1
  else if f == 0.5 then 1 / 2 else -Real.log (aLib 1 * bLib 1)

theorem eLT_key (i : Nat) {k : Float} {v : ℝ}
    (hi : [((1.0:Float), (1:ℝ)), (0.7615941559557649, Real.tanh 1), (0.35798500798800026, aLib 1),
      (8.393411634737944, bLib 1), (0.5, 1 / 2)][i]? = some (k, v)) : eLT k = v :=
  FloatFacts.readTbl_key (-Real.log (aLib 1 * bLib 1)) i hi FloatFacts.logTanh_keys

theorem logTanhConsts_example
    (h1 : (-(Float.log (0.35798500798800026 * 8.393411634737944)) == 1.0) = false)
    (h2 : (-(Float.log (0.35798500798800026 * 8.393411634737944)) == 0.7615941559557649) = false)
    (h3 : (-(Float.log (0.35798500798800026 * 8.393411634737944)) == 0.35798500798800026) = false)
    (h4 : (-(Float.log (0.35798500798800026 * 8.393411634737944)) == 8.393411634737944) = false)
    (h5 : (-(Float.log (0.35798500798800026 * 8.393411634737944)) == 0.5) = false) :
    LogTanhConsts eLT 1.0 0.7615941559557649 0.35798500798800026 8.393411634737944 1 (aLib 1) (bLib 1) :=
  LogTanhConsts.of_lib one_pos (eLT_key 0 rfl) (eLT_key 1 rfl) (eLT_key 2 rfl) (eLT_key 3 rfl)
    (by simp [eLT, h1, h2, h3, h4, h5]) (eLT_key 4 rfl)

end LogTanh

end
end NonlinExec
