import NflowsModel.Lemmas.LU
import NflowsModel.Lemmas.Householder

/-!
# Linear transform family (nflows `orthogonal.py`, `qr.py`, `svd.py`, `lu.py`, `linear.py`)

The Python code applies Householder reflections to ROW vectors:
`x ← x − (x·q)(2/‖q‖²) q = x H_q` with `H_q = I − (2/(q·q)) q qᵀ` symmetric.
`forward` applies `q_1 … q_K` in order (`x ↦ x H_1 ⋯ H_K`), `inverse` applies them reversed,
`matrix()` = `inverse(identity)`.  In column convention `forward(x) = Q x` with
`Q = H_K ⋯ H_1 = (H_1 ⋯ H_K)ᵀ`.
-/

namespace LinearFamily

open Matrix

variable {n : Type} [Fintype n] [DecidableEq n]

omit [DecidableEq n] in
theorem of_rows_vecMul (A M : Matrix n n ℝ) : Matrix.of (fun i => A i ᵥ* M) = A * M := by
  ext i j
  rfl

theorem abs_det_eq_one_of_orth (M : Matrix n n ℝ) (h : Mᵀ * M = 1) : |M.det| = 1 := by
  have h1 : M.det * M.det = 1 := by
    have := congrArg Matrix.det h
    rwa [det_mul, det_transpose, det_one] at this
  rcases mul_self_eq_one_iff.mp h1 with h | h
  · rw [h, abs_one]
  · rw [h, abs_neg, abs_one]

theorem mul_mul_eq_one {M : Type} [Monoid M] {a a' b b' : M} (ha : a' * a = 1) (hb : b' * b = 1) :
    (b' * a') * (a * b) = 1 := by
  rw [mul_assoc, ← mul_assoc a', ha, one_mul, hb]

/-- for SVD: `Q₂ᵀ D⁻¹ Q₁ᵀ` inverts `Q₁ D Q₂` -/
theorem diagonal_conj_left_inverse {A A' B B' : Matrix n n ℝ} (hA : A' * A = 1) (hB : B' * B = 1) (d : n → ℝ)
    (hd : ∀ i, d i ≠ 0) : B' * Matrix.diagonal (fun j => (d j)⁻¹) * A' * (A * Matrix.diagonal d * B) = 1 := by
  have hD : Matrix.diagonal (fun j => (d j)⁻¹) * Matrix.diagonal d = 1 := by
    rw [Matrix.diagonal_mul_diagonal, ← Matrix.diagonal_one]
    congr 1
    funext i
    exact inv_mul_cancel₀ (hd i)
  rw [Matrix.mul_assoc B']
  exact mul_mul_eq_one (mul_mul_eq_one hA hD) hB

/-- `log|det W⁻¹| = -log|det W|`: the sign flip of the cached inverse pass (linear.py:69); for singular `W` both sides are `0` -/
theorem log_abs_det_inv (W : Matrix n n ℝ) : Real.log |(W⁻¹).det| = -Real.log |W.det| := by
  rw [Matrix.det_nonsing_inv, Ring.inverse_eq_inv', abs_inv, Real.log_inv]

/-! ### a single Householder reflection -/

noncomputable def hhMat (v : n → ℝ) : Matrix n n ℝ := 1 - (2 / (v ⬝ᵥ v)) • vecMulVec v v

theorem hhMat_transpose (v : n → ℝ) : (hhMat v)ᵀ = hhMat v := by
  unfold hhMat
  rw [transpose_sub, transpose_one, transpose_smul, transpose_vecMulVec]

theorem hhApply_eq_vecMul (v x : n → ℝ) : Householder.hhApply v x = x ᵥ* hhMat v := by
  unfold hhMat Householder.hhApply
  rw [Matrix.vecMul_sub, Matrix.vecMul_one, Matrix.vecMul_smul, Matrix.vecMul_vecMulVec, smul_smul,
    mul_comm]

theorem hhMat_mul_self (v : n → ℝ) (hv : v ⬝ᵥ v ≠ 0) : hhMat v * hhMat v = 1 := by
  rw [Matrix.ext_iff_vecMul]
  intro x
  rw [← Matrix.vecMul_vecMul, ← hhApply_eq_vecMul, ← hhApply_eq_vecMul,
    Householder.hhApply_involutive v x hv, Matrix.vecMul_one]

theorem householder_orthogonal (v : n → ℝ) (hv : v ⬝ᵥ v ≠ 0) : (hhMat v)ᵀ * hhMat v = 1 := by
  rw [hhMat_transpose, hhMat_mul_self v hv]

/-! ### a sequence of reflections -/

noncomputable def seqMat (vs : List (n → ℝ)) : Matrix n n ℝ := (vs.map hhMat).prod

@[simp] theorem seqMat_nil : seqMat ([] : List (n → ℝ)) = 1 := by simp [seqMat]

@[simp] theorem seqMat_cons (v : n → ℝ) (vs : List (n → ℝ)) :
    seqMat (v :: vs) = hhMat v * seqMat vs := by simp [seqMat]

theorem seqMat_append (vs ws : List (n → ℝ)) : seqMat (vs ++ ws) = seqMat vs * seqMat ws := by
  simp [seqMat]

theorem hhSeq_eq_vecMul (vs : List (n → ℝ)) (x : n → ℝ) :
    Householder.hhSeq vs x = x ᵥ* seqMat vs := by
  induction vs generalizing x with
  | nil => simp [Householder.hhSeq]
  | cons v vs ih =>
    have e : Householder.hhSeq (v :: vs) x = Householder.hhSeq vs (Householder.hhApply v x) := rfl
    rw [e, ih, hhApply_eq_vecMul, seqMat_cons, Matrix.vecMul_vecMul]

theorem seqMat_reverse (vs : List (n → ℝ)) : seqMat vs.reverse = (seqMat vs)ᵀ := by
  induction vs with
  | nil => simp
  | cons v vs ih =>
    rw [List.reverse_cons, seqMat_append, ih, seqMat_cons, seqMat_cons, seqMat_nil, mul_one,
      transpose_mul, hhMat_transpose]

theorem seqMat_orthogonal (vs : List (n → ℝ)) (hv : ∀ v ∈ vs, v ⬝ᵥ v ≠ 0) :
    (seqMat vs)ᵀ * seqMat vs = 1 ∧ seqMat vs * (seqMat vs)ᵀ = 1 := by
  have key : (seqMat vs)ᵀ * seqMat vs = 1 := by
    induction vs with
    | nil => simp
    | cons v vs ih =>
      have h1 := ih (fun w hw => hv w (List.mem_cons_of_mem _ hw))
      have h2 := hhMat_mul_self v (hv v List.mem_cons_self)
      rw [seqMat_cons, transpose_mul, hhMat_transpose]
      exact mul_mul_eq_one h2 h1
  exact ⟨key, mul_eq_one_comm.mp key⟩

theorem seqMat_det_abs (vs : List (n → ℝ)) (hv : ∀ v ∈ vs, v ⬝ᵥ v ≠ 0) :
    |(seqMat vs).det| = 1 :=
  abs_det_eq_one_of_orth _ (seqMat_orthogonal vs hv).1

/-- column-convention matrix of `forward` -/
noncomputable def Q (vs : List (n → ℝ)) : Matrix n n ℝ := (seqMat vs)ᵀ

theorem forward_eq_mulVec (vs : List (n → ℝ)) (x : n → ℝ) :
    Householder.hhSeq vs x = Q vs *ᵥ x := by
  rw [hhSeq_eq_vecMul, Q, Matrix.mulVec_transpose]

theorem inverse_eq_mulVec (vs : List (n → ℝ)) (x : n → ℝ) :
    Householder.hhSeq vs.reverse x = (Q vs)ᵀ *ᵥ x := by
  rw [hhSeq_eq_vecMul, seqMat_reverse, Q, transpose_transpose, Matrix.vecMul_transpose]

theorem of_rows_hhSeq (vs : List (n → ℝ)) (A : Matrix n n ℝ) :
    Matrix.of (fun i => Householder.hhSeq vs (A i)) = A * seqMat vs := by
  simp only [hhSeq_eq_vecMul]
  exact of_rows_vecMul A (seqMat vs)

/-- `matrix()` = rows of `inverse(identity)` -/
theorem matrix_eq (vs : List (n → ℝ)) :
    Matrix.of (fun i => Householder.hhSeq vs.reverse ((1 : Matrix n n ℝ) i)) = Q vs := by
  rw [of_rows_hhSeq, seqMat_reverse, Matrix.one_mul, Q]

theorem Q_orthogonal (vs : List (n → ℝ)) (hv : ∀ v ∈ vs, v ⬝ᵥ v ≠ 0) :
    (Q vs)ᵀ * Q vs = 1 ∧ Q vs * (Q vs)ᵀ = 1 := by
  obtain ⟨h1, h2⟩ := seqMat_orthogonal vs hv
  unfold Q
  rw [transpose_transpose]
  exact ⟨h2, h1⟩

theorem Q_det_abs (vs : List (n → ℝ)) (hv : ∀ v ∈ vs, v ⬝ᵥ v ≠ 0) : |(Q vs).det| = 1 := by
  rw [Q, det_transpose]
  exact seqMat_det_abs vs hv

theorem Q_det_ne_zero (vs : List (n → ℝ)) (hv : ∀ v ∈ vs, v ⬝ᵥ v ≠ 0) : (Q vs).det ≠ 0 := fun h0 => by
  have := Q_det_abs vs hv
  rw [h0, abs_zero] at this
  exact zero_ne_one this

/-! ### QR (`qr.py`) -/

theorem qr_logabsdet {m : ℕ} (vs : List (Fin m → ℝ)) (hv : ∀ v ∈ vs, v ⬝ᵥ v ≠ 0)
    (up : Fin m → Fin m → ℝ) (ld : Fin m → ℝ) :
    ∑ i, ld i = Real.log |(Q vs * LU.mkUpper up (fun i => Real.exp (ld i))).det| := by
  rw [det_mul, abs_mul, Q_det_abs vs hv, one_mul, LU.mkUpper_det,
    ← LU.sum_log_eq_log_abs_prod _ (fun i => Real.exp_pos (ld i))]
  exact Finset.sum_congr rfl fun i _ => (Real.log_exp (ld i)).symm

/-! ### SVD (`svd.py`) -/

theorem svd_forward (vs1 vs2 : List (n → ℝ)) (d b x : n → ℝ) :
    Householder.hhSeq vs1 (fun i => Householder.hhSeq vs2 x i * d i) + b
      = (Q vs1 * Matrix.diagonal d * Q vs2) *ᵥ x + b := by
  have e : (fun i => Householder.hhSeq vs2 x i * d i) = Matrix.diagonal d *ᵥ (Q vs2 *ᵥ x) := by
    funext i
    rw [Matrix.mulVec_diagonal, forward_eq_mulVec, mul_comm]
  rw [e, forward_eq_mulVec, Matrix.mulVec_mulVec, Matrix.mulVec_mulVec, Matrix.mul_assoc]

theorem svd_weight_inverse (vs1 vs2 : List (n → ℝ)) (hv1 : ∀ v ∈ vs1, v ⬝ᵥ v ≠ 0)
    (hv2 : ∀ v ∈ vs2, v ⬝ᵥ v ≠ 0) (d : n → ℝ) (hd : ∀ i, d i ≠ 0) :
    (Matrix.of (fun i => Householder.hhSeq vs2.reverse
        ((Matrix.of (fun k => Householder.hhSeq vs1 (Matrix.diagonal (fun j => (d j)⁻¹) k)))ᵀ i)))ᵀ
      * (Q vs1 * Matrix.diagonal d * Q vs2) = 1 := by
  rw [of_rows_hhSeq, of_rows_hhSeq, seqMat_reverse, transpose_mul, transpose_transpose, transpose_transpose, Q, Q,
    ← Matrix.mul_assoc (seqMat vs2)]
  exact diagonal_conj_left_inverse (seqMat_orthogonal vs1 hv1).2 (seqMat_orthogonal vs2 hv2).2 d hd

theorem svd_inverse_pass (vs1 vs2 : List (n → ℝ)) (hv1 : ∀ v ∈ vs1, v ⬝ᵥ v ≠ 0)
    (hv2 : ∀ v ∈ vs2, v ⬝ᵥ v ≠ 0) (d b x : n → ℝ) (hd : ∀ i, d i ≠ 0) :
    Householder.hhSeq vs2.reverse (fun i => Householder.hhSeq vs1.reverse
      ((Householder.hhSeq vs1 (fun i => Householder.hhSeq vs2 x i * d i) + b) - b) i / d i) = x := by
  rw [add_sub_cancel_right, Householder.hhSeq_inverse vs1 hv1]
  have e : (fun i => Householder.hhSeq vs2 x i * d i / d i) = Householder.hhSeq vs2 x := by
    funext i
    exact mul_div_cancel_right₀ _ (hd i)
  rw [e, Householder.hhSeq_inverse vs2 hv2]

theorem svd_logabsdet (vs1 vs2 : List (n → ℝ)) (hv1 : ∀ v ∈ vs1, v ⬝ᵥ v ≠ 0)
    (hv2 : ∀ v ∈ vs2, v ⬝ᵥ v ≠ 0) (d : n → ℝ) (hd : ∀ i, 0 < d i) :
    ∑ i, Real.log (d i) = Real.log |(Q vs1 * Matrix.diagonal d * Q vs2).det| := by
  rw [det_mul, det_mul, abs_mul, abs_mul, Q_det_abs vs1 hv1, Q_det_abs vs2 hv2, one_mul, mul_one,
    det_diagonal, LU.sum_log_eq_log_abs_prod d hd]

/-! ### LU (`lu.py`) and naive (`linear.py`) -/

theorem lu_weight_inverse {m : ℕ} (lo up : Fin m → Fin m → ℝ) (d : Fin m → ℝ)
    (hd : ∀ i, 0 < d i) (Linv Uinv : Matrix (Fin m) (Fin m) ℝ)
    (hL : LU.mkLower lo * Linv = 1) (hU : LU.mkUpper up d * Uinv = 1) :
    (Uinv * Linv) * (LU.mkLower lo * LU.mkUpper up d) = 1 ∧
      (LU.mkLower lo * LU.mkUpper up d) * (Uinv * Linv) = 1 := by
  have _ := hd
  exact ⟨mul_mul_eq_one (mul_eq_one_comm.mp hL) (mul_eq_one_comm.mp hU), mul_mul_eq_one hU hL⟩

/-- Naive (specification level): any left inverse undoes forward -/
theorem naive_roundtrip (W Winv : Matrix n n ℝ) (h : Winv * W = 1) (b x : n → ℝ) :
    Winv *ᵥ ((W *ᵥ x + b) - b) = x := by
  rw [add_sub_cancel_right, Matrix.mulVec_mulVec, h, Matrix.one_mulVec]

/-! ### the hypotheses are satisfiable by non-trivial data -/

example : (![1, 2] : Fin 2 → ℝ) ⬝ᵥ ![1, 2] ≠ 0 := by
  simp [dotProduct, Fin.sum_univ_two]
  norm_num

theorem vs_ex_ne : ∀ v ∈ ([![1, 2], ![0, 3]] : List (Fin 2 → ℝ)), v ⬝ᵥ v ≠ 0 := by
  intro v hv
  simp only [List.mem_cons, List.not_mem_nil, or_false] at hv
  rcases hv with rfl | rfl <;> rw [dotProduct, Fin.sum_univ_two] <;> norm_num

example : ∀ v ∈ ([![1, 2], ![0, 3]] : List (Fin 2 → ℝ)), v ⬝ᵥ v ≠ 0 := vs_ex_ne

example : |(Q ([![1, 2], ![0, 3]] : List (Fin 2 → ℝ))).det| = 1 := Q_det_abs _ vs_ex_ne

/-- the positive-diagonal hypotheses (`hd` of `svd_logabsdet`, `lu_weight_inverse`) can be met: e.g. the QR diagonal `exp ∘ ld` -/
example (ld : Fin 2 → ℝ) : ∀ i, 0 < (fun i => Real.exp (ld i)) i := fun _ => Real.exp_pos _

/-- LU hypotheses: the 2×2 unit-lower / positive-upper factors have explicit inverses -/
example : ∃ Linv Uinv : Matrix (Fin 2) (Fin 2) ℝ,
    LU.mkLower (fun _ _ => (3 : ℝ)) * Linv = 1 ∧
    LU.mkUpper (fun _ _ => (5 : ℝ)) (fun _ => 2) * Uinv = 1 := by
  have hL : LU.mkLower (fun _ _ : Fin 2 => (3 : ℝ)) = !![1, 0; 3, 1] := by
    ext i j; fin_cases i <;> fin_cases j <;> rfl
  have hU : LU.mkUpper (fun _ _ : Fin 2 => (5 : ℝ)) (fun _ => 2) = !![2, 5; 0, 2] := by
    ext i j; fin_cases i <;> fin_cases j <;> rfl
  refine ⟨!![1, 0; -3, 1], !![1/2, -5/4; 0, 1/2], ?_, ?_⟩
  · rw [hL, Matrix.mul_fin_two, Matrix.one_fin_two]
    norm_num
  · rw [hU, Matrix.mul_fin_two, Matrix.one_fin_two]
    norm_num

/-- the hypothesis `Rinv * R = 1` of `Properties.C11.qr_weight_inverse` and `qr_inverse_pass` is satisfiable with a non-identity `R` -/
example : (!![1/2, -5/4; 0, 1/2] : Matrix (Fin 2) (Fin 2) ℝ) * !![2, 5; 0, 2] = 1 := by
  rw [Matrix.mul_fin_two, Matrix.one_fin_two]
  norm_num

end LinearFamily
