import Mathlib.Tactic

namespace Multiscale

/-! C08: MultiscaleCompositeTransform (base.py:63-212), per batch item, generic over a tensor type `T`
    with chunk / cat / flatten / view satisfying the obvious laws. -/

structure TensorOps (T α Sh : Type) where
  chunk : T → T × T                 -- torch.chunk(·, 2, split_dim)
  cat : T → T → T                   -- torch.cat([a, b], split_dim)
  flat : T → List α                 -- reshape(batch, -1) for one item
  view : Sh → List α → T            -- flat.view(-1, *shape) for one item
  shapeOf : T → Sh
  size : Sh → ℕ
  cat_chunk : ∀ t, cat (chunk t).1 (chunk t).2 = t
  view_flat : ∀ t, view (shapeOf t) (flat t) = t
  flat_len : ∀ t, (flat t).length = size (shapeOf t)

variable {T α Sh : Type} (O : TensorOps T α Sh)

def msForward : List (T → T) → T → List α
  | [], _ => []
  | [f], x => O.flat (f x)
  | f :: g :: rest, x => let p := O.chunk (f x); O.flat p.1 ++ msForward (g :: rest) p.2

/-- the shapes `add_transform` records -/
def msShapes : List (T → T) → T → List Sh
  | [], _ => []
  | [f], x => [O.shapeOf (f x)]
  | f :: g :: rest, x => let p := O.chunk (f x); O.shapeOf p.1 :: msShapes (g :: rest) p.2

def msInverse : List (T → T) → List Sh → List α → Option T
  | [finv], [sh], l => some (finv (O.view sh l))
  | finv :: g :: rest, sh :: shs, l =>
    (msInverse (g :: rest) shs (l.drop (O.size sh))).map (fun hid => finv (O.cat (O.view sh (l.take (O.size sh))) hid))
  | _, _, _ => none

theorem multiscale_inv_fwd (fs finvs : List (T → T))
    (hinv : List.Forall₂ (fun f finv => ∀ t, finv (f t) = t) fs finvs) (hne : fs ≠ []) (x : T) :
    msInverse O finvs (msShapes O fs x) (msForward O fs x) = some x := by
  induction hinv generalizing x with
  | nil => exact absurd rfl hne
  | @cons f finv rest rinv h0 hrest ih =>
    cases hrest with
    | nil => simp [msInverse, msShapes, msForward, O.view_flat, h0]
    | @cons g ginv rest' rinv' hg hr' =>
      have ihr := ih (by simp) (O.chunk (f x)).2
      simp only [msInverse, msShapes, msForward]
      rw [← O.flat_len, List.drop_left, List.take_left, ihr]
      simp [O.view_flat, O.cat_chunk, h0]


end Multiscale
