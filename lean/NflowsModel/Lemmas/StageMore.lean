import NflowsModel.Lemmas.FlowRowsExec
import NflowsModel.Lemmas.CouplingJacobian
import NflowsModel.Lemmas.NonlinExec
import NflowsModel.Lemmas.StageMoreRows
import Mathlib.Tactic
/-!
# Lemmas/StageMore — the round-trip law of `FlowRowsExec.flowSalpExec_consistent` for the EXECUTED stages (C04, C02)

`RoundTripEq o P Q T Tinv`: for an input satisfying `P`, an accepted inverse call returns an output satisfying `Q` and ONE log-det `d`, and
the forward call on it returns the input array EXACTLY with `[-d]`.  `RoundTripStage` itself quantifies over arrays of any size and is false
for an element-wise stage of width `n` on a shorter array (`roundTripStage_cdf_short_false`), so the size of the row is a forced hypothesis
and the law is used in the `P`-restricted form (`RoundTripOn`, `flowSalpExec_consistent_on`).  Proved over the reals for the executed
coupling layer with ANY conditioner (identity features pass through, so the conditioner is given the same input in both directions), for
composites (inverse = the inverses in reversed order), for element-wise non-linearities and for the `Piecewise*CDF` stage; the corollaries
state C04 consistency with no round-trip hypothesis.  `StagePair` is what C12 and C04 together ask of a forward / inverse pair (both
row-wise, exact round trip), closed under composition.  `Lemmas/StageMoreRows.lean` (same namespace) holds the row-independence part (C12).
-/
open NF NF.StructureExec NF.RowErr NF.RowIndependenceMore NF.Density NF.FlowRowsExec

namespace NF.StageMore
variable {α : Type}

/-! ## 1. vocabulary -/

def RoundTripEq (o : XOps α) (P Q : Array α → Prop) (T Tinv : BStage α) : Prop :=
  ∀ (z e s : Array α) (l : List α), P z → Tinv 1 z e = .ok (s, l) →
    Q s ∧ ∃ d, l = [d] ∧ T 1 s e = .ok (z, [o.neg d])

def RoundTripOn (o : XOps α) (P : Array α → Prop) (w : Nat) (T Tinv : BStage α) : Prop :=
  ∀ (z e s : Array α) (d : α), P z → Tinv 1 z e = .ok (s, [d]) →
    ∃ z', T 1 s e = .ok (z', [o.neg d]) ∧ RowEq w 0 0 z' z

theorem roundTripStage_iff_on (o : XOps α) (w : Nat) (T Tinv : BStage α) :
    RoundTripStage o w T Tinv ↔ RoundTripOn o (fun _ => True) w T Tinv :=
  ⟨fun h z e s d _ hz => h z e s d hz, fun h z e s d hz => h z e s d trivial hz⟩

theorem RoundTripEq.on {o : XOps α} {P Q : Array α → Prop} {T Tinv : BStage α} (h : RoundTripEq o P Q T Tinv) (w : Nat) :
    RoundTripOn o P w T Tinv := by
  intro z e s d hP hz
  obtain ⟨-, d', hd, hT⟩ := h z e s [d] hP hz
  obtain rfl : d = d' := by simpa using hd
  exact ⟨z, hT, RowEq.refl _ _ _⟩

theorem RoundTripEq.run {o : XOps α} {P Q : Array α → Prop} {T Tinv : BStage α} (h : RoundTripEq o P Q T Tinv)
    {z ctx : Array α} (hP : P z) (hacc : ∃ r, Tinv 1 z ctx = .ok r) :
    ∃ s d, Tinv 1 z ctx = .ok (s, [d]) ∧ Q s ∧ T 1 s ctx = .ok (z, [o.neg d]) := by
  obtain ⟨⟨s, l⟩, hr⟩ := hacc
  obtain ⟨hq, d, rfl, hT⟩ := h z ctx s l hP hr
  exact ⟨s, d, hr, hq, hT⟩

theorem RoundTripEq.stage {o : XOps α} {Q : Array α → Prop} {T Tinv : BStage α}
    (h : RoundTripEq o (fun _ => True) Q T Tinv) (w : Nat) : RoundTripStage o w T Tinv :=
  (roundTripStage_iff_on o w T Tinv).2 (h.on w)

theorem RoundTripEq.mono {o : XOps α} {P P' Q Q' : Array α → Prop} {T Tinv : BStage α} (h : RoundTripEq o P Q T Tinv)
    (hP : ∀ z, P' z → P z) (hQ : ∀ s, Q s → Q' s) : RoundTripEq o P' Q' T Tinv := by
  intro z e s l hz hi
  obtain ⟨hq, r⟩ := h z e s l (hP z hz) hi
  exact ⟨hQ s hq, r⟩

/-- **C04, consistency over the executed passes, under the round-trip law restricted to noise rows satisfying `P`** -/
theorem flowSalpExec_consistent_on (o : XOps α) {P : Array α → Prop} {w rcw cw R n : Nat} {emb : Nat → Array α → Array α}
    {T Tinv : BStage α} {base : BaseD α} {noise ctx : Array α} (hT : RowWiseStage w cw Tinv) (hbase : RowIndepBase cw base)
    (hemb : EmbRowWise rcw cw emb) (hsize : R * cw ≤ (emb R ctx).size) (hround : RoundTripOn o P w T Tinv)
    (hsub : ∀ a b : α, o.sub a b = o.add a (o.neg b)) {s : Array α} {lps : List α}
    (h : flowSalpExec o w cw R n emb Tinv base noise ctx = .ok (s, lps))
    {i j : Nat} (hi : i < R) (hj : j < n) (zr cr : Array α) (hP : P zr) (hz : RowEq w (i * n + j) 0 noise zr)
    (hc : RowEq rcw i 0 ctx cr) :
    ∃ (si : Array α) (lp : α), RowEq w (i * n + j) 0 s si ∧ lps[i * n + j]? = some lp ∧
      flowLogProbExec o w emb T base 1 si cr = .ok [lp] :=
  flowSalpExec_consistent_at o hT hbase hemb hsize hsub h hi hj zr cr hz hc (fun e s d => hround zr e s d hP)

/-- `FlowRowsExec.arMult` and `ARWhole.pw` are the same number (neither of the two files imports the other) -/
theorem arMult_eq_pw (c : ElCfg) : arMult c = NF.ARWhole.pw c := rfl

/-! ## 2. the executed coupling layer -/

section coupling
variable (e : Float → ℝ) (c : ElCfg) (mask : List ℝ) (S : Nat) (up up' : Array ℝ)
  (net : Nat → Array ℝ → Array ℝ → Array ℝ)

/-- **the executed coupling layer (no unconditional transform), ANY conditioner network**: if the element maps are invertible in the
    order inverse-then-forward for every parameter array, then for a one-row input filling the `[1, C, S]` shape the forward
    stage (conditioner re-run on the inverse output: it is given the same identity features) returns the input array exactly and
    the negated log-det. -/
theorem roundTrip_couplingStage
    (hrev : ∀ params, ElInvertibleRev (NF.realX e) c (transformIdx (NF.realX e) mask).length S params 1) :
    RoundTripEq (NF.realX e) (fun z => mask.length * S ≤ z.size) (fun s => mask.length * S ≤ s.size)
      (couplingStage (NF.realX e) c mask S false none up' net) (couplingStage (NF.realX e) c mask S true none up net) := by
  intro z ctx s l hz h
  obtain ⟨herr, rfl, rfl⟩ := ofT_eq_ok h
  have hsz : 1 * mask.length * S ≤ z.size := by simpa using hz
  obtain ⟨hout, herr', hcond, hld⟩ := coupling_forward_inverse_real e c mask 1 S z
    (net 1 (condInOf (NF.realX e) mask S true none up 1 z) ctx) up up' (hrev _) herr hsz
  obtain ⟨d, hd⟩ := list_len_one _ (coupling_ld_length (NF.realX e) c mask S true none up 1 z
    (net 1 (condInOf (NF.realX e) mask S true none up 1 z) ctx))
  refine ⟨by simpa using hz, d, hd, ?_⟩
  have hcin : condInOf (NF.realX e) mask S false none up' 1
      (couplingApply (NF.realX e) c mask 1 S z (net 1 (condInOf (NF.realX e) mask S true none up 1 z) ctx) true none up).out
      = condInOf (NF.realX e) mask S true none up 1 z := by
    rw [← condInOf_eq (NF.realX e) c mask S false none up' 1 _ (net 1 (condInOf (NF.realX e) mask S true none up 1 z) ctx),
      ← condInOf_eq (NF.realX e) c mask S true none up 1 z (net 1 (condInOf (NF.realX e) mask S true none up 1 z) ctx)]
    exact hcond
  show ofT (couplingApply (NF.realX e) c mask 1 S _ (net 1 (condInOf (NF.realX e) mask S false none up' 1 _) ctx) false none up')
    = _
  rw [hcin, ofT_of_err_none herr', hout]
  obtain ⟨d', hd'⟩ := list_len_one _ (coupling_ld_length (NF.realX e) c mask S false none up' 1
    (couplingApply (NF.realX e) c mask 1 S z (net 1 (condInOf (NF.realX e) mask S true none up 1 z) ctx) true none up).out
    (net 1 (condInOf (NF.realX e) mask S true none up 1 z) ctx))
  have h0 := hld 0 Nat.one_pos
  rw [hd, hd'] at h0
  rw [hd']
  simp only [List.getElem?_cons_zero, Option.map_some, Option.some.injEq] at h0
  rw [h0]
  rfl

/-- with the row-size predicate the pass stages use (`size = width`): the coupling pass keeps the size -/
theorem roundTrip_couplingStage_size
    (hrev : ∀ params, ElInvertibleRev (NF.realX e) c (transformIdx (NF.realX e) mask).length S params 1) :
    RoundTripEq (NF.realX e) (fun z => z.size = mask.length * S) (fun s => s.size = mask.length * S)
      (couplingStage (NF.realX e) c mask S false none up' net) (couplingStage (NF.realX e) c mask S true none up net) := by
  intro z ctx s l hz h
  obtain ⟨-, r⟩ := roundTrip_couplingStage e c mask S up up' net hrev z ctx s l (le_of_eq hz.symm) h
  refine ⟨?_, r⟩
  obtain ⟨-, rfl, -⟩ := ofT_eq_ok h
  rw [coupling_out_size]
  exact hz

/-- `AffineCouplingTransform` (RealNVP; both scale activations), any conditioner: `1e-3` read as a non-negative real -/
theorem roundTrip_couplingStage_affine (he : 0 ≤ e 1e-3) (hk : c.kind = "affine") :
    RoundTripEq (NF.realX e) (fun z => mask.length * S ≤ z.size) (fun s => mask.length * S ≤ s.size)
      (couplingStage (NF.realX e) c mask S false none up' net) (couplingStage (NF.realX e) c mask S true none up net) :=
  roundTrip_couplingStage e c mask S up up' net (fun params => NF.CouplingJacobian.elInvertibleRev_affine_real e he c hk _ S params 1)

/-- `AdditiveCouplingTransform` (NICE), any conditioner: no hypothesis -/
theorem roundTrip_couplingStage_additive (hk : c.kind = "additive") :
    RoundTripEq (NF.realX e) (fun z => mask.length * S ≤ z.size) (fun s => mask.length * S ≤ s.size)
      (couplingStage (NF.realX e) c mask S false none up' net) (couplingStage (NF.realX e) c mask S true none up net) :=
  roundTrip_couplingStage e c mask S up up' net (fun params => NF.CouplingJacobian.elInvertibleRev_additive_real e c hk _ S params 1)

/-- `PiecewiseRationalQuadraticCouplingTransform(tails='linear')`, any conditioner, any accepted configuration -/
theorem roundTrip_couplingStage_rqTails (hc : RQTailsCfgValid e c) :
    RoundTripEq (NF.realX e) (fun z => mask.length * S ≤ z.size) (fun s => mask.length * S ≤ s.size)
      (couplingStage (NF.realX e) c mask S false none up' net) (couplingStage (NF.realX e) c mask S true none up net) :=
  roundTrip_couplingStage e c mask S up up' net (fun params => elInvertibleRev_rq_tails_real e c hc _ S params 1)

end coupling

/-! ## 3. `CompositeTransform`: the inverse runs the inverses of the parts in reversed order (`Wrap.composite`, base.py:58-60) -/

section comp

theorem cascadeFrom_append_ok {T C L : Type} (A : Wrap.LD L) (fs gs : List (T → C → Except Err (T × L))) (x : T) (l : L)
    (c : C) (r : T × L) :
    Wrap.cascadeFrom A (fs ++ gs) x l c = .ok r ↔
      ∃ y l', Wrap.cascadeFrom A fs x l c = .ok (y, l') ∧ Wrap.cascadeFrom A gs y l' c = .ok r := by
  induction fs generalizing x l with
  | nil => exact ⟨fun h => ⟨x, l, rfl, h⟩, fun ⟨_, _, h1, h2⟩ => by cases h1; exact h2⟩
  | cons f fs ih =>
    rw [List.cons_append, cascadeFrom_cons_ok]
    constructor
    · rintro ⟨y, ld, h1, h2⟩
      obtain ⟨y', l', h3, h4⟩ := (ih _ _).1 h2
      exact ⟨y', l', (cascadeFrom_cons_ok ..).2 ⟨y, ld, h1, h3⟩, h4⟩
    · rintro ⟨y', l', h3, h4⟩
      obtain ⟨y, ld, h1, h2⟩ := (cascadeFrom_cons_ok ..).1 h3
      exact ⟨y, ld, h1, (ih _ _).2 ⟨y', l', h2, h4⟩⟩

/-- the two cascades of a composite, from any running log-dets -/
theorem roundTrip_comp_from (e : Float → ℝ) (P : Array ℝ → Prop) (ps : List (BStage ℝ × BStage ℝ))
    (hps : ∀ p ∈ ps, RoundTripEq (NF.realX e) P P p.1 p.2) (ctx : Array ℝ) :
    ∀ (z s : Array ℝ) (a : ℝ) (l : List ℝ), P z →
      Wrap.cascadeFrom (ldLD (NF.realX e) 1) (ps.reverse.map fun p => p.2 1) z [a] ctx = .ok (s, l) →
      P s ∧ ∃ d, l = [a + d] ∧
        ∀ a', Wrap.cascadeFrom (ldLD (NF.realX e) 1) (ps.map fun p => p.1 1) s [a'] ctx = .ok (z, [a' - d]) := by
  induction ps with
  | nil =>
    intro z s a l hz h
    simp only [List.reverse_nil, List.map_nil, Wrap.cascadeFrom, Except.ok.injEq, Prod.mk.injEq] at h
    obtain ⟨rfl, rfl⟩ := h
    exact ⟨hz, 0, by simp, fun a' => by simp [Wrap.cascadeFrom]⟩
  | cons p ps ih =>
    intro z s a l hz h
    rw [List.reverse_cons, List.map_append, cascadeFrom_append_ok] at h
    obtain ⟨s1, l1, h1, h2⟩ := h
    obtain ⟨hs1, d1, rfl, hf⟩ := ih (fun q hq => hps q (List.mem_cons_of_mem _ hq)) z s1 a l1 hz h1
    simp only [List.map_cons, List.map_nil] at h2
    rw [cascadeFrom_cons_ok] at h2
    obtain ⟨y, ld, h3, h4⟩ := h2
    simp only [Wrap.cascadeFrom, Except.ok.injEq, Prod.mk.injEq] at h4
    obtain ⟨rfl, rfl⟩ := h4
    obtain ⟨hPs, d2, rfl, hfw⟩ := hps p List.mem_cons_self s1 ctx y ld hs1 h3
    refine ⟨hPs, d1 + d2, by simp [ldLD, add_assoc], fun a' => ?_⟩
    rw [List.map_cons, cascadeFrom_cons_ok]
    refine ⟨s1, _, hfw, ?_⟩
    have hadd : (ldLD (NF.realX e) 1).add [a'] [(NF.realX e).neg d2] = [a' + -d2] := by simp [ldLD]
    rw [hadd, hf (a' + -d2)]
    congr 3
    ring

theorem roundTrip_compStage (e : Float → ℝ) (P : Array ℝ → Prop) (ps : List (BStage ℝ × BStage ℝ))
    (hps : ∀ p ∈ ps, RoundTripEq (NF.realX e) P P p.1 p.2) :
    RoundTripEq (NF.realX e) P P (compStage (NF.realX e) (ps.map Prod.fst)) (compStage (NF.realX e) (ps.reverse.map Prod.snd)) := by
  intro z ctx s l hz h
  have h' : Wrap.cascadeFrom (ldLD (NF.realX e) 1) (ps.reverse.map fun p => p.2 1) z [0] ctx = .ok (s, l) := by
    simpa [compStage, Wrap.cascade, ldLD, List.map_map, Function.comp_def] using h
  obtain ⟨hs, d, rfl, hf⟩ := roundTrip_comp_from e P ps hps ctx z s 0 l hz h'
  refine ⟨hs, 0 + d, rfl, ?_⟩
  show Wrap.cascadeFrom (ldLD (NF.realX e) 1) ((ps.map Prod.fst).map fun t => t 1) s (ldLD (NF.realX e) 1).zero ctx = _
  have hz0 : (ldLD (NF.realX e) 1).zero = [0] := by simp [ldLD]
  have hm : ((ps.map Prod.fst).map fun t : BStage ℝ => t 1) = ps.map fun p => p.1 1 := by
    rw [List.map_map]; rfl
  rw [hz0, hm, hf 0]
  simp

/-- **a forward / inverse pair of stages of width `w`** (context width `cw`): both are row-wise, and on rows satisfying `P`, which
    the inverse stage preserves, the forward stage undoes an accepted inverse call exactly.  What C12 asks of the transform of
    `log_prob`, and C04 of the pair behind `sample_and_log_prob`. -/
structure StagePair (e : Float → ℝ) (w cw : Nat) (P : Array ℝ → Prop) (T Tinv : BStage ℝ) : Prop where
  fwd : RowWiseStage w cw T
  inv : RowWiseStage w cw Tinv
  roundTrip : RoundTripEq (NF.realX e) P P T Tinv

theorem StagePair.comp {e : Float → ℝ} {w cw : Nat} {P : Array ℝ → Prop} {ps : List (BStage ℝ × BStage ℝ)}
    (hps : ∀ p ∈ ps, StagePair e w cw P p.1 p.2) :
    StagePair e w cw P (compStage (NF.realX e) (ps.map Prod.fst)) (compStage (NF.realX e) (ps.reverse.map Prod.snd)) where
  fwd := rowWise_compStage _ _ fun t ht => by
    obtain ⟨p, hp, rfl⟩ := List.mem_map.1 ht
    exact (hps p hp).fwd
  inv := rowWise_compStage _ _ fun t ht => by
    obtain ⟨p, hp, rfl⟩ := List.mem_map.1 ht
    exact (hps p (List.mem_reverse.1 hp)).inv
  roundTrip := roundTrip_compStage e P ps fun p hp => (hps p hp).roundTrip

end comp

/-! ## 4. the element-wise non-linearities (`nonlinApply`: `Exp`, `Tanh`, `LeakyReLU`, `Affine`, …) as a stage -/

section nonlin
open NonlinExec DualX

variable (e : Float → ℝ)

theorem sumRows_one_map (z : Array ℝ) (g : ℝ → ℝ) :
    sumRows (NF.realX e) 1 (z.map g) = [∑ k ∈ Finset.range z.size, g (z.getD k 0)] := by
  obtain ⟨d, hd⟩ := list_len_one (sumRows (NF.realX e) 1 (z.map g)) (by simp [sumRows])
  have h0 := sumRows_real e 1 (z.map g) 0 Nat.one_pos
  rw [hd] at h0
  simp only [List.getElem?_cons_zero, Option.some.injEq, Array.size_map, Nat.div_one, Nat.zero_mul, Nat.zero_add] at h0
  rw [hd, h0]
  congr 1
  apply Finset.sum_congr rfl
  intro k hk
  have hk' := Finset.mem_range.1 hk
  simp [Array.getD, hk']

/-- **an executed element-wise non-linearity, whole layer**: if, for the elements `y` satisfying `Pel`, an accepted inverse
    element call `(x, l)` is undone by the forward element call (`(y, -l)`), then on a one-row array of such elements the forward
    layer returns the input array exactly and the negated log-det (no hypothesis on the size: for one row the width is the size). -/
theorem roundTrip_nonlinStage (kind : String) (ds : Array Float) (ps : List ℝ) (Pel : ℝ → Prop)
    (hel : ∀ y, Pel y → ∀ x l, nonlinEl (NF.realX e) kind ds ps true y = .ok (x, l) →
      nonlinEl (NF.realX e) kind ds ps false x = .ok (y, -l)) (n : Nat) :
    RoundTripEq (NF.realX e) (fun z => z.size = n ∧ ∀ y ∈ z.toList, Pel y) (fun s => s.size = n)
      (nonlinStage (NF.realX e) kind ds ps false) (nonlinStage (NF.realX e) kind ds ps true) := by
  intro z ctx s l hz h
  obtain ⟨hzn, hzP⟩ := hz
  obtain ⟨herr, rfl, rfl⟩ := ofT_eq_ok h
  have hall := (nonlinApply_err_none_iff e kind ds ps 1 z true).1 herr
  -- element facts
  have hF : ∀ y ∈ z.toList, nonlinEl (NF.realX e) kind ds ps false (outY (nonlinEl (NF.realX e) kind ds ps true y))
      = .ok (y, -outL (nonlinEl (NF.realX e) kind ds ps true y)) := by
    intro y hy
    obtain ⟨⟨x, l⟩, hr⟩ := hall y hy
    rw [hr]
    exact hel y (hzP y hy) x l hr
  rw [nonlinApply_real] at herr ⊢
  simp only at herr ⊢
  refine ⟨by simpa using hzn, _, sumRows_one_map e z _, ?_⟩
  show ofT (nonlinApply (NF.realX e) kind ds ps 1 _ false) = _
  rw [nonlinApply_real]
  have hget : ∀ k, k < z.size → z.getD k 0 ∈ z.toList := by
    intro k hk
    simp only [Array.getD, hk, dif_pos]
    exact Array.getElem_mem_toList hk
  have hout : (Array.map (fun xi => outY (nonlinEl (NF.realX e) kind ds ps true xi)) z).map
      (fun xi => outY (nonlinEl (NF.realX e) kind ds ps false xi)) = z := by
    apply Array.ext'
    simp only [Array.toList_map, List.map_map]
    conv_rhs => rw [← List.map_id z.toList]
    apply List.map_congr_left
    intro y hy
    simp only [Function.comp, hF y hy, outY_ok, id]
  have hld : (Array.map (fun xi => outY (nonlinEl (NF.realX e) kind ds ps true xi)) z).map
      (fun xi => outL (nonlinEl (NF.realX e) kind ds ps false xi))
      = z.map (fun y => -outL (nonlinEl (NF.realX e) kind ds ps true y)) := by
    apply Array.ext'
    simp only [Array.toList_map, List.map_map]
    apply List.map_congr_left
    intro y hy
    simp only [Function.comp, hF y hy, outL_ok]
  have herr' : (Array.map (fun xi => outY (nonlinEl (NF.realX e) kind ds ps true xi)) z).toList.findSome?
      (fun xi => DualXFlowStages.errG (nonlinEl (NF.realX e) kind ds ps false xi)) = none := by
    rw [List.findSome?_eq_none_iff]
    intro xi hxi
    simp only [Array.toList_map, List.mem_map] at hxi
    obtain ⟨y, hy, rfl⟩ := hxi
    rw [hF y hy]
    rfl
  rw [ofT_of_err_none herr']
  simp only [hout, hld, sumRows_one_map, realX_neg, Finset.sum_neg_distrib]

/-- `Exp` (inverse `log`, accepted iff positive): no hypothesis -/
theorem roundTrip_nonlinStage_exp (ds : Array Float) (ps : List ℝ) (n : Nat) :
    RoundTripEq (NF.realX e) (fun z => z.size = n ∧ ∀ y ∈ z.toList, True) (fun s => s.size = n)
      (nonlinStage (NF.realX e) "Exp" ds ps false) (nonlinStage (NF.realX e) "Exp" ds ps true) :=
  roundTrip_nonlinStage e "Exp" ds ps (fun _ => True) (fun y _ x l h => by
    have hy : 0 < y := (expT_inv_ok_iff e y).1 ⟨_, h⟩
    exact (expT_roundtrip' e hy).undoes h) n

/-- `PointwiseAffineTransform` with a scalar non-zero scale -/
theorem roundTrip_nonlinStage_affine (ds : Array Float) (ps : List ℝ) (hs : ps.getD 0 0 ≠ 0) (n : Nat) :
    RoundTripEq (NF.realX e) (fun z => z.size = n ∧ ∀ y ∈ z.toList, True) (fun s => s.size = n)
      (nonlinStage (NF.realX e) "Affine" ds ps false) (nonlinStage (NF.realX e) "Affine" ds ps true) :=
  roundTrip_nonlinStage e "Affine" ds ps (fun _ => True) (fun y _ x l h => by
    simp only [nonlinEl_Affine, realX_zero] at h ⊢
    exact (affineT_roundtrip' e (ps.getD 0 0) (ps.getD 1 0) y hs).undoes h) n

/-- `LeakyReLU` (the slope constant and its logarithm read exactly: `LeakyConsts`) -/
theorem roundTrip_nonlinStage_leakyRelu (ds : Array Float) (ps : List ℝ)
    (hc : LeakyConsts e (ds.getD 0 0.0) (ps.getD 0 0)) (n : Nat) :
    RoundTripEq (NF.realX e) (fun z => z.size = n ∧ ∀ y ∈ z.toList, True) (fun s => s.size = n)
      (nonlinStage (NF.realX e) "LeakyReLU" ds ps false) (nonlinStage (NF.realX e) "LeakyReLU" ds ps true) :=
  roundTrip_nonlinStage e "LeakyReLU" ds ps (fun _ => True) (fun y _ x l h => by
    simp only [nonlinEl_LeakyReLU, realX_zero] at h ⊢
    exact (leakyReluT_roundtrip' hc y).undoes h) n

/-- `Tanh`, inside the range where the forward log-det formula is the exact one (`-10 ≤ artanh y`; below it the executed forward
    log-det is the thresholded `softplus`, `NonlinExec.tanhT_roundtrip_logdet_false_below_threshold`) -/
theorem roundTrip_nonlinStage_tanh (ds : Array Float) (ps : List ℝ) (hc : TanhConsts e) (n : Nat) :
    RoundTripEq (NF.realX e) (fun z => z.size = n ∧ ∀ y ∈ z.toList, -10 ≤ artanh y) (fun s => s.size = n)
      (nonlinStage (NF.realX e) "Tanh" ds ps false) (nonlinStage (NF.realX e) "Tanh" ds ps true) :=
  roundTrip_nonlinStage e "Tanh" ds ps (fun y => -10 ≤ artanh y) (fun y hy x l h => by
    have hne : tanhT (NF.realX e) true y ≠ .error .outsideDomain := by
      intro h'
      have : nonlinEl (NF.realX e) "Tanh" ds ps true y = tanhT (NF.realX e) true y := rfl
      rw [this, h'] at h
      cases h
    have hr := (tanhT_inv_error_iff e y).not.1 hne
    push Not at hr
    exact (tanhT_roundtrip' e hc hr.1 hr.2 hy).undoes h) n

/-- for the `Exp` layer `FlowRowsExec.RoundTripStage` itself holds (any width `w`, arrays of any size: `nonlinStage` takes the width from the array) -/
theorem roundTripStage_nonlinStage_exp (ds : Array Float) (ps : List ℝ) (w : Nat) :
    RoundTripStage (NF.realX e) w (nonlinStage (NF.realX e) "Exp" ds ps false) (nonlinStage (NF.realX e) "Exp" ds ps true) := by
  intro z ctx s d h
  obtain ⟨-, d', hd, hT⟩ := roundTrip_nonlinStage_exp e ds ps z.size z ctx s [d] ⟨rfl, fun _ _ => trivial⟩ h
  obtain rfl : d = d' := by simpa using hd
  exact ⟨z, hT, RowEq.refl _ _ _⟩

end nonlin

/-! ## 5. `RoundTripStage` needs the size of the row: an element-wise stage on a short array -/

/-- **Forced hypothesis**: `FlowRowsExec.RoundTripStage` quantifies over one-row arrays of ANY size.  For an element-wise
    stage of width `n > 0` that accepts the empty array (missing entries are read as zero), it is FALSE: the forward output has `n`
    entries, the input none.  Hence the size-restricted forms `RoundTripEq` / `RoundTripOn` of §1. -/
theorem roundTripStage_cdf_short_false (o : XOps α) (c : ElCfg) (n : Nat) (params : Array α) (hn : 0 < n)
    (hacc : ∃ s d, cdfStage o c n true params 1 #[] #[] = .ok (s, [d])) :
    ¬ RoundTripStage o n (cdfStage o c n false params) (cdfStage o c n true params) := by
  intro h
  obtain ⟨s, d, hs⟩ := hacc
  obtain ⟨z', hz', hrow⟩ := h #[] #[] s d hs
  obtain ⟨-, rfl, -⟩ := ofT_eq_ok hz'
  have h0 := hrow 0 hn
  have hsz : 0 * n + 0 < (cdfApply o c 1 n s params false).out.size := by
    rw [cdfApply, elemwise_out_size]; omega
  rw [Array.getElem?_eq_getElem hsz] at h0
  simp at h0

theorem roundTripStage_cdf_rqTails_false (e : Float → ℝ) (c : ElCfg) (hc : RQTailsCfgValid e c) (n : Nat) (params : Array ℝ)
    (hn : 0 < n) :
    ¬ RoundTripStage (NF.realX e) n (cdfStage (NF.realX e) c n false params) (cdfStage (NF.realX e) c n true params) := by
  apply roundTripStage_cdf_short_false (NF.realX e) c n params hn
  obtain ⟨d, hd⟩ := list_len_one (cdfApply (NF.realX e) c 1 n #[] params true).ld
    (by rw [cdfApply]; exact elemwise_ld_length _ 1 n _)
  refine ⟨(cdfApply (NF.realX e) c 1 n #[] params true).out, d, ?_⟩
  show ofT (cdfApply (NF.realX e) c 1 n #[] params true) = _
  rw [ofT_of_err_none (FlowWholeND.cdfApply_rq_tails_err_none e c hc 1 n #[] params true), hd]

/-! ## 5b. the `Piecewise*CDF` stage on a full row -/

section cdfrt
variable (e : Float → ℝ) (c : ElCfg) (n : Nat) (params : Array ℝ)

/-- **an executed `Piecewise*CDF`, whole layer, on a one-row array of exactly `n` entries**: for a family whose inverse
    element call is undone exactly by the forward one, the forward layer returns the input array exactly and the negated row
    log-det (`ElUndoes.cdf_roundtrip_row` at `B = 1`, where row `0` is the whole array). -/
theorem roundTrip_cdfStage {V : List ℝ → Prop} (hu : ElUndoes Eq true (NF.realX e) c V)
    (hv : ∀ i, i < n → V ((List.range c.mult).map (fun k => params.getD (i * c.mult + k) (NF.realX e).zero))) :
    RoundTripEq (NF.realX e) (fun z => z.size = n) (fun s => s.size = n)
      (cdfStage (NF.realX e) c n false params) (cdfStage (NF.realX e) c n true params) := by
  intro z ctx s l hz h
  obtain ⟨herr, rfl, rfl⟩ := ofT_eq_ok h
  rw [cdfApply] at herr
  obtain ⟨hrow, hld⟩ := hu.cdf_roundtrip_row e 1 n z params hv Nat.one_pos
    (fun i hi => (elemwise_err_none (NF.realX e) 1 n _).1 herr 0 i Nat.one_pos hi)
  simp only [Bool.not_true, Nat.zero_mul, Nat.zero_add] at hrow hld
  have herr' : (cdfApply (NF.realX e) c 1 n (cdfApply (NF.realX e) c 1 n z params true).out params false).err = none := by
    rw [cdfApply, elemwise_err_none]
    intro b i hb hi
    obtain rfl : b = 0 := by omega
    exact (hrow i hi).1
  have hout : (cdfApply (NF.realX e) c 1 n (cdfApply (NF.realX e) c 1 n z params true).out params false).out = z := by
    apply Array.ext_getElem?
    intro j
    by_cases hj : j < n
    · have hjz : j < z.size := by omega
      rw [(hrow j hj).2]
      simp [Array.getD, hjz]
    · have h1 : ¬ j < (cdfApply (NF.realX e) c 1 n (cdfApply (NF.realX e) c 1 n z params true).out params false).out.size := by
        rw [cdfApply, elemwise_out_size]; omega
      have h2 : ¬ j < z.size := by omega
      rw [getElem?_none_of_not_lt h1, getElem?_none_of_not_lt h2]
  obtain ⟨d, hd⟩ := list_len_one (cdfApply (NF.realX e) c 1 n z params true).ld
    (by rw [cdfApply]; exact elemwise_ld_length _ 1 n _)
  obtain ⟨d', hd'⟩ := list_len_one
    (cdfApply (NF.realX e) c 1 n (cdfApply (NF.realX e) c 1 n z params true).out params false).ld
    (by rw [cdfApply]; exact elemwise_ld_length _ 1 n _)
  refine ⟨?_, d, hd, ?_⟩
  · show (cdfApply (NF.realX e) c 1 n z params true).out.size = n
    rw [cdfApply, elemwise_out_size]; omega
  show ofT (cdfApply (NF.realX e) c 1 n (cdfApply (NF.realX e) c 1 n z params true).out params false) = _
  rw [hd, hd'] at hld
  obtain rfl : d' = -d := by simpa using hld
  rw [ofT_of_err_none herr', hout, hd']
  rfl

/-- **`PiecewiseRationalQuadraticCDF(tails='linear')`**: any accepted configuration, any parameter array, any full row -/
theorem roundTrip_cdfStage_rqTails (hc : RQTailsCfgValid e c) :
    RoundTripEq (NF.realX e) (fun z => z.size = n) (fun s => s.size = n)
      (cdfStage (NF.realX e) c n false params) (cdfStage (NF.realX e) c n true params) :=
  roundTrip_cdfStage e c n params (rq_tails_undoes e c hc.hk hc.ht true) fun i _ => by
    rw [realX_zero]
    exact FlowWholeND.cdfSlice_valid hc params i

/-- non-vacuity: the accepted configuration `cT2`, two features, the row `[1/2, 3]` (one entry inside, one in the tail) -/
example (params : Array ℝ) :
    ∃ s d, cdfStage (NF.realX TailsWhole.eW) cT2 2 true params 1 #[1 / 2, 3] #[] = .ok (s, [d]) ∧
      cdfStage (NF.realX TailsWhole.eW) cT2 2 false params 1 s #[] = .ok (#[1 / 2, 3], [-d]) := by
  have herr := FlowWholeND.cdfApply_rq_tails_err_none TailsWhole.eW cT2 rqTailsCfgValid_example 1 2 #[1 / 2, 3] params true
  have h : cdfStage (NF.realX TailsWhole.eW) cT2 2 true params 1 #[1 / 2, 3] #[] = .ok (_, _) := ofT_of_err_none herr
  obtain ⟨-, d, hd, hT⟩ := roundTrip_cdfStage_rqTails TailsWhole.eW cT2 2 params rqTailsCfgValid_example #[1 / 2, 3] #[] _ _ rfl h
  exact ⟨_, d, by rw [h, hd], hT⟩

end cdfrt

/-! ## 6. C04 consistency over the executed coupling layer, no round-trip hypothesis left -/

section corollaries
variable (e : Float → ℝ) (c : ElCfg) (mask : List ℝ) (S : Nat) (up up' : Array ℝ)
  (net : Nat → Array ℝ → Array ℝ → Array ℝ)
  {rcw cw R n : Nat} {emb : Nat → Array ℝ → Array ℝ} {base : BaseD ℝ} {noise ctx : Array ℝ}

/-- **C04 over the executed coupling layer (generic element family).**  `sample_and_log_prob` runs the inverse coupling pass (the
    conditioner `net` being run on the identity features and the repeated context) on the merged noise; the value it returns for
    sample `[i, j]` is what the executed `log_prob` (forward coupling pass, conditioner re-run) assigns to that sample alone
    under context row `i` alone.  Hypotheses: the element maps invert in the order inverse-then-forward, the conditioner /
    embedding / base density are row-wise, `zr` is a full one-row copy of noise row `[i, j]`. -/
theorem flowSalpExec_consistent_coupling
    (hrev : ∀ params, ElInvertibleRev (NF.realX e) c (transformIdx (NF.realX e) mask).length S params 1)
    (hnet : NetRowWise ((identityIdx (NF.realX e) mask).length * S) cw
      (paramWidth c (transformIdx (NF.realX e) mask).length * S) net)
    (hbase : RowIndepBase cw base) (hemb : EmbRowWise rcw cw emb) (hsize : R * cw ≤ (emb R ctx).size)
    {s : Array ℝ} {lps : List ℝ}
    (h : flowSalpExec (NF.realX e) (mask.length * S) cw R n emb (couplingStage (NF.realX e) c mask S true none up net) base
      noise ctx = .ok (s, lps))
    {i j : Nat} (hi : i < R) (hj : j < n) (zr cr : Array ℝ) (hzr : mask.length * S ≤ zr.size)
    (hz : RowEq (mask.length * S) (i * n + j) 0 noise zr) (hc : RowEq rcw i 0 ctx cr) :
    ∃ (si : Array ℝ) (lp : ℝ), RowEq (mask.length * S) (i * n + j) 0 s si ∧ lps[i * n + j]? = some lp ∧
      flowLogProbExec (NF.realX e) (mask.length * S) emb (couplingStage (NF.realX e) c mask S false none up' net) base 1 si cr
        = .ok [lp] :=
  flowSalpExec_consistent_on (NF.realX e) (rowWise_couplingStage (NF.realX e) c mask S true none up cw net hnet) hbase hemb hsize
    ((roundTrip_couplingStage e c mask S up up' net hrev).on _) (fun a b => sub_eq_add_neg a b) h hi hj zr cr hzr hz hc

end corollaries

/-! ## 7. non-vacuity: the premises are satisfiable and the conclusions are about accepted calls -/

section examples

theorem couplingStage_accepted (o : XOps α) (c : ElCfg) (mask : List α) (S : Nat) (inverse : Bool) (up : Array α)
    (net : Nat → Array α → Array α → Array α) (z ctx : Array α)
    (herr : ∀ params, (couplingApply o c mask 1 S z params inverse none up).err = none) :
    ∃ s d, couplingStage o c mask S inverse none up net 1 z ctx = .ok (s, [d]) := by
  obtain ⟨d, hd⟩ := list_len_one _ (coupling_ld_length o c mask S inverse none up 1 z
    (net 1 (condInOf o mask S inverse none up 1 z) ctx))
  refine ⟨(couplingApply o c mask 1 S z (net 1 (condInOf o mask S inverse none up 1 z) ctx) inverse none up).out, d, ?_⟩
  show ofT (couplingApply o c mask 1 S z (net 1 (condInOf o mask S inverse none up 1 z) ctx) inverse none up) = _
  rw [ofT_of_err_none (herr _), hd]

example (e : Float → ℝ) (net : Nat → Array ℝ → Array ℝ → Array ℝ) (ctx : Array ℝ) :
    ∃ s d, couplingStage (NF.realX e) { kind := "additive" } [0, 1] 1 true none #[] net 1 #[1, 2] ctx = .ok (s, [d]) ∧
      couplingStage (NF.realX e) { kind := "additive" } [0, 1] 1 false none #[] net 1 s ctx = .ok (#[1, 2], [-d]) := by
  obtain ⟨s, d, h⟩ := couplingStage_accepted (NF.realX e) { kind := "additive" } [0, 1] 1 true #[] net #[1, 2] ctx
    (fun params => coupling_additive_err_none (NF.realX e) _ rfl _ 1 1 _ params _ true)
  obtain ⟨s, d, h, -, hT⟩ := (roundTrip_couplingStage_additive e { kind := "additive" } [0, 1] 1 #[] #[] net rfl).run
    (z := #[1, 2]) (ctx := ctx) (by simp) ⟨_, h⟩
  exact ⟨s, d, h, hT⟩

/-- affine coupling (RealNVP), `e` reading every double as `0` (so `0 ≤ e 1e-3`), ANY conditioner -/
example (net : Nat → Array ℝ → Array ℝ → Array ℝ) (ctx : Array ℝ) :
    ∃ s d, couplingStage (NF.realX fun _ => 0) { kind := "affine" } [1, 0, 1] 1 true none #[] net 1 #[1, 2, 3] ctx = .ok (s, [d]) ∧
      couplingStage (NF.realX fun _ => 0) { kind := "affine" } [1, 0, 1] 1 false none #[] net 1 s ctx = .ok (#[1, 2, 3], [-d]) := by
  obtain ⟨s, d, h⟩ := couplingStage_accepted (NF.realX fun _ => 0) { kind := "affine" } [1, 0, 1] 1 true #[] net #[1, 2, 3] ctx
    (fun params => coupling_affine_err_none (NF.realX fun _ => 0) _ rfl _ 1 1 _ params _ true)
  obtain ⟨s, d, h, -, hT⟩ := (roundTrip_couplingStage_affine (fun _ => 0) { kind := "affine" } [1, 0, 1] 1 #[] #[] net
    le_rfl rfl).run (z := #[1, 2, 3]) (ctx := ctx) (by simp) ⟨_, h⟩
  exact ⟨s, d, h, hT⟩

/-- RQ coupling with linear tails at the accepted configuration `cT2` of `StructureExecRQTails` -/
example (net : Nat → Array ℝ → Array ℝ → Array ℝ) (ctx : Array ℝ) :
    ∃ s d, couplingStage (NF.realX TailsWhole.eW) cT2 [1, 0] 1 true none #[] net 1 #[1, 2] ctx = .ok (s, [d]) ∧
      couplingStage (NF.realX TailsWhole.eW) cT2 [1, 0] 1 false none #[] net 1 s ctx = .ok (#[1, 2], [-d]) := by
  obtain ⟨s, d, h⟩ := couplingStage_accepted (NF.realX TailsWhole.eW) cT2 [1, 0] 1 true #[] net #[1, 2] ctx
    (fun params => coupling_rq_tails_err_none TailsWhole.eW cT2 rqTailsCfgValid_example _ 1 1 _ params _ true)
  obtain ⟨s, d, h, -, hT⟩ := (roundTrip_couplingStage_rqTails TailsWhole.eW cT2 [1, 0] 1 #[] #[] net
    rqTailsCfgValid_example).run (z := #[1, 2]) (ctx := ctx) (by simp) ⟨_, h⟩
  exact ⟨s, d, h, hT⟩

/-- a composite [additive coupling, affine coupling, additive coupling] with three different conditioners round trips exactly -/
example (net1 net2 net3 : Nat → Array ℝ → Array ℝ → Array ℝ) :
    RoundTripEq (NF.realX fun _ => 0) (fun z => 2 ≤ z.size) (fun z => 2 ≤ z.size)
      (compStage (NF.realX fun _ => 0)
        [couplingStage (NF.realX fun _ => 0) { kind := "additive" } [0, 1] 1 false none #[] net1,
         couplingStage (NF.realX fun _ => 0) { kind := "affine" } [1, 0] 1 false none #[] net2,
         couplingStage (NF.realX fun _ => 0) { kind := "additive" } [0, 1] 1 false none #[] net3])
      (compStage (NF.realX fun _ => 0)
        [couplingStage (NF.realX fun _ => 0) { kind := "additive" } [0, 1] 1 true none #[] net3,
         couplingStage (NF.realX fun _ => 0) { kind := "affine" } [1, 0] 1 true none #[] net2,
         couplingStage (NF.realX fun _ => 0) { kind := "additive" } [0, 1] 1 true none #[] net1]) := by
  refine roundTrip_compStage (fun _ => 0) (fun z => 2 ≤ z.size) [(_, _), (_, _), (_, _)] fun p hp => ?_
  simp only [List.mem_cons, List.not_mem_nil, or_false] at hp
  rcases hp with rfl | rfl | rfl
  · exact roundTrip_couplingStage_additive _ _ [0, 1] 1 #[] #[] net1 rfl
  · exact roundTrip_couplingStage_affine _ _ [1, 0] 1 #[] #[] net2 le_rfl rfl
  · exact roundTrip_couplingStage_additive _ _ [0, 1] 1 #[] #[] net3 rfl

example (e : Float → ℝ) :
    ∃ s d, nonlinStage (NF.realX e) "Exp" #[] [] true 1 #[1, 2] #[] = .ok (s, [d]) ∧
      nonlinStage (NF.realX e) "Exp" #[] [] false 1 s #[] = .ok (#[1, 2], [-d]) := by
  have herr : (nonlinApply (NF.realX e) "Exp" #[] [] 1 #[1, 2] true).err = none := by
    rw [NonlinExec.nonlinApply_err_none_iff]
    intro xi hxi
    apply (NonlinExec.expT_inv_ok_iff e xi).2
    simp only [List.mem_cons, List.not_mem_nil, or_false] at hxi
    rcases hxi with rfl | rfl <;> norm_num
  have h : nonlinStage (NF.realX e) "Exp" #[] [] true 1 #[1, 2] #[] = .ok (_, _) := ofT_of_err_none herr
  obtain ⟨s, d, h, -, hT⟩ := (roundTrip_nonlinStage_exp e #[] [] 2).run (z := #[1, 2]) (ctx := #[])
    ⟨rfl, fun _ _ => trivial⟩ ⟨_, h⟩
  exact ⟨s, d, h, hT⟩

/-- `LeakyReLU` at the witness constants of `NonlinExec`, and `PointwiseAffineTransform` with scale `2`: the hypotheses are satisfiable -/
example (n : Nat) := roundTrip_nonlinStage_leakyRelu NonlinExec.eLeaky #[0.01] [Real.log (1 / 100)]
  (by simpa using NonlinExec.leakyConsts_example) n
example (n : Nat) := roundTrip_nonlinStage_affine (fun _ => 0) #[] [2, 5] (by norm_num) n

end examples

end NF.StageMore
