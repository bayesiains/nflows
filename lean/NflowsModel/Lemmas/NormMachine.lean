import NflowsModel.Core.Norm
import NflowsModel.Core.ActNormMachine
import Mathlib.Tactic
/-!
# Lemmas/NormMachine — the C14 machines of `Core/Norm` (`actStep`, `bnStep`), for every scalar semantics `o`

For each machine: what one accepted call does, as an equation between the step and a pair (state, answer) — the form in
which the stage and flow files use the step (`Lemmas/LogdetExecNorm.lean`, `Lemmas/DualXLU.lean` and `Properties/C14.lean`
also unfold `actStep` / `bnStep` themselves) —, the simulation relation with the documented-behaviour machine preserved by
every step (`runM_refines` then gives equal traces over every history), and what a whole history leaves in the state
(`actRun_firstTrainFwd`, `bnRun_fold`).  `actStep_abstracts` maps the ActNorm machine onto the one of
`Core/ActNormMachine.lean`; the last section is the index algebra of per-feature maps (`getD_map_range`, `col_mapCh`, …) that
`Lemmas/LogdetExecNorm.lean`, `Real/NormReal.lean` and `Properties/C14.lean` build on.
-/
namespace NF.Norm
variable {α : Type}

theorem runM_refines {σ τ ρ ω : Type} (stepC : σ → ω → σ × ρ) (stepS : τ → ω → τ × ρ) (R : σ → τ → Prop)
    (hstep : ∀ c s op, R c s → R (stepC c op).1 (stepS s op).1 ∧ (stepC c op).2 = (stepS s op).2) :
    ∀ (hist : List ω) (c : σ) (s : τ), R c s →
      R (runM stepC c hist).1 (runM stepS s hist).1 ∧ (runM stepC c hist).2 = (runM stepS s hist).2 := by
  intro hist
  induction hist with
  | nil => intro c s h; exact ⟨h, rfl⟩
  | cons op ops ih =>
    intro c s h
    obtain ⟨h1, h2⟩ := hstep c s op h
    obtain ⟨h3, h4⟩ := ih _ _ h1
    exact ⟨h3, by simp only [runM, h2, h4]⟩

theorem runM_append {σ ρ ω : Type} (step : σ → ω → σ × ρ) (s : σ) (h1 h2 : List ω) :
    (runM step s (h1 ++ h2)).1 = (runM step (runM step s h1).1 h2).1 := by
  induction h1 generalizing s with
  | nil => rfl
  | cons op ops ih => simp only [List.cons_append, runM, ih]

/-! ### ActNorm: the executed step in closed form, the simulation, the life-cycle over a history -/

theorem actStep_fwd_noinit (o : XOps α) (F : Nat) (s : ActSt α) (hs : s.initialized = true ∨ s.training = false)
    (b : Batch α) (hv : b.valid24 = true) :
    actStep o F s (.fwd b) =
      (s, some (.ok (actApply o F s.logScale s.shift b, actLogdet o s.logScale b false))) := by
  have hno : (s.training && !s.initialized) = false := by
    rcases hs with h | h <;> simp [h]
  simp only [actStep, hv, hno, Bool.not_true, Bool.false_eq_true, if_false]

theorem actStep_inv_ok (o : XOps α) (F : Nat) (s : ActSt α) (b : Batch α) (hv : b.valid24 = true) :
    actStep o F s (.inv b) =
      (s, some (.ok (actUnapply o F s.logScale s.shift b, actLogdet o s.logScale b true))) := by
  simp only [actStep, hv, Bool.not_true, Bool.false_eq_true, if_false]

theorem actStep_fwd_init (o : XOps α) (F : Nat) (s : ActSt α) (hs : s.training = true) (hi : s.initialized = false)
    (b : Batch α) (hv : b.valid24 = true) :
    actStep o F s (.fwd b) =
      ({ s with initialized := true, logScale := (actInit o F b).1, shift := (actInit o F b).2,
                initCount := s.initCount + 1 },
       some (.ok (actApply o F (actInit o F b).1 (actInit o F b).2 b, actLogdet o (actInit o F b).1 b false))) := by
  simp only [actStep, hv, hs, hi, Bool.not_true, Bool.not_false, Bool.and_self, Bool.false_eq_true, if_false, if_true]

theorem actStep_inv_fst (o : XOps α) (F : Nat) (s : ActSt α) (b : Batch α) : (actStep o F s (.inv b)).1 = s := by
  simp only [actStep]; split <;> rfl

theorem actStep_fwd_fst (o : XOps α) (F : Nat) (s : ActSt α) (b : Batch α)
    (hs : s.initialized = true ∨ (s.training && b.valid24) = false) : (actStep o F s (.fwd b)).1 = s := by
  by_cases hv : b.valid24 = true
  · rw [actStep_fwd_noinit o F s (hs.imp_right fun h => by rwa [hv, Bool.and_true] at h) b hv]
  · simp only [actStep, Bool.eq_false_iff.mpr hv, Bool.not_false, if_true]

theorem actRel_step (o : XOps α) (F : Nat) (c : ActSt α) (sp : ActSpec α) (op : NOp α) (h : actRel o F c sp) :
    actRel o F (actStep o F c op).1 (actSpecStep o F sp op).1 ∧ (actStep o F c op).2 = (actSpecStep o F sp op).2 := by
  obtain ⟨h1, h2, h3, h4, h5⟩ := h
  cases op with
  | train => exact ⟨⟨rfl, h2, h3, h4, h5⟩, rfl⟩
  | eval => exact ⟨⟨rfl, h2, h3, h4, h5⟩, rfl⟩
  | saveLoadFresh => exact ⟨⟨rfl, h2, h3, h4, h5⟩, rfl⟩
  | inv b =>
    simp only [actStep, actSpecStep]
    by_cases hv : b.valid24 = true
    · simp only [hv, Bool.not_true, Bool.false_eq_true, if_false, h3, h4]
      exact ⟨⟨h1, h2, h3, h4, h5⟩, trivial⟩
    · simp only [Bool.not_eq_true] at hv
      simp only [hv, Bool.not_false, if_true]
      exact ⟨⟨h1, h2, h3, h4, h5⟩, trivial⟩
  | fwd b =>
    simp only [actStep, actSpecStep]
    by_cases hv : b.valid24 = true
    · simp only [hv, Bool.not_true, Bool.false_eq_true, if_false]
      cases hi : sp.init with
      | some b0 =>
        have hci : c.initialized = true := by simpa [hi] using h2
        simp only [hci, Bool.not_true, Bool.and_false, Bool.false_eq_true, if_false]
        simp only [hi] at h3 h4 h5 ⊢
        refine ⟨⟨h1, by simp [hi, hci], ?_, ?_, ?_⟩, ?_⟩
        · simpa [ActSpec.params, hi] using h3
        · simpa [ActSpec.params, hi] using h4
        · simpa [hi] using h5
        · simp only [ActSpec.params, hi] at h3 h4 ⊢
          rw [h3, h4]
      | none =>
        have hci : c.initialized = false := by simpa [hi] using h2
        cases ht : sp.training with
        | true =>
          have hct : c.training = true := by rw [h1, ht]
          simp only [hct, hci, Bool.not_false, Bool.and_self, if_true]
          refine ⟨⟨by simp, by simp, by simp [ActSpec.params], by simp [ActSpec.params], ?_⟩, ?_⟩
          · have : c.initCount = 0 := by simpa [hi] using h5
            simp [this]
          · simp [ActSpec.params]
        | false =>
          have hct : c.training = false := by rw [h1, ht]
          simp only [hct, Bool.false_and, Bool.false_eq_true, if_false]
          refine ⟨⟨by simp [hct, ht], by simp [hi, hci], ?_, ?_, ?_⟩, ?_⟩
          · simpa [ActSpec.params, hi] using h3
          · simpa [ActSpec.params, hi] using h4
          · simpa [hi] using h5
          · simp only [ActSpec.params, hi] at h3 h4 ⊢
            rw [h3, h4]
    · simp only [Bool.not_eq_true] at hv
      simp only [hv, Bool.not_false, if_true]
      exact ⟨⟨h1, h2, h3, h4, h5⟩, trivial⟩

theorem actStep_frozen (o : XOps α) (F : Nat) (s : ActSt α) (op : NOp α) (hi : s.initialized = true) :
    (actStep o F s op).1.initialized = true ∧ (actStep o F s op).1.logScale = s.logScale ∧
    (actStep o F s op).1.shift = s.shift ∧ (actStep o F s op).1.initCount = s.initCount := by
  cases op with
  | train => exact ⟨hi, rfl, rfl, rfl⟩
  | eval => exact ⟨hi, rfl, rfl, rfl⟩
  | saveLoadFresh => exact ⟨hi, rfl, rfl, rfl⟩
  | inv b => rw [actStep_inv_fst]; exact ⟨hi, rfl, rfl, rfl⟩
  | fwd b => rw [actStep_fwd_fst o F s b (Or.inl hi)]; exact ⟨hi, rfl, rfl, rfl⟩

theorem actRun_frozen (o : XOps α) (F : Nat) (hist : List (NOp α)) (s : ActSt α) (hi : s.initialized = true) :
    (runM (actStep o F) s hist).1.initialized = true ∧ (runM (actStep o F) s hist).1.logScale = s.logScale ∧
    (runM (actStep o F) s hist).1.shift = s.shift ∧ (runM (actStep o F) s hist).1.initCount = s.initCount := by
  induction hist generalizing s with
  | nil => exact ⟨hi, rfl, rfl, rfl⟩
  | cons op ops ih =>
    obtain ⟨a, b, c, d⟩ := actStep_frozen o F s op hi
    obtain ⟨a', b', c', d'⟩ := ih _ a
    exact ⟨a', b'.trans b, c'.trans c, d'.trans d⟩

/-- the state after a history is determined by the first accepted training-mode forward batch alone -/
theorem actRun_firstTrainFwd (o : XOps α) (F : Nat) (hist : List (NOp α)) (s : ActSt α) (hi : s.initialized = false) :
    match firstTrainFwd s.training hist with
    | none => (runM (actStep o F) s hist).1.initialized = false ∧ (runM (actStep o F) s hist).1.logScale = s.logScale ∧
        (runM (actStep o F) s hist).1.shift = s.shift ∧ (runM (actStep o F) s hist).1.initCount = s.initCount
    | some b => (runM (actStep o F) s hist).1.initialized = true ∧ (runM (actStep o F) s hist).1.logScale = (actInit o F b).1 ∧
        (runM (actStep o F) s hist).1.shift = (actInit o F b).2 ∧ (runM (actStep o F) s hist).1.initCount = s.initCount + 1 := by
  induction hist generalizing s with
  | nil => exact ⟨hi, rfl, rfl, rfl⟩
  | cons op ops ih =>
    cases op with
    | train => simpa only [runM, firstTrainFwd, actStep] using ih { s with training := true } hi
    | eval => simpa only [runM, firstTrainFwd, actStep] using ih { s with training := false } hi
    | saveLoadFresh => simpa only [runM, firstTrainFwd, actStep] using ih { s with training := true } hi
    | inv b =>
      simp only [runM, firstTrainFwd, actStep_inv_fst]
      exact ih s hi
    | fwd b =>
      by_cases hc : (s.training && b.valid24) = true
      · obtain ⟨ht, hv⟩ := Bool.and_eq_true_iff.mp hc
        simp only [runM, firstTrainFwd, hc, if_true, actStep_fwd_init o F s ht hi b hv]
        exact actRun_frozen o F ops _ rfl
      · simp only [Bool.not_eq_true] at hc
        simp only [runM, firstTrainFwd, hc, Bool.false_eq_true, if_false, actStep_fwd_fst o F s b (Or.inr hc)]
        exact ih s hi

/-! ### the executable ActNorm machine is an instance of the abstract machine of `Core/ActNormMachine` -/

def absSt (s : ActSt α) : ActNormMachine.St (List α × List α) :=
  ⟨s.training, s.initialized, (s.logScale, s.shift), s.initCount⟩
/-- a `forward` that is rejected (wrong number of dimensions) acts on the state like an `inverse`: not at all -/
def absOp : NOp α → ActNormMachine.Op (Batch α)
  | .train => .train
  | .eval => .eval
  | .saveLoadFresh => .saveLoadFresh
  | .fwd b => if b.valid24 then .fwd b else .inv b
  | .inv b => .inv b

theorem actStep_abstracts (o : XOps α) (F : Nat) (s : ActSt α) (op : NOp α) :
    absSt (actStep o F s op).1 = ActNormMachine.stepCode (actInit o F) (absSt s) (absOp op) := by
  cases op with
  | train => rfl
  | eval => rfl
  | saveLoadFresh => rfl
  | inv b => simp only [actStep, absOp]; split <;> rfl
  | fwd b =>
    by_cases hv : b.valid24 = true
    · by_cases hc : (s.training && !s.initialized) = true
      · simp only [actStep, absOp, hv, Bool.not_true, Bool.false_eq_true, if_false, if_true, ActNormMachine.stepCode,
          absSt, hc]
      · simp only [actStep, absOp, hv, Bool.not_true, Bool.false_eq_true, if_false, if_true, ActNormMachine.stepCode,
          absSt, hc]
    · simp only [Bool.not_eq_true] at hv
      simp only [actStep, absOp, hv, Bool.not_false, if_true, Bool.false_eq_true, if_false, ActNormMachine.stepCode]

/-! ### BatchNorm: the executed step in closed form, the simulation, the running statistics over a history -/

theorem bnStep_eval_fwd (o : XOps α) (cfg : BNCfg α) (F : Nat) (s : BNSt α) (hs : s.training = false)
    (rows : List (List α)) :
    bnStep o cfg F s (.fwd (.d2 rows)) =
      (s, some (.ok (.d2 (bnNormalise o cfg F s.runMean s.runVar s.uweight s.bias rows),
        bnLogdet o cfg F s.runVar s.uweight rows.length false))) := by
  simp only [bnStep, hs, Bool.false_eq_true, if_false]

/-- in training mode the statistics of the batch itself are used, and move the running ones by the momentum rule -/
theorem bnStep_train_fwd (o : XOps α) (cfg : BNCfg α) (F : Nat) (s : BNSt α) (hs : s.training = true)
    (rows : List (List α)) :
    bnStep o cfg F s (.fwd (.d2 rows)) =
      ({ s with runMean := emaVec o cfg.momentum F s.runMean (colMeans o F rows),
                runVar := emaVec o cfg.momentum F s.runVar (colVars o F rows),
                updates := s.updates + 1 },
       some (.ok (.d2 (bnNormalise o cfg F (colMeans o F rows) (colVars o F rows) s.uweight s.bias rows),
                  bnLogdet o cfg F (colVars o F rows) s.uweight rows.length false))) := by
  simp only [bnStep, hs, if_true]

theorem bnStep_eval_inv (o : XOps α) (cfg : BNCfg α) (F : Nat) (s : BNSt α) (hs : s.training = false)
    (rows : List (List α)) :
    bnStep o cfg F s (.inv (.d2 rows)) =
      (s, some (.ok (.d2 (bnDenormalise o cfg F s.runMean s.runVar s.uweight s.bias rows),
        bnLogdet o cfg F s.runVar s.uweight rows.length true))) := by
  simp only [bnStep, hs, Bool.false_eq_true, if_false]

theorem bnRel_step (o : XOps α) (cfg : BNCfg α) (F : Nat) (c : BNSt α) (sp : BNSpec α) (op : NOp α)
    (h : bnRel o cfg F c sp) :
    bnRel o cfg F (bnStep o cfg F c op).1 (bnSpecStep o cfg F sp op).1 ∧
    (bnStep o cfg F c op).2 = (bnSpecStep o cfg F sp op).2 := by
  obtain ⟨h1, h2, h3, h4, h5, h6⟩ := h
  cases op with
  | train => exact ⟨⟨rfl, h2, h3, h4, h5, h6⟩, rfl⟩
  | eval => exact ⟨⟨rfl, h2, h3, h4, h5, h6⟩, rfl⟩
  | saveLoadFresh => exact ⟨⟨rfl, h2, h3, h4, h5, h6⟩, rfl⟩
  | inv b =>
    simp only [bnStep, bnSpecStep, ← h1]
    cases ht : c.training with
    | true => simp only [if_true]; exact ⟨⟨h1, h2, h3, h4, h5, h6⟩, trivial⟩
    | false =>
      simp only [Bool.false_eq_true, if_false]
      cases b with
      | d2 rows => simp only [← h2, ← h3, ← h4, ← h5]; exact ⟨⟨h1, h2, h3, h4, h5, h6⟩, trivial⟩
      | d4 h w imgs => exact ⟨⟨h1, h2, h3, h4, h5, h6⟩, rfl⟩
      | bad d => exact ⟨⟨h1, h2, h3, h4, h5, h6⟩, rfl⟩
  | fwd b =>
    cases b with
    | d4 h w imgs => exact ⟨⟨h1, h2, h3, h4, h5, h6⟩, rfl⟩
    | bad d => exact ⟨⟨h1, h2, h3, h4, h5, h6⟩, rfl⟩
    | d2 rows =>
      simp only [bnStep, bnSpecStep, ← h1]
      cases ht : c.training with
      | false =>
        simp only [Bool.false_eq_true, if_false, ← h2, ← h3, ← h4, ← h5]
        exact ⟨⟨h1, h2, h3, h4, h5, h6⟩, trivial⟩
      | true =>
        simp only [if_true, ← h4, ← h5]
        refine ⟨⟨by simp, ?_, ?_, by simp, by simp, ?_⟩, trivial⟩
        · simp only [BNSpec.runMean, List.foldl_append, List.foldl_cons, List.foldl_nil]
          rw [h2]; rfl
        · simp only [BNSpec.runVar, List.foldl_append, List.foldl_cons, List.foldl_nil]
          rw [h3]; rfl
        · simp [h6]

/-- the running statistics after any history are the momentum rule folded over exactly the training-mode forward
    batches, in order -/
theorem bnRun_fold (o : XOps α) (cfg : BNCfg α) (F : Nat) (hist : List (NOp α)) (s : BNSt α) :
    (runM (bnStep o cfg F) s hist).1.runMean =
      (trainBatches s.training hist).foldl (fun r rows => emaVec o cfg.momentum F r (colMeans o F rows)) s.runMean ∧
    (runM (bnStep o cfg F) s hist).1.runVar =
      (trainBatches s.training hist).foldl (fun r rows => emaVec o cfg.momentum F r (colVars o F rows)) s.runVar ∧
    (runM (bnStep o cfg F) s hist).1.updates = s.updates + (trainBatches s.training hist).length := by
  induction hist generalizing s with
  | nil => exact ⟨rfl, rfl, rfl⟩
  | cons op ops ih =>
    cases op with
    | train => simpa only [runM, trainBatches, bnStep] using ih { s with training := true }
    | eval => simpa only [runM, trainBatches, bnStep] using ih { s with training := false }
    | saveLoadFresh => simpa only [runM, trainBatches, bnStep] using ih { s with training := true }
    | inv b =>
      have hs : (bnStep o cfg F s (.inv b)).1 = s := by
        simp only [bnStep]; split
        · rfl
        · split <;> rfl
      simp only [runM, trainBatches, hs]
      exact ih s
    | fwd b =>
      cases b with
      | d4 h w imgs => simpa only [runM, trainBatches, bnStep] using ih s
      | bad d => simpa only [runM, trainBatches, bnStep] using ih s
      | d2 rows =>
        cases ht : s.training with
        | false =>
          have hs : (bnStep o cfg F s (.fwd (.d2 rows))).1 = s := by simp [bnStep, ht]
          simp only [runM, trainBatches, hs, Bool.false_eq_true, if_false]
          simpa only [ht] using ih s
        | true =>
          have := ih (bnStep o cfg F s (.fwd (.d2 rows))).1
          simp only [bnStep, ht, if_true] at this
          simp only [runM, trainBatches, if_true, List.foldl_cons, List.length_cons, bnStep, ht]
          refine ⟨this.1, this.2.1, ?_⟩
          rw [this.2.2]; omega

/-! ### index algebra -/

theorem getD_map_range {β : Type} (g : Nat → β) (d : β) {j F : Nat} (h : j < F) :
    ((List.range F).map g).getD j d = g j := by
  simp [List.getD_eq_getElem?_getD, h]

theorem Batch.size_mapCh (o : XOps α) (F : Nat) (f : Nat → α → α) (b : Batch α) : (b.mapCh o F f).size = b.size := by
  cases b with
  | d2 rows => exact List.length_map _
  | d4 h w imgs => exact List.length_map _
  | bad d => rfl

theorem Batch.valid24_mapCh (o : XOps α) (F : Nat) (f : Nat → α → α) (b : Batch α) :
    (b.mapCh o F f).valid24 = b.valid24 := by
  cases b <;> rfl

theorem col_mapCh (o : XOps α) (F : Nat) (f : Nat → α → α) (b : Batch α) {j : Nat} (h : j < F) :
    (b.mapCh o F f).col o j = (b.col o j).map (f j) := by
  cases b with
  | bad d => rfl
  | d2 rows =>
    simp only [Batch.mapCh, Batch.col, List.map_map]
    apply List.map_congr_left
    intro r _
    simp only [Function.comp, getD_map_range _ _ h]
  | d4 hh w imgs =>
    simp only [Batch.mapCh, Batch.col, List.flatMap_map, List.map_flatMap]
    congr 1
    funext img
    simp only [getD_map_range _ _ h]

theorem emaVec_getD (o : XOps α) (m : α) (F : Nat) (r st : List α) {j : Nat} (h : j < F) :
    (emaVec o m F r st).getD j o.zero = ema o m (r.getD j o.zero) (st.getD j o.zero) := by
  simp only [emaVec, getD_map_range _ _ h]

theorem colMeans_getD (o : XOps α) (F : Nat) (rows : List (List α)) {j : Nat} (h : j < F) :
    (colMeans o F rows).getD j o.zero = meanL o ((Batch.d2 rows).col o j) := by
  simp only [colMeans, getD_map_range _ _ h]
theorem colVars_getD (o : XOps α) (F : Nat) (rows : List (List α)) {j : Nat} (h : j < F) :
    (colVars o F rows).getD j o.zero = varUL o ((Batch.d2 rows).col o j) := by
  simp only [colVars, getD_map_range _ _ h]

theorem foldl_emaVec_getD (o : XOps α) (m : α) (F : Nat) (stat : List (List α) → List α)
    (bs : List (List (List α))) (r0 : List α) {j : Nat} (h : j < F) :
    (bs.foldl (fun r rows => emaVec o m F r (stat rows)) r0).getD j o.zero =
      (bs.map (fun rows => (stat rows).getD j o.zero)).foldl (fun r s => ema o m r s) (r0.getD j o.zero) := by
  induction bs generalizing r0 with
  | nil => rfl
  | cons b bs ih => simp only [List.foldl_cons, List.map_cons, ih, emaVec_getD o m F _ _ h]

end NF.Norm
