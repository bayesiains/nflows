import NflowsModel.Properties.C03ND
import NflowsModel.Lemmas.FlowMore
import NflowsModel.Lemmas.LinearJacobian
import NflowsModel.Lemmas.NaiveGauss
import NflowsModel.Lemmas.LogdetExecNorm
/-!
# Lemmas/FlowGlowNormalised — C03 for Glow-style flows: `k × [ActNorm, linear, coupling]` over a normalised base

The layer types behind `Properties/C03ND.lean` (`FlowWholeND.ExecLayer` ⊂ `CouplingJacobian.ExecLayer2` ⊂ `MadeSmooth.ExecLayer3`) have no
ActNorm, BatchNorm (evaluation mode), Householder sequence or `NaiveLinear`.  `GlowLayer` adds them: `ExecLinear n` is ANY executed pass
certified by `LinearJacobian.PassIs` (row map `x ↦ M x + b`, `det M ≠ 0`, every returned log-det entry `= log |det (jac M)|`), RUN on a
one-row batch and identified with `FlowWholeND.affineDiffeo`; the executed `actStep` (initialised state) and `bnStep` (evaluation mode) are
products of 1-D parts.  Every `GlowLayer` is run by its executed program and equals its `DiffeoN` part, so any list of them over the executed
`StandardNormal` row, or over ANY normalised base log-density, is a normalised density (`glow_flow_is_normalised`); for additive / affine
coupling whose conditioner is entry-wise differentiable and takes the context as an arbitrary parameter the differentiability of the
coupling row map is discharged (`glow_flow_smooth_conditioner_is_normalised`).  A concrete 2-D one-block instance closes the file.
-/
open MeasureTheory NF NF.Norm Properties.C03 NF.LF LinearBridge DualSound LinearFresh

namespace FlowGlowNormalised

noncomputable section

/-! ## 1. The executed linear family, generically -/

/-- an executed pass of the linear family on `[B, n]` batches (`F X = (outputs, logabsdets)`) certified by `PassIs`:
    row map `x ↦ M x + b`, derivative `jac M`, non-singular, returned entries `log |det (jac M)|` -/
structure ExecLinear (n : ℕ) where
  F : List (List ℝ) → List (List ℝ) × List ℝ
  g : List ℝ → List ℝ
  M : Matrix (Fin n) (Fin n) ℝ
  b : Fin n → ℝ
  h : LinearJacobian.PassIs n F g (LinearJacobian.affine M b) M

theorem vecFn_ofFn {n : ℕ} (v : Fin n → ℝ) : vecFn n (List.ofFn v) = v := by
  funext i
  simp [vecFn, List.getD_eq_getElem?_getD]

theorem headD_of_getElem? {β : Type} (l : List β) (a d : β) (h : l[0]? = some a) : l.headD d = a := by
  cases l with
  | nil => simp at h
  | cons x xs => simpa using h

def ExecLinear.run {n : ℕ} (L : ExecLinear n) (v : Fin n → ℝ) : (Fin n → ℝ) × ℝ :=
  (fun i => ((L.F [List.ofFn v]).1.headD []).getD i 0, (L.F [List.ofFn v]).2.headD 0)

def ExecLinear.part {n : ℕ} (L : ExecLinear n) : DiffeoN n :=
  FlowWholeND.affineDiffeo L.M L.b L.h.det_ne_zero

theorem ExecLinear.part_T' {n : ℕ} (L : ExecLinear n) (x : Fin n → ℝ) : L.part.T' x = LinearJacobian.jac L.M := rfl

theorem ExecLinear.run_eq {n : ℕ} (L : ExecLinear n) (v : Fin n → ℝ) : L.run v = (L.part.T v, L.part.ld v) := by
  obtain ⟨h1, _, h3⟩ := L.h.entry [List.ofFn v] 0 (by simp) (by simp)
  simp only [List.getElem_cons_zero, vecFn_ofFn] at h1
  have e1 := headD_of_getElem? _ _ [] h1
  have e2 := headD_of_getElem? _ _ 0 h3
  unfold ExecLinear.run
  rw [e1, e2, FlowWholeND.ofFn_getD_fin]
  rfl

/-- C12: on ANY batch, output row `i` and log-det entry `i` of the executed pass are what `run` returns on row `i` alone -/
theorem ExecLinear.batch_row {n : ℕ} (L : ExecLinear n) (X : List (List ℝ)) (i : ℕ) (hi : i < X.length)
    (hlen : (X[i]).length = n) :
    (L.F X).1[i]? = some (List.ofFn (L.run (vecFn n X[i])).1) ∧ (L.F X).2[i]? = some (L.run (vecFn n X[i])).2 := by
  obtain ⟨h1, _, h3⟩ := L.h.entry X i hi hlen
  rw [L.run_eq]
  exact ⟨h1, h3⟩

def execLinear_lu (p : LUParams ℝ) (hlen : p.udiag.length = p.n) (heps : 0 ≤ p.eps) (hb : p.bias.length = p.n) :
    ExecLinear p.n :=
  ⟨luForwardLd realOps p, LogdetExec.luRow realOps p, luW p, vecFn p.n p.bias,
    (lu_denotes p hlen heps hb).passIs (LinearJacobian.luForwardLd_pair _ p)⟩

/-- `QRLinear`, no q-vector zero -/
def execLinear_qr (p : QRParams ℝ) (vs : List (Fin p.n → ℝ)) (hq : p.qs = vs.map List.ofFn)
    (hv : ∀ v ∈ vs, v ⬝ᵥ v ≠ 0) (hl : p.logDiag.length = p.n) (hb : p.bias.length = p.n) : ExecLinear p.n :=
  ⟨qrForwardLd realOps p, LinearJacobian.qrRow realOps p, qrW p vs, vecFn p.n p.bias,
    (qr_denotes p vs hq hv hl hb).passIs (LinearJacobian.qrForwardLd_pair _ p)⟩

/-- `SVDLinear`, no q-vector zero -/
def execLinear_svd (p : SVDParams ℝ) (vs1 vs2 : List (Fin p.n → ℝ)) (h1 : p.qs1 = vs1.map List.ofFn)
    (h2 : p.qs2 = vs2.map List.ofFn) (hv1 : ∀ v ∈ vs1, v ⬝ᵥ v ≠ 0) (hv2 : ∀ v ∈ vs2, v ⬝ᵥ v ≠ 0)
    (hl : p.udiag.length = p.n) (heps : 0 ≤ p.eps) (hb : p.bias.length = p.n) : ExecLinear p.n :=
  ⟨svdForwardLd realOps p, LinearJacobian.svdRow realOps p, svdW p vs1 vs2, vecFn p.n p.bias,
    (svd_denotes p vs1 vs2 h1 h2 hv1 hv2 hl heps hb).passIs (LinearJacobian.svdForwardLd_pair _ p)⟩

/-- `HouseholderSequence`, no q-vector zero (`x ↦ Q x`, returned log-det `0`) -/
def execLinear_hh {n : ℕ} (vs : List (Fin n → ℝ)) (hv : ∀ v ∈ vs, v ⬝ᵥ v ≠ 0) : ExecLinear n :=
  ⟨hhForwardLd realOps (vs.map List.ofFn), hhSeq realOps (vs.map List.ofFn), LinearFamily.Q vs, 0,
    LinearJacobian.hh_logdet_is_log_abs_det_fderiv vs hv⟩

/-- `NaiveLinear` with a non-singular weight (the log-det is the one the executed elimination returns) -/
def execLinear_naive {n : ℕ} (W : Matrix (Fin n) (Fin n) ℝ) (hW : W.det ≠ 0) (b : List ℝ) (hb : b.length = n) :
    ExecLinear n :=
  ⟨NaiveGauss.naiveForwardLd realOps n (ofMat W) b, LinearJacobian.naiveRow realOps (ofMat W) b, W, vecFn n b,
    (NaiveGauss.naive_denotes W hW b hb).passIs (LinearJacobian.naiveForwardLd_pair _ _ _ b)⟩

/-! ## 2. The executed ActNorm (initialised) and BatchNorm (evaluation mode) machines on a one-row batch -/

def resRow : Res ℝ → List ℝ × ℝ
  | some (.ok (.d2 out, ld)) => (out.headD [], ld.headD 0)
  | _ => ([], 0)

variable (e : Float → ℝ)

def actRun {n : ℕ} (s : ActSt ℝ) (v : Fin n → ℝ) : (Fin n → ℝ) × ℝ :=
  let r := resRow (actStep (NF.realX e) n s (.fwd (.d2 [List.ofFn v]))).2
  (fun i => r.1.getD i 0, r.2)

def bnRun {n : ℕ} (cfg : BNCfg ℝ) (s : BNSt ℝ) (v : Fin n → ℝ) : (Fin n → ℝ) × ℝ :=
  let r := resRow (bnStep (NF.realX e) cfg n s (.fwd (.d2 [List.ofFn v]))).2
  (fun i => r.1.getD i 0, r.2)

def actD1 (ls sh : List ℝ) (j : ℕ) : Diffeo1 where
  f := LogdetExec.actEl ls sh j
  ld := fun _ => ls.getD j 0
  bij := Function.bijective_iff_has_inverse.2
    ⟨LogdetExec.actElInv ls sh j, LogdetExec.actElInv_actEl ls sh j, LogdetExec.actEl_actElInv ls sh j⟩
  deriv := LogdetExec.actEl_hasDerivAt ls sh j

def actPart (n : ℕ) (ls sh : List ℝ) : DiffeoN n := FlowWholeND.piDiffeo fun j : Fin n => actD1 ls sh j

theorem actPart_T (n : ℕ) (ls sh : List ℝ) (v : Fin n → ℝ) : (actPart n ls sh).T v = LogdetExec.actRowMap ls sh v := rfl

theorem actPart_ld (n : ℕ) (ls sh : List ℝ) (hF : ls.length = n) (v : Fin n → ℝ) : (actPart n ls sh).ld v = ls.sum := by
  show ∑ j : Fin n, ls.getD j 0 = ls.sum
  exact LogdetExec.sum_fin_getD ls n hF

theorem actRun_eq {n : ℕ} (s : ActSt ℝ) (hinit : s.initialized = true) (hF : s.logScale.length = n) (v : Fin n → ℝ) :
    actRun e s v = ((actPart n s.logScale s.shift).T v, (actPart n s.logScale s.shift).ld v) := by
  have h1 := LogdetExec.actApply_d2_enc e s.logScale s.shift [v]
  simp only [List.map_cons, List.map_nil, LogdetExec.encRow] at h1
  rw [actPart_T, actPart_ld n _ _ hF]
  unfold actRun
  rw [actStep_fwd_noinit _ n s (Or.inl hinit) _ rfl, h1, LogdetExec.actLogdet_d2]
  simp only [resRow, List.headD_cons, List.length_singleton, List.replicate_one, FlowWholeND.ofFn_getD_fin]

theorem actStep_initialised_state {n : ℕ} (s : ActSt ℝ) (hinit : s.initialized = true) (b : Batch ℝ) :
    (actStep (NF.realX e) n s (.fwd b)).1 = s :=
  actStep_fwd_fst _ n s b (Or.inl hinit)

/-- C12 for the executed ActNorm machine: on ANY batch of `n`-rows the initialised forward step leaves the state alone and
    returns, row by row, what `actRun` returns on that row alone -/
theorem actStep_batch {n : ℕ} (s : ActSt ℝ) (hinit : s.initialized = true) (hF : s.logScale.length = n)
    (xs : List (Fin n → ℝ)) :
    actStep (NF.realX e) n s (.fwd (.d2 (xs.map List.ofFn))) =
      (s, some (.ok (.d2 (xs.map fun x => List.ofFn (actRun e s x).1), xs.map fun x => (actRun e s x).2))) := by
  have h1 : actApply (NF.realX e) n s.logScale s.shift (.d2 (xs.map List.ofFn))
      = .d2 (xs.map fun x => List.ofFn (LogdetExec.actRowMap s.logScale s.shift x)) :=
    LogdetExec.actApply_d2_enc e s.logScale s.shift xs
  rw [actStep_fwd_noinit _ n s (Or.inl hinit) _ rfl, h1, LogdetExec.actLogdet_d2]
  simp only [actRun_eq e s hinit hF, actPart_T, actPart_ld n _ _ hF, List.length_map, List.map_const']

def bnD1 (cfg : BNCfg ℝ) (mean var uw bias : List ℝ) (j : ℕ) (hw : 0 < bnWeight (NF.realX e) cfg uw j)
    (hv : 0 < var.getD j 0 + cfg.eps) : Diffeo1 where
  f := LogdetExec.bnEl e cfg mean var uw bias j
  ld := fun _ => Real.log (bnWeight (NF.realX e) cfg uw j) - 1 / 2 * Real.log (var.getD j 0 + cfg.eps)
  bij := Function.bijective_iff_has_inverse.2
    ⟨LogdetExec.bnElInv e cfg mean var uw bias j, LogdetExec.bnElInv_bnEl e cfg mean var uw bias j hw.ne' hv,
      LogdetExec.bnEl_bnElInv e cfg mean var uw bias j hw.ne' hv⟩
  deriv := by
    intro x
    have h := LogdetExec.bnEl_hasDerivAt e cfg mean var uw bias j x
    have hpos : 0 < bnWeight (NF.realX e) cfg uw j / Real.sqrt (var.getD j 0 + cfg.eps) :=
      div_pos hw (Real.sqrt_pos.mpr hv)
    rw [← LogdetExec.log_abs_slope hw.ne' hv, abs_of_pos hpos, Real.exp_log hpos]
    exact h

def bnPart (n : ℕ) (cfg : BNCfg ℝ) (heps : 0 ≤ cfg.eps) (mean var uw bias : List ℝ)
    (hv : ∀ j < n, 0 < var.getD j 0 + cfg.eps) : DiffeoN n :=
  FlowWholeND.piDiffeo fun j : Fin n =>
    bnD1 e cfg mean var uw bias j (LogdetExec.bnWeight_pos e cfg heps uw j) (hv j j.2)

theorem bnRun_eq {n : ℕ} (cfg : BNCfg ℝ) (heps : 0 ≤ cfg.eps) (s : BNSt ℝ) (hs : s.training = false)
    (hv : ∀ j < n, 0 < s.runVar.getD j 0 + cfg.eps) (v : Fin n → ℝ) :
    bnRun e cfg s v = ((bnPart e n cfg heps s.runMean s.runVar s.uweight s.bias hv).T v,
      (bnPart e n cfg heps s.runMean s.runVar s.uweight s.bias hv).ld v) := by
  have h1 := LogdetExec.bnNormalise_enc e cfg s.runMean s.runVar s.uweight s.bias [v]
  simp only [List.map_cons, List.map_nil, LogdetExec.encRow] at h1
  unfold bnRun
  rw [bnStep_eval_fwd _ cfg n s hs, h1, LogdetExec.bnLogdet_fwd]
  simp only [resRow, List.headD_cons, List.length_singleton, List.replicate_one, FlowWholeND.ofFn_getD_fin]
  rfl

theorem bnStep_eval_state {n : ℕ} (cfg : BNCfg ℝ) (s : BNSt ℝ) (hs : s.training = false) (rows : List (List ℝ)) :
    (bnStep (NF.realX e) cfg n s (.fwd (.d2 rows))).1 = s :=
  congrArg Prod.fst (bnStep_eval_fwd _ cfg n s hs rows)

/-- C12 for the executed BatchNorm machine in evaluation mode: on ANY batch of `n`-rows, row by row what `bnRun` returns -/
theorem bnStep_batch {n : ℕ} (cfg : BNCfg ℝ) (heps : 0 ≤ cfg.eps) (s : BNSt ℝ) (hs : s.training = false)
    (hv : ∀ j < n, 0 < s.runVar.getD j 0 + cfg.eps) (xs : List (Fin n → ℝ)) :
    bnStep (NF.realX e) cfg n s (.fwd (.d2 (xs.map List.ofFn))) =
      (s, some (.ok (.d2 (xs.map fun x => List.ofFn (bnRun e cfg s x).1), xs.map fun x => (bnRun e cfg s x).2))) := by
  have h1 : bnNormalise (NF.realX e) cfg n s.runMean s.runVar s.uweight s.bias (xs.map List.ofFn)
      = xs.map fun x => List.ofFn (LogdetExec.bnRowMap e cfg s.runMean s.runVar s.uweight s.bias x) :=
    LogdetExec.bnNormalise_enc e cfg s.runMean s.runVar s.uweight s.bias xs
  rw [bnStep_eval_fwd _ cfg n s hs, h1, LogdetExec.bnLogdet_fwd, List.length_map, ← List.map_const']
  simp only [bnRun_eq e cfg heps s hs hv]
  rfl

/-! ## 3. Pipelines that also contain ActNorm / BatchNorm / Householder / NaiveLinear layers -/

/-- a layer on `[B, n]` inputs: everything `MadeSmooth.ExecLayer3` offers (RQ-CDF, permutation, LU / QR / SVD, RQ and affine
    autoregressive, coupling) plus every certified executed linear pass, the initialised ActNorm and the evaluation-mode
    BatchNorm -/
inductive GlowLayer (e : Float → ℝ) (n : ℕ) where
  | base (L : NF.MadeSmooth.ExecLayer3 e n)
  /-- `LULinear`, `QRLinear`, `SVDLinear`, `HouseholderSequence`, `NaiveLinear`: `execLinear_*` -/
  | lin (L : ExecLinear n)
  /-- `ActNorm(n)` whose buffer `initialized` is set; `log_scale` has `n` entries (forced:
      `LogdetExec.actLogdet_length_hypothesis_forced`) -/
  | actnorm (s : ActSt ℝ) (hinit : s.initialized = true) (hF : s.logScale.length = n)
  /-- `BatchNorm(n, eps)` in evaluation mode, `0 ≤ eps`, `0 < running_var_j + eps` (forced:
      `LogdetExec.log_abs_slope_fails_at_zero`) -/
  | bnEval (cfg : BNCfg ℝ) (heps : 0 ≤ cfg.eps) (s : BNSt ℝ) (hs : s.training = false)
      (hv : ∀ j < n, 0 < s.runVar.getD j 0 + cfg.eps)

variable {e}

def GlowLayer.run {n : ℕ} : GlowLayer e n → (Fin n → ℝ) → (Fin n → ℝ) × ℝ
  | .base L, v => L.run v
  | .lin L, v => L.run v
  | .actnorm s _ _, v => actRun e s v
  | .bnEval cfg _ s _ _, v => bnRun e cfg s v

def GlowLayer.part {n : ℕ} : GlowLayer e n → DiffeoN n
  | .base L => L.part
  | .lin L => L.part
  | .actnorm s _ _ => actPart n s.logScale s.shift
  | .bnEval cfg heps s _ hv => bnPart e n cfg heps s.runMean s.runVar s.uweight s.bias hv

theorem GlowLayer.run_eq {n : ℕ} (L : GlowLayer e n) (v : Fin n → ℝ) : L.run v = (L.part.T v, L.part.ld v) := by
  cases L with
  | base L => exact NF.MadeSmooth.ExecLayer3.run_eq L v
  | lin L => exact ExecLinear.run_eq L v
  | actnorm s hinit hF => exact actRun_eq e s hinit hF v
  | bnEval cfg heps s hs hv => exact bnRun_eq e cfg heps s hs hv v

theorem GlowLayer.is_diffeo {n : ℕ} (L : GlowLayer e n) :
    Function.Bijective (fun v => (L.run v).1) ∧
    ∀ v, HasFDerivAt (fun v => (L.run v).1) (L.part.T' v) v ∧ |(L.part.T' v).det| = Real.exp (L.run v).2 := by
  have h : (fun v => (L.run v).1) = L.part.T := by funext v; rw [L.run_eq]
  rw [h]
  refine ⟨L.part.bij, fun v => ⟨L.part.deriv v, ?_⟩⟩
  rw [L.run_eq]
  exact L.part.ld_eq v

/-- RUN a list of layers in the order given, accumulating the log-abs-dets (`CompositeTransform._cascade`) -/
def runAllG {n : ℕ} : List (GlowLayer e n) → (Fin n → ℝ) → (Fin n → ℝ) × ℝ
  | [], v => (v, 0)
  | L :: rest, v => ((runAllG rest (L.run v).1).1, (L.run v).2 + (runAllG rest (L.run v).1).2)

theorem runAllG_eq {n : ℕ} (Ls : List (GlowLayer e n)) (v : Fin n → ℝ) :
    runAllG Ls v = ((progN (Ls.map GlowLayer.part)).T v, (progN (Ls.map GlowLayer.part)).ld v) := by
  induction Ls generalizing v with
  | nil => rfl
  | cons L rest ih =>
    simp only [runAllG, List.map_cons, GlowLayer.run_eq L v, ih]
    rfl

theorem executed_pipelineG_normalised_any_base {n : ℕ} (Ls : List (GlowLayer e n)) (blp : (Fin n → ℝ) → ℝ)
    (hbase : ∫ z, Real.exp (blp z) = 1) :
    ∫ x : Fin n → ℝ, Real.exp (blp (runAllG Ls x).1 + (runAllG Ls x).2) = 1 := by
  simp_rw [runAllG_eq Ls]
  exact FlowWholeND.flow_logprob_normalised_progN _ blp hbase

theorem executed_pipelineG_normalised {n : ℕ} (Ls : List (GlowLayer e n)) :
    ∫ x : Fin n → ℝ, Real.exp (NF.Density.stdNormalRow (NF.realX e) n (List.ofFn (runAllG Ls x).1) + (runAllG Ls x).2) = 1 :=
  executed_pipelineG_normalised_any_base Ls (fun z => NF.Density.stdNormalRow (NF.realX e) n (List.ofFn z))
    (Properties.C05.stdNormal_normalised e n)

theorem executed_pipelineG_normalised_diag {n : ℕ} (means logStds : List ℝ) (hm : means.length = n)
    (hl : logStds.length = n) (Ls : List (GlowLayer e n)) :
    ∫ x : Fin n → ℝ, Real.exp (NF.Density.diagNormalRow (NF.realX e) n means logStds (List.ofFn (runAllG Ls x).1)
        + (runAllG Ls x).2) = 1 :=
  executed_pipelineG_normalised_any_base Ls
    (fun z => NF.Density.diagNormalRow (NF.realX e) n means logStds (List.ofFn z))
    (Properties.C05.condNormal_row_normalised e means logStds hm hl)

/-- in the form of `FlowMore.flow_normalised_any_base`: the model flow `progFlow` of the parts over the base `blp` is a
    `DiffeoFlow`, its `flowLogProb0` is what `runAllG` computes, and it integrates to one -/
theorem executed_pipelineG_flowLogProb0 {n : ℕ} (Ls : List (GlowLayer e n)) (blp : (Fin n → ℝ) → ℝ)
    (hbase : ∫ z, Real.exp (blp z) = 1) :
    FlowMore.DiffeoFlow (FlowMore.progFlow (Ls.map GlowLayer.part) blp) (progN (Ls.map GlowLayer.part)).T' ∧
    (∀ x, NF.FlowPairing.flowLogProb0 (FlowMore.progFlow (Ls.map GlowLayer.part) blp) x
        = blp (runAllG Ls x).1 + (runAllG Ls x).2) ∧
    ∫ x, Real.exp (NF.FlowPairing.flowLogProb0 (FlowMore.progFlow (Ls.map GlowLayer.part) blp) x) = 1 :=
  ⟨FlowMore.progFlow_diffeoFlow _ blp, fun x => by rw [runAllG_eq Ls]; rfl,
    FlowMore.flow_normalised_any_base _ _ (FlowMore.progFlow_diffeoFlow _ blp) hbase⟩

/-! ### the named instances -/

def execLayer_lu (e : Float → ℝ) (p : LUParams ℝ) (hlen : p.udiag.length = p.n) (heps : 0 ≤ p.eps)
    (hb : p.bias.length = p.n) : GlowLayer e p.n := .lin (execLinear_lu p hlen heps hb)

def execLayer_qr (e : Float → ℝ) (p : QRParams ℝ) (vs : List (Fin p.n → ℝ)) (hq : p.qs = vs.map List.ofFn)
    (hv : ∀ v ∈ vs, v ⬝ᵥ v ≠ 0) (hl : p.logDiag.length = p.n) (hb : p.bias.length = p.n) : GlowLayer e p.n :=
  .lin (execLinear_qr p vs hq hv hl hb)

def execLayer_svd (e : Float → ℝ) (p : SVDParams ℝ) (vs1 vs2 : List (Fin p.n → ℝ)) (h1 : p.qs1 = vs1.map List.ofFn)
    (h2 : p.qs2 = vs2.map List.ofFn) (hv1 : ∀ v ∈ vs1, v ⬝ᵥ v ≠ 0) (hv2 : ∀ v ∈ vs2, v ⬝ᵥ v ≠ 0)
    (hl : p.udiag.length = p.n) (heps : 0 ≤ p.eps) (hb : p.bias.length = p.n) : GlowLayer e p.n :=
  .lin (execLinear_svd p vs1 vs2 h1 h2 hv1 hv2 hl heps hb)

def execLayer_hh (e : Float → ℝ) {n : ℕ} (vs : List (Fin n → ℝ)) (hv : ∀ v ∈ vs, v ⬝ᵥ v ≠ 0) : GlowLayer e n :=
  .lin (execLinear_hh vs hv)

def execLayer_naive (e : Float → ℝ) {n : ℕ} (W : Matrix (Fin n) (Fin n) ℝ) (hW : W.det ≠ 0) (b : List ℝ)
    (hb : b.length = n) : GlowLayer e n := .lin (execLinear_naive W hW b hb)

def execLayer_actnorm (e : Float → ℝ) {n : ℕ} (s : ActSt ℝ) (hinit : s.initialized = true)
    (hF : s.logScale.length = n) : GlowLayer e n := .actnorm s hinit hF

def execLayer_bnEval (e : Float → ℝ) {n : ℕ} (cfg : BNCfg ℝ) (heps : 0 ≤ cfg.eps) (s : BNSt ℝ)
    (hs : s.training = false) (hv : ∀ j < n, 0 < s.runVar.getD j 0 + cfg.eps) : GlowLayer e n :=
  .bnEval cfg heps s hs hv

/-- feature permutations (`Permutation`, `ReversePermutation`, `RandomPermutation`): already an `ExecLayer` -/
def execLayer_perm (e : Float → ℝ) {n : ℕ} (σ : Equiv.Perm (Fin n)) : GlowLayer e n := .base (.base (.base (.perm σ)))

/-- the executed coupling layer (RQ linear tails / additive / affine, any mask) under `CouplingRowHyp` -/
def execLayer_coupling {n : ℕ} (c : ElCfg) (mask : List ℝ) (net : Array ℝ → Array ℝ)
    (h : NF.CouplingJacobian.CouplingRowHyp e c mask net n) : GlowLayer e n := .base (.base (.coupling c mask net h))

theorem execLinear_spec {n : ℕ} (L : ExecLinear n) :
    Function.Bijective (LinearJacobian.affine L.M L.b) ∧
    (∀ x, HasFDerivAt (LinearJacobian.affine L.M L.b) (LinearJacobian.jac L.M) x) ∧
    ∀ v, (L.run v).1 = LinearJacobian.affine L.M L.b v ∧ |(LinearJacobian.jac L.M).det| = Real.exp (L.run v).2 := by
  refine ⟨L.part.bij, L.h.hasFDerivAt, fun v => ?_⟩
  rw [L.run_eq]
  exact ⟨rfl, L.part.ld_eq v⟩

/-! ## 4. Glow: `k` blocks `[ActNorm, linear, coupling]` -/

/-- one Glow step on `[B, n]` inputs: an initialised ActNorm, any executed linear layer of §1 (`execLinear_lu` in Glow proper),
    an executed coupling layer (additive / affine / RQ with linear tails) whose row map is differentiable -/
structure GlowBlock (e : Float → ℝ) (n : ℕ) where
  act : ActSt ℝ
  hinit : act.initialized = true
  hF : act.logScale.length = n
  lin : ExecLinear n
  c : ElCfg
  mask : List ℝ
  net : Array ℝ → Array ℝ
  hcpl : NF.CouplingJacobian.CouplingRowHyp e c mask net n

def GlowBlock.layers {n : ℕ} (b : GlowBlock e n) : List (GlowLayer e n) :=
  [.actnorm b.act b.hinit b.hF, .lin b.lin, execLayer_coupling b.c b.mask b.net b.hcpl]

def glowLayers {n : ℕ} (bs : List (GlowBlock e n)) : List (GlowLayer e n) := bs.flatMap GlowBlock.layers

theorem glowLayers_length {n : ℕ} (bs : List (GlowBlock e n)) : (glowLayers bs).length = 3 * bs.length := by
  induction bs with
  | nil => rfl
  | cons b rest ih =>
    simp only [glowLayers, List.flatMap_cons, List.length_append, List.length_cons] at ih ⊢
    rw [ih]
    simp [GlowBlock.layers]
    omega

/-- **C03 for Glow-style flows**: `Flow(CompositeTransform(k × [ActNorm, linear, coupling]), StandardNormal([n])).log_prob`,
    every layer RUN by its executed program and the base by the executed `stdNormalRow`: `∫ exp(log_prob) = 1`, for every
    number of blocks, every dimension, every parameter value satisfying the side conditions carried by `GlowBlock` -/
theorem glow_flow_is_normalised {n : ℕ} (bs : List (GlowBlock e n)) :
    ∫ x : Fin n → ℝ, Real.exp (NF.Density.stdNormalRow (NF.realX e) n (List.ofFn (runAllG (glowLayers bs) x).1)
        + (runAllG (glowLayers bs) x).2) = 1 :=
  executed_pipelineG_normalised _

theorem glow_flow_is_normalised_any_base {n : ℕ} (bs : List (GlowBlock e n)) (blp : (Fin n → ℝ) → ℝ)
    (hbase : ∫ z, Real.exp (blp z) = 1) :
    ∫ x : Fin n → ℝ, Real.exp (blp (runAllG (glowLayers bs) x).1 + (runAllG (glowLayers bs) x).2) = 1 :=
  executed_pipelineG_normalised_any_base _ blp hbase

/-! ### smooth conditioners with a context: nothing left to assume about the coupling -/

/-- the parameters of one Glow step whose coupling is ADDITIVE or AFFINE (default scale activation) with a conditioner
    `net ctx` that depends on a context value `ctx : Ctx` in an arbitrary way and is entry-wise differentiable in the input row
    for every context (`CouplingJacobian.DiffNet`: affine conditioners `affineNet_diffNet`, perceptrons / MADE-style networks with
    smooth activations, `Lemmas/MadeSmooth`) -/
structure GlowSpec (e : Float → ℝ) (n : ℕ) (Ctx : Type) where
  act : ActSt ℝ
  hinit : act.initialized = true
  hF : act.logScale.length = n
  lin : ExecLinear n
  c : ElCfg
  mask : List ℝ
  hm : mask.length = n
  net : Ctx → Array ℝ → Array ℝ
  hkind : c.kind = "additive" ∨ (c.kind = "affine" ∧ (c.act == "general") = false ∧ 0 ≤ e 1e-3)
  hnet : ∀ ctx, NF.CouplingJacobian.DiffNet e mask n (net ctx)

theorem GlowSpec.couplingRowHyp {n : ℕ} {Ctx : Type} (sp : GlowSpec e n Ctx) (ctx : Ctx) :
    NF.CouplingJacobian.CouplingRowHyp e sp.c sp.mask (sp.net ctx) n := by
  rcases sp.hkind with hk | ⟨hk, hact, he⟩
  · exact NF.CouplingJacobian.couplingRowHyp_additive_diffNet e hk sp.hm (sp.hnet ctx)
  · exact NF.CouplingJacobian.couplingRowHyp_affine_diffNet he hk hact sp.hm (sp.hnet ctx)

def GlowSpec.block {n : ℕ} {Ctx : Type} (sp : GlowSpec e n Ctx) (ctx : Ctx) : GlowBlock e n :=
  { act := sp.act, hinit := sp.hinit, hF := sp.hF, lin := sp.lin, c := sp.c, mask := sp.mask, net := sp.net ctx,
    hcpl := sp.couplingRowHyp ctx }

/-- **C03 for conditional Glow-style flows with smooth conditioners**: for every list of `GlowSpec`s (any number `k` of
    blocks), every context value and every normalised base log-density (which may itself depend on the context), the executed
    `x ↦ exp(log_prob(x | ctx))` integrates to one — no differentiability hypothesis is left on the row maps -/
theorem glow_flow_smooth_conditioner_is_normalised {n : ℕ} {Ctx : Type} (sps : List (GlowSpec e n Ctx)) (ctx : Ctx)
    (blp : Ctx → (Fin n → ℝ) → ℝ) (hbase : ∀ ctx, ∫ z, Real.exp (blp ctx z) = 1) :
    (∫ x : Fin n → ℝ, Real.exp (NF.Density.stdNormalRow (NF.realX e) n
        (List.ofFn (runAllG (glowLayers (sps.map fun sp => sp.block ctx)) x).1)
        + (runAllG (glowLayers (sps.map fun sp => sp.block ctx)) x).2) = 1) ∧
    ∫ x : Fin n → ℝ, Real.exp (blp ctx (runAllG (glowLayers (sps.map fun sp => sp.block ctx)) x).1
        + (runAllG (glowLayers (sps.map fun sp => sp.block ctx)) x).2) = 1 :=
  ⟨glow_flow_is_normalised _, glow_flow_is_normalised_any_base _ (blp ctx) (hbase ctx)⟩

/-! ## 5. A concrete 2-D one-block instance -/

def exAct : ActSt ℝ := { training := false, initialized := true, logScale := [1 / 2, -1], shift := [3, 0], initCount := 1 }

/-- one block `[ActNorm, LULinear (LinearJacobian.pLU), additive coupling]`, mask `[0, 1]`, whose conditioner is the affine map
    `z ↦ [3 z₀ + ctx]` of the identity feature and a real context: every hypothesis is satisfiable, for every `e` -/
def exSpec (e : Float → ℝ) : GlowSpec e 2 ℝ :=
  { act := exAct, hinit := rfl, hF := rfl,
    lin := execLinear_lu LinearJacobian.pLU rfl LinearJacobian.pLU_eps rfl,
    c := { kind := "additive" }, mask := [0, 1], hm := rfl,
    net := fun ctx z => Array.ofFn fun _ : Fin 1 => (∑ j ∈ Finset.range 1, (3 : ℝ) * z.getD j 0) + ctx,
    hkind := Or.inl rfl,
    hnet := fun ctx => NF.CouplingJacobian.affineNet_diffNet e [0, 1] 2
      (NF.CouplingJacobian.affineNet_ofFn 1 1 (fun _ _ => 3) (fun _ => ctx)) }

example (e : Float → ℝ) (ctx : ℝ) :
    ∫ x : Fin 2 → ℝ, Real.exp (NF.Density.stdNormalRow (NF.realX e) 2
        (List.ofFn (runAllG (glowLayers [(exSpec e).block ctx]) x).1)
        + (runAllG (glowLayers [(exSpec e).block ctx]) x).2) = 1 :=
  glow_flow_is_normalised _

/-- the same block followed by a Householder reflection, a `NaiveLinear` needing a row swap, an evaluation-mode BatchNorm and
    a permutation, over the executed standard normal -/
example (e : Float → ℝ) (ctx : ℝ) :
    ∃ Ls : List (GlowLayer e 2), Ls.length = 7 ∧
      ∫ x : Fin 2 → ℝ, Real.exp (NF.Density.stdNormalRow (NF.realX e) 2 (List.ofFn (runAllG Ls x).1)
        + (runAllG Ls x).2) = 1 :=
  ⟨glowLayers [(exSpec e).block ctx] ++
    [execLayer_hh e [![1, 2]] LinearJacobian.v12_ne,
     execLayer_naive e !![0, 2; 1, 1] (by rw [NaiveGauss.det_ex2]; norm_num) [1, -1] rfl,
     execLayer_bnEval e { eps := 1 / 100000, momentum := 1 / 10 } (by norm_num)
       { training := false, runMean := [0, 1], runVar := [1, 2], uweight := [0, 3], bias := [1, 1], updates := 0 } rfl
       (by
         intro j hj
         have : j = 0 ∨ j = 1 := by omega
         rcases this with rfl | rfl <;> norm_num),
     execLayer_perm e (Equiv.swap 0 1)],
   rfl, executed_pipelineG_normalised _⟩

/-- the parameters of a RealNVP-style Glow step (affine coupling, default scale activation, mask `mask`) whose conditioner is
    ANY one-hidden-layer perceptron with a differentiable activation reading the identity features `z` AND a context vector
    `ctx : Fin q → ℝ` (hidden pre-activation `b1 r + Σ_j A1 r j · z_j + Σ_t Ac r t · ctx_t`) -/
def GlowSpec.ofMlp (he : 0 ≤ e 1e-3) {n nz h m q : ℕ} (act : ActSt ℝ) (hinit : act.initialized = true)
    (hF : act.logScale.length = n) (lin : ExecLinear n) (mask : List ℝ) (hm : mask.length = n)
    (σ : ℝ → ℝ) (hσ : Differentiable ℝ σ) (A1 : Fin h → Fin nz → ℝ) (Ac : Fin h → Fin q → ℝ) (b1 : Fin h → ℝ)
    (A2 : Fin m → Fin h → ℝ) (b2 : Fin m → ℝ) : GlowSpec e n (Fin q → ℝ) :=
  { act := act, hinit := hinit, hF := hF, lin := lin, c := { kind := "affine" }, mask := mask, hm := hm,
    net := fun ctx z => Array.ofFn fun k : Fin m =>
      NF.MadeSmooth.mlp σ A1 (fun r => b1 r + ∑ t, Ac r t * ctx t) A2 b2 k (fun j => z.getD j 0),
    hkind := Or.inr ⟨rfl, by decide, he⟩,
    hnet := fun ctx => NF.MadeSmooth.diffNet_of_entries e mask n m nz _
      (NF.MadeSmooth.mlp_differentiable σ hσ A1 _ A2 b2) }

/-- `k` RealNVP-style Glow steps `[ActNorm, LULinear, AffineCoupling(tanh perceptron of (z, ctx))]` in 2-D over the executed
    standard normal: for every `k`, every context of every dimension `q`, every hidden width and weight — normalised; the only
    hypothesis is that the constant `1e-3` is read as a non-negative real -/
example (e : Float → ℝ) (he : 0 ≤ e 1e-3) (k : ℕ) {h q : ℕ} (A1 : Fin h → Fin 1 → ℝ) (Ac : Fin h → Fin q → ℝ)
    (b1 : Fin h → ℝ) (A2 : Fin 2 → Fin h → ℝ) (b2 : Fin 2 → ℝ) (ctx : Fin q → ℝ) :
    let sp : GlowSpec e 2 (Fin q → ℝ) := GlowSpec.ofMlp he exAct rfl rfl
      (execLinear_lu LinearJacobian.pLU rfl LinearJacobian.pLU_eps rfl) [0, 1] rfl Real.tanh
      NF.MadeSmooth.tanh_differentiable A1 Ac b1 A2 b2
    ∫ x : Fin 2 → ℝ, Real.exp (NF.Density.stdNormalRow (NF.realX e) 2
        (List.ofFn (runAllG (glowLayers ((List.replicate k sp).map fun sp => sp.block ctx)) x).1)
        + (runAllG (glowLayers ((List.replicate k sp).map fun sp => sp.block ctx)) x).2) = 1 :=
  (glow_flow_smooth_conditioner_is_normalised _ ctx (fun _ z => NF.Density.stdNormalRow (NF.realX e) 2 (List.ofFn z))
    (fun _ => Properties.C05.stdNormal_normalised e 2)).1

end

end FlowGlowNormalised
