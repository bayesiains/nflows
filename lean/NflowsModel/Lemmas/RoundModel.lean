import NflowsModel.Core.Nonlin
import NflowsModel.Core.LinearFamily
import NflowsModel.Real.RealX
import NflowsModel.Lemmas.LFTriSolve
import Mathlib.Tactic
/-!
# Lemmas/RoundModel — the standard model of floating-point arithmetic for the executable model (C19, numeric clause)

`Rnd u r` says that `r : ℝ → ℝ` is a rounding with unit roundoff `u`: `|r x - x| ≤ u * |x|` for every real `x`
(Higham, *Accuracy and Stability of Numerical Algorithms*, (2.4): `fl(x op y) = (x op y)(1 + δ)`, `|δ| ≤ u`).
`rndX r e : XOps ℝ` is `NF.realX e` with every arithmetic / transcendental primitive post-composed with `r`
(`add sub mul div exp log sqrt tanh atan tan cos sin atan2 ofRat ofFloat`; `neg`, `abs`, `floor`, comparisons are exact).
It is the model of **the same program run in a precision with unit roundoff `u`, without overflow / underflow**
(and with transcendental kernels as accurate as one rounding; a kernel accurate to `k` ulp is covered by `u := k·u`).

The theorems below are about EXECUTED model programs (`affineT`, `scaleShiftT`, `leakyReluT`, `expT`,
`LF.sum`, `sumG`, `LF.dot`, `LF.matVec`, `LF.linear`) run at `rndX r e` versus the same programs run at `NF.realX e`,
for ANY `u`, `r` with `Rnd u r`; all bounds are explicit.  A bound is stated for one precision against the exact program; two
precisions then differ by at most the sum of their bounds (`tri`), and that is the form `Properties/C19R.lean` states
(`*_two_precisions`; some are written out in these files as `f32_f64_agree_*`).

**Realised, then TRUSTED:** `Lemmas/RoundNearest.lean` defines round-to-nearest-even to `p` significant bits with an unbounded
exponent (`fl p`), proves `Rnd 2^-p (fl p)` at every real (Higham Thm 2.2) and that any function meeting IEEE-754's
`roundTiesToEven` specification equals `fl 24` / `fl 53` on the normal range of binary32 / binary64.  What stays an assumption
(Lean's `Float`/`Float32` are opaque to the kernel): the driver's primitives at `float32X` / `floatX` are correctly rounded and
no intermediate result overflows or becomes subnormal — then its run is the run at `rndX (fl 24) e` / `rndX (fl 53) e`.
No monotonicity of `r` is needed: the only comparisons the programs below make are against `o.zero = r 0 = 0`.
-/
open NF DualSound

namespace RoundModel
noncomputable section

structure Rnd (u : ℝ) (r : ℝ → ℝ) : Prop where
  u_nonneg : 0 ≤ u
  err : ∀ x, |r x - x| ≤ u * |x|

def rndOps (r : ℝ → ℝ) : Ops ℝ where
  ofRat n d := r ((n : ℝ) / (d : ℝ))
  add a b := r (a + b)
  sub a b := r (a - b)
  mul a b := r (a * b)
  div a b := r (a / b)
  neg a := -a
  exp a := r (Real.exp a)
  log a := r (Real.log a)
  sqrt a := r (Real.sqrt a)
  lt := realOps.lt

/-- Python-side double constants are rounded on entry -/
def rndX (r : ℝ → ℝ) (e : Float → ℝ) : XOps ℝ :=
  { NF.realX e with
    toOps := rndOps r
    ofFloat := fun x => r (e x)
    tanh := fun a => r (Real.tanh a)
    atan := fun a => r (Real.arctan a)
    tan := fun a => r (Real.tan a)
    cos := fun a => r (Real.cos a)
    sin := fun a => r (Real.sin a)
    atan2 := fun y x => r (Complex.arg ⟨x, y⟩) }

variable {u : ℝ} {r : ℝ → ℝ} (e : Float → ℝ)

/-! ## field lemmas -/
section fields
variable (r)
@[simp] theorem rndX_add (a b : ℝ) : (rndX r e).add a b = r (a + b) := rfl
@[simp] theorem rndX_sub (a b : ℝ) : (rndX r e).sub a b = r (a - b) := rfl
@[simp] theorem rndX_mul (a b : ℝ) : (rndX r e).mul a b = r (a * b) := rfl
@[simp] theorem rndX_div (a b : ℝ) : (rndX r e).div a b = r (a / b) := rfl
@[simp] theorem rndX_neg (a : ℝ) : (rndX r e).neg a = -a := rfl
@[simp] theorem rndX_exp (a : ℝ) : (rndX r e).exp a = r (Real.exp a) := rfl
@[simp] theorem rndX_log (a : ℝ) : (rndX r e).log a = r (Real.log a) := rfl
@[simp] theorem rndX_sqrt (a : ℝ) : (rndX r e).sqrt a = r (Real.sqrt a) := rfl
@[simp] theorem rndX_tanh (a : ℝ) : (rndX r e).tanh a = r (Real.tanh a) := rfl
@[simp] theorem rndX_abs (a : ℝ) : (rndX r e).abs a = |a| := rfl
@[simp] theorem rndX_ofRat (n : Int) (d : Nat) : (rndX r e).ofRat n d = r ((n : ℝ) / (d : ℝ)) := rfl
@[simp] theorem rndX_ofFloat (x : Float) : (rndX r e).ofFloat x = r (e x) := rfl
@[simp] theorem rndX_lt (a b : ℝ) : (rndX r e).lt a b = decide (a < b) := rfl
@[simp] theorem rndX_le (a b : ℝ) : (rndX r e).le a b = decide (a ≤ b) := rfl
@[simp] theorem rndX_toOps : (rndX r e).toOps = rndOps r := rfl
@[simp] theorem rndOps_add (a b : ℝ) : (rndOps r).add a b = r (a + b) := rfl
@[simp] theorem rndOps_sub (a b : ℝ) : (rndOps r).sub a b = r (a - b) := rfl
@[simp] theorem rndOps_mul (a b : ℝ) : (rndOps r).mul a b = r (a * b) := rfl
@[simp] theorem rndOps_div (a b : ℝ) : (rndOps r).div a b = r (a / b) := rfl
@[simp] theorem rndOps_neg (a : ℝ) : (rndOps r).neg a = -a := rfl
@[simp] theorem rndOps_exp (a : ℝ) : (rndOps r).exp a = r (Real.exp a) := rfl
@[simp] theorem rndOps_log (a : ℝ) : (rndOps r).log a = r (Real.log a) := rfl
@[simp] theorem rndOps_sqrt (a : ℝ) : (rndOps r).sqrt a = r (Real.sqrt a) := rfl
@[simp] theorem rndOps_ofRat (n : Int) (d : Nat) : (rndOps r).ofRat n d = r ((n : ℝ) / (d : ℝ)) := rfl
@[simp] theorem rndOps_lt (a b : ℝ) : (rndOps r).lt a b = decide (a < b) := rfl
theorem rndX_one : (rndX r e).one = r 1 := by
  simp only [XOps.one, rndX_ofRat, Int.cast_one, Nat.cast_one, div_one]
end fields

/-! ## consequences of `Rnd` -/
namespace Rnd
variable (h : Rnd u r)
include h

theorem zero : r 0 = 0 := by
  have := h.err 0
  rw [sub_zero, abs_zero, mul_zero] at this
  exact abs_eq_zero.mp (le_antisymm this (abs_nonneg _))

theorem abs_le (x : ℝ) : |r x| ≤ (1 + u) * |x| := by
  have := abs_sub_abs_le_abs_sub (r x) x
  linarith [h.err x]

theorem approx {x x' δ M : ℝ} (hx : |x' - x| ≤ δ) (hM : |x| ≤ M) : |r x' - x| ≤ u * (M + δ) + δ := by
  have h1 : |x'| ≤ M + δ := by
    have := abs_sub_abs_le_abs_sub x' x
    linarith
  have h2 := abs_sub_le (r x') x' x
  have h3 := (h.err x').trans (mul_le_mul_of_nonneg_left h1 h.u_nonneg)
  linarith

theorem approx_rel {x x' : ℝ} (hx : |x' - x| ≤ u * |x|) : |r x' - x| ≤ (2 * u + u ^ 2) * |x| :=
  (h.approx hx le_rfl).trans_eq (by ring)

theorem mul_err (a c : ℝ) : |r (r a * c) - a * c| ≤ (2 * u + u ^ 2) * |a * c| := by
  apply h.approx_rel
  rw [← sub_mul, abs_mul, abs_mul, ← mul_assoc]
  exact mul_le_mul_of_nonneg_right (h.err a) (abs_nonneg c)

theorem neg_err (x : ℝ) : |-r x - -x| ≤ u * |x| := by
  rw [neg_sub_neg, abs_sub_comm]; exact h.err x

theorem zeroX : (rndX r e).zero = 0 := by
  simp only [XOps.zero, rndX_ofRat, Int.cast_zero, zero_div, h.zero]

theorem zeroLF : LF.zero (rndOps r) = 0 := h.zeroX (fun _ => 0)

end Rnd

/-! ## the affine element, executed -/

theorem affineT_rnd_fwd (s t x : ℝ) :
    affineT (rndX r e) s t false x = .ok (r (r (x * s) + t), r (Real.log |s|)) := rfl
theorem affineT_rnd_inv (s t x : ℝ) :
    affineT (rndX r e) s t true x = .ok (r (r (x - t) / s), -r (Real.log |s|)) := rfl
theorem affineT_real_fwd (s t x : ℝ) :
    affineT (NF.realX e) s t false x = .ok (x * s + t, Real.log |s|) := rfl
theorem affineT_real_inv (s t x : ℝ) :
    affineT (NF.realX e) s t true x = .ok ((x - t) / s, -Real.log |s|) := rfl
theorem scaleShiftT_rnd_fwd (s t x : ℝ) :
    scaleShiftT (rndX r e) s t false x = .ok (r (r (x * s) + t), r (Real.log s)) := rfl
theorem scaleShiftT_rnd_inv (s t x : ℝ) :
    scaleShiftT (rndX r e) s t true x = .ok (r (r (x - t) / s), -r (Real.log s)) := rfl
theorem scaleShiftT_real_fwd (s t x : ℝ) :
    scaleShiftT (NF.realX e) s t false x = .ok (x * s + t, Real.log s) := rfl
theorem scaleShiftT_real_inv (s t x : ℝ) :
    scaleShiftT (NF.realX e) s t true x = .ok ((x - t) / s, -Real.log s) := rfl

theorem muladd_err (h : Rnd u r) (s t x : ℝ) :
    |r (r (x * s) + t) - (x * s + t)| ≤ (2 * u + u ^ 2) * |x * s| + u * |t| := by
  have h1 : |(r (x * s) + t) - (x * s + t)| ≤ u * |x * s| := by
    rw [add_sub_add_right_eq_sub]; exact h.err _
  exact (h.approx h1 (abs_add_le _ _)).trans_eq (by ring)

theorem subdiv_err (h : Rnd u r) (s t x : ℝ) :
    |r (r (x - t) / s) - (x - t) / s| ≤ (2 * u + u ^ 2) * |(x - t) / s| := by
  rw [div_eq_mul_inv, div_eq_mul_inv]; exact h.mul_err _ _

/-- **forward affine element, executed**: output error `(2u+u²)|x s| + u|t|` (relative to the magnitudes of
    the two summands, i.e. conditioning-scaled: NOT relative to `|x s + t|`), log-det error `u |log|s||`. -/
theorem affineT_fwd_err (h : Rnd u r) (s t x : ℝ) {y l y' l' : ℝ}
    (hc : affineT (rndX r e) s t false x = .ok (y, l))
    (he : affineT (NF.realX e) s t false x = .ok (y', l')) :
    |y - y'| ≤ (2 * u + u ^ 2) * |x * s| + u * |t| ∧ |l - l'| ≤ u * |Real.log (|s|)| := by
  cases hc; cases he
  exact ⟨muladd_err h s t x, h.err _⟩

theorem affineT_inv_err (h : Rnd u r) (s t x : ℝ) {y l y' l' : ℝ}
    (hc : affineT (rndX r e) s t true x = .ok (y, l))
    (he : affineT (NF.realX e) s t true x = .ok (y', l')) :
    |y - y'| ≤ (2 * u + u ^ 2) * |(x - t) / s| ∧ |l - l'| ≤ u * |Real.log (|s|)| := by
  cases hc; cases he
  exact ⟨subdiv_err h s t x, h.neg_err _⟩

theorem scaleShiftT_fwd_err (h : Rnd u r) (s t x : ℝ) {y l y' l' : ℝ}
    (hc : scaleShiftT (rndX r e) s t false x = .ok (y, l))
    (he : scaleShiftT (NF.realX e) s t false x = .ok (y', l')) :
    |y - y'| ≤ (2 * u + u ^ 2) * |x * s| + u * |t| ∧ |l - l'| ≤ u * |Real.log s| := by
  cases hc; cases he
  exact ⟨muladd_err h s t x, h.err _⟩

theorem scaleShiftT_inv_err (h : Rnd u r) (s t x : ℝ) {y l y' l' : ℝ}
    (hc : scaleShiftT (rndX r e) s t true x = .ok (y, l))
    (he : scaleShiftT (NF.realX e) s t true x = .ok (y', l')) :
    |y - y'| ≤ (2 * u + u ^ 2) * |(x - t) / s| ∧ |l - l'| ≤ u * |Real.log s| := by
  cases hc; cases he
  exact ⟨subdiv_err h s t x, h.neg_err _⟩

/-! ## sums, inner products, matrix-vector products, executed -/

def absSum (xs : List ℝ) : ℝ := (xs.map fun x => |x|).sum
def absDot (xs ys : List ℝ) : ℝ := (List.zipWith (fun a b => |a| * |b|) xs ys).sum

@[simp] theorem absSum_nil : absSum [] = 0 := rfl
@[simp] theorem absSum_cons (x : ℝ) (xs : List ℝ) : absSum (x :: xs) = |x| + absSum xs := by
  simp [absSum]
theorem absSum_nonneg (xs : List ℝ) : 0 ≤ absSum xs := by
  induction xs with
  | nil => simp
  | cons x xs ih => rw [absSum_cons]; have := abs_nonneg x; linarith
theorem abs_sum_le_absSum (xs : List ℝ) : |xs.sum| ≤ absSum xs := by
  induction xs with
  | nil => simp
  | cons x xs ih =>
    rw [absSum_cons, List.sum_cons]
    have := abs_add_le x xs.sum
    linarith
theorem absDot_eq (xs ys : List ℝ) : absDot xs ys = absSum (List.zipWith (· * ·) xs ys) := by
  unfold absDot absSum
  rw [List.map_zipWith]
  simp only [abs_mul]
theorem absDot_nonneg (xs ys : List ℝ) : 0 ≤ absDot xs ys := by
  rw [absDot_eq]; exact absSum_nonneg _

theorem one_le_pow1 (h : Rnd u r) (n : ℕ) : 1 ≤ (1 + u) ^ n :=
  one_le_pow₀ (by linarith [h.u_nonneg])

theorem foldl_err (h : Rnd u r) (xs : List ℝ) (acc : ℝ) :
    |xs.foldl (fun a x => r (a + x)) acc - (acc + xs.sum)|
      ≤ ((1 + u) ^ xs.length - 1) * (|acc| + absSum xs) := by
  induction xs generalizing acc with
  | nil => simp
  | cons x xs ih =>
    simp only [List.foldl_cons, List.sum_cons, List.length_cons, absSum_cons, pow_succ]
    have ih' := ih (r (acc + x))
    have hg1 : 1 ≤ (1 + u) ^ xs.length := one_le_pow1 h _
    generalize xs.foldl (fun a x => r (a + x)) (r (acc + x)) = F at ih'
    generalize (1 + u) ^ xs.length = g at ih' hg1
    have hB : 0 ≤ absSum xs := absSum_nonneg xs
    have hu := h.u_nonneg
    have hA : |acc + x| ≤ |acc| + |x| := abs_add_le _ _
    -- the first addition has error `u (|acc| + |x|)` and size `(1+u)(|acc| + |x|)`
    have h1 := (h.err (acc + x)).trans (mul_le_mul_of_nonneg_left hA hu)
    have h2 := (h.abs_le (acc + x)).trans (mul_le_mul_of_nonneg_left hA (by linarith))
    have h3 := abs_sub_le F (r (acc + x) + xs.sum) (acc + (x + xs.sum))
    rw [show r (acc + x) + xs.sum - (acc + (x + xs.sum)) = r (acc + x) - (acc + x) by ring] at h3
    have h4 : (g - 1) * (|r (acc + x)| + absSum xs) ≤ (g - 1) * ((1 + u) * (|acc| + |x|) + absSum xs) :=
      mul_le_mul_of_nonneg_left (by linarith) (by linarith)
    have h5 : 0 ≤ g * u * absSum xs := mul_nonneg (mul_nonneg (by linarith) hu) hB
    linarith

theorem sum_rnd (h : Rnd u r) (xs : List ℝ) : LF.sum (rndOps r) xs = xs.foldl (fun a x => r (a + x)) 0 := by
  unfold LF.sum; rw [h.zeroLF]; rfl

theorem foldl_err₀ (h : Rnd u r) (xs : List ℝ) :
    |xs.foldl (fun a x => r (a + x)) 0 - xs.sum| ≤ ((1 + u) ^ xs.length - 1) * absSum xs := by
  simpa only [zero_add, abs_zero] using foldl_err h xs 0

/-- **`LF.sum`, executed** (sequential `torch.sum`; the fold starts by ADDING the first element to zero, which the
    model rounds too, hence exponent `n` and not `n-1`): `|fl Σ - Σ| ≤ ((1+u)^n - 1) Σ|x_i|` -/
theorem sum_err (h : Rnd u r) (xs : List ℝ) :
    |LF.sum (rndOps r) xs - LF.sum realOps xs| ≤ ((1 + u) ^ xs.length - 1) * absSum xs := by
  rw [LFTriSolve.sum_real, sum_rnd h]; exact foldl_err₀ h xs

theorem sumG_err (h : Rnd u r) (xs : List ℝ) :
    |sumG (rndX r e) xs - sumG (NF.realX e) xs| ≤ ((1 + u) ^ xs.length - 1) * absSum xs := by
  rw [NF.sumG_real]
  unfold sumG
  rw [h.zeroX]
  exact foldl_err₀ h xs

section pert
variable {β : Type*}

theorem sum_map_pert (ls : List β) (c ex η : β → ℝ) (hce : ∀ b ∈ ls, |c b - ex b| ≤ η b) :
    |(ls.map c).sum - (ls.map ex).sum| ≤ (ls.map η).sum := by
  induction ls with
  | nil => simp
  | cons b ls ih =>
    simp only [List.map_cons, List.sum_cons, add_sub_add_comm]
    linarith [hce b (by simp), ih fun t ht => hce t (by simp [ht]),
      abs_add_le (c b - ex b) ((ls.map c).sum - (ls.map ex).sum)]

theorem absSum_map_pert (ls : List β) (c ex η : β → ℝ) (hce : ∀ b ∈ ls, |c b - ex b| ≤ η b) :
    absSum (ls.map c) ≤ absSum (ls.map ex) + (ls.map η).sum := by
  induction ls with
  | nil => simp
  | cons b ls ih =>
    simp only [List.map_cons, List.sum_cons, absSum_cons]
    linarith [hce b (by simp), ih fun t ht => hce t (by simp [ht]), abs_sub_abs_le_abs_sub (c b) (ex b)]

theorem pert_round_err (ls : List β) (c ex η : β → ℝ) (hce : ∀ b ∈ ls, |c b - ex b| ≤ η b) {F g : ℝ} (hg : 1 ≤ g)
    (hF : |F - (ls.map c).sum| ≤ (g - 1) * absSum (ls.map c)) :
    |F - (ls.map ex).sum| ≤ (g - 1) * (absSum (ls.map ex) + (ls.map η).sum) + (ls.map η).sum := by
  have h1 := mul_le_mul_of_nonneg_left (absSum_map_pert ls c ex η hce) (sub_nonneg.mpr hg)
  have h2 := sum_map_pert ls c ex η hce
  have h3 := abs_sub_le F (ls.map c).sum (ls.map ex).sum
  linarith

end pert

theorem map_round_err (h : Rnd u r) (qs : List ℝ) {F g : ℝ} (hg : 1 ≤ g)
    (hF : |F - (qs.map r).sum| ≤ (g - 1) * absSum (qs.map r)) : |F - qs.sum| ≤ (g * (1 + u) - 1) * absSum qs := by
  have := pert_round_err qs r id (fun q => u * |q|) (fun q _ => h.err q) hg hF
  rw [List.map_id, List.sum_map_mul_left] at this
  exact this.trans_eq (by unfold absSum; ring)

theorem foldl_map_err (h : Rnd u r) (qs : List ℝ) :
    |(qs.map r).foldl (fun a x => r (a + x)) 0 - qs.sum| ≤ ((1 + u) ^ (qs.length + 1) - 1) * absSum qs := by
  rw [pow_succ]
  apply map_round_err h qs (one_le_pow1 h _)
  simpa only [List.length_map] using foldl_err₀ h (qs.map r)

theorem dot_rnd (h : Rnd u r) (xs ys : List ℝ) :
    LF.dot (rndOps r) xs ys = ((List.zipWith (· * ·) xs ys).map r).foldl (fun a x => r (a + x)) 0 := by
  unfold LF.dot; rw [sum_rnd h, List.map_zipWith]; rfl

/-- **`LF.dot`, executed** — the classical inner-product bound (Higham (3.4)), conditioning-scaled:
    `|fl(x·y) - x·y| ≤ ((1+u)^(n+1) - 1) Σ|x_i||y_i|`, `n = min (length x) (length y)`.
    (`n` additions — the first one is `0 + x₁y₁`, rounded by the model — plus one rounding per product.) -/
theorem dot_err (h : Rnd u r) (xs ys : List ℝ) :
    |LF.dot (rndOps r) xs ys - LF.dot realOps xs ys|
      ≤ ((1 + u) ^ (min xs.length ys.length + 1) - 1) * absDot xs ys := by
  rw [dot_rnd h, LFTriSolve.dot_real_zipWith, absDot_eq]
  simpa only [List.length_zipWith] using foldl_map_err h (List.zipWith (· * ·) xs ys)

theorem abs_dot_le (row x : List ℝ) : |LF.dot realOps row x| ≤ absDot row x := by
  rw [LFTriSolve.dot_real_zipWith, absDot_eq]; exact abs_sum_le_absSum _

theorem matVec_err (h : Rnd u r) (M : List (List ℝ)) (x : List ℝ) (i : ℕ) (hi : i < M.length) :
    |(LF.matVec (rndOps r) M x)[i]'(by simpa [LF.matVec] using hi)
        - (LF.matVec realOps M x)[i]'(by simpa [LF.matVec] using hi)|
      ≤ ((1 + u) ^ (min (M[i]).length x.length + 1) - 1) * absDot M[i] x := by
  simp only [LF.matVec, List.getElem_map]
  exact dot_err h _ _

/-- one entry of `F.linear(x, W, b)` -/
theorem linear_entry_err (h : Rnd u r) (row x : List ℝ) (b : ℝ) :
    |(rndOps r).add (LF.dot (rndOps r) row x) b - realOps.add (LF.dot realOps row x) b|
      ≤ ((1 + u) ^ (min row.length x.length + 2) - 1) * absDot row x + u * |b| := by
  have h1 : |LF.dot (rndOps r) row x + b - (LF.dot realOps row x + b)|
      ≤ ((1 + u) ^ (min row.length x.length + 1) - 1) * absDot row x := by
    rw [add_sub_add_right_eq_sub]; exact dot_err h row x
  have h2 : |LF.dot realOps row x + b| ≤ absDot row x + |b| :=
    (abs_add_le _ _).trans (add_le_add (abs_dot_le row x) le_rfl)
  exact (h.approx h1 h2).trans_eq (by rw [pow_succ _ (_ + 1)]; ring)

/-! ## element-wise nonlinearities, executed -/

theorem expT_fwd_err (h : Rnd u r) (x : ℝ) {y l y' l' : ℝ}
    (hc : expT (rndX r e) false x = .ok (y, l)) (he : expT (NF.realX e) false x = .ok (y', l')) :
    |y - y'| ≤ u * Real.exp x ∧ l = l' := by
  simp only [expT, Bool.false_eq_true, if_false, Except.ok.injEq, Prod.mk.injEq, rndX_exp, realX_exp] at hc he
  obtain ⟨rfl, rfl⟩ := hc; obtain ⟨rfl, rfl⟩ := he
  refine ⟨?_, rfl⟩
  have := h.err (Real.exp x)
  rwa [abs_of_pos (Real.exp_pos x)] at this

theorem expT_inv_err (h : Rnd u r) (x : ℝ) :
    (expT (rndX r e) true x = .error .outsideDomain ∧ expT (NF.realX e) true x = .error .outsideDomain) ∨
    ∃ y l y' l', expT (rndX r e) true x = .ok (y, l) ∧ expT (NF.realX e) true x = .ok (y', l') ∧
      |y - y'| ≤ u * |Real.log x| ∧ |l - l'| ≤ u * |Real.log x| := by
  by_cases hx : x ≤ 0
  · left
    simp [expT, h.zeroX, hx]
  · right
    refine ⟨r (Real.log x), -r (Real.log x), Real.log x, -Real.log x, ?_, ?_, h.err _, ?_⟩
    · simp [expT, h.zeroX, hx]
    · simp [expT, hx]
    · have e1 : -r (Real.log x) - -Real.log x = -(r (Real.log x) - Real.log x) := by ring
      rw [e1, abs_neg]; exact h.err _

theorem leakyReluT_real (slope : Float) (L x : ℝ) :
    leakyReluT (NF.realX e) slope L false x
      = .ok (if x < 0 then e slope * x else x, if x < 0 then L * 1 else L * 0) := by
  unfold leakyReluT
  by_cases hx : x < 0 <;> simp [hx]

theorem leakyReluT_rnd (h : Rnd u r) (slope : Float) (L x : ℝ) :
    leakyReluT (rndX r e) slope L false x
      = .ok (if x < 0 then r (r (e slope) * x) else x, if x < 0 then r (L * (rndX r e).one) else 0) := by
  unfold leakyReluT
  by_cases hx : x < 0
  · simp [hx, h.zeroX]
  · simp [hx, h.zeroX, h.zero]

/-- **forward LeakyReLU, executed** (`σ = e slope` the Python-side double, rounded on entry by the model):
    output error `(2u+u²)|σ x|` on the negative side and `0` on the other; log-det error `(2u+u²)|L|` resp. `0`.
    The branch taken is the same in both precisions (the comparison is with `0 = fl 0`). -/
theorem leakyReluT_fwd_err (h : Rnd u r) (slope : Float) (L x : ℝ) {y l y' l' : ℝ}
    (hc : leakyReluT (rndX r e) slope L false x = .ok (y, l))
    (he : leakyReluT (NF.realX e) slope L false x = .ok (y', l')) :
    |y - y'| ≤ (if x < 0 then (2 * u + u ^ 2) * |e slope * x| else 0) ∧
    |l - l'| ≤ (if x < 0 then (2 * u + u ^ 2) * |L| else 0) := by
  rw [leakyReluT_rnd e h] at hc; rw [leakyReluT_real] at he
  cases hc; cases he
  by_cases hx : x < 0
  · simp only [hx, if_true, mul_one]
    refine ⟨h.mul_err _ _, ?_⟩
    have := h.mul_err 1 L
    rwa [one_mul, mul_comm, ← rndX_one r e] at this
  · simp [hx]

/-! ## two precisions agree up to the sum of their bounds -/

section agree
variable {u32 u64 : ℝ} {r32 r64 : ℝ → ℝ}

theorem tri {a b c ε δ : ℝ} (h1 : |a - c| ≤ ε) (h2 : |b - c| ≤ δ) : |a - b| ≤ ε + δ := by
  have := abs_sub_le a c b
  rw [abs_sub_comm c b] at this
  linarith

/-- **`f32_f64_agree`, inner product**: the `float32` and the `float64` executions of `LF.dot` differ by at most
    `((1+u32)^(n+1) - 1 + (1+u64)^(n+1) - 1) Σ|x_i||w_i|` — single-precision accuracy scaled by the conditioning
    `Σ|x_i||w_i|` of the sum (not by `|Σ x_i w_i|`). -/
theorem f32_f64_agree_dot (h32 : Rnd u32 r32) (h64 : Rnd u64 r64) (xs ws : List ℝ) :
    |LF.dot (rndOps r32) xs ws - LF.dot (rndOps r64) xs ws|
      ≤ (((1 + u32) ^ (min xs.length ws.length + 1) - 1) + ((1 + u64) ^ (min xs.length ws.length + 1) - 1))
          * absDot xs ws :=
  (tri (dot_err h32 xs ws) (dot_err h64 xs ws)).trans_eq (by ring)

theorem f32_f64_agree_sum (h32 : Rnd u32 r32) (h64 : Rnd u64 r64) (xs : List ℝ) :
    |LF.sum (rndOps r32) xs - LF.sum (rndOps r64) xs|
      ≤ (((1 + u32) ^ xs.length - 1) + ((1 + u64) ^ xs.length - 1)) * absSum xs :=
  (tri (sum_err h32 xs) (sum_err h64 xs)).trans_eq (by ring)

theorem f32_f64_agree_matVec (h32 : Rnd u32 r32) (h64 : Rnd u64 r64) (M : List (List ℝ)) (x : List ℝ)
    (i : ℕ) (hi : i < M.length) :
    |(LF.matVec (rndOps r32) M x)[i]'(by simpa [LF.matVec] using hi)
        - (LF.matVec (rndOps r64) M x)[i]'(by simpa [LF.matVec] using hi)|
      ≤ (((1 + u32) ^ (min (M[i]).length x.length + 1) - 1)
          + ((1 + u64) ^ (min (M[i]).length x.length + 1) - 1)) * absDot M[i] x :=
  (tri (matVec_err h32 M x i hi) (matVec_err h64 M x i hi)).trans_eq (by ring)

end agree

/-! ## non-vacuity -/

theorem rnd_scale {u : ℝ} (hu : 0 ≤ u) : Rnd u (fun x => x * (1 + u)) where
  u_nonneg := hu
  err x := by
    have e1 : x * (1 + u) - x = u * x := by ring
    rw [e1, abs_mul, abs_of_nonneg hu]

theorem rnd_scale_ne_id {u : ℝ} (hu : 0 < u) : (fun x : ℝ => x * (1 + u)) ≠ id := by
  intro h
  have := congrFun h 1
  simp at this
  linarith

theorem rnd_scale_f32 : Rnd ((2 : ℝ) ^ (-24 : ℤ)) (fun x => x * (1 + (2 : ℝ) ^ (-24 : ℤ))) :=
  rnd_scale (by positivity)
theorem rnd_scale_f64 : Rnd ((2 : ℝ) ^ (-53 : ℤ)) (fun x => x * (1 + (2 : ℝ) ^ (-53 : ℤ))) :=
  rnd_scale (by positivity)

theorem rnd_id : Rnd 0 id where
  u_nonneg := le_refl 0
  err x := by simp

theorem rnd_zero_eq_id {r : ℝ → ℝ} (h : Rnd 0 r) : r = id := by
  funext x
  have := h.err x
  rw [zero_mul] at this
  exact sub_eq_zero.mp (abs_eq_zero.mp (le_antisymm this (abs_nonneg _)))

theorem rndOps_id : rndOps id = realOps := rfl
theorem rndX_id : rndX id e = NF.realX e := rfl

theorem dot_err_zero (xs ys : List ℝ) : |LF.dot (rndOps id) xs ys - LF.dot realOps xs ys| ≤ 0 := by
  have := dot_err rnd_id xs ys
  simpa using this

/-- the bound is attained up to the first-addition slack: with `r x = x (1+u)` the executed sum of `[1]`
    is `1 + u`, error exactly `(1+u)^1 - 1` times `Σ|x_i| = 1` -/
theorem sum_err_tight {u : ℝ} : LF.sum (rndOps fun x => x * (1 + u)) [1] - LF.sum realOps [1] = ((1 + u) ^ 1 - 1) * absSum [1] := by
  rw [LFTriSolve.sum_real]
  simp only [LF.sum, List.foldl_cons, List.foldl_nil, rndOps_add, LF.zero, absSum_cons, absSum_nil]
  show (((0 : ℤ) : ℝ) / ((1 : ℕ) : ℝ) * (1 + u) + 1) * (1 + u) - _ = _
  simp

end
end RoundModel
