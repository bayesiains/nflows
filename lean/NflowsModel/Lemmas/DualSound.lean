import NflowsModel.Core.Expr
import Mathlib.Analysis.SpecialFunctions.Log.Deriv
import Mathlib.Analysis.SpecialFunctions.Sqrt
import Mathlib.Analysis.SpecialFunctions.ExpDeriv
import Mathlib.Tactic
/-!
# Lemmas/DualSound — forward-mode AD over `Expr` terms is sound (C16)

`evalD` evaluates a term at `dualOps realOps` (pairs of reals), `evalR` at the reals.  `Smooth env e` collects the side
conditions under which every node of `e` is differentiable at `env` (non-vanishing denominators and arguments of `log` /
`sqrt`, no tie at a comparison).  `evalDual_curve`: along any differentiable curve of environments `evalD` returns the value
and the derivative of `evalR`; `evalDual_sound` is the case of the straight line `line env dir`.
-/

namespace DualSound

noncomputable section
open Classical in
def realOps : Ops ℝ where
  ofRat n d := (n : ℝ) / (d : ℝ)
  add := (· + ·); sub := (· - ·); mul := (· * ·); div := (· / ·); neg := (- ·)
  exp := Real.exp; log := Real.log; sqrt := Real.sqrt
  lt a b := decide (a < b)

abbrev evalR := evalG realOps
abbrev evalD := evalG (dualOps realOps)

def Smooth (env : Nat → ℝ) : Expr → Prop
  | .var _ => True
  | .lit _ _ => True
  | .add a b => Smooth env a ∧ Smooth env b
  | .sub a b => Smooth env a ∧ Smooth env b
  | .mul a b => Smooth env a ∧ Smooth env b
  | .div a b => Smooth env a ∧ Smooth env b ∧ evalR env b ≠ 0
  | .neg a => Smooth env a
  | .exp a => Smooth env a
  | .log a => Smooth env a ∧ evalR env a ≠ 0
  | .sqrt a => Smooth env a ∧ evalR env a ≠ 0
  | .ifLt a b t e => Smooth env a ∧ Smooth env b ∧ evalR env a ≠ evalR env b ∧
      (evalR env a < evalR env b → Smooth env t) ∧ (¬ evalR env a < evalR env b → Smooth env e)

def line (env dir : Nat → ℝ) (t : ℝ) : Nat → ℝ := fun i => env i + t * dir i

theorem line_zero (env dir : Nat → ℝ) : line env dir 0 = env := by
  funext i; simp [line]

@[simp] theorem evalR_add (env) (a b : Expr) : evalR env (.add a b) = evalR env a + evalR env b := rfl
@[simp] theorem evalR_sub (env) (a b : Expr) : evalR env (.sub a b) = evalR env a - evalR env b := rfl
@[simp] theorem evalR_mul (env) (a b : Expr) : evalR env (.mul a b) = evalR env a * evalR env b := rfl
@[simp] theorem evalR_div (env) (a b : Expr) : evalR env (.div a b) = evalR env a / evalR env b := rfl
@[simp] theorem evalR_neg (env) (a : Expr) : evalR env (.neg a) = - evalR env a := rfl
@[simp] theorem evalR_exp (env) (a : Expr) : evalR env (.exp a) = Real.exp (evalR env a) := rfl
@[simp] theorem evalR_log (env) (a : Expr) : evalR env (.log a) = Real.log (evalR env a) := rfl
@[simp] theorem evalR_sqrt (env) (a : Expr) : evalR env (.sqrt a) = Real.sqrt (evalR env a) := rfl
@[simp] theorem evalR_var (env) (i : Nat) : evalR env (.var i) = env i := rfl
@[simp] theorem evalR_lit (env) (n : Int) (d : Nat) : evalR env (.lit n d) = (n:ℝ)/(d:ℝ) := rfl
theorem realOps_lt (x y : ℝ) : realOps.lt x y = decide (x < y) := rfl
theorem dualOps_lt (x y : ℝ × ℝ) : (dualOps realOps).lt x y = decide (x.1 < y.1) := rfl
theorem evalG_ifLt {α} (o : Ops α) (env) (a b t e : Expr) :
    evalG o env (.ifLt a b t e) = if o.lt (evalG o env a) (evalG o env b) = true then evalG o env t else evalG o env e := rfl
theorem evalR_ifLt (env) (a b t e : Expr) :
    evalR env (.ifLt a b t e) = if evalR env a < evalR env b then evalR env t else evalR env e := by
  unfold evalR; rw [evalG_ifLt, realOps_lt]
  by_cases h : evalG realOps env a < evalG realOps env b
  · rw [if_pos h, if_pos (by simpa using h)]
  · rw [if_neg h, if_neg (by simpa using h)]

@[simp] theorem evalD_add (env) (a b : Expr) : evalD env (.add a b) = ((evalD env a).1 + (evalD env b).1, (evalD env a).2 + (evalD env b).2) := rfl
@[simp] theorem evalD_sub (env) (a b : Expr) : evalD env (.sub a b) = ((evalD env a).1 - (evalD env b).1, (evalD env a).2 - (evalD env b).2) := rfl
@[simp] theorem evalD_mul (env) (a b : Expr) : evalD env (.mul a b) = ((evalD env a).1 * (evalD env b).1, (evalD env a).2 * (evalD env b).1 + (evalD env a).1 * (evalD env b).2) := rfl
@[simp] theorem evalD_div (env) (a b : Expr) : evalD env (.div a b) = ((evalD env a).1 / (evalD env b).1, ((evalD env a).2 * (evalD env b).1 - (evalD env a).1 * (evalD env b).2) / ((evalD env b).1 * (evalD env b).1)) := rfl
@[simp] theorem evalD_neg (env) (a : Expr) : evalD env (.neg a) = (-(evalD env a).1, -(evalD env a).2) := rfl
@[simp] theorem evalD_exp (env) (a : Expr) : evalD env (.exp a) = (Real.exp (evalD env a).1, (evalD env a).2 * Real.exp (evalD env a).1) := rfl
@[simp] theorem evalD_log (env) (a : Expr) : evalD env (.log a) = (Real.log (evalD env a).1, (evalD env a).2 / (evalD env a).1) := rfl
@[simp] theorem evalD_sqrt (env) (a : Expr) : evalD env (.sqrt a) = (Real.sqrt (evalD env a).1, (evalD env a).2 / (((2:ℤ):ℝ)/((1:ℕ):ℝ) * Real.sqrt (evalD env a).1)) := rfl
@[simp] theorem evalD_var (env : Nat → ℝ × ℝ) (i : Nat) : evalD env (.var i) = env i := rfl
@[simp] theorem evalD_lit (env) (n : Int) (d : Nat) : evalD env (.lit n d) = ((n:ℝ)/(d:ℝ), ((0:ℤ):ℝ)/((1:ℕ):ℝ)) := rfl
theorem evalD_ifLt (env) (a b t e : Expr) :
    evalD env (.ifLt a b t e) = if (evalD env a).1 < (evalD env b).1 then evalD env t else evalD env e := by
  unfold evalD; rw [evalG_ifLt, dualOps_lt]
  by_cases h : (evalG (dualOps realOps) env a).1 < (evalG (dualOps realOps) env b).1
  · rw [if_pos h, if_pos (by simpa using h)]
  · rw [if_neg h, if_neg (by simpa using h)]

/-! `Smooth` of a term, built along the term: the only obligations are the non-vanishing denominators / arguments -/

theorem Smooth.var {env : Nat → ℝ} (i : Nat) : Smooth env (.var i) := trivial
theorem Smooth.ofNat {env : Nat → ℝ} (n : Nat) : Smooth env (OfNat.ofNat n) := trivial
theorem Smooth.add {env : Nat → ℝ} {a b : Expr} (ha : Smooth env a) (hb : Smooth env b) : Smooth env (a + b) := ⟨ha, hb⟩
theorem Smooth.sub {env : Nat → ℝ} {a b : Expr} (ha : Smooth env a) (hb : Smooth env b) : Smooth env (a - b) := ⟨ha, hb⟩
theorem Smooth.mul {env : Nat → ℝ} {a b : Expr} (ha : Smooth env a) (hb : Smooth env b) : Smooth env (a * b) := ⟨ha, hb⟩
theorem Smooth.div {env : Nat → ℝ} {a b : Expr} (ha : Smooth env a) (hb : Smooth env b) (h0 : evalR env b ≠ 0) :
    Smooth env (a / b) := ⟨ha, hb, h0⟩
theorem Smooth.neg {env : Nat → ℝ} {a : Expr} (ha : Smooth env a) : Smooth env (.neg a) := ha
theorem Smooth.log {env : Nat → ℝ} {a : Expr} (ha : Smooth env a) (h0 : evalR env a ≠ 0) : Smooth env (.log a) := ⟨ha, h0⟩
theorem Smooth.sqrt {env : Nat → ℝ} {a : Expr} (ha : Smooth env a) (h0 : evalR env a ≠ 0) : Smooth env (.sqrt a) := ⟨ha, h0⟩

theorem evalDual_curve (f : ℕ → ℝ → ℝ) (d : ℕ → ℝ × ℝ) (t : ℝ) (hfd : ∀ i, (d i).1 = f i t ∧ HasDerivAt (f i) (d i).2 t)
    (e : Expr) (hs : Smooth (fun i => f i t) e) :
    (evalD d e).1 = evalR (fun i => f i t) e ∧ HasDerivAt (fun s => evalR (fun i => f i s) e) (evalD d e).2 t := by
  induction e with
  | var i => exact hfd i
  | lit n k =>
    refine ⟨rfl, ?_⟩
    simp only [evalR_lit, evalD_lit]
    simpa using hasDerivAt_const t ((n:ℝ)/(k:ℝ))
  | add a b iha ihb =>
    obtain ⟨va, da⟩ := iha hs.1; obtain ⟨vb, db⟩ := ihb hs.2
    exact ⟨congrArg₂ (· + ·) va vb, da.add db⟩
  | sub a b iha ihb =>
    obtain ⟨va, da⟩ := iha hs.1; obtain ⟨vb, db⟩ := ihb hs.2
    exact ⟨congrArg₂ (· - ·) va vb, da.sub db⟩
  | mul a b iha ihb =>
    obtain ⟨va, da⟩ := iha hs.1; obtain ⟨vb, db⟩ := ihb hs.2
    refine ⟨congrArg₂ (· * ·) va vb, ?_⟩
    rw [evalD_mul, va, vb]; exact da.mul db
  | div a b iha ihb =>
    obtain ⟨va, da⟩ := iha hs.1; obtain ⟨vb, db⟩ := ihb hs.2.1
    refine ⟨congrArg₂ (· / ·) va vb, ?_⟩
    rw [evalD_div, va, vb, ← sq]; exact da.div db hs.2.2
  | neg a iha =>
    obtain ⟨va, da⟩ := iha hs
    exact ⟨congrArg Neg.neg va, da.neg⟩
  | exp a iha =>
    obtain ⟨va, da⟩ := iha hs
    refine ⟨congrArg Real.exp va, ?_⟩
    rw [evalD_exp, va, mul_comm]; exact da.exp
  | log a iha =>
    obtain ⟨va, da⟩ := iha hs.1
    refine ⟨congrArg Real.log va, ?_⟩
    rw [evalD_log, va]; exact da.log hs.2
  | sqrt a iha =>
    obtain ⟨va, da⟩ := iha hs.1
    refine ⟨congrArg Real.sqrt va, ?_⟩
    rw [evalD_sqrt, va]
    exact (da.sqrt hs.2).congr_deriv (by norm_num)
  | ifLt a b u v iha ihb ihu ihv =>
    obtain ⟨ha, hb, hne, hsu, hsv⟩ := hs
    obtain ⟨va, da⟩ := iha ha; obtain ⟨vb, db⟩ := ihb hb
    rw [evalR_ifLt, evalD_ifLt, va, vb]
    -- the guard is locally constant around `t`
    rcases lt_or_gt_of_ne hne with hlt | hgt
    · obtain ⟨vu, du⟩ := ihu (hsu hlt)
      rw [if_pos hlt, if_pos hlt]
      refine ⟨vu, du.congr_of_eventuallyEq ?_⟩
      filter_upwards [da.continuousAt.eventually_lt db.continuousAt hlt] with s hs'
      rw [evalR_ifLt, if_pos hs']
    · obtain ⟨vv, dv⟩ := ihv (hsv hgt.not_gt)
      rw [if_neg hgt.not_gt, if_neg hgt.not_gt]
      refine ⟨vv, dv.congr_of_eventuallyEq ?_⟩
      filter_upwards [db.continuousAt.eventually_lt da.continuousAt hgt] with s hs'
      rw [evalR_ifLt, if_neg hs'.not_gt]

/-- Soundness of forward-mode AD over `Expr`: value component agrees with `evalR`, tangent component
    is the derivative of `evalR` along the seeded direction. -/
theorem evalDual_sound (env dir : Nat → ℝ) (e : Expr) (hs : Smooth env e) :
    (evalD (fun i => (env i, dir i)) e).1 = evalR env e ∧
    HasDerivAt (fun t => evalR (line env dir t) e) (evalD (fun i => (env i, dir i)) e).2 0 := by
  have h := evalDual_curve (fun i t => env i + t * dir i) (fun i => (env i, dir i)) 0
    (fun i => ⟨by simp, by simpa using ((hasDerivAt_id (0:ℝ)).mul_const (dir i)).const_add (env i)⟩) e
  simp only [zero_mul, add_zero] at h
  exact h hs
end


end DualSound
