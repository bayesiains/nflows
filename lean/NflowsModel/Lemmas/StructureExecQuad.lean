import NflowsModel.Lemmas.StructureExec
import NflowsModel.Lemmas.TailsWhole
/-!
# Lemmas/StructureExecQuad — the piecewise-quadratic family over the reals, bounded and with linear tails, as an element
family of the layers: where a call returns and that the other direction undoes it (`quad_accepts`, `quad_undoes`,
`quad_tails_accepts`, `quad_tails_undoes`), from `QuadInverseWhole.quad_boxPair` and `TailsWhole.quad_wrapPair`.
-/
open NF DualSound

namespace NF.StructureExec
variable {α : Type}

def QuadVecValid (e : Float → ℝ) (c : ElCfg) (p : List ℝ) : Prop :=
  QuadWhole.QuadValid e (quadCfgOf c) (quadW (NF.realX e) c p) (quadH (NF.realX e) c p)

theorem quad_accepts (e : Float → ℝ) (c : ElCfg) (hk : c.kind = "quad") (ht : c.tails = false) :
    ElAccepts (NF.realX e) c (QuadVecValid e c)
      (ElemPair.boxD (e (quadCfgOf c).box.left) (e (quadCfgOf c).box.right) (e (quadCfgOf c).box.bottom) (e (quadCfgOf c).box.top)) :=
  ElAccepts.of_prog (elTransform_quad _ c hk ht)
    (fun _ hv => (QuadInverseWhole.quad_boxPair (QuadInverseWhole.runs_of_valid hv)).accepts)

theorem quad_undoes (e : Float → ℝ) (c : ElCfg) (hk : c.kind = "quad") (ht : c.tails = false) (d : Bool) :
    ElUndoes Eq d (NF.realX e) c (QuadVecValid e c) :=
  ElUndoes.of_prog (elTransform_quad _ c hk ht)
    (fun _ hv => (QuadInverseWhole.quad_boxPair (QuadInverseWhole.runs_of_valid hv)).undoes
      (QuadInverseWhole.runs_of_valid hv).invLd_eq_neg_ld) d

/-- every parameter slice the conditioner produced is an accepted bounded quadratic configuration (`SlicesValid … (QuadVecValid e c)`
    written out) -/
def QuadParamsValid (e : Float → ℝ) (c : ElCfg) (Ft S : Nat) (params : Array ℝ) (B : Nat) : Prop :=
  ∀ b t s, b < B → t < Ft → s < S →
    QuadWhole.QuadValid e (quadCfgOf c)
      (quadW (NF.realX e) c (condSlice (NF.realX e) c.mult Ft S params b t s))
      (quadH (NF.realX e) c (condSlice (NF.realX e) c.mult Ft S params b t s))

/-! non-vacuity: a one-bin quadratic configuration on the unit box (`QuadWhole.valid_example`), every slice of the
    empty parameter array (all reads default to 0) is accepted -/
def cQ : ElCfg := { container := "cdf", kind := "quad", K := 1, ds := #[0.0, 1.0, 0.0, 1.0, 0.0, 0.0] }

theorem quadParamsValid_example (Ft S B : Nat) : QuadParamsValid QuadWhole.eNV cQ Ft S #[] B := by
  intro b t s _ _ _
  have hs : condSlice (NF.realX QuadWhole.eNV) cQ.mult Ft S #[] b t s = [0, 0, 0] := by
    have hm : cQ.mult = 3 := by decide
    rw [hm]
    simp [condSlice, List.range_succ]
  rw [hs]
  have hw : quadW (NF.realX QuadWhole.eNV) cQ [0, 0, 0] = [0] := by simp [quadW, quadScale, cQ]
  have hh : quadH (NF.realX QuadWhole.eNV) cQ [0, 0, 0] = [0, 0] := by simp [quadH, quadScale, cQ]
  rw [hw, hh]
  exact QuadWhole.valid_example

/-! ### the unconstrained family (`tails = true`): identity outside `[−B, B]`, the executed spline on the box
`[−B, B]²` with `K − 1` interior heights inside -/

/-- the spline configuration `elTransform` builds for the quadratic family with linear tails -/
def quadCfgOfT (c : ElCfg) : QCfg :=
  { box := ⟨-(c.ds.getD 0 0.0), c.ds.getD 0 0.0, -(c.ds.getD 0 0.0), c.ds.getD 0 0.0⟩,
    minW := c.ds.getD 1 0.0, minH := c.ds.getD 2 0.0 }

def QuadTailsVecValid (e : Float → ℝ) (c : ElCfg) (p : List ℝ) : Prop :=
  QuadWhole.QuadValidT e (quadCfgOfT c) (quadW (NF.realX e) c p) (quadH (NF.realX e) c p)

theorem quad_tails_accepts (e : Float → ℝ) (c : ElCfg) (hk : c.kind = "quad") (ht : c.tails = true)
    (hneg : e (-(c.ds.getD 0 0.0)) = - e (c.ds.getD 0 0.0)) :
    ElAccepts (NF.realX e) c (QuadTailsVecValid e c) (fun _ _ => True) :=
  ElAccepts.of_prog (elTransform_quad_tails _ c hk ht) (fun _ hv => (TailsWhole.quad_wrapPair hv hneg).accepts)

theorem quad_tails_undoes (e : Float → ℝ) (c : ElCfg) (hk : c.kind = "quad") (ht : c.tails = true)
    (hneg : e (-(c.ds.getD 0 0.0)) = - e (c.ds.getD 0 0.0)) (d : Bool) :
    ElUndoes Eq d (NF.realX e) c (QuadTailsVecValid e c) :=
  ElUndoes.of_prog (elTransform_quad_tails _ c hk ht)
    (fun _ hv => (TailsWhole.quad_wrapPair hv hneg).undoes (QuadInverseWhole.runs_of_validT hv).invLd_eq_neg_ld) d

/-- every parameter slice the conditioner produced is an accepted tails-shape quadratic configuration
    (`SlicesValid … (QuadTailsVecValid e c)` written out) -/
def QuadTailsParamsValid (e : Float → ℝ) (c : ElCfg) (Ft S : Nat) (params : Array ℝ) (B : Nat) : Prop :=
  ∀ b t s, b < B → t < Ft → s < S →
    QuadWhole.QuadValidT e (quadCfgOfT c)
      (quadW (NF.realX e) c (condSlice (NF.realX e) c.mult Ft S params b t s))
      (quadH (NF.realX e) c (condSlice (NF.realX e) c.mult Ft S params b t s))

/-! non-vacuity of the tails statement: two bins, one interior height, tail bound `1.0` (box `[−1,1]²`), all reads 0;
    the reading `eTT` sends `-1.0 ↦ −1`, so `hneg` holds -/
noncomputable def eTT (f : Float) : ℝ :=
  if f == 0.0 then 0 else if f == 0.5 then 1 / 2 else if f == -(1.0) then -1 else if f == 2.0 then 2 else 1
def cQT : ElCfg := { container := "cdf", kind := "quad", tails := true, K := 2, ds := #[1.0, 0.0, 0.0] }

/-! `eTT` is the same table as `TailsWhole.eW`: its readings are those of `eW` (`1e-6` is read as `1`: only its sign is
    used), and the accepted configuration is `TailsWhole.quad_valid_example` -/
theorem eTT_n1 : eTT (-(1.0)) = -1 := TailsWhole.eW_neg_one
theorem eTT_1 : eTT 1.0 = 1 := TailsWhole.eW_one
theorem eTT_d : eTT ((1.0:Float) - -(1.0)) = 2 := TailsWhole.eW_two
theorem eTT_e : eTT 1e-6 = 1 := TailsWhole.eW_eps
theorem eTT_neg : eTT (-(1.0)) = - eTT 1.0 := TailsWhole.eW_neg

theorem quadTailsParamsValid_example (Ft S B : Nat) : QuadTailsParamsValid eTT cQT Ft S #[] B := by
  intro b t s _ _ _
  have hs : condSlice (NF.realX eTT) cQT.mult Ft S #[] b t s = [0, 0, 0] := by
    have hm : cQT.mult = 3 := by decide
    rw [hm]
    simp [condSlice, List.range_succ]
  rw [hs]
  have hw : quadW (NF.realX eTT) cQT [0, 0, 0] = [0, 0] := by simp [quadW, quadScale, cQT]
  have hh : quadH (NF.realX eTT) cQT [0, 0, 0] = [0] := by simp [quadH, quadScale, cQT]
  rw [hw, hh]
  exact TailsWhole.quad_valid_example

theorem hneg_example : eTT (-(cQT.ds.getD 0 0.0)) = - eTT (cQT.ds.getD 0 0.0) := eTT_neg

end NF.StructureExec
