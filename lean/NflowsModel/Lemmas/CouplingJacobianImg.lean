import NflowsModel.Lemmas.CouplingExec
import NflowsModel.Lemmas.FlowWholeND
import NflowsModel.Lemmas.ARWhole
import NflowsModel.Lemmas.RankedDet
import Mathlib.Logic.Equiv.Fin.Basic
import Mathlib.Algebra.BigOperators.Fin
/-!
# Lemmas/CouplingJacobianImg — the Jacobian of an ITEM of the executed coupling layer (C01), any item size

An item is the `N = C·S` entries of batch element `b` of a `[B, C, S]` input (`S = H·W ≥ 1` pixels per channel, NCHW order):
entry `k` is pixel `k % S` of channel `k / S`.  The general theorems take the size as `{N} (hN : mask.length * S = N)`:
image-shaped inputs are `hN := rfl` (`itemMap`, `itemOf`; the instances per family are in `Properties/C01M.lean`), a row of a
2-D input (`Lemmas/CouplingJacobian.lean`) is `S = 1` with `hN := Nat.mul_one _`.

The determinant is `RankedDet.det_of_masked`, the program supplying its two dependency facts: the item map entry by entry
(`item_apply`) and "the conditioner sees the identity entries only" (`paramsOf_setRow_congr`).  The additive / affine element
laws are those of `couplingEl` at pixel `k % S` of channel `k / S`; `hL` is reduced to the conditioner (`ParamsDiff`, every
affine conditioner), and one instance is run end to end (`S = 2`, mask `[0, 1]`, non-constant conditioner).
-/
open NF DualSound

namespace NF.CouplingJacobian
open NF.StructureExec NF.ARWhole

/-! ## 1. The returned log-det of a row over the reals as a sum, with NO "nothing raised" hypothesis -/

theorem range_eq_map_idxOf {l : List Nat} (h : l.Nodup) : List.range l.length = l.map fun a => l.idxOf a := by
  apply List.ext_getElem
  · rw [List.length_range, List.length_map]
  · intro t h1 _
    rw [List.getElem_range, List.getElem_map]
    exact (h.idxOf_getElem t (by rwa [List.length_range] at h1)).symm

/-- over the reals skipping the elements that raised is adding their `ldOf = 0` -/
theorem ldFold_real (e : Float → ℝ) (rs : List (ElRes ℝ)) :
    ldFold (NF.realX e) rs = (rs.map (ldOf (NF.realX e))).sum := by
  rw [ldFold_eq, foldl_add_real, realX_zero, zero_add]
  induction rs with
  | nil => rfl
  | cons r rs ih =>
    rcases r with er | ⟨y, l, al⟩
    · simp only [List.filterMap_cons, List.map_cons, List.sum_cons, ldOf, realX_zero, zero_add]
      exact ih
    · simp only [List.filterMap_cons, List.map_cons, List.sum_cons, ldOf]
      rw [ih]

theorem coupling_ld_real_sum (e : Float → ℝ) (c : ElCfg) (mask : List ℝ) (B S : Nat) (x params : Array ℝ)
    (inverse : Bool) (uc : Option ElCfg) (uparams : Array ℝ) {b : Nat} (hb : b < B) :
    (couplingApply (NF.realX e) c mask B S x params inverse uc uparams).ld[b]?
      = some (((rowResults (NF.realX e) c mask S x params inverse uc uparams b).map (ldOf (NF.realX e))).sum) := by
  rw [coupling_ld_getElem? _ c mask S inverse uc uparams x params hb, ldFold_real]

theorem sum_flatMap_pairs (S : Nat) (h : Nat × Nat → ℝ) (l : List Nat) :
    (List.map h (l.flatMap fun t => (List.range S).map fun s => (t, s))).sum
      = (l.map fun t => ((List.range S).map fun s => h (t, s)).sum).sum := by
  induction l with
  | nil => rfl
  | cons a l ih =>
    rw [List.flatMap_cons, List.map_append, List.sum_append, ih, List.map_cons, List.sum_cons, List.map_map]
    rfl

/-- **the double sum behind `ld[b]`**: a sum over the elements `(t, s)` of a row of the pass — `G` of the position `t` in the
    transform list, its channel and the pixel — is the sum over ALL channels and pixels, `0` on the identity channels -/
theorem sum_rowIter_transformIdx (e : Float → ℝ) (mask : List ℝ) (S : Nat) (G : Nat → Nat → Nat → ℝ) :
    ((rowIter (transformIdx (NF.realX e) mask).length S).map
        fun ts : Nat × Nat => G ts.1 ((transformIdx (NF.realX e) mask).getD ts.1 0) ts.2).sum
      = ∑ i : Fin mask.length, ∑ s : Fin S,
          if isT (NF.realX e) mask i then G ((transformIdx (NF.realX e) mask).idxOf i.1) i.1 s.1 else 0 := by
  unfold rowIter
  rw [sum_flatMap_pairs, range_eq_map_idxOf (transformIdx_ok (NF.realX e) mask).nodup, List.map_map,
    List.map_congr_left (g := fun ch => ((List.range S).map fun s =>
      G ((transformIdx (NF.realX e) mask).idxOf ch) ch s).sum)
      (fun ch hch => by simp only [Function.comp, (idxOf_transform (NF.realX e) mask hch).2])]
  unfold transformIdx
  rw [sum_map_filter_range]
  refine Finset.sum_congr rfl fun i _ => ?_
  rw [sum_map_range]
  unfold isT
  split
  · rfl
  · exact Finset.sum_const_zero.symm

theorem rowOf_setRow (e : Float → ℝ) (B C : Nat) (x : Array ℝ) {b : Nat} (hb : b < B) (v : Fin C → ℝ) :
    rowOf (NF.realX e) C b (setRow B C x b v) = v := by
  funext i
  unfold rowOf
  rw [flatIdx_one, Array.getD_eq_getD_getElem?, setRow_getElem? B C x b v hb i.2]
  simp

theorem setRow_rowOf (e : Float → ℝ) (B C : Nat) (x : Array ℝ) (hx : x.size = B * C) (b : Nat) :
    setRow B C x b (rowOf (NF.realX e) C b x) = x := by
  apply Array.ext
  · rw [setRow_size, hx]
  · intro j h1 h2
    have hj : j < B * C := by rwa [setRow_size] at h1
    have hC : 0 < C := Nat.pos_of_lt_mul_left hj
    have hm : j % C < C := Nat.mod_lt _ hC
    simp only [setRow, Array.getElem_ofFn]
    by_cases hb : j / C = b
    · rw [if_pos hb, dif_pos hm]
      subst hb
      have hjj : j / C * C + j % C = j := by rw [Nat.mul_comm]; exact Nat.div_add_mod j C
      simp only [rowOf, flatIdx_one, hjj]
      exact getD_of_lt h2 _
    · rw [if_neg hb]
      exact getD_of_lt h2 _

/-! ## 2. The per-element law of the additive and the affine element, both directions, at ANY layout `(Ft, S, b, t, s)`

The image-shaped layer reads them at pixel `s` of a channel, the 2-D layer at `S = 1, s = 0`. -/

theorem applyEl_law_of_affine_form (e : Float → ℝ) {q : ℝ → ElRes ℝ} {scale shift : ℝ} (hs : 0 < scale)
    (h : ∀ s, q s = .ok (s * scale + shift, Real.log scale, [])) (x : ℝ) :
    HasDerivAt (applyEl q) (Real.exp (ldOf (NF.realX e) (q x))) x := by
  have hf : applyEl q = fun s => s * scale + shift := by funext s; unfold applyEl; rw [h]
  rw [hf, h, show ldOf (NF.realX e) (.ok (x * scale + shift, Real.log scale, [])) = Real.log scale from rfl,
    Real.exp_log hs]
  simpa only [id_eq, one_mul] using ((hasDerivAt_id x).mul_const scale).add_const shift

theorem applyEl_law_of_affine_form_inv (e : Float → ℝ) {q : ℝ → ElRes ℝ} {scale shift : ℝ} (hs : 0 < scale)
    (h : ∀ s, q s = .ok ((s - shift) / scale, -Real.log scale, [])) (x : ℝ) :
    HasDerivAt (applyEl q) (Real.exp (ldOf (NF.realX e) (q x))) x := by
  have hf : applyEl q = fun s => (s - shift) / scale := by funext s; unfold applyEl; rw [h]
  rw [hf, h, show ldOf (NF.realX e) (.ok ((x - shift) / scale, -Real.log scale, [])) = -Real.log scale from rfl,
    Real.exp_neg, Real.exp_log hs]
  simpa only [id_eq, one_div] using ((hasDerivAt_id x).sub_const shift).div_const scale

/-- the additive element (`AdditiveCouplingTransform`, coupling.py:255-269) in closed form: `τ + shift[b, t, s]` -/
theorem couplingEl_additive (e : Float → ℝ) (c : ElCfg) (hk : c.kind = "additive") (Ft S : Nat) (params : Array ℝ)
    (b t s : Nat) (τ : ℝ) :
    couplingEl (NF.realX e) c Ft S params false b t s τ
      = .ok (τ * 1 + params.getD ((b * Ft + t) * S + s) 0, Real.log 1, []) := by
  rw [couplingEl_additive_eq _ c hk]
  simp only [scaleShiftT, Bool.false_eq_true, if_false, Except.map, realX_add, realX_mul, realX_log, realX_one, realX_zero]

theorem couplingEl_additive_inv (e : Float → ℝ) (c : ElCfg) (hk : c.kind = "additive") (Ft S : Nat) (params : Array ℝ)
    (b t s : Nat) (τ : ℝ) :
    couplingEl (NF.realX e) c Ft S params true b t s τ
      = .ok ((τ - params.getD ((b * Ft + t) * S + s) 0) / 1, -Real.log 1, []) := by
  rw [couplingEl_additive_eq _ c hk]
  simp only [scaleShiftT, if_true, Except.map, realX_sub, realX_div, realX_neg, realX_log, realX_one, realX_zero]

/-- the scale of the affine element: `sigmoid(u + 2) + 1e-3` (default) or `clamp(softplus(u) + 1e-3, 0, 3)` -/
noncomputable def affScale (e : Float → ℝ) (act : String) (u : ℝ) : ℝ :=
  if act == "general" then
    (NF.realX e).clamp (NF.realX e).zero ((NF.realX e).ofNat 3)
      ((NF.realX e).add ((NF.realX e).softplus u) ((NF.realX e).ofFloat 1e-3))
  else (NF.realX e).add ((NF.realX e).sigmoid ((NF.realX e).add u (NF.realX e).two)) ((NF.realX e).ofFloat 1e-3)

/-- the affine element (`AffineCouplingTransform`, coupling.py:212-252) in closed form:
    `τ * scale(u[b, Ft + t, s]) + shift[b, t, s]` -/
theorem couplingEl_affine (e : Float → ℝ) (c : ElCfg) (hk : c.kind = "affine") (Ft S : Nat) (params : Array ℝ)
    (b t s : Nat) (τ : ℝ) :
    couplingEl (NF.realX e) c Ft S params false b t s τ
      = .ok (τ * affScale e c.act (params.getD ((b * (2 * Ft) + (Ft + t)) * S + s) 0)
              + params.getD ((b * (2 * Ft) + t) * S + s) 0,
             Real.log (affScale e c.act (params.getD ((b * (2 * Ft) + (Ft + t)) * S + s) 0)), []) := by
  rw [← realX_zero e, couplingEl_affine_eq _ c hk]
  rfl

theorem couplingEl_affine_inv (e : Float → ℝ) (c : ElCfg) (hk : c.kind = "affine") (Ft S : Nat) (params : Array ℝ)
    (b t s : Nat) (τ : ℝ) :
    couplingEl (NF.realX e) c Ft S params true b t s τ
      = .ok ((τ - params.getD ((b * (2 * Ft) + t) * S + s) 0)
              / affScale e c.act (params.getD ((b * (2 * Ft) + (Ft + t)) * S + s) 0),
             -Real.log (affScale e c.act (params.getD ((b * (2 * Ft) + (Ft + t)) * S + s) 0)), []) := by
  rw [← realX_zero e, couplingEl_affine_eq _ c hk]
  rfl

theorem couplingEl_additive_hasDerivAt (e : Float → ℝ) (c : ElCfg) (hk : c.kind = "additive") (Ft S : Nat)
    (params : Array ℝ) (inverse : Bool) (b t s : Nat) (x : ℝ) :
    HasDerivAt (applyEl (couplingEl (NF.realX e) c Ft S params inverse b t s))
      (Real.exp (ldOf (NF.realX e) (couplingEl (NF.realX e) c Ft S params inverse b t s x))) x := by
  cases inverse
  · exact applyEl_law_of_affine_form e one_pos (couplingEl_additive e c hk Ft S params b t s) x
  · exact applyEl_law_of_affine_form_inv e one_pos (couplingEl_additive_inv e c hk Ft S params b t s) x

/-- affine element (both scale activations, both directions, any layout): the law holds for every parameter array at
    every real, as soon as the constant `1e-3` is read as a non-negative real -/
theorem couplingEl_affine_hasDerivAt (e : Float → ℝ) (he : 0 ≤ e 1e-3) (c : ElCfg) (hk : c.kind = "affine") (Ft S : Nat)
    (params : Array ℝ) (inverse : Bool) (b t s : Nat) (x : ℝ) :
    HasDerivAt (applyEl (couplingEl (NF.realX e) c Ft S params inverse b t s))
      (Real.exp (ldOf (NF.realX e) (couplingEl (NF.realX e) c Ft S params inverse b t s x))) x := by
  cases inverse
  · exact applyEl_law_of_affine_form e (affineScale_pos e he c.act _) (couplingEl_affine e c hk Ft S params b t s) x
  · exact applyEl_law_of_affine_form_inv e (affineScale_pos e he c.act _) (couplingEl_affine_inv e c hk Ft S params b t s) x

/-! ## 3. Differentiability of what a conditioner is built from -/

/-- `net z = A z + β`: every output entry is an affine function of the first `n` input entries (any output shape) -/
def AffineNet (n : ℕ) (net : Array ℝ → Array ℝ) : Prop :=
  ∃ (A : ℕ → ℕ → ℝ) (β : ℕ → ℝ), ∀ (z : Array ℝ) (k : ℕ),
    (net z).getD k 0 = (∑ j ∈ Finset.range n, A k j * z.getD j 0) + β k

theorem affineNet_ofFn (m n : ℕ) (A : Fin m → ℕ → ℝ) (β : Fin m → ℝ) :
    AffineNet n (fun z => Array.ofFn fun k : Fin m => (∑ j ∈ Finset.range n, A k j * z.getD j 0) + β k) := by
  refine ⟨fun k j => if h : k < m then A ⟨k, h⟩ j else 0, fun k => if h : k < m then β ⟨k, h⟩ else 0, ?_⟩
  intro z k
  by_cases hk : k < m
  · simp only [Array.getD, Array.size_ofFn, dif_pos hk, Array.getInternal_eq_getElem, Array.getElem_ofFn]
  · simp only [Array.getD, Array.size_ofFn, dif_neg hk, zero_mul, Finset.sum_const_zero, add_zero]

theorem ofFn_getD_differentiable_of {E : Type} [NormedAddCommGroup E] [NormedSpace ℝ E] {m : ℕ} (f : Fin m → E → ℝ)
    (hf : ∀ j, Differentiable ℝ (f j)) (k : ℕ) : Differentiable ℝ fun p : E => (Array.ofFn fun j => f j p).getD k 0 := by
  by_cases hk : k < m
  · rw [show (fun p : E => (Array.ofFn fun j => f j p).getD k 0) = f ⟨k, hk⟩ from
      funext fun p => by simp [Array.getD, hk]]
    exact hf _
  · rw [show (fun p : E => (Array.ofFn fun j => f j p).getD k 0) = fun _ => 0 from
      funext fun p => by simp [Array.getD, hk]]
    exact differentiable_const _

theorem ofFn_getD_differentiable {C : ℕ} (k : ℕ) : Differentiable ℝ fun v : Fin C → ℝ => (Array.ofFn v).getD k 0 :=
  ofFn_getD_differentiable_of (fun (j : Fin C) (v : Fin C → ℝ) => v j) (fun j => differentiable_apply j) k

theorem listArray_getD_differentiable {C : ℕ} (l : List ℕ) (g : ℕ → (Fin C → ℝ) → ℝ) (hg : ∀ ch, Differentiable ℝ (g ch))
    (j : ℕ) : Differentiable ℝ fun v => ((l.map fun ch => g ch v).toArray).getD j 0 := by
  by_cases hj : j < l.length
  · have h : (fun v => ((l.map fun ch => g ch v).toArray).getD j 0) = g l[j] := by
      funext v; simp [Array.getD, hj]
    rw [h]; exact hg _
  · have h : (fun v => ((l.map fun ch => g ch v).toArray).getD j 0) = fun _ => 0 := by
      funext v; simp [Array.getD, hj]
    rw [h]; exact differentiable_const _

theorem affScale_differentiable (e : Float → ℝ) {act : String} (hact : (act == "general") = false) :
    Differentiable ℝ (affScale e act) := by
  have h : affScale e act = fun u => 1 / (1 + Real.exp (-(u + 2))) + e 1e-3 := by
    funext u
    simp [affScale, hact, realX_sigmoid]
  rw [h]
  have hne : ∀ u : ℝ, 1 + Real.exp (-(u + 2)) ≠ 0 := fun u => by positivity
  exact ((differentiable_const (1 : ℝ)).div
    ((differentiable_const (1 : ℝ)).add (Real.differentiable_exp.comp ((differentiable_id.add_const 2).neg))) hne).add_const _

end NF.CouplingJacobian

namespace NF.CouplingJacobianImg
open NF.StructureExec NF.ARWhole NF.CouplingJacobian NF.CouplingConsequences NF.FlowRowsExec

/-! ## 4. Definitions -/

noncomputable def isTk (e : Float → ℝ) (mask : List ℝ) (S : Nat) (k : Nat) : Bool :=
  (NF.realX e).gt (mask.getD (k / S) (NF.realX e).zero) (NF.realX e).zero

/-- item `b` of a `[B, C, S]` array as a vector of `C·S` entries (NCHW order) -/
noncomputable def itemOf (e : Float → ℝ) (mask : List ℝ) (S b : Nat) (x : Array ℝ) : Fin (mask.length * S) → ℝ :=
  rowOf (NF.realX e) (mask.length * S) b x

/-- item `b` of the executed layer (conditioner in the loop, either pass, no unconditional transform) as a map
    `ℝ^{C·S} → ℝ^{C·S}`: the batch is `x` with item `b` replaced by `v` -/
noncomputable def itemMap (e : Float → ℝ) (c : ElCfg) (mask : List ℝ) (S : Nat) (inverse : Bool)
    (net : Array ℝ → Array ℝ → Array ℝ) (B : Nat) (x ctx : Array ℝ) (b : Nat)
    (v : Fin (mask.length * S) → ℝ) : Fin (mask.length * S) → ℝ :=
  itemOf e mask S b (layer (NF.realX e) c mask S inverse none #[] net B (setRow B (mask.length * S) x b v) ctx).out

noncomputable def entryEl (e : Float → ℝ) (c : ElCfg) (mask : List ℝ) (S : Nat) (params : Array ℝ) (inverse : Bool)
    (b k : Nat) : ℝ → ElRes ℝ :=
  couplingEl (NF.realX e) c (transformIdx (NF.realX e) mask).length S params inverse b
    ((transformIdx (NF.realX e) mask).idxOf (k / S)) (k % S)

/-- its value (buffer semantics: an element that raises leaves the input) -/
noncomputable def entryElMap (e : Float → ℝ) (c : ElCfg) (mask : List ℝ) (S : Nat) (params : Array ℝ) (inverse : Bool)
    (b k : Nat) (τ : ℝ) : ℝ := applyEl (entryEl e c mask S params inverse b k) τ

/-- the log-det it returns (zero if it raises) -/
noncomputable def entryElLd (e : Float → ℝ) (c : ElCfg) (mask : List ℝ) (S : Nat) (params : Array ℝ) (inverse : Bool)
    (b k : Nat) (τ : ℝ) : ℝ := ldOf (NF.realX e) (entryEl e c mask S params inverse b k τ)

theorem flatIdx_item (C S b k : Nat) : flatIdx C S b (k / S) (k % S) = b * (C * S) + k := by
  rw [flatIdx_row, Nat.div_add_mod' k S]

theorem div_lt_of_item {C S k : Nat} (hk : k < C * S) : k / S < C :=
  Nat.div_lt_of_lt_mul (by rwa [Nat.mul_comm] at hk)

theorem item_mod {S ch s : Nat} (hs : s < S) : (ch * S + s) % S = s :=
  RowMajor.mod ch hs

theorem isTk_iff_mem (e : Float → ℝ) (mask : List ℝ) (S : Nat) {k : Nat} (hk : k < mask.length * S) :
    isTk e mask S k = true ↔ k / S ∈ transformIdx (NF.realX e) mask := by
  simp only [isTk, transformIdx, List.mem_filter, List.mem_range]
  exact ⟨fun h => ⟨div_lt_of_item hk, h⟩, fun h => h.2⟩

theorem rowOf_item (e : Float → ℝ) (C S b : Nat) (x : Array ℝ) (k : Fin (C * S)) :
    rowOf (NF.realX e) (C * S) b x k = x.getD (flatIdx C S b (k.1 / S) (k.1 % S)) 0 := by
  unfold rowOf
  rw [flatIdx_one, flatIdx_item, realX_zero]

theorem setRow_item_getElem? (mask : List ℝ) (S B : Nat) (x : Array ℝ) (b : Nat) (v : Fin (mask.length * S) → ℝ)
    {b' : Nat} (hb' : b' < B) {k : Nat} (hk : k < mask.length * S) :
    (setRow B (mask.length * S) x b v)[flatIdx mask.length S b' (k / S) (k % S)]?
      = some (if b' = b then v ⟨k, hk⟩ else x.getD (b' * (mask.length * S) + k) 0) := by
  rw [flatIdx_item, setRow_getElem? B _ x b v hb' hk]

/-! ## 5. The item map entry by entry; the conditioner sees the identity entries only

An item is stated at a flat size `N` with `hN : mask.length * S = N`: image-shaped inputs are `hN := rfl` (`itemMap`,
`itemOf`), the 2-D layer of `Lemmas/CouplingJacobian.lean` is `S = 1` with `hN := Nat.mul_one _`. -/

theorem selOut_some (r : ElRes ℝ) (τ : ℝ) : selOut r (some τ) = some (applyEl (fun _ => r) τ) := by
  unfold selOut applyEl
  rcases r with er | ⟨y, l, al⟩ <;> rfl

/-- entry by entry: an identity entry returns its input, a transformed entry the element program of that entry at the
    parameters the conditioner returns for the batch -/
theorem item_apply (e : Float → ℝ) (c : ElCfg) (mask : List ℝ) (S : Nat) {N : Nat} (hN : mask.length * S = N)
    (inverse : Bool) (net : Array ℝ → Array ℝ → Array ℝ) {B : Nat} (x ctx : Array ℝ) {b : Nat} (hb : b < B)
    (v : Fin N → ℝ) (k : Fin N) :
    rowOf (NF.realX e) N b (layer (NF.realX e) c mask S inverse none #[] net B (setRow B N x b v) ctx).out k
      = if isTk e mask S k then
          entryElMap e c mask S (paramsOf (NF.realX e) mask S inverse none #[] net B (setRow B N x b v) ctx) inverse b k
            (v k)
        else v k := by
  subst hN
  have hS := Nat.pos_of_lt_mul_left k.2
  have hs : k.1 % S < S := Nat.mod_lt _ hS
  have hch : k.1 / S < mask.length := div_lt_of_item k.2
  have hin : (setRow B (mask.length * S) x b v)[flatIdx mask.length S b (k.1 / S) (k.1 % S)]? = some (v k) := by
    rw [setRow_item_getElem? mask S B x b v hb k.2, if_pos rfl]
  rw [rowOf_item, Array.getD_eq_getD_getElem?]
  unfold layer
  cases hT : isTk e mask S k with
  | false =>
    have hni : k.1 / S ∉ transformIdx (NF.realX e) mask := fun h => by
      rw [(isTk_iff_mem e mask S k.2).2 h] at hT; exact Bool.noConfusion hT
    rw [coupling_identity_passthrough (NF.realX e) c mask B S _ _ inverse #[] hch hs hni, hin]
    rfl
  | true =>
    have hmem := (isTk_iff_mem e mask S k.2).1 hT
    obtain ⟨ht, hgd⟩ := idxOf_transform (NF.realX e) mask hmem
    have h := coupling_out_transformed (NF.realX e) c mask B S (setRow B (mask.length * S) x b v)
      (paramsOf (NF.realX e) mask S inverse none #[] net B (setRow B (mask.length * S) x b v) ctx) inverse none #[]
      hb ht hs
    rw [hgd, couplingUncond_none, hin, Array.getD_eq_getD_getElem?, hin] at h
    rw [h]
    simp only [Option.getD_some, if_true]
    unfold entryElMap entryEl selOut applyEl
    cases couplingEl (NF.realX e) c (transformIdx (NF.realX e) mask).length S
      (paramsOf (NF.realX e) mask S inverse none #[] net B (setRow B (mask.length * S) x b v) ctx) inverse b
      ((transformIdx (NF.realX e) mask).idxOf (k.1 / S)) (k.1 % S) (v k) <;> rfl

/-- **the conditioner sees only the identity entries** (C07): two items that agree on the entries of the identity
    channels give the same parameter array -/
theorem paramsOf_setRow_congr (e : Float → ℝ) (mask : List ℝ) (S : Nat) {N : Nat} (hN : mask.length * S = N)
    (inverse : Bool) (net : Array ℝ → Array ℝ → Array ℝ) (B : Nat) (x ctx : Array ℝ) (b : Nat) (v v' : Fin N → ℝ)
    (h : ∀ k : Fin N, isTk e mask S k = false → v k = v' k) :
    paramsOf (NF.realX e) mask S inverse none #[] net B (setRow B N x b v) ctx
      = paramsOf (NF.realX e) mask S inverse none #[] net B (setRow B N x b v') ctx := by
  subst hN
  refine (exec_coupling_param_dependence (NF.realX e) { kind := "additive" } mask S inverse none #[] net ctx ?_).2.1
  intro b' ch s hb' hch hs
  have hlt := (identityIdx_ok (NF.realX e) mask).lt _ hch
  have hk : ch * S + s < mask.length * S := RowMajor.lt2 hlt hs
  have hni : ch ∉ transformIdx (NF.realX e) mask := maskDisjoint_real e mask ch hch
  have hT : isTk e mask S (ch * S + s) = false := by
    cases hT : isTk e mask S (ch * S + s) with
    | false => rfl
    | true =>
      have := (isTk_iff_mem e mask S hk).1 hT
      rw [RowMajor.div ch hs] at this
      exact absurd this hni
  rw [flatIdx_row, setRow_getElem? B _ x b v hb' hk, setRow_getElem? B _ x b v' hb' hk, h ⟨_, hk⟩ hT]

theorem itemMap_self (e : Float → ℝ) (c : ElCfg) (mask : List ℝ) (S : Nat) (inverse : Bool)
    (net : Array ℝ → Array ℝ → Array ℝ) (B : Nat) (x ctx : Array ℝ) (hx : x.size = B * (mask.length * S)) (b : Nat) :
    itemMap e c mask S inverse net B x ctx b (itemOf e mask S b x)
      = itemOf e mask S b (layer (NF.realX e) c mask S inverse none #[] net B x ctx).out := by
  unfold itemMap itemOf
  rw [setRow_rowOf e B _ x hx b]

/-- **dependency structure**: along any `v` that agrees with item `b` of `x` on the identity entries, transformed
    output `k` is the scalar element program AT THE PARAMETERS OF `x` applied to `v k` -/
theorem item_eq (e : Float → ℝ) (c : ElCfg) (mask : List ℝ) (S : Nat) {N : Nat} (hN : mask.length * S = N)
    (inverse : Bool) (net : Array ℝ → Array ℝ → Array ℝ) {B : Nat} (x ctx : Array ℝ) (hx : x.size = B * N) {b : Nat}
    (hb : b < B) (v : Fin N → ℝ) (hv : ∀ k : Fin N, isTk e mask S k = false → v k = rowOf (NF.realX e) N b x k)
    (k : Fin N) :
    rowOf (NF.realX e) N b (layer (NF.realX e) c mask S inverse none #[] net B (setRow B N x b v) ctx).out k
      = if isTk e mask S k then
          entryElMap e c mask S (paramsOf (NF.realX e) mask S inverse none #[] net B x ctx) inverse b k (v k)
        else v k := by
  rw [item_apply e c mask S hN inverse net x ctx hb, paramsOf_setRow_congr e mask S hN inverse net B x ctx b v _ hv,
    setRow_rowOf e B N x hx b]

/-! ## 6. `ld[b]` as the sum over the `C·S` entries of the item -/

theorem sum_item (C S : Nat) (H : Nat → Nat → ℝ) :
    ∑ k : Fin (C * S), H (k.1 / S) (k.1 % S) = ∑ i : Fin C, ∑ s : Fin S, H i s := by
  rw [← Fintype.sum_prod_type']
  symm
  apply Fintype.sum_equiv finProdFinEquiv
  rintro ⟨i, s⟩
  have h1 : (finProdFinEquiv (i, s)).1 = s.1 + S * i.1 := rfl
  have hS : 0 < S := by have := s.2; omega
  simp only [h1]
  rw [Nat.add_mul_div_left _ _ hS, Nat.div_eq_of_lt s.2, Nat.add_mul_mod_self_left, Nat.mod_eq_of_lt s.2, Nat.zero_add]

/-- **the returned log-det of item `b`** (reals, any `S`, any parameter array, either pass) as the double sum the
    implementation forms (`sum_except_batch` over channels and pixels): over
    the transformed channels `i` and the `S` pixels `s` of the element log-dets — element `(b, i, s)` is run on input
    entry `x[b, i, s]` with the parameter slice of pixel `s` of the channel's position `idxOf i` in the transform list;
    NO "nothing raised" hypothesis (`0` where an element raised) -/
theorem coupling_ld_channels_pixels (e : Float → ℝ) (c : ElCfg) (mask : List ℝ) (S : Nat) {B : Nat}
    (x params uparams : Array ℝ) (inverse : Bool) {b : Nat} (hb : b < B) :
    (couplingApply (NF.realX e) c mask B S x params inverse none uparams).ld[b]?
      = some (∑ i : Fin mask.length, ∑ s : Fin S, if isT (NF.realX e) mask i then
          ldOf (NF.realX e) (couplingEl (NF.realX e) c (transformIdx (NF.realX e) mask).length S params inverse b
            ((transformIdx (NF.realX e) mask).idxOf i.1) s.1 (x.getD (flatIdx mask.length S b i.1 s.1) 0))
          else 0) := by
  rw [coupling_ld_real_sum e c mask B S x params inverse none uparams hb, rowResults_none, List.map_map]
  congr 1
  refine (sum_rowIter_transformIdx e mask S fun t ch s => ldOf (NF.realX e)
    (couplingEl (NF.realX e) c (transformIdx (NF.realX e) mask).length S params inverse b t s
      (x.getD (flatIdx mask.length S b ch s) (NF.realX e).zero))).trans ?_
  rw [realX_zero]

/-- … and entry by entry: the sum over the `C·S` entries
    of the element log-dets of the entries of the transformed channels (`0` where an element raised) -/
theorem layer_ld_entries (e : Float → ℝ) (c : ElCfg) (mask : List ℝ) (S : Nat) {N : Nat} (hN : mask.length * S = N)
    (inverse : Bool) (net : Array ℝ → Array ℝ → Array ℝ) {B : Nat} (x ctx : Array ℝ) {b : Nat} (hb : b < B) :
    (layer (NF.realX e) c mask S inverse none #[] net B x ctx).ld[b]?
      = some (∑ k : Fin N, if isTk e mask S k then
          entryElLd e c mask S (paramsOf (NF.realX e) mask S inverse none #[] net B x ctx) inverse b k
            (rowOf (NF.realX e) N b x k) else 0) := by
  subst hN
  unfold layer
  rw [coupling_ld_channels_pixels e c mask S x _ #[] inverse hb]
  congr 1
  refine Eq.trans (sum_item mask.length S (fun ch s =>
    if (NF.realX e).gt (mask.getD ch (NF.realX e).zero) (NF.realX e).zero then
      ldOf (NF.realX e) (couplingEl (NF.realX e) c (transformIdx (NF.realX e) mask).length S
        (paramsOf (NF.realX e) mask S inverse none #[] net B x ctx) inverse b
        ((transformIdx (NF.realX e) mask).idxOf ch) s (x.getD (flatIdx mask.length S b ch s) 0))
    else 0)).symm ?_
  apply Finset.sum_congr rfl
  intro k _
  simp only [isTk, entryElLd, entryEl, rowOf_item]

/-! ## 7. C01: the Jacobian of the item map is triangular up to the permutation "identity entries first" -/

/-- the determinant of the Jacobian of the item map is the product of the element derivatives of the transformed entries -/
theorem coupling_item_det (e : Float → ℝ) (c : ElCfg) (mask : List ℝ) (S : Nat) {N : Nat} (hN : mask.length * S = N)
    (inverse : Bool) (net : Array ℝ → Array ℝ → Array ℝ) {B : Nat} (x ctx : Array ℝ) (hx : x.size = B * N) {b : Nat}
    (hb : b < B) {L : (Fin N → ℝ) →L[ℝ] (Fin N → ℝ)}
    (hL : HasFDerivAt (fun v => rowOf (NF.realX e) N b
        (layer (NF.realX e) c mask S inverse none #[] net B (setRow B N x b v) ctx).out) L (rowOf (NF.realX e) N b x))
    (d : Fin N → ℝ)
    (hdiag : ∀ k : Fin N, isTk e mask S k = true →
      HasDerivAt (entryElMap e c mask S (paramsOf (NF.realX e) mask S inverse none #[] net B x ctx) inverse b k) (d k)
        (rowOf (NF.realX e) N b x k)) :
    LinearMap.det (L : (Fin N → ℝ) →ₗ[ℝ] (Fin N → ℝ)) = ∏ k : Fin N, if isTk e mask S k then d k else 1 :=
  RankedDet.det_of_masked hL (fun k => isTk e mask S k) _
    (fun v k hk => by rw [item_apply e c mask S hN inverse net x ctx hb, hk]; rfl)
    (fun v hv k hk => by rw [item_eq e c mask S hN inverse net x ctx hx hb v hv, hk]; rfl) d hdiag

/-- **C01 (executed coupling layer, any item size)**: for ANY conditioner `net` (run on what the program hands it: the
    identity channels and the context), ANY mask, any `S`, either pass: if the item map (the `N = C·S` entries of batch
    element `b`, NCHW order, the rest of the batch held fixed) has Fréchet derivative `L` at item `b` of `x` and every entry
    of a transformed channel obeys the per-element law (derivative of the element program = `exp` of the log-det it
    returns), then entry `b` of the log-abs-det the executed layer returns is `l` with `|det L| = exp l` -/
theorem coupling_item_abs_det (e : Float → ℝ) (c : ElCfg) (mask : List ℝ) (S : Nat) {N : Nat}
    (hN : mask.length * S = N) (inverse : Bool) (net : Array ℝ → Array ℝ → Array ℝ) {B : Nat} (x ctx : Array ℝ)
    (hx : x.size = B * N) {b : Nat} (hb : b < B) {L : (Fin N → ℝ) →L[ℝ] (Fin N → ℝ)}
    (hL : HasFDerivAt (fun v => rowOf (NF.realX e) N b
        (layer (NF.realX e) c mask S inverse none #[] net B (setRow B N x b v) ctx).out) L (rowOf (NF.realX e) N b x))
    (hdiag : ∀ k : Fin N, isTk e mask S k = true →
      HasDerivAt (entryElMap e c mask S (paramsOf (NF.realX e) mask S inverse none #[] net B x ctx) inverse b k)
        (Real.exp (entryElLd e c mask S (paramsOf (NF.realX e) mask S inverse none #[] net B x ctx) inverse b k
          (rowOf (NF.realX e) N b x k)))
        (rowOf (NF.realX e) N b x k)) :
    ∃ l, (layer (NF.realX e) c mask S inverse none #[] net B x ctx).ld[b]? = some l ∧ |L.det| = Real.exp l :=
  ⟨_, layer_ld_entries e c mask S hN inverse net x ctx hb,
    RankedDet.abs_det_of_masked hL (fun k => isTk e mask S k) _
      (fun v k hk => by rw [item_apply e c mask S hN inverse net x ctx hb, hk]; rfl)
      (fun v hv k hk => by rw [item_eq e c mask S hN inverse net x ctx hx hb v hv, hk]; rfl) _ hdiag⟩

/-- the `log` form: `ld[b] = log |det J_b|` -/
theorem coupling_item_logdet (e : Float → ℝ) (c : ElCfg) (mask : List ℝ) (S : Nat) {N : Nat}
    (hN : mask.length * S = N) (inverse : Bool) (net : Array ℝ → Array ℝ → Array ℝ) {B : Nat} (x ctx : Array ℝ)
    (hx : x.size = B * N) {b : Nat} (hb : b < B) {L : (Fin N → ℝ) →L[ℝ] (Fin N → ℝ)}
    (hL : HasFDerivAt (fun v => rowOf (NF.realX e) N b
        (layer (NF.realX e) c mask S inverse none #[] net B (setRow B N x b v) ctx).out) L (rowOf (NF.realX e) N b x))
    (hdiag : ∀ k : Fin N, isTk e mask S k = true →
      HasDerivAt (entryElMap e c mask S (paramsOf (NF.realX e) mask S inverse none #[] net B x ctx) inverse b k)
        (Real.exp (entryElLd e c mask S (paramsOf (NF.realX e) mask S inverse none #[] net B x ctx) inverse b k
          (rowOf (NF.realX e) N b x k)))
        (rowOf (NF.realX e) N b x k)) :
    (layer (NF.realX e) c mask S inverse none #[] net B x ctx).ld[b]?
      = some (Real.log |LinearMap.det (L : (Fin N → ℝ) →ₗ[ℝ] (Fin N → ℝ))|) := by
  obtain ⟨l, hl, hdet⟩ := coupling_item_abs_det e c mask S hN inverse net x ctx hx hb hL hdiag
  rw [hl]
  rw [ContinuousLinearMap.det] at hdet
  rw [hdet, Real.log_exp]

/-! ## 8. The per-entry law discharged: additive, affine, RQ with linear tails (any `S`, either pass) -/

theorem entryElMap_additive_hasDerivAt (e : Float → ℝ) (c : ElCfg) (hk : c.kind = "additive") (mask : List ℝ) (S : Nat)
    (params : Array ℝ) (inverse : Bool) (b k : Nat) (x : ℝ) :
    HasDerivAt (entryElMap e c mask S params inverse b k) (Real.exp (entryElLd e c mask S params inverse b k x)) x :=
  couplingEl_additive_hasDerivAt e c hk _ S params inverse b _ _ x

/-- affine coupling (both scale activations, both directions): the law holds for every parameter array at every real,
    every entry, as soon as the constant `1e-3` is read as a non-negative real -/
theorem entryElMap_affine_hasDerivAt (e : Float → ℝ) (he : 0 ≤ e 1e-3) (c : ElCfg) (hk : c.kind = "affine")
    (mask : List ℝ) (S : Nat) (params : Array ℝ) (inverse : Bool) (b k : Nat) (x : ℝ) :
    HasDerivAt (entryElMap e c mask S params inverse b k) (Real.exp (entryElLd e c mask S params inverse b k x)) x :=
  couplingEl_affine_hasDerivAt e he c hk _ S params inverse b _ _ x

/-- the RQ element with linear tails never raises: the buffer semantics `applyEl` is `outOf` -/
theorem entryElMap_rq_tails (e : Float → ℝ) (c : ElCfg) (hc : RQTailsCfgValid e c) (mask : List ℝ) (S : Nat)
    (params : Array ℝ) (inverse : Bool) (b k : Nat) :
    entryElMap e c mask S params inverse b k
      = fun z => outOf (NF.realX e) (entryEl e c mask S params inverse b k z) := by
  have hk1 : c.kind ≠ "affine" := by rw [hc.hk]; decide
  have hk2 : c.kind ≠ "additive" := by rw [hc.hk]; decide
  funext z
  have hv := rqTailsSliceValid_of_cfg hc (condSlice (NF.realX e) c.mult (transformIdx (NF.realX e) mask).length S params b
    ((transformIdx (NF.realX e) mask).idxOf (k / S)) (k % S)) (by rw [condSlice_length, mult_rq_tails hc.hk hc.ht])
  unfold entryElMap entryEl applyEl
  rw [couplingEl_spline (NF.realX e) c S params inverse hk1 hk2]
  cases inverse
  · rw [(rqTails_el_total e c hc.hk hc.ht _ hv z).1]; rfl
  · rw [(rqTails_el_total e c hc.hk hc.ht _ hv z).2]; rfl

/-- RQ coupling with linear tails: the law holds for every parameter array at EVERY real (knots included), every entry,
    both directions -/
theorem entryElMap_rq_tails_hasDerivAt (e : Float → ℝ) (c : ElCfg) (hc : RQTailsCfgValid e c)
    (hp : TailsWhole.PadExact e (tMD c) (tBe c)) (mask : List ℝ) (S : Nat) (params : Array ℝ) (inverse : Bool)
    (b k : Nat) (x : ℝ) :
    HasDerivAt (entryElMap e c mask S params inverse b k) (Real.exp (entryElLd e c mask S params inverse b k x)) x := by
  rw [entryElMap_rq_tails e c hc]
  exact couplingEl_rq_tails_hasDerivAt e c hc hp _ S params inverse b _ _ x

/-! ## 9. The differentiability hypothesis `hL` reduces to the conditioner (additive / affine), and is satisfiable -/

def ParamsDiff (e : Float → ℝ) (mask : List ℝ) (S : Nat) (inverse : Bool) (net : Array ℝ → Array ℝ → Array ℝ)
    (B : Nat) (x ctx : Array ℝ) (b : Nat) : Prop :=
  ∀ j, Differentiable ℝ fun v : Fin (mask.length * S) → ℝ =>
    (paramsOf (NF.realX e) mask S inverse none #[] net B (setRow B (mask.length * S) x b v) ctx).getD j 0

theorem paramsDiff_const (e : Float → ℝ) (mask : List ℝ) (S : Nat) (inverse : Bool) (params : Array ℝ)
    (B : Nat) (x ctx : Array ℝ) (b : Nat) : ParamsDiff e mask S inverse (fun _ _ => params) B x ctx b := by
  intro j
  unfold paramsOf
  exact differentiable_const _

theorem entryElMap_additive (e : Float → ℝ) (c : ElCfg) (hk : c.kind = "additive") (mask : List ℝ) (S : Nat)
    (params : Array ℝ) (b k : Nat) (τ : ℝ) :
    entryElMap e c mask S params false b k τ
      = τ * 1 + params.getD ((b * (transformIdx (NF.realX e) mask).length
          + (transformIdx (NF.realX e) mask).idxOf (k / S)) * S + k % S) 0 := by
  unfold entryElMap applyEl entryEl
  rw [couplingEl_additive e c hk]

theorem entryElMap_additive_inv (e : Float → ℝ) (c : ElCfg) (hk : c.kind = "additive") (mask : List ℝ) (S : Nat)
    (params : Array ℝ) (b k : Nat) (τ : ℝ) :
    entryElMap e c mask S params true b k τ
      = (τ - params.getD ((b * (transformIdx (NF.realX e) mask).length
          + (transformIdx (NF.realX e) mask).idxOf (k / S)) * S + k % S) 0) / 1 := by
  unfold entryElMap applyEl entryEl
  rw [couplingEl_additive_inv e c hk]

/-- the item map is differentiable as soon as every transformed entry is, as a function of the whole item (the
    conditioner's parameters move with the identity entries) -/
theorem item_differentiable_of (e : Float → ℝ) (c : ElCfg) (mask : List ℝ) (S : Nat) {N : Nat} (hN : mask.length * S = N)
    (inverse : Bool) (net : Array ℝ → Array ℝ → Array ℝ) {B : Nat} (x ctx : Array ℝ) {b : Nat} (hb : b < B)
    (h : ∀ k : Fin N, isTk e mask S k = true →
      Differentiable ℝ fun v : Fin N → ℝ =>
        entryElMap e c mask S (paramsOf (NF.realX e) mask S inverse none #[] net B (setRow B N x b v) ctx) inverse b k
          (v k)) :
    Differentiable ℝ fun v : Fin N → ℝ =>
      rowOf (NF.realX e) N b (layer (NF.realX e) c mask S inverse none #[] net B (setRow B N x b v) ctx).out := by
  rw [differentiable_pi]
  intro k
  rw [show (fun v : Fin N → ℝ =>
      rowOf (NF.realX e) N b (layer (NF.realX e) c mask S inverse none #[] net B (setRow B N x b v) ctx).out k) = _ from
    funext fun v => item_apply e c mask S hN inverse net x ctx hb v k]
  by_cases hk : isTk e mask S k = true
  · simp only [if_pos hk]; exact h k hk
  · simp only [if_neg hk]; exact differentiable_apply k

/-- **additive coupling (NICE): the item map is differentiable as soon as the conditioner is entry-wise differentiable** —
    any mask, any `S`, either pass -/
theorem item_differentiable_additive (e : Float → ℝ) (c : ElCfg) (hk : c.kind = "additive") (mask : List ℝ) (S : Nat)
    {N : Nat} (hN : mask.length * S = N) (inverse : Bool) (net : Array ℝ → Array ℝ → Array ℝ) {B : Nat}
    (x ctx : Array ℝ) {b : Nat} (hb : b < B)
    (hnet : ∀ j, Differentiable ℝ fun v : Fin N → ℝ =>
      (paramsOf (NF.realX e) mask S inverse none #[] net B (setRow B N x b v) ctx).getD j 0) :
    Differentiable ℝ fun v : Fin N → ℝ =>
      rowOf (NF.realX e) N b (layer (NF.realX e) c mask S inverse none #[] net B (setRow B N x b v) ctx).out := by
  refine item_differentiable_of e c mask S hN inverse net x ctx hb fun k _ => ?_
  have hk' : Differentiable ℝ fun v : Fin N → ℝ => v k := differentiable_apply k
  cases inverse
  · simp only [entryElMap_additive e c hk]
    exact (hk'.mul_const 1).add (hnet _)
  · simp only [entryElMap_additive_inv e c hk, div_one]
    exact hk'.fun_sub (hnet _)

theorem entryElMap_affine (e : Float → ℝ) (c : ElCfg) (hk : c.kind = "affine") (mask : List ℝ) (S : Nat)
    (params : Array ℝ) (b k : Nat) (τ : ℝ) :
    entryElMap e c mask S params false b k τ
      = τ * affScale e c.act (params.getD ((b * (2 * (transformIdx (NF.realX e) mask).length)
            + ((transformIdx (NF.realX e) mask).length + (transformIdx (NF.realX e) mask).idxOf (k / S))) * S + k % S) 0)
        + params.getD ((b * (2 * (transformIdx (NF.realX e) mask).length)
            + (transformIdx (NF.realX e) mask).idxOf (k / S)) * S + k % S) 0 := by
  unfold entryElMap applyEl entryEl
  rw [couplingEl_affine e c hk]

theorem entryElMap_affine_inv (e : Float → ℝ) (c : ElCfg) (hk : c.kind = "affine") (mask : List ℝ) (S : Nat)
    (params : Array ℝ) (b k : Nat) (τ : ℝ) :
    entryElMap e c mask S params true b k τ
      = (τ - params.getD ((b * (2 * (transformIdx (NF.realX e) mask).length)
            + (transformIdx (NF.realX e) mask).idxOf (k / S)) * S + k % S) 0)
        / affScale e c.act (params.getD ((b * (2 * (transformIdx (NF.realX e) mask).length)
            + ((transformIdx (NF.realX e) mask).length + (transformIdx (NF.realX e) mask).idxOf (k / S))) * S + k % S) 0) := by
  unfold entryElMap applyEl entryEl
  rw [couplingEl_affine_inv e c hk]

/-- **affine coupling (RealNVP, default scale activation): the item map is differentiable as soon as the conditioner is
    entry-wise differentiable** — any mask, any `S`, either pass -/
theorem item_differentiable_affine (e : Float → ℝ) (he : 0 ≤ e 1e-3) (c : ElCfg) (hk : c.kind = "affine")
    (hact : (c.act == "general") = false) (mask : List ℝ) (S : Nat) {N : Nat} (hN : mask.length * S = N)
    (inverse : Bool) (net : Array ℝ → Array ℝ → Array ℝ) {B : Nat} (x ctx : Array ℝ) {b : Nat} (hb : b < B)
    (hnet : ∀ j, Differentiable ℝ fun v : Fin N → ℝ =>
      (paramsOf (NF.realX e) mask S inverse none #[] net B (setRow B N x b v) ctx).getD j 0) :
    Differentiable ℝ fun v : Fin N → ℝ =>
      rowOf (NF.realX e) N b (layer (NF.realX e) c mask S inverse none #[] net B (setRow B N x b v) ctx).out := by
  refine item_differentiable_of e c mask S hN inverse net x ctx hb fun k _ => ?_
  have hk' : Differentiable ℝ fun v : Fin N → ℝ => v k := differentiable_apply k
  cases inverse
  · simp only [entryElMap_affine e c hk]
    exact (hk'.mul ((affScale_differentiable e hact).comp (hnet _))).add (hnet _)
  · simp only [entryElMap_affine_inv e c hk, div_eq_mul_inv]
    exact (hk'.fun_sub (hnet _)).mul
      (((affScale_differentiable e hact).comp (hnet _)).inv fun v => (affineScale_pos e he c.act _).ne')

/-- every family with the law everywhere (RQ with linear tails included), constant conditioner: the item map is
    differentiable -/
theorem item_differentiable_const (e : Float → ℝ) (c : ElCfg) (mask : List ℝ) (S : Nat) {N : Nat}
    (hN : mask.length * S = N) (inverse : Bool) (params : Array ℝ) {B : Nat} (x ctx : Array ℝ) {b : Nat} (hb : b < B)
    (hlaw : ∀ k : Fin N, isTk e mask S k = true → ∀ τ, HasDerivAt (entryElMap e c mask S params inverse b k)
      (Real.exp (entryElLd e c mask S params inverse b k τ)) τ) :
    Differentiable ℝ fun v : Fin N → ℝ =>
      rowOf (NF.realX e) N b
        (layer (NF.realX e) c mask S inverse none #[] (fun _ _ => params) B (setRow B N x b v) ctx).out :=
  item_differentiable_of e c mask S hN inverse _ x ctx hb fun k hk =>
    (show Differentiable ℝ (entryElMap e c mask S params inverse b k) from
      fun τ => (hlaw k hk τ).differentiableAt).comp (differentiable_apply k)

/-! ## 10. Non-constant conditioners: every AFFINE conditioner (e.g. a convolution plus bias) is entry-wise differentiable -/

theorem setRow_getD_differentiable (B n : Nat) (x : Array ℝ) (b m : Nat) :
    Differentiable ℝ fun v : Fin n → ℝ => (setRow B n x b v).getD m 0 := by
  unfold setRow
  refine ofFn_getD_differentiable_of _ (fun j => ?_) m
  by_cases h1 : j.1 / n = b
  · simp only [h1, if_true]
    by_cases h2 : j.1 % n < n
    · simp only [h2, dite_true]; exact differentiable_apply _
    · simp only [h2, dite_false]; exact differentiable_const _
  · simp only [h1, if_false]; exact differentiable_const _

theorem gatherCh_eq_map (x : Array ℝ) (B C S : Nat) (idx : List Nat) (d : ℝ) :
    gatherCh x B C S idx d
      = (((List.range B).flatMap fun b => idx.flatMap fun ch => (List.range S).map fun s => flatIdx C S b ch s).map
          fun m => x.getD m d).toArray := by
  unfold gatherCh
  congr 1
  simp only [List.map_flatMap, List.map_map]
  rfl

theorem condInOf_entry_differentiable (e : Float → ℝ) (mask : List ℝ) (S N : Nat) (inverse : Bool) (B : Nat)
    (x : Array ℝ) (b j : Nat) :
    Differentiable ℝ fun v : Fin N → ℝ =>
      (condInOf (NF.realX e) mask S inverse none #[] B (setRow B N x b v)).getD j 0 := by
  have h : ∀ x' : Array ℝ, condInOf (NF.realX e) mask S inverse none #[] B x'
      = gatherCh x' B mask.length S (identityIdx (NF.realX e) mask) 0 := by
    intro x'
    unfold condInOf
    rw [couplingUncond_none, realX_zero]
    simp
  simp only [h, gatherCh_eq_map]
  exact listArray_getD_differentiable _ (fun m v => (setRow B N x b v).getD m 0)
    (fun m => setRow_getD_differentiable B _ x b m) j

def AffineNetAt (n : ℕ) (net : Array ℝ → Array ℝ → Array ℝ) (ctx : Array ℝ) : Prop :=
  ∃ (A : ℕ → ℕ → ℝ) (β : ℕ → ℝ), ∀ (z : Array ℝ) (k : ℕ),
    (net z ctx).getD k 0 = (∑ j ∈ Finset.range n, A k j * z.getD j 0) + β k

theorem paramsOf_affineNet_differentiable (e : Float → ℝ) (mask : List ℝ) (S N : Nat) (inverse : Bool) {n : ℕ}
    {net : Array ℝ → Array ℝ → Array ℝ} (B : Nat) (x ctx : Array ℝ) (b : Nat) (hnet : AffineNetAt n net ctx) (k : ℕ) :
    Differentiable ℝ fun v : Fin N → ℝ =>
      (paramsOf (NF.realX e) mask S inverse none #[] net B (setRow B N x b v) ctx).getD k 0 := by
  obtain ⟨A, β, h⟩ := hnet
  unfold paramsOf
  simp only [h]
  exact (Differentiable.fun_sum fun j _ =>
    (condInOf_entry_differentiable e mask S N inverse B x b j).const_mul (A k j)).add (differentiable_const _)

/-! ## 11. Concrete instances -/

/-- mask `[0, 1]`, `S = 2` (a `[B, 2, 2]` input): entries 0, 1 (channel 0) are identity entries, 2, 3 are transformed -/
example (e : Float → ℝ) : isTk e [0, 1] 2 0 = false ∧ isTk e [0, 1] 2 1 = false ∧ isTk e [0, 1] 2 2 = true
    ∧ isTk e [0, 1] 2 3 = true := by
  simp [isTk, XOps.gt, realX_lt, realX_zero]

/-- a non-constant conditioner for mask `[0, 1]`, `S = 2`, affine family, `B = 1`: the parameters `[1, 2, 2]`
    (shift, unconstrained scale for the two pixels of channel 1) from the identity split `z = [x₀₀, x₀₁]` -/
noncomputable def toyNet : Array ℝ → Array ℝ → Array ℝ := fun z ctx =>
  Array.ofFn fun k : Fin 4 => (∑ j ∈ Finset.range 2, (if (k.1 + j) % 2 = 0 then 1 else 2) * z.getD j 0) + ctx.getD k.1 0

theorem toyNet_affine (ctx : Array ℝ) : AffineNetAt 2 toyNet ctx :=
  affineNet_ofFn 4 2 (fun k j => if (k.1 + j) % 2 = 0 then 1 else 2) (fun k => ctx.getD k.1 0)

/-- **end to end, `S = 2`, two channels**: RealNVP coupling layer with mask `[0, 1]` on a `[1, 2, 2]` input, the
    non-constant conditioner `toyNet`, either pass, ANY input and context: the returned log-abs-det is `log |det|` of the
    4 × 4 Jacobian of the executed item map -/
example (e : Float → ℝ) (he : 0 ≤ e 1e-3) (inverse : Bool) (x ctx : Array ℝ) (hx : x.size = 4) :
    (layer (NF.realX e) { kind := "affine" } [0, 1] 2 inverse none #[] toyNet 1 x ctx).ld[0]?
      = some (Real.log |LinearMap.det
          (fderiv ℝ (itemMap e { kind := "affine" } [0, 1] 2 inverse toyNet 1 x ctx 0) (itemOf e [0, 1] 2 0 x)
            : (Fin ([0, 1].length * 2) → ℝ) →ₗ[ℝ] (Fin ([0, 1].length * 2) → ℝ))|) :=
  coupling_item_logdet e { kind := "affine" } [0, 1] 2 rfl inverse toyNet x ctx (by rw [hx]; rfl) (by decide)
    ((item_differentiable_affine e he { kind := "affine" } rfl (by decide) [0, 1] 2 rfl inverse toyNet x ctx (by decide)
      (paramsOf_affineNet_differentiable e [0, 1] 2 _ inverse 1 x ctx 0 (toyNet_affine ctx))) _).hasFDerivAt
    fun k _ => entryElMap_affine_hasDerivAt e he { kind := "affine" } rfl [0, 1] 2 _ inverse 0 k _

/-! ## 12. The additive layer is volume preserving -/

/-- **additive coupling on `[B, C, S]` inputs is volume preserving**: the Jacobian determinant of the item map is `1`,
    any conditioner, any mask, either pass -/
theorem coupling_additive_item_det_one_img (e : Float → ℝ) (c : ElCfg) (hk : c.kind = "additive") (mask : List ℝ)
    (S : Nat) (inverse : Bool) (net : Array ℝ → Array ℝ → Array ℝ) {B : Nat} (x ctx : Array ℝ)
    (hx : x.size = B * (mask.length * S)) {b : Nat} (hb : b < B)
    {L : (Fin (mask.length * S) → ℝ) →L[ℝ] (Fin (mask.length * S) → ℝ)}
    (hL : HasFDerivAt (itemMap e c mask S inverse net B x ctx b) L (itemOf e mask S b x)) :
    LinearMap.det (L : (Fin (mask.length * S) → ℝ) →ₗ[ℝ] (Fin (mask.length * S) → ℝ)) = 1 := by
  -- the element law with log-det `log 1` (forward) / `-log 1` (inverse)
  have hd : ∀ k : Fin (mask.length * S),
      HasDerivAt (entryElMap e c mask S (paramsOf (NF.realX e) mask S inverse none #[] net B x ctx) inverse b k) 1
        (itemOf e mask S b x k) := by
    intro k
    have h := entryElMap_additive_hasDerivAt e c hk mask S
      (paramsOf (NF.realX e) mask S inverse none #[] net B x ctx) inverse b k (itemOf e mask S b x k)
    unfold entryElLd entryEl at h
    cases inverse
    · rwa [couplingEl_additive e c hk, show ldOf (NF.realX e) (.ok (_, Real.log 1, [])) = Real.log 1 from rfl,
        Real.log_one, Real.exp_zero] at h
    · rwa [couplingEl_additive_inv e c hk, show ldOf (NF.realX e) (.ok (_, -Real.log 1, [])) = -Real.log 1 from rfl,
        Real.log_one, neg_zero, Real.exp_zero] at h
  rw [coupling_item_det e c mask S rfl inverse net x ctx hx hb hL (fun _ => 1) (fun k _ => hd k)]
  exact Finset.prod_eq_one fun k _ => ite_self 1

end NF.CouplingJacobianImg
