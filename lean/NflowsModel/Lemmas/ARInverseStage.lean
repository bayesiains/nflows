import NflowsModel.Lemmas.ARWhole
import NflowsModel.Lemmas.StageMore
/-!
# Lemmas/ARInverseStage — the `F`-pass inverse loop of the autoregressive transform: exactness (C06 ⇒ C02), as a row-wise
batch stage (C12), its round-trip law and the sampling/log_prob pairing (C04), and its log-det as a Jacobian (C01)

`Lemmas/ARWhole.lean` models `AutoregressiveTransform.inverse` (autoregressive.py:43-52) as the executed loop `arInverse` /
`arIter`.  Here: exactness after `F` passes and its sharpness (one pass is not enough); the loop as a row-wise
`FlowRowsExec.BStage` (`0 < F` is forced: with no feature the loop returns no log-det); the round-trip law with the forward
stage and the C04 pairing; the returned log-det as `log |det|` of the derivative of the inverse row map (one-row batch).
Not covered: the Jacobian statement for the RQ-with-linear-tails family; the quadratic / cubic / linear element families in
the round-trip and Jacobian statements (only the generic forms with the hypothesis `ArElInvertibleRev` apply); the Jacobian
statement for a batch of several rows with a conditioner that couples the rows.
-/
open NF NF.StructureExec NF.RowErr NF.FlowRowsExec NF.StageMore NF.ARWhole

namespace NF.ARInverseStage
variable {α : Type}

/-! ## 1. C06 ⇒ "the inverse is exact after one pass per feature" -/

/-- **C06's consequence, any scalar type.**  For a strictly autoregressive conditioner (`AutoregNet`; every MADE by
    `Properties.C06.made_is_autoreg_conditioner`) and elements that invert on the forward parameters: with `y = forward x`,
    after `F` passes of the executed loop from zeros the result `r` (i) IS `x`, (ii) satisfies `forward r = y` exactly with no
    exception, (iii) after pass `k` the first `k` features of every row are final, (iv) the last pass raises nothing and (v) for
    `F ≥ 1` the returned log-det of row `b` is the fold of the NEGATED element log-derivatives of the forward pass at `r`. -/
theorem ar_inverse_exact_after_F_passes (o : XOps α) (c : ElCfg) (B F : Nat) (net : Array α → Array α) (x : Array α)
    (hnet : AutoregNet B F (pw c) net) (hinv : ArElInvertible o c F (net x) B)
    (herr : (arForward o c B F net x).err = none) (hx : x.size = B * F) :
    let y := (arForward o c B F net x).out
    let r := arInverse o c B F net y
    r.out = x
      ∧ (arForward o c B F net r.out).out = y ∧ (arForward o c B F net r.out).err = none
      ∧ (∀ k, AgreeBelow B F k (arIter o c B F net y k).out x)
      ∧ (arApply o c B F y (net (arIter o c B F net y (F - 1)).out) true).err = none
      ∧ (0 < F → ∀ b, b < B →
          (arForward o c B F net r.out).ld[b]?
            = some ((List.range F).foldl (fun acc i => o.add acc (ldOf o (arEl o c F r.out (net r.out) false b i))) o.zero)
          ∧ r.ld[b]? = some ((List.range F).foldl
              (fun acc i => o.add acc (o.neg (ldOf o (arEl o c F r.out (net r.out) false b i)))) o.zero)) := by
  intro y r
  have h1 : r.out = x := ar_inverse_forward o c B F net x hnet hinv herr hx
  refine ⟨h1, by rw [h1], by rw [h1]; exact herr, arIter_prefix o c B F net x hnet hinv herr hx,
    ar_inverse_last_pass_ok o c B F net x hnet hinv herr hx, ?_⟩
  intro hF b hb
  rw [h1]
  exact ar_inverse_forward_ld o c B F net x hnet hinv herr hx hF hb

/-- **over the reals**: the returned log-det is minus the forward log-det at the result -/
theorem ar_inverse_exact_after_F_passes_real (e : Float → ℝ) (c : ElCfg) (B F : Nat) (net : Array ℝ → Array ℝ)
    (x : Array ℝ) (hnet : AutoregNet B F (pw c) net) (hinv : ArElInvertible (NF.realX e) c F (net x) B)
    (herr : (arForward (NF.realX e) c B F net x).err = none) (hx : x.size = B * F) :
    let y := (arForward (NF.realX e) c B F net x).out
    let r := arInverse (NF.realX e) c B F net y
    r.out = x
      ∧ (arForward (NF.realX e) c B F net r.out).out = y ∧ (arForward (NF.realX e) c B F net r.out).err = none
      ∧ (∀ k, AgreeBelow B F k (arIter (NF.realX e) c B F net y k).out x)
      ∧ (0 < F → ∀ b, b < B → r.ld[b]? = ((arForward (NF.realX e) c B F net r.out).ld[b]?).map (fun l => -l)) := by
  intro y r
  obtain ⟨h1, h2, _, h4⟩ := ar_inverse_forward_real e c B F net x hnet hinv herr hx
  have h1' : r.out = x := h1
  refine ⟨h1', by rw [h1'], by rw [h1']; exact herr, h2, ?_⟩
  intro hF b hb
  rw [h1']
  exact h4 hF b hb

theorem arInverse_ld_length (o : XOps α) (c : ElCfg) (B : Nat) {F : Nat} (hF : 0 < F) (net : Array α → Array α)
    (y : Array α) : (arInverse o c B F net y).ld.length = B := by
  obtain ⟨k, rfl⟩ : ∃ k, F = k + 1 := ⟨F - 1, by omega⟩
  rw [arInverse_eq_iter, arIter_succ, arPass_ld, arApply]
  exact elemwise_ld_length o B (k + 1) _

/-- **any input `y`** (not assumed to be a forward output): if no pass of the loop raised and the elements invert in the
    order inverse-then-forward, the result `r` of the `F` passes satisfies `forward r = y` exactly and the returned log-det is
    minus the forward log-det at `r`. -/
theorem ar_inverse_exact_any_input_real (e : Float → ℝ) (c : ElCfg) (B F : Nat) (net : Array ℝ → Array ℝ) (y : Array ℝ)
    (hnet : AutoregNet B F (pw c) net) (hy : y.size = B * F)
    (herr : (arInverse (NF.realX e) c B F net y).err = none)
    (hrev : ArElInvertibleRev (NF.realX e) c F (net (arInverse (NF.realX e) c B F net y).out) B) :
    let r := arInverse (NF.realX e) c B F net y
    (arForward (NF.realX e) c B F net r.out).out = y ∧ (arForward (NF.realX e) c B F net r.out).err = none
      ∧ (0 < F → ∀ b, b < B → r.ld[b]? = ((arForward (NF.realX e) c B F net r.out).ld[b]?).map (fun l => -l)) := by
  intro r
  obtain ⟨h1, h2, h3⟩ := ar_forward_inverse_real e c B F net y hnet hy herr hrev
  refine ⟨h1, h2, ?_⟩
  intro hF b hb
  have h := h3 hF b hb
  have hb' : b < (arInverse (NF.realX e) c B F net y).ld.length := by rwa [arInverse_ld_length _ c B hF]
  show (arInverse (NF.realX e) c B F net y).ld[b]? = _
  rw [h, List.getElem?_eq_getElem hb']
  simp

/-- **C06 ⇒ exact inverse, for every MADE** (`Made.build` accepts the architecture; multiplier = parameter count of the element
    family): `Properties.C06.made_is_autoreg_conditioner` discharges `AutoregNet`, so for every weight / bias / context / activation
    / batch-norm / dropout assignment and every batch size the `F`-pass loop is exact. -/
theorem made_ar_inverse_exact_after_F_passes (e : Float → ℝ) (c : ElCfg) (a : Made.Arch) (n : Made.Net)
    (hbuild : Made.build a = .ok n) (hmult : a.mult = pw c) (W : ℕ → ℕ → ℕ → ℝ) (bias : ℕ → ℕ → ℝ) (B : Nat)
    (ctxv : ℕ → ℕ → Fin B → ℝ) (g : ℕ → Made.Slot → ℕ → (Fin B → ℝ) → Fin B → ℝ) (x : Array ℝ) (hx : x.size = B * a.F)
    (hinv : ArElInvertible (NF.realX e) c a.F (madeNet n W bias B ctxv g x) B)
    (herr : (arForward (NF.realX e) c B a.F (madeNet n W bias B ctxv g) x).err = none) :
    let net := madeNet n W bias B ctxv g
    let y := (arForward (NF.realX e) c B a.F net x).out
    let r := arInverse (NF.realX e) c B a.F net y
    r.out = x
      ∧ (arForward (NF.realX e) c B a.F net r.out).out = y ∧ (arForward (NF.realX e) c B a.F net r.out).err = none
      ∧ (∀ k, AgreeBelow B a.F k (arIter (NF.realX e) c B a.F net y k).out x)
      ∧ (∀ b, b < B → r.ld[b]? = ((arForward (NF.realX e) c B a.F net r.out).ld[b]?).map (fun l => -l)) := by
  obtain ⟨hF, hnet⟩ := madeNet_autoreg_of_build hbuild hmult W bias B ctxv g
  intro net y r
  obtain ⟨h1, h2, h3, h4, h5⟩ := ar_inverse_exact_after_F_passes_real e c B a.F _ x hnet hinv herr hx
  exact ⟨h1, h2, h3, h4, h5 hF⟩

/-! ### sharpness: fewer than `F` passes do not suffice -/

def cA : ElCfg := { container := "ar", kind := "araffine" }

/-- every double read as `0` (so the `eps` added to the scale is `0 ≥ 0`) -/
def e0 : Float → ℝ := fun _ => 0

/-- a 2-feature autoregressive conditioner on one row: both raw scales are `21` (`softplus 21 = 21`), the shift of feature `0`
    is `0`, the shift of feature `1` is the value of feature `0` -/
def sharpNet : Array ℝ → Array ℝ := fun z => #[21, 0, 21, z.getD 0 0]

theorem sharpNet_autoreg : AutoregNet 1 2 2 sharpNet := by
  intro x x' i _ _ hi hag b k hb hk
  obtain rfl : b = 0 := by omega
  have hi' : i = 0 ∨ i = 1 := by omega
  have hk' : k = 0 ∨ k = 1 := by omega
  rcases hi' with rfl | rfl <;> rcases hk' with rfl | rfl
  · rfl
  · rfl
  · rfl
  · have h0 := hag 0 0 Nat.one_pos Nat.one_pos
    have hg : x.getD 0 0 = x'.getD 0 0 := getD_congr h0 0
    show (#[21, 0, 21, x.getD 0 0] : Array ℝ)[3]? = (#[21, 0, 21, x'.getD 0 0] : Array ℝ)[3]?
    rw [hg]

theorem afScale_sharp (p : List ℝ) (hp : p.getD 0 0 = 21) : afScale (NF.realX e0) cA p = 21 := by
  simp only [afScale, realX_add, realX_ofFloat, realX_softplus, realX_zero, hp, e0]
  norm_num

theorem sharp_slice (z : Array ℝ) (i : Nat) (hi : i < 2) :
    arSlice (NF.realX e0) cA 2 (sharpNet z) 0 i = if i = 0 then [21, 0] else [21, z.getD 0 0] := by
  have hi' : i = 0 ∨ i = 1 := by omega
  rcases hi' with rfl | rfl <;> rfl

theorem sharp_fwd_el (z x : Array ℝ) (i : Nat) (hi : i < 2) :
    outOf (NF.realX e0) (arEl (NF.realX e0) cA 2 x (sharpNet z) false 0 i)
      = x.getD i 0 * 21 + (if i = 0 then 0 else z.getD 0 0) := by
  rw [arEl_eq, sharp_slice z i hi, outOf_araffine_fwd e0 cA rfl, afScale_sharp _ (by split <;> rfl), realX_zero,
    Nat.zero_mul, Nat.zero_add]
  by_cases h : i = 0
  · rw [if_pos h, if_pos h]; rfl
  · rw [if_neg h, if_neg h]; rfl

theorem sharp_inv_el (z y : Array ℝ) (i : Nat) (hi : i < 2) :
    outOf (NF.realX e0) (arEl (NF.realX e0) cA 2 y (sharpNet z) true 0 i)
      = (y.getD i 0 - (if i = 0 then 0 else z.getD 0 0)) / 21 := by
  rw [arEl_eq, sharp_slice z i hi, outOf_araffine_inv e0 cA rfl, afScale_sharp _ (by split <;> rfl), realX_zero,
    Nat.zero_mul, Nat.zero_add]
  by_cases h : i = 0
  · rw [if_pos h, if_pos h]; rfl
  · rw [if_neg h, if_neg h]; rfl

theorem sharp_forward : (arForward (NF.realX e0) cA 1 2 sharpNet #[1, 0]).out = #[21, 1] := by
  apply Array.ext_getElem?
  intro j
  by_cases hj : j < 2
  · have hj' : j = 0 ∨ j = 1 := by omega
    rcases hj' with rfl | rfl
    · exact (arForward_getElem? (NF.realX e0) cA 1 2 sharpNet #[1, 0] (b := 0) (i := 0) Nat.one_pos hj).trans
        (by rw [sharp_fwd_el _ _ 0 hj]; norm_num)
    · exact (arForward_getElem? (NF.realX e0) cA 1 2 sharpNet #[1, 0] (b := 0) (i := 1) Nat.one_pos hj).trans
        (by rw [sharp_fwd_el _ _ 1 hj]; norm_num)
  · have h1 : ¬ j < (arForward (NF.realX e0) cA 1 2 sharpNet #[1, 0]).out.size := by
      rw [arForward, arApply_out_size]; omega
    rw [getElem?_none_of_not_lt h1, getElem?_none_of_not_lt (by simpa using hj)]

/-- **"one pass per feature" is sharp.**  A concrete masked-affine instance with `F = 2` features (one row, autoregressive
    conditioner `sharpNet`, `x = [1, 0]`, `y = forward x = [21, 1]`): after ONE pass of the executed loop the first feature is
    final (`1`) but the second one is `1/21`, not `0`; after the `F = 2` passes the result is `x` exactly.  So `F` passes are
    needed in general, and `arIter_prefix` (nothing is claimed about the features `≥ k` after pass `k`) cannot be improved. -/
theorem ar_one_pass_not_enough :
    AutoregNet 1 2 (pw cA) sharpNet
      ∧ (arForward (NF.realX e0) cA 1 2 sharpNet #[1, 0]).out = #[21, 1]
      ∧ (arIter (NF.realX e0) cA 1 2 sharpNet #[21, 1] 1).out[0]? = some 1
      ∧ (arIter (NF.realX e0) cA 1 2 sharpNet #[21, 1] 1).out[1]? = some (1 / 21)
      ∧ (arIter (NF.realX e0) cA 1 2 sharpNet #[21, 1] 1).out ≠ #[1, 0]
      ∧ (arInverse (NF.realX e0) cA 1 2 sharpNet #[21, 1]).out = #[1, 0] := by
  have hnet : AutoregNet 1 2 (pw cA) sharpNet := sharpNet_autoreg
  have h0 : (arIter (NF.realX e0) cA 1 2 sharpNet #[21, 1] 1).out[0]? = some 1 :=
    (arIter_succ_getElem? (NF.realX e0) cA 1 2 sharpNet #[21, 1] 0 (b := 0) (i := 0) Nat.one_pos (by omega)).trans
      (by rw [sharp_inv_el _ _ 0 (by omega)]; norm_num)
  have h1 : (arIter (NF.realX e0) cA 1 2 sharpNet #[21, 1] 1).out[1]? = some (1 / 21) :=
    (arIter_succ_getElem? (NF.realX e0) cA 1 2 sharpNet #[21, 1] 0 (b := 0) (i := 1) Nat.one_pos (by omega)).trans
      (by rw [sharp_inv_el _ _ 1 (by omega)]; simp [arIter, arInit])
  refine ⟨hnet, sharp_forward, h0, h1, ?_, ?_⟩
  · intro h
    rw [h] at h1
    norm_num at h1
  · have := ar_inverse_forward (NF.realX e0) cA 1 2 sharpNet #[1, 0] hnet
      (arElInvertible_araffine_real e0 cA rfl (le_refl _) 2 _ 1).1
      (ar_affine_err_none (NF.realX e0) cA rfl 1 2 sharpNet #[1, 0]).1 rfl
    rw [sharp_forward] at this
    exact this

/-- the positive theorem on the same instance: the hypotheses of `ar_inverse_exact_after_F_passes_real` are satisfiable -/
example : (arInverse (NF.realX e0) cA 1 2 sharpNet (arForward (NF.realX e0) cA 1 2 sharpNet #[1, 0]).out).out = #[1, 0] :=
  (ar_inverse_exact_after_F_passes_real e0 cA 1 2 sharpNet #[1, 0] sharpNet_autoreg
    (arElInvertible_araffine_real e0 cA rfl (le_refl _) 2 _ 1).1
    (ar_affine_err_none (NF.realX e0) cA rfl 1 2 sharpNet #[1, 0]).1 rfl).1

/-! ## 2. The `F`-pass loop as a batch stage, and its row independence (C12) -/

section stage
variable (o : XOps α) (c : ElCfg) (F : Nat)

/-- **`AutoregressiveTransform.inverse` as a batch-level call** (autoregressive.py:43-52): the WHOLE `F`-pass loop, the
    autoregressive network `net` (batch size, current outputs `[B, F]`, context `[B, cw]` ↦ `[B, F * m]`) being re-run on the
    current outputs in every pass.  (`FlowRowsExec.arStage … true` is ONE pass only.) -/
def arInvStage (net : Nat → Array α → Array α → Array α) : BStage α :=
  fun B y ctx => ofT (arInverse o c B F (fun z => net B z ctx) y)

theorem arStage_forward_eq (net : Nat → Array α → Array α → Array α) (B : Nat) (x ctx : Array α) :
    arStage o c F false net B x ctx = ofT (arForward o c B F (fun z => net B z ctx) x) := rfl

theorem arInit_rowEq {b b' : Nat} {y y' : Array α} (h : RowEq F b b' y y') :
    RowEq F b b' (arInit o y).out (arInit o y').out := by
  intro k hk
  have := h k hk
  simp only [arInit, Array.getElem?_replicate]
  by_cases h1 : b * F + k < y.size
  · have h2 : b' * F + k < y'.size := by
      by_contra h2
      rw [Array.getElem?_eq_getElem h1, getElem?_none_of_not_lt h2] at this
      cases this
    rw [if_pos h1, if_pos h2]
  · have h2 : ¬ b' * F + k < y'.size := by
      intro h2
      rw [getElem?_none_of_not_lt h1, Array.getElem?_eq_getElem h2] at this
      cases this
    rw [if_neg h1, if_neg h2]

theorem arElInv_rows {B B' b b' : Nat} (net : Nat → Array α → Array α → Array α) (cw : Nat)
    (hnet : NetRowWise F cw (F * arMult c) net) (inverse : Bool) (y y' z z' ctx ctx' : Array α) (hb : b < B) (hb' : b' < B')
    (hy : RowEq F b b' y y') (hz : RowEq F b b' z z') (hc : RowEq cw b b' ctx ctx') (i : Nat) (hi : i < F) :
    arEl o c F y (net B z ctx) inverse b i = arEl o c F y' (net B' z' ctx') inverse b' i := by
  have hp := hnet z z' ctx ctx' hb hb' hz hc
  unfold arEl
  simp only
  rw [getD_congr (hy i hi)]
  congr 1
  apply List.map_congr_left
  intro k hk
  apply getD_congr
  rw [RowMajor.assoc, RowMajor.assoc]
  exact hp _ (RowMajor.lt2 hi (List.mem_range.1 hk))

theorem arIter_rowEq {B B' b b' : Nat} (net : Nat → Array α → Array α → Array α) (cw : Nat)
    (hnet : NetRowWise F cw (F * arMult c) net) (y y' ctx ctx' : Array α) (hb : b < B) (hb' : b' < B')
    (hy : RowEq F b b' y y') (hc : RowEq cw b b' ctx ctx') (k : Nat) :
    RowEq F b b' (arIter o c B F (fun z => net B z ctx) y k).out (arIter o c B' F (fun z => net B' z ctx') y' k).out := by
  induction k with
  | zero => exact arInit_rowEq o F hy
  | succ k ih =>
    rw [arIter_succ, arIter_succ, arPass_out, arPass_out, arApply, arApply]
    exact (elemwise_row_congr o _ F _ _ hb hb'
      (fun i hi => arElInv_rows o c F net cw hnet true y y' _ _ ctx ctx' hb hb' hy ih hc i hi)).1

theorem arIter_ld_rowEq {B B' b b' : Nat} (net : Nat → Array α → Array α → Array α) (cw : Nat)
    (hnet : NetRowWise F cw (F * arMult c) net) (y y' ctx ctx' : Array α) (hb : b < B) (hb' : b' < B')
    (hy : RowEq F b b' y y') (hc : RowEq cw b b' ctx ctx') (k : Nat) :
    (arIter o c B F (fun z => net B z ctx) y (k + 1)).ld[b]?
      = (arIter o c B' F (fun z => net B' z ctx') y' (k + 1)).ld[b']? := by
  rw [arIter_succ, arIter_succ, arPass_ld, arPass_ld, arApply, arApply]
  exact (elemwise_row_congr o _ F _ _ hb hb'
    (fun i hi => arElInv_rows o c F net cw hnet true y y' _ _ ctx ctx' hb hb' hy
      (arIter_rowEq o c F net cw hnet y y' ctx ctx' hb hb' hy hc k) hc i hi)).2

/-- one pass is accepted on the batch iff it is accepted on every row alone -/
theorem arPass_err_none_iff_alone {B : Nat} (net : Nat → Array α → Array α → Array α) (cw : Nat)
    (hnet : NetRowWise F cw (F * arMult c) net) (y z ctx : Array α) (yr zr cr : Nat → Array α)
    (hy : ∀ b, b < B → RowEq F b 0 y (yr b)) (hz : ∀ b, b < B → RowEq F b 0 z (zr b))
    (hc : ∀ b, b < B → RowEq cw b 0 ctx (cr b)) :
    (arApply o c B F y (net B z ctx) true).err = none
      ↔ ∀ b, b < B → (arApply o c 1 F (yr b) (net 1 (zr b) (cr b)) true).err = none := by
  unfold arApply
  rw [elemwise_err_rows, List.findSome?_eq_none_iff]
  simp only [List.mem_range]
  constructor
  · intro h b hb
    rw [← h b hb]
    exact (elemwise_err_one_congr o F _ _ (fun i hi =>
      arElInv_rows o c F net cw hnet true y (yr b) z (zr b) ctx (cr b) hb Nat.one_pos (hy b hb) (hz b hb) (hc b hb) i hi)).symm
  · intro h b hb
    rw [← h b hb]
    exact elemwise_err_one_congr o F _ _ (fun i hi =>
      arElInv_rows o c F net cw hnet true y (yr b) z (zr b) ctx (cr b) hb Nat.one_pos (hy b hb) (hz b hb) (hc b hb) i hi)

/-- **the executed `F`-pass inverse loop with a row-wise network is a row-wise stage** (`F ≥ 1`): two accepted calls agree on the
    rows where their inputs and contexts agree (outputs and log-det), the batch call is accepted iff every row alone is accepted
    (in EVERY pass), one log-det per row. -/
theorem rowWise_arInvStage (hF : 0 < F) (cw : Nat) (net : Nat → Array α → Array α → Array α)
    (hnet : NetRowWise F cw (F * arMult c) net) : RowWiseStage F cw (arInvStage o c F net) where
  agree := by
    intro B B' b b' x x' ctx ctx' y y' l l' hb hb' hx hc h h'
    obtain ⟨-, rfl, rfl⟩ := ofT_eq_ok h
    obtain ⟨-, rfl, rfl⟩ := ofT_eq_ok h'
    obtain ⟨k, rfl⟩ : ∃ k, F = k + 1 := ⟨F - 1, by omega⟩
    rw [arInverse_eq_iter, arInverse_eq_iter]
    exact ⟨arIter_rowEq o c (k + 1) net cw hnet x x' ctx ctx' hb hb' hx hc (k + 1),
      arIter_ld_rowEq o c (k + 1) net cw hnet x x' ctx ctx' hb hb' hx hc k⟩
  accept := by
    intro B x ctx xr cr hx hc
    simp only [arInvStage, ofT_ok_iff, arInverse_eq_iter, arIter_err_none]
    constructor
    · intro h b hb j hj
      exact (arPass_err_none_iff_alone o c F net cw hnet x _ ctx xr
        (fun b => (arIter o c 1 F (fun z => net 1 z (cr b)) (xr b) j).out) cr hx
        (fun b hb => arIter_rowEq o c F net cw hnet x (xr b) ctx (cr b) hb Nat.one_pos (hx b hb) (hc b hb) j) hc).1
        (h j hj) b hb
    · intro h j hj
      exact (arPass_err_none_iff_alone o c F net cw hnet x _ ctx xr
        (fun b => (arIter o c 1 F (fun z => net 1 z (cr b)) (xr b) j).out) cr hx
        (fun b hb => arIter_rowEq o c F net cw hnet x (xr b) ctx (cr b) hb Nat.one_pos (hx b hb) (hc b hb) j) hc).2
        (fun b hb => h b hb j hj)
  ld_len := by
    intro B x ctx y l h
    obtain ⟨-, -, rfl⟩ := ofT_eq_ok h
    exact arInverse_ld_length o c B hF _ x

/-- **FINDING (forced hypothesis `0 < F`)**: with no feature the loop body never runs; the code returns `logabsdet = None`, the
    model the empty list — not one log-det per row.  So `ld_len` (hence `RowWiseStage`) fails for `F = 0`, `B ≥ 1`. -/
theorem arInvStage_zero_features_ld (net : Nat → Array α → Array α → Array α) (B : Nat) (y ctx : Array α) :
    arInvStage o c 0 net B y ctx = .ok (Array.replicate y.size o.zero, []) := rfl

theorem arInvStage_accepted_iff {B : Nat} (cw : Nat) (net : Nat → Array α → Array α → Array α)
    (hnet : NetRowWise F cw (F * arMult c) net) (hF : 0 < F) (x ctx : Array α) (xr cr : Nat → Array α)
    (hx : ∀ b, b < B → RowEq F b 0 x (xr b)) (hc : ∀ b, b < B → RowEq cw b 0 ctx (cr b)) :
    (∃ r, arInvStage o c F net B x ctx = .ok r) ↔ ∀ b, b < B → ∃ r, arInvStage o c F net 1 (xr b) (cr b) = .ok r :=
  (rowWise_arInvStage o c F hF cw net hnet).accept B x ctx xr cr hx hc

end stage

/-! ## 3. The round-trip law between the forward stage and the inverse-loop stage (C02), and the C04 pairing -/

section roundtrip
variable (e : Float → ℝ) (c : ElCfg) (F : Nat) (net : Nat → Array ℝ → Array ℝ → Array ℝ)

/-- **`StageMore.RoundTripEq` for the masked autoregressive transform.**  For a one-row input `z` of `F ≥ 1` entries: whenever the
    `F`-pass inverse loop is accepted with `(s, l)`, `s` has `F` entries, `l = [d]`, and the forward autoregressive stage (the
    network re-run on `s`) is accepted and returns the array `z` itself with log-det `[-d]`.  Hypotheses: the network is
    autoregressive on one row for every context, the elements invert in the order inverse-then-forward. -/
theorem roundTrip_arStage (hF : 0 < F)
    (hnet : ∀ ctx, AutoregNet 1 F (pw c) (fun z => net 1 z ctx))
    (hrev : ∀ params, ArElInvertibleRev (NF.realX e) c F params 1) :
    RoundTripEq (NF.realX e) (fun z => z.size = F) (fun s => s.size = F)
      (arStage (NF.realX e) c F false net) (arInvStage (NF.realX e) c F net) := by
  intro z ctx s l hz h
  obtain ⟨herr, rfl, rfl⟩ := ofT_eq_ok h
  have hz' : z.size = 1 * F := by rw [hz, Nat.one_mul]
  obtain ⟨hout, herr', hld⟩ := ar_forward_inverse_real e c 1 F (fun z => net 1 z ctx) z (hnet ctx) hz' herr (hrev _)
  obtain ⟨d, hd⟩ := list_len_one _ (arInverse_ld_length _ c 1 hF _ z)
  obtain ⟨d', hd'⟩ := list_len_one
    (arForward (NF.realX e) c 1 F (fun z => net 1 z ctx) (arInverse (NF.realX e) c 1 F (fun z => net 1 z ctx) z).out).ld
    (by rw [arForward, arApply]; exact elemwise_ld_length _ 1 F _)
  refine ⟨?_, d, hd, ?_⟩
  · show (arInverse (NF.realX e) c 1 F (fun z => net 1 z ctx) z).out.size = F
    rw [arInverse_eq_iter, arIter_out_size _ c 1 F _ z hz' F, Nat.one_mul]
  · rw [arStage_forward_eq, ofT_of_err_none herr', hout, hd']
    have h0 := hld hF 0 Nat.one_pos
    rw [hd, hd'] at h0
    simp only [List.getElem?_cons_zero, Option.map_some, Option.some.injEq] at h0
    rw [h0]
    rfl

/-- for the bounded RQ family every parameter array is invertible in the order inverse-then-forward (the validity of a slice
    depends on the configuration and on the LENGTH of the slice only) -/
theorem arElInvertibleRev_rq_all (hc : RQCfgValid e c) (params : Array ℝ) :
    ArElInvertibleRev (NF.realX e) c F params 1 :=
  (rq_undoes e c hc.hk hc.ht true).arElInvertibleRev
    (rqNetValid_of_cfg e c hc 1 F (fun _ => params) (Array.replicate (1 * F) 0) (by simp))

variable {rcw cw R n : Nat} {emb : Nat → Array ℝ → Array ℝ} {base : BaseD ℝ} {noise ctx : Array ℝ}

/-- **C04 over the executed masked autoregressive flow (generic element family).**  `sample_and_log_prob` runs the `F`-pass inverse
    loop on the merged noise; the value it returns for sample `[i, j]` is what the executed `log_prob` (forward autoregressive pass,
    network re-run on the sample) assigns to that sample alone under context row `i` alone.  No round-trip hypothesis: it is
    `roundTrip_arStage`; the row independence of the loop is `rowWise_arInvStage`. -/
theorem flowSalpExec_consistent_ar (hF : 0 < F)
    (hauto : ∀ ctx, AutoregNet 1 F (pw c) (fun z => net 1 z ctx))
    (hrev : ∀ params, ArElInvertibleRev (NF.realX e) c F params 1)
    (hnet : NetRowWise F cw (F * arMult c) net)
    (hbase : RowIndepBase cw base) (hemb : EmbRowWise rcw cw emb) (hsize : R * cw ≤ (emb R ctx).size)
    {s : Array ℝ} {lps : List ℝ}
    (h : flowSalpExec (NF.realX e) F cw R n emb (arInvStage (NF.realX e) c F net) base noise ctx = .ok (s, lps))
    {i j : Nat} (hi : i < R) (hj : j < n) (zr cr : Array ℝ) (hzr : zr.size = F)
    (hz : RowEq F (i * n + j) 0 noise zr) (hc : RowEq rcw i 0 ctx cr) :
    ∃ (si : Array ℝ) (lp : ℝ), RowEq F (i * n + j) 0 s si ∧ lps[i * n + j]? = some lp ∧
      flowLogProbExec (NF.realX e) F emb (arStage (NF.realX e) c F false net) base 1 si cr = .ok [lp] :=
  flowSalpExec_consistent_on (NF.realX e) (rowWise_arInvStage (NF.realX e) c F hF cw net hnet) hbase hemb hsize
    ((roundTrip_arStage e c F net hF hauto hrev).on _) (fun a b => sub_eq_add_neg a b) h hi hj zr cr hzr hz hc

end roundtrip

/-! ## 4. The log-det the inverse loop returns is `log |det|` of the derivative of the inverse row map (C01 / C02) -/

section jacobian
variable (e : Float → ℝ) (c : ElCfg) (F : Nat) (net : Array ℝ → Array ℝ)

/-- the executed `F`-pass inverse loop on ONE row as a map `ℝ^F → ℝ^F` (a one-row batch: a conditioner that couples the rows of a
    batch — batch norm in training mode — makes the row map of a larger batch depend on the other rows' loop states) -/
noncomputable def invRowMap (v : Fin F → ℝ) : Fin F → ℝ :=
  fun i => (arInverse (NF.realX e) c 1 F net (Array.ofFn v)).out.getD i.1 0

theorem arInverse_out_size_one (y : Array ℝ) (hy : y.size = F) :
    (arInverse (NF.realX e) c 1 F net y).out.size = F := by
  rw [arInverse_eq_iter, arIter_out_size _ c 1 F net y (by rw [hy, Nat.one_mul]) F, Nat.one_mul]

theorem rowMap_invRowMap (hnet : AutoregNet 1 F (pw c) net)
    (hrev : ∀ params, ArElInvertibleRev (NF.realX e) c F params 1) (x : Array ℝ) (v : Fin F → ℝ)
    (hv : (arInverse (NF.realX e) c 1 F net (Array.ofFn v)).err = none) :
    rowMap e c 1 F net x 0 (invRowMap e c F net v) = v := by
  funext i
  have hsz : (Array.ofFn v).size = 1 * F := by simp
  obtain ⟨hout, -, -⟩ := ar_forward_inverse_real e c 1 F net (Array.ofFn v) hnet hsz hv (hrev _)
  have hof : Array.ofFn (invRowMap e c F net v) = (arInverse (NF.realX e) c 1 F net (Array.ofFn v)).out :=
    FlowWholeND.ofFn_getD _ (arInverse_out_size_one e c F net _ (by simp))
  unfold rowMap
  rw [FlowWholeND.setRow_one, hof, hout]
  simp

/-- **C01 for the executed inverse loop (one row).**  At an input row `y` around which the loop raises nothing: the log-det the
    `F`-pass loop RETURNS is `log |det Lg|`, `Lg` the Fréchet derivative at `y` of the executed inverse row map.  It is obtained
    from C01 of the forward pass at the result `x` (`ARWhole.ar_row_logdet`: triangular Jacobian, `hdiag` the element law), the
    exact round trip (`ar_forward_inverse_real`) and the chain rule (`RankedDet.logdet_eq_neg_of_roundtrip`). -/
theorem ar_inverse_logdet_is_jacobian (hF : 0 < F) (hnet : AutoregNet 1 F (pw c) net)
    (hrev : ∀ params, ArElInvertibleRev (NF.realX e) c F params 1) (y : Array ℝ) (hy : y.size = F)
    (hok : ∀ᶠ v in nhds (fun i : Fin F => y.getD i.1 0), (arInverse (NF.realX e) c 1 F net (Array.ofFn v)).err = none)
    {Lg Lf : (Fin F → ℝ) →L[ℝ] (Fin F → ℝ)}
    (hLg : HasFDerivAt (invRowMap e c F net) Lg (fun i => y.getD i.1 0))
    (hLf : HasFDerivAt (rowMap e c 1 F net (arInverse (NF.realX e) c 1 F net y).out 0) Lf
      (fun i => (arInverse (NF.realX e) c 1 F net y).out.getD (0 * F + i.1) 0))
    (hdiag : ∀ i : Fin F, HasDerivAt
      (elMap e c F (net (arInverse (NF.realX e) c 1 F net y).out) 0 i)
      (Real.exp (ldOf (NF.realX e) (arEl (NF.realX e) c F (arInverse (NF.realX e) c 1 F net y).out
        (net (arInverse (NF.realX e) c 1 F net y).out) false 0 i)))
      ((arInverse (NF.realX e) c 1 F net y).out.getD (0 * F + i.1) 0)) :
    (arInverse (NF.realX e) c 1 F net y).ld[0]?
        = some (Real.log |LinearMap.det (Lg : (Fin F → ℝ) →ₗ[ℝ] (Fin F → ℝ))|)
      ∧ Real.log |LinearMap.det (Lg : (Fin F → ℝ) →ₗ[ℝ] (Fin F → ℝ))|
        = - Real.log |LinearMap.det (Lf : (Fin F → ℝ) →ₗ[ℝ] (Fin F → ℝ))| := by
  have hyy : Array.ofFn (fun i : Fin F => y.getD i.1 0) = y := FlowWholeND.ofFn_getD y hy
  have herr0 : (arInverse (NF.realX e) c 1 F net y).err = none := by
    have := hok.self_of_nhds
    rwa [hyy] at this
  have hy' : y.size = 1 * F := by rw [hy, Nat.one_mul]
  have hxs : (arInverse (NF.realX e) c 1 F net y).out.size = 1 * F := by
    rw [arInverse_out_size_one e c F net y hy, Nat.one_mul]
  obtain ⟨-, -, hld⟩ := ar_forward_inverse_real e c 1 F net y hnet hy' herr0 (hrev _)
  have hfw := ar_row_logdet e c 1 F net (arInverse (NF.realX e) c 1 F net y).out hnet hxs Nat.one_pos hLf hdiag
  have hgy : invRowMap e c F net (fun i => y.getD i.1 0)
      = fun i : Fin F => (arInverse (NF.realX e) c 1 F net y).out.getD (0 * F + i.1) 0 := by
    funext i
    simp only [invRowMap, hyy, Nat.zero_mul, Nat.zero_add]
  have hneg := RankedDet.logdet_eq_neg_of_roundtrip (rowMap e c 1 F net (arInverse (NF.realX e) c 1 F net y).out 0)
    (invRowMap e c F net) (fun i => y.getD i.1 0) hLg (by rw [hgy]; exact hLf)
    (by filter_upwards [hok] with v hv
        exact rowMap_invRowMap e c F net hnet hrev _ v hv)
  refine ⟨?_, hneg⟩
  have h0 := hld hF 0 Nat.one_pos
  rw [hfw] at h0
  obtain ⟨d, hd⟩ := list_len_one _ (arInverse_ld_length _ c 1 hF net y)
  rw [hd] at h0 ⊢
  simp only [List.getElem?_cons_zero, Option.map_some, Option.some.injEq] at h0 ⊢
  rw [hneg, h0, neg_neg]

/-- **MAF**: the log-det the executed `F`-pass inverse loop returns is `log |det|` of the derivative of the inverse row map, at
    EVERY row `y` — no element hypothesis, no acceptance hypothesis (the affine loop never raises) -/
theorem ar_affine_inverse_logdet_is_jacobian (hk : c.kind = "araffine") (he : 0 ≤ e (c.ds.getD 0 0.0)) (hF : 0 < F)
    (hnet : AutoregNet 1 F 2 net) (y : Array ℝ) (hy : y.size = F)
    {Lg Lf : (Fin F → ℝ) →L[ℝ] (Fin F → ℝ)}
    (hLg : HasFDerivAt (invRowMap e c F net) Lg (fun i => y.getD i.1 0))
    (hLf : HasFDerivAt (rowMap e c 1 F net (arInverse (NF.realX e) c 1 F net y).out 0) Lf
      (fun i => (arInverse (NF.realX e) c 1 F net y).out.getD (0 * F + i.1) 0)) :
    (arInverse (NF.realX e) c 1 F net y).ld[0]?
        = some (Real.log |LinearMap.det (Lg : (Fin F → ℝ) →ₗ[ℝ] (Fin F → ℝ))|)
      ∧ Real.log |LinearMap.det (Lg : (Fin F → ℝ) →ₗ[ℝ] (Fin F → ℝ))|
        = - Real.log |LinearMap.det (Lf : (Fin F → ℝ) →ₗ[ℝ] (Fin F → ℝ))| :=
  ar_inverse_logdet_is_jacobian e c F net hF (by rw [pw_araffine hk]; exact hnet)
    (fun params => (arElInvertible_araffine_real e c hk he F params 1).2) y hy
    (Filter.Eventually.of_forall fun v => (ar_affine_err_none (NF.realX e) c hk 1 F net _).2 (by simp)) hLg hLf
    fun i => elMap_affine_hasDerivAt e c hk he F _ _ 0 i

/-- **bounded rational-quadratic masked autoregressive transform**: at a row `y` strictly inside the output box whose preimage
    `x` has every feature strictly inside a bin of its own spline, the log-det the `F`-pass loop returns is `log |det|` of the
    derivative of the inverse row map -/
theorem ar_rq_inverse_logdet_is_jacobian (hc : RQCfgValid e c) (hF : 0 < F) (hnet : AutoregNet 1 F (3 * c.K + 1) net)
    (y : Array ℝ) (hy : y.size = F)
    (hbox : ∀ i : Fin F, e (rqCfgOf c).box.bottom < y.getD i.1 0 ∧ y.getD i.1 0 < e (rqCfgOf c).box.top)
    (hbin : ∀ i : Fin F, ∃ k, k < c.K ∧
      RQWhole.xs e (rqCfgOf c) (rqW (NF.realX e) c
          (arSlice (NF.realX e) c F (net (arInverse (NF.realX e) c 1 F net y).out) 0 i)) k
        < (arInverse (NF.realX e) c 1 F net y).out.getD (0 * F + i.1) 0
      ∧ (arInverse (NF.realX e) c 1 F net y).out.getD (0 * F + i.1) 0
        < RQWhole.xs e (rqCfgOf c) (rqW (NF.realX e) c
            (arSlice (NF.realX e) c F (net (arInverse (NF.realX e) c 1 F net y).out) 0 i)) (k + 1))
    {Lg Lf : (Fin F → ℝ) →L[ℝ] (Fin F → ℝ)}
    (hLg : HasFDerivAt (invRowMap e c F net) Lg (fun i => y.getD i.1 0))
    (hLf : HasFDerivAt (rowMap e c 1 F net (arInverse (NF.realX e) c 1 F net y).out 0) Lf
      (fun i => (arInverse (NF.realX e) c 1 F net y).out.getD (0 * F + i.1) 0)) :
    (arInverse (NF.realX e) c 1 F net y).ld[0]?
        = some (Real.log |LinearMap.det (Lg : (Fin F → ℝ) →ₗ[ℝ] (Fin F → ℝ))|)
      ∧ Real.log |LinearMap.det (Lg : (Fin F → ℝ) →ₗ[ℝ] (Fin F → ℝ))|
        = - Real.log |LinearMap.det (Lf : (Fin F → ℝ) →ₗ[ℝ] (Fin F → ℝ))| := by
  have hnet' : AutoregNet 1 F (pw c) net := by rw [pw_rq hc.hk hc.ht]; exact hnet
  have hopen : ∀ᶠ v in nhds (fun i : Fin F => y.getD i.1 0), ∀ i : Fin F,
      v i ∈ Set.Ioo (e (rqCfgOf c).box.bottom) (e (rqCfgOf c).box.top) := by
    rw [Filter.eventually_all]
    intro i
    exact (continuous_apply i).continuousAt.eventually (Ioo_mem_nhds (hbox i).1 (hbox i).2)
  have hok : ∀ᶠ v in nhds (fun i : Fin F => y.getD i.1 0),
      (arInverse (NF.realX e) c 1 F net (Array.ofFn v)).err = none := by
    filter_upwards [hopen] with v hv
    apply (rq_accepts e c hc.hk hc.ht).ar_inverse_err_none (rqNetValid_of_cfg e c hc 1 F net) (by simp)
    intro j hj
    rw [realX_zero]
    have hj' : j < F := by omega
    have hg : (Array.ofFn v).getD j 0 = v ⟨j, hj'⟩ := by simp [Array.getD, hj']
    rw [hg]
    exact ⟨(hv ⟨j, hj'⟩).1.le, (hv ⟨j, hj'⟩).2.le⟩
  apply ar_inverse_logdet_is_jacobian e c F net hF hnet' (arElInvertibleRev_rq_all e c F hc) y hy hok hLg hLf
  intro i
  obtain ⟨k, hk, h0, h1⟩ := hbin i
  have hxs : (arInverse (NF.realX e) c 1 F net y).out.size = 1 * F := by
    rw [arInverse_out_size_one e c F net y hy, Nat.one_mul]
  have hv := rqNetValid_of_cfg e c hc 1 F net _ hxs 0 i Nat.one_pos i.2
  have hlen : (rqW (NF.realX e) c
      (arSlice (NF.realX e) c F (net (arInverse (NF.realX e) c 1 F net y).out) 0 i)).length = c.K := by
    rw [rqW_length, arSlice_length, pw_rq hc.hk hc.ht]; omega
  rw [elMap_rq e c hc.hk hc.ht, ldOf_rq e c hc.hk hc.ht]
  exact RQWhole.val_hasDerivAt hv k (by rw [hlen]; exact hk) _ h0 h1

end jacobian

/-! ## 5. Concrete instances (non-vacuity) -/

section examples
open NF.RowIndependenceMore

/-- a toy MADE on `[B, 2]` inputs with one context feature per row, at the toy `Int` semantics: the parameters of feature `0` are
    `(ctx + 1, ctx + 2)`, those of feature `1` are `(ctx + 2, 10 · x[b, 0] + ctx)` — autoregressive and row-wise -/
def toyMade : Nat → Array Int → Array Int → Array Int :=
  fun B x c => ((List.range (B * 4)).map fun t =>
    if t % 4 < 2 then c.getD (t / 4) 0 + (t % 4 : Nat) + 1
    else if t % 4 = 2 then c.getD (t / 4) 0 + 2 else 10 * x.getD (t / 4 * 2) 0 + c.getD (t / 4) 0).toArray

/-- the executed stages on a batch of two rows (`F = 2`): the forward pass; the `F`-pass inverse loop stage undoes it with the
    negated log-dets; each row run ALONE through the loop stage returns its row of the batch result (C12); ONE pass from zeros is
    not enough (entry `[1, 1]` is `5`, not `4`); and the single pass `arStage … true` (conditioner fed `y` itself) is not the inverse. -/
example :
    arStage intX cA 2 false toyMade 2 #[1, 2, 3, 4] #[10, 20] = .ok (#[24, 46, 85, 138], [25, 43]) ∧
    arInvStage intX cA 2 toyMade 2 #[24, 46, 85, 138] #[10, 20] = .ok (#[1, 2, 3, 4], [-25, -43]) ∧
    arInvStage intX cA 2 toyMade 1 #[24, 46] #[10] = .ok (#[1, 2], [-25]) ∧
    arInvStage intX cA 2 toyMade 1 #[85, 138] #[20] = .ok (#[3, 4], [-43]) ∧
    (arIter intX cA 2 2 (fun z => toyMade 2 z #[10, 20]) #[24, 46, 85, 138] 1).out = #[1, 2, 3, 5] ∧
    arStage intX cA 2 true toyMade 2 #[24, 46, 85, 138] #[10, 20] = .ok (#[1, -16, 3, -34], [-25, -43]) := by
  decide +kernel

def sharpNetB : Nat → Array ℝ → Array ℝ → Array ℝ :=
  fun B z _ => ((List.range B).flatMap fun b => [21, 0, 21, z.getD (b * 2) 0]).toArray

theorem arMult_cA : arMult cA = 2 := by decide

theorem sharpNetB_rowWise (cw : Nat) : NetRowWise 2 cw (2 * arMult cA) sharpNetB := by
  rw [arMult_cA]
  intro B B' b b' x x' c c' hb hb' hx _ k hk
  have hg : x.getD (b * 2) 0 = x'.getD (b' * 2) 0 := getD_congr (hx 0 (by omega)) 0
  unfold sharpNetB
  rw [List.getElem?_toArray, List.getElem?_toArray,
    flatMap_range_getElem? _ (2 * 2) B b k (fun _ => rfl) hb hk,
    flatMap_range_getElem? _ (2 * 2) B' b' k (fun _ => rfl) hb' hk, hg]

theorem sharpNetB_one (ctx : Array ℝ) : (fun z => sharpNetB 1 z ctx) = sharpNet := by
  funext z
  rfl

/-- §2 applied: the `F`-pass inverse loop of this masked affine transform is a row-wise stage, for any context width -/
example (cw : Nat) : RowWiseStage 2 cw (arInvStage (NF.realX e0) cA 2 sharpNetB) :=
  rowWise_arInvStage (NF.realX e0) cA 2 (by omega) cw sharpNetB (sharpNetB_rowWise cw)

/-- §3 applied: the round-trip law holds for it with no hypothesis left … -/
theorem sharp_roundTrip : RoundTripEq (NF.realX e0) (fun z => z.size = 2) (fun s => s.size = 2)
    (arStage (NF.realX e0) cA 2 false sharpNetB) (arInvStage (NF.realX e0) cA 2 sharpNetB) :=
  roundTrip_arStage e0 cA 2 sharpNetB (by omega) (fun ctx => by rw [pw_araffine rfl, sharpNetB_one]; exact sharpNet_autoreg)
    (fun params => (arElInvertible_araffine_real e0 cA rfl (le_refl _) 2 params 1).2)

/-- … and is about accepted calls: on the row `[21, 1]` the loop stage is accepted, and the forward stage undoes it -/
example (ctx : Array ℝ) :
    ∃ s d, arInvStage (NF.realX e0) cA 2 sharpNetB 1 #[21, 1] ctx = .ok (s, [d]) ∧
      arStage (NF.realX e0) cA 2 false sharpNetB 1 s ctx = .ok (#[21, 1], [-d]) := by
  have herr := (ar_affine_err_none (NF.realX e0) cA rfl 1 2 (fun z => sharpNetB 1 z ctx) #[21, 1]).2 rfl
  have h : arInvStage (NF.realX e0) cA 2 sharpNetB 1 #[21, 1] ctx = .ok (_, _) := ofT_of_err_none herr
  obtain ⟨-, d, hd, hT⟩ := sharp_roundTrip #[21, 1] ctx _ _ rfl h
  exact ⟨_, d, by rw [h, hd], hT⟩

/-- §4 applied: for this transform the log-det the loop returns at ANY row `y` of two entries is `log |det|` of the derivative of
    the inverse row map (the two derivatives being given) -/
example (y : Array ℝ) (hy : y.size = 2) {Lg Lf : (Fin 2 → ℝ) →L[ℝ] (Fin 2 → ℝ)}
    (hLg : HasFDerivAt (invRowMap e0 cA 2 sharpNet) Lg (fun i => y.getD i.1 0))
    (hLf : HasFDerivAt (rowMap e0 cA 1 2 sharpNet (arInverse (NF.realX e0) cA 1 2 sharpNet y).out 0) Lf
      (fun i => (arInverse (NF.realX e0) cA 1 2 sharpNet y).out.getD (0 * 2 + i.1) 0)) :
    (arInverse (NF.realX e0) cA 1 2 sharpNet y).ld[0]?
      = some (Real.log |LinearMap.det (Lg : (Fin 2 → ℝ) →ₗ[ℝ] (Fin 2 → ℝ))|) :=
  (ar_affine_inverse_logdet_is_jacobian e0 cA 2 sharpNet rfl (le_refl _) (by omega) sharpNet_autoreg y hy hLg hLf).1

end examples

end NF.ARInverseStage
