import Mathlib.LinearAlgebra.Matrix.Determinant.Basic
import Mathlib.LinearAlgebra.Matrix.DotProduct
import Mathlib.Data.Real.Basic
import Mathlib.Tactic
/-!
# Lemmas/Householder — the reflections of `HouseholderSequence` (orthogonal.py) on Mathlib vectors

A reflection with `q·q ≠ 0` is an involution, so the reversed sequence undoes the sequence; the matrices are in `Lemmas/LinearFamily`.
-/

namespace Householder

open Matrix
variable {n : Type} [Fintype n] [DecidableEq n]

/-- Householder reflection as the code applies it to a row vector (orthogonal.py:83-88):
    `outputs - ger(outputs @ q, (2/‖q‖²) q)` -/
noncomputable def hhApply (v x : n → ℝ) : n → ℝ := x - ((x ⬝ᵥ v) * (2 / (v ⬝ᵥ v))) • v

theorem hhApply_dot (v x : n → ℝ) (hv : v ⬝ᵥ v ≠ 0) : hhApply v x ⬝ᵥ v = - (x ⬝ᵥ v) := by
  rw [hhApply, sub_dotProduct, smul_dotProduct, smul_eq_mul, mul_assoc, div_mul_cancel₀ _ hv]
  ring

theorem hhApply_involutive (v x : n → ℝ) (hv : v ⬝ᵥ v ≠ 0) : hhApply v (hhApply v x) = x := by
  rw [hhApply, hhApply_dot v x hv, hhApply, neg_mul, neg_smul, sub_neg_eq_add, sub_add_cancel]

theorem hhApply_norm (v x : n → ℝ) (hv : v ⬝ᵥ v ≠ 0) : hhApply v x ⬝ᵥ hhApply v x = x ⬝ᵥ x := by
  have h := hhApply_dot v x hv
  rw [dotProduct_comm] at h
  conv_lhs => arg 1; rw [hhApply]
  rw [sub_dotProduct, smul_dotProduct, smul_eq_mul, h, hhApply, dotProduct_sub, dotProduct_smul, smul_eq_mul]
  ring

/-- a sequence applied in order, and its inverse = the reversed sequence (orthogonal.py:93-100) -/
noncomputable def hhSeq (vs : List (n → ℝ)) (x : n → ℝ) : n → ℝ := vs.foldl (fun acc v => hhApply v acc) x

theorem hhSeq_inverse (vs : List (n → ℝ)) (hv : ∀ v ∈ vs, v ⬝ᵥ v ≠ 0) (x : n → ℝ) :
    hhSeq vs.reverse (hhSeq vs x) = x := by
  induction vs generalizing x with
  | nil => simp [hhSeq]
  | cons v vs ih =>
    simp only [hhSeq, List.foldl_cons, List.reverse_cons, List.foldl_append, List.foldl_nil]
    have := ih (fun w hw => hv w (List.mem_cons_of_mem _ hw)) (hhApply v x)
    simp only [hhSeq] at this
    rw [this]
    exact hhApply_involutive v x (hv v (List.mem_cons_self))

end Householder
