import Mathlib.Analysis.Calculus.Deriv.MeanValue
import Mathlib.Analysis.Calculus.Deriv.Pow
import Mathlib.Analysis.SpecialFunctions.Log.Basic
import Mathlib.Analysis.SpecialFunctions.Sqrt
import Mathlib.Tactic
/-!
# Lemmas/Quad — one bin of the piecewise-quadratic spline in the relative position α ∈ [0,1]: the cdf `Quad.cdf`, the
density `Quad.pdf` it integrates (positive between positive heights), end values and derivative
-/

noncomputable section
namespace Quad
/-- quadratic-spline bin in α ∈ [0,1] (quadratic.py:140-142, 154-155): a α² + b α + c with
    a = ½(h_r - h_l) w, b = h_l w, c = left cdf -/
def cdf (hl hr w c α : ℝ) : ℝ := 0.5 * (hr - hl) * w * α^2 + hl * w * α + c
/-- what the code takes the log of: α (h_r - h_l) + h_l  (derivative w.r.t. the *normalised input*) -/
def pdf (hl hr α : ℝ) : ℝ := α * (hr - hl) + hl

theorem pdf_pos {hl hr α : ℝ} (h0 : 0 < hl) (h1 : 0 < hr) (a0 : 0 ≤ α) (a1 : α ≤ 1) : 0 < pdf hl hr α := by
  unfold pdf
  rcases le_total hl hr with h | h
  · have : 0 ≤ α * (hr - hl) := mul_nonneg a0 (sub_nonneg.2 h)
    linarith
  · have : 0 ≤ (1 - α) * (hl - hr) := mul_nonneg (sub_nonneg.2 a1) (sub_nonneg.2 h)
    nlinarith

theorem cdf_hasDerivAt {hl hr w c xk x : ℝ} (hw : 0 < w) :
    HasDerivAt (fun x => cdf hl hr w c ((x - xk) / w)) (pdf hl hr ((x - xk)/w)) x := by
  have hα : HasDerivAt (fun x : ℝ => (x - xk) / w) (1 / w) x := by
    simpa using ((hasDerivAt_id' x).sub_const xk).div_const w
  have := (((hα.pow 2).const_mul (0.5 * (hr - hl) * w)).add (hα.const_mul (hl * w))).add_const c
  refine this.congr_deriv ?_
  unfold pdf; have := hw.ne'; simp only [Nat.cast_ofNat, Nat.add_one_sub_one, pow_one]; field_simp; ring

theorem cdf_right {hl hr w c : ℝ} : cdf hl hr w c 1 = c + 0.5 * (hl + hr) * w := by unfold cdf; ring
theorem cdf_left {hl hr w c : ℝ} : cdf hl hr w c 0 = c := by unfold cdf; ring

/-- F1, why the log-det carries the box term `log((top-bottom)/(right-left))` (quadratic.py:163,166, added in /repo by
    655a2cd and part of `quadSpline`): with a non-square box, log pdf alone is NOT the log-derivative of the
    map x ↦ bottom + (top-bottom)·cdf((x-left)/(right-left)): concrete witness left=0,right=1,bottom=0,top=2,
    one bin with h_l = h_r = 1: true derivative 2, exp(log pdf) = 1. -/
theorem boxscale_counterexample :
    ∃ (hl hr : ℝ), HasDerivAt (fun x : ℝ => 0 + (2 - 0) * cdf hl hr 1 0 ((x - 0) / 1)) 2 (1/2)
      ∧ Real.exp (Real.log (pdf hl hr (1/2))) ≠ 2 := by
  refine ⟨1, 1, ?_, ?_⟩
  · have h := (cdf_hasDerivAt (hl := 1) (hr := 1) (w := 1) (c := 0) (xk := 0) (x := 1/2) one_pos).const_mul (2 - 0 : ℝ)
    have h' := h.const_add 0
    refine h'.congr_deriv ?_
    unfold pdf; norm_num
  · unfold pdf; norm_num

/-- F2, why the inverse computes the stable root `2c' / (-b - √(b² - 4ac'))` (quadratic.py:147, put there in /repo by
    35fe8c1, and what `quadSpline` evaluates): the textbook root `(-b + √(b² - 4ac')) / 2a` below divides by 2a; with
    equal heights a = 0 and, in Lean's totalised division, the returned α is 0 for every input (in IEEE arithmetic it
    is NaN) -/
def invAlpha (hl hr w c y : ℝ) : ℝ :=
  let a := 0.5 * (hr - hl) * w; let b := hl * w; let c' := c - y
  (-b + Real.sqrt (b^2 - 4 * a * c')) / (2 * a)
theorem inverse_counterexample : invAlpha 1 1 1 0 (1/2) = 0 ∧ cdf 1 1 1 0 (invAlpha 1 1 1 0 (1/2)) ≠ 1/2 := by
  have h : invAlpha 1 1 1 0 (1/2) = 0 := by unfold invAlpha; norm_num
  refine ⟨h, ?_⟩
  rw [h]; unfold cdf; norm_num
end Quad


end
