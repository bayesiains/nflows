import NflowsModel.Lemmas.FlowPushforward
import NflowsModel.Lemmas.RQInverseWhole
import NflowsModel.Lemmas.QuadInverseWhole
import NflowsModel.Lemmas.CubicWhole
import NflowsModel.Lemmas.LinWhole
import NflowsModel.Lemmas.DistReal
/-!
# Lemmas/FlowBounded — flows with BOUNDED support are normalised and sample their own density (C03, C04)

`BoxFlow T ld a b c d K`: `T` is a bijection of `[a,b]` onto `[c,d]`, and at every point of the open interval outside a countable set `K`
(the knots) it is differentiable with `|T'| = exp ld`.  By the 1-D change of variables of `Lemmas/Pushforward.lean` (countable exceptional
set): `∫ x in [a,b], exp (log_prob x) = 1` for ANY base normalised on `[c,d]`, in particular the EXECUTED 1-D `BoxUniform` row of
`Core/Density.lean` (density `0` outside `[low, high)`), and the samples follow that density.  Instances: the executed bounded RQ program
(no hypothesis beyond `RQValid`), the executed quadratic (both shapes of `uh`), cubic and linear programs (their log-abs-det contains the `Float`
constant `boxLog`, read as the real logarithm: hypothesis `hbl`, as in their C01 theorems).  The executed RQ pair as a `FlowFns0` of
`Core/FlowPairing.lean` (`rqFlow`) discharges every hypothesis of the C04 theorems (`tfwd ∘ tinv = id`, `ldInv = −ld ∘ tinv`, the derivative
law) from the whole-program theorems, `RQValid` being the only hypothesis about the transform.  What a family supplies is its `BoxFlow`
(`rq_boxFlow`, `quad_boxFlow`, `cubic_boxFlow`, `lin_boxFlow`); the statements after it are the generic `box_*` ones at that instance, all of
them written out for RQ only.
-/
open MeasureTheory NF NF.Density NF.FlowPairing

namespace FlowBounded
noncomputable section

/-! ## a flow on a box -/

/-- `T` maps `[a,b]` one-to-one onto `[c,d]`; off the countable set `K`, inside `(a,b)`, it is differentiable and the
    absolute value of its derivative is `exp ld` (increasing or decreasing) -/
structure BoxFlow (T ld : ℝ → ℝ) (a b c d : ℝ) (K : Set ℝ) : Prop where
  hbij : Set.BijOn T (Set.Icc a b) (Set.Icc c d)
  hK : K.Countable
  hd : ∀ x ∈ Set.Ioo a b, x ∉ K → ∃ T', HasDerivAt T T' x ∧ |T'| = Real.exp (ld x)

variable {T ld : ℝ → ℝ} {a b c d : ℝ} {K : Set ℝ}

theorem BoxFlow.countable_exc (h : BoxFlow T ld a b c d K) : (K ∪ {a, b}).Countable :=
  h.hK.union ((Set.countable_singleton b).insert a)

theorem BoxFlow.mem_Ioo (x : ℝ) (hx : x ∈ Set.Icc a b \ (K ∪ {a, b})) : x ∈ Set.Ioo a b ∧ x ∉ K := by
  obtain ⟨⟨h0, h1⟩, hn⟩ := hx
  simp only [Set.mem_union, Set.mem_insert_iff, Set.mem_singleton_iff, not_or] at hn
  exact ⟨⟨lt_of_le_of_ne h0 (Ne.symm hn.2.1), lt_of_le_of_ne h1 hn.2.2⟩, hn.1⟩

theorem BoxFlow.deriv_within (h : BoxFlow T ld a b c d K) :
    ∀ x ∈ Set.Icc a b \ (K ∪ {a, b}), HasDerivWithinAt T (deriv T x) (Set.Icc a b \ (K ∪ {a, b})) x := by
  intro x hx
  obtain ⟨hI, hxK⟩ := BoxFlow.mem_Ioo x hx
  obtain ⟨T', hT, _⟩ := h.hd x hI hxK
  rw [hT.deriv]; exact hT.hasDerivWithinAt

theorem BoxFlow.deriv_abs (h : BoxFlow T ld a b c d K) :
    ∀ x ∈ Set.Icc a b \ (K ∪ {a, b}), |deriv T x| = Real.exp (ld x) := by
  intro x hx
  obtain ⟨hI, hxK⟩ := BoxFlow.mem_Ioo x hx
  obtain ⟨T', hT, habs⟩ := h.hd x hI hxK
  rw [hT.deriv]; exact habs

theorem box_change_of_variables (h : BoxFlow T ld a b c d K) (p : ℝ → ℝ) :
    ∫ z in Set.Icc c d, p z = ∫ x in Set.Icc a b, p (T x) * Real.exp (ld x) := by
  rw [← h.hbij.image_eq]
  exact Pushforward.integral_image_countable_exception T (deriv T) ld p (Set.Icc a b) (K ∪ {a, b})
    measurableSet_Icc h.countable_exc h.hbij.injOn h.deriv_within h.deriv_abs

/-- **C03-3, general base**: a base density `g` that integrates to one over `[c,d]` is pulled back to a density that
    integrates to one over `[a,b]` -/
theorem box_flow_normalised (h : BoxFlow T ld a b c d K) (g : ℝ → ℝ) (hg : ∫ z in Set.Icc c d, g z = 1) :
    ∫ x in Set.Icc a b, g (T x) * Real.exp (ld x) = 1 := by
  rw [← box_change_of_variables h g, hg]

/-- in log form, as `Flow._log_prob` computes it: `exp (base.log_prob (T x) + logabsdet x)` -/
theorem box_flow_normalised_logprob (h : BoxFlow T ld a b c d K) (blp : ℝ → ℝ)
    (hg : ∫ z in Set.Icc c d, Real.exp (blp z) = 1) :
    ∫ x in Set.Icc a b, Real.exp (blp (T x) + ld x) = 1 := by
  simp_rw [Real.exp_add]
  exact box_flow_normalised h (fun z => Real.exp (blp z)) hg

theorem uniform_Icc_normalised (hcd : c < d) : ∫ _z in Set.Icc c d, Real.exp (-Real.log (d - c)) = 1 := by
  have hpos : 0 < d - c := sub_pos.mpr hcd
  rw [setIntegral_const, Real.volume_real_Icc_of_le hcd.le, Real.exp_neg, Real.exp_log hpos, smul_eq_mul]
  field_simp

/-- **C03-3, uniform base**: `log_prob x = −log (d − c) + ld x` integrates (after `exp`) to one over `[a,b]` -/
theorem box_uniform_flow_normalised (h : BoxFlow T ld a b c d K) (hcd : c < d) :
    ∫ x in Set.Icc a b, Real.exp (-Real.log (d - c) + ld x) = 1 :=
  box_flow_normalised_logprob h (fun _ => -Real.log (d - c)) (uniform_Icc_normalised hcd)

/-! ### the EXECUTED 1-D `BoxUniform` row as the base -/

section exec
variable (e : Float → ℝ)

theorem uniform1_inside (lo hi z : ℝ) : insideBox (NF.realX e) [lo] [hi] [z] = true ↔ lo ≤ z ∧ z < hi := by
  have := DistReal.insideBox_real e (fun _ : Fin 1 => lo) (fun _ => hi) (fun _ => z)
  simpa using this

theorem uniform1_row (lo hi z : ℝ) (hin : lo ≤ z ∧ z < hi) :
    boxUniformRow (NF.realX e) [lo] [hi] [z] = -Real.log (hi - lo) := by
  have := DistReal.boxUniformRow_real e (fun _ : Fin 1 => lo) (fun _ => hi) (fun _ => z) (fun _ => hin)
  simpa using this

/-- the density of the executed 1-D `BoxUniform(lo, hi)`: `exp` of the executed row inside the support `[lo, hi)`, `0`
    outside (as in `Properties.C05.boxUniform_normalised`) -/
def uniformDensity (lo hi z : ℝ) : ℝ :=
  if insideBox (NF.realX e) [lo] [hi] [z] = true then Real.exp (boxUniformRow (NF.realX e) [lo] [hi] [z]) else 0

theorem uniformDensity_eq (lo hi : ℝ) :
    uniformDensity e lo hi = (Set.Ico lo hi).indicator (fun _ => Real.exp (-Real.log (hi - lo))) := by
  funext z
  unfold uniformDensity
  by_cases hin : lo ≤ z ∧ z < hi
  · rw [if_pos ((uniform1_inside e lo hi z).mpr hin), uniform1_row e lo hi z hin, Set.indicator_of_mem (show z ∈ Set.Ico lo hi from hin)]
  · rw [if_neg (fun hc => hin ((uniform1_inside e lo hi z).mp hc)), Set.indicator_of_notMem (show z ∉ Set.Ico lo hi from hin)]

/-- the executed uniform density integrates to one over the closed box (the end point `hi`, where it is `0`, is null) -/
theorem uniformDensity_normalised (lo hi : ℝ) (hlh : lo < hi) : ∫ z in Set.Icc lo hi, uniformDensity e lo hi z = 1 := by
  have hpos : 0 < hi - lo := sub_pos.mpr hlh
  rw [uniformDensity_eq, integral_Icc_eq_integral_Ico, setIntegral_indicator measurableSet_Ico, Set.inter_self,
    setIntegral_const, Real.volume_real_Ico_of_le hlh.le, Real.exp_neg, Real.exp_log hpos, smul_eq_mul]
  field_simp

/-- **C03-3, executed uniform base**: the density of the flow "`T` on `[a,b] → [c,d]`, then the executed
    `BoxUniform(c, d)`": `exp (executed base row at T x + ld x)` where the base has support, `0` elsewhere -/
theorem box_executed_uniform_flow_normalised (h : BoxFlow T ld a b c d K) (hcd : c < d) :
    ∫ x in Set.Icc a b, (if insideBox (NF.realX e) [c] [d] [T x] = true
        then Real.exp (boxUniformRow (NF.realX e) [c] [d] [T x] + ld x) else 0) = 1 := by
  have := box_flow_normalised h (uniformDensity e c d) (uniformDensity_normalised e c d hcd)
  rw [← this]
  congr 1; funext x
  unfold uniformDensity
  split
  · rw [Real.exp_add]
  · simp

end exec

/-! ### samples on the box -/

theorem BoxFlow.left_inv (h : BoxFlow T ld a b c d K) (Tinv : ℝ → ℝ)
    (hTinv : ∀ z ∈ Set.Icc c d, Tinv z ∈ Set.Icc a b ∧ T (Tinv z) = z) : ∀ x ∈ Set.Icc a b, Tinv (T x) = x := by
  intro x hx
  obtain ⟨hm, hr⟩ := hTinv (T x) (h.hbij.mapsTo hx)
  exact h.hbij.injOn hm hx hr

/-- **push-forward on the box (C04-2 b, c)**: noise `z` with density `p` on `[c,d]`, sample `Tinv z ∈ [a,b]`;
    P(sample ∈ A) = `∫_{A ∩ [a,b]} p (T x) · exp (ld x) dx` for every measurable `A` -/
theorem box_samples_follow_density (h : BoxFlow T ld a b c d K) (Tinv : ℝ → ℝ)
    (hTinv : ∀ z ∈ Set.Icc c d, Tinv z ∈ Set.Icc a b ∧ T (Tinv z) = z) (p : ℝ → ℝ) (A : Set ℝ) (hA : MeasurableSet A) :
    ∫ z in Tinv ⁻¹' A ∩ Set.Icc c d, p z = ∫ x in A ∩ Set.Icc a b, p (T x) * Real.exp (ld x) :=
  Pushforward.sample_event_probability_on T Tinv (deriv T) ld p (Set.Icc a b) (Set.Icc c d) (K ∪ {a, b})
    measurableSet_Icc h.countable_exc h.hbij.mapsTo (fun z hz => (hTinv z hz).1) (h.left_inv Tinv hTinv)
    (fun z hz => (hTinv z hz).2) h.deriv_within h.deriv_abs A hA

theorem flow0On_of_boxFlow (f : FlowFns0 ℝ ℝ ℝ) (h : BoxFlow f.tfwd f.ld a b c d K) (hadd : ∀ u v, f.add u v = u + v)
    (hTinv : ∀ z ∈ Set.Icc c d, f.tinv z ∈ Set.Icc a b ∧ f.tfwd (f.tinv z) = z) :
    FlowPushforward.Flow0On f (Set.Icc a b) (Set.Icc c d) (K ∪ {a, b}) (deriv f.tfwd) where
  hadd := hadd
  hS := measurableSet_Icc
  hK := h.countable_exc
  hfwd := h.hbij.mapsTo
  hinv := fun z hz => (hTinv z hz).1
  hl := h.left_inv f.tinv hTinv
  hr := fun z hz => (hTinv z hz).2
  hd := h.deriv_within
  habs := h.deriv_abs

/-! ## from "differentiable inside every open bin" to `BoxFlow` -/

/-- a searched piecewise map (`ExecGlue.Searched`) that is a bijection of the boxes and whose bin formulas have derivative `exp` of
    the searched log-derivative strictly inside their bins is a `BoxFlow`; the exceptional set is the set of knots: off the knots the
    search itself names the open bin a point lies in -/
theorem boxFlow_of_searched {n : ℕ} {xs ys : ℕ → ℝ} {f ldf : ℕ → ℝ → ℝ} {idx : ℝ → ℕ}
    (P : ExecGlue.Searched n xs ys a b c d f idx T) (hbij : Set.BijOn T (Set.Icc a b) (Set.Icc c d))
    (hLD : ∀ x, a ≤ x → x ≤ b → ld x = ldf (idx x) x)
    (hd : ∀ k < n, ∀ x, xs k < x → x < xs (k+1) → HasDerivAt (f k) (Real.exp (ldf k x)) x) :
    BoxFlow T ld a b c d (Set.range xs) where
  hbij := hbij
  hK := Set.countable_range xs
  hd := fun x hx hxK => by
    obtain ⟨hiK, hle, hr⟩ := P.spec x (P.x0 ▸ hx.1.le) (P.xK ▸ hx.2.le)
    exact ⟨_, P.hasDerivAt hLD hd _ hiK x (lt_of_le_of_ne hle fun h => hxK ⟨_, h⟩)
      (hr.elim id fun h => absurd (P.xK ▸ h.2) hx.2.ne), abs_of_pos (Real.exp_pos _)⟩

/-! ## the executed bounded rational-quadratic spline -/

section rq
variable {e : Float → ℝ} {cfg : RQCfg} {uw uh ud : List ℝ}

theorem rq_boxFlow (hv : RQWhole.RQValid e cfg uw uh ud) :
    BoxFlow (RQWhole.val e cfg uw uh ud) (RQWhole.ld e cfg uw uh ud) (e cfg.box.left) (e cfg.box.right)
      (e cfg.box.bottom) (e cfg.box.top) (Set.range (RQWhole.xs e cfg uw)) :=
  boxFlow_of_searched (RQWhole.searched hv) ((RQInverseWhole.searchedInv hv).bijOn (RQWhole.searched hv)) (RQWhole.ld_eq hv)
    (fun k hk x h0 h1 => RQWhole.bin_hasDerivAt hv k hk x h0.le h1.le)

/-- **C03-3 for the executed RQ program, general base**: any base density `g` normalised on `[bottom, top]` -/
theorem rq_flow_normalised_base (hv : RQWhole.RQValid e cfg uw uh ud) (g : ℝ → ℝ)
    (hg : ∫ z in Set.Icc (e cfg.box.bottom) (e cfg.box.top), g z = 1) :
    ∫ x in Set.Icc (e cfg.box.left) (e cfg.box.right),
      g (RQWhole.val e cfg uw uh ud x) * Real.exp (RQWhole.ld e cfg uw uh ud x) = 1 :=
  box_flow_normalised (rq_boxFlow hv) g hg

/-- **… with the executed `BoxUniform(bottom, top)` row as the base** -/
theorem rq_executed_uniform_flow_normalised (hv : RQWhole.RQValid e cfg uw uh ud) :
    ∫ x in Set.Icc (e cfg.box.left) (e cfg.box.right),
      (if insideBox (NF.realX e) [e cfg.box.bottom] [e cfg.box.top] [RQWhole.val e cfg uw uh ud x] = true
        then Real.exp (boxUniformRow (NF.realX e) [e cfg.box.bottom] [e cfg.box.top] [RQWhole.val e cfg uw uh ud x]
              + RQWhole.ld e cfg uw uh ud x) else 0) = 1 :=
  box_executed_uniform_flow_normalised e (rq_boxFlow hv) hv.hbt

/-- the executed pair (forward program, inverse program) with a base log-density `blp`, as a flow of
    `Core/FlowPairing.lean`; `add`/`sub` are the model's real operations -/
def rqFlow (e : Float → ℝ) (cfg : RQCfg) (uw uh ud : List ℝ) (blp : ℝ → ℝ) : FlowFns0 ℝ ℝ ℝ where
  tinv := RQInverseWhole.inv e cfg uw uh ud
  ldInv := RQInverseWhole.invLd e cfg uw uh ud
  tfwd := RQWhole.val e cfg uw uh ud
  ld := RQWhole.ld e cfg uw uh ud
  blp := blp
  add := (NF.realX e).add
  sub := (NF.realX e).sub

/-- every hypothesis of the C04 theorems holds for the executed RQ flow -/
theorem rq_flow0On (hv : RQWhole.RQValid e cfg uw uh ud) (blp : ℝ → ℝ) :
    FlowPushforward.Flow0On (rqFlow e cfg uw uh ud blp) (Set.Icc (e cfg.box.left) (e cfg.box.right))
      (Set.Icc (e cfg.box.bottom) (e cfg.box.top))
      (Set.range (RQWhole.xs e cfg uw) ∪ {e cfg.box.left, e cfg.box.right}) (deriv (RQWhole.val e cfg uw uh ud)) :=
  have R := (RQInverseWhole.searchedInv hv).rightInv (RQWhole.searched hv)
  flow0On_of_boxFlow (rqFlow e cfg uw uh ud blp) (rq_boxFlow hv) (fun _ _ => rfl)
    (fun z hz => ⟨R.inv_mapsTo hz, R.right_inv z hz⟩)

/-- **C04 for the executed RQ flow**: noise with density `exp blp` on `[bottom, top]`, samples = executed inverse
    program applied to the noise; P(sample ∈ A) = `∫_{A ∩ [left,right]} exp (flowLogProb0 …)` -/
theorem rq_flow_samples_follow_logprob (hv : RQWhole.RQValid e cfg uw uh ud) (blp : ℝ → ℝ) (A : Set ℝ)
    (hA : MeasurableSet A) :
    ∫ z in RQInverseWhole.inv e cfg uw uh ud ⁻¹' A ∩ Set.Icc (e cfg.box.bottom) (e cfg.box.top), Real.exp (blp z)
      = ∫ x in A ∩ Set.Icc (e cfg.box.left) (e cfg.box.right), Real.exp (flowLogProb0 (rqFlow e cfg uw uh ud blp) x) :=
  FlowPushforward.flow0_samples_follow_logprob_on _ _ _ _ _ (rq_flow0On hv blp) A hA

/-- **C03-3 for the model term `flowLogProb0`** of the executed RQ flow -/
theorem rq_flow_normalised (hv : RQWhole.RQValid e cfg uw uh ud) (blp : ℝ → ℝ)
    (hg : ∫ z in Set.Icc (e cfg.box.bottom) (e cfg.box.top), Real.exp (blp z) = 1) :
    ∫ x in Set.Icc (e cfg.box.left) (e cfg.box.right), Real.exp (flowLogProb0 (rqFlow e cfg uw uh ud blp) x) = 1 := by
  have := rq_flow_samples_follow_logprob hv blp Set.univ MeasurableSet.univ
  simp only [Set.preimage_univ, Set.univ_inter] at this
  rw [← this, hg]

/-- **"exactly the value `log_prob` assigns" for the executed RQ flow (C04-4)**: for noise rows in `[bottom, top]`,
    entry `j` of what `flowSalp0` returns is `(inv z, flowLogProb0 (inv z))`; the C02 hypotheses `ldInv = −ld ∘ tinv`,
    `tfwd ∘ tinv = id` are discharged by `RQInverseWhole.invLd_eq_neg_ld` and the round trip of the searched pair -/
theorem rq_flow_salp_consistent (hv : RQWhole.RQValid e cfg uw uh ud) (blp : ℝ → ℝ) (N : List ℝ) (j : ℕ) (z : ℝ)
    (hz : N[j]? = some z) (hz0 : e cfg.box.bottom ≤ z) (hz1 : z ≤ e cfg.box.top) :
    (flowSalp0 (rqFlow e cfg uw uh ud blp) N).1[j]? = some (RQInverseWhole.inv e cfg uw uh ud z) ∧
    (flowSalp0 (rqFlow e cfg uw uh ud blp) N).2[j]?
      = some (flowLogProb0 (rqFlow e cfg uw uh ud blp) (RQInverseWhole.inv e cfg uw uh ud z)) := by
  have h1 : (flowSalp0 (rqFlow e cfg uw uh ud blp) N).1[j]? = some (RQInverseWhole.inv e cfg uw uh ud z) := by
    simp [flowSalp0, distSalp0, hz, rqFlow]
  have h2 : (flowSalp0 (rqFlow e cfg uw uh ud blp) N).2[j]?
      = some (blp z - RQInverseWhole.invLd e cfg uw uh ud z) := by
    simp [flowSalp0, distSalp0, hz, rqFlow]
  refine ⟨h1, ?_⟩
  rw [h2, RQInverseWhole.invLd_eq_neg_ld hv z hz0 hz1]
  show _ = some (blp (RQWhole.val e cfg uw uh ud (RQInverseWhole.inv e cfg uw uh ud z))
    + RQWhole.ld e cfg uw uh ud (RQInverseWhole.inv e cfg uw uh ud z))
  rw [(RQInverseWhole.searchedInv hv).val_inv (RQWhole.searched hv) z hz0 hz1]
  congr 1; ring

/-! ### non-vacuity: the unit box -/

theorem rq_unit_example :
    ∫ x in Set.Icc (RQWhole.eNV RQWhole.cNV.box.left) (RQWhole.eNV RQWhole.cNV.box.right),
      (if insideBox (NF.realX RQWhole.eNV) [RQWhole.eNV RQWhole.cNV.box.bottom] [RQWhole.eNV RQWhole.cNV.box.top]
            [RQWhole.val RQWhole.eNV RQWhole.cNV [0] [0] [0, 0] x] = true
        then Real.exp (boxUniformRow (NF.realX RQWhole.eNV) [RQWhole.eNV RQWhole.cNV.box.bottom]
              [RQWhole.eNV RQWhole.cNV.box.top] [RQWhole.val RQWhole.eNV RQWhole.cNV [0] [0] [0, 0] x]
              + RQWhole.ld RQWhole.eNV RQWhole.cNV [0] [0] [0, 0] x) else 0) = 1 :=
  rq_executed_uniform_flow_normalised RQWhole.valid_example

end rq

/-! ## the executed quadratic, cubic and linear programs (their log-abs-det contains the constant `boxLog`) -/

section quad
variable {e : Float → ℝ} {cfg : QCfg} {uw uh : List ℝ}

theorem quad_boxFlow {Wd U : List ℝ} {P Q : ℝ → Except Err (ℝ × ℝ)} (R : QuadInverseWhole.Runs e cfg Wd U P Q)
    (hbl : e (boxLog cfg.box) = Real.log ((e cfg.box.top - e cfg.box.bottom) / (e cfg.box.right - e cfg.box.left))) :
    BoxFlow (fun x => QuadWhole.valOf (P x)) (fun x => QuadWhole.ldOf (P x)) (e cfg.box.left) (e cfg.box.right)
      (e cfg.box.bottom) (e cfg.box.top) (Set.range (QuadWhole.xkW e cfg Wd)) :=
  boxFlow_of_searched R.searched (R.searchedInv.bijOn R.searched) R.ld_eq
    (fun k hk x h0 h1 => QuadWhole.binX_hasDerivAt R.core R.box hbl k hk x h0.le h1.le)

/-- C03-3 for the executed quadratic spline (heights of length `K+1`), general base -/
theorem quad_flow_normalised_base (hv : QuadWhole.QuadValid e cfg uw uh)
    (hbl : e (boxLog cfg.box) = Real.log ((e cfg.box.top - e cfg.box.bottom) / (e cfg.box.right - e cfg.box.left)))
    (g : ℝ → ℝ) (hg : ∫ z in Set.Icc (e cfg.box.bottom) (e cfg.box.top), g z = 1) :
    ∫ x in Set.Icc (e cfg.box.left) (e cfg.box.right),
      g (QuadWhole.val e cfg uw uh x) * Real.exp (QuadWhole.ld e cfg uw uh x) = 1 :=
  box_flow_normalised (quad_boxFlow (QuadInverseWhole.runs_of_valid hv) hbl) g hg

theorem quad_samples_follow_density (hv : QuadWhole.QuadValid e cfg uw uh)
    (hbl : e (boxLog cfg.box) = Real.log ((e cfg.box.top - e cfg.box.bottom) / (e cfg.box.right - e cfg.box.left)))
    (p : ℝ → ℝ) (A : Set ℝ) (hA : MeasurableSet A) :
    ∫ z in QuadInverseWhole.inv e cfg uw uh ⁻¹' A ∩ Set.Icc (e cfg.box.bottom) (e cfg.box.top), p z
      = ∫ x in A ∩ Set.Icc (e cfg.box.left) (e cfg.box.right),
          p (QuadWhole.val e cfg uw uh x) * Real.exp (QuadWhole.ld e cfg uw uh x) :=
  have R := (QuadInverseWhole.runs_of_valid hv).searchedInv.rightInv (QuadInverseWhole.runs_of_valid hv).searched
  box_samples_follow_density (quad_boxFlow (QuadInverseWhole.runs_of_valid hv) hbl) _
    (fun z hz => ⟨R.inv_mapsTo hz, R.right_inv z hz⟩) p A hA

theorem quad_uniform_flow_normalised_T (hv : QuadWhole.QuadValidT e cfg uw uh)
    (hbl : e (boxLog cfg.box) = Real.log ((e cfg.box.top - e cfg.box.bottom) / (e cfg.box.right - e cfg.box.left))) :
    ∫ x in Set.Icc (e cfg.box.left) (e cfg.box.right),
      Real.exp (-Real.log (e cfg.box.top - e cfg.box.bottom) + QuadWhole.ld e cfg uw uh x) = 1 :=
  box_uniform_flow_normalised (quad_boxFlow (QuadInverseWhole.runs_of_validT hv) hbl) hv.hbox.hbt

end quad

section cubic
variable {e : Float → ℝ} {cfg : CCfg} {uw uh : List ℝ} {udl udr : ℝ}

theorem cubic_boxFlow (hv : CubicWhole.CubicValid e cfg uw uh)
    (hbl : e (boxLog cfg.box) = Real.log ((e cfg.box.top - e cfg.box.bottom) / (e cfg.box.right - e cfg.box.left))) :
    BoxFlow (CubicWhole.val e cfg uw uh udl udr) (CubicWhole.ld e cfg uw uh udl udr) (e cfg.box.left) (e cfg.box.right)
      (e cfg.box.bottom) (e cfg.box.top) ∅ where
  hbij := CubicWhole.val_bijOn hv
  hK := Set.countable_empty
  hd := fun x hx _ => ⟨_, CubicWhole.val_hasDerivAt_all hv hbl x hx.1 hx.2, abs_of_pos (Real.exp_pos _)⟩

theorem cubic_flow_normalised_base (hv : CubicWhole.CubicValid e cfg uw uh)
    (hbl : e (boxLog cfg.box) = Real.log ((e cfg.box.top - e cfg.box.bottom) / (e cfg.box.right - e cfg.box.left)))
    (g : ℝ → ℝ) (hg : ∫ z in Set.Icc (e cfg.box.bottom) (e cfg.box.top), g z = 1) :
    ∫ x in Set.Icc (e cfg.box.left) (e cfg.box.right),
      g (CubicWhole.val e cfg uw uh udl udr x) * Real.exp (CubicWhole.ld e cfg uw uh udl udr x) = 1 :=
  box_flow_normalised (cubic_boxFlow hv hbl) g hg

end cubic

section lin
variable {e : Float → ℝ} {box : Box} {eps : Float} {up : List ℝ}

theorem lin_boxFlow (hv : LinWhole.LinValid e box eps up)
    (hlogK : e (Float.log (1.0 / up.length.toFloat)) = Real.log (1 / (up.length : ℝ)))
    (hbl : e (boxLog box) = Real.log ((e box.top - e box.bottom) / (e box.right - e box.left))) :
    BoxFlow (LinWhole.val e box eps up) (LinWhole.ld e box eps up) (e box.left) (e box.right)
      (e box.bottom) (e box.top) (Set.range (LinWhole.xk e box up.length)) :=
  boxFlow_of_searched (ldf := fun k _ => LinWhole.binLdF e up k + e (boxLog box)) (LinWhole.searched hv)
    ((LinWhole.searchedInv hv).bijOn (LinWhole.searched hv)) (LinWhole.ld_eq hv)
    (fun k hk x _ _ => LinWhole.binX_hasDerivAt hv hlogK hbl k hk x)

theorem lin_flow_normalised_base (hv : LinWhole.LinValid e box eps up)
    (hlogK : e (Float.log (1.0 / up.length.toFloat)) = Real.log (1 / (up.length : ℝ)))
    (hbl : e (boxLog box) = Real.log ((e box.top - e box.bottom) / (e box.right - e box.left)))
    (g : ℝ → ℝ) (hg : ∫ z in Set.Icc (e box.bottom) (e box.top), g z = 1) :
    ∫ x in Set.Icc (e box.left) (e box.right),
      g (LinWhole.val e box eps up x) * Real.exp (LinWhole.ld e box eps up x) = 1 :=
  box_flow_normalised (lin_boxFlow hv hlogK hbl) g hg

theorem lin_samples_follow_density (hv : LinWhole.LinValid e box eps up)
    (hlogK : e (Float.log (1.0 / up.length.toFloat)) = Real.log (1 / (up.length : ℝ)))
    (hbl : e (boxLog box) = Real.log ((e box.top - e box.bottom) / (e box.right - e box.left)))
    (p : ℝ → ℝ) (A : Set ℝ) (hA : MeasurableSet A) :
    ∫ z in LinWhole.inv e box eps up ⁻¹' A ∩ Set.Icc (e box.bottom) (e box.top), p z
      = ∫ x in A ∩ Set.Icc (e box.left) (e box.right),
          p (LinWhole.val e box eps up x) * Real.exp (LinWhole.ld e box eps up x) :=
  have R := (LinWhole.searchedInv hv).rightInv (LinWhole.searched hv)
  box_samples_follow_density (lin_boxFlow hv hlogK hbl) _ (fun z hz => ⟨R.inv_mapsTo hz, R.right_inv z hz⟩) p A hA

end lin

end
end FlowBounded
