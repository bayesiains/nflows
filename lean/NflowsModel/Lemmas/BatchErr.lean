import NflowsModel.Lemmas.RowErr
import NflowsModel.Lemmas.NonlinExec
import NflowsModel.Lemmas.ARWhole
import NflowsModel.Lemmas.CubicInverseWhole
import NflowsModel.Lemmas.LinTails
import Mathlib.Tactic
/-!
# Lemmas/BatchErr — the batch-level `err` field of the executed layers, element by element (C17, C12)

"A domain-restricted transform raises `InputOutsideDomain` when ANY input of the batch is outside; in-domain inputs never
fail, for any batch size / position", for the EXECUTED layer loops `cdfApply`, `arApply`, `couplingApply`, `nonlinApply`
(`Core/Structure.lean`).  The reported error is `firstErr` of the element results in iteration order (lexicographic over
the loop grid; in a coupling layer the unconditional pass over ALL rows is scanned before the conditional one), and a
bounded spline element is rejected exactly where its guard `outside` says so.  The list facts are generic in `o : XOps α`
(they hold at `Float` / `Float32` / ℝ alike); over `NF.realX e` the bounded LINEAR family is discharged completely
(`LinCfgValid`: error iff some element is outside), and with linear tails every real input is accepted in both directions
(quadratic tails need `K ≥ 2` bins: with `K = 1` every call fails with an index error).  §6–§7 also hold the bundles
`LinCfgValid`, `LinTailsCfgValid`, `QuadTailsCfgValid` over the `*Whole` validity structures: "no error" can only be stated
for a configuration whose constants the element program accepts.
-/
open NF

namespace NF.BatchErr
open NF.StructureExec NF.RowErr
variable {α : Type}

/-! ## 1. `firstErr`: the first error in iteration order -/

def errOfR {β : Type} (r : Except Err β) : Option Err := match r with | .error e => some e | .ok _ => none

theorem firstErr_def (rs : List (ElRes α)) : firstErr rs = rs.findSome? errOfR := by
  unfold firstErr
  congr 1
  funext r
  cases r <;> rfl

theorem errOfR_eq_some {β : Type} {r : Except Err β} {e : Err} : errOfR r = some e ↔ r = .error e := by
  cases r <;> simp [errOfR]

theorem errOfR_eq_none {β : Type} {r : Except Err β} : errOfR r = none ↔ ∃ v, r = .ok v := by
  cases r with
  | error e => exact ⟨fun h => (nomatch h), fun ⟨_, h⟩ => (nomatch h)⟩
  | ok v => exact ⟨fun _ => ⟨v, rfl⟩, fun _ => rfl⟩

/-- `findSome?` returns the value of the first position where the function is defined (`List.findSome?_eq_some_iff`, by
    positions) -/
theorem findSome?_eq_some_idx {β δ : Type} (l : List β) (f : β → Option δ) (e : δ) :
    l.findSome? f = some e ↔
      ∃ (k : Nat) (a : β), l[k]? = some a ∧ f a = some e ∧ ∀ (j : Nat) (a' : β), j < k → l[j]? = some a' → f a' = none := by
  rw [List.findSome?_eq_some_iff]
  constructor
  · rintro ⟨l₁, a, l₂, rfl, hfa, hmin⟩
    refine ⟨l₁.length, a, by simp, hfa, ?_⟩
    intro j a' hj hja
    rw [List.getElem?_append_left hj] at hja
    exact hmin a' (List.mem_of_getElem? hja)
  · rintro ⟨k, a, hk, hfa, hmin⟩
    obtain ⟨hkl, rfl⟩ := List.getElem?_eq_some_iff.1 hk
    refine ⟨l.take k, l[k], l.drop (k + 1), ?_, hfa, ?_⟩
    · rw [List.getElem_cons_drop, List.take_append_drop]
    · intro x hx
      obtain ⟨j, hj, rfl⟩ := List.getElem_of_mem hx
      rw [List.length_take] at hj
      rw [List.getElem_take]
      exact hmin j _ (by omega) (List.getElem?_eq_getElem (by omega))

theorem firstErr_eq_some_iff (rs : List (ElRes α)) (e : Err) :
    firstErr rs = some e ↔
      ∃ k : Nat, rs[k]? = some (Except.error e) ∧ ∀ j : Nat, j < k → ∃ v, rs[j]? = some (Except.ok v) := by
  rw [firstErr_def, findSome?_eq_some_idx]
  constructor
  · rintro ⟨k, a, hk, hfe, hmin⟩
    rw [errOfR_eq_some] at hfe
    subst hfe
    refine ⟨k, hk, ?_⟩
    intro j hj
    have hjl : j < rs.length := lt_trans hj (List.getElem?_eq_some_iff.1 hk).1
    obtain ⟨v, hv⟩ := errOfR_eq_none.1 (hmin j rs[j] hj (List.getElem?_eq_getElem hjl))
    exact ⟨v, by rw [List.getElem?_eq_getElem hjl, hv]⟩
  · rintro ⟨k, hk, hmin⟩
    refine ⟨k, _, hk, errOfR_eq_some.2 rfl, ?_⟩
    intro j a' hj hja
    obtain ⟨v, hv⟩ := hmin j hj
    rw [hja] at hv
    exact errOfR_eq_none.2 ⟨v, Option.some.inj hv⟩

theorem firstErr_eq_some_iff' (rs : List (ElRes α)) (e : Err) :
    firstErr rs = some e ↔
      ∃ k : Nat, ∃ hk : k < rs.length, rs[k] = Except.error e ∧ ∀ j : Nat, (hj : j < k) → ∃ v, rs[j]'(lt_trans hj hk) = Except.ok v := by
  rw [firstErr_eq_some_iff]
  constructor
  · rintro ⟨k, hk, hmin⟩
    obtain ⟨hkl, hke⟩ := List.getElem?_eq_some_iff.1 hk
    refine ⟨k, hkl, hke, ?_⟩
    intro j hj
    obtain ⟨v, hv⟩ := hmin j hj
    exact ⟨v, (List.getElem?_eq_some_iff.1 hv).2⟩
  · rintro ⟨k, hkl, hke, hmin⟩
    refine ⟨k, by rw [List.getElem?_eq_getElem hkl, hke], ?_⟩
    intro j hj
    obtain ⟨v, hv⟩ := hmin j hj
    exact ⟨v, by rw [List.getElem?_eq_getElem (lt_trans hj hkl), hv]⟩

theorem firstErr_eq_none_iff (rs : List (ElRes α)) : firstErr rs = none ↔ ∀ r ∈ rs, ∃ v, r = .ok v :=
  firstErr_eq_none rs

theorem firstErr_some_mem {rs : List (ElRes α)} {e : Err} (h : firstErr rs = some e) : ∃ r ∈ rs, r = .error e := by
  obtain ⟨k, hk, _⟩ := (firstErr_eq_some_iff rs e).1 h
  exact ⟨_, List.mem_of_getElem? hk, rfl⟩

theorem firstErr_isSome_iff (rs : List (ElRes α)) :
    (∃ e, firstErr rs = some e) ↔ ∃ r ∈ rs, ∃ e, r = .error e := by
  constructor
  · rintro ⟨e, h⟩
    obtain ⟨r, hr, hre⟩ := firstErr_some_mem h
    exact ⟨r, hr, e, hre⟩
  · rintro ⟨r, hr, e, rfl⟩
    cases h : firstErr rs with
    | some e' => exact ⟨e', rfl⟩
    | none =>
      obtain ⟨v, hv⟩ := (firstErr_eq_none rs).1 h _ hr
      cases hv

theorem firstErr_ne_none_iff (rs : List (ElRes α)) :
    firstErr rs ≠ none ↔ ∃ r ∈ rs, ∃ e, r = .error e := by
  rw [← firstErr_isSome_iff, Option.ne_none_iff_exists']

/-! ### grids in iteration order -/

theorem findSome?_range_eq_some {δ : Type} (g : Nat → Option δ) (B : Nat) (e : δ) :
    (List.range B).findSome? g = some e ↔ ∃ b, b < B ∧ g b = some e ∧ ∀ b', b' < b → g b' = none := by
  rw [findSome?_eq_some_idx]
  have hr : ∀ k a, (List.range B)[k]? = some a ↔ k < B ∧ a = k := by
    intro k a
    rw [List.getElem?_eq_some_iff]
    simp only [List.length_range, List.getElem_range]
    constructor
    · rintro ⟨h, rfl⟩; exact ⟨h, rfl⟩
    · rintro ⟨h, rfl⟩; exact ⟨h, rfl⟩
  constructor
  · rintro ⟨k, a, hk, hfe, hmin⟩
    obtain ⟨hkB, rfl⟩ := (hr k a).1 hk
    exact ⟨a, hkB, hfe, fun b' hb' => hmin b' b' hb' ((hr b' b').2 ⟨lt_trans hb' hkB, rfl⟩)⟩
  · rintro ⟨b, hb, hfe, hmin⟩
    refine ⟨b, b, (hr b b).2 ⟨hb, rfl⟩, hfe, ?_⟩
    intro j a' hj hja
    obtain ⟨_, rfl⟩ := (hr j a').1 hja
    exact hmin a' hj


theorem findSome?_range_eq_none {δ : Type} (g : Nat → Option δ) (B : Nat) :
    (List.range B).findSome? g = none ↔ ∀ b, b < B → g b = none := by
  rw [List.findSome?_eq_none_iff]
  simp only [List.mem_range]

theorem firstErr_rows_eq_some (B : Nat) (L : Nat → List (ElRes α)) (e : Err) :
    firstErr ((List.range B).flatMap L) = some e
      ↔ ∃ b, b < B ∧ firstErr (L b) = some e ∧ ∀ b', b' < b → firstErr (L b') = none := by
  rw [firstErr_flatMap, findSome?_range_eq_some]

theorem firstErr_rows_eq_none (B : Nat) (L : Nat → List (ElRes α)) :
    firstErr ((List.range B).flatMap L) = none ↔ ∀ b, b < B → firstErr (L b) = none := by
  rw [firstErr_flatMap, findSome?_range_eq_none]

theorem firstErr_range_map_eq_some (n : Nat) (f : Nat → ElRes α) (e : Err) :
    firstErr ((List.range n).map f) = some e
      ↔ ∃ i, i < n ∧ f i = .error e ∧ ∀ i', i' < i → ∃ v, f i' = .ok v := by
  rw [firstErr_def, List.findSome?_map, findSome?_range_eq_some]
  simp only [Function.comp, errOfR_eq_some, errOfR_eq_none]

theorem firstErr_range_map_eq_none (n : Nat) (f : Nat → ElRes α) :
    firstErr ((List.range n).map f) = none ↔ ∀ i, i < n → ∃ v, f i = .ok v := by
  rw [firstErr_def, List.findSome?_map, findSome?_range_eq_none]
  simp only [Function.comp, errOfR_eq_none]

def grid2 (B n : Nat) (f : Nat → Nat → ElRes α) : List (ElRes α) :=
  (List.range B).flatMap fun b => (List.range n).map (f b)

def Lex2 (b' i' b i : Nat) : Prop := b' < b ∨ (b' = b ∧ i' < i)

def grid3 (B n S : Nat) (f : Nat → Nat → Nat → ElRes α) : List (ElRes α) :=
  (List.range B).flatMap fun b => grid2 n S (f b)

def Lex3 (b' t' s' b t s : Nat) : Prop := b' < b ∨ (b' = b ∧ Lex2 t' s' t s)

theorem firstErr_grid2_none (B n : Nat) (f : Nat → Nat → ElRes α) :
    firstErr (grid2 B n f) = none ↔ ∀ b i, b < B → i < n → ∃ v, f b i = .ok v := by
  unfold grid2
  rw [firstErr_rows_eq_none]
  simp only [firstErr_range_map_eq_none]
  exact ⟨fun h b i hb hi => h b hb i hi, fun h b hb i hi => h b i hb hi⟩

theorem firstErr_grid2_some (B n : Nat) (f : Nat → Nat → ElRes α) (e : Err) :
    firstErr (grid2 B n f) = some e
      ↔ ∃ b i, b < B ∧ i < n ∧ f b i = .error e ∧
          ∀ b' i', b' < B → i' < n → Lex2 b' i' b i → ∃ v, f b' i' = .ok v := by
  unfold grid2
  rw [firstErr_rows_eq_some]
  simp only [firstErr_range_map_eq_some, firstErr_range_map_eq_none]
  constructor
  · rintro ⟨b, hb, ⟨i, hi, hfe, hmin⟩, hrows⟩
    refine ⟨b, i, hb, hi, hfe, ?_⟩
    rintro b' i' hb' hi' (hlt | ⟨rfl, hlt⟩)
    · exact hrows b' hlt i' hi'
    · exact hmin i' hlt
  · rintro ⟨b, i, hb, hi, hfe, hmin⟩
    refine ⟨b, hb, ⟨i, hi, hfe, fun i' hi' => hmin b i' hb (lt_trans hi' hi) (Or.inr ⟨rfl, hi'⟩)⟩, ?_⟩
    intro b' hb' i' hi'
    exact hmin b' i' (lt_trans hb' hb) hi' (Or.inl hb')

theorem firstErr_grid3_none (B n S : Nat) (f : Nat → Nat → Nat → ElRes α) :
    firstErr (grid3 B n S f) = none ↔ ∀ b t s, b < B → t < n → s < S → ∃ v, f b t s = .ok v := by
  unfold grid3
  rw [firstErr_rows_eq_none]
  simp only [firstErr_grid2_none]
  exact ⟨fun h b t s hb ht hs => h b hb t s ht hs, fun h b hb t s ht hs => h b t s hb ht hs⟩

theorem firstErr_grid3_some (B n S : Nat) (f : Nat → Nat → Nat → ElRes α) (e : Err) :
    firstErr (grid3 B n S f) = some e
      ↔ ∃ b t s, b < B ∧ t < n ∧ s < S ∧ f b t s = .error e ∧
          ∀ b' t' s', b' < B → t' < n → s' < S → Lex3 b' t' s' b t s → ∃ v, f b' t' s' = .ok v := by
  unfold grid3
  rw [firstErr_rows_eq_some]
  simp only [firstErr_grid2_some, firstErr_grid2_none]
  constructor
  · rintro ⟨b, hb, ⟨t, s, ht, hs, hfe, hmin⟩, hrows⟩
    refine ⟨b, t, s, hb, ht, hs, hfe, ?_⟩
    rintro b' t' s' hb' ht' hs' (hlt | ⟨rfl, hlt⟩)
    · exact hrows b' hlt t' s' ht' hs'
    · exact hmin t' s' ht' hs' hlt
  · rintro ⟨b, t, s, hb, ht, hs, hfe, hmin⟩
    refine ⟨b, hb, ⟨t, s, ht, hs, hfe, fun t' s' ht' hs' hl => hmin b t' s' hb ht' hs' (Or.inr ⟨rfl, hl⟩)⟩, ?_⟩
    intro b' hb' t' s' ht' hs'
    exact hmin b' t' s' (lt_trans hb' hb) ht' hs' (Or.inl hb')

theorem firstErr_isSome_grid2 (B n : Nat) (f : Nat → Nat → ElRes α) :
    (∃ e, firstErr (grid2 B n f) = some e) ↔ ∃ b i, b < B ∧ i < n ∧ ∃ e, f b i = .error e := by
  constructor
  · rintro ⟨e, h⟩
    obtain ⟨b, i, hb, hi, hfe, _⟩ := (firstErr_grid2_some B n f e).1 h
    exact ⟨b, i, hb, hi, e, hfe⟩
  · rintro ⟨b, i, hb, hi, e, hfe⟩
    cases h : firstErr (grid2 B n f) with
    | some e' => exact ⟨e', rfl⟩
    | none =>
      obtain ⟨v, hv⟩ := (firstErr_grid2_none B n f).1 h b i hb hi
      rw [hfe] at hv; cases hv

theorem firstErr_isSome_grid3 (B n S : Nat) (f : Nat → Nat → Nat → ElRes α) :
    (∃ e, firstErr (grid3 B n S f) = some e) ↔ ∃ b t s, b < B ∧ t < n ∧ s < S ∧ ∃ e, f b t s = .error e := by
  constructor
  · rintro ⟨e, h⟩
    obtain ⟨b, t, s, hb, ht, hs, hfe, _⟩ := (firstErr_grid3_some B n S f e).1 h
    exact ⟨b, t, s, hb, ht, hs, e, hfe⟩
  · rintro ⟨b, t, s, hb, ht, hs, e, hfe⟩
    cases h : firstErr (grid3 B n S f) with
    | some e' => exact ⟨e', rfl⟩
    | none =>
      obtain ⟨v, hv⟩ := (firstErr_grid3_none B n S f).1 h b t s hb ht hs
      rw [hfe] at hv; cases hv

/-! ## 2. The element-wise passes `cdfApply`, `arApply` -/

section elemwise
variable (o : XOps α)

theorem elemwise_err_eq_grid (B n : Nat) (el : Nat → Nat → ElRes α) :
    (elemwiseResult o B n el).err = firstErr (grid2 B n el) := by
  simp only [elemwiseResult, List.map_flatMap, List.map_map]
  rfl

theorem elemwise_err_some_iff (B n : Nat) (el : Nat → Nat → ElRes α) (e : Err) :
    (elemwiseResult o B n el).err = some e
      ↔ ∃ b i, b < B ∧ i < n ∧ el b i = .error e ∧
          ∀ b' i', b' < B → i' < n → Lex2 b' i' b i → ∃ v, el b' i' = .ok v := by
  rw [elemwise_err_eq_grid, firstErr_grid2_some]

theorem elemwise_err_isSome_iff (B n : Nat) (el : Nat → Nat → ElRes α) :
    (∃ e, (elemwiseResult o B n el).err = some e) ↔ ∃ b i, b < B ∧ i < n ∧ ∃ e, el b i = .error e := by
  rw [elemwise_err_eq_grid, firstErr_isSome_grid2]

variable (c : ElCfg)

theorem cdf_err_isSome_iff (B n : Nat) (x params : Array α) (inv : Bool) :
    (∃ e, (cdfApply o c B n x params inv).err = some e)
      ↔ ∃ b i, b < B ∧ i < n ∧ ∃ e, cdfEl o c n x params inv b i = .error e :=
  elemwise_err_isSome_iff o B n _

theorem ar_err_isSome_iff (B F : Nat) (x params : Array α) (inv : Bool) :
    (∃ e, (arApply o c B F x params inv).err = some e)
      ↔ ∃ b i, b < B ∧ i < F ∧ ∃ e, arEl o c F x params inv b i = .error e :=
  elemwise_err_isSome_iff o B F _

end elemwise


/-! ## 3. The coupling layer: unconditional pass of all rows first, then the conditional pass of all rows -/

section coupling
variable (o : XOps α) (c : ElCfg) (mask : List α) (B S : Nat) (x params : Array α) (inverse : Bool)
  (uparams : Array α)

def condElAt (b t s : Nat) : ElRes α :=
  couplingEl o c (transformIdx o mask).length S params inverse b t s
    (x.getD (flatIdx mask.length S b ((transformIdx o mask).getD t 0) s) o.zero)

def ucElAt (ucfg : ElCfg) (b t s : Nat) : ElRes α :=
  elTransform o ucfg inverse (ucSlice o ucfg.mult S uparams t s)
    (x.getD (flatIdx mask.length S b ((identityIdx o mask).getD t 0) s) o.zero)

theorem tRow_results (C : Nat) (idx : List Nat) (el : Nat → Nat → α → ElRes α) (b : Nat) :
    (tRow o C S idx x el b).map (·.2)
      = grid2 idx.length S (fun t s => el t s (x.getD (flatIdx C S b (idx.getD t 0) s) o.zero)) := by
  simp only [tRow, rowIter, grid2, List.map_flatMap, List.map_map]
  rfl

theorem condAll_results :
    (condAll o c mask B S x params inverse).map (·.2)
      = grid3 B (transformIdx o mask).length S (condElAt o c mask S x params inverse) := by
  simp only [condAll, condRow, grid3, List.map_flatMap, tRow_results]
  rfl

theorem ucAll_results (ucfg : ElCfg) :
    (ucAll o mask B S x inverse (some ucfg) uparams).map (·.2)
      = grid3 B (identityIdx o mask).length S (ucElAt o mask S x inverse uparams ucfg) := by
  simp only [ucAll, ucRow, grid3, List.map_flatMap, tRow_results]
  rfl

theorem coupling_err_eq_grid_none :
    (couplingApply o c mask B S x params inverse none uparams).err
      = firstErr (grid3 B (transformIdx o mask).length S (condElAt o c mask S x params inverse)) := by
  rw [coupling_err_eq, ucAll_none, List.nil_append, condAll_results]

theorem coupling_err_eq_grid_some (ucfg : ElCfg) :
    (couplingApply o c mask B S x params inverse (some ucfg) uparams).err
      = (firstErr (grid3 B (identityIdx o mask).length S (ucElAt o mask S x inverse uparams ucfg))).or
          (firstErr (grid3 B (transformIdx o mask).length S (condElAt o c mask S x params inverse))) := by
  rw [coupling_err_eq, List.map_append, firstErr_append, condAll_results, ucAll_results]

/-- **coupling layer: the reported error is the error of the first conditional element, in `(b, tpos, s)` order, that raised** -/
theorem coupling_err_some_iff_el (e : Err) :
    (couplingApply o c mask B S x params inverse none uparams).err = some e
      ↔ ∃ b t s, b < B ∧ t < (transformIdx o mask).length ∧ s < S ∧
          condElAt o c mask S x params inverse b t s = .error e ∧
          ∀ b' t' s', b' < B → t' < (transformIdx o mask).length → s' < S → Lex3 b' t' s' b t s →
            ∃ v, condElAt o c mask S x params inverse b' t' s' = .ok v := by
  rw [coupling_err_eq_grid_none, firstErr_grid3_some]

theorem coupling_err_isSome_iff_el :
    (∃ e, (couplingApply o c mask B S x params inverse none uparams).err = some e)
      ↔ ∃ b t s, b < B ∧ t < (transformIdx o mask).length ∧ s < S ∧
          ∃ e, condElAt o c mask S x params inverse b t s = .error e := by
  rw [coupling_err_eq_grid_none, firstErr_isSome_grid3]

theorem coupling_uc_err_none_iff_el (ucfg : ElCfg) :
    (couplingApply o c mask B S x params inverse (some ucfg) uparams).err = none
      ↔ (∀ b t s, b < B → t < (identityIdx o mask).length → s < S →
            ∃ v, ucElAt o mask S x inverse uparams ucfg b t s = .ok v)
        ∧ (∀ b t s, b < B → t < (transformIdx o mask).length → s < S →
            ∃ v, condElAt o c mask S x params inverse b t s = .ok v) := by
  rw [coupling_err_eq_grid_some, Option.or_eq_none_iff, firstErr_grid3_none, firstErr_grid3_none]

/-- **first error, with an unconditional transform**: either the first unconditional element (in `(b, ipos, s)` order) that
    raised, or — when the whole unconditional pass ran — the first conditional element that raised -/
theorem coupling_uc_err_some_iff_el (ucfg : ElCfg) (e : Err) :
    (couplingApply o c mask B S x params inverse (some ucfg) uparams).err = some e
      ↔ (∃ b t s, b < B ∧ t < (identityIdx o mask).length ∧ s < S ∧
            ucElAt o mask S x inverse uparams ucfg b t s = .error e ∧
            ∀ b' t' s', b' < B → t' < (identityIdx o mask).length → s' < S → Lex3 b' t' s' b t s →
              ∃ v, ucElAt o mask S x inverse uparams ucfg b' t' s' = .ok v)
        ∨ ((∀ b t s, b < B → t < (identityIdx o mask).length → s < S →
              ∃ v, ucElAt o mask S x inverse uparams ucfg b t s = .ok v)
          ∧ ∃ b t s, b < B ∧ t < (transformIdx o mask).length ∧ s < S ∧
            condElAt o c mask S x params inverse b t s = .error e ∧
            ∀ b' t' s', b' < B → t' < (transformIdx o mask).length → s' < S → Lex3 b' t' s' b t s →
              ∃ v, condElAt o c mask S x params inverse b' t' s' = .ok v) := by
  rw [coupling_err_eq_grid_some, Option.or_eq_some_iff, firstErr_grid3_some, firstErr_grid3_none, firstErr_grid3_some]

theorem coupling_uc_err_isSome_iff_el (ucfg : ElCfg) :
    (∃ e, (couplingApply o c mask B S x params inverse (some ucfg) uparams).err = some e)
      ↔ (∃ b t s, b < B ∧ t < (identityIdx o mask).length ∧ s < S ∧
            ∃ e, ucElAt o mask S x inverse uparams ucfg b t s = .error e)
        ∨ (∃ b t s, b < B ∧ t < (transformIdx o mask).length ∧ s < S ∧
            ∃ e, condElAt o c mask S x params inverse b t s = .error e) := by
  rw [← firstErr_isSome_grid3, ← firstErr_isSome_grid3, coupling_err_eq_grid_some]
  cases h1 : firstErr (grid3 B (identityIdx o mask).length S (ucElAt o mask S x inverse uparams ucfg)) <;>
    simp

end coupling


/-! ## 4. The element-wise non-linearity layer `nonlinApply` (a `for` loop over the flat batch), any scalar type -/

section nonlin
variable (o : XOps α)

theorem nlStep_foldl_err (F : α → Except Err (α × α)) (l : List α) (st : Array α × Array α × Option Err) :
    (l.foldl (NonlinExec.nlStep o F) st).2.2 = st.2.2.or (l.findSome? fun xi => errOfR (F xi)) := by
  induction l generalizing st with
  | nil => simp
  | cons xi t ih =>
    rw [List.foldl_cons, ih, List.findSome?_cons]
    cases h : F xi with
    | ok p => simp [NonlinExec.nlStep, h, errOfR]
    | error er =>
      obtain ⟨a, b, c⟩ := st
      cases c <;> simp [NonlinExec.nlStep, h, errOfR]

theorem nonlinApply_err_eq (kind : String) (ds : Array Float) (ps : List α) (B : Nat) (x : Array α) (inv : Bool) :
    (nonlinApply o kind ds ps B x inv).err = x.toList.findSome? fun xi => errOfR (nonlinEl o kind ds ps inv xi) := by
  rw [NonlinExec.nonlinApply_eq_fold, ← Array.foldl_toList]
  simp only
  rw [nlStep_foldl_err]
  rfl

theorem nonlinApply_err_none_iff (kind : String) (ds : Array Float) (ps : List α) (B : Nat) (x : Array α) (inv : Bool) :
    (nonlinApply o kind ds ps B x inv).err = none
      ↔ ∀ k, (hk : k < x.size) → ∃ r, nonlinEl o kind ds ps inv x[k] = .ok r := by
  rw [nonlinApply_err_eq, List.findSome?_eq_none_iff]
  simp only [errOfR_eq_none, Array.mem_toList_iff]
  constructor
  · intro h k hk; exact h _ (Array.getElem_mem hk)
  · intro h xi hxi
    obtain ⟨k, hk, rfl⟩ := Array.getElem_of_mem hxi
    exact h k hk

theorem nonlinApply_err_some_iff (kind : String) (ds : Array Float) (ps : List α) (B : Nat) (x : Array α) (inv : Bool)
    (e : Err) :
    (nonlinApply o kind ds ps B x inv).err = some e
      ↔ ∃ k, ∃ hk : k < x.size, nonlinEl o kind ds ps inv x[k] = .error e ∧
          ∀ j, (hj : j < k) → ∃ r, nonlinEl o kind ds ps inv (x[j]'(lt_trans hj hk)) = .ok r := by
  rw [nonlinApply_err_eq, findSome?_eq_some_idx]
  constructor
  · rintro ⟨k, a, hk, hfe, hmin⟩
    rw [Array.getElem?_toList] at hk
    obtain ⟨hkl, rfl⟩ := Array.getElem?_eq_some_iff.1 hk
    refine ⟨k, hkl, errOfR_eq_some.1 hfe, ?_⟩
    intro j hj
    exact errOfR_eq_none.1 (hmin j _ hj (by rw [Array.getElem?_toList, Array.getElem?_eq_getElem (lt_trans hj hkl)]))
  · rintro ⟨k, hkl, hfe, hmin⟩
    refine ⟨k, x[k], by rw [Array.getElem?_toList, Array.getElem?_eq_getElem hkl], errOfR_eq_some.2 hfe, ?_⟩
    intro j a' hj hja
    rw [Array.getElem?_toList] at hja
    obtain ⟨hjl, rfl⟩ := Array.getElem?_eq_some_iff.1 hja
    exact errOfR_eq_none.2 (hmin j hj)

theorem nonlinApply_err_isSome_iff (kind : String) (ds : Array Float) (ps : List α) (B : Nat) (x : Array α) (inv : Bool) :
    (∃ e, (nonlinApply o kind ds ps B x inv).err = some e)
      ↔ ∃ k, ∃ hk : k < x.size, ∃ e, nonlinEl o kind ds ps inv x[k] = .error e := by
  constructor
  · rintro ⟨e, h⟩
    obtain ⟨k, hk, hfe, _⟩ := (nonlinApply_err_some_iff o kind ds ps B x inv e).1 h
    exact ⟨k, hk, e, hfe⟩
  · rintro ⟨k, hk, e, hfe⟩
    cases h : (nonlinApply o kind ds ps B x inv).err with
    | some e' => exact ⟨e', rfl⟩
    | none =>
      obtain ⟨r, hr⟩ := (nonlinApply_err_none_iff o kind ds ps B x inv).1 h k hk
      rw [hfe] at hr; cases hr

end nonlin


/-! ## 5. Domain form: a bounded (non-tails) spline layer raises `InputOutsideDomain` iff SOME element of the batch lies
outside the interval of the requested direction -/

section domain
variable (o : XOps α)

/-- constant `k` of the configuration, as `elTransform` reads it -/
abbrev dsAt (c : ElCfg) (k : Nat) : Float := c.ds.getD k 0.0
/-- lower / upper end of the interval of the requested direction: `[left, right]` forward, `[bottom, top]` inverse -/
def loF (c : ElCfg) (inverse : Bool) : Float := if inverse then dsAt c 2 else dsAt c 0
def hiF (c : ElCfg) (inverse : Bool) : Float := if inverse then dsAt c 3 else dsAt c 1

/-- the comparison a bounded spline element makes on its input (the guard of `rqSpline` / `quadSpline` / `linSpline` /
    `cubicSpline`), in the scalar semantics `o` -/
def outside (c : ElCfg) (inverse : Bool) (x : α) : Bool :=
  o.lt x (o.ofFloat (loF c inverse)) || o.lt (o.ofFloat (hiF c inverse)) x

structure Bounded (c : ElCfg) : Prop where
  hk : c.kind = "rq" ∨ c.kind = "quad" ∨ c.kind = "lin" ∨ c.kind = "cubic"
  ht : c.tails = false

theorem Bounded.ne_affine {c : ElCfg} (hc : Bounded c) : c.kind ≠ "affine" ∧ c.kind ≠ "additive" :=
  spline_kind_ne hc.hk

/-- **one bounded spline element, any scalar type, any parameters: an input the guard classifies as outside is rejected
    with the domain error** (the dispatcher `elTransform` with its slicing and scaling included) -/
theorem elTransform_rejects_outside {c : ElCfg} (hc : Bounded c) (inverse : Bool) (p : List α) (x : α)
    (h : outside o c inverse x = true) : elTransform o c inverse p x = .error .outsideDomain := by
  have ht := hc.ht
  unfold outside loF hiF dsAt at h
  rcases hc.hk with hk | hk | hk | hk
  · rw [elTransform_rq o c hk ht, SplineTotal.rqSpline_rejects_outside o (rqCfgOf c) _ _ _ inverse x h]; rfl
  · rw [elTransform_quad o c hk ht, SplineTotal.quadSpline_rejects_outside o (quadCfgOf c) _ _ inverse x h]; rfl
  · rw [LinTails.elTransform_lin o c hk ht, SplineTotal.linSpline_rejects_outside o
      ⟨c.ds.getD 0 0.0, c.ds.getD 1 0.0, c.ds.getD 2 0.0, c.ds.getD 3 0.0⟩ 1e-6 p inverse x h]
    rfl
  · rw [NF.StructureExec.elTransform_cubic o c hk ht]
    exact SplineTotal.cubicSpline_rejects_outside o _ _ _ _ _ inverse x h

/-- first error of a two-level loop whose elements are rejected exactly where a guard `g` says so -/
theorem grid2_domain (B n : Nat) (f : Nat → Nat → ElRes α) (g : Nat → Nat → Bool)
    (hout : ∀ b i, b < B → i < n → g b i = true → f b i = .error .outsideDomain)
    (hin : ∀ b i, b < B → i < n → g b i = false → ∃ v, f b i = .ok v) :
    (firstErr (grid2 B n f) = some .outsideDomain ↔ ∃ b i, b < B ∧ i < n ∧ g b i = true)
    ∧ (firstErr (grid2 B n f) = none ↔ ∀ b i, b < B → i < n → g b i = false)
    ∧ (∀ e, firstErr (grid2 B n f) = some e → e = .outsideDomain) := by
  have hsome : ∀ e, firstErr (grid2 B n f) = some e → e = .outsideDomain ∧ ∃ b i, b < B ∧ i < n ∧ g b i = true := by
    intro e he
    obtain ⟨b, i, hb, hi, hfe, _⟩ := (firstErr_grid2_some B n f e).1 he
    cases hg : g b i with
    | false =>
      obtain ⟨v, hv⟩ := hin b i hb hi hg
      rw [hfe] at hv; cases hv
    | true =>
      have := hout b i hb hi hg
      rw [hfe] at this
      exact ⟨by injection this, b, i, hb, hi, hg⟩
  have hnone : firstErr (grid2 B n f) = none ↔ ∀ b i, b < B → i < n → g b i = false := by
    rw [firstErr_grid2_none]
    constructor
    · intro h b i hb hi
      cases hg : g b i with
      | false => rfl
      | true =>
        obtain ⟨v, hv⟩ := h b i hb hi
        rw [hout b i hb hi hg] at hv; cases hv
    · intro h b i hb hi
      exact hin b i hb hi (h b i hb hi)
  refine ⟨⟨fun h => (hsome _ h).2, ?_⟩, hnone, fun e he => (hsome e he).1⟩
  rintro ⟨b, i, hb, hi, hg⟩
  cases he : firstErr (grid2 B n f) with
  | none => rw [hnone.1 he b i hb hi] at hg; cases hg
  | some e' => rw [(hsome e' he).1]

theorem grid3_domain (B n S : Nat) (f : Nat → Nat → Nat → ElRes α) (g : Nat → Nat → Nat → Bool)
    (hout : ∀ b t s, b < B → t < n → s < S → g b t s = true → f b t s = .error .outsideDomain)
    (hin : ∀ b t s, b < B → t < n → s < S → g b t s = false → ∃ v, f b t s = .ok v) :
    (firstErr (grid3 B n S f) = some .outsideDomain ↔ ∃ b t s, b < B ∧ t < n ∧ s < S ∧ g b t s = true)
    ∧ (firstErr (grid3 B n S f) = none ↔ ∀ b t s, b < B → t < n → s < S → g b t s = false)
    ∧ (∀ e, firstErr (grid3 B n S f) = some e → e = .outsideDomain) := by
  have hsome : ∀ e, firstErr (grid3 B n S f) = some e →
      e = .outsideDomain ∧ ∃ b t s, b < B ∧ t < n ∧ s < S ∧ g b t s = true := by
    intro e he
    obtain ⟨b, t, s, hb, ht, hs, hfe, _⟩ := (firstErr_grid3_some B n S f e).1 he
    cases hg : g b t s with
    | false =>
      obtain ⟨v, hv⟩ := hin b t s hb ht hs hg
      rw [hfe] at hv; cases hv
    | true =>
      have := hout b t s hb ht hs hg
      rw [hfe] at this
      exact ⟨by injection this, b, t, s, hb, ht, hs, hg⟩
  have hnone : firstErr (grid3 B n S f) = none ↔ ∀ b t s, b < B → t < n → s < S → g b t s = false := by
    rw [firstErr_grid3_none]
    constructor
    · intro h b t s hb ht hs
      cases hg : g b t s with
      | false => rfl
      | true =>
        obtain ⟨v, hv⟩ := h b t s hb ht hs
        rw [hout b t s hb ht hs hg] at hv; cases hv
    · intro h b t s hb ht hs
      exact hin b t s hb ht hs (h b t s hb ht hs)
  refine ⟨⟨fun h => (hsome _ h).2, ?_⟩, hnone, fun e he => (hsome e he).1⟩
  rintro ⟨b, t, s, hb, ht, hs, hg⟩
  cases he : firstErr (grid3 B n S f) with
  | none => rw [hnone.1 he b t s hb ht hs] at hg; cases hg
  | some e' => rw [(hsome e' he).1]

variable {c : ElCfg}

/-- **`Piecewise*CDF` (bounded), any scalar type: if ANY element of the batch is outside, the layer raises** -/
theorem cdf_raises_of_outside (hc : Bounded c) (B n : Nat) (x params : Array α) (inv : Bool)
    (h : ∃ b i, b < B ∧ i < n ∧ outside o c inv (x.getD (b * n + i) o.zero) = true) :
    ∃ e, (cdfApply o c B n x params inv).err = some e := by
  obtain ⟨b, i, hb, hi, hg⟩ := h
  exact (cdf_err_isSome_iff o c B n x params inv).2
    ⟨b, i, hb, hi, .outsideDomain, elTransform_rejects_outside o hc inv _ _ hg⟩

theorem cdf_err_ne_none_of_outside (hc : Bounded c) (B n : Nat) (x params : Array α) (inv : Bool)
    (h : ∃ b i, b < B ∧ i < n ∧ outside o c inv (x.getD (b * n + i) o.zero) = true) :
    (cdfApply o c B n x params inv).err ≠ none := by
  obtain ⟨e, he⟩ := cdf_raises_of_outside o hc B n x params inv h
  rw [he]; simp

/-- **`Piecewise*CDF` (bounded), any scalar type, any batch size, any position**: when the in-guard elements run, the layer
    raises `InputOutsideDomain` iff some element of the batch is outside; it is accepted iff none is; and no other error
    is ever reported -/
theorem cdf_err_outside_iff (hc : Bounded c) (B n : Nat) (x params : Array α) (inv : Bool)
    (hin : ∀ b i, b < B → i < n → outside o c inv (x.getD (b * n + i) o.zero) = false →
      ∃ v, cdfEl o c n x params inv b i = .ok v) :
    ((cdfApply o c B n x params inv).err = some .outsideDomain
        ↔ ∃ b i, b < B ∧ i < n ∧ outside o c inv (x.getD (b * n + i) o.zero) = true)
    ∧ ((cdfApply o c B n x params inv).err = none
        ↔ ∀ b i, b < B → i < n → outside o c inv (x.getD (b * n + i) o.zero) = false)
    ∧ (∀ e, (cdfApply o c B n x params inv).err = some e → e = .outsideDomain) := by
  unfold cdfApply
  rw [elemwise_err_eq_grid]
  exact grid2_domain B n _ (fun b i => outside o c inv (x.getD (b * n + i) o.zero))
    (fun b i _ _ hg => elTransform_rejects_outside o hc inv _ _ hg) hin

theorem ar_err_outside_iff (hc : Bounded c) (B F : Nat) (x params : Array α) (inv : Bool)
    (hin : ∀ b i, b < B → i < F → outside o c inv (x.getD (b * F + i) o.zero) = false →
      ∃ v, arEl o c F x params inv b i = .ok v) :
    ((arApply o c B F x params inv).err = some .outsideDomain
        ↔ ∃ b i, b < B ∧ i < F ∧ outside o c inv (x.getD (b * F + i) o.zero) = true)
    ∧ ((arApply o c B F x params inv).err = none
        ↔ ∀ b i, b < B → i < F → outside o c inv (x.getD (b * F + i) o.zero) = false)
    ∧ (∀ e, (arApply o c B F x params inv).err = some e → e = .outsideDomain) := by
  unfold arApply
  rw [elemwise_err_eq_grid]
  exact grid2_domain B F _ (fun b i => outside o c inv (x.getD (b * F + i) o.zero))
    (fun b i _ _ hg => elTransform_rejects_outside o hc inv _ _ hg) hin

theorem ar_raises_of_outside (hc : Bounded c) (B F : Nat) (x params : Array α) (inv : Bool)
    (h : ∃ b i, b < B ∧ i < F ∧ outside o c inv (x.getD (b * F + i) o.zero) = true) :
    ∃ e, (arApply o c B F x params inv).err = some e := by
  obtain ⟨b, i, hb, hi, hg⟩ := h
  exact (ar_err_isSome_iff o c B F x params inv).2
    ⟨b, i, hb, hi, .outsideDomain, elTransform_rejects_outside o hc inv _ _ hg⟩

/-- the value the conditional element `(b, tpos, s)` of a coupling layer reads (not the field `TResult.condIn`, the
    conditioner input of a row) -/
def condIn (mask : List α) (S : Nat) (x : Array α) (b t s : Nat) : α :=
  x.getD (flatIdx mask.length S b ((transformIdx o mask).getD t 0) s) o.zero

theorem coupling_err_outside_iff (hc : Bounded c) (mask : List α) (B S : Nat) (x params uparams : Array α) (inv : Bool)
    (hin : ∀ b t s, b < B → t < (transformIdx o mask).length → s < S →
      outside o c inv (condIn o mask S x b t s) = false → ∃ v, condElAt o c mask S x params inv b t s = .ok v) :
    ((couplingApply o c mask B S x params inv none uparams).err = some .outsideDomain
        ↔ ∃ b t s, b < B ∧ t < (transformIdx o mask).length ∧ s < S ∧ outside o c inv (condIn o mask S x b t s) = true)
    ∧ ((couplingApply o c mask B S x params inv none uparams).err = none
        ↔ ∀ b t s, b < B → t < (transformIdx o mask).length → s < S → outside o c inv (condIn o mask S x b t s) = false)
    ∧ (∀ e, (couplingApply o c mask B S x params inv none uparams).err = some e → e = .outsideDomain) := by
  rw [coupling_err_eq_grid_none]
  refine grid3_domain B _ S _ (fun b t s => outside o c inv (condIn o mask S x b t s)) ?_ hin
  intro b t s _ _ _ hg
  unfold condElAt
  rw [couplingEl_spline o c S params inv hc.ne_affine.1 hc.ne_affine.2]
  exact elTransform_rejects_outside o hc inv _ _ hg

theorem coupling_raises_of_outside (hc : Bounded c) (mask : List α) (B S : Nat) (x params uparams : Array α) (inv : Bool)
    (h : ∃ b t s, b < B ∧ t < (transformIdx o mask).length ∧ s < S ∧ outside o c inv (condIn o mask S x b t s) = true) :
    ∃ e, (couplingApply o c mask B S x params inv none uparams).err = some e := by
  obtain ⟨b, t, s, hb, ht, hs, hg⟩ := h
  refine (coupling_err_isSome_iff_el o c mask B S x params inv uparams).2 ⟨b, t, s, hb, ht, hs, .outsideDomain, ?_⟩
  unfold condElAt
  rw [couplingEl_spline o c S params inv hc.ne_affine.1 hc.ne_affine.2]
  exact elTransform_rejects_outside o hc inv _ _ hg

end domain


/-! ## 6. Over the reals: the guard is the interval test; the bounded LINEAR family fully discharged -/

section real
variable (e : Float → ℝ)

theorem outside_real (c : ElCfg) (inv : Bool) (x : ℝ) :
    outside (NF.realX e) c inv x = true ↔ x < e (loF c inv) ∨ e (hiF c inv) < x := by
  simp [outside]

theorem outside_real_false (c : ElCfg) (inv : Bool) (x : ℝ) :
    outside (NF.realX e) c inv x = false ↔ e (loF c inv) ≤ x ∧ x ≤ e (hiF c inv) := by
  rw [← Bool.not_eq_true, outside_real, not_or, not_lt, not_lt]

theorem elTransform_rejects_outside_real {c : ElCfg} (hc : Bounded c) (inv : Bool) (p : List ℝ) (x : ℝ)
    (h : x < e (loF c inv) ∨ e (hiF c inv) < x) : elTransform (NF.realX e) c inv p x = .error .outsideDomain :=
  elTransform_rejects_outside _ hc inv p x ((outside_real e c inv x).2 h)

theorem cdf_err_outside_iff_real {c : ElCfg} (hc : Bounded c) (B n : Nat) (x params : Array ℝ) (inv : Bool)
    (hin : ∀ b i, b < B → i < n → e (loF c inv) ≤ x.getD (b * n + i) 0 → x.getD (b * n + i) 0 ≤ e (hiF c inv) →
      ∃ v, cdfEl (NF.realX e) c n x params inv b i = .ok v) :
    ((cdfApply (NF.realX e) c B n x params inv).err = some .outsideDomain
        ↔ ∃ b i, b < B ∧ i < n ∧ (x.getD (b * n + i) 0 < e (loF c inv) ∨ e (hiF c inv) < x.getD (b * n + i) 0))
    ∧ ((cdfApply (NF.realX e) c B n x params inv).err = none
        ↔ ∀ b i, b < B → i < n → e (loF c inv) ≤ x.getD (b * n + i) 0 ∧ x.getD (b * n + i) 0 ≤ e (hiF c inv))
    ∧ (∀ er, (cdfApply (NF.realX e) c B n x params inv).err = some er → er = .outsideDomain) := by
  have h := cdf_err_outside_iff (NF.realX e) hc B n x params inv (by
    intro b i hb hi hg
    rw [outside_real_false, NF.realX_zero] at hg
    exact hin b i hb hi hg.1 hg.2)
  simp only [outside_real, outside_real_false, NF.realX_zero] at h
  exact h

/-- an accepted bounded linear-spline configuration: `K ≥ 1` bins, a non-degenerate box whose two differences are read
    exactly, a positive search tolerance.  Nothing about parameter VALUES. -/
structure LinCfgValid (c : ElCfg) : Prop where
  hk : c.kind = "lin"
  ht : c.tails = false
  hK : 0 < c.K
  hlr : e (dsAt c 0) < e (dsAt c 1)
  hdlr : e (dsAt c 1 - dsAt c 0) = e (dsAt c 1) - e (dsAt c 0)
  hbt : e (dsAt c 2) < e (dsAt c 3)
  hdbt : e (dsAt c 3 - dsAt c 2) = e (dsAt c 3) - e (dsAt c 2)
  heps : 0 < e 1e-6

variable {e}

theorem LinCfgValid.bounded {c : ElCfg} (hc : LinCfgValid e c) : Bounded c := ⟨Or.inr (Or.inr (Or.inl hc.hk)), hc.ht⟩

theorem LinCfgValid.linValid {c : ElCfg} (hc : LinCfgValid e c) (p : List ℝ) (hp : p.length = c.K) :
    LinWhole.LinValid e ⟨dsAt c 0, dsAt c 1, dsAt c 2, dsAt c 3⟩ 1e-6 p where
  hK := List.ne_nil_of_length_pos (by rw [hp]; exact hc.hK)
  hlr := hc.hlr
  hdlr := hc.hdlr
  hbt := hc.hbt
  hdbt := hc.hdbt
  heps := hc.heps

theorem lin_el_ok {c : ElCfg} (hc : LinCfgValid e c) (inv : Bool) (p : List ℝ) (hp : p.length = c.K) (x : ℝ)
    (h0 : e (loF c inv) ≤ x) (h1 : x ≤ e (hiF c inv)) : ∃ v, elTransform (NF.realX e) c inv p x = .ok v := by
  refine (LinTails.lin_accepts e c hc.hk hc.ht inv p x (hc.linValid p hp)).2 ?_
  cases inv <;> exact ⟨h0, h1⟩

/-- **`PiecewiseLinearCDF` on a `[B, n]` batch over the reals, both directions, any parameter tensor, any batch size**: the
    layer raises `InputOutsideDomain` iff SOME element lies outside `[left, right]` (inverse: `[bottom, top]`), is accepted
    iff ALL elements lie inside, and never reports any other error -/
theorem cdf_lin_err_iff {c : ElCfg} (hc : LinCfgValid e c) (B n : Nat) (x params : Array ℝ) (inv : Bool) :
    ((cdfApply (NF.realX e) c B n x params inv).err = some .outsideDomain
        ↔ ∃ b i, b < B ∧ i < n ∧ (x.getD (b * n + i) 0 < e (loF c inv) ∨ e (hiF c inv) < x.getD (b * n + i) 0))
    ∧ ((cdfApply (NF.realX e) c B n x params inv).err = none
        ↔ ∀ b i, b < B → i < n → e (loF c inv) ≤ x.getD (b * n + i) 0 ∧ x.getD (b * n + i) 0 ≤ e (hiF c inv))
    ∧ (∀ er, (cdfApply (NF.realX e) c B n x params inv).err = some er → er = .outsideDomain) := by
  apply cdf_err_outside_iff_real e hc.bounded
  intro b i _ _ h0 h1
  unfold cdfEl
  rw [NF.realX_zero]
  exact lin_el_ok hc inv _ (by rw [List.length_map, List.length_range, LinTails.mult_lin hc.hk]) _ h0 h1

theorem ar_lin_err_iff {c : ElCfg} (hc : LinCfgValid e c) (B F : Nat) (x params : Array ℝ) (inv : Bool) :
    ((arApply (NF.realX e) c B F x params inv).err = some .outsideDomain
        ↔ ∃ b i, b < B ∧ i < F ∧ (x.getD (b * F + i) 0 < e (loF c inv) ∨ e (hiF c inv) < x.getD (b * F + i) 0))
    ∧ ((arApply (NF.realX e) c B F x params inv).err = none
        ↔ ∀ b i, b < B → i < F → e (loF c inv) ≤ x.getD (b * F + i) 0 ∧ x.getD (b * F + i) 0 ≤ e (hiF c inv))
    ∧ (∀ er, (arApply (NF.realX e) c B F x params inv).err = some er → er = .outsideDomain) := by
  have hpw : NF.ARWhole.pw c = c.K := by simp [NF.ARWhole.pw, hc.hk, ElCfg.mult]
  have h := ar_err_outside_iff (NF.realX e) hc.bounded B F x params inv (by
    intro b i hb hi hg
    rw [outside_real_false, NF.realX_zero] at hg
    rw [NF.ARWhole.arEl_eq, NF.realX_zero]
    exact lin_el_ok hc inv _ (by rw [NF.ARWhole.arSlice_length, hpw]) _ hg.1 hg.2)
  simp only [outside_real, outside_real_false, NF.realX_zero] at h
  exact h

theorem coupling_lin_err_iff {c : ElCfg} (hc : LinCfgValid e c) (mask : List ℝ) (B S : Nat)
    (x params uparams : Array ℝ) (inv : Bool) :
    ((couplingApply (NF.realX e) c mask B S x params inv none uparams).err = some .outsideDomain
        ↔ ∃ b t s, b < B ∧ t < (transformIdx (NF.realX e) mask).length ∧ s < S ∧
            (condIn (NF.realX e) mask S x b t s < e (loF c inv) ∨ e (hiF c inv) < condIn (NF.realX e) mask S x b t s))
    ∧ ((couplingApply (NF.realX e) c mask B S x params inv none uparams).err = none
        ↔ ∀ b t s, b < B → t < (transformIdx (NF.realX e) mask).length → s < S →
            e (loF c inv) ≤ condIn (NF.realX e) mask S x b t s ∧ condIn (NF.realX e) mask S x b t s ≤ e (hiF c inv))
    ∧ (∀ er, (couplingApply (NF.realX e) c mask B S x params inv none uparams).err = some er → er = .outsideDomain) := by
  have h := coupling_err_outside_iff (NF.realX e) hc.bounded mask B S x params uparams inv (by
    intro b t s hb ht hs hg
    rw [outside_real_false] at hg
    unfold condElAt
    rw [couplingEl_spline (NF.realX e) c S params inv hc.bounded.ne_affine.1 hc.bounded.ne_affine.2]
    exact lin_el_ok hc inv _ (by rw [condSlice_length, LinTails.mult_lin hc.hk]) _ hg.1 hg.2)
  simp only [outside_real, outside_real_false] at h
  exact h

end real


/-! ## 7. Unconstrained (linear-tails) variants: every real input is accepted, both directions -/

section tails
open TailsWhole
variable {e : Float → ℝ}

/-- **cubic spline with linear tails (the tails branch of `elTransform`, `TailsWhole.cubicTails`): every real input is
    accepted, both directions** -/
theorem cubic_tails_total (tb mW mH eps thr : Float) (uw uh : List ℝ) (udl udr : ℝ)
    (hv : CubicWhole.CubicValid e (ccfgT tb mW mH eps thr) uw uh) (hneg : e (-tb) = - e tb) (inverse : Bool) (x : ℝ) :
    ∃ r, cubicTails (NF.realX e) tb mW mH eps thr uw uh udl udr inverse x = .ok r := by
  rw [cubicTails_unfold]
  by_cases hin : -e tb ≤ x ∧ x ≤ e tb
  · rw [if_pos hin]
    have hx0 : e (-tb) ≤ x := by rw [hneg]; exact hin.1
    cases inverse
    · exact CubicWhole.exec_total hv x hx0 hin.2
    · exact CubicInverseWhole.exec_total hv x hx0 hin.2
  · rw [if_neg hin]; exact ⟨_, rfl⟩

/-! ### the layers: configuration bundles that make EVERY element call succeed, whatever the parameters -/

/-- an accepted linear-spline-with-tails element configuration (`K ≥ 1`; tail bound, search tolerance).  Nothing about
    parameter values. -/
structure LinTailsCfgValid (e : Float → ℝ) (c : ElCfg) : Prop where
  hk : c.kind = "lin"
  ht : c.tails = true
  hK : 0 < c.K
  hneg : e (-(dsAt c 0)) = - e (dsAt c 0)
  hv : LinWhole.LinValid e (tbox (dsAt c 0)) 1e-6 (List.replicate c.K 0)

theorem linValid_of_ne_nil {box : Box} {eps : Float} {up up' : List ℝ} (hv : LinWhole.LinValid e box eps up)
    (h : up' ≠ []) : LinWhole.LinValid e box eps up' :=
  ⟨h, hv.hlr, hv.hdlr, hv.hbt, hv.hdbt, hv.heps⟩

theorem LinTailsCfgValid.accepts {c : ElCfg} (hc : LinTailsCfgValid e c) :
    ElAccepts (NF.realX e) c (fun p => p.length = c.K) (fun _ _ => True) :=
  fun d p x hp => LinTails.lin_tails_accepts e c hc.hk hc.ht hc.hneg d p x
    (linValid_of_ne_nil hc.hv (List.ne_nil_of_length_pos (by rw [hp]; exact hc.hK)))

theorem LinTailsCfgValid.ne_affine {c : ElCfg} (hc : LinTailsCfgValid e c) : c.kind ≠ "affine" ∧ c.kind ≠ "additive" :=
  spline_kind_ne (.inr (.inr (.inl hc.hk)))

/-- **an executed linear-spline coupling layer with linear tails never raises**, either direction, any input, any
    conditioner output, any batch size -/
theorem coupling_lin_tails_err_none {c : ElCfg} (hc : LinTailsCfgValid e c) (mask : List ℝ) (B S : Nat)
    (x params uparams : Array ℝ) (inverse : Bool) :
    (couplingApply (NF.realX e) c mask B S x params inverse none uparams).err = none :=
  (hc.accepts.coupling_err_none_iff hc.ne_affine mask B S x params uparams inverse
    (fun _ _ _ _ _ _ => by rw [condSlice_length, LinTails.mult_lin hc.hk])).2 (fun _ _ _ _ _ _ => trivial)

theorem ar_lin_tails_err_none {c : ElCfg} (hc : LinTailsCfgValid e c) (B F : Nat) (x params : Array ℝ) (inverse : Bool) :
    (arApply (NF.realX e) c B F x params inverse).err = none := by
  have hpw : NF.ARWhole.pw c = c.K := by simp [NF.ARWhole.pw, hc.hk, ElCfg.mult]
  exact (hc.accepts.ar_err_none_iff (fun _ _ _ _ => by rw [NF.ARWhole.arSlice_length, hpw]) x inverse).2
    (fun _ _ _ _ => trivial)

theorem cdf_lin_tails_err_none {c : ElCfg} (hc : LinTailsCfgValid e c) (B n : Nat) (x params : Array ℝ) (inverse : Bool) :
    (cdfApply (NF.realX e) c B n x params inverse).err = none :=
  (hc.accepts.cdf_err_none_iff B n x params inverse
    (fun _ _ => by rw [List.length_map, List.length_range, LinTails.mult_lin hc.hk])).2 (fun _ _ _ _ => trivial)

/-- an accepted quadratic-spline-with-tails element configuration: `K ≥ 2` bins (with `K = 1` every call
    fails with an index error), and the constants accepted for one — hence every — parameter vector of `K` widths and
    `K - 1` interior heights -/
structure QuadTailsCfgValid (e : Float → ℝ) (c : ElCfg) : Prop where
  hk : c.kind = "quad"
  ht : c.tails = true
  hK : 2 ≤ c.K
  hneg : e (-(dsAt c 0)) = - e (dsAt c 0)
  hv : QuadWhole.QuadValidT e (qcfgT (dsAt c 0) (dsAt c 1) (dsAt c 2)) (List.replicate c.K 0) (List.replicate (c.K - 1) 0)

/-- `QuadValidT` constrains the constants and the LENGTHS of the two parameter lists, not their values -/
theorem quadValidT_of_lengths {q : QCfg} {uw uh uw' uh' : List ℝ} (hv : QuadWhole.QuadValidT e q uw uh)
    (hw : uw'.length = uw.length) (hh : uh'.length = uh.length) : QuadWhole.QuadValidT e q uw' uh' where
  huh := List.ne_nil_of_length_pos (by rw [hh]; exact List.length_pos_of_ne_nil hv.huh)
  hlenh := by rw [hh, hw]; exact hv.hlenh
  hgW := by rw [hw]; exact hv.hgW
  hgH := by rw [hw]; exact hv.hgH
  hmW0 := hv.hmW0
  hcW := by rw [hw]; exact hv.hcW
  hmWK := by rw [hw]; exact hv.hmWK
  hmH0 := hv.hmH0
  hcH := hv.hcH
  hmH1 := hv.hmH1
  h1e3 := hv.h1e3
  hhalf := hv.hhalf
  hbox := hv.hbox
  heps := hv.heps

theorem mult_quad_tails {c : ElCfg} (hk : c.kind = "quad") (ht : c.tails = true) : c.mult = 2 * c.K - 1 := by
  simp [ElCfg.mult, hk, ht]

theorem QuadTailsCfgValid.accepts {c : ElCfg} (hc : QuadTailsCfgValid e c) :
    ElAccepts (NF.realX e) c (fun p => p.length = 2 * c.K - 1) (fun _ _ => True) := by
  intro d p x hp
  have hK := hc.hK
  refine NF.StructureExec.quad_tails_accepts e c hc.hk hc.ht hc.hneg d p x (quadValidT_of_lengths hc.hv ?_ ?_)
  · rw [quadW, NF.StructureExec.quadScale_length, List.length_take, List.length_replicate, hp]; omega
  · rw [quadH, NF.StructureExec.quadScale_length, List.length_drop, List.length_replicate, hp]; omega

theorem QuadTailsCfgValid.ne_affine {c : ElCfg} (hc : QuadTailsCfgValid e c) :
    c.kind ≠ "affine" ∧ c.kind ≠ "additive" :=
  spline_kind_ne (.inr (.inl hc.hk))

/-- **an executed quadratic-spline coupling layer with linear tails (`K ≥ 2`) never raises**, either direction, any input,
    any conditioner output, any batch size -/
theorem coupling_quad_tails_err_none {c : ElCfg} (hc : QuadTailsCfgValid e c) (mask : List ℝ) (B S : Nat)
    (x params uparams : Array ℝ) (inverse : Bool) :
    (couplingApply (NF.realX e) c mask B S x params inverse none uparams).err = none :=
  (hc.accepts.coupling_err_none_iff hc.ne_affine mask B S x params uparams inverse
    (fun _ _ _ _ _ _ => by rw [condSlice_length, mult_quad_tails hc.hk hc.ht])).2 (fun _ _ _ _ _ _ => trivial)

theorem ar_quad_tails_err_none {c : ElCfg} (hc : QuadTailsCfgValid e c) (B F : Nat) (x params : Array ℝ) (inverse : Bool) :
    (arApply (NF.realX e) c B F x params inverse).err = none := by
  have hpw : NF.ARWhole.pw c = 2 * c.K - 1 := by simp [NF.ARWhole.pw, hc.hk, hc.ht, ElCfg.mult]
  exact (hc.accepts.ar_err_none_iff (fun _ _ _ _ => by rw [NF.ARWhole.arSlice_length, hpw]) x inverse).2
    (fun _ _ _ _ => trivial)

theorem cdf_quad_tails_err_none {c : ElCfg} (hc : QuadTailsCfgValid e c) (B n : Nat) (x params : Array ℝ) (inverse : Bool) :
    (cdfApply (NF.realX e) c B n x params inverse).err = none :=
  (hc.accepts.cdf_err_none_iff B n x params inverse
    (fun _ _ => by rw [List.length_map, List.length_range, mult_quad_tails hc.hk hc.ht])).2 (fun _ _ _ _ => trivial)

end tails


/-! ## 8. Non-vacuity: every bundle has a concrete witness, and the batch statements discriminate -/

section witness
open TailsWhole

def cL : ElCfg := { container := "cdf", kind := "lin", K := 3, ds := #[-(1.0), 1.0, -(1.0), 1.0] }
def cLT : ElCfg := { container := "coupling", kind := "lin", tails := true, K := 3, ds := #[1.0] }

theorem linCfgValid_example : LinCfgValid eTT cL :=
  have hv := LinTails.valid_tails_box [0] (by simp)
  ⟨rfl, rfl, by decide, hv.hlr, hv.hdlr, hv.hbt, hv.hdbt, hv.heps⟩

theorem linTailsCfgValid_example : LinTailsCfgValid eTT cLT :=
  ⟨rfl, rfl, by decide, eTT_neg, LinTails.valid_tails_box _ (by show List.replicate 3 (0 : ℝ) ≠ []; simp)⟩

/-- quadratic with tails: `StructureExec.cQT` (two bins, one interior height, tail bound 1) -/
theorem quadTailsCfgValid_example : QuadTailsCfgValid eTT cQT :=
  ⟨rfl, rfl, by decide, eTT_neg, TailsWhole.quad_valid_example⟩

example (x : ℝ) : ∃ r, tailsWrap (NF.realX eW) 1.0 x
    (fun box => quadSpline (NF.realX eW) { box := box, minW := 0.0, minH := 0.0 } [0, 0] [0] true x) = .ok r :=
  ⟨_, wrap_total (quad_wrapPair quad_valid_example eW_neg).validI x⟩

example (udl udr x : ℝ) (inverse : Bool) :
    ∃ r, cubicTails (NF.realX eW) 1.0 0.0 0.0 1e-5 1e-3 [0, 0] [0, 0] udl udr inverse x = .ok r :=
  cubic_tails_total 1.0 0.0 0.0 1e-5 1e-3 [0, 0] [0, 0] udl udr cubic_valid_example eW_neg inverse x

example (mask : List ℝ) (B S : Nat) (x params : Array ℝ) (inverse : Bool) :
    (couplingApply (NF.realX eTT) cLT mask B S x params inverse none #[]).err = none
    ∧ (couplingApply (NF.realX eTT) cQT mask B S x params inverse none #[]).err = none :=
  ⟨coupling_lin_tails_err_none linTailsCfgValid_example mask B S x params #[] inverse,
   coupling_quad_tails_err_none quadTailsCfgValid_example mask B S x params #[] inverse⟩

theorem eTT_one : eTT 1.0 = 1 := eTT_1
theorem eTT_neg_one : eTT (-(1.0)) = -1 := eTT_n1

/-- the two-row batch `[0, 7]` of the bounded linear CDF on `[-1, 1]`
    raises `InputOutsideDomain` (row 1 is outside), row 0 alone is accepted — for ANY parameter tensor -/
example (params : Array ℝ) :
    (cdfApply (NF.realX eTT) cL 2 1 #[0, 7] params false).err = some .outsideDomain
    ∧ (cdfApply (NF.realX eTT) cL 1 1 #[0] params false).err = none := by
  have hlo : eTT (loF cL false) = -1 := eTT_neg_one
  have hhi : eTT (hiF cL false) = 1 := eTT_one
  constructor
  · rw [(cdf_lin_err_iff linCfgValid_example 2 1 #[0, 7] params false).1]
    refine ⟨1, 0, by omega, by omega, Or.inr ?_⟩
    rw [hhi]
    show (1 : ℝ) < 7
    norm_num
  · rw [(cdf_lin_err_iff linCfgValid_example 1 1 #[0] params false).2.1]
    intro b i hb hi
    have hb0 : b = 0 := by omega
    have hi0 : i = 0 := by omega
    subst hb0 hi0
    rw [hlo, hhi]
    show (-1 : ℝ) ≤ 0 ∧ (0 : ℝ) ≤ 1
    norm_num

/-- the generic first-error statement discriminates, in any scalar type: of two errors the FIRST in iteration order is
    reported -/
example (o : XOps α) (z : α) :
    let el : Nat → Nat → ElRes α := fun b i =>
      if b = 1 ∧ i = 0 then .error .outsideDomain else if b = 1 ∧ i = 1 then .error .indexError else .ok (z, z, [])
    (elemwiseResult o 2 2 el).err = some .outsideDomain := by
  intro el
  rw [elemwise_err_some_iff]
  refine ⟨1, 0, by omega, by omega, by simp [el], ?_⟩
  rintro b' i' hb' hi' (h | ⟨rfl, h⟩)
  · have : b' = 0 := by omega
    subst this
    exact ⟨(z, z, []), by simp [el]⟩
  · omega

/-- the generic statements hold in binary64 too: the batch `[0.25, 7.0]` of a bounded spline CDF on `[-1, 1]` raises, whatever
    the parameters (the guard of element `(1, 0)` evaluates to `true` in `Float`) -/
example (params : Array Float) : ∃ e, (cdfApply floatX cL 2 1 #[0.25, 7.0] params false).err = some e :=
  cdf_raises_of_outside floatX linCfgValid_example.bounded 2 1 _ params false
    ⟨1, 0, by omega, by omega, by decide +kernel⟩

end witness

end NF.BatchErr
