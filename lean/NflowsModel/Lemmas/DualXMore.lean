import NflowsModel.Lemmas.DualXCubic
import NflowsModel.Lemmas.TailsWhole
/-!
# Lemmas/DualXMore — the inlined cubic tails wrapper `TailsWhole.cubicTails` run on dual numbers (C16), input direction

Seed `(x, 1)` on the input, every parameter with zero tangent, forward: strictly inside a bin the run returns (value, derivative)
of both real outputs; at every real except the two junctions `±B` (interior knots included: the spline is C¹) the value tangent is
`exp` of the returned log-det and is the derivative of the value.
-/
open NF DualSound DualX Filter Topology

namespace DualXMore
open TailsWhole
noncomputable section

/-! ### the inlined cubic tails wrapper `TailsWhole.cubicTails` on dual numbers -/

section cubicTails
variable (e : Float → ℝ) (tb minW minH eps thr : Float)

theorem cubicTails_dual_unfold (uw' uh' : List (ℝ × ℝ)) (udl' udr' dx : ℝ × ℝ) (inverse : Bool) :
    cubicTails (dualX (NF.realX e)) tb minW minH eps thr uw' uh' udl' udr' inverse dx
      = if -e tb ≤ dx.1 ∧ dx.1 ≤ e tb then
          cubicSpline (dualX (NF.realX e)) (ccfgT tb minW minH eps thr) uw' uh' udl' udr' inverse dx
        else .ok (dx, (0, 0), []) := by
  unfold cubicTails
  simp only [XOps.ge, d_le, d_neg, d_ofFloat, d_zero, Bool.and_eq_true, decide_eq_true_eq]
  rfl

variable {e tb minW minH eps thr}
variable {uw uh : List ℝ} {udl udr : ℝ}

theorem cubicTails_dual_outside (uw' uh' : List (ℝ × ℝ)) (udl' udr' : ℝ × ℝ) (inverse : Bool) (x : ℝ)
    (h : x < -e tb ∨ e tb < x) :
    cubicTails (dualX (NF.realX e)) tb minW minH eps thr uw' uh' udl' udr' inverse (x, 1) = .ok ((x, 1), (0, 0), []) ∧
    HasDerivAt (cubicValT e tb minW minH eps thr uw uh udl udr) 1 x ∧
    HasDerivAt (cubicLdT e tb minW minH eps thr uw uh udl udr) 0 x := by
  have hn : ¬ (-e tb ≤ x ∧ x ≤ e tb) := by rintro ⟨h0, h1⟩; rcases h with h | h <;> linarith
  refine ⟨by rw [cubicTails_dual_unfold, if_neg hn], ?_, ?_⟩
  · rw [cubicValT_eq_ext]; exact ext_hasDerivAt_outside _ _ x h
  · have hopen : ∀ᶠ s in 𝓝 x, s < -e tb ∨ e tb < s := by
      rcases h with h | h
      · filter_upwards [Iio_mem_nhds h] with s hs using Or.inl hs
      · filter_upwards [Ioi_mem_nhds h] with s hs using Or.inr hs
    refine (hasDerivAt_const x (0:ℝ)).congr_of_eventuallyEq ?_
    filter_upwards [hopen] with s hs
    exact (cubic_outside s hs).2

local notation "CC" => ccfgT tb minW minH eps thr
local notation "CV" => cubicValT e tb minW minH eps thr uw uh udl udr
local notation "CL" => cubicLdT e tb minW minH eps thr uw uh udl udr

/-- the `boxLog` constant of the square box `[-B,B]²` reads `log 1 = 0` -/
theorem cubic_hbl (hv : CubicWhole.CubicValid e CC uw uh) (hbl0 : e (boxLog (tbox tb)) = 0) :
    e (boxLog (CC).box) = Real.log ((e (CC).box.top - e (CC).box.bottom) / (e (CC).box.right - e (CC).box.left)) := by
  have hD : e (CC).box.right - e (CC).box.left ≠ 0 := (sub_pos.mpr hv.hlr).ne'
  have h1 : (e (CC).box.top - e (CC).box.bottom) / (e (CC).box.right - e (CC).box.left) = 1 := div_self hD
  rw [h1, Real.log_one]; exact hbl0

theorem cubicTails_dual_inside (hv : CubicWhole.CubicValid e CC uw uh) (hneg : e (-tb) = - e tb)
    (hbl0 : e (boxLog (tbox tb)) = 0) (x : ℝ) (h0 : -e tb < x) (h1 : x < e tb) :
    ∃ l' : ℝ, cubicTails (dualX (NF.realX e)) tb minW minH eps thr (uw.map ι) (uh.map ι) (ι udl) (ι udr) false (x, 1)
        = .ok ((CV x, Real.exp (CL x)), (CL x, l'), []) ∧
      HasDerivAt CV (Real.exp (CL x)) x := by
  obtain ⟨l', hr, _⟩ := DualXCubic.cubicSpline_dual_all (udl := udl) (udr := udr) hv (cubic_hbl hv hbl0) x
    (by show e (-tb) < x; rw [hneg]; exact h0) h1
  refine ⟨l', ?_, cubic_hasDerivAt hv hneg hbl0 x (ne_of_gt h0) (ne_of_lt h1)⟩
  rw [cubicTails_dual_unfold, if_pos ⟨h0.le, h1.le⟩, hr, (cubic_inside x h0.le h1.le).1, (cubic_inside x h0.le h1.le).2]

theorem cubic_bin_mem (hv : CubicWhole.CubicValid e CC uw uh) (hneg : e (-tb) = - e tb)
    (k : ℕ) (hk : k < uw.length) (x : ℝ)
    (h0 : CubicWhole.xk e CC uw k < x) (h1 : x < CubicWhole.xk e CC uw (k+1)) : -e tb < x ∧ x < e tb :=
  tbox_bin_mem (CubicWhole.searched (udl := 0) (udr := 0) hv) hneg hk h0 h1

theorem cubicTails_dual_bin_core (hv : CubicWhole.CubicValid e CC uw uh) (hneg : e (-tb) = - e tb)
    (k : ℕ) (hk : k < uw.length) (x : ℝ)
    (h0 : CubicWhole.xk e CC uw k < x) (h1 : x < CubicWhole.xk e CC uw (k+1)) :
    ∃ dy dl : ℝ × ℝ,
      cubicTails (dualX (NF.realX e)) tb minW minH eps thr (uw.map ι) (uh.map ι) (ι udl) (ι udr) false (x, 1)
        = .ok (dy, dl, []) ∧ IsDual CV x dy ∧ IsDual CL x dl := by
  obtain ⟨hx0, hx1⟩ := cubic_bin_mem hv hneg k hk x h0 h1
  obtain ⟨dy, dl, hr, hy, hl⟩ := DualXCubic.cubicSpline_dual_core (udl := udl) (udr := udr) hv k hk x h0 h1
  refine ⟨dy, dl, by rw [cubicTails_dual_unfold, if_pos ⟨hx0.le, hx1.le⟩, hr], hy.congr ?_, hl.congr ?_⟩
  · filter_upwards [Ioo_mem_nhds hx0 hx1] with s hs
    exact (cubic_inside s hs.1.le hs.2.le).1.symm
  · filter_upwards [Ioo_mem_nhds hx0 hx1] with s hs
    exact (cubic_inside s hs.1.le hs.2.le).2.symm

theorem cubicTails_dual_bin (hv : CubicWhole.CubicValid e CC uw uh) (hneg : e (-tb) = - e tb)
    (hbl0 : e (boxLog (tbox tb)) = 0) (k : ℕ) (hk : k < uw.length) (x : ℝ)
    (h0 : CubicWhole.xk e CC uw k < x) (h1 : x < CubicWhole.xk e CC uw (k+1)) :
    ∃ l' : ℝ, cubicTails (dualX (NF.realX e)) tb minW minH eps thr (uw.map ι) (uh.map ι) (ι udl) (ι udr) false (x, 1)
        = .ok ((CV x, Real.exp (CL x)), (CL x, l'), []) ∧
      HasDerivAt CV (Real.exp (CL x)) x ∧ HasDerivAt CL l' x := by
  obtain ⟨hx0, hx1⟩ := cubic_bin_mem hv hneg k hk x h0 h1
  obtain ⟨dy, dl, hr, hy, hl⟩ := cubicTails_dual_bin_core (udl := udl) (udr := udr) hv hneg k hk x h0 h1
  have hder := cubic_hasDerivAt (udl := udl) (udr := udr) hv hneg hbl0 x (ne_of_gt hx0) (ne_of_lt hx1)
  refine ⟨dl.2, ?_, hder, hl.2⟩
  rw [hr]
  congr 1
  exact Prod.ext (Prod.ext hy.1 (hy.2.unique hder)) (Prod.ext (Prod.ext hl.1 rfl) rfl)

theorem cubicTails_dual_all (hv : CubicWhole.CubicValid e CC uw uh) (hneg : e (-tb) = - e tb)
    (hbl0 : e (boxLog (tbox tb)) = 0) (x : ℝ) (hxl : x ≠ -e tb) (hxr : x ≠ e tb) :
    ∃ l' : ℝ, cubicTails (dualX (NF.realX e)) tb minW minH eps thr (uw.map ι) (uh.map ι) (ι udl) (ι udr) false (x, 1)
        = .ok ((CV x, Real.exp (CL x)), (CL x, l'), []) ∧
      HasDerivAt CV (Real.exp (CL x)) x := by
  by_cases h : -e tb ≤ x ∧ x ≤ e tb
  · exact cubicTails_dual_inside hv hneg hbl0 x (lt_of_le_of_ne h.1 (Ne.symm hxl)) (lt_of_le_of_ne h.2 hxr)
  · have ho : x < -e tb ∨ e tb < x := by
      by_contra hc
      exact h ⟨not_lt.mp (fun h' => hc (Or.inl h')), not_lt.mp (fun h' => hc (Or.inr h'))⟩
    refine ⟨0, ?_, cubic_hasDerivAt hv hneg hbl0 x hxl hxr⟩
    rw [(cubicTails_dual_outside (uw := uw) (uh := uh) (udl := udl) (udr := udr) _ _ _ _ false x ho).1,
      (cubic_outside x ho).1, (cubic_outside x ho).2, Real.exp_zero]

end cubicTails

/-! ### non-vacuity of the cubic tails statements (`TailsWhole.cubic_valid_example`: two bins, tail bound `1.0`) -/

/-- every `x` strictly inside either bin (no hypothesis); both bins are non-empty; every `x` outside `[-B, B]` -/
theorem cubic_tails_dual_example (udl udr : ℝ) :
    (∀ k < 2, ∀ x : ℝ, CubicWhole.xk eW (ccfgT 1.0 0.0 0.0 1e-5 1e-3) [0, 0] k < x →
        x < CubicWhole.xk eW (ccfgT 1.0 0.0 0.0 1e-5 1e-3) [0, 0] (k+1) →
      ∃ dy dl : ℝ × ℝ,
        cubicTails (dualX (NF.realX eW)) 1.0 0.0 0.0 1e-5 1e-3 [ι 0, ι 0] [ι 0, ι 0] (ι udl) (ι udr) false (x, 1)
          = .ok (dy, dl, []) ∧
        IsDual (cubicValT eW 1.0 0.0 0.0 1e-5 1e-3 [0, 0] [0, 0] udl udr) x dy ∧
        IsDual (cubicLdT eW 1.0 0.0 0.0 1e-5 1e-3 [0, 0] [0, 0] udl udr) x dl) ∧
    (∀ k < 2, CubicWhole.xk eW (ccfgT 1.0 0.0 0.0 1e-5 1e-3) [0, 0] k
        < CubicWhole.xk eW (ccfgT 1.0 0.0 0.0 1e-5 1e-3) [0, 0] (k+1)) ∧
    (∀ x : ℝ, (x < -eW 1.0 ∨ eW 1.0 < x) →
      cubicTails (dualX (NF.realX eW)) 1.0 0.0 0.0 1e-5 1e-3 [ι 0, ι 0] [ι 0, ι 0] (ι udl) (ι udr) false (x, 1)
        = .ok ((x, 1), (0, 0), [])) := by
  have hv := cubic_valid_example
  refine ⟨fun k hk x h0 h1 => cubicTails_dual_bin_core hv eW_neg k hk x h0 h1, fun k hk => ?_, fun x hx => ?_⟩
  · exact DualXQuad.affine_lt hv.hlr (CubicWhole.cws_strict hv k hk)
  · exact (cubicTails_dual_outside (e := eW) (uw := [0, 0]) (uh := [0, 0]) (udl := udl) (udr := udr) _ _ _ _ false x hx).1

/-- the headline form at every real `x ≠ ±B` (interior knot included), given the IEEE fact that `boxLog` of the square box is
    `0.0` (`Float.log` is opaque to the kernel) -/
theorem cubic_tails_dual_example' (hlog : (boxLog (tbox 1.0) == 0.0) = true) (udl udr : ℝ) (x : ℝ)
    (hxl : x ≠ -eW 1.0) (hxr : x ≠ eW 1.0) :
    ∃ l' : ℝ, cubicTails (dualX (NF.realX eW)) 1.0 0.0 0.0 1e-5 1e-3 [ι 0, ι 0] [ι 0, ι 0] (ι udl) (ι udr) false (x, 1)
        = .ok ((cubicValT eW 1.0 0.0 0.0 1e-5 1e-3 [0, 0] [0, 0] udl udr x,
                Real.exp (cubicLdT eW 1.0 0.0 0.0 1e-5 1e-3 [0, 0] [0, 0] udl udr x)),
               (cubicLdT eW 1.0 0.0 0.0 1e-5 1e-3 [0, 0] [0, 0] udl udr x, l'), []) ∧
      HasDerivAt (cubicValT eW 1.0 0.0 0.0 1e-5 1e-3 [0, 0] [0, 0] udl udr)
        (Real.exp (cubicLdT eW 1.0 0.0 0.0 1e-5 1e-3 [0, 0] [0, 0] udl udr x)) x := by
  have hbl0 : eW (boxLog (tbox 1.0)) = 0 := by simp [eW, hlog]
  exact cubicTails_dual_all cubic_valid_example eW_neg hbl0 x hxl hxr

end
end DualXMore
