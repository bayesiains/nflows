/-!
# Lemmas/CacheHistorical — the cache machine of `Linear` as coded BEFORE the repair commit
`fix: Linear invalidates its weight cache on load_state_dict and on dtype/device conversion`

A record of findings F11a/F11b (DESIGN appendix B.6): in that code `load` and `cast` did not touch the cache, and
`stale_after_load` / `dtype_after_cast` are the minimal histories on which it returned stale outputs resp. raised a dtype
error.  The machine of the code in `/repo` is `Core/Cache.lean`; there both ops invalidate and
`Properties.C10.load_cast_repaired` shows that the same two histories are answered like the uncached transform.
`second_backward` is the history of F11c, which `/repo` has as well (`Properties.C10.second_backward_counterexample`).
Nothing here is used by the driver.
-/
namespace CacheHistorical

inductive DT | f32 | f64 deriving DecidableEq, Repr

structure Slot where
  ver : Nat
  dt : DT
  graphFreed : Bool      -- a backward pass already ran through the cached tensor's graph
deriving DecidableEq, Repr

structure St where
  training : Bool := true
  usingCache : Bool := false
  cW : Option Slot := none
  cInv : Option Slot := none
  cLd : Option Slot := none
  ver : Nat := 0
  dt : DT := .f32
deriving DecidableEq, Repr

inductive Op | train | eval | useCache (b : Bool) | fwd | inv | update | load | cast (d : DT) | fwdBwd
deriving DecidableEq, Repr

inductive Out | none | ok (ver : Nat) (dt : DT) | errDtype | errBackward | errNotTraining
deriving DecidableEq, Repr

def fill (s : St) (c : Option Slot) : Slot := c.getD ⟨s.ver, s.dt, false⟩

/-- mirrors linear.py:46-96 for LU/QR/SVD (cache slots hold tensors computed from the parameters) -/
def step (s : St) : Op → St × Out
  | .train => ({ s with training := true, cW := none, cInv := none, cLd := none }, .none)
  | .eval => ({ s with training := false }, .none)
  | .useCache b => ({ s with usingCache := b }, .none)
  | .fwd =>
    if !s.training && s.usingCache then
      let w := fill s s.cW; let l := fill s s.cLd
      let s' := { s with cW := some w, cLd := some l }
      if w.dt ≠ s.dt then (s', .errDtype) else (s', .ok w.ver w.dt)
    else (s, .ok s.ver s.dt)
  | .inv =>
    if !s.training && s.usingCache then
      let w := fill s s.cInv; let l := fill s s.cLd
      let s' := { s with cInv := some w, cLd := some l }
      if w.dt ≠ s.dt then (s', .errDtype) else (s', .ok w.ver w.dt)
    else (s, .ok s.ver s.dt)
  | .update => if s.training then ({ s with ver := s.ver + 1 }, .none) else (s, .errNotTraining)
  | .load => ({ s with ver := s.ver + 1 }, .none)
  | .cast d => ({ s with dt := d }, .none)
  | .fwdBwd =>
    if !s.training && s.usingCache then
      let w := fill s s.cW; let l := fill s s.cLd
      if w.dt ≠ s.dt then ({ s with cW := some w, cLd := some l }, .errDtype)
      else if w.graphFreed || l.graphFreed then ({ s with cW := some w, cLd := some l }, .errBackward)
      else ({ s with cW := some { w with graphFreed := true }, cLd := some { l with graphFreed := true } }, .ok w.ver w.dt)
    else (s, .ok s.ver s.dt)

def stepRef (s : St) (o : Op) : St × Out := 
  let (s', out) := step { s with usingCache := false } o
  ({ s' with usingCache := false }, out)

def run (f : St → Op → St × Out) : St → List Op → List Out
  | _, [] => []
  | s, o :: os => let (s', out) := f s o; out :: run f s' os

def current (s : St) (c : Option Slot) : Prop := ∀ x, c = some x → x.ver = s.ver ∧ x.dt = s.dt ∧ x.graphFreed = false
def CInv (s : St) : Prop := (s.training = true → s.cW = none ∧ s.cInv = none ∧ s.cLd = none) ∧
  current s s.cW ∧ current s s.cInv ∧ current s s.cLd

def benign : Op → Bool
  | .load => false | .cast _ => false | .fwdBwd => false | _ => true

theorem inv_init : CInv ({} : St) := by simp [CInv, current]

theorem inv_step (s : St) (o : Op) (hb : benign o = true) (h : CInv s) : CInv (step s o).1 := by
  obtain ⟨ht, hw, hi, hl⟩ := h
  have key : ∀ c, current s c → current s (some (fill s c)) := by
    intro c hcur x hx
    cases c with
    | none => simp [fill] at hx; subst hx; simp
    | some y => simp [fill] at hx; subst hx; exact hcur y rfl
  cases o <;> simp [benign] at hb <;> simp only [step]
  case train => simp [CInv, current]
  case eval => exact ⟨by simp, hw, hi, hl⟩
  case useCache b => exact ⟨by simpa using ht, hw, hi, hl⟩
  case fwd =>
    by_cases hc : (!s.training && s.usingCache) = true
    · have htr : s.training = false := by simp at hc; exact hc.1
      simp only [hc, if_true]
      split <;> exact ⟨by simp [htr], key _ hw, hi, key _ hl⟩
    · simp only [hc]; exact ⟨ht, hw, hi, hl⟩
  case inv =>
    by_cases hc : (!s.training && s.usingCache) = true
    · have htr : s.training = false := by simp at hc; exact hc.1
      simp only [hc, if_true]
      split <;> exact ⟨by simp [htr], hw, key _ hi, key _ hl⟩
    · simp only [hc]; exact ⟨ht, hw, hi, hl⟩
  case update =>
    by_cases htr : s.training = true
    · obtain ⟨e1, e2, e3⟩ := ht htr
      simp only [htr, if_true]
      exact ⟨fun _ => ⟨e1, e2, e3⟩, by simp [current, e1], by simp [current, e2], by simp [current, e3]⟩
    · simp only [htr]; exact ⟨ht, hw, hi, hl⟩

/-- minimal failing histories of the full-strength statement -/
theorem stale_after_load :
    run step {} [.eval, .useCache true, .fwd, .load, .fwd] ≠ run stepRef {} [.eval, .useCache true, .fwd, .load, .fwd] := by
  decide
theorem dtype_after_cast :
    run step {} [.eval, .useCache true, .fwd, .cast .f64, .fwd] ≠ run stepRef {} [.eval, .useCache true, .fwd, .cast .f64, .fwd] := by
  decide
theorem second_backward :
    run step {} [.eval, .useCache true, .fwdBwd, .fwdBwd] ≠ run stepRef {} [.eval, .useCache true, .fwdBwd, .fwdBwd] := by
  decide

end CacheHistorical
