import NflowsModel.Lemmas.DualXSearch
import NflowsModel.Lemmas.QuadWhole
import NflowsModel.Lemmas.QuadInverseWhole
/-!
# Lemmas/DualXQuad — the EXECUTED piecewise-quadratic spline, both directions and both shapes, run on dual numbers (C16)

`quadSpline` normalises its parameters (first stage: floored softmax widths, `softplus + 1e-3` heights, the padding constant of the
tails shape) and runs a second stage `quadRest` / `quadRestI` on them.

* `DualXQuad` (first part): what every section uses — `XHom` for the remaining list stages, smoothness of the two bin terms, a bin
  sits inside the unit interval and its cdf value strictly inside `(0,1)`: the `clamp 0 1` is not at a tie.
* `DualXQuadParam` (first part): the second stage along any curve `s ↦ (W s, U s, T s)` of widths / heights and normalised input that
  is valid at `t`: the lists it builds are dual lists (`DualXParam.IsDualL`), for `T t` strictly inside a bin the search of both runs
  is the one of `DualXParam.searchsortedG_dual_bin`, and both runs are then the closed form of that bin
  (`QuadWhole.quadRest_of_search`) on gathered entries that are dual numbers: `quadRest_dual_param_core`, and in box coordinates
  for any family of programs running the second stage `quadSpline_dual_param_gen`.
* `DualXQuad` (second part), the input direction: the first stage keeps zero tangents (`XHom`), the second stage is the case of a
  constant curve of parameters; `quadSpline_dualRes`, `quadSpline_dual` (the reading of the `Float` constant `boxLog` is needed only
  to identify the value tangent with `exp (ld x)`).
* `DualXQuadParam` (second part), the parameter direction: widths and heights carry arbitrary tangent lists along the line
  `s ↦ (uw + s·uw', uh + s·uh', x + s·x')`; side condition: no height parameter on the softplus threshold `u = 20`; in the tails
  shape the padding constant is computed by the dual program and carries its own tangent.
* `DualXQuadInv`, the inverse direction: the radicand of the executed root term is linear in the input and strictly positive on the
  whole closed cdf-bin (`rad_pos`), the clamp is not at a tie strictly inside a bin (`ExecGlue.SearchedInv.inv_mem_open`), the log
  argument is a convex combination of positive heights; `quadRestI_dual_core` along curves, `quadSpline_dualRes_inv`,
  `quadSpline_dual_inv` for the input direction.
-/
open NF DualSound DualX Filter Topology

/-! ## what every direction uses -/

namespace DualXQuad

theorem affine_Ioo {L R a b x : ℝ} (hLR : L < R) (ha : 0 ≤ a) (hb : b ≤ 1) (h0 : L + (R - L) * a < x)
    (h1 : x < L + (R - L) * b) : L < x ∧ x < R := by
  have hD : 0 < R - L := sub_pos.mpr hLR
  have h2 : 0 ≤ (R - L) * a := mul_nonneg hD.le ha
  have h3 : (R - L) * b ≤ R - L := mul_le_of_le_one_right hD.le hb
  constructor <;> linarith

theorem affine_lt {L R a b : ℝ} (hLR : L < R) (hab : a < b) : L + (R - L) * a < L + (R - L) * b :=
  add_lt_add_right (mul_lt_mul_of_pos_left hab (sub_pos.mpr hLR)) L

/-! ### more list programs commute with any homomorphism of `XOps` -/
section hom
variable {α β : Type} {o₁ : XOps α} {o₂ : XOps β} {φ : α → β} (h : XHom o₁ o₂ φ)
include h

theorem hom_two : φ o₁.two = o₂.two := h.ofRat 2 1

theorem hom_pairMeans : ∀ l : List α, (pairMeans o₁ l).map φ = pairMeans o₂ (l.map φ)
  | [] => rfl
  | [_] => rfl
  | a :: b :: r => by
    have := hom_pairMeans (b :: r)
    simp only [List.map_cons] at this
    simp only [NF.pairMeans, List.map_cons, h.div, h.add, hom_two h, this]

theorem hom_cstOf (W U : List α) (K : ℕ) (w0 wl u0 ul : α) :
    φ (QuadWhole.cstOf o₁ W U K w0 wl u0 ul)
      = QuadWhole.cstOf o₂ (W.map φ) (U.map φ) K (φ w0) (φ wl) (φ u0) (φ ul) := by
  unfold QuadWhole.cstOf
  simp only [h.div, h.add, h.sub, h.mul, h.one, h.ofFloat, h.sumG, hom_zipWith _ _ h.mul, hom_pairMeans h, List.map_take,
    List.map_drop]

theorem hom_padU (W U : List α) (K : ℕ) (U' : List α) (hp : QuadWhole.padU o₁ W U K = .ok U') :
    QuadWhole.padU o₂ (W.map φ) (U.map φ) K = .ok (U'.map φ) := by
  unfold QuadWhole.padU at hp ⊢
  rw [List.length_map]
  split_ifs at hp ⊢ with hb
  · rcases h1 : getI W 0 with err | w0
    · rw [h1] at hp; cases hp
    rcases h2 : getI W (↑K - 1) with err | wl
    · rw [h1, h2] at hp; cases hp
    rcases h3 : getI U 0 with err | u0
    · rw [h1, h2, h3] at hp; cases hp
    rcases h4 : getI U (Int.ofNat U.length - 1) with err | ul
    · rw [h1, h2, h3, h4] at hp; cases hp
    rw [h1, h2, h3, h4] at hp
    rw [XHom.getI_ok (φ := φ) _ _ _ h1, XHom.getI_ok (φ := φ) _ _ _ h2, XHom.getI_ok (φ := φ) _ _ _ h3,
      XHom.getI_ok (φ := φ) _ _ _ h4]
    have hp' : QuadWhole.cstOf o₁ W U K w0 wl u0 ul :: (U ++ [QuadWhole.cstOf o₁ W U K w0 wl u0 ul]) = U' := by
      injection hp
    rw [← hp']
    simp only [List.map_cons, List.map_append, List.map_nil, hom_cstOf h]
    rfl
  · have : U = U' := by injection hp
    rw [this]; rfl

end hom

noncomputable section

theorem quadFwd_smooth {t l w b hl hr : ℝ} (hw : w ≠ 0) : Smooth (Bridge.qEnv t l w b hl hr) quadFwdE := by
  simp only [quadFwdE, NF.v, Expr.add_def, Expr.sub_def, Expr.mul_def, Expr.div_def, Smooth, evalR_var, true_and, and_true]
  simpa [Bridge.qEnv, envOf] using hw

theorem quadLd_smooth {t l w b hl hr : ℝ} (hw : w ≠ 0) (hp : Quad.pdf hl hr ((t - l) / w) ≠ 0) :
    Smooth (Bridge.qEnv t l w b hl hr) quadFwdLdE := by
  simp only [quadFwdLdE, NF.v, Expr.add_def, Expr.sub_def, Expr.mul_def, Expr.div_def, Smooth, evalR_var, true_and,
    and_true]
  refine ⟨by simpa [Bridge.qEnv, envOf] using hw, ?_⟩
  simpa [Bridge.qEnv, envOf, Quad.pdf] using hp

open QuadWhole
variable {e : Float → ℝ} {c : QCfg} {Wd U : List ℝ}

theorem nx_mem_box (hb : BoxValid e c) (z : ℝ) (h0 : 0 ≤ nx e c z) (h1 : nx e c z ≤ 1) :
    e c.box.left ≤ z ∧ z ≤ e c.box.right := by
  have hD : 0 < e c.box.right - e c.box.left := sub_pos.mpr hb.hlr
  unfold nx at h0 h1
  rw [le_div_iff₀ hD] at h0
  rw [div_le_iff₀ hD] at h1
  constructor <;> linarith

/-- strictly inside bin `k` the bin's cdf value is strictly inside `(0,1)`: **the `clamp 0 1` is not at a tie** -/
theorem bin_mem_unit_open (hv : CoreValid e c Wd U) (k : ℕ) (hk : k < Wd.length) (t : ℝ)
    (h0 : lc e Wd k < t) (h1 : t < lc e Wd (k+1)) : 0 < binN e c Wd U k t ∧ binN e c Wd U k t < 1 := by
  have hm := bin_strictMonoOn hv k hk
  have hlk := (lc_strict hv k hk).le
  obtain ⟨he0, he1⟩ := bin_endpoints hv k hk
  have hb0 := ((QuadWhole.searchedN hv).yknot_mem k hk.le).1
  have hb1 := ((QuadWhole.searchedN hv).yknot_mem (k+1) hk).2
  constructor
  · have := hm ⟨le_rfl, hlk⟩ ⟨h0.le, h1.le⟩ h0
    rw [he0] at this; linarith
  · have := hm ⟨h0.le, h1.le⟩ ⟨hlk, le_rfl⟩ h1
    rw [he1] at this; linarith

end

end DualXQuad

/-! ## the second stage along a curve -/

namespace DualXQuadParam
noncomputable section
open QuadWhole DualXParam

variable {e : Float → ℝ} {c : QCfg}

/-! ### list-level dual lemmas -/

section lists
variable {t : ℝ}

theorem pairMeans_dualL : ∀ {ds : List (ℝ × ℝ)} {F : ℝ → List ℝ}, IsDualL F t ds →
    IsDualL (fun s => pairMeans (NF.realX e) (F s)) t (pairMeans (dualX (NF.realX e)) ds)
  | [], F, h => by
    rw [h.eq_nil]; exact IsDualL.nil t
  | [d], F, h => by
    obtain ⟨f, F', rfl, _, hF'⟩ := h.uncons
    rw [hF'.eq_nil]; exact IsDualL.nil t
  | d :: d' :: ds, F, h => by
    obtain ⟨f, F', rfl, hf, hF'⟩ := h.uncons
    have ih := pairMeans_dualL hF'
    obtain ⟨f', F'', rfl, hf', hF''⟩ := hF'.uncons
    exact IsDualL.cons (IsDual.div e (IsDual.add e hf hf') (IsDual.two e t) (by rw [d_two]; norm_num)) ih

theorem zipMul_dualL : ∀ {ds es : List (ℝ × ℝ)} {F G : ℝ → List ℝ}, IsDualL F t ds → IsDualL G t es →
    IsDualL (fun s => List.zipWith (NF.realX e).mul (F s) (G s)) t (List.zipWith (dualX (NF.realX e)).mul ds es)
  | [], _, F, G, h, _ => by
    rw [h.eq_nil]; simpa using IsDualL.nil t
  | _ :: _, [], F, G, _, hG => by
    rw [hG.eq_nil]; simpa using IsDualL.nil t
  | d :: ds, d' :: es, F, G, h, hG => by
    obtain ⟨f, F', rfl, hf, hF'⟩ := h.uncons
    obtain ⟨g, G', rfl, hg, hG'⟩ := hG.uncons
    exact IsDualL.cons (IsDual.mul e hf hg) (zipMul_dualL hF' hG')

end lists

/-! ### the lists the dual second stage builds (suffix `D`: `QuadWhole.area`, `hts`, `blc`, `locs` computed at `dualX (NF.realX e)`) -/

variable (e)

def areaD (dW dU : List (ℝ × ℝ)) : ℝ × ℝ :=
  sumG (dualX (NF.realX e)) (List.zipWith (dualX (NF.realX e)).mul (pairMeans (dualX (NF.realX e)) dU) dW)

def htsD (c : QCfg) (dW dU : List (ℝ × ℝ)) : List (ℝ × ℝ) :=
  dU.map (fun u => (dualX (NF.realX e)).add ((dualX (NF.realX e)).ofFloat c.minH)
    ((dualX (NF.realX e)).mul ((dualX (NF.realX e)).ofFloat (1 - c.minH)) ((dualX (NF.realX e)).div u (areaD e dW dU))))

def blcD (c : QCfg) (dW dU : List (ℝ × ℝ)) : List (ℝ × ℝ) :=
  (dualX (NF.realX e)).zero :: setLast (cumsumG (dualX (NF.realX e))
    (List.zipWith (dualX (NF.realX e)).mul (pairMeans (dualX (NF.realX e)) (htsD e c dW dU)) dW)) (dualX (NF.realX e)).one

def locsD (dW : List (ℝ × ℝ)) : List (ℝ × ℝ) :=
  (dualX (NF.realX e)).zero :: setLast (cumsumG (dualX (NF.realX e)) dW) (dualX (NF.realX e)).one

def envG (c : QCfg) (dW dU : List (ℝ × ℝ)) (k : ℕ) (dx : ℝ × ℝ) : List (ℝ × ℝ) :=
  [dx, (locsD e dW).getD k 0, dW.getD k 0, (blcD e c dW dU).getD k 0, (htsD e c dW dU).getD k 0,
    (htsD e c dW dU).getD (k+1) 0]

variable {e}

/-! ### the lists along a curve of (widths, unnormalised heights) -/

section curve
variable {W U : ℝ → List ℝ} {t : ℝ} {dW dU : List (ℝ × ℝ)}

theorem area_dual (hW : IsDualL W t dW) (hU : IsDualL U t dU) :
    IsDual (fun s => area e (W s) (U s)) t (areaD e dW dU) :=
  sumG_dual e (zipMul_dualL (pairMeans_dualL hU) hW)

theorem hts_dualL (c : QCfg) (hW : IsDualL W t dW) (hU : IsDualL U t dU) (hne : area e (W t) (U t) ≠ 0) :
    IsDualL (fun s => hts e c (W s) (U s)) t (htsD e c dW dU) :=
  hU.map (gR := fun s u => (NF.realX e).add ((NF.realX e).ofFloat c.minH)
      ((NF.realX e).mul ((NF.realX e).ofFloat (1 - c.minH)) ((NF.realX e).div u (area e (W s) (U s)))))
    (gD := fun u => (dualX (NF.realX e)).add ((dualX (NF.realX e)).ofFloat c.minH)
      ((dualX (NF.realX e)).mul ((dualX (NF.realX e)).ofFloat (1 - c.minH)) ((dualX (NF.realX e)).div u (areaD e dW dU))))
    (fun f d _ hf => IsDual.add e (IsDual.ofFloat e c.minH t) (IsDual.mul e (IsDual.ofFloat e _ t)
      (IsDual.div e hf (area_dual hW hU) (by rw [(area_dual hW hU).1]; exact hne))))

theorem blc_dualL (c : QCfg) (hW : IsDualL W t dW) (hU : IsDualL U t dU) (hne : area e (W t) (U t) ≠ 0) :
    IsDualL (fun s => blc e c (W s) (U s)) t (blcD e c dW dU) :=
  IsDualL.cons (IsDual.zero e t) (setLast_dualL (IsDual.one e t)
    (cumsumG_dualL e (zipMul_dualL (pairMeans_dualL (hts_dualL c hW hU hne)) hW)))

theorem locs_dualL (hW : IsDualL W t dW) : IsDualL (fun s => locs e (W s)) t (locsD e dW) :=
  IsDualL.cons (IsDual.zero e t) (setLast_dualL (IsDual.one e t) (cumsumG_dualL e hW))

end curve

/-! ### soundness of the dual second stage along a curve -/

variable {t : ℝ}

theorem envG_dualL {W U : ℝ → List ℝ} {T : ℝ → ℝ} {dW dU : List (ℝ × ℝ)} {dx : ℝ × ℝ}
    (hW : IsDualL W t dW) (hU : IsDualL U t dU) (hT : IsDual T t dx) (hne : area e (W t) (U t) ≠ 0) (k : ℕ) :
    IsDualL (fun s => [T s, (locs e (W s)).getD k 0, (W s).getD k 0, (blc e c (W s) (U s)).getD k 0,
      (hts e c (W s) (U s)).getD k 0, (hts e c (W s) (U s)).getD (k+1) 0]) t (envG e c dW dU k dx) :=
  IsDualL.cons hT (IsDualL.cons ((locs_dualL (e := e) hW).getD_any k) (IsDualL.cons (hW.getD_any k)
    (IsDualL.cons ((blc_dualL c hW hU hne).getD_any k) (IsDualL.cons ((hts_dualL c hW hU hne).getD_any k)
      (IsDualL.cons ((hts_dualL c hW hU hne).getD_any (k+1)) (IsDualL.nil t))))))

theorem quadRest_dual_param_core (W U : ℝ → List ℝ) (T : ℝ → ℝ) (t : ℝ) (dW dU : List (ℝ × ℝ)) (dx : ℝ × ℝ)
    (hv : CoreValid e c (W t) (U t))
    (hW : IsDualL W t dW) (hU : IsDualL U t dU) (hT : IsDual T t dx)
    (k : ℕ) (hk : k < (W t).length) (h0 : lc e (W t) k < T t) (h1 : T t < lc e (W t) (k+1)) :
    DualRun (fun s => quadRest (NF.realX e) c (W s) (U s) (T s)) t (quadRest (dualX (NF.realX e)) c dW dU dx) := by
  have hne : area e (W t) (U t) ≠ 0 := (area_pos hv).ne'
  have hLoc := locs_dualL (e := e) hW
  have hHts := hts_dualL c hW hU hne
  have hBlc := blc_dualL c hW hU hne
  have hEnv := envG_dualL (c := c) hW hU hT hne k
  obtain ⟨hl1, _, _, hp⟩ := locs_facts hv
  have hl3 := (blc_facts hv).1
  have hl4 := hts_length hv
  -- the search: the dual run's is the real run's at `t`, which is `k`, and the real run's stays `k` nearby
  have hS := searchsortedG_dual_bin c.eps hv.heps hLoc hT hp k (by omega) h0 h1
  obtain ⟨hlo, hhi⟩ := (QuadWhole.searchedN hv).bin_subset k hk ⟨h0.le, h1.le⟩
  have hSk : searchsortedG (dualX (NF.realX e)) c.eps (locsD e dW) dx = (k : Int) := by
    rw [← hS.self_of_nhds, (search_spec hv).2 _ hlo hhi, (QuadWhole.searchedN hv).idx_eq k hk _ h0.le h1]
  -- the two terms and the post-processing, away from the clamp's ties
  have hw := wd_pos hv k hk
  have hstep := lc_step hv k hk
  have ha0 : 0 ≤ (T t - lc e (W t) k) / wd (W t) k := div_nonneg (sub_nonneg.2 h0.le) hw.le
  have ha1 : (T t - lc e (W t) k) / wd (W t) k ≤ 1 := by rw [div_le_one hw]; linarith only [h1, hstep]
  have hY0 := evalX_isDual (e := e) hEnv quadFwdE (DualXQuad.quadFwd_smooth (l := lc e (W t) k) (b := bl e c (W t) (U t) k)
    (hl := ht e c (W t) (U t) k) (hr := ht e c (W t) (U t) (k+1)) hw.ne')
  have hLd0 := evalX_isDual (e := e) hEnv quadFwdLdE (DualXQuad.quadLd_smooth (b := bl e c (W t) (U t) k) hw.ne'
    (Quad.pdf_pos (ht_pos hv k (by omega)) (ht_pos hv (k+1) (by omega)) ha0 ha1).ne')
  obtain ⟨hpos, hlt1⟩ := DualXQuad.bin_mem_unit_open hv k hk _ h0 h1
  have hval : (evalX (dualX (NF.realX e)) (envG e c dW dU k dx) quadFwdE).1 = binN e c (W t) (U t) k (T t) :=
    hY0.1.trans (SplineExec.evalX_eq_evalR e _ _)
  have hcl := IsDual.clamp e (IsDual.zero e t) (IsDual.one e t) hY0
    (by rw [d_zero, hval]; exact ne_of_gt hpos)
    (by rw [d_zero, d_one, hval, max_eq_left hpos.le]; exact ne_of_lt hlt1)
  have hY1 := IsDual.add e (IsDual.mul e hcl (IsDual.ofFloat e (c.box.top - c.box.bottom) t))
    (IsDual.ofFloat e c.box.bottom t)
  have hLd1 := IsDual.add e hLd0 (IsDual.ofFloat e (boxLog c.box) t)
  -- both runs are the closed form of bin `k`
  have g1 := hLoc.getI (k := k) (by rw [hl1]; omega)
  have g2 := hW.getI hk
  have g3 := hBlc.getI (k := k) (by rw [hl3]; omega)
  have g4 := hHts.getI (k := k) (by rw [hl4]; omega)
  have g5 := hHts.getI (k := k + 1) (by rw [hl4]; omega)
  refine ⟨_, _, _, _, QuadWhole.quadRest_of_search (dualX (NF.realX e)) c dW dU dx rfl rfl rfl g1.2 g2.2 g3.2 g4.2 g5.2 hSk,
    ?_, hY1, hLd1⟩
  filter_upwards [hS] with s hs
  exact QuadWhole.quadRest_of_search (NF.realX e) c (W s) (U s) (T s) rfl rfl rfl (g1.1 s) (g2.1 s) (g3.1 s) (g4.1 s) (g5.1 s)
    (hs.trans hSk)

/-! ### from normalised coordinates to the box: any family of programs running the second stage -/

variable (e)
def nxG (c : QCfg) (dX : ℝ × ℝ) : ℝ × ℝ :=
  (dualX (NF.realX e)).div ((dualX (NF.realX e)).sub dX ((dualX (NF.realX e)).ofFloat c.box.left))
    ((dualX (NF.realX e)).ofFloat (c.box.right - c.box.left))
variable {e}

theorem nxG_isDual (hb : BoxValid e c) {X : ℝ → ℝ} {t : ℝ} {dX : ℝ × ℝ} (hX : IsDual X t dX) :
    IsDual (fun s => nx e c (X s)) t (nxG e c dX) := by
  have hD : e c.box.right - e c.box.left ≠ 0 := (sub_pos.mpr hb.hlr).ne'
  refine (IsDual.div e (IsDual.sub e hX (IsDual.ofFloat e c.box.left t))
    (IsDual.ofFloat e (c.box.right - c.box.left) t) ?_).congr_fun (fun s => ?_)
  · rw [d_ofFloat, hb.hdlr]; exact hD
  · simp only [NF.realX_div, NF.realX_sub, NF.realX_ofFloat, hb.hdlr, nx]

/-- **generic whole second stage, arbitrary joint direction**: a family `P s` of real programs, each running `quadRest`
    on `(W s, U s)` after normalising its input; the dual second stage on the dual lists of the curve is sound for
    `s ↦ P s (X s)` -/
theorem quadSpline_dual_param_gen {P : ℝ → ℝ → Except Err (ℝ × ℝ)} (W U : ℝ → List ℝ) (X : ℝ → ℝ) (t : ℝ)
    (dW dU : List (ℝ × ℝ)) (dX : ℝ × ℝ)
    (hv : CoreValid e c (W t) (U t)) (hb : BoxValid e c) (hP : ∀ s, RunsRest e c (W s) (U s) (P s))
    (hW : IsDualL W t dW) (hU : IsDualL U t dU) (hX : IsDual X t dX)
    (k : ℕ) (hk : k < (W t).length) (h0 : lc e (W t) k < nx e c (X t)) (h1 : nx e c (X t) < lc e (W t) (k+1)) :
    DualRes (fun s => P s (X s)) t (quadRest (dualX (NF.realX e)) c dW dU (nxG e c dX)) := by
  have hT := nxG_isDual hb hX
  refine (quadRest_dual_param_core W U (fun s => nx e c (X s)) t dW dU (nxG e c dX) hv hW hU hT k hk h0 h1).dualRes.congr ?_
  obtain ⟨hlo, hhi⟩ := (QuadWhole.searchedN hv).open_bin_subset k hk ⟨h0, h1⟩
  filter_upwards [hT.2.continuousAt.eventually (Ioo_mem_nhds hlo hhi)] with s hs
  obtain ⟨hz0, hz1⟩ := DualXQuad.nx_mem_box hb (X s) hs.1.le hs.2.le
  exact (hP s (X s) hz0 hz1).symm

end
end DualXQuadParam

/-! ## the input direction (forward) -/

namespace DualXQuad

noncomputable section
variable (e : Float → ℝ)

open QuadWhole

theorem search_lift (eps : Float) (l : List ℝ) (x' : ℝ × ℝ) :
    searchsortedG (dualX (NF.realX e)) eps (l.map ι) x' = searchsortedG (NF.realX e) eps l x'.1 := by
  rw [(fst_hom e).searchsortedG, List.map_map, fst_ι, List.map_id]

variable {e}
variable {c : QCfg} {Wd U : List ℝ}

/-! ### the whole executed program `quadSpline … false` on dual numbers -/

variable {uw uh : List ℝ}

theorem Wq_lift (c : QCfg) (uw : List ℝ) :
    flooredSoftmax (dualX (NF.realX e)) c.minW (uw.map ι) = (Wq e c uw).map ι :=
  ((lift_hom e).flooredSoftmax c.minW uw).symm

theorem Uq_lift (uh : List ℝ) :
    (uh.map ι).map (fun u => (dualX (NF.realX e)).add ((dualX (NF.realX e)).softplus u) ((dualX (NF.realX e)).ofFloat 1e-3))
      = (Uq e uh).map ι := by
  have hL := lift_hom e
  unfold Uq
  rw [List.map_map, List.map_map]
  apply List.map_congr_left
  intro u _
  simp only [Function.comp, hL.add, hL.softplus, hL.ofFloat]

theorem quadSpline_dual_split (hgW : ¬ (c.minW * uw.length.toFloat > 1.0))
    (hgH : ¬ (c.minH * uw.length.toFloat > 1.0))
    (hpad : padU (NF.realX e) (Wq e c uw) (Uq e uh) uw.length = .ok U)
    (x : ℝ) (hx0 : e c.box.left ≤ x) (hx1 : x ≤ e c.box.right) :
    quadSpline (dualX (NF.realX e)) c (uw.map ι) (uh.map ι) false (x, 1)
      = quadRest (dualX (NF.realX e)) c ((Wq e c uw).map ι) (U.map ι) (DualXQuadParam.nxG e c (x, 1)) := by
  rw [quadSpline_split (dualX (NF.realX e)) c _ _ (x, 1) (d_guard e _ _ _ hx0 hx1) (by rw [List.length_map]; exact hgW)
    (by rw [List.length_map]; exact hgH), Wq_lift, Uq_lift, List.length_map, hom_padU (lift_hom e) _ _ _ _ hpad, ExecGlue.ok_bind]
  rfl

theorem xk_mem_box (hc : CoreValid e c (Wq e c uw) U) (hb : BoxValid e c) (k : ℕ) (hk : k < uw.length) (x : ℝ)
    (h0 : xk e c uw k < x) (h1 : x < xk e c uw (k+1)) : e c.box.left ≤ x ∧ x ≤ e c.box.right := by
  have hk' : k < (Wq e c uw).length := by rw [Wq_length]; exact hk
  obtain ⟨hx0, hx1⟩ := affine_Ioo hb.hlr ((QuadWhole.searchedN hc).knot_mem k hk'.le).1 ((QuadWhole.searchedN hc).knot_mem (k+1) hk').2 h0 h1
  exact ⟨hx0.le, hx1.le⟩

/-- core statement for both shapes of `uh` (the shape only enters through what the padding step returns): the zero-tangent
    run is the run along the constant curve of parameters, input `s ↦ s` -/
theorem quadSpline_dual_core (hc : CoreValid e c (Wq e c uw) U) (hb : BoxValid e c)
    (hgW : ¬ (c.minW * uw.length.toFloat > 1.0)) (hgH : ¬ (c.minH * uw.length.toFloat > 1.0))
    (hpad : padU (NF.realX e) (Wq e c uw) (Uq e uh) uw.length = .ok U)
    (k : ℕ) (hk : k < uw.length) (x : ℝ) (h0 : xk e c uw k < x) (h1 : x < xk e c uw (k+1)) :
    DualRes (fun s => quadSpline (NF.realX e) c uw uh false s) x
      (quadSpline (dualX (NF.realX e)) c (uw.map ι) (uh.map ι) false (x, 1)) := by
  obtain ⟨hx0, hx1⟩ := xk_mem_box hc hb k hk x h0 h1
  rw [quadSpline_dual_split hgW hgH hpad x hx0 hx1]
  exact DualXQuadParam.quadSpline_dual_param_gen
    (P := fun _ => quadSpline (NF.realX e) c uw uh false) (fun _ => Wq e c uw) (fun _ => U) (fun s => s) x _ _ (x, 1)
    hc hb (fun _ => runsRest_of_pad hgW hgH hb hpad) (DualXParam.IsDualL.const _ x)
    (DualXParam.IsDualL.const _ x) (IsDual.id x) k (by rw [Wq_length]; exact hk)
    ((nx_bin_iff hb uw k x).1.mpr h0) ((nx_bin_iff hb uw (k+1) x).2.mpr h1)

theorem padU_bounded (hv : QuadValid e c uw uh) :
    padU (NF.realX e) (Wq e c uw) (Uq e uh) uw.length = .ok (Uq e uh) :=
  padU_of_ne _ _ _ _ (by rw [Uq_length, hv.hlenh]; omega)

theorem valOf_eq_outY (r : Except Err (ℝ × ℝ)) : valOf r = outY r := by cases r <;> rfl
theorem ldOf_eq_outL (r : Except Err (ℝ × ℝ)) : ldOf r = outL r := by cases r <;> rfl

/-- **the executed piecewise-quadratic spline on dual numbers, bounded shape** (`uh` has `K+1` entries) -/
theorem quadSpline_dualRes (hv : QuadValid e c uw uh) (k : ℕ) (hk : k < uw.length) (x : ℝ)
    (h0 : xk e c uw k < x) (h1 : x < xk e c uw (k+1)) :
    DualRes (fun s => quadSpline (NF.realX e) c uw uh false s) x
      (quadSpline (dualX (NF.realX e)) c (uw.map ι) (uh.map ι) false (x, 1)) :=
  quadSpline_dual_core (core_of_valid hv) hv.hbox hv.hgW hv.hgH (padU_bounded hv) k hk x h0 h1

/-- **… tails shape** (`uh` has `K-1` entries, `K ≥ 2`: the padding constant `cst` is computed by list operations on
    zero-tangent lists and enters both ends of the heights with zero tangent) -/
theorem quadSpline_dualRes_T (hv : QuadValidT e c uw uh) (k : ℕ) (hk : k < uw.length) (x : ℝ)
    (h0 : xk e c uw k < x) (h1 : x < xk e c uw (k+1)) :
    DualRes (fun s => quadSpline (NF.realX e) c uw uh false s) x
      (quadSpline (dualX (NF.realX e)) c (uw.map ι) (uh.map ι) false (x, 1)) :=
  quadSpline_dual_core (core_of_validT hv) hv.hbox hv.hgW hv.hgH (padU_tails hv) k hk x h0 h1

/-- the headline form: the dual run returns `((val x, exp (ld x)), (ld x, l'))`, the real outputs with tangents the
    derivatives of the real program's two outputs.  (`hbl`: the `Float` constant `boxLog` is read as the real logarithm —
    needed only to identify the value tangent with `exp (ld x)`.) -/
theorem quadSpline_dual (hv : QuadValid e c uw uh)
    (hbl : e (boxLog c.box) = Real.log ((e c.box.top - e c.box.bottom) / (e c.box.right - e c.box.left)))
    (k : ℕ) (hk : k < uw.length) (x : ℝ) (h0 : xk e c uw k < x) (h1 : x < xk e c uw (k+1)) :
    ∃ l' : ℝ, quadSpline (dualX (NF.realX e)) c (uw.map ι) (uh.map ι) false (x, 1)
        = .ok ((val e c uw uh x, Real.exp (ld e c uw uh x)), (ld e c uw uh x, l')) ∧
      HasDerivAt (val e c uw uh) (Real.exp (ld e c uw uh x)) x ∧ HasDerivAt (ld e c uw uh) l' x :=
  (quadSpline_dualRes hv k hk x h0 h1).headline (fun _ => valOf_eq_outY _) (fun _ => ldOf_eq_outL _)
    (val_hasDerivAt_x hv hbl k hk x h0 h1)

theorem quadSpline_dual_T (hv : QuadValidT e c uw uh)
    (hbl : e (boxLog c.box) = Real.log ((e c.box.top - e c.box.bottom) / (e c.box.right - e c.box.left)))
    (k : ℕ) (hk : k < uw.length) (x : ℝ) (h0 : xk e c uw k < x) (h1 : x < xk e c uw (k+1)) :
    ∃ l' : ℝ, quadSpline (dualX (NF.realX e)) c (uw.map ι) (uh.map ι) false (x, 1)
        = .ok ((val e c uw uh x, Real.exp (ld e c uw uh x)), (ld e c uw uh x, l')) ∧
      HasDerivAt (val e c uw uh) (Real.exp (ld e c uw uh x)) x ∧ HasDerivAt (ld e c uw uh) l' x :=
  (quadSpline_dualRes_T hv k hk x h0 h1).headline (fun _ => valOf_eq_outY _) (fun _ => ldOf_eq_outL _)
    (val_hasDerivAt_x_T hv hbl k hk x h0 h1)

/-! ### non-vacuity on the concrete accepted configurations of `Lemmas/QuadWhole.lean` -/


theorem xk_example : xk eNV cNV [0] 0 = 0 ∧ xk eNV cNV [0] (0+1) = 1 := by
  obtain ⟨hf0, hfK, _⟩ := xk_facts valid_example
  simp only [List.length_singleton] at hfK
  rw [hf0, hfK]
  simp [eNV, cNV, FloatFacts.zero_beq_zero, FloatFacts.one_beq_zero]

/-- bounded shape, one bin on the unit box (`QuadWhole.valid_example`): every `x ∈ (0,1)` -/
theorem quadSpline_dual_example (x : ℝ) (h0 : 0 < x) (h1 : x < 1) :
    DualRes (fun s => quadSpline (NF.realX eNV) cNV [0] [0, 0] false s) x
      (quadSpline (dualX (NF.realX eNV)) cNV [ι 0] [ι 0, ι 0] false (x, 1)) := by
  obtain ⟨hx0, hx1⟩ := xk_example
  exact quadSpline_dualRes valid_example 0 (by simp) x (by rw [hx0]; exact h0) (by rw [hx1]; exact h1)

/-- … and the headline form, given that the (kernel-opaque) `Float.log (1.0/1.0)` is `0.0` -/
theorem quadSpline_dual_example' (hlog : (boxLog cNV.box == 0.0) = true) (x : ℝ) (h0 : 0 < x) (h1 : x < 1) :
    ∃ l' : ℝ, quadSpline (dualX (NF.realX eNV)) cNV [ι 0] [ι 0, ι 0] false (x, 1)
        = .ok ((val eNV cNV [0] [0, 0] x, Real.exp (ld eNV cNV [0] [0, 0] x)), (ld eNV cNV [0] [0, 0] x, l')) := by
  obtain ⟨hx0, hx1⟩ := xk_example
  obtain ⟨l', h, -, -⟩ := quadSpline_dual valid_example (boxLog_example hlog) 0 (by simp) x
    (by rw [hx0]; exact h0) (by rw [hx1]; exact h1)
  exact ⟨l', h⟩

/-- tails shape, two bins (`QuadWhole.valid_example_T`): every `x` strictly inside either bin, and such `x` exist -/
theorem quadSpline_dual_example_T :
    (∀ k < 2, ∀ x : ℝ, xk eT cNV [0, 0] k < x → x < xk eT cNV [0, 0] (k+1) →
      DualRes (fun s => quadSpline (NF.realX eT) cNV [0, 0] [0] false s) x
        (quadSpline (dualX (NF.realX eT)) cNV [ι 0, ι 0] [ι 0] false (x, 1))) ∧
    ∀ k < 2, xk eT cNV [0, 0] k < xk eT cNV [0, 0] (k+1) := by
  have hv := valid_example_T
  refine ⟨fun k hk x h0 h1 => quadSpline_dualRes_T hv k hk x h0 h1, fun k hk => ?_⟩
  exact affine_lt hv.hbox.hlr (lc_strict (core_of_validT hv) k (by rw [Wq_length]; exact hk))

end

end DualXQuad

/-! ## the parameter direction (forward) -/

namespace DualXQuadParam
noncomputable section
open QuadWhole DualXParam

variable {e : Float → ℝ} {c : QCfg} {uw uh : List ℝ}

/-! ### the first stage on dual lists -/

variable (e)
def UqD (dh : List (ℝ × ℝ)) : List (ℝ × ℝ) :=
  dh.map (fun u => (dualX (NF.realX e)).add ((dualX (NF.realX e)).softplus u) ((dualX (NF.realX e)).ofFloat 1e-3))
variable {e}

/-- unnormalised heights `softplus(u) + 1e-3`; side condition: no entry sits on the softplus threshold `u = 20` -/
theorem Uq_dualL {F : ℝ → List ℝ} {t : ℝ} {ds : List (ℝ × ℝ)} (h : IsDualL F t ds) (hthr : ∀ d ∈ ds, d.1 ≠ 20) :
    IsDualL (fun s => Uq e (F s)) t (UqD e ds) :=
  h.map (gR := fun _ u => (NF.realX e).add ((NF.realX e).softplus u) ((NF.realX e).ofFloat 1e-3))
    (fun _ d hd hf => IsDual.add e (IsDual.softplus e hf (hthr d hd)) (IsDual.ofFloat e _ t))

theorem zip_thr {uh uh' : List ℝ} (hthr : ∀ j < uh.length, uh.getD j 0 ≠ 20) : ∀ d ∈ List.zip uh uh', d.1 ≠ 20 := by
  intro d hd
  have hm : d.1 ∈ uh := (List.of_mem_zip (a := d.1) (b := d.2) hd).1
  obtain ⟨j, hj, hje⟩ := List.mem_iff_getElem.mp hm
  have := hthr j hj
  rwa [List.getD_eq_getElem?_getD, List.getElem?_eq_getElem hj, Option.getD_some, hje] at this

/-- **both shapes**: given the curve `U` of (padded) unnormalised heights along the line of parameters with its dual list
    `dU`, valid at the base point, and that both programs run their second stage on `U s` and `dU`, the dual run returns the
    real outputs with the derivatives of the real program's outputs along the line -/
theorem quadSpline_dual_param_of_rest {U : ℝ → List ℝ} {dU : List (ℝ × ℝ)} (hb : BoxValid e c) (uw' uh' : List ℝ)
    (hlw : uw.length = uw'.length) (hlh : uh.length = uh'.length)
    (hgW : ¬ (c.minW * uw.length.toFloat > 1.0)) (hgH : ¬ (c.minH * uw.length.toFloat > 1.0))
    (hc : CoreValid e c (Wq e c uw) (U 0))
    (hpad : ∀ s, padU (NF.realX e) (Wq e c (lineL uw uw' s)) (Uq e (lineL uh uh' s)) (lineL uw uw' s).length = .ok (U s))
    (hU : IsDualL U 0 dU) (k : ℕ) (hk : k < uw.length) (x x' : ℝ) (h0 : xk e c uw k < x) (h1 : x < xk e c uw (k+1))
    (hrun : quadSpline (dualX (NF.realX e)) c (List.zip uw uw') (List.zip uh uh') false (x, x')
      = quadRest (dualX (NF.realX e)) c (flooredSoftmax (dualX (NF.realX e)) c.minW (List.zip uw uw')) dU (nxG e c (x, x'))) :
    ∃ v' l' : ℝ, quadSpline (dualX (NF.realX e)) c (List.zip uw uw') (List.zip uh uh') false (x, x')
        = .ok ((val e c uw uh x, v'), (ld e c uw uh x, l')) ∧
      HasDerivAt (fun s => val e c (lineL uw uw' s) (lineL uh uh' s) (x + s * x')) v' 0 ∧
      HasDerivAt (fun s => ld e c (lineL uw uw' s) (lineL uh uh' s) (x + s * x')) l' 0 := by
  have zW : lineL uw uw' 0 = uw := lineL_zero uw uw' hlw.le
  have zH : lineL uh uh' 0 = uh := lineL_zero uh uh' hlh.le
  have hx0 : x + 0 * x' = x := by rw [zero_mul, add_zero]
  -- the guards of the real program see the number of bins only
  have hP : ∀ s, RunsRest e c (Wq e c (lineL uw uw' s)) (U s)
      (quadSpline (NF.realX e) c (lineL uw uw' s) (lineL uh uh' s) false) := fun s =>
    runsRest_of_pad (by rw [lineL_length uw uw' hlw s]; exact hgW) (by rw [lineL_length uw uw' hlw s]; exact hgH) hb (hpad s)
  have h := quadSpline_dual_param_gen
    (P := fun s => quadSpline (NF.realX e) c (lineL uw uw' s) (lineL uh uh' s) false)
    (fun s => Wq e c (lineL uw uw' s)) U (fun s => x + s * x') 0 _ _ (x, x') (by rw [zW]; exact hc) hb hP
    (flooredSoftmax_dualL e c.minW (IsDualL.lineL uw uw')) hU (IsDual.line x x') k
    (by rw [zW, Wq_length]; exact hk) (by rw [zW, hx0]; exact (nx_bin_iff hb uw k x).1.mpr h0)
    (by rw [zW, hx0]; exact (nx_bin_iff hb uw (k+1) x).2.mpr h1)
  rw [← hrun] at h
  have := h.values (f := fun s => val e c (lineL uw uw' s) (lineL uh uh' s) (x + s * x'))
    (g := fun s => ld e c (lineL uw uw' s) (lineL uh uh' s) (x + s * x'))
    (fun _ => DualXQuad.valOf_eq_outY _) (fun _ => DualXQuad.ldOf_eq_outL _)
  beta_reduce at this
  rwa [zW, zH, hx0] at this

/-! ### bounded shape -/

/-- **PARAMETER (and input) direction, executed quadratic forward program, bounded shape** (`uh` has `K+1` entries): run on
    the dual input `(x, x')` with the unnormalised widths / heights carrying the tangent lists `uw' uh'` (any direction), for
    `x` strictly inside bin `k` the dual program returns `((val x, v'), (ld x, l'))` where `v'`, `l'` are the derivatives at
    `s = 0` of the REAL executed program's two outputs along the line `s ↦ (uw + s·uw', uh + s·uh', x + s·x')`.
    Side condition: no height parameter sits on the softplus threshold `u = 20` (a jump of the executed softplus). -/
theorem quadSpline_dual_param (hv : QuadValid e c uw uh) (uw' uh' : List ℝ)
    (hlw : uw.length = uw'.length) (hlh : uh.length = uh'.length)
    (hthr : ∀ j < uh.length, uh.getD j 0 ≠ 20)
    (k : ℕ) (hk : k < uw.length) (x x' : ℝ) (h0 : xk e c uw k < x) (h1 : x < xk e c uw (k+1)) :
    ∃ v' l' : ℝ, quadSpline (dualX (NF.realX e)) c (List.zip uw uw') (List.zip uh uh') false (x, x')
        = .ok ((val e c uw uh x, v'), (ld e c uw uh x, l')) ∧
      HasDerivAt (fun s => val e c (lineL uw uw' s) (lineL uh uh' s) (x + s * x')) v' 0 ∧
      HasDerivAt (fun s => ld e c (lineL uw uw' s) (lineL uh uh' s) (x + s * x')) l' 0 := by
  obtain ⟨hb0, hb1⟩ := DualXQuad.xk_mem_box (core_of_valid hv) hv.hbox k hk x h0 h1
  have hlz : (List.zip uw uw').length = uw.length := by rw [List.length_zip, ← hlw, min_self]
  have hlzh : (List.zip uh uh').length = uh.length := by rw [List.length_zip, ← hlh, min_self]
  refine quadSpline_dual_param_of_rest hv.hbox uw' uh' hlw hlh hv.hgW hv.hgH ?_ (fun s => padU_of_ne _ _ _ _ ?_)
    (Uq_dualL (e := e) (IsDualL.lineL uh uh') (zip_thr hthr)) k hk x x' h0 h1
    (quadSpline_bounded (dualX (NF.realX e)) c _ _ (x, x') (d_guard e _ _ (x, x') hb0 hb1)
      (by rw [hlz]; exact hv.hgW) (by rw [hlz]; exact hv.hgH) (by rw [hlz, hlzh, hv.hlenh]; omega))
  · rw [lineL_zero uh uh' hlh.le]; exact core_of_valid hv
  · rw [Uq_length, lineL_length uh uh' hlh s, lineL_length uw uw' hlw s, hv.hlenh]; omega

theorem quadSpline_dual_param_fixed_x (hv : QuadValid e c uw uh) (uw' uh' : List ℝ)
    (hlw : uw.length = uw'.length) (hlh : uh.length = uh'.length)
    (hthr : ∀ j < uh.length, uh.getD j 0 ≠ 20)
    (k : ℕ) (hk : k < uw.length) (x : ℝ) (h0 : xk e c uw k < x) (h1 : x < xk e c uw (k+1)) :
    ∃ v' l' : ℝ, quadSpline (dualX (NF.realX e)) c (List.zip uw uw') (List.zip uh uh') false (x, 0)
        = .ok ((val e c uw uh x, v'), (ld e c uw uh x, l')) ∧
      HasDerivAt (fun s => val e c (lineL uw uw' s) (lineL uh uh' s) x) v' 0 ∧
      HasDerivAt (fun s => ld e c (lineL uw uw' s) (lineL uh uh' s) x) l' 0 := by
  obtain ⟨v', l', h, hv', hl'⟩ := quadSpline_dual_param hv uw' uh' hlw hlh hthr k hk x 0 h0 h1
  refine ⟨v', l', h, ?_, ?_⟩
  · simpa using hv'
  · simpa using hl'

/-- non-vacuity on the concrete accepted configuration `QuadWhole.valid_example` (one bin on the unit box), EVERY direction
    `([a], [p, q], x')` -/
theorem quadSpline_dual_param_example (a p q x x' : ℝ) (h0 : 0 < x) (h1 : x < 1) :
    ∃ v' l' : ℝ, quadSpline (dualX (NF.realX eNV)) cNV [(0, a)] [(0, p), (0, q)] false (x, x')
        = .ok ((val eNV cNV [0] [0, 0] x, v'), (ld eNV cNV [0] [0, 0] x, l')) ∧
      HasDerivAt (fun s => val eNV cNV [0 + s * a] [0 + s * p, 0 + s * q] (x + s * x')) v' 0 ∧
      HasDerivAt (fun s => ld eNV cNV [0 + s * a] [0 + s * p, 0 + s * q] (x + s * x')) l' 0 := by
  obtain ⟨hx0, hx1⟩ := DualXQuad.xk_example
  have hthr : ∀ j < ([0, 0] : List ℝ).length, ([0, 0] : List ℝ).getD j 0 ≠ 20 := by
    intro j hj
    have : ([0, 0] : List ℝ).getD j 0 = 0 := by
      rcases j with _|_|j
      · rfl
      · rfl
      · simp at hj
    rw [this]; norm_num
  exact quadSpline_dual_param valid_example [a] [p, q] rfl rfl hthr 0 (by simp) x x'
    (by rw [hx0]; exact h0) (by rw [hx1]; exact h1)

/-! ### tails shape (`uh` has `K-1` entries): the padding constant is computed by list operations on DUAL lists -/

variable (e)
def cstD (c : QCfg) (dw dh : List (ℝ × ℝ)) : ℝ × ℝ :=
  cstOf (dualX (NF.realX e)) (flooredSoftmax (dualX (NF.realX e)) c.minW dw) (UqD e dh) dw.length
    ((flooredSoftmax (dualX (NF.realX e)) c.minW dw).getD 0 0)
    ((flooredSoftmax (dualX (NF.realX e)) c.minW dw).getD (dw.length - 1) 0)
    ((UqD e dh).getD 0 0) ((UqD e dh).getD (dh.length - 1) 0)
variable {e}

theorem WqD_length (c : QCfg) (dw : List (ℝ × ℝ)) :
    (flooredSoftmax (dualX (NF.realX e)) c.minW dw).length = dw.length := by
  have := congrArg List.length ((fst_hom e).flooredSoftmax c.minW dw)
  rw [List.length_map] at this
  rw [this]
  exact (Wq_length (e := e) c _).trans (List.length_map _)

theorem UqD_length (dh : List (ℝ × ℝ)) : (UqD e dh).length = dh.length := by simp [UqD]

theorem padU_dual_tails (c : QCfg) (dw dh : List (ℝ × ℝ)) (hU : 0 < dh.length) (hK : dh.length + 1 = dw.length) :
    padU (dualX (NF.realX e)) (flooredSoftmax (dualX (NF.realX e)) c.minW dw) (UqD e dh) dw.length
      = .ok (cstD e c dw dh :: (UqD e dh ++ [cstD e c dw dh])) := by
  have := padU_tails_gen (dualX (NF.realX e)) (0 : ℝ × ℝ) (flooredSoftmax (dualX (NF.realX e)) c.minW dw) (UqD e dh)
    dw.length (by rw [UqD_length]; exact hU) (by rw [UqD_length]; exact hK) (WqD_length c dw)
  rw [UqD_length] at this
  exact this

/-- the padding constant on dual lists / dual gathered entries along a curve; side condition: its denominator
    `1 - ½·½·w₀ - ½·½·w_last` does not vanish at the base point -/
theorem cstOf_dual {W U : ℝ → List ℝ} {t : ℝ} {dW dU : List (ℝ × ℝ)} (hW : IsDualL W t dW) (hU : IsDualL U t dU) (K : ℕ)
    {w0 wl u0 ul : ℝ → ℝ} {dw0 dwl du0 dul : ℝ × ℝ} (hw0 : IsDual w0 t dw0) (hwl : IsDual wl t dwl)
    (hu0 : IsDual u0 t du0) (hul : IsDual ul t dul)
    (hden : 1 - e 0.5 * (e 0.5 * w0 t) - e 0.5 * (e 0.5 * wl t) ≠ 0) :
    IsDual (fun s => cstOf (NF.realX e) (W s) (U s) K (w0 s) (wl s) (u0 s) (ul s)) t
      (cstOf (dualX (NF.realX e)) dW dU K dw0 dwl du0 dul) := by
  have half := IsDual.ofFloat e 0.5 t
  have hfw := IsDual.mul e half (IsDual.mul e half hw0)
  have hlw := IsDual.mul e half (IsDual.mul e half hwl)
  have hin := sumG_dual e (zipMul_dualL (e := e) (pairMeans_dualL (e := e) hU) (IsDualL.take (K - 2) (IsDualL.drop 1 hW)))
  have hnum := IsDual.add e (IsDual.add e (IsDual.mul e hfw hu0) (IsDual.mul e hlw hul)) hin
  have hd := IsDual.sub e (IsDual.sub e (IsDual.one e t) hfw) hlw
  exact IsDual.div e hnum hd (by rw [hd.1]; simpa using hden)

theorem cst_den_pos (hv : QuadValidT e c uw uh) :
    0 < 1 - e 0.5 * (e 0.5 * (Wq e c uw).getD 0 0) - e 0.5 * (e 0.5 * (Wq e c uw).getD (uw.length - 1) 0) := by
  obtain ⟨hWpos, hWsum⟩ := W_valid_T hv
  have hlen := hv.hlenh
  have hWl : (Wq e c uw).length = uw.length := Wq_length c uw
  have hw0m : (Wq e c uw).getD 0 0 ∈ Wq e c uw := by
    rw [← SplineExec.getElem_eq_getD _ 0 (by omega)]; exact List.getElem_mem _
  have hwlm : (Wq e c uw).getD (uw.length - 1) 0 ∈ Wq e c uw := by
    rw [← SplineExec.getElem_eq_getD _ (uw.length - 1) (by omega)]; exact List.getElem_mem _
  have hw0' := List.single_le_sum (fun w hw => (hWpos w hw).le) _ hw0m
  have hwl' := List.single_le_sum (fun w hw => (hWpos w hw).le) _ hwlm
  rw [hWsum] at hw0' hwl'
  rw [hv.hhalf]
  linarith

/-- **PARAMETER (and input) direction, executed quadratic forward program, tails shape** (`uh` has `K-1` entries, `K ≥ 2`):
    the padding constant is computed by the dual program from the dual widths and heights and carries its own tangent;
    same statement as `quadSpline_dual_param` -/
theorem quadSpline_dual_param_T (hv : QuadValidT e c uw uh) (uw' uh' : List ℝ)
    (hlw : uw.length = uw'.length) (hlh : uh.length = uh'.length)
    (hthr : ∀ j < uh.length, uh.getD j 0 ≠ 20)
    (k : ℕ) (hk : k < uw.length) (x x' : ℝ) (h0 : xk e c uw k < x) (h1 : x < xk e c uw (k+1)) :
    ∃ v' l' : ℝ, quadSpline (dualX (NF.realX e)) c (List.zip uw uw') (List.zip uh uh') false (x, x')
        = .ok ((val e c uw uh x, v'), (ld e c uw uh x, l')) ∧
      HasDerivAt (fun s => val e c (lineL uw uw' s) (lineL uh uh' s) (x + s * x')) v' 0 ∧
      HasDerivAt (fun s => ld e c (lineL uw uw' s) (lineL uh uh' s) (x + s * x')) l' 0 := by
  have hW : IsDualL (lineL uw uw') 0 (List.zip uw uw') := IsDualL.lineL uw uw'
  have hH : IsDualL (lineL uh uh') 0 (List.zip uh uh') := IsDualL.lineL uh uh'
  have zW : lineL uw uw' 0 = uw := lineL_zero uw uw' hlw.le
  have hlz : (List.zip uw uw').length = uw.length := by rw [List.length_zip, ← hlw, min_self]
  have hlzh : (List.zip uh uh').length = uh.length := by rw [List.length_zip, ← hlh, min_self]
  have hul0 : 0 < uh.length := List.length_pos_of_ne_nil hv.huh
  have hlen := hv.hlenh
  have hWq : IsDualL (fun s => Wq e c (lineL uw uw' s)) 0 (flooredSoftmax (dualX (NF.realX e)) c.minW (List.zip uw uw')) :=
    flooredSoftmax_dualL e c.minW hW
  have hUq := Uq_dualL (e := e) hH (zip_thr hthr)
  have hWl : (flooredSoftmax (dualX (NF.realX e)) c.minW (List.zip uw uw')).length = uw.length := by
    rw [WqD_length, hlz]
  have hUl : (UqD e (List.zip uh uh')).length = uh.length := by rw [UqD_length, hlzh]
  -- the padding constant along the line
  have hden : 1 - e 0.5 * (e 0.5 * (Wq e c (lineL uw uw' 0)).getD 0 0)
      - e 0.5 * (e 0.5 * (Wq e c (lineL uw uw' 0)).getD (uw.length - 1) 0) ≠ 0 := by
    rw [zW]; exact (cst_den_pos hv).ne'
  have hcst0 := cstOf_dual hWq hUq uw.length (hWq.getD_any 0) (hWq.getD_any (uw.length - 1))
    (hUq.getD_any 0) (hUq.getD_any (uh.length - 1)) hden
  have hcD : cstOf (dualX (NF.realX e)) (flooredSoftmax (dualX (NF.realX e)) c.minW (List.zip uw uw'))
      (UqD e (List.zip uh uh')) uw.length
      ((flooredSoftmax (dualX (NF.realX e)) c.minW (List.zip uw uw')).getD 0 0)
      ((flooredSoftmax (dualX (NF.realX e)) c.minW (List.zip uw uw')).getD (uw.length - 1) 0)
      ((UqD e (List.zip uh uh')).getD 0 0) ((UqD e (List.zip uh uh')).getD (uh.length - 1) 0)
      = cstD e c (List.zip uw uw') (List.zip uh uh') := by
    unfold cstD; rw [hlz, hlzh]
  rw [hcD] at hcst0
  have hcst : IsDual (fun s => cstT e c (lineL uw uw' s) (lineL uh uh' s)) 0 (cstD e c (List.zip uw uw') (List.zip uh uh')) :=
    hcst0.congr_fun (fun s => by
      simp only [cstT, lineL_length uw uw' hlw s, lineL_length uh uh' hlh s])
  have hUt : IsDualL (fun s => Ut e c (lineL uw uw' s) (lineL uh uh' s)) 0
      (cstD e c (List.zip uw uw') (List.zip uh uh') ::
        (UqD e (List.zip uh uh') ++ [cstD e c (List.zip uw uw') (List.zip uh uh')])) :=
    IsDualL.cons hcst (IsDualL.append hUq (IsDualL.cons hcst (IsDualL.nil 0)))
  obtain ⟨hb0, hb1⟩ := DualXQuad.xk_mem_box (core_of_validT hv) hv.hbox k hk x h0 h1
  -- the real padding step along the line: the same text, and its branch is taken by the lengths alone
  have hpad : ∀ s, padU (NF.realX e) (Wq e c (lineL uw uw' s)) (Uq e (lineL uh uh' s)) (lineL uw uw' s).length
      = .ok (Ut e c (lineL uw uw' s) (lineL uh uh' s)) := fun s => by
    have := padU_tails_gen (NF.realX e) (0 : ℝ) (Wq e c (lineL uw uw' s)) (Uq e (lineL uh uh' s)) (lineL uw uw' s).length
      (by rw [Uq_length, lineL_length uh uh' hlh s]; exact hul0)
      (by rw [Uq_length, lineL_length uh uh' hlh s, lineL_length uw uw' hlw s]; exact hlen) (Wq_length c _)
    rw [Uq_length] at this
    exact this
  refine quadSpline_dual_param_of_rest hv.hbox uw' uh' hlw hlh hv.hgW hv.hgH
    (by rw [zW, lineL_zero uh uh' hlh.le]; exact core_of_validT hv) hpad hUt k hk x x' h0 h1 ?_
  rw [quadSpline_split (dualX (NF.realX e)) c _ _ (x, x') (d_guard e _ _ (x, x') hb0 hb1)
    (by rw [hlz]; exact hv.hgW) (by rw [hlz]; exact hv.hgH)]
  show padU _ _ (UqD e (List.zip uh uh')) _ >>= _ = _
  rw [padU_dual_tails c _ _ (by rw [hlzh]; exact hul0) (by rw [hlz, hlzh]; exact hlen), ExecGlue.ok_bind]
  rfl

theorem quadSpline_dual_param_fixed_x_T (hv : QuadValidT e c uw uh) (uw' uh' : List ℝ)
    (hlw : uw.length = uw'.length) (hlh : uh.length = uh'.length)
    (hthr : ∀ j < uh.length, uh.getD j 0 ≠ 20)
    (k : ℕ) (hk : k < uw.length) (x : ℝ) (h0 : xk e c uw k < x) (h1 : x < xk e c uw (k+1)) :
    ∃ v' l' : ℝ, quadSpline (dualX (NF.realX e)) c (List.zip uw uw') (List.zip uh uh') false (x, 0)
        = .ok ((val e c uw uh x, v'), (ld e c uw uh x, l')) ∧
      HasDerivAt (fun s => val e c (lineL uw uw' s) (lineL uh uh' s) x) v' 0 ∧
      HasDerivAt (fun s => ld e c (lineL uw uw' s) (lineL uh uh' s) x) l' 0 := by
  obtain ⟨v', l', h, hv', hl'⟩ := quadSpline_dual_param_T hv uw' uh' hlw hlh hthr k hk x 0 h0 h1
  refine ⟨v', l', h, ?_, ?_⟩
  · simpa using hv'
  · simpa using hl'

/-- non-vacuity, tails shape, on `QuadWhole.valid_example_T` (two bins, one interior height): every direction
    `([a, b], [p], x')`, every `x` strictly inside either bin — and both bins are non-empty -/
theorem quadSpline_dual_param_example_T (a b p x' : ℝ) :
    (∀ k < 2, ∀ x : ℝ, xk eT cNV [0, 0] k < x → x < xk eT cNV [0, 0] (k+1) →
      ∃ v' l' : ℝ, quadSpline (dualX (NF.realX eT)) cNV [(0, a), (0, b)] [(0, p)] false (x, x')
          = .ok ((val eT cNV [0, 0] [0] x, v'), (ld eT cNV [0, 0] [0] x, l')) ∧
        HasDerivAt (fun s => val eT cNV [0 + s * a, 0 + s * b] [0 + s * p] (x + s * x')) v' 0 ∧
        HasDerivAt (fun s => ld eT cNV [0 + s * a, 0 + s * b] [0 + s * p] (x + s * x')) l' 0) ∧
    ∀ k < 2, xk eT cNV [0, 0] k < xk eT cNV [0, 0] (k+1) := by
  have hthr : ∀ j < ([0] : List ℝ).length, ([0] : List ℝ).getD j 0 ≠ 20 := by
    intro j hj
    have : ([0] : List ℝ).getD j 0 = 0 := by
      rcases j with _|j
      · rfl
      · simp at hj
    rw [this]; norm_num
  exact ⟨fun k hk x h0 h1 => quadSpline_dual_param_T valid_example_T [a, b] [p] rfl rfl hthr k hk x x' h0 h1,
    DualXQuad.quadSpline_dual_example_T.2⟩

end
end DualXQuadParam

/-! ## the inverse direction -/

namespace DualXQuadInv

/-! ### interior facts of the executed stable root -/

/-- the radicand `(hl w)² − 4·(½(hr − hl)w)·(b − s)` is strictly positive on the closed cdf-bin `[b, b + ½(hl+hr)w]` -/
theorem rad_pos {hl hr w b s : ℝ} (hl0 : 0 < hl) (hr0 : 0 < hr) (hw : 0 < w) (h0 : b ≤ s)
    (h1 : s ≤ b + (hl + hr) / 2 * w) :
    0 < (hl * w) ^ 2 - 4 * ((1/2 : ℝ) * (hr - hl) * w) * (b - s) := by
  have hA : 0 < (hl * w) ^ 2 := pow_pos (mul_pos hl0 hw) 2
  have hB : 0 < (hr * w) ^ 2 := pow_pos (mul_pos hr0 hw) 2
  rcases le_total hl hr with h | h
  · have : 0 ≤ (hr - hl) * w * (s - b) := mul_nonneg (mul_nonneg (sub_nonneg.2 h) hw.le) (sub_nonneg.2 h0)
    have e : (hl * w) ^ 2 - 4 * ((1/2 : ℝ) * (hr - hl) * w) * (b - s) = (hl * w) ^ 2 + 2 * ((hr - hl) * w * (s - b)) := by
      ring
    rw [e]; exact add_pos_of_pos_of_nonneg hA (mul_nonneg zero_le_two this)
  · -- the radicand is `(hr w)²` plus a non-negative multiple of the distance to the right cdf knot
    have : 0 ≤ (hl - hr) * w * (b + (hl + hr) / 2 * w - s) :=
      mul_nonneg (mul_nonneg (sub_nonneg.2 h) hw.le) (sub_nonneg.2 h1)
    have e : (hl * w) ^ 2 - 4 * ((1/2 : ℝ) * (hr - hl) * w) * (b - s)
        = (hr * w) ^ 2 + 2 * ((hl - hr) * w * (b + (hl + hr) / 2 * w - s)) := by ring
    rw [e]; exact add_pos_of_pos_of_nonneg hB (mul_nonneg zero_le_two this)

theorem convex_pos {a l r : ℝ} (ha0 : 0 ≤ a) (ha1 : a ≤ 1) (hl : 0 < l) (hr : 0 < r) : 0 < a * (r - l) + l := by
  have h : a * (r - l) + l = a * r + (1 - a) * l := by ring
  rw [h]
  rcases ha0.eq_or_lt with rfl | ha
  · rw [zero_mul, zero_add, sub_zero, one_mul]; exact hl
  · exact add_pos_of_pos_of_nonneg (mul_pos ha hr) (mul_nonneg (sub_nonneg.2 ha1) hl.le)

/-- smoothness side conditions of the executed root term: radicand `≠ 0` (for `sqrt`), denominator `≠ 0` (for `/`) -/
theorem quadInvAlpha_smooth {s l w b hl hr : ℝ}
    (hrad : (hl * w) ^ 2 - 4 * ((1/2 : ℝ) * (hr - hl) * w) * (b - s) ≠ 0)
    (hden : -(hl * w) - Real.sqrt ((hl * w) ^ 2 - 4 * ((1/2 : ℝ) * (hr - hl) * w) * (b - s)) ≠ 0) :
    Smooth (Bridge.qEnv s l w b hl hr) quadInvAlphaE := by
  have hR : hl * w * (hl * w) - (4:ℝ) * ((1:ℝ) / 2 * (hr - hl) * w) * (b - s)
      = (hl * w) ^ 2 - 4 * ((1/2 : ℝ) * (hr - hl) * w) * (b - s) := by ring
  simp only [quadInvAlphaE, NF.v, Expr.sub_def, Expr.mul_def, Expr.div_def, Expr.ofNat_def, Smooth, evalR_var,
    evalR_sub, evalR_mul, evalR_neg, evalR_sqrt, evalR_lit, true_and, and_true]
  simp only [Bridge.qEnv, envOf, List.getD_cons_zero, List.getD_cons_succ]
  norm_num
  rw [hR]
  exact ⟨hrad, hden⟩

noncomputable section
open QuadWhole QuadInverseWhole DualXQuad DualXParam DualXQuadParam

variable {e : Float → ℝ} {c : QCfg} {Wd U : List ℝ}

theorem ny_mem_box (hb : BoxValid e c) (z : ℝ) (h0 : 0 ≤ ny e c z) (h1 : ny e c z ≤ 1) :
    e c.box.bottom ≤ z ∧ z ≤ e c.box.top := by
  have hD : 0 < e c.box.top - e c.box.bottom := sub_pos.mpr hb.hbt
  unfold ny at h0 h1
  rw [le_div_iff₀ hD] at h0
  rw [div_le_iff₀ hD] at h1
  constructor <;> linarith

theorem idxB_open_bin (hv : CoreValid e c Wd U) (k : ℕ) (hk : k < Wd.length) (s : ℝ)
    (h0 : bl e c Wd U k < s) (h1 : s < bl e c Wd U (k+1)) : 0 ≤ s ∧ s ≤ 1 ∧ idxB e c Wd U s = k :=
  have P := QuadWhole.searchedN hv
  let ⟨hs0, hs1⟩ := P.ybin_subset k hk ⟨h0.le, h1.le⟩
  ⟨hs0, hs1, (searchedInvN hv).idxI_eq P k hk s h0.le h1⟩

theorem quadRestI_dual_core (W U : ℝ → List ℝ) (T : ℝ → ℝ) (t : ℝ) (dW dU : List (ℝ × ℝ)) (dx : ℝ × ℝ)
    (hv : CoreValid e c (W t) (U t))
    (hW : IsDualL W t dW) (hU : IsDualL U t dU) (hT : IsDual T t dx)
    (k : ℕ) (hk : k < (W t).length) (h0 : bl e c (W t) (U t) k < T t) (h1 : T t < bl e c (W t) (U t) (k+1)) :
    DualRun (fun s => quadRestI (NF.realX e) c (W s) (U s) (T s)) t (quadRestI (dualX (NF.realX e)) c dW dU dx) := by
  have hne : area e (W t) (U t) ≠ 0 := (area_pos hv).ne'
  have hLoc := locs_dualL (e := e) hW
  have hHts := hts_dualL c hW hU hne
  have hBlc := blc_dualL c hW hU hne
  have hEnv := envG_dualL (c := c) hW hU hT hne k
  have hl1 := (locs_facts hv).1
  obtain ⟨hl3, _, _, hp⟩ := blc_facts hv
  have hl4 := hts_length hv
  obtain ⟨hs0, hs1, hidx⟩ := idxB_open_bin hv k hk _ h0 h1
  have hS := searchsortedG_dual_bin c.eps hv.heps hBlc hT hp k (by omega) h0 h1
  have hSk : searchsortedG (dualX (NF.realX e)) c.eps (blcD e c dW dU) dx = (k : Int) := by
    rw [← hS.self_of_nhds, (search_specB hv).2 _ hs0 hs1, hidx]
  -- the root term
  have hw := wd_pos hv k hk
  have hl0 := ht_pos hv k (by omega)
  have hr0 := ht_pos hv (k+1) (by omega)
  have hradp : 0 < radN e c (W t) (U t) k (T t) := by
    unfold radN
    exact rad_pos hl0 hr0 hw h0.le (by rw [← bl_step hv k hk]; exact h1.le)
  have hdenn : -(ht e c (W t) (U t) k * wd (W t) k) - Real.sqrt (radN e c (W t) (U t) k (T t)) < 0 := by
    have h2 := Real.sqrt_nonneg (radN e c (W t) (U t) k (T t))
    have h3 := mul_pos hl0 hw
    linarith only [h2, h3]
  have hα := evalX_isDual (e := e) hEnv quadInvAlphaE (quadInvAlpha_smooth (l := lc e (W t) k) hradp.ne' hdenn.ne)
  have hαv : (evalX (dualX (NF.realX e)) (envG e c dW dU k dx) quadInvAlphaE).1 = alphaN e c (W t) (U t) k (T t) :=
    hα.1.trans (SplineExec.evalX_eq_evalR e _ _)
  obtain ⟨_, _, ha0, ha1, _⟩ := bin_factsI hv k hk (T t) h0.le h1.le
  -- the output before the clamp, strictly inside `(0,1)`
  have hO := IsDual.add e (IsDual.mul e hα (hW.getD_any k)) (hLoc.getD_any k)
  obtain ⟨g0, g1⟩ := (searchedInvN hv).inv_mem_open (QuadWhole.searchedN hv) k hk _ h0 h1
  unfold GI at g0 g1
  rw [hidx] at g0 g1
  have hOv : ((dualX (NF.realX e)).add ((dualX (NF.realX e)).mul (evalX (dualX (NF.realX e)) (envG e c dW dU k dx) quadInvAlphaE)
      (dW.getD k 0)) ((locsD e dW).getD k 0)).1 = binInvN e c (W t) (U t) k (T t) := by
    refine hO.1.trans ?_
    show evalX (NF.realX e) _ quadInvAlphaE * (W t).getD k 0 + (locs e (W t)).getD k 0 = _
    rw [SplineExec.evalX_eq_evalR]; rfl
  obtain ⟨hpos, hlt1⟩ := (QuadWhole.searchedN hv).open_bin_subset k hk ⟨g0, g1⟩
  have hcl := IsDual.clamp e (IsDual.zero e t) (IsDual.one e t) hO
    (by rw [d_zero, hOv]; exact ne_of_gt hpos)
    (by rw [d_zero, d_one, hOv, max_eq_left hpos.le]; exact ne_of_lt hlt1)
  have hX1 := IsDual.add e (IsDual.mul e hcl (IsDual.ofFloat e (c.box.right - c.box.left) t)) (IsDual.ofFloat e c.box.left t)
  -- the log argument: a convex combination of the two positive edge heights
  have hArg := IsDual.add e (IsDual.mul e hα (IsDual.sub e (hHts.getD_any (k+1)) (hHts.getD_any k))) (hHts.getD_any k)
  have hArgv : ((dualX (NF.realX e)).add ((dualX (NF.realX e)).mul (evalX (dualX (NF.realX e)) (envG e c dW dU k dx) quadInvAlphaE)
      ((dualX (NF.realX e)).sub ((htsD e c dW dU).getD (k+1) 0) ((htsD e c dW dU).getD k 0))) ((htsD e c dW dU).getD k 0)).1
      = alphaN e c (W t) (U t) k (T t) * (ht e c (W t) (U t) (k+1) - ht e c (W t) (U t) k) + ht e c (W t) (U t) k := by
    refine hArg.1.trans ?_
    show evalX (NF.realX e) _ quadInvAlphaE * _ + _ = _
    rw [SplineExec.evalX_eq_evalR]; rfl
  have hL1 := IsDual.sub e (IsDual.neg e (IsDual.log e hArg (by
    rw [hArgv]; exact (convex_pos ha0 ha1 hl0 hr0).ne'))) (IsDual.ofFloat e (boxLog c.box) t)
  -- both runs are the closed form of bin `k`
  have g1 := hLoc.getI (k := k) (by rw [hl1]; omega)
  have g2 := hW.getI hk
  have g3 := hBlc.getI (k := k) (by rw [hl3]; omega)
  have g4 := hHts.getI (k := k) (by rw [hl4]; omega)
  have g5 := hHts.getI (k := k + 1) (by rw [hl4]; omega)
  refine ⟨_, _, _, _, QuadInverseWhole.quadRestI_of_search (dualX (NF.realX e)) c dW dU dx rfl rfl rfl g1.2 g2.2 g3.2 g4.2 g5.2
    hSk, ?_, hX1, hL1⟩
  filter_upwards [hS] with s hs
  exact QuadInverseWhole.quadRestI_of_search (NF.realX e) c (W s) (U s) (T s) rfl rfl rfl (g1.1 s) (g2.1 s) (g3.1 s) (g4.1 s)
    (g5.1 s) (hs.trans hSk)

def nyD (e : Float → ℝ) (c : QCfg) (y : ℝ) : ℝ × ℝ :=
  (dualX (NF.realX e)).div ((dualX (NF.realX e)).sub (y, 1) ((dualX (NF.realX e)).ofFloat c.box.bottom))
    ((dualX (NF.realX e)).ofFloat (c.box.top - c.box.bottom))

theorem nyD_isDual (hb : BoxValid e c) (y : ℝ) : IsDual (ny e c) y (nyD e c y) := by
  have hD : e c.box.top - e c.box.bottom ≠ 0 := (sub_pos.mpr hb.hbt).ne'
  refine (IsDual.div e (IsDual.sub e (IsDual.id y) (IsDual.ofFloat e c.box.bottom y))
    (IsDual.ofFloat e (c.box.top - c.box.bottom) y) ?_).congr_fun (fun s => ?_)
  · rw [d_ofFloat, hb.hdbt]; exact hD
  · simp only [NF.realX_div, NF.realX_sub, NF.realX_ofFloat, hb.hdbt, ny]

theorem gen_dualI {Q : ℝ → Except Err (ℝ × ℝ)} (hv : CoreValid e c Wd U) (hb : BoxValid e c) (hQ : RunsRestI e c Wd U Q)
    (k : ℕ) (hk : k < Wd.length) (y : ℝ) (h0 : bl e c Wd U k < ny e c y) (h1 : ny e c y < bl e c Wd U (k+1)) :
    DualRes Q y (quadRestI (dualX (NF.realX e)) c (Wd.map ι) (U.map ι) (nyD e c y)) := by
  have hy := nyD_isDual hb y
  refine (quadRestI_dual_core (fun _ => Wd) (fun _ => U) (ny e c) y _ _ _ hv
    (IsDualL.const Wd y) (IsDualL.const U y) hy k hk h0 h1).dualRes.congr ?_
  filter_upwards [hy.2.continuousAt.eventually (Ioo_mem_nhds h0 h1)] with z hz
  obtain ⟨hz0, hz1, -⟩ := idxB_open_bin hv k hk _ hz.1 hz.2
  obtain ⟨hb0, hb1⟩ := ny_mem_box hb z hz0 hz1
  exact (hQ z hb0 hb1).symm

/-! ### the whole executed program `quadSpline … true` on dual numbers -/

variable {uw uh : List ℝ}

theorem quadSpline_dual_splitI (hgW : ¬ (c.minW * uw.length.toFloat > 1.0))
    (hgH : ¬ (c.minH * uw.length.toFloat > 1.0))
    (hpad : padU (NF.realX e) (Wq e c uw) (Uq e uh) uw.length = .ok U)
    (y : ℝ) (hy0 : e c.box.bottom ≤ y) (hy1 : y ≤ e c.box.top) :
    quadSpline (dualX (NF.realX e)) c (uw.map ι) (uh.map ι) true (y, 1)
      = quadRestI (dualX (NF.realX e)) c ((Wq e c uw).map ι) (U.map ι) (nyD e c y) := by
  rw [quadSpline_splitI (dualX (NF.realX e)) c _ _ (y, 1) (d_guard e _ _ _ hy0 hy1) (by rw [List.length_map]; exact hgW)
    (by rw [List.length_map]; exact hgH), Wq_lift, Uq_lift, List.length_map, hom_padU (lift_hom e) _ _ _ _ hpad, ExecGlue.ok_bind]
  rfl

theorem yk_mem_box (hc : CoreValid e c (Wq e c uw) U) (hb : BoxValid e c) (k : ℕ) (hk : k < uw.length) (y : ℝ)
    (h0 : yk e c (Wq e c uw) U k < y) (h1 : y < yk e c (Wq e c uw) U (k+1)) :
    e c.box.bottom ≤ y ∧ y ≤ e c.box.top := by
  have h0' := (ny_bin_iff hb (Wq e c uw) U k y).1.mpr h0
  have h1' := (ny_bin_iff hb (Wq e c uw) U (k+1) y).2.mpr h1
  have hk' : k < (Wq e c uw).length := by rw [Wq_length]; exact hk
  obtain ⟨hs0, hs1, _⟩ := idxB_open_bin hc k hk' _ h0' h1'
  exact ny_mem_box hb y hs0 hs1

/-- core statement for both shapes of `uh` (the shape only enters through what the padding step returns) -/
theorem quadSpline_dual_inv_core (hc : CoreValid e c (Wq e c uw) U) (hb : BoxValid e c)
    (hgW : ¬ (c.minW * uw.length.toFloat > 1.0)) (hgH : ¬ (c.minH * uw.length.toFloat > 1.0))
    (hpad : padU (NF.realX e) (Wq e c uw) (Uq e uh) uw.length = .ok U)
    (hQ : RunsRestI e c (Wq e c uw) U (quadSpline (NF.realX e) c uw uh true))
    (k : ℕ) (hk : k < uw.length) (y : ℝ) (h0 : yk e c (Wq e c uw) U k < y) (h1 : y < yk e c (Wq e c uw) U (k+1)) :
    DualRes (fun s => quadSpline (NF.realX e) c uw uh true s) y
      (quadSpline (dualX (NF.realX e)) c (uw.map ι) (uh.map ι) true (y, 1)) := by
  obtain ⟨hy0, hy1⟩ := yk_mem_box hc hb k hk y h0 h1
  rw [quadSpline_dual_splitI hgW hgH hpad y hy0 hy1]
  exact gen_dualI hc hb hQ k (by rw [Wq_length]; exact hk) y ((ny_bin_iff hb (Wq e c uw) U k y).1.mpr h0)
    ((ny_bin_iff hb (Wq e c uw) U (k+1) y).2.mpr h1)

/-- **the executed piecewise-quadratic spline on dual numbers, INVERSE direction, bounded shape** (`uh` has `K+1` entries) -/
theorem quadSpline_dualRes_inv (hv : QuadValid e c uw uh) (k : ℕ) (hk : k < uw.length) (y : ℝ)
    (h0 : yk e c (Wq e c uw) (Uq e uh) k < y) (h1 : y < yk e c (Wq e c uw) (Uq e uh) (k+1)) :
    DualRes (fun s => quadSpline (NF.realX e) c uw uh true s) y
      (quadSpline (dualX (NF.realX e)) c (uw.map ι) (uh.map ι) true (y, 1)) :=
  quadSpline_dual_inv_core (core_of_valid hv) hv.hbox hv.hgW hv.hgH (padU_bounded hv) (runsRestI_of_valid hv) k hk y h0 h1

/-- **… tails shape** (`uh` has `K-1` entries, `K ≥ 2`: the padding constant is computed by list operations on zero-tangent
    lists and enters both ends of the heights with zero tangent) -/
theorem quadSpline_dualRes_inv_T (hv : QuadValidT e c uw uh) (k : ℕ) (hk : k < uw.length) (y : ℝ)
    (h0 : yk e c (Wq e c uw) (Ut e c uw uh) k < y) (h1 : y < yk e c (Wq e c uw) (Ut e c uw uh) (k+1)) :
    DualRes (fun s => quadSpline (NF.realX e) c uw uh true s) y
      (quadSpline (dualX (NF.realX e)) c (uw.map ι) (uh.map ι) true (y, 1)) :=
  quadSpline_dual_inv_core (core_of_validT hv) hv.hbox hv.hgW hv.hgH (padU_tails hv) (runsRestI_of_validT hv) k hk y h0 h1

/-- the headline form: the dual run returns `((inv y, exp (invLd y)), (invLd y, l'))`, the real outputs with tangents the
    derivatives of the real inverse program's two outputs.  (`hbl`: the `Float` constant `boxLog` is read as the real
    logarithm — needed only to identify the value tangent with `exp (invLd y)`.) -/
theorem quadSpline_dual_inv (hv : QuadValid e c uw uh)
    (hbl : e (boxLog c.box) = Real.log ((e c.box.top - e c.box.bottom) / (e c.box.right - e c.box.left)))
    (k : ℕ) (hk : k < uw.length) (y : ℝ)
    (h0 : yk e c (Wq e c uw) (Uq e uh) k < y) (h1 : y < yk e c (Wq e c uw) (Uq e uh) (k+1)) :
    ∃ l' : ℝ, quadSpline (dualX (NF.realX e)) c (uw.map ι) (uh.map ι) true (y, 1)
        = .ok ((inv e c uw uh y, Real.exp (invLd e c uw uh y)), (invLd e c uw uh y, l')) ∧
      HasDerivAt (inv e c uw uh) (Real.exp (invLd e c uw uh y)) y ∧ HasDerivAt (invLd e c uw uh) l' y :=
  (quadSpline_dualRes_inv hv k hk y h0 h1).headline (fun _ => valOf_eq_outY _) (fun _ => ldOf_eq_outL _)
    (inv_hasDerivAt_y hv hbl k hk y h0 h1)

/-- **… tails shape** (`uh` has `K-1` entries, `K ≥ 2`: the padding constant is computed by list operations on zero-tangent
    lists and enters both ends of the heights with zero tangent) -/
theorem quadSpline_dual_inv_T (hv : QuadValidT e c uw uh)
    (hbl : e (boxLog c.box) = Real.log ((e c.box.top - e c.box.bottom) / (e c.box.right - e c.box.left)))
    (k : ℕ) (hk : k < uw.length) (y : ℝ)
    (h0 : yk e c (Wq e c uw) (Ut e c uw uh) k < y) (h1 : y < yk e c (Wq e c uw) (Ut e c uw uh) (k+1)) :
    ∃ l' : ℝ, quadSpline (dualX (NF.realX e)) c (uw.map ι) (uh.map ι) true (y, 1)
        = .ok ((inv e c uw uh y, Real.exp (invLd e c uw uh y)), (invLd e c uw uh y, l')) ∧
      HasDerivAt (inv e c uw uh) (Real.exp (invLd e c uw uh y)) y ∧ HasDerivAt (invLd e c uw uh) l' y :=
  (quadSpline_dualRes_inv_T hv k hk y h0 h1).headline (fun _ => valOf_eq_outY _) (fun _ => ldOf_eq_outL _)
    (inv_hasDerivAt_y_T hv hbl k hk y h0 h1)

/-! ### non-vacuity on the concrete accepted configurations of `Lemmas/QuadWhole.lean` -/


theorem yk_example : yk eNV cNV (Wq eNV cNV [0]) (Uq eNV [0, 0]) 0 = 0 ∧
    yk eNV cNV (Wq eNV cNV [0]) (Uq eNV [0, 0]) (0+1) = 1 := by
  have hc := core_of_valid valid_example
  have h0 := bl_zero hc
  have h1 := bl_last hc
  rw [Wq_length] at h1
  simp only [List.length_singleton] at h1
  have hb : eNV cNV.box.bottom = 0 := by simp [eNV, cNV, FloatFacts.zero_beq_zero]
  have ht : eNV cNV.box.top = 1 := by simp [eNV, cNV, FloatFacts.one_beq_zero]
  unfold yk
  rw [h0, show (0:ℕ) + 1 = 1 from rfl, h1, hb, ht]
  constructor <;> ring

/-- bounded shape, one bin on the unit box (`QuadWhole.valid_example`): every `y ∈ (0,1)` -/
theorem quadSpline_dual_inv_example (y : ℝ) (h0 : 0 < y) (h1 : y < 1) :
    DualRes (fun s => quadSpline (NF.realX eNV) cNV [0] [0, 0] true s) y
      (quadSpline (dualX (NF.realX eNV)) cNV [ι 0] [ι 0, ι 0] true (y, 1)) := by
  obtain ⟨hy0, hy1⟩ := yk_example
  exact quadSpline_dualRes_inv valid_example 0 (by simp) y (by rw [hy0]; exact h0) (by rw [hy1]; exact h1)

/-- … and the headline form, given that the (kernel-opaque) `Float.log (1.0/1.0)` is `0.0` -/
theorem quadSpline_dual_inv_example' (hlog : (boxLog cNV.box == 0.0) = true) (y : ℝ) (h0 : 0 < y) (h1 : y < 1) :
    ∃ l' : ℝ, quadSpline (dualX (NF.realX eNV)) cNV [ι 0] [ι 0, ι 0] true (y, 1)
        = .ok ((inv eNV cNV [0] [0, 0] y, Real.exp (invLd eNV cNV [0] [0, 0] y)), (invLd eNV cNV [0] [0, 0] y, l')) ∧
      HasDerivAt (inv eNV cNV [0] [0, 0]) (Real.exp (invLd eNV cNV [0] [0, 0] y)) y := by
  obtain ⟨hy0, hy1⟩ := yk_example
  obtain ⟨l', h, hd, -⟩ := quadSpline_dual_inv valid_example (boxLog_example hlog) 0 (by simp) y
    (by rw [hy0]; exact h0) (by rw [hy1]; exact h1)
  exact ⟨l', h, hd⟩

/-- tails shape, two bins (`QuadWhole.valid_example_T`): every `y` strictly inside either cdf-bin, and such `y` exist -/
theorem quadSpline_dual_inv_example_T :
    (∀ k < 2, ∀ y : ℝ, yk eT cNV (Wq eT cNV [0, 0]) (Ut eT cNV [0, 0] [0]) k < y →
        y < yk eT cNV (Wq eT cNV [0, 0]) (Ut eT cNV [0, 0] [0]) (k+1) →
      DualRes (fun s => quadSpline (NF.realX eT) cNV [0, 0] [0] true s) y
        (quadSpline (dualX (NF.realX eT)) cNV [ι 0, ι 0] [ι 0] true (y, 1))) ∧
    ∀ k < 2, yk eT cNV (Wq eT cNV [0, 0]) (Ut eT cNV [0, 0] [0]) k
      < yk eT cNV (Wq eT cNV [0, 0]) (Ut eT cNV [0, 0] [0]) (k+1) := by
  have hv := valid_example_T
  refine ⟨fun k hk y h0 h1 => quadSpline_dualRes_inv_T hv k hk y h0 h1, fun k hk => ?_⟩
  exact affine_lt hv.hbox.hbt (bl_strict (core_of_validT hv) k (by rw [Wq_length]; exact hk))

end

end DualXQuadInv
