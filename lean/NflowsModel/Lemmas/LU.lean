import Mathlib.LinearAlgebra.Matrix.Block
import Mathlib.LinearAlgebra.Matrix.NonsingularInverse
import Mathlib.Analysis.SpecialFunctions.Log.Basic
import Mathlib.Tactic

/-!
# Lemmas/LU — the matrices `L` (unit lower triangular) and `U` (upper triangular, given diagonal) of `LULinear`, as Mathlib
matrices: triangularity, determinants, `logabsdet() = Σ log diag = log |det (L U)|` for a positive diagonal.
-/

namespace LU

open Matrix Finset
variable {n : ℕ}

/-- `_create_lower_upper` (lu.py:44-54): strictly-lower entries free, unit diagonal; strictly-upper free, positive diagonal -/
def mkLower (lo : Fin n → Fin n → ℝ) : Matrix (Fin n) (Fin n) ℝ :=
  fun i j => if j < i then lo i j else if i = j then 1 else 0
def mkUpper (up : Fin n → Fin n → ℝ) (d : Fin n → ℝ) : Matrix (Fin n) (Fin n) ℝ :=
  fun i j => if i < j then up i j else if i = j then d i else 0

theorem mkLower_diag (lo : Fin n → Fin n → ℝ) (i : Fin n) : mkLower lo i i = 1 := by
  rw [mkLower, if_neg (lt_irrefl i), if_pos rfl]
theorem mkUpper_diag (up : Fin n → Fin n → ℝ) (d : Fin n → ℝ) (i : Fin n) : mkUpper up d i i = d i := by
  rw [mkUpper, if_neg (lt_irrefl i), if_pos rfl]

theorem mkLower_lower (lo : Fin n → Fin n → ℝ) : (mkLower lo).IsLowerTriangular := by
  intro i j hij
  have h : i < j := hij
  rw [mkLower, if_neg (not_lt.mpr h.le), if_neg h.ne]
theorem mkUpper_upper (up : Fin n → Fin n → ℝ) (d : Fin n → ℝ) : (mkUpper up d).IsUpperTriangular := by
  intro i j hij
  have h : j < i := hij
  rw [mkUpper, if_neg (not_lt.mpr h.le), if_neg h.ne']

theorem mkLower_det (lo : Fin n → Fin n → ℝ) : (mkLower lo).det = 1 := by
  rw [det_of_isLowerTriangular _ (mkLower_lower lo)]
  exact Finset.prod_eq_one fun i _ => mkLower_diag lo i
theorem mkUpper_det (up : Fin n → Fin n → ℝ) (d : Fin n → ℝ) : (mkUpper up d).det = ∏ i, d i := by
  rw [det_of_isUpperTriangular (mkUpper_upper up d)]
  exact Finset.prod_congr rfl fun i _ => mkUpper_diag up d i

theorem lu_det (lo up : Fin n → Fin n → ℝ) (d : Fin n → ℝ) :
    (mkLower lo * mkUpper up d).det = ∏ i, d i := by
  rw [det_mul, mkLower_det, mkUpper_det, one_mul]

theorem sum_log_eq_log_abs_prod {ι : Type} [Fintype ι] (d : ι → ℝ) (hd : ∀ i, 0 < d i) :
    ∑ i, Real.log (d i) = Real.log |∏ i, d i| := by
  rw [abs_of_pos (Finset.prod_pos fun i _ => hd i), Real.log_prod fun i _ => (hd i).ne']

/-- `logabsdet()` = Σ log(upper_diag) is log|det W| (lu.py:123-129) -/
theorem lu_logabsdet (lo up : Fin n → Fin n → ℝ) (d : Fin n → ℝ) (hd : ∀ i, 0 < d i) :
    ∑ i, Real.log (d i) = Real.log |(mkLower lo * mkUpper up d).det| := by
  rw [lu_det, sum_log_eq_log_abs_prod d hd]

/-- `F.linear(F.linear(x, U), L, b)` is x ↦ (L U) x + b -/
theorem lu_forward (L U : Matrix (Fin n) (Fin n) ℝ) (b x : Fin n → ℝ) :
    L.mulVec (U.mulVec x) + b = (L * U).mulVec x + b := by
  rw [Matrix.mulVec_mulVec]

/-- W is invertible, so `weight_inverse()` (two triangular solves) is the unique inverse -/
theorem lu_isUnit (lo up : Fin n → Fin n → ℝ) (d : Fin n → ℝ) (hd : ∀ i, 0 < d i) :
    IsUnit (mkLower lo * mkUpper up d).det := by
  rw [lu_det]; exact isUnit_iff_ne_zero.mpr (Finset.prod_pos (fun i _ => hd i)).ne'

end LU
