import NflowsModel.Lemmas.DualXSpline
import NflowsModel.Lemmas.DualList
import NflowsModel.Lemmas.RQWhole
/-!
# Lemmas/DualXParam — lists of dual numbers along a curve of parameters, and the knot pipeline of the RQ spline on them (C16)

`IsDualL F t ds`: the dual list `ds` is, entry by entry, (value, derivative) at `t` of the curve of real lists `F`.
The knot pipeline of `Core/Spline.lean` (softmax with its branching max-shift, floor, cumsum, pinned ends, differences,
softplus derivatives) maps `IsDualL` inputs to `IsDualL` outputs of the SAME program at `NF.realX e`; the softmax is sound
at every point, ties of the maximum included, because the tangent of the max-shift cancels.  The control flow of the dual run
sees only value components, so it gathers the bin of the real run, and the gathered dual knots are the (value, derivative)
pairs of the real bin environment along the curve — for the forward and the inverse direction alike.

`IsDualL`, its list operations, the softmax and the `cumsumG` / `setFirst` / `setLast` / `diffsG` lemmas are shared with the quadratic
and linear spline files; from `dKW` on the file is about the RQ spline only.
-/
open NF DualSound DualX Filter Topology

namespace DualXParam
noncomputable section

variable (e : Float → ℝ)


/-- list-level duality: same length at every curve parameter, entry `k` of `ds` is (value, derivative) of entry `k` of `F`
    (the bound on `k` is immaterial, both sides read the default beyond the end: `IsDualL.getD_any`) -/
def IsDualL (F : ℝ → List ℝ) (t : ℝ) (ds : List (ℝ × ℝ)) : Prop :=
  (∀ s, (F s).length = ds.length) ∧ ∀ k, k < ds.length → IsDual (fun s => (F s).getD k 0) t (ds.getD k 0)

variable {e}
variable {F G : ℝ → List ℝ} {f g : ℝ → ℝ} {t : ℝ} {d : ℝ × ℝ} {ds es : List (ℝ × ℝ)}

theorem IsDualL.length (h : IsDualL F t ds) (s : ℝ) : (F s).length = ds.length := h.1 s

theorem IsDualL.nil (t : ℝ) : IsDualL (fun _ => []) t [] :=
  ⟨fun _ => rfl, fun _ hk => absurd hk (Nat.not_lt_zero _)⟩

theorem IsDualL.cons (hf : IsDual f t d) (hG : IsDualL G t ds) : IsDualL (fun s => f s :: G s) t (d :: ds) :=
  ⟨fun s => congrArg Nat.succ (hG.1 s), fun k hk => by
    cases k with
    | zero => exact hf
    | succ k => exact hG.2 k (Nat.lt_of_succ_lt_succ hk)⟩

theorem IsDualL.congr_fun (h : IsDualL F t ds) (hFG : ∀ s, F s = G s) : IsDualL G t ds := by
  have : F = G := funext hFG
  subst this; exact h

theorem IsDualL.eq_nil (h : IsDualL F t []) : F = fun _ => [] := by
  funext s; exact List.length_eq_zero_iff.mp (h.1 s)

theorem IsDualL.uncons (h : IsDualL F t (d :: ds)) :
    ∃ f G, F = (fun s => f s :: G s) ∧ IsDual f t d ∧ IsDualL G t ds := by
  refine ⟨fun s => (F s).getD 0 0, fun s => (F s).tail, ?_, h.2 0 (Nat.succ_pos _), ?_⟩
  · funext s
    have := h.1 s
    cases hF : F s with
    | nil => rw [hF] at this; exact absurd this (Nat.succ_ne_zero _).symm
    | cons a r => show a :: r = (F s).getD 0 0 :: (F s).tail; rw [hF]; rfl
  · refine ⟨fun s => by rw [List.length_tail, h.1 s]; rfl, fun k hk => ?_⟩
    refine (h.2 (k+1) (Nat.succ_lt_succ hk)).congr_fun (fun s => ?_)
    show (F s).getD (k+1) 0 = (F s).tail.getD k 0
    cases F s <;> rfl

def lineL (us dir : List ℝ) (s : ℝ) : List ℝ := List.zipWith (fun u d => u + s * d) us dir

theorem zipWith_fst : ∀ (us dir : List ℝ), us.length ≤ dir.length → List.zipWith (fun u _ => u) us dir = us
  | [], _, _ => by simp
  | u :: us, [], h => by simp at h
  | u :: us, d :: dir, h => by
    simp only [List.zipWith_cons_cons]
    rw [zipWith_fst us dir (by simpa using h)]

theorem lineL_zero (us dir : List ℝ) (h : us.length ≤ dir.length) : lineL us dir 0 = us := by
  simp only [lineL, zero_mul, add_zero]
  exact zipWith_fst us dir h

theorem lineL_length (us dir : List ℝ) (h : us.length = dir.length) (s : ℝ) : (lineL us dir s).length = us.length := by
  simp [lineL, h]

/-! ## list operations: `IsDualL` is `DualXLU.DV`, whose closure properties it reads -/

open DualXLU in
theorem IsDualL.dv : ∀ {ds : List (ℝ × ℝ)} {F : ℝ → List ℝ}, IsDualL F t ds → DV t F ds
  | [], F, h => by rw [h.eq_nil]; exact DL.nil
  | d :: ds, F, h => by
    obtain ⟨f, G, rfl, hf, hG⟩ := h.uncons
    exact DL.cons hf (IsDualL.dv hG)

theorem _root_.DualXLU.DL.isDualL (h : DualXLU.DV t F ds) : IsDualL F t ds :=
  ⟨fun s => h.length s, fun k _ => h.getD' k (f₀ := fun _ => (0:ℝ)) (d₀ := ((0:ℝ), (0:ℝ))) (IsDual.const 0 t)⟩

theorem isDualL_iff_dv : IsDualL F t ds ↔ DualXLU.DV t F ds := ⟨IsDualL.dv, DualXLU.DL.isDualL⟩

/-- **seeding**: the straight line of parameters `us + s·dir` at `s = 0` is the dual list `zip us dir` (no length hypothesis:
    both sides truncate to the shorter list) -/
theorem IsDualL.lineL (us dir : List ℝ) : IsDualL (lineL us dir) 0 (List.zip us dir) :=
  (DualXLU.lineV_dual (us.zip dir)).isDualL.congr_fun fun s => List.map_uncurry_zip_eq_zipWith (f := fun u d => u + s * d)

theorem IsDualL.map {gR : ℝ → ℝ → ℝ} {gD : ℝ × ℝ → ℝ × ℝ} (h : IsDualL F t ds)
    (hg : ∀ f d, d ∈ ds → IsDual f t d → IsDual (fun s => gR s (f s)) t (gD d)) :
    IsDualL (fun s => (F s).map (gR s)) t (ds.map gD) :=
  (h.dv.map' gR gD hg).isDualL

theorem IsDualL.append (h : IsDualL F t ds) (hG : IsDualL G t es) : IsDualL (fun s => F s ++ G s) t (ds ++ es) :=
  (h.dv.append hG.dv).isDualL

theorem IsDualL.reverse : ∀ {ds : List (ℝ × ℝ)} {F : ℝ → List ℝ}, IsDualL F t ds →
    IsDualL (fun s => (F s).reverse) t ds.reverse :=
  fun h => h.dv.reverse.isDualL

theorem IsDualL.getD_any (h : IsDualL F t ds) (k : ℕ) : IsDual (fun s => (F s).getD k 0) t (ds.getD k 0) :=
  DualXLU.DV.entry h.dv k

theorem IsDualL.getI (h : IsDualL F t ds) {k : ℕ} (hk : k < (F t).length) :
    (∀ s, NF.getI (F s) (k : Int) = .ok ((F s).getD k 0)) ∧ NF.getI ds (k : Int) = .ok (ds.getD k 0) :=
  ⟨fun s => SplineTotal.getI_ok_getD _ k (by rw [h.1 s, ← h.1 t]; exact hk) 0,
    SplineTotal.getI_ok_getD _ k (by rw [← h.1 t]; exact hk) 0⟩

theorem IsDualL.take (n : ℕ) (h : IsDualL F t ds) : IsDualL (fun s => (F s).take n) t (ds.take n) :=
  (h.dv.take n).isDualL

theorem IsDualL.drop (n : ℕ) (h : IsDualL F t ds) : IsDualL (fun s => (F s).drop n) t (ds.drop n) :=
  (h.dv.drop n).isDualL

theorem IsDualL.mapIdx {ι : Type} (its : List ι) {g : ℝ → ι → ℝ} {d : ι → ℝ × ℝ}
    (h : ∀ i ∈ its, IsDual (fun s => g s i) t (d i)) : IsDualL (fun s => its.map (g s)) t (its.map d) :=
  (DualXLU.DL.ofMap its g d h).isDualL

theorem IsDualL.const (L : List ℝ) (t : ℝ) : IsDualL (fun _ => L) t (L.map ι) :=
  (IsDualL.mapIdx L (g := fun _ x => x) fun x _ => IsDual.const x t).congr_fun fun _ => List.map_id' L

variable (e)

theorem sumG_dual (h : IsDualL F t ds) : IsDual (fun s => sumG (NF.realX e) (F s)) t (sumG (dualX (NF.realX e)) ds) :=
  DualXLU.sumG_dual h.dv

/-! ## softmax: sound at EVERY point, ties of the maximum included (shift invariance) -/

omit e in
theorem softmax_shift (xs : List ℝ) (m μ : ℝ) :
    xs.map (fun x => Real.exp (x - μ) / (xs.map (fun y => Real.exp (y - μ))).sum)
      = xs.map (fun x => Real.exp (x - m) / (xs.map (fun y => Real.exp (y - m))).sum) := by
  have hsum : (xs.map (fun y => Real.exp (y - μ))).sum = Real.exp (m - μ) * (xs.map (fun y => Real.exp (y - m))).sum := by
    rw [← List.sum_map_mul_left]
    congr 1
    apply List.map_congr_left
    intro y _
    rw [← Real.exp_add]; congr 1; ring
  apply List.map_congr_left
  intro x _
  rw [hsum, show x - μ = (m - μ) + (x - m) by ring, Real.exp_add, mul_div_mul_left _ _ (Real.exp_pos _).ne']

omit e in
theorem isDual_affine (M : ℝ × ℝ) (t : ℝ) : IsDual (fun s => M.1 + (s - t) * M.2) t M := by
  refine ⟨by simp, ?_⟩
  simpa using (((hasDerivAt_id t).sub_const t).mul_const M.2).const_add M.1

theorem softmaxG_any_shift (xs : List ℝ) (μ : ℝ) :
    (xs.map (fun x => (NF.realX e).exp ((NF.realX e).sub x μ))).map
        (fun y => (NF.realX e).div y (sumG (NF.realX e) (xs.map (fun x => (NF.realX e).exp ((NF.realX e).sub x μ)))))
      = softmaxG (NF.realX e) xs := by
  rw [SplineExec.softmaxG_eq, ← softmax_shift xs (maxG (NF.realX e) xs) μ, NF.sumG_real, List.map_map]
  rfl

/-- **softmax on dual lists is sound along any differentiable curve of logits, at every point** — the tangent of the
    (branching) max-shift cancels -/
theorem softmaxG_dualL (h : IsDualL F t ds) :
    IsDualL (fun s => softmaxG (NF.realX e) (F s)) t (softmaxG (dualX (NF.realX e)) ds) := by
  -- the affine curve carrying the dual max as (value, tangent)
  have hμ := isDual_affine (maxG (dualX (NF.realX e)) ds) t
  set M := maxG (dualX (NF.realX e)) ds with hM
  set μ : ℝ → ℝ := fun s => M.1 + (s - t) * M.2 with hμdef
  have hes : IsDualL (fun s => (F s).map (fun x => (NF.realX e).exp ((NF.realX e).sub x (μ s)))) t
      (ds.map (fun x => (dualX (NF.realX e)).exp ((dualX (NF.realX e)).sub x M))) :=
    h.map (gR := fun s x => (NF.realX e).exp ((NF.realX e).sub x (μ s))) (fun f d _ hf => IsDual.exp e (IsDual.sub e hf hμ))
  have hS := sumG_dual e hes
  have hfin := hes.map (gR := fun s y => (NF.realX e).div y
      (sumG (NF.realX e) ((F s).map (fun x => (NF.realX e).exp ((NF.realX e).sub x (μ s))))))
    (gD := fun y => (dualX (NF.realX e)).div y
      (sumG (dualX (NF.realX e)) (ds.map (fun x => (dualX (NF.realX e)).exp ((dualX (NF.realX e)).sub x M)))))
    (fun f d hd hf => IsDual.div e hf hS (by
      rw [hS.1]
      beta_reduce
      rw [NF.sumG_real]
      have hne : F t ≠ [] := by
        intro h0
        have := h.1 t
        rw [h0] at this
        have hds : ds = [] := List.length_eq_zero_iff.mp this.symm
        rw [hds] at hd; simp at hd
      exact (SplineExec.sum_exp_pos (F t) (μ t) hne).ne'))
  exact hfin.congr_fun (fun s => softmaxG_any_shift e (F s) (μ s))

theorem flooredSoftmax_dualL (m : Float) (h : IsDualL F t ds) :
    IsDualL (fun s => flooredSoftmax (NF.realX e) m (F s)) t (flooredSoftmax (dualX (NF.realX e)) m ds) := by
  have h1 := (softmaxG_dualL e h).map
    (gR := fun _ x => (NF.realX e).add ((NF.realX e).ofFloat m) ((NF.realX e).mul ((NF.realX e).ofFloat (1 - m * ds.length.toFloat)) x))
    (gD := fun x => (dualX (NF.realX e)).add ((dualX (NF.realX e)).ofFloat m)
      ((dualX (NF.realX e)).mul ((dualX (NF.realX e)).ofFloat (1 - m * ds.length.toFloat)) x))
    (fun f d _ hf => IsDual.add e (IsDual.ofFloat e m t) (IsDual.mul e (IsDual.ofFloat e _ t) hf))
  refine h1.congr_fun (fun s => ?_)
  simp only [flooredSoftmax, h.1 s]

/-! ## cumsum, pinned ends, differences -/

theorem cumsum_foldl_dual : ∀ {ds : List (ℝ × ℝ)} {F : ℝ → List ℝ} {a : ℝ → ℝ} {da : ℝ × ℝ} {A : ℝ → List ℝ} {dA : List (ℝ × ℝ)},
    IsDual a t da → IsDualL A t dA → IsDualL F t ds →
    IsDualL (fun s => ((F s).foldl (fun (st : ℝ × List ℝ) x => ((NF.realX e).add st.1 x, (NF.realX e).add st.1 x :: st.2)) (a s, A s)).2) t
      (ds.foldl (fun (st : (ℝ × ℝ) × List (ℝ × ℝ)) x => ((dualX (NF.realX e)).add st.1 x, (dualX (NF.realX e)).add st.1 x :: st.2)) (da, dA)).2
  | [], F, a, da, A, dA, ha, hA, h => by
    rw [h.eq_nil]; exact hA
  | d :: ds, F, a, da, A, dA, ha, hA, h => by
    obtain ⟨f, F', rfl, hf, hF'⟩ := h.uncons
    have ha' := IsDual.add e ha hf
    exact cumsum_foldl_dual (a := fun s => (NF.realX e).add (a s) (f s)) (da := (dualX (NF.realX e)).add da d)
      (A := fun s => (NF.realX e).add (a s) (f s) :: A s) (dA := (dualX (NF.realX e)).add da d :: dA)
      ha' (IsDualL.cons ha' hA) hF'

theorem cumsumG_dualL (h : IsDualL F t ds) :
    IsDualL (fun s => cumsumG (NF.realX e) (F s)) t (cumsumG (dualX (NF.realX e)) ds) :=
  IsDualL.reverse (cumsum_foldl_dual e (IsDual.zero e t) (IsDualL.nil t) h)

omit e in
theorem setFirst_dualL {v : ℝ → ℝ} {dv : ℝ × ℝ} (hv : IsDual v t dv) (h : IsDualL F t ds) :
    IsDualL (fun s => setFirst (F s) (v s)) t (setFirst ds dv) := by
  cases ds with
  | nil => rw [h.eq_nil]; exact IsDualL.nil t
  | cons d ds =>
    obtain ⟨f, F', rfl, _, hF'⟩ := h.uncons
    exact IsDualL.cons hv hF'

omit e in
theorem setLast_eq {α : Type} (xs : List α) (v : α) : setLast xs v = (setFirst xs.reverse v).reverse := by
  unfold setLast setFirst
  cases xs.reverse <;> rfl

omit e in
theorem setLast_dualL {v : ℝ → ℝ} {dv : ℝ × ℝ} (hv : IsDual v t dv) (h : IsDualL F t ds) :
    IsDualL (fun s => setLast (F s) (v s)) t (setLast ds dv) := by
  rw [setLast_eq]
  exact (IsDualL.reverse (setFirst_dualL hv (IsDualL.reverse h))).congr_fun (fun s => (setLast_eq _ _).symm)

theorem diffsG_dualL : ∀ {ds : List (ℝ × ℝ)} {F : ℝ → List ℝ}, IsDualL F t ds →
    IsDualL (fun s => diffsG (NF.realX e) (F s)) t (diffsG (dualX (NF.realX e)) ds)
  | [], F, h => by
    rw [h.eq_nil]; exact IsDualL.nil t
  | [d], F, h => by
    obtain ⟨f, F', rfl, _, hF'⟩ := h.uncons
    rw [hF'.eq_nil]; exact IsDualL.nil t
  | d :: d' :: ds, F, h => by
    obtain ⟨f, F', rfl, hf, hF'⟩ := h.uncons
    have ih := diffsG_dualL hF'
    obtain ⟨f', F'', rfl, hf', hF''⟩ := hF'.uncons
    exact IsDualL.cons (IsDual.sub e hf' hf) ih

theorem rqKnots_dualL (lo hi : Float) (h : IsDualL F t ds) :
    IsDualL (fun s => (rqKnots (NF.realX e) lo hi (F s)).1) t (rqKnots (dualX (NF.realX e)) lo hi ds).1 ∧
    IsDualL (fun s => (rqKnots (NF.realX e) lo hi (F s)).2) t (rqKnots (dualX (NF.realX e)) lo hi ds).2 := by
  have h0 : IsDualL (fun s => (NF.realX e).zero :: cumsumG (NF.realX e) (F s)) t
      ((dualX (NF.realX e)).zero :: cumsumG (dualX (NF.realX e)) ds) :=
    IsDualL.cons (IsDual.zero e t) (cumsumG_dualL e h)
  have h1 := h0.map
    (gR := fun _ c => (NF.realX e).add ((NF.realX e).mul ((NF.realX e).ofFloat (hi - lo)) c) ((NF.realX e).ofFloat lo))
    (gD := fun c => (dualX (NF.realX e)).add ((dualX (NF.realX e)).mul ((dualX (NF.realX e)).ofFloat (hi - lo)) c)
      ((dualX (NF.realX e)).ofFloat lo))
    (fun f d _ hf => IsDual.add e (IsDual.mul e (IsDual.ofFloat e _ t) hf) (IsDual.ofFloat e lo t))
  have h2 := setLast_dualL (IsDual.ofFloat e hi t) (setFirst_dualL (IsDual.ofFloat e lo t) h1)
  exact ⟨h2, diffsG_dualL e h2⟩

theorem knots_dualL (m lo hi : Float) (h : IsDualL F t ds) :
    IsDualL (fun s => (rqKnots (NF.realX e) lo hi (flooredSoftmax (NF.realX e) m (F s))).1) t
      (rqKnots (dualX (NF.realX e)) lo hi (flooredSoftmax (dualX (NF.realX e)) m ds)).1 ∧
    IsDualL (fun s => (rqKnots (NF.realX e) lo hi (flooredSoftmax (NF.realX e) m (F s))).2) t
      (rqKnots (dualX (NF.realX e)) lo hi (flooredSoftmax (dualX (NF.realX e)) m ds)).2 :=
  rqKnots_dualL e lo hi (flooredSoftmax_dualL e m h)

/-! ### non-vacuity: the tie case of the max-shift, concretely -/

/-- two EQUAL logits moved along an arbitrary direction `(a, b)`: the dual `maxG` picks the first entry with tangent `a`
    (the real max `s ↦ max (s a) (s b)` has a kink at `s = 0` when `a ≠ b`), yet the dual softmax returns the true
    derivatives `±(a - b)/4` of the executed real softmax entries -/
theorem softmax_tie_example (a b : ℝ) :
    softmaxG (dualX (NF.realX e)) [(0, a), (0, b)] = [(1/2, (a - b)/4), (1/2, (b - a)/4)] ∧
    HasDerivAt (fun s => (softmaxG (NF.realX e) [0 + s * a, 0 + s * b]).getD 0 0) ((a - b)/4) 0 ∧
    HasDerivAt (fun s => (softmaxG (NF.realX e) [0 + s * a, 0 + s * b]).getD 1 0) ((b - a)/4) 0 := by
  have hval : softmaxG (dualX (NF.realX e)) [(0, a), (0, b)] = [(1/2, (a - b)/4), (1/2, (b - a)/4)] := by
    simp only [softmaxG, maxG, sumG, List.foldl_cons, List.foldl_nil, List.map_cons, List.map_nil, d_lt, lt_irrefl,
      decide_false, Bool.false_eq_true, if_false, d_sub, d_exp, d_add, d_div, d_zero, sub_self, Real.exp_zero]
    -- the two value components are numerals, the two tangents need `ring` after the numerals are normalised
    refine congrArg₂ List.cons (Prod.ext ?_ ?_) (congrArg₂ List.cons (Prod.ext ?_ ?_) rfl)
    · norm_num
    · norm_num
    · norm_num
    · norm_num; ring
  have h := softmaxG_dualL e (IsDualL.lineL [0, 0] [a, b])
  rw [show List.zip [(0:ℝ), 0] [a, b] = [(0, a), (0, b)] from rfl, hval] at h
  exact ⟨hval, (h.getD_any 0).2, (h.getD_any 1).2⟩

open RQWhole in
theorem knots_dualL_example (a : ℝ) :
    IsDualL (fun s => cw eNV cNV (List.zipWith (fun u d => u + s * d) [0] [a])) 0
      (rqKnots (dualX (NF.realX eNV)) cNV.box.left cNV.box.right (flooredSoftmax (dualX (NF.realX eNV)) cNV.minW [(0, a)])).1 :=
  (knots_dualL eNV cNV.minW cNV.box.left cNV.box.right (IsDualL.lineL [0] [a])).1

/-! ## the RQ spline: control flow of the dual run, and the gathered bin environment along a curve of parameters -/

omit e in
theorem evalD_curve (f : ℕ → ℝ → ℝ) (d : ℕ → ℝ × ℝ) (t : ℝ) (hfd : ∀ i, IsDual (f i) t (d i)) (E : Expr)
    (hs : Smooth (fun i => f i t) E) : IsDual (fun s => evalR (fun i => f i s) E) t (evalD d E) :=
  DualX.evalD_curve f d t hfd E hs

omit e in
theorem IsDualL.map_fst (h : IsDualL F t ds) : ds.map Prod.fst = F t := (DualXLU.DV.val h.dv).symm

open RQWhole

variable {e}
variable {c : RQCfg} {uw uh ud : List ℝ}

theorem RQValid.transfer (hv : RQValid e c uw uh ud) {uw2 uh2 ud2 : List ℝ} (h1 : uw2.length = uw.length)
    (h2 : uh2.length = uh.length) (h3 : ud2.length = ud.length) : RQValid e c uw2 uh2 ud2 where
  hK := by intro h; rw [h] at h1; exact hv.hK (List.length_eq_zero_iff.mp h1.symm)
  hlenh := by rw [h2, h1]; exact hv.hlenh
  hlend := by rw [h3, h1]; exact hv.hlend
  hgW := by rw [h1]; exact hv.hgW
  hgH := by rw [h1]; exact hv.hgH
  hmW0 := hv.hmW0
  hcW := by rw [h1]; exact hv.hcW
  hmWK := by rw [h1]; exact hv.hmWK
  hmH0 := hv.hmH0
  hcH := by rw [h2]; exact hv.hcH
  hmHK := by rw [h2]; exact hv.hmHK
  hlr := hv.hlr
  hdlr := hv.hdlr
  hbt := hv.hbt
  hdbt := hv.hdbt
  heps := hv.heps
  hminD := hv.hminD
  hbeta := hv.hbeta

variable (e)

/-- the dual x-knots / widths, y-knots / heights, knot derivatives as the dual program computes them -/
def dKW (c : RQCfg) (dw : List (ℝ × ℝ)) : List (ℝ × ℝ) × List (ℝ × ℝ) :=
  rqKnots (dualX (NF.realX e)) c.box.left c.box.right (flooredSoftmax (dualX (NF.realX e)) c.minW dw)
def dKH (c : RQCfg) (dh : List (ℝ × ℝ)) : List (ℝ × ℝ) × List (ℝ × ℝ) :=
  rqKnots (dualX (NF.realX e)) c.box.bottom c.box.top (flooredSoftmax (dualX (NF.realX e)) c.minH dh)
def dDV (c : RQCfg) (dd : List (ℝ × ℝ)) : List (ℝ × ℝ) :=
  dd.map (fun u => (dualX (NF.realX e)).add ((dualX (NF.realX e)).ofFloat c.minD)
    ((dualX (NF.realX e)).softplusB ((dualX (NF.realX e)).ofFloat c.beta) u))

def gathered (c : RQCfg) (dw dh dd : List (ℝ × ℝ)) (i : ℕ) (dx : ℝ × ℝ) : List (ℝ × ℝ) :=
  [dx, (dKW e c dw).1.getD i 0, (dKW e c dw).2.getD i 0, (dKH e c dh).1.getD i 0, (dKH e c dh).2.getD i 0,
    (dDV e c dd).getD i 0, (dDV e c dd).getD (i+1) 0]

theorem rqKnots_fst (m lo hi : Float) (dw : List (ℝ × ℝ)) :
    (rqKnots (dualX (NF.realX e)) lo hi (flooredSoftmax (dualX (NF.realX e)) m dw)).1.map Prod.fst
      = (rqKnots (NF.realX e) lo hi (flooredSoftmax (NF.realX e) m (dw.map Prod.fst))).1 ∧
    (rqKnots (dualX (NF.realX e)) lo hi (flooredSoftmax (dualX (NF.realX e)) m dw)).2.map Prod.fst
      = diffsG (NF.realX e) (rqKnots (NF.realX e) lo hi (flooredSoftmax (NF.realX e) m (dw.map Prod.fst))).1 := by
  have h1 := (fst_hom e).rqKnots lo hi (flooredSoftmax (dualX (NF.realX e)) m dw)
  rw [(fst_hom e).flooredSoftmax] at h1
  exact ⟨congrArg Prod.fst h1, (congrArg Prod.snd h1).trans (rqKnots_snd _ _ _ _)⟩

theorem dKW_fst (c : RQCfg) (dw : List (ℝ × ℝ)) :
    (dKW e c dw).1.map Prod.fst = cw e c (dw.map Prod.fst) ∧
    (dKW e c dw).2.map Prod.fst = diffsG (NF.realX e) (cw e c (dw.map Prod.fst)) :=
  rqKnots_fst e c.minW c.box.left c.box.right dw

theorem dKH_fst (c : RQCfg) (dh : List (ℝ × ℝ)) :
    (dKH e c dh).1.map Prod.fst = ch e c (dh.map Prod.fst) ∧
    (dKH e c dh).2.map Prod.fst = diffsG (NF.realX e) (ch e c (dh.map Prod.fst)) :=
  rqKnots_fst e c.minH c.box.bottom c.box.top dh

variable {e}

theorem dK_length (dw dh dd : List (ℝ × ℝ))
    (hv : RQValid e c (dw.map Prod.fst) (dh.map Prod.fst) (dd.map Prod.fst)) :
    (dKW e c dw).1.length = dw.length + 1 ∧ (dKW e c dw).2.length = dw.length ∧
    (dKH e c dh).1.length = dw.length + 1 ∧ (dKH e c dh).2.length = dw.length ∧ (dDV e c dd).length = dw.length + 1 := by
  have hcw := (cw_facts hv).1
  have hch := (ch_facts hv).1
  have hd := hv.hlend
  rw [List.length_map] at hcw hch
  rw [List.length_map, List.length_map] at hd
  refine ⟨?_, ?_, ?_, ?_, ?_⟩
  · rw [← List.length_map (f := Prod.fst), (dKW_fst e c dw).1, hcw]
  · rw [← List.length_map (f := Prod.fst), (dKW_fst e c dw).2, SplineTotal.diffsG_length, hcw]; rfl
  · rw [← List.length_map (f := Prod.fst), (dKH_fst e c dh).1, hch]
  · rw [← List.length_map (f := Prod.fst), (dKH_fst e c dh).2, SplineTotal.diffsG_length, hch]; rfl
  · rw [dDV, List.length_map, hd]

/-- **control flow of the dual program with ARBITRARY tangents on parameters and input**: domain check, search and
    gathers see only value components, so the run selects the bin the real program selects and evaluates that bin's
    terms on the gathered dual knot entries -/
theorem rqSpline_dualG_exec (dw dh dd : List (ℝ × ℝ))
    (hv : RQValid e c (dw.map Prod.fst) (dh.map Prod.fst) (dd.map Prod.fst)) (dx : ℝ × ℝ)
    (hx0 : e c.box.left ≤ dx.1) (hx1 : dx.1 ≤ e c.box.right) :
    rqSpline (dualX (NF.realX e)) c dw dh dd false dx
      = .ok (evalX (dualX (NF.realX e)) (gathered e c dw dh dd (idx e c (dw.map Prod.fst) dx.1) dx) rqFwdE,
             evalX (dualX (NF.realX e)) (gathered e c dw dh dd (idx e c (dw.map Prod.fst) dx.1) dx) rqFwdLdE) := by
  obtain ⟨hspec, hsearch⟩ := search_spec hv
  obtain ⟨hiK, -, -⟩ := hspec dx.1 (by rw [xs_zero hv]; exact hx0) (by rw [xs_last hv]; exact hx1)
  obtain ⟨hl1, hl2, hl3, hl4, hl5⟩ := dK_length dw dh dd hv
  obtain ⟨hlo, hhi⟩ := Bool.or_eq_false_iff.mp (d_guard e _ _ dx hx0 hx1)
  have hgW := hv.hgW
  have hgH := hv.hgH
  rw [List.length_map] at hiK hgW hgH
  have hs : searchsortedG (dualX (NF.realX e)) c.eps (dKW e c dw).1 dx = ((idx e c (dw.map Prod.fst) dx.1 : ℕ) : Int) := by
    rw [(fst_hom e).searchsortedG, (dKW_fst e c dw).1]
    exact hsearch dx.1 hx0 hx1
  rw [SplineTotal.rqSpline_of_search _ c dw dh dd false dx (cw := (dKW e c dw).1) (wd := (dKW e c dw).2) (ch := (dKH e c dh).1)
    (ht := (dKH e c dh).2) (dv := dDV e c dd) rfl rfl rfl hlo hhi hgW hgH hs
    (SplineTotal.getI_ok_getD _ _ (by rw [hl1]; exact Nat.lt_succ_of_lt hiK) 0)
    (SplineTotal.getI_ok_getD _ _ (by rw [hl2]; exact hiK) 0)
    (SplineTotal.getI_ok_getD _ _ (by rw [hl3]; exact Nat.lt_succ_of_lt hiK) 0)
    (SplineTotal.getI_ok_getD _ _ (by rw [hl4]; exact hiK) 0)
    (SplineTotal.getI_ok_getD _ _ (by rw [hl5]; exact Nat.lt_succ_of_lt hiK) 0)
    (SplineTotal.getI_ok_getD _ (idx e c (dw.map Prod.fst) dx.1 + 1) (by rw [hl5]; exact Nat.succ_lt_succ hiK) 0)]
  rfl

variable (e) in
/-- knot `k` and width `k` of the dual knot pipeline are the (value, derivative) pairs of the real ones along the curve -/
theorem rqKnots_getD_isDual (m lo hi : Float) {F : ℝ → List ℝ} {ds : List (ℝ × ℝ)} (h : IsDualL F t ds) (k : ℕ)
    (hk : k + 1 < (rqKnots (NF.realX e) lo hi (flooredSoftmax (NF.realX e) m (F t))).1.length) :
    IsDual (fun s => (rqKnots (NF.realX e) lo hi (flooredSoftmax (NF.realX e) m (F s))).1.getD k 0) t
      ((rqKnots (dualX (NF.realX e)) lo hi (flooredSoftmax (dualX (NF.realX e)) m ds)).1.getD k 0) ∧
    IsDual (fun s => (rqKnots (NF.realX e) lo hi (flooredSoftmax (NF.realX e) m (F s))).1.getD (k+1) 0
        - (rqKnots (NF.realX e) lo hi (flooredSoftmax (NF.realX e) m (F s))).1.getD k 0) t
      ((rqKnots (dualX (NF.realX e)) lo hi (flooredSoftmax (dualX (NF.realX e)) m ds)).2.getD k 0) := by
  have hK := knots_dualL e m lo hi h
  refine ⟨hK.1.getD_any k, (hK.2.getD_any k).congr_fun (fun s => ?_)⟩
  -- the knot list keeps its length along the curve, and the widths are the differences of the knots
  exact SplineExec.diffsG_getD e _ k (hk.trans_eq ((hK.1.1 t).trans (hK.1.1 s).symm))

variable (e) in
theorem dv_dualL {FD : ℝ → List ℝ} {dD : List (ℝ × ℝ)} (hD : IsDualL FD t dD) (hb : 0 < e c.beta)
    (hthr : ∀ k < (FD t).length, e c.beta * (FD t).getD k 0 ≠ 20) :
    IsDualL (fun s => dv e c (FD s)) t (dDV e c dD) :=
  hD.map (gR := fun _ u => (NF.realX e).add ((NF.realX e).ofFloat c.minD) ((NF.realX e).softplusB ((NF.realX e).ofFloat c.beta) u))
    (fun f d hd hf => IsDual.add e (IsDual.ofFloat e c.minD t)
      (IsDual.softplusB e (IsDual.ofFloat e c.beta t) hf (by
          obtain ⟨k, hk, rfl⟩ := List.mem_iff_getElem.mp hd
          have h : e c.beta * (dD.getD k 0).1 ≠ 20 := by rw [(hD.getD_any k).1]; exact hthr k (by rw [hD.1 t]; exact hk)
          rw [List.getD_eq_getElem?_getD, List.getElem?_eq_getElem hk] at h
          rw [d_ofFloat]; exact h)
        (fun _ => by rw [d_ofFloat]; exact hb.ne')))

theorem dv_dualL_length {FD : ℝ → List ℝ} {dD : List (ℝ × ℝ)} (hDV : IsDualL (fun s => dv e c (FD s)) t (dDV e c dD))
    (s : ℝ) : (FD s).length = dD.length := by
  have h : (dv e c (FD s)).length = (dDV e c dD).length := hDV.1 s
  unfold dv dDV at h
  rwa [List.length_map, List.length_map] at h

variable (e) in
/-- **the knot pipeline on dual lists (softmax → floor → cumsum → fixed ends → differences), for both directions of the
    spline**: along a differentiable curve of parameters the gathered dual environment of bin `k` is the dual list of the
    real bin environment — whatever dual curve sits in slot 0.  The knot derivatives enter as a dual list of their own
    (`hDV`): they pass the softplus kink, by `dv_dualL` off the threshold or with zero tangent by `DualX.dv_lift`. -/
theorem gathered_dualL {FW FH FD : ℝ → List ℝ} {dW dH dD : List (ℝ × ℝ)}
    (hW : IsDualL FW t dW) (hH : IsDualL FH t dH) (hDV : IsDualL (fun s => dv e c (FD s)) t (dDV e c dD))
    (hv : RQValid e c (FW t) (FH t) (FD t)) (k : ℕ) (hk : k < (FW t).length) {g : ℝ → ℝ} {z : ℝ × ℝ} (hz : IsDual g t z) :
    IsDualL (fun s => [g s, xs e c (FW s) k, xs e c (FW s) (k+1) - xs e c (FW s) k, ys e c (FH s) k,
      ys e c (FH s) (k+1) - ys e c (FH s) k, RQWhole.ds e c (FD s) k, RQWhole.ds e c (FD s) (k+1)]) t
      (gathered e c dW dH dD k z) := by
  have hKW := rqKnots_getD_isDual e c.minW c.box.left c.box.right hW k
    ((Nat.succ_lt_succ hk).trans_eq (cw_facts hv).1.symm)
  have hKH := rqKnots_getD_isDual e c.minH c.box.bottom c.box.top hH k
    ((Nat.succ_lt_succ hk).trans_eq (ch_facts hv).1.symm)
  exact IsDualL.cons hz (IsDualL.cons hKW.1 (IsDualL.cons hKW.2 (IsDualL.cons hKH.1 (IsDualL.cons hKH.2
    (IsDualL.cons (hDV.getD_any k) (IsDualL.cons (hDV.getD_any (k + 1)) (IsDualL.nil t)))))))

variable (e) in
/-- … entry by entry, the form `DualX.evalD_curve` takes -/
theorem gathered_isDual {FW FH FD : ℝ → List ℝ} {dW dH dD : List (ℝ × ℝ)}
    (hW : IsDualL FW t dW) (hH : IsDualL FH t dH) (hDV : IsDualL (fun s => dv e c (FD s)) t (dDV e c dD))
    (hv : RQValid e c (FW t) (FH t) (FD t)) (k : ℕ) (hk : k < (FW t).length) {g : ℝ → ℝ} {z : ℝ × ℝ} (hz : IsDual g t z)
    (i : ℕ) :
    IsDual (fun s => env e c (FW s) (FH s) (FD s) k (g s) i) t (envOf (gathered e c dW dH dD k z) (0, 0) i) :=
  (gathered_dualL e hW hH hDV hv k hk hz).getD_any i

end
end DualXParam
