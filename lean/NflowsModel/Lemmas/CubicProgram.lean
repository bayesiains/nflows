import NflowsModel.Lemmas.SplineTotal
/-!
# Lemmas/CubicProgram — `cubicSpline` in one normal form, for every scalar semantics and both directions

After the guards, the two end slopes and the knot derivatives, the program searches a knot list at the normalised input,
gathers seven entries at the returned index and evaluates its direction's closed form on them.  The directions differ in the
box side tested, the list searched and the closed form (`normIn`, `core`); the scalar type enters nowhere.  So the real run,
the zero-tangent dual run and a run at arbitrary dual parameters are all read off `cubicSpline_eq` and `gather_eq`.
-/
open NF

/-! ### the lists of the program, named, generic in the scalar operations (each is literally a sub-term of `cubicSpline`) -/
namespace DualXCubic
section gen
variable {α : Type} (o : XOps α) (c : CCfg)

def Wg (uw : List α) : List α := flooredSoftmax o c.minW uw
def Hg (uh : List α) : List α := flooredSoftmax o c.minH uh
def cumwG (uw : List α) : List α := o.zero :: setLast (cumsumG o (Wg o c uw)) o.one
def cumhG (uh : List α) : List α := o.zero :: setLast (cumsumG o (Hg o c uh)) o.one
def slopesG (uw uh : List α) : List α := List.zipWith o.div (Hg o c uh) (Wg o c uw)
def msG (uw uh : List α) : List α :=
  List.zipWith o.minA (minPair o (fun a b => o.minA (o.abs a) (o.abs b)) (slopesG o c uw uh))
    (cubicSpline.ms2f o (Wg o c uw) (slopesG o c uw uh))
def sgnG (uw uh : List α) : List α := minPair o (fun a b => o.add (o.sign a) (o.sign b)) (slopesG o c uw uh)
def derivsOfG (uw uh : List α) (udl udr s0 sl : α) : List α :=
  o.mul (o.mul (o.sigmoid udl) (o.ofNat 3)) s0 ::
    (List.zipWith o.mul (msG o c uw uh) (sgnG o c uw uh) ++ [o.mul (o.mul (o.sigmoid udr) (o.ofNat 3)) sl])
def aEl (l r s w : α) : α := o.div (o.sub (o.add l r) (o.mul o.two s)) (o.mul w w)
def bEl (l r s w : α) : α := o.div (o.sub (o.sub (o.mul (o.ofNat 3) s) (o.mul o.two l)) r) w
def aLofG (K : ℕ) (uw uh dv : List α) : List α :=
  (List.range K).map (fun k => aEl o ((dv.take K).getD k o.zero) ((dv.drop 1).getD k o.zero)
    ((slopesG o c uw uh).getD k o.zero) ((Wg o c uw).getD k o.one))
def bLofG (K : ℕ) (uw uh dv : List α) : List α :=
  (List.range K).map (fun k => bEl o ((dv.take K).getD k o.zero) ((dv.drop 1).getD k o.zero)
    ((slopesG o c uw uh).getD k o.zero) ((Wg o c uw).getD k o.one))
def xnG (x : α) : α := o.div (o.sub x (o.ofFloat c.box.left)) (o.ofFloat (c.box.right - c.box.left))
def ynG (y : α) : α := o.div (o.sub y (o.ofFloat c.box.bottom)) (o.ofFloat (c.box.top - c.box.bottom))

/-- the forward program after the knot derivatives: search, seven gathers, closed form, clamp, rescaling -/
def tailProgG (K : ℕ) (uw uh dv : List α) (t : α) : Except Err (α × α × List α) := do
  let idx := searchsortedG o c.seps (cumwG o c uw) t
  let ia ← getI (aLofG o c K uw uh dv) idx
  let ib ← getI (bLofG o c K uw uh dv) idx
  let ic ← getI (dv.take K) idx
  let id ← getI (cumhG o c uh) idx
  let lcw ← getI (cumwG o c uw) idx
  let _rcw ← getI (cumwG o c uw) (idx + 1)
  let _ih ← getI (Hg o c uh) idx
  let env := [t, lcw, ia, ib, ic, id]
  let out := o.clamp o.zero o.one (evalX o env cubicFwdE)
  let ld := o.log (evalX o env cubicDerivE)
  return (o.add (o.mul out (o.ofFloat (c.box.top - c.box.bottom))) (o.ofFloat c.box.bottom),
    o.add ld (o.ofFloat (boxLog c.box)), [])

end gen
end DualXCubic

/-! ### the pieces of the inverse direction, generic in the scalar type (verbatim sub-terms of `cubicSpline … true`) -/
namespace CubicInverseWhole
section generic
variable {α : Type} (o : XOps α)

/-- the three candidate roots of the trigonometric branch (positions, i.e. left knot added) -/
/- The inverse program in pieces: `trigRoots cardano` the three-root and one-root formulas, `pick` the selection of the
   candidate in the bin, `out0` their combination, `quadRoot fallback out1` the almost-quadratic branch, `inBin sc` the
   clamp into the bin and the rescaling, `invCore` all of it. -/
def trigRoots (b_ dep1 dep2 disc lcw : α) : List α :=
  let theta := o.div (o.atan2 (o.sqrt disc) (o.neg dep1)) (o.ofFloat 3.0)
  let c1 := o.cos theta
  let c2 := o.sin theta
  let h3 := o.ofFloat (0.5 * Float.sqrt 3.0)
  let r1 := c1
  let r2 := o.sub (o.mul (o.ofFloat (-0.5)) c1) (o.mul h3 c2)
  let r3 := o.add (o.mul (o.ofFloat (-0.5)) c1) (o.mul h3 c2)
  let scale := o.mul o.two (o.sqrt (o.neg dep2))
  let shift := o.add (o.neg b_) lcw
  [r1, r2, r3].map (fun r => o.add (o.mul r scale) shift)

/-- the selection among the candidates: smallest distance to the bin `[lcw, rcw]`; ties are the alternatives -/
def pick (lcw rcw : α) (rs : List α) : α × List α :=
  let relu := fun (t : α) => if o.lt o.zero t then t else o.zero
  let ds := rs.map (fun r => o.add (relu (o.sub lcw r)) (relu (o.sub r rcw)))
  let dmin := ds.foldl (fun m d => if o.lt d m then d else m) (ds.getD 0 o.zero)
  let good := (rs.zip ds).filter (fun rd => !(o.lt dmin rd.2)) |>.map (·.1)
  match good with
  | [] => (rs.getD 0 o.zero, rs)
  | g :: _ => (g, good)

def cardano (b_ dep1 disc lcw : α) : α :=
  let sq := o.sqrt (o.neg disc)
  let p := cbrtG o (o.div (o.add (o.neg dep1) sq) o.two)
  let q := cbrtG o (o.div (o.sub (o.neg dep1) sq) o.two)
  o.add (o.sub (o.add p q) b_) lcw

/-- root of the cubic `ia s³ + ib s² + ic s + (id − x')` (position `s + lcw`) before the fallback, with the alternatives -/
def out0 (ia ib ic id lcw rcw x' : α) : α × List α :=
  let b_ := o.div (o.div ib ia) (o.ofFloat 3.0)
  let c_ := o.div (o.div ic ia) (o.ofFloat 3.0)
  let d_ := o.div (o.sub id x') ia
  let delta1 := o.add (o.neg (o.mul b_ b_)) c_
  let delta2 := o.add (o.neg (o.mul c_ b_)) d_
  let delta3 := o.sub (o.mul b_ d_) (o.mul c_ c_)
  let disc := o.sub (o.mul (o.mul (o.ofFloat 4.0) delta1) delta3) (o.mul delta2 delta2)
  let dep1 := o.add (o.mul (o.mul (o.ofFloat (-2.0)) b_) delta1) delta2
  let dep2 := delta1
  if o.ge disc o.zero then pick o lcw rcw (trigRoots o b_ dep1 dep2 disc lcw)
  else if o.lt disc o.zero then (cardano o b_ dep1 disc lcw, [])
  else (o.zero, [])

def fallback (c : CCfg) (ia lcw rcw ih : α) : Bool :=
  o.lt (o.mul (o.abs ia) (let bw := o.sub rcw lcw; o.mul (o.mul bw bw) bw)) (o.mul (o.ofFloat c.thr) ih)

def quadRoot (ib ic id lcw x' : α) : α :=
  let a := ib; let b := ic; let cc := o.sub id x'
  let rad := o.maxA (o.sub (o.mul b b) (o.mul (o.mul (o.ofFloat 4.0) a) cc)) o.zero
  let al := o.div (o.mul o.two cc) (o.sub (o.neg b) (o.sqrt rad))
  o.add al lcw

def out1 (c : CCfg) (ia ib ic id lcw rcw ih x' : α) : α × List α :=
  if fallback o c ia lcw rcw ih then (quadRoot o ib ic id lcw x', []) else out0 o ia ib ic id lcw rcw x'

def inBin (lcw rcw t : α) : α := o.minA (o.maxA t lcw) rcw
def sc (c : CCfg) (t : α) : α :=
  o.add (o.mul (o.clamp o.zero o.one t) (o.ofFloat (c.box.right - c.box.left))) (o.ofFloat c.box.left)

def invCore (c : CCfg) (ia ib ic id lcw rcw ih x' : α) : α × α × List α :=
  let p := out1 o c ia ib ic id lcw rcw ih x'
  let r := inBin o lcw rcw p.1
  let sh := o.sub r lcw
  let ld := o.neg (o.log (o.add (o.add (o.mul (o.mul (o.ofNat 3) ia) (o.mul sh sh)) (o.mul (o.mul o.two ib) sh)) ic))
  (sc o c r, o.sub ld (o.ofFloat (boxLog c.box)), (p.2.map (inBin o lcw rcw)).map (sc o c))

end generic
end CubicInverseWhole

namespace CubicProgram
open DualXCubic CubicInverseWhole
variable {α : Type} (o : XOps α) (c : CCfg)

def normIn (d : Bool) (x : α) : α := if d then ynG o c x else xnG o c x

/-- what direction `d` returns from the seven gathered entries of the searched bin and the normalised input: forward the
    clamped, rescaled value polynomial and `log` of the derivative polynomial `+ boxLog`; inverse `invCore` -/
def core (d : Bool) (ia ib ic id lcw rcw ih t : α) : α × α × List α :=
  if d then invCore o c ia ib ic id lcw rcw ih t
  else
    (o.add (o.mul (o.clamp o.zero o.one (evalX o [t, lcw, ia, ib, ic, id] cubicFwdE)) (o.ofFloat (c.box.top - c.box.bottom)))
        (o.ofFloat c.box.bottom),
      o.add (o.log (evalX o [t, lcw, ia, ib, ic, id] cubicDerivE)) (o.ofFloat (boxLog c.box)), [])

def gather {β : Type} (K : ℕ) (uw uh dv : List α) (idx : Int) (k : α → α → α → α → α → α → α → Except Err β) :
    Except Err β := do
  let ia ← getI (aLofG o c K uw uh dv) idx
  let ib ← getI (bLofG o c K uw uh dv) idx
  let ic ← getI (dv.take K) idx
  let id ← getI (cumhG o c uh) idx
  let lcw ← getI (cumwG o c uw) idx
  let rcw ← getI (cumwG o c uw) (idx + 1)
  let ih ← getI (Hg o c uh) idx
  k ia ib ic id lcw rcw ih

/-- **the executed program IS this normal form** — every scalar semantics, both directions (definitional unfolding) -/
theorem cubicSpline_eq (uw uh : List α) (udl udr x : α) (d : Bool) :
    cubicSpline o c uw uh udl udr d x =
      (if o.lt x (o.ofFloat (if d then c.box.bottom else c.box.left))
          || o.lt (o.ofFloat (if d then c.box.top else c.box.right)) x then throw .outsideDomain
       else if c.minW * uw.length.toFloat > 1.0 then throw .valueError
       else if c.minH * uw.length.toFloat > 1.0 then throw .valueError
       else do
        let s0 ← getI (slopesG o c uw uh) 0
        let sl ← getI (slopesG o c uw uh) (Int.ofNat uw.length - 1)
        gather o c uw.length uw uh (derivsOfG o c uw uh udl udr s0 sl)
          (searchsortedG o c.seps (if d then cumhG o c uh else cumwG o c uw) (normIn o c d x))
          (fun ia ib ic id lcw rcw ih => pure (core o c d ia ib ic id lcw rcw ih (normIn o c d x)))) := by
  cases d <;> rfl

theorem gather_eq {β : Type} (K : ℕ) (uw uh dv : List α) (i : ℕ) (d0 : α) (hi : i < K)
    (hdv : i < (dv.take K).length) (hch : i < (cumhG o c uh).length) (hcw : i + 1 < (cumwG o c uw).length)
    (hH : i < (Hg o c uh).length) (k : α → α → α → α → α → α → α → Except Err β) :
    gather o c K uw uh dv (i : Int) k
      = k ((aLofG o c K uw uh dv).getD i d0) ((bLofG o c K uw uh dv).getD i d0) ((dv.take K).getD i d0)
          ((cumhG o c uh).getD i d0) ((cumwG o c uw).getD i d0) ((cumwG o c uw).getD (i+1) d0) ((Hg o c uh).getD i d0) := by
  have haL : i < (aLofG o c K uw uh dv).length := by rw [aLofG, List.length_map, List.length_range]; exact hi
  have hbL : i < (bLofG o c K uw uh dv).length := by rw [bLofG, List.length_map, List.length_range]; exact hi
  unfold gather
  rw [SplineTotal.getI_ok_getD _ i haL d0, SplineTotal.getI_ok_getD _ i hbL d0, SplineTotal.getI_ok_getD _ i hdv d0,
    SplineTotal.getI_ok_getD _ i hch d0, SplineTotal.getI_ok_getD _ i (Nat.lt_of_succ_lt hcw) d0, ← Int.natCast_succ,
    SplineTotal.getI_ok_getD _ (i+1) hcw d0, SplineTotal.getI_ok_getD _ i hH d0]
  rfl

end CubicProgram
