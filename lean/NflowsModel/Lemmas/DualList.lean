import NflowsModel.Lemmas.DualX
/-!
# Lemmas/DualList — curves of lists against lists of dual data (C16)

`DL rel F ds`: the `s`-dependent list `F s` is the list of values at `s` of a list of curves, each related by `rel` to the matching
entry of `ds`.  It is generic in the relation (`DV`: vectors of dual numbers, `DM`: matrices, `DA`: flat arrays, and the outcome
relations of the executed layers) and closed under `map` / `zipWith` / `foldl` / `getD` / tabulation / `append` / `take` / `drop` /
`reverse` / `flatMap` without length side conditions, so a list program is followed combinator by combinator.  `Ev l rel` is `rel` up to
changing the curve off a set of the filter `l`; a list is finite, so `DL` commutes with `Ev` (`DL.ev`): a pass whose elements are sound
only `l`-eventually reduces to a pass whose elements are sound at every `s`.  Straight lines `primal + s · tangent` (`line`, `lineV`,
`lineM`, `lineA`) are the curves the headlines read the relations along.
-/
open NF DualSound DualX Filter Topology

namespace DualXLU
noncomputable section

/-! ## the relation and its closure properties -/

section generic
variable {A B A₂ B₂ A' B' C C' ι : Type}

/-- the `s`-dependent list `F s` is the list of values at `s` of a list of curves, each related to the matching entry of `ds`.
    With `rel f d := IsDual f t d` (`DV` below) this is the notion `DualXParam.IsDualL F t ds` (same length at every `s`,
    entry `k` of `ds` dual to `s ↦ (F s).getD k 0`) in existential form (`DualXParam.isDualL_iff_dv`): it is generic in the relation
    (vectors, matrices, parameter records) and closed under `map` / `zipWith` / `foldl` without length side conditions. -/
def DL (rel : (ℝ → A) → B → Prop) (F : ℝ → List A) (ds : List B) : Prop :=
  ∃ fs : List (ℝ → A), (∀ s, F s = fs.map (fun f => f s)) ∧ List.Forall₂ rel fs ds

theorem forall₂_imp_mem {α β : Type} {R S : α → β → Prop} {l₁ : List α} {l₂ : List β} (h : List.Forall₂ R l₁ l₂)
    (hRS : ∀ a b, b ∈ l₂ → R a b → S a b) : List.Forall₂ S l₁ l₂ := by
  induction h with
  | nil => exact .nil
  | cons hab _ ih =>
    exact .cons (hRS _ _ List.mem_cons_self hab) (ih fun a b hb => hRS a b (List.mem_cons_of_mem _ hb))

theorem forall₂_mem_right {β γ : Type} {R : β → γ → Prop} {l₁ : List β} {l₂ : List γ} (h : List.Forall₂ R l₁ l₂) {b : γ}
    (hb : b ∈ l₂) : ∃ a, R a b := by
  induction h with
  | nil => cases hb
  | cons hab _ ih =>
    rcases List.mem_cons.1 hb with rfl | hb'
    · exact ⟨_, hab⟩
    · exact ih hb'

theorem forall₂_mem_left {β γ : Type} {R : β → γ → Prop} {l₁ : List β} {l₂ : List γ} (h : List.Forall₂ R l₁ l₂) {a : β}
    (ha : a ∈ l₁) : ∃ b, R a b := by
  induction h with
  | nil => cases ha
  | cons hab _ ih =>
    rcases List.mem_cons.1 ha with rfl | ha'
    · exact ⟨_, hab⟩
    · exact ih ha'

theorem forall₂_set {β γ : Type} {R : β → γ → Prop} {l₁ : List β} {l₂ : List γ} (h : List.Forall₂ R l₁ l₂) (j : ℕ) {a : β}
    {b : γ} (hab : R a b) : List.Forall₂ R (l₁.set j a) (l₂.set j b) := by
  induction h generalizing j with
  | nil => simp
  | cons h1 _ ih =>
    cases j with
    | zero => simpa using List.Forall₂.cons hab (by assumption)
    | succ j => simpa using List.Forall₂.cons h1 (ih j)

theorem DL.length {rel : (ℝ → A) → B → Prop} {F : ℝ → List A} {ds : List B} (h : DL rel F ds) (s : ℝ) :
    (F s).length = ds.length := by
  obtain ⟨fs, hF, h2⟩ := h
  rw [hF, List.length_map, h2.length_eq]

variable {rel : (ℝ → A) → B → Prop} {F G : ℝ → List A} {ds es : List B}

theorem DL.congr (h : DL rel F ds) (hFG : ∀ s, G s = F s) : DL rel G ds := by
  obtain ⟨fs, hF, h2⟩ := h
  exact ⟨fs, fun s => (hFG s).trans (hF s), h2⟩

theorem DL.mono {rel' : (ℝ → A) → B → Prop} (h : DL rel F ds) (hrr : ∀ f d, rel f d → rel' f d) : DL rel' F ds := by
  obtain ⟨fs, hF, h2⟩ := h
  exact ⟨fs, hF, h2.imp hrr⟩

/-- carry a property of the dual data (known for every member) inside the relation: `DL.foldl'` / `DL.zipWith'` give no
    membership information to their step functions -/
theorem DL.and_mem (h : DL rel F ds) {P : B → Prop} (hP : ∀ d ∈ ds, P d) : DL (fun f d => rel f d ∧ P d) F ds := by
  obtain ⟨fs, hF, h2⟩ := h
  exact ⟨fs, hF, forall₂_imp_mem h2 (fun _ d hd hr => ⟨hr, hP d hd⟩)⟩

theorem DL.nil : DL rel (fun _ => []) [] := ⟨[], fun _ => rfl, .nil⟩

theorem DL.cons {f : ℝ → A} {d : B} (hx : rel f d) (h : DL rel F ds) : DL rel (fun s => f s :: F s) (d :: ds) := by
  obtain ⟨fs, hF, h2⟩ := h
  exact ⟨f :: fs, fun s => by simp [hF s], .cons hx h2⟩

theorem DL.append (h1 : DL rel F ds) (h2 : DL rel G es) : DL rel (fun s => F s ++ G s) (ds ++ es) := by
  obtain ⟨fs, hF, hf⟩ := h1
  obtain ⟨gs, hG, hg⟩ := h2
  exact ⟨fs ++ gs, fun s => by simp [hF s, hG s], List.rel_append hf hg⟩

theorem DL.take (h : DL rel F ds) (k : ℕ) : DL rel (fun s => (F s).take k) (ds.take k) := by
  obtain ⟨fs, hF, h2⟩ := h
  exact ⟨fs.take k, fun s => by simp [hF s, List.map_take], List.forall₂_take k h2⟩

theorem DL.drop (h : DL rel F ds) (k : ℕ) : DL rel (fun s => (F s).drop k) (ds.drop k) := by
  obtain ⟨fs, hF, h2⟩ := h
  exact ⟨fs.drop k, fun s => by simp [hF s, List.map_drop], List.forall₂_drop k h2⟩

theorem DL.reverse (h : DL rel F ds) : DL rel (fun s => (F s).reverse) ds.reverse := by
  obtain ⟨fs, hF, h2⟩ := h
  exact ⟨fs.reverse, fun s => by beta_reduce; rw [hF, List.map_reverse], List.rel_reverse h2⟩

theorem DL.replicate (n : ℕ) {f : ℝ → A} {d : B} (h : rel f d) :
    DL rel (fun s => List.replicate n (f s)) (List.replicate n d) := by
  refine ⟨List.replicate n f, fun s => by simp, ?_⟩
  induction n with
  | zero => exact .nil
  | succ n ih => rw [List.replicate_succ, List.replicate_succ]; exact .cons h ih

theorem DL.ofMap (l : List ι) (g : ℝ → ι → A) (g' : ι → B)
    (h : ∀ i ∈ l, rel (fun s => g s i) (g' i)) : DL rel (fun s => l.map (g s)) (l.map g') := by
  refine ⟨l.map (fun i s => g s i), fun s => ?_, ?_⟩
  · rw [List.map_map]; rfl
  · rw [List.forall₂_map_left_iff, List.forall₂_map_right_iff, List.forall₂_same]
    exact h

theorem DL.ofFlatMap (l : List ι) (g : ℝ → ι → List A) (g' : ι → List B)
    (h : ∀ i ∈ l, DL rel (fun s => g s i) (g' i)) : DL rel (fun s => l.flatMap (g s)) (l.flatMap g') := by
  induction l with
  | nil => simpa using (DL.nil : DL rel (fun _ => []) [])
  | cons i l ih =>
    simp only [List.flatMap_cons]
    exact DL.append (h i List.mem_cons_self) (ih fun j hj => h j (List.mem_cons_of_mem _ hj))

theorem DL.map' {rel' : (ℝ → A') → B' → Prop} (g : ℝ → A → A') (g' : B → B') (h : DL rel F ds)
    (hg : ∀ f d, d ∈ ds → rel f d → rel' (fun s => g s (f s)) (g' d)) :
    DL rel' (fun s => (F s).map (g s)) (ds.map g') := by
  obtain ⟨fs, hF, h2⟩ := h
  refine ⟨fs.map (fun f s => g s (f s)), fun s => ?_, ?_⟩
  · beta_reduce; rw [hF, List.map_map, List.map_map]; rfl
  · rw [List.forall₂_map_left_iff, List.forall₂_map_right_iff]
    exact forall₂_imp_mem h2 hg

theorem DL.flatMap {rel' : (ℝ → A') → B' → Prop} (g : ℝ → A → List A') (g' : B → List B') (h : DL rel F ds)
    (hg : ∀ f d, rel f d → DL rel' (fun s => g s (f s)) (g' d)) :
    DL rel' (fun s => (F s).flatMap (g s)) (ds.flatMap g') := by
  obtain ⟨fs, hF, h2⟩ := h
  have hrw : (fun s => (F s).flatMap (g s)) = fun s => (fs.map (fun f => f s)).flatMap (g s) :=
    funext fun s => by rw [hF]
  rw [hrw]
  clear hrw hF
  induction h2 with
  | nil => simpa using (DL.nil : DL rel' (fun _ => []) [])
  | cons hab _ ih =>
    simp only [List.map_cons, List.flatMap_cons]
    exact DL.append (hg _ _ hab) ih

theorem DL.zipWith' {rel₂ : (ℝ → A₂) → B₂ → Prop} {rel' : (ℝ → A') → B' → Prop} {G : ℝ → List A₂} {es : List B₂}
    (g : ℝ → A → A₂ → A') (g' : B → B₂ → B') (h1 : DL rel F ds) (h2 : DL rel₂ G es)
    (hg : ∀ f d f₂ d₂, rel f d → rel₂ f₂ d₂ → rel' (fun s => g s (f s) (f₂ s)) (g' d d₂)) :
    DL rel' (fun s => List.zipWith (g s) (F s) (G s)) (List.zipWith g' ds es) := by
  obtain ⟨fs, hF, hf⟩ := h1
  obtain ⟨gs, hG, hgs⟩ := h2
  refine ⟨List.zipWith (fun f f₂ s => g s (f s) (f₂ s)) fs gs, fun s => ?_, ?_⟩
  · beta_reduce; rw [hF, hG]
    clear hF hG hf hgs
    induction fs generalizing gs with
    | nil => simp
    | cons f fs ih =>
      cases gs with
      | nil => simp
      | cons g₂ gs => simp only [List.map_cons, List.zipWith_cons_cons, ih]
  · clear hF hG
    induction hf generalizing gs es with
    | nil => simp
    | cons hab _ ih =>
      cases hgs with
      | nil => simp
      | cons hab₂ hrest => exact .cons (hg _ _ _ _ hab hab₂) (ih _ hrest)

theorem DL.foldl' {rel₀ : (ℝ → C) → C' → Prop} (op : ℝ → C → A → C) (op' : C' → B → C') (h : DL rel F ds)
    (hop : ∀ acc a f d, rel₀ acc a → rel f d → rel₀ (fun s => op s (acc s) (f s)) (op' a d))
    {i : ℝ → C} {i' : C'} (hi : rel₀ i i') :
    rel₀ (fun s => (F s).foldl (op s) (i s)) (ds.foldl op' i') := by
  obtain ⟨fs, hF, h2⟩ := h
  have hrw : (fun s => (F s).foldl (op s) (i s)) = fun s => (fs.map (fun f => f s)).foldl (op s) (i s) :=
    funext fun s => by rw [hF]
  rw [hrw]
  clear hrw hF
  induction h2 generalizing i i' with
  | nil => exact hi
  | cons hab _ ih =>
    simp only [List.map_cons, List.foldl_cons]
    exact ih (hop _ _ _ _ hi hab)

theorem DL.getD' (h : DL rel F ds) (k : ℕ) {f₀ : ℝ → A} {d₀ : B} (h0 : rel f₀ d₀) :
    rel (fun s => (F s).getD k (f₀ s)) (ds.getD k d₀) := by
  obtain ⟨fs, hF, h2⟩ := h
  have hrw : (fun s => (F s).getD k (f₀ s)) = fun s => (fs.map (fun f => f s)).getD k (f₀ s) :=
    funext fun s => by rw [hF]
  rw [hrw]
  clear hrw hF
  induction h2 generalizing k with
  | nil => exact h0
  | cons hab _ ih =>
    cases k with
    | zero => exact hab
    | succ k => exact ih k

/-! ## `rel` up to an `l`-eventual change of the curve -/

def Ev (l : Filter ℝ) (rel : (ℝ → A) → B → Prop) (f : ℝ → A) (d : B) : Prop :=
  ∃ f' : ℝ → A, (∀ᶠ s in l, f s = f' s) ∧ rel f' d

theorem Ev.of {l : Filter ℝ} {f : ℝ → A} {d : B} (h : rel f d) : Ev l rel f d :=
  ⟨f, Eventually.of_forall fun _ => rfl, h⟩

theorem forall₂_ev {l : Filter ℝ} {fs : List (ℝ → A)} (h : List.Forall₂ (Ev l rel) fs ds) :
    ∃ fs' : List (ℝ → A), (∀ᶠ s in l, fs.map (fun f => f s) = fs'.map (fun f => f s)) ∧ List.Forall₂ rel fs' ds := by
  induction h with
  | nil => exact ⟨[], Eventually.of_forall fun _ => rfl, .nil⟩
  | cons hab _ ih =>
    obtain ⟨f', hf, hr⟩ := hab
    obtain ⟨fs', hfs, hrs⟩ := ih
    refine ⟨f' :: fs', ?_, .cons hr hrs⟩
    filter_upwards [hf, hfs] with s h1 h2
    simp only [List.map_cons, h1, h2]

/-- finitely many `l`-eventual changes are one -/
theorem DL.ev {l : Filter ℝ} (h : DL (Ev l rel) F ds) : Ev l (DL rel) F ds := by
  obtain ⟨fs, hF, h2⟩ := h
  obtain ⟨fs', hev, hr⟩ := forall₂_ev h2
  exact ⟨fun s => fs'.map (fun f => f s), hev.mono fun s hs => (hF s).trans hs, ⟨fs', fun _ => rfl, hr⟩⟩

end generic

/-! ## vectors, matrices and flat arrays of dual numbers -/

abbrev DV (t : ℝ) : (ℝ → List ℝ) → List (ℝ × ℝ) → Prop := DL (fun f d => IsDual f t d)
abbrev DM (t : ℝ) : (ℝ → List (List ℝ)) → List (List (ℝ × ℝ)) → Prop := DL (DV t)

variable {t : ℝ}

theorem DV.entry {F : ℝ → List ℝ} {ds : List (ℝ × ℝ)} (h : DV t F ds) (k : ℕ) :
    IsDual (fun s => (F s).getD k 0) t (ds.getD k (0, 0)) :=
  DL.getD' h k (IsDual.const 0 t)

theorem DV.val {F : ℝ → List ℝ} {ds : List (ℝ × ℝ)} (h : DV t F ds) : F t = ds.map Prod.fst := by
  obtain ⟨fs, hF, h2⟩ := h
  rw [hF]
  clear hF
  induction h2 with
  | nil => rfl
  | cons hab _ ih => simp only [List.map_cons, ih, hab.1]

theorem foldl_add_dual {e : Float → ℝ} {F : ℝ → List ℝ} {ds : List (ℝ × ℝ)} (h : DV t F ds) {a : ℝ → ℝ} {da : ℝ × ℝ}
    (ha : IsDual a t da) :
    IsDual (fun s => (F s).foldl (NF.realX e).add (a s)) t (ds.foldl (dualX (NF.realX e)).add da) :=
  DL.foldl' (rel₀ := fun f d => IsDual f t d) (fun _ => (NF.realX e).add) (dualX (NF.realX e)).add h
    (fun _ _ _ _ ha hd => IsDual.add e ha hd) ha

theorem sumG_dual {e : Float → ℝ} {F : ℝ → List ℝ} {ds : List (ℝ × ℝ)} (h : DV t F ds) :
    IsDual (fun s => sumG (NF.realX e) (F s)) t (sumG (dualX (NF.realX e)) ds) :=
  foldl_add_dual h (IsDual.zero e t)

theorem DM.entry {M : ℝ → List (List ℝ)} {dM : List (List (ℝ × ℝ))} (h : DM t M dM) (r c : ℕ) :
    IsDual (fun s => ((M s).getD r []).getD c 0) t ((dM.getD r []).getD c (0, 0)) :=
  DV.entry (DL.getD' h r DL.nil) c

theorem DM.shape {M : ℝ → List (List ℝ)} {dM : List (List (ℝ × ℝ))} (h : DM t M dM) (s : ℝ) :
    (M s).map List.length = dM.map List.length := by
  obtain ⟨rows, hM, h2⟩ := h
  rw [hM, List.map_map]
  clear hM
  induction h2 with
  | nil => rfl
  | cons hab _ ih =>
    simp only [List.map_cons, Function.comp_apply, List.cons.injEq]
    exact ⟨DL.length hab s, ih⟩

/-- how the headlines read `DM 0`: the two runs have the same shape at every `s`, and every entry of the dual run is (entry of
    the real run at `s = 0`, its derivative there) -/
theorem DM.line_sound {M : ℝ → List (List ℝ)} {dM : List (List (ℝ × ℝ))} (h : DM 0 M dM) :
    (∀ s, (M s).map List.length = dM.map List.length) ∧
    ∀ r c : ℕ, ((dM.getD r []).getD c (0, 0)).1 = ((M 0).getD r []).getD c 0 ∧
      HasDerivAt (fun s => ((M s).getD r []).getD c 0) ((dM.getD r []).getD c (0, 0)).2 0 :=
  ⟨h.shape, h.entry⟩

/-! ## straight lines `primal + s · tangent` -/

/-- the point at parameter `s` of the line through the primal part `d.1` with velocity the tangent part `d.2`
    (`DualX.IsDual.line d.1 d.2` reads a dual number the same way; `DualXParam.lineL us dir` is `lineV` of `zip us dir`) -/
def line (s : ℝ) (d : ℝ × ℝ) : ℝ := d.1 + s * d.2
def lineV (s : ℝ) (ds : List (ℝ × ℝ)) : List ℝ := ds.map (line s)
def lineM (s : ℝ) (dM : List (List (ℝ × ℝ))) : List (List ℝ) := dM.map (lineV s)

@[simp] theorem line_zero (d : ℝ × ℝ) : line 0 d = d.1 := by simp [line]
theorem lineV_zero (ds : List (ℝ × ℝ)) : lineV 0 ds = ds.map Prod.fst := by
  unfold lineV; exact List.map_congr_left (fun d _ => line_zero d)
theorem lineM_zero (dM : List (List (ℝ × ℝ))) : lineM 0 dM = dM.map (List.map Prod.fst) := by
  unfold lineM; exact List.map_congr_left (fun d _ => lineV_zero d)

theorem line_dual (d : ℝ × ℝ) : IsDual (fun s => line s d) 0 d := by
  refine ⟨(line_zero d).symm, ?_⟩
  have h := ((hasDerivAt_id (0:ℝ)).mul_const d.2).const_add d.1
  simpa [line] using h

theorem lineV_dual (ds : List (ℝ × ℝ)) : DV 0 (fun s => lineV s ds) ds := by
  have h := DL.ofMap (rel := fun f d => IsDual f 0 d) ds (fun s d => line s d) id (fun d _ => line_dual d)
  rw [List.map_id] at h
  exact h

theorem lineM_dual (dM : List (List (ℝ × ℝ))) : DM 0 (fun s => lineM s dM) dM := by
  have h := DL.ofMap (rel := DV 0) dM (fun s d => lineV s d) id (fun d _ => lineV_dual d)
  rw [List.map_id] at h
  exact h

end
end DualXLU

namespace DualXFlow
open DualXLU
noncomputable section

variable {t : ℝ}

def DA (t : ℝ) (X : ℝ → Array ℝ) (dX : Array (ℝ × ℝ)) : Prop := DV t (fun s => (X s).toList) dX.toList

theorem DA.size {X : ℝ → Array ℝ} {dX : Array (ℝ × ℝ)} (h : DA t X dX) (s : ℝ) : (X s).size = dX.size := by
  have := DL.length h s
  simpa using this

theorem DA.entry {X : ℝ → Array ℝ} {dX : Array (ℝ × ℝ)} (h : DA t X dX) (k : ℕ) :
    IsDual (fun s => (X s).toList.getD k 0) t (dX.toList.getD k (0, 0)) := DV.entry h k

def lineA (s : ℝ) (dX : Array (ℝ × ℝ)) : Array ℝ := (lineV s dX.toList).toArray

theorem lineA_zero (dX : Array (ℝ × ℝ)) : lineA 0 dX = dX.map Prod.fst := by
  unfold lineA
  rw [lineV_zero]
  apply Array.ext'
  simp

theorem lineA_dual (dX : Array (ℝ × ℝ)) : DA 0 (fun s => lineA s dX) dX := lineV_dual dX.toList

end
end DualXFlow

namespace DualXFlowStages
noncomputable section

/-- abbreviations for the two scalar records, `NF.realX e` and `dualX (NF.realX e)` (`DualXLU.Rr` / `Dd` are their `Ops` parts) -/
abbrev RX (e : Float → ℝ) : XOps ℝ := NF.realX e
abbrev DX (e : Float → ℝ) : XOps (ℝ × ℝ) := dualX (NF.realX e)

end
end DualXFlowStages
