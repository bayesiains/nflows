import NflowsModel.Lemmas.StructureExec
/-!
# Lemmas/RowErr — the batch-level `err` field of the executed layers, row by row (C12, C17)

`Properties/C12.lean` equates row `b` of `out` / `ld` of a batch call with the same row evaluated alone and says nothing
about `TResult.err`, which is the first error over the WHOLE batch (the real code raises for the whole call): "row `b` of
the batch" is meaningful only when the batch is accepted.  Here: for the element-wise passes (`arApply`, `cdfApply`) the
error of the batch call IS the first error, in row order, among the rows evaluated alone (batch size 1); for all three
layers the batch is accepted iff every row evaluated alone is — any scalar type, mask, `S`, direction, family,
unconditional transform; and the same with the rows cut out of the batch arrays by `Array.extract` (`rowSlice`).

(For the coupling layer the ORDER in which errors are found is not row-major — `couplingApply` scans the unconditional pass of
all rows before the conditional pass of any row — so only the `= none` equivalence is stated there.)
-/
open NF

namespace NF.RowErr
open NF.StructureExec
variable {α : Type}

/-! ## 0. lists -/

theorem findSome?_flatMap' {β γ δ : Type} (l : List β) (f : β → List γ) (p : γ → Option δ) :
    (l.flatMap f).findSome? p = l.findSome? fun b => (f b).findSome? p := by
  induction l with
  | nil => rfl
  | cons a l ih =>
    rw [List.flatMap_cons, List.findSome?_append, List.findSome?_cons, ih]
    cases (f a).findSome? p <;> rfl

theorem findSome?_congr' {β δ : Type} {l : List β} {p q : β → Option δ} (h : ∀ b ∈ l, p b = q b) :
    l.findSome? p = l.findSome? q := by
  induction l with
  | nil => rfl
  | cons a l ih =>
    rw [List.findSome?_cons, List.findSome?_cons, h a List.mem_cons_self,
      ih (fun b hb => h b (List.mem_cons_of_mem _ hb))]

theorem firstErr_flatMap {β : Type} (l : List β) (f : β → List (ElRes α)) :
    firstErr (l.flatMap f) = l.findSome? fun b => firstErr (f b) :=
  findSome?_flatMap' l f _

/-! ## 1. the element-wise passes: the batch error is the first row error -/

section elemwise
variable (o : XOps α)

theorem elemwise_err_one (n : Nat) (el : Nat → Nat → ElRes α) :
    (elemwiseResult o 1 n el).err = firstErr ((List.range n).map (el 0)) := by
  simp only [elemwiseResult, List.range_one, List.flatMap_cons, List.flatMap_nil, List.append_nil, List.map_map]
  rfl

theorem elemwise_err_rows (B n : Nat) (el : Nat → Nat → ElRes α) :
    (elemwiseResult o B n el).err
      = (List.range B).findSome? fun b => (elemwiseResult o 1 n (fun _ i => el b i)).err := by
  have h1 : (elemwiseResult o B n el).err
      = firstErr ((List.range B).flatMap fun b => (List.range n).map (el b)) := by
    simp only [elemwiseResult, List.map_flatMap, List.map_map]
    rfl
  rw [h1, firstErr_flatMap]
  congr 1
  funext b
  rw [elemwise_err_one]

theorem elemwise_err_one_congr (n : Nat) (el el' : Nat → Nat → ElRes α) (h : ∀ i, i < n → el 0 i = el' 0 i) :
    (elemwiseResult o 1 n el).err = (elemwiseResult o 1 n el').err := by
  rw [elemwise_err_one, elemwise_err_one]
  congr 1
  apply List.map_congr_left
  intro i hi
  exact h i (List.mem_range.1 hi)

end elemwise

section ar
variable (o : XOps α) (c : ElCfg) (F : Nat) (inverse : Bool)

/-- **autoregressive element-wise pass: the error the batch call reports is the first error, in row order, among the rows
    evaluated alone** (`xr b`, `pr b`: any one-row arrays holding row `b` of the input and of the parameters) -/
theorem ar_err_rows {B : Nat} (x params : Array α) (xr pr : Nat → Array α)
    (hx : ∀ b, b < B → ∀ i, i < F → x[b * F + i]? = (xr b)[0 * F + i]?)
    (hp : ∀ b, b < B → ∀ i k, i < F → k < (if c.kind == "araffine" then 2 else c.mult) →
      params[(b * F + i) * (if c.kind == "araffine" then 2 else c.mult) + k]?
        = (pr b)[(0 * F + i) * (if c.kind == "araffine" then 2 else c.mult) + k]?) :
    (arApply o c B F x params inverse).err
      = (List.range B).findSome? fun b => (arApply o c 1 F (xr b) (pr b) inverse).err := by
  unfold arApply
  rw [elemwise_err_rows]
  apply findSome?_congr'
  intro b hb
  have hb' := List.mem_range.1 hb
  exact elemwise_err_one_congr o F _ _ (fun i hi => arEl_congr o c F inverse x (xr b) params (pr b) (hx b hb') (hp b hb') hi)

/-- **the batch is accepted iff every row evaluated alone is accepted** (autoregressive pass) -/
theorem ar_err_none_iff_alone {B : Nat} (x params : Array α) (xr pr : Nat → Array α)
    (hx : ∀ b, b < B → ∀ i, i < F → x[b * F + i]? = (xr b)[0 * F + i]?)
    (hp : ∀ b, b < B → ∀ i k, i < F → k < (if c.kind == "araffine" then 2 else c.mult) →
      params[(b * F + i) * (if c.kind == "araffine" then 2 else c.mult) + k]?
        = (pr b)[(0 * F + i) * (if c.kind == "araffine" then 2 else c.mult) + k]?) :
    (arApply o c B F x params inverse).err = none
      ↔ ∀ b, b < B → (arApply o c 1 F (xr b) (pr b) inverse).err = none := by
  rw [ar_err_rows o c F inverse x params xr pr hx hp, List.findSome?_eq_none_iff]
  simp only [List.mem_range]

end ar

section cdf
variable (o : XOps α) (c : ElCfg) (n : Nat) (inverse : Bool)

theorem cdfEl_alone {b : Nat} (x params xr : Array α) (hx : ∀ i, i < n → x[b * n + i]? = xr[0 * n + i]?)
    {i : Nat} (hi : i < n) :
    cdfEl o c n x params inverse b i = cdfEl o c n xr params inverse 0 i := by
  unfold cdfEl
  rw [getD_congr (hx i hi)]

/-- **`Piecewise*CDF`: the error of the batch call is the first error, in row order, among the rows evaluated alone** -/
theorem cdf_err_rows {B : Nat} (x params : Array α) (xr : Nat → Array α)
    (hx : ∀ b, b < B → ∀ i, i < n → x[b * n + i]? = (xr b)[0 * n + i]?) :
    (cdfApply o c B n x params inverse).err
      = (List.range B).findSome? fun b => (cdfApply o c 1 n (xr b) params inverse).err := by
  unfold cdfApply
  rw [elemwise_err_rows]
  apply findSome?_congr'
  intro b hb
  exact elemwise_err_one_congr o n _ _
    (fun i hi => cdfEl_alone o c n inverse x params (xr b) (hx b (List.mem_range.1 hb)) hi)

/-- **the batch is accepted iff every row evaluated alone is accepted** (`Piecewise*CDF`) -/
theorem cdf_err_none_iff_alone {B : Nat} (x params : Array α) (xr : Nat → Array α)
    (hx : ∀ b, b < B → ∀ i, i < n → x[b * n + i]? = (xr b)[0 * n + i]?) :
    (cdfApply o c B n x params inverse).err = none
      ↔ ∀ b, b < B → (cdfApply o c 1 n (xr b) params inverse).err = none := by
  rw [cdf_err_rows o c n inverse x params xr hx, List.findSome?_eq_none_iff]
  simp only [List.mem_range]

end cdf

/-! ## 2. the coupling layer -/

section coupling
variable (o : XOps α) (c : ElCfg) (mask : List α) (S : Nat) (inverse : Bool) (uc : Option ElCfg) (uparams : Array α)

/-- **the batch is accepted iff every row evaluated alone is accepted** (coupling layer; `xr b`, `pr b`: any one-row arrays
    holding row `b` of the input and of the conditioner output) -/
theorem coupling_err_none_iff_alone {B : Nat} (x params : Array α) (xr pr : Nat → Array α)
    (hx : ∀ b, b < B → RowAgree mask.length S b 0 x (xr b))
    (hp : ∀ b, b < B → RowAgree (paramWidth c (transformIdx o mask).length) S b 0 params (pr b)) :
    (couplingApply o c mask B S x params inverse uc uparams).err = none
      ↔ ∀ b, b < B → (couplingApply o c mask 1 S (xr b) (pr b) inverse uc uparams).err = none := by
  rw [coupling_err_none_iff_rows]
  constructor
  · intro h b hb
    rw [coupling_err_none_iff_rows]
    intro b0 hb0
    have : b0 = 0 := by omega
    subst this
    rw [← rowResults_congr o c mask S inverse uc uparams x (xr b) params (pr b) (hx b hb) (hp b hb)]
    exact h b hb
  · intro h b hb
    have h1 := (coupling_err_none_iff_rows o c mask 1 S (xr b) (pr b) inverse uc uparams).1 (h b hb) 0 (by omega)
    rw [rowResults_congr o c mask S inverse uc uparams x (xr b) params (pr b) (hx b hb) (hp b hb)]
    exact h1

end coupling

/-! ## 3. the rows cut out of the batch arrays -/

def rowSlice (w : Nat) (x : Array α) (b : Nat) : Array α := x.extract (b * w) ((b + 1) * w)

theorem rowSlice_getElem? (w : Nat) (x : Array α) (b : Nat) {i : Nat} (hi : i < w) :
    (rowSlice w x b)[i]? = x[b * w + i]? := by
  unfold rowSlice
  rw [Array.getElem?_extract]
  have hw : (b + 1) * w = b * w + w := by rw [Nat.add_mul, Nat.one_mul]
  by_cases h : b * w + i < x.size
  · rw [if_pos (by rw [hw]; omega)]
  · rw [if_neg (by rw [hw]; omega), getElem?_none_of_not_lt h]

theorem rowAgree_rowSlice (C S : Nat) (x : Array α) (b : Nat) : RowAgree C S b 0 x (rowSlice (C * S) x b) := by
  intro ch s hch hs
  have hlt : ch * S + s < C * S := RowMajor.lt2 hch hs
  have h0 : flatIdx C S 0 ch s = ch * S + s := by simp [flatIdx]
  rw [h0, flatIdx_row, rowSlice_getElem? (C * S) x b hlt]

section slices
variable (o : XOps α) (c : ElCfg)

/-- **coupling layer: accepted iff every row cut out of the batch is accepted when run alone** -/
theorem coupling_err_none_iff_slices (mask : List α) (S : Nat) (inverse : Bool) (uc : Option ElCfg) (uparams : Array α)
    (B : Nat) (x params : Array α) :
    (couplingApply o c mask B S x params inverse uc uparams).err = none
      ↔ ∀ b, b < B → (couplingApply o c mask 1 S (rowSlice (mask.length * S) x b)
          (rowSlice (paramWidth c (transformIdx o mask).length * S) params b) inverse uc uparams).err = none :=
  coupling_err_none_iff_alone o c mask S inverse uc uparams x params _ _
    (fun b _ => rowAgree_rowSlice _ S x b) (fun b _ => rowAgree_rowSlice _ S params b)

/-- **autoregressive pass: the batch error is the first error of the rows cut out of the batch and run alone** -/
theorem ar_err_slices (F : Nat) (inverse : Bool) (B : Nat) (x params : Array α) :
    (arApply o c B F x params inverse).err
      = (List.range B).findSome? fun b => (arApply o c 1 F (rowSlice F x b)
          (rowSlice (F * (if c.kind == "araffine" then 2 else c.mult)) params b) inverse).err := by
  apply ar_err_rows o c F inverse x params
  · intro b _ i hi
    rw [Nat.zero_mul, Nat.zero_add, rowSlice_getElem? F x b hi]
  · intro b _ i k hi hk
    rw [Nat.zero_mul, Nat.zero_add, rowSlice_getElem? _ params b (RowMajor.lt2 hi hk)]
    rw [RowMajor.assoc]

/-- **`Piecewise*CDF`: the batch error is the first error of the rows cut out of the batch and run alone** -/
theorem cdf_err_slices (n : Nat) (inverse : Bool) (B : Nat) (x params : Array α) :
    (cdfApply o c B n x params inverse).err
      = (List.range B).findSome? fun b => (cdfApply o c 1 n (rowSlice n x b) params inverse).err := by
  apply cdf_err_rows o c n inverse x params
  intro b _ i hi
  rw [Nat.zero_mul, Nat.zero_add, rowSlice_getElem? n x b hi]

end slices

/-! ## 4. Non-vacuity: the statements discriminate -/

/-- a two-row pass whose row 1 raises: the batch reports that error, row 0 alone is accepted, row 1 alone is not — so "row 0
    of the batch" equals "row 0 alone" in `out` / `ld` (C12) although the batch call as a whole raises -/
example (o : XOps α) (z : α) :
    let el : Nat → Nat → ElRes α := fun b _ => if b = 1 then .error .outsideDomain else .ok (z, z, [])
    (elemwiseResult o 2 1 el).err = some .outsideDomain
      ∧ (elemwiseResult o 1 1 (fun _ i => el 0 i)).err = none
      ∧ (elemwiseResult o 1 1 (fun _ i => el 1 i)).err = some .outsideDomain := by
  intro el
  refine ⟨?_, ?_, ?_⟩
  · rw [elemwise_err_rows]
    simp [elemwise_err_one, firstErr, List.range_succ, el]
  · simp [elemwise_err_one, firstErr, List.range_succ, el]
  · simp [elemwise_err_one, firstErr, List.range_succ, el]

end NF.RowErr
