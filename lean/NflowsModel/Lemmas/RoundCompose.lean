import NflowsModel.Lemmas.RoundModel
import Mathlib.Topology.MetricSpace.Pseudo.Defs
import Mathlib.Algebra.BigOperators.Intervals
import Mathlib.Tactic
/-!
# Lemmas/RoundCompose — composition of rounding errors through Lipschitz stages (C19, numeric clause), and refinements

Continues `Lemmas/RoundModel` (read its header for the model `Rnd u r`, `rndX r e` and the TRUSTED link to IEEE).
A `Stage` is a computed map within `eps` of an exact `L`-Lipschitz map; the error of a composite is the recursion `errB`
(closed form `E · Σ_{k<n} Λ^k + Λ^n δ` under bounds along the computed trajectory).  Instances on executed programs (chains
of affine elements, affine + LeakyReLU, Sigmoid, `sumLog`), the refinement for an idempotent rounding (`r (r x) = r x`,
true of IEEE rounding, where `0 + fl(x₁y₁)` is exact: the inner-product exponent drops from `n + 1` to the classical `n`),
and the constants in Higham's `γ_n` form.
-/
open NF DualSound

namespace RoundModel
noncomputable section

universe v
variable {X : Type v} [PseudoMetricSpace X]

/-! ## composition -/

theorem two_stage_err {W Y Z : Type*} [PseudoMetricSpace Y] [PseudoMetricSpace Z]
    (f1c f1e : W → Y) (f2c f2e : Y → Z) (ε1 : W → ℝ) (ε2 : Y → ℝ) (L : ℝ)
    (h1 : ∀ x, dist (f1c x) (f1e x) ≤ ε1 x) (h2 : ∀ y, dist (f2c y) (f2e y) ≤ ε2 y)
    (hL : ∀ y y', dist (f2e y) (f2e y') ≤ L * dist y y') (hL0 : 0 ≤ L) (x : W) :
    dist (f2c (f1c x)) (f2e (f1e x)) ≤ ε2 (f1c x) + L * ε1 x := by
  have a := dist_triangle (f2c (f1c x)) (f2e (f1c x)) (f2e (f1e x))
  have b := h2 (f1c x)
  have c := hL (f1c x) (f1e x)
  have d := mul_le_mul_of_nonneg_left (h1 x) hL0
  linarith

/-- a stage: the computed map, the exact map, the local error bound, the Lipschitz constant of the exact map -/
structure Stage (X : Type v) where
  fc : X → X
  fe : X → X
  eps : X → ℝ
  L : ℝ

structure Stage.OK (s : Stage X) : Prop where
  err : ∀ x, dist (s.fc x) (s.fe x) ≤ s.eps x
  lip : ∀ x y, dist (s.fe x) (s.fe y) ≤ s.L * dist x y
  L_nonneg : 0 ≤ s.L

def runC (ss : List (Stage X)) (x : X) : X := ss.foldl (fun a s => s.fc a) x
def runE (ss : List (Stage X)) (x : X) : X := ss.foldl (fun a s => s.fe a) x

omit [PseudoMetricSpace X] in
/-- an exact program is the computed one at the identity rounding -/
theorem runC_eq_runE_of_map {ss ss' : List (Stage X)} (h : ss.map Stage.fc = ss'.map Stage.fe) (x : X) :
    runC ss x = runE ss' x := by
  unfold runC runE
  rw [← List.foldl_map (f := Stage.fc) (g := fun a f => f a), h, List.foldl_map]

/-- the explicit error recursion: entering a stage at computed value `x` with accumulated error `δ`, leave it with
    `ε(x) + L δ` -/
def errB : List (Stage X) → X → ℝ → ℝ
  | [], _, δ => δ
  | s :: ss, x, δ => errB ss (s.fc x) (s.eps x + s.L * δ)

theorem compose_err (ss : List (Stage X)) (hok : ∀ s ∈ ss, s.OK) (xc xe : X) (δ : ℝ)
    (h : dist xc xe ≤ δ) : dist (runC ss xc) (runE ss xe) ≤ errB ss xc δ := by
  induction ss generalizing xc xe δ with
  | nil => simpa [runC, runE, errB] using h
  | cons s ss ih =>
    have hs := hok s (by simp)
    simp only [runC, runE, List.foldl_cons, errB]
    apply ih (fun t ht => hok t (by simp [ht]))
    have a := dist_triangle (s.fc xc) (s.fe xc) (s.fe xe)
    have b := hs.err xc
    have c := hs.lip xc xe
    have d := mul_le_mul_of_nonneg_left h hs.L_nonneg
    linarith

theorem compose_err₀ (ss : List (Stage X)) (hok : ∀ s ∈ ss, s.OK) (x : X) :
    dist (runC ss x) (runE ss x) ≤ errB ss x 0 :=
  compose_err ss hok x x 0 (by simp)

/-- every stage's local error, evaluated where the COMPUTED run passes, is at most `E` (for linear stages a bound
    `∀ x, ε(x) ≤ E` over all inputs cannot hold; this one can) -/
def TrajBound {X : Type*} (E : ℝ) : List (Stage X) → X → Prop
  | [], _ => True
  | s :: ss, x => s.eps x ≤ E ∧ TrajBound E ss (s.fc x)

omit [PseudoMetricSpace X] in
theorem TrajBound.of_forall {E : ℝ} {ss : List (Stage X)} (hE : ∀ s ∈ ss, ∀ x, s.eps x ≤ E) (x : X) :
    TrajBound E ss x := by
  induction ss generalizing x with
  | nil => trivial
  | cons s ss ih => exact ⟨hE s (by simp) x, ih (fun t ht => hE t (by simp [ht])) _⟩

theorem errB_traj (ss : List (Stage X)) (hok : ∀ s ∈ ss, s.OK) (E Λ : ℝ) (x : X)
    (hE : TrajBound E ss x) (hΛ : ∀ s ∈ ss, s.L ≤ Λ) (δ : ℝ) (hδ : 0 ≤ δ) :
    errB ss x δ ≤ E * (∑ k ∈ Finset.range ss.length, Λ ^ k) + Λ ^ ss.length * δ := by
  induction ss generalizing x δ with
  | nil => simp [errB]
  | cons s ss ih =>
    have hs := hok s (by simp)
    obtain ⟨hE1, hE2⟩ := hE
    have hL1 := hΛ s (by simp)
    have hL0 := hs.L_nonneg
    have heps0 : 0 ≤ s.eps x := dist_nonneg.trans (hs.err x)
    have hδ' : 0 ≤ s.eps x + s.L * δ := add_nonneg heps0 (mul_nonneg hL0 hδ)
    have := ih (fun t ht => hok t (by simp [ht])) (s.fc x) hE2 (fun t ht => hΛ t (by simp [ht]))
      (s.eps x + s.L * δ) hδ'
    simp only [errB, List.length_cons]
    refine this.trans ?_
    rw [Finset.sum_range_succ, pow_succ]
    have h1 : s.L * δ ≤ Λ * δ := mul_le_mul_of_nonneg_right hL1 hδ
    have h2 : Λ ^ ss.length * (s.eps x + s.L * δ) ≤ Λ ^ ss.length * (E + Λ * δ) :=
      mul_le_mul_of_nonneg_left (by linarith) (pow_nonneg (hL0.trans hL1) _)
    linarith

theorem errB_uniform (ss : List (Stage X)) (hok : ∀ s ∈ ss, s.OK) (E Λ : ℝ)
    (hE : ∀ s ∈ ss, ∀ x, s.eps x ≤ E) (hΛ : ∀ s ∈ ss, s.L ≤ Λ) (x : X) (δ : ℝ) (hδ : 0 ≤ δ) :
    errB ss x δ ≤ E * (∑ k ∈ Finset.range ss.length, Λ ^ k) + Λ ^ ss.length * δ :=
  errB_traj ss hok E Λ x (.of_forall hE x) hΛ δ hδ

theorem compose_err_uniform (ss : List (Stage X)) (hok : ∀ s ∈ ss, s.OK) (E Λ : ℝ)
    (hE : ∀ s ∈ ss, ∀ x, s.eps x ≤ E) (hΛ : ∀ s ∈ ss, s.L ≤ Λ) (x : X) :
    dist (runC ss x) (runE ss x) ≤ E * (∑ k ∈ Finset.range ss.length, Λ ^ k) := by
  have := (compose_err₀ ss hok x).trans (errB_uniform ss hok E Λ hE hΛ x 0 le_rfl)
  simpa using this

/-! ## instances on executed model programs -/

variable {u : ℝ} {r : ℝ → ℝ} (e : Float → ℝ)

def chainT (fs : List (ℝ → Except Err (ℝ × ℝ))) (x : ℝ) : Except Err ℝ :=
  fs.foldlM (fun a f => (f a).map Prod.fst) x

def affStage (u : ℝ) (r : ℝ → ℝ) (p : ℝ × ℝ) : Stage ℝ where
  fc x := r (r (x * p.1) + p.2)
  fe x := x * p.1 + p.2
  eps x := (2 * u + u ^ 2) * |x * p.1| + u * |p.2|
  L := |p.1|

theorem affStage_ok (h : Rnd u r) (p : ℝ × ℝ) : (affStage u r p).OK where
  err x := by rw [Real.dist_eq]; exact muladd_err h p.1 p.2 x
  lip x y := by
    simp only [affStage, Real.dist_eq]
    have e1 : x * p.1 + p.2 - (y * p.1 + p.2) = p.1 * (x - y) := by ring
    rw [e1, abs_mul]
  L_nonneg := abs_nonneg _

theorem chainT_affine_rnd (ps : List (ℝ × ℝ)) (x : ℝ) :
    chainT (ps.map fun p => affineT (rndX r e) p.1 p.2 false) x = .ok (runC (ps.map (affStage u r)) x) := by
  induction ps generalizing x with
  | nil => rfl
  | cons p ps ih =>
    simp only [chainT, List.map_cons, List.foldlM_cons, affineT_rnd_fwd, runC, List.foldl_cons] at ih ⊢
    exact ih _

theorem chainT_affine_real (ps : List (ℝ × ℝ)) (x : ℝ) :
    chainT (ps.map fun p => affineT (NF.realX e) p.1 p.2 false) x = .ok (runE (ps.map (affStage u r)) x) := by
  rw [← rndX_id, chainT_affine_rnd (u := 0), runC_eq_runE_of_map (ss' := ps.map (affStage u r))]
  rw [List.map_map, List.map_map]
  rfl

theorem affineChain_err (h : Rnd u r) (ps : List (ℝ × ℝ)) (x : ℝ) {y y' : ℝ}
    (hc : chainT (ps.map fun p => affineT (rndX r e) p.1 p.2 false) x = .ok y)
    (he : chainT (ps.map fun p => affineT (NF.realX e) p.1 p.2 false) x = .ok y') :
    |y - y'| ≤ errB (ps.map (affStage u r)) x 0 := by
  rw [chainT_affine_rnd (u := u)] at hc; rw [chainT_affine_real (u := u) (r := r)] at he
  simp only [Except.ok.injEq] at hc he
  subst hc; subst he
  rw [← Real.dist_eq]
  apply compose_err₀
  intro s hs
  obtain ⟨p, -, rfl⟩ := List.mem_map.mp hs
  exact affStage_ok h p

theorem leaky_lip (σ x y : ℝ) :
    |(if x < 0 then σ * x else x) - (if y < 0 then σ * y else y)| ≤ max 1 |σ| * |x - y| := by
  have h1 : (1 : ℝ) ≤ max 1 |σ| := le_max_left _ _
  have h2 : |σ| ≤ max 1 |σ| := le_max_right _ _
  -- the two arguments on different sides of the kink: `|σ x - y| ≤ |σ| |x| + |y| ≤ max 1 |σ| (y - x)`
  have key : ∀ x y : ℝ, x < 0 → 0 ≤ y → |σ * x - y| ≤ max 1 |σ| * |x - y| := by
    intro x y hx hy
    have a1 := abs_sub (σ * x) y
    rw [abs_mul, abs_of_neg hx, abs_of_nonneg hy] at a1
    have a2 := mul_le_mul_of_nonneg_right h2 (neg_nonneg.mpr hx.le)
    have a3 := mul_le_mul_of_nonneg_right h1 hy
    rw [abs_of_neg (by linarith : x - y < 0)]
    linarith
  by_cases hx : x < 0 <;> by_cases hy : y < 0 <;> simp only [hx, hy, if_true, if_false]
  · rw [← mul_sub, abs_mul]
    exact mul_le_mul_of_nonneg_right h2 (abs_nonneg _)
  · exact key x y hx (not_lt.mp hy)
  · rw [abs_sub_comm, abs_sub_comm x]
    exact key y x hy (not_lt.mp hx)
  · exact le_mul_of_one_le_left (abs_nonneg _) h1

/-- **affine element followed by LeakyReLU, both executed** (a two-stage flow on one element): the error is the
    LeakyReLU rounding error at the COMPUTED intermediate value `a` plus `max 1 |σ|` times the affine error. -/
theorem affine_leaky_err (h : Rnd u r) (s t : ℝ) (slope : Float) (L x : ℝ) {a la z lz a' la' z' lz' : ℝ}
    (h1c : affineT (rndX r e) s t false x = .ok (a, la))
    (h2c : leakyReluT (rndX r e) slope L false a = .ok (z, lz))
    (h1e : affineT (NF.realX e) s t false x = .ok (a', la'))
    (h2e : leakyReluT (NF.realX e) slope L false a' = .ok (z', lz')) :
    |z - z'| ≤ (if a < 0 then (2 * u + u ^ 2) * |e slope * a| else 0)
        + max 1 |e slope| * ((2 * u + u ^ 2) * |x * s| + u * |t|) := by
  have hA := (affineT_fwd_err e h s t x h1c h1e).1
  -- the exact second stage at the computed intermediate value
  have hmid := leakyReluT_real e slope L a
  have hB := (leakyReluT_fwd_err e h slope L a h2c hmid).1
  rw [leakyReluT_real] at h2e
  simp only [Except.ok.injEq, Prod.mk.injEq] at h2e
  obtain ⟨rfl, -⟩ := h2e
  have hC := leaky_lip (e slope) a a'
  have hm : 0 ≤ max 1 |e slope| := le_trans zero_le_one (le_max_left _ _)
  have hD := mul_le_mul_of_nonneg_left hA hm
  have := abs_sub_le z (if a < 0 then e slope * a else a) (if a' < 0 then e slope * a' else a')
  linarith

/-! ## refinement: idempotent rounding gives the classical exponent `n` for inner products -/

/-- a rounding that fixes its own values (true of IEEE rounding: representable numbers round to themselves) -/
structure RndIdem (u : ℝ) (r : ℝ → ℝ) : Prop extends Rnd u r where
  idem : ∀ x, r (r x) = r x

theorem foldl_map_err_idem (h : RndIdem u r) (qs : List ℝ) :
    |(qs.map r).foldl (fun a x => r (a + x)) 0 - qs.sum| ≤ ((1 + u) ^ qs.length - 1) * absSum qs := by
  cases qs with
  | nil => simp
  | cons q qs =>
    -- the first addition `0 + fl q` is exact
    rw [List.map_cons, List.foldl_cons, zero_add, h.idem, List.length_cons, pow_succ]
    apply map_round_err h.toRnd (q :: qs) (one_le_pow1 h.toRnd _)
    simpa only [List.length_map, List.map_cons, List.sum_cons, absSum_cons] using foldl_err h.toRnd (qs.map r) (r q)

theorem dot_err_idem (h : RndIdem u r) (xs ys : List ℝ) :
    |LF.dot (rndOps r) xs ys - LF.dot realOps xs ys|
      ≤ ((1 + u) ^ (min xs.length ys.length) - 1) * absDot xs ys := by
  rw [dot_rnd h.toRnd, LFTriSolve.dot_real_zipWith, absDot_eq]
  simpa only [List.length_zipWith] using foldl_map_err_idem h (List.zipWith (· * ·) xs ys)

theorem f32_f64_agree_dot_idem {u32 u64 : ℝ} {r32 r64 : ℝ → ℝ} (h32 : RndIdem u32 r32) (h64 : RndIdem u64 r64)
    (xs ws : List ℝ) :
    |LF.dot (rndOps r32) xs ws - LF.dot (rndOps r64) xs ws|
      ≤ (((1 + u32) ^ (min xs.length ws.length) - 1) + ((1 + u64) ^ (min xs.length ws.length) - 1))
          * absDot xs ws := by
  exact (tri (dot_err_idem h32 xs ws) (dot_err_idem h64 xs ws)).trans_eq (by ring)

theorem rndIdem_id : RndIdem 0 id := { rnd_id with idem := fun _ => rfl }

theorem rndIdem_example {u : ℝ} (hu : 0 < u) : RndIdem u (fun x => if x = 1 then 1 + u else x) where
  u_nonneg := hu.le
  err x := by
    by_cases hx : x = 1
    · subst hx; simp [abs_of_pos hu]
    · simp only [hx, if_false, sub_self, abs_zero]
      exact mul_nonneg hu.le (abs_nonneg _)
  idem x := by
    by_cases hx : x = 1
    · have : (1 : ℝ) + u ≠ 1 := by linarith
      simp [hx, this]
    · simp [hx]

theorem rndIdem_example_ne_id {u : ℝ} (hu : 0 < u) : (fun x : ℝ => if x = 1 then 1 + u else x) ≠ id := by
  intro h
  have := congrFun h 1
  simp at this
  linarith

/-! ## the executed `XOps.sigmoid` -/

/-- **`XOps.sigmoid`, executed** (`fl(fl 1 / fl(fl 1 + fl(exp(-x))))`): relative error
    `(1+u)(3u+u²)/(1-2u-u²) + u` (≈ `4u`), valid whenever `2u + u² < 1`. -/
theorem sigmoid_err (h : Rnd u r) (hγ : 2 * u + u ^ 2 < 1) (x : ℝ) :
    |(rndX r e).sigmoid x - (NF.realX e).sigmoid x|
      ≤ ((1 + u) * ((3 * u + u ^ 2) / (1 - (2 * u + u ^ 2))) + u) * (1 / (1 + Real.exp (-x))) := by
  rw [NF.realX_sigmoid]
  simp only [XOps.sigmoid, rndX_div, rndX_add, rndX_exp, rndX_neg, rndX_one]
  have hu := h.u_nonneg
  have h1 : |r 1 - 1| ≤ u := by simpa using h.err 1
  generalize r 1 = o1 at h1 ⊢
  have hE : 0 < Real.exp (-x) := Real.exp_pos _
  generalize Real.exp (-x) = E at hE ⊢
  have hS : 0 < 1 + E := by linarith
  have h2 : |r E - E| ≤ u * E := by have := h.err E; rwa [abs_of_pos hE] at this
  -- the denominator `D = fl(fl 1 + fl E)` has relative error `2u + u²`
  have h3 : |(o1 + r E) - (1 + E)| ≤ u * |1 + E| := by
    rw [abs_of_pos hS, add_sub_add_comm]
    linarith [abs_add_le (o1 - 1) (r E - E)]
  have h4 := h.approx_rel h3
  rw [abs_of_pos hS] at h4
  generalize r (o1 + r E) = D at h4 ⊢
  have hc : 0 < 1 - (2 * u + u ^ 2) := by linarith
  have hD : (1 - (2 * u + u ^ 2)) * (1 + E) ≤ D := by linarith [(abs_le.mp h4).1]
  have hDpos : 0 < D := (mul_pos hc hS).trans_le hD
  -- the numerator of `fl 1 / D - 1 / (1 + E)`
  have hnum : |o1 * (1 + E) - D * 1| ≤ (3 * u + u ^ 2) * (1 + E) := by
    have a1 := abs_add_le ((o1 - 1) * (1 + E)) ((1 + E) - D)
    rw [abs_mul, abs_of_pos hS, abs_sub_comm (1 + E) D] at a1
    have a2 := mul_le_mul_of_nonneg_right h1 hS.le
    rw [show o1 * (1 + E) - D * 1 = (o1 - 1) * (1 + E) + ((1 + E) - D) by ring]
    linarith
  have h5 : |o1 / D - 1 / (1 + E)| ≤ (3 * u + u ^ 2) / (1 - (2 * u + u ^ 2)) * (1 / (1 + E)) := by
    rw [div_sub_div _ _ hDpos.ne' hS.ne', abs_div, abs_of_pos (mul_pos hDpos hS)]
    calc |o1 * (1 + E) - D * 1| / (D * (1 + E))
        ≤ (3 * u + u ^ 2) * (1 + E) / (D * (1 + E)) := div_le_div_of_nonneg_right hnum (mul_pos hDpos hS).le
      _ = (3 * u + u ^ 2) / D := mul_div_mul_right _ _ hS.ne'
      _ ≤ (3 * u + u ^ 2) / ((1 - (2 * u + u ^ 2)) * (1 + E)) :=
          div_le_div_of_nonneg_left (by positivity) (mul_pos hc hS) hD
      _ = _ := by rw [div_mul_div_comm, mul_one]
  exact (h.approx h5 (abs_of_pos (one_div_pos.mpr hS)).le).trans_eq (by ring)

/-! ## `sumLog` (the log-abs-det of LU / SVD given the diagonal), executed -/

/-- **`LF.sumLog`, executed**: `|fl Σ log d_i - Σ log d_i| ≤ ((1+u)^(n+1) - 1) Σ|log d_i|` — the log-det of `LULinear`
    / `SVDLinear` agrees across precisions relative to `Σ|log d_i|` (NOT to `|Σ log d_i|`, which may cancel). -/
theorem sumLog_err (h : Rnd u r) (d : List ℝ) :
    |LF.sumLog (rndOps r) d - LF.sumLog realOps d|
      ≤ ((1 + u) ^ (d.length + 1) - 1) * absSum (d.map Real.log) := by
  unfold LF.sumLog
  rw [LFTriSolve.sum_real, sum_rnd h]
  have := foldl_map_err h (d.map Real.log)
  rw [List.length_map, List.map_map] at this
  exact this

/-! ## the classical `γ_n` form of the constants -/

theorem pow_mul_le_one {u : ℝ} (hu : 0 ≤ u) (n : ℕ) : (1 + u) ^ n * (1 - n * u) ≤ 1 := by
  induction n with
  | zero => simp
  | succ n ih =>
    refine le_trans ?_ ih
    have : 0 ≤ (1 + u) ^ n * ((n + 1) * u ^ 2) := by positivity
    push_cast
    linarith [show (1 + u) ^ (n + 1) * (1 - ((n : ℝ) + 1) * u)
      = (1 + u) ^ n * (1 - n * u) - (1 + u) ^ n * ((n + 1) * u ^ 2) by ring]

/-- `(1+u)^n - 1 ≤ γ_n = n u / (1 - n u)` when `n u < 1` (Higham Lemma 3.1) -/
theorem pow_sub_one_le_gamma {u : ℝ} (hu : 0 ≤ u) (n : ℕ) (hn : n * u < 1) :
    (1 + u) ^ n - 1 ≤ n * u / (1 - n * u) := by
  rw [le_div_iff₀ (by linarith)]
  linarith [pow_mul_le_one hu n]

/-! ## the Sigmoid element (forward output), executed: an instance of `two_stage_err` -/

/-- the logistic function is 1-Lipschitz (sharp constant is 1/4; 1 suffices here) -/
theorem sigmoid_lip (a b : ℝ) :
    |1 / (1 + Real.exp (-a)) - 1 / (1 + Real.exp (-b))| ≤ |a - b| := by
  wlog hab : a ≤ b generalizing a b
  · have := this b a (by linarith)
    rwa [abs_sub_comm, abs_sub_comm b a] at this
  have hA : 0 < Real.exp (-a) := Real.exp_pos _
  have hB : 0 < Real.exp (-b) := Real.exp_pos _
  have hBA : Real.exp (-b) ≤ Real.exp (-a) := Real.exp_le_exp.mpr (by linarith)
  -- `exp(-a) - exp(-b) ≤ exp(-a) (b - a)`, from `1 - t ≤ exp(-t)`
  have hkey : Real.exp (-a) - Real.exp (-b) ≤ Real.exp (-a) * (b - a) := by
    have h1 : Real.exp (-b) = Real.exp (-a) * Real.exp (-(b - a)) := by
      rw [← Real.exp_add]; congr 1; ring
    have h2 := mul_le_mul_of_nonneg_left (Real.add_one_le_exp (-(b - a))) hA.le
    rw [h1]; linarith
  generalize Real.exp (-a) = A at hA hBA hkey ⊢
  generalize Real.exp (-b) = B at hB hBA hkey ⊢
  have hden : 0 < (1 + A) * (1 + B) := by positivity
  have h3 : A * (b - a) ≤ (1 + A) * (1 + B) * (b - a) :=
    mul_le_mul_of_nonneg_right (by linarith [mul_pos hA hB]) (by linarith)
  rw [div_sub_div _ _ (by positivity) (by positivity), abs_div, abs_of_pos hden, div_le_iff₀ hden,
    abs_of_nonpos (by linarith), abs_of_nonpos (by linarith)]
  linarith

/-- **forward Sigmoid element, executed, output** (`sigmoid(fl(T x))` computed as `XOps.sigmoid`):
    `κ · σ(fl(T x)) + u |T x|` with `κ = (1+u)(3u+u²)/(1-2u-u²) + u`; since `σ ≤ 1` this is `≤ κ + u|T x|`. -/
theorem sigmoidT_fwd_err (h : Rnd u r) (hγ : 2 * u + u ^ 2 < 1) (T : ℝ) (eps : Float) (x : ℝ) {y l y' l' : ℝ}
    (hc : sigmoidT (rndX r e) T eps false x = .ok (y, l))
    (he : sigmoidT (NF.realX e) T eps false x = .ok (y', l')) :
    |y - y'| ≤ ((1 + u) * ((3 * u + u ^ 2) / (1 - (2 * u + u ^ 2))) + u) * (1 / (1 + Real.exp (-r (T * x))))
        + u * |T * x| := by
  simp only [sigmoidT, Bool.false_eq_true, if_false, Except.ok.injEq, Prod.mk.injEq, rndX_mul, realX_mul] at hc he
  obtain ⟨rfl, -⟩ := hc; obtain ⟨rfl, -⟩ := he
  have := two_stage_err (W := ℝ) (fun x => r (T * x)) (fun x => T * x)
    (fun z => (rndX r e).sigmoid z) (fun z => (NF.realX e).sigmoid z)
    (fun x => u * |T * x|)
    (fun z => ((1 + u) * ((3 * u + u ^ 2) / (1 - (2 * u + u ^ 2))) + u) * (1 / (1 + Real.exp (-z)))) 1
    (fun x => by rw [Real.dist_eq]; exact h.err _)
    (fun z => by rw [Real.dist_eq]; exact sigmoid_err e h hγ z)
    (fun a b => by
      rw [Real.dist_eq, Real.dist_eq, NF.realX_sigmoid, NF.realX_sigmoid, one_mul]; exact sigmoid_lip a b)
    zero_le_one x
  rw [Real.dist_eq, one_mul] at this
  exact this

/-! ## the hypotheses of `f32_f64_agree_dot` are jointly satisfiable at the binary32 / binary64 unit roundoffs -/

theorem agree_example :
    ∃ r32 r64 : ℝ → ℝ, Rnd ((2 : ℝ) ^ (-24 : ℤ)) r32 ∧ Rnd ((2 : ℝ) ^ (-53 : ℤ)) r64 ∧ r32 1 ≠ r64 1 ∧ r32 1 ≠ 1 ∧
      |LF.dot (rndOps r32) [1, 2, 3] [4, 5, 6] - LF.dot (rndOps r64) [1, 2, 3] [4, 5, 6]|
        ≤ (((1 + (2 : ℝ) ^ (-24 : ℤ)) ^ 4 - 1) + ((1 + (2 : ℝ) ^ (-53 : ℤ)) ^ 4 - 1)) * 32 := by
  refine ⟨_, _, rnd_scale_f32, rnd_scale_f64, ?_, ?_, ?_⟩
  · norm_num
  · norm_num
  · have := f32_f64_agree_dot rnd_scale_f32 rnd_scale_f64 [1, 2, 3] [4, 5, 6]
    have e1 : absDot [1, 2, 3] [4, 5, 6] = 32 := by
      simp [absDot]; norm_num
    rw [e1] at this
    exact this

end
end RoundModel
