import NflowsModel.Core.Store
/-!
# Lemmas/StoreTrace — helper lemmas about the storage/ownership machine (C13)
-/
namespace Thin
namespace Store

theorem run_append (σ : St) (t1 t2 : List Ev) : run σ (t1 ++ t2) = run (run σ t1) t2 := by
  simp [run, List.foldl_append]

theorem runV_append {V : Type} (σ : StV V) (t1 t2 : List (EvV V)) :
    runV σ (t1 ++ t2) = runV (runV σ t1) t2 := by
  simp [runV, List.foldl_append]

theorem traceSafe_cons (owned wl : List Nat) (e : Ev) (rest : List Ev) :
    traceSafe owned wl (e :: rest) =
      ((match e with | .write s => (!(owned.contains s) || wl.contains s) | _ => true) && traceSafe owned wl rest) := by
  cases e <;> simp [traceSafe]

theorem traceSafe_append (owned wl : List Nat) (t1 t2 : List Ev) :
    traceSafe owned wl (t1 ++ t2) = (traceSafe owned wl t1 && traceSafe owned wl t2) := by
  induction t1 with
  | nil => simp [traceSafe]
  | cons e rest ih =>
    rw [List.cons_append, traceSafe_cons, traceSafe_cons, ih, Bool.and_assoc]

theorem traceSafe_flatten (owned wl : List Nat) (calls : List (List Ev)) :
    traceSafe owned wl calls.flatten = calls.all (traceSafe owned wl) := by
  induction calls with
  | nil => simp [traceSafe]
  | cons c rest ih => simp [List.flatten_cons, traceSafe_append, ih]

/-- the generated theorems use the largest owned set of the cases that share a skeleton -/
theorem traceSafe_mono_owned (owned owned' wl : List Nat) (tr : List Ev)
    (hsub : ∀ s, owned.contains s = true → owned'.contains s = true)
    (h : traceSafe owned' wl tr = true) : traceSafe owned wl tr = true := by
  induction tr with
  | nil => rfl
  | cons e rest ih =>
    cases e with
    | write s =>
      rw [traceSafe, Bool.and_eq_true] at h ⊢
      refine ⟨?_, ih h.2⟩
      cases ho : owned.contains s
      · rfl
      · have := h.1
        rwa [hsub s ho] at this
    | _ => exact ih h

theorem run_eq_add_writeCount (σ : St) (tr : List Ev) (t : Nat) : run σ tr t = σ t + writeCount t tr := by
  induction tr generalizing σ with
  | nil => simp [run, writeCount]
  | cons e rest ih =>
    have h := ih (step σ e)
    simp only [run, List.foldl_cons] at h ⊢
    rw [h]
    cases e with
    | write s =>
      by_cases hts : t = s
      · subst hts; simp [step, writeCount]; omega
      · have : s ≠ t := fun e => hts e.symm
        simp [step, writeCount, hts, this]
    | _ => rfl

theorem offending_nil_iff (owned wl : List Nat) (tr : List Ev) :
    offending owned wl tr = [] ↔ traceSafe owned wl tr = true := by
  induction tr with
  | nil => simp [offending, traceSafe]
  | cons e rest ih =>
    cases e with
    | write s =>
      simp only [offending, traceSafe]
      cases ho : owned.contains s <;> cases hw : wl.contains s <;> simp [ih]
    | _ => exact ih

theorem mem_offending (owned wl : List Nat) (tr : List Ev) (s : Nat) :
    s ∈ offending owned wl tr ↔ (owned.contains s = true ∧ wl.contains s = false ∧ writeCount s tr ≠ 0) := by
  induction tr with
  | nil => simp [offending, writeCount]
  | cons e rest ih =>
    cases e with
    | write t =>
      rw [offending, writeCount]
      by_cases hts : t = s
      · subst hts
        rw [if_pos rfl]
        by_cases hc : (owned.contains t && !wl.contains t) = true
        · rw [if_pos hc]
          rw [Bool.and_eq_true, Bool.not_eq_true'] at hc
          exact ⟨fun _ => ⟨hc.1, hc.2, by omega⟩, fun _ => List.mem_cons_self⟩
        · rw [if_neg hc, ih]
          rw [Bool.and_eq_true, Bool.not_eq_true'] at hc
          exact ⟨fun h => absurd ⟨h.1, h.2.1⟩ hc, fun h => absurd ⟨h.1, h.2.1⟩ hc⟩
      · rw [if_neg hts, Nat.zero_add]
        split
        · rw [List.mem_cons, ih, or_iff_right fun h => hts h.symm]
        · exact ih
    | _ => exact ih

theorem runV_owned_unchanged {V : Type} (owned wl : List Nat) (tr : List (EvV V))
    (h : traceSafe owned wl (skeleton tr) = true) (σ : StV V) (t : Nat)
    (ht : owned.contains t = true) (hw : wl.contains t = false) : runV σ tr t = σ t := by
  induction tr generalizing σ with
  | nil => rfl
  | cons e rest ih =>
    obtain ⟨ev, f⟩ := e
    cases ev with
    | write s =>
      change traceSafe owned wl (.write s :: skeleton rest) = true at h
      rw [traceSafe, Bool.and_eq_true] at h
      refine (ih h.2 _).trans (if_neg ?_)
      rintro rfl
      rw [ht, hw] at h
      exact Bool.noConfusion h.1
    | _ => exact ih h σ

/-- the check against the owned set `0 … n-1` without building it: a write passes when it goes to a storage numbered
    from `n` up (the tracer numbers the storages allocated inside the call from 1000) or to a whitelisted one -/
def writesFresh (n : Nat) (wl : List Nat) : List Ev → Bool
  | [] => true
  | .write s :: rest => (Nat.ble n s || wl.contains s) && writesFresh n wl rest
  | _ :: rest => writesFresh n wl rest

theorem traceSafe_range (n : Nat) (wl : List Nat) (tr : List Ev) :
    traceSafe (List.range n) wl tr = writesFresh n wl tr := by
  induction tr with
  | nil => rfl
  | cons e rest ih =>
    cases e with
    | write s =>
      have h : (!(List.range n).contains s) = Nat.ble n s := by
        rw [Bool.eq_iff_iff, Bool.not_eq_true', Nat.ble_eq, ← Bool.not_eq_true, List.contains_iff_mem, List.mem_range,
          Nat.not_lt]
      rw [traceSafe, writesFresh, ih, h]
    | _ => exact ih

end Store
end Thin
