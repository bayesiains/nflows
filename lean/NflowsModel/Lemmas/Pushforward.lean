import Mathlib.MeasureTheory.Function.JacobianOneDim
import Mathlib.MeasureTheory.Function.Jacobian
import Mathlib.MeasureTheory.Measure.WithDensity
import Mathlib.Tactic
/-!
# Lemmas/Pushforward — samples of a flow follow `exp(log_prob)` (C04, distribution clause)

`z` is drawn with density `p` (the base distribution), the sample is `x = T⁻¹ z`.  For every measurable event `A`
the probability that the sample lands in `A` is the integral over `A` of `p (T x) · exp (logabsdet x)` — the
density `Flow.log_prob` reports (flows/base.py:42-49).  With `A = (-∞, t]` this is the statement about the
distribution function.  The change-of-variables formula is instantiated once per dimension, on supports `S → V` with
`|T'| = exp ld` (1-D: off a countable set of kinks), and everything else here and in `ChangeOfVar`, `FlowPushforward`,
`FlowBounded`, `FlowMore` is read off.  What is trusted, not proved: that `torch.randn` has density `p`, and the law of
large numbers connecting the empirical distribution function with the probability.
-/
namespace Pushforward

open MeasureTheory

theorem restrict_eq_of_diff_countable {s t K : Set ℝ} (hst : s ⊆ t) (hK : K.Countable) (h : t \ s ⊆ K) :
    (volume : Measure ℝ).restrict s = volume.restrict t := by
  apply Measure.restrict_congr_set
  rw [ae_eq_set]
  refine ⟨?_, measure_mono_null h (hK.measure_zero _)⟩
  rw [Set.sdiff_eq_empty.mpr hst]; exact measure_empty

theorem integral_image_countable_exception (T T' ld p : ℝ → ℝ) (S K : Set ℝ) (hS : MeasurableSet S)
    (hK : K.Countable) (hinj : Set.InjOn T S)
    (hd : ∀ x ∈ S \ K, HasDerivWithinAt T (T' x) (S \ K) x) (habs : ∀ x ∈ S \ K, |T' x| = Real.exp (ld x)) :
    ∫ z in T '' S, p z = ∫ x in S, p (T x) * Real.exp (ld x) := by
  have hm : MeasurableSet (S \ K) := hS.diff hK.measurableSet
  have h := integral_image_eq_integral_abs_deriv_smul hm hd (hinj.mono Set.sdiff_subset) p
  have h1 : (volume : Measure ℝ).restrict (S \ K) = volume.restrict S :=
    restrict_eq_of_diff_countable Set.sdiff_subset hK (fun x hx => by
      by_contra hxK; exact hx.2 ⟨hx.1, hxK⟩)
  have h2 : (volume : Measure ℝ).restrict (T '' (S \ K)) = volume.restrict (T '' S) :=
    restrict_eq_of_diff_countable (Set.image_mono Set.sdiff_subset) (hK.image T) (by
      rintro _ ⟨⟨x, hxS, rfl⟩, hn⟩
      by_cases hxK : x ∈ K
      · exact ⟨x, hxK, rfl⟩
      · exact absurd ⟨x, ⟨hxS, hxK⟩, rfl⟩ hn)
  rw [← h2, h, ← h1]
  apply setIntegral_congr_fun hm
  intro x hx
  show |T' x| • p (T x) = p (T x) * Real.exp (ld x)
  rw [smul_eq_mul, habs x hx, mul_comm]

theorem preimage_inter_eq_image {α β : Type*} (T : α → β) (Tinv : β → α) (S : Set α) (V : Set β)
    (hTS : Set.MapsTo T S V) (hTV : Set.MapsTo Tinv V S)
    (hl : ∀ x ∈ S, Tinv (T x) = x) (hr : ∀ z ∈ V, T (Tinv z) = z) (A : Set α) :
    Tinv ⁻¹' A ∩ V = T '' (A ∩ S) := by
  ext z
  constructor
  · rintro ⟨hzA, hzV⟩; exact ⟨Tinv z, ⟨hzA, hTV hzV⟩, hr z hzV⟩
  · rintro ⟨x, ⟨hxA, hxS⟩, rfl⟩
    exact ⟨by simpa [hl x hxS] using hxA, hTS hxS⟩

/-- **1-D, set form, on supports**: noise with density `p` on `V`, sample `x = Tinv z ∈ S`; for every measurable
    event `A`:  P(sample ∈ A) = ∫_{A ∩ S} p (T x) · exp (ld x) dx. -/
theorem sample_event_probability_on (T Tinv T' ld p : ℝ → ℝ) (S V K : Set ℝ) (hS : MeasurableSet S)
    (hK : K.Countable) (hTS : Set.MapsTo T S V) (hTV : Set.MapsTo Tinv V S)
    (hl : ∀ x ∈ S, Tinv (T x) = x) (hr : ∀ z ∈ V, T (Tinv z) = z)
    (hd : ∀ x ∈ S \ K, HasDerivWithinAt T (T' x) (S \ K) x) (habs : ∀ x ∈ S \ K, |T' x| = Real.exp (ld x))
    (A : Set ℝ) (hA : MeasurableSet A) :
    ∫ z in Tinv ⁻¹' A ∩ V, p z = ∫ x in A ∩ S, p (T x) * Real.exp (ld x) := by
  rw [preimage_inter_eq_image T Tinv S V hTS hTV hl hr A]
  have hinj : Set.InjOn T (A ∩ S) := fun a ha b hb h => by rw [← hl a ha.2, ← hl b hb.2, h]
  have hsub : (A ∩ S) \ K ⊆ S \ K := fun x hx => ⟨hx.1.2, hx.2⟩
  exact integral_image_countable_exception T T' ld p (A ∩ S) K (hA.inter hS) hK hinj
    (fun x hx => (hd x (hsub hx)).mono hsub) (fun x hx => habs x (hsub hx))

theorem integral_image_nd {m : ℕ} (T : (Fin m → ℝ) → (Fin m → ℝ))
    (T' : (Fin m → ℝ) → ((Fin m → ℝ) →L[ℝ] (Fin m → ℝ))) (ld p : (Fin m → ℝ) → ℝ) (S : Set (Fin m → ℝ))
    (hS : MeasurableSet S) (hinj : Set.InjOn T S) (hd : ∀ x ∈ S, HasFDerivWithinAt T (T' x) S x)
    (habs : ∀ x ∈ S, |(T' x).det| = Real.exp (ld x)) :
    ∫ z in T '' S, p z = ∫ x in S, p (T x) * Real.exp (ld x) := by
  rw [integral_image_eq_integral_abs_det_fderiv_smul (μ := volume) hS hd hinj p]
  apply setIntegral_congr_fun hS
  intro x hx
  show |(T' x).det| • p (T x) = p (T x) * Real.exp (ld x)
  rw [smul_eq_mul, habs x hx, mul_comm]

theorem sample_event_probability_on_nd {m : ℕ} (T Tinv : (Fin m → ℝ) → (Fin m → ℝ))
    (T' : (Fin m → ℝ) → ((Fin m → ℝ) →L[ℝ] (Fin m → ℝ))) (ld p : (Fin m → ℝ) → ℝ) (S V : Set (Fin m → ℝ))
    (hS : MeasurableSet S) (hTS : Set.MapsTo T S V) (hTV : Set.MapsTo Tinv V S)
    (hl : ∀ x ∈ S, Tinv (T x) = x) (hr : ∀ z ∈ V, T (Tinv z) = z)
    (hd : ∀ x ∈ S, HasFDerivWithinAt T (T' x) S x) (habs : ∀ x ∈ S, |(T' x).det| = Real.exp (ld x))
    (A : Set (Fin m → ℝ)) (hA : MeasurableSet A) :
    ∫ z in Tinv ⁻¹' A ∩ V, p z = ∫ x in A ∩ S, p (T x) * Real.exp (ld x) := by
  rw [preimage_inter_eq_image T Tinv S V hTS hTV hl hr A]
  exact integral_image_nd T T' ld p (A ∩ S) (hA.inter hS) (fun a ha b hb h => by rw [← hl a ha.2, ← hl b hb.2, h])
    (fun x hx => (hd x hx.2).mono Set.inter_subset_right) (fun x hx => habs x hx.2)

theorem sample_event_probability_1d (T Tinv ld p : ℝ → ℝ)
    (hl : ∀ x, Tinv (T x) = x) (hr : ∀ z, T (Tinv z) = z)
    (hd : ∀ x, HasDerivAt T (Real.exp (ld x)) x) (A : Set ℝ) (hA : MeasurableSet A) :
    ∫ z in Tinv ⁻¹' A, p z = ∫ x in A, p (T x) * Real.exp (ld x) := by
  have h := sample_event_probability_on T Tinv (fun x => Real.exp (ld x)) ld p Set.univ Set.univ ∅ MeasurableSet.univ
    Set.countable_empty (Set.mapsTo_univ _ _) (Set.mapsTo_univ _ _) (fun x _ => hl x) (fun z _ => hr z)
    (fun x _ => (hd x).hasDerivWithinAt) (fun x _ => abs_of_pos (Real.exp_pos _)) A hA
  rwa [Set.inter_univ, Set.inter_univ] at h

theorem sample_event_probability_nd {n : ℕ} (T Tinv : (Fin n → ℝ) → (Fin n → ℝ))
    (T' : (Fin n → ℝ) → ((Fin n → ℝ) →L[ℝ] (Fin n → ℝ))) (ld p : (Fin n → ℝ) → ℝ)
    (hl : ∀ x, Tinv (T x) = x) (hr : ∀ z, T (Tinv z) = z)
    (hd : ∀ x, HasFDerivAt T (T' x) x) (hld : ∀ x, |(T' x).det| = Real.exp (ld x))
    (A : Set (Fin n → ℝ)) (hA : MeasurableSet A) :
    ∫ z in Tinv ⁻¹' A, p z = ∫ x in A, p (T x) * Real.exp (ld x) := by
  have h := sample_event_probability_on_nd T Tinv T' ld p Set.univ Set.univ MeasurableSet.univ
    (Set.mapsTo_univ _ _) (Set.mapsTo_univ _ _) (fun x _ => hl x) (fun z _ => hr z)
    (fun x _ => (hd x).hasFDerivWithinAt) (fun x _ => hld x) A hA
  rwa [Set.inter_univ, Set.inter_univ] at h

theorem map_withDensity_1d (T Tinv d ld : ℝ → ℝ) (p : ℝ → ENNReal)
    (hl : ∀ x, Tinv (T x) = x) (hr : ∀ z, T (Tinv z) = z)
    (hd : ∀ x, HasDerivAt T (d x) x) (habs : ∀ x, |d x| = Real.exp (ld x)) (hTinv : Measurable Tinv) :
    Measure.map Tinv (volume.withDensity p)
      = volume.withDensity (fun x => ENNReal.ofReal (Real.exp (ld x)) * p (T x)) := by
  have hinj : Function.Injective T := fun a b h => by rw [← hl a, ← hl b, h]
  ext A hA
  have himg : Tinv ⁻¹' A = T '' A := by
    have h := preimage_inter_eq_image T Tinv Set.univ Set.univ (Set.mapsTo_univ _ _) (Set.mapsTo_univ _ _)
      (fun x _ => hl x) (fun z _ => hr z) A
    rwa [Set.inter_univ, Set.inter_univ] at h
  have hTA : MeasurableSet (T '' A) := himg ▸ hTinv hA
  rw [Measure.map_apply hTinv hA, himg, withDensity_apply _ hTA, withDensity_apply _ hA,
    lintegral_image_eq_lintegral_abs_deriv_mul hA (fun x _ => (hd x).hasDerivWithinAt) hinj.injOn]
  simp_rw [habs]

end Pushforward
