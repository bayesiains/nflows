import Mathlib.Analysis.SpecialFunctions.Trigonometric.DerivHyp
import Mathlib.Analysis.SpecialFunctions.Log.Deriv
import Mathlib.Analysis.SpecialFunctions.ExpDeriv
import Mathlib.Analysis.SpecialFunctions.Artanh
import Mathlib.Tactic

/-!
# Lemmas/Nonlin — the scalar laws behind the element-wise transformers, as facts about real functions

Derivative `= exp (log-det formula)` and `inverse ∘ forward = id` for `exp`, `tanh`, the sigmoid with temperature and the
leaky ReLU away from its kink (`Properties/C01.lean`, `C02.lean`); the executed programs are attached to them in
`Lemmas/NonlinExec.lean`.
-/
namespace Nonlin

noncomputable section
open Real

/-! Exp (nonlinearities.py:20-34) -/
theorem exp_fwd_deriv (x : ℝ) : HasDerivAt Real.exp (Real.exp x) x := Real.hasDerivAt_exp x   -- logabsdet = x
theorem exp_inv_fwd (x : ℝ) : Real.log (Real.exp x) = x := Real.log_exp x
theorem exp_fwd_inv {y : ℝ} (hy : 0 < y) : Real.exp (Real.log y) = y := Real.exp_log hy

/-! Tanh (nonlinearities.py:37-52): logabsdet = log(1 - tanh² x), computed as 2(log 2 - x - softplus(-2x)); inverse ½ log((1+y)/(1-y)) -/
theorem hasDerivAt_tanh (x : ℝ) : HasDerivAt Real.tanh (1 - Real.tanh x ^ 2) x := by
  have h := (Real.hasDerivAt_sinh x).div (Real.hasDerivAt_cosh x) (Real.cosh_pos x).ne'
  have e : (fun y => Real.sinh y / Real.cosh y) = Real.tanh := by funext y; exact (Real.tanh_eq_sinh_div_cosh y).symm
  have h' : HasDerivAt Real.tanh ((Real.cosh x * Real.cosh x - Real.sinh x * Real.sinh x) / Real.cosh x ^ 2) x := by
    rw [← e]; exact h
  refine h'.congr_deriv ?_
  have hc := (Real.cosh_pos x).ne'
  rw [Real.tanh_eq_sinh_div_cosh]
  field_simp

theorem tanh_deriv (x : ℝ) : HasDerivAt Real.tanh (Real.exp (Real.log (1 - (Real.tanh x)^2))) x := by
  rw [Real.exp_log (sub_pos.mpr (Real.tanh_sq_lt_one x))]
  exact hasDerivAt_tanh x

def artanhCode (y : ℝ) : ℝ := 0.5 * Real.log ((1 + y) / (1 - y))
theorem tanh_inv_fwd (x : ℝ) : artanhCode (Real.tanh x) = x := by
  unfold artanhCode
  rw [show (0.5 : ℝ) = 1 / 2 by norm_num,
    ← Real.artanh_eq_half_log ⟨(Real.neg_one_lt_tanh x).le, (Real.tanh_lt_one x).le⟩, Real.artanh_tanh]

/-! Sigmoid with temperature (nonlinearities.py:145-175): logabsdet = log T - softplus(-Tx) - softplus(Tx) -/
def softplus (z : ℝ) : ℝ := Real.log (1 + Real.exp z)
def sigmoid (z : ℝ) : ℝ := 1 / (1 + Real.exp (-z))

theorem log_one_add_exp (z : ℝ) : Real.log (1 + Real.exp z) = z + Real.log (1 + Real.exp (-z)) := by
  have : 1 + Real.exp z = Real.exp z * (1 + Real.exp (-z)) := by
    rw [mul_add, mul_one, ← Real.exp_add]; simp [add_comm]
  rw [this, Real.log_mul (Real.exp_pos z).ne' (add_pos one_pos (Real.exp_pos _)).ne', Real.log_exp]

theorem sigmoid_deriv {T : ℝ} (hT : 0 < T) (x : ℝ) :
    HasDerivAt (fun x => sigmoid (T * x)) (Real.exp (Real.log T - softplus (-(T*x)) - softplus (T*x))) x := by
  have hpos : 0 < 1 + Real.exp (-(T*x)) := by positivity
  have hpos' : 0 < 1 + Real.exp (T*x) := by positivity
  have hval : Real.exp (Real.log T - softplus (-(T*x)) - softplus (T*x))
      = T / ((1 + Real.exp (-(T*x))) * (1 + Real.exp (T*x))) := by
    unfold softplus
    rw [Real.exp_sub, Real.exp_sub, Real.exp_log hT, Real.exp_log hpos, Real.exp_log hpos']
    field_simp
  rw [hval]
  have hin : HasDerivAt (fun x : ℝ => -(T * x)) (-T) x :=
    (((hasDerivAt_id' x).const_mul T).neg).congr_deriv (by simp)
  have hden : HasDerivAt (fun x : ℝ => 1 + Real.exp (-(T*x))) (Real.exp (-(T*x)) * (-T)) x :=
    (hin.exp).const_add 1
  have h := (hasDerivAt_const x (1:ℝ)).div hden hpos.ne'
  unfold sigmoid
  refine h.congr_deriv ?_
  have he : Real.exp (T*x) = (Real.exp (-(T*x)))⁻¹ := by rw [Real.exp_neg, inv_inv]
  have hp := Real.exp_pos (-(T*x))
  rw [he]
  field_simp
  ring

/-! LeakyReLU (nonlinearities.py:120-142), away from the kink -/
def lrelu (s x : ℝ) : ℝ := if x < 0 then s * x else x
theorem lrelu_deriv_neg {s x : ℝ} (hs : 0 < s) (hx : x < 0) :
    HasDerivAt (lrelu s) (Real.exp (Real.log s * 1)) x := by
  rw [mul_one, Real.exp_log hs]
  have : HasDerivAt (fun y => s * y) s x := by simpa using (hasDerivAt_id' x).const_mul s
  refine this.congr_of_eventuallyEq ?_
  filter_upwards [Iio_mem_nhds hx] with y hy
  simp [lrelu, Set.mem_Iio.mp hy]
theorem lrelu_deriv_pos {s x : ℝ} (hx : 0 < x) : HasDerivAt (lrelu s) (Real.exp (Real.log s * 0)) x := by
  rw [mul_zero, Real.exp_zero]
  refine (hasDerivAt_id' x).congr_of_eventuallyEq ?_
  filter_upwards [Ioi_mem_nhds hx] with y hy
  simp [lrelu, not_lt.mpr (Set.mem_Ioi.mp hy).le]
theorem lrelu_inv {s : ℝ} (hs : 0 < s) (x : ℝ) : lrelu (1/s) (lrelu s x) = x := by
  unfold lrelu
  by_cases hx : x < 0
  · have : s * x < 0 := mul_neg_of_pos_of_neg hs hx
    simp [hx, this]; field_simp
  · simp [hx]

end
end Nonlin
