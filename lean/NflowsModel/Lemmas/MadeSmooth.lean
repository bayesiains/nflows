import NflowsModel.Lemmas.CouplingJacobian
import NflowsModel.Lemmas.ARWholeMadeRow
import Mathlib.Analysis.SpecialFunctions.Trigonometric.DerivHyp
import Mathlib.Analysis.SpecialFunctions.Log.Deriv
/-!
# Lemmas/MadeSmooth — the differentiability hypothesis of the conditioner-based layers DISCHARGED for real networks (C03)

`FlowWholeND.ARRowHyp.hdiff` / `CouplingJacobian.CouplingRowHyp.hdiff` ask for differentiability of the row map THROUGH the
conditioner.  "The value of a unit is a differentiable function of the input batch" is a dependence system of
`Lemmas/MadeNet`, so `forward_dep` about the EXECUTED `Made.forward` makes every output of every valid MADE a differentiable
function of its inputs whenever the per-unit maps are (tanh, sigmoid, softplus, …; NOT ReLU).  The executed `F.softplus` is
differentiable off its threshold `20` and discontinuous at it, which is the one hypothesis the executed MAF layer keeps
(`ARAffineHyp`); with it the layer is an n-D part (`arAffineDiffeo`), coupling layers get `DiffNet` from entry-wise
differentiable conditioners, and a concrete four-layer flow with tanh networks is normalised assuming only `0 ≤ e 1e-3`.

What is NOT covered: the RQ-with-tails autoregressive / coupling layers with an input-dependent conditioner (`ARRowHyp` for a
non-constant MADE).  The row map is `v ↦ spline(θ(v))(v i)`; its differentiability needs the JOINT differentiability of the
executed spline in (parameters, input), which is proved only strictly inside a bin (`Lemmas/DualXRQ`),
not at the knots (which move with the parameters), and which FAILS where an unnormalised derivative parameter crosses the
softplus threshold (the executed `softplus` jumps there, `NF.softplus_not_continuousAt_threshold`).
-/
open MeasureTheory NF DualSound Properties.C03

namespace NF.MadeSmooth
open NF.StructureExec NF.ARWhole NF.Made FlowWholeND NF.CouplingJacobian

/-! ## 1. Every output of the executed MADE is a differentiable function of the inputs -/

section made
variable {E : Type} [NormedAddCommGroup E] [NormedSpace ℝ E]

/-- the dependence system "differentiable along every differentiable parametrisation of the input batch" (the degree plays
    no role): `f : RM (Fin B)` is the value of a unit for all rows of the batch as a function of the batch `X b j` -/
def diffDep (B : ℕ) (E : Type) [NormedAddCommGroup E] [NormedSpace ℝ E] : DepSys (NF.Made.realOps (Fin B)) where
  Dep := fun _ f => ∀ φ : E → Fin B → ℕ → ℝ, (∀ b j, Differentiable ℝ fun p => φ p b j) →
    Differentiable ℝ fun p => f (φ p)
  mono := fun _ hv => hv
  zero := by
    intro d φ _
    exact differentiable_const _
  add := by
    intro d f g hf hg φ hφ
    exact (hf φ hφ).add (hg φ hφ)
  smul := by
    intro d f s hf φ hφ
    exact (hf φ hφ).const_smul s

theorem realParams_good_diff {B : ℕ} (W : ℕ → ℕ → ℕ → ℝ) (bias : ℕ → ℕ → ℝ) (ctxv : ℕ → ℕ → Fin B → ℝ)
    (g : ℕ → Slot → ℕ → (Fin B → ℝ) → Fin B → ℝ) (hg : ∀ s sl k, Differentiable ℝ (g s sl k)) :
    (realParams W bias ctxv g).Good (diffDep B E) where
  bias := by
    intro l k d φ _
    exact differentiable_const _
  ctx := by
    intro s k d φ _
    exact differentiable_const _
  um := by
    intro s sl k d v hv φ hφ
    exact (hg s sl k).comp (hv φ hφ)

theorem realInputs_ok_diff (B F : ℕ) : StOk (diffDep B E) ((inputDegrees F).zip (realInputs (Fin B) F)) := by
  intro p hp
  rw [List.mem_iff_getElem] at hp
  obtain ⟨i, hi, rfl⟩ := hp
  intro φ hφ
  simp only [List.getElem_zip, realInputs, List.getElem_map, List.getElem_range]
  rw [differentiable_pi]
  intro b
  exact hφ b i

/-- **every output of the executed MADE is differentiable in the inputs**: any valid net, any weights, biases, context
    contributions, any per-unit maps that are differentiable maps of the unit's column over the batch (a differentiable
    activation applied row by row, batch norm in evaluation mode = an affine map, dropout off = the identity), along any
    differentiable parametrisation `φ` of the input batch -/
theorem madeReal_differentiable {B : ℕ} (n : Net) (hv : n.valid = true) (W : ℕ → ℕ → ℕ → ℝ) (bias : ℕ → ℕ → ℝ)
    (ctxv : ℕ → ℕ → Fin B → ℝ) (g : ℕ → Slot → ℕ → (Fin B → ℝ) → Fin B → ℝ)
    (hg : ∀ s sl k, Differentiable ℝ (g s sl k))
    (φ : E → Fin B → ℕ → ℝ) (hφ : ∀ b j, Differentiable ℝ fun p => φ p b j) (b : Fin B) (u : ℕ) :
    Differentiable ℝ fun p => madeReal n W bias ctxv g (φ p) b u := by
  unfold madeReal
  by_cases hu : u < (outputs (NF.Made.realOps (Fin B)) (realParams W bias ctxv g) n (realInputs (Fin B) n.F)).length
  · simp only [List.getD_eq_getElem?_getD, List.getElem?_eq_getElem hu, Option.getD_some]
    have hlen : u < (forward (NF.Made.realOps (Fin B)) (realParams W bias ctxv g) n (realInputs (Fin B) n.F)).length := by
      simpa [outputs] using hu
    have h := forward_dep (D := diffDep B E) (realParams_good_diff W bias ctxv g hg) n hv _ (realInputs_ok_diff B n.F) _
      (List.getElem_mem hlen) _ (Nat.le_succ _) φ hφ
    have h2 := (differentiable_pi.1 h) b
    have hget : (outputs (NF.Made.realOps (Fin B)) (realParams W bias ctxv g) n (realInputs (Fin B) n.F))[u]
        = (forward (NF.Made.realOps (Fin B)) (realParams W bias ctxv g) n (realInputs (Fin B) n.F))[u].2 := by
      simp [outputs]
    rw [hget]
    exact h2
  · simp only [List.getD_eq_getElem?_getD, List.getElem?_eq_none (Nat.le_of_not_lt hu), Option.getD_none]
    exact differentiable_const _

theorem madeNet_one (n : Net) (W : ℕ → ℕ → ℕ → ℝ) (bias : ℕ → ℕ → ℝ) (ctxv : ℕ → ℕ → Fin 1 → ℝ)
    (g : ℕ → Slot → ℕ → (Fin 1 → ℝ) → Fin 1 → ℝ) (x : Array ℝ) :
    madeNet n W bias 1 ctxv g x
      = ((List.range (n.F * n.m)).map fun u => madeReal n W bias ctxv g (batchOf 1 n.F x) ⟨0, Nat.one_pos⟩ u).toArray := by
  unfold madeNet
  simp [List.range_one]

theorem madeNet_entry_differentiable (n : Net) (hv : n.valid = true) (W : ℕ → ℕ → ℕ → ℝ) (bias : ℕ → ℕ → ℝ)
    (ctxv : ℕ → ℕ → Fin 1 → ℝ) (g : ℕ → Slot → ℕ → (Fin 1 → ℝ) → Fin 1 → ℝ)
    (hg : ∀ s sl k, Differentiable ℝ (g s sl k)) (k : ℕ) :
    Differentiable ℝ fun v : Fin n.F → ℝ => (madeNet n W bias 1 ctxv g (Array.ofFn v)).getD k 0 := by
  simp only [madeNet_one]
  exact listArray_getD_differentiable _
    (fun u v => madeReal n W bias ctxv g (batchOf 1 n.F (Array.ofFn v)) ⟨0, Nat.one_pos⟩ u)
    (fun u => madeReal_differentiable n hv W bias ctxv g hg (fun v => batchOf 1 n.F (Array.ofFn v))
      (fun b j => ofFn_getD_differentiable _) _ u) k

theorem rowwise_differentiable {B : ℕ} (act : ℝ → ℝ) (hact : Differentiable ℝ act) :
    Differentiable ℝ fun (col : Fin B → ℝ) (b : Fin B) => act (col b) := by
  rw [differentiable_pi]
  intro b
  exact hact.comp (differentiable_apply b)

theorem madeRowNet_entry_differentiable (n : Net) (hv : n.valid = true) (W : ℕ → ℕ → ℕ → ℝ) (bias : ℕ → ℕ → ℝ)
    (ctxr : ℕ → ℕ → ℕ → ℝ) (act : ℕ → Slot → ℕ → ℝ → ℝ) (hact : ∀ s sl k, Differentiable ℝ (act s sl k)) (k : ℕ) :
    Differentiable ℝ fun v : Fin n.F → ℝ => (madeRowNet n W bias 1 ctxr act (Array.ofFn v)).getD k 0 := by
  rw [madeRowNet_eq]
  exact madeNet_entry_differentiable n hv W bias _ _ (fun s sl k => rowwise_differentiable _ (hact s sl k)) k

end made

/-! ## 2. The executed `softplus` (threshold 20) -/

theorem log1pexp_differentiable : Differentiable ℝ fun u : ℝ => Real.log (1 + Real.exp u) := by
  intro u
  have hne : (1 : ℝ) + Real.exp u ≠ 0 := by have := Real.exp_pos u; linarith
  have h : DifferentiableAt ℝ (fun y : ℝ => 1 + Real.exp y) u :=
    (differentiableAt_const (1 : ℝ)).add Real.differentiable_exp.differentiableAt
  exact h.log hne

theorem softplus_differentiableAt (e : Float → ℝ) {u : ℝ} (hu : u ≠ 20) :
    DifferentiableAt ℝ (NF.realX e).softplus u := by
  rcases lt_or_gt_of_ne hu with h | h
  · have heq : (NF.realX e).softplus =ᶠ[nhds u] fun y => Real.log (1 + Real.exp y) := by
      filter_upwards [Iio_mem_nhds h] with y hy
      rw [realX_softplus, if_neg (not_lt.2 (le_of_lt hy))]
    exact (log1pexp_differentiable u).congr_of_eventuallyEq heq
  · have heq : (NF.realX e).softplus =ᶠ[nhds u] fun y => y := by
      filter_upwards [Ioi_mem_nhds h] with y hy
      rw [realX_softplus, if_pos (Set.mem_Ioi.1 hy)]
    exact differentiableAt_id.congr_of_eventuallyEq heq

/-! ## 3. The executed masked AFFINE autoregressive layer (MAF) as an n-D part -/

section ar
variable (e : Float → ℝ) (c : ElCfg) (F : ℕ) (net : Array ℝ → Array ℝ)

/-- the hypotheses on the executed `MaskedAffineAutoregressiveTransform`: the affine element, `eps` read as a non-negative
    real, a strictly autoregressive conditioner (C06) whose outputs are entry-wise differentiable in the row, and no
    unconstrained scale exactly AT the threshold of the executed `softplus` (where it jumps:
    `NF.softplus_not_continuousAt_threshold`) -/
structure ARAffineHyp : Prop where
  hk : c.kind = "araffine"
  he : 0 ≤ e (c.ds.getD 0 0.0)
  hnet : AutoregNet 1 F 2 net
  hsmooth : ∀ k, Differentiable ℝ fun v : Fin F → ℝ => (net (Array.ofFn v)).getD k 0
  hthr : ∀ (v : Fin F → ℝ) (i : Fin F), (net (Array.ofFn v)).getD (i.1 * 2) 0 ≠ 20

variable {e c F net}

theorem arSlice_affine_scale (hk : c.kind = "araffine") (params : Array ℝ) (i : ℕ) :
    afScale (NF.realX e) c (arSlice (NF.realX e) c F params 0 i)
      = (NF.realX e).softplus (params.getD (i * 2) 0) + e (c.ds.getD 0 0.0) := by
  simp only [afScale, arSlice, pw_araffine hk, Nat.zero_mul, Nat.zero_add, show List.range 2 = [0, 1] from rfl,
    List.map_cons, List.getD_cons_zero, realX_zero, realX_add, realX_ofFloat, Nat.add_zero]

theorem arSlice_affine_shift (hk : c.kind = "araffine") (params : Array ℝ) (i : ℕ) :
    (arSlice (NF.realX e) c F params 0 i).getD 1 0 = params.getD (i * 2 + 1) 0 := by
  simp only [arSlice, pw_araffine hk, Nat.zero_mul, Nat.zero_add, show List.range 2 = [0, 1] from rfl,
    List.map_cons, List.getD_cons_succ, List.getD_cons_zero, realX_zero]

theorem arAffineRowT_apply (hk : c.kind = "araffine") (v : Fin F → ℝ) (i : Fin F) :
    arRowT e c F net v i
      = v i * ((NF.realX e).softplus ((net (Array.ofFn v)).getD (i.1 * 2) 0) + e (c.ds.getD 0 0.0))
        + (net (Array.ofFn v)).getD (i.1 * 2 + 1) 0 := by
  rw [arRowT_eq, elMap_affine e c hk, arSlice_affine_scale hk, arSlice_affine_shift hk]

theorem arAffineRow_differentiableAt (hk : c.kind = "araffine") (v : Fin F → ℝ)
    (hsmooth : ∀ k, DifferentiableAt ℝ (fun w : Fin F → ℝ => (net (Array.ofFn w)).getD k 0) v)
    (hthr : ∀ i : Fin F, (net (Array.ofFn v)).getD (i.1 * 2) 0 ≠ 20) :
    DifferentiableAt ℝ (arRowT e c F net) v := by
  rw [differentiableAt_pi]
  intro i
  have hfun : (fun v : Fin F → ℝ => arRowT e c F net v i)
      = fun v => v i * ((NF.realX e).softplus ((net (Array.ofFn v)).getD (i.1 * 2) 0) + e (c.ds.getD 0 0.0))
        + (net (Array.ofFn v)).getD (i.1 * 2 + 1) 0 := by
    funext v
    exact arAffineRowT_apply hk v i
  rw [hfun]
  have h1 : DifferentiableAt ℝ (fun v : Fin F → ℝ => (NF.realX e).softplus ((net (Array.ofFn v)).getD (i.1 * 2) 0)) v :=
    DifferentiableAt.comp (g := (NF.realX e).softplus) (f := fun w : Fin F → ℝ => (net (Array.ofFn w)).getD (i.1 * 2) 0) v
      (softplus_differentiableAt e (hthr i)) (hsmooth (i.1 * 2))
  have hi : DifferentiableAt ℝ (fun w : Fin F → ℝ => w i) v := differentiable_apply i v
  exact (hi.mul (h1.add_const _)).add (hsmooth (i.1 * 2 + 1))

theorem arAffineRow_differentiable (h : ARAffineHyp e c F net) : Differentiable ℝ (arRowT e c F net) :=
  fun v => arAffineRow_differentiableAt h.hk v (fun k => h.hsmooth k v) (h.hthr v)

/-- **C01 for the executed MAF row with NO hypothesis on the Jacobian**: at every row `v` where the conditioner is entry-wise
    differentiable and no unconstrained scale sits at the softplus threshold, the log-abs-det the executed forward pass returns
    is `log |det|` of the (existing) Fréchet derivative of the executed row map -/
theorem ar_affine_row_logdet_at (hk : c.kind = "araffine") (he : 0 ≤ e (c.ds.getD 0 0.0)) (hnet : AutoregNet 1 F 2 net)
    (v : Fin F → ℝ)
    (hsmooth : ∀ k, DifferentiableAt ℝ (fun w : Fin F → ℝ => (net (Array.ofFn w)).getD k 0) v)
    (hthr : ∀ i : Fin F, (net (Array.ofFn v)).getD (i.1 * 2) 0 ≠ 20) :
    arRowLd e c F net v = Real.log |(fderiv ℝ (arRowT e c F net) v).det| := by
  rw [arRow_abs_det_of (by rw [pw_araffine hk]; exact hnet) v (arAffineRow_differentiableAt hk v hsmooth hthr)
    fun i => elMap_affine_hasDerivAt e c hk he F (Array.ofFn v) (net (Array.ofFn v)) 0 i, Real.log_exp]

theorem arAffineRow_bijective (h : ARAffineHyp e c F net) : Function.Bijective (arRowT e c F net) :=
  arRow_bijective_of
    (fun v => (ar_affine_roundtrip_real e c h.hk h.he 1 F net h.hnet (Array.ofFn v) (by simp)).1.2.2.1)
    (fun y => (ar_affine_roundtrip_real e c h.hk h.he 1 F net h.hnet (Array.ofFn y) (by simp)).2.2.2.1)

theorem arAffineRow_abs_det (h : ARAffineHyp e c F net) (v : Fin F → ℝ) :
    |(fderiv ℝ (arRowT e c F net) v).det| = Real.exp (arRowLd e c F net v) :=
  arRow_abs_det_of (by rw [pw_araffine h.hk]; exact h.hnet) v (arAffineRow_differentiable h v)
    fun i => elMap_affine_hasDerivAt e c h.hk h.he F (Array.ofFn v) (net (Array.ofFn v)) 0 i

/-- **the executed masked affine autoregressive layer (MAF) as an n-D part** — no differentiability hypothesis on the row
    map is left: it follows from the entry-wise differentiability of the conditioner -/
noncomputable def arAffineDiffeo (h : ARAffineHyp e c F net) : DiffeoN F where
  T := arRowT e c F net
  T' := fun v => fderiv ℝ (arRowT e c F net) v
  ld := arRowLd e c F net
  bij := arAffineRow_bijective h
  deriv := fun v => (arAffineRow_differentiable h v).hasFDerivAt
  ld_eq := arAffineRow_abs_det h

/-- **MAF with the executed MADE conditioner**: every `build`-accepted architecture with multiplier 2, every real weight /
    bias / context assignment, every family of differentiable per-unit maps — the only thing left is that no unconstrained
    scale sits exactly at the softplus threshold -/
theorem made_arAffineHyp (hk : c.kind = "araffine") (he : 0 ≤ e (c.ds.getD 0 0.0)) (a : Arch) (n : Net)
    (hbuild : build a = .ok n) (hmult : a.mult = 2) (W : ℕ → ℕ → ℕ → ℝ) (bias : ℕ → ℕ → ℝ)
    (ctxv : ℕ → ℕ → Fin 1 → ℝ) (g : ℕ → Slot → ℕ → (Fin 1 → ℝ) → Fin 1 → ℝ)
    (hg : ∀ s sl k, Differentiable ℝ (g s sl k))
    (hthr : ∀ (v : Fin n.F → ℝ) (i : Fin n.F), (madeNet n W bias 1 ctxv g (Array.ofFn v)).getD (i.1 * 2) 0 ≠ 20) :
    ARAffineHyp e c n.F (madeNet n W bias 1 ctxv g) := by
  obtain ⟨hv, hF, hm, hFa, hma⟩ := build_valid hbuild
  refine ⟨hk, he, ?_, madeNet_entry_differentiable n hv W bias ctxv g hg, hthr⟩
  have := madeNet_autoreg n hv hm W bias 1 ctxv g
  rwa [hma, hmult] at this

theorem madeRow_arAffineHyp (hk : c.kind = "araffine") (he : 0 ≤ e (c.ds.getD 0 0.0)) (a : Arch) (n : Net)
    (hbuild : build a = .ok n) (hmult : a.mult = 2) (W : ℕ → ℕ → ℕ → ℝ) (bias : ℕ → ℕ → ℝ)
    (ctxr : ℕ → ℕ → ℕ → ℝ) (act : ℕ → Slot → ℕ → ℝ → ℝ) (hact : ∀ s sl k, Differentiable ℝ (act s sl k))
    (hthr : ∀ (v : Fin n.F → ℝ) (i : Fin n.F), (madeRowNet n W bias 1 ctxr act (Array.ofFn v)).getD (i.1 * 2) 0 ≠ 20) :
    ARAffineHyp e c n.F (madeRowNet n W bias 1 ctxr act) := by
  rw [madeRowNet_eq] at hthr ⊢
  exact made_arAffineHyp hk he a n hbuild hmult W bias _ _ (fun s sl k => rowwise_differentiable _ (hact s sl k)) hthr

end ar

/-! ## 4. Coupling layers: conditioners given by differentiable functions (perceptrons with a differentiable activation) -/

section coupling

/-- **any conditioner whose outputs are differentiable functions of (the first `n` entries of) its input is `DiffNet`**, for
    every mask: with `couplingRowHyp_additive_diffNet` / `couplingRowHyp_affine_diffNet` the executed additive (NICE) and
    affine (RealNVP, default scale activation `sigmoid(u + 2) + 1e-3`) coupling layers are n-D parts with NO differentiability
    hypothesis left -/
theorem diffNet_of_entries (e : Float → ℝ) (mask : List ℝ) (C m n : ℕ) (f : Fin m → (Fin n → ℝ) → ℝ)
    (hf : ∀ k, Differentiable ℝ (f k)) :
    DiffNet e mask C (fun z => Array.ofFn fun k : Fin m => f k (fun j => z.getD j 0)) := fun k =>
  ofFn_getD_differentiable_of (fun (j : Fin m) (v : Fin C → ℝ) => f j fun i : Fin n =>
      (idSplit (NF.realX e) mask 1 (Array.ofFn v)).getD i 0)
    (fun j => (hf j).comp (differentiable_pi.2 fun i => idSplit_entry_differentiable e mask C i)) k

def mlp {n h m : ℕ} (act : ℝ → ℝ) (A1 : Fin h → Fin n → ℝ) (b1 : Fin h → ℝ) (A2 : Fin m → Fin h → ℝ) (b2 : Fin m → ℝ)
    (k : Fin m) (z : Fin n → ℝ) : ℝ :=
  b2 k + ∑ r, A2 k r * act (b1 r + ∑ j, A1 r j * z j)

theorem mlp_differentiable {n h m : ℕ} (act : ℝ → ℝ) (hact : Differentiable ℝ act) (A1 : Fin h → Fin n → ℝ)
    (b1 : Fin h → ℝ) (A2 : Fin m → Fin h → ℝ) (b2 : Fin m → ℝ) (k : Fin m) :
    Differentiable ℝ (mlp act A1 b1 A2 b2 k) := by
  unfold mlp
  have hj : ∀ j : Fin n, Differentiable ℝ fun z : Fin n → ℝ => z j := fun j => differentiable_apply j
  have hin : ∀ r : Fin h, Differentiable ℝ fun z : Fin n → ℝ => b1 r + ∑ j, A1 r j * z j := fun r =>
    (differentiable_const _).add (Differentiable.fun_sum fun j _ => (hj j).const_mul (A1 r j))
  exact (differentiable_const _).add (Differentiable.fun_sum fun r _ => (hact.comp (hin r)).const_mul (A2 k r))

theorem tanh_differentiable : Differentiable ℝ Real.tanh := by
  have h : Real.tanh = fun x => Real.sinh x / Real.cosh x := by
    funext x; exact Real.tanh_eq_sinh_div_cosh x
  rw [h]
  exact Real.differentiable_sinh.div Real.differentiable_cosh (fun x => (Real.cosh_pos x).ne')

theorem sigmoid_differentiable : Differentiable ℝ fun x : ℝ => 1 / (1 + Real.exp (-x)) := by
  have hne : ∀ x : ℝ, 1 + Real.exp (-x) ≠ 0 := fun x => by have := Real.exp_pos (-x); linarith
  exact (differentiable_const (1 : ℝ)).div
    ((differentiable_const (1 : ℝ)).add (Real.differentiable_exp.comp differentiable_id.neg)) hne

/-- ELU (`alpha = 1`) -/
noncomputable def elu (x : ℝ) : ℝ := if 0 < x then x else Real.exp x - 1

/-- ELU is differentiable everywhere (the two branches meet at `0` with the same value and the same slope) -/
theorem elu_differentiable : Differentiable ℝ elu := by
  have h00 : elu 0 = 0 := by unfold elu; rw [if_neg (lt_irrefl 0), Real.exp_zero, sub_self]
  intro x
  rcases lt_trichotomy x 0 with h | rfl | h
  · exact ((Real.differentiable_exp x).sub_const 1).congr_of_eventuallyEq
      (Filter.eventually_of_mem (Iio_mem_nhds h) fun y hy => if_neg (not_lt.2 (le_of_lt hy)))
  · have hl : HasDerivWithinAt elu 1 (Set.Iic 0) 0 := by
      have h1 : HasDerivWithinAt (fun y => Real.exp y - 1) 1 (Set.Iic 0) 0 := by
        have h2 := (Real.hasDerivAt_exp 0).sub_const 1
        rw [Real.exp_zero] at h2
        exact h2.hasDerivWithinAt
      exact h1.congr (fun y hy => if_neg (not_lt.2 hy)) (if_neg (lt_irrefl 0))
    have hr : HasDerivWithinAt elu 1 (Set.Ici 0) 0 := by
      refine (hasDerivAt_id (0 : ℝ)).hasDerivWithinAt.congr (fun y hy => ?_) h00
      rcases eq_or_lt_of_le (Set.mem_Ici.1 hy) with h0 | h0
      · rw [← h0]; exact h00
      · exact if_pos h0
    have hu := hl.union hr
    rw [Set.Iic_union_Ici, hasDerivWithinAt_univ] at hu
    exact hu.differentiableAt
  · exact differentiableAt_id.congr_of_eventuallyEq
      (Filter.eventually_of_mem (Ioi_mem_nhds h) fun y hy => if_pos hy)

end coupling

/-! ## 5. End to end: pipelines that also contain the executed MAF layer -/

section pipeline

/-- a layer on `[B, n]` inputs: one of the layers of `CouplingJacobian.ExecLayer2` (RQ-CDF with linear tails, permutation,
    LU / QR / SVD linear, masked-autoregressive RQ, coupling) or the executed masked AFFINE autoregressive layer -/
inductive ExecLayer3 (e : Float → ℝ) (n : ℕ) where
  | base (L : ExecLayer2 e n)
  /-- `MaskedAffineAutoregressiveTransform` with conditioner `net` (e.g. the executed MADE with a differentiable activation:
      `made_arAffineHyp`, `madeRow_arAffineHyp`) -/
  | maf (c : ElCfg) (net : Array ℝ → Array ℝ) (h : ARAffineHyp e c n net)

variable {e : Float → ℝ}

noncomputable def ExecLayer3.run {n : ℕ} : ExecLayer3 e n → (Fin n → ℝ) → (Fin n → ℝ) × ℝ
  | .base L, v => L.run v
  | .maf c net _, v =>
    let r := arForward (NF.realX e) c 1 n net (Array.ofFn v)
    (fun i => r.out.getD i 0, r.ld.getD 0 0)

noncomputable def ExecLayer3.part {n : ℕ} : ExecLayer3 e n → DiffeoN n
  | .base L => L.part
  | .maf _ _ h => arAffineDiffeo h

theorem ExecLayer3.run_eq {n : ℕ} (L : ExecLayer3 e n) (v : Fin n → ℝ) : L.run v = (L.part.T v, L.part.ld v) := by
  cases L with
  | base L => exact ExecLayer2.run_eq L v
  | maf c net h => rfl

/-- RUN a list of layers in the order given, accumulating the log-abs-dets (`CompositeTransform._cascade`) -/
noncomputable def runAll3 {n : ℕ} : List (ExecLayer3 e n) → (Fin n → ℝ) → (Fin n → ℝ) × ℝ
  | [], v => (v, 0)
  | L :: rest, v => ((runAll3 rest (L.run v).1).1, (L.run v).2 + (runAll3 rest (L.run v).1).2)

theorem runAll3_eq {n : ℕ} (Ls : List (ExecLayer3 e n)) (v : Fin n → ℝ) :
    runAll3 Ls v = ((progN (Ls.map ExecLayer3.part)).T v, (progN (Ls.map ExecLayer3.part)).ld v) := by
  induction Ls generalizing v with
  | nil => rfl
  | cons L rest ih =>
    simp only [runAll3, List.map_cons, ExecLayer3.run_eq L v, ih]
    rfl

/-- **End to end, WITH the executed MAF layer**: `Flow(CompositeTransform(layers), StandardNormal([n])).log_prob`, every layer
    RUN by its executed program and the base by the executed `stdNormalRow`, is a normalised probability density -/
theorem executed_pipeline3_normalised {n : ℕ} (Ls : List (ExecLayer3 e n)) :
    ∫ x : Fin n → ℝ, Real.exp (NF.Density.stdNormalRow (NF.realX e) n (List.ofFn (runAll3 Ls x).1) + (runAll3 Ls x).2) = 1 := by
  simp_rw [runAll3_eq Ls]
  exact executed_flow_normalised e _

/-- the same over the executed `DiagonalNormal` / `ConditionalDiagonalNormal` row -/
theorem executed_pipeline3_normalised_diag {n : ℕ} (means logStds : List ℝ) (hm : means.length = n)
    (hl : logStds.length = n) (Ls : List (ExecLayer3 e n)) :
    ∫ x : Fin n → ℝ, Real.exp (NF.Density.diagNormalRow (NF.realX e) n means logStds (List.ofFn (runAll3 Ls x).1)
        + (runAll3 Ls x).2) = 1 := by
  simp_rw [runAll3_eq Ls]
  exact executed_flow_normalised_cond e means logStds hm hl _

end pipeline

/-! ## 6. A concrete flow: MAF with a tanh MADE, RealNVP coupling with a tanh perceptron -/

section witness

/-- `MADE(features=2, hidden_features=2, num_blocks=0, output_multiplier=2)`: one hidden layer of two units -/
def exMaf : Arch :=
  { F := 2, H := 2, nBlocks := 0, mult := 2, residual := false, random := false, nde := false, ctx := 0, bn := false }

/-- the net the modelled constructor builds for it: both hidden units have degree 1 -/
def exNet : Net :=
  { F := 2, m := 2, d0 := [1, 1], blocks := [], residual := false, nde := false, hasCtx := false, bn := false }

theorem exMaf_builds : build exMaf = .ok exNet := by rfl

/-- the executed MADE of that architecture on a row, in closed form (any weights, biases, activation): the two parameters of
    feature 0 are constants, those of feature 1 see `x0` through the two hidden units, nothing sees `x1` -/
theorem exNet_row (W : ℕ → ℕ → ℕ → ℝ) (bias : ℕ → ℕ → ℝ) (ctxr : ℕ → ℕ → ℝ) (act : ℝ → ℝ) (x0 x1 : ℝ) :
    madeRow exNet W bias ctxr (fun _ _ _ => act) [x0, x1] =
      [bias 1 0, bias 1 1,
       bias 1 2 + (W 1 2 0 * act (bias 0 0 + W 0 0 0 * x0) + W 1 2 1 * act (bias 0 1 + W 0 1 0 * x0)),
       bias 1 3 + (W 1 3 0 * act (bias 0 0 + W 0 0 0 * x0) + W 1 3 1 * act (bias 0 1 + W 0 1 0 * x0))] := by
  simp [madeRow, outputs, forward, exNet, linear, mapUnits, blocksFwd, inputDegrees, outputDegrees, tile, maskEntry,
    msum, scalarOps, rowParams, nLinears, List.range_succ]

theorem exNet_net (W : ℕ → ℕ → ℕ → ℝ) (bias : ℕ → ℕ → ℝ) (ctxr : ℕ → ℕ → ℕ → ℝ) (act : ℝ → ℝ) (v : Fin 2 → ℝ) :
    madeRowNet exNet W bias 1 ctxr (fun _ _ _ => act) (Array.ofFn v) =
      #[bias 1 0, bias 1 1,
       bias 1 2 + (W 1 2 0 * act (bias 0 0 + W 0 0 0 * v 0) + W 1 2 1 * act (bias 0 1 + W 0 1 0 * v 0)),
       bias 1 3 + (W 1 3 0 * act (bias 0 0 + W 0 0 0 * v 0) + W 1 3 1 * act (bias 0 1 + W 0 1 0 * v 0))] := by
  have hrow : rowList exNet.F (Array.ofFn v) 0 = [v 0, v 1] := by
    simp [rowList, exNet, List.range_succ]
  simp only [madeRowNet, List.range_one, List.flatMap_cons, List.flatMap_nil, List.append_nil, hrow, exNet_row]

theorem abs_mul_tanh_le (w t : ℝ) : |w * Real.tanh t| ≤ |w| := by
  rw [abs_mul]
  have h : |Real.tanh t| ≤ 1 := abs_le.2 ⟨(Real.neg_one_lt_tanh t).le, (Real.tanh_lt_one t).le⟩
  calc |w| * |Real.tanh t| ≤ |w| * 1 := mul_le_mul_of_nonneg_left h (abs_nonneg w)
    _ = |w| := mul_one _

/-- **`ARAffineHyp` for the MAF layer with the executed tanh MADE `exNet`**, every weight and bias assignment whose
    unconstrained-scale head stays below the softplus threshold (`|b| + Σ |w| < 20` on the output unit of feature 1, `b ≠ 20`
    on that of feature 0): nothing else is assumed -/
theorem exNet_arAffineHyp {e : Float → ℝ} {c : ElCfg} (hk : c.kind = "araffine") (he : 0 ≤ e (c.ds.getD 0 0.0))
    (W : ℕ → ℕ → ℕ → ℝ) (bias : ℕ → ℕ → ℝ) (ctxr : ℕ → ℕ → ℕ → ℝ)
    (hb0 : bias 1 0 ≠ 20) (hb1 : |bias 1 2| + |W 1 2 0| + |W 1 2 1| < 20) :
    ARAffineHyp e c 2 (madeRowNet exNet W bias 1 ctxr (fun _ _ _ => Real.tanh)) := by
  have key : ∀ (v : Fin 2 → ℝ) (i : Fin 2),
      (madeRowNet exNet W bias 1 ctxr (fun _ _ _ => Real.tanh) (Array.ofFn v)).getD (i.1 * 2) 0 ≠ 20 := by
    intro v i
    rw [exNet_net]
    have hi : i.1 = 0 ∨ i.1 = 1 := by
      have := i.2
      omega
    rcases hi with hi | hi
    · rw [hi]; simpa using hb0
    · rw [hi]
      have h1 := abs_mul_tanh_le (W 1 2 0) (bias 0 0 + W 0 0 0 * v 0)
      have h2 := abs_mul_tanh_le (W 1 2 1) (bias 0 1 + W 0 1 0 * v 0)
      have h3 := le_abs_self (bias 1 2)
      have h4 := le_abs_self (W 1 2 0 * Real.tanh (bias 0 0 + W 0 0 0 * v 0))
      have h5 := le_abs_self (W 1 2 1 * Real.tanh (bias 0 1 + W 0 1 0 * v 0))
      have hlt : bias 1 2 + (W 1 2 0 * Real.tanh (bias 0 0 + W 0 0 0 * v 0)
          + W 1 2 1 * Real.tanh (bias 0 1 + W 0 1 0 * v 0)) < 20 := by linarith
      simpa using ne_of_lt hlt
  exact madeRow_arAffineHyp hk he exMaf exNet exMaf_builds rfl W bias ctxr _
    (fun _ _ _ => tanh_differentiable) key

/-- **the concrete flow**: 2 features,
    `[MaskedAffineAutoregressiveTransform with the tanh MADE exNet (all hidden and output weights 1/2, biases 0),
      permutation, AffineCouplingTransform (mask [0, 1]) whose conditioner is ANY one-hidden-layer tanh perceptron,
      LULinear]` over `StandardNormal([2])`: every layer run by its executed program — `exp(log_prob)` integrates to one.
    The only hypothesis: the constant `1e-3` of both layers is read as a non-negative real. -/
example (e : Float → ℝ) (he : 0 ≤ e 1e-3) {h : ℕ} (A1 : Fin h → Fin 1 → ℝ) (b1 : Fin h → ℝ) (A2 : Fin 2 → Fin h → ℝ)
    (b2 : Fin 2 → ℝ) :
    ∃ Ls : List (ExecLayer3 e 2), Ls.length = 4 ∧
      ∫ x : Fin 2 → ℝ, Real.exp (NF.Density.stdNormalRow (NF.realX e) 2 (List.ofFn (runAll3 Ls x).1)
        + (runAll3 Ls x).2) = 1 :=
  ⟨[.maf exAffine _ (exNet_arAffineHyp (c := exAffine) rfl he (fun _ _ _ => 1 / 2) (fun _ _ => 0) (fun _ _ _ => 0)
        (by norm_num) (by norm_num [abs_of_pos])),
    .base (.base (.perm (Equiv.swap 0 1))),
    .base (.coupling { kind := "affine" } [0, 1] _
      (couplingRowHyp_affine_diffNet he rfl (by decide) rfl
        (diffNet_of_entries e [0, 1] 2 2 1 (mlp Real.tanh A1 b1 A2 b2)
          (mlp_differentiable Real.tanh tanh_differentiable A1 b1 A2 b2)))),
    .base (.base (.lu [3] [5] [0, 1] [1, -1] (1 / 1000) rfl (by norm_num) rfl))],
   rfl, executed_pipeline3_normalised _⟩

end witness

end NF.MadeSmooth
