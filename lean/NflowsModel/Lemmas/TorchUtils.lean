import NflowsModel.Core.TorchUtils
import NflowsModel.Lemmas.Pairing
import Mathlib.Tactic
import Mathlib.LinearAlgebra.Matrix.Determinant.Basic
import Mathlib.Analysis.SpecialFunctions.Log.Basic
/-!
# Lemmas/TorchUtils — list / index algebra behind the C20 theorems about `Core/TorchUtils`
-/
namespace NF.TU
variable {α β : Type}

/-! ## products of shapes, row-major offsets -/

theorem prodL_append (a b : List Nat) : prodL (a ++ b) = prodL a * prodL b := by
  induction a with
  | nil => simp [prodL]
  | cons x t ih => simp [prodL, ih, Nat.mul_assoc]

theorem prodL_take_drop (s : List Nat) (k : Nat) : prodL (s.take k) * prodL (s.drop k) = prodL s := by
  rw [← prodL_append, List.take_append_drop]

/-- row-major offset of the multi-index `idx` in a tensor of shape `shape` (as `View.dot idx (rowMajor shape)`) -/
def flatIdx : List Nat → List Nat → Nat
  | _ :: ss, i :: is => i * prodL ss + flatIdx ss is
  | _, _ => 0

theorem flatIdx_append (s t a b : List Nat) (h : a.length = s.length) :
    flatIdx (s ++ t) (a ++ b) = flatIdx s a * prodL t + flatIdx t b := by
  induction s generalizing a with
  | nil =>
    obtain rfl := List.length_eq_zero_iff.mp h
    simp only [List.nil_append, flatIdx, Nat.zero_mul, Nat.zero_add]
  | cons x ss ih =>
    obtain _ | ⟨i, a'⟩ := a
    · cases h
    · simp only [List.cons_append, flatIdx, ih a' (Nat.succ.inj h), prodL_append]
      rw [Nat.add_mul, Nat.mul_assoc, Nat.add_assoc]

/-! ## replicate / chunk / transpose -/

theorem flatten_replicate_drop (n r : Nat) (d : List α) (h : r ≤ n) :
    ((List.replicate n d).flatten).drop (r * d.length) = (List.replicate (n - r) d).flatten := by
  obtain ⟨m, rfl⟩ := Nat.exists_eq_add_of_le h
  rw [Nat.add_sub_cancel_left, List.replicate_add, List.flatten_append]
  exact List.drop_left' (by simp)

theorem chunkRows_repeatFlat (n : Nat) (d : List α) :
    chunkRows n d.length (repeatFlat n d) = List.replicate n d := by
  unfold chunkRows repeatFlat
  have hc : List.replicate n d = (List.range n).map (fun _ => d) := by simp
  refine Eq.trans ?_ hc.symm
  apply List.map_congr_left
  intro r hr
  have hr' : r < n := List.mem_range.mp hr
  rw [flatten_replicate_drop n r d hr'.le]
  obtain ⟨m, hm⟩ : ∃ m, n - r = m + 1 := ⟨n - r - 1, by omega⟩
  rw [hm, List.replicate_succ, List.flatten_cons, List.take_left']
  rfl

/-- the reshape/repeat/transpose pipeline of `tile` is "each entry `n` times, consecutively": the rows after the
    reshape are `n` copies of `d`, so column `i` of the transpose is `n` copies of `d[i]` -/
theorem tileL_eq_repeatRows (d : List α) (n : Nat) : tileL d n = Pairing.repeatRows d n := by
  simp only [tileL, transposeRows, chunkRows_repeatFlat, Pairing.repeatRows, List.flatMap_def]
  congr 1
  apply List.ext_getElem (by simp only [List.length_map, List.length_range])
  intro i h₁ h₂
  rw [List.length_map, List.length_range] at h₁
  simp only [List.getElem_map, List.getElem_range]
  exact List.filterMap_replicate_of_some (List.getElem?_eq_getElem h₁)

/-! ## `inferSize` (reshape with at most one `-1`) -/

def fillDim (q : Nat) (d : Int) : Nat := if d == -1 then q else d.toNat

theorem ofNat_ne_neg1 (a : Nat) : (Int.ofNat a == -1) = false := by
  simp only [beq_eq_false_iff_ne, ne_eq, Int.ofNat_eq_natCast]; omega

theorem filter_eq_neg1_ofNat (l : List Nat) : (l.map Int.ofNat).filter (· == -1) = [] := by
  rw [List.filter_eq_nil_iff]; intro a ha
  obtain ⟨b, _, rfl⟩ := List.mem_map.mp ha
  simp [ofNat_ne_neg1]

theorem any_lt_neg1_ofNat (l : List Nat) : (l.map Int.ofNat).any (· < -1) = false := by
  rw [List.any_eq_false]; intro a ha
  obtain ⟨b, _, rfl⟩ := List.mem_map.mp ha
  simp only [Int.ofNat_eq_natCast, decide_eq_true_eq]; omega

theorem any_eq_neg1_ofNat (l : List Nat) : (l.map Int.ofNat).any (· == -1) = false := by
  rw [List.any_eq_false]; intro a ha
  obtain ⟨b, _, rfl⟩ := List.mem_map.mp ha
  simp [ofNat_ne_neg1]

theorem filter_ne_neg1_ofNat (l : List Nat) : (l.map Int.ofNat).filter (· != -1) = l.map Int.ofNat := by
  rw [List.filter_eq_self]; intro a ha
  obtain ⟨b, _, rfl⟩ := List.mem_map.mp ha
  simp [bne, ofNat_ne_neg1]

theorem map_toNat_ofNat (l : List Nat) : (l.map Int.ofNat).map Int.toNat = l := by
  rw [List.map_map]; conv_rhs => rw [← List.map_id l]
  apply List.map_congr_left; intro a _; simp

theorem map_fillDim_ofNat (q : Nat) (l : List Nat) : (l.map Int.ofNat).map (fillDim q) = l := by
  rw [List.map_map]; conv_rhs => rw [← List.map_id l]
  apply List.map_congr_left; intro a _
  simp [fillDim, ofNat_ne_neg1]

theorem inferSize_eq (numel : Nat) (sh : List Int) :
    inferSize numel sh =
      if (sh.filter (· == -1)).length > 1 then .error .runtime
      else if sh.any (· < -1) then .error .runtime
      else
        let newsize := prodL ((sh.filter (· != -1)).map Int.toNat)
        let hasInfer := sh.any (· == -1)
        if numel == newsize || (hasInfer && decide (0 < newsize) && numel % newsize == 0) then
          if hasInfer then
            if newsize == 0 then .error .runtime
            else .ok (sh.map (fillDim (numel / newsize)))
          else .ok (sh.map Int.toNat)
        else .error .runtime := rfl

theorem prodL_map_fillDim (q : Nat) (sh : List Int) :
    prodL (sh.map (fillDim q)) = q ^ (sh.filter (· == -1)).length * prodL ((sh.filter (· != -1)).map Int.toNat) := by
  induction sh with
  | nil => simp [prodL]
  | cons d t ih =>
    by_cases hd : d = -1
    · subst hd
      simp only [List.map_cons, prodL, ih, fillDim, beq_self_eq_true, if_true, List.filter_cons, bne_self_eq_false,
        Bool.false_eq_true, if_false, List.length_cons]
      ring
    · have h1 : (d == -1) = false := by simpa using hd
      have h2 : (d != -1) = true := by simp [bne, h1]
      simp only [List.map_cons, prodL, ih, fillDim, h1, Bool.false_eq_true, if_false, List.filter_cons, h2, if_true]
      ring

theorem filter_pos_of_any (sh : List Int) (h : sh.any (· == -1) = true) : 0 < (sh.filter (· == -1)).length := by
  rw [List.any_eq_true] at h
  obtain ⟨a, ha, hb⟩ := h
  exact List.length_pos_of_mem (List.mem_filter.mpr ⟨ha, hb⟩)

theorem filter_eq_neg1_of_any (sh : List Int) (h : sh.any (· == -1) = false) : sh.filter (· == -1) = [] :=
  List.filter_eq_nil_iff.mpr (List.any_eq_false.mp h)

theorem filter_ne_neg1_of_any (sh : List Int) (h : sh.any (· == -1) = false) : sh.filter (· != -1) = sh :=
  List.filter_eq_self.mpr fun a ha => by
    rw [bne, Bool.not_eq_true']
    exact Bool.eq_false_iff.mpr (List.any_eq_false.mp h a ha)

theorem map_toNat_eq_fillDim (q : Nat) (sh : List Int) (h : sh.any (· == -1) = false) :
    sh.map Int.toNat = sh.map (fillDim q) :=
  List.map_congr_left fun a ha => by
    rw [fillDim, if_neg (List.any_eq_false.mp h a ha)]

theorem inferSize_of_explicit (numel : Nat) (sh : List Int) (h0 : sh.any (· == -1) = false)
    (hge : sh.any (· < -1) = false) :
    inferSize numel sh = if numel = prodL (sh.map Int.toNat) then .ok (sh.map Int.toNat) else .error .runtime := by
  rw [inferSize_eq, filter_eq_neg1_of_any sh h0, if_neg (show ¬ ([] : List Int).length > 1 from Nat.not_lt_zero 1), hge,
    if_neg Bool.false_ne_true]
  simp only [h0, filter_ne_neg1_of_any sh h0, Bool.false_and, Bool.or_false, beq_iff_eq, Bool.false_eq_true, if_false]

/-- one `-1` (nothing below it): succeeds iff the explicit product is positive and divides the element count; the `-1`
    becomes the quotient -/
theorem inferSize_of_infer (numel : Nat) (sh : List Int) (h1 : (sh.filter (· == -1)).length = 1)
    (hge : sh.any (· < -1) = false) :
    inferSize numel sh =
      if 0 < prodL ((sh.filter (· != -1)).map Int.toNat) ∧ prodL ((sh.filter (· != -1)).map Int.toNat) ∣ numel then
        .ok (sh.map (fillDim (numel / prodL ((sh.filter (· != -1)).map Int.toNat)))) else .error .runtime := by
  have c3 : sh.any (· == -1) = true := by
    obtain ⟨a, ha⟩ := List.exists_mem_of_length_pos (h1 ▸ Nat.one_pos)
    exact List.any_eq_true.mpr ⟨a, List.mem_filter.mp ha⟩
  rw [inferSize_eq, h1, if_neg (Nat.lt_irrefl 1), hge, if_neg Bool.false_ne_true]
  simp only [c3, Bool.true_and, if_true]
  generalize prodL ((sh.filter (· != -1)).map Int.toNat) = P
  by_cases hP : P = 0
  · subst hP
    rw [if_neg (c := 0 < 0 ∧ 0 ∣ numel) fun h => Nat.lt_irrefl 0 h.1]; simp
  · have hpos : 0 < P := Nat.pos_of_ne_zero hP
    by_cases hd : P ∣ numel
    · rw [if_pos (c := 0 < P ∧ P ∣ numel) ⟨hpos, hd⟩]; simp [Nat.mod_eq_zero_of_dvd hd, hpos, hP]
    · have hm : numel % P ≠ 0 := fun h => hd (Nat.dvd_of_mod_eq_zero h)
      have hne : numel ≠ P := fun h => hd (h ▸ dvd_refl _)
      rw [if_neg (c := 0 < P ∧ P ∣ numel) fun h => hd h.2]; simp [hm, hne]

theorem inferSize_infer_cons (numel : Nat) (rest : List Nat) (hp : 0 < prodL rest) (hdiv : numel % prodL rest = 0) :
    inferSize numel ((-1 : Int) :: rest.map Int.ofNat) = .ok ((numel / prodL rest) :: rest) := by
  have e1 : ((-1 : Int) :: rest.map Int.ofNat).filter (· == -1) = [-1] := by
    rw [List.filter_cons_of_pos (by rfl), filter_eq_neg1_ofNat]
  have e2 : ((-1 : Int) :: rest.map Int.ofNat).filter (· != -1) = rest.map Int.ofNat := by
    rw [List.filter_cons_of_neg (by decide), filter_ne_neg1_ofNat]
  have hge : ((-1 : Int) :: rest.map Int.ofNat).any (· < -1) = false := by
    rw [List.any_cons, any_lt_neg1_ofNat]; rfl
  rw [inferSize_of_infer _ _ (by rw [e1]; rfl) hge, e2, map_toNat_ofNat,
    if_pos ⟨hp, Nat.dvd_of_mod_eq_zero hdiv⟩, List.map_cons, map_fillDim_ofNat]
  rfl

theorem inferSize_exact (s : List Nat) : inferSize (prodL s) (s.map Int.ofNat) = .ok s := by
  rw [inferSize_of_explicit _ _ (any_eq_neg1_ofNat s) (any_lt_neg1_ofNat s), map_toNat_ofNat, if_pos rfl]

theorem mergeLeading_ok (x : T α) (k : ℕ) (hk1 : 0 < k) (hk : k ≤ x.shape.length) :
    mergeLeading x (.int k) = .ok ⟨prodL (x.shape.take k) :: x.shape.drop k, x.data⟩ := by
  have h1 : isPositiveInt (.int (k : Int)) = true := by simp [isPositiveInt, asInt]; omega
  have hk' : natOf (.int (k : Int)) = k := by simp [natOf, asInt]
  have hnot : ¬ (k > x.shape.length) := by omega
  have hnum : x.numel = prodL (prodL (x.shape.take k) :: x.shape.drop k) := by
    simp only [T.numel, prodL]; exact (prodL_take_drop x.shape k).symm
  simp only [mergeLeading, h1, hk', hnot, Bool.not_true, Bool.false_eq_true, if_false, reshape]
  rw [hnum, inferSize_exact]

theorem inferSize_ok {numel : Nat} {sh : List Int} {s : List Nat} (h : inferSize numel sh = .ok s) :
    ∃ q, s = sh.map (fillDim q) ∧ prodL s = numel := by
  have c1 : ¬ (sh.filter (· == -1)).length > 1 := fun c => by
    rw [inferSize_eq, if_pos c] at h; cases h
  have c2 : sh.any (· < -1) = false := by
    cases hb : sh.any (· < -1)
    · rfl
    · rw [inferSize_eq, if_neg c1, hb, if_pos rfl] at h; cases h
  cases c3 : sh.any (· == -1)
  · rw [inferSize_of_explicit numel sh c3 c2] at h
    by_cases hn : numel = prodL (sh.map Int.toNat)
    · rw [if_pos hn] at h
      obtain rfl := Except.ok.inj h
      exact ⟨0, map_toNat_eq_fillDim 0 sh c3, hn.symm⟩
    · rw [if_neg hn] at h; cases h
  · have hcnt : (sh.filter (· == -1)).length = 1 := by have := filter_pos_of_any sh c3; omega
    rw [inferSize_of_infer numel sh hcnt c2] at h
    by_cases hc : 0 < prodL ((sh.filter (· != -1)).map Int.toNat) ∧ prodL ((sh.filter (· != -1)).map Int.toNat) ∣ numel
    · rw [if_pos hc] at h
      obtain rfl := Except.ok.inj h
      exact ⟨_, rfl, by rw [prodL_map_fillDim, hcnt, pow_one]; exact Nat.div_mul_cancel hc.2⟩
    · rw [if_neg hc] at h; cases h

/-! ## rows of a flat tensor -/

theorem chunkRows_length (b r : Nat) (d : List α) : (chunkRows b r d).length = b := by simp [chunkRows]

theorem chunkRows_getElem? (b r : Nat) (d : List α) (i : Nat) (hi : i < b) :
    (chunkRows b r d)[i]? = some ((d.drop (i * r)).take r) := by
  simp [chunkRows, List.getElem?_map, List.getElem?_range hi]

theorem chunkRows_row_length (b r : Nat) (d : List α) (hd : d.length = b * r) :
    ∀ row ∈ chunkRows b r d, row.length = r := by
  intro row hrow
  simp only [chunkRows, List.mem_map, List.mem_range] at hrow
  obtain ⟨i, hi, rfl⟩ := hrow
  rw [List.length_take, List.length_drop, hd]
  refine Nat.min_eq_left (Nat.le_sub_of_add_le ?_)
  rw [Nat.add_comm, ← Nat.succ_mul]
  exact Nat.mul_le_mul_right r hi

theorem chunkRows_entry (b r : Nat) (d : List α) (i c : Nat) (hi : i < b) (hc : c < r) :
    ((chunkRows b r d)[i]?).bind (fun row => row[c]?) = d[i * r + c]? := by
  rw [chunkRows_getElem? b r d i hi]
  simp only [Option.bind_some]
  rw [List.getElem?_take_of_lt hc, List.getElem?_drop]

/-! ## bin search on a strictly increasing list -/

/-- on a strictly increasing list the entries `≤ x` form a prefix: with `c` their number, the first `c` entries are `≤ x`
    and every later entry is `> x` -/
theorem sorted_filter_prefix [LinearOrder α] (L : List α) (h : L.Pairwise (· < ·)) (x : α) :
    (∀ i, i < (L.filter (fun t => decide (t ≤ x))).length → ∃ v, L[i]? = some v ∧ v ≤ x) ∧
    (∀ i v, (L.filter (fun t => decide (t ≤ x))).length ≤ i → L[i]? = some v → x < v) := by
  induction L with
  | nil => exact ⟨fun i hi => absurd hi (Nat.not_lt_zero i), fun i v _ hv => nomatch hv⟩
  | cons a t ih =>
    obtain ⟨hat, ht⟩ := List.pairwise_cons.mp h
    obtain ⟨ih1, ih2⟩ := ih ht
    by_cases hax : a ≤ x
    · rw [List.filter_cons, if_pos (decide_eq_true hax)]
      constructor
      · rintro (_ | j) hi
        · exact ⟨a, rfl, hax⟩
        · exact ih1 j (Nat.lt_of_succ_lt_succ hi)
      · rintro (_ | j) v hi hv
        · exact absurd hi (Nat.not_succ_le_zero _)
        · exact ih2 j v (Nat.le_of_succ_le_succ hi) hv
    · -- `x < a`, and `a` is below every later entry: nothing passes the filter
      have hxa : x < a := not_le.mp hax
      rw [List.filter_cons, if_neg (by rwa [decide_eq_true_eq]), List.filter_eq_nil_iff.mpr]
      · constructor
        · intro i hi; exact absurd hi (Nat.not_lt_zero i)
        · rintro (_ | j) v _ hv
          · exact Option.some.inj hv ▸ hxa
          · exact lt_trans hxa (hat v (List.mem_of_getElem? hv))
      · intro b hb
        rw [decide_eq_true_eq, not_le]
        exact lt_trans hxa (hat b hb)

/-- the primitive comparisons of `o` are those of a linear order (true of `realX`; of IEEE floats on non-NaN values) -/
structure OrderedX [LinearOrder α] (o : XOps α) : Prop where
  le_iff : ∀ a b, o.le a b = decide (a ≤ b)
  lt_iff : ∀ a b, o.lt a b = decide (a < b)

/-- the specification of `torchutils.logabsdet` (torchutils.py:64-68, `slogdet` trusted): `log |det M|` -/
noncomputable def logabsdetR {n : ℕ} (M : Matrix (Fin n) (Fin n) ℝ) : ℝ := Real.log |M.det|

/-! ## counting in masks -/

theorem count_one_map_ite {ι : Type} (l : List ι) (p : ι → Prop) [DecidablePred p] :
    (l.map fun i => if p i then 1 else 0).count 1 = l.countP fun i => decide (p i) := by
  rw [List.count_eq_countP, List.countP_map]
  refine List.countP_congr fun i _ => ?_
  by_cases h : p i <;> simp [h]

theorem countP_range_succ (p : Nat → Prop) [DecidablePred p] (n : Nat) :
    (List.range (n + 1)).countP (fun i => decide (p i)) =
      (List.range n).countP (fun i => decide (p i)) + if p n then 1 else 0 := by
  rw [List.range_succ, List.countP_append, List.countP_singleton]
  simp only [decide_eq_true_eq]

theorem countP_range_lt (n k : Nat) : (List.range n).countP (fun i => decide (i < k)) = min k n := by
  induction n with
  | zero => exact (Nat.min_zero k).symm
  | succ n ih =>
    rw [countP_range_succ, ih]
    by_cases h : n < k
    · rw [if_pos h, Nat.min_eq_right (Nat.le_of_lt h), Nat.min_eq_right (Nat.succ_le_of_lt h)]
    · rw [if_neg h, Nat.min_eq_left (Nat.le_of_not_lt h), Nat.min_eq_left (Nat.le_succ_of_le (Nat.le_of_not_lt h)),
        Nat.add_zero]

theorem half_succ (a : Nat) : (a + 1) / 2 = a / 2 + a % 2 := by
  have h : (a % 2 + 1) / 2 = a % 2 := by
    rcases Nat.mod_two_eq_zero_or_one a with h | h <;> rw [h]
  conv_lhs => rw [← Nat.div_add_mod a 2, Nat.add_assoc, Nat.mul_add_div Nat.two_pos, h]

theorem ite_mod_two (n r : Nat) (hr : r < 2) : (if n % 2 = r then 1 else 0) = (n + 1 - r) % 2 := by
  obtain rfl | rfl : r = 0 ∨ r = 1 := Nat.le_one_iff_eq_zero_or_eq_one.mp (Nat.le_of_lt_succ hr)
  · rcases Nat.mod_two_eq_zero_or_one n with h | h
    · rw [if_pos h, Nat.sub_zero, Nat.succ_mod_two_eq_one_iff.mpr h]
    · rw [if_neg (h ▸ Nat.one_ne_zero), Nat.sub_zero, Nat.succ_mod_two_eq_zero_iff.mpr h]
  · rw [Nat.add_sub_cancel]
    rcases Nat.mod_two_eq_zero_or_one n with h | h <;> rw [h] <;> rfl

theorem countP_range_mod2 (n r : Nat) (hr : r < 2) :
    (List.range n).countP (fun i => decide (i % 2 = r)) = (n + 1 - r) / 2 := by
  induction n with
  | zero => exact (Nat.div_eq_of_lt (Nat.lt_of_le_of_lt (Nat.sub_le 1 r) Nat.one_lt_two)).symm
  | succ n ih =>
    rw [countP_range_succ, ih, ite_mod_two n r hr,
      Nat.succ_sub (Nat.le_trans (Nat.le_of_lt_succ hr) (Nat.le_add_left 1 n)), half_succ]

theorem midpoint_eq (n : Nat) : midpoint n = (n + 1) / 2 := by
  rw [half_succ, midpoint]
  rcases Nat.mod_two_eq_zero_or_one n with h | h <;> rw [h] <;> rfl

end NF.TU

open NF NF.TU

namespace Properties.C20
variable {α : Type}

/-- **bin search**, for the executable `searchsortedG` at any linearly ordered scalar semantics: on strictly increasing
    knots `init ++ [l]` (`K = |init| > 0` bins), if the value written to the last edge exceeds `l`, then for
    `x ∈ [first, l]` the result is an index `i < K` with `knot i ≤ x` and (`x < knot (i+1)`, or `i` is the last bin and
    `x` is the closed right end). -/
theorem searchsorted_spec [LinearOrder α] (o : XOps α) (ho : OrderedX o) (eps : Float) (init : List α) (l x : α)
    (hs : (init ++ [l]).Pairwise (· < ·)) (hb : l < bumpedLast o eps l)
    (first : α) (hfirst : init.head? = some first) (hlo : first ≤ x) (hhi : x ≤ l) :
    ∃ i : ℕ, searchsortedG o eps (init ++ [l]) x = (i : Int) ∧ i < init.length ∧
      ∃ lo hi, (init ++ [l])[i]? = some lo ∧ (init ++ [l])[i + 1]? = some hi ∧ lo ≤ x ∧
        (x < hi ∨ (i + 1 = init.length ∧ x = l)) := by
  have hsi : init.Pairwise (· < ·) := (List.pairwise_append.mp hs).1
  obtain ⟨p1, p2⟩ := sorted_filter_prefix init hsi x
  set c := (init.filter (fun t => decide (t ≤ x))).length with hc
  have hcK : c ≤ init.length := List.length_filter_le _ _
  have hne : init ≠ [] := by intro h; simp [h] at hfirst
  have hc1 : 1 ≤ c := by
    by_contra hcon
    have h0 : c = 0 := Nat.lt_one_iff.mp (not_le.mp hcon)
    have h00 : init[0]? = some first := by
      cases init with
      | nil => simp at hfirst
      | cons a t => simpa using hfirst
    exact absurd (p2 0 first h0.le h00) (not_lt.mpr hlo)
  -- the count computed by the code
  have hcount : searchsortedG o eps (init ++ [l]) x = (c : Int) - 1 := by
    have hxb : ¬ bumpedLast o eps l ≤ x := not_le.mpr (lt_of_le_of_lt hhi hb)
    simp only [searchsortedG, List.reverse_append, List.reverse_cons, List.reverse_nil, List.nil_append, List.singleton_append,
      List.reverse_reverse, XOps.ge, ho.le_iff, List.filter_append, List.length_append]
    have : bumpedLast o eps l = o.maxA (o.add l (o.ofFloat eps)) (o.nextUp l) := rfl
    rw [← this, List.filter_cons_of_neg (by simpa using hxb), List.filter_nil, List.length_nil, Nat.add_zero]
    rfl
  have hlt : c - 1 < c := Nat.sub_lt hc1 Nat.one_pos
  refine ⟨c - 1, by rw [hcount, Nat.cast_sub hc1, Nat.cast_one], hlt.trans_le hcK, ?_⟩
  obtain ⟨lo, hlo1, hlo2⟩ := p1 (c - 1) hlt
  have hidx : c - 1 + 1 = c := Nat.sub_add_cancel hc1
  rw [hidx]
  by_cases hcl : c < init.length
  · obtain ⟨hi, hhi1⟩ : ∃ hi, init[c]? = some hi := ⟨init[c], by simp [hcl]⟩
    refine ⟨lo, hi, ?_, ?_, hlo2, Or.inl (p2 c hi le_rfl hhi1)⟩
    · rw [List.getElem?_append_left (hlt.trans_le hcK)]; exact hlo1
    · rw [List.getElem?_append_left hcl]; exact hhi1
  · have hceq : c = init.length := le_antisymm hcK (not_lt.mp hcl)
    refine ⟨lo, l, ?_, ?_, hlo2, ?_⟩
    · rw [List.getElem?_append_left (hlt.trans_le hcK)]; exact hlo1
    · rw [hceq]; simp
    · rcases lt_or_eq_of_le hhi with h | h
      · exact Or.inl h
      · exact Or.inr ⟨hceq, h⟩

end Properties.C20
