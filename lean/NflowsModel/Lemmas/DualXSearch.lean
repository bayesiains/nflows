import NflowsModel.Lemmas.DualXParam
/-!
# Lemmas/DualXSearch — the executed search and a term of a spline program along a curve of dual lists (C16)

A spline program run on dual numbers compares, counts and gathers.  Away from a tie a comparison of two dual curves is locally
constant and is the comparison the dual run makes, so with the input off every knot the search of the real program stays put
along the curve and is the search of the dual run: no order of the knots and no validity of the parameters away from the base
point is needed.  What is gathered is then a dual list (`IsDualL`), and a term evaluated on it is a dual number (`evalX_isDual`).
-/
open NF DualSound DualX Filter Topology

namespace DualXParam
noncomputable section

variable {e : Float → ℝ} {t : ℝ}

/-! ### comparisons and the search -/

theorem le_eventually {f g : ℝ → ℝ} {a b : ℝ × ℝ} (ha : IsDual f t a) (hb : IsDual g t b) (hne : a.1 ≠ b.1) :
    ∀ᶠ s in 𝓝 t, (NF.realX e).le (f s) (g s) = (dualX (NF.realX e)).le a b := by
  simp only [d_le, NF.realX_le]
  rw [ha.1, hb.1] at hne ⊢
  rcases lt_or_gt_of_ne hne with h | h
  · filter_upwards [ha.2.continuousAt.eventually_lt hb.2.continuousAt h] with s hs
    rw [decide_eq_true hs.le, decide_eq_true h.le]
  · filter_upwards [hb.2.continuousAt.eventually_lt ha.2.continuousAt h] with s hs
    rw [decide_eq_false (not_le.mpr hs), decide_eq_false (not_le.mpr h)]

theorem count_eventually {X : ℝ → ℝ} {dx : ℝ × ℝ} (hX : IsDual X t dx) :
    ∀ {ds : List (ℝ × ℝ)} {F : ℝ → List ℝ}, IsDualL F t ds → (∀ d ∈ ds, d.1 ≠ dx.1) →
      ∀ᶠ s in 𝓝 t, ((F s).filter (fun l => (NF.realX e).ge (X s) l)).length
        = (ds.filter (fun l => (dualX (NF.realX e)).ge dx l)).length
  | [], F, h, _ => by
    rw [h.eq_nil]; exact Eventually.of_forall fun _ => rfl
  | d :: ds, F, h, hne => by
    obtain ⟨f, G, rfl, hf, hG⟩ := h.uncons
    filter_upwards [count_eventually hX hG (fun d' hd' => hne d' (List.mem_cons_of_mem _ hd')),
      le_eventually (e := e) hf hX (hne d List.mem_cons_self)] with s hs1 hs2
    simp only [XOps.ge] at hs1
    simp only [List.filter_cons, XOps.ge, hs2]
    split_ifs
    · rw [List.length_cons, List.length_cons, hs1]
    · exact hs1

/-- the knot list `searchsortedG` compares with: the last knot closed on the right by `eps` -/
def bump {α : Type} (o : XOps α) (eps : Float) (locs : List α) : List α :=
  match locs.reverse with
  | [] => []
  | l :: r => ((o.maxA (o.add l (o.ofFloat eps)) (o.nextUp l)) :: r).reverse

theorem searchsortedG_eq_bump {α : Type} (o : XOps α) (eps : Float) (locs : List α) (x : α) :
    searchsortedG o eps locs x = (Int.ofNat ((bump o eps locs).filter (fun l => o.ge x l)).length) - 1 := rfl

/-- `maxA (l + eps) (nextUp l)` is off its tie as `nextUp` is the identity at the reals and `eps ≠ 0` -/
theorem bump_dualL (eps : Float) (he : e eps ≠ 0) {ds : List (ℝ × ℝ)} {F : ℝ → List ℝ} (h : IsDualL F t ds) :
    IsDualL (fun s => bump (NF.realX e) eps (F s)) t (bump (dualX (NF.realX e)) eps ds) := by
  have hr := IsDualL.reverse h
  unfold bump
  cases hd : ds.reverse with
  | nil =>
    rw [hd] at hr
    have : ∀ s, (F s).reverse = [] := fun s => congrFun hr.eq_nil s
    simp only [this]; exact IsDualL.nil t
  | cons d r =>
    rw [hd] at hr
    obtain ⟨f, G, hFG, hf, hG⟩ := hr.uncons
    have : ∀ s, (F s).reverse = f s :: G s := fun s => congrFun hFG s
    simp only [this]
    refine IsDualL.reverse (IsDualL.cons (IsDual.maxA e (IsDual.add e hf (IsDual.ofFloat e eps t)) (IsDual.nextUp e hf) ?_) hG)
    simp only [d_add, d_ofFloat, d_nextUp]
    intro h0; exact he (by linarith)

theorem searchsortedG_dual (eps : Float) (he : e eps ≠ 0) {L : ℝ → List ℝ} {dl : List (ℝ × ℝ)} {X : ℝ → ℝ} {dx : ℝ × ℝ}
    (hL : IsDualL L t dl) (hX : IsDual X t dx) (hoff : ∀ l ∈ bump (NF.realX e) eps (L t), l ≠ X t) :
    ∀ᶠ s in 𝓝 t, searchsortedG (NF.realX e) eps (L s) (X s) = searchsortedG (dualX (NF.realX e)) eps dl dx := by
  have hB := bump_dualL eps he hL
  have hne : ∀ d ∈ bump (dualX (NF.realX e)) eps dl, d.1 ≠ dx.1 := by
    intro d hd
    rw [hX.1]
    refine hoff d.1 ?_
    rw [← hB.map_fst]
    exact List.mem_map_of_mem hd
  filter_upwards [count_eventually (e := e) hX hB hne] with s hs
  rw [searchsortedG_eq_bump, searchsortedG_eq_bump, hs]

theorem searchsortedG_dual_at (eps : Float) {L : ℝ → List ℝ} {dl : List (ℝ × ℝ)} {X : ℝ → ℝ} {dx : ℝ × ℝ}
    (hL : IsDualL L t dl) (hX : IsDual X t dx) :
    searchsortedG (dualX (NF.realX e)) eps dl dx = searchsortedG (NF.realX e) eps (L t) (X t) := by
  rw [(fst_hom e).searchsortedG, hL.map_fst, hX.1]

/-! ### strictly inside a bin of increasing knots the input is off every knot the search compares with -/

theorem off_of_pairwise (kn : List ℝ) (hp : kn.Pairwise (· < ·)) (k : ℕ) (hk : k + 1 < kn.length) (x : ℝ)
    (h0 : kn.getD k 0 < x) (h1 : x < kn.getD (k+1) 0) :
    (∀ y ∈ kn, y ≠ x) ∧ ∀ b, kn.getLast? = some b → x < b := by
  rw [List.getD_eq_getElem?_getD, List.getElem?_eq_getElem (Nat.lt_of_succ_lt hk)] at h0
  rw [List.getD_eq_getElem?_getD, List.getElem?_eq_getElem hk] at h1
  have hp' := List.pairwise_iff_getElem.mp hp
  have hlo : ∀ j (hj : j < kn.length), j ≤ k → kn[j] < x := fun j hj h => by
    rcases h.eq_or_lt with rfl | h'
    · exact h0
    · exact (hp' j k hj (Nat.lt_of_succ_lt hk) h').trans h0
  have hhi : ∀ j (hj : j < kn.length), k + 1 ≤ j → x < kn[j] := fun j hj h => by
    rcases h.eq_or_lt with rfl | h'
    · exact h1
    · exact h1.trans (hp' (k+1) j hk hj h')
  refine ⟨fun y hy => ?_, fun b hb => ?_⟩
  · obtain ⟨j, hj, rfl⟩ := List.mem_iff_getElem.mp hy
    rcases Nat.lt_or_ge k j with h | h
    · exact (hhi j hj h).ne'
    · exact (hlo j hj h).ne
  · have hj : kn.length - 1 < kn.length := Nat.sub_one_lt (Nat.ne_of_gt (Nat.zero_lt_of_lt hk))
    rw [List.getLast?_eq_getElem?, List.getElem?_eq_getElem hj] at hb
    rw [← Option.some.inj hb]
    exact hhi _ hj (Nat.le_sub_one_of_lt hk)

theorem bump_off (eps : Float) (he : 0 < e eps) (l : List ℝ) (x : ℝ) (hoff : ∀ y ∈ l, y ≠ x)
    (hlast : ∀ b, l.getLast? = some b → x < b) : ∀ y ∈ bump (NF.realX e) eps l, y ≠ x := by
  unfold bump
  cases hr : l.reverse with
  | nil => intro y hy; simp at hy
  | cons b r =>
    have hl : l = r.reverse ++ [b] := by rw [← List.reverse_reverse l, hr]; simp
    intro y hy
    simp only [List.reverse_cons, List.mem_append, List.mem_reverse, List.mem_singleton] at hy
    rcases hy with hy | rfl
    · exact hoff y (by rw [hl]; simp [hy])
    · have hxb := hlast b (by rw [hl]; simp)
      have : b ≤ (NF.realX e).maxA ((NF.realX e).add b ((NF.realX e).ofFloat eps)) ((NF.realX e).nextUp b) := by
        unfold XOps.maxA
        simp only [NF.realX_lt, NF.realX_add, NF.realX_ofFloat, decide_eq_true_eq]
        split_ifs
        · exact le_rfl
        · linarith
      exact (hxb.trans_le this).ne'

theorem searchsortedG_dual_bin (eps : Float) (he : 0 < e eps) {L : ℝ → List ℝ} {dl : List (ℝ × ℝ)} {X : ℝ → ℝ} {dx : ℝ × ℝ}
    (hL : IsDualL L t dl) (hX : IsDual X t dx) (hp : (L t).Pairwise (· < ·)) (k : ℕ) (hk : k + 1 < (L t).length)
    (h0 : (L t).getD k 0 < X t) (h1 : X t < (L t).getD (k+1) 0) :
    ∀ᶠ s in 𝓝 t, searchsortedG (NF.realX e) eps (L s) (X s) = searchsortedG (dualX (NF.realX e)) eps dl dx := by
  obtain ⟨hoff, hlast⟩ := off_of_pairwise (L t) hp k hk (X t) h0 h1
  exact searchsortedG_dual eps he.ne' hL hX (bump_off eps he (L t) (X t) hoff hlast)

/-! ### a term on a dual list -/

theorem evalX_isDual {F : ℝ → List ℝ} {ds : List (ℝ × ℝ)} (h : IsDualL F t ds) (E : Expr)
    (hs : Smooth (envOf (F t) 0) E) :
    IsDual (fun s => evalX (NF.realX e) (F s) E) t (evalX (dualX (NF.realX e)) ds E) := by
  rw [evalX_dual]
  refine (DualX.evalD_curve (fun i s => (F s).getD i 0) _ t (fun i => h.getD_any i) E hs).congr_fun (fun s => ?_)
  rw [SplineExec.evalX_eq_evalR]; rfl

end
end DualXParam
