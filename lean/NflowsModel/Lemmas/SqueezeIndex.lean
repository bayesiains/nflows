import NflowsModel.Core.Reshape
import NflowsModel.Lemmas.RowMajor
import Mathlib.Tactic
/-! # Lemmas/SqueezeIndex — the squeeze coordinate maps are mutually inverse for EVERY factor `f ≥ 1` -/
namespace NF

theorem unsq_sq (f c h w : Nat) (hf : 0 < f) : (let s := sqCoord f c h w; unsqCoord f s.1 s.2.1 s.2.2) = (c, h, w) := by
  simp only [sqCoord, unsqCoord]
  have ha : h % f < f := Nat.mod_lt _ hf
  have hb : w % f < f := Nat.mod_lt _ hf
  -- the squeezed channel is the three-digit number `(c, h % f, w % f)`: read the digits back
  rw [← Nat.div_div_eq_div_mul, RowMajor.div _ hb, RowMajor.div _ ha, RowMajor.mod _ ha, RowMajor.mod _ hb]
  exact Prod.ext rfl (Prod.ext (Nat.div_add_mod' h f) (Nat.div_add_mod' w f))

theorem sq_unsq (f oc i j : Nat) (hf : 0 < f) :
    (let u := unsqCoord f oc i j; sqCoord f u.1 u.2.1 u.2.2) = (oc, i, j) := by
  simp only [sqCoord, unsqCoord]
  have ha : oc / f % f < f := Nat.mod_lt _ hf
  have hb : oc % f < f := Nat.mod_lt _ hf
  rw [RowMajor.mod i ha, RowMajor.mod j hb, RowMajor.div i ha, RowMajor.div j hb, RowMajor.recon3 oc f f]

end NF
