import NflowsModel.Lemmas.DualXRQ
import NflowsModel.Lemmas.StructureExecRQ
import NflowsModel.Lemmas.FlowRowsExec
import Mathlib.Data.List.GetD
/-!
# Lemmas/DualXCoupling — the chain rule through the EXECUTED coupling layer on dual numbers (C16)

One executed coupling layer (`couplingApply`, either direction, any numeric mask, `B`, `S`) run on dual arrays.  The layer is a list
of rows of buffer writes (`rowsRes`), so the closure properties of `DL` give ONE theorem, `couplingApply_dual_along`: if every
executed element is, eventually along a filter `l`, an accepted curve represented by its dual run (`Ev l (RelEl t)`), then the dual
layer is accepted, the real layer is accepted `l`-eventually, and the dual outputs and row log-dets represent the real ones.
`l = ⊤` gives the coupling STAGES of `Lemmas/DualXFlowStages.lean` (elements sound at every `s`); `l = 𝓝 t` gives the entry-wise
reading `coupling_dual_near` for spline elements, which are sound only near an interior point (`ElSound`): identity features keep
their tangents, every transformed entry and every row log-det carries the TOTAL derivative of the real executed layer along a curve
`r ↦ (X r, P r)` of (input, conditioner output), and the dual run reports no error.  The conditioner is ANY map whose recorded
dual output is its (value, derivative) pair (`IsDualA`).  The bounded RQ kind, either direction, is the instance proved here from
`DualX.rqSpline_dual_param_curve` / `rqSpline_dual_inv_param_curve` through the slicing and scaling of `elTransform`.
-/
open NF DualSound Filter Topology

namespace DualXCoupling
noncomputable section
open RQWhole DualX DualXParam DualXLU DualXFlow NF.StructureExec NF.FlowRowsExec DualXFlowStages

variable {e : Float → ℝ}
variable {F : ℝ → List ℝ} {t : ℝ} {ds : List (ℝ × ℝ)}

/-! ## one element: `elTransform` with the bounded RQ kind on dual numbers -/

theorem rqScale_dualL (c : ElCfg) (b : Bool) (h : IsDualL F t ds) :
    IsDualL (fun s => rqScale (NF.realX e) c b (F s)) t (rqScale (dualX (NF.realX e)) c b ds) := by
  unfold rqScale
  cases b
  · simpa using h
  · simp only [if_true]
    exact h.map (gR := fun _ u => (NF.realX e).div u ((NF.realX e).ofFloat (Float.sqrt c.scaling.1)))
      (fun f d _ hf => hf.div_const e _)

theorem rqW_dualL (c : ElCfg) (h : IsDualL F t ds) :
    IsDualL (fun s => rqW (NF.realX e) c (F s)) t (rqW (dualX (NF.realX e)) c ds) :=
  rqScale_dualL c _ (IsDualL.take c.K h)
theorem rqH_dualL (c : ElCfg) (h : IsDualL F t ds) :
    IsDualL (fun s => rqH (NF.realX e) c (F s)) t (rqH (dualX (NF.realX e)) c ds) :=
  rqScale_dualL c _ (IsDualL.take c.K (IsDualL.drop c.K h))
theorem rqD_dualL (c : ElCfg) (h : IsDualL F t ds) : IsDualL (fun s => rqD c (F s)) t (rqD c ds) :=
  IsDualL.drop (2 * c.K) h

variable (e)

def elY (c : ElCfg) (p : List ℝ) (x : ℝ) : ℝ := outOf (NF.realX e) (elTransform (NF.realX e) c false p x)
def elL (c : ElCfg) (p : List ℝ) (x : ℝ) : ℝ := ldOf (NF.realX e) (elTransform (NF.realX e) c false p x)

/-- the hypotheses on one element: the sliced parameters are an accepted configuration, no derivative parameter sits on the
    softplus threshold, the input lies strictly inside a bin -/
structure RQElInterior (c : ElCfg) (p : List ℝ) (x : ℝ) : Prop where
  valid : RQValid e (rqCfgOf c) (rqW (NF.realX e) c p) (rqH (NF.realX e) c p) (rqD c p)
  thr : ∀ k < (rqD c p).length, e (rqCfgOf c).beta * (rqD c p).getD k 0 ≠ 20
  bin : ∃ k, k < (rqW (NF.realX e) c p).length ∧ xs e (rqCfgOf c) (rqW (NF.realX e) c p) k < x ∧
    x < xs e (rqCfgOf c) (rqW (NF.realX e) c p) (k+1)

variable {e}

theorem elY_rq {c : ElCfg} (hk : c.kind = "rq") (ht : c.tails = false) (p : List ℝ) (x : ℝ) :
    elY e c p x = val e (rqCfgOf c) (rqW (NF.realX e) c p) (rqH (NF.realX e) c p) (rqD c p) x := by
  unfold elY val
  rw [elTransform_rq _ c hk ht]
  cases rqSpline (NF.realX e) (rqCfgOf c) (rqW (NF.realX e) c p) (rqH (NF.realX e) c p) (rqD c p) false x <;>
    simp [outOf, Except.map]

theorem elL_rq {c : ElCfg} (hk : c.kind = "rq") (ht : c.tails = false) (p : List ℝ) (x : ℝ) :
    elL e c p x = ld e (rqCfgOf c) (rqW (NF.realX e) c p) (rqH (NF.realX e) c p) (rqD c p) x := by
  unfold elL ld
  rw [elTransform_rq _ c hk ht]
  cases rqSpline (NF.realX e) (rqCfgOf c) (rqW (NF.realX e) c p) (rqH (NF.realX e) c p) (rqD c p) false x <;>
    simp [ldOf, Except.map]

/-! ## curves of arrays against dual arrays; what the layer reads from them -/

def IsDualA (X : ℝ → Array ℝ) (t : ℝ) (dX : Array (ℝ × ℝ)) : Prop := IsDualL (fun s => (X s).toList) t dX.toList

variable {X P : ℝ → Array ℝ} {dX dP : Array (ℝ × ℝ)}

theorem isDualA_iff_da : IsDualA X t dX ↔ DA t X dX := isDualL_iff_dv

theorem entryA_dual {X : ℝ → Array ℝ} {dX : Array (ℝ × ℝ)} (hX : DA t X dX) (j : ℕ) :
    IsDual (fun s => (X s).getD j (RX e).zero) t (dX.getD j (DX e).zero) := by
  simp only [← toList_getD]
  exact DL.getD' hX j (IsDual.zero e t)

theorem IsDualA.getD (h : IsDualA X t dX) (j : ℕ) :
    IsDual (fun s => (X s).getD j (NF.realX e).zero) t (dX.getD j (dualX (NF.realX e)).zero) :=
  entryA_dual (isDualA_iff_da.1 h) j

theorem condSlice_dualL (h : IsDualA P t dP) (m Ft S b tp s : ℕ) :
    IsDualL (fun r => condSlice (NF.realX e) m Ft S (P r) b tp s) t (condSlice (dualX (NF.realX e)) m Ft S dP b tp s) := by
  unfold condSlice
  exact IsDualL.mapIdx (List.range m) (fun k _ => h.getD _)

/-- the masks are compared on value components: same transform channels -/
theorem transformIdx_dual (dmask : List (ℝ × ℝ)) :
    transformIdx (dualX (NF.realX e)) dmask = transformIdx (NF.realX e) (dmask.map Prod.fst) := by
  unfold transformIdx
  rw [List.length_map]
  apply List.filter_congr
  intro i _
  show (dualX (NF.realX e)).lt _ _ = (NF.realX e).lt _ _
  rw [(fst_hom e).lt, (fst_hom e).zero]
  congr 1
  rw [← (fst_hom e).zero, List.getD_map]

theorem identityIdx_dual (dmask : List (ℝ × ℝ)) :
    identityIdx (dualX (NF.realX e)) dmask = identityIdx (NF.realX e) (dmask.map Prod.fst) := by
  unfold identityIdx
  rw [List.length_map]
  apply List.filter_congr
  intro i _
  rw [(fst_hom e).le, (fst_hom e).zero]
  congr 1
  rw [← (fst_hom e).zero, List.getD_map]

variable (e)

def LayerInterior (c : ElCfg) (mask : List ℝ) (B S : ℕ) (x params : Array ℝ) : Prop :=
  ∀ b tp s, b < B → tp < (transformIdx (NF.realX e) mask).length → s < S →
    RQElInterior e c (condSlice (NF.realX e) c.mult (transformIdx (NF.realX e) mask).length S params b tp s)
      (x.getD (flatIdx mask.length S b ((transformIdx (NF.realX e) mask).getD tp 0) s) (NF.realX e).zero)

variable {e}

/-! ## a pass given by its rows of buffer writes -/

def _root_.DualXFlowStages.RelEl (t : ℝ) (f : ℝ → ElRes ℝ) (d : ElRes (ℝ × ℝ)) : Prop :=
  ∃ (fy fl : ℝ → ℝ) (al : ℝ → List ℝ) (dy dl : ℝ × ℝ) (dal : List (ℝ × ℝ)),
    (∀ s, f s = .ok (fy s, fl s, al s)) ∧ d = .ok (dy, dl, dal) ∧ IsDual fy t dy ∧ IsDual fl t dl

def RelUpd (t : ℝ) (f : ℝ → ℕ × ElRes ℝ) (d : ℕ × ElRes (ℝ × ℝ)) : Prop :=
  (∀ s, (f s).1 = d.1) ∧ RelEl t (fun s => (f s).2) d.2

theorem DL.snd {us : ℝ → List (ℕ × ElRes ℝ)} {dus : List (ℕ × ElRes (ℝ × ℝ))} (hu : DL (RelUpd t) us dus) :
    DL (RelEl t) (fun s => (us s).map (·.2)) (dus.map (·.2)) :=
  DL.map' (fun _ u => u.2) (fun u => u.2) hu (fun _ _ _ h => h.2)

theorem set!_dual {A : ℝ → Array ℝ} {dA : Array (ℝ × ℝ)} (hA : DA t A dA) (j : ℕ) {fy : ℝ → ℝ} {dy : ℝ × ℝ}
    (hy : IsDual fy t dy) : DA t (fun s => (A s).set! j (fy s)) (dA.set! j dy) := by
  obtain ⟨fs, hF, h2⟩ := hA
  refine ⟨fs.set j fy, fun s => ?_, ?_⟩
  · simp only [Array.set!_eq_setIfInBounds, Array.toList_setIfInBounds, hF s, List.map_set]
  · simp only [Array.set!_eq_setIfInBounds, Array.toList_setIfInBounds]
    exact forall₂_set h2 j hy

theorem applyUpd_dual {us : ℝ → List (ℕ × ElRes ℝ)} {dus : List (ℕ × ElRes (ℝ × ℝ))} (hu : DL (RelUpd t) us dus)
    {A : ℝ → Array ℝ} {dA : Array (ℝ × ℝ)} (hA : DA t A dA) :
    DA t (fun s => applyUpd (us s) (A s)) (applyUpd dus dA) := by
  unfold applyUpd
  refine DL.foldl' (rel₀ := fun (f : ℝ → Array ℝ) (d : Array (ℝ × ℝ)) => DA t f d) _ _ hu ?_ hA
  intro acc a f d hacc hfd
  obtain ⟨hj, fy, fl, al, dy, dl, dal, hf, hd, hy, _⟩ := hfd
  simp only [hd]
  have h0 := set!_dual hacc d.1 hy
  unfold DA at h0 ⊢
  refine DL.congr h0 (fun s => ?_)
  have h1 := hf s
  simp only at h1
  simp only [h1, hj s]

theorem ldFold_dual {rs : ℝ → List (ElRes ℝ)} {drs : List (ElRes (ℝ × ℝ))} (h : DL (RelEl t) rs drs) :
    IsDual (fun s => ldFold (RX e) (rs s)) t (ldFold (DX e) drs) := by
  unfold ldFold
  refine DL.foldl' (rel₀ := fun (f : ℝ → ℝ) (d : ℝ × ℝ) => IsDual f t d) _ _ h ?_ (IsDual.zero e t)
  intro acc a f d hacc hfd
  obtain ⟨fy, fl, al, dy, dl, dal, hf, hd, _, hl⟩ := hfd
  simp only [hd]
  refine (IsDual.add e hacc hl).congr_fun (fun s => ?_)
  simp only [hf s]

theorem firstErr_none_of_rel {rs : ℝ → List (ElRes ℝ)} {drs : List (ElRes (ℝ × ℝ))} (h : DL (RelEl t) rs drs) :
    firstErr drs = none ∧ ∀ s, firstErr (rs s) = none := by
  obtain ⟨fs, hF, h2⟩ := h
  constructor
  · unfold firstErr
    rw [List.findSome?_eq_none_iff]
    intro d hd
    obtain ⟨f, fy, fl, al, dy, dl, dal, _, rfl, _⟩ := forall₂_mem_right h2 hd
    rfl
  · intro s
    unfold firstErr
    rw [List.findSome?_eq_none_iff, hF s]
    intro r hr
    obtain ⟨f, hf, rfl⟩ := List.mem_map.1 hr
    obtain ⟨d, fy, fl, al, dy, dl, dal, hfs, _⟩ := forall₂_mem_left h2 hf
    rw [hfs s]

def rowsRes {α : Type} (o : XOps α) (Rows : List (List (ℕ × ElRes α))) (x : Array α) : BRes α :=
  ofT { out := applyUpd (Rows.flatMap fun r => r) x, ld := Rows.map fun r => ldFold o (r.map (·.2)),
        err := firstErr ((Rows.flatMap fun r => r).map (·.2)) }

theorem rowsRes_dual {Rows : ℝ → List (List (ℕ × ElRes ℝ))} {dRows : List (List (ℕ × ElRes (ℝ × ℝ)))}
    (h : DL (DL (RelUpd t)) Rows dRows) {X : ℝ → Array ℝ} {dX : Array (ℝ × ℝ)} (hX : DA t X dX) :
    ∃ (Y : ℝ → Array ℝ) (L : ℝ → List ℝ) (dY : Array (ℝ × ℝ)) (dL : List (ℝ × ℝ)),
      rowsRes (DX e) dRows dX = .ok (dY, dL) ∧ (∀ s, rowsRes (RX e) (Rows s) (X s) = .ok (Y s, L s)) ∧
      DA t Y dY ∧ DV t L dL := by
  have hall := DL.flatMap (rel' := RelUpd t) (fun _ r => r) (fun r => r) h (fun _ _ hfd => hfd)
  obtain ⟨hE1, hE2⟩ := firstErr_none_of_rel (DL.snd hall)
  exact ⟨_, _, _, _, ofT_of_err_none hE1, fun s => ofT_of_err_none (hE2 s), applyUpd_dual hall hX,
    DL.map' (fun _ r => ldFold (RX e) (r.map (·.2))) (fun r => ldFold (DX e) (r.map (·.2))) h
      (fun _ _ _ hfd => ldFold_dual (e := e) (DL.snd hfd))⟩

/-- rows whose elements are sound only `l`-eventually: `DL` commutes with `Ev`, twice -/
theorem rowsRes_dual_along {l : Filter ℝ} {Rows : ℝ → List (List (ℕ × ElRes ℝ))} {dRows : List (List (ℕ × ElRes (ℝ × ℝ)))}
    (h : DL (DL (Ev l (RelUpd t))) Rows dRows) {X : ℝ → Array ℝ} {dX : Array (ℝ × ℝ)} (hX : DA t X dX) :
    ∃ (Y : ℝ → Array ℝ) (L : ℝ → List ℝ) (dY : Array (ℝ × ℝ)) (dL : List (ℝ × ℝ)),
      rowsRes (DX e) dRows dX = .ok (dY, dL) ∧ (∀ᶠ s in l, rowsRes (RX e) (Rows s) (X s) = .ok (Y s, L s)) ∧
      DA t Y dY ∧ DV t L dL := by
  obtain ⟨Rows', hev, h'⟩ := DL.ev (DL.mono h fun _ _ hr => DL.ev hr)
  obtain ⟨Y, L, dY, dL, h1, h2, h3, h4⟩ := rowsRes_dual (e := e) h' hX
  exact ⟨Y, L, dY, dL, h1, hev.mono fun s hs => by rw [hs]; exact h2 s, h3, h4⟩

/-! ## the executed coupling layer on dual arrays -/

theorem flatMap_const_nil {ι β : Type} (l : List ι) : l.flatMap (fun _ => ([] : List β)) = [] :=
  List.flatMap_eq_nil_iff.2 fun _ _ => rfl

theorem ofT_couplingApply_none {α : Type} (o : XOps α) (c : ElCfg) (mask : List α) (B S : ℕ) (x params : Array α) (inv : Bool) :
    ofT (couplingApply o c mask B S x params inv none #[]) =
      rowsRes o ((List.range B).map (condRow o c mask.length S (transformIdx o mask) x params inv)) x := by
  simp [couplingApply, ucRow, ofT, rowsRes, List.flatMap_map, Function.comp_def, flatMap_const_nil, StructureExec.applyUpd_nil]

/-- **the executed coupling layer on dual numbers, either direction, along `l`**: if every executed element is `l`-eventually an
    accepted curve represented by its dual run, the dual layer is accepted, the real layer is accepted `l`-eventually, and the
    dual outputs / row log-dets represent curves with which the real ones agree `l`-eventually (`l = ⊤`: at every `s`, the
    stages; `l = 𝓝 t`: entry by entry near `t`, `coupling_dual_near`). -/
theorem couplingApply_dual_along {l : Filter ℝ} (c : ElCfg) (dmask : List (ℝ × ℝ)) (B S : ℕ) (inv : Bool)
    {X P : ℝ → Array ℝ} {dX dP : Array (ℝ × ℝ)} (hX : DA t X dX)
    (hel : ∀ b ∈ List.range B, ∀ p ∈ rowIter (transformIdx (DX e) dmask).length S,
      Ev l (RelEl t)
        (fun s => couplingEl (RX e) c (transformIdx (DX e) dmask).length S (P s) inv b p.1 p.2
          ((X s).getD (flatIdx dmask.length S b ((transformIdx (DX e) dmask).getD p.1 0) p.2) (RX e).zero))
        (couplingEl (DX e) c (transformIdx (DX e) dmask).length S dP inv b p.1 p.2
          (dX.getD (flatIdx dmask.length S b ((transformIdx (DX e) dmask).getD p.1 0) p.2) (DX e).zero))) :
    ∃ (Y : ℝ → Array ℝ) (L : ℝ → List ℝ) (dY : Array (ℝ × ℝ)) (dL : List (ℝ × ℝ)),
      ofT (couplingApply (DX e) c dmask B S dX dP inv) = .ok (dY, dL) ∧
      (∀ᶠ s in l, ofT (couplingApply (RX e) c (dmask.map Prod.fst) B S (X s) (P s) inv) = .ok (Y s, L s)) ∧
      DA t Y dY ∧ DV t L dL := by
  simp only [ofT_couplingApply_none, List.length_map, ← transformIdx_dual (e := e) dmask]
  refine rowsRes_dual_along (DL.ofMap (List.range B) _ _ fun b hb => ?_) hX
  unfold condRow tRow
  refine DL.ofMap _ _ _ ?_
  rintro ⟨tp, sp⟩ hm
  obtain ⟨f', hf, hr⟩ := hel b hb (tp, sp) hm
  exact ⟨fun s => (_, f' s), hf.mono fun s hs => by simp only [hs], fun _ => rfl, hr⟩

variable (e) in
/-- what the layer needs of its element map `elTransform · c inv` on a set `I` of (parameter row, input) pairs: along curves
    through a point of `I` the dual run is accepted, the real run is accepted near the point with outputs two curves, and the dual
    outputs are the (value, derivative) pairs of these curves (`DualX.DualRun` of the element, with the third output of
    `elTransform` — the alternative roots, non-empty only for the cubic inverse; `RelEl` does not look at it — equal to `[]`) -/
structure ElSound (c : ElCfg) (inv : Bool) (I : List ℝ → ℝ → Prop) : Prop where
  run : ∀ {t : ℝ} {P : ℝ → List ℝ} {FX : ℝ → ℝ} {dp : List (ℝ × ℝ)} {dx : ℝ × ℝ},
    IsDualL P t dp → IsDual FX t dx → I (P t) (FX t) →
    ∃ (fy fl : ℝ → ℝ) (dy dl : ℝ × ℝ), elTransform (dualX (NF.realX e)) c inv dp dx = .ok (dy, dl, []) ∧
      (∀ᶠ s in 𝓝 t, elTransform (NF.realX e) c inv (P s) (FX s) = .ok (fy s, fl s, [])) ∧ IsDual fy t dy ∧ IsDual fl t dl

/-- how the element theorems are read: the dual run returns the two real outputs (`0` where the real run raises) with tangents the
    TOTAL derivatives of the real outputs along the curve -/
theorem ElSound.values {c : ElCfg} {inv : Bool} {I : List ℝ → ℝ → Prop} (hel : ElSound e c inv I)
    {P : ℝ → List ℝ} {FX : ℝ → ℝ} {dp : List (ℝ × ℝ)} {dx : ℝ × ℝ}
    (hP : IsDualL P t dp) (hX : IsDual FX t dx) (hin : I (P t) (FX t)) :
    ∃ y' l' : ℝ, elTransform (dualX (NF.realX e)) c inv dp dx
        = .ok ((outOf (NF.realX e) (elTransform (NF.realX e) c inv (P t) (FX t)), y'),
               (ldOf (NF.realX e) (elTransform (NF.realX e) c inv (P t) (FX t)), l'), []) ∧
      HasDerivAt (fun s => outOf (NF.realX e) (elTransform (NF.realX e) c inv (P s) (FX s))) y' t ∧
      HasDerivAt (fun s => ldOf (NF.realX e) (elTransform (NF.realX e) c inv (P s) (FX s))) l' t := by
  obtain ⟨fy, fl, dy, dl, hd, hr, hy, hl⟩ := hel.run hP hX hin
  refine ⟨dy.2, dl.2, ?_, hy.2.congr_of_eventuallyEq (hr.mono fun s hs => congrArg (outOf (NF.realX e)) hs),
    hl.2.congr_of_eventuallyEq (hr.mono fun s hs => congrArg (ldOf (NF.realX e)) hs)⟩
  rw [hd, hr.self_of_nhds, ← hy.1, ← hl.1]
  rfl

theorem ElSound.ev_relEl {c : ElCfg} {inv : Bool} {I : List ℝ → ℝ → Prop} (hel : ElSound e c inv I)
    (hsp : c.kind ≠ "affine" ∧ c.kind ≠ "additive") (Ft S b tp sp : ℕ) {P : ℝ → Array ℝ} {dP : Array (ℝ × ℝ)} {fx : ℝ → ℝ}
    {dx : ℝ × ℝ} (hP : IsDualA P t dP) (hx : IsDual fx t dx)
    (hin : I (condSlice (NF.realX e) c.mult Ft S (P t) b tp sp) (fx t)) :
    Ev (𝓝 t) (RelEl t) (fun s => couplingEl (RX e) c Ft S (P s) inv b tp sp (fx s)) (couplingEl (DX e) c Ft S dP inv b tp sp dx) := by
  obtain ⟨fy, fl, dy, dl, hd, hr, hy, hl⟩ := hel.run (condSlice_dualL (e := e) hP c.mult Ft S b tp sp) hx hin
  simp only [couplingEl_spline _ c S _ inv hsp.1 hsp.2]
  exact ⟨_, hr, fy, fl, fun _ => [], dy, dl, [], fun _ => rfl, hd, hy, hl⟩

/-- **the chain rule through the executed layer, entry by entry near `t`**, for a spline element family sound on `I`: the dual
    layer reports no error, and every output entry (identity or transformed channel) and every row log-det of the dual layer is
    the (value, derivative) pair at `t` of the same entry of the REAL executed layer along the curve `r ↦ (X r, P r)` of inputs
    and conditioner outputs — the tangent is the TOTAL derivative, through the input and through every parameter. -/
theorem coupling_dual_near {c : ElCfg} {inv : Bool} {I : List ℝ → ℝ → Prop} (hel : ElSound e c inv I)
    (hsp : c.kind ≠ "affine" ∧ c.kind ≠ "additive") (dmask : List (ℝ × ℝ)) (B S : ℕ) {X P : ℝ → Array ℝ} {dX dP : Array (ℝ × ℝ)}
    (hX : IsDualA X t dX) (hP : IsDualA P t dP)
    (hin : ∀ b tp s, b < B → tp < (transformIdx (NF.realX e) (dmask.map Prod.fst)).length → s < S →
      I (condSlice (NF.realX e) c.mult (transformIdx (NF.realX e) (dmask.map Prod.fst)).length S (P t) b tp s)
        ((X t).getD (flatIdx (dmask.map Prod.fst).length S b ((transformIdx (NF.realX e) (dmask.map Prod.fst)).getD tp 0) s)
          (NF.realX e).zero)) :
    (couplingApply (dualX (NF.realX e)) c dmask B S dX dP inv).err = none ∧
    (∀ j, IsDual (fun r => (couplingApply (NF.realX e) c (dmask.map Prod.fst) B S (X r) (P r) inv).out.getD j 0) t
      ((couplingApply (dualX (NF.realX e)) c dmask B S dX dP inv).out.getD j 0)) ∧
    (∀ b, IsDual (fun r => (couplingApply (NF.realX e) c (dmask.map Prod.fst) B S (X r) (P r) inv).ld.getD b 0) t
      ((couplingApply (dualX (NF.realX e)) c dmask B S dX dP inv).ld.getD b 0)) := by
  have hT := transformIdx_dual (e := e) dmask
  obtain ⟨Y, L, dY, dL, h1, h2, h3, h4⟩ := couplingApply_dual_along (e := e) (l := 𝓝 t) c dmask B S inv (P := P) (dP := dP)
    (isDualA_iff_da.1 hX) (fun b hb p hp => by
      obtain ⟨htp, hs⟩ := mem_rowIter.1 hp
      have := hin b p.1 p.2 (List.mem_range.1 hb) (by rw [← hT]; exact htp) hs
      rw [List.length_map, ← hT] at this
      exact hel.ev_relEl hsp _ S b p.1 p.2 hP (hX.getD (e := e) _) this)
  obtain ⟨herr, rfl, rfl⟩ := ofT_eq_ok h1
  refine ⟨herr, fun j => ?_, fun b => ?_⟩
  · have := DA.entry h3 j
    rw [toList_getD] at this
    refine this.congr ?_
    filter_upwards [h2] with r hr
    rw [toList_getD, (ofT_eq_ok hr).2.1]
  · refine (DV.entry h4 b).congr ?_
    filter_upwards [h2] with r hr
    rw [(ofT_eq_ok hr).2.2]

/-! ## the bounded RQ kind, forward direction -/

theorem rq_ne_affine {c : ElCfg} (hk : c.kind = "rq") : c.kind ≠ "affine" ∧ c.kind ≠ "additive" := by
  rw [hk]; exact ⟨by decide, by decide⟩

/-- the executed element with the bounded RQ kind is `rqSpline` on the sliced (and scaled) parameter row (`elTransform_rq`), so a
    `DualRun` of that `rqSpline` gives the conclusion of `ElSound.run` -/
theorem dualRun_elTransform_rq {c : ElCfg} (hk : c.kind = "rq") (ht : c.tails = false) (inv : Bool)
    {P : ℝ → List ℝ} {FX : ℝ → ℝ} {dp : List (ℝ × ℝ)} {dx : ℝ × ℝ}
    (h : DualRun (fun s => rqSpline (NF.realX e) (rqCfgOf c) (rqW (NF.realX e) c (P s)) (rqH (NF.realX e) c (P s)) (rqD c (P s))
      inv (FX s)) t (rqSpline (dualX (NF.realX e)) (rqCfgOf c) (rqW (dualX (NF.realX e)) c dp) (rqH (dualX (NF.realX e)) c dp)
      (rqD c dp) inv dx)) :
    ∃ (fy fl : ℝ → ℝ) (dy dl : ℝ × ℝ), elTransform (dualX (NF.realX e)) c inv dp dx = .ok (dy, dl, []) ∧
      (∀ᶠ s in 𝓝 t, elTransform (NF.realX e) c inv (P s) (FX s) = .ok (fy s, fl s, [])) ∧ IsDual fy t dy ∧ IsDual fl t dl := by
  obtain ⟨fy, fl, dy, dl, hd, hr, hy, hl⟩ := h
  exact ⟨fy, fl, dy, dl, (elTransform_rq _ c hk ht inv dp dx).trans (congrArg (Except.map _) hd),
    hr.mono fun s hs => (elTransform_rq _ c hk ht inv (P s) (FX s)).trans (congrArg (Except.map _) hs), hy, hl⟩

/-- **chain rule through one executed element.**  In `ElSound.run`, `P` is ANY curve of raw parameter rows differentiable at `t`
    (the conditioner's output for this element along the line), `FX` the curve of the element's input -/
theorem elSound_rq {c : ElCfg} (hk : c.kind = "rq") (ht : c.tails = false) : ElSound e c false (RQElInterior e c) :=
  ⟨fun hP hX hin =>
    let ⟨k, hk', h0, h1⟩ := hin.bin
    dualRun_elTransform_rq hk ht false (rqSpline_dual_param_curve (c := rqCfgOf c) (rqW_dualL c hP) (rqH_dualL c hP)
      (rqD_dualL c hP) hX hin.valid hin.thr k hk' h0 h1)⟩

/-! ## non-vacuity -/

theorem isDual_sin_zero : IsDual Real.sin 0 (0, 1) :=
  ⟨Real.sin_zero.symm, by have h := Real.hasDerivAt_sin 0; rwa [Real.cos_zero] at h⟩
theorem isDual_exp_sub_one_zero : IsDual (fun s => Real.exp s - 1) 0 (0, 1) :=
  ⟨by show (0:ℝ) = Real.exp 0 - 1; rw [Real.exp_zero, sub_self],
    by have h := (Real.hasDerivAt_exp 0).sub_const 1; rwa [Real.exp_zero] at h⟩

theorem rqSpline_dual_param_curve_example (x x' : ℝ) (h0 : 0 < x) (h1 : x < 1) :
    ∃ v' l' : ℝ, rqSpline (dualX (NF.realX eNV)) cNV [(0, 1)] [(0, 1)] [(0, 1), (0, 0)] false (x, x')
        = .ok ((val eNV cNV [0] [0] [0, 0] x, v'), (ld eNV cNV [0] [0] [0, 0] x, l')) ∧
      HasDerivAt (fun s => val eNV cNV [Real.sin s] [Real.exp s - 1] [Real.sin s, 0] (x + s * x')) v' 0 ∧
      HasDerivAt (fun s => ld eNV cNV [Real.sin s] [Real.exp s - 1] [Real.sin s, 0] (x + s * x')) l' 0 := by
  have hW : IsDualL (fun s => [Real.sin s]) 0 [(0, 1)] := IsDualL.cons isDual_sin_zero (IsDualL.nil 0)
  have hH : IsDualL (fun s => [Real.exp s - 1]) 0 [(0, 1)] := IsDualL.cons isDual_exp_sub_one_zero (IsDualL.nil 0)
  have hD : IsDualL (fun s => [Real.sin s, 0]) 0 [(0, 1), (0, 0)] :=
    IsDualL.cons isDual_sin_zero (IsDualL.cons (IsDual.const 0 0) (IsDualL.nil 0))
  have key := rqSpline_dual_param_curve (e := eNV) (c := cNV) hW hH hD (IsDual.line x x')
  simp only [Real.sin_zero, Real.exp_zero, sub_self, zero_mul, add_zero] at key
  have := (key valid_example thr_example 0 Nat.one_pos (by rw [xs_example.1]; exact h0) (by rw [xs_example.2]; exact h1)).dualRes.values
    (f := fun s => val eNV cNV [Real.sin s] [Real.exp s - 1] [Real.sin s, 0] (x + s * x'))
    (g := fun s => ld eNV cNV [Real.sin s] [Real.exp s - 1] [Real.sin s, 0] (x + s * x')) (fun _ => rfl) (fun _ => rfl)
  simpa only [Real.sin_zero, Real.exp_zero, sub_self, zero_mul, add_zero] using this

/-- a bounded RQ coupling element WITH the `1/sqrt(hidden_features)` scaling of widths and heights switched on -/
def cS : ElCfg :=
  { container := "coupling", kind := "rq", K := 1, ds := #[0.0, 1.0, 0.0, 1.0, 0.0, 0.0, 0.0, 1.0], hiddenFeatures := 4.0 }

theorem cS_scaling : cS.scaling.2 = (true, true) := by
  simp [ElCfg.scaling, cS, FloatFacts.four_bne_zero]

theorem cS_interior (w h x : ℝ) (h0 : 0 < x) (h1 : x < 1) : RQElInterior eNV cS [w, h, 0, 0] x := by
  have hv : RQValid eNV (rqCfgOf cS) (rqW (NF.realX eNV) cS [w, h, 0, 0]) (rqH (NF.realX eNV) cS [w, h, 0, 0])
      (rqD cS [w, h, 0, 0]) :=
    RQValid.transfer (show RQValid eNV (rqCfgOf cS) [0] [0] [0, 0] from valid_example)
      (by rw [rqW_length]; rfl) (by rw [rqH_length]; rfl) (by rw [rqD_length]; rfl)
  have hl : (rqW (NF.realX eNV) cS [w, h, 0, 0]).length = 1 := by rw [rqW_length]; rfl
  -- `rqCfgOf cS` is `cNV` and the derivative slice is `[0, 0]`, by evaluation
  refine ⟨hv, thr_example, 0, by rw [hl]; exact Nat.one_pos, ?_, ?_⟩
  · rw [xs_zero hv, show eNV (rqCfgOf cS).box.left = 0 from eNV_box.1]; exact h0
  · have := xs_last hv
    rw [hl] at this
    rw [this, show eNV (rqCfgOf cS).box.right = 1 from eNV_box.2.1]; exact h1

theorem elTransform_rq_dual_example (x x' : ℝ) (h0 : 0 < x) (h1 : x < 1) :
    ∃ y' l' : ℝ, elTransform (dualX (NF.realX eNV)) cS false [(0, 1), (0, 1), (0, 0), (0, 0)] (x, x')
        = .ok ((elY eNV cS [0, 0, 0, 0] x, y'), (elL eNV cS [0, 0, 0, 0] x, l'), []) ∧
      HasDerivAt (fun s => elY eNV cS [Real.sin s, Real.exp s - 1, 0, 0] (x + s * x')) y' 0 ∧
      HasDerivAt (fun s => elL eNV cS [Real.sin s, Real.exp s - 1, 0, 0] (x + s * x')) l' 0 := by
  have hP : IsDualL (fun s => [Real.sin s, Real.exp s - 1, 0, 0]) 0 [(0, 1), (0, 1), (0, 0), (0, 0)] :=
    IsDualL.cons isDual_sin_zero (IsDualL.cons isDual_exp_sub_one_zero
      (IsDualL.cons (IsDual.const 0 0) (IsDualL.cons (IsDual.const 0 0) (IsDualL.nil 0))))
  have key := (elSound_rq (e := eNV) (c := cS) rfl rfl).values hP (IsDual.line x x')
  simp only [Real.sin_zero, Real.exp_zero, sub_self, zero_mul, add_zero] at key
  exact key (cS_interior _ _ x h0 h1)

theorem transformIdx_example : transformIdx (NF.realX eNV) [0, 1] = [1] := by
  simp [transformIdx, XOps.gt, List.range_succ]

/-- a two-channel layer of `cS` elements (`mask = [0, 1]`), one row, either direction, whose conditioner is any pair of
    differentiable functions of the identity feature — for any element soundness on a set containing the rows `[w, h, 0, 0]` -/
theorem coupling_cS_dual_example {inv : Bool} {I : List ℝ → ℝ → Prop} (hel : ElSound eNV cS inv I)
    (g1 g2 : ℝ → ℝ) (g1' g2' z z' x x' : ℝ) (hg1 : HasDerivAt g1 g1' z) (hg2 : HasDerivAt g2 g2' z)
    (hI : ∀ w h, I [w, h, 0, 0] x) :
    (couplingApply (dualX (NF.realX eNV)) cS [(0, 0), (1, 0)] 1 1 #[(z, z'), (x, x')]
        #[(g1 z, g1' * z'), (g2 z, g2' * z'), (0, 0), (0, 0)] inv).out[0]? = some (z, z') ∧
    IsDual (fun r => (couplingApply (NF.realX eNV) cS [0, 1] 1 1 #[z + r * z', x + r * x']
        #[g1 (z + r * z'), g2 (z + r * z'), 0, 0] inv).out.getD 1 0) 0
      ((couplingApply (dualX (NF.realX eNV)) cS [(0, 0), (1, 0)] 1 1 #[(z, z'), (x, x')]
        #[(g1 z, g1' * z'), (g2 z, g2' * z'), (0, 0), (0, 0)] inv).out.getD 1 0) ∧
    IsDual (fun r => (couplingApply (NF.realX eNV) cS [0, 1] 1 1 #[z + r * z', x + r * x']
        #[g1 (z + r * z'), g2 (z + r * z'), 0, 0] inv).ld.getD 0 0) 0
      ((couplingApply (dualX (NF.realX eNV)) cS [(0, 0), (1, 0)] 1 1 #[(z, z'), (x, x')]
        #[(g1 z, g1' * z'), (g2 z, g2' * z'), (0, 0), (0, 0)] inv).ld.getD 0 0) := by
  have hcomp : ∀ (g : ℝ → ℝ) (g' : ℝ), HasDerivAt g g' z → IsDual (fun r : ℝ => g (z + r * z')) 0 (g z, g' * z') :=
    fun g g' hg => (IsDual.line z z').comp hg (mul_comm _ _)
  have hXA : IsDualA (fun r : ℝ => #[z + r * z', x + r * x']) 0 #[(z, z'), (x, x')] :=
    IsDualL.cons (IsDual.line z z') (IsDualL.cons (IsDual.line x x') (IsDualL.nil 0))
  have hPA : IsDualA (fun r : ℝ => #[g1 (z + r * z'), g2 (z + r * z'), 0, 0]) 0
      #[(g1 z, g1' * z'), (g2 z, g2' * z'), (0, 0), (0, 0)] :=
    IsDualL.cons (hcomp g1 g1' hg1) (IsDualL.cons (hcomp g2 g2' hg2)
      (IsDualL.cons (IsDual.const 0 0) (IsDualL.cons (IsDual.const 0 0) (IsDualL.nil 0))))
  have hmask : ([(0, 0), (1, 0)] : List (ℝ × ℝ)).map Prod.fst = [0, 1] := rfl
  have hm : cS.mult = 4 := by decide
  have hsp : cS.kind ≠ "affine" ∧ cS.kind ≠ "additive" := rq_ne_affine rfl
  have hin : ∀ b tp s, b < 1 → tp < (transformIdx (NF.realX eNV) (([(0, 0), (1, 0)] : List (ℝ × ℝ)).map Prod.fst)).length → s < 1 →
      I (condSlice (NF.realX eNV) cS.mult (transformIdx (NF.realX eNV) (([(0, 0), (1, 0)] : List (ℝ × ℝ)).map Prod.fst)).length 1
          ((fun r : ℝ => #[g1 (z + r * z'), g2 (z + r * z'), 0, 0]) 0) b tp s)
        (((fun r : ℝ => #[z + r * z', x + r * x']) 0).getD
          (flatIdx (([(0, 0), (1, 0)] : List (ℝ × ℝ)).map Prod.fst).length 1 b
            ((transformIdx (NF.realX eNV) (([(0, 0), (1, 0)] : List (ℝ × ℝ)).map Prod.fst)).getD tp 0) s) (NF.realX eNV).zero) := by
    rw [hmask]
    intro b tp s hb htp hs
    rw [transformIdx_example] at htp ⊢
    obtain rfl : b = 0 := by omega
    obtain rfl : s = 0 := by omega
    obtain rfl : tp = 0 := by simpa using htp
    have hsl : condSlice (NF.realX eNV) cS.mult ([1] : List ℕ).length 1
        (#[g1 (z + 0 * z'), g2 (z + 0 * z'), 0, 0] : Array ℝ) 0 0 0 = [g1 (z + 0 * z'), g2 (z + 0 * z'), 0, 0] := by
      rw [hm]; rfl
    have hxv : (#[z + 0 * z', x + 0 * x'] : Array ℝ).getD (flatIdx ([0, 1] : List ℝ).length 1 0 (([1] : List ℕ).getD 0 0) 0)
        (NF.realX eNV).zero = x := by simp [flatIdx]
    show I (condSlice (NF.realX eNV) cS.mult ([1] : List ℕ).length 1
        (#[g1 (z + 0 * z'), g2 (z + 0 * z'), 0, 0] : Array ℝ) 0 0 0)
      ((#[z + 0 * z', x + 0 * x'] : Array ℝ).getD (flatIdx ([0, 1] : List ℝ).length 1 0 (([1] : List ℕ).getD 0 0) 0)
        (NF.realX eNV).zero)
    rw [hsl, hxv]
    exact hI _ _
  have hN := coupling_dual_near hel hsp [(0, 0), (1, 0)] 1 1 hXA hPA hin
  have hT := hN.2.1 1
  have hL := hN.2.2 0
  have hId := coupling_identity_passthrough (dualX (NF.realX eNV)) cS [(0, 0), (1, 0)] 1 1 #[(z, z'), (x, x')]
    #[(g1 z, g1' * z'), (g2 z, g2' * z'), (0, 0), (0, 0)] inv #[] (b := 0) (ch := 0) (s := 0) (by simp) Nat.one_pos
    (by rw [transformIdx_dual, hmask, transformIdx_example]; simp)
  rw [hmask] at hT hL
  exact ⟨hId.trans rfl, hT, hL⟩

/-- a two-channel layer (`mask = [0, 1]`: channel 0 identity, channel 1 transformed by `cS`), one row, whose conditioner
    is ANY pair of functions `g1`, `g2` of the identity feature, differentiable at `z` (they produce the width / height logits;
    the two derivative parameters are the constants `0`).  The dual layer, seeded with the direction `(z', x')` on the input
    and with the conditioner's (value, derivative·z') pairs as its recorded output, returns: the identity feature with its
    tangent, the transformed feature with the TOTAL derivative of the real layer `r ↦ layer(z + r z', x + r x'; g(z + r z'))`,
    and the row log-det with the derivative of the real row log-det. -/
theorem coupling_rq_dual_example (g1 g2 : ℝ → ℝ) (g1' g2' z z' x x' : ℝ) (hg1 : HasDerivAt g1 g1' z) (hg2 : HasDerivAt g2 g2' z)
    (h0 : 0 < x) (h1 : x < 1) :
    (couplingApply (dualX (NF.realX eNV)) cS [(0, 0), (1, 0)] 1 1 #[(z, z'), (x, x')]
        #[(g1 z, g1' * z'), (g2 z, g2' * z'), (0, 0), (0, 0)] false).out[0]? = some (z, z') ∧
    IsDual (fun r => (couplingApply (NF.realX eNV) cS [0, 1] 1 1 #[z + r * z', x + r * x']
        #[g1 (z + r * z'), g2 (z + r * z'), 0, 0] false).out.getD 1 0) 0
      ((couplingApply (dualX (NF.realX eNV)) cS [(0, 0), (1, 0)] 1 1 #[(z, z'), (x, x')]
        #[(g1 z, g1' * z'), (g2 z, g2' * z'), (0, 0), (0, 0)] false).out.getD 1 0) ∧
    IsDual (fun r => (couplingApply (NF.realX eNV) cS [0, 1] 1 1 #[z + r * z', x + r * x']
        #[g1 (z + r * z'), g2 (z + r * z'), 0, 0] false).ld.getD 0 0) 0
      ((couplingApply (dualX (NF.realX eNV)) cS [(0, 0), (1, 0)] 1 1 #[(z, z'), (x, x')]
        #[(g1 z, g1' * z'), (g2 z, g2' * z'), (0, 0), (0, 0)] false).ld.getD 0 0) :=
  coupling_cS_dual_example (elSound_rq rfl rfl) g1 g2 g1' g2' z z' x x' hg1 hg2 (fun w h => cS_interior w h x h0 h1)

end
end DualXCoupling

/-! ## the INVERSE direction of the layer: the bounded RQ element satisfies `ElSound` (from `DualX.rqSpline_dual_inv_param_curve`), so
    `coupling_dual_near` holds for `couplingApply … true`; non-vacuity on the element `cS` -/

namespace DualXCoupling
noncomputable section
open RQWhole RQInverseWhole DualX DualXParam NF.StructureExec

variable {e : Float → ℝ}
variable {F : ℝ → List ℝ} {t : ℝ} {ds : List (ℝ × ℝ)}

variable (e)

def elYI (c : ElCfg) (p : List ℝ) (x : ℝ) : ℝ := outOf (NF.realX e) (elTransform (NF.realX e) c true p x)
def elLI (c : ElCfg) (p : List ℝ) (x : ℝ) : ℝ := ldOf (NF.realX e) (elTransform (NF.realX e) c true p x)

/-- the hypotheses on one element, inverse direction: the sliced parameters are an accepted configuration, no derivative
    parameter sits on the softplus threshold, the input lies strictly inside a y-bin -/
structure RQElInteriorI (c : ElCfg) (p : List ℝ) (y : ℝ) : Prop where
  valid : RQValid e (rqCfgOf c) (rqW (NF.realX e) c p) (rqH (NF.realX e) c p) (rqD c p)
  thr : ∀ k < (rqD c p).length, e (rqCfgOf c).beta * (rqD c p).getD k 0 ≠ 20
  bin : ∃ k, k < (rqW (NF.realX e) c p).length ∧ ys e (rqCfgOf c) (rqH (NF.realX e) c p) k < y ∧
    y < ys e (rqCfgOf c) (rqH (NF.realX e) c p) (k+1)

variable {e}

theorem elYI_rq {c : ElCfg} (hk : c.kind = "rq") (ht : c.tails = false) (p : List ℝ) (x : ℝ) :
    elYI e c p x = inv e (rqCfgOf c) (rqW (NF.realX e) c p) (rqH (NF.realX e) c p) (rqD c p) x := by
  unfold elYI inv
  rw [elTransform_rq _ c hk ht]
  cases rqSpline (NF.realX e) (rqCfgOf c) (rqW (NF.realX e) c p) (rqH (NF.realX e) c p) (rqD c p) true x <;>
    simp [outOf, Except.map]

theorem elLI_rq {c : ElCfg} (hk : c.kind = "rq") (ht : c.tails = false) (p : List ℝ) (x : ℝ) :
    elLI e c p x = invLd e (rqCfgOf c) (rqW (NF.realX e) c p) (rqH (NF.realX e) c p) (rqD c p) x := by
  unfold elLI invLd
  rw [elTransform_rq _ c hk ht]
  cases rqSpline (NF.realX e) (rqCfgOf c) (rqW (NF.realX e) c p) (rqH (NF.realX e) c p) (rqD c p) true x <;>
    simp [ldOf, Except.map]

/-! ## the executed coupling layer on dual arrays, inverse direction -/

variable {X P : ℝ → Array ℝ} {dX dP : Array (ℝ × ℝ)}

variable (e)

def LayerInteriorI (c : ElCfg) (mask : List ℝ) (B S : ℕ) (x params : Array ℝ) : Prop :=
  ∀ b tp s, b < B → tp < (transformIdx (NF.realX e) mask).length → s < S →
    RQElInteriorI e c (condSlice (NF.realX e) c.mult (transformIdx (NF.realX e) mask).length S params b tp s)
      (x.getD (flatIdx mask.length S b ((transformIdx (NF.realX e) mask).getD tp 0) s) (NF.realX e).zero)

variable {e}

theorem elSound_rq_inv {c : ElCfg} (hk : c.kind = "rq") (ht : c.tails = false) : ElSound e c true (RQElInteriorI e c) :=
  ⟨fun hP hX hin =>
    let ⟨k, hk', h0, h1⟩ := hin.bin
    dualRun_elTransform_rq hk ht true (rqSpline_dual_inv_param_curve (c := rqCfgOf c) (rqW_dualL c hP) (rqH_dualL c hP)
      (rqD_dualL c hP) hX hin.valid hin.thr k hk' h0 h1)⟩

section layer
variable {c : ElCfg} (hk : c.kind = "rq") (ht : c.tails = false) (dmask : List (ℝ × ℝ)) (B S : ℕ)
  (hX : IsDualA X t dX) (hP : IsDualA P t dP)
include hk ht hX hP

theorem coupling_rq_dual_err_none_inv (hin : LayerInteriorI e c (dmask.map Prod.fst) B S (X t) (P t)) :
    (couplingApply (dualX (NF.realX e)) c dmask B S dX dP true).err = none :=
  (coupling_dual_near (elSound_rq_inv hk ht) (rq_ne_affine hk) dmask B S hX hP hin).1

end layer

/-! ## non-vacuity -/

theorem cS_interiorI (w h y : ℝ) (h0 : 0 < y) (h1 : y < 1) : RQElInteriorI eNV cS [w, h, 0, 0] y := by
  obtain ⟨hv, hthr, _⟩ := cS_interior w h (1/2) (by norm_num) (by norm_num)
  have hl : (rqW (NF.realX eNV) cS [w, h, 0, 0]).length = 1 := by rw [rqW_length]; rfl
  refine ⟨hv, hthr, 0, by rw [hl]; exact Nat.one_pos, ?_, ?_⟩
  · rw [ys_zero hv, show eNV (rqCfgOf cS).box.bottom = 0 from eNV_box.2.2.1]; exact h0
  · have := ys_last hv
    rw [hl] at this
    rw [this, show eNV (rqCfgOf cS).box.top = 1 from eNV_box.2.2.2]; exact h1

theorem elTransform_rq_dual_inv_example (y y' : ℝ) (h0 : 0 < y) (h1 : y < 1) :
    ∃ v' l' : ℝ, elTransform (dualX (NF.realX eNV)) cS true [(0, 1), (0, 1), (0, 0), (0, 0)] (y, y')
        = .ok ((elYI eNV cS [0, 0, 0, 0] y, v'), (elLI eNV cS [0, 0, 0, 0] y, l'), []) ∧
      HasDerivAt (fun s => elYI eNV cS [Real.sin s, Real.exp s - 1, 0, 0] (y + s * y')) v' 0 ∧
      HasDerivAt (fun s => elLI eNV cS [Real.sin s, Real.exp s - 1, 0, 0] (y + s * y')) l' 0 := by
  have hP : IsDualL (fun s => [Real.sin s, Real.exp s - 1, 0, 0]) 0 [(0, 1), (0, 1), (0, 0), (0, 0)] :=
    IsDualL.cons isDual_sin_zero (IsDualL.cons isDual_exp_sub_one_zero
      (IsDualL.cons (IsDual.const 0 0) (IsDualL.cons (IsDual.const 0 0) (IsDualL.nil 0))))
  have key := (elSound_rq_inv (e := eNV) (c := cS) rfl rfl).values hP (IsDual.line y y')
  simp only [Real.sin_zero, Real.exp_zero, sub_self, zero_mul, add_zero] at key
  exact key (cS_interiorI _ _ y h0 h1)

theorem coupling_rq_dual_example_inv (g1 g2 : ℝ → ℝ) (g1' g2' z z' x x' : ℝ) (hg1 : HasDerivAt g1 g1' z) (hg2 : HasDerivAt g2 g2' z)
    (h0 : 0 < x) (h1 : x < 1) :
    (couplingApply (dualX (NF.realX eNV)) cS [(0, 0), (1, 0)] 1 1 #[(z, z'), (x, x')]
        #[(g1 z, g1' * z'), (g2 z, g2' * z'), (0, 0), (0, 0)] true).out[0]? = some (z, z') ∧
    IsDual (fun r => (couplingApply (NF.realX eNV) cS [0, 1] 1 1 #[z + r * z', x + r * x']
        #[g1 (z + r * z'), g2 (z + r * z'), 0, 0] true).out.getD 1 0) 0
      ((couplingApply (dualX (NF.realX eNV)) cS [(0, 0), (1, 0)] 1 1 #[(z, z'), (x, x')]
        #[(g1 z, g1' * z'), (g2 z, g2' * z'), (0, 0), (0, 0)] true).out.getD 1 0) ∧
    IsDual (fun r => (couplingApply (NF.realX eNV) cS [0, 1] 1 1 #[z + r * z', x + r * x']
        #[g1 (z + r * z'), g2 (z + r * z'), 0, 0] true).ld.getD 0 0) 0
      ((couplingApply (dualX (NF.realX eNV)) cS [(0, 0), (1, 0)] 1 1 #[(z, z'), (x, x')]
        #[(g1 z, g1' * z'), (g2 z, g2' * z'), (0, 0), (0, 0)] true).ld.getD 0 0) :=
  coupling_cS_dual_example (elSound_rq_inv rfl rfl) g1 g2 g1' g2' z z' x x' hg1 hg2 (fun w h => cS_interiorI w h x h0 h1)

end
end DualXCoupling
