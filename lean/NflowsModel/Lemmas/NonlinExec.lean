import NflowsModel.Core.Nonlin
import NflowsModel.Real.RealX
import NflowsModel.Lemmas.Nonlin
import NflowsModel.Lemmas.TanhStable
import NflowsModel.Lemmas.DualXNonlin
import NflowsModel.Lemmas.StructureExec
import Mathlib.Analysis.SpecialFunctions.Log.Deriv
import Mathlib.Analysis.SpecialFunctions.ExpDeriv
import Mathlib.Analysis.Calculus.Deriv.Inverse
import Mathlib.Tactic
/-!
# Lemmas/NonlinExec — the EXECUTED element-wise transformers of `Core/Nonlin.lean` at the reals

The scalar laws of `Lemmas/Nonlin.lean` (C01, C02) attached to the terms the driver runs (`expT`, `tanhT`, `leakyReluT`,
`sigmoidT`, `affineT`, `scaleShiftT`, `gluT` at `NF.realX e`, and the dispatcher `nonlinEl`; `logTanhT` and `cauchyT` are in
`Lemmas/NonlinExecLT.lean`).  For every element and both directions: the run in closed form on its exact domain (C17);
`LogDetAt` / `IncLogDetAt`: the program's own value output has a derivative whose modulus is `exp` of the returned log-det
(C01), obtained from the closed form near the point by `incLogDetAt_of_eventually` in ONE direction; the other direction's
follows from it and the round trip by the inverse function theorem (`incLogDetAt_of_leftInverse`,
`IncLogDetAt.of_roundTrip`; only `affineT`, decreasing when `scale < 0` and so outside `IncLogDetAt`, has both directions
differentiated directly); `RoundTrip`: the executed inverse on the executed forward output returns the input and the
negated log-det (C02).  `nonlinApply_poly` turns the loop of
`Core/Structure.nonlinApply`, in any scalar semantics, into `out = map value`, `ld = sum_except_batch (map log-det)`,
`err = first element error`; `nonlinApply_real` is its reading over ℝ.

What is NOT exact in the model (each stated as a theorem, none hidden in a hypothesis):

* `sigmoidT` forward: the log-det is computed with the thresholded `F.softplus` (threshold 20).  For `|T x| ≤ 20` it is the
  exact log-derivative (`sigmoidT_fwd_logdet`); for `|T x| > 20` it is NOT: it exceeds it by exactly
  `log (1 + exp (-|T x|)) ∈ (0, e⁻²⁰)` (`sigmoidT_fwd_threshold_gap`, `sigmoidT_fwd_logdet_false_beyond_threshold`).
* `sigmoidT` inverse (`Sigmoid.inverse` = `Logit.forward`) CLAMPS its argument to `[ε̂, 1 − ε̂]`: the round trip
  `inverse ∘ forward` is exact precisely when `ε̂ ≤ σ(T x) ≤ 1 − ε̂` (`sigmoidT_roundtrip`); outside, the inverse returns
  the logit of the clamp bound (`sigmoidT_inv_clamped_lo/hi`), and as a map of its argument it is constant there, so its
  derivative is `0` while the returned log-det is finite (`sigmoidT_inv_flat_lo`).
* `tanhT` forward for `x < −10` (the argument `−2x` of `F.softplus` past its threshold 20) returns `2 (log 2 + x)`; the
  executed inverse returns `−log (1 − y²)` there, so the log-det of the round trip is negated only up to `2 e^{2x}`
  (`tanhT_roundtrip` is for `−10 ≤ x`; `tanhT_roundtrip_logdet_false_below_threshold`).
* `leakyReluT` at the kink `x = 0` (not differentiable unless the slope is 1: `leakyReluT_not_differentiable_at_zero`).
* `affineT` with `scale = 0` is accepted by the element function (the constructor rejects it): then the returned log-det
  `log |0| = 0` is not the log-derivative (`affineT_zero_scale_counterexample`).

Readings of Python-side doubles are explicit hypotheses (`LeakyConsts`, `TanhConsts`, `e 0.5 = 1/2`, `SigmoidClamp`), each
with a concrete witness.
-/
open NF DualX

namespace NonlinExec
noncomputable section

/-! ## Vocabulary

`outY r` / `outL r` are the value / log-det output of a run `r` (`0` on an error) and `clampR lo hi x = min (max x lo) hi`;
all three are defined in `Lemmas/DualXNonlin.lean`. -/

/-- **C01 at one point** -/
def LogDetAt (F : ℝ → Except Err (ℝ × ℝ)) (x : ℝ) : Prop :=
  ∃ y ld d : ℝ, F x = .ok (y, ld) ∧ HasDerivAt (fun s => outY (F s)) d x ∧ |d| = Real.exp ld

def IncLogDetAt (F : ℝ → Except Err (ℝ × ℝ)) (x : ℝ) : Prop :=
  ∃ y ld : ℝ, F x = .ok (y, ld) ∧ HasDerivAt (fun s => outY (F s)) (Real.exp ld) x

theorem IncLogDetAt.logDetAt {F : ℝ → Except Err (ℝ × ℝ)} {x : ℝ} (h : IncLogDetAt F x) : LogDetAt F x := by
  obtain ⟨y, ld, h1, h2⟩ := h
  exact ⟨y, ld, _, h1, h2, abs_of_pos (Real.exp_pos ld)⟩

/-- **C02 at one point**.  Each element has
    two: `*_roundtrip` (forward, then inverse) and `*_roundtrip'` (inverse, then forward); the stage round trips of
    `Lemmas/StageMore.lean` and `StageRoundTrips.lean` consume the primed order. -/
def RoundTrip (fwd inv : ℝ → Except Err (ℝ × ℝ)) (x : ℝ) : Prop :=
  ∃ y ld : ℝ, fwd x = .ok (y, ld) ∧ inv y = .ok (x, -ld)

theorem RoundTrip.undoes {fwd inv : ℝ → Except Err (ℝ × ℝ)} {x y ld : ℝ} (h : RoundTrip fwd inv x)
    (hf : fwd x = .ok (y, ld)) : inv y = .ok (x, -ld) := by
  obtain ⟨_, _, h1, h2⟩ := h
  rw [h1] at hf
  cases hf
  exact h2

theorem incLogDetAt_of_eventually {F : ℝ → Except Err (ℝ × ℝ)} {fy fl : ℝ → ℝ} {x : ℝ}
    (hF : ∀ᶠ s in nhds x, F s = .ok (fy s, fl s)) (hd : HasDerivAt fy (Real.exp (fl x)) x) : IncLogDetAt F x :=
  ⟨fy x, fl x, hF.self_of_nhds, hasDerivAt_outY_of_eventually hF hd⟩

theorem logDetAt_of_eventually {F : ℝ → Except Err (ℝ × ℝ)} {fy fl : ℝ → ℝ} {x d : ℝ}
    (hF : ∀ᶠ s in nhds x, F s = .ok (fy s, fl s)) (hd : HasDerivAt fy d x) (habs : |d| = Real.exp (fl x)) :
    LogDetAt F x :=
  ⟨fy x, fl x, d, hF.self_of_nhds, hasDerivAt_outY_of_eventually hF hd, habs⟩

/-- the law in the form `Lemmas/NonlinExecLT.lean` states it -/
theorem incLogDetAt_iff {F : ℝ → Except Err (ℝ × ℝ)} {x : ℝ} :
    IncLogDetAt F x ↔ (∃ p, F x = .ok p) ∧ HasDerivAt (fun s => outY (F s)) (Real.exp (outL (F x))) x := by
  constructor
  · rintro ⟨y, ld, h1, h2⟩
    exact ⟨⟨_, h1⟩, by rw [h1]; exact h2⟩
  · rintro ⟨⟨⟨y, ld⟩, h1⟩, h2⟩
    exact ⟨y, ld, h1, by rw [h1] at h2; exact h2⟩

/-- **the law of one direction from the other direction's derivative**.  By the inverse function
    theorem `g` then has derivative `exp (m y)`: nothing about `g` is differentiated by hand. -/
theorem incLogDetAt_of_leftInverse {G : ℝ → Except Err (ℝ × ℝ)} {f g m : ℝ → ℝ} {y : ℝ}
    (hG : ∀ᶠ s in nhds y, G s = .ok (g s, m s)) (hc : ContinuousAt g y) (hfg : ∀ᶠ s in nhds y, f (g s) = s)
    (hf : HasDerivAt f (Real.exp (-(m y))) (g y)) : IncLogDetAt G y := by
  refine incLogDetAt_of_eventually hG ?_
  have := hf.of_local_left_inverse hc (Real.exp_pos _).ne' hfg
  rwa [← Real.exp_neg, neg_neg] at this

theorem IncLogDetAt.of_roundTrip {F G : ℝ → Except Err (ℝ × ℝ)} {g m : ℝ → ℝ} {y : ℝ}
    (hG : ∀ᶠ s in nhds y, G s = .ok (g s, m s)) (hc : ContinuousAt g y)
    (hrt : ∀ᶠ s in nhds y, RoundTrip G F s) (hF : IncLogDetAt F (g y)) : IncLogDetAt G y := by
  refine incLogDetAt_of_leftInverse (f := fun s => outY (F s)) hG hc ?_ ?_
  · filter_upwards [hG, hrt] with s hs ⟨x, l, h1, h2⟩
    rw [hs] at h1; cases h1
    show outY (F (g s)) = s
    rw [h2]; rfl
  · obtain ⟨x, l, h1, h2⟩ := hrt.self_of_nhds
    rw [hG.self_of_nhds] at h1; cases h1
    obtain ⟨_, ld, h3, h4⟩ := hF
    rw [h2] at h3; cases h3
    exact h4

/-! ## The domain guards of the four inverses, in any scalar semantics (C17): the error is raised exactly when the guard fires -/

section guards
variable {α : Type} (o : XOps α)

theorem expT_rejects_iff (x : α) : expT o true x = .error .outsideDomain ↔ o.le x o.zero = true := by
  unfold expT; by_cases h : o.le x o.zero = true <;> simp [h]

theorem tanhT_rejects_iff (x : α) :
    tanhT o true x = .error .outsideDomain ↔ (o.le x (o.neg o.one) || o.ge x o.one) = true := by
  unfold tanhT; by_cases h : (o.le x (o.neg o.one) || o.ge x o.one) = true <;> simp [h]

theorem sigmoidT_rejects_iff (T : α) (eps : Float) (x : α) :
    sigmoidT o T eps true x = .error .outsideDomain ↔ (o.lt x o.zero || o.gt x o.one) = true := by
  unfold sigmoidT; by_cases h : (o.lt x o.zero || o.gt x o.one) = true <;> simp [h]

theorem cauchyT_rejects_iff (x : α) :
    cauchyT o true x = .error .outsideDomain ↔ (o.lt x o.zero || o.gt x o.one) = true := by
  unfold cauchyT; by_cases h : (o.lt x o.zero || o.gt x o.one) = true <;> simp [h]

end guards

theorem not_of_accepts {ρ : Type} {P : Except Err ρ} {er : Err} {D : Prop} (hrej : P = .error er ↔ D)
    (hok : ∃ r, P = .ok r) : ¬ D := fun hd => by
  obtain ⟨r, hr⟩ := hok
  rw [hrej.mpr hd] at hr
  cases hr

variable (e : Float → ℝ)

/-! ## Exp (nonlinearities.py:20-34) -/

theorem expT_fwd_run (x : ℝ) : expT (NF.realX e) false x = .ok (Real.exp x, x) := rfl

theorem expT_inv_run {y : ℝ} (hy : 0 < y) : expT (NF.realX e) true y = .ok (Real.log y, -Real.log y) := by
  unfold expT
  simp only [if_true, NF.realX_le, NF.realX_zero, decide_eq_true_eq, if_neg (not_le.mpr hy), NF.realX_log, NF.realX_neg]

/-- **C17**: the inverse raises exactly outside the open half line -/
theorem expT_inv_error_iff (y : ℝ) : expT (NF.realX e) true y = .error .outsideDomain ↔ y ≤ 0 :=
  (expT_rejects_iff (NF.realX e) y).trans (by simp only [NF.realX_le, NF.realX_zero, decide_eq_true_eq])

theorem expT_inv_ok_iff (y : ℝ) : (∃ r, expT (NF.realX e) true y = .ok r) ↔ 0 < y :=
  ⟨fun h => not_le.mp (not_of_accepts (expT_inv_error_iff e y) h), fun hy => ⟨_, expT_inv_run e hy⟩⟩

/-- **C01, executed `Exp.inverse`** on the open domain -/
theorem expT_inv_logdet {y : ℝ} (hy : 0 < y) : IncLogDetAt (expT (NF.realX e) true) y :=
  have hI : ∀ᶠ s in nhds y, 0 < s := Ioi_mem_nhds hy
  incLogDetAt_of_leftInverse (f := Real.exp) (hI.mono fun _ hs => expT_inv_run e hs) (Real.continuousAt_log hy.ne')
    (hI.mono fun _ hs => Real.exp_log hs) (by rw [neg_neg]; exact Real.hasDerivAt_exp _)

/-- **C02, executed**: `Exp.inverse (Exp.forward x) = (x, −logdet)` for every `x` -/
theorem expT_roundtrip (x : ℝ) : RoundTrip (expT (NF.realX e) false) (expT (NF.realX e) true) x :=
  ⟨Real.exp x, x, expT_fwd_run e x, by rw [expT_inv_run e (Real.exp_pos x), Real.log_exp]⟩

/-- **C02, other order**, on the inverse's domain -/
theorem expT_roundtrip' {y : ℝ} (hy : 0 < y) : RoundTrip (expT (NF.realX e) true) (expT (NF.realX e) false) y :=
  ⟨Real.log y, -Real.log y, expT_inv_run e hy, by rw [expT_fwd_run, Real.exp_log hy, neg_neg]⟩

/-! ## PointwiseAffineTransform (standard.py:24-73) and the positive-scale affine element of coupling / autoregressive layers -/

theorem affineT_fwd_run (scale shift x : ℝ) :
    affineT (NF.realX e) scale shift false x = .ok (x * scale + shift, Real.log |scale|) := rfl

theorem affineT_inv_run (scale shift y : ℝ) :
    affineT (NF.realX e) scale shift true y = .ok ((y - shift) / scale, -Real.log |scale|) := rfl

/-- **C01, executed `PointwiseAffineTransform.forward`** (`scale ≠ 0`; DEcreasing when `scale < 0`: the derivative is
    `scale`, its modulus is `exp` of the returned `log |scale|`) -/
theorem affineT_fwd_logdet (scale shift x : ℝ) (h0 : scale ≠ 0) : LogDetAt (affineT (NF.realX e) scale shift false) x := by
  refine logDetAt_of_eventually (fy := fun s => s * scale + shift) (fl := fun _ => Real.log |scale|) (d := scale)
    (Filter.Eventually.of_forall fun s => affineT_fwd_run e scale shift s) ?_ ?_
  · exact (hasDerivAt_mul_const scale).add_const shift
  · rw [Real.exp_log (abs_pos.mpr h0)]

theorem affineT_inv_logdet (scale shift y : ℝ) (h0 : scale ≠ 0) : LogDetAt (affineT (NF.realX e) scale shift true) y := by
  refine logDetAt_of_eventually (fy := fun s => (s - shift) / scale) (fl := fun _ => -Real.log |scale|) (d := 1 / scale)
    (Filter.Eventually.of_forall fun s => affineT_inv_run e scale shift s) ?_ ?_
  · exact ((hasDerivAt_id' y).sub_const shift).div_const scale
  · rw [Real.exp_neg, Real.exp_log (abs_pos.mpr h0), abs_div, abs_one, one_div]

/-- **C02, executed**, both orders (`scale ≠ 0`) -/
theorem affineT_roundtrip (scale shift x : ℝ) (h0 : scale ≠ 0) :
    RoundTrip (affineT (NF.realX e) scale shift false) (affineT (NF.realX e) scale shift true) x :=
  ⟨_, _, affineT_fwd_run e scale shift x, by rw [affineT_inv_run, add_sub_cancel_right, mul_div_cancel_right₀ _ h0]⟩

theorem affineT_roundtrip' (scale shift y : ℝ) (h0 : scale ≠ 0) :
    RoundTrip (affineT (NF.realX e) scale shift true) (affineT (NF.realX e) scale shift false) y :=
  ⟨_, _, affineT_inv_run e scale shift y, by rw [affineT_fwd_run, neg_neg, div_mul_cancel₀ _ h0, sub_add_cancel]⟩

/-- the side condition `scale ≠ 0` is forced (the element function itself accepts `0`; `PointwiseAffineTransform.__init__`
    rejects it): with `scale = 0` the run returns log-det `log 0 = 0`, whose `exp` is `1`, but the map is constant -/
theorem affineT_zero_scale_counterexample (shift x : ℝ) :
    affineT (NF.realX e) 0 shift false x = .ok (shift, 0) ∧
      HasDerivAt (fun s => outY (affineT (NF.realX e) 0 shift false s)) 0 x ∧ |(0:ℝ)| ≠ Real.exp 0 := by
  refine ⟨by rw [affineT_fwd_run]; simp, ?_, by simp⟩
  exact hasDerivAt_outY_of_eventually (Filter.Eventually.of_forall fun s => affineT_fwd_run e 0 shift s)
    ((hasDerivAt_mul_const (0:ℝ)).add_const shift)

theorem scaleShiftT_fwd_run (scale shift x : ℝ) :
    scaleShiftT (NF.realX e) scale shift false x = .ok (x * scale + shift, Real.log scale) := rfl

theorem scaleShiftT_inv_run (scale shift y : ℝ) :
    scaleShiftT (NF.realX e) scale shift true y = .ok ((y - shift) / scale, -Real.log scale) := rfl

/-- **C01, executed affine element of `AffineCouplingTransform` / `MaskedAffineAutoregressiveTransform`** (positive scale) -/
theorem scaleShiftT_fwd_logdet (scale shift x : ℝ) (h0 : 0 < scale) :
    IncLogDetAt (scaleShiftT (NF.realX e) scale shift false) x := by
  refine incLogDetAt_of_eventually (fy := fun s => s * scale + shift) (fl := fun _ => Real.log scale)
    (Filter.Eventually.of_forall fun s => scaleShiftT_fwd_run e scale shift s) ?_
  rw [Real.exp_log h0]
  exact (hasDerivAt_mul_const scale).add_const shift

theorem scaleShiftT_roundtrip (scale shift x : ℝ) (h0 : scale ≠ 0) :
    RoundTrip (scaleShiftT (NF.realX e) scale shift false) (scaleShiftT (NF.realX e) scale shift true) x :=
  ⟨_, _, scaleShiftT_fwd_run e scale shift x, by rw [scaleShiftT_inv_run, add_sub_cancel_right, mul_div_cancel_right₀ _ h0]⟩

theorem scaleShiftT_roundtrip' (scale shift y : ℝ) (h0 : scale ≠ 0) :
    RoundTrip (scaleShiftT (NF.realX e) scale shift true) (scaleShiftT (NF.realX e) scale shift false) y :=
  ⟨_, _, scaleShiftT_inv_run e scale shift y, by rw [scaleShiftT_fwd_run, neg_neg, div_mul_cancel₀ _ h0, sub_add_cancel]⟩

theorem scaleShiftT_inv_logdet (scale shift y : ℝ) (h0 : 0 < scale) :
    IncLogDetAt (scaleShiftT (NF.realX e) scale shift true) y :=
  IncLogDetAt.of_roundTrip (F := scaleShiftT (NF.realX e) scale shift false)
    (Filter.Eventually.of_forall fun s => scaleShiftT_inv_run e scale shift s)
    ((continuous_id.sub continuous_const).div_const scale).continuousAt
    (Filter.Eventually.of_forall fun s => scaleShiftT_roundtrip' e scale shift s h0.ne')
    (scaleShiftT_fwd_logdet e scale shift _ h0)

/-! ## GatedLinearUnit (nonlinearities.py:183-197): gate `σ(ctx)`, log-det `log σ(ctx)` for every element it multiplies -/

/-- the gate, as the executed `o.sigmoid` computes it over ℝ -/
def gate (ctx : ℝ) : ℝ := 1 / (1 + Real.exp (-ctx))

theorem gate_pos (ctx : ℝ) : 0 < gate ctx := by unfold gate; positivity

theorem gluT_fwd_run (ctx x : ℝ) : gluT (NF.realX e) ctx false x = .ok (x * gate ctx, Real.log (gate ctx)) := by
  unfold gluT gate
  simp only [Bool.false_eq_true, if_false, NF.realX_mul, NF.realX_log, NF.realX_sigmoid]

theorem gluT_inv_run (ctx y : ℝ) : gluT (NF.realX e) ctx true y = .ok (y / gate ctx, -Real.log (gate ctx)) := by
  unfold gluT gate
  simp only [if_true, NF.realX_div, NF.realX_log, NF.realX_neg, NF.realX_sigmoid]

/-- **C01, executed `GatedLinearUnit.forward`** for one element: derivative `σ(ctx) = exp (log σ(ctx))`; no side condition -/
theorem gluT_fwd_logdet (ctx x : ℝ) : IncLogDetAt (gluT (NF.realX e) ctx false) x := by
  refine incLogDetAt_of_eventually (fy := fun s => s * gate ctx) (fl := fun _ => Real.log (gate ctx))
    (Filter.Eventually.of_forall fun s => gluT_fwd_run e ctx s) ?_
  rw [Real.exp_log (gate_pos ctx)]
  exact hasDerivAt_mul_const (gate ctx)

theorem gluT_roundtrip (ctx x : ℝ) : RoundTrip (gluT (NF.realX e) ctx false) (gluT (NF.realX e) ctx true) x :=
  ⟨_, _, gluT_fwd_run e ctx x, by rw [gluT_inv_run, mul_div_cancel_right₀ _ (gate_pos ctx).ne']⟩

theorem gluT_roundtrip' (ctx y : ℝ) : RoundTrip (gluT (NF.realX e) ctx true) (gluT (NF.realX e) ctx false) y :=
  ⟨_, _, gluT_inv_run e ctx y, by rw [gluT_fwd_run, neg_neg, div_mul_cancel₀ _ (gate_pos ctx).ne']⟩

theorem gluT_inv_logdet (ctx y : ℝ) : IncLogDetAt (gluT (NF.realX e) ctx true) y :=
  IncLogDetAt.of_roundTrip (F := gluT (NF.realX e) ctx false)
    (Filter.Eventually.of_forall fun s => gluT_inv_run e ctx s) (continuous_id.div_const _).continuousAt
    (Filter.Eventually.of_forall fun s => gluT_roundtrip' e ctx s) (gluT_fwd_logdet e ctx _)

/-- **row log-det of the executed GLU**: for a row of `D` elements sharing one context value (a `[B, 1]` context broadcast
    over `[B, D]` inputs) the sum of the returned per-element log-dets is `D · log σ(ctx)` -/
theorem gluT_row_logdet (ctx : ℝ) (xs : List ℝ) :
    (xs.map (fun x => outL (gluT (NF.realX e) ctx false x))).sum = xs.length * Real.log (gate ctx) := by
  induction xs with
  | nil => simp
  | cons a t ih =>
    rw [List.map_cons, List.sum_cons, ih, gluT_fwd_run]
    simp only [outL_ok, List.length_cons, Nat.cast_add, Nat.cast_one]
    ring

/-! ## LeakyReLU (nonlinearities.py:120-142) -/

/-- what the real statement needs of the Python-side constants of `LeakyReLU(negative_slope)`: the slope is positive, the
    held attribute `log_negative_slope` (an independent argument `ls` of the model function) IS the logarithm of the slope,
    and the double division `1.0 / slope` that the inverse forms is read as the exact reciprocal -/
structure LeakyConsts (slope : Float) (ls : ℝ) : Prop where
  hpos : 0 < e slope
  hls : ls = Real.log (e slope)
  hinv : e (1.0 / slope) = 1 / e slope

theorem leakyReluT_fwd_run (slope : Float) (ls x : ℝ) :
    leakyReluT (NF.realX e) slope ls false x
      = .ok (if x < 0 then e slope * x else x, ls * (if x < 0 then 1 else 0)) := by
  unfold leakyReluT
  simp only [Bool.false_eq_true, if_false, NF.realX_lt, NF.realX_zero, decide_eq_true_eq, NF.realX_mul, NF.realX_ofFloat,
    NF.realX_one]

theorem leakyReluT_inv_run (slope : Float) (ls x : ℝ) :
    leakyReluT (NF.realX e) slope ls true x
      = .ok (if x < 0 then e (1.0 / slope) * x else x, -(ls * (if x < 0 then 1 else 0))) := by
  unfold leakyReluT
  simp only [if_true, NF.realX_lt, NF.realX_zero, decide_eq_true_eq, NF.realX_mul, NF.realX_ofFloat, NF.realX_one,
    NF.realX_neg]

variable {e}

/-- **C01, executed `LeakyReLU.forward`**, away from the kink -/
theorem leakyReluT_fwd_logdet {slope : Float} {ls : ℝ} (hc : LeakyConsts e slope ls) {x : ℝ} (hx : x ≠ 0) :
    IncLogDetAt (leakyReluT (NF.realX e) slope ls false) x := by
  rcases lt_or_gt_of_ne hx with hneg | hpos
  · refine incLogDetAt_of_eventually (fy := fun s => e slope * s) (fl := fun _ => ls * 1) ?_ ?_
    · filter_upwards [Iio_mem_nhds hneg] with s hs
      rw [leakyReluT_fwd_run, if_pos (Set.mem_Iio.mp hs), if_pos (Set.mem_Iio.mp hs)]
    · rw [mul_one, hc.hls, Real.exp_log hc.hpos]
      exact ((hasDerivAt_id' x).const_mul (e slope)).congr_deriv (mul_one _)
  · refine incLogDetAt_of_eventually (fy := fun s => s) (fl := fun _ => ls * 0) ?_ ?_
    · filter_upwards [Ioi_mem_nhds hpos] with s hs
      rw [leakyReluT_fwd_run, if_neg (not_lt.mpr (le_of_lt (Set.mem_Ioi.mp hs))), if_neg (not_lt.mpr (le_of_lt (Set.mem_Ioi.mp hs)))]
    · rw [mul_zero, Real.exp_zero]; exact hasDerivAt_id' x

/-- **C02, executed**: `LeakyReLU.inverse (LeakyReLU.forward x) = (x, −logdet)` at EVERY `x` (the kink included) -/
theorem leakyReluT_roundtrip {slope : Float} {ls : ℝ} (hc : LeakyConsts e slope ls) (x : ℝ) :
    RoundTrip (leakyReluT (NF.realX e) slope ls false) (leakyReluT (NF.realX e) slope ls true) x := by
  refine ⟨_, _, leakyReluT_fwd_run e slope ls x, ?_⟩
  rw [leakyReluT_inv_run]
  by_cases hx : x < 0
  · have hy : e slope * x < 0 := mul_neg_of_pos_of_neg hc.hpos hx
    rw [if_pos hx, if_pos hy, if_pos hy, if_pos hx, hc.hinv]
    congr 2
    have := hc.hpos.ne'
    field_simp
  · rw [if_neg hx, if_neg hx, if_neg hx]

/-- **C02, other order** -/
theorem leakyReluT_roundtrip' {slope : Float} {ls : ℝ} (hc : LeakyConsts e slope ls) (y : ℝ) :
    RoundTrip (leakyReluT (NF.realX e) slope ls true) (leakyReluT (NF.realX e) slope ls false) y := by
  refine ⟨_, _, leakyReluT_inv_run e slope ls y, ?_⟩
  rw [leakyReluT_fwd_run, neg_neg]
  by_cases hy : y < 0
  · have hpos' : 0 < e (1.0 / slope) := by rw [hc.hinv]; exact one_div_pos.mpr hc.hpos
    have hx : e (1.0 / slope) * y < 0 := mul_neg_of_pos_of_neg hpos' hy
    rw [if_pos hy, if_pos hx, if_pos hx, if_pos hy, hc.hinv]
    congr 2
    have := hc.hpos.ne'
    field_simp
  · rw [if_neg hy, if_neg hy, if_neg hy]

/-- **C01, executed `LeakyReLU.inverse`**, away from the kink: on either side the run is linear in closed form, and the
    forward law at its (nonzero) output gives the rest -/
theorem leakyReluT_inv_logdet {slope : Float} {ls : ℝ} (hc : LeakyConsts e slope ls) {x : ℝ} (hx : x ≠ 0) :
    IncLogDetAt (leakyReluT (NF.realX e) slope ls true) x := by
  have hpos' : 0 < e (1.0 / slope) := by rw [hc.hinv]; exact one_div_pos.mpr hc.hpos
  have key : ∀ (g : ℝ → ℝ) (m : ℝ), (∀ᶠ s in nhds x, leakyReluT (NF.realX e) slope ls true s = .ok (g s, m)) →
      Continuous g → g x ≠ 0 → IncLogDetAt (leakyReluT (NF.realX e) slope ls true) x := fun g m hG hg h0 =>
    IncLogDetAt.of_roundTrip (F := leakyReluT (NF.realX e) slope ls false) (m := fun _ => m) hG hg.continuousAt
      (Filter.Eventually.of_forall fun s => leakyReluT_roundtrip' hc s) (leakyReluT_fwd_logdet hc h0)
  rcases lt_or_gt_of_ne hx with hneg | hpos
  · refine key (fun s => e (1.0 / slope) * s) (-(ls * 1)) ?_ (continuous_const.mul continuous_id)
      (mul_neg_of_pos_of_neg hpos' hneg).ne
    filter_upwards [Iio_mem_nhds hneg] with s hs
    rw [leakyReluT_inv_run, if_pos (Set.mem_Iio.mp hs), if_pos (Set.mem_Iio.mp hs)]
  · refine key (fun s => s) (-(ls * 0)) ?_ continuous_id hpos.ne'
    filter_upwards [Ioi_mem_nhds hpos] with s hs
    rw [leakyReluT_inv_run, if_neg (not_lt.mpr (le_of_lt (Set.mem_Ioi.mp hs))), if_neg (not_lt.mpr (le_of_lt (Set.mem_Ioi.mp hs)))]

/-- the kink is a genuine exclusion: with a slope other than `1` the executed forward map is not differentiable at `0`
    (the run there returns `(0, 0)`, i.e. claims derivative `1`) -/
theorem leakyReluT_not_differentiable_at_zero (slope : Float) (ls : ℝ) (h1 : e slope ≠ 1) :
    leakyReluT (NF.realX e) slope ls false 0 = .ok (0, 0) ∧
      ¬ DifferentiableAt ℝ (fun s => outY (leakyReluT (NF.realX e) slope ls false s)) 0 := by
  refine ⟨by rw [leakyReluT_fwd_run]; simp, ?_⟩
  rintro ⟨L, hL⟩
  have hd : HasDerivAt (fun s => outY (leakyReluT (NF.realX e) slope ls false s)) (L 1) 0 := hL.hasDerivAt
  have hr : HasDerivWithinAt (fun s : ℝ => s) (L 1) (Set.Ici 0) 0 := by
    refine hd.hasDerivWithinAt.congr (fun s hs => ?_) ?_
    · rw [leakyReluT_fwd_run]; simp [not_lt.mpr (Set.mem_Ici.mp hs)]
    · rw [leakyReluT_fwd_run]; simp
  have hl : HasDerivWithinAt (fun s : ℝ => e slope * s) (L 1) (Set.Iic 0) 0 := by
    refine hd.hasDerivWithinAt.congr (fun s hs => ?_) ?_
    · rw [leakyReluT_fwd_run]
      rcases lt_or_eq_of_le (Set.mem_Iic.mp hs) with h | h
      · simp [h]
      · subst h; simp
    · rw [leakyReluT_fwd_run]; simp
  have e1 : L 1 = 1 := (uniqueDiffWithinAt_Ici (0:ℝ)).eq_deriv _ hr (hasDerivAt_id' (0:ℝ)).hasDerivWithinAt
  have e2 : L 1 = e slope := by
    refine (uniqueDiffWithinAt_Iic (0:ℝ)).eq_deriv _ hl ?_
    exact (((hasDerivAt_id' (0:ℝ)).const_mul (e slope)).congr_deriv (mul_one _)).hasDerivWithinAt
  exact h1 (e2.symm.trans e1)

/-- witness of `LeakyConsts` (the library default `negative_slope = 0.01`): a two-valued reading -/
def eLeaky (f : Float) : ℝ := if f == 0.01 then 1 / 100 else 100
theorem eLeaky_slope : eLeaky 0.01 = 1 / 100 := if_pos FloatFacts.leak_beq_leak
theorem eLeaky_inv : eLeaky (1.0 / 0.01) = 100 := by simp [eLeaky, FloatFacts.one_div_leak_beq_leak]

theorem leakyConsts_example : LeakyConsts eLeaky 0.01 (Real.log (1 / 100)) := by
  refine ⟨?_, ?_, ?_⟩
  · rw [eLeaky_slope]; norm_num
  · rw [eLeaky_slope]
  · rw [eLeaky_slope, eLeaky_inv]; norm_num

variable (e)

/-! ## Tanh (nonlinearities.py:37-52); the forward direction is `TanhStable.tanhT_forward(_threshold)` -/

/-- the executed `Tanh.inverse` value (with `e 0.5 = 1/2`) -/
def artanh (y : ℝ) : ℝ := 1 / 2 * Real.log ((1 + y) / (1 - y))

theorem artanh_eq {y : ℝ} (h1 : -1 < y) (h2 : y < 1) : artanh y = Real.artanh y :=
  (Real.artanh_eq_half_log ⟨h1.le, h2.le⟩).symm

theorem artanh_tanh (x : ℝ) : artanh (Real.tanh x) = x := by
  rw [artanh_eq (Real.neg_one_lt_tanh x) (Real.tanh_lt_one x), Real.artanh_tanh]

theorem tanh_artanh {y : ℝ} (h1 : -1 < y) (h2 : y < 1) : Real.tanh (artanh y) = y := by
  rw [artanh_eq h1 h2, Real.tanh_artanh ⟨h1, h2⟩]

theorem tanhT_inv_run (h05 : e 0.5 = 1 / 2) {y : ℝ} (h1 : -1 < y) (h2 : y < 1) :
    tanhT (NF.realX e) true y = .ok (artanh y, -Real.log (1 - y * y)) := by
  unfold tanhT artanh
  simp only [if_true, NF.realX_le, XOps.ge, NF.realX_neg, NF.realX_one, decide_eq_true_eq, Bool.or_eq_true, not_le.mpr h1,
    not_le.mpr h2, or_self, if_false, NF.realX_mul, NF.realX_ofFloat, h05, NF.realX_log, NF.realX_div, NF.realX_add,
    NF.realX_sub]

/-- **C17**: `Tanh.inverse` raises exactly outside the open interval `(−1, 1)` -/
theorem tanhT_inv_error_iff (y : ℝ) : tanhT (NF.realX e) true y = .error .outsideDomain ↔ (y ≤ -1 ∨ 1 ≤ y) :=
  (tanhT_rejects_iff (NF.realX e) y).trans (by
    simp only [NF.realX_le, XOps.ge, NF.realX_neg, NF.realX_one, decide_eq_true_eq, Bool.or_eq_true])

theorem continuousAt_artanh {y : ℝ} (h1 : -1 < y) (h2 : y < 1) : ContinuousAt artanh y := by
  have hne : (1 - y) ≠ 0 := (sub_pos.mpr h2).ne'
  have hne' : (1 + y) ≠ 0 := (neg_lt_iff_pos_add'.mp h1).ne'
  exact continuousAt_const.mul
    (((continuousAt_const.add continuousAt_id).div (continuousAt_const.sub continuousAt_id) hne).log (div_ne_zero hne' hne))

/-- **C01, executed `Tanh.inverse`** on the open domain: `tanh` undoes it and has derivative `1 − y² = exp (log (1−y²))` at
    its output.  (From the FUNCTION `tanh`, not from the forward program, whose log-det is inexact below `−10`.) -/
theorem tanhT_inv_logdet (h05 : e 0.5 = 1 / 2) {y : ℝ} (h1 : -1 < y) (h2 : y < 1) :
    IncLogDetAt (tanhT (NF.realX e) true) y := by
  have hI : ∀ᶠ s in nhds y, -1 < s ∧ s < 1 := Ioo_mem_nhds h1 h2
  refine incLogDetAt_of_leftInverse (f := Real.tanh) (g := artanh) (m := fun s => -Real.log (1 - s * s))
    (hI.mono fun s hs => tanhT_inv_run e h05 hs.1 hs.2) (continuousAt_artanh h1 h2)
    (hI.mono fun s hs => tanh_artanh hs.1 hs.2) ?_
  have hpos : 0 < 1 - y * y := by
    rw [← pow_two, sub_pos, sq_lt_one_iff_abs_lt_one]; exact abs_lt.mpr ⟨h1, h2⟩
  have := Nonlin.hasDerivAt_tanh (artanh y)
  rwa [tanh_artanh h1 h2, pow_two, ← Real.exp_log hpos, ← neg_neg (Real.log _)] at this

structure TanhConsts : Prop where
  h2 : e 2.0 = 2
  hm2 : e (-2.0) = -2
  hl : e (Float.log 2.0) = Real.log 2
  h05 : e 0.5 = 1 / 2

/-- **C02, executed**: `Tanh.inverse (Tanh.forward x) = (x, −logdet)` for `−10 ≤ x` (below, see the next theorem) -/
theorem tanhT_roundtrip (hc : TanhConsts e) {x : ℝ} (hx : -10 ≤ x) :
    RoundTrip (tanhT (NF.realX e) false) (tanhT (NF.realX e) true) x := by
  refine ⟨_, _, (TanhStable.tanhT_forward e x hc.h2 hc.hm2 hc.hl hx).1, ?_⟩
  rw [tanhT_inv_run e hc.h05 (Real.neg_one_lt_tanh x) (Real.tanh_lt_one x), artanh_tanh, pow_two]

/-- for `x < −10` (`F.softplus` past its threshold) the VALUE round-trips but the log-dets are not negatives of each
    other: the forward pass returns `2 (log 2 + x)`, the inverse `−log (1 − tanh² x)` (they differ by `2 log (1 + e^{2x}) ≤ 2 e^{2x}`,
    `TanhStable.tanhT_forward_threshold`) -/
theorem tanhT_roundtrip_logdet_false_below_threshold (hc : TanhConsts e) {x : ℝ} (hx : x < -10) :
    (∃ ld ld', tanhT (NF.realX e) false x = .ok (Real.tanh x, ld) ∧ tanhT (NF.realX e) true (Real.tanh x) = .ok (x, ld')
        ∧ ld' ≠ -ld) ∧
      ¬ RoundTrip (tanhT (NF.realX e) false) (tanhT (NF.realX e) true) x := by
  have hf := (TanhStable.tanhT_forward_threshold e x hc.h2 hc.hm2 hc.hl hx).1
  have hi : tanhT (NF.realX e) true (Real.tanh x) = .ok (x, -Real.log (1 - Real.tanh x * Real.tanh x)) := by
    rw [tanhT_inv_run e hc.h05 (Real.neg_one_lt_tanh x) (Real.tanh_lt_one x), artanh_tanh]
  have hne : -Real.log (1 - Real.tanh x * Real.tanh x) ≠ -(2 * (Real.log 2 + x)) := by
    rw [← pow_two, ← TanhStable.stable_eq]
    intro h
    have h' : Real.log (1 + Real.exp (-2 * x)) = -2 * x := by linarith only [h]
    have hp : (0:ℝ) < 1 + Real.exp (-2 * x) := add_pos one_pos (Real.exp_pos _)
    have := congrArg Real.exp h'
    rw [Real.exp_log hp] at this
    exact (lt_one_add _).ne' this
  exact ⟨⟨_, _, hf, hi, hne⟩, fun hrt => hne (Prod.mk.inj (Except.ok.inj (hi.symm.trans (hrt.undoes hf)))).2⟩

/-- **C02, other order**: `Tanh.forward (Tanh.inverse y) = (y, −logdet)` on `(−1, 1)` as long as `artanh y ≥ −10` -/
theorem tanhT_roundtrip' (hc : TanhConsts e) {y : ℝ} (h1 : -1 < y) (h2 : y < 1) (hthr : -10 ≤ artanh y) :
    RoundTrip (tanhT (NF.realX e) true) (tanhT (NF.realX e) false) y := by
  refine ⟨_, _, tanhT_inv_run e hc.h05 h1 h2, ?_⟩
  rw [(TanhStable.tanhT_forward e (artanh y) hc.h2 hc.hm2 hc.hl hthr).1, tanh_artanh h1 h2, neg_neg, pow_two]

/-- witness of `TanhConsts`, conditional on three `Float` comparisons with the kernel-opaque `Float.log 2.0`
    (`#eval` confirms each: `Float.log 2.0 = 0.693…`) -/
def eTanh (f : Float) : ℝ := if f == 2.0 then 2 else if f == -2.0 then -2 else if f == 0.5 then 1 / 2 else Real.log 2
theorem eTanh_key (i : Nat) {k : Float} {v : ℝ}
    (hi : [((2.0:Float), (2:ℝ)), (-2.0, -2), (0.5, 1 / 2)][i]? = some (k, v)) : eTanh k = v :=
  FloatFacts.readTbl_key (Real.log 2) i hi FloatFacts.tanh_keys

theorem tanhConsts_example (k1 : (Float.log 2.0 == 2.0) = false) (k2 : (Float.log 2.0 == -2.0) = false)
    (k3 : (Float.log 2.0 == 0.5) = false) : TanhConsts eTanh :=
  ⟨eTanh_key 0 rfl, eTanh_key 1 rfl, by simp [eTanh, k1, k2, k3], eTanh_key 2 rfl⟩
/-- the reading needed by the inverse alone has an unconditional witness -/
theorem tanh_half_example : eTanh 0.5 = 1 / 2 := eTanh_key 2 rfl

/-! ## Sigmoid / Logit with temperature (nonlinearities.py:145-180) -/

/-- `F.softplus` as executed over ℝ -/
def spT (z : ℝ) : ℝ := if 20 < z then z else Real.log (1 + Real.exp z)
/-- the log-det formula as executed, as a function of `T` and `z = T x` -/
def sigLd (T z : ℝ) : ℝ := Real.log T - spT (-z) - spT z
/-- the exact log-derivative of `x ↦ σ(T x)` (`z = T x`) -/
def sigLdIdeal (T z : ℝ) : ℝ := Real.log T - Real.log (1 + Real.exp (-z)) - Real.log (1 + Real.exp z)
def logit (u : ℝ) : ℝ := Real.log u - Real.log (1 - u)

theorem gate_lt_one (z : ℝ) : gate z < 1 := by
  unfold gate
  rw [div_lt_one (add_pos one_pos (Real.exp_pos _))]
  exact lt_add_of_pos_right 1 (Real.exp_pos _)

theorem sigLd_eq_ideal (T : ℝ) {z : ℝ} (h : |z| ≤ 20) : sigLd T z = sigLdIdeal T z := by
  obtain ⟨h1, h2⟩ := abs_le.mp h
  unfold sigLd sigLdIdeal spT
  rw [if_neg (by linarith only [h1]), if_neg (by linarith only [h2])]

theorem sigLd_gap (T : ℝ) {z : ℝ} (h : 20 < |z|) : sigLd T z = sigLdIdeal T z + Real.log (1 + Real.exp (-|z|)) := by
  unfold sigLd sigLdIdeal spT
  rcases lt_abs.mp h with hz | hz
  · rw [abs_of_pos (by linarith only [hz]), if_neg (by linarith only [hz]), if_pos hz, Nonlin.log_one_add_exp z]; ring
  · rw [abs_of_neg (by linarith only [hz]), if_pos hz, if_neg (by linarith only [hz]), neg_neg, Nonlin.log_one_add_exp (-z), neg_neg]; ring

theorem gap_pos (z : ℝ) : 0 < Real.log (1 + Real.exp (-|z|)) :=
  Real.log_pos (lt_add_of_pos_right 1 (Real.exp_pos _))

theorem gap_le {z : ℝ} (h : 20 < |z|) : Real.log (1 + Real.exp (-|z|)) ≤ Real.exp (-20) := by
  have h1 := Real.log_le_sub_one_of_pos (show 0 < 1 + Real.exp (-|z|) by positivity)
  have h2 : Real.exp (-|z|) ≤ Real.exp (-20) := Real.exp_le_exp.mpr (by linarith)
  linarith

theorem sigmoidT_fwd_run (T : ℝ) (eps : Float) (x : ℝ) :
    sigmoidT (NF.realX e) T eps false x = .ok (gate (T * x), sigLd T (T * x)) := by
  unfold sigmoidT gate sigLd spT
  simp only [Bool.false_eq_true, if_false, NF.realX_mul, NF.realX_sub, NF.realX_log, NF.realX_neg, NF.realX_softplus,
    NF.realX_sigmoid]

theorem hasDerivAt_gate {T : ℝ} (hT : 0 < T) (x : ℝ) :
    HasDerivAt (fun s => gate (T * s)) (Real.exp (sigLdIdeal T (T * x))) x :=
  Nonlin.sigmoid_deriv hT x

theorem sigmoidT_fwd_hasDerivAt {T : ℝ} (eps : Float) (x : ℝ) (hT : 0 < T) :
    HasDerivAt (fun s => outY (sigmoidT (NF.realX e) T eps false s)) (Real.exp (sigLdIdeal T (T * x))) x :=
  hasDerivAt_outY_of_eventually (Filter.Eventually.of_forall fun s => sigmoidT_fwd_run e T eps s) (hasDerivAt_gate hT x)

/-- **C01, executed `Sigmoid.forward`** (`0 < T`), within the `softplus` thresholds `|T x| ≤ 20` -/
theorem sigmoidT_fwd_logdet {T : ℝ} (eps : Float) {x : ℝ} (hT : 0 < T) (h : |T * x| ≤ 20) :
    IncLogDetAt (sigmoidT (NF.realX e) T eps false) x :=
  ⟨_, _, sigmoidT_fwd_run e T eps x, by rw [sigLd_eq_ideal T h]; exact sigmoidT_fwd_hasDerivAt e eps x hT⟩

/-- beyond a threshold: the returned log-det is the exact log-derivative PLUS `log (1 + e^{−|T x|}) ∈ (0, e⁻²⁰]`
    (the approximation `F.softplus` declares) -/
theorem sigmoidT_fwd_threshold_gap {T : ℝ} (eps : Float) {x : ℝ} (hT : 0 < T) (h : 20 < |T * x|) :
    ∃ ld, sigmoidT (NF.realX e) T eps false x = .ok (gate (T * x), ld) ∧
      HasDerivAt (fun s => outY (sigmoidT (NF.realX e) T eps false s)) (Real.exp (sigLdIdeal T (T * x))) x ∧
      ld = sigLdIdeal T (T * x) + Real.log (1 + Real.exp (-|T * x|)) ∧
      0 < ld - sigLdIdeal T (T * x) ∧ ld - sigLdIdeal T (T * x) ≤ Real.exp (-20) := by
  refine ⟨_, sigmoidT_fwd_run e T eps x, sigmoidT_fwd_hasDerivAt e eps x hT, sigLd_gap T h, ?_, ?_⟩
  · rw [sigLd_gap T h]; linarith [gap_pos (T * x)]
  · rw [sigLd_gap T h]; linarith [gap_le h]

/-- **the thresholded formula is NOT the log-derivative beyond the threshold**: for `|T x| > 20` the C01 statement is
    false of the executed `Sigmoid.forward` (by `log (1 + e^{−|T x|})`, at most `e⁻²⁰ ≈ 2·10⁻⁹`) -/
theorem sigmoidT_fwd_logdet_false_beyond_threshold {T : ℝ} (eps : Float) {x : ℝ} (hT : 0 < T) (h : 20 < |T * x|) :
    ¬ LogDetAt (sigmoidT (NF.realX e) T eps false) x := by
  rintro ⟨y, ld, d, h1, h2, h3⟩
  rw [sigmoidT_fwd_run] at h1
  injection h1 with h1
  injection h1 with _ hld
  have hd := h2.unique (sigmoidT_fwd_hasDerivAt e eps x hT)
  rw [hd, abs_of_pos (Real.exp_pos _), ← hld, sigLd_gap T h] at h3
  have := Real.exp_injective h3
  linarith [gap_pos (T * x)]

theorem clamp_real (lo hi x : ℝ) : (NF.realX e).clamp lo hi x = clampR lo hi x := by
  unfold XOps.clamp XOps.minA XOps.maxA clampR
  simp only [NF.realX_lt, decide_eq_true_eq]
  have hmax : (if x < lo then lo else x) = max x lo := by
    split_ifs with h
    · exact (max_eq_right h.le).symm
    · exact (max_eq_left (not_lt.mp h)).symm
  rw [hmax]
  split_ifs with h
  · exact (min_eq_right h.le).symm
  · exact (min_eq_left (not_lt.mp h)).symm

theorem clampR_of_mem {lo hi y : ℝ} (hlo : lo ≤ y) (hhi : y ≤ hi) : clampR lo hi y = y := by
  unfold clampR; rw [max_eq_left hlo, min_eq_left hhi]

theorem sigmoidT_inv_run (T : ℝ) (eps : Float) {y : ℝ} (h0 : 0 ≤ y) (h1 : y ≤ 1) :
    sigmoidT (NF.realX e) T eps true y
      = .ok (1 / T * logit (clampR (e eps) (e (1 - eps)) y),
             -sigLd T (T * (1 / T * logit (clampR (e eps) (e (1 - eps)) y)))) := by
  unfold sigmoidT logit sigLd spT
  simp only [if_true, NF.realX_lt, XOps.gt, NF.realX_zero, NF.realX_one, decide_eq_true_eq, Bool.or_eq_true,
    not_lt.mpr h0, not_lt.mpr h1, or_self, if_false, clamp_real, NF.realX_ofFloat, NF.realX_mul, NF.realX_div,
    NF.realX_sub, NF.realX_log, NF.realX_log1p, NF.realX_neg, NF.realX_softplus, ← sub_eq_add_neg]

/-- **C17**: `Sigmoid.inverse` raises exactly outside the closed interval `[0, 1]` -/
theorem sigmoidT_inv_error_iff (T : ℝ) (eps : Float) (y : ℝ) :
    sigmoidT (NF.realX e) T eps true y = .error .outsideDomain ↔ (y < 0 ∨ 1 < y) :=
  (sigmoidT_rejects_iff (NF.realX e) T eps y).trans (by
    simp only [NF.realX_lt, XOps.gt, NF.realX_zero, NF.realX_one, decide_eq_true_eq, Bool.or_eq_true])

theorem logit_gate (z : ℝ) : logit (gate z) = z := by
  unfold logit gate
  have hp : 0 < 1 + Real.exp (-z) := add_pos one_pos (Real.exp_pos _)
  have h1 : 1 - 1 / (1 + Real.exp (-z)) = Real.exp (-z) / (1 + Real.exp (-z)) := by field_simp; ring
  rw [h1, Real.log_div (Real.exp_pos _).ne' hp.ne', Real.log_exp, one_div, Real.log_inv]
  ring

theorem gate_logit {u : ℝ} (h0 : 0 < u) (h1 : u < 1) : gate (logit u) = u := by
  unfold gate logit
  have : Real.exp (-(Real.log u - Real.log (1 - u))) = (1 - u) / u := by
    rw [neg_sub, Real.exp_sub, Real.exp_log (sub_pos.mpr h1), Real.exp_log h0]
  rw [this]
  field_simp
  ring

theorem hasDerivAt_logit {y : ℝ} (h0 : 0 < y) (h1 : y < 1) : HasDerivAt logit (1 / (y * (1 - y))) y := by
  have hne : (1 - y) ≠ 0 := (sub_pos.mpr h1).ne'
  have hden : HasDerivAt (fun s : ℝ => 1 - s) (-1) y := (hasDerivAt_id' y).const_sub 1
  have h := (Real.hasDerivAt_log h0.ne').sub (hden.log hne)
  unfold logit
  refine h.congr_deriv ?_
  have := h0.ne'
  field_simp
  ring

theorem sigLdIdeal_logit {T y : ℝ} (h0 : 0 < y) (h1 : y < 1) :
    sigLdIdeal T (logit y) = Real.log T + Real.log y + Real.log (1 - y) := by
  have e1 : Real.exp (-(logit y)) = (1 - y) / y := by
    unfold logit; rw [neg_sub, Real.exp_sub, Real.exp_log (sub_pos.mpr h1), Real.exp_log h0]
  have e2 : Real.exp (logit y) = y / (1 - y) := by
    unfold logit; rw [Real.exp_sub, Real.exp_log h0, Real.exp_log (sub_pos.mpr h1)]
  have a1 : 1 + (1 - y) / y = y⁻¹ := by field_simp; ring
  have a2 : 1 + y / (1 - y) = (1 - y)⁻¹ := by
    have : (1 - y) ≠ 0 := (sub_pos.mpr h1).ne'
    field_simp; ring
  unfold sigLdIdeal
  rw [e1, e2, a1, a2, Real.log_inv, Real.log_inv]
  ring

variable {e}

/-- **C02, executed, the exact region**: `Sigmoid.inverse (Sigmoid.forward x) = (x, −logdet)` whenever the forward value
    is inside the clamp, `ε̂ ≤ σ(T x) ≤ 1 − ε̂` (`T ≠ 0`) — the log-dets are exact negatives even beyond the `softplus`
    thresholds, because both directions evaluate the same thresholded formula at the same `T x` -/
theorem sigmoidT_roundtrip {T : ℝ} (eps : Float) {x : ℝ} (hT : T ≠ 0) (hlo : e eps ≤ gate (T * x))
    (hhi : gate (T * x) ≤ e (1 - eps)) :
    RoundTrip (sigmoidT (NF.realX e) T eps false) (sigmoidT (NF.realX e) T eps true) x := by
  refine ⟨_, _, sigmoidT_fwd_run e T eps x, ?_⟩
  rw [sigmoidT_inv_run e T eps (gate_pos _).le (gate_lt_one _).le]
  have hx : 1 / T * (T * x) = x := by rw [← mul_assoc, one_div_mul_cancel hT, one_mul]
  rw [clampR_of_mem hlo hhi, logit_gate, hx]

structure SigmoidClamp (e : Float → ℝ) (eps : Float) : Prop where
  hlo : 0 < e eps
  hle : e eps ≤ e (1 - eps)
  hhi : e (1 - eps) < 1

theorem sigmoidT_inv_clamped_lo {T : ℝ} {eps : Float} (hc : SigmoidClamp e eps) {y : ℝ} (h0 : 0 ≤ y) (hy : y ≤ e eps) :
    sigmoidT (NF.realX e) T eps true y
      = .ok (1 / T * logit (e eps), -sigLd T (T * (1 / T * logit (e eps)))) := by
  rw [sigmoidT_inv_run e T eps h0 (hy.trans (hc.hle.trans hc.hhi.le))]
  have : clampR (e eps) (e (1 - eps)) y = e eps := by
    unfold clampR; rw [max_eq_right hy, min_eq_left hc.hle]
  rw [this]

theorem sigmoidT_inv_clamped_hi {T : ℝ} {eps : Float} (hc : SigmoidClamp e eps) {y : ℝ} (hy : e (1 - eps) ≤ y) (h1 : y ≤ 1) :
    sigmoidT (NF.realX e) T eps true y
      = .ok (1 / T * logit (e (1 - eps)), -sigLd T (T * (1 / T * logit (e (1 - eps))))) := by
  rw [sigmoidT_inv_run e T eps ((hc.hlo.le.trans hc.hle).trans hy) h1]
  have : clampR (e eps) (e (1 - eps)) y = e (1 - eps) := by
    unfold clampR; rw [max_eq_left (hc.hle.trans hy), min_eq_right hy]
  rw [this]

theorem clampR_mem {lo hi : ℝ} (hle : lo ≤ hi) (y : ℝ) : lo ≤ clampR lo hi y ∧ clampR lo hi y ≤ hi := by
  unfold clampR
  exact ⟨le_min (le_max_right _ _) hle, min_le_right _ _⟩

theorem sigmoidT_roundtrip_iff {T : ℝ} {eps : Float} (hc : SigmoidClamp e eps) {x : ℝ} (hT : T ≠ 0) :
    RoundTrip (sigmoidT (NF.realX e) T eps false) (sigmoidT (NF.realX e) T eps true) x
      ↔ (e eps ≤ gate (T * x) ∧ gate (T * x) ≤ e (1 - eps)) := by
  constructor
  · intro hrt
    have h2 := hrt.undoes (sigmoidT_fwd_run e T eps x)
    rw [sigmoidT_inv_run e T eps (gate_pos _).le (gate_lt_one _).le] at h2
    have hval := (Prod.mk.inj (Except.ok.inj h2)).1
    obtain ⟨c1, c2⟩ := clampR_mem hc.hle (gate (T * x))
    set c := clampR (e eps) (e (1 - eps)) (gate (T * x)) with hcdef
    have hl : logit c = T * x := by
      have : T * (1 / T * logit c) = T * x := by rw [hval]
      rw [← this, ← mul_assoc, mul_one_div_cancel hT, one_mul]
    have hcg : c = gate (T * x) := by
      rw [← hl, gate_logit (hc.hlo.trans_le c1) (c2.trans_lt hc.hhi)]
    rw [← hcg]; exact ⟨c1, c2⟩
  · rintro ⟨h1, h2⟩; exact sigmoidT_roundtrip eps hT h1 h2

/-- **C02, other order** (`Logit.forward` then `Logit.inverse`): exact on the un-clamped region `ε̂ ≤ y ≤ 1 − ε̂` -/
theorem sigmoidT_roundtrip' {T : ℝ} {eps : Float} (hc : SigmoidClamp e eps) {y : ℝ} (hT : T ≠ 0) (hlo : e eps ≤ y)
    (hhi : y ≤ e (1 - eps)) :
    RoundTrip (sigmoidT (NF.realX e) T eps true) (sigmoidT (NF.realX e) T eps false) y := by
  have h0 : 0 < y := hc.hlo.trans_le hlo
  have h1 : y < 1 := hhi.trans_lt hc.hhi
  refine ⟨_, _, sigmoidT_inv_run e T eps h0.le h1.le, ?_⟩
  have hx : T * (1 / T * logit y) = logit y := by rw [← mul_assoc, mul_one_div_cancel hT, one_mul]
  rw [sigmoidT_fwd_run, clampR_of_mem hlo hhi, neg_neg, hx, gate_logit h0 h1]

/-- **C01, executed `Sigmoid.inverse` = `Logit.forward`** (`0 < T`) strictly inside the clamp and within the thresholds
    (`|logit y| ≤ 20`; automatic when `ε̂ ≥ 2.1·10⁻⁹`, e.g. the default `10⁻⁶`): derivative `1/(T y (1−y))` -/
theorem sigmoidT_inv_logdet {T : ℝ} {eps : Float} (hc : SigmoidClamp e eps) {y : ℝ} (hT : 0 < T) (hlo : e eps < y)
    (hhi : y < e (1 - eps)) (hthr : |logit y| ≤ 20) :
    IncLogDetAt (sigmoidT (NF.realX e) T eps true) y := by
  have h0 : 0 < y := hc.hlo.trans hlo
  have h1 : y < 1 := hhi.trans hc.hhi
  have hI : ∀ᶠ s in nhds y, e eps < s ∧ s < e (1 - eps) := Ioo_mem_nhds hlo hhi
  have hx : T * (1 / T * logit y) = logit y := by rw [← mul_assoc, mul_one_div_cancel hT.ne', one_mul]
  refine IncLogDetAt.of_roundTrip (F := sigmoidT (NF.realX e) T eps false) (g := fun s => 1 / T * logit s)
    (m := fun s => -sigLd T (T * (1 / T * logit s))) (hI.mono fun s hs => ?_) ?_
    (hI.mono fun s hs => sigmoidT_roundtrip' hc hT.ne' hs.1.le hs.2.le)
    (sigmoidT_fwd_logdet e eps hT (by rw [hx]; exact hthr))
  · rw [sigmoidT_inv_run e T eps (hc.hlo.trans hs.1).le (hs.2.trans hc.hhi).le, clampR_of_mem hs.1.le hs.2.le]
  · exact continuousAt_const.mul ((Real.continuousAt_log h0.ne').sub
      ((continuousAt_const.sub continuousAt_id).log (sub_pos.mpr h1).ne'))

/-- in the clamped zone `0 < y < ε̂` the executed inverse is locally CONSTANT: its derivative is `0`, so no finite
    log-det can be its log-derivative — the clamp is a declared approximation, not covered by C01 -/
theorem sigmoidT_inv_flat_lo {T : ℝ} {eps : Float} (hc : SigmoidClamp e eps) {y : ℝ} (h0 : 0 < y) (hy : y < e eps) :
    HasDerivAt (fun s => outY (sigmoidT (NF.realX e) T eps true s)) 0 y ∧
      ¬ LogDetAt (sigmoidT (NF.realX e) T eps true) y := by
  have hd : HasDerivAt (fun s => outY (sigmoidT (NF.realX e) T eps true s)) 0 y :=
    hasDerivAt_outY_of_eventually
      (Filter.Eventually.mono (Ioo_mem_nhds h0 hy) fun s hs => sigmoidT_inv_clamped_lo hc hs.1.le hs.2.le)
      (hasDerivAt_const y (1 / T * logit (e eps)))
  refine ⟨hd, ?_⟩
  rintro ⟨_, ld, d, _, h2, h3⟩
  rw [h2.unique hd, abs_zero] at h3
  exact (Real.exp_pos ld).ne h3

/-- witness of `SigmoidClamp` at the library default `eps = 1e-6`: a two-valued reading -/
def eSig (f : Float) : ℝ := if f == 1e-6 then 1 / 1000000 else 999999 / 1000000
theorem eSig_eps : eSig 1e-6 = 1 / 1000000 := if_pos FloatFacts.eps_beq_eps
theorem eSig_one_sub_eps : eSig (1 - 1e-6) = 999999 / 1000000 := by simp [eSig, FloatFacts.one_sub_eps_beq_eps]

theorem sigmoidClamp_example : SigmoidClamp eSig 1e-6 := by
  refine ⟨?_, ?_, ?_⟩
  · rw [eSig_eps]; norm_num
  · rw [eSig_eps, eSig_one_sub_eps]; norm_num
  · rw [eSig_one_sub_eps]; norm_num

/-- the un-clamped region is not empty: at `x = 0`, `σ(0) = 1/2` lies inside the default clamp -/
example : RoundTrip (sigmoidT (NF.realX eSig) 2 1e-6 false) (sigmoidT (NF.realX eSig) 2 1e-6 true) 0 := by
  have hg : gate (2 * 0) = 1 / 2 := by unfold gate; norm_num
  refine sigmoidT_roundtrip 1e-6 (by norm_num) ?_ ?_
  · rw [hg, eSig_eps]; norm_num
  · rw [hg, eSig_one_sub_eps]; norm_num

variable (e)

/-! ## The dispatcher `nonlinEl`: each class name used by the harness runs the corresponding element -/

section dispatch
variable {α : Type} (o : XOps α) (ds : Array Float) (ps : List α) (inv : Bool) (x : α)

theorem nonlinEl_Exp : nonlinEl o "Exp" ds ps inv x = expT o inv x := by simp only [nonlinEl]
theorem nonlinEl_Tanh : nonlinEl o "Tanh" ds ps inv x = tanhT o inv x := by simp only [nonlinEl]
theorem nonlinEl_LogTanh :
    nonlinEl o "LogTanh" ds ps inv x
      = logTanhT o (ds.getD 0 0.0) (logTanhConsts (ds.getD 0 0.0)).1 (logTanhConsts (ds.getD 0 0.0)).2.1
          (logTanhConsts (ds.getD 0 0.0)).2.2 inv x := by simp only [nonlinEl]
theorem nonlinEl_LeakyReLU : nonlinEl o "LeakyReLU" ds ps inv x = leakyReluT o (ds.getD 0 0.0) (ps.getD 0 o.zero) inv x := by simp only [nonlinEl]
theorem nonlinEl_Sigmoid : nonlinEl o "Sigmoid" ds ps inv x = sigmoidT o (ps.getD 0 o.zero) (ds.getD 0 0.0) inv x := by simp only [nonlinEl]
/-- `Logit` is `InverseTransform(Sigmoid)`: the direction flag is flipped -/
theorem nonlinEl_Logit : nonlinEl o "Logit" ds ps inv x = sigmoidT o (ps.getD 0 o.zero) (ds.getD 0 0.0) (!inv) x := by simp only [nonlinEl]
theorem nonlinEl_CauchyCDF : nonlinEl o "CauchyCDF" ds ps inv x = cauchyT o inv x := by simp only [nonlinEl]
theorem nonlinEl_CauchyCDFInverse : nonlinEl o "CauchyCDFInverse" ds ps inv x = cauchyT o (!inv) x := by simp only [nonlinEl]
theorem nonlinEl_Affine : nonlinEl o "Affine" ds ps inv x = affineT o (ps.getD 0 o.zero) (ps.getD 1 o.zero) inv x := by simp only [nonlinEl]
theorem nonlinEl_Identity : nonlinEl o "Identity" ds ps inv x = .ok (x, o.zero) := by simp only [nonlinEl]
theorem nonlinEl_other (kind : String)
    (h : kind ∉ ["Exp", "Tanh", "LogTanh", "LeakyReLU", "Sigmoid", "Logit", "CauchyCDF", "CauchyCDFInverse", "Affine", "Identity"]) :
    nonlinEl o kind ds ps inv x = .error .other := by
  simp only [List.mem_cons, List.not_mem_nil, or_false, not_or] at h
  obtain ⟨h1, h2, h3, h4, h5, h6, h7, h8, h9, h10⟩ := h
  unfold nonlinEl
  split <;> first | rfl | contradiction
end dispatch

theorem identity_logdet (ds : Array Float) (ps : List ℝ) (inv : Bool) (x : ℝ) :
    IncLogDetAt (nonlinEl (NF.realX e) "Identity" ds ps inv) x := by
  refine incLogDetAt_of_eventually (fy := fun s => s) (fl := fun _ => 0)
    (Filter.Eventually.of_forall fun s => by rw [nonlinEl_Identity, NF.realX_zero]) ?_
  rw [Real.exp_zero]; exact hasDerivAt_id' x

/-! ## The whole element-wise layer `nonlinApply` (`Core/Structure.lean`): the `for` loop over the flat `[B, n]` batch -/

theorem forIn_id_eq_foldl {α σ : Type} (x : Array α) (init : σ) (f : α → σ → Id (ForInStep σ)) (g : σ → α → σ)
    (h : ∀ a s, f a s = ForInStep.yield (g s a)) : forIn x init f = (x.foldl g init : Id σ) := by
  have : f = fun a s => (pure (ForInStep.yield (g s a)) : Id _) := by funext a s; exact h a s
  subst this
  simp
  rfl

def nlStep {α : Type} (o : XOps α) (F : α → Except Err (α × α)) (st : Array α × Array α × Option Err) (xi : α) :
    Array α × Array α × Option Err :=
  match F xi with
  | .ok (y, l) => (st.1.push y, st.2.1.push l, st.2.2)
  | .error e => (st.1.push o.zero, st.2.1.push o.zero, if st.2.2.isNone then some e else st.2.2)

theorem nonlinApply_eq_fold {α : Type} (o : XOps α) (kind : String) (ds : Array Float) (ps : List α) (B : Nat) (x : Array α) (inv : Bool) :
    nonlinApply o kind ds ps B x inv =
      (let r := x.foldl (nlStep o (nonlinEl o kind ds ps inv)) (Array.mkEmpty x.size, Array.mkEmpty x.size, none)
       { out := r.1, ld := sumRows o B r.2.1, err := r.2.2 }) := by
  unfold nonlinApply
  simp only [Id.run, bind, pure]
  rw [forIn_id_eq_foldl x _ _ (nlStep o (nonlinEl o kind ds ps inv))]
  intro xi s
  unfold nlStep
  cases h : nonlinEl o kind ds ps inv xi with
  | ok p => rfl
  | error e => simp only []; split <;> simp_all

/-- this and the next two are named in
    `DualXFlowStages`, where `Lemmas/DualXFlowStages.lean` and `Properties/C16S.lean` use them -/
def _root_.DualXFlowStages.outYG {α : Type} (o : XOps α) (r : Except Err (α × α)) : α :=
  match r with | .ok p => p.1 | .error _ => o.zero
def _root_.DualXFlowStages.outLG {α : Type} (o : XOps α) (r : Except Err (α × α)) : α :=
  match r with | .ok p => p.2 | .error _ => o.zero
def _root_.DualXFlowStages.errG {α : Type} (r : Except Err (α × α)) : Option Err :=
  match r with | .ok _ => none | .error er => some er

open DualXFlowStages (outYG outLG errG)

theorem nlStep_foldl_poly {α : Type} (o : XOps α) (F : α → Except Err (α × α)) (l : List α) (a b : Array α) (c : Option Err) :
    l.foldl (nlStep o F) (a, b, c)
      = (a ++ (l.map fun xi => outYG o (F xi)).toArray, b ++ (l.map fun xi => outLG o (F xi)).toArray,
         c.or (l.findSome? fun xi => errG (F xi))) := by
  induction l generalizing a b c with
  | nil => simp
  | cons xi t ih =>
    rw [List.foldl_cons]
    cases h : F xi with
    | ok p =>
      have hs : nlStep o F (a, b, c) xi = (a.push p.1, b.push p.2, c) := by
        unfold nlStep; rw [h]
      rw [hs, ih]
      simp [h, errG, outYG, outLG]
    | error er =>
      have hs : nlStep o F (a, b, c) xi = (a.push o.zero, b.push o.zero, if c.isNone then some er else c) := by
        unfold nlStep; rw [h]
      rw [hs, ih]
      cases c <;> simp [h, errG, outYG, outLG]

/-- **the executed element-wise layer `nonlinApply`, whole program, in ANY scalar semantics** (reals, dual numbers, floats):
    outputs are the element values (zero where an element raised), the log-det list is `sum_except_batch` of the element
    log-dets, `err` is the first element exception. -/
theorem nonlinApply_poly {α : Type} (o : XOps α) (kind : String) (ds : Array Float) (ps : List α) (B : Nat) (x : Array α)
    (inv : Bool) :
    nonlinApply o kind ds ps B x inv =
      { out := (x.toList.map fun xi => outYG o (nonlinEl o kind ds ps inv xi)).toArray,
        ld := sumRows o B (x.toList.map fun xi => outLG o (nonlinEl o kind ds ps inv xi)).toArray,
        err := x.toList.findSome? fun xi => errG (nonlinEl o kind ds ps inv xi) } := by
  rw [nonlinApply_eq_fold, ← Array.foldl_toList]
  simp only [Array.mkEmpty_eq]
  rw [nlStep_foldl_poly]
  simp

theorem outYG_real (r : Except Err (ℝ × ℝ)) : outYG (NF.realX e) r = outY r := by
  cases r <;> simp [outYG, outY]
theorem outLG_real (r : Except Err (ℝ × ℝ)) : outLG (NF.realX e) r = outL r := by
  cases r <;> simp [outLG, outL]

theorem nonlinApply_real (kind : String) (ds : Array Float) (ps : List ℝ) (B : Nat) (x : Array ℝ) (inv : Bool) :
    nonlinApply (NF.realX e) kind ds ps B x inv =
      { out := x.map fun xi => outY (nonlinEl (NF.realX e) kind ds ps inv xi),
        ld := sumRows (NF.realX e) B (x.map fun xi => outL (nonlinEl (NF.realX e) kind ds ps inv xi)),
        err := x.toList.findSome? fun xi => errG (nonlinEl (NF.realX e) kind ds ps inv xi) } := by
  rw [nonlinApply_poly]
  simp only [outYG_real, outLG_real, ← Array.toList_map, Array.toArray_toList]

theorem nonlinApply_ld_row (kind : String) (ds : Array Float) (ps : List ℝ) (B n : Nat) (x : Array ℝ) (inv : Bool)
    (hx : x.size = B * n) {b : Nat} (hb : b < B) :
    (nonlinApply (NF.realX e) kind ds ps B x inv).ld[b]?
      = some (∑ k ∈ Finset.range n, outL (nonlinEl (NF.realX e) kind ds ps inv (x.getD (b * n + k) 0))) := by
  rw [nonlinApply_real]
  simp only
  rw [NF.StructureExec.sumRows_real e B _ b hb]
  have hB : 0 < B := by omega
  have hn : (x.map fun xi => outL (nonlinEl (NF.realX e) kind ds ps inv xi)).size / B = n := by
    rw [Array.size_map, hx, Nat.mul_comm, Nat.mul_div_cancel _ hB]
  rw [hn]
  congr 1
  refine Finset.sum_congr rfl fun k hk => ?_
  have hk' := Finset.mem_range.mp hk
  have hlt : b * n + k < x.size := hx ▸ RowMajor.lt2 hb hk'
  simp [Array.getD, hlt]

/-- **C17 for the layer**: no error is reported iff every element ran -/
theorem nonlinApply_err_none_iff (kind : String) (ds : Array Float) (ps : List ℝ) (B : Nat) (x : Array ℝ) (inv : Bool) :
    (nonlinApply (NF.realX e) kind ds ps B x inv).err = none
      ↔ ∀ xi ∈ x.toList, ∃ r, nonlinEl (NF.realX e) kind ds ps inv xi = .ok r := by
  rw [nonlinApply_real]
  simp only [List.findSome?_eq_none_iff]
  refine forall₂_congr fun xi _ => ?_
  cases h : nonlinEl (NF.realX e) kind ds ps inv xi with
  | ok r => simp [errG]
  | error er => simp [errG]

theorem nonlinApply_Exp_row (ds : Array Float) (ps : List ℝ) (B n : Nat) (x : Array ℝ) (hx : x.size = B * n) {b : Nat}
    (hb : b < B) :
    (nonlinApply (NF.realX e) "Exp" ds ps B x false).err = none ∧
      (nonlinApply (NF.realX e) "Exp" ds ps B x false).ld[b]? = some (∑ k ∈ Finset.range n, x.getD (b * n + k) 0) := by
  refine ⟨(nonlinApply_err_none_iff e _ _ _ _ _ _).mpr fun xi _ => ⟨_, rfl⟩, ?_⟩
  rw [nonlinApply_ld_row e "Exp" ds ps B n x false hx hb]
  rfl

/-! ## Non-vacuity -/

example : IncLogDetAt (leakyReluT (NF.realX eLeaky) 0.01 (Real.log (1 / 100)) false) (-3) :=
  leakyReluT_fwd_logdet leakyConsts_example (by norm_num)
example : RoundTrip (leakyReluT (NF.realX eLeaky) 0.01 (Real.log (1 / 100)) false)
    (leakyReluT (NF.realX eLeaky) 0.01 (Real.log (1 / 100)) true) (-3) :=
  leakyReluT_roundtrip leakyConsts_example (-3)
example : LogDetAt (affineT (NF.realX e) (-2) 5 false) 1 := affineT_fwd_logdet e (-2) 5 1 (by norm_num)
example : IncLogDetAt (tanhT (NF.realX eTanh) true) (1 / 2) :=
  tanhT_inv_logdet eTanh tanh_half_example (by norm_num) (by norm_num)
example : IncLogDetAt (sigmoidT (NF.realX e) 2 1e-6 false) 3 :=
  sigmoidT_fwd_logdet e 1e-6 (by norm_num) (by rw [abs_of_pos (by norm_num)]; norm_num)
example : ¬ LogDetAt (sigmoidT (NF.realX e) 2 1e-6 false) 11 :=
  sigmoidT_fwd_logdet_false_beyond_threshold e 1e-6 (by norm_num) (by rw [abs_of_pos (by norm_num)]; norm_num)

end
end NonlinExec
