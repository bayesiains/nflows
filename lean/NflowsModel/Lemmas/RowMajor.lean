/-!
# Lemmas/RowMajor — arithmetic of row-major positions

A position in a row-major tensor is a mixed-radix number `a * b + r` with digit `r < b`: it stays below the product of
the sizes (`lt2`, `lt3`), `/` and `%` read the digits back (`div`, `mod`), equal positions have equal digits (`inj2`,
`inj3`), the digits read off a position put it together again (`recon3`, `recon4`), the two lower digits are one
digit of the merged dimension (`assoc`), and a position below a product of sizes has a top digit in range and positive
sizes (`hi_lt3`, `pos3`).  No imports, so that every index lemma of the development can rest on these.
-/
namespace RowMajor

theorem lt2 {a q b r : Nat} (ha : a < q) (hr : r < b) : a * b + r < q * b :=
  Nat.lt_of_lt_of_le (Nat.add_lt_add_left hr _) (by rw [← Nat.succ_mul]; exact Nat.mul_le_mul_right _ ha)

theorem lt3 {a q b r c s : Nat} (ha : a < q) (hr : r < b) (hs : s < c) : (a * b + r) * c + s < q * b * c :=
  lt2 (lt2 ha hr) hs

theorem div {b r : Nat} (a : Nat) (hr : r < b) : (a * b + r) / b = a := by
  rw [Nat.mul_comm, Nat.mul_add_div (Nat.zero_lt_of_lt hr), Nat.div_eq_of_lt hr, Nat.add_zero]

theorem mod {b r : Nat} (a : Nat) (hr : r < b) : (a * b + r) % b = r := by
  rw [Nat.mul_comm, Nat.mul_add_mod, Nat.mod_eq_of_lt hr]

theorem inj2 {a a' b r r' : Nat} (hr : r < b) (hr' : r' < b) (h : a * b + r = a' * b + r') : a = a' ∧ r = r' :=
  ⟨(div a hr).symm.trans ((congrArg (· / b) h).trans (div a' hr')),
    (mod a hr).symm.trans ((congrArg (· % b) h).trans (mod a' hr'))⟩

theorem inj3 {a a' b r r' c s s' : Nat} (hr : r < b) (hr' : r' < b) (hs : s < c) (hs' : s' < c)
    (h : (a * b + r) * c + s = (a' * b + r') * c + s') : a = a' ∧ r = r' ∧ s = s' :=
  have h1 := inj2 hs hs' h
  have h2 := inj2 hr hr' h1.1
  ⟨h2.1, h2.2, h1.2⟩

theorem assoc (a b c r s : Nat) : (a * b + r) * c + s = a * (b * c) + (r * c + s) := by
  rw [Nat.add_mul, Nat.mul_assoc, Nat.add_assoc]

theorem recon3 (i b c : Nat) : (i / (c * b) * b + i / c % b) * c + i % c = i := by
  rw [← Nat.div_div_eq_div_mul, Nat.div_add_mod' (i / c) b, Nat.div_add_mod' i c]

theorem recon4 (i b c d : Nat) : ((i / (d * c * b) * b + i / (d * c) % b) * c + i / d % c) * d + i % d = i := by
  rw [← Nat.div_div_eq_div_mul i (d * c) b, Nat.div_add_mod' (i / (d * c)) b, ← Nat.div_div_eq_div_mul i d c,
    Nat.div_add_mod' (i / d) c, Nat.div_add_mod' i d]

theorem pos3 {i q b c : Nat} (h : i < q * b * c) : 0 < q ∧ 0 < b ∧ 0 < c :=
  have hqb := Nat.pos_of_lt_mul_right h
  ⟨Nat.pos_of_mul_pos_right hqb, Nat.pos_of_mul_pos_left hqb, Nat.pos_of_lt_mul_left h⟩

theorem hi_lt3 {i q b c : Nat} (h : i < q * b * c) : i / (c * b) < q :=
  Nat.div_lt_of_lt_mul (by rwa [Nat.mul_comm c b, Nat.mul_comm, ← Nat.mul_assoc])

end RowMajor
