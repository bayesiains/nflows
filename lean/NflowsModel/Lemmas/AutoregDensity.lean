import Mathlib.MeasureTheory.Constructions.Pi
import Mathlib.MeasureTheory.Measure.Prod
import Mathlib.MeasureTheory.Measure.Lebesgue.Basic
import Mathlib.MeasureTheory.Integral.Lebesgue.Map
import Mathlib.Tactic
/-!
# Lemmas/AutoregDensity — a product of normalised conditionals is a normalised joint (every dimension)

`q i y t` is the conditional density of coordinate `i` at `t` given the prefix `y : Fin i → ℝ` of the earlier
coordinates.  If every conditional integrates to one for every prefix, the joint
`x ↦ ∏ᵢ q i (x₀,…,x_{i-1}) xᵢ` integrates to one on `ℝᴰ`, for every `D` (Tonelli, induction on `D`, peeling the LAST
coordinate).  That conditional `i` is a function of the prefix only is the autoregressive property (C06).
-/
open MeasureTheory

namespace AutoregDensity

def pre {D : ℕ} (x : Fin D → ℝ) (i : Fin D) : Fin i → ℝ := fun j => x ⟨j, j.2.trans i.2⟩

theorem measurable_pre {D : ℕ} (i : Fin D) : Measurable (fun x : Fin D → ℝ => pre x i) :=
  measurable_pi_lambda _ (fun _ => measurable_pi_apply _)

theorem snoc_lt {D : ℕ} (y : Fin D → ℝ) (t : ℝ) (j : ℕ) (h : j < D) :
    (Fin.snoc y t : Fin (D + 1) → ℝ) ⟨j, Nat.lt_succ_of_lt h⟩ = y ⟨j, h⟩ := by
  have : (⟨j, Nat.lt_succ_of_lt h⟩ : Fin (D + 1)) = Fin.castSucc ⟨j, h⟩ := rfl
  rw [this, Fin.snoc_castSucc]

theorem pre_snoc_castSucc {D : ℕ} (y : Fin D → ℝ) (t : ℝ) (i : Fin D) :
    pre (Fin.snoc y t : Fin (D + 1) → ℝ) (Fin.castSucc i) = pre y i := by
  funext j
  exact snoc_lt y t j (j.2.trans i.2)

theorem pre_snoc_last {D : ℕ} (y : Fin D → ℝ) (t : ℝ) :
    pre (Fin.snoc y t : Fin (D + 1) → ℝ) (Fin.last D) = y := by
  funext j
  exact snoc_lt y t j j.2

theorem joint_lintegral (q : (i : ℕ) → (Fin i → ℝ) → ℝ → ENNReal)
    (hmeas : ∀ i, Measurable (Function.uncurry (q i)))
    (hnorm : ∀ i y, ∫⁻ t, q i y t = 1) :
    ∀ D : ℕ, ∫⁻ x : Fin D → ℝ, ∏ i : Fin D, q i (pre x i) (x i) = 1
  | 0 => by
    simp only [Finset.univ_eq_empty, Finset.prod_empty, lintegral_one]
    rw [volume_pi, Measure.pi_univ]; simp
  | D + 1 => by
    have ih := joint_lintegral q hmeas hnorm D
    let e : ℝ × (Fin D → ℝ) ≃ᵐ (Fin (D + 1) → ℝ) :=
      (MeasurableEquiv.piFinSuccAbove (fun _ : Fin (D + 1) => ℝ) (Fin.last D)).symm
    have hmp : MeasurePreserving e (volume.prod volume) volume :=
      (volume_preserving_piFinSuccAbove (fun _ : Fin (D + 1) => ℝ) (Fin.last D)).symm _
    have he : ∀ p : ℝ × (Fin D → ℝ), e p = Fin.snoc p.2 p.1 := by
      intro p
      simp only [e, MeasurableEquiv.piFinSuccAbove_symm_apply]
      exact Fin.insertNth_last' _ _
    have hA : Measurable (fun y : Fin D → ℝ => ∏ i : Fin D, q i (pre y i) (y i)) := by
      apply Finset.measurable_prod
      intro i _
      exact (hmeas i).comp ((measurable_pre i).prodMk (measurable_pi_apply i))
    have key : ∀ p : ℝ × (Fin D → ℝ),
        (∏ i : Fin (D + 1), q i (pre (e p) i) (e p i)) = (∏ i : Fin D, q i (pre p.2 i) (p.2 i)) * q D p.2 p.1 := by
      intro p
      rw [he, Fin.prod_univ_castSucc]
      congr 1
      · apply Finset.prod_congr rfl
        intro i _
        rw [pre_snoc_castSucc, Fin.snoc_castSucc]
        rfl
      · rw [pre_snoc_last, Fin.snoc_last]
        rfl
    rw [MeasurePreserving.lintegral_map_equiv (fun x : Fin (D + 1) → ℝ => ∏ i : Fin (D + 1), q i (pre x i) (x i)) e hmp]
    simp_rw [key]
    rw [lintegral_prod_symm]
    · have h1 : ∀ y : Fin D → ℝ, ∫⁻ t : ℝ, (∏ i : Fin D, q i (pre y i) (y i)) * q D y t
          = ∏ i : Fin D, q i (pre y i) (y i) := by
        intro y
        have hm : Measurable (fun t : ℝ => q D y t) :=
          (hmeas D).comp (measurable_const.prodMk measurable_id)
        rw [lintegral_const_mul _ hm, hnorm, mul_one]
      simp_rw [h1]
      exact ih
    · apply Measurable.aemeasurable
      exact (hA.comp measurable_snd).mul ((hmeas D).comp (measurable_snd.prodMk measurable_fst))

end AutoregDensity
