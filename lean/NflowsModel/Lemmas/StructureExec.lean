import NflowsModel.Core.Structure
import NflowsModel.Lemmas.Coupling
import NflowsModel.Real.RealX
import NflowsModel.Lemmas.Pairing
import NflowsModel.Lemmas.ExecGlue
import NflowsModel.Lemmas.ElemPair
import Mathlib.Tactic
/-!
# Lemmas/StructureExec — theorems about the EXECUTED tensor-level structure model

`Core/Structure.lean` (`couplingApply`, `arApply`, `cdfApply`, `sumRows`: what the driver runs, generic in `o : XOps α`).
The loops are folds over lists in iteration order; sections A–C give the equations of those folds once (what a pass writes
and leaves alone, first error, left-to-right log-det) and everything after uses only them.  C07 / C12 / C01 hold for every
`o`, hence at `Float` / `Float32` as well as at the reals.  C02 is reduced to ONE per-element notion, `ElRel R … d` (a
call in direction `d` is undone by the other direction up to `R`, log-det negated; `ElInvertible` is `R = Eq`, `d = false`),
by `coupling_roundtrip_getD / _ld / _real`.  What a layer asks of an element family is said once at the end of H:
`ElAccepts` (where a call returns) and `ElUndoes` (the other direction undoes it), each family an instance obtained from
its branch equation and the same two facts about its program.  The last section lists the branch equations of the
dispatcher `elTransform`.  Section R ties one row of the executed layer to the abstract coupling of `Lemmas/Coupling.lean`.

Sections: A folds · B indices and iteration lists · C fields of `couplingApply` · D C07 · E C12 · F `sumRows` and the
element-wise passes · G C01 · H C02 · R refinement · W additive / affine coupling discharged · U C02 with an unconditional
transform · X branches of the dispatcher.
-/
open NF

namespace NF.StructureExec
variable {α : Type}

/-! ## A. the folds (`applyUpd`, `firstErr`, `ldFold`) -/

theorem applyUpd_nil (a : Array α) : applyUpd [] a = a := rfl

theorem applyUpd_append (us vs : List (Nat × ElRes α)) (a : Array α) :
    applyUpd (us ++ vs) a = applyUpd vs (applyUpd us a) := by
  simp [applyUpd, List.foldl_append]

theorem applyUpd_snoc (us : List (Nat × ElRes α)) (u : Nat × ElRes α) (a : Array α) :
    applyUpd (us ++ [u]) a
      = (match u.2 with | .ok (y, _, _) => (applyUpd us a).set! u.1 y | .error _ => applyUpd us a) := by
  unfold applyUpd; rw [List.foldl_append]; rfl

@[simp] theorem applyUpd_size (us : List (Nat × ElRes α)) (a : Array α) : (applyUpd us a).size = a.size := by
  induction us using List.reverseRecOn with
  | nil => rfl
  | append_singleton us u ih =>
    rw [applyUpd_snoc]
    rcases u with ⟨j, r⟩
    rcases r with e | ⟨y, l, al⟩ <;> simp [ih]

theorem applyUpd_untouched (us : List (Nat × ElRes α)) (a : Array α) (j : Nat)
    (h : ∀ u ∈ us, u.1 = j → ∃ e, u.2 = .error e) : (applyUpd us a)[j]? = a[j]? := by
  induction us using List.reverseRecOn with
  | nil => rfl
  | append_singleton us u ih =>
    have ih' := ih (fun v hv => h v (List.mem_append_left _ hv))
    rw [applyUpd_snoc]
    rcases u with ⟨k, r⟩
    rcases r with e | ⟨y, l, al⟩
    · simpa using ih'
    · have hk : k ≠ j := by
        intro hkj
        obtain ⟨e, he⟩ := h (k, .ok (y, l, al)) (by simp) hkj
        simp at he
      simp only [Array.set!_eq_setIfInBounds]
      rw [Array.getElem?_setIfInBounds_ne hk]
      exact ih'

theorem applyUpd_written (us : List (Nat × ElRes α)) (a : Array α) (j : Nat) (y : α)
    (hmem : ∃ u ∈ us, u.1 = j) (h : ∀ u ∈ us, u.1 = j → ∃ l al, u.2 = .ok (y, l, al)) (hj : j < a.size) :
    (applyUpd us a)[j]? = some y := by
  induction us using List.reverseRecOn with
  | nil => obtain ⟨u, hu, _⟩ := hmem; exact absurd hu List.not_mem_nil
  | append_singleton us u ih =>
    rw [applyUpd_snoc]
    rcases u with ⟨k, r⟩
    by_cases hk : k = j
    · subst hk
      obtain ⟨l, al, hr⟩ := h (k, r) (by simp) rfl
      simp only at hr
      subst hr
      simp [hj]
    · have hmem' : ∃ u ∈ us, u.1 = j := by
        obtain ⟨u, hu, huj⟩ := hmem
        rcases List.mem_append.1 hu with hu | hu
        · exact ⟨u, hu, huj⟩
        · simp at hu; subst hu; exact absurd huj hk
      have ih' := ih hmem' (fun v hv => h v (List.mem_append_left _ hv))
      rcases r with e | ⟨y', l, al⟩
      · simpa using ih'
      · simp only [Array.set!_eq_setIfInBounds]
        rw [Array.getElem?_setIfInBounds_ne hk]
        exact ih'

def selOut (r : ElRes α) (old : Option α) : Option α :=
  match r with
  | .ok (y, _, _) => old.map (fun _ => y)
  | .error _ => old

theorem applyUpd_functional (us : List (Nat × ElRes α)) (a : Array α) (j : Nat) (r : ElRes α)
    (hmem : (j, r) ∈ us) (h : ∀ u ∈ us, u.1 = j → u.2 = r) : (applyUpd us a)[j]? = selOut r a[j]? := by
  rcases r with e | ⟨y, l, al⟩
  · exact applyUpd_untouched us a j (fun u hu huj => ⟨e, h u hu huj⟩)
  · by_cases hj : j < a.size
    · rw [applyUpd_written us a j y ⟨_, hmem, rfl⟩ (fun u hu huj => ⟨l, al, h u hu huj⟩) hj]
      simp [selOut, hj]
    · have h1 : (applyUpd us a)[j]? = none := by simp [hj]
      have h2 : a[j]? = none := by simp [hj]
      simp [selOut, h1, h2]

theorem firstErr_eq_none (rs : List (ElRes α)) : firstErr rs = none ↔ ∀ r ∈ rs, ∃ v, r = .ok v := by
  unfold firstErr
  rw [List.findSome?_eq_none_iff]
  constructor
  · intro h r hr
    rcases r with e | v
    · have := h _ hr; simp at this
    · exact ⟨v, rfl⟩
  · intro h r hr
    obtain ⟨v, rfl⟩ := h r hr
    rfl

theorem firstErr_append (rs ss : List (ElRes α)) :
    firstErr (rs ++ ss) = (firstErr rs).or (firstErr ss) := by
  simp [firstErr, List.findSome?_append]

theorem ldFold_ok (o : XOps α) (rs : List (ElRes α)) (h : ∀ r ∈ rs, ∃ v, r = .ok v) :
    ldFold o rs = (rs.map (ldOf o)).foldl o.add o.zero := by
  unfold ldFold
  rw [List.foldl_map]
  generalize o.zero = z
  induction rs generalizing z with
  | nil => rfl
  | cons r rs ih =>
    obtain ⟨⟨y, l, al⟩, rfl⟩ := h r (by simp)
    simp only [List.foldl_cons, ldOf]
    exact ih (fun r hr => h r (List.mem_cons_of_mem _ hr)) _

theorem ldFold_eq (o : XOps α) (rs : List (ElRes α)) :
    ldFold o rs = (rs.filterMap fun r => match r with | .ok (_, l, _) => some l | .error _ => none).foldl o.add o.zero := by
  unfold ldFold
  generalize o.zero = z
  induction rs generalizing z with
  | nil => rfl
  | cons r rs ih =>
    rcases r with e | ⟨y, l, al⟩
    · simpa [List.filterMap_cons] using ih z
    · simpa [List.filterMap_cons] using ih (o.add z l)

/-! ## B. index arithmetic and the iteration lists -/

theorem flatIdx_inj {C S b b' ch ch' s s' : Nat} (hc : ch < C) (hc' : ch' < C) (hs : s < S) (hs' : s' < S)
    (h : flatIdx C S b ch s = flatIdx C S b' ch' s') : b = b' ∧ ch = ch' ∧ s = s' :=
  RowMajor.inj3 hc hc' hs hs' h

theorem flatIdx_lt {B C S b ch s : Nat} (hb : b < B) (hch : ch < C) (hs : s < S) : flatIdx C S b ch s < B * C * S :=
  RowMajor.lt3 hb hch hs

theorem flatIdx_row (C S b ch s : Nat) : flatIdx C S b ch s = b * (C * S) + (ch * S + s) :=
  RowMajor.assoc b C S ch s

/-- an index list as `identityIdx` / `transformIdx` produce it -/
structure IdxOK (C : Nat) (idx : List Nat) : Prop where
  nodup : idx.Nodup
  lt : ∀ i ∈ idx, i < C

theorem identityIdx_ok (o : XOps α) (mask : List α) : IdxOK mask.length (identityIdx o mask) where
  nodup := List.Nodup.filter _ List.nodup_range
  lt := fun i hi => by simpa using (List.mem_filter.1 hi).1

theorem transformIdx_ok (o : XOps α) (mask : List α) : IdxOK mask.length (transformIdx o mask) where
  nodup := List.Nodup.filter _ List.nodup_range
  lt := fun i hi => by simpa using (List.mem_filter.1 hi).1

theorem getD_mem_of_lt {idx : List Nat} {t : Nat} (ht : t < idx.length) : idx.getD t 0 ∈ idx := by
  simp [List.getD, ht]

theorem IdxOK.getD_lt {C : Nat} {idx : List Nat} (h : IdxOK C idx) {t : Nat} (ht : t < idx.length) :
    idx.getD t 0 < C := h.lt _ (getD_mem_of_lt ht)

theorem IdxOK.getD_inj {C : Nat} {idx : List Nat} (h : IdxOK C idx) {t t' : Nat} (ht : t < idx.length)
    (ht' : t' < idx.length) (he : idx.getD t 0 = idx.getD t' 0) : t = t' := by
  have e1 : idx.getD t 0 = idx[t] := by simp [List.getD, ht]
  have e2 : idx.getD t' 0 = idx[t'] := by simp [List.getD, ht']
  rw [e1, e2] at he
  exact (List.Nodup.getElem_inj_iff h.nodup).1 he

theorem exists_getD_of_mem {idx : List Nat} {ch : Nat} (h : ch ∈ idx) : ∃ t, t < idx.length ∧ idx.getD t 0 = ch := by
  obtain ⟨t, ht, rfl⟩ := List.getElem_of_mem h
  exact ⟨t, ht, by simp [List.getD, ht]⟩

theorem mem_rowIter {n S t s : Nat} : (t, s) ∈ rowIter n S ↔ t < n ∧ s < S := by
  simp [rowIter, List.mem_flatMap]

theorem flatMap_singleton_fn {β γ : Type} (f : β → γ) (l : List β) : l.flatMap (fun c => [f c]) = l.map f := by
  induction l with
  | nil => rfl
  | cons a l ih => simp [List.flatMap_cons, ih]

theorem rowIter_one (n : Nat) : rowIter n 1 = (List.range n).map fun t => (t, 0) := by
  simp only [rowIter, List.range_one, List.map_cons, List.map_nil]
  induction (List.range n) with
  | nil => rfl
  | cons a l ih => simp [List.flatMap_cons, ih]

theorem mem_tRow (o : XOps α) (C S : Nat) (idx : List Nat) (x : Array α) (el : Nat → Nat → α → ElRes α) (b : Nat)
    (u : Nat × ElRes α) :
    u ∈ tRow o C S idx x el b ↔ ∃ t s, t < idx.length ∧ s < S ∧
      u = (flatIdx C S b (idx.getD t 0) s, el t s (x.getD (flatIdx C S b (idx.getD t 0) s) o.zero)) := by
  unfold tRow
  simp only [List.mem_map, Prod.exists, mem_rowIter]
  constructor
  · rintro ⟨t, s, ⟨ht, hs⟩, rfl⟩; exact ⟨t, s, ht, hs, rfl⟩
  · rintro ⟨t, s, ht, hs, rfl⟩; exact ⟨t, s, ⟨ht, hs⟩, rfl⟩

def tAll (o : XOps α) (C S : Nat) (idx : List Nat) (x : Array α) (el : Nat → Nat → Nat → α → ElRes α) (B : Nat) :
    List (Nat × ElRes α) :=
  (List.range B).flatMap fun b => tRow o C S idx x (el b) b

theorem mem_tAll (o : XOps α) (C S : Nat) (idx : List Nat) (x : Array α) (el : Nat → Nat → Nat → α → ElRes α) (B : Nat)
    (u : Nat × ElRes α) :
    u ∈ tAll o C S idx x el B ↔ ∃ b t s, b < B ∧ t < idx.length ∧ s < S ∧
      u = (flatIdx C S b (idx.getD t 0) s, el b t s (x.getD (flatIdx C S b (idx.getD t 0) s) o.zero)) := by
  unfold tAll
  simp only [List.mem_flatMap, List.mem_range, mem_tRow]
  constructor
  · rintro ⟨b, hb, t, s, ht, hs, rfl⟩; exact ⟨b, t, s, hb, ht, hs, rfl⟩
  · rintro ⟨b, t, s, hb, ht, hs, rfl⟩; exact ⟨b, hb, t, s, ht, hs, rfl⟩

/-- **what a pass writes**: the entry of element `(b, t, s)` holds that element's own outcome (elements READ `x`,
    the buffer written to is `a`) -/
theorem tAll_written (o : XOps α) {C S : Nat} {idx : List Nat} (hidx : IdxOK C idx) (x a : Array α)
    (el : Nat → Nat → Nat → α → ElRes α) {B b t s : Nat} (hb : b < B) (ht : t < idx.length) (hs : s < S) :
    (applyUpd (tAll o C S idx x el B) a)[flatIdx C S b (idx.getD t 0) s]?
      = selOut (el b t s (x.getD (flatIdx C S b (idx.getD t 0) s) o.zero)) a[flatIdx C S b (idx.getD t 0) s]? := by
  apply applyUpd_functional
  · exact (mem_tAll ..).2 ⟨b, t, s, hb, ht, hs, rfl⟩
  · intro u hu huj
    obtain ⟨b', t', s', _, ht', hs', rfl⟩ := (mem_tAll ..).1 hu
    simp only at huj ⊢
    obtain ⟨h1, h2, h3⟩ := flatIdx_inj (hidx.getD_lt ht') (hidx.getD_lt ht) hs' hs huj
    have h4 := hidx.getD_inj ht' ht h2
    subst h1 h3 h4
    rfl

theorem tAll_untouched (o : XOps α) (C S : Nat) (idx : List Nat) (x a : Array α)
    (el : Nat → Nat → Nat → α → ElRes α) (B j : Nat)
    (hj : ∀ b t s, b < B → t < idx.length → s < S → j ≠ flatIdx C S b (idx.getD t 0) s) :
    (applyUpd (tAll o C S idx x el B) a)[j]? = a[j]? := by
  apply applyUpd_untouched
  intro u hu huj
  obtain ⟨b, t, s, hb, ht, hs, rfl⟩ := (mem_tAll ..).1 hu
  exact absurd huj.symm (hj b t s hb ht hs)

theorem tAll_other_channel (o : XOps α) {C S : Nat} {idx : List Nat} (hidx : IdxOK C idx) (x a : Array α)
    (el : Nat → Nat → Nat → α → ElRes α) (B : Nat) {b ch s : Nat} (hch : ch < C) (hs : s < S) (hni : ch ∉ idx) :
    (applyUpd (tAll o C S idx x el B) a)[flatIdx C S b ch s]? = a[flatIdx C S b ch s]? := by
  apply tAll_untouched
  intro b' t s' _ ht hs' he
  obtain ⟨_, h2, _⟩ := flatIdx_inj hch (hidx.getD_lt ht) hs hs' he
  exact hni (h2 ▸ getD_mem_of_lt ht)

/-! ## C. the fields of `couplingApply`, unfolded once -/

section fields
variable (o : XOps α) (c : ElCfg) (mask : List α) (B S : Nat) (x params : Array α) (inverse : Bool)
  (uc : Option ElCfg) (uparams : Array α)

def ucElF (ucfg : ElCfg) : Nat → Nat → Nat → α → ElRes α :=
  fun _ ipos sp => elTransform o ucfg inverse (ucSlice o ucfg.mult S uparams ipos sp)

def condElF : Nat → Nat → Nat → α → ElRes α :=
  fun b t s => couplingEl o c (transformIdx o mask).length S params inverse b t s

def ucAll : List (Nat × ElRes α) :=
  (List.range B).flatMap (ucRow o uc mask.length S (identityIdx o mask) x uparams inverse)

def condAll : List (Nat × ElRes α) :=
  (List.range B).flatMap (condRow o c mask.length S (transformIdx o mask) x params inverse)

theorem ucAll_none : ucAll o mask B S x inverse none uparams = [] := by
  simp [ucAll, ucRow]

theorem ucAll_some (ucfg : ElCfg) : ucAll o mask B S x inverse (some ucfg) uparams
    = tAll o mask.length S (identityIdx o mask) x (ucElF o S inverse uparams ucfg) B := rfl

theorem condAll_eq : condAll o c mask B S x params inverse
    = tAll o mask.length S (transformIdx o mask) x (condElF o c mask S params inverse) B := rfl

theorem couplingUncond_eq : couplingUncond o mask B S x inverse uc uparams
    = applyUpd (ucAll o mask B S x inverse uc uparams) x := rfl

theorem coupling_out_eq : (couplingApply o c mask B S x params inverse uc uparams).out
    = applyUpd (condAll o c mask B S x params inverse) (couplingUncond o mask B S x inverse uc uparams) := by
  simp only [couplingApply, couplingUncond, condAll, List.flatMap_map]

def rowResults (b : Nat) : List (ElRes α) :=
  (ucRow o uc mask.length S (identityIdx o mask) x uparams inverse b
    ++ condRow o c mask.length S (transformIdx o mask) x params inverse b).map (·.2)

theorem coupling_ld_eq : (couplingApply o c mask B S x params inverse uc uparams).ld
    = (List.range B).map (fun b => ldFold o (rowResults o c mask S x params inverse uc uparams b)) := by
  simp only [couplingApply, List.map_map]; rfl

theorem coupling_err_eq : (couplingApply o c mask B S x params inverse uc uparams).err
    = firstErr ((ucAll o mask B S x inverse uc uparams ++ condAll o c mask B S x params inverse).map (·.2)) := by
  simp only [couplingApply, ucAll, condAll, List.flatMap_map]

theorem coupling_condIn_eq : (couplingApply o c mask B S x params inverse uc uparams).condIn
    = if inverse then gatherCh (couplingUncond o mask B S x inverse uc uparams) B mask.length S (identityIdx o mask) o.zero
      else gatherCh x B mask.length S (identityIdx o mask) o.zero := by
  simp only [couplingApply, couplingUncond, List.flatMap_map]

theorem coupling_alts_eq : (couplingApply o c mask B S x params inverse uc uparams).alts
    = altsOf (condAll o c mask B S x params inverse) := by
  simp only [couplingApply, condAll, List.flatMap_map]

end fields

/-! ## D. C07 on the executed coupling layer -/

theorem getD_congr {x x' : Array α} {j j' : Nat} (h : x[j]? = x'[j']?) (d : α) : x.getD j d = x'.getD j' d := by
  simp [Array.getD_eq_getD_getElem?, h]

theorem gatherCh_congr (x x' : Array α) (B C S : Nat) (idx : List Nat) (d : α)
    (h : ∀ b ch s, b < B → ch ∈ idx → s < S → x[flatIdx C S b ch s]? = x'[flatIdx C S b ch s]?) :
    gatherCh x B C S idx d = gatherCh x' B C S idx d := by
  unfold gatherCh
  congr 1
  apply List.flatMap_congr
  intro b hb
  apply List.flatMap_congr
  intro ch hch
  apply List.map_congr_left
  intro s hs
  exact getD_congr (h b ch s (List.mem_range.1 hb) hch (List.mem_range.1 hs)) d

/-- no channel is in both index lists.  (`XOps α` is an arbitrary record of operations, so this has to be said; it
    holds whenever no mask entry is both `≤ 0` and `> 0`: `maskDisjoint_of`, `maskDisjoint_real`.) -/
def MaskDisjoint (o : XOps α) (mask : List α) : Prop := ∀ ch, ch ∈ identityIdx o mask → ch ∉ transformIdx o mask

theorem maskDisjoint_of (o : XOps α) (mask : List α)
    (h : ∀ m ∈ mask, o.le m o.zero = true → o.gt m o.zero = false) : MaskDisjoint o mask := by
  intro ch hI hT
  simp only [identityIdx, transformIdx, List.mem_filter, List.mem_range] at hI hT
  have hm : mask.getD ch o.zero ∈ mask := by simp [List.getD, hI.1]
  have := h _ hm hI.2
  rw [hT.2] at this
  exact absurd this (by simp)

theorem maskDisjoint_real (e : Float → ℝ) (mask : List ℝ) : MaskDisjoint (NF.realX e) mask := by
  apply maskDisjoint_of
  intro m _ h
  simp only [XOps.gt, realX_le, realX_lt, realX_zero, decide_eq_true_eq, decide_eq_false_iff_not] at h ⊢
  linarith

section c07
variable (o : XOps α) (c : ElCfg) (mask : List α) (B S : Nat) (x params : Array α) (inverse : Bool)
  (uc : Option ElCfg) (uparams : Array α)

@[simp] theorem coupling_out_size : (couplingApply o c mask B S x params inverse uc uparams).out.size = x.size := by
  simp [coupling_out_eq, couplingUncond_eq]

@[simp] theorem couplingUncond_size : (couplingUncond o mask B S x inverse uc uparams).size = x.size := by
  simp [couplingUncond_eq]

@[simp] theorem couplingUncond_none : couplingUncond o mask B S x inverse none uparams = x := by
  simp [couplingUncond_eq, ucAll_none, applyUpd_nil]

theorem coupling_out_untouched (j : Nat)
    (hj : ∀ b t s, b < B → t < (transformIdx o mask).length → s < S →
      j ≠ flatIdx mask.length S b ((transformIdx o mask).getD t 0) s) :
    (couplingApply o c mask B S x params inverse uc uparams).out[j]?
      = (couplingUncond o mask B S x inverse uc uparams)[j]? := by
  rw [coupling_out_eq, condAll_eq]
  exact tAll_untouched o _ _ _ _ _ _ _ j hj

theorem coupling_out_other_channel {b ch s : Nat} (hch : ch < mask.length) (hs : s < S)
    (hni : ch ∉ transformIdx o mask) :
    (couplingApply o c mask B S x params inverse uc uparams).out[flatIdx mask.length S b ch s]?
      = (couplingUncond o mask B S x inverse uc uparams)[flatIdx mask.length S b ch s]? := by
  rw [coupling_out_eq, condAll_eq]
  exact tAll_other_channel o (transformIdx_ok o mask) _ _ _ _ hch hs hni

/-- **C07 (executed), identity features.**  With no unconditional transform, every position of a channel that is
    not a transform channel holds the INPUT value — in both directions, for every `B`, `S`, numeric mask, parameter
    array, and also when some element raised. -/
theorem coupling_identity_passthrough {b ch s : Nat} (hch : ch < mask.length) (hs : s < S)
    (hni : ch ∉ transformIdx o mask) :
    (couplingApply o c mask B S x params inverse none uparams).out[flatIdx mask.length S b ch s]?
      = x[flatIdx mask.length S b ch s]? := by
  rw [coupling_out_other_channel o c mask B S x params inverse none uparams hch hs hni, couplingUncond_none]

theorem coupling_identity_passthrough' (hd : MaskDisjoint o mask) {b ch s : Nat} (hch : ch ∈ identityIdx o mask)
    (hs : s < S) :
    (couplingApply o c mask B S x params inverse none uparams).out[flatIdx mask.length S b ch s]?
      = x[flatIdx mask.length S b ch s]? :=
  coupling_identity_passthrough o c mask B S x params inverse uparams
    ((identityIdx_ok o mask).lt _ hch) hs (hd ch hch)

/-- **C07 (executed), transformed features** (any `uc`): the entry of transformed element `(b, t, s)` is decided
    by `couplingEl` at that element, applied to the INPUT value at that position with the element's own parameters:
    success overwrites, an error leaves what the unconditional pass left (which, since the channel lists are
    disjoint in practice, is the input). -/
theorem coupling_out_transformed {b t s : Nat} (hb : b < B) (ht : t < (transformIdx o mask).length) (hs : s < S) :
    (couplingApply o c mask B S x params inverse uc uparams).out[flatIdx mask.length S b ((transformIdx o mask).getD t 0) s]?
      = selOut (couplingEl o c (transformIdx o mask).length S params inverse b t s
                  (x.getD (flatIdx mask.length S b ((transformIdx o mask).getD t 0) s) o.zero))
          (couplingUncond o mask B S x inverse uc uparams)[flatIdx mask.length S b ((transformIdx o mask).getD t 0) s]? := by
  rw [coupling_out_eq, condAll_eq]
  exact tAll_written o (transformIdx_ok o mask) _ _ _ hb ht hs

theorem couplingEl_spline (hk1 : c.kind ≠ "affine") (hk2 : c.kind ≠ "additive") (Ft b t s : Nat) (xi : α) :
    couplingEl o c Ft S params inverse b t s xi
      = elTransform o c inverse (condSlice o c.mult Ft S params b t s) xi := by
  simp [couplingEl, hk1, hk2]

/-- the additive element (`AdditiveCouplingTransform`, coupling.py:255-269) is `scaleShiftT` with scale one and the
    element's shift, in either direction and for every scalar type -/
theorem couplingEl_additive_eq (o : XOps α) (c : ElCfg) (hk : c.kind = "additive") (Ft S : Nat) (params : Array α)
    (d : Bool) (b t s : Nat) (τ : α) :
    couplingEl o c Ft S params d b t s τ
      = (scaleShiftT o o.one (params.getD ((b * Ft + t) * S + s) o.zero) d τ).map (fun ab => (ab.1, ab.2, [])) := by
  have hk1 : (c.kind == "affine") = false := by rw [hk]; decide
  have hk2 : (c.kind == "additive") = true := by rw [hk]; decide
  simp only [couplingEl, hk1, hk2, Bool.false_eq_true, if_false, if_true]

/-- the affine element (`AffineCouplingTransform`, coupling.py:212-252) is `scaleShiftT` with the activated scale
    (shifts first, unconstrained scales second in the conditioner output), in either direction, every scalar type -/
theorem couplingEl_affine_eq (o : XOps α) (c : ElCfg) (hk : c.kind = "affine") (Ft S : Nat) (params : Array α)
    (d : Bool) (b t s : Nat) (τ : α) :
    couplingEl o c Ft S params d b t s τ
      = (scaleShiftT o
          (if c.act == "general" then
            o.clamp o.zero (o.ofNat 3)
              (o.add (o.softplus (params.getD ((b * (2 * Ft) + (Ft + t)) * S + s) o.zero)) (o.ofFloat 1e-3))
           else o.add (o.sigmoid (o.add (params.getD ((b * (2 * Ft) + (Ft + t)) * S + s) o.zero) o.two)) (o.ofFloat 1e-3))
          (params.getD ((b * (2 * Ft) + t) * S + s) o.zero) d τ).map (fun ab => (ab.1, ab.2, [])) := by
  have hk1 : (c.kind == "affine") = true := by rw [hk]; decide
  simp only [couplingEl, hk1, if_true]

theorem coupling_out_transformed_ok {b t s : Nat} (hb : b < B) (ht : t < (transformIdx o mask).length) (hs : s < S)
    (hj : flatIdx mask.length S b ((transformIdx o mask).getD t 0) s < x.size) {y l : α} {al : List α}
    (hel : couplingEl o c (transformIdx o mask).length S params inverse b t s
            (x.getD (flatIdx mask.length S b ((transformIdx o mask).getD t 0) s) o.zero) = .ok (y, l, al)) :
    (couplingApply o c mask B S x params inverse uc uparams).out[flatIdx mask.length S b ((transformIdx o mask).getD t 0) s]?
      = some y := by
  rw [coupling_out_transformed o c mask B S x params inverse uc uparams hb ht hs, hel]
  have hj' : flatIdx mask.length S b ((transformIdx o mask).getD t 0) s
      < (couplingUncond o mask B S x inverse uc uparams).size := by simpa using hj
  rw [Array.getElem?_eq_getElem hj']
  rfl

theorem coupling_out_transformed_getD {b t s : Nat} (hb : b < B) (ht : t < (transformIdx o mask).length) (hs : s < S)
    (hj : flatIdx mask.length S b ((transformIdx o mask).getD t 0) s < x.size) {y l : α} {al : List α}
    (hel : couplingEl o c (transformIdx o mask).length S params inverse b t s
            (x.getD (flatIdx mask.length S b ((transformIdx o mask).getD t 0) s) o.zero) = .ok (y, l, al)) :
    (couplingApply o c mask B S x params inverse uc uparams).out.getD
      (flatIdx mask.length S b ((transformIdx o mask).getD t 0) s) o.zero = y := by
  rw [Array.getD_eq_getD_getElem?, coupling_out_transformed_ok o c mask B S x params inverse uc uparams hb ht hs hj hel]
  rfl

/-- **C07 (executed), conditioner input, forward** (any `uc`): exactly the gather of the identity channels of the
    raw INPUT (coupling.py:82-85, 90-94: the unconditional transform runs after the conditioner) -/
theorem coupling_condIn_forward : (couplingApply o c mask B S x params false uc uparams).condIn
    = gatherCh x B mask.length S (identityIdx o mask) o.zero := by
  simp [coupling_condIn_eq]

theorem coupling_condIn_none : (couplingApply o c mask B S x params inverse none uparams).condIn
    = gatherCh x B mask.length S (identityIdx o mask) o.zero := by
  cases inverse <;> simp [coupling_condIn_eq]

theorem coupling_condIn_eq_gather_out (hd : MaskDisjoint o mask) :
    (couplingApply o c mask B S x params inverse none uparams).condIn
      = gatherCh (couplingApply o c mask B S x params inverse none uparams).out B mask.length S (identityIdx o mask) o.zero := by
  rw [coupling_condIn_none]
  apply gatherCh_congr
  intro b ch s _ hch hs
  exact (coupling_identity_passthrough' o c mask B S x params inverse uparams hd hch hs).symm

/-- inverse with an unconditional transform `ucfg`: the conditioner is given the gather of the buffer in which the
    identity features have ALREADY been un-transformed (coupling.py:115-120) -/
theorem coupling_condIn_inverse_uc (ucfg : ElCfg) :
    (couplingApply o c mask B S x params true (some ucfg) uparams).condIn
      = gatherCh (couplingUncond o mask B S x true (some ucfg) uparams) B mask.length S (identityIdx o mask) o.zero := by
  simp [coupling_condIn_eq]

theorem couplingUncond_identity (ucfg : ElCfg) {b t s : Nat} (hb : b < B) (ht : t < (identityIdx o mask).length)
    (hs : s < S) :
    (couplingUncond o mask B S x inverse (some ucfg) uparams)[flatIdx mask.length S b ((identityIdx o mask).getD t 0) s]?
      = selOut (elTransform o ucfg inverse (ucSlice o ucfg.mult S uparams t s)
                  (x.getD (flatIdx mask.length S b ((identityIdx o mask).getD t 0) s) o.zero))
          x[flatIdx mask.length S b ((identityIdx o mask).getD t 0) s]? := by
  rw [couplingUncond_eq, ucAll_some]
  exact tAll_written o (identityIdx_ok o mask) _ _ _ hb ht hs

theorem couplingUncond_other {b ch s : Nat} (hch : ch < mask.length) (hs : s < S) (hni : ch ∉ identityIdx o mask) :
    (couplingUncond o mask B S x inverse uc uparams)[flatIdx mask.length S b ch s]? = x[flatIdx mask.length S b ch s]? := by
  cases uc with
  | none => simp
  | some ucfg =>
    rw [couplingUncond_eq, ucAll_some]
    exact tAll_other_channel o (identityIdx_ok o mask) _ _ _ _ hch hs hni

theorem couplingUncond_untouched (j : Nat)
    (hj : ∀ b t s, b < B → t < (identityIdx o mask).length → s < S →
      j ≠ flatIdx mask.length S b ((identityIdx o mask).getD t 0) s) :
    (couplingUncond o mask B S x inverse uc uparams)[j]? = x[j]? := by
  cases uc with
  | none => simp
  | some ucfg =>
    rw [couplingUncond_eq, ucAll_some]
    exact tAll_untouched o _ _ _ _ _ _ _ j hj

end c07

theorem float_example : let r := couplingApply floatX { kind := "additive" } [0.0, 1.0] 1 1 #[3.0, 5.0] #[2.0] false
    r.out[0]? = (#[3.0, 5.0] : Array Float)[0]? ∧ r.condIn = gatherCh #[3.0, 5.0] 1 2 1 (identityIdx floatX [0.0, 1.0]) floatX.zero := by
  intro r
  refine ⟨?_, coupling_condIn_forward floatX _ _ 1 1 _ _ none #[]⟩
  have hni : (0 : Nat) ∉ transformIdx floatX [0.0, 1.0] := by decide +kernel
  exact coupling_identity_passthrough floatX _ [0.0, 1.0] 1 1 _ _ false #[] (b := 0) (ch := 0) (s := 0)
    (by decide) (by decide) hni

/-! ## E. C12 on the executed coupling layer: a row of the result is a function of that row of the inputs -/

def RowAgree (C S b b' : Nat) (x x' : Array α) : Prop :=
  ∀ ch s, ch < C → s < S → x[flatIdx C S b ch s]? = x'[flatIdx C S b' ch s]?

theorem RowAgree.refl (C S b : Nat) (x : Array α) : RowAgree C S b b x x := fun _ _ _ _ => rfl

theorem tRow_results_congr (o : XOps α) {C S : Nat} {idx : List Nat} (hidx : IdxOK C idx) (x x' : Array α)
    (el el' : Nat → Nat → α → ElRes α) (b b' : Nat) (hx : RowAgree C S b b' x x')
    (hel : ∀ t s xi, t < idx.length → s < S → el t s xi = el' t s xi) :
    (tRow o C S idx x el b).map (·.2) = (tRow o C S idx x' el' b').map (·.2) := by
  unfold tRow
  rw [List.map_map, List.map_map]
  apply List.map_congr_left
  rintro ⟨t, s⟩ hm
  obtain ⟨ht, hs⟩ := mem_rowIter.1 hm
  simp only [Function.comp]
  rw [hel t s _ ht hs, getD_congr (hx _ s (hidx.getD_lt ht) hs)]

theorem tAll_row_congr (o : XOps α) {C S : Nat} {idx : List Nat} (hidx : IdxOK C idx) (x x' a a' : Array α)
    (el el' : Nat → Nat → Nat → α → ElRes α) {B B' b b' : Nat} (hb : b < B) (hb' : b' < B')
    (hx : RowAgree C S b b' x x') (ha : RowAgree C S b b' a a')
    (hel : ∀ t s xi, t < idx.length → s < S → el b t s xi = el' b' t s xi) :
    RowAgree C S b b' (applyUpd (tAll o C S idx x el B) a) (applyUpd (tAll o C S idx x' el' B') a') := by
  intro ch s hch hs
  by_cases hm : ch ∈ idx
  · obtain ⟨t, ht, rfl⟩ := exists_getD_of_mem hm
    rw [tAll_written o hidx x a el hb ht hs, tAll_written o hidx x' a' el' hb' ht hs, hel t s _ ht hs,
      getD_congr (hx _ s hch hs), ha _ s hch hs]
  · rw [tAll_other_channel o hidx x a el B hch hs hm, tAll_other_channel o hidx x' a' el' B' hch hs hm]
    exact ha ch s hch hs

/-- channels of the conditioner output per row: `[B, paramWidth, S]` -/
def paramWidth (c : ElCfg) (Ft : Nat) : Nat :=
  if c.kind == "affine" then 2 * Ft else if c.kind == "additive" then Ft else Ft * c.mult

theorem condSlice_length (o : XOps α) (m Ft S : Nat) (params : Array α) (b t s : Nat) :
    (condSlice o m Ft S params b t s).length = m := by simp [condSlice]

theorem condSlice_congr (o : XOps α) (m Ft S : Nat) (params params' : Array α) (b b' t s : Nat) (ht : t < Ft) (hs : s < S)
    (hp : RowAgree (Ft * m) S b b' params params') :
    condSlice o m Ft S params b t s = condSlice o m Ft S params' b' t s := by
  unfold condSlice
  apply List.map_congr_left
  intro k hk
  have hk' : k < m := List.mem_range.1 hk
  have h1 : t * m + k < Ft * m := RowMajor.lt2 ht hk'
  exact getD_congr (hp _ s h1 hs) _

theorem couplingEl_congr (o : XOps α) (c : ElCfg) (Ft S : Nat) (params params' : Array α) (inverse : Bool)
    (b b' t s : Nat) (xi : α) (ht : t < Ft) (hs : s < S)
    (hp : RowAgree (paramWidth c Ft) S b b' params params') :
    couplingEl o c Ft S params inverse b t s xi = couplingEl o c Ft S params' inverse b' t s xi := by
  unfold couplingEl
  unfold paramWidth at hp
  by_cases hk1 : (c.kind == "affine") = true
  · simp only [hk1, if_true] at hp ⊢
    have e1 := getD_congr (hp t s (Nat.lt_of_lt_of_le ht (Nat.le_mul_of_pos_left Ft Nat.two_pos)) hs) o.zero
    have e2 := getD_congr (hp (Ft + t) s (by rw [Nat.two_mul]; exact Nat.add_lt_add_left ht Ft) hs) o.zero
    simp only [flatIdx] at e1 e2
    rw [e1, e2]
  · by_cases hk2 : (c.kind == "additive") = true
    · simp only [hk1, hk2, if_true, Bool.false_eq_true, if_false] at hp ⊢
      have e1 := getD_congr (hp t s ht hs) o.zero
      simp only [flatIdx] at e1
      rw [e1]
    · simp only [hk1, hk2] at hp ⊢
      simp only [Bool.false_eq_true, if_false] at hp ⊢
      rw [condSlice_congr o c.mult Ft S params params' b b' t s ht hs hp]

section c12
variable (o : XOps α) (c : ElCfg) (mask : List α) (S : Nat) (inverse : Bool) (uc : Option ElCfg) (uparams : Array α)

theorem couplingUncond_row_congr {B B' b b' : Nat} (x x' : Array α) (hb : b < B) (hb' : b' < B')
    (hx : RowAgree mask.length S b b' x x') :
    RowAgree mask.length S b b' (couplingUncond o mask B S x inverse uc uparams)
      (couplingUncond o mask B' S x' inverse uc uparams) := by
  cases uc with
  | none => simpa using hx
  | some ucfg =>
    rw [couplingUncond_eq, couplingUncond_eq, ucAll_some, ucAll_some]
    exact tAll_row_congr o (identityIdx_ok o mask) x x' x x' _ _ hb hb' hx hx (fun _ _ _ _ _ => rfl)

theorem rowResults_congr {b b' : Nat} (x x' params params' : Array α)
    (hx : RowAgree mask.length S b b' x x')
    (hp : RowAgree (paramWidth c (transformIdx o mask).length) S b b' params params') :
    rowResults o c mask S x params inverse uc uparams b = rowResults o c mask S x' params' inverse uc uparams b' := by
  unfold rowResults
  rw [List.map_append, List.map_append]
  congr 1
  · cases uc with
    | none => rfl
    | some ucfg =>
      simp only [ucRow]
      exact tRow_results_congr o (identityIdx_ok o mask) x x' _ _ b b' hx (fun _ _ _ _ _ => rfl)
  · exact tRow_results_congr o (transformIdx_ok o mask) x x' _ _ b b' hx
      (fun t s xi ht hs => couplingEl_congr o c _ S params params' inverse b b' t s xi ht hs hp)

theorem coupling_ld_getElem? {B b : Nat} (x params : Array α) (hb : b < B) :
    (couplingApply o c mask B S x params inverse uc uparams).ld[b]?
      = some (ldFold o (rowResults o c mask S x params inverse uc uparams b)) := by
  rw [coupling_ld_eq]
  simp [hb]

@[simp] theorem coupling_ld_length (B : Nat) (x params : Array α) :
    (couplingApply o c mask B S x params inverse uc uparams).ld.length = B := by
  simp [coupling_ld_eq]

/-- **C12 (executed coupling layer).**  Row `b` of the output and entry `b` of the log-det of a batch of `B` rows
    are determined by row `b` of the input and row `b` of the conditioner output: if another call (possibly with a
    different batch size `B'`, e.g. `B' = 1`) has the same data in its row `b'`, the results in those rows are
    identical — entry by entry in `α`, so bit for bit at `Float`.  Any mask, `S`, direction, family, optional
    unconditional transform (whose parameters are shared across the batch), errors or not. -/
theorem coupling_row_independent {B B' b b' : Nat} (x x' params params' : Array α) (hb : b < B) (hb' : b' < B')
    (hx : RowAgree mask.length S b b' x x')
    (hp : RowAgree (paramWidth c (transformIdx o mask).length) S b b' params params') :
    RowAgree mask.length S b b' (couplingApply o c mask B S x params inverse uc uparams).out
        (couplingApply o c mask B' S x' params' inverse uc uparams).out
      ∧ (couplingApply o c mask B S x params inverse uc uparams).ld[b]?
          = (couplingApply o c mask B' S x' params' inverse uc uparams).ld[b']? := by
  have hel : ∀ t s xi, t < (transformIdx o mask).length → s < S →
      condElF o c mask S params inverse b t s xi = condElF o c mask S params' inverse b' t s xi := by
    intro t s xi ht hs
    exact couplingEl_congr o c _ S params params' inverse b b' t s xi ht hs hp
  constructor
  · rw [coupling_out_eq, coupling_out_eq, condAll_eq, condAll_eq]
    exact tAll_row_congr o (transformIdx_ok o mask) x x' _ _ _ _ hb hb' hx
      (couplingUncond_row_congr o mask S inverse uc uparams x x' hb hb' hx) hel
  · rw [coupling_ld_getElem? o c mask S inverse uc uparams x params hb,
      coupling_ld_getElem? o c mask S inverse uc uparams x' params' hb',
      rowResults_congr o c mask S inverse uc uparams x x' params params' hx hp]

theorem coupling_row_independent_same {B b : Nat} (x x' params params' : Array α) (hb : b < B)
    (hx : RowAgree mask.length S b b x x')
    (hp : RowAgree (paramWidth c (transformIdx o mask).length) S b b params params') :
    RowAgree mask.length S b b (couplingApply o c mask B S x params inverse uc uparams).out
        (couplingApply o c mask B S x' params' inverse uc uparams).out
      ∧ (couplingApply o c mask B S x params inverse uc uparams).ld[b]?
          = (couplingApply o c mask B S x' params' inverse uc uparams).ld[b]? :=
  coupling_row_independent o c mask S inverse uc uparams x x' params params' hb hb hx hp

end c12

/-! ## F. `sumRows`, the element-wise passes (`arApply`, `cdfApply`): C01 / C12 -/

theorem flatRange_eq_merge {β : Type} (f : Nat → Nat → β) (B n : Nat) :
    ((List.range B).flatMap fun b => (List.range n).map (f b))
      = Pairing.mergeLeading ((List.range B).map fun b => (List.range n).map (f b)) :=
  List.flatMap_def ..

theorem flatRange_rows {β : Type} (f : Nat → Nat → β) (B n : Nat) :
    ∀ r ∈ (List.range B).map (fun b => (List.range n).map (f b)), r.length = n := by
  intro r hr
  obtain ⟨b, _, rfl⟩ := List.mem_map.1 hr
  rw [List.length_map, List.length_range]

theorem flatRange_length {β : Type} (f : Nat → Nat → β) (B n : Nat) :
    ((List.range B).flatMap fun b => (List.range n).map (f b)).length = B * n := by
  rw [flatRange_eq_merge, Pairing.mergeLeading_length _ n (flatRange_rows f B n), List.length_map, List.length_range]

theorem flatRange_getElem? {β : Type} (f : Nat → Nat → β) (B n b i : Nat) (hb : b < B) (hi : i < n) :
    ((List.range B).flatMap fun b => (List.range n).map (f b))[b * n + i]? = some (f b i) := by
  rw [flatRange_eq_merge, Pairing.mergeLeading_get _ n b i (flatRange_rows f B n)
    (by rw [List.length_map, List.length_range]; exact hb) hi, List.getElem?_map, List.getElem?_range hb]
  simp only [Option.map_some, Option.bind_some, List.getElem?_map, List.getElem?_range hi]

/-- **`sum_except_batch` (executed)**: entry `b` is the left fold of row `b`, in index order -/
theorem sumRows_getElem? (o : XOps α) (B : Nat) (xs : Array α) (b : Nat) (hb : b < B) :
    (sumRows o B xs)[b]? = some ((List.range (xs.size / B)).foldl
      (fun acc k => o.add acc (xs.getD (b * (xs.size / B) + k) o.zero)) o.zero) := by
  have hB : (B == 0) = false := by simp; omega
  unfold sumRows
  simp only [hB, Bool.false_eq_true, if_false, List.getElem?_map, List.getElem?_range hb, Option.map_some]

theorem foldl_add_real (e : Float → ℝ) (l : List ℝ) (z : ℝ) : l.foldl (NF.realX e).add z = z + l.sum := by
  induction l generalizing z with
  | nil => simp
  | cons a l ih => simp [ih, add_assoc]

theorem foldl_add_real' {β : Type} (e : Float → ℝ) (l : List β) (g : β → ℝ) (z : ℝ) :
    l.foldl (fun acc k => (NF.realX e).add acc (g k)) z = z + (l.map g).sum := by
  induction l generalizing z with
  | nil => simp
  | cons a l ih =>
    simp only [List.foldl_cons, List.map_cons, List.sum_cons]
    rw [ih]; simp [add_assoc]

theorem sum_map_range (g : Nat → ℝ) (n : Nat) : ((List.range n).map g).sum = ∑ i : Fin n, g i := by
  rw [← Finset.sum_range]
  induction n with
  | zero => simp
  | succ n ih => rw [List.range_succ, List.map_append, List.sum_append, ih, Finset.sum_range_succ]; simp

theorem sumRows_real (e : Float → ℝ) (B : Nat) (xs : Array ℝ) (b : Nat) (hb : b < B) :
    (sumRows (NF.realX e) B xs)[b]? = some (∑ k ∈ Finset.range (xs.size / B), xs.getD (b * (xs.size / B) + k) 0) := by
  rw [sumRows_getElem? _ _ _ _ hb, foldl_add_real', Finset.sum_range, sum_map_range]
  simp only [realX_zero, zero_add]

section elemwise
variable (o : XOps α) (B n : Nat) (el : Nat → Nat → ElRes α)

theorem elemwise_out_size : (elemwiseResult o B n el).out.size = B * n := by
  simp only [elemwiseResult, List.size_toArray, List.length_map]
  exact flatRange_length _ B n

theorem elemwise_out_getElem? {b i : Nat} (hb : b < B) (hi : i < n) :
    (elemwiseResult o B n el).out[b * n + i]? = some (outOf o (el b i)) := by
  simp only [elemwiseResult, List.getElem?_toArray, List.getElem?_map]
  rw [flatRange_getElem? _ B n b i hb hi]
  rfl

theorem elemwise_lds_getD {b i : Nat} (hb : b < B) (hi : i < n) :
    (((List.range B).flatMap fun b => (List.range n).map fun i => (b * n + i, el b i)).map
      fun u => ldOf o u.2).toArray.getD (b * n + i) o.zero
      = ldOf o (el b i) := by
  simp only [Array.getD_eq_getD_getElem?, List.getElem?_toArray, List.getElem?_map]
  rw [flatRange_getElem? _ B n b i hb hi]
  rfl

/-- **C01 (executed element-wise passes)**: entry `b` of the log-det is the left fold `((0 + l₀) + l₁) + …` over
    the features of row `b` in index order (zero for an element that raised) -/
theorem elemwise_ld_getElem? {b : Nat} (hb : b < B) :
    (elemwiseResult o B n el).ld[b]?
      = some ((List.range n).foldl (fun acc i => o.add acc (ldOf o (el b i))) o.zero) := by
  simp only [elemwiseResult]
  rw [sumRows_getElem? o B _ b hb]
  have hsz : (((List.range B).flatMap fun b => (List.range n).map fun i => (b * n + i, el b i)).map
      fun u => ldOf o u.2).toArray.size / B = n := by
    simp only [List.size_toArray, List.length_map]
    rw [flatRange_length]
    exact Nat.mul_div_cancel_left n (by omega)
  rw [hsz]
  congr 1
  apply List.foldl_ext
  intro acc i hi
  rw [elemwise_lds_getD o B n el hb (List.mem_range.1 hi)]

theorem elemwise_err_none :
    (elemwiseResult o B n el).err = none ↔ ∀ b i, b < B → i < n → ∃ v, el b i = .ok v := by
  simp only [elemwiseResult]
  rw [firstErr_eq_none]
  simp only [List.mem_map, List.mem_flatMap, List.mem_range]
  constructor
  · intro h b i hb hi
    exact h _ ⟨(b * n + i, el b i), ⟨b, hb, i, hi, rfl⟩, rfl⟩
  · rintro h r ⟨u, ⟨b, hb, i, hi, rfl⟩, rfl⟩
    exact h b i hb hi

/-- **C12 (executed element-wise passes)**: rows whose element outcomes agree have the same outputs and log-det,
    also across different batch sizes -/
theorem elemwise_row_congr (el' : Nat → Nat → ElRes α) {B' b b' : Nat} (hb : b < B) (hb' : b' < B')
    (hel : ∀ i, i < n → el b i = el' b' i) :
    (∀ i, i < n → (elemwiseResult o B n el).out[b * n + i]? = (elemwiseResult o B' n el').out[b' * n + i]?)
      ∧ (elemwiseResult o B n el).ld[b]? = (elemwiseResult o B' n el').ld[b']? := by
  constructor
  · intro i hi
    rw [elemwise_out_getElem? o B n _ hb hi, elemwise_out_getElem? o B' n _ hb' hi, hel i hi]
  · rw [elemwise_ld_getElem? o B n _ hb, elemwise_ld_getElem? o B' n _ hb']
    congr 1
    apply List.foldl_ext
    intro acc i hi
    rw [hel i (List.mem_range.1 hi)]

end elemwise

/-- element `(b, i)` of one pass equals element `(b', i)` of another when the two rows of the inputs and of the parameter
    tensors agree -/
theorem arEl_congr (o : XOps α) (c : ElCfg) (F : Nat) (inverse : Bool) {b b' : Nat} (x x' params params' : Array α)
    (hx : ∀ i, i < F → x[b * F + i]? = x'[b' * F + i]?)
    (hp : ∀ i k, i < F → k < (if c.kind == "araffine" then 2 else c.mult) →
      params[(b * F + i) * (if c.kind == "araffine" then 2 else c.mult) + k]?
        = params'[(b' * F + i) * (if c.kind == "araffine" then 2 else c.mult) + k]?)
    {i : Nat} (hi : i < F) :
    arEl o c F x params inverse b i = arEl o c F x' params' inverse b' i := by
  unfold arEl
  simp only
  rw [getD_congr (hx i hi)]
  congr 1
  apply List.map_congr_left
  intro k hk
  exact getD_congr (hp i k hi (List.mem_range.1 hk)) _

/-- **C12 (executed autoregressive pass)**: row `b` of the output and entry `b` of the log-det depend only on row
    `b` of `x` and row `b` of the parameters (also across different batch sizes) -/
theorem ar_row_independent (o : XOps α) (c : ElCfg) (F : Nat) (inverse : Bool) {B B' b b' : Nat}
    (x x' params params' : Array α) (hb : b < B) (hb' : b' < B')
    (hx : ∀ i, i < F → x[b * F + i]? = x'[b' * F + i]?)
    (hp : ∀ i k, i < F → params[(b * F + i) * (if c.kind == "araffine" then 2 else c.mult) + k]?
                        = params'[(b' * F + i) * (if c.kind == "araffine" then 2 else c.mult) + k]?) :
    (∀ i, i < F → (arApply o c B F x params inverse).out[b * F + i]? = (arApply o c B' F x' params' inverse).out[b' * F + i]?)
      ∧ (arApply o c B F x params inverse).ld[b]? = (arApply o c B' F x' params' inverse).ld[b']? :=
  elemwise_row_congr o B F _ _ hb hb' (fun _ hi => arEl_congr o c F inverse x x' params params' hx (fun i k h _ => hp i k h) hi)

/-- **C12 (executed `Piecewise*CDF`)**: the parameters are shared across the batch; row `b` of the result depends
    only on row `b` of `x` -/
theorem cdf_row_independent (o : XOps α) (c : ElCfg) (n : Nat) (inverse : Bool) {B B' b b' : Nat}
    (x x' params : Array α) (hb : b < B) (hb' : b' < B')
    (hx : ∀ i, i < n → x[b * n + i]? = x'[b' * n + i]?) :
    (∀ i, i < n → (cdfApply o c B n x params inverse).out[b * n + i]? = (cdfApply o c B' n x' params inverse).out[b' * n + i]?)
      ∧ (cdfApply o c B n x params inverse).ld[b]? = (cdfApply o c B' n x' params inverse).ld[b']? := by
  apply elemwise_row_congr o B n _ _ hb hb'
  intro i hi
  unfold cdfEl
  rw [getD_congr (hx i hi)]

/-- C01 for the two passes, spelled out: entry `b` of the log-det is the left fold of the per-element log-dets -/
theorem ar_ld_getElem? (o : XOps α) (c : ElCfg) (B F : Nat) (x params : Array α) (inverse : Bool) {b : Nat} (hb : b < B) :
    (arApply o c B F x params inverse).ld[b]?
      = some ((List.range F).foldl (fun acc i => o.add acc (ldOf o (arEl o c F x params inverse b i))) o.zero) :=
  elemwise_ld_getElem? o B F _ hb

theorem cdf_ld_getElem? (o : XOps α) (c : ElCfg) (B n : Nat) (x params : Array α) (inverse : Bool) {b : Nat} (hb : b < B) :
    (cdfApply o c B n x params inverse).ld[b]?
      = some ((List.range n).foldl (fun acc i => o.add acc (ldOf o (cdfEl o c n x params inverse b i))) o.zero) :=
  elemwise_ld_getElem? o B n _ hb

/-- over the reals the left fold is the finite sum that `Properties.C01.sum_logdet_eq_log_abs_det` consumes -/
theorem elemwise_ld_real (e : Float → ℝ) (B n : Nat) (el : Nat → Nat → ElRes ℝ) {b : Nat} (hb : b < B) :
    (elemwiseResult (NF.realX e) B n el).ld[b]? = some (∑ i : Fin n, ldOf (NF.realX e) (el b i)) := by
  rw [elemwise_ld_getElem? _ _ _ _ hb, foldl_add_real', sum_map_range]
  simp only [realX_zero, zero_add]

theorem ar_ld_real (e : Float → ℝ) (c : ElCfg) (B F : Nat) (x params : Array ℝ) (inverse : Bool) {b : Nat} (hb : b < B) :
    (arApply (NF.realX e) c B F x params inverse).ld[b]?
      = some (∑ i : Fin F, ldOf (NF.realX e) (arEl (NF.realX e) c F x params inverse b i)) :=
  elemwise_ld_real e B F _ hb

theorem cdf_ld_real (e : Float → ℝ) (c : ElCfg) (B n : Nat) (x params : Array ℝ) (inverse : Bool) {b : Nat} (hb : b < B) :
    (cdfApply (NF.realX e) c B n x params inverse).ld[b]?
      = some (∑ i : Fin n, ldOf (NF.realX e) (cdfEl (NF.realX e) c n x params inverse b i)) :=
  elemwise_ld_real e B n _ hb

/-! ## G. C01 on the executed coupling layer: the row log-det is the left fold of the per-element log-dets -/

section c01
variable (o : XOps α) (c : ElCfg) (mask : List α) (B S : Nat) (x params : Array α) (inverse : Bool)
  (uc : Option ElCfg) (uparams : Array α)

/-- **C01 (executed coupling layer).**  When no element of row `b` raised, `ld[b]` is the LEFT fold
    `((0 + l₁) + l₂) + …` of the per-element log-dets of row `b` in iteration order: the unconditional transform of
    the identity features first (in `(ipos, s)` order), then the transformed features in `(tpos, s)` order. -/
theorem coupling_ld_leftfold {b : Nat} (hb : b < B)
    (hok : ∀ r ∈ rowResults o c mask S x params inverse uc uparams b, ∃ v, r = .ok v) :
    (couplingApply o c mask B S x params inverse uc uparams).ld[b]?
      = some (((rowResults o c mask S x params inverse uc uparams b).map (ldOf o)).foldl o.add o.zero) := by
  rw [coupling_ld_getElem? o c mask S inverse uc uparams x params hb]
  exact congrArg some (ldFold_ok o _ hok)

theorem coupling_ld_general {b : Nat} (hb : b < B) :
    (couplingApply o c mask B S x params inverse uc uparams).ld[b]?
      = some (((rowResults o c mask S x params inverse uc uparams b).filterMap
          fun r => match r with | .ok (_, l, _) => some l | .error _ => none).foldl o.add o.zero) := by
  rw [coupling_ld_getElem? o c mask S inverse uc uparams x params hb]
  exact congrArg some (ldFold_eq o _)

theorem coupling_err_none_iff :
    (couplingApply o c mask B S x params inverse uc uparams).err = none
      ↔ ∀ u ∈ ucAll o mask B S x inverse uc uparams ++ condAll o c mask B S x params inverse, ∃ v, u.2 = .ok v := by
  rw [coupling_err_eq, firstErr_eq_none]
  simp only [List.mem_map]
  constructor
  · intro h u hu; exact h _ ⟨u, hu, rfl⟩
  · rintro h r ⟨u, hu, rfl⟩; exact h u hu

theorem coupling_err_none_iff_rows :
    (couplingApply o c mask B S x params inverse uc uparams).err = none
      ↔ ∀ b, b < B → ∀ r ∈ rowResults o c mask S x params inverse uc uparams b, ∃ v, r = .ok v := by
  rw [coupling_err_none_iff]
  constructor
  · intro h b hb r hr
    simp only [rowResults, List.mem_map, List.mem_append] at hr
    obtain ⟨u, hu, rfl⟩ := hr
    apply h u
    rcases hu with hu | hu
    · exact List.mem_append_left _ (List.mem_flatMap.2 ⟨b, List.mem_range.2 hb, hu⟩)
    · exact List.mem_append_right _ (List.mem_flatMap.2 ⟨b, List.mem_range.2 hb, hu⟩)
  · intro h u hu
    rcases List.mem_append.1 hu with hu | hu
    · obtain ⟨b, hb, hub⟩ := List.mem_flatMap.1 hu
      exact h b (List.mem_range.1 hb) u.2
        (List.mem_map.2 ⟨u, List.mem_append_left _ hub, rfl⟩)
    · obtain ⟨b, hb, hub⟩ := List.mem_flatMap.1 hu
      exact h b (List.mem_range.1 hb) u.2
        (List.mem_map.2 ⟨u, List.mem_append_right _ hub, rfl⟩)

end c01

theorem coupling_ld_real (e : Float → ℝ) (c : ElCfg) (mask : List ℝ) (B S : Nat) (x params : Array ℝ) (inverse : Bool)
    (uc : Option ElCfg) (uparams : Array ℝ) {b : Nat} (hb : b < B)
    (hok : ∀ r ∈ rowResults (NF.realX e) c mask S x params inverse uc uparams b, ∃ v, r = .ok v) :
    (couplingApply (NF.realX e) c mask B S x params inverse uc uparams).ld[b]?
      = some (((rowResults (NF.realX e) c mask S x params inverse uc uparams b).map (ldOf (NF.realX e))).sum) := by
  rw [coupling_ld_leftfold _ _ _ _ _ _ _ _ _ _ hb hok, foldl_add_real]
  simp

/-! ## H. C02 on the executed coupling layer: the pass in the other direction with the same parameters undoes a pass -/

theorem getD_of_lt {x : Array α} {j : Nat} (hj : j < x.size) (d : α) : x.getD j d = x[j] := by
  simp [Array.getD_eq_getD_getElem?, hj]

theorem getElem?_none_of_not_lt {x : Array α} {j : Nat} (hj : ¬ j < x.size) : x[j]? = none := by
  simp; omega

theorem ext_of_getD {a b : Array α} (d : α) (hs : a.size = b.size) (h : ∀ j, a.getD j d = b.getD j d) : a = b := by
  apply Array.ext hs
  intro j h1 h2
  have := h j
  rwa [getD_of_lt h1, getD_of_lt h2] at this

theorem selOut_none (r : ElRes α) : selOut r none = none := by
  rcases r with e | ⟨y, l, al⟩ <;> rfl

/-- **per-element invertibility** (the hypothesis of C02 at the level of one element): whenever the forward element
    map succeeds with `(y, l)`, the inverse element map with the SAME parameters sends `y` back to the input with
    log-det `-l`.  Over the reals this is what the spline / affine theorems prove. -/
def ElInvertible (o : XOps α) (c : ElCfg) (Ft S : Nat) (params : Array α) (B : Nat) : Prop :=
  ∀ b t s xi y l al, b < B → t < Ft → s < S →
    couplingEl o c Ft S params false b t s xi = .ok (y, l, al) →
    ∃ al', couplingEl o c Ft S params true b t s y = .ok (xi, o.neg l, al')

def ElInvertibleRev (o : XOps α) (c : ElCfg) (Ft S : Nat) (params : Array α) (B : Nat) : Prop :=
  ∀ b t s xi y l al, b < B → t < Ft → s < S →
    couplingEl o c Ft S params true b t s xi = .ok (y, l, al) →
    ∃ al', couplingEl o c Ft S params false b t s y = .ok (xi, o.neg l, al')

/-- the same notion for either direction `d` and up to a relation `R`: whenever the element map of direction `d`
    succeeds with `(y, l)`, the element map of the other direction with the SAME parameters succeeds at `y` with
    log-det EXACTLY `-l` and a value `R`-related to the input.  (`R = Eq`, `d = false` is `ElInvertible`; the cubic
    family, whose inverse is approximate in some bins, needs a proper `R` for `d = true`.) -/
def ElRel (R : α → α → Prop) (o : XOps α) (c : ElCfg) (Ft S : Nat) (params : Array α) (B : Nat) (d : Bool) : Prop :=
  ∀ b t s xi y l al, b < B → t < Ft → s < S →
    couplingEl o c Ft S params d b t s xi = .ok (y, l, al) →
    ∃ x' al', couplingEl o c Ft S params (!d) b t s y = .ok (x', o.neg l, al') ∧ R x' xi

theorem ElInvertible.rel {o : XOps α} {c : ElCfg} {Ft S B : Nat} {params : Array α}
    (h : ElInvertible o c Ft S params B) : ElRel Eq o c Ft S params B false := by
  intro b t s xi y l al hb ht hs hf
  obtain ⟨al', h'⟩ := h b t s xi y l al hb ht hs hf
  exact ⟨xi, al', h', rfl⟩

theorem ElInvertibleRev.rel {o : XOps α} {c : ElCfg} {Ft S B : Nat} {params : Array α}
    (h : ElInvertibleRev o c Ft S params B) : ElRel Eq o c Ft S params B true := by
  intro b t s xi y l al hb ht hs hf
  obtain ⟨al', h'⟩ := h b t s xi y l al hb ht hs hf
  exact ⟨xi, al', h', rfl⟩

theorem elInvertible_of_elTransform (o : XOps α) (c : ElCfg) (Ft S : Nat) (params : Array α) (B : Nat)
    (hk1 : c.kind ≠ "affine") (hk2 : c.kind ≠ "additive")
    (h : ∀ p xi y l al, elTransform o c false p xi = .ok (y, l, al) →
      ∃ al', elTransform o c true p y = .ok (xi, o.neg l, al')) : ElInvertible o c Ft S params B := by
  intro b t s xi y l al _ _ _ hf
  rw [couplingEl_spline o c S params false hk1 hk2] at hf
  rw [couplingEl_spline o c S params true hk1 hk2]
  exact h _ xi y l al hf

section c02
variable (o : XOps α) (c : ElCfg) (mask : List α) (B S : Nat) (x params : Array α) (uparams uparams' : Array α)

theorem transformIdx_flat_lt {b t s : Nat} (hb : b < B) (ht : t < (transformIdx o mask).length) (hs : s < S)
    (hsz : B * mask.length * S ≤ x.size) : flatIdx mask.length S b ((transformIdx o mask).getD t 0) s < x.size :=
  lt_of_lt_of_le (flatIdx_lt hb ((transformIdx_ok o mask).getD_lt ht) hs) hsz

theorem el_ok (d : Bool) (uc : Option ElCfg)
    (herr : (couplingApply o c mask B S x params d uc uparams).err = none)
    {b t s : Nat} (hb : b < B) (ht : t < (transformIdx o mask).length) (hs : s < S) :
    ∃ v, couplingEl o c (transformIdx o mask).length S params d b t s
      (x.getD (flatIdx mask.length S b ((transformIdx o mask).getD t 0) s) o.zero) = .ok v := by
  have hall := (coupling_err_none_iff o c mask B S x params d uc uparams).1 herr
  exact hall (_, _) (List.mem_append_right _ (by
    rw [condAll_eq]; exact (mem_tAll ..).2 ⟨b, t, s, hb, ht, hs, rfl⟩))

theorem coupling_err_none_of_el (d : Bool)
    (h : ∀ b t s, b < B → t < (transformIdx o mask).length → s < S →
      ∃ v, couplingEl o c (transformIdx o mask).length S params d b t s
        (x.getD (flatIdx mask.length S b ((transformIdx o mask).getD t 0) s) o.zero) = .ok v) :
    (couplingApply o c mask B S x params d none uparams).err = none := by
  rw [coupling_err_none_iff, ucAll_none, List.nil_append, condAll_eq]
  intro u hu
  obtain ⟨b, t, s, hb, ht, hs, rfl⟩ := (mem_tAll ..).1 hu
  exact h b t s hb ht hs

/-- the element of the other direction applied to what the pass stored at an in-range transformed position -/
theorem el_roundtrip (R : α → α → Prop) (d : Bool) (uc : Option ElCfg)
    (hinv : ElRel R o c (transformIdx o mask).length S params B d)
    (herr : (couplingApply o c mask B S x params d uc uparams).err = none)
    {b t s : Nat} (hb : b < B) (ht : t < (transformIdx o mask).length) (hs : s < S)
    (hj : flatIdx mask.length S b ((transformIdx o mask).getD t 0) s < x.size) :
    ∃ y l al x' al',
      couplingEl o c (transformIdx o mask).length S params d b t s
        (x.getD (flatIdx mask.length S b ((transformIdx o mask).getD t 0) s) o.zero) = .ok (y, l, al) ∧
      couplingEl o c (transformIdx o mask).length S params (!d) b t s
        ((couplingApply o c mask B S x params d uc uparams).out.getD
          (flatIdx mask.length S b ((transformIdx o mask).getD t 0) s) o.zero) = .ok (x', o.neg l, al') ∧
      R x' (x.getD (flatIdx mask.length S b ((transformIdx o mask).getD t 0) s) o.zero) := by
  obtain ⟨⟨y, l, al⟩, hy⟩ := el_ok o c mask B S x params uparams d uc herr hb ht hs
  obtain ⟨x', al', h', hR⟩ := hinv b t s _ y l al hb ht hs hy
  exact ⟨y, l, al, x', al', hy,
    by rw [coupling_out_transformed_getD o c mask B S x params d uc uparams hb ht hs hj hy, h'], hR⟩

/-- **C02 (executed coupling layer), outputs, either order, up to `R`.**  If the pass in direction `d` reported no
    error, every entry of the output of the pass in the other direction, run on the first pass's OUTPUT with the SAME
    parameter array, is `R`-related to the corresponding entry of `x` (every `B`, `S`, mask; arrays of any size) -/
theorem coupling_roundtrip_getD (R : α → α → Prop) (hR : ∀ a, R a a) (d : Bool)
    (hinv : ElRel R o c (transformIdx o mask).length S params B d)
    (herr : (couplingApply o c mask B S x params d none uparams).err = none) (j : Nat) :
    R ((couplingApply o c mask B S (couplingApply o c mask B S x params d none uparams).out params (!d) none uparams').out.getD
        j o.zero) (x.getD j o.zero) := by
  by_cases hj : j < x.size
  swap
  · rw [Array.getD_eq_getD_getElem?, Array.getD_eq_getD_getElem? (xs := x), getElem?_none_of_not_lt hj,
      getElem?_none_of_not_lt (by simpa using hj)]
    exact hR _
  by_cases hpos : ∃ b t s, b < B ∧ t < (transformIdx o mask).length ∧ s < S ∧
      j = flatIdx mask.length S b ((transformIdx o mask).getD t 0) s
  · obtain ⟨b, t, s, hb, ht, hs, rfl⟩ := hpos
    obtain ⟨y, l, al, x', al', _, h2, h3⟩ := el_roundtrip o c mask B S x params uparams R d none hinv herr hb ht hs hj
    rw [Array.getD_eq_getD_getElem?,
      coupling_out_transformed_ok o c mask B S _ params (!d) none uparams' hb ht hs (by simpa using hj) h2]
    exact h3
  · have hj' : ∀ b t s, b < B → t < (transformIdx o mask).length → s < S →
        j ≠ flatIdx mask.length S b ((transformIdx o mask).getD t 0) s :=
      fun b t s hb ht hs he => hpos ⟨b, t, s, hb, ht, hs, he⟩
    rw [Array.getD_eq_getD_getElem?, Array.getD_eq_getD_getElem? (xs := x),
      coupling_out_untouched o c mask B S _ params (!d) none uparams' j hj', couplingUncond_none,
      coupling_out_untouched o c mask B S x params d none uparams j hj', couplingUncond_none]
    exact hR _

/-- **C02 (executed coupling layer), outputs.**  If the forward pass reported no error and the element maps are
    invertible, the inverse pass applied to the forward OUTPUT with the SAME parameter array returns the original
    array exactly (every `B`, `S`, mask; arrays of any size). -/
theorem coupling_inverse_forward (hinv : ElInvertible o c (transformIdx o mask).length S params B)
    (herr : (couplingApply o c mask B S x params false none uparams).err = none) :
    (couplingApply o c mask B S (couplingApply o c mask B S x params false none uparams).out params true none uparams').out
      = x :=
  ext_of_getD o.zero (by simp)
    (coupling_roundtrip_getD o c mask B S x params uparams uparams' Eq (fun _ => rfl) false hinv.rel herr)

theorem rowResults_none (inverse : Bool) (b : Nat) :
    rowResults o c mask S x params inverse none uparams b
      = (rowIter (transformIdx o mask).length S).map fun ts =>
          couplingEl o c (transformIdx o mask).length S params inverse b ts.1 ts.2
            (x.getD (flatIdx mask.length S b ((transformIdx o mask).getD ts.1 0) ts.2) o.zero) := by
  simp only [rowResults, ucRow, condRow, tRow, List.nil_append, List.map_map]
  rfl

/-- **C02 (executed coupling layer), log-dets, either order.**  For an input that fills the `[B, C, S]` shape: the
    pass in the other direction reports no error either, and its row log-det is the left fold of the NEGATED
    per-element log-dets of the first pass's row, in the same order. -/
theorem coupling_roundtrip_ld (R : α → α → Prop) (d : Bool)
    (hinv : ElRel R o c (transformIdx o mask).length S params B d)
    (herr : (couplingApply o c mask B S x params d none uparams).err = none)
    (hsz : B * mask.length * S ≤ x.size) :
    (couplingApply o c mask B S (couplingApply o c mask B S x params d none uparams).out params (!d) none uparams').err = none
    ∧ ∀ b, b < B →
      (couplingApply o c mask B S x params d none uparams).ld[b]?
        = some (((rowResults o c mask S x params d none uparams b).map (ldOf o)).foldl o.add o.zero)
      ∧ (couplingApply o c mask B S (couplingApply o c mask B S x params d none uparams).out params (!d) none uparams').ld[b]?
        = some ((((rowResults o c mask S x params d none uparams b).map (ldOf o)).map o.neg).foldl o.add o.zero) := by
  have hel : ∀ {b t s}, b < B → t < (transformIdx o mask).length → s < S → _ := fun hb ht hs =>
    el_roundtrip o c mask B S x params uparams R d none hinv herr hb ht hs
      (transformIdx_flat_lt o mask B S x hb ht hs hsz)
  have hrow : ∀ b, b < B →
      (∀ r ∈ rowResults o c mask S (couplingApply o c mask B S x params d none uparams).out params (!d) none uparams' b,
        ∃ v, r = .ok v)
      ∧ (rowResults o c mask S (couplingApply o c mask B S x params d none uparams).out params (!d) none uparams' b).map (ldOf o)
        = ((rowResults o c mask S x params d none uparams b).map (ldOf o)).map o.neg := by
    intro b hb
    rw [rowResults_none, rowResults_none]
    constructor
    · intro r hr
      obtain ⟨⟨t, s⟩, hts, rfl⟩ := List.mem_map.1 hr
      obtain ⟨ht, hs⟩ := mem_rowIter.1 hts
      obtain ⟨y, l, al, x', al', _, h2, _⟩ := hel hb ht hs
      exact ⟨_, h2⟩
    · rw [List.map_map, List.map_map, List.map_map]
      apply List.map_congr_left
      rintro ⟨t, s⟩ hts
      obtain ⟨ht, hs⟩ := mem_rowIter.1 hts
      obtain ⟨y, l, al, x', al', h1, h2, _⟩ := hel hb ht hs
      simp only [Function.comp, h1, h2, ldOf]
  constructor
  · exact (coupling_err_none_iff_rows o c mask B S _ params (!d) none uparams').2 fun b hb => (hrow b hb).1
  · intro b hb
    refine ⟨coupling_ld_leftfold o c mask B S x params d none uparams hb
      ((coupling_err_none_iff_rows o c mask B S x params d none uparams).1 herr b hb), ?_⟩
    rw [coupling_ld_leftfold o c mask B S _ params (!d) none uparams' hb (hrow b hb).1, (hrow b hb).2]

/-- **"the same parameters" is justified**: the conditioner input of the second pass (run on the first pass's
    output) is the conditioner input of the first pass, so a deterministic conditioner returns the same parameter
    array -/
theorem coupling_condIn_roundtrip (hd : MaskDisjoint o mask) (d : Bool) :
    (couplingApply o c mask B S (couplingApply o c mask B S x params d none uparams).out params (!d) none uparams').condIn
      = (couplingApply o c mask B S x params d none uparams).condIn := by
  rw [coupling_condIn_none, coupling_condIn_eq_gather_out o c mask B S x params d uparams hd]

end c02

theorem sum_map_neg_real (e : Float → ℝ) (l : List ℝ) : (l.map (NF.realX e).neg).sum = - l.sum := by
  induction l with
  | nil => simp
  | cons a l ih => simp only [List.map_cons, List.sum_cons, ih, realX_neg]; ring

/-- **C02 (executed coupling layer) over the reals, either order, up to `R`**: the second pass raises nothing, its
    entries are `R`-related to the first pass's input, it is given the same conditioner input and returns the
    negated row log-dets -/
theorem coupling_roundtrip_real (e : Float → ℝ) (c : ElCfg) (mask : List ℝ) (B S : Nat) (x params uparams uparams' : Array ℝ)
    (R : ℝ → ℝ → Prop) (hR : ∀ a, R a a) (d : Bool)
    (hinv : ElRel R (NF.realX e) c (transformIdx (NF.realX e) mask).length S params B d)
    (herr : (couplingApply (NF.realX e) c mask B S x params d none uparams).err = none)
    (hsz : B * mask.length * S ≤ x.size) :
    let p := couplingApply (NF.realX e) c mask B S x params d none uparams
    let q := couplingApply (NF.realX e) c mask B S p.out params (!d) none uparams'
    q.err = none ∧ (∀ j, R (q.out.getD j 0) (x.getD j 0)) ∧ q.condIn = p.condIn
      ∧ ∀ b, b < B → q.ld[b]? = (p.ld[b]?).map (fun l => -l) := by
  intro p q
  obtain ⟨h1, h2⟩ := coupling_roundtrip_ld (NF.realX e) c mask B S x params uparams uparams' R d hinv herr hsz
  have h5 := coupling_roundtrip_getD (NF.realX e) c mask B S x params uparams uparams' R hR d hinv herr
  rw [realX_zero] at h5
  refine ⟨h1, h5,
    coupling_condIn_roundtrip (NF.realX e) c mask B S x params uparams uparams' (maskDisjoint_real e mask) d, ?_⟩
  intro b hb
  obtain ⟨h3, h4⟩ := h2 b hb
  show (couplingApply (NF.realX e) c mask B S (couplingApply (NF.realX e) c mask B S x params d none uparams).out
      params (!d) none uparams').ld[b]? = ((couplingApply (NF.realX e) c mask B S x params d none uparams).ld[b]?).map _
  rw [h3, h4, foldl_add_real, foldl_add_real, sum_map_neg_real]
  simp

/-- **C02 (executed coupling layer) over the reals**: the inverse pass returns the input and the negated row
    log-dets -/
theorem coupling_inverse_forward_real (e : Float → ℝ) (c : ElCfg) (mask : List ℝ) (B S : Nat) (x params uparams uparams' : Array ℝ)
    (hinv : ElInvertible (NF.realX e) c (transformIdx (NF.realX e) mask).length S params B)
    (herr : (couplingApply (NF.realX e) c mask B S x params false none uparams).err = none)
    (hsz : B * mask.length * S ≤ x.size) :
    let fwd := couplingApply (NF.realX e) c mask B S x params false none uparams
    let inv := couplingApply (NF.realX e) c mask B S fwd.out params true none uparams'
    inv.out = x ∧ inv.err = none ∧ inv.condIn = fwd.condIn ∧ ∀ b, b < B → inv.ld[b]? = (fwd.ld[b]?).map (fun l => -l) := by
  obtain ⟨h1, h2, h3, h4⟩ := coupling_roundtrip_real e c mask B S x params uparams uparams' Eq (fun _ => rfl) false
    hinv.rel herr hsz
  exact ⟨ext_of_getD 0 (by simp) h2, h1, h3, h4⟩

/-- **C02 (executed coupling layer) over the reals, the other order**: forward ∘ inverse returns the input array and the
    negated row log-dets -/
theorem coupling_forward_inverse_real (e : Float → ℝ) (c : ElCfg) (mask : List ℝ) (B S : Nat) (x params uparams uparams' : Array ℝ)
    (hinv : ElInvertibleRev (NF.realX e) c (transformIdx (NF.realX e) mask).length S params B)
    (herr : (couplingApply (NF.realX e) c mask B S x params true none uparams).err = none)
    (hsz : B * mask.length * S ≤ x.size) :
    let inv := couplingApply (NF.realX e) c mask B S x params true none uparams
    let fwd := couplingApply (NF.realX e) c mask B S inv.out params false none uparams'
    fwd.out = x ∧ fwd.err = none ∧ fwd.condIn = inv.condIn ∧ ∀ b, b < B → fwd.ld[b]? = (inv.ld[b]?).map (fun l => -l) := by
  obtain ⟨h1, h2, h3, h4⟩ := coupling_roundtrip_real e c mask B S x params uparams uparams' Eq (fun _ => rfl) true
    hinv.rel herr hsz
  exact ⟨ext_of_getD 0 (by simp) h2, h1, h3, h4⟩

/-- the packaging `(a, l) ↦ (a, l, [])` by which the dispatchers return the result of a two-output program -/
theorem ok_map3 {r : Except Err (α × α)} {y l : α} {al : List α}
    (h : r.map (fun ab => (ab.1, ab.2, ([] : List α))) = .ok (y, l, al)) : r = .ok (y, l) := by
  rcases r with err | ⟨y', l'⟩
  · cases h
  · simp only [Except.map, Except.ok.injEq, Prod.mk.injEq] at h
    obtain ⟨rfl, rfl, _⟩ := h
    rfl

/-! ### what a layer asks of an element family

Two facts about the dispatcher on the parameter vectors `p` with `V p`: in which inputs a call returns, and that the other
direction undoes a call that returned.  A family has them of its two-output program with the parameters fixed
(`ElemPair.ProgAccepts`, `ElemPair.ProgUndoes`, from its `ElemPair.BoxPair` or `TailsWhole.WrapPair`) and passes to the
dispatcher through its branch equation (`.of_prog`); every layer theorem below and in `ARWhole` is stated over the pair on
the dispatcher. -/

def ElAccepts (o : XOps α) (c : ElCfg) (V : List α → Prop) (D : Bool → α → Prop) : Prop :=
  ∀ d p x, V p → ((∃ v, elTransform o c d p x = .ok v) ↔ D d x)

/-- on valid parameter vectors a call in direction `d` that returned is undone by the other direction up to `R`, log-det
    negated (`R`, `d` as in `ElRel`: every family is undone exactly in both directions where its validity says so; the
    cubic one, whose inverse is approximate in some bins, also up to a distance in direction `true` on every valid vector) -/
def ElUndoes (R : α → α → Prop) (d : Bool) (o : XOps α) (c : ElCfg) (V : List α → Prop) : Prop :=
  ∀ p x y l al, V p → elTransform o c d p x = .ok (y, l, al) →
    ∃ x' al', elTransform o c (!d) p y = .ok (x', o.neg l, al') ∧ R x' x

theorem ElUndoes.mono {R R' : α → α → Prop} {d : Bool} {o : XOps α} {c : ElCfg} {V : List α → Prop}
    (hR : ∀ a b, R a b → R' a b) (h : ElUndoes R d o c V) : ElUndoes R' d o c V :=
  fun p x y l al hv hf => let ⟨x', al', h1, h2⟩ := h p x y l al hv hf; ⟨x', al', h1, hR _ _ h2⟩

def ElMaps (o : XOps α) (c : ElCfg) (V : List α → Prop) (D : Bool → α → Prop) : Prop :=
  ∀ d p x y l al, V p → elTransform o c d p x = .ok (y, l, al) → D (!d) y

theorem ElMaps.of_undoes {R : α → α → Prop} {o : XOps α} {c : ElCfg} {V V' : List α → Prop} {D : Bool → α → Prop}
    (hu : ∀ d, ElUndoes R d o c V') (ha : ElAccepts o c V D) : ElMaps o c (fun p => V p ∧ V' p) D :=
  fun d p x y l al hv hf =>
    let ⟨_, _, h1, _⟩ := hu d p x y l al hv.2 hf
    (ha (!d) p y hv.1).1 ⟨_, h1⟩

section ofProg
variable {o : XOps α} {c : ElCfg} {V : List α → Prop} {D : Bool → α → Prop}
  {prog : Bool → List α → α → Except Err (α × α)}
  (heq : ∀ d p x, elTransform o c d p x = (prog d p x).map (fun ab => (ab.1, ab.2, [])))
include heq

theorem ElAccepts.of_prog (h : ∀ p, V p → ElemPair.ProgAccepts (fun d => prog d p) D) : ElAccepts o c V D := by
  intro d p x hv
  have hp : (∃ r, prog d p x = .ok r) ↔ D d x := h p hv d x
  rw [heq, ← hp]
  constructor
  · rintro ⟨v, h'⟩
    rcases hr : prog d p x with er | r
    · rw [hr] at h'; cases h'
    · exact ⟨r, rfl⟩
  · rintro ⟨r, hr⟩
    exact ⟨_, by rw [hr]; rfl⟩

theorem ElUndoes.of_prog (h : ∀ p, V p → ElemPair.ProgUndoes o (fun d => prog d p)) (d : Bool) :
    ElUndoes Eq d o c V := by
  intro p x y l al hv hf
  rw [heq] at hf ⊢
  have hu : prog (!d) p y = .ok (x, o.neg l) := h p hv d x y l (ok_map3 hf)
  rw [hu]
  exact ⟨x, [], rfl, rfl⟩

end ofProg

/-- the spline kinds are dispatched by `couplingEl` to `elTransform` -/
theorem spline_kind_ne {c : ElCfg} (h : c.kind = "rq" ∨ c.kind = "quad" ∨ c.kind = "lin" ∨ c.kind = "cubic") :
    c.kind ≠ "affine" ∧ c.kind ≠ "additive" := by
  rcases h with h | h | h | h <;> rw [h] <;> exact ⟨by decide, by decide⟩

def SlicesValid (o : XOps α) (c : ElCfg) (V : List α → Prop) (Ft S : Nat) (params : Array α) (B : Nat) : Prop :=
  ∀ b t s, b < B → t < Ft → s < S → V (condSlice o c.mult Ft S params b t s)

theorem ElAccepts.cdf_err_none_iff {o : XOps α} {c : ElCfg} {V : List α → Prop} {D : Bool → α → Prop}
    (h : ElAccepts o c V D) (B n : Nat) (x params : Array α) (d : Bool)
    (hv : ∀ i, i < n → V ((List.range c.mult).map (fun k => params.getD (i * c.mult + k) o.zero))) :
    (cdfApply o c B n x params d).err = none ↔ ∀ b i, b < B → i < n → D d (x.getD (b * n + i) o.zero) := by
  rw [cdfApply, elemwise_err_none]
  exact forall₄_congr fun b i _ hi => h d _ _ (hv i hi)

section family
variable {o : XOps α} {c : ElCfg} {V : List α → Prop} {D : Bool → α → Prop} {R : α → α → Prop} {d : Bool}
  (hk : c.kind ≠ "affine" ∧ c.kind ≠ "additive")
include hk

theorem ElUndoes.elRel (h : ElUndoes R d o c V) {Ft S B : Nat} {params : Array α}
    (hv : SlicesValid o c V Ft S params B) : ElRel R o c Ft S params B d := by
  intro b t s xi y l al hb ht hs hf
  rw [couplingEl_spline o c S params d hk.1 hk.2] at hf
  rw [couplingEl_spline o c S params (!d) hk.1 hk.2]
  exact h _ xi y l al (hv b t s hb ht hs) hf

theorem ElUndoes.elInvertible (h : ElUndoes Eq false o c V) {Ft S B : Nat} {params : Array α}
    (hv : SlicesValid o c V Ft S params B) : ElInvertible o c Ft S params B := by
  intro b t s xi y l al hb ht hs hf
  obtain ⟨x', al', h1, rfl⟩ := h.elRel hk hv b t s xi y l al hb ht hs hf
  exact ⟨al', h1⟩

theorem ElUndoes.elInvertibleRev (h : ElUndoes Eq true o c V) {Ft S B : Nat} {params : Array α}
    (hv : SlicesValid o c V Ft S params B) : ElInvertibleRev o c Ft S params B := by
  intro b t s xi y l al hb ht hs hf
  obtain ⟨x', al', h1, rfl⟩ := h.elRel hk hv b t s xi y l al hb ht hs hf
  exact ⟨al', h1⟩

theorem ElAccepts.coupling_err_none_iff (h : ElAccepts o c V D) (mask : List α) (B S : Nat) (x params uparams : Array α)
    (d : Bool) (hv : SlicesValid o c V (transformIdx o mask).length S params B) :
    (couplingApply o c mask B S x params d none uparams).err = none
      ↔ ∀ b t s, b < B → t < (transformIdx o mask).length → s < S →
          D d (x.getD (flatIdx mask.length S b ((transformIdx o mask).getD t 0) s) o.zero) := by
  constructor
  · intro herr b t s hb ht hs
    have hok := el_ok o c mask B S x params uparams d none herr hb ht hs
    rw [couplingEl_spline o c S params d hk.1 hk.2] at hok
    exact (h d _ _ (hv b t s hb ht hs)).1 hok
  · intro hD
    apply coupling_err_none_of_el
    intro b t s hb ht hs
    rw [couplingEl_spline o c S params d hk.1 hk.2]
    exact (h d _ _ (hv b t s hb ht hs)).2 (hD b t s hb ht hs)

/-- a pass on transformed inputs in the domain of its direction raises nothing and its transformed outputs lie in the
    domain of the other -/
theorem ElAccepts.coupling_pass_mem {W : List α → Prop} (ha : ElAccepts o c V D) (hm : ElMaps o c W D) (mask : List α)
    (B S : Nat) (x params uparams : Array α) (d : Bool)
    (hv : SlicesValid o c V (transformIdx o mask).length S params B)
    (hw : SlicesValid o c W (transformIdx o mask).length S params B) (hsz : B * mask.length * S ≤ x.size)
    (hbox : ∀ b t s, b < B → t < (transformIdx o mask).length → s < S →
      D d (x.getD (flatIdx mask.length S b ((transformIdx o mask).getD t 0) s) o.zero)) :
    (couplingApply o c mask B S x params d none uparams).err = none
      ∧ ∀ b t s, b < B → t < (transformIdx o mask).length → s < S →
          D (!d) ((couplingApply o c mask B S x params d none uparams).out.getD
            (flatIdx mask.length S b ((transformIdx o mask).getD t 0) s) o.zero) := by
  have herr := (ha.coupling_err_none_iff hk mask B S x params uparams d hv).2 hbox
  refine ⟨herr, fun b t s hb ht hs => ?_⟩
  obtain ⟨⟨y, l, al⟩, hy⟩ := el_ok o c mask B S x params uparams d none herr hb ht hs
  rw [coupling_out_transformed_getD o c mask B S x params d none uparams hb ht hs
    (transformIdx_flat_lt o mask B S x hb ht hs hsz) hy]
  rw [couplingEl_spline o c S params d hk.1 hk.2] at hy
  exact hm d _ _ y l al (hw b t s hb ht hs) hy

end family

/-- **C02 (executed coupling layer over the reals) for a family that is undone exactly in direction `d`** -/
theorem ElUndoes.coupling_roundtrip_real (e : Float → ℝ) {c : ElCfg} {V : List ℝ → Prop} {d : Bool}
    (h : ElUndoes Eq d (NF.realX e) c V) (hk : c.kind ≠ "affine" ∧ c.kind ≠ "additive")
    (mask : List ℝ) (B S : Nat) (x params uparams uparams' : Array ℝ)
    (hv : SlicesValid (NF.realX e) c V (transformIdx (NF.realX e) mask).length S params B)
    (herr : (couplingApply (NF.realX e) c mask B S x params d none uparams).err = none)
    (hsz : B * mask.length * S ≤ x.size) :
    let p := couplingApply (NF.realX e) c mask B S x params d none uparams
    let q := couplingApply (NF.realX e) c mask B S p.out params (!d) none uparams'
    q.out = x ∧ q.err = none ∧ q.condIn = p.condIn ∧ ∀ b, b < B → q.ld[b]? = (p.ld[b]?).map (fun l => -l) := by
  -- (by its full name: the bare one is, in here, the theorem being defined)
  obtain ⟨h1, h2, h3, h4⟩ := NF.StructureExec.coupling_roundtrip_real e c mask B S x params uparams uparams' Eq
    (fun _ => rfl) d (h.elRel hk hv) herr hsz
  exact ⟨ext_of_getD 0 (by simp) h2, h1, h3, h4⟩

/-- **C02 (executed `Piecewise*CDF` over the reals), one row, for a family that is undone exactly in direction `d`**: where
    the pass in direction `d` returned in row `b`, the pass in the other direction on its output returns in row `b`, gives
    back row `b` of the input and negates the log-det -/
theorem ElUndoes.cdf_roundtrip_row (e : Float → ℝ) {c : ElCfg} {V : List ℝ → Prop} {d : Bool}
    (h : ElUndoes Eq d (NF.realX e) c V) (B n : Nat) (x params : Array ℝ)
    (hv : ∀ i, i < n → V ((List.range c.mult).map (fun k => params.getD (i * c.mult + k) (NF.realX e).zero)))
    {b : Nat} (hb : b < B) (hok : ∀ i, i < n → ∃ v, cdfEl (NF.realX e) c n x params d b i = .ok v) :
    let p := cdfApply (NF.realX e) c B n x params d
    let q := cdfApply (NF.realX e) c B n p.out params (!d)
    (∀ i, i < n → (∃ v, cdfEl (NF.realX e) c n p.out params (!d) b i = .ok v)
        ∧ q.out[b * n + i]? = some (x.getD (b * n + i) 0))
      ∧ q.ld[b]? = (p.ld[b]?).map (fun l => -l) := by
  dsimp only
  have hel : ∀ i, i < n → ∃ y l al al', cdfEl (NF.realX e) c n x params d b i = .ok (y, l, al)
      ∧ cdfEl (NF.realX e) c n (cdfApply (NF.realX e) c B n x params d).out params (!d) b i
          = .ok (x.getD (b * n + i) 0, -l, al') := by
    intro i hi
    obtain ⟨⟨y, l, al⟩, hy⟩ := hok i hi
    have hg : (cdfApply (NF.realX e) c B n x params d).out.getD (b * n + i) (NF.realX e).zero = y := by
      rw [Array.getD_eq_getD_getElem?, cdfApply, elemwise_out_getElem? _ B n _ hb hi, hy]
      rfl
    obtain ⟨_, al', h1, rfl⟩ := h _ _ y l al (hv i hi) hy
    refine ⟨y, l, al, al', hy, ?_⟩
    rw [cdfEl, hg, h1, realX_zero]
    rfl
  constructor
  · intro i hi
    obtain ⟨y, l, al, al', -, h2⟩ := hel i hi
    refine ⟨⟨_, h2⟩, ?_⟩
    rw [cdfApply, elemwise_out_getElem? _ B n _ hb hi, h2]
    rfl
  · rw [cdf_ld_real e c B n _ params (!d) hb, cdf_ld_real e c B n x params d hb, Option.map_some,
      ← Finset.sum_neg_distrib]
    congr 1
    apply Finset.sum_congr rfl
    intro i _
    obtain ⟨y, l, al, al', h1, h2⟩ := hel i i.2
    rw [h1, h2]
    rfl

/-! ## R. Refinement: one row of the executed coupling layer IS the abstract coupling of `Lemmas/Coupling.lean` -/

def rowOf (o : XOps α) (C b : Nat) (a : Array α) : Fin C → α := fun i => a.getD (flatIdx C 1 b i 0) o.zero

def isT (o : XOps α) (mask : List α) : Fin mask.length → Bool := fun i => o.gt (mask.getD i o.zero) o.zero

theorem mem_transformIdx_iff (o : XOps α) (mask : List α) (i : Fin mask.length) :
    (i : Nat) ∈ transformIdx o mask ↔ isT o mask i = true := by
  simp [transformIdx, isT, List.mem_filter]

/-- the "parameters" of channel `i` of row `b` in the abstract model: the two directional element maps the executed
    layer uses there (`tpos` = position of the channel in the transform list) -/
def chanEl (o : XOps α) (c : ElCfg) (mask : List α) (params : Array α) (b : Nat) (i : Fin mask.length) :
    Bool → α → ElRes α :=
  fun inverse => couplingEl o c (transformIdx o mask).length 1 params inverse b ((transformIdx o mask).idxOf i.val) 0

theorem chanEl_spline (o : XOps α) (c : ElCfg) (mask : List α) (params : Array α) (b : Nat) (i : Fin mask.length)
    (hk1 : c.kind ≠ "affine") (hk2 : c.kind ≠ "additive") (inverse : Bool) (xi : α) :
    chanEl o c mask params b i inverse xi
      = elTransform o c inverse (condSlice o c.mult (transformIdx o mask).length 1 params b
          ((transformIdx o mask).idxOf i.val) 0) xi :=
  couplingEl_spline o c 1 params inverse hk1 hk2 _ _ _ _ _

def applyEl (p : α → ElRes α) (xi : α) : α := match p xi with | .ok (y, _, _) => y | .error _ => xi

def fwdOf (p : Bool → α → ElRes α) : α → α := applyEl (p false)
def invOf (p : Bool → α → ElRes α) : α → α := applyEl (p true)

theorem idxOf_transform (o : XOps α) (mask : List α) {i : Nat} (hi : i ∈ transformIdx o mask) :
    (transformIdx o mask).idxOf i < (transformIdx o mask).length
      ∧ (transformIdx o mask).getD ((transformIdx o mask).idxOf i) 0 = i := by
  have h1 := List.idxOf_lt_length_of_mem hi
  refine ⟨h1, ?_⟩
  simp [List.getD, h1]

theorem coupling_row_pointwise (o : XOps α) (c : ElCfg) (mask : List α) (B : Nat) (x params uparams : Array α)
    (inverse : Bool) {b : Nat} (hb : b < B) (hsz : B * mask.length ≤ x.size) (i : Fin mask.length) :
    rowOf o mask.length b (couplingApply o c mask B 1 x params inverse none uparams).out i
      = if isT o mask i then applyEl (chanEl o c mask params b i inverse) (rowOf o mask.length b x i)
        else rowOf o mask.length b x i := by
  have hj : flatIdx mask.length 1 b i 0 < x.size := by
    have := flatIdx_lt (S := 1) hb i.isLt Nat.zero_lt_one
    omega
  unfold rowOf
  by_cases hT : isT o mask i = true
  · obtain ⟨ht, hg⟩ := idxOf_transform o mask ((mem_transformIdx_iff o mask i).2 hT)
    have h := coupling_out_transformed o c mask B 1 x params inverse none uparams hb ht Nat.zero_lt_one
    rw [hg, couplingUncond_none] at h
    rw [if_pos hT, Array.getD_eq_getD_getElem?, h, getD_of_lt hj, Array.getElem?_eq_getElem hj]
    unfold applyEl chanEl
    rcases couplingEl o c (transformIdx o mask).length 1 params inverse b
      ((transformIdx o mask).idxOf i.val) 0 x[flatIdx mask.length 1 b i 0] with e | ⟨y, l, al⟩ <;> rfl
  · have hni : (i : Nat) ∉ transformIdx o mask := fun hm => hT ((mem_transformIdx_iff o mask i).1 hm)
    rw [if_neg hT]
    exact getD_congr (coupling_identity_passthrough o c mask B 1 x params inverse uparams i.isLt Nat.zero_lt_one hni) _

/-- **Refinement, forward.**  For ANY conditioner `net` (a function of the blanked identity part and a context)
    that produces the element maps the executed layer used in row `b`, row `b` of the executed forward pass is
    `Coupling.Coupling.forward` for the mask-derived `isT` — so `Properties.C07.identity_passthrough`,
    `cond_sees_only_identity`, `transformed_depends_on` and the ranked-dependency theorem of C01 are statements about
    what the driver runs. -/
theorem coupling_row_refines_forward {Cx : Type} (o : XOps α) (c : ElCfg) (mask : List α) (B : Nat)
    (x params uparams : Array α) {b : Nat} (hb : b < B) (hsz : B * mask.length ≤ x.size)
    (net : (Fin mask.length → α) → Cx → Fin mask.length → (Bool → α → ElRes α)) (ctx : Cx)
    (hnet : ∀ i, isT o mask i = true →
      net (Coupling.Coupling.idPart (isT o mask) o.zero (rowOf o mask.length b x)) ctx i = chanEl o c mask params b i) :
    rowOf o mask.length b (couplingApply o c mask B 1 x params false none uparams).out
      = Coupling.Coupling.forward (isT o mask) o.zero net fwdOf (rowOf o mask.length b x) ctx := by
  funext i
  rw [coupling_row_pointwise o c mask B x params uparams false hb hsz i]
  unfold Coupling.Coupling.forward
  by_cases hT : isT o mask i = true
  · rw [if_pos hT, if_pos hT, hnet i hT]; rfl
  · rw [if_neg hT, if_neg hT]

theorem coupling_row_refines_inverse {Cx : Type} (o : XOps α) (c : ElCfg) (mask : List α) (B : Nat)
    (y params uparams : Array α) {b : Nat} (hb : b < B) (hsz : B * mask.length ≤ y.size)
    (net : (Fin mask.length → α) → Cx → Fin mask.length → (Bool → α → ElRes α)) (ctx : Cx)
    (hnet : ∀ i, isT o mask i = true →
      net (Coupling.Coupling.idPart (isT o mask) o.zero (rowOf o mask.length b y)) ctx i = chanEl o c mask params b i) :
    rowOf o mask.length b (couplingApply o c mask B 1 y params true none uparams).out
      = Coupling.Coupling.inverse (isT o mask) o.zero net invOf (rowOf o mask.length b y) ctx := by
  funext i
  rw [coupling_row_pointwise o c mask B y params uparams true hb hsz i]
  unfold Coupling.Coupling.inverse
  by_cases hT : isT o mask i = true
  · rw [if_pos hT, if_pos hT, hnet i hT]; rfl
  · rw [if_neg hT, if_neg hT]

/-- the instance with the conditioner "whatever produced `params`" (always available) -/
theorem coupling_row_refines_forward_const (o : XOps α) (c : ElCfg) (mask : List α) (B : Nat)
    (x params uparams : Array α) {b : Nat} (hb : b < B) (hsz : B * mask.length ≤ x.size) :
    rowOf o mask.length b (couplingApply o c mask B 1 x params false none uparams).out
      = Coupling.Coupling.forward (isT o mask) o.zero (fun _ (_ : Unit) i => chanEl o c mask params b i) fwdOf
          (rowOf o mask.length b x) () :=
  coupling_row_refines_forward o c mask B x params uparams hb hsz _ () (fun _ _ => rfl)

/-- the abstract `Coupling.idPart_forward`, transported to the executed layer through the refinement -/
theorem executed_idPart_forward (o : XOps α) (c : ElCfg) (mask : List α) (B : Nat)
    (x params uparams : Array α) {b : Nat} (hb : b < B) (hsz : B * mask.length ≤ x.size) :
    Coupling.Coupling.idPart (isT o mask) o.zero
        (rowOf o mask.length b (couplingApply o c mask B 1 x params false none uparams).out)
      = Coupling.Coupling.idPart (isT o mask) o.zero (rowOf o mask.length b x) := by
  rw [coupling_row_refines_forward_const o c mask B x params uparams hb hsz]
  exact Coupling.Coupling.idPart_forward _ _ _ _ _ _

/-- what the conditioner is given is the abstract `idPart` restricted to the identity channels -/
theorem coupling_condIn_row (o : XOps α) (c : ElCfg) (mask : List α) (B : Nat) (x params uparams : Array α) (inverse : Bool) :
    (couplingApply o c mask B 1 x params inverse none uparams).condIn
      = ((List.range B).flatMap fun b => (identityIdx o mask).map fun ch => x.getD (flatIdx mask.length 1 b ch 0) o.zero).toArray := by
  rw [coupling_condIn_none]
  unfold gatherCh
  congr 1
  apply List.flatMap_congr
  intro b _
  simp only [List.range_one, List.map_cons, List.map_nil]
  exact flatMap_singleton_fn _ _

/-! ### C01 at channel level: the row log-det as the `Finset.sum` over all `C` channels -/

theorem sum_map_filter_range (p : Nat → Bool) (g : Nat → ℝ) (n : Nat) :
    (((List.range n).filter p).map g).sum = ∑ i : Fin n, if p i then g i else 0 := by
  rw [← sum_map_range (fun i => if p i then g i else 0)]
  induction (List.range n) with
  | nil => rfl
  | cons a l ih =>
    by_cases h : p a = true
    · simp [h, ih]
    · simp [h, ih]

/-- **C01 (executed coupling layer, reals, `S = 1`)**: when no element of row `b` raised, `ld[b]` is
    `∑ i : Fin C, ld i` with `ld i = 0` on identity channels and the element's log-det on transformed channels —
    the sum `Properties.C01.sum_logdet_eq_log_abs_det` turns into `log |det J|`. -/
theorem coupling_ld_real_channels (e : Float → ℝ) (c : ElCfg) (mask : List ℝ) (B : Nat) (x params uparams : Array ℝ)
    (inverse : Bool) {b : Nat} (hb : b < B)
    (hok : ∀ r ∈ rowResults (NF.realX e) c mask 1 x params inverse none uparams b, ∃ v, r = .ok v) :
    (couplingApply (NF.realX e) c mask B 1 x params inverse none uparams).ld[b]?
      = some (∑ i : Fin mask.length,
          if isT (NF.realX e) mask i then
            ldOf (NF.realX e) (chanEl (NF.realX e) c mask params b i inverse (rowOf (NF.realX e) mask.length b x i))
          else 0) := by
  rw [coupling_ld_real e c mask B 1 x params inverse none uparams hb hok, rowResults_none, rowIter_one]
  congr 1
  -- the list of transformed positions is the filtered range of channels
  have hlist : (List.range (transformIdx (NF.realX e) mask).length)
      = (transformIdx (NF.realX e) mask).map (fun ch => (transformIdx (NF.realX e) mask).idxOf ch) := by
    apply List.ext_getElem
    · simp
    · intro t h1 h2
      simp only [List.getElem_range, List.getElem_map]
      exact ((transformIdx_ok (NF.realX e) mask).nodup.idxOf_getElem t (by simpa using h1)).symm
  set g : Nat → ℝ := fun ch =>
    if h : ch < mask.length then
      ldOf (NF.realX e) (chanEl (NF.realX e) c mask params b ⟨ch, h⟩ inverse (rowOf (NF.realX e) mask.length b x ⟨ch, h⟩))
    else 0 with hg
  have hsum : (List.map (ldOf (NF.realX e))
      (List.map (fun ts : Nat × Nat =>
          couplingEl (NF.realX e) c (transformIdx (NF.realX e) mask).length 1 params inverse b ts.1 ts.2
            (x.getD (flatIdx mask.length 1 b ((transformIdx (NF.realX e) mask).getD ts.1 0) ts.2) (NF.realX e).zero))
        (List.map (fun t => (t, 0)) (List.range (transformIdx (NF.realX e) mask).length))))
      = (transformIdx (NF.realX e) mask).map g := by
    rw [hlist]
    simp only [List.map_map]
    apply List.map_congr_left
    intro ch hch
    obtain ⟨_, hgd⟩ := idxOf_transform (NF.realX e) mask hch
    have hlt : ch < mask.length := (transformIdx_ok (NF.realX e) mask).lt _ hch
    simp only [Function.comp, hgd, hg, hlt, dif_pos, chanEl, rowOf]
  rw [hsum]
  unfold transformIdx
  rw [sum_map_filter_range]
  apply Finset.sum_congr rfl
  intro i _
  simp only [isT, hg, i.isLt, dif_pos]
  rfl

/-! ## W. The hypotheses are satisfiable: additive / affine coupling over the reals, hypothesis-free -/

theorem scaleShiftT_undoes (e : Float → ℝ) (scale shift : ℝ) (hs : scale ≠ 0) :
    ElemPair.ProgUndoes (NF.realX e) (scaleShiftT (NF.realX e) scale shift) := by
  intro d x y l h
  cases d
  · simp only [scaleShiftT, Bool.false_eq_true, if_false, Except.ok.injEq, Prod.mk.injEq] at h
    obtain ⟨rfl, rfl⟩ := h
    simp only [scaleShiftT, Bool.not_false, if_true, realX_add, realX_mul, realX_sub, realX_div, realX_neg, realX_log]
    congr 2
    field_simp
    ring
  · simp only [scaleShiftT, if_true, Except.ok.injEq, Prod.mk.injEq] at h
    obtain ⟨rfl, rfl⟩ := h
    simp only [scaleShiftT, Bool.not_true, Bool.false_eq_true, if_false, realX_add, realX_mul, realX_sub, realX_div,
      realX_neg, realX_log, neg_neg]
    congr 2
    field_simp
    ring

theorem elInvertible_additive_real (e : Float → ℝ) (c : ElCfg) (hk : c.kind = "additive") (Ft S : Nat)
    (params : Array ℝ) (B : Nat) : ElInvertible (NF.realX e) c Ft S params B := by
  intro b t s xi y l al _ _ _ hf
  rw [couplingEl_additive_eq _ c hk] at hf ⊢
  rw [show scaleShiftT _ _ _ true y = _ from scaleShiftT_undoes e _ _ (by simp) false xi y l (ok_map3 hf)]
  exact ⟨[], rfl⟩

theorem coupling_additive_err_none (o : XOps α) (c : ElCfg) (hk : c.kind = "additive") (mask : List α) (B S : Nat)
    (x params uparams : Array α) (inverse : Bool) :
    (couplingApply o c mask B S x params inverse none uparams).err = none := by
  apply coupling_err_none_of_el
  intro b t s _ _ _
  rw [couplingEl_additive_eq o c hk]
  cases inverse <;> exact ⟨_, rfl⟩

/-- **non-vacuity of C02 (executed)**: the additive coupling layer over the reals, for EVERY mask, `B`, `S`, input
    filling the shape and parameter array: inverse ∘ forward is the identity on the array and negates every row
    log-det, and the conditioner input is the same in both passes -/
theorem coupling_additive_roundtrip_real (e : Float → ℝ) (c : ElCfg) (hk : c.kind = "additive") (mask : List ℝ)
    (B S : Nat) (x params uparams uparams' : Array ℝ) (hsz : B * mask.length * S ≤ x.size) :
    let fwd := couplingApply (NF.realX e) c mask B S x params false none uparams
    let inv := couplingApply (NF.realX e) c mask B S fwd.out params true none uparams'
    inv.out = x ∧ inv.err = none ∧ inv.condIn = fwd.condIn ∧ ∀ b, b < B → inv.ld[b]? = (fwd.ld[b]?).map (fun l => -l) :=
  coupling_inverse_forward_real e c mask B S x params uparams uparams'
    (elInvertible_additive_real e c hk _ S params B)
    (coupling_additive_err_none (NF.realX e) c hk mask B S x params uparams false) hsz

/-- the scale of the affine coupling transform is positive over the reals (both activations), as soon as the
    constant `1e-3` is read as a non-negative real -/
theorem affineScale_pos (e : Float → ℝ) (he : 0 ≤ e 1e-3) (act : String) (u : ℝ) :
    0 < (if act == "general" then
          (NF.realX e).clamp (NF.realX e).zero ((NF.realX e).ofNat 3)
            ((NF.realX e).add ((NF.realX e).softplus u) ((NF.realX e).ofFloat 1e-3))
         else (NF.realX e).add ((NF.realX e).sigmoid ((NF.realX e).add u (NF.realX e).two)) ((NF.realX e).ofFloat 1e-3)) := by
  split
  · have hsp := NF.realX_softplus_pos e u
    have hx : 0 < (NF.realX e).softplus u + e 1e-3 := add_pos_of_pos_of_nonneg hsp he
    simp only [XOps.clamp, XOps.minA, XOps.maxA, realX_lt, realX_zero, realX_ofNat, realX_add, realX_ofFloat,
      decide_eq_true_eq]
    rw [if_neg (not_lt.2 hx.le)]
    split
    · norm_num
    · exact hx
  · simp only [realX_add, realX_ofFloat, realX_sigmoid]
    exact add_pos_of_pos_of_nonneg (one_div_pos.2 (add_pos one_pos (Real.exp_pos _))) he

theorem elInvertible_affine_real (e : Float → ℝ) (he : 0 ≤ e 1e-3) (c : ElCfg) (hk : c.kind = "affine") (Ft S : Nat)
    (params : Array ℝ) (B : Nat) : ElInvertible (NF.realX e) c Ft S params B := by
  intro b t s xi y l al _ _ _ hf
  rw [couplingEl_affine_eq _ c hk] at hf ⊢
  rw [show scaleShiftT _ _ _ true y = _ from
    scaleShiftT_undoes e _ _ (affineScale_pos e he c.act _).ne' false xi y l (ok_map3 hf)]
  exact ⟨[], rfl⟩

theorem coupling_affine_err_none (o : XOps α) (c : ElCfg) (hk : c.kind = "affine") (mask : List α) (B S : Nat)
    (x params uparams : Array α) (inverse : Bool) :
    (couplingApply o c mask B S x params inverse none uparams).err = none := by
  apply coupling_err_none_of_el
  intro b t s _ _ _
  rw [couplingEl_affine_eq o c hk]
  cases inverse <;> exact ⟨_, rfl⟩

/-- **C02 (executed affine coupling layer over the reals)**, hypothesis-free apart from the reading of `1e-3` -/
theorem coupling_affine_roundtrip_real (e : Float → ℝ) (he : 0 ≤ e 1e-3) (c : ElCfg) (hk : c.kind = "affine")
    (mask : List ℝ) (B S : Nat) (x params uparams uparams' : Array ℝ) (hsz : B * mask.length * S ≤ x.size) :
    let fwd := couplingApply (NF.realX e) c mask B S x params false none uparams
    let inv := couplingApply (NF.realX e) c mask B S fwd.out params true none uparams'
    inv.out = x ∧ inv.err = none ∧ inv.condIn = fwd.condIn ∧ ∀ b, b < B → inv.ld[b]? = (fwd.ld[b]?).map (fun l => -l) :=
  coupling_inverse_forward_real e c mask B S x params uparams uparams'
    (elInvertible_affine_real e he c hk _ S params B)
    (coupling_affine_err_none (NF.realX e) c hk mask B S x params uparams false) hsz

/-! ## U. C02 with an unconditional transform of the identity features (coupling.py:90-94, 115-118) -/

section c02uc
variable (o : XOps α) (c : ElCfg) (mask : List α) (B S : Nat) (x params uparams : Array α) (ucfg : ElCfg)

def UcInvertible (o : XOps α) (ucfg : ElCfg) (n S : Nat) (uparams : Array α) : Prop :=
  ∀ t s xi y l al, t < n → s < S →
    elTransform o ucfg false (ucSlice o ucfg.mult S uparams t s) xi = .ok (y, l, al) →
    ∃ al', elTransform o ucfg true (ucSlice o ucfg.mult S uparams t s) y = .ok (xi, o.neg l, al')

/-- the inverse unconditional element applied to what the forward pass stored at an in-range identity position -/
theorem uc_el_roundtrip (hd : MaskDisjoint o mask)
    (huinv : UcInvertible o ucfg (identityIdx o mask).length S uparams)
    (herr : (couplingApply o c mask B S x params false (some ucfg) uparams).err = none)
    {b t s : Nat} (hb : b < B) (ht : t < (identityIdx o mask).length) (hs : s < S)
    (hj : flatIdx mask.length S b ((identityIdx o mask).getD t 0) s < x.size) :
    ∃ y l al al',
      elTransform o ucfg false (ucSlice o ucfg.mult S uparams t s)
        (x.getD (flatIdx mask.length S b ((identityIdx o mask).getD t 0) s) o.zero) = .ok (y, l, al) ∧
      elTransform o ucfg true (ucSlice o ucfg.mult S uparams t s)
        ((couplingApply o c mask B S x params false (some ucfg) uparams).out.getD
          (flatIdx mask.length S b ((identityIdx o mask).getD t 0) s) o.zero)
        = .ok (x.getD (flatIdx mask.length S b ((identityIdx o mask).getD t 0) s) o.zero, o.neg l, al') := by
  have hall := (coupling_err_none_iff o c mask B S x params false (some ucfg) uparams).1 herr
  obtain ⟨⟨y, l, al⟩, hy⟩ := hall (_, elTransform o ucfg false (ucSlice o ucfg.mult S uparams t s)
      (x.getD (flatIdx mask.length S b ((identityIdx o mask).getD t 0) s) o.zero))
    (List.mem_append_left _ (by rw [ucAll_some]; exact (mem_tAll ..).2 ⟨b, t, s, hb, ht, hs, rfl⟩))
  simp only at hy
  have hget : (couplingApply o c mask B S x params false (some ucfg) uparams).out.getD
      (flatIdx mask.length S b ((identityIdx o mask).getD t 0) s) o.zero = y := by
    rw [Array.getD_eq_getD_getElem?,
      coupling_out_other_channel o c mask B S x params false (some ucfg) uparams ((identityIdx_ok o mask).getD_lt ht) hs
        (hd _ (getD_mem_of_lt ht)),
      couplingUncond_identity o mask B S x false uparams ucfg hb ht hs, hy, Array.getElem?_eq_getElem hj]
    rfl
  obtain ⟨al', h'⟩ := huinv t s _ y l al ht hs hy
  exact ⟨y, l, al, al', hy, by rw [hget, h']⟩

/-- **C02 (executed coupling layer with an unconditional transform), outputs**: the inverse pass (which FIRST
    un-transforms the identity features, then inverts the transformed ones) applied to the forward output with the
    same conditional and unconditional parameters returns the original array. -/
theorem coupling_inverse_forward_uc (hd : MaskDisjoint o mask)
    (hinv : ElInvertible o c (transformIdx o mask).length S params B)
    (huinv : UcInvertible o ucfg (identityIdx o mask).length S uparams)
    (herr : (couplingApply o c mask B S x params false (some ucfg) uparams).err = none) :
    (couplingApply o c mask B S (couplingApply o c mask B S x params false (some ucfg) uparams).out params true
      (some ucfg) uparams).out = x := by
  apply Array.ext_getElem?
  intro j
  by_cases hj : j < x.size
  swap
  · rw [getElem?_none_of_not_lt hj, getElem?_none_of_not_lt (by simpa using hj)]
  have hj' : j < (couplingApply o c mask B S x params false (some ucfg) uparams).out.size := by simpa using hj
  by_cases hT : ∃ b t s, b < B ∧ t < (transformIdx o mask).length ∧ s < S ∧
      j = flatIdx mask.length S b ((transformIdx o mask).getD t 0) s
  · obtain ⟨b, t, s, hb, ht, hs, rfl⟩ := hT
    obtain ⟨y, l, al, x', al', _, h2, rfl⟩ :=
      el_roundtrip o c mask B S x params uparams Eq false (some ucfg) hinv.rel herr hb ht hs hj
    rw [coupling_out_transformed_ok o c mask B S _ params true (some ucfg) uparams hb ht hs hj' h2, getD_of_lt hj,
      Array.getElem?_eq_getElem hj]
  · have hjT : ∀ b t s, b < B → t < (transformIdx o mask).length → s < S →
        j ≠ flatIdx mask.length S b ((transformIdx o mask).getD t 0) s :=
      fun b t s hb ht hs he => hT ⟨b, t, s, hb, ht, hs, he⟩
    rw [coupling_out_untouched o c mask B S _ params true (some ucfg) uparams j hjT]
    by_cases hI : ∃ b t s, b < B ∧ t < (identityIdx o mask).length ∧ s < S ∧
        j = flatIdx mask.length S b ((identityIdx o mask).getD t 0) s
    · obtain ⟨b, t, s, hb, ht, hs, rfl⟩ := hI
      obtain ⟨y, l, al, al', _, h2⟩ := uc_el_roundtrip o c mask B S x params uparams ucfg hd huinv herr hb ht hs hj
      rw [couplingUncond_identity o mask B S _ true uparams ucfg hb ht hs, h2, Array.getElem?_eq_getElem hj',
        getD_of_lt hj, Array.getElem?_eq_getElem hj]
      rfl
    · have hjI : ∀ b t s, b < B → t < (identityIdx o mask).length → s < S →
          j ≠ flatIdx mask.length S b ((identityIdx o mask).getD t 0) s :=
        fun b t s hb ht hs he => hI ⟨b, t, s, hb, ht, hs, he⟩
      rw [couplingUncond_untouched o mask B S _ true (some ucfg) uparams j hjI,
        coupling_out_untouched o c mask B S x params false (some ucfg) uparams j hjT,
        couplingUncond_untouched o mask B S x false (some ucfg) uparams j hjI]

/-- … and the conditioner of the inverse pass is given the un-transformed identity features, i.e. exactly what the
    conditioner of the forward pass was given (the RAW identity features): "the same parameters" is justified with
    an unconditional transform too -/
theorem coupling_condIn_roundtrip_uc (hd : MaskDisjoint o mask)
    (hinv : ElInvertible o c (transformIdx o mask).length S params B)
    (huinv : UcInvertible o ucfg (identityIdx o mask).length S uparams)
    (herr : (couplingApply o c mask B S x params false (some ucfg) uparams).err = none) :
    (couplingApply o c mask B S (couplingApply o c mask B S x params false (some ucfg) uparams).out params true
      (some ucfg) uparams).condIn
      = (couplingApply o c mask B S x params false (some ucfg) uparams).condIn := by
  rw [coupling_condIn_inverse_uc, coupling_condIn_forward]
  apply gatherCh_congr
  intro b ch s _ hch hs
  rw [← coupling_out_other_channel o c mask B S _ params true (some ucfg) uparams
    ((identityIdx_ok o mask).lt _ hch) hs (hd ch hch),
    coupling_inverse_forward_uc o c mask B S x params uparams ucfg hd hinv huinv herr]

theorem rowResults_some (inverse : Bool) (b : Nat) :
    rowResults o c mask S x params inverse (some ucfg) uparams b
      = ((rowIter (identityIdx o mask).length S).map fun ts =>
          elTransform o ucfg inverse (ucSlice o ucfg.mult S uparams ts.1 ts.2)
            (x.getD (flatIdx mask.length S b ((identityIdx o mask).getD ts.1 0) ts.2) o.zero))
        ++ ((rowIter (transformIdx o mask).length S).map fun ts =>
          couplingEl o c (transformIdx o mask).length S params inverse b ts.1 ts.2
            (x.getD (flatIdx mask.length S b ((transformIdx o mask).getD ts.1 0) ts.2) o.zero)) := by
  simp only [rowResults, ucRow, condRow, tRow, List.map_append, List.map_map]
  rfl

/-- **C02 with an unconditional transform, log-dets**: the inverse pass reports no error and its row log-det is the
    left fold of the negated forward per-element log-dets, in the same order (unconditional part first) -/
theorem coupling_inverse_forward_uc_ld (hd : MaskDisjoint o mask)
    (hinv : ElInvertible o c (transformIdx o mask).length S params B)
    (huinv : UcInvertible o ucfg (identityIdx o mask).length S uparams)
    (herr : (couplingApply o c mask B S x params false (some ucfg) uparams).err = none)
    (hsz : B * mask.length * S ≤ x.size) :
    (couplingApply o c mask B S (couplingApply o c mask B S x params false (some ucfg) uparams).out params true
      (some ucfg) uparams).err = none
    ∧ ∀ b, b < B →
      (couplingApply o c mask B S x params false (some ucfg) uparams).ld[b]?
        = some (((rowResults o c mask S x params false (some ucfg) uparams b).map (ldOf o)).foldl o.add o.zero)
      ∧ (couplingApply o c mask B S (couplingApply o c mask B S x params false (some ucfg) uparams).out params true
          (some ucfg) uparams).ld[b]?
        = some ((((rowResults o c mask S x params false (some ucfg) uparams b).map (ldOf o)).map o.neg).foldl o.add o.zero) := by
  have hc : ∀ {b t s}, b < B → t < (transformIdx o mask).length → s < S → _ := fun hb ht hs =>
    el_roundtrip o c mask B S x params uparams Eq false (some ucfg) hinv.rel herr hb ht hs
      (transformIdx_flat_lt o mask B S x hb ht hs hsz)
  have hu : ∀ {b t s}, b < B → t < (identityIdx o mask).length → s < S → _ := fun hb ht hs =>
    uc_el_roundtrip o c mask B S x params uparams ucfg hd huinv herr hb ht hs
      (lt_of_lt_of_le (flatIdx_lt hb ((identityIdx_ok o mask).getD_lt ht) hs) hsz)
  have hrow : ∀ b, b < B →
      (∀ r ∈ rowResults o c mask S (couplingApply o c mask B S x params false (some ucfg) uparams).out params true
          (some ucfg) uparams b, ∃ v, r = .ok v)
      ∧ (rowResults o c mask S (couplingApply o c mask B S x params false (some ucfg) uparams).out params true
          (some ucfg) uparams b).map (ldOf o)
        = ((rowResults o c mask S x params false (some ucfg) uparams b).map (ldOf o)).map o.neg := by
    intro b hb
    rw [rowResults_some, rowResults_some]
    constructor
    · intro r hr
      rcases List.mem_append.1 hr with hr | hr
      · obtain ⟨⟨t, s⟩, hts, rfl⟩ := List.mem_map.1 hr
        obtain ⟨ht, hs⟩ := mem_rowIter.1 hts
        obtain ⟨y, l, al, al', _, h2⟩ := hu hb ht hs
        exact ⟨_, h2⟩
      · obtain ⟨⟨t, s⟩, hts, rfl⟩ := List.mem_map.1 hr
        obtain ⟨ht, hs⟩ := mem_rowIter.1 hts
        obtain ⟨y, l, al, x', al', _, h2, _⟩ := hc hb ht hs
        exact ⟨_, h2⟩
    · simp only [List.map_append, List.map_map]
      congr 1
      · apply List.map_congr_left
        rintro ⟨t, s⟩ hts
        obtain ⟨ht, hs⟩ := mem_rowIter.1 hts
        obtain ⟨y, l, al, al', h1, h2⟩ := hu hb ht hs
        simp only [Function.comp, h1, h2, ldOf]
      · apply List.map_congr_left
        rintro ⟨t, s⟩ hts
        obtain ⟨ht, hs⟩ := mem_rowIter.1 hts
        obtain ⟨y, l, al, x', al', h1, h2, _⟩ := hc hb ht hs
        rw [Bool.not_false] at h2
        simp only [Function.comp, h1, h2, ldOf]
  constructor
  · exact (coupling_err_none_iff_rows o c mask B S _ params true (some ucfg) uparams).2 fun b hb => (hrow b hb).1
  · intro b hb
    refine ⟨coupling_ld_leftfold o c mask B S x params false (some ucfg) uparams hb
      ((coupling_err_none_iff_rows o c mask B S x params false (some ucfg) uparams).1 herr b hb), ?_⟩
    rw [coupling_ld_leftfold o c mask B S _ params true (some ucfg) uparams hb (hrow b hb).1, (hrow b hb).2]

end c02uc

/-- **C02 with an unconditional transform over the reals**: outputs, error, conditioner input, negated row log-dets -/
theorem coupling_inverse_forward_uc_real (e : Float → ℝ) (c : ElCfg) (mask : List ℝ) (B S : Nat)
    (x params uparams : Array ℝ) (ucfg : ElCfg)
    (hinv : ElInvertible (NF.realX e) c (transformIdx (NF.realX e) mask).length S params B)
    (huinv : UcInvertible (NF.realX e) ucfg (identityIdx (NF.realX e) mask).length S uparams)
    (herr : (couplingApply (NF.realX e) c mask B S x params false (some ucfg) uparams).err = none)
    (hsz : B * mask.length * S ≤ x.size) :
    let fwd := couplingApply (NF.realX e) c mask B S x params false (some ucfg) uparams
    let inv := couplingApply (NF.realX e) c mask B S fwd.out params true (some ucfg) uparams
    inv.out = x ∧ inv.err = none ∧ inv.condIn = fwd.condIn ∧ ∀ b, b < B → inv.ld[b]? = (fwd.ld[b]?).map (fun l => -l) := by
  intro fwd inv
  have hd := maskDisjoint_real e mask
  obtain ⟨h1, h2⟩ := coupling_inverse_forward_uc_ld (NF.realX e) c mask B S x params uparams ucfg hd hinv huinv herr hsz
  refine ⟨coupling_inverse_forward_uc (NF.realX e) c mask B S x params uparams ucfg hd hinv huinv herr, h1,
    coupling_condIn_roundtrip_uc (NF.realX e) c mask B S x params uparams ucfg hd hinv huinv herr, ?_⟩
  intro b hb
  obtain ⟨h3, h4⟩ := h2 b hb
  show (couplingApply (NF.realX e) c mask B S (couplingApply (NF.realX e) c mask B S x params false (some ucfg) uparams).out
      params true (some ucfg) uparams).ld[b]?
    = ((couplingApply (NF.realX e) c mask B S x params false (some ucfg) uparams).ld[b]?).map _
  rw [h3, h4, foldl_add_real, foldl_add_real, sum_map_neg_real]
  simp

end NF.StructureExec

/-! ## X. The branches of the dispatcher `elTransform`, family by family

`elTransform` matches on the string `c.kind` and then on `c.tails`.  Here, for each branch, the program it runs on the
sliced (and `1/sqrt(hidden)`-scaled) parameter vector: bounded `rq`, `quad`, `lin`, `cubic`; `quad` and `lin` with linear
tails (as a `tailsWrap` around the bounded program); `araffine`.  Every proof is the same: unfold, split the scaling triple,
rewrite the two tests.  The linear and the affine autoregressive equations keep the namespaces of the files that use them.
The tails equations of the RQ and cubic families (and a second form of the quadratic one, with the `rqW`/`rqH` slicing)
stand in `Lemmas/TailsWhole.lean`, where `tailsWrap` and the tails programs are characterised. -/

namespace NF.StructureExec
variable {α : Type}

/-- the spline configuration `elTransform` builds for the bounded RQ family -/
def rqCfgOf (c : ElCfg) : RQCfg :=
  { box := ⟨c.ds.getD 0 0.0, c.ds.getD 1 0.0, c.ds.getD 2 0.0, c.ds.getD 3 0.0⟩,
    minW := c.ds.getD 4 0.0, minH := c.ds.getD 5 0.0, minD := c.ds.getD 6 0.0, beta := c.ds.getD 7 0.0 }

/-- the `1/sqrt(hidden)` scaling policy applied to a slice -/
def rqScale (o : XOps α) (c : ElCfg) (b : Bool) (l : List α) : List α :=
  if b then l.map (fun u => o.div u (o.ofFloat (Float.sqrt c.scaling.1))) else l

/-- unnormalised widths / heights / derivatives that `elTransform` slices out of a parameter vector -/
def rqW (o : XOps α) (c : ElCfg) (p : List α) : List α := rqScale o c c.scaling.2.1 (p.take c.K)
def rqH (o : XOps α) (c : ElCfg) (p : List α) : List α := rqScale o c c.scaling.2.2 ((p.drop c.K).take c.K)
def rqD (c : ElCfg) (p : List α) : List α := p.drop (2 * c.K)

/-- the spline configuration `elTransform` builds for the bounded quadratic family -/
def quadCfgOf (c : ElCfg) : QCfg :=
  { box := ⟨c.ds.getD 0 0.0, c.ds.getD 1 0.0, c.ds.getD 2 0.0, c.ds.getD 3 0.0⟩,
    minW := c.ds.getD 4 0.0, minH := c.ds.getD 5 0.0 }

/-- (the same function as `rqScale`) -/
def quadScale (o : XOps α) (c : ElCfg) (b : Bool) (l : List α) : List α :=
  if b then l.map (fun u => o.div u (o.ofFloat (Float.sqrt c.scaling.1))) else l

/-- unnormalised widths / heights that `elTransform` slices out of a parameter vector -/
def quadW (o : XOps α) (c : ElCfg) (p : List α) : List α := quadScale o c c.scaling.2.1 (p.take c.K)
def quadH (o : XOps α) (c : ElCfg) (p : List α) : List α := quadScale o c c.scaling.2.2 (p.drop c.K)

theorem rqScale_length (o : XOps α) (c : ElCfg) (b : Bool) (l : List α) : (rqScale o c b l).length = l.length := by
  unfold rqScale; split
  · exact List.length_map _
  · rfl

theorem quadScale_length (o : XOps α) (c : ElCfg) (b : Bool) (l : List α) : (quadScale o c b l).length = l.length :=
  rqScale_length o c b l

theorem rqW_length (o : XOps α) (c : ElCfg) (p : List α) : (rqW o c p).length = min c.K p.length := by
  rw [rqW, rqScale_length, List.length_take]

theorem rqH_length (o : XOps α) (c : ElCfg) (p : List α) : (rqH o c p).length = min c.K (p.length - c.K) := by
  rw [rqH, rqScale_length, List.length_take, List.length_drop]

theorem rqD_length (c : ElCfg) (p : List α) : (rqD c p).length = p.length - 2 * c.K := by
  rw [rqD, List.length_drop]

theorem rqW_rqH_length (o : XOps α) (c : ElCfg) {p : List α} (h : 2 * c.K ≤ p.length) :
    (rqW o c p).length = c.K ∧ (rqH o c p).length = c.K := by
  rw [rqW_length, rqH_length]; omega

theorem elTransform_rq (o : XOps α) (c : ElCfg) (hk : c.kind = "rq") (ht : c.tails = false) (inverse : Bool)
    (p : List α) (x : α) :
    elTransform o c inverse p x
      = (rqSpline o (rqCfgOf c) (rqW o c p) (rqH o c p) (rqD c p) inverse x).map (fun ab => (ab.1, ab.2, [])) := by
  unfold elTransform rqW rqH rqD rqScale rqCfgOf
  rcases hsc : c.scaling with ⟨hid, sW, sH⟩
  simp only [hk, ht, Bool.false_eq_true, if_false]

theorem elTransform_quad (o : XOps α) (c : ElCfg) (hk : c.kind = "quad") (ht : c.tails = false) (inverse : Bool)
    (p : List α) (x : α) :
    elTransform o c inverse p x
      = (quadSpline o (quadCfgOf c) (quadW o c p) (quadH o c p) inverse x).map (fun ab => (ab.1, ab.2, [])) := by
  unfold elTransform quadW quadH quadScale quadCfgOf
  rcases hsc : c.scaling with ⟨hid, sW, sH⟩
  simp only [hk, ht, Bool.false_eq_true, if_false]

theorem elTransform_quad_tails (o : XOps α) (c : ElCfg) (hk : c.kind = "quad") (ht : c.tails = true) (inverse : Bool)
    (p : List α) (x : α) :
    elTransform o c inverse p x
      = (tailsWrap o (c.ds.getD 0 0.0) x
          (fun box => quadSpline o { box := box, minW := c.ds.getD 1 0.0, minH := c.ds.getD 2 0.0 }
            (quadW o c p) (quadH o c p) inverse x)).map (fun ab => (ab.1, ab.2, [])) := by
  unfold elTransform quadW quadH quadScale
  rcases hsc : c.scaling with ⟨hid, sW, sH⟩
  simp only [hk, ht, if_true]

/-- the bounded cubic family: the same slicing of widths and heights as the RQ family, then the two end derivatives
    (`CubicLayers.elTransform_cubic` names the configuration `cubicCfgOf c` and the derivatives `cubicL`, `cubicR`) -/
theorem elTransform_cubic (o : XOps α) (c : ElCfg) (hk : c.kind = "cubic") (ht : c.tails = false) (inverse : Bool)
    (p : List α) (x : α) :
    elTransform o c inverse p x
      = cubicSpline o
          { box := ⟨c.ds.getD 0 0.0, c.ds.getD 1 0.0, c.ds.getD 2 0.0, c.ds.getD 3 0.0⟩,
            minW := c.ds.getD 4 0.0, minH := c.ds.getD 5 0.0, eps := c.ds.getD 6 0.0, thr := c.ds.getD 7 0.0 }
          (rqW o c p) (rqH o c p) (p.getD (2 * c.K) o.zero) (p.getD (2 * c.K + 1) o.zero) inverse x := by
  unfold elTransform rqW rqH rqScale
  rcases hsc : c.scaling with ⟨hid, sW, sH⟩
  simp only [hk, ht, Bool.false_eq_true, if_false]

end NF.StructureExec

namespace LinTails
variable {α : Type}

theorem elTransform_lin (o : XOps α) (c : ElCfg) (hk : c.kind = "lin") (ht : c.tails = false) (inverse : Bool)
    (p : List α) (x : α) :
    elTransform o c inverse p x
      = (linSpline o ⟨c.ds.getD 0 0.0, c.ds.getD 1 0.0, c.ds.getD 2 0.0, c.ds.getD 3 0.0⟩ 1e-6 p inverse x).map
          (fun ab => (ab.1, ab.2, [])) := by
  unfold elTransform
  rcases hsc : c.scaling with ⟨hid, sW, sH⟩
  simp only [hk, ht, Bool.false_eq_true, if_false]

theorem elTransform_lin_tails (o : XOps α) (c : ElCfg) (hk : c.kind = "lin") (ht : c.tails = true) (inverse : Bool)
    (p : List α) (x : α) :
    elTransform o c inverse p x
      = (tailsWrap o (c.ds.getD 0 0.0) x (fun box => linSpline o box 1e-6 p inverse x)).map
          (fun ab => (ab.1, ab.2, [])) := by
  unfold elTransform
  rcases hsc : c.scaling with ⟨hid, sW, sH⟩
  simp only [hk, ht, if_true]

end LinTails

namespace NF.ARWhole
variable {α : Type}

def afScale (o : XOps α) (c : ElCfg) (p : List α) : α :=
  o.add (o.softplus (p.getD 0 o.zero)) (o.ofFloat (c.ds.getD 0 0.0))

theorem elTransform_araffine (o : XOps α) (c : ElCfg) (hk : c.kind = "araffine") (inverse : Bool) (p : List α) (x : α) :
    elTransform o c inverse p x
      = (scaleShiftT o (afScale o c p) (p.getD 1 o.zero) inverse x).map (fun ab => (ab.1, ab.2, [])) := by
  unfold elTransform afScale
  rcases hsc : c.scaling with ⟨hid, sW, sH⟩
  simp only [hk]

end NF.ARWhole
