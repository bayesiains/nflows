import Mathlib.Tactic
import NflowsModel.Lemmas.RowMajor

namespace Pairing

/-! C20 (and C04): list-level models of the reshape helpers (torchutils.py:8-57), rows as list elements -/
variable {α : Type}

/-- `repeat_rows(x, n)`: each row repeated n times consecutively -/
def repeatRows (x : List α) (n : ℕ) : List α := x.flatMap (fun r => List.replicate n r)
/-- `tile(x, n)` on the flattened tensor is the same index map (reshape/repeat/transpose/reshape) -/
def tileCoded (x : List α) (n : ℕ) : List α :=
  -- x_.repeat(n).reshape(n,-1).transpose(1,0).reshape(-1): element (i, r) of the [len, n] result is copy r of x[i]
  (List.range x.length).flatMap (fun i => (List.range n).filterMap (fun _r => x[i]?))

/-- `merge_leading_dims(x, 2)` on [R, n, …]: concatenate the rows' blocks -/
def mergeLeading (x : List (List α)) : List α := x.flatten
/-- `split_leading_dim(x, [-1, n])`: block i, entry j is flat entry i·n + j -/
def splitLeading (n : ℕ) (l : List α) : List (List α) :=
  (List.range (l.length / n)).map (fun i => (l.drop (i * n)).take n)

theorem repeatRows_length (x : List α) (n : ℕ) : (repeatRows x n).length = x.length * n := by
  induction x with
  | nil => simp [repeatRows]
  | cons a t ih =>
    simp only [repeatRows, List.flatMap_cons, List.length_append, List.length_replicate, List.length_cons] at *
    rw [ih]; ring

theorem mergeLeading_length (x : List (List α)) (n : ℕ) (hlen : ∀ b ∈ x, b.length = n) :
    (mergeLeading x).length = x.length * n := by
  induction x with
  | nil => rw [List.length_nil, Nat.zero_mul]; rfl
  | cons b t ih =>
    rw [mergeLeading, List.flatten_cons, List.length_append, hlen b List.mem_cons_self, List.length_cons, Nat.succ_mul,
      Nat.add_comm]
    exact congrArg (· + n) (ih fun c hc => hlen c (List.mem_cons_of_mem _ hc))

theorem mergeLeading_get (x : List (List α)) (n i j : ℕ) (hlen : ∀ b ∈ x, b.length = n) (hi : i < x.length) (hj : j < n) :
    (mergeLeading x)[i * n + j]? = (x[i]?).bind (fun b => b[j]?) := by
  induction x generalizing i with
  | nil => exact absurd hi (Nat.not_lt_zero _)
  | cons b t ih =>
    have hb : b.length = n := hlen b List.mem_cons_self
    rw [mergeLeading, List.flatten_cons]
    cases i with
    | zero => rw [Nat.zero_mul, Nat.zero_add, List.getElem?_append_left (hb ▸ hj)]; rfl
    | succ k =>
      have hidx : (k + 1) * n + j = b.length + (k * n + j) := by rw [hb, Nat.succ_mul]; omega
      rw [hidx, List.getElem?_append_right (Nat.le_add_right _ _), Nat.add_sub_cancel_left, List.getElem?_cons_succ]
      exact ih k (fun c hc => hlen c (List.mem_cons_of_mem _ hc)) (Nat.lt_of_succ_lt_succ hi)

theorem repeatRows_get (x : List α) (n i j : ℕ) (hi : i < x.length) (hj : j < n) :
    (repeatRows x n)[i * n + j]? = x[i]? := by
  have h := mergeLeading_get (x.map (List.replicate n)) n i j
    (fun b hb => by obtain ⟨a, _, rfl⟩ := List.mem_map.mp hb; exact List.length_replicate) (by rwa [List.length_map]) hj
  rw [mergeLeading, ← List.flatMap_def] at h
  rw [repeatRows, h, List.getElem?_map, List.getElem?_eq_getElem hi, Option.map_some, Option.bind_some,
    List.getElem?_replicate, if_pos hj]

/-- pairing (C04): after merge + repeat_rows, flat position i·n + j holds (noise[i][j], context[i]) -/
theorem pairing {β : Type} (noise : List (List α)) (ctx : List β) (n i j : ℕ)
    (hlen : ∀ b ∈ noise, b.length = n) (hR : noise.length = ctx.length) (hi : i < ctx.length) (hj : j < n) :
    (mergeLeading noise)[i * n + j]? = (noise[i]?).bind (fun b => b[j]?) ∧ (repeatRows ctx n)[i * n + j]? = ctx[i]? :=
  ⟨mergeLeading_get noise n i j hlen (hR ▸ hi) hj, repeatRows_get ctx n i j hi hj⟩

theorem splitLeading_get (n : ℕ) (l : List α) (i j : ℕ) (hi : i < l.length / n) (hj : j < n) :
    ((splitLeading n l)[i]?).bind (fun b => b[j]?) = l[i * n + j]? := by
  simp only [splitLeading]
  rw [List.getElem?_map, List.getElem?_range hi]
  simp only [Option.map_some, Option.bind_some]
  rw [List.getElem?_take_of_lt hj, List.getElem?_drop]

end Pairing
