import Mathlib.Order.Monotone.Union
import Mathlib.Order.Interval.Set.Basic
import Mathlib.Order.Interval.Set.Monotone
import Mathlib.Data.Real.Basic
import Mathlib.Tactic
/-!
# Lemmas/Glue — strict monotonicity on consecutive intervals glues to the whole interval; the `Finset` form
`binIdx` of `searchsorted` (count of the knots `≤ x`, last knot moved up by `eps`) and its specification
-/

namespace Glue


theorem glue_strictMonoOn (f : ℝ → ℝ) (xs : ℕ → ℝ) (K : ℕ)
    (hx : ∀ k < K, xs k < xs (k+1))
    (hf : ∀ k < K, StrictMonoOn f (Set.Icc (xs k) (xs (k+1)))) :
    StrictMonoOn f (Set.Icc (xs 0) (xs K)) := by
  induction K with
  | zero => intro a ha b hb hab; simp only [Set.Icc_self, Set.mem_singleton_iff] at ha hb; subst ha hb; exact absurd hab (lt_irrefl _)
  | succ K ih =>
    have ih' := ih (fun k hk => hx k (Nat.lt_succ_of_lt hk)) (fun k hk => hf k (Nat.lt_succ_of_lt hk))
    have h0K : xs 0 ≤ xs K :=
      (strictMonoOn_Iic_of_lt_succ (fun k hk => hx k (Nat.lt_succ_of_lt hk))).monotoneOn
        (Nat.zero_le K) (le_refl K) (Nat.zero_le K)
    have hKK : xs K ≤ xs (K+1) := (hx K (Nat.lt_succ_self K)).le
    have hu : Set.Icc (xs 0) (xs K) ∪ Set.Icc (xs K) (xs (K+1)) = Set.Icc (xs 0) (xs (K+1)) :=
      Set.Icc_union_Icc_eq_Icc h0K hKK
    rw [← hu]
    exact StrictMonoOn.union ih' (hf K (Nat.lt_succ_self K)) (isGreatest_Icc h0K) (isLeast_Icc hKK)

open Finset in
theorem card_filter_initial (p : ℕ → Prop) [DecidablePred p] (n m : ℕ) (hm : m ≤ n)
    (h1 : ∀ k < m, p k) (h2 : ∀ k, m ≤ k → k < n → ¬ p k) : ((range n).filter p).card = m := by
  have : (range n).filter p = range m := by
    ext k; simp only [mem_filter, mem_range]
    constructor
    · rintro ⟨hk, hp⟩; by_contra hc; exact h2 k (not_lt.mp hc) hk hp
    · intro hk; exact ⟨lt_of_lt_of_le hk hm, h1 k hk⟩
  rw [this, card_range]

/-- knots as the code sees them in `searchsorted`: last one moved up by `eps` (torchutils.py:141-146) -/
noncomputable def bumped (xs : ℕ → ℝ) (K : ℕ) (eps : ℝ) (k : ℕ) : ℝ := if k = K then xs k + eps else xs k

open Classical in
/-- `torch.sum(x >= knots, -1) - 1` over the K+1 knots -/
noncomputable def binIdx (xs : ℕ → ℝ) (K : ℕ) (eps x : ℝ) : ℕ :=
  ((Finset.range (K+1)).filter (fun k => bumped xs K eps k ≤ x)).card - 1

theorem binSearch_spec (xs : ℕ → ℝ) (K : ℕ) (eps x : ℝ) (hK : 0 < K) (heps : 0 < eps)
    (hx : ∀ k < K, xs k < xs (k+1)) (hlo : xs 0 ≤ x) (hhi : x ≤ xs K) :
    let i := binIdx xs K eps x
    i < K ∧ xs i ≤ x ∧ (x < xs (i+1) ∨ (i + 1 = K ∧ x = xs K)) := by
  classical
  intro i
  have hmono : ∀ j k, j ≤ k → k ≤ K → xs j ≤ xs k :=
    fun _ _ hjk hkK => (strictMonoOn_Iic_of_lt_succ hx).monotoneOn (hjk.trans hkK) hkK hjk
  let p : ℕ → Prop := fun k => bumped xs K eps k ≤ x
  have hpK : ¬ p K := by simp only [p, bumped, if_true, not_le]; linarith
  have hp0 : p 0 := by
    have : (0:ℕ) ≠ K := by omega
    simp only [p, bumped, this, if_false]; exact hlo
  have hex : ∃ k, ¬ p k := ⟨K, hpK⟩
  let m := Nat.find hex
  have hmK : m ≤ K := Nat.find_min' hex hpK
  have hm_not : ¬ p m := Nat.find_spec hex
  have hm_lt : ∀ k < m, p k := fun k hk => not_not.mp (Nat.find_min hex hk)
  have hm_pos : 0 < m := by
    rcases Nat.eq_zero_or_pos m with h | h
    · exact absurd hp0 (by simpa [h] using hm_not)
    · exact h
  have hbm : ∀ k, k < K → bumped xs K eps k = xs k := by
    intro k hk; have : k ≠ K := by omega
    simp [bumped, this]
  have h2 : ∀ k, m ≤ k → k < K+1 → ¬ p k := by
    intro k hmk hkK hpk
    apply hm_not
    -- bumped is monotone, so p k → p m
    have : bumped xs K eps m ≤ bumped xs K eps k := by
      rcases Nat.lt_or_ge k K with hk | hk
      · rw [hbm m (by omega), hbm k hk]; exact hmono m k hmk hk.le
      · have hkK' : k = K := by omega
        subst hkK'
        rcases Nat.lt_or_ge m k with hm' | hm'
        · rw [hbm m hm']; simp only [bumped, if_true]; have := hmono m k hmk le_rfl; linarith
        · have : m = k := by omega
          rw [this]
    exact le_trans this hpk
  have hcard : ((Finset.range (K+1)).filter p).card = m :=
    card_filter_initial p (K+1) m (by omega) hm_lt h2
  have hi : i = m - 1 := by simp only [i, binIdx]; rw [← hcard]
  have him : i + 1 = m := by omega
  have hiK : i < K := by omega
  refine ⟨hiK, ?_, ?_⟩
  · have := hm_lt i (by omega); simpa [p, hbm i hiK] using this
  · rcases Nat.lt_or_ge m K with hmlt | hmge
    · left; have := hm_not; simp only [p, hbm m hmlt, not_le] at this; rw [him]; exact this
    · have hmK' : m = K := by omega
      rcases lt_or_eq_of_le hhi with hlt | heq
      · left; rw [him, hmK']; exact hlt
      · right; exact ⟨by omega, heq⟩


end Glue
