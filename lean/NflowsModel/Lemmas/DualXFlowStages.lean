import NflowsModel.Lemmas.DualXFlow
import NflowsModel.Lemmas.DualXNonlin
import NflowsModel.Lemmas.NonlinExec
import NflowsModel.Lemmas.DualXCoupling
import Mathlib.Tactic
/-!
# Lemmas/DualXFlowStages — more stages of a flow run on dual numbers: element-wise layers, coupling layers, open domains (C16)

* with the loop normal form `NonlinExec.nonlinApply_poly` (any scalar semantics) a never-raising element-wise layer whose element
  is `DualRes`-sound is a stage.
* `DualSoundStageOn t P S D` restricts `DualSoundStage` to the dual inputs in `P` (off a kink or a `softplus` threshold);
  `DualSoundStageNear` asks for acceptance only near `t` (open domains, `Exp.inverse`); both are cases of
  `DualXFlow.DualSoundStageAlong`, so cascade (on the admissible set `cascadeP`) and `Flow._log_prob` come from `Lemmas/DualXFlow.lean`.
* the forward coupling layer with a dual-sound conditioner (`DualSoundNet`) is a stage: `couplingStage_key`, the case `l = ⊤` of
  `DualXCoupling.couplingApply_dual_along`.
-/
open NF DualSound DualX DualXLU Filter Topology NF.Density NF.FlowRowsExec NF.StageMore NF.Norm LinearFresh
  NF.RowIndependenceMore NonlinExec DualXFlow DualXCoupling

namespace DualXFlowStages
noncomputable section

variable {e : Float → ℝ} {t : ℝ}

/-! ## 0. element-wise layers whose element calls are accepted, in any scalar semantics -/

section poly
variable {α : Type}

theorem findSome?_errG_none {F : α → Except Err (α × α)} {l : List α} (h : ∀ xi ∈ l, ∃ p, F xi = .ok p) :
    (l.findSome? fun xi => errG (F xi)) = none := by
  rw [List.findSome?_eq_none_iff]
  intro xi hxi
  obtain ⟨p, hp⟩ := h xi hxi
  rw [hp]; rfl

theorem nonlinStage_ok_of_total (o : XOps α) (kind : String) (ds : Array Float) (ps : List α) (inv : Bool) (B : Nat)
    (x c : Array α) (h : ∀ xi ∈ x.toList, ∃ p, nonlinEl o kind ds ps inv xi = .ok p) :
    nonlinStage o kind ds ps inv B x c =
      .ok ((x.toList.map fun xi => outYG o (nonlinEl o kind ds ps inv xi)).toArray,
        sumRows o B (x.toList.map fun xi => outLG o (nonlinEl o kind ds ps inv xi)).toArray) := by
  unfold nonlinStage
  rw [nonlinApply_poly]
  unfold ofT
  simp only [findSome?_errG_none h]

/-! the element calls that never raise, in any scalar semantics (through the dispatcher's equations) -/

theorem nonlinEl_Affine_total (o : XOps α) (ds : Array Float) (ps : List α) (inv : Bool) (x : α) :
    ∃ p, nonlinEl o "Affine" ds ps inv x = .ok p := by
  rw [nonlinEl_Affine]; cases inv <;> exact ⟨_, rfl⟩
theorem nonlinEl_Exp_total (o : XOps α) (ds : Array Float) (ps : List α) (x : α) :
    ∃ p, nonlinEl o "Exp" ds ps false x = .ok p := by
  rw [nonlinEl_Exp]; exact ⟨_, rfl⟩
theorem nonlinEl_LeakyReLU_total (o : XOps α) (ds : Array Float) (ps : List α) (inv : Bool) (x : α) :
    ∃ p, nonlinEl o "LeakyReLU" ds ps inv x = .ok p := by
  rw [nonlinEl_LeakyReLU]; exact ⟨_, rfl⟩
theorem nonlinEl_Tanh_total (o : XOps α) (ds : Array Float) (ps : List α) (x : α) :
    ∃ p, nonlinEl o "Tanh" ds ps false x = .ok p := by
  rw [nonlinEl_Tanh]; exact ⟨_, rfl⟩
theorem nonlinEl_Sigmoid_total (o : XOps α) (ds : Array Float) (ps : List α) (x : α) :
    ∃ p, nonlinEl o "Sigmoid" ds ps false x = .ok p := by
  rw [nonlinEl_Sigmoid]; exact ⟨_, rfl⟩
theorem nonlinEl_Logit_inv_total (o : XOps α) (ds : Array Float) (ps : List α) (x : α) :
    ∃ p, nonlinEl o "Logit" ds ps true x = .ok p := by
  rw [nonlinEl_Logit]; exact ⟨_, rfl⟩

end poly

/-! ## 1. stages that are dual sound on a set of (dual) inputs, at every `s` or near `t`: two readings of `DualSoundStageAlong` -/

/-- `DualSoundStage` restricted to the dual inputs satisfying `P` (a condition on the PRIMAL point and batch size: "no element
    at a kink / at a `softplus` threshold").  `DualSoundStage t S D` is the case `P = True`. -/
structure DualSoundStageOn (t : ℝ) (P : ℕ → Array (ℝ × ℝ) → Array (ℝ × ℝ) → Prop) (S : ℝ → BStage ℝ) (D : BStage (ℝ × ℝ)) :
    Prop where
  ok : ∀ (B : ℕ) (X c : ℝ → Array ℝ) (dX dc dY : Array (ℝ × ℝ)) (dL : List (ℝ × ℝ)), P B dX dc → DA t X dX → DA t c dc →
    D B dX dc = .ok (dY, dL) →
    ∃ (Y : ℝ → Array ℝ) (L : ℝ → List ℝ), (∀ s, S s B (X s) (c s) = .ok (Y s, L s)) ∧ DA t Y dY ∧ DV t L dL
  raises : ∀ (B : ℕ) (X c : ℝ → Array ℝ) (dX dc : Array (ℝ × ℝ)) (err : Err), P B dX dc → DA t X dX → DA t c dc →
    D B dX dc = .error err → ∀ s, S s B (X s) (c s) = .error err

/-- **the dual run of a batch-level pass is sound near `t`** (the variant for stages with an OPEN domain, e.g. `Exp.inverse` =
    `log` on `x > 0`, where a curve through an accepted point is accepted only near `t`): on the dual inputs satisfying `P`, if
    the dual call is accepted then the real call is accepted for all `s` NEAR `t`, with outputs / log-dets agreeing near `t` with
    curves represented by the dual outputs (so the derivatives at `t` are the tangents); if the dual call raises, the real call AT
    `t` raises the same exception. -/
structure DualSoundStageNear (t : ℝ) (P : ℕ → Array (ℝ × ℝ) → Array (ℝ × ℝ) → Prop) (S : ℝ → BStage ℝ)
    (D : BStage (ℝ × ℝ)) : Prop where
  ok : ∀ (B : ℕ) (X c : ℝ → Array ℝ) (dX dc dY : Array (ℝ × ℝ)) (dL : List (ℝ × ℝ)), P B dX dc → DA t X dX → DA t c dc →
    D B dX dc = .ok (dY, dL) →
    ∃ (Y : ℝ → Array ℝ) (L : ℝ → List ℝ), (∀ᶠ s in 𝓝 t, S s B (X s) (c s) = .ok (Y s, L s)) ∧ DA t Y dY ∧ DV t L dL
  raises : ∀ (B : ℕ) (X c : ℝ → Array ℝ) (dX dc : Array (ℝ × ℝ)) (err : Err), P B dX dc → DA t X dX → DA t c dc →
    D B dX dc = .error err → S t B (X t) (c t) = .error err

theorem dualSoundStageOn_iff_along {P : ℕ → Array (ℝ × ℝ) → Array (ℝ × ℝ) → Prop} {S : ℝ → BStage ℝ} {D : BStage (ℝ × ℝ)} :
    DualSoundStageOn t P S D ↔ DualSoundStageAlong ⊤ ⊤ t P S D :=
  ⟨fun h => ⟨by simpa only [eventually_top] using h.ok, by simpa only [eventually_top] using h.raises⟩,
   fun h => ⟨by simpa only [eventually_top] using h.ok, by simpa only [eventually_top] using h.raises⟩⟩

theorem dualSoundStageNear_iff_along {P : ℕ → Array (ℝ × ℝ) → Array (ℝ × ℝ) → Prop} {S : ℝ → BStage ℝ}
    {D : BStage (ℝ × ℝ)} : DualSoundStageNear t P S D ↔ DualSoundStageAlong (𝓝 t) (pure t) t P S D :=
  ⟨fun h => ⟨h.ok, by simpa only [eventually_pure] using h.raises⟩,
   fun h => ⟨h.ok, by simpa only [eventually_pure] using h.raises⟩⟩

theorem dualSoundStage_iff_on {S : ℝ → BStage ℝ} {D : BStage (ℝ × ℝ)} :
    DualSoundStage t S D ↔ DualSoundStageOn t (fun _ _ _ => True) S D :=
  dualSoundStage_iff_along.trans dualSoundStageOn_iff_along.symm

theorem DualSoundStageOn.mono {P P' : ℕ → Array (ℝ × ℝ) → Array (ℝ × ℝ) → Prop} {S : ℝ → BStage ℝ} {D : BStage (ℝ × ℝ)}
    (h : DualSoundStageOn t P S D) (hPP : ∀ B dX dc, P' B dX dc → P B dX dc) : DualSoundStageOn t P' S D :=
  dualSoundStageOn_iff_along.2 ((dualSoundStageOn_iff_along.1 h).mono le_rfl le_rfl hPP)

theorem DualSoundStage.on {S : ℝ → BStage ℝ} {D : BStage (ℝ × ℝ)} (h : DualSoundStage t S D)
    (P : ℕ → Array (ℝ × ℝ) → Array (ℝ × ℝ) → Prop) : DualSoundStageOn t P S D :=
  (dualSoundStage_iff_on.1 h).mono fun _ _ _ _ => trivial

theorem DualSoundStageOn.near {P : ℕ → Array (ℝ × ℝ) → Array (ℝ × ℝ) → Prop} {S : ℝ → BStage ℝ} {D : BStage (ℝ × ℝ)}
    (h : DualSoundStageOn t P S D) : DualSoundStageNear t P S D :=
  dualSoundStageNear_iff_along.2 ((dualSoundStageOn_iff_along.1 h).mono le_top le_top fun _ _ _ hP => hP)

theorem dualSoundStage_near {S : ℝ → BStage ℝ} {D : BStage (ℝ × ℝ)} (h : DualSoundStage t S D) :
    DualSoundStageNear t (fun _ _ _ => True) S D := (dualSoundStage_iff_on.1 h).near

/-! ## 2. `sum_except_batch` on dual numbers -/

theorem sumRows_dual (B : ℕ) {L : ℝ → Array ℝ} {dL : Array (ℝ × ℝ)} (h : DA t L dL) :
    DV t (fun s => sumRows (NF.realX e) B (L s)) (sumRows (dualX (NF.realX e)) B dL) := by
  have hsz := h.size
  unfold sumRows
  simp only [hsz]
  generalize (if B == 0 then 0 else dL.size / B) = n
  refine DL.ofMap _ _ _ (fun b _ => ?_)
  have hrow := foldl_add_dual (e := e) (DL.ofMap (List.range n) (fun s k => (L s).getD (b * n + k) (NF.realX e).zero)
    (fun k => dL.getD (b * n + k) (dualX (NF.realX e)).zero) fun k _ => ?_) (IsDual.zero e t)
  · simpa only [List.foldl_map] using hrow
  · simp only [← toList_getD]
    exact DL.getD' h _ (IsDual.zero e t)

/-! ## 3. a never-raising element-wise layer is a dual-sound stage -/

theorem dualRes_isDualY {F : ℝ → Except Err (ℝ × ℝ)} {r} (h : DualRes F t r) :
    IsDual (fun s => outYG (NF.realX e) (F s)) t (outYG (dualX (NF.realX e)) r) := by
  obtain ⟨dy, dl, rfl, h2, h3, _⟩ := h
  simp only [outYG_real]
  exact ⟨by show dy.1 = outY (F t); rw [h2]; rfl, h3⟩

theorem dualRes_isDualL {F : ℝ → Except Err (ℝ × ℝ)} {r} (h : DualRes F t r) :
    IsDual (fun s => outLG (NF.realX e) (F s)) t (outLG (dualX (NF.realX e)) r) := by
  obtain ⟨dy, dl, rfl, h2, _, h4⟩ := h
  simp only [outLG_real]
  exact ⟨by show dl.1 = outL (F t); rw [h2]; rfl, h4⟩

variable (e) in
/-- **the polymorphic fold lemma at work: an executed element-wise layer (`nonlinApply` through `nonlinStage`) that never raises
    over the reals, whose element function is dual sound (`DualRes`, the per-element lemmas of `DualXNonlin`) at every dual input
    satisfying `Pel`, is a dual-sound stage on the arrays all of whose entries satisfy `Pel`**; the element parameters `ps` move
    with `s`. -/
theorem dualSound_nonlinStage_gen (kind : String) (ds : Array Float) (inv : Bool) {ps : ℝ → List ℝ} {dps : List (ℝ × ℝ)}
    (Pel : ℝ × ℝ → Prop) (htot : ∀ s x, ∃ p, nonlinEl (NF.realX e) kind ds (ps s) inv x = .ok p)
    (hel : ∀ fx dx, IsDual fx t dx → Pel dx →
      DualRes (fun s => nonlinEl (NF.realX e) kind ds (ps s) inv (fx s)) t (nonlinEl (dualX (NF.realX e)) kind ds dps inv dx)) :
    DualSoundStageOn t (fun _ dX _ => ∀ d ∈ dX.toList, Pel d)
      (fun s => nonlinStage (NF.realX e) kind ds (ps s) inv) (nonlinStage (dualX (NF.realX e)) kind ds dps inv) := by
  have hD : ∀ (X : ℝ → Array ℝ) (dX : Array (ℝ × ℝ)), (∀ d ∈ dX.toList, Pel d) → DA t X dX →
      ∀ d ∈ dX.toList, ∃ p, nonlinEl (dualX (NF.realX e)) kind ds dps inv d = .ok p := by
    intro X dX hP hX d hd
    obtain ⟨fs, _, h2⟩ := hX
    obtain ⟨f, hf⟩ := forall₂_mem_right h2 hd
    obtain ⟨dy, dl, hr, _⟩ := hel f d hf (hP d hd)
    exact ⟨_, hr⟩
  constructor
  · intro B X c dX dc dY dL hP hX _ h
    rw [nonlinStage_ok_of_total _ _ _ _ _ _ _ _ (hD X dX hP hX)] at h
    simp only [Except.ok.injEq, Prod.mk.injEq] at h
    obtain ⟨rfl, rfl⟩ := h
    refine ⟨_, _, fun s => nonlinStage_ok_of_total _ _ _ _ _ _ _ _ (fun xi _ => htot s xi), ?_, ?_⟩
    · unfold DA
      exact DL.map' (fun s xi => outYG (NF.realX e) (nonlinEl (NF.realX e) kind ds (ps s) inv xi))
        (fun d => outYG (dualX (NF.realX e)) (nonlinEl (dualX (NF.realX e)) kind ds dps inv d)) hX
        (fun f d hd hfd => dualRes_isDualY (hel f d hfd (hP d hd)))
    · refine sumRows_dual B ?_
      unfold DA
      exact DL.map' (fun s xi => outLG (NF.realX e) (nonlinEl (NF.realX e) kind ds (ps s) inv xi))
        (fun d => outLG (dualX (NF.realX e)) (nonlinEl (dualX (NF.realX e)) kind ds dps inv d)) hX
        (fun f d hd hfd => dualRes_isDualL (hel f d hfd (hP d hd)))
  · intro B X c dX dc err hP hX _ h
    rw [nonlinStage_ok_of_total _ _ _ _ _ _ _ _ (hD X dX hP hX)] at h
    cases h

theorem psGetD_dual {ps : ℝ → List ℝ} {dps : List (ℝ × ℝ)} (hps : DV t ps dps) (k : ℕ) :
    IsDual (fun s => (ps s).getD k (NF.realX e).zero) t (dps.getD k (dualX (NF.realX e)).zero) :=
  DL.getD' hps k (IsDual.zero e t)

theorem psGetD_val (dps : List (ℝ × ℝ)) (k : ℕ) : dps.getD k (dualX (NF.realX e)).zero = dps.getD k (0, 0) := by
  rw [d_zero]

/-! ### 3a. `PointwiseAffineTransform` (both directions; scalar `scale`, `shift` moving) -/

variable (e) in
/-- **`PointwiseAffineTransform` (forward or inverse) as a stage**: `scale = ps[0]`, `shift = ps[1]` move along any differentiable
    curve; forced side condition `scale ≠ 0` at the primal point (`log |scale|`, and the constructor rejects `0`). -/
theorem dualSound_nonlinStage_affine (ds : Array Float) (inv : Bool) {ps : ℝ → List ℝ} {dps : List (ℝ × ℝ)} (hps : DV t ps dps)
    (h0 : (dps.getD 0 (0, 0)).1 ≠ 0) :
    DualSoundStage t (fun s => nonlinStage (NF.realX e) "Affine" ds (ps s) inv)
      (nonlinStage (dualX (NF.realX e)) "Affine" ds dps inv) := by
  refine dualSoundStage_iff_on.2 ((dualSound_nonlinStage_gen e "Affine" ds inv (fun _ => True) ?_ ?_).mono
    (fun _ _ _ _ _ _ => trivial))
  · exact fun s x => nonlinEl_Affine_total _ _ _ _ _
  · intro fx dx hx _
    have h0' : (dps.getD 0 (dualX (NF.realX e)).zero).1 ≠ 0 := by rw [psGetD_val]; exact h0
    simp only [nonlinEl_Affine]
    cases inv
    · exact affineT_fwd_dual e hx (psGetD_dual hps 0) (psGetD_dual hps 1) h0'
    · exact affineT_inv_dual e hx (psGetD_dual hps 0) (psGetD_dual hps 1) h0'

/-! ### 3b. `Exp` forward -/

variable (e) in
theorem dualSound_nonlinStage_exp (ds : Array Float) (ps : ℝ → List ℝ) (dps : List (ℝ × ℝ)) :
    DualSoundStage t (fun s => nonlinStage (NF.realX e) "Exp" ds (ps s) false)
      (nonlinStage (dualX (NF.realX e)) "Exp" ds dps false) := by
  refine dualSoundStage_iff_on.2 ((dualSound_nonlinStage_gen e "Exp" ds false (fun _ => True) ?_ ?_).mono
    (fun _ _ _ _ _ _ => trivial))
  · exact fun s x => nonlinEl_Exp_total _ _ _ _
  · intro fx dx hx _
    simp only [nonlinEl_Exp]
    exact expT_fwd_dual e hx

/-! ### 3c. `LeakyReLU` (both directions), away from the kink -/

variable (e) in
/-- **`LeakyReLU` (forward or inverse) as a stage, on the arrays with no entry AT the kink `0`**; `log_negative_slope = ps[0]` may
    move.  The exclusion is forced: `leakyStage_not_dual_sound_at_kink`. -/
theorem dualSound_nonlinStage_leakyRelu (ds : Array Float) (inv : Bool) {ps : ℝ → List ℝ} {dps : List (ℝ × ℝ)}
    (hps : DV t ps dps) :
    DualSoundStageOn t (fun _ dX _ => ∀ d ∈ dX.toList, d.1 ≠ 0)
      (fun s => nonlinStage (NF.realX e) "LeakyReLU" ds (ps s) inv)
      (nonlinStage (dualX (NF.realX e)) "LeakyReLU" ds dps inv) := by
  refine dualSound_nonlinStage_gen e "LeakyReLU" ds inv (fun d => d.1 ≠ 0) ?_ ?_
  · exact fun s x => nonlinEl_LeakyReLU_total _ _ _ _ _
  · intro fx dx hx hne
    simp only [nonlinEl_LeakyReLU]
    cases inv
    · exact leakyReluT_fwd_dual e _ hx (psGetD_dual hps 0) hne
    · exact leakyReluT_inv_dual e _ hx (psGetD_dual hps 0) hne

/-! ### 3d. `Tanh` forward, away from the `softplus` threshold of its log-det -/

variable (e) in
/-- **`Tanh.forward` as a stage, on the arrays with no entry at the `softplus` threshold `−2 x = 20`** (the log-det
    `2 (log 2 − x − softplus (−2 x))` has a jump there) -/
theorem dualSound_nonlinStage_tanh (ds : Array Float) (ps : ℝ → List ℝ) (dps : List (ℝ × ℝ)) :
    DualSoundStageOn t (fun _ dX _ => ∀ d ∈ dX.toList, e (-2.0) * d.1 ≠ 20)
      (fun s => nonlinStage (NF.realX e) "Tanh" ds (ps s) false) (nonlinStage (dualX (NF.realX e)) "Tanh" ds dps false) := by
  refine dualSound_nonlinStage_gen e "Tanh" ds false (fun d => e (-2.0) * d.1 ≠ 20) ?_ ?_
  · exact fun s x => nonlinEl_Tanh_total _ _ _ _
  · intro fx dx hx hne
    simp only [nonlinEl_Tanh]
    exact tanhT_fwd_dual e hx hne

/-! ### 3e. `Sigmoid` forward (= `Logit` inverse), away from the two `softplus` thresholds -/

theorem sigmoidEl_dual (eps : Float) {ps : ℝ → List ℝ} {dps : List (ℝ × ℝ)} (hps : DV t ps dps)
    (hT : (dps.getD 0 (0, 0)).1 ≠ 0) {fx : ℝ → ℝ} {dx : ℝ × ℝ} (hx : IsDual fx t dx)
    (hne : (dps.getD 0 (0, 0)).1 * dx.1 ≠ 20 ∧ (dps.getD 0 (0, 0)).1 * dx.1 ≠ -20) :
    DualRes (fun s => sigmoidT (NF.realX e) ((ps s).getD 0 (NF.realX e).zero) eps false (fx s)) t
      (sigmoidT (dualX (NF.realX e)) (dps.getD 0 (dualX (NF.realX e)).zero) eps false dx) := by
  refine sigmoidT_fwd_dual e eps hx (psGetD_dual hps 0) ?_ ?_ ?_ <;> rw [psGetD_val]
  exacts [hT, hne.1, hne.2]

variable (e) in
/-- **`Sigmoid.forward` as a stage, on the arrays with no entry at `T x = ±20`**; the temperature `T = ps[0]` may move (learnable
    temperature); `T ≠ 0` at the primal point (`log T`) -/
theorem dualSound_nonlinStage_sigmoid (ds : Array Float) {ps : ℝ → List ℝ} {dps : List (ℝ × ℝ)} (hps : DV t ps dps)
    (hT : (dps.getD 0 (0, 0)).1 ≠ 0) :
    DualSoundStageOn t (fun _ dX _ => ∀ d ∈ dX.toList, (dps.getD 0 (0, 0)).1 * d.1 ≠ 20 ∧ (dps.getD 0 (0, 0)).1 * d.1 ≠ -20)
      (fun s => nonlinStage (NF.realX e) "Sigmoid" ds (ps s) false)
      (nonlinStage (dualX (NF.realX e)) "Sigmoid" ds dps false) :=
  dualSound_nonlinStage_gen e "Sigmoid" ds false
    (fun d => (dps.getD 0 (0, 0)).1 * d.1 ≠ 20 ∧ (dps.getD 0 (0, 0)).1 * d.1 ≠ -20)
    (fun s x => nonlinEl_Sigmoid_total _ _ _ _)
    (fun fx dx hx hne => by simp only [nonlinEl_Sigmoid]; exact sigmoidEl_dual _ hps hT hx hne)

variable (e) in
theorem dualSound_nonlinStage_logit_inv (ds : Array Float) {ps : ℝ → List ℝ} {dps : List (ℝ × ℝ)} (hps : DV t ps dps)
    (hT : (dps.getD 0 (0, 0)).1 ≠ 0) :
    DualSoundStageOn t (fun _ dX _ => ∀ d ∈ dX.toList, (dps.getD 0 (0, 0)).1 * d.1 ≠ 20 ∧ (dps.getD 0 (0, 0)).1 * d.1 ≠ -20)
      (fun s => nonlinStage (NF.realX e) "Logit" ds (ps s) true)
      (nonlinStage (dualX (NF.realX e)) "Logit" ds dps true) :=
  dualSound_nonlinStage_gen e "Logit" ds true
    (fun d => (dps.getD 0 (0, 0)).1 * d.1 ≠ 20 ∧ (dps.getD 0 (0, 0)).1 * d.1 ≠ -20)
    (fun s x => nonlinEl_Logit_inv_total _ _ _ _)
    (fun fx dx hx hne => by simp only [nonlinEl_Logit, Bool.not_true]; exact sigmoidEl_dual _ hps hT hx hne)

/-! ## 4. the coupling layer (forward, no unconditional transform of the identity features) as a stage -/

section coupling

theorem gatherCh_dual (B C S : ℕ) (idx : List ℕ) {X : ℝ → Array ℝ} {dX : Array (ℝ × ℝ)} (hX : DA t X dX) :
    DA t (fun s => gatherCh (X s) B C S idx (RX e).zero) (gatherCh dX B C S idx (DX e).zero) := by
  unfold gatherCh DA
  exact DL.ofFlatMap _ _ _ fun b _ => DL.ofFlatMap _ _ _ fun ch _ => DL.ofMap _ _ _ fun sp _ => entryA_dual hX _

theorem applyUpd_nil {α : Type} (a : Array α) : applyUpd ([] : List (ℕ × ElRes α)) a = a := rfl

/-- **the conditioner run at dual numbers is sound along every differentiable curve**: `netR s` is the real network at parameter
    `s` (its weights move with `s`), `netD` the network on dual numbers; for every batch size and every curve of (identity split,
    context) represented by the dual data, the dual output holds entry by entry (value at `t`, derivative at `t`) of the real
    outputs (in particular the same size). -/
structure DualSoundNet (t : ℝ) (netR : ℝ → ℕ → Array ℝ → Array ℝ → Array ℝ)
    (netD : ℕ → Array (ℝ × ℝ) → Array (ℝ × ℝ) → Array (ℝ × ℝ)) : Prop where
  sound : ∀ (B : ℕ) (X c : ℝ → Array ℝ) (dX dc : Array (ℝ × ℝ)), DA t X dX → DA t c dc →
    DA t (fun s => netR s B (X s) (c s)) (netD B dX dc)

theorem DualSoundStageOn.of_accepted {P : ℕ → Array (ℝ × ℝ) → Array (ℝ × ℝ) → Prop} {S : ℝ → BStage ℝ} {D : BStage (ℝ × ℝ)}
    (key : ∀ (B : ℕ) (X c : ℝ → Array ℝ) (dX dc : Array (ℝ × ℝ)), P B dX dc → DA t X dX → DA t c dc →
      ∃ (Y : ℝ → Array ℝ) (L : ℝ → List ℝ) (dY : Array (ℝ × ℝ)) (dL : List (ℝ × ℝ)),
        D B dX dc = .ok (dY, dL) ∧ (∀ s, S s B (X s) (c s) = .ok (Y s, L s)) ∧ DA t Y dY ∧ DV t L dL) :
    DualSoundStageOn t P S D := by
  constructor
  · intro B X c dX dc dY dL hP hX hc h
    obtain ⟨Y, L, dY', dL', h1, h2, h3, h4⟩ := key B X c dX dc hP hX hc
    rw [h1] at h
    simp only [Except.ok.injEq, Prod.mk.injEq] at h
    obtain ⟨rfl, rfl⟩ := h
    exact ⟨Y, L, h2, h3, h4⟩
  · intro B X c dX dc err hP hX hc h
    obtain ⟨Y, L, dY', dL', h1, _⟩ := key B X c dX dc hP hX hc
    rw [h1] at h
    cases h

variable (e) in
/-- the executed forward coupling layer (`couplingStage`: gather the identity split, run the conditioner, `couplingApply`) with a
    dual-sound conditioner, on a dual input all of whose executed elements `(b, tp, sp)` — input entry read from `dX`, parameters
    the dual conditioner output — satisfy a predicate `Q` under which the element family is dual sound and never raises: the
    dual stage IS accepted, the real stage is accepted at every `s`, and the dual outputs are (value, derivative at `t`) of the
    real outputs (any numeric mask, `S`, `B`; the mask is a constant buffer compared on value components) -/
theorem couplingStage_key (c : ElCfg) (dmask : List (ℝ × ℝ)) (S : ℕ)
    (Q : ℕ → ℕ → ℕ → ℕ → Array (ℝ × ℝ) → ℝ × ℝ → Prop)
    (hel : ∀ (Ft b tp sp : ℕ) (P : ℝ → Array ℝ) (dP : Array (ℝ × ℝ)) (fx : ℝ → ℝ) (dx : ℝ × ℝ), DA t P dP → IsDual fx t dx →
      Q Ft b tp sp dP dx →
      RelEl t (fun s => couplingEl (RX e) c Ft S (P s) false b tp sp (fx s)) (couplingEl (DX e) c Ft S dP false b tp sp dx))
    {netR : ℝ → ℕ → Array ℝ → Array ℝ → Array ℝ} {netD : ℕ → Array (ℝ × ℝ) → Array (ℝ × ℝ) → Array (ℝ × ℝ)}
    (hnet : DualSoundNet t netR netD)
    (B : ℕ) (X c' : ℝ → Array ℝ) (dX dc : Array (ℝ × ℝ))
    (hadm : ∀ b ∈ List.range B, ∀ p ∈ rowIter (transformIdx (DX e) dmask).length S,
      Q (transformIdx (DX e) dmask).length b p.1 p.2
        (netD B (gatherCh dX B dmask.length S (identityIdx (DX e) dmask) (DX e).zero) dc)
        (dX.getD (flatIdx dmask.length S b ((transformIdx (DX e) dmask).getD p.1 0) p.2) (DX e).zero))
    (hX : DA t X dX) (hc : DA t c' dc) :
    ∃ (Y : ℝ → Array ℝ) (L : ℝ → List ℝ) (dY : Array (ℝ × ℝ)) (dL : List (ℝ × ℝ)),
      couplingStage (dualX (NF.realX e)) c dmask S false none #[] netD B dX dc = .ok (dY, dL) ∧
      (∀ s, couplingStage (NF.realX e) c (dmask.map Prod.fst) S false none #[] (netR s) B (X s) (c' s) = .ok (Y s, L s)) ∧
      DA t Y dY ∧ DV t L dL := by
  have hP := hnet.sound B _ c' _ dc (gatherCh_dual (e := e) B dmask.length S (identityIdx (DX e) dmask) hX) hc
  obtain ⟨Y, L, dY, dL, h1, h2, h3, h4⟩ := couplingApply_dual_along (e := e) (l := ⊤) c dmask B S false hX
    (fun b hb p hp => Ev.of (hel _ b p.1 p.2 _ _ _ _ hP (entryA_dual hX _) (hadm b hb p hp)))
  refine ⟨Y, L, dY, dL, h1, fun s => ?_, h3, h4⟩
  have := (eventually_top.1 h2) s
  simpa only [couplingStage, condInOf, List.length_map, ← identityIdx_dual (e := e) dmask, Bool.false_eq_true, if_false] using this

variable (e) in
theorem dualSound_couplingStage_of_el (c : ElCfg) (dmask : List (ℝ × ℝ)) (S : ℕ)
    (hel : ∀ (Ft b tp sp : ℕ) (P : ℝ → Array ℝ) (dP : Array (ℝ × ℝ)) (fx : ℝ → ℝ) (dx : ℝ × ℝ), DA t P dP → IsDual fx t dx →
      RelEl t (fun s => couplingEl (RX e) c Ft S (P s) false b tp sp (fx s)) (couplingEl (DX e) c Ft S dP false b tp sp dx))
    {netR : ℝ → ℕ → Array ℝ → Array ℝ → Array ℝ} {netD : ℕ → Array (ℝ × ℝ) → Array (ℝ × ℝ) → Array (ℝ × ℝ)}
    (hnet : DualSoundNet t netR netD) :
    DualSoundStage t (fun s => couplingStage (NF.realX e) c (dmask.map Prod.fst) S false none #[] (netR s))
      (couplingStage (dualX (NF.realX e)) c dmask S false none #[] netD) :=
  dualSoundStage_iff_on.2 (.of_accepted fun B X c' dX dc _ hX hc =>
    couplingStage_key e c dmask S (fun _ _ _ _ _ _ => True) (fun Ft b tp sp P dP fx dx hP hx _ => hel Ft b tp sp P dP fx dx hP hx)
      hnet B X c' dX dc (fun _ _ _ _ => trivial) hX hc)

/-! ### the affine (default activation `sigmoid(u + 2) + 1e-3`) and the additive element -/

/-- the forward element of `AffineCouplingTransform` with the default scale activation `sigmoid(u + 2) + 1e-3`, any scalar
    semantics.  The conditioner output is the flat `[B, 2·Ft, S]` array: shift in channel `tp`, unconstrained scale in channel
    `Ft + tp` (coupling.py:234-238) -/
theorem couplingEl_affine_fwd {α : Type} (o : XOps α) {c : ElCfg} (hk : c.kind = "affine") (hact : (c.act == "general") = false)
    (Ft S : ℕ) (P : Array α) (b tp sp : ℕ) (x : α) :
    couplingEl o c Ft S P false b tp sp x =
      .ok (o.add (o.mul x (o.add (o.sigmoid (o.add (P.getD ((b * (2 * Ft) + (Ft + tp)) * S + sp) o.zero) o.two)) (o.ofFloat 1e-3)))
          (P.getD ((b * (2 * Ft) + tp) * S + sp) o.zero),
        o.log (o.add (o.sigmoid (o.add (P.getD ((b * (2 * Ft) + (Ft + tp)) * S + sp) o.zero) o.two)) (o.ofFloat 1e-3)), []) := by
  simp only [couplingEl, hk, hact, beq_self_eq_true, if_true, Bool.false_eq_true, if_false, scaleShiftT, Except.map]

theorem couplingEl_additive_fwd {α : Type} (o : XOps α) {c : ElCfg} (hk : c.kind = "additive") (Ft S : ℕ) (P : Array α)
    (b tp sp : ℕ) (x : α) :
    couplingEl o c Ft S P false b tp sp x =
      .ok (o.add (o.mul x o.one) (P.getD ((b * Ft + tp) * S + sp) o.zero), o.log o.one, []) := by
  have hka : (("additive" : String) == "affine") = false := by decide
  simp only [couplingEl, hka, hk, beq_self_eq_true, if_true, Bool.false_eq_true, if_false, scaleShiftT, Except.map]

variable (e) in
/-- one element of `AffineCouplingTransform` (default scale activation), conditioner output moving along a curve; forced reading
    of the constant: `0 ≤ e 1e-3` (then `scale > 0`) -/
theorem couplingEl_affine_rel {c : ElCfg} (hk : c.kind = "affine") (hact : (c.act == "general") = false) (he : 0 ≤ e 1e-3)
    (Ft S b tp sp : ℕ) {P : ℝ → Array ℝ} {dP : Array (ℝ × ℝ)} {fx : ℝ → ℝ} {dx : ℝ × ℝ} (hP : DA t P dP) (hx : IsDual fx t dx) :
    RelEl t (fun s => couplingEl (RX e) c Ft S (P s) false b tp sp (fx s)) (couplingEl (DX e) c Ft S dP false b tp sp dx) := by
  have hsh := entryA_dual (e := e) hP ((b * (2 * Ft) + tp) * S + sp)
  have hu := entryA_dual (e := e) hP ((b * (2 * Ft) + (Ft + tp)) * S + sp)
  have hsc := IsDual.add e (IsDual.sigmoid e (IsDual.add e hu (IsDual.two e t))) (IsDual.ofFloat e 1e-3 t)
  have hne : ((DX e).add ((DX e).sigmoid ((DX e).add (dP.getD ((b * (2 * Ft) + (Ft + tp)) * S + sp) (DX e).zero) (DX e).two))
      ((DX e).ofFloat 1e-3)).1 ≠ 0 := by
    rw [d_add, d_ofFloat]
    exact (add_pos_of_pos_of_nonneg (d_sigmoid_pos e _) he).ne'
  exact ⟨_, _, fun _ => [], _, _, [], fun s => couplingEl_affine_fwd _ hk hact Ft S (P s) b tp sp (fx s),
    couplingEl_affine_fwd _ hk hact Ft S dP b tp sp dx, IsDual.add e (IsDual.mul e hx hsc) hsh, IsDual.log e hsc hne⟩

variable (e) in
theorem couplingEl_additive_rel {c : ElCfg} (hk : c.kind = "additive") (Ft S b tp sp : ℕ) {P : ℝ → Array ℝ}
    {dP : Array (ℝ × ℝ)} {fx : ℝ → ℝ} {dx : ℝ × ℝ} (hP : DA t P dP) (hx : IsDual fx t dx) :
    RelEl t (fun s => couplingEl (RX e) c Ft S (P s) false b tp sp (fx s)) (couplingEl (DX e) c Ft S dP false b tp sp dx) :=
  ⟨_, _, fun _ => [], _, _, [], fun s => couplingEl_additive_fwd _ hk Ft S (P s) b tp sp (fx s),
    couplingEl_additive_fwd _ hk Ft S dP b tp sp dx,
    IsDual.add e (IsDual.mul e hx (IsDual.one e t)) (entryA_dual (e := e) hP ((b * Ft + tp) * S + sp)),
    IsDual.log e (IsDual.one e t) (by rw [d_one]; norm_num)⟩

variable (e) in
/-- **`AffineCouplingTransform.forward` (default scale activation) as a stage**, any dual-sound conditioner -/
theorem dualSound_couplingStage_affine {c : ElCfg} (hk : c.kind = "affine") (hact : (c.act == "general") = false)
    (he : 0 ≤ e 1e-3) (dmask : List (ℝ × ℝ)) (S : ℕ)
    {netR : ℝ → ℕ → Array ℝ → Array ℝ → Array ℝ} {netD : ℕ → Array (ℝ × ℝ) → Array (ℝ × ℝ) → Array (ℝ × ℝ)}
    (hnet : DualSoundNet t netR netD) :
    DualSoundStage t (fun s => couplingStage (NF.realX e) c (dmask.map Prod.fst) S false none #[] (netR s))
      (couplingStage (dualX (NF.realX e)) c dmask S false none #[] netD) :=
  dualSound_couplingStage_of_el e c dmask S
    (fun Ft b tp sp _ _ _ _ hP hx => couplingEl_affine_rel e hk hact he Ft S b tp sp hP hx) hnet

/-! ### an affine-map conditioner `x ↦ W x + b` on the rows of the identity split -/

/-- the conditioner `F.linear(x, W, b)` on a flat `[B, win]` array, returning `[B, wout]` (context ignored) -/
def affNet {α : Type} (o : XOps α) (win wout : ℕ) (W : List (List α)) (b : List α) : ℕ → Array α → Array α → Array α :=
  fun B x _ => ((LF.linear o.toOps W b (rowsD win o.zero B x)).flatMap (fitRow wout o.zero)).toArray

variable (e) in
theorem dualSoundNet_affNet (win wout : ℕ) {W : ℝ → List (List ℝ)} {dW : List (List (ℝ × ℝ))} {b : ℝ → List ℝ}
    {db : List (ℝ × ℝ)} (hW : DM t W dW) (hb : DV t b db) :
    DualSoundNet t (fun s => affNet (NF.realX e) win wout (W s) (b s)) (affNet (dualX (NF.realX e)) win wout dW db) where
  sound := fun B _ _ _ _ hX _ => flat_dual wout (linear_dual hW hb (rowsD_dual (e := e) win B hX))

theorem total_couplingStage_affine {α : Type} (o : XOps α) {c : ElCfg} (hk : c.kind = "affine" ∨ c.kind = "additive")
    (mask : List α) (S : ℕ) (net : ℕ → Array α → Array α → Array α) :
    TotalStage (couplingStage o c mask S false none #[] net) :=
  total_couplingStage o c mask S false #[] net fun B x params =>
    hk.elim (fun hk => NF.StructureExec.coupling_affine_err_none o c hk mask B S x params #[] false)
      (fun hk => NF.StructureExec.coupling_additive_err_none o c hk mask B S x params #[] false)

end coupling

/-! ## 5. line readings, the kink of `LeakyReLU`, concrete instances of the element-wise stages -/

/-- **what a stage that is dual sound at `0` says along straight lines**: if the dual call on `(dX, dc)` (inside the set `P`)
    returns `(dY, dL)`, the real call along `primal + s · tangent` is accepted at every `s` with outputs / log-dets of the same
    sizes, and every entry of `dY`, `dL` is (value at `s = 0`, derivative at `s = 0`) of the matching real entry. -/
theorem DualSoundStageOn.line {P : ℕ → Array (ℝ × ℝ) → Array (ℝ × ℝ) → Prop} {S : ℝ → BStage ℝ} {D : BStage (ℝ × ℝ)}
    (h : DualSoundStageOn 0 P S D) (B : ℕ) {dX dc dY : Array (ℝ × ℝ)} {dL : List (ℝ × ℝ)} (hP : P B dX dc)
    (hD : D B dX dc = .ok (dY, dL)) :
    ∃ (Y : ℝ → Array ℝ) (L : ℝ → List ℝ), (∀ s, S s B (lineA s dX) (lineA s dc) = .ok (Y s, L s)) ∧
      (∀ s, (Y s).size = dY.size) ∧ (∀ s, (L s).length = dL.length) ∧
      (∀ k, (dY.toList.getD k (0, 0)).1 = (Y 0).toList.getD k 0 ∧
        HasDerivAt (fun s => (Y s).toList.getD k 0) (dY.toList.getD k (0, 0)).2 0) ∧
      (∀ i, (dL.getD i (0, 0)).1 = (L 0).getD i 0 ∧ HasDerivAt (fun s => (L s).getD i 0) (dL.getD i (0, 0)).2 0) := by
  obtain ⟨Y, L, hS, hY, hL⟩ := h.ok B _ _ dX dc dY dL hP (lineA_dual dX) (lineA_dual dc) hD
  exact ⟨Y, L, hS, hY.size, DL.length hL, fun k => hY.entry k, fun i => DV.entry hL i⟩

/-- the same when the dual call is known to be accepted: how the concrete instances below are stated -/
theorem DualSoundStageOn.line_ok {P : ℕ → Array (ℝ × ℝ) → Array (ℝ × ℝ) → Prop} {S : ℝ → BStage ℝ} {D : BStage (ℝ × ℝ)}
    (h : DualSoundStageOn 0 P S D) (B : ℕ) {dX dc dY : Array (ℝ × ℝ)} {dL : List (ℝ × ℝ)} (hP : P B dX dc)
    (hD : D B dX dc = .ok (dY, dL)) :
    ∃ dY dL, D B dX dc = .ok (dY, dL) ∧ ∃ (Y : ℝ → Array ℝ) (L : ℝ → List ℝ),
      (∀ s, S s B (lineA s dX) (lineA s dc) = .ok (Y s, L s)) ∧
      (∀ k, (dY.toList.getD k (0, 0)).1 = (Y 0).toList.getD k 0 ∧
        HasDerivAt (fun s => (Y s).toList.getD k 0) (dY.toList.getD k (0, 0)).2 0) ∧
      (∀ i, (dL.getD i (0, 0)).1 = (L 0).getD i 0 ∧ HasDerivAt (fun s => (L s).getD i 0) (dL.getD i (0, 0)).2 0) := by
  obtain ⟨Y, L, h1, -, -, h2, h3⟩ := h.line B hP hD
  exact ⟨_, _, hD, Y, L, h1, h2, h3⟩

theorem dualSoundStage_line {S : ℝ → BStage ℝ} {D : BStage (ℝ × ℝ)} (h : DualSoundStage 0 S D) (B : ℕ)
    {dX dc dY : Array (ℝ × ℝ)} {dL : List (ℝ × ℝ)} (hD : D B dX dc = .ok (dY, dL)) :
    ∃ (Y : ℝ → Array ℝ) (L : ℝ → List ℝ), (∀ s, S s B (lineA s dX) (lineA s dc) = .ok (Y s, L s)) ∧
      (∀ s, (Y s).size = dY.size) ∧ (∀ s, (L s).length = dL.length) ∧
      (∀ k, (dY.toList.getD k (0, 0)).1 = (Y 0).toList.getD k 0 ∧
        HasDerivAt (fun s => (Y s).toList.getD k 0) (dY.toList.getD k (0, 0)).2 0) ∧
      (∀ i, (dL.getD i (0, 0)).1 = (L 0).getD i 0 ∧ HasDerivAt (fun s => (L s).getD i 0) (dL.getD i (0, 0)).2 0) :=
  (dualSoundStage_iff_on.1 h).line B trivial hD

variable (e) in
/-- **the exclusion of the kink is forced**: with a slope other than `1` the `LeakyReLU` stage is NOT a `DualSoundStage` (the dual
    run at the entry `(0, 1)` is accepted and claims the derivative `1`, but the executed real map is not differentiable at `0`:
    `NonlinExec.leakyReluT_not_differentiable_at_zero`) -/
theorem leakyStage_not_dual_sound_at_kink (ds : Array Float) (ls : ℝ) (h1 : e (ds.getD 0 0.0) ≠ 1) :
    ¬ DualSoundStage 0 (fun _ => nonlinStage (NF.realX e) "LeakyReLU" ds [ls] false)
      (nonlinStage (dualX (NF.realX e)) "LeakyReLU" ds [(ls, 0)] false) := by
  intro h
  have hD := nonlinStage_ok_of_total (dualX (NF.realX e)) "LeakyReLU" ds [(ls, 0)] false 1 #[(0, 1)] #[]
    (fun xi _ => nonlinEl_LeakyReLU_total _ _ _ _ _)
  have hX : DA 0 (fun s : ℝ => #[s]) #[((0 : ℝ), (1 : ℝ))] :=
    DL.cons (rel := fun f d => IsDual f 0 d) (IsDual.id 0) DL.nil
  have hc : DA 0 (fun _ : ℝ => (#[] : Array ℝ)) #[] := DL.nil
  obtain ⟨Y, L, hS, hY, -⟩ := h.ok 1 _ _ _ _ _ _ hX hc hD
  have hfun : ∀ s, (Y s).toList.getD 0 0 = outY (leakyReluT (NF.realX e) (ds.getD 0 0.0) ls false s) := by
    intro s
    have hR := nonlinStage_ok_of_total (NF.realX e) "LeakyReLU" ds [ls] false 1 #[s] #[]
      (fun xi _ => nonlinEl_LeakyReLU_total _ _ _ _ _)
    have := (hS s).symm.trans hR
    simp only [Except.ok.injEq, Prod.mk.injEq] at this
    rw [this.1]
    show outYG (NF.realX e) (nonlinEl (NF.realX e) "LeakyReLU" ds [ls] false s) = _
    rw [outYG_real, nonlinEl_LeakyReLU]
    rfl
  have hd := (hY.entry 0).2
  have hdiff : DifferentiableAt ℝ (fun s => outY (leakyReluT (NF.realX e) (ds.getD 0 0.0) ls false s)) 0 := by
    have : (fun s => (Y s).toList.getD 0 0) = fun s => outY (leakyReluT (NF.realX e) (ds.getD 0 0.0) ls false s) :=
      funext hfun
    rw [this] at hd
    exact hd.differentiableAt
  exact (leakyReluT_not_differentiable_at_zero (e := e) _ ls h1).2 hdiff

/-! ### concrete instances (width 2, one row, every parameter and the inputs moving) -/

variable (e) in
/-- `PointwiseAffineTransform`, `scale = 2` (tangent `1`), `shift = 5` (tangent `−1`), the row `(1, 3)` with tangents `(1, 0)`:
    the dual call is accepted and its entries are (value, derivative) along the line through inputs and parameters -/
example : ∃ dY dL, nonlinStage (dualX (NF.realX e)) "Affine" #[] [(2, 1), (5, -1)] false 1 #[(1, 1), (3, 0)] #[] = .ok (dY, dL) ∧
    ∃ (Y : ℝ → Array ℝ) (L : ℝ → List ℝ),
      (∀ s, nonlinStage (NF.realX e) "Affine" #[] (lineV s [(2, 1), (5, -1)]) false 1 (lineA s #[(1, 1), (3, 0)]) (lineA s #[])
        = .ok (Y s, L s)) ∧
      (∀ k, (dY.toList.getD k (0, 0)).1 = (Y 0).toList.getD k 0 ∧
        HasDerivAt (fun s => (Y s).toList.getD k 0) (dY.toList.getD k (0, 0)).2 0) ∧
      (∀ i, (dL.getD i (0, 0)).1 = (L 0).getD i 0 ∧ HasDerivAt (fun s => (L s).getD i 0) (dL.getD i (0, 0)).2 0) := by
  exact (dualSoundStage_iff_on.1 (dualSound_nonlinStage_affine e #[] false (lineV_dual [(2, 1), (5, -1)]) (by norm_num))).line_ok
    1 trivial (nonlinStage_ok_of_total _ _ _ _ _ _ _ _ (fun xi _ => nonlinEl_Affine_total _ _ _ _ _))

variable (e) in
example : ∃ dY dL, nonlinStage (dualX (NF.realX e)) "Exp" #[] [] false 1 #[(0, 1), (-1, 2)] #[] = .ok (dY, dL) ∧
    ∃ (Y : ℝ → Array ℝ) (L : ℝ → List ℝ),
      (∀ s, nonlinStage (NF.realX e) "Exp" #[] [] false 1 (lineA s #[(0, 1), (-1, 2)]) (lineA s #[]) = .ok (Y s, L s)) ∧
      (∀ k, (dY.toList.getD k (0, 0)).1 = (Y 0).toList.getD k 0 ∧
        HasDerivAt (fun s => (Y s).toList.getD k 0) (dY.toList.getD k (0, 0)).2 0) ∧
      (∀ i, (dL.getD i (0, 0)).1 = (L 0).getD i 0 ∧ HasDerivAt (fun s => (L s).getD i 0) (dL.getD i (0, 0)).2 0) := by
  exact (dualSoundStage_iff_on.1 (dualSound_nonlinStage_exp e #[] (fun _ => []) [])).line_ok 1 trivial
    (nonlinStage_ok_of_total _ _ _ _ _ _ _ _ (fun xi _ => nonlinEl_Exp_total _ _ _ _))

variable (e) in
/-- `LeakyReLU` (slope constant `0.01`, `log_negative_slope = −4` with tangent `1`) on the row `(−1, 2)`, away from the kink -/
example : ∃ dY dL, nonlinStage (dualX (NF.realX e)) "LeakyReLU" #[0.01] [(-4, 1)] false 1 #[(-1, 1), (2, 1)] #[] = .ok (dY, dL) ∧
    ∃ (Y : ℝ → Array ℝ) (L : ℝ → List ℝ),
      (∀ s, nonlinStage (NF.realX e) "LeakyReLU" #[0.01] (lineV s [(-4, 1)]) false 1 (lineA s #[(-1, 1), (2, 1)]) (lineA s #[])
        = .ok (Y s, L s)) ∧
      (∀ k, (dY.toList.getD k (0, 0)).1 = (Y 0).toList.getD k 0 ∧
        HasDerivAt (fun s => (Y s).toList.getD k 0) (dY.toList.getD k (0, 0)).2 0) ∧
      (∀ i, (dL.getD i (0, 0)).1 = (L 0).getD i 0 ∧ HasDerivAt (fun s => (L s).getD i 0) (dL.getD i (0, 0)).2 0) := by
  exact (dualSound_nonlinStage_leakyRelu e #[0.01] false (lineV_dual [(-4, 1)])).line_ok 1
    (fun d hd => by rcases List.mem_pair.1 hd with rfl | rfl <;> norm_num)
    (nonlinStage_ok_of_total _ _ _ _ _ _ _ _ (fun xi _ => nonlinEl_LeakyReLU_total _ _ _ _ _))

variable (e) in
/-- `Sigmoid.forward`, temperature `2` (tangent `1`: learnable temperature), the row `(3, −1)`: `T x = 6, −2 ≠ ±20` -/
example : ∃ dY dL, nonlinStage (dualX (NF.realX e)) "Sigmoid" #[1e-6] [(2, 1)] false 1 #[(3, 1), (-1, 0)] #[] = .ok (dY, dL) ∧
    ∃ (Y : ℝ → Array ℝ) (L : ℝ → List ℝ),
      (∀ s, nonlinStage (NF.realX e) "Sigmoid" #[1e-6] (lineV s [(2, 1)]) false 1 (lineA s #[(3, 1), (-1, 0)]) (lineA s #[])
        = .ok (Y s, L s)) ∧
      (∀ k, (dY.toList.getD k (0, 0)).1 = (Y 0).toList.getD k 0 ∧
        HasDerivAt (fun s => (Y s).toList.getD k 0) (dY.toList.getD k (0, 0)).2 0) ∧
      (∀ i, (dL.getD i (0, 0)).1 = (L 0).getD i 0 ∧ HasDerivAt (fun s => (L s).getD i 0) (dL.getD i (0, 0)).2 0) := by
  exact (dualSound_nonlinStage_sigmoid e #[1e-6] (lineV_dual [(2, 1)]) (by norm_num)).line_ok 1 (fun d hd => by
      rcases List.mem_pair.1 hd with rfl | rfl
      · show (2:ℝ) * 3 ≠ 20 ∧ (2:ℝ) * 3 ≠ -20; norm_num
      · show (2:ℝ) * -1 ≠ 20 ∧ (2:ℝ) * -1 ≠ -20; norm_num)
    (nonlinStage_ok_of_total _ _ _ _ _ _ _ _ (fun xi _ => nonlinEl_Sigmoid_total _ _ _ _))

/-- `Tanh.forward` with `e (-2.0) = -2` read exactly: the row `(0, 1)` is away from the threshold `x = −10` -/
example (hm2 : e (-2.0) = -2) :
    ∃ dY dL, nonlinStage (dualX (NF.realX e)) "Tanh" #[] [] false 1 #[(0, 1), (1, -1)] #[] = .ok (dY, dL) ∧
    ∃ (Y : ℝ → Array ℝ) (L : ℝ → List ℝ),
      (∀ s, nonlinStage (NF.realX e) "Tanh" #[] [] false 1 (lineA s #[(0, 1), (1, -1)]) (lineA s #[]) = .ok (Y s, L s)) ∧
      (∀ k, (dY.toList.getD k (0, 0)).1 = (Y 0).toList.getD k 0 ∧
        HasDerivAt (fun s => (Y s).toList.getD k 0) (dY.toList.getD k (0, 0)).2 0) ∧
      (∀ i, (dL.getD i (0, 0)).1 = (L 0).getD i 0 ∧ HasDerivAt (fun s => (L s).getD i 0) (dL.getD i (0, 0)).2 0) := by
  exact (dualSound_nonlinStage_tanh e #[] (fun _ => []) []).line_ok 1
    (fun d hd => by rcases List.mem_pair.1 hd with rfl | rfl <;> rw [hm2] <;> norm_num)
    (nonlinStage_ok_of_total _ _ _ _ _ _ _ _ (fun xi _ => nonlinEl_Tanh_total _ _ _ _))

/-! ## 6. `Flow.log_prob` of a Glow-style block `[ActNorm, LULinear, affine coupling]` on dual numbers -/

variable (e) in
/-- **HEADLINE: the flow `[ActNorm, LULinear, AffineCouplingTransform]` (one Glow block: normalisation, invertible linear map,
    coupling) with a standard-normal base, `log_prob` on dual numbers** returns per batch row (value, derivative along the straight
    line through the inputs, the context, `log_scale`, `shift`, every `LULinear` tensor AND the weights / bias of the coupling's
    conditioner `x_id ↦ W x_id + b`).  If the dual run raises, the real run raises the same exception at every `s`.
    Side conditions, all inherited and forced: ActNorm initialised (or evaluation mode); no unconstrained `LULinear` diagonal
    entry AT the softplus threshold `20`; `eps ≥ 0`; the default scale activation `sigmoid(u + 2) + 1e-3` with the constant read
    as a non-negative real. -/
theorem flow_glow_block_logprob_dual_sound (w : ℕ) (ds : ActSt (ℝ × ℝ)) (dp : LF.LUParams (ℝ × ℝ)) {c : ElCfg}
    (hk : c.kind = "affine") (hact : (c.act == "general") = false) (he : 0 ≤ e 1e-3) (dmask : List (ℝ × ℝ)) (S win wout : ℕ)
    (dW : List (List (ℝ × ℝ))) (db : List (ℝ × ℝ))
    (hs : ds.initialized = true ∨ ds.training = false) (hthr : ∀ d ∈ dp.udiag, d.1 ≠ 20) (heps : 0 ≤ dp.eps.1)
    (shape inShape : List ℕ) (cf : Bool) (B : ℕ) (dX dctx : Array (ℝ × ℝ)) :
    let flowD := flowLogProbExec (dualX (NF.realX e)) w (fun _ a => a)
      (compStage (dualX (NF.realX e)) [actStage (dualX (NF.realX e)) w ds, luStage (dualX (NF.realX e)) w dp,
        couplingStage (dualX (NF.realX e)) c dmask S false none #[] (affNet (dualX (NF.realX e)) win wout dW db)])
      (fun B rows _ => stdNormalLogProb (dualX (NF.realX e)) shape inShape (ctxOf cf B) rows) B dX dctx
    let flowR := fun s : ℝ => flowLogProbExec (NF.realX e) w (fun _ a => a)
      (compStage (NF.realX e) [actStage (NF.realX e) w (lineAct s ds), luStage (NF.realX e) w (lineP s dp),
        couplingStage (NF.realX e) c (dmask.map Prod.fst) S false none #[]
          (affNet (NF.realX e) win wout (lineM s dW) (lineV s db))])
      (fun B rows _ => stdNormalLogProb (NF.realX e) shape inShape (ctxOf cf B) rows) B
        (lineA s dX) (lineA s dctx)
    (∀ dlps, flowD = .ok dlps → ∃ lps : ℝ → List ℝ, (∀ s, flowR s = .ok (lps s)) ∧ (∀ s, (lps s).length = dlps.length) ∧
      ∀ i, (dlps.getD i (0, 0)).1 = (lps 0).getD i 0 ∧ HasDerivAt (fun s => (lps s).getD i 0) (dlps.getD i (0, 0)).2 0) ∧
    (∀ err, flowD = .error err → ∀ s, flowR s = .error err) := by
  have hT : List.Forall₂ (DualSoundStage 0)
      [fun s => actStage (NF.realX e) w (lineAct s ds), fun s => luStage (NF.realX e) w (lineP s dp),
        fun s => couplingStage (NF.realX e) c (dmask.map Prod.fst) S false none #[]
          (affNet (NF.realX e) win wout (lineM s dW) (lineV s db))]
      [actStage (dualX (NF.realX e)) w ds, luStage (dualX (NF.realX e)) w dp,
        couplingStage (dualX (NF.realX e)) c dmask S false none #[] (affNet (dualX (NF.realX e)) win wout dW db)] :=
    .cons (dualSound_actStage e w (lineAct_curve ds) hs) (.cons (dualSound_luStage_line e w dp hthr heps)
      (.cons (dualSound_couplingStage_affine e hk hact he dmask S (dualSoundNet_affNet e win wout (lineM_dual dW) (lineV_dual db)))
        .nil))
  exact flow_logprob_dual_sound e w hT (standard_normal_logprob_dual_sound e shape inShape cf) B dX dctx

theorem flow_glow_block_accepted {α : Type} (o : XOps α) (w : ℕ) (st : ActSt α) (p : LF.LUParams α) {c : ElCfg}
    (hk : c.kind = "affine") (mask : List α) (S : ℕ) (net : ℕ → Array α → Array α → Array α)
    (hs : st.initialized = true ∨ st.training = false) (shape : List ℕ) (B : ℕ) (x ctx : Array α) :
    ∃ lps, flowLogProbExec o w (fun _ a => a)
      (compStage o [actStage o w st, luStage o w p, couplingStage o c mask S false none #[] net])
      (fun B rows _ => stdNormalLogProb o shape shape (ctxOf false B) rows) B x ctx = .ok lps :=
  flow_stdNormal_accepted o w (total_compStage o _ fun T hT => by
    simp only [List.mem_cons, List.mem_nil_iff, or_false] at hT
    rcases hT with rfl | rfl | rfl
    · rw [actStage_eq_passStage o w st hs]; exact total_passStage _ _ _
    · exact total_passStage _ _ _
    · exact total_couplingStage_affine o (Or.inl hk) mask S net) shape B x ctx

def glowC : ElCfg := { kind := "affine" }

variable (e) in
/-- the concrete Glow block, width 2: ActNorm `DualXFlow.flowExAct`, `LULinear` = `DualXLU.exP`, coupling with mask `(0, 1)`
    (feature 0 conditions feature 1), conditioner `x₀ ↦ (1·x₀ + 0, 2·x₀ + 1)` = (shift, unconstrained scale) with tangents on `W`
    and `b`; batch of two rows.  The dual run IS accepted and each entry is (real `log_prob`, derivative along the line). -/
example (he : 0 ≤ e 1e-3) :
    ∃ dlps, flowLogProbExec (dualX (NF.realX e)) 2 (fun _ a => a)
        (compStage (dualX (NF.realX e)) [actStage (dualX (NF.realX e)) 2 flowExAct, luStage (dualX (NF.realX e)) 2 exP,
          couplingStage (dualX (NF.realX e)) glowC [(0, 0), (1, 0)] 1 false none #[]
            (affNet (dualX (NF.realX e)) 1 2 [[(1, 1)], [(2, 0)]] [(0, 1), (1, 0)])])
        (fun B rows _ => stdNormalLogProb (dualX (NF.realX e)) [2] [2] (ctxOf false B) rows) 2 flowExX #[]
          = .ok dlps ∧
      ∃ lps : ℝ → List ℝ,
        (∀ s, flowLogProbExec (NF.realX e) 2 (fun _ a => a)
          (compStage (NF.realX e) [actStage (NF.realX e) 2 (lineAct s flowExAct), luStage (NF.realX e) 2 (lineP s exP),
            couplingStage (NF.realX e) glowC ([((0 : ℝ), (0 : ℝ)), (1, 0)].map Prod.fst) 1 false none #[]
              (affNet (NF.realX e) 1 2 (lineM s [[(1, 1)], [(2, 0)]]) (lineV s [(0, 1), (1, 0)]))])
          (fun B rows _ => stdNormalLogProb (NF.realX e) [2] [2] (ctxOf false B) rows) 2
            (lineA s flowExX) (lineA s #[]) = .ok (lps s)) ∧
        (∀ s, (lps s).length = dlps.length) ∧
        ∀ i, (dlps.getD i (0, 0)).1 = (lps 0).getD i 0 ∧ HasDerivAt (fun s => (lps s).getD i 0) (dlps.getD i (0, 0)).2 0 := by
  obtain ⟨dlps, h⟩ := flow_glow_block_accepted (dualX (NF.realX e)) 2 flowExAct exP (c := glowC) rfl [(0, 0), (1, 0)] 1
    (affNet (dualX (NF.realX e)) 1 2 [[(1, 1)], [(2, 0)]] [(0, 1), (1, 0)]) (Or.inl rfl) [2] 2 flowExX #[]
  exact ⟨dlps, h, (flow_glow_block_logprob_dual_sound e 2 flowExAct exP (c := glowC) rfl (by decide) he [(0, 0), (1, 0)] 1 1 2
    [[(1, 1)], [(2, 0)]] [(0, 1), (1, 0)] (Or.inl rfl) exP_thr (by norm_num [exP]) [2] [2] false 2 flowExX #[]).1 dlps h⟩

/-! ## 7. open-domain stages: soundness "eventually near `t`", closed under cascade -/

variable (e) in
theorem dualSoundNear_compStage {Ts : List NearTriple} (h : ∀ T ∈ Ts, DualSoundStageNear t T.1 T.2.1 T.2.2) :
    DualSoundStageNear t (fun B dX dc => cascadeP B dc Ts dX) (fun s => compStage (NF.realX e) (Ts.map fun T => T.2.1 s))
      (compStage (dualX (NF.realX e)) (Ts.map fun T => T.2.2)) :=
  dualSoundStageNear_iff_along.2
    (dualSoundAlong_compStage e (pure_le_nhds t) fun T hT => dualSoundStageNear_iff_along.1 (h T hT))

variable (e) in
/-- **closure under cascade, at every `s`**: over stages that are dual sound on sets, `CompositeTransform.forward` is dual sound on
    the admissible set of the cascade (every intermediate dual output avoids the kinks / thresholds of the next stage): e.g.
    `[ActNorm, LeakyReLU, LULinear, Tanh]` -/
theorem dualSoundOn_compStage {Ts : List NearTriple} (h : ∀ T ∈ Ts, DualSoundStageOn t T.1 T.2.1 T.2.2) :
    DualSoundStageOn t (fun B dX dc => cascadeP B dc Ts dX) (fun s => compStage (NF.realX e) (Ts.map fun T => T.2.1 s))
      (compStage (dualX (NF.realX e)) (Ts.map fun T => T.2.2)) :=
  dualSoundStageOn_iff_along.2
    (dualSoundAlong_compStage e le_rfl fun T hT => dualSoundStageOn_iff_along.1 (h T hT))

/-! ### an open-domain element-wise layer is dual sound near `t`; `Exp.inverse` -/

theorem eventually_forall_mem_of_forall₂ {Q : ℝ → ℝ → Prop} {R : (ℝ → ℝ) → ℝ × ℝ → Prop} {fs : List (ℝ → ℝ)}
    {ds : List (ℝ × ℝ)} (h2 : List.Forall₂ R fs ds) (hq : ∀ f d, d ∈ ds → R f d → ∀ᶠ s in 𝓝 t, Q s (f s)) :
    ∀ᶠ s in 𝓝 t, ∀ xi ∈ fs.map (fun f => f s), Q s xi := by
  induction h2 with
  | nil => exact Eventually.of_forall (by simp)
  | cons hab _ ih =>
    have h1 := hq _ _ List.mem_cons_self hab
    have h2' := ih (fun f d hd => hq f d (List.mem_cons_of_mem _ hd))
    filter_upwards [h1, h2'] with s a b
    intro xi hxi
    simp only [List.map_cons, List.mem_cons] at hxi
    rcases hxi with rfl | hxi
    · exact a
    · exact b xi hxi

theorem errG_value (kind : String) (ds : Array Float) (dps : List (ℝ × ℝ)) (inv : Bool) (d : ℝ × ℝ) :
    errG (nonlinEl (dualX (NF.realX e)) kind ds dps inv d) = errG (nonlinEl (NF.realX e) kind ds (dps.map Prod.fst) inv d.1) := by
  rw [← DualX.nonlinEl_value]
  cases nonlinEl (dualX (NF.realX e)) kind ds dps inv d <;> rfl

theorem ofT_mk_error_iff {α : Type} {out : Array α} {ld : List α} {err : Option Err} {er : Err} :
    ofT { out := out, ld := ld, err := err } = .error er ↔ err = some er := by
  cases err <;> simp [ofT]

variable (e) in
/-- **an executed element-wise layer with an open domain is dual sound near `t`**: where the dual element call is accepted the
    real element call is accepted near `t` (`hev`) and is dual sound (`hel`); the exceptions agree at `t` because the checks only
    see primal parts (`DualX.nonlinEl_value`: taking gradients never changes outputs or errors). -/
theorem dualSoundNear_nonlinStage_gen (kind : String) (ds : Array Float) (inv : Bool) {ps : ℝ → List ℝ} {dps : List (ℝ × ℝ)}
    (hps : DV t ps dps) (Pel : ℝ × ℝ → Prop)
    (hev : ∀ fx dx p, IsDual fx t dx → Pel dx → nonlinEl (dualX (NF.realX e)) kind ds dps inv dx = .ok p →
      ∀ᶠ s in 𝓝 t, ∃ q, nonlinEl (NF.realX e) kind ds (ps s) inv (fx s) = .ok q)
    (hel : ∀ fx dx p, IsDual fx t dx → Pel dx → nonlinEl (dualX (NF.realX e)) kind ds dps inv dx = .ok p →
      DualRes (fun s => nonlinEl (NF.realX e) kind ds (ps s) inv (fx s)) t (nonlinEl (dualX (NF.realX e)) kind ds dps inv dx)) :
    DualSoundStageNear t (fun _ dX _ => ∀ d ∈ dX.toList, Pel d)
      (fun s => nonlinStage (NF.realX e) kind ds (ps s) inv) (nonlinStage (dualX (NF.realX e)) kind ds dps inv) := by
  constructor
  · intro B X c dX dc dY dL hP hX _ h
    have hall : ∀ d ∈ dX.toList, ∃ p, nonlinEl (dualX (NF.realX e)) kind ds dps inv d = .ok p := by
      have h' := h
      unfold nonlinStage at h'
      rw [nonlinApply_poly] at h'
      obtain ⟨herr, -, -⟩ := ofT_eq_ok h'
      simp only [List.findSome?_eq_none_iff] at herr
      intro d hd
      have := herr d hd
      cases hr : nonlinEl (dualX (NF.realX e)) kind ds dps inv d with
      | ok p => exact ⟨p, rfl⟩
      | error er => rw [hr] at this; cases this
    rw [nonlinStage_ok_of_total _ _ _ _ _ _ _ _ hall] at h
    simp only [Except.ok.injEq, Prod.mk.injEq] at h
    obtain ⟨rfl, rfl⟩ := h
    have hevAll : ∀ᶠ s in 𝓝 t, ∀ xi ∈ (X s).toList, ∃ q, nonlinEl (NF.realX e) kind ds (ps s) inv xi = .ok q := by
      obtain ⟨fs, hF, h2⟩ := hX
      have := eventually_forall_mem_of_forall₂ (t := t)
        (Q := fun s xi => ∃ q, nonlinEl (NF.realX e) kind ds (ps s) inv xi = .ok q) h2
        (fun f d hd hfd => by obtain ⟨p, hp⟩ := hall d hd; exact hev f d p hfd (hP d hd) hp)
      filter_upwards [this] with s hs
      have hFs : (X s).toList = fs.map (fun f => f s) := hF s
      rw [hFs]; exact hs
    refine ⟨fun s => ((X s).toList.map fun xi => outYG (NF.realX e) (nonlinEl (NF.realX e) kind ds (ps s) inv xi)).toArray,
      fun s => sumRows (NF.realX e) B
        ((X s).toList.map fun xi => outLG (NF.realX e) (nonlinEl (NF.realX e) kind ds (ps s) inv xi)).toArray, ?_, ?_, ?_⟩
    · filter_upwards [hevAll] with s hs
      exact nonlinStage_ok_of_total _ _ _ _ _ _ _ _ hs
    · unfold DA
      exact DL.map' (fun s xi => outYG (NF.realX e) (nonlinEl (NF.realX e) kind ds (ps s) inv xi))
        (fun d => outYG (dualX (NF.realX e)) (nonlinEl (dualX (NF.realX e)) kind ds dps inv d)) hX
        (fun f d hd hfd => by obtain ⟨p, hp⟩ := hall d hd; exact dualRes_isDualY (hel f d p hfd (hP d hd) hp))
    · refine sumRows_dual B ?_
      unfold DA
      exact DL.map' (fun s xi => outLG (NF.realX e) (nonlinEl (NF.realX e) kind ds (ps s) inv xi))
        (fun d => outLG (dualX (NF.realX e)) (nonlinEl (dualX (NF.realX e)) kind ds dps inv d)) hX
        (fun f d hd hfd => by obtain ⟨p, hp⟩ := hall d hd; exact dualRes_isDualL (hel f d p hfd (hP d hd) hp))
  · intro B X c dX dc err _ hX _ h
    unfold nonlinStage at h ⊢
    rw [nonlinApply_poly] at h ⊢
    have hval : (X t).toList = dX.toList.map Prod.fst := DV.val hX
    have hpv : ps t = dps.map Prod.fst := DV.val hps
    have herr : ((X t).toList.findSome? fun xi => errG (nonlinEl (NF.realX e) kind ds (ps t) inv xi))
        = dX.toList.findSome? fun d => errG (nonlinEl (dualX (NF.realX e)) kind ds dps inv d) := by
      rw [hval, List.findSome?_map, hpv]
      congr 1
      funext d
      exact (errG_value kind ds dps inv d).symm
    exact ofT_mk_error_iff.2 (herr.trans (ofT_mk_error_iff.1 h))

theorem expT_inv_dual_run {dx : ℝ × ℝ} (h0 : 0 < dx.1) :
    expT (dualX (NF.realX e)) true dx = .ok ((dualX (NF.realX e)).log dx, (dualX (NF.realX e)).neg ((dualX (NF.realX e)).log dx)) := by
  unfold expT
  simp only [if_true, d_le, d_zero, decide_eq_true_eq, if_neg (not_le.mpr h0)]

theorem expT_inv_dual_ok_pos {dx : ℝ × ℝ} {p} (h : expT (dualX (NF.realX e)) true dx = .ok p) : 0 < dx.1 := by
  by_contra hle
  rw [not_lt] at hle
  unfold expT at h
  simp only [if_true, d_le, d_zero, decide_eq_true_eq, if_pos hle] at h
  cases h

variable (e) in
/-- **`Exp.inverse` (`log`, open domain `x > 0`) as a stage, sound near `t`**: no side condition; on `x ≤ 0` both runs raise
    `outsideDomain`.  (It is NOT a `DualSoundStage`: a line through a positive point leaves the domain.) -/
theorem dualSoundNear_nonlinStage_exp_inv (ds : Array Float) {ps : ℝ → List ℝ} {dps : List (ℝ × ℝ)} (hps : DV t ps dps) :
    DualSoundStageNear t (fun _ dX _ => ∀ d ∈ dX.toList, True)
      (fun s => nonlinStage (NF.realX e) "Exp" ds (ps s) true) (nonlinStage (dualX (NF.realX e)) "Exp" ds dps true) := by
  refine dualSoundNear_nonlinStage_gen e "Exp" ds true hps (fun _ => True) ?_ ?_
  · intro fx dx p hx _ hp
    have h0 : 0 < dx.1 := expT_inv_dual_ok_pos (e := e) hp
    rw [hx.1] at h0
    filter_upwards [hx.2.continuousAt.eventually (Ioi_mem_nhds h0)] with s hs
    exact ⟨_, expT_inv_run e hs⟩
  · intro fx dx p hx _ hp
    exact expT_inv_dual e hx (expT_inv_dual_ok_pos (e := e) hp)

variable (e) in
/-- the line through the positive point `1` with tangent `−1` leaves the domain of `log` at `s = 1`: `Exp.inverse` is not a
    `DualSoundStage` (which asks for acceptance at EVERY `s`), only sound near `0` -/
theorem expInvStage_not_dual_sound :
    ¬ DualSoundStage 0 (fun _ => nonlinStage (NF.realX e) "Exp" #[] [] true) (nonlinStage (dualX (NF.realX e)) "Exp" #[] [] true) := by
  intro h
  have hD := nonlinStage_ok_of_total (dualX (NF.realX e)) "Exp" #[] [] true 1 #[(1, -1)] #[]
    (fun xi hxi => by
      simp only [List.mem_cons, List.not_mem_nil, or_false] at hxi
      subst hxi
      exact ⟨_, expT_inv_dual_run (e := e) (by norm_num)⟩)
  have hX : DA 0 (fun s : ℝ => #[1 + s * (-1)]) #[((1 : ℝ), (-1 : ℝ))] :=
    DL.cons (rel := fun f d => IsDual f 0 d) (line_dual ((1 : ℝ), (-1 : ℝ))) DL.nil
  have hc : DA 0 (fun _ : ℝ => (#[] : Array ℝ)) #[] := DL.nil
  obtain ⟨Y, L, hS, -, -⟩ := h.ok 1 _ _ _ _ _ _ hX hc hD
  have h1 := hS 1
  unfold nonlinStage at h1
  rw [nonlinApply_real] at h1
  have : expT (NF.realX e) true 0 = .error .outsideDomain := (expT_inv_error_iff e 0).2 le_rfl
  simp [ofT, nonlinEl_Exp, this, errG] at h1

def exNearTs (e : Float → ℝ) : List NearTriple :=
  [(fun _ dX _ => ∀ d ∈ dX.toList, True, fun _ => nonlinStage (NF.realX e) "Exp" #[] [] true,
      nonlinStage (dualX (NF.realX e)) "Exp" #[] [] true),
   (fun _ _ _ => True, fun s => nonlinStage (NF.realX e) "Affine" #[] (lineV s [(2, 1), (5, -1)]) false,
      nonlinStage (dualX (NF.realX e)) "Affine" #[] [(2, 1), (5, -1)] false)]

variable (e) in
theorem exNearTs_near : ∀ T ∈ exNearTs e, DualSoundStageNear 0 T.1 T.2.1 T.2.2 := by
  intro T hT
  rcases List.mem_pair.1 hT with rfl | rfl
  · exact dualSoundNear_nonlinStage_exp_inv e #[] (ps := fun _ => []) DL.nil
  · exact dualSoundStage_near (dualSound_nonlinStage_affine e #[] false (lineV_dual [(2, 1), (5, -1)]) (by norm_num))

variable (e) in
theorem exNearTs_adm (B : ℕ) (dc dX : Array (ℝ × ℝ)) : cascadeP B dc (exNearTs e) dX :=
  ⟨fun _ _ => trivial, fun _ _ _ => ⟨trivial, fun _ _ _ => trivial⟩⟩

variable (e) in
/-- closure under cascade, concretely: `CompositeTransform([Exp.inverse, Affine])` is dual sound near `0` on EVERY dual input (the
    admissible set of the cascade is everything), although its first stage has an open domain -/
example : DualSoundStageNear 0 (fun _ _ _ => True)
    (fun s => compStage (NF.realX e) [nonlinStage (NF.realX e) "Exp" #[] [] true,
      nonlinStage (NF.realX e) "Affine" #[] (lineV s [(2, 1), (5, -1)]) false])
    (compStage (dualX (NF.realX e)) [nonlinStage (dualX (NF.realX e)) "Exp" #[] [] true,
      nonlinStage (dualX (NF.realX e)) "Affine" #[] [(2, 1), (5, -1)] false]) := by
  have h := dualSoundNear_compStage e (t := 0) (Ts := exNearTs e) (exNearTs_near e)
  exact ⟨fun B X c dX dc dY dL _ hX hc hD => h.ok B X c dX dc dY dL (exNearTs_adm e B dc dX) hX hc hD,
    fun B X c dX dc err _ hX hc hD => h.raises B X c dX dc err (exNearTs_adm e B dc dX) hX hc hD⟩

variable (e) in
/-- **HEADLINE (open domains): `Flow.log_prob` on dual numbers, along straight lines, for a `CompositeTransform` of stages that are
    dual sound near `0`** (any mixture of `DualSoundStage`s, stages sound on a set — `LeakyReLU` off the kink, `Tanh` / `Sigmoid`
    off their thresholds — and open-domain stages such as `Exp.inverse`).  On dual inputs admissible for the cascade (`cascadeP`,
    a condition on the dual run only): if the dual run returns `dlps`, the real run is accepted for all `s` near `0` and every
    entry of `dlps` is (real `log_prob` of the row at `s = 0`, its derivative at `s = 0` along the line through inputs, context and
    all parameters); if the dual run raises, the real run at `s = 0` raises the same exception. -/
theorem flow_logprob_dual_sound_near (w : ℕ) {Ts : List NearTriple} (hT : ∀ T ∈ Ts, DualSoundStageNear 0 T.1 T.2.1 T.2.2)
    {bR : ℝ → BaseD ℝ} {bD : BaseD (ℝ × ℝ)} (hb : DualSoundBase 0 bR bD) (B : ℕ) (dX dctx : Array (ℝ × ℝ))
    (hP : cascadeP B dctx Ts dX) :
    (∀ dlps, flowLogProbExec (dualX (NF.realX e)) w (fun _ a => a) (compStage (dualX (NF.realX e)) (Ts.map fun T => T.2.2)) bD B
        dX dctx = .ok dlps →
      ∃ lps : ℝ → List ℝ,
        (∀ᶠ s in 𝓝 (0 : ℝ), flowLogProbExec (NF.realX e) w (fun _ a => a) (compStage (NF.realX e) (Ts.map fun T => T.2.1 s))
          (bR s) B (lineA s dX) (lineA s dctx) = .ok (lps s)) ∧
        (∀ s, (lps s).length = dlps.length) ∧
        ∀ i, (dlps.getD i (0, 0)).1 = (lps 0).getD i 0 ∧ HasDerivAt (fun s => (lps s).getD i 0) (dlps.getD i (0, 0)).2 0) ∧
    (∀ err, flowLogProbExec (dualX (NF.realX e)) w (fun _ a => a) (compStage (dualX (NF.realX e)) (Ts.map fun T => T.2.2)) bD B
        dX dctx = .error err →
      flowLogProbExec (NF.realX e) w (fun _ a => a) (compStage (NF.realX e) (Ts.map fun T => T.2.1 0)) (bR 0) B
        (lineA 0 dX) (lineA 0 dctx) = .error err) :=
  by
  simpa only [eventually_pure] using flow_logprob_line_along (e := e) (pure_le_nhds 0) w
    (dualSoundStageNear_iff_along.1 (dualSoundNear_compStage e hT)) hb B dX dctx hP

variable (e) in
example (B : ℕ) (dX dctx : Array (ℝ × ℝ)) :=
  flow_logprob_dual_sound_near e 2 (Ts := exNearTs e) (exNearTs_near e)
    (standard_normal_logprob_dual_sound e [2] [2] false) B dX dctx (exNearTs_adm e B dctx dX)

/-! ### an admissible input of a cascade with a kink -/

variable (e) in
/-- concretely: `CompositeTransform([Affine(2, 5), LeakyReLU])`, one row `(1, −4)`: the intermediate values `(7, −3)` avoid the
    kink, so the input is admissible and the dual run is (value, derivative) along the line through inputs and parameters -/
example : cascadeP 1 #[]
    [(fun _ _ _ => True, fun s => nonlinStage (NF.realX e) "Affine" #[] (lineV s [(2, 1), (5, -1)]) false,
        nonlinStage (dualX (NF.realX e)) "Affine" #[] [(2, 1), (5, -1)] false),
     (fun _ dX _ => ∀ d ∈ dX.toList, d.1 ≠ 0, fun s => nonlinStage (NF.realX e) "LeakyReLU" #[0.01] (lineV s [(-4, 1)]) false,
        nonlinStage (dualX (NF.realX e)) "LeakyReLU" #[0.01] [(-4, 1)] false)] #[(1, 1), (-4, 0)] := by
  refine ⟨trivial, fun dY dL hD => ⟨?_, fun _ _ _ => trivial⟩⟩
  simp only [] at hD ⊢
  rw [nonlinStage_ok_of_total _ _ _ _ _ _ _ _ (fun xi _ => nonlinEl_Affine_total _ _ _ _ _)] at hD
  simp only [Except.ok.injEq, Prod.mk.injEq] at hD
  obtain ⟨rfl, -⟩ := hD
  intro d hd
  rw [List.map_cons, List.map_cons, List.map_nil, nonlinEl_Affine, nonlinEl_Affine] at hd
  rcases List.mem_pair.1 hd with rfl | rfl
  · show (1:ℝ) * 2 + 5 ≠ 0; norm_num
  · show (-4:ℝ) * 2 + 5 ≠ 0; norm_num

end
end DualXFlowStages
