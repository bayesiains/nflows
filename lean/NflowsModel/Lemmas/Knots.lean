import Mathlib.Analysis.SpecialFunctions.Log.Basic
import Mathlib.Algebra.BigOperators.Field
import Mathlib.Algebra.Order.BigOperators.Ring.Finset
import Mathlib.Tactic
/-!
# Lemmas/Knots — the knot construction of the spline families over `Fin K → ℝ` (softmax, floored widths, cumulative
knots), for the statements of `Properties/C09`; the executed list code (`softmaxG`, `flooredSoftmax`, `rqKnots`) is
treated in `SplineExec`
-/

namespace Knots


noncomputable section
open Finset

/-! from unnormalised parameters to knots (rational_quadratic.py:95-101 / cubic.py:103-108 / quadratic.py:88-89) -/
variable {K : ℕ}

def softmax (u : Fin K → ℝ) (k : Fin K) : ℝ := Real.exp (u k) / ∑ j, Real.exp (u j)

theorem softmax_pos (u : Fin K → ℝ) (k : Fin K) : 0 < softmax u k := by
  unfold softmax
  apply div_pos (Real.exp_pos _)
  exact Finset.sum_pos (fun j _ => Real.exp_pos _) ⟨k, Finset.mem_univ k⟩

theorem softmax_sum (u : Fin K → ℝ) (hK : 0 < K) : ∑ k, softmax u k = 1 := by
  unfold softmax
  rw [← Finset.sum_div]
  apply div_self
  have : 0 < ∑ j : Fin K, Real.exp (u j) := Finset.sum_pos (fun j _ => Real.exp_pos _) ⟨⟨0, hK⟩, Finset.mem_univ _⟩
  exact this.ne'

/-- `widths = min_w + (1 - min_w·K)·softmax(u)` -/
def widths (m : ℝ) (u : Fin K → ℝ) (k : Fin K) : ℝ := m + (1 - m * K) * softmax u k

theorem widths_pos {m : ℝ} (u : Fin K → ℝ) (hm0 : 0 ≤ m) (hmK : m * K ≤ 1) (k : Fin K) : 0 < widths m u k := by
  unfold widths
  have hs := softmax_pos u k
  have hK : (0:ℝ) < K := by
    have : 0 < K := Nat.lt_of_le_of_lt (Nat.zero_le _) k.isLt
    exact_mod_cast this
  rcases eq_or_lt_of_le hmK with h | h
  · -- m·K = 1 ⇒ widths = m > 0
    have : 0 < m := by
      by_contra hc
      have : m = 0 := le_antisymm (not_lt.mp hc) hm0
      rw [this] at h; simp at h
    rw [h]; simp; exact this
  · have : 0 < (1 - m * K) * softmax u k := mul_pos (by linarith) hs
    linarith

theorem widths_sum {m : ℝ} (u : Fin K → ℝ) (hK : 0 < K) : ∑ k, widths m u k = 1 := by
  unfold widths
  rw [Finset.sum_add_distrib, ← Finset.mul_sum, softmax_sum u hK]
  simp; ring

def knot (left right : ℝ) (w : Fin K → ℝ) (k : ℕ) : ℝ := left + (right - left) * ∑ j : Fin K, if (j : ℕ) < k then w j else 0

theorem knot_zero (left right : ℝ) (w : Fin K → ℝ) : knot left right w 0 = left := by simp [knot]
theorem knot_last (left right : ℝ) (w : Fin K → ℝ) (hsum : ∑ k, w k = 1) : knot left right w K = right := by
  unfold knot
  have : (∑ j : Fin K, if (j : ℕ) < K then w j else 0) = ∑ j, w j := Finset.sum_congr rfl (fun j _ => by simp [j.isLt])
  rw [this, hsum]; ring
theorem knot_succ (left right : ℝ) (w : Fin K → ℝ) (k : ℕ) (hk : k < K) :
    knot left right w (k+1) = knot left right w k + (right - left) * w ⟨k, hk⟩ := by
  unfold knot
  have : (∑ j : Fin K, if (j : ℕ) < k + 1 then w j else 0) = (∑ j : Fin K, if (j : ℕ) < k then w j else 0) + w ⟨k, hk⟩ := by
    have hsplit : ∀ j : Fin K, (if (j : ℕ) < k + 1 then w j else 0) = (if (j : ℕ) < k then w j else 0) + (if j = ⟨k, hk⟩ then w j else 0) := by
      intro j
      by_cases h1 : (j : ℕ) < k
      · have : j ≠ ⟨k, hk⟩ := by intro e; rw [e] at h1; simp at h1
        simp [h1, Nat.lt_succ_of_lt h1, this]
      · by_cases h2 : (j : ℕ) = k
        · have : j = ⟨k, hk⟩ := Fin.ext h2
          simp [h2, this]
        · have : ¬ (j : ℕ) < k + 1 := by omega
          have hne : j ≠ ⟨k, hk⟩ := by intro e; apply h2; rw [e]
          simp [h1, this, hne]
    simp_rw [hsplit]
    rw [Finset.sum_add_distrib]
    simp
  rw [this]; ring
theorem knot_strict (left right : ℝ) (w : Fin K → ℝ) (hlr : left < right) (hw : ∀ k, 0 < w k) (k : ℕ) (hk : k < K) :
    knot left right w k < knot left right w (k+1) := by
  rw [knot_succ left right w k hk]
  have := mul_pos (sub_pos.mpr hlr) (hw ⟨k, hk⟩)
  linarith


end
end Knots
