import Mathlib.Tactic
import NflowsModel.Core.Multiscale
import NflowsModel.Lemmas.MultiscaleExec
import NflowsModel.Lemmas.RowMajor
/-!
# Lemmas/MultiscaleIndex — index-level description of the executed multiscale routing

`Lemmas/MultiscaleExec.lean` shows that the routing is a permutation; this file says WHICH one: where entry
`(o, j, i)` (outer block, index along the split dimension, inner position) of the input is found in the flat output
(`flatPos`) and through which stages it went (`stageOf`), with no law assumed of the log-det accumulator.
Last: objects reachable through the public interface have `split_dim ≥ 1`, and the `add_transform` error contract on them.
-/
namespace NF.Wrap

variable {α : Type}

/-! ## which element goes where in `splitBlocks` / `chunk2` -/

theorem splitBlocks_fst_getElem? (blk k : Nat) (hk : k ≤ blk) : ∀ (m : Nat) (l : List α), m * blk ≤ l.length →
    ∀ (o r : Nat), o < m → r < k → (splitBlocks blk k m l).1[o * k + r]? = l[o * blk + r]? := by
  intro m
  induction m with
  | zero => exact fun _ _ _ _ ho => absurd ho (Nat.not_lt_zero _)
  | succ m ih =>
    intro l hl o r ho hr
    rw [Nat.succ_mul] at hl
    have hblk : blk ≤ l.length := le_trans (Nat.le_add_left _ _) hl
    have hlen : ((l.take blk).take k).length = k := by
      rw [List.length_take, List.length_take, Nat.min_eq_left hblk, Nat.min_eq_left hk]
    simp only [splitBlocks]
    cases o with
    | zero =>
      rw [Nat.zero_mul, Nat.zero_mul, Nat.zero_add, List.getElem?_append_left (by rw [hlen]; exact hr),
        List.getElem?_take, List.getElem?_take, if_pos hr, if_pos (lt_of_lt_of_le hr hk)]
    | succ o =>
      rw [Nat.succ_mul, Nat.succ_mul, Nat.add_comm (o * k), Nat.add_comm (o * blk), Nat.add_assoc, Nat.add_assoc,
        List.getElem?_append_right (by rw [hlen]; exact Nat.le_add_right _ _), hlen, Nat.add_sub_cancel_left,
        ih (l.drop blk) (by rw [List.length_drop]; exact Nat.le_sub_of_add_le hl) o r (Nat.lt_of_succ_lt_succ ho) hr,
        List.getElem?_drop]

theorem splitBlocks_snd_getElem? (blk k : Nat) : ∀ (m : Nat) (l : List α), m * blk ≤ l.length →
    ∀ (o r : Nat), o < m → r < blk - k → (splitBlocks blk k m l).2[o * (blk - k) + r]? = l[o * blk + k + r]? := by
  intro m
  induction m with
  | zero => exact fun _ _ _ _ ho => absurd ho (Nat.not_lt_zero _)
  | succ m ih =>
    intro l hl o r ho hr
    rw [Nat.succ_mul] at hl
    have hblk : blk ≤ l.length := le_trans (Nat.le_add_left _ _) hl
    have hlen : ((l.take blk).drop k).length = blk - k := by
      rw [List.length_drop, List.length_take, Nat.min_eq_left hblk]
    simp only [splitBlocks]
    cases o with
    | zero =>
      rw [Nat.zero_mul, Nat.zero_mul, Nat.zero_add, Nat.zero_add, List.getElem?_append_left (by rw [hlen]; exact hr),
        List.getElem?_drop, List.getElem?_take, if_pos (Nat.add_lt_of_lt_sub' hr)]
    | succ o =>
      rw [Nat.succ_mul, Nat.succ_mul, Nat.add_comm (o * (blk - k)), Nat.add_comm (o * blk), Nat.add_assoc,
        Nat.add_assoc, Nat.add_assoc,
        List.getElem?_append_right (by rw [hlen]; exact Nat.le_add_right _ _), hlen, Nat.add_sub_cancel_left,
        ih (l.drop blk) (by rw [List.length_drop]; exact Nat.le_sub_of_add_le hl) o r (Nat.lt_of_succ_lt_succ ho) hr,
        List.getElem?_drop, Nat.add_assoc]

/-- **three-index form**: block `o < P`, index `j` along the split dimension (size `n`), inner position `i < I`.
    With `c = ⌈n/2⌉`: entry `(o, j, i)` of the first result (`j < c`) is entry `(o, j, i)` of the input; entry
    `(o, j, i)` of the second result (`j < ⌊n/2⌋`) is entry `(o, c + j, i)` of the input. -/
theorem splitBlocks_index (P n I : Nat) (data : List α) (hl : P * (n * I) ≤ data.length) :
    (∀ o j i, o < P → j < (n + 1) / 2 → i < I →
      (splitBlocks (n * I) ((n + 1) / 2 * I) P data).1[(o * ((n + 1) / 2) + j) * I + i]? =
        data[(o * n + j) * I + i]?) ∧
    (∀ o j i, o < P → j < n / 2 → i < I →
      (splitBlocks (n * I) ((n + 1) / 2 * I) P data).2[(o * (n / 2) + j) * I + i]? =
        data[(o * n + (n + 1) / 2 + j) * I + i]?) := by
  have hk : (n + 1) / 2 * I ≤ n * I := Nat.mul_le_mul_right _ (half_le n)
  refine ⟨?_, ?_⟩
  · intro o j i ho hj hi
    have h := splitBlocks_fst_getElem? (n * I) ((n + 1) / 2 * I) hk P data hl o (j * I + i) ho (RowMajor.lt2 hj hi)
    rw [Nat.add_mul, Nat.mul_assoc, Nat.add_assoc, Nat.add_mul, Nat.mul_assoc, Nat.add_assoc]
    exact h
  · intro o j i ho hj hi
    have hsub : n * I - (n + 1) / 2 * I = n / 2 * I := sub_half_mul n (I)
    have h := splitBlocks_snd_getElem? (n * I) ((n + 1) / 2 * I) P data hl o (j * I + i) ho
      (by rw [hsub]; exact RowMajor.lt2 hj hi)
    rw [hsub] at h
    rw [Nat.add_mul, Nat.mul_assoc, Nat.add_assoc, Nat.add_mul, Nat.add_mul, Nat.mul_assoc, Nat.add_assoc]
    exact h


/-- orientation on a concrete tensor: shape `[2, 5]`, split along the last dimension: the FIRST three columns of
    every row are emitted, the last two are passed on. -/
example : (chunk2 1 (⟨[2, 5], [0, 1, 2, 3, 4, 10, 11, 12, 13, 14]⟩ : Item Nat)).toOption.map
      (fun r => (r.1.shape, r.1.data, r.2.shape, r.2.data)) =
    some ([2, 3], [0, 1, 2, 10, 11, 12], [2, 2], [3, 4, 13, 14]) := by decide

example : splitBlocks 5 3 2 [0, 1, 2, 3, 4, 10, 11, 12, 13, 14] = ([0, 1, 2, 10, 11, 12], [3, 4, 13, 14]) := by decide


variable {C L : Type}

/-! ## one-dimensional items: stage sizes, offsets, stage of an index -/

/-- `m_t`: size of what reaches stage `t` (`m₀ = n`, `m_{t+1} = ⌊m_t / 2⌋`) -/
def msize (n : Nat) : Nat → Nat
  | 0 => n
  | t + 1 => msize n t / 2

/-- `off_t`: number of coordinates emitted before stage `t` (`off₀ = 0`, `off_{t+1} = off_t + ⌈m_t / 2⌉`) -/
def moff (n : Nat) : Nat → Nat
  | 0 => 0
  | t + 1 => moff n t + (msize n t + 1) / 2

def segOf (k n : Nat) (data : List α) (s : Nat) : List α :=
  if s + 1 < k then (data.drop (moff n s)).take ((msize n s + 1) / 2) else data.drop (moff n s)

/-- the stage that emits index `j`: the first `s` with `j - off_s < ⌈m_s/2⌉`, or the last stage -/
def stageOf : Nat → Nat → Nat → Nat
  | 0, _, _ => 0
  | 1, _, _ => 0
  | k + 2, n, j => if j < (n + 1) / 2 then 0 else stageOf (k + 1) (n / 2) (j - (n + 1) / 2) + 1

theorem msize_succ' (n : Nat) : ∀ t, msize n (t + 1) = msize (n / 2) t
  | 0 => rfl
  | t + 1 => by rw [msize, msize_succ' n t]; rfl

theorem moff_succ' (n : Nat) : ∀ t, moff n (t + 1) = (n + 1) / 2 + moff (n / 2) t
  | 0 => by simp [moff, msize]
  | t + 1 => by rw [moff, moff_succ' n t, msize_succ' n t]; simp only [moff]; omega

theorem moff_add_msize (n : Nat) : ∀ t, moff n t + msize n t = n
  | 0 => by simp [moff, msize]
  | t + 1 => by have := moff_add_msize n t; simp only [moff, msize]; omega

theorem moff_le (n t : Nat) : moff n t ≤ n := by have := moff_add_msize n t; omega

theorem moff_mono (n : Nat) : Monotone (moff n) :=
  monotone_nat_of_le_succ (fun t => by simp only [moff]; omega)

theorem stageOf_spec : ∀ (k n j : Nat), 0 < k →
    stageOf k n j < k ∧ moff n (stageOf k n j) ≤ j ∧ (stageOf k n j + 1 < k → j < moff n (stageOf k n j + 1))
  | 0, _, _, h => absurd h (Nat.lt_irrefl 0)
  | 1, _, _, _ => ⟨Nat.zero_lt_one, Nat.zero_le _, fun h => absurd h (Nat.lt_irrefl 1)⟩
  | k + 2, n, j, _ => by
    by_cases hj : j < (n + 1) / 2
    · rw [stageOf, if_pos hj]
      exact ⟨Nat.succ_pos _, Nat.zero_le _, fun _ => by rw [moff, moff, msize, Nat.zero_add]; exact hj⟩
    · obtain ⟨h1, h2, h3⟩ := stageOf_spec (k + 1) (n / 2) (j - (n + 1) / 2) (Nat.succ_pos _)
      rw [stageOf, if_neg hj, moff_succ', moff_succ']
      exact ⟨Nat.succ_lt_succ h1, Nat.add_le_of_le_sub' (Nat.le_of_not_lt hj) h2,
        fun h => (Nat.sub_lt_iff_lt_add' (Nat.le_of_not_lt hj)).mp (h3 (Nat.lt_of_succ_lt_succ h))⟩
theorem stageOf_unique (k n j s : Nat) (hk : 0 < k) (hs : s < k) (h1 : moff n s ≤ j)
    (h2 : s + 1 < k → j < moff n (s + 1)) : s = stageOf k n j := by
  obtain ⟨g0, g1, g2⟩ := stageOf_spec k n j hk
  rcases Nat.lt_trichotomy s (stageOf k n j) with h | h | h
  · have := moff_mono n (show s + 1 ≤ stageOf k n j by omega)
    have := h2 (by omega)
    omega
  · exact h
  · have := moff_mono n (show stageOf k n j + 1 ≤ s by omega)
    have := g2 (by omega)
    omega

theorem splitBlocks_1d (n : Nat) (l : List α) (hl : l.length = n) :
    splitBlocks (n * 1) ((n + 1) / 2 * 1) 1 l = (l.take ((n + 1) / 2), l.drop ((n + 1) / 2)) := by
  have h : l.take n = l := List.take_of_length_le (by omega)
  simp [splitBlocks, h]

theorem routeSegs_1d_getElem? : ∀ (k n : Nat) (data : List α), data.length = n → ∀ s, s < k →
    (routeSegs 1 1 k n data)[s]? = some (segOf k n data s)
  | 0, _, _, _, _, hs => absurd hs (Nat.not_lt_zero _)
  | 1, n, data, _, s, hs => by
    obtain rfl : s = 0 := Nat.lt_one_iff.mp hs
    rfl
  | k + 2, n, data, hl, s, hs => by
    rw [routeSegs, splitBlocks_1d n data hl]
    cases s with
    | zero => rw [List.getElem?_cons_zero, segOf, if_pos (Nat.succ_lt_succ (Nat.succ_pos k))]; rfl
    | succ s =>
      have hd : (data.drop ((n + 1) / 2)).length = n / 2 := by rw [List.length_drop, hl, sub_half]
      rw [List.getElem?_cons_succ, routeSegs_1d_getElem? (k + 1) (n / 2) (data.drop ((n + 1) / 2)) hd s (Nat.lt_of_succ_lt_succ hs)]
      simp only [segOf, moff_succ' n s, msize_succ' n s, List.drop_drop, Nat.add_lt_add_iff_right]
theorem routeSegs_1d (k n : Nat) (data : List α) (hl : data.length = n) :
    routeSegs 1 1 k n data = (List.range k).map (segOf k n data) := by
  apply List.ext_getElem?
  intro s
  by_cases hs : s < k
  · rw [routeSegs_1d_getElem? k n data hl s hs]; simp [hs]
  · have h1 : (routeSegs 1 1 k n data).length ≤ s := by rw [routeSegs_length]; omega
    have h2 : ((List.range k).map (segOf k n data)).length ≤ s := by simp; omega
    rw [List.getElem?_eq_none h1, List.getElem?_eq_none h2]

theorem routeSegs_1d_flatten : ∀ (k n : Nat) (data : List α), 0 < k → data.length = n →
    (routeSegs 1 1 k n data).flatten = data
  | 1, _, _, _, _ => by simp [routeSegs]
  | k + 2, n, data, _, hl => by
    have hd : (data.drop ((n + 1) / 2)).length = n / 2 := by rw [List.length_drop, hl, sub_half]
    simp only [routeSegs]
    rw [splitBlocks_1d n data hl]
    simp only [List.flatten_cons, routeSegs_1d_flatten (k + 1) (n / 2) _ k.succ_pos hd, List.take_append_drop]

theorem segOf_index (k n : Nat) (data : List α) (hk : 0 < k) (j : Nat) :
    (segOf k n data (stageOf k n j))[j - moff n (stageOf k n j)]? = data[j]? := by
  obtain ⟨_, g1, g2⟩ := stageOf_spec k n j hk
  unfold segOf
  split
  · rename_i h
    have := g2 h
    simp only [moff] at this
    rw [List.getElem?_take, if_pos (by omega), List.getElem?_drop]
    congr 1; omega
  · rw [List.getElem?_drop]; congr 1; omega

/-- **1-D items, identity stages, executed `forward`** on an object built the documented way
    (`MultiscaleCompositeTransform(k, split_dim=1)`, `add_transform` `k` times with the returned hidden shapes):
    the flat output IS the input (`flat[j] = data[j]`), it is the concatenation of the per-stage segments, and
    segment `s` is the window `[off_s, off_{s+1})` (`[off_{k-1}, n)` for the last stage) — so index `j` is emitted
    by stage `stageOf k n j`, at position `j - off_s` of that stage's output, at flat position `j`.
    No law on the log-det accumulator is assumed. -/
theorem forward_1d (A : LD L) (n : Nat) (ts : List (Tr (Item α) C L))
    (hid : ∀ t ∈ ts, IsPointwise t (fun _ => id)) (hts : ts ≠ []) (m : MS α C L)
    (hb : MS.build (ts.length : Int) (.int 1) ts [n] = .ok m)
    (data : List α) (hwf : data.length = n) (c : C) :
    (∃ l, m.forward A ⟨[n], data⟩ c = .ok (⟨[n], data⟩, l)) ∧
    (routeSegs 1 1 ts.length n data).flatten = data ∧
    routeSegs 1 1 ts.length n data = (List.range ts.length).map (segOf ts.length n data) ∧
    ∀ j, j < n →
      stageOf ts.length n j < ts.length ∧
      moff n (stageOf ts.length n j) ≤ j ∧
      (stageOf ts.length n j + 1 < ts.length → j < moff n (stageOf ts.length n j + 1)) ∧
      (routeSegs 1 1 ts.length n data)[stageOf ts.length n j]? = some (segOf ts.length n data (stageOf ts.length n j)) ∧
      (segOf ts.length n data (stageOf ts.length n j))[j - moff n (stageOf ts.length n j)]? = data[j]? := by
  have hk : 0 < ts.length := List.length_pos_iff.mpr hts
  have hflat : (routeSegs 1 1 ts.length n data).flatten = data := routeSegs_1d_flatten _ n data hk hwf
  refine ⟨?_, hflat, routeSegs_1d _ n data hwf, fun j _ => ?_⟩
  · obtain ⟨l, hl⟩ := forward_id A [] [] n ts hid hts m (by simpa using hb) data c
    refine ⟨l, ?_⟩
    have hp : prod ([] : List Nat) = 1 := rfl
    simp only [List.nil_append, hp, hflat, hwf] at hl
    exact hl
  · obtain ⟨g0, g1, g2⟩ := stageOf_spec ts.length n j hk
    exact ⟨g0, g1, g2, routeSegs_1d_getElem? _ n data hwf _ g0, segOf_index _ n data hk j⟩

/-! ## general item shape `pre ++ n :: suf`: explicit flat position -/

def segW (k n s : Nat) : Nat := if s + 1 < k then (msize n s + 1) / 2 else msize n s

/-- flat output position of input entry `(o, j, i)` (`o < P = ∏ pre`, `j < n`, `i < I = ∏ suf`): the segments of the
    stages before `s = stageOf k n j` hold `P · off_s · I` entries; inside segment `s` (shape `pre ++ w_s :: suf`)
    the entry sits at row-major position `(o · w_s + (j - off_s)) · I + i`. -/
def flatPos (P I k n o j i : Nat) : Nat :=
  P * moff n (stageOf k n j) * I + (o * segW k n (stageOf k n j) + (j - moff n (stageOf k n j))) * I + i

theorem segW_succ' (k n s : Nat) : segW (k + 2) n (s + 1) = segW (k + 1) (n / 2) s := by
  simp only [segW, msize_succ', Nat.add_lt_add_iff_right]

theorem flatPos_fst (P I k n o j i : Nat) (hjc : j < (n + 1) / 2) :
    flatPos P I (k + 2) n o j i = (o * ((n + 1) / 2) + j) * I + i := by
  rw [flatPos, stageOf, if_pos hjc, segW, if_pos (Nat.succ_lt_succ (Nat.succ_pos k))]
  simp only [moff, msize, Nat.mul_zero, Nat.zero_mul, Nat.zero_add, Nat.sub_zero]

theorem flatPos_snd (P I k n o j i : Nat) (hjc : ¬ j < (n + 1) / 2) :
    flatPos P I (k + 2) n o j i = P * ((n + 1) / 2 * I) + flatPos P I (k + 1) (n / 2) o (j - (n + 1) / 2) i := by
  simp only [flatPos, stageOf, hjc, if_false, moff_succ', segW_succ', Nat.sub_add_eq, Nat.mul_add, Nat.add_mul,
    Nat.mul_assoc, Nat.add_assoc]

theorem sub_half_lt {n j : Nat} (hj : j < n) (hjc : ¬ j < (n + 1) / 2) : j - (n + 1) / 2 < n / 2 := by omega

theorem add_half_sub {n j : Nat} (hjc : ¬ j < (n + 1) / 2) (x : Nat) : x + (n + 1) / 2 + (j - (n + 1) / 2) = x + j := by
  omega

/-- **routing with stage maps, index by index**: the entry found at `flatPos` is the input entry `(o, j, i)` mapped
    through `g_{s+1} ∘ … ∘ g₁` with `s = stageOf k n j` — exactly the stages up to the one that emits it -/
theorem routeSegs_prefix_index (P I : Nat) : ∀ (gs : List (α → α)) (n : Nat) (data : List α),
    data.length = P * (n * I) → gs ≠ [] → ∀ o j i, o < P → j < n → i < I →
      (List.zipWith (fun f seg => List.map f seg) (prefixMaps gs)
          (routeSegs P I gs.length n data)).flatten[flatPos P I gs.length n o j i]? =
        (data[(o * n + j) * I + i]?).map ((gs.take (stageOf gs.length n j + 1)).foldl (fun f g => g ∘ f) id) := by
  intro gs
  induction gs with
  | nil => exact fun _ _ _ h => absurd rfl h
  | cons g gs ih =>
    intro n data hl _ o j i ho hj hi
    cases gs with
    | nil =>
      simp [flatPos, stageOf, segW, moff, msize, routeSegs, prefixMaps]
    | cons g' gs =>
      obtain ⟨ha, hb⟩ := splitBlocks_half_length P n I data hl
      obtain ⟨ix1, ix2⟩ := splitBlocks_index P n I data (le_of_eq hl.symm)
      have hz : (List.zipWith (fun f seg => List.map f seg) (prefixMaps (g :: g' :: gs))
            (routeSegs P I (g :: g' :: gs).length n data)).flatten =
          (splitBlocks (n * I) ((n + 1) / 2 * I) P data).1.map g ++
            (List.zipWith (fun f seg => List.map f seg) (prefixMaps (g' :: gs))
              (routeSegs P I (g' :: gs).length (n / 2)
                ((splitBlocks (n * I) ((n + 1) / 2 * I) P data).2.map g))).flatten := by
        simp only [List.length_cons, routeSegs]
        rw [show prefixMaps (g :: g' :: gs) = g :: (prefixMaps (g' :: gs)).map (fun f => f ∘ g) from rfl]
        simp only [List.zipWith_cons_cons, List.flatten_cons, zipWith_prefix, routeSegs_map]
      rw [hz]
      simp only [List.length_cons] at ih ⊢
      by_cases hjc : j < (n + 1) / 2
      · rw [flatPos_fst _ _ _ _ _ _ _ hjc, List.getElem?_append_left (by rw [List.length_map, ha, ← Nat.mul_assoc]; exact RowMajor.lt3 ho hjc hi), List.getElem?_map,
          ix1 o j i ho hjc hi]
        simp [stageOf, hjc]
      · have ih := ih (n / 2)
          ((splitBlocks (n * I) ((n + 1) / 2 * I) P data).2.map g) (by rw [List.length_map, hb]) (by simp)
          o (j - (n + 1) / 2) i ho (sub_half_lt hj hjc) hi
        rw [flatPos_snd _ _ _ _ _ _ _ hjc, List.getElem?_append_right (by rw [List.length_map, ha]; exact Nat.le_add_right _ _), List.length_map,
          ha, Nat.add_sub_cancel_left, ih, List.getElem?_map, ix2 o (j - (n + 1) / 2) i ho (sub_half_lt hj hjc) hi,
          add_half_sub hjc]
        simp only [stageOf, hjc, if_false, List.take_succ_cons, List.foldl_cons, Option.map_map]
        rw [foldl_comp_init _ (g' ∘ id), foldl_comp_init _ (g' ∘ g ∘ id)]
        rfl

theorem foldl_comp_all_id : ∀ (l : List (α → α)), (∀ g ∈ l, g = id) → l.foldl (fun f g => g ∘ f) id = id
  | [], _ => rfl
  | g :: l, h => by
    rw [List.foldl_cons, h g List.mem_cons_self]
    exact foldl_comp_all_id l fun g' hg' => h g' (List.mem_cons_of_mem _ hg')

theorem routeSegs_flatten_index (P I : Nat) : ∀ (k n : Nat) (data : List α), data.length = P * (n * I) → 0 < k →
    ∀ o j i, o < P → j < n → i < I →
      (routeSegs P I k n data).flatten[flatPos P I k n o j i]? = data[(o * n + j) * I + i]? :=
  fun k n data hl hk o j i ho hj hi => by
    have h := routeSegs_prefix_index P I (List.replicate k id) n data hl
      (fun e => by rw [List.replicate_eq_nil_iff] at e; omega) o j i ho hj hi
    rw [List.length_replicate,
      zipWith_prefixMaps_id _ _ _ (fun g hg => List.eq_of_mem_replicate hg) List.length_replicate,
      foldl_comp_all_id _ fun g hg => List.eq_of_mem_replicate (List.mem_of_mem_take hg), Option.map_id, id_eq] at h
    exact h

/-- **general shape, identity stages, executed `forward`**: for an object built the documented way on item shape
    `pre ++ n :: suf` (`split_dim = pre.length + 1`), input entry `(o, j, i)` — row-major position
    `(o·n + j)·∏suf + i` — is found at flat output position `flatPos`: after the `∏pre · off_s · ∏suf` entries
    emitted by the stages before `s = stageOf k n j`, at row-major position `(o, j - off_s, i)` of a block of shape
    `pre ++ w_s :: suf`.  No law on the log-det accumulator is assumed. -/
theorem forward_index (A : LD L) (pre suf : List Nat) (n : Nat) (ts : List (Tr (Item α) C L))
    (hid : ∀ t ∈ ts, IsPointwise t (fun _ => id)) (hts : ts ≠ []) (m : MS α C L)
    (hb : MS.build (ts.length : Int) (.int ((pre.length : Int) + 1)) ts (pre ++ n :: suf) = .ok m)
    (data : List α) (hwf : data.length = prod (pre ++ n :: suf)) (c : C) :
    ∃ flat l, m.forward A ⟨pre ++ n :: suf, data⟩ c = .ok (⟨[prod (pre ++ n :: suf)], flat⟩, l) ∧
      flat = (routeSegs (prod pre) (prod suf) ts.length n data).flatten ∧
      ∀ o j i, o < prod pre → j < n → i < prod suf →
        flat[flatPos (prod pre) (prod suf) ts.length n o j i]? = data[(o * n + j) * prod suf + i]? := by
  have hk : 0 < ts.length := List.length_pos_iff.mpr hts
  have hl : data.length = prod pre * (n * prod suf) := by rw [hwf, prod_mid]
  obtain ⟨l, hf⟩ := forward_id A pre suf n ts hid hts m hb data c
  have hlen : ((routeSegs (prod pre) (prod suf) ts.length n data).flatten).length = prod (pre ++ n :: suf) := by
    rw [(routeSegs_perm _ _ _ n data hk hl).length_eq, hwf]
  refine ⟨_, l, ?_, rfl, routeSegs_flatten_index (prod pre) (prod suf) ts.length n data hl hk⟩
  rw [hf, hlen]

/-! ## element-wise stages: which stages an entry went through, index by index (law-free) -/

/-- **general shape, element-wise stages, executed `forward`, law-free**: input entry `(o, j, i)` is found at flat
    position `flatPos`, mapped through the stages `1 … stageOf k n j + 1` in that order and through no later stage. -/
theorem forward_pointwise_index (A : LD L) (pre suf : List Nat) (n : Nat) (ts : List (Tr (Item α) C L))
    (gs : List (C → α → α)) (hpw : List.Forall₂ IsPointwise ts gs) (hts : ts ≠ []) (m : MS α C L)
    (hb : MS.build (ts.length : Int) (.int ((pre.length : Int) + 1)) ts (pre ++ n :: suf) = .ok m)
    (data : List α) (hwf : data.length = prod (pre ++ n :: suf)) (c : C) :
    ∃ flat l, m.forward A ⟨pre ++ n :: suf, data⟩ c = .ok (⟨[flat.length], flat⟩, l) ∧
      ∀ o j i, o < prod pre → j < n → i < prod suf →
        flat[flatPos (prod pre) (prod suf) ts.length n o j i]? =
          (data[(o * n + j) * prod suf + i]?).map
            (((gs.map (fun g => g c)).take (stageOf ts.length n j + 1)).foldl (fun f g => g ∘ f) id) := by
  have hlen : gs.length = ts.length := hpw.length_eq.symm
  have hl : data.length = prod pre * (n * prod suf) := by rw [hwf, prod_mid]
  obtain ⟨l, hf⟩ := forward_pointwise A pre suf n ts gs hpw hts m hb data c
  refine ⟨_, l, hf, ?_⟩
  have hne : gs.map (fun g => g c) ≠ [] := by
    rw [Ne, List.map_eq_nil_iff, ← List.length_eq_zero_iff, hlen, List.length_eq_zero_iff]
    exact hts
  have h := routeSegs_prefix_index (prod pre) (prod suf) (gs.map (fun g => g c)) n data hl hne
  rw [List.length_map, hlen] at h
  exact h

/-! ## reachable objects have a positive `split_dim` -/

theorem new_splitDim_pos {numT : Int} {sd : PyArg} {m : MS α C L} (h : MS.new numT sd = .ok m) : 0 < m.splitDim := by
  cases sd with
  | int v =>
    simp only [MS.new] at h
    split at h
    · obtain rfl := Except.ok.inj h
      show 0 < v.toNat
      omega
    · cases h
  | other => cases h

theorem addTransform_splitDim {m m' : MS α C L} {t : Tr (Item α) C L} {shape : List Nat} {r : Option (List Nat)}
    (h : m.addTransform t shape = .ok (m', r)) : m'.splitDim = m.splitDim ∧ m'.numTransforms = m.numTransforms := by
  obtain ⟨s, rfl⟩ := addTransform_ok_fst h
  exact ⟨rfl, rfl⟩

theorem addChain_splitDim : ∀ (ts : List (Tr (Item α) C L)) (m m' : MS α C L) (sh : Option (List Nat)),
    addChain m ts sh = .ok m' → m'.splitDim = m.splitDim
  | [], m, m', _, h => by
    simp only [addChain] at h
    obtain rfl := Except.ok.inj h
    rfl
  | _ :: _, _, _, none, h => by simp [addChain] at h
  | t :: ts, m, m', some shape, h => by
    simp only [addChain] at h
    split at h
    · cases h
    · rename_i m1 hid heq
      rw [addChain_splitDim ts m1 m' hid h, (addTransform_splitDim heq).1]

theorem build_splitDim_pos {numT : Int} {sd : PyArg} {ts : List (Tr (Item α) C L)} {shape : List Nat} {m : MS α C L}
    (h : MS.build numT sd ts shape = .ok m) : 0 < m.splitDim := by
  unfold MS.build at h
  split at h
  · cases h
  · rename_i m0 h0
    rw [addChain_splitDim ts m0 m _ h]
    exact new_splitDim_pos h0

/-- the object states reachable through the public interface: `__init__`, then any number of successful
    `add_transform` calls -/
inductive Reachable : MS α C L → Prop
  | new {numT : Int} {sd : PyArg} {m : MS α C L} : MS.new numT sd = .ok m → Reachable m
  | add {m m' : MS α C L} {t : Tr (Item α) C L} {shape : List Nat} {r : Option (List Nat)} :
      Reachable m → m.addTransform t shape = .ok (m', r) → Reachable m'

theorem Reachable.splitDim_pos {m : MS α C L} (h : Reachable m) : 0 < m.splitDim := by
  induction h with
  | new h0 => exact new_splitDim_pos h0
  | add _ h1 ih => rw [(addTransform_splitDim h1).1]; exact ih

/-- **`add_transform` error contract on reachable states** (`split_dim = d + 1`, so `split_dim - 1 = d` is a genuine
    non-negative Python index into the declared shape; no truncated subtraction is involved) -/
theorem addTransform_errors_pos (m : MS α C L) (d : Nat) (hd : m.splitDim = d + 1) (t : Tr (Item α) C L)
    (shape : List Nat) :
    (m.numTransforms < m.transforms.length → m.addTransform t shape = .error .assertion) ∧
    (m.numTransforms = m.transforms.length → m.addTransform t shape = .error .runtime) ∧
    ((m.transforms.length : Int) < m.numTransforms → shape.length ≤ d →
      m.addTransform t shape = .error .valueError) ∧
    ((m.transforms.length : Int) < m.numTransforms → ∀ v, shape[d]? = some v → v < 2 →
      m.addTransform t shape = .error .valueError) := by
  obtain ⟨e1, e2, e3, e4⟩ := addTransform_errors m t shape
  rw [hd, Nat.add_sub_cancel] at e3 e4
  refine ⟨e1, e2, e3, fun h v hv h'' => e4 h ?_ ?_⟩
  · by_contra hc
    rw [List.getElem?_eq_none (Nat.le_of_not_lt hc)] at hv
    cases hv
  · rwa [List.getD_eq_getElem?_getD, hv]

theorem Reachable.exists_dim {m : MS α C L} (h : Reachable m) : ∃ d, m.splitDim = d + 1 :=
  ⟨m.splitDim - 1, by have := h.splitDim_pos; omega⟩

/-! ## concrete checks (`decide`), agreeing with the executed functions -/

def idStage : Tr (Item Nat) Unit Nat := ⟨fun x _ => .ok (x, 0), fun x _ => .ok (x, 0)⟩

theorem idStage_pointwise : IsPointwise idStage (fun _ => id) := fun x _ => ⟨0, by simp [idStage]⟩

/-- an accumulator that satisfies NO monoid law (`zero = 7`, `add a b = 2a + b`) -/
def oddLD : LD Nat := ⟨7, fun a b => 2 * a + b⟩

/-- 1-D, `n = 5`, two stages: `[0,1,2 | 3,4]` -/
example :
    ((MS.build 2 (.int 1) [idStage, idStage] [5] >>= fun m =>
        m.forward oddLD ⟨[5], [0, 1, 2, 3, 4]⟩ ()).toOption.map (fun r => (r.1.shape, r.1.data))) =
      some ([5], [0, 1, 2, 3, 4]) ∧
    routeSegs 1 1 2 5 [0, 1, 2, 3, 4] = [[0, 1, 2], [3, 4]] ∧
    (List.range 2).map (segOf 2 5 [0, 1, 2, 3, 4]) = [[0, 1, 2], [3, 4]] ∧
    (List.range 5).map (stageOf 2 5) = [0, 0, 0, 1, 1] ∧
    (List.range 2).map (moff 5) = [0, 3] := by decide

/-- 1-D, `n = 9`, three stages: `9 → 5 | 4 → 2 | 2`: `[0,1,2,3,4 | 5,6 | 7,8]` -/
example :
    ((MS.build 3 (.int 1) [idStage, idStage, idStage] [9] >>= fun m =>
        m.forward oddLD ⟨[9], [0, 1, 2, 3, 4, 5, 6, 7, 8]⟩ ()).toOption.map (fun r => (r.1.shape, r.1.data))) =
      some ([9], [0, 1, 2, 3, 4, 5, 6, 7, 8]) ∧
    routeSegs 1 1 3 9 [0, 1, 2, 3, 4, 5, 6, 7, 8] = [[0, 1, 2, 3, 4], [5, 6], [7, 8]] ∧
    (List.range 3).map (segOf 3 9 [0, 1, 2, 3, 4, 5, 6, 7, 8]) = [[0, 1, 2, 3, 4], [5, 6], [7, 8]] ∧
    (List.range 9).map (stageOf 3 9) = [0, 0, 0, 0, 0, 1, 1, 2, 2] ∧
    (List.range 3).map (moff 9) = [0, 5, 7] ∧ (List.range 3).map (msize 9) = [9, 4, 2] := by decide

/-- the hypotheses of `forward_1d` are satisfiable: the theorem instantiated on the example above -/
example : ∃ m : MS Nat Unit Nat, MS.build 3 (.int 1) [idStage, idStage, idStage] [9] = .ok m ∧
    ∃ l, m.forward oddLD ⟨[9], [0, 1, 2, 3, 4, 5, 6, 7, 8]⟩ () = .ok (⟨[9], [0, 1, 2, 3, 4, 5, 6, 7, 8]⟩, l) := by
  have hb := build_ok (C := Unit) (L := Nat) [] [] [idStage, idStage, idStage] 9 (by simp) (by decide)
  refine ⟨_, hb, ?_⟩
  exact (forward_1d oddLD 9 [idStage, idStage, idStage]
    (fun t ht => by
      simp only [List.mem_cons, List.not_mem_nil, or_false, or_self] at ht
      rw [ht]; exact idStage_pointwise)
    (by simp) _ hb _ rfl ()).1

/-- general shape `[2, 5]`, split along the last dimension, two stages: executed output, and `flatPos` locates every
    input entry `(o, j)` in it -/
example :
    ((MS.build 2 (.int 2) [idStage, idStage] [2, 5] >>= fun m =>
        m.forward oddLD ⟨[2, 5], [0, 1, 2, 3, 4, 10, 11, 12, 13, 14]⟩ ()).toOption.map (fun r => (r.1.shape, r.1.data))) =
      some ([10], [0, 1, 2, 10, 11, 12, 3, 4, 13, 14]) ∧
    ((List.range 2).all fun o => (List.range 5).all fun j =>
      [0, 1, 2, 10, 11, 12, 3, 4, 13, 14][flatPos 2 1 2 5 o j 0]? == [0, 1, 2, 3, 4, 10, 11, 12, 13, 14][o * 5 + j]?) = true ∧
    (List.range 5).map (fun j => flatPos 2 1 2 5 1 j 0) = [3, 4, 5, 8, 9] := by decide

/-- the hypotheses of `forward_index` are satisfiable: instantiated at shape `[2, 5]`, `split_dim = 2`, two stages -/
example : ∃ (m : MS Nat Unit Nat) (flat : List Nat) (l : Nat),
    MS.build 2 (.int 2) [idStage, idStage] [2, 5] = .ok m ∧
    m.forward oddLD ⟨[2, 5], [0, 1, 2, 3, 4, 10, 11, 12, 13, 14]⟩ () = .ok (⟨[10], flat⟩, l) ∧
    ∀ o j, o < 2 → j < 5 → flat[flatPos 2 1 2 5 o j 0]? = [0, 1, 2, 3, 4, 10, 11, 12, 13, 14][(o * 5 + j) * 1 + 0]? := by
  have hb := build_ok (C := Unit) (L := Nat) [2] [] [idStage, idStage] 5 (by simp) (by decide)
  obtain ⟨flat, l, h1, _, h3⟩ := forward_index oddLD [2] [] 5 [idStage, idStage]
    (fun t ht => by
      simp only [List.mem_cons, List.not_mem_nil, or_false, or_self] at ht
      rw [ht]; exact idStage_pointwise)
    (by simp) _ hb [0, 1, 2, 3, 4, 10, 11, 12, 13, 14] (by decide) ()
  exact ⟨_, flat, l, hb, h1, fun o j ho hj => h3 o j 0 (by simpa [prod] using ho) hj (by decide)⟩

/-- shape `[4, 3]`, split along the FIRST dimension (`split_dim = 1`), two stages: rows 0,1 first, then rows 2,3 -/
example :
    ((MS.build 2 (.int 1) [idStage, idStage] [4, 3] >>= fun m =>
        m.forward oddLD ⟨[4, 3], [0, 1, 2, 10, 11, 12, 20, 21, 22, 30, 31, 32]⟩ ()).toOption.map (fun r => r.1.data)) =
      some [0, 1, 2, 10, 11, 12, 20, 21, 22, 30, 31, 32] ∧
    (List.range 4).map (fun j => flatPos 1 3 2 4 0 j 1) = [1, 4, 7, 10] := by decide

/-- element-wise stages `+1` then `*2` on `[5]`: the emitted half `[0,1,2]` saw only `+1`, the rest saw both -/
example :
    let inc : Tr (Item Nat) Unit Nat := ⟨fun x _ => .ok (⟨x.shape, x.data.map (· + 1)⟩, 0), fun x _ => .ok (x, 0)⟩
    let dbl : Tr (Item Nat) Unit Nat := ⟨fun x _ => .ok (⟨x.shape, x.data.map (· * 2)⟩, 0), fun x _ => .ok (x, 0)⟩
    ((MS.build 2 (.int 1) [inc, dbl] [5] >>= fun m =>
        m.forward oddLD ⟨[5], [0, 1, 2, 3, 4]⟩ ()).toOption.map (fun r => r.1.data)) = some [1, 2, 3, 8, 10] := by
  decide

/-- `split_dim = 0`, negative and non-`int` are rejected by `__init__` -/
example :
    ((MS.new 3 (.int 0) : Except Err (MS Nat Unit Nat)).toOption.map (·.splitDim)) = none ∧
    ((MS.new 3 (.int (-1)) : Except Err (MS Nat Unit Nat)).toOption.map (·.splitDim)) = none ∧
    ((MS.new 3 .other : Except Err (MS Nat Unit Nat)).toOption.map (·.splitDim)) = none ∧
    ((MS.new 3 (.int 1) : Except Err (MS Nat Unit Nat)).toOption.map (·.splitDim)) = some 1 := by decide

end NF.Wrap
