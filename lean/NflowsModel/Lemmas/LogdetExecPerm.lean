import NflowsModel.Lemmas.FlowWholeND
import NflowsModel.Lemmas.SqueezeIndex
import NflowsModel.Lemmas.PermuteDim
import NflowsModel.Lemmas.ViewLayout
import NflowsModel.Core.Reshape
import NflowsModel.Core.Ops.C08
import Mathlib.Tactic
/-!
# Lemmas/LogdetExecPerm — the executed `Permutation` (any dimension ≥ 1 of any shape) and `SqueezeTransform` (any factor)
permute the coordinates of every flattened batch item, so `log |det J| = 0` (C01); their array round trips (C02) and exact
error conditions (C17)

`Core/Reshape.permuteDim`, `squeezeFwd`, `squeezeInv` return only the output array; the constant zero log-det of
permutations.py:38 / reshape.py:49,68 is produced in `Core` only by the per-item `NF.C08.permApply` (the literal `0.0`), and
by nothing for the squeeze.  The theorems say why `0` is the right value: every output item is `x ∘ σ` of the same input item
for ONE permutation `σ` of the item coordinates (`ItemReindex`), read off the mixed-radix index arithmetic of the programs;
the Jacobian is then a permutation matrix.  Both round trips are instances of `gather_gather`.

What the model accepts and the code does not (each a theorem): a `perm` that is not a permutation (shared with the code:
the item map is then singular and the reported `0` is wrong, so `IsPerm` is a forced hypothesis), `dim = 0` (refused by
permutations.py:15; batch items would be exchanged), an out-of-range entry (torch's `index_select` raises).
Not covered: `dim = 0`.
-/
open NF FlowWholeND Properties.C03

namespace LogdetExec

/-! ## 0. Digits of an index shifted by whole batch items (digits of the index itself: `Lemmas/RowMajor.lean`) -/

theorem shift_mod (b P n I i : ℕ) : (b * (P * n * I) + i) % I = i % I := by
  have : b * (P * n * I) + i = i + (b * P * n) * I := by ring
  rw [this, Nat.add_mul_mod_self_right]

theorem shift_mid (b P n I i : ℕ) (hI : 0 < I) : (b * (P * n * I) + i) / I % n = i / I % n := by
  have : b * (P * n * I) + i = i + (b * P * n) * I := by ring
  rw [this, Nat.add_mul_div_right _ _ hI]
  have : i / I + b * P * n = i / I + (b * P) * n := by ring
  rw [this, Nat.add_mul_mod_self_right]

theorem shift_hi (b P n I i : ℕ) (hI : 0 < I) (hn : 0 < n) : (b * (P * n * I) + i) / (I * n) = i / (I * n) + b * P := by
  have : b * (P * n * I) + i = i + (b * P) * (I * n) := by ring
  rw [this, Nat.add_mul_div_right _ _ (Nat.mul_pos hI hn)]

theorem shift_digits (b C H W i : ℕ) (hi : i < C * H * W) :
    (b * (C * H * W) + i) % W = i % W ∧ (b * (C * H * W) + i) / W % H = i / W % H
      ∧ (b * (C * H * W) + i) / (W * H) % C = i / (W * H) % C ∧ (b * (C * H * W) + i) / (W * H * C) = b := by
  obtain ⟨hC, hH, hW⟩ := RowMajor.pos3 hi
  refine ⟨shift_mod b C H W i, shift_mid b C H W i hW, ?_, ?_⟩
  · rw [shift_hi b C H W i hW hH, Nat.add_mul_mod_self_right]
  · have : b * (C * H * W) + i = i + b * (W * H * C) := by ring
    rw [this, Nat.add_mul_div_right _ _ (Nat.mul_pos (Nat.mul_pos hW hH) hC),
      Nat.div_eq_of_lt (by calc i < C * H * W := hi
                            _ = W * H * C := by ring), Nat.zero_add]

/-! ## 1. Reindexing the coordinates by a permutation: `|det J| = 1`, `log |det J| = 0` -/

theorem reindex_abs_det {N : ℕ} (σ : Equiv.Perm (Fin N)) :
    (∀ x : Fin N → ℝ, HasFDerivAt (fun (v : Fin N → ℝ) (k : Fin N) => v (σ k)) (matCLM (σ.permMatrix ℝ)) x)
    ∧ Function.Bijective (fun (v : Fin N → ℝ) (k : Fin N) => v (σ k))
    ∧ (∀ v : Fin N → ℝ, matCLM (σ.permMatrix ℝ) v = fun k => v (σ k))
    ∧ |(matCLM (σ.permMatrix ℝ)).det| = 1
    ∧ Real.log |(matCLM (σ.permMatrix ℝ)).det| = 0 := by
  have hd : |(matCLM (σ.permMatrix ℝ)).det| = 1 := by
    have h : |(matCLM (σ.permMatrix ℝ)).det| = Real.exp 0 := (permDiffeo σ).ld_eq 0
    rw [h, Real.exp_zero]
  refine ⟨(permDiffeo σ).deriv, (permDiffeo σ).bij, ?_, hd, by rw [hd, Real.log_one]⟩
  intro v
  rw [matCLM_apply, Matrix.permMatrix_mulVec]
  rfl

noncomputable def permOf (N : ℕ) (g : ℕ → ℕ) (hmap : ∀ i, i < N → g i < N)
    (hinj : ∀ i j, i < N → j < N → g i = g j → i = j) : Equiv.Perm (Fin N) :=
  Equiv.ofBijective (fun k => ⟨g k, hmap k k.2⟩) (by
    have hi : Function.Injective (fun k : Fin N => (⟨g k, hmap k k.2⟩ : Fin N)) := by
      intro a b h
      exact Fin.ext (hinj a b a.2 b.2 (Fin.mk.inj_iff.1 h))
    exact ⟨hi, Finite.injective_iff_surjective.1 hi⟩)

@[simp] theorem permOf_apply (N : ℕ) (g : ℕ → ℕ) (hmap : ∀ i, i < N → g i < N)
    (hinj : ∀ i j, i < N → j < N → g i = g j → i = j) (k : Fin N) : ((permOf N g hmap hinj k : Fin N) : ℕ) = g k := rfl

/-- **every batch item of `y` is the reindexing by `σ` of the same batch item of `x`** (`[B, N]` flat layouts) -/
structure ItemReindex (B N : ℕ) (x y : Array ℝ) (σ : Equiv.Perm (Fin N)) : Prop where
  size : y.size = B * N
  item : ∀ b, b < B → ∀ k : Fin N, y[b * N + k]? = some ((permDiffeo σ).T (batchRow x N b) k)

theorem ItemReindex.getElem? {B N : ℕ} {x y : Array ℝ} {σ : Equiv.Perm (Fin N)} (h : ItemReindex B N x y σ)
    (hx : x.size = B * N) (b : ℕ) (hb : b < B) (k : Fin N) : y[b * N + k]? = x[b * N + (σ k : ℕ)]? := by
  rw [h.item b hb k]
  have hlt : b * N + (σ k : ℕ) < x.size := hx ▸ RowMajor.lt2 hb (σ k).2
  simp [batchRow, hlt]

theorem ItemReindex.logdet {B N : ℕ} {x y : Array ℝ} {σ : Equiv.Perm (Fin N)} (_h : ItemReindex B N x y σ) :
    (∀ v, HasFDerivAt (permDiffeo σ).T (matCLM (σ.permMatrix ℝ)) v)
    ∧ Function.Bijective (permDiffeo σ).T
    ∧ |(matCLM (σ.permMatrix ℝ)).det| = Real.exp 0
    ∧ Real.log |(matCLM (σ.permMatrix ℝ)).det| = 0
    ∧ ∀ v, (permDiffeo σ).ld v = 0 := by
  obtain ⟨h1, h2, _, h4, h5⟩ := reindex_abs_det σ
  exact ⟨h1, h2, by rw [h4, Real.exp_zero], h5, fun _ => rfl⟩

theorem gather_item (B N : ℕ) (src g : ℕ → ℕ) (hsrc : ∀ b i, b < B → i < N → src (b * N + i) = b * N + g i)
    (σ : Equiv.Perm (Fin N)) (hσ : ∀ k, (σ k : ℕ) = g k) (x : Array ℝ) :
    ItemReindex B N x ((List.range (B * N)).map (fun o => x.getD (src o) 0)).toArray σ := by
  refine ⟨by simp only [List.size_toArray, List.length_map, List.length_range], ?_⟩
  intro b hb k
  have hlt := RowMajor.lt2 hb k.2
  simp only [Array.getD_eq_getD_getElem?, List.size_toArray, List.length_map, List.length_range, hlt,
    getElem?_pos, List.getElem_toArray, List.getElem_map, List.getElem_range, hsrc b k hb k.2, permDiffeo_T, batchRow,
    hσ k]

theorem gather_gather {α : Type} (x : Array α) (d : α) (N M : ℕ) (s t : ℕ → ℕ) (hN : x.size = N)
    (ht : ∀ o, o < N → t o < M ∧ s (t o) = o) :
    ((List.range N).map fun o => ((List.range M).map fun i => x.getD (s i) d).toArray.getD (t o) d).toArray = x := by
  apply Array.ext
  · simp only [List.size_toArray, List.length_map, List.length_range, hN]
  · intro o h1 h2
    obtain ⟨h3, h4⟩ := ht o (hN ▸ h2)
    simp only [Array.getD_eq_getD_getElem?, List.getElem?_toArray, List.getElem?_map, List.getElem_toArray,
      List.getElem_map, List.getElem_range, List.length_range, h3, getElem?_pos, Option.map_some, h4, h2,
      Option.getD_some]

/-! ## 2. The executed `Permutation` on any dimension `dim ≥ 1` of any shape -/

/-- product of a shape, as `permuteDim` folds it -/
def fprod (l : List ℕ) : ℕ := l.foldl (· * ·) 1

theorem fprod_cons (a : ℕ) (l : List ℕ) : fprod (a :: l) = a * fprod l := by
  unfold fprod
  rw [List.foldl_cons, View.foldl_mul, Nat.one_mul]

theorem fprod_mid (pre suf : List ℕ) (n : ℕ) : fprod (pre ++ n :: suf) = fprod pre * n * fprod suf := by
  induction pre with
  | nil => rw [List.nil_append, fprod_cons]; simp [fprod]
  | cons a l ih => rw [List.cons_append, fprod_cons, ih, fprod_cons]; ring

structure IsPerm (n : ℕ) (perm : List ℕ) : Prop where
  length : perm.length = n
  lt : ∀ k, k < n → perm.getD k 0 < n
  inj : ∀ a b, a < n → b < n → perm.getD a 0 = perm.getD b 0 → a = b

theorem isPerm_of_nodup {n : ℕ} {perm : List ℕ} (hlen : perm.length = n) (hnd : perm.Nodup) (hlt : ∀ v ∈ perm, v < n) :
    IsPerm n perm := by
  refine ⟨hlen, ?_, ?_⟩
  · intro k hk
    have hk' : k < perm.length := hlen ▸ hk
    rw [List.getD_eq_getElem _ _ hk']
    exact hlt _ (List.getElem_mem hk')
  · intro a b ha hb h
    have ha' : a < perm.length := hlen ▸ ha
    have hb' : b < perm.length := hlen ▸ hb
    rw [List.getD_eq_getElem _ _ ha', List.getD_eq_getElem _ _ hb'] at h
    exact (hnd.getElem_inj_iff).1 h

theorem isPerm_permList {n : ℕ} (σ : Equiv.Perm (Fin n)) : IsPerm n (permList σ) := by
  refine ⟨by simp [permList], ?_, ?_⟩
  · intro k hk
    simp [permList, hk]
  · intro a b ha hb h
    simp only [permList, List.getD_eq_getElem?_getD, List.getElem?_ofFn, ha, hb, dite_true, Option.getD_some] at h
    have := σ.injective (Fin.ext h)
    exact Fin.mk.inj_iff.1 this

/-- the per-item source index of `index_select` on a dimension of size `n` with `I` trailing elements -/
def permSrc (n I : ℕ) (perm : List ℕ) (o : ℕ) : ℕ := (o / (I * n) * n + perm.getD (o / I % n) 0) * I + o % I

theorem permSrc_shift (b P n I i : ℕ) (perm : List ℕ) (hI : 0 < I) (hn : 0 < n) :
    permSrc n I perm (b * (P * n * I) + i) = b * (P * n * I) + permSrc n I perm i := by
  unfold permSrc
  rw [shift_mod, shift_mid _ _ _ _ _ hI, shift_hi _ _ _ _ _ hI hn]
  ring

theorem permSrc_lt {P n I i : ℕ} {perm : List ℕ} (hp : IsPerm n perm) (hi : i < P * n * I) :
    permSrc n I perm i < P * n * I := by
  obtain ⟨_, hn, hI⟩ := RowMajor.pos3 hi
  exact RowMajor.lt3 (RowMajor.hi_lt3 hi) (hp.lt _ (Nat.mod_lt _ hn)) (Nat.mod_lt _ hI)

theorem permSrc_inj {P n I i j : ℕ} {perm : List ℕ} (hp : IsPerm n perm) (hi : i < P * n * I) (_hj : j < P * n * I)
    (h : permSrc n I perm i = permSrc n I perm j) : i = j := by
  obtain ⟨_, hn, hI⟩ := RowMajor.pos3 hi
  unfold permSrc at h
  obtain ⟨hq, hpp, hr⟩ := RowMajor.inj3 (hp.lt _ (Nat.mod_lt _ hn)) (hp.lt _ (Nat.mod_lt _ hn)) (Nat.mod_lt _ hI)
    (Nat.mod_lt _ hI) h
  have hk := hp.inj _ _ (Nat.mod_lt _ hn) (Nat.mod_lt _ hn) hpp
  rw [← RowMajor.recon3 i n I, ← RowMajor.recon3 j n I, hq, hk, hr]

noncomputable def permSigma (P n I : ℕ) (perm : List ℕ) (hp : IsPerm n perm) : Equiv.Perm (Fin (P * n * I)) :=
  permOf (P * n * I) (permSrc n I perm) (fun _ hi => permSrc_lt hp hi) (fun _ _ hi hj h => permSrc_inj hp hi hj h)

@[simp] theorem permSigma_apply (P n I : ℕ) (perm : List ℕ) (hp : IsPerm n perm) (k : Fin (P * n * I)) :
    ((permSigma P n I perm hp k : Fin (P * n * I)) : ℕ) = permSrc n I perm k := rfl

theorem permuteDim_mid {α : Type} (B n : ℕ) (pre suf perm : List ℕ) (hperm : perm.length = n) (x : Array α) (d : α) :
    NF.permuteDim (B :: (pre ++ n :: suf)) (pre.length + 1) perm x d
      = .ok ((List.range (B * (fprod pre * n * fprod suf))).map
          (fun o => x.getD (permSrc n (fprod suf) perm o) d)).toArray := by
  unfold NF.permuteDim
  have h1 : ¬ (pre.length + 1 ≥ (B :: (pre ++ n :: suf)).length) := by simp
  have h2 : (B :: (pre ++ n :: suf)).getD (pre.length + 1) 0 = n := by simp
  have h3 : (B :: (pre ++ n :: suf)).drop (pre.length + 1 + 1) = suf := by simp
  have h4 : (B :: (pre ++ n :: suf)).foldl (· * ·) 1 = B * (fprod pre * n * fprod suf) := by
    have := fprod_cons B (pre ++ n :: suf)
    rw [fprod_mid] at this
    exact this
  rw [if_neg h1, h2, h3, h4, hperm]
  simp only [bne_self_eq_false, Bool.false_eq_true, if_false, permSrc, fprod]

/-- **C01, `Permutation` on any dimension of any shape.**  For a tensor of shape `B :: pre ++ n :: suf` (batch first)
    and `dim = |pre| + 1`, `perm` a permutation of `range n`: the executed `permuteDim` does not raise, its output has
    the input's size, and every batch item of the output is the reindexing of the same batch item of the input by ONE
    permutation `σ` of the `P·n·I` item coordinates (`P = ∏ pre`, `I = ∏ suf`), `σ i = permSrc n I perm i`
    `= ((i / (I·n))·n + perm[(i / I) % n])·I + i % I`. -/
theorem permuteDim_item_is_reindex (B n : ℕ) (pre suf perm : List ℕ) (hp : IsPerm n perm) (x : Array ℝ) :
    ∃ y, NF.permuteDim (B :: (pre ++ n :: suf)) (pre.length + 1) perm x 0 = .ok y
      ∧ ItemReindex B (fprod pre * n * fprod suf) x y (permSigma (fprod pre) n (fprod suf) perm hp) := by
  refine ⟨_, permuteDim_mid B n pre suf perm hp.length x 0, ?_⟩
  apply gather_item B _ (permSrc n (fprod suf) perm) (permSrc n (fprod suf) perm) _ _ (fun k => rfl)
  intro b i _ hi
  obtain ⟨_, hn, hI⟩ := RowMajor.pos3 hi
  exact permSrc_shift b _ n _ i perm hI hn

theorem ItemReindex.cast {B M N : ℕ} (hMN : M = N) {x y : Array ℝ} {σ : Equiv.Perm (Fin M)} (h : ItemReindex B M x y σ) :
    ∃ σ' : Equiv.Perm (Fin N), ItemReindex B N x y σ' ∧ ∀ k : Fin N, (σ' k : ℕ) = (σ (Fin.cast hMN.symm k) : ℕ) := by
  subst hMN
  exact ⟨σ, h, fun _ => rfl⟩

theorem split_at (rest : List ℕ) (d : ℕ) (hd : d < rest.length) :
    ∃ pre suf, rest = pre ++ rest.getD d 0 :: suf ∧ pre.length = d := by
  refine ⟨rest.take d, rest.drop (d + 1), ?_, by simp; omega⟩
  rw [List.getD_eq_getElem _ _ hd, List.getElem_cons_drop, List.take_append_drop]

/-- **the fully general form**: `shape = B :: rest` (batch first), `1 ≤ dim < shape.length`, `perm` a permutation of
    `range (shape[dim])`.  The executed `Permutation` returns an array of the same size in which every batch item is ONE
    coordinate permutation `σ` (of `Fin N`, `N = ∏ rest`) of the same input item; hence (`ItemReindex.logdet`) the item map
    has `|det J| = 1` and the log-det the code returns, the constant `0` (permutations.py:38), is `log |det J|`. -/
theorem permuteDim_item_is_reindex_general (B : ℕ) (rest : List ℕ) (dim : ℕ) (h1 : 1 ≤ dim) (h2 : dim < (B :: rest).length)
    (perm : List ℕ) (hp : IsPerm ((B :: rest).getD dim 0) perm) (x : Array ℝ) :
    ∃ (y : Array ℝ) (σ : Equiv.Perm (Fin (fprod rest))),
      NF.permuteDim (B :: rest) dim perm x 0 = .ok y ∧ y.size = (B :: rest).foldl (· * ·) 1 ∧ ItemReindex B (fprod rest) x y σ := by
  obtain ⟨d, rfl⟩ : ∃ d, dim = d + 1 := ⟨dim - 1, by omega⟩
  have hd : d < rest.length := by simpa using h2
  obtain ⟨pre, suf, hrest, hlen⟩ := split_at rest d hd
  have hn : (B :: rest).getD (d + 1) 0 = rest.getD d 0 := by simp
  rw [hn] at hp
  generalize rest.getD d 0 = n at hrest hp
  subst hrest
  subst hlen
  obtain ⟨y, hy, hr⟩ := permuteDim_item_is_reindex B n pre suf perm hp x
  have hN : fprod pre * n * fprod suf = fprod (pre ++ n :: suf) := (fprod_mid pre suf n).symm
  obtain ⟨σ', hσ', _⟩ := hr.cast hN
  refine ⟨y, σ', hy, ?_, hσ'⟩
  rw [hr.size]
  have := fprod_cons B (pre ++ n :: suf)
  rw [← hN] at this
  exact this.symm

/-! ### the image shapes `[B, C, H, W]` of the library -/

/-- `Permutation(perm, dim=1)` on `[B, C, H, W]`: the CHANNEL permutation (`OneByOneConvolution`, Glow-style flows);
    `σ` moves whole `H·W` planes -/
theorem permuteDim_channels (B C H W : ℕ) (perm : List ℕ) (hp : IsPerm C perm) (x : Array ℝ) :
    ∃ (y : Array ℝ) (σ : Equiv.Perm (Fin (C * H * W))),
      NF.permuteDim [B, C, H, W] 1 perm x 0 = .ok y ∧ ItemReindex B (C * H * W) x y σ
      ∧ ∀ k, (σ k : ℕ) = (perm.getD (k / (H * W) % C) 0) * (H * W) + k % (H * W) := by
  obtain ⟨y, hy, hr⟩ := permuteDim_item_is_reindex B C [] [H, W] perm hp x
  have hI : fprod [H, W] = H * W := by simp [fprod]
  have hN : fprod [] * C * fprod [H, W] = C * H * W := by rw [hI]; simp [fprod]; ring
  obtain ⟨σ', hσ', hk'⟩ := hr.cast hN
  refine ⟨y, σ', by simpa using hy, hσ', ?_⟩
  intro k
  rw [hk']
  simp only [permSigma_apply, permSrc, Fin.val_cast, hI]
  have hk : (k : ℕ) / (H * W * C) = 0 := by
    apply Nat.div_eq_of_lt
    calc (k : ℕ) < C * H * W := k.2
      _ = H * W * C := by ring
  rw [hk]
  ring

theorem permuteDim_rows (B C H W : ℕ) (perm : List ℕ) (hp : IsPerm H perm) (x : Array ℝ) :
    ∃ (y : Array ℝ) (σ : Equiv.Perm (Fin (C * H * W))),
      NF.permuteDim [B, C, H, W] 2 perm x 0 = .ok y ∧ ItemReindex B (C * H * W) x y σ := by
  obtain ⟨y, hy, hr⟩ := permuteDim_item_is_reindex B H [C] [W] perm hp x
  have hN : fprod [C] * H * fprod [W] = C * H * W := by simp [fprod]
  obtain ⟨σ', hσ', _⟩ := hr.cast hN
  exact ⟨y, σ', by simpa using hy, hσ'⟩

theorem permuteDim_cols (B C H W : ℕ) (perm : List ℕ) (hp : IsPerm W perm) (x : Array ℝ) :
    ∃ (y : Array ℝ) (σ : Equiv.Perm (Fin (C * H * W))),
      NF.permuteDim [B, C, H, W] 3 perm x 0 = .ok y ∧ ItemReindex B (C * H * W) x y σ := by
  obtain ⟨y, hy, hr⟩ := permuteDim_item_is_reindex B W [C, H] [] perm hp x
  have hN : fprod [C, H] * W * fprod [] = C * H * W := by simp [fprod]
  obtain ⟨σ', hσ', _⟩ := hr.cast hN
  exact ⟨y, σ', by simpa using hy, hσ'⟩

/-! ### C17: exactly when the executed `Permutation` raises; what it does NOT check -/

theorem ite_error_iff {ε α : Type} {c : Prop} [Decidable c] {e0 e : ε} {r : Except ε α} :
    (if c then Except.error e0 else r) = .error e ↔ (c ∧ e = e0) ∨ (¬ c ∧ r = .error e) := by
  by_cases h : c <;> simp [h, eq_comm]

/-- **`permuteDim` raises iff `dim` is not a dimension of the input or the sizes differ, and then it is a ValueError**
    (permutations.py:27-35) -/
theorem permuteDim_error_iff {α : Type} (shape : List ℕ) (dim : ℕ) (perm : List ℕ) (x : Array α) (d : α) (e : Err) :
    NF.permuteDim shape dim perm x d = .error e
      ↔ e = .valueError ∧ (shape.length ≤ dim ∨ shape.getD dim 0 ≠ perm.length) := by
  unfold NF.permuteDim
  rw [ite_error_iff, ite_error_iff]
  simp only [reduceCtorEq, and_false, or_false, bne_iff_ne, ne_eq, ge_iff_le, not_le]
  constructor
  · rintro (⟨h, rfl⟩ | ⟨_, h, rfl⟩)
    · exact ⟨rfl, Or.inl h⟩
    · exact ⟨rfl, Or.inr h⟩
  · rintro ⟨rfl, h | h⟩
    · exact Or.inl ⟨h, rfl⟩
    · by_cases h' : shape.length ≤ dim
      · exact Or.inl ⟨h', rfl⟩
      · exact Or.inr ⟨not_le.mp h', h, rfl⟩

theorem permuteDim_ok_iff {α : Type} (shape : List ℕ) (dim : ℕ) (perm : List ℕ) (x : Array α) (d : α) :
    (∃ y, NF.permuteDim shape dim perm x d = .ok y ∧ y.size = shape.foldl (· * ·) 1)
      ↔ dim < shape.length ∧ shape.getD dim 0 = perm.length := by
  constructor
  · rintro ⟨y, hy, _⟩
    by_contra hcon
    have : NF.permuteDim shape dim perm x d = .error .valueError := by
      rw [permuteDim_error_iff]
      refine ⟨rfl, ?_⟩
      by_cases h : dim < shape.length
      · exact Or.inr (fun h' => hcon ⟨h, h'⟩)
      · exact Or.inl (Nat.not_lt.mp h)
    rw [this] at hy
    cases hy
  · rintro ⟨h1, h2⟩
    unfold NF.permuteDim
    have h1' : ¬ dim ≥ shape.length := Nat.not_le.mpr h1
    have h2' : ¬ ((shape.getD dim 0 != perm.length) = true) := by rw [bne_iff_ne]; exact not_not.2 h2
    rw [if_neg h1', if_neg h2']
    exact ⟨_, rfl, by rw [List.size_toArray, List.length_map, List.length_range]⟩

/-- FINDING (shared by the code): neither the model nor `Permutation.__init__` / `_permute` (permutations.py:12-39)
    checks that `perm` IS a permutation.  `perm = [0, 0]` is accepted, the item map `(a, b) ↦ (a, a)` is not injective
    — two different inputs give the same output — while the layer still reports log-det `0`. -/
theorem permuteDim_accepts_non_permutation :
    NF.permuteDim [1, 2] 1 [0, 0] #[(1 : ℝ), 2] 0 = .ok #[1, 1]
    ∧ NF.permuteDim [1, 2] 1 [0, 0] #[(1 : ℝ), 3] 0 = .ok #[1, 1]
    ∧ ¬ IsPerm 2 [0, 0] := by
  refine ⟨rfl, rfl, ?_⟩
  intro h
  have := h.inj 0 1 (by omega) (by omega) (by simp)
  omega

/-- the Jacobian of the accepted `perm = [0, 0]` item map `v ↦ (v 0, v 0)` is singular: `log |det J| = log 0`, and the
    reported log-det `0` is NOT `log |det J|` in any reading (`Real.log 0 = 0` is Mathlib's junk value; `|det J| = 0 ≠ exp 0`) -/
theorem non_permutation_det_zero :
    (Matrix.of ![![(1 : ℝ), 0], ![1, 0]]).det = 0 ∧ |(Matrix.of ![![(1 : ℝ), 0], ![1, 0]]).det| ≠ Real.exp 0 := by
  have h : (Matrix.of ![![(1 : ℝ), 0], ![1, 0]]).det = 0 := by simp [Matrix.det_fin_two]
  exact ⟨h, by rw [h, Real.exp_zero]; norm_num⟩

/-- FINDING (model only): `permuteDim` accepts `dim = 0`, which `Permutation.__init__` refuses (`dim must be a positive
    integer`, permutations.py:15-16); with `dim = 0` the BATCH items are exchanged, so the output item is not a function of
    the same input item. -/
theorem permuteDim_accepts_dim_zero :
    NF.permuteDim [2, 2] 0 [1, 0] #[(1 : ℝ), 2, 3, 4] 0 = .ok #[3, 4, 1, 2] := rfl

/-- FINDING (model only): an out-of-range entry of `perm` makes torch's `index_select` raise (IndexError); the model reads
    past the item instead (here: the default `0`), it does not raise. -/
theorem permuteDim_accepts_out_of_range :
    NF.permuteDim [1, 2] 1 [0, 5] #[(1 : ℝ), 2] 0 = .ok #[1, 0] := rfl

/-- the per-item model of `Permutation` that the wrapper trees run (`Core/Ops/C08.permApply`) is the one place in `Core`
    where the log-det of this layer is produced: whenever it does not raise, the log-det is the literal `0.0` -/
theorem permApply_logdet_zero (dim : ℕ) (p : List ℕ) (x : NF.Wrap.Item Float) (y : NF.Wrap.Item Float) (l : Float)
    (h : NF.C08.permApply dim p x = .ok (y, l)) : l = 0.0 := by
  unfold NF.C08.permApply at h
  split_ifs at h
  cases h
  rfl

/-! ## 3. The executed `SqueezeTransform` -/

theorem unsq_inj (f : ℕ) (hf : 0 < f) {oc i j oc' i' j' : ℕ} (h : unsqCoord f oc i j = unsqCoord f oc' i' j') :
    oc = oc' ∧ i = i' ∧ j = j' := by
  have a := sq_unsq f oc i j hf
  have b := sq_unsq f oc' i' j' hf
  dsimp only at a b
  rw [h, b] at a
  simpa using a.symm

/-- the source index `squeezeFwd` reads for output position `o` (the definition, `H = Ho·f`, `W = Wo·f`) -/
def sqSrcFull (f C Ho Wo : ℕ) (o : ℕ) : ℕ :=
  (((o / (Wo * Ho * (C * f * f))) * C + (unsqCoord f (o / (Wo * Ho) % (C * f * f)) (o / Wo % Ho) (o % Wo)).1) * (Ho * f)
      + (unsqCoord f (o / (Wo * Ho) % (C * f * f)) (o / Wo % Ho) (o % Wo)).2.1) * (Wo * f)
    + (unsqCoord f (o / (Wo * Ho) % (C * f * f)) (o / Wo % Ho) (o % Wo)).2.2

/-- the per-item source index: output coordinate `i ↦ (c·H + h)·W + w`, `(c, h, w) = unsqCoord f oc i j` -/
def sqSrc (f C Ho Wo : ℕ) (i : ℕ) : ℕ :=
  ((unsqCoord f (i / (Wo * Ho) % (C * f * f)) (i / Wo % Ho) (i % Wo)).1 * (Ho * f)
      + (unsqCoord f (i / (Wo * Ho) % (C * f * f)) (i / Wo % Ho) (i % Wo)).2.1) * (Wo * f)
    + (unsqCoord f (i / (Wo * Ho) % (C * f * f)) (i / Wo % Ho) (i % Wo)).2.2

theorem squeezeFwd_eq {α : Type} (f B C Ho Wo : ℕ) (hf : 0 < f) (x : Array α) (d : α) :
    NF.squeezeFwd f B C (Ho * f) (Wo * f) x d
      = .ok ((List.range (B * (C * f * f) * Ho * Wo)).map (fun o => x.getD (sqSrcFull f C Ho Wo o) d)).toArray := by
  unfold NF.squeezeFwd
  have h1 : ¬ ((Ho * f % f != 0 || Wo * f % f != 0) = true) := by simp
  rw [if_neg h1]
  simp only [Nat.mul_div_cancel _ hf]
  rfl

theorem sqSrc_shift (f C Ho Wo b i : ℕ) (hi : i < C * f * f * Ho * Wo) :
    sqSrcFull f C Ho Wo (b * (C * f * f * Ho * Wo) + i) = b * (C * f * f * Ho * Wo) + sqSrc f C Ho Wo i := by
  obtain ⟨e1, e2, e3, e4⟩ := shift_digits b (C * f * f) Ho Wo i hi
  unfold sqSrcFull sqSrc
  rw [e1, e2, e3, e4]
  ring

theorem sqSrc_lt {f C Ho Wo i : ℕ} (hf : 0 < f) (hi : i < C * f * f * Ho * Wo) : sqSrc f C Ho Wo i < C * f * f * Ho * Wo := by
  obtain ⟨hCo, hHo, hWo⟩ := RowMajor.pos3 hi
  have hc : (i / (Wo * Ho) % (C * f * f)) / (f * f) < C := by
    rw [Nat.div_lt_iff_lt_mul (Nat.mul_pos hf hf)]
    calc i / (Wo * Ho) % (C * f * f) < C * f * f := Nat.mod_lt _ hCo
      _ = C * (f * f) := by ring
  have hh : (i / Wo % Ho) * f + (i / (Wo * Ho) % (C * f * f)) / f % f < Ho * f :=
    RowMajor.lt2 (Nat.mod_lt _ hHo) (Nat.mod_lt _ hf)
  have hw : (i % Wo) * f + (i / (Wo * Ho) % (C * f * f)) % f < Wo * f :=
    RowMajor.lt2 (Nat.mod_lt _ hWo) (Nat.mod_lt _ hf)
  have := RowMajor.lt3 hc hh hw
  unfold sqSrc unsqCoord
  calc _ < C * (Ho * f) * (Wo * f) := this
    _ = C * f * f * Ho * Wo := by ring

theorem sqSrc_inj {f C Ho Wo i j : ℕ} (hf : 0 < f) (hi : i < C * f * f * Ho * Wo) (hj : j < C * f * f * Ho * Wo)
    (h : sqSrc f C Ho Wo i = sqSrc f C Ho Wo j) : i = j := by
  obtain ⟨hCo, hHo, hWo⟩ := RowMajor.pos3 hi
  have hbd : ∀ t : ℕ, (unsqCoord f (t / (Wo * Ho) % (C * f * f)) (t / Wo % Ho) (t % Wo)).2.1 < Ho * f
      ∧ (unsqCoord f (t / (Wo * Ho) % (C * f * f)) (t / Wo % Ho) (t % Wo)).2.2 < Wo * f := fun t =>
    ⟨RowMajor.lt2 (Nat.mod_lt _ hHo) (Nat.mod_lt _ hf), RowMajor.lt2 (Nat.mod_lt _ hWo) (Nat.mod_lt _ hf)⟩
  unfold sqSrc at h
  obtain ⟨h1, h2, h3⟩ := RowMajor.inj3 (hbd i).1 (hbd j).1 (hbd i).2 (hbd j).2 h
  obtain ⟨a1, a2, a3⟩ := unsq_inj f hf (Prod.ext h1 (Prod.ext h2 h3))
  rw [Nat.mod_eq_of_lt (RowMajor.hi_lt3 hi), Nat.mod_eq_of_lt (RowMajor.hi_lt3 hj)] at a1
  rw [← RowMajor.recon3 i Ho Wo, ← RowMajor.recon3 j Ho Wo, a1, a2, a3]

noncomputable def sqSigma (f C Ho Wo : ℕ) (hf : 0 < f) : Equiv.Perm (Fin (C * f * f * Ho * Wo)) :=
  permOf _ (sqSrc f C Ho Wo) (fun _ hi => sqSrc_lt hf hi) (fun _ _ hi hj h => sqSrc_inj hf hi hj h)

@[simp] theorem sqSigma_apply (f C Ho Wo : ℕ) (hf : 0 < f) (k : Fin (C * f * f * Ho * Wo)) :
    ((sqSigma f C Ho Wo hf k : Fin (C * f * f * Ho * Wo)) : ℕ) = sqSrc f C Ho Wo k := rfl

/-- **C01, `SqueezeTransform(f)`, every factor `f ≥ 1`** on `[B, C, Ho·f, Wo·f]`: the executed forward does not raise,
    the output `[B, C·f·f, Ho, Wo]` has the input's size, and every batch item of the output is the reindexing of the same
    input item by ONE permutation of its `C·f·f·Ho·Wo = C·H·W` coordinates (`sqSigma`, read off the definition:
    `i ↦ (c·H + h)·W + w` with `(c, h, w) = unsqCoord f oc i' j'`).  Hence (`ItemReindex.logdet`) `|det J| = 1` and the
    log-det the code returns, the constant `0` (reshape.py:49), is `log |det J|`. -/
theorem squeezeFwd_item_is_reindex (f B C Ho Wo : ℕ) (hf : 0 < f) (x : Array ℝ) :
    ∃ y, NF.squeezeFwd f B C (Ho * f) (Wo * f) x 0 = .ok y
      ∧ y.size = B * C * (Ho * f) * (Wo * f)
      ∧ ItemReindex B (C * f * f * Ho * Wo) x y (sqSigma f C Ho Wo hf) := by
  have hsz : B * (C * f * f) * Ho * Wo = B * (C * f * f * Ho * Wo) := by ring
  have hr : ItemReindex B (C * f * f * Ho * Wo) x
      ((List.range (B * (C * f * f * Ho * Wo))).map (fun o => x.getD (sqSrcFull f C Ho Wo o) 0)).toArray
      (sqSigma f C Ho Wo hf) :=
    gather_item B _ (sqSrcFull f C Ho Wo) (sqSrc f C Ho Wo) (fun b i _ hi => sqSrc_shift f C Ho Wo b i hi) _
      (fun k => rfl) x
  refine ⟨_, by rw [squeezeFwd_eq f B C Ho Wo hf x 0, hsz], ?_, hr⟩
  rw [hr.size]
  ring

theorem squeezeFwd_item_is_reindex_dvd (f B C H W : ℕ) (hf : 0 < f) (hH : f ∣ H) (hW : f ∣ W) (x : Array ℝ) :
    ∃ (y : Array ℝ) (σ : Equiv.Perm (Fin (C * H * W))), NF.squeezeFwd f B C H W x 0 = .ok y
      ∧ y.size = B * (C * f * f) * (H / f) * (W / f) ∧ y.size = B * C * H * W
      ∧ ItemReindex B (C * H * W) x y σ := by
  obtain ⟨Ho, rfl⟩ := hH
  obtain ⟨Wo, rfl⟩ := hW
  rw [Nat.mul_comm f Ho, Nat.mul_comm f Wo]
  obtain ⟨y, hy, hs, hr⟩ := squeezeFwd_item_is_reindex f B C Ho Wo hf x
  have hN : C * f * f * Ho * Wo = C * (Ho * f) * (Wo * f) := by ring
  obtain ⟨σ', hσ', _⟩ := hr.cast hN
  refine ⟨y, σ', hy, ?_, hs, hσ'⟩
  rw [hs, Nat.mul_div_cancel _ hf, Nat.mul_div_cancel _ hf]
  ring

/-- **C17: `squeezeFwd` raises iff `f ∤ H` or `f ∤ W`, and then it is a ValueError** (reshape.py:35-36; at `f = 0`,
    `H % 0 = H`, consistent with `0 ∣ H ↔ H = 0`) -/
theorem squeezeFwd_error_iff {α : Type} (f B C H W : ℕ) (x : Array α) (d : α) (e : Err) :
    NF.squeezeFwd f B C H W x d = .error e ↔ e = .valueError ∧ ¬ (f ∣ H ∧ f ∣ W) := by
  unfold NF.squeezeFwd
  rw [ite_error_iff]
  simp only [reduceCtorEq, false_and, or_false, Bool.or_eq_true, bne_iff_ne, ne_eq, Nat.dvd_iff_mod_eq_zero, not_and_or,
    and_comm]

/-- `squeezeInv` raises iff `C < f²` or `f² ∤ C` (ValueError; reshape.py:57-58, which tests against `factor ** 2`) -/
theorem squeezeInv_error_iff {α : Type} (f B C H W : ℕ) (y : Array α) (d : α) (e : Err) :
    NF.squeezeInv f B C H W y d = .error e ↔ e = .valueError ∧ (C < f * f ∨ ¬ (f * f ∣ C)) := by
  unfold NF.squeezeInv
  rw [ite_error_iff]
  simp only [reduceCtorEq, false_and, or_false, Bool.or_eq_true, decide_eq_true_eq, bne_iff_ne, ne_eq,
    Nat.dvd_iff_mod_eq_zero, and_comm]

/-! ### C02: `squeezeInv` after `squeezeFwd` returns the input, for every factor -/

/-- the index of `y` that `squeezeInv f B (C·f·f) Ho Wo` reads for output position `o` (the definition) -/
def sqInvSrcFull (f C Ho Wo : ℕ) (o : ℕ) : ℕ :=
  (((o / (Wo * f * (Ho * f) * C)) * (C * f * f)
        + (sqCoord f (o / (Wo * f * (Ho * f)) % C) (o / (Wo * f) % (Ho * f)) (o % (Wo * f))).1) * Ho
      + (sqCoord f (o / (Wo * f * (Ho * f)) % C) (o / (Wo * f) % (Ho * f)) (o % (Wo * f))).2.1) * Wo
    + (sqCoord f (o / (Wo * f * (Ho * f)) % C) (o / (Wo * f) % (Ho * f)) (o % (Wo * f))).2.2

theorem squeezeInv_eq {α : Type} (f B C Ho Wo : ℕ) (hf : 0 < f) (hC : 0 < C) (y : Array α) (d : α) :
    NF.squeezeInv f B (C * f * f) Ho Wo y d
      = .ok ((List.range (B * C * (Ho * f) * (Wo * f))).map (fun o => y.getD (sqInvSrcFull f C Ho Wo o) d)).toArray := by
  unfold NF.squeezeInv
  have hff : 0 < f * f := Nat.mul_pos hf hf
  have e : C * f * f = C * (f * f) := Nat.mul_assoc _ _ _
  have h0 : ¬ (C * f * f < f * f) := by
    rw [e]
    exact Nat.not_lt.2 (Nat.le_mul_of_pos_left _ hC)
  have h1 : ¬ ((decide (C * f * f < f * f) || C * f * f % (f * f) != 0) = true) := by
    have : C * f * f % (f * f) = 0 := by rw [e, Nat.mul_mod_left]
    simp [h0, this]
  have h2 : C * f * f / (f * f) = C := by rw [e, Nat.mul_div_cancel _ hff]
  rw [if_neg h1]
  simp only [h2]
  rfl

theorem sq_roundtrip_index (f B C Ho Wo o : ℕ) (hf : 0 < f) (ho : o < B * C * (Ho * f) * (Wo * f)) :
    sqInvSrcFull f C Ho Wo o < B * (C * f * f) * Ho * Wo ∧ sqSrcFull f C Ho Wo (sqInvSrcFull f C Ho Wo o) = o := by
  obtain ⟨hBC, hHi, hWi⟩ := RowMajor.pos3 ho
  have hC : 0 < C := Nat.pos_of_mul_pos_left hBC
  have hw : o % (Wo * f) < Wo * f := Nat.mod_lt _ hWi
  have hh : o / (Wo * f) % (Ho * f) < Ho * f := Nat.mod_lt _ hHi
  have hc : o / (Wo * f * (Ho * f)) % C < C := Nat.mod_lt _ hC
  have hb : o / (Wo * f * (Ho * f) * C) < B := by
    rw [Nat.div_lt_iff_lt_mul (Nat.mul_pos (Nat.mul_pos hWi hHi) hC)]
    calc o < B * C * (Ho * f) * (Wo * f) := ho
      _ = B * (Wo * f * (Ho * f) * C) := by ring
  have hrec := RowMajor.recon4 o C (Ho * f) (Wo * f)
  unfold sqInvSrcFull
  generalize o % (Wo * f) = w at hw hrec ⊢
  generalize o / (Wo * f) % (Ho * f) = h at hh hrec ⊢
  generalize o / (Wo * f * (Ho * f)) % C = c at hc hrec ⊢
  generalize o / (Wo * f * (Ho * f) * C) = b at hb hrec ⊢
  have hoc : (sqCoord f c h w).1 < C * f * f := RowMajor.lt3 hc (Nat.mod_lt _ hf) (Nat.mod_lt _ hf)
  have hi : (sqCoord f c h w).2.1 < Ho := by
    show h / f < Ho
    rw [Nat.div_lt_iff_lt_mul hf]; exact hh
  have hj : (sqCoord f c h w).2.2 < Wo := by
    show w / f < Wo
    rw [Nat.div_lt_iff_lt_mul hf]; exact hw
  have hu := unsq_sq f c h w hf
  dsimp only at hu
  generalize (sqCoord f c h w).1 = oc at hoc hu ⊢
  generalize (sqCoord f c h w).2.1 = i at hi hu ⊢
  generalize (sqCoord f c h w).2.2 = j at hj hu ⊢
  refine ⟨RowMajor.lt3 (RowMajor.lt2 hb hoc) hi hj, ?_⟩
  have d1 : (((b * (C * f * f) + oc) * Ho + i) * Wo + j) % Wo = j := RowMajor.mod _ hj
  have d2 : (((b * (C * f * f) + oc) * Ho + i) * Wo + j) / Wo = (b * (C * f * f) + oc) * Ho + i := RowMajor.div _ hj
  have d3 : (((b * (C * f * f) + oc) * Ho + i) * Wo + j) / Wo % Ho = i := by rw [d2, RowMajor.mod _ hi]
  have d4 : (((b * (C * f * f) + oc) * Ho + i) * Wo + j) / (Wo * Ho) = b * (C * f * f) + oc := by
    rw [← Nat.div_div_eq_div_mul, d2, RowMajor.div _ hi]
  have d5 : (((b * (C * f * f) + oc) * Ho + i) * Wo + j) / (Wo * Ho) % (C * f * f) = oc := by
    rw [d4, RowMajor.mod _ hoc]
  have d6 : (((b * (C * f * f) + oc) * Ho + i) * Wo + j) / (Wo * Ho * (C * f * f)) = b := by
    rw [← Nat.div_div_eq_div_mul, d4, RowMajor.div _ hoc]
  unfold sqSrcFull
  rw [d1, d3, d5, d6, hu]
  exact hrec

/-- **C02, `SqueezeTransform(f)`, every factor `f ≥ 1`, every `C ≥ 1`**: on an input of the full size the executed
    inverse applied to the executed forward's output returns the input array itself (neither raises) -/
theorem squeeze_roundtrip {α : Type} (f B C Ho Wo : ℕ) (hf : 0 < f) (hC : 0 < C) (x : Array α) (d : α)
    (hx : x.size = B * C * (Ho * f) * (Wo * f)) :
    ∃ y, NF.squeezeFwd f B C (Ho * f) (Wo * f) x d = .ok y ∧ y.size = B * (C * f * f) * Ho * Wo
      ∧ NF.squeezeInv f B (C * f * f) Ho Wo y d = .ok x := by
  refine ⟨_, squeezeFwd_eq f B C Ho Wo hf x d, by simp, ?_⟩
  rw [squeezeInv_eq f B C Ho Wo hf hC]
  exact congrArg _ (gather_gather x d _ _ _ _ hx fun o ho => sq_roundtrip_index f B C Ho Wo o hf ho)

/-- the forced hypothesis `C ≥ 1`: on a tensor without channels the inverse raises (`c < f²`, reshape.py:57), so the
    round trip is a ValueError, in the model as in the code -/
theorem squeeze_roundtrip_zero_channels {α : Type} (f B Ho Wo : ℕ) (hf : 0 < f) (y : Array α) (d : α) :
    NF.squeezeInv f B (0 * f * f) Ho Wo y d = .error .valueError := by
  rw [squeezeInv_error_iff]
  exact ⟨rfl, Or.inl (by rw [Nat.zero_mul, Nat.zero_mul]; exact Nat.mul_pos hf hf)⟩


/-! ### the inverse direction is the inverse permutation -/

theorem sqInv_shift (f C Ho Wo b i : ℕ) (hi : i < C * (Ho * f) * (Wo * f)) :
    sqInvSrcFull f C Ho Wo (b * (C * (Ho * f) * (Wo * f)) + i)
      = b * (C * f * f * Ho * Wo) + sqInvSrcFull f C Ho Wo i := by
  obtain ⟨e1, e2, e3, e4⟩ := shift_digits b C (Ho * f) (Wo * f) i hi
  have hz : i / (Wo * f * (Ho * f) * C) = 0 :=
    Nat.div_eq_of_lt (by calc i < C * (Ho * f) * (Wo * f) := hi
                          _ = Wo * f * (Ho * f) * C := by ring)
  unfold sqInvSrcFull
  rw [e1, e2, e3, e4, hz]
  ring

/-- **C01, `SqueezeTransform(f).inverse`** on `[B, C·f·f, Ho, Wo]`, `C ≥ 1`: does not raise, and every batch item of the
    output is the reindexing of the same input item by the INVERSE of the forward's permutation `sqSigma`; so again
    `|det J| = 1` and the returned log-det `0` (reshape.py:68) is `log |det J|` -/
theorem squeezeInv_item_is_reindex (f B C Ho Wo : ℕ) (hf : 0 < f) (hC : 0 < C) (x : Array ℝ) :
    ∃ y, NF.squeezeInv f B (C * f * f) Ho Wo x 0 = .ok y
      ∧ y.size = B * (C * f * f) * Ho * Wo
      ∧ ItemReindex B (C * f * f * Ho * Wo) x y (sqSigma f C Ho Wo hf)⁻¹ := by
  have hN : C * f * f * Ho * Wo = C * (Ho * f) * (Wo * f) := by ring
  have hsz : B * C * (Ho * f) * (Wo * f) = B * (C * f * f * Ho * Wo) := by ring
  have key : ∀ k : Fin (C * f * f * Ho * Wo),
      (((sqSigma f C Ho Wo hf)⁻¹ k : Fin (C * f * f * Ho * Wo)) : ℕ) = sqInvSrcFull f C Ho Wo k := by
    intro k
    have hk : (k : ℕ) < 1 * C * (Ho * f) * (Wo * f) := by rw [Nat.one_mul, ← hN]; exact k.2
    obtain ⟨ht, hs⟩ := sq_roundtrip_index f 1 C Ho Wo k hf hk
    have ht' : sqInvSrcFull f C Ho Wo k < C * f * f * Ho * Wo := by rw [Nat.one_mul] at ht; exact ht
    have h0 := sqSrc_shift f C Ho Wo 0 _ ht'
    rw [Nat.zero_mul, Nat.zero_add, Nat.zero_add, hs] at h0
    have : (sqSigma f C Ho Wo hf)⁻¹ k = ⟨sqInvSrcFull f C Ho Wo k, ht'⟩ := by
      rw [Equiv.Perm.inv_eq_iff_eq]
      apply Fin.ext
      rw [sqSigma_apply]
      exact h0
    rw [this]
  have hr : ItemReindex B (C * f * f * Ho * Wo) x
      ((List.range (B * (C * f * f * Ho * Wo))).map (fun o => x.getD (sqInvSrcFull f C Ho Wo o) 0)).toArray
      (sqSigma f C Ho Wo hf)⁻¹ := by
    refine gather_item B _ (sqInvSrcFull f C Ho Wo) (sqInvSrcFull f C Ho Wo) ?_ _ key x
    intro b i _ hi
    have := sqInv_shift f C Ho Wo b i (hN ▸ hi)
    rw [← hN] at this
    exact this
  refine ⟨_, by rw [squeezeInv_eq f B C Ho Wo hf hC x 0, hsz], ?_, hr⟩
  rw [hr.size]
  ring

/-! ## C02 of `Permutation` (the layer of section 2): the executed inverse (`argsort` of the permutation) undoes the executed forward -/

theorem IsPerm.surj {n : ℕ} {perm : List ℕ} (hp : IsPerm n perm) (k : ℕ) (hk : k < n) :
    ∃ a, a < n ∧ perm.getD a 0 = k := by
  obtain ⟨a, ha⟩ := (permOf n (fun a => perm.getD a 0) hp.lt hp.inj).surjective ⟨k, hk⟩
  exact ⟨a, a.2, by simpa using congrArg Fin.val ha⟩

theorem inversePerm_spec {n : ℕ} {perm : List ℕ} (hp : IsPerm n perm) (k : ℕ) (hk : k < n) :
    (inversePerm perm).getD k 0 < n ∧ perm.getD ((inversePerm perm).getD k 0) 0 = k := by
  obtain ⟨a, ha, hak⟩ := hp.surj k hk
  have ha' : a < perm.length := hp.length ▸ ha
  have hmem : ∃ v ∈ perm, (v == k) = true := by
    refine ⟨perm[a], List.getElem_mem ha', ?_⟩
    rw [List.getD_eq_getElem _ _ ha'] at hak
    simp [hak]
  have hidx : perm.findIdx (· == k) < perm.length := List.findIdx_lt_length_of_exists hmem
  have hval : (perm[perm.findIdx (· == k)] == k) = true := List.findIdx_getElem (w := hidx)
  have hinv : (inversePerm perm).getD k 0 = perm.findIdx (· == k) := by
    have hk' : k < perm.length := hp.length ▸ hk
    simp [inversePerm, hk']
  rw [hinv]
  refine ⟨hp.length ▸ hidx, ?_⟩
  rw [List.getD_eq_getElem _ _ hidx]
  simpa using hval

theorem inversePerm_left {n : ℕ} {perm : List ℕ} (hp : IsPerm n perm) (k : ℕ) (hk : k < n) :
    (inversePerm perm).getD (perm.getD k 0) 0 = k := by
  obtain ⟨hlt, hval⟩ := inversePerm_spec hp _ (hp.lt k hk)
  exact hp.inj _ _ hlt hk hval

theorem inversePerm_length (perm : List ℕ) : (inversePerm perm).length = perm.length := by simp [inversePerm]

/-- the executed inverse list is again a permutation list, so every theorem of section 2 applies to
    `Permutation.inverse` as well (log-det `0` is `log |det J|` there too) -/
theorem isPerm_inversePerm {n : ℕ} {perm : List ℕ} (hp : IsPerm n perm) : IsPerm n (inversePerm perm) := by
  refine ⟨(inversePerm_length perm).trans hp.length, fun k hk => (inversePerm_spec hp k hk).1, ?_⟩
  intro a b ha hb h
  rw [← (inversePerm_spec hp a ha).2, ← (inversePerm_spec hp b hb).2, h]

theorem perm_roundtrip_index {P n I : ℕ} {perm : List ℕ} (hp : IsPerm n perm) (o : ℕ) (ho : o < P * n * I) :
    permSrc n I (inversePerm perm) o < P * n * I
      ∧ permSrc n I perm (permSrc n I (inversePerm perm) o) = o := by
  obtain ⟨_, hn, hI⟩ := RowMajor.pos3 ho
  obtain ⟨hlt, hval⟩ := inversePerm_spec hp (o / I % n) (Nat.mod_lt _ hn)
  have hr : o % I < I := Nat.mod_lt _ hI
  have hrec := RowMajor.recon3 o n I
  unfold permSrc at *
  generalize (inversePerm perm).getD (o / I % n) 0 = p at hlt hval ⊢
  refine ⟨RowMajor.lt3 (RowMajor.hi_lt3 ho) hlt hr, ?_⟩
  have d1 : ((o / (I * n) * n + p) * I + o % I) % I = o % I := RowMajor.mod _ hr
  have d2 : ((o / (I * n) * n + p) * I + o % I) / I = o / (I * n) * n + p := RowMajor.div _ hr
  have d3 : ((o / (I * n) * n + p) * I + o % I) / (I * n) = o / (I * n) := by
    rw [← Nat.div_div_eq_div_mul, d2, RowMajor.div _ hlt]
  rw [d1, d2, d3, RowMajor.mod _ hlt, hval]
  exact hrec

/-- **C02, `Permutation(perm, dim)`, any shape `B :: pre ++ n :: suf`, `dim = |pre| + 1`**: on an input of the full size,
    the executed inverse (the same program run with `inversePerm perm`, i.e. `torch.argsort`, permutations.py:22-24,44-45)
    applied to the executed forward's output returns the input array itself; neither raises -/
theorem permuteDim_roundtrip {α : Type} (B n : ℕ) (pre suf perm : List ℕ) (hp : IsPerm n perm) (x : Array α) (d : α)
    (hx : x.size = B * (fprod pre * n * fprod suf)) :
    ∃ y, NF.permuteDim (B :: (pre ++ n :: suf)) (pre.length + 1) perm x d = .ok y
      ∧ NF.permuteDim (B :: (pre ++ n :: suf)) (pre.length + 1) (inversePerm perm) y d = .ok x := by
  refine ⟨_, permuteDim_mid B n pre suf perm hp.length x d, ?_⟩
  rw [permuteDim_mid B n pre suf (inversePerm perm) ((inversePerm_length perm).trans hp.length)]
  refine congrArg _ (gather_gather x d _ _ _ _ hx fun o ho => ?_)
  rw [← Nat.mul_assoc, ← Nat.mul_assoc] at ho ⊢
  exact perm_roundtrip_index hp o ho

/-! ## 4. Non-vacuity -/

theorem isPerm_example : IsPerm 3 [2, 0, 1] := isPerm_of_nodup rfl (by decide) (by decide)

/-- the hypotheses of the channel theorem are satisfiable (Glow-like `[B, C, H, W] = [2, 3, 2, 2]`), any input -/
example (x : Array ℝ) : ∃ (y : Array ℝ) (σ : Equiv.Perm (Fin (3 * 2 * 2))),
    NF.permuteDim [2, 3, 2, 2] 1 [2, 0, 1] x 0 = .ok y ∧ ItemReindex 2 (3 * 2 * 2) x y σ
      ∧ Real.log |(matCLM (σ.permMatrix ℝ)).det| = 0 := by
  obtain ⟨y, σ, h1, h2, _⟩ := permuteDim_channels 2 3 2 2 [2, 0, 1] isPerm_example x
  exact ⟨y, σ, h1, h2, h2.logdet.2.2.2.1⟩

example : NF.permuteDim [1, 2, 1, 2] 1 [1, 0] #[(1 : ℝ), 2, 3, 4] 0 = .ok #[3, 4, 1, 2] := rfl

example : NF.permuteDim [1, 1, 2, 2] 3 [1, 0] #[(1 : ℝ), 2, 3, 4] 0 = .ok #[2, 1, 4, 3] := rfl

example : NF.squeezeFwd 2 1 1 2 4 #[(1 : ℝ), 2, 3, 4, 5, 6, 7, 8] 0 = .ok #[1, 3, 2, 4, 5, 7, 6, 8] := rfl

example : NF.squeezeInv 2 1 4 1 2 #[(1 : ℝ), 3, 2, 4, 5, 7, 6, 8] 0 = .ok #[1, 2, 3, 4, 5, 6, 7, 8] := rfl

example (x : Array ℝ) : ∃ (y : Array ℝ) (σ : Equiv.Perm (Fin (2 * 4 * 6))),
    NF.squeezeFwd 2 3 2 4 6 x 0 = .ok y ∧ y.size = 3 * 2 * 4 * 6 ∧ ItemReindex 3 (2 * 4 * 6) x y σ := by
  obtain ⟨y, σ, h1, _, h3, h4⟩ := squeezeFwd_item_is_reindex_dvd 2 3 2 4 6 (by omega) ⟨2, rfl⟩ ⟨3, rfl⟩ x
  exact ⟨y, σ, h1, h3, h4⟩

/-- the error branch is reachable: `H = 3` is not a multiple of `f = 2` -/
example (x : Array ℝ) : NF.squeezeFwd 2 1 1 3 2 x 0 = .error .valueError := by
  rw [squeezeFwd_error_iff]
  exact ⟨rfl, fun h => by have := h.1; omega⟩

/-- … and so is `permuteDim`'s: a size mismatch -/
example (x : Array ℝ) : NF.permuteDim [1, 3] 1 [1, 0] x 0 = .error .valueError := by
  rw [permuteDim_error_iff]
  exact ⟨rfl, Or.inr (by simp)⟩

example : inversePerm [2, 0, 1] = [1, 2, 0] := by decide

example (x : Array ℝ) (hx : x.size = 2 * (fprod [] * 3 * fprod [2, 2])) :
    ∃ y, NF.permuteDim [2, 3, 2, 2] 1 [2, 0, 1] x 0 = .ok y ∧ NF.permuteDim [2, 3, 2, 2] 1 [1, 2, 0] y 0 = .ok x :=
  permuteDim_roundtrip 2 3 [] [2, 2] [2, 0, 1] isPerm_example x 0 hx

end LogdetExec
