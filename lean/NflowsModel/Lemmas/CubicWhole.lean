import NflowsModel.Lemmas.CubicProgram
import NflowsModel.Lemmas.ExecGlue
import NflowsModel.Real.Bridge
import NflowsModel.Lemmas.Cubic
import Mathlib.Analysis.Calculus.Deriv.MeanValue
import Mathlib.Analysis.Calculus.Deriv.Comp
import Mathlib.Data.List.GetD
import Mathlib.Topology.Order.IntermediateValue
/-!
# Lemmas/CubicWhole — the EXECUTED piecewise-cubic (monotone Hermite) spline, forward, as a function on the whole box

`cubicSpline (realX e) c uw uh udl udr false` is the list program the driver runs at `Float`/`Float32`, instantiated at ℝ.
For every accepted configuration (`CubicValid`) and all unnormalised parameters: the program returns the closed form of the
bin its own search selects, the knot derivatives lie in the Fritsch–Carlson region `0 < d < 3·s` of both adjacent bins, the
clamp is inactive, and the value is a strictly increasing C¹ bijection `[left,right] → [bottom,top]` whose derivative, at
every point of the open box, is `exp` of the returned log-abs-det.
-/
open NF DualSound

namespace CubicWhole
noncomputable section
variable (e : Float → ℝ)

/- The fields of `CubicValid` are those of `RQWhole.RQValid` without the knot derivatives (shapes; the two `Float` guards; the
   floors of widths and heights, Core/Spline.lean:105-106; the box and its two differences read exactly), with `hseps` the
   tolerance of the search and `hhalf` below. -/
/-- an accepted configuration, with the reading `e` of the Python doubles exact on the expressions the code forms -/
structure CubicValid (c : CCfg) (uw uh : List ℝ) : Prop where
  hK : uw ≠ []
  hlenh : uh.length = uw.length
  hgW : ¬ (c.minW * uw.length.toFloat > 1.0)
  hgH : ¬ (c.minH * uw.length.toFloat > 1.0)
  hmW0 : 0 ≤ e c.minW
  hcW : e (1 - c.minW * uw.length.toFloat) = 1 - e c.minW * uw.length
  hmWK : e c.minW * uw.length ≤ 1
  hmH0 : 0 ≤ e c.minH
  hcH : e (1 - c.minH * uh.length.toFloat) = 1 - e c.minH * uh.length
  hmHK : e c.minH * uh.length ≤ 1
  hlr : e c.box.left < e c.box.right
  hdlr : e (c.box.right - c.box.left) = e c.box.right - e c.box.left
  hbt : e c.box.bottom < e c.box.top
  hdbt : e (c.box.top - c.box.bottom) = e c.box.top - e c.box.bottom
  hseps : 0 < e c.seps
  /-- the literal `0.5` of `0.5 * (w[1:]*s[:-1] + w[:-1]*s[1:]) / (w[:-1] + w[1:])`: only its sign matters -/
  hhalf : 0 < e 0.5

/-! ### the lists of the program, named (each is literally the sub-term of `cubicSpline`) -/
/- `W H` floored-softmax widths and heights, `cumw cumh` their knots, `slopes derivs` bin slopes and knot derivatives,
   `aLof bLof` the cubic coefficients; `wv hv sv cws chs dv aK bK k` the `k`-th entry of each; `xn` the normalised input,
   `idxN` the searched bin, `binN binD` value and derivative term of bin `k`, `nval` the whole normalised map. -/

def W (c : CCfg) (uw : List ℝ) : List ℝ := flooredSoftmax (NF.realX e) c.minW uw
def H (c : CCfg) (uh : List ℝ) : List ℝ := flooredSoftmax (NF.realX e) c.minH uh
def cumw (c : CCfg) (uw : List ℝ) : List ℝ :=
  (NF.realX e).zero :: setLast (cumsumG (NF.realX e) (W e c uw)) (NF.realX e).one
def cumh (c : CCfg) (uh : List ℝ) : List ℝ :=
  (NF.realX e).zero :: setLast (cumsumG (NF.realX e) (H e c uh)) (NF.realX e).one
def slopes (c : CCfg) (uw uh : List ℝ) : List ℝ := List.zipWith (NF.realX e).div (H e c uh) (W e c uw)
def ms1 (c : CCfg) (uw uh : List ℝ) : List ℝ :=
  minPair (NF.realX e) (fun a b => (NF.realX e).minA ((NF.realX e).abs a) ((NF.realX e).abs b)) (slopes e c uw uh)
def ms2 (c : CCfg) (uw uh : List ℝ) : List ℝ := cubicSpline.ms2f (NF.realX e) (W e c uw) (slopes e c uw uh)
def ms (c : CCfg) (uw uh : List ℝ) : List ℝ := List.zipWith (NF.realX e).minA (ms1 e c uw uh) (ms2 e c uw uh)
def sgn (c : CCfg) (uw uh : List ℝ) : List ℝ :=
  minPair (NF.realX e) (fun a b => (NF.realX e).add ((NF.realX e).sign a) ((NF.realX e).sign b)) (slopes e c uw uh)
def derivsOf (c : CCfg) (uw uh : List ℝ) (udl udr s0 sl : ℝ) : List ℝ :=
  (NF.realX e).mul ((NF.realX e).mul ((NF.realX e).sigmoid udl) ((NF.realX e).ofNat 3)) s0 ::
    (List.zipWith (NF.realX e).mul (ms e c uw uh) (sgn e c uw uh) ++
      [(NF.realX e).mul ((NF.realX e).mul ((NF.realX e).sigmoid udr) ((NF.realX e).ofNat 3)) sl])
def aLof (c : CCfg) (uw uh : List ℝ) (dv : List ℝ) : List ℝ :=
  (List.range uw.length).map (fun k =>
    let l := (dv.take uw.length).getD k (NF.realX e).zero; let r := (dv.drop 1).getD k (NF.realX e).zero
    let s := (slopes e c uw uh).getD k (NF.realX e).zero; let w := (W e c uw).getD k (NF.realX e).one
    (NF.realX e).div ((NF.realX e).sub ((NF.realX e).add l r) ((NF.realX e).mul (NF.realX e).two s)) ((NF.realX e).mul w w))
def bLof (c : CCfg) (uw uh : List ℝ) (dv : List ℝ) : List ℝ :=
  (List.range uw.length).map (fun k =>
    let l := (dv.take uw.length).getD k (NF.realX e).zero; let r := (dv.drop 1).getD k (NF.realX e).zero
    let s := (slopes e c uw uh).getD k (NF.realX e).zero; let w := (W e c uw).getD k (NF.realX e).one
    (NF.realX e).div ((NF.realX e).sub ((NF.realX e).sub ((NF.realX e).mul ((NF.realX e).ofNat 3) s) ((NF.realX e).mul (NF.realX e).two l)) r) w)
def xn (c : CCfg) (x : ℝ) : ℝ :=
  (NF.realX e).div ((NF.realX e).sub x ((NF.realX e).ofFloat c.box.left)) ((NF.realX e).ofFloat (c.box.right - c.box.left))

/-- everything after the knot derivatives: search, seven gathers, closed form, clamp, rescaling -/
def tailProg (c : CCfg) (uw uh : List ℝ) (dv : List ℝ) (t : ℝ) : Except Err (ℝ × ℝ × List ℝ) := do
  let idx := searchsortedG (NF.realX e) c.seps (cumw e c uw) t
  let ia ← getI (aLof e c uw uh dv) idx
  let ib ← getI (bLof e c uw uh dv) idx
  let ic ← getI (dv.take uw.length) idx
  let id ← getI (cumh e c uh) idx
  let lcw ← getI (cumw e c uw) idx
  let _rcw ← getI (cumw e c uw) (idx + 1)
  let _ih ← getI (H e c uh) idx
  let env := [t, lcw, ia, ib, ic, id]
  let out := (NF.realX e).clamp (NF.realX e).zero (NF.realX e).one (evalX (NF.realX e) env cubicFwdE)
  let ld := (NF.realX e).log (evalX (NF.realX e) env cubicDerivE)
  return ((NF.realX e).add ((NF.realX e).mul out ((NF.realX e).ofFloat (c.box.top - c.box.bottom))) ((NF.realX e).ofFloat c.box.bottom),
    (NF.realX e).add ld ((NF.realX e).ofFloat (boxLog c.box)), [])

/-! ### generic list facts -/

theorem getD_take (l : List ℝ) (n i : ℕ) (h : i < n) : (l.take n).getD i 0 = l.getD i 0 := by
  simp [List.getD, h]


theorem getD_default (l : List ℝ) (i : ℕ) (h : i < l.length) (a b : ℝ) : l.getD i a = l.getD i b := by
  simp [List.getD, h]

theorem getD_zipWith (f : ℝ → ℝ → ℝ) (a b : List ℝ) (i : ℕ) (ha : i < a.length) (hb : i < b.length) :
    (List.zipWith f a b).getD i 0 = f (a.getD i 0) (b.getD i 0) := by
  simp [List.getD, ha, hb]

theorem minPair_length (f : ℝ → ℝ → ℝ) (l : List ℝ) : (minPair (NF.realX e) f l).length = l.length - 1 := by
  induction l with
  | nil => rfl
  | cons a t ih =>
    cases t with
    | nil => rfl
    | cons b r => rw [minPair, List.length_cons, ih]; rfl

theorem minPair_getD (f : ℝ → ℝ → ℝ) (l : List ℝ) (i : ℕ) (h : i + 1 < l.length) :
    (minPair (NF.realX e) f l).getD i 0 = f (l.getD i 0) (l.getD (i+1) 0) := by
  induction l generalizing i with
  | nil => exact absurd h (Nat.not_lt_zero _)
  | cons a t ih =>
    cases t with
    | nil => exact absurd h (by simp)
    | cons b r =>
      rw [minPair]
      cases i with
      | zero => rfl
      | succ j => exact ih j (Nat.lt_of_succ_lt_succ h)

theorem ms2f_length (w s : List ℝ) (h : w.length = s.length) :
    (cubicSpline.ms2f (NF.realX e) w s).length = w.length - 1 := by
  induction w generalizing s with
  | nil => rfl
  | cons w0 wt ih =>
    cases wt with
    | nil => cases s <;> rfl
    | cons w1 wr =>
      match s, h with
      | s0 :: s1 :: sr, h =>
        rw [cubicSpline.ms2f, List.length_cons, ih (s1 :: sr) (Nat.succ_injective h)]; rfl

theorem ms2f_getD (w s : List ℝ) (h : w.length = s.length) (i : ℕ) (hi : i + 1 < w.length) :
    (cubicSpline.ms2f (NF.realX e) w s).getD i 0
      = e 0.5 * (w.getD (i+1) 0 * s.getD i 0 + w.getD i 0 * s.getD (i+1) 0) / (w.getD i 0 + w.getD (i+1) 0) := by
  induction w generalizing s i with
  | nil => exact absurd hi (Nat.not_lt_zero _)
  | cons w0 wt ih =>
    cases wt with
    | nil => exact absurd hi (by simp)
    | cons w1 wr =>
      match s, h with
      | s0 :: s1 :: sr, h =>
        rw [cubicSpline.ms2f]
        cases i with
        | zero => rfl
        | succ j => exact ih (s1 :: sr) (Nat.succ_injective h) j (Nat.lt_of_succ_lt_succ hi)


theorem realX_sign_pos (a : ℝ) (h : 0 < a) : (NF.realX e).sign a = 1 := by
  simp [XOps.sign, h]


/-! ### the executed lists are valid -/

variable {e}
variable {c : CCfg} {uw uh : List ℝ}

def wv (e : Float → ℝ) (c : CCfg) (uw : List ℝ) (k : ℕ) : ℝ := (W e c uw).getD k 0
def hv (e : Float → ℝ) (c : CCfg) (uh : List ℝ) (k : ℕ) : ℝ := (H e c uh).getD k 0
def sv (e : Float → ℝ) (c : CCfg) (uw uh : List ℝ) (k : ℕ) : ℝ := (slopes e c uw uh).getD k 0
def cws (e : Float → ℝ) (c : CCfg) (uw : List ℝ) (k : ℕ) : ℝ := (cumw e c uw).getD k 0
def chs (e : Float → ℝ) (c : CCfg) (uh : List ℝ) (k : ℕ) : ℝ := (cumh e c uh).getD k 0

theorem uh_ne (hv' : CubicValid e c uw uh) : uh ≠ [] := by
  intro h; have := hv'.hlenh; rw [h] at this; exact hv'.hK (List.length_eq_zero_iff.mp this.symm)

theorem K_pos (hv' : CubicValid e c uw uh) : 0 < uw.length := List.length_pos_of_ne_nil hv'.hK

theorem W_facts (hv' : CubicValid e c uw uh) :
    (W e c uw).length = uw.length ∧ (∀ w ∈ W e c uw, 0 < w) ∧ (W e c uw).sum = 1 := by
  have h := SplineExec.flooredSoftmax_valid e c.minW uw hv'.hK hv'.hmW0 hv'.hcW hv'.hmWK
  refine ⟨?_, h.1, h.2⟩
  simp [W, SplineExec.flooredSoftmax_eq, SplineExec.softmaxG_length]

theorem H_facts (hv' : CubicValid e c uw uh) :
    (H e c uh).length = uw.length ∧ (∀ w ∈ H e c uh, 0 < w) ∧ (H e c uh).sum = 1 := by
  have h := SplineExec.flooredSoftmax_valid e c.minH uh (uh_ne hv') hv'.hmH0 hv'.hcH hv'.hmHK
  refine ⟨?_, h.1, h.2⟩
  simp [H, SplineExec.flooredSoftmax_eq, SplineExec.softmaxG_length, hv'.hlenh]

theorem W_ne (hv' : CubicValid e c uw uh) : W e c uw ≠ [] := by
  intro h; have := (W_facts hv').1; rw [h] at this; have := K_pos hv'; simp at *; omega

theorem H_ne (hv' : CubicValid e c uw uh) : H e c uh ≠ [] := by
  intro h; have := (H_facts hv').1; rw [h] at this; have := K_pos hv'; simp at *; omega

theorem wv_pos (hv' : CubicValid e c uw uh) (k : ℕ) (hk : k < uw.length) : 0 < wv e c uw k :=
  (W_facts hv').2.1 _ (SplineExec.getD_mem _ k ((W_facts hv').1 ▸ hk))

theorem hv_pos (hv' : CubicValid e c uw uh) (k : ℕ) (hk : k < uw.length) : 0 < hv e c uh k :=
  (H_facts hv').2.1 _ (SplineExec.getD_mem _ k ((H_facts hv').1 ▸ hk))

theorem slopes_length (hv' : CubicValid e c uw uh) : (slopes e c uw uh).length = uw.length := by
  simp [slopes, (W_facts hv').1, (H_facts hv').1]

theorem sv_eq (hv' : CubicValid e c uw uh) (k : ℕ) (hk : k < uw.length) : sv e c uw uh k = hv e c uh k / wv e c uw k := by
  unfold sv slopes
  rw [getD_zipWith _ _ _ k (by rw [(H_facts hv').1]; exact hk) (by rw [(W_facts hv').1]; exact hk)]
  rfl

theorem sv_pos (hv' : CubicValid e c uw uh) (k : ℕ) (hk : k < uw.length) : 0 < sv e c uw uh k := by
  rw [sv_eq hv' k hk]; exact div_pos (hv_pos hv' k hk) (wv_pos hv' k hk)

theorem cumw_facts (hv' : CubicValid e c uw uh) :
    (cumw e c uw).length = uw.length + 1 ∧ (cumw e c uw).head? = some 0 ∧
    (cumw e c uw).getLast? = some 1 ∧ (cumw e c uw).Pairwise (· < ·) := by
  obtain ⟨hl, hp, hs⟩ := W_facts hv'
  have := SplineExec.unitKnots_valid e (W e c uw) (W_ne hv') hp hs
  rw [hl] at this
  simpa only [cumw, NF.realX_zero, NF.realX_one] using this

theorem cumh_facts (hv' : CubicValid e c uw uh) :
    (cumh e c uh).length = uw.length + 1 ∧ (cumh e c uh).head? = some 0 ∧
    (cumh e c uh).getLast? = some 1 ∧ (cumh e c uh).Pairwise (· < ·) := by
  obtain ⟨hl, hp, hs⟩ := H_facts hv'
  have := SplineExec.unitKnots_valid e (H e c uh) (H_ne hv') hp hs
  rw [hl] at this
  simpa only [cumh, NF.realX_zero, NF.realX_one] using this

theorem cws_zero (hv' : CubicValid e c uw uh) : cws e c uw 0 = 0 := SplineExec.head_getD _ _ (cumw_facts hv').2.1
theorem cws_last (hv' : CubicValid e c uw uh) : cws e c uw uw.length = 1 :=
  SplineExec.last_getD _ _ _ (cumw_facts hv').1 (cumw_facts hv').2.2.1
theorem chs_zero (hv' : CubicValid e c uw uh) : chs e c uh 0 = 0 := SplineExec.head_getD _ _ (cumh_facts hv').2.1
theorem chs_last (hv' : CubicValid e c uw uh) : chs e c uh uw.length = 1 :=
  SplineExec.last_getD _ _ _ (cumh_facts hv').1 (cumh_facts hv').2.2.1

theorem cws_succ (hv' : CubicValid e c uw uh) (k : ℕ) (hk : k < uw.length) :
    cws e c uw (k+1) = cws e c uw k + wv e c uw k := by
  obtain ⟨hl, _, hs⟩ := W_facts hv'
  exact SplineExec.unitKnots_step e _ (W_ne hv') hs k (hl ▸ hk)

theorem chs_succ (hv' : CubicValid e c uw uh) (k : ℕ) (hk : k < uw.length) :
    chs e c uh (k+1) = chs e c uh k + hv e c uh k := by
  obtain ⟨hl, _, hs⟩ := H_facts hv'
  exact SplineExec.unitKnots_step e _ (H_ne hv') hs k (hl ▸ hk)

theorem cws_strict (hv' : CubicValid e c uw uh) : ∀ k < uw.length, cws e c uw k < cws e c uw (k+1) := by
  intro k hk; rw [cws_succ hv' k hk]; linarith [wv_pos hv' k hk]

theorem chs_strict (hv' : CubicValid e c uw uh) : ∀ k < uw.length, chs e c uh k < chs e c uh (k+1) := by
  intro k hk; rw [chs_succ hv' k hk]; linarith [hv_pos hv' k hk]

theorem chs_unit (hv' : CubicValid e c uw uh) (k : ℕ) (hk : k ≤ uw.length) : 0 ≤ chs e c uh k ∧ chs e c uh k ≤ 1 := by
  have hm := ExecGlue.knots_mono (chs e c uh) uw.length (chs_strict hv')
  constructor
  · rw [← chs_zero hv']; exact hm 0 k (Nat.zero_le _) hk
  · rw [← chs_last hv']; exact hm k uw.length hk le_rfl

/-! ### knot derivatives -/

def derivs (e : Float → ℝ) (c : CCfg) (uw uh : List ℝ) (udl udr : ℝ) : List ℝ :=
  derivsOf e c uw uh udl udr (sv e c uw uh 0) (sv e c uw uh (uw.length - 1))
def dv (e : Float → ℝ) (c : CCfg) (uw uh : List ℝ) (udl udr : ℝ) (k : ℕ) : ℝ := (derivs e c uw uh udl udr).getD k 0

variable {udl udr : ℝ}

theorem ms1_length (hv' : CubicValid e c uw uh) : (ms1 e c uw uh).length = uw.length - 1 := by
  rw [ms1, minPair_length, slopes_length hv']

theorem ms2_length (hv' : CubicValid e c uw uh) : (ms2 e c uw uh).length = uw.length - 1 := by
  rw [ms2, ms2f_length e _ _ (by rw [(W_facts hv').1, slopes_length hv']), (W_facts hv').1]

theorem ms_length (hv' : CubicValid e c uw uh) : (ms e c uw uh).length = uw.length - 1 := by
  simp [ms, ms1_length hv', ms2_length hv']

theorem sgn_length (hv' : CubicValid e c uw uh) : (sgn e c uw uh).length = uw.length - 1 := by
  rw [sgn, minPair_length, slopes_length hv']

theorem mid_length (hv' : CubicValid e c uw uh) :
    (List.zipWith (NF.realX e).mul (ms e c uw uh) (sgn e c uw uh)).length = uw.length - 1 := by
  simp [ms_length hv', sgn_length hv']

theorem derivs_length (hv' : CubicValid e c uw uh) : (derivs e c uw uh udl udr).length = uw.length + 1 := by
  have := K_pos hv'
  simp only [derivs, derivsOf, List.length_cons, List.length_append, mid_length hv', List.length_nil]
  omega

theorem dv_end_left : dv e c uw uh udl udr 0 = (NF.realX e).sigmoid udl * 3 * sv e c uw uh 0 := by
  simp [dv, derivs, derivsOf]

theorem dv_end_right (hv' : CubicValid e c uw uh) :
    dv e c uw uh udl udr uw.length = (NF.realX e).sigmoid udr * 3 * sv e c uw uh (uw.length - 1) := by
  have hK := K_pos hv'
  have hm := mid_length hv'
  unfold dv derivs derivsOf
  obtain ⟨n, hn⟩ : ∃ n, uw.length = n + 1 := ⟨uw.length - 1, by omega⟩
  rw [hn] at hm ⊢
  rw [List.getD_cons_succ, List.getD_append_right _ _ _ _ (by rw [hm]; omega), hm]
  simp

/-- **interior knot derivative** in closed form (slopes are positive, so `|s| = s` and `sign s = 1`) -/
theorem dv_interior (hv' : CubicValid e c uw uh) (j : ℕ) (hj : j + 1 < uw.length) :
    dv e c uw uh udl udr (j+1)
      = min (min (sv e c uw uh j) (sv e c uw uh (j+1)))
          (e 0.5 * (wv e c uw (j+1) * sv e c uw uh j + wv e c uw j * sv e c uw uh (j+1)) / (wv e c uw j + wv e c uw (j+1))) * 2 := by
  have hm := mid_length hv'
  have hsl := slopes_length hv'
  have hs0 := sv_pos hv' j (by omega)
  have hs1 := sv_pos hv' (j+1) hj
  unfold dv derivs derivsOf
  rw [List.getD_cons_succ, List.getD_append _ _ _ _ (by rw [hm]; omega),
    getD_zipWith _ _ _ j (by rw [ms_length hv']; omega) (by rw [sgn_length hv']; omega)]
  have h1 : (ms e c uw uh).getD j 0
      = min (min (sv e c uw uh j) (sv e c uw uh (j+1)))
          (e 0.5 * (wv e c uw (j+1) * sv e c uw uh j + wv e c uw j * sv e c uw uh (j+1)) / (wv e c uw j + wv e c uw (j+1))) := by
    unfold ms
    rw [getD_zipWith _ _ _ j (by rw [ms1_length hv']; omega) (by rw [ms2_length hv']; omega), NF.realX_minA]
    congr 1
    · unfold ms1
      rw [minPair_getD e _ _ j (by rw [hsl]; exact hj), NF.realX_minA]
      simp only [NF.realX_abs]
      change min |sv e c uw uh j| |sv e c uw uh (j+1)| = _
      rw [abs_of_pos hs0, abs_of_pos hs1]
    · unfold ms2
      rw [ms2f_getD e _ _ (by rw [(W_facts hv').1, hsl]) j (by rw [(W_facts hv').1]; exact hj)]
      rfl
  have h2 : (sgn e c uw uh).getD j 0 = 2 := by
    unfold sgn
    rw [minPair_getD e _ _ j (by rw [hsl]; exact hj)]
    simp only [NF.realX_add]
    change (NF.realX e).sign (sv e c uw uh j) + (NF.realX e).sign (sv e c uw uh (j+1)) = 2
    rw [realX_sign_pos e _ hs0, realX_sign_pos e _ hs1]; norm_num
  rw [h1, h2]; rfl

theorem dv_interior_range (hv' : CubicValid e c uw uh) (j : ℕ) (hj : j + 1 < uw.length) :
    0 < dv e c uw uh udl udr (j+1) ∧ dv e c uw uh udl udr (j+1) < 3 * min (sv e c uw uh j) (sv e c uw uh (j+1)) := by
  rw [dv_interior hv' j hj, mul_comm _ (2 : ℝ)]
  exact Cubic.knot_deriv_range_of hv'.hhalf (sv_pos hv' j (by omega)) (sv_pos hv' (j+1) hj) (wv_pos hv' j (by omega))
    (wv_pos hv' (j+1) hj)

theorem dv_range (hv' : CubicValid e c uw uh) (k : ℕ) (hk : k < uw.length) :
    (0 < dv e c uw uh udl udr k ∧ dv e c uw uh udl udr k < 3 * sv e c uw uh k) ∧
    (0 < dv e c uw uh udl udr (k+1) ∧ dv e c uw uh udl udr (k+1) < 3 * sv e c uw uh k) := by
  have hs := sv_pos hv' k hk
  constructor
  · cases k with
    | zero =>
      rw [dv_end_left]
      obtain ⟨h0, h1⟩ := NF.realX_sigmoid_mem e udl
      exact ⟨mul_pos (mul_pos h0 three_pos) hs, mul_lt_mul_of_pos_right (by linarith) hs⟩
    | succ j =>
      obtain ⟨h0, h1⟩ := dv_interior_range (udl := udl) (udr := udr) hv' j hk
      exact ⟨h0, lt_of_lt_of_le h1 (by linarith [min_le_right (sv e c uw uh j) (sv e c uw uh (j+1))])⟩
  · rcases Nat.lt_or_ge (k+1) uw.length with h | h
    · obtain ⟨h0, h1⟩ := dv_interior_range (udl := udl) (udr := udr) hv' k h
      exact ⟨h0, lt_of_lt_of_le h1 (by linarith [min_le_left (sv e c uw uh k) (sv e c uw uh (k+1))])⟩
    · have hkK : k + 1 = uw.length := by omega
      have hk1 : uw.length - 1 = k := by omega
      rw [hkK, dv_end_right hv', hk1]
      obtain ⟨h0, h1⟩ := NF.realX_sigmoid_mem e udr
      exact ⟨mul_pos (mul_pos h0 three_pos) hs, mul_lt_mul_of_pos_right (by linarith) hs⟩

/-! ### the search, the gathers, the closed form -/

def idxN (e : Float → ℝ) (c : CCfg) (uw : List ℝ) (t : ℝ) : ℕ := (searchsortedG (NF.realX e) c.seps (cumw e c uw) t).toNat

/-- per-bin coefficients `a`, `b` in the shape of `Bridge.cubicFwdE_eq` -/
def aK (e : Float → ℝ) (c : CCfg) (uw uh : List ℝ) (udl udr : ℝ) (k : ℕ) : ℝ :=
  (dv e c uw uh udl udr k + dv e c uw uh udl udr (k+1) - 2 * sv e c uw uh k) / (wv e c uw k)^2
def bK (e : Float → ℝ) (c : CCfg) (uw uh : List ℝ) (udl udr : ℝ) (k : ℕ) : ℝ :=
  (3 * sv e c uw uh k - 2 * dv e c uw uh udl udr k - dv e c uw uh udl udr (k+1)) / wv e c uw k

def env (e : Float → ℝ) (c : CCfg) (uw uh : List ℝ) (udl udr : ℝ) (k : ℕ) (t : ℝ) : ℕ → ℝ :=
  Bridge.cEnv t (cws e c uw k) (aK e c uw uh udl udr k) (bK e c uw uh udl udr k) (dv e c uw uh udl udr k) (chs e c uh k)

def binN (e : Float → ℝ) (c : CCfg) (uw uh : List ℝ) (udl udr : ℝ) (k : ℕ) (t : ℝ) : ℝ :=
  evalR (env e c uw uh udl udr k t) cubicFwdE
def binD (e : Float → ℝ) (c : CCfg) (uw uh : List ℝ) (udl udr : ℝ) (k : ℕ) (t : ℝ) : ℝ :=
  evalR (env e c uw uh udl udr k t) cubicDerivE

theorem bind_ok {β γ : Type} (a : β) (f : β → Except Err γ) : (Except.ok a >>= f) = f a := ExecGlue.ok_bind a f

theorem search_spec (hv' : CubicValid e c uw uh) :
    ExecGlue.SearchSpec (cws e c uw) uw.length (idxN e c uw) ∧
    ∀ t, 0 ≤ t → t ≤ 1 → searchsortedG (NF.realX e) c.seps (cumw e c uw) t = ((idxN e c uw t : ℕ) : Int) :=
  SplineTotal.search_spec_list e c.seps hv'.hseps (cumw e c uw) uw.length 0 1 (K_pos hv') (cumw_facts hv')

theorem aLof_getD (hv' : CubicValid e c uw uh) {i : ℕ} (hi : i < uw.length) :
    (aLof e c uw uh (derivs e c uw uh udl udr)).getD i 0 = aK e c uw uh udl udr i := by
  have hia : i < (aLof e c uw uh (derivs e c uw uh udl udr)).length := by
    rw [aLof, List.length_map, List.length_range]; exact hi
  rw [← SplineExec.getElem_eq_getD _ i hia]
  simp only [aLof, List.getElem_map, List.getElem_range, NF.realX_zero, NF.realX_one, NF.realX_two, NF.realX_add,
    NF.realX_sub, NF.realX_mul, NF.realX_div]
  rw [getD_take _ _ _ hi, SplineExec.getD_drop1, getD_default _ i (by rw [(W_facts hv').1]; exact hi) 1 0, ← pow_two]
  rfl

theorem bLof_getD (hv' : CubicValid e c uw uh) {i : ℕ} (hi : i < uw.length) :
    (bLof e c uw uh (derivs e c uw uh udl udr)).getD i 0 = bK e c uw uh udl udr i := by
  have hib : i < (bLof e c uw uh (derivs e c uw uh udl udr)).length := by
    rw [bLof, List.length_map, List.length_range]; exact hi
  rw [← SplineExec.getElem_eq_getD _ i hib]
  simp only [bLof, List.getElem_map, List.getElem_range, NF.realX_zero, NF.realX_one, NF.realX_two,
    NF.realX_sub, NF.realX_mul, NF.realX_div, NF.realX_ofNat, Nat.cast_ofNat]
  rw [getD_take _ _ _ hi, SplineExec.getD_drop1, getD_default _ i (by rw [(W_facts hv').1]; exact hi) 1 0]
  rfl

theorem lens (hv' : CubicValid e c uw uh) {i : ℕ} (hi : i < uw.length) :
    i < ((derivs e c uw uh udl udr).take uw.length).length ∧ i < (cumh e c uh).length ∧
    i + 1 < (cumw e c uw).length ∧ i < (H e c uh).length :=
  ⟨by rw [List.length_take, derivs_length hv', Nat.min_eq_left (Nat.le_succ _)]; exact hi,
   by rw [(cumh_facts hv').1]; exact Nat.lt_succ_of_lt hi, by rw [(cumw_facts hv').1]; exact Nat.succ_lt_succ hi,
   by rw [(H_facts hv').1]; exact hi⟩

theorem gather_real (hv' : CubicValid e c uw uh) {i : ℕ} (hi : i < uw.length) {β : Type}
    (k : ℝ → ℝ → ℝ → ℝ → ℝ → ℝ → ℝ → Except Err β) :
    CubicProgram.gather (NF.realX e) c uw.length uw uh (derivs e c uw uh udl udr) (i : Int) k
      = k (aK e c uw uh udl udr i) (bK e c uw uh udl udr i) (dv e c uw uh udl udr i) (chs e c uh i) (cws e c uw i)
          (cws e c uw (i+1)) (hv e c uh i) := by
  obtain ⟨h1, h2, h3, h4⟩ := lens (udl := udl) (udr := udr) hv' hi
  rw [CubicProgram.gather_eq (NF.realX e) c uw.length uw uh _ i 0 hi h1 h2 h3 h4]
  exact congrArg₂ (fun a b => k a b _ _ _ _ _) (aLof_getD hv' hi) (bLof_getD hv' hi) |>.trans
    (by rw [getD_take _ _ _ hi]; rfl)

theorem xn_eq (hv' : CubicValid e c uw uh) (x : ℝ) : xn e c x = (x - e c.box.left) / (e c.box.right - e c.box.left) := by
  simp [xn, hv'.hdlr]

theorem xn_unit (hv' : CubicValid e c uw uh) (x : ℝ) (hx0 : e c.box.left ≤ x) (hx1 : x ≤ e c.box.right) :
    0 ≤ xn e c x ∧ xn e c x ≤ 1 := by
  rw [xn_eq hv']
  exact ExecGlue.unit_mem hv'.hlr hx0 hx1

theorem getI_slopes (hv' : CubicValid e c uw uh) :
    getI (slopes e c uw uh) 0 = .ok (sv e c uw uh 0) ∧
    getI (slopes e c uw uh) (Int.ofNat uw.length - 1) = .ok (sv e c uw uh (uw.length - 1)) := by
  have hK := K_pos hv'
  have hsl := slopes_length hv'
  have hc : Int.ofNat uw.length - 1 = ((uw.length - 1 : ℕ) : Int) := by
    simp only [Int.ofNat_eq_natCast]; omega
  rw [hc]
  exact ⟨SplineTotal.getI_getD _ 0 (by omega), SplineTotal.getI_getD _ _ (by omega)⟩

def idxD (e : Float → ℝ) (c : CCfg) (uw uh : List ℝ) (d : Bool) (t : ℝ) : ℕ :=
  (searchsortedG (NF.realX e) c.seps (if d then cumh e c uh else cumw e c uw) t).toNat

theorem search_eq (hv' : CubicValid e c uw uh) (d : Bool) (t : ℝ) (ht0 : 0 ≤ t) (ht1 : t ≤ 1) :
    searchsortedG (NF.realX e) c.seps (if d then cumh e c uh else cumw e c uw) t = ((idxD e c uw uh d t : ℕ) : Int) ∧
    idxD e c uw uh d t < uw.length := by
  have hkn : (if d then cumh e c uh else cumw e c uw).length = uw.length + 1 ∧
      (if d then cumh e c uh else cumw e c uw).head? = some 0 ∧ (if d then cumh e c uh else cumw e c uw).getLast? = some 1 ∧
      (if d then cumh e c uh else cumw e c uw).Pairwise (· < ·) := by
    cases d
    exacts [cumw_facts hv', cumh_facts hv']
  obtain ⟨hspec, hs⟩ := SplineTotal.search_spec_list e c.seps hv'.hseps _ uw.length 0 1 (K_pos hv') hkn
  exact ⟨hs t ht0 ht1, (hspec t ((SplineExec.head_getD _ _ hkn.2.1).trans_le ht0)
    (ht1.trans_eq (SplineExec.last_getD _ _ _ hkn.1 hkn.2.2.1).symm)).1⟩

/-- **the real run, either direction**: on its domain the program succeeds and returns `core` on the entries of the bin its
    search selects -/
theorem exec_real (hv' : CubicValid e c uw uh) (d : Bool) (x : ℝ)
    (hx0 : e (if d then c.box.bottom else c.box.left) ≤ x) (hx1 : x ≤ e (if d then c.box.top else c.box.right))
    (ht : 0 ≤ CubicProgram.normIn (NF.realX e) c d x ∧ CubicProgram.normIn (NF.realX e) c d x ≤ 1) :
    cubicSpline (NF.realX e) c uw uh udl udr d x
      = .ok (CubicProgram.core (NF.realX e) c d
          (aK e c uw uh udl udr (idxD e c uw uh d (CubicProgram.normIn (NF.realX e) c d x)))
          (bK e c uw uh udl udr (idxD e c uw uh d (CubicProgram.normIn (NF.realX e) c d x)))
          (dv e c uw uh udl udr (idxD e c uw uh d (CubicProgram.normIn (NF.realX e) c d x)))
          (chs e c uh (idxD e c uw uh d (CubicProgram.normIn (NF.realX e) c d x)))
          (cws e c uw (idxD e c uw uh d (CubicProgram.normIn (NF.realX e) c d x)))
          (cws e c uw (idxD e c uw uh d (CubicProgram.normIn (NF.realX e) c d x) + 1))
          (hv e c uh (idxD e c uw uh d (CubicProgram.normIn (NF.realX e) c d x)))
          (CubicProgram.normIn (NF.realX e) c d x)) := by
  have hg1 := SplineTotal.guard_false _ _ x hx0 hx1
  obtain ⟨hs, hiK⟩ := search_eq hv' d _ ht.1 ht.2
  have h0 : getI (DualXCubic.slopesG (NF.realX e) c uw uh) 0 = .ok (sv e c uw uh 0) := (getI_slopes hv').1
  have hl : getI (DualXCubic.slopesG (NF.realX e) c uw uh) (Int.ofNat uw.length - 1) = .ok (sv e c uw uh (uw.length - 1)) :=
    (getI_slopes hv').2
  have hs' : searchsortedG (NF.realX e) c.seps
      (if d then DualXCubic.cumhG (NF.realX e) c uh else DualXCubic.cumwG (NF.realX e) c uw) (CubicProgram.normIn (NF.realX e) c d x)
        = ((idxD e c uw uh d (CubicProgram.normIn (NF.realX e) c d x) : ℕ) : Int) := hs
  rw [CubicProgram.cubicSpline_eq]
  simp only [hg1, hv'.hgW, hv'.hgH, Bool.false_eq_true, if_false, h0, hl, bind_ok, hs']
  exact gather_real hv' hiK _

/-- **C17 — in-domain totality, with the result in closed form**: for every `x ∈ [left, right]` the executed forward
    program returns `.ok`, and what it returns is the closed form of the bin the executed search selected. -/
theorem exec_eq_bin (hv' : CubicValid e c uw uh) (x : ℝ) (hx0 : e c.box.left ≤ x) (hx1 : x ≤ e c.box.right) :
    cubicSpline (NF.realX e) c uw uh udl udr false x
      = .ok ((NF.realX e).clamp 0 1 (binN e c uw uh udl udr (idxN e c uw (xn e c x)) (xn e c x))
                * e (c.box.top - c.box.bottom) + e c.box.bottom,
             Real.log (binD e c uw uh udl udr (idxN e c uw (xn e c x)) (xn e c x)) + e (boxLog c.box), []) := by
  have h := exec_real (udl := udl) (udr := udr) hv' false x hx0 hx1 (xn_unit hv' x hx0 hx1)
  simp only [CubicProgram.core, CubicProgram.normIn, idxD, Bool.false_eq_true, if_false] at h
  refine h.trans ?_
  simp only [SplineExec.evalX_eq_evalR, NF.realX_zero, NF.realX_one, NF.realX_add, NF.realX_mul, NF.realX_log,
    NF.realX_ofFloat]
  rfl

/-! ### per-bin calculus on the executed terms -/

theorem poly_strictMonoOn {s d0 d1 w : ℝ} (hw : 0 < w) (hs : 0 < s) (h0 : 0 < d0) (h0' : d0 < 3*s)
    (h1 : 0 < d1) (h1' : d1 < 3*s) : StrictMonoOn (Cubic.poly s d0 d1 w) (Set.Icc 0 w) := by
  apply strictMonoOn_of_deriv_pos (convex_Icc 0 w)
  · exact fun u _ => (Cubic.poly_hasDerivAt hw).continuousAt.continuousWithinAt
  · intro u hu
    rw [interior_Icc] at hu
    rw [(Cubic.poly_hasDerivAt (s := s) (d0 := d0) (d1 := d1) (u := u) hw).deriv]
    exact Cubic.dpoly_pos hs h0 h0' h1 h1' (div_nonneg hu.1.le hw.le) (by rw [div_le_one hw]; exact hu.2.le)

theorem binN_eq (k : ℕ) (t : ℝ) :
    binN e c uw uh udl udr k t
      = Cubic.poly (sv e c uw uh k) (dv e c uw uh udl udr k) (dv e c uw uh udl udr (k+1)) (wv e c uw k) (t - cws e c uw k)
        + chs e c uh k :=
  Bridge.cubicFwdE_eq t (cws e c uw k) (sv e c uw uh k) (dv e c uw uh udl udr k) (dv e c uw uh udl udr (k+1)) (wv e c uw k)
    (chs e c uh k)

theorem binD_eq (hv' : CubicValid e c uw uh) (k : ℕ) (hk : k < uw.length) (t : ℝ) :
    binD e c uw uh udl udr k t
      = Cubic.dpoly (sv e c uw uh k) (dv e c uw uh udl udr k) (dv e c uw uh udl udr (k+1)) ((t - cws e c uw k) / wv e c uw k) :=
  Bridge.cubicDerivE_eq t (cws e c uw k) (sv e c uw uh k) (dv e c uw uh udl udr k) (dv e c uw uh udl udr (k+1)) (wv e c uw k)
    (chs e c uh k) (wv_pos hv' k hk).ne'

theorem binD_pos (hv' : CubicValid e c uw uh) (k : ℕ) (hk : k < uw.length) (t : ℝ)
    (h0 : cws e c uw k ≤ t) (h1 : t ≤ cws e c uw (k+1)) : 0 < binD e c uw uh udl udr k t := by
  rw [binD_eq hv' k hk]
  obtain ⟨⟨a0, a1⟩, b0, b1⟩ := dv_range (udl := udl) (udr := udr) hv' k hk
  have hw := wv_pos hv' k hk
  rw [cws_succ hv' k hk] at h1
  exact Cubic.dpoly_pos (sv_pos hv' k hk) a0 a1 b0 b1 (div_nonneg (by linarith) hw.le)
    (by rw [div_le_one hw]; linarith)

theorem bin_strictMonoOn (hv' : CubicValid e c uw uh) (k : ℕ) (hk : k < uw.length) :
    StrictMonoOn (binN e c uw uh udl udr k) (Set.Icc (cws e c uw k) (cws e c uw (k+1))) := by
  obtain ⟨⟨a0, a1⟩, b0, b1⟩ := dv_range (udl := udl) (udr := udr) hv' k hk
  have hm := poly_strictMonoOn (wv_pos hv' k hk) (sv_pos hv' k hk) a0 a1 b0 b1
  intro a ha b hb hab
  rw [cws_succ hv' k hk] at ha hb
  simp only [binN_eq]
  have := hm (a := a - cws e c uw k) ⟨by linarith [ha.1], by linarith [ha.2]⟩
    (b := b - cws e c uw k) ⟨by linarith [hb.1], by linarith [hb.2]⟩ (by linarith)
  linarith

theorem bin_endpoints (hv' : CubicValid e c uw uh) (k : ℕ) (hk : k < uw.length) :
    binN e c uw uh udl udr k (cws e c uw k) = chs e c uh k ∧
    binN e c uw uh udl udr k (cws e c uw (k+1)) = chs e c uh (k+1) := by
  have hw := wv_pos hv' k hk
  constructor
  · rw [binN_eq, sub_self, Cubic.poly_left, zero_add]
  · rw [binN_eq, cws_succ hv' k hk, add_sub_cancel_left, Cubic.poly_right hw, chs_succ hv' k hk, sv_eq hv' k hk,
      div_mul_cancel₀ _ hw.ne', add_comm]

/-- the executed derivative term is the derivative of the executed Hermite term, whatever the bin's data -/
theorem cubicFwdE_hasDerivAt {x lcw s d0 d1 w d : ℝ} (hw : 0 < w) :
    HasDerivAt (fun x => evalR (Bridge.cEnv x lcw ((d0 + d1 - 2*s)/w^2) ((3*s - 2*d0 - d1)/w) d0 d) cubicFwdE)
      (evalR (Bridge.cEnv x lcw ((d0 + d1 - 2*s)/w^2) ((3*s - 2*d0 - d1)/w) d0 d) cubicDerivE) x := by
  have hfun : (fun x => evalR (Bridge.cEnv x lcw ((d0 + d1 - 2*s)/w^2) ((3*s - 2*d0 - d1)/w) d0 d) cubicFwdE)
      = fun x => Cubic.poly s d0 d1 w (x - lcw) + d := by
    funext z; exact Bridge.cubicFwdE_eq z lcw s d0 d1 w d
  rw [hfun, Bridge.cubicDerivE_eq x lcw s d0 d1 w d hw.ne']
  have hp := Cubic.poly_hasDerivAt (s := s) (d0 := d0) (d1 := d1) (u := x - lcw) hw
  have hsub : HasDerivAt (fun x : ℝ => x - lcw) 1 x := (hasDerivAt_id x).sub_const lcw
  exact ((HasDerivAt.comp x hp hsub).add_const d).congr_deriv (mul_one _)

theorem bin_hasDerivAt (hv' : CubicValid e c uw uh) (k : ℕ) (hk : k < uw.length) (t : ℝ) :
    HasDerivAt (binN e c uw uh udl udr k) (binD e c uw uh udl udr k t) t :=
  cubicFwdE_hasDerivAt (wv_pos hv' k hk)

/-! ### the normalised value function `[0,1] → [0,1]` -/

def nval (e : Float → ℝ) (c : CCfg) (uw uh : List ℝ) (udl udr : ℝ) (t : ℝ) : ℝ :=
  binN e c uw uh udl udr (idxN e c uw t) t

theorem searchedN (hv' : CubicValid e c uw uh) :
    ExecGlue.Searched uw.length (cws e c uw) (chs e c uh) 0 1 0 1 (binN e c uw uh udl udr) (idxN e c uw)
      (nval e c uw uh udl udr) where
  pos := K_pos hv'
  x0 := cws_zero hv'
  xK := cws_last hv'
  y0 := chs_zero hv'
  yK := chs_last hv'
  xs_strict := cws_strict hv'
  spec := (search_spec hv').1
  eq := fun _ _ _ => rfl
  left := fun k hk => (bin_endpoints hv' k hk).1
  right := fun k hk => (bin_endpoints hv' k hk).2
  mono := bin_strictMonoOn hv'

/-- the executed derivative term at the two knots of a bin is the knot derivative: the spline is C¹ -/
theorem binD_knots (hv' : CubicValid e c uw uh) (k : ℕ) (hk : k < uw.length) :
    binD e c uw uh udl udr k (cws e c uw k) = dv e c uw uh udl udr k ∧
    binD e c uw uh udl udr k (cws e c uw (k+1)) = dv e c uw uh udl udr (k+1) := by
  have hw := wv_pos hv' k hk
  constructor
  · rw [binD_eq hv' k hk, sub_self, zero_div]; simp [Cubic.dpoly]
  · rw [binD_eq hv' k hk, cws_succ hv' k hk, add_sub_cancel_left, div_self hw.ne']; unfold Cubic.dpoly; ring

/-! ### the value and log-abs-det the program returns, on the box -/

/-- what the program returns (0 on the error branch, which `exec_eq_bin` shows is not taken in the domain) -/
def val (e : Float → ℝ) (c : CCfg) (uw uh : List ℝ) (udl udr : ℝ) (x : ℝ) : ℝ :=
  match cubicSpline (NF.realX e) c uw uh udl udr false x with
  | .ok r => r.1
  | .error _ => 0
def ld (e : Float → ℝ) (c : CCfg) (uw uh : List ℝ) (udl udr : ℝ) (x : ℝ) : ℝ :=
  match cubicSpline (NF.realX e) c uw uh udl udr false x with
  | .ok r => r.2.1
  | .error _ => 0

def xk (e : Float → ℝ) (c : CCfg) (uw : List ℝ) (k : ℕ) : ℝ := e c.box.left + (e c.box.right - e c.box.left) * cws e c uw k

theorem clamp_inactive (hv' : CubicValid e c uw uh) (x : ℝ) (hx0 : e c.box.left ≤ x) (hx1 : x ≤ e c.box.right) :
    0 ≤ nval e c uw uh udl udr (xn e c x) ∧ nval e c uw uh udl udr (xn e c x) ≤ 1 ∧
    (NF.realX e).clamp 0 1 (nval e c uw uh udl udr (xn e c x)) = nval e c uw uh udl udr (xn e c x) := by
  obtain ⟨ht0, ht1⟩ := xn_unit hv' x hx0 hx1
  obtain ⟨h0, h1⟩ := (searchedN (udl := udl) (udr := udr) hv').mapsTo ⟨ht0, ht1⟩
  exact ⟨h0, h1, NF.realX_clamp_id e 0 1 _ h0 h1⟩

theorem val_eq (hv' : CubicValid e c uw uh) (x : ℝ) (hx0 : e c.box.left ≤ x) (hx1 : x ≤ e c.box.right) :
    val e c uw uh udl udr x = nval e c uw uh udl udr (xn e c x) * (e c.box.top - e c.box.bottom) + e c.box.bottom := by
  unfold val
  rw [exec_eq_bin hv' x hx0 hx1]
  have := (clamp_inactive (udl := udl) (udr := udr) hv' x hx0 hx1).2.2
  unfold nval at this
  simp only [this, hv'.hdbt]
  rfl

theorem ld_eq (hv' : CubicValid e c uw uh) (x : ℝ) (hx0 : e c.box.left ≤ x) (hx1 : x ≤ e c.box.right) :
    ld e c uw uh udl udr x
      = Real.log (binD e c uw uh udl udr (idxN e c uw (xn e c x)) (xn e c x)) + e (boxLog c.box) := by
  unfold ld
  rw [exec_eq_bin hv' x hx0 hx1]

variable (e c uw uh udl udr) in
def binX (k : ℕ) (x : ℝ) : ℝ :=
  binN e c uw uh udl udr k ((x - e c.box.left) / (e c.box.right - e c.box.left)) * (e c.box.top - e c.box.bottom) + e c.box.bottom
variable (e c uw uh udl udr) in
def ldX (k : ℕ) (x : ℝ) : ℝ :=
  Real.log (binD e c uw uh udl udr k ((x - e c.box.left) / (e c.box.right - e c.box.left))) + e (boxLog c.box)

theorem searched (hv' : CubicValid e c uw uh) :
    ExecGlue.Searched uw.length (xk e c uw) (fun k => e c.box.bottom + (e c.box.top - e c.box.bottom) * chs e c uh k)
      (e c.box.left) (e c.box.right) (e c.box.bottom) (e c.box.top) (binX e c uw uh udl udr)
      (fun x => idxN e c uw ((x - e c.box.left) / (e c.box.right - e c.box.left))) (val e c uw uh udl udr) :=
  (searchedN hv').rescale hv'.hlr hv'.hbt (fun x h0 h1 => by rw [val_eq hv' x h0 h1, xn_eq hv']; rfl)

/-- **C09: the executed cubic spline is a strictly increasing BIJECTION of `[left, right]` onto `[bottom, top]`**: onto by
    the intermediate value theorem inside the bin whose y-knots bracket the target (the bin formulas are differentiable, so
    continuous) -/
theorem val_bijOn (hv' : CubicValid e c uw uh) :
    Set.BijOn (val e c uw uh udl udr) (Set.Icc (e c.box.left) (e c.box.right)) (Set.Icc (e c.box.bottom) (e c.box.top)) :=
  (searched hv').bijOn_of_continuousOn fun k hk x _ =>
    (((bin_hasDerivAt hv' k hk _).continuousAt.comp (ExecGlue.unit_hasDerivAt _ _ x).continuousAt).mul
      continuousAt_const).add continuousAt_const |>.continuousWithinAt

/-- **C01 on the whole open box**: at EVERY `x ∈ (left, right)` — inside bins and at interior knots, where the derivative
    terms of the two neighbours are both the knot derivative (`binD_knots`) — the executed value is differentiable and its
    derivative is `exp` of the executed log-abs-det; the only extra hypothesis is that the reading of the Python double
    `log((top-bottom)/(right-left))` is that real logarithm. -/
theorem val_hasDerivAt_all (hv' : CubicValid e c uw uh)
    (hbl : e (boxLog c.box) = Real.log ((e c.box.top - e c.box.bottom) / (e c.box.right - e c.box.left)))
    (x : ℝ) (hxL : e c.box.left < x) (hxR : x < e c.box.right) :
    HasDerivAt (val e c uw uh udl udr) (Real.exp (ld e c uw uh udl udr x)) x := by
  refine (searched hv').hasDerivAt_all (ldf := ldX e c uw uh udl udr)
    (fun x h0 h1 => by rw [ld_eq hv' x h0 h1, xn_eq hv']; rfl) (fun k hk x h0 h1 => ?_) (fun k hk => ?_) x hxL hxR
  · have hpos := binD_pos (udl := udl) (udr := udr) hv' k hk ((x - e c.box.left) / (e c.box.right - e c.box.left))
      ((ExecGlue.unit_le_iff hv'.hlr).1.2 h0) ((ExecGlue.unit_le_iff hv'.hlr).2.2 h1)
    unfold ldX
    rw [hbl]
    exact ExecGlue.rescale_hasDerivAt hv'.hlr hv'.hbt ((bin_hasDerivAt hv' k hk _).congr_deriv (Real.exp_log hpos).symm)
  · have hn : (xk e c uw (k+1) - e c.box.left) / (e c.box.right - e c.box.left) = cws e c uw (k+1) :=
      ExecGlue.unit_scale hv'.hlr
    unfold ldX
    rw [hn, (binD_knots hv' k (Nat.lt_of_succ_lt hk)).2, (binD_knots hv' (k+1) hk).1]

theorem ld_arg_pos (hv' : CubicValid e c uw uh) (x : ℝ) (hx0 : e c.box.left ≤ x) (hx1 : x ≤ e c.box.right) :
    0 < binD e c uw uh udl udr (idxN e c uw (xn e c x)) (xn e c x) := by
  obtain ⟨ht0, ht1⟩ := xn_unit hv' x hx0 hx1
  obtain ⟨hiK, hle, hle1, _⟩ := (search_spec hv').1.mem_bin (cws_zero hv') (cws_last hv') (xn e c x) ht0 ht1
  exact binD_pos hv' _ hiK _ hle hle1

/-- C01 in the per-bin form of the other spline families: inside the open bin `k` (box coordinates) -/
theorem val_hasDerivAt (hv' : CubicValid e c uw uh)
    (hbl : e (boxLog c.box) = Real.log ((e c.box.top - e c.box.bottom) / (e c.box.right - e c.box.left)))
    (k : ℕ) (hk : k < uw.length) (x : ℝ) (h0 : xk e c uw k < x) (h1 : x < xk e c uw (k+1)) :
    HasDerivAt (val e c uw uh udl udr) (Real.exp (ld e c uw uh udl udr x)) x :=
  val_hasDerivAt_all hv' hbl x ((searched (udl := udl) (udr := udr) hv').open_bin_subset k hk ⟨h0, h1⟩).1
    ((searched (udl := udl) (udr := udr) hv').open_bin_subset k hk ⟨h0, h1⟩).2

theorem val_knot (hv' : CubicValid e c uw uh) (k : ℕ) (hk : k ≤ uw.length) :
    val e c uw uh udl udr (xk e c uw k) = e c.box.bottom + (e c.box.top - e c.box.bottom) * chs e c uh k :=
  (searched hv').knot k hk

theorem exec_ok (hv' : CubicValid e c uw uh) (x : ℝ) (hx0 : e c.box.left ≤ x) (hx1 : x ≤ e c.box.right) :
    cubicSpline (NF.realX e) c uw uh udl udr false x = .ok (val e c uw uh udl udr x, ld e c uw uh udl udr x, []) := by
  unfold val ld; rw [exec_eq_bin hv' x hx0 hx1]

theorem exec_total (hv' : CubicValid e c uw uh) (x : ℝ) (hx0 : e c.box.left ≤ x) (hx1 : x ≤ e c.box.right) :
    ∃ r, cubicSpline (NF.realX e) c uw uh udl udr false x = .ok r := ⟨_, exec_eq_bin hv' x hx0 hx1⟩

/-! ### non-vacuity: a concrete accepted configuration (two bins on the unit box) with a concrete reading of the doubles -/

/- `eNV` the two-valued reading (`0.0 ↦ 0`, every other double `↦ 1`); `cNV` the unit box with zero floors -/
def eNV (f : Float) : ℝ := if f == 0.0 then 0 else 1
def cNV : CCfg := { box := ⟨0.0, 1.0, 0.0, 1.0⟩, minW := 0.0, minH := 0.0 }

theorem eNV_zero : eNV 0.0 = 0 := if_pos FloatFacts.zero_beq_zero
theorem eNV_of_ne {f : Float} (h : (f == 0.0) = false) : eNV f = 1 := if_neg (ne_true_of_eq_false h)

theorem valid_example : CubicValid eNV cNV [0, 0] [0, 0] := by
  have h1 : eNV 1.0 = 1 := eNV_of_ne FloatFacts.one_beq_zero
  have hc : eNV (1 - 0.0 * (2:Nat).toFloat) = 1 - eNV 0.0 * ((2:ℕ):ℝ) := by
    rw [FloatFacts.floor_two_eq, h1, eNV_zero, zero_mul, sub_zero]
  have hK : eNV 0.0 * ((2:ℕ):ℝ) ≤ 1 := by rw [eNV_zero, zero_mul]; exact zero_le_one
  have hlt : eNV 0.0 < eNV 1.0 := by rw [eNV_zero, h1]; exact zero_lt_one
  have hd : eNV (1.0 - 0.0) = eNV 1.0 - eNV 0.0 := by rw [FloatFacts.one_sub_zero_eq, eNV_zero, sub_zero]
  exact
    { hK := List.cons_ne_nil _ _, hlenh := rfl, hgW := FloatFacts.guard_two, hgH := FloatFacts.guard_two,
      hmW0 := eNV_zero.ge, hcW := hc, hmWK := hK, hmH0 := eNV_zero.ge, hcH := hc, hmHK := hK,
      hlr := hlt, hdlr := hd, hbt := hlt, hdbt := hd,
      hseps := lt_of_lt_of_eq one_pos (eNV_of_ne FloatFacts.eps_beq_zero).symm,
      hhalf := lt_of_lt_of_eq one_pos (eNV_of_ne FloatFacts.half_beq_zero).symm }

/-- the extra hypothesis of `val_hasDerivAt_all` holds for the example as soon as the (kernel-opaque) `Float.log`
    evaluates `log((1-0)/(1-0))` to `0.0` -/
theorem hbl_example (h : (boxLog cNV.box == 0.0) = true) :
    eNV (boxLog cNV.box)
      = Real.log ((eNV cNV.box.top - eNV cNV.box.bottom) / (eNV cNV.box.right - eNV cNV.box.left)) := by
  have h0 : eNV (boxLog cNV.box) = 0 := if_pos h
  show _ = Real.log ((eNV 1.0 - eNV 0.0) / (eNV 1.0 - eNV 0.0))
  rw [h0, eNV_of_ne FloatFacts.one_beq_zero, eNV_zero, sub_zero, div_one, Real.log_one]

end
end CubicWhole
