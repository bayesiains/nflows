import NflowsModel.Lemmas.Pushforward
/-!
# Lemmas/ChangeOfVar — a flow over a normalised base density is a normalised density (C03)

The forms `Properties/C03.lean` and `Properties/C04.lean` restate, each read off the change-of-variables lemmas of `Lemmas/Pushforward.lean`.
-/

namespace ChangeOfVar

open MeasureTheory

/-- C03, 1-D: a bijection of ℝ whose derivative is exp(logdet) pulls a normalised density back to a normalised density -/
theorem flow_normalised_1d (f ld p : ℝ → ℝ)
    (hbij : Function.Bijective f) (hd : ∀ x, HasDerivAt f (Real.exp (ld x)) x) (hp : ∫ z, p z = 1) :
    ∫ x, p (f x) * Real.exp (ld x) = 1 := by
  have h := Pushforward.integral_image_countable_exception f (fun x => Real.exp (ld x)) ld p Set.univ ∅
    MeasurableSet.univ Set.countable_empty hbij.injective.injOn (fun x _ => (hd x).hasDerivWithinAt)
    (fun x _ => abs_of_pos (Real.exp_pos _))
  rwa [Set.image_univ, hbij.surjective.range_eq, Measure.restrict_univ, hp, eq_comm] at h

/-- in log form, as `Flow._log_prob` computes it (flows/base.py:42-49): exp(log p(f x) + logabsdet) -/
theorem flow_logprob_normalised_1d (f ld logp : ℝ → ℝ)
    (hbij : Function.Bijective f) (hd : ∀ x, HasDerivAt f (Real.exp (ld x)) x)
    (hp : ∫ z, Real.exp (logp z) = 1) :
    ∫ x, Real.exp (logp (f x) + ld x) = 1 := by
  simp_rw [Real.exp_add]
  exact flow_normalised_1d f ld (fun z => Real.exp (logp z)) hbij hd hp

/-- on supports: `T` one-to-one and differentiable on a measurable set `U` (not necessarily open) with image `V`, e.g. splines on their box -/
theorem flow_normalised_on {n : ℕ} (U V : Set (Fin n → ℝ)) (hU : MeasurableSet U)
    (T : (Fin n → ℝ) → (Fin n → ℝ)) (T' : (Fin n → ℝ) → ((Fin n → ℝ) →L[ℝ] (Fin n → ℝ)))
    (ld : (Fin n → ℝ) → ℝ) (p : (Fin n → ℝ) → ℝ)
    (hinj : Set.InjOn T U) (himg : T '' U = V) (hd : ∀ x ∈ U, HasFDerivWithinAt T (T' x) U x)
    (hld : ∀ x, |(T' x).det| = Real.exp (ld x)) (hp : ∫ z in V, p z = 1) :
    ∫ x in U, p (T x) * Real.exp (ld x) = 1 := by
  rw [← Pushforward.integral_image_nd T T' ld p U hU hinj hd (fun x _ => hld x), himg, hp]

theorem flow_normalised_nd {n : ℕ} (T : (Fin n → ℝ) → (Fin n → ℝ))
    (T' : (Fin n → ℝ) → ((Fin n → ℝ) →L[ℝ] (Fin n → ℝ))) (ld : (Fin n → ℝ) → ℝ) (p : (Fin n → ℝ) → ℝ)
    (hbij : Function.Bijective T) (hd : ∀ x, HasFDerivAt T (T' x) x)
    (hld : ∀ x, |(T' x).det| = Real.exp (ld x)) (hp : ∫ z, p z = 1) :
    ∫ x, p (T x) * Real.exp (ld x) = 1 := by
  have h := flow_normalised_on Set.univ Set.univ MeasurableSet.univ T T' ld p hbij.injective.injOn
    (by rw [Set.image_univ, hbij.surjective.range_eq]) (fun x _ => (hd x).hasFDerivWithinAt) hld
    (by rwa [Measure.restrict_univ])
  rwa [Measure.restrict_univ] at h

end ChangeOfVar
