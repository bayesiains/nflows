import NflowsModel.Lemmas.SplineTotal
import NflowsModel.Real.Bridge
import NflowsModel.Lemmas.Quad
import NflowsModel.Lemmas.ElemPair
import Mathlib.Analysis.Calculus.Deriv.Comp
/-!
# Lemmas/QuadWhole — the executed piecewise-quadratic spline, forward direction, over the reals

`quadSpline (NF.realX e) c uw uh false` is the list program the driver runs at `Float`/`Float32`, instantiated at ℝ.  It is
split as guards → `padU` (tails shape only: the unnormalised heights are padded with the constant the code computes) →
`quadRest`.  Everything is proved about `quadRest` on ANY positive widths summing to one and ANY positive unnormalised
heights (`CoreValid`; over ℝ the total area is exactly 1, so both `setLast … 1` and the clamp are the identity), lifted to
the box for any program that runs `quadRest` on the normalised input (`RunsRest`), and instantiated at the bounded shape
(`QuadValid`, `uh` has `K+1` entries) and the tails shape (`QuadValidT`, `K-1` entries, `K ≥ 2`).  A finding about the tails
padding is at `tails_boundary_height_not_one`.  The per-bin facts come from `Lemmas/Quad`.
-/
open NF DualSound

namespace QuadWhole
noncomputable section
variable (e : Float → ℝ)

/-! ### list facts: `pairMeans`, `0 :: cumsum`, weighted sums -/

theorem pairMeans_length (l : List ℝ) : (pairMeans (NF.realX e) l).length = l.length - 1 := by
  induction l with
  | nil => rfl
  | cons a t ih =>
    cases t with
    | nil => rfl
    | cons b r => exact congrArg (· + 1) ih

theorem pairMeans_getD (l : List ℝ) (k : ℕ) (h : k + 1 < l.length) :
    (pairMeans (NF.realX e) l).getD k 0 = (l.getD k 0 + l.getD (k+1) 0) / 2 := by
  induction l generalizing k with
  | nil => exact absurd h (Nat.not_lt_zero _)
  | cons a t ih =>
    cases t with
    | nil => exact absurd h (by simp)
    | cons b r =>
      cases k with
      | zero => exact congrArg (fun z => (a + b) / z) (NF.realX_two e)
      | succ j => exact ih j (Nat.lt_of_succ_lt_succ h)

theorem pairMeans_pos (l : List ℝ) (hl : ∀ x ∈ l, 0 < x) : ∀ y ∈ pairMeans (NF.realX e) l, 0 < y := by
  induction l with
  | nil => simp [pairMeans]
  | cons a t ih =>
    cases t with
    | nil => simp [pairMeans]
    | cons b r =>
      intro y hy
      simp only [pairMeans, List.mem_cons] at hy
      rcases hy with rfl | hy
      · have ha := hl a (by simp)
        have hb := hl b (by simp)
        simp only [NF.realX_div, NF.realX_add, NF.realX_two]
        positivity
      · exact ih (fun x hx => hl x (List.mem_cons_of_mem _ hx)) y hy

theorem pairMeans_map_affine (a b : ℝ) (l : List ℝ) :
    pairMeans (NF.realX e) (l.map (fun u => a + b * u)) = (pairMeans (NF.realX e) l).map (fun p => a + b * p) := by
  induction l with
  | nil => simp [pairMeans]
  | cons x t ih =>
    cases t with
    | nil => simp [pairMeans]
    | cons y r =>
      simp only [List.map_cons, pairMeans] at ih ⊢
      rw [ih]
      simp only [NF.realX_div, NF.realX_add, NF.realX_two, List.cons.injEq, and_true]
      ring

theorem zipMul_pos (p w : List ℝ) (hp : ∀ x ∈ p, 0 < x) (hw : ∀ x ∈ w, 0 < x) :
    ∀ y ∈ List.zipWith (NF.realX e).mul p w, 0 < y := by
  induction p generalizing w with
  | nil => simp
  | cons a t ih =>
    cases w with
    | nil => simp
    | cons b r =>
      intro y hy
      simp only [List.zipWith_cons_cons, List.mem_cons] at hy
      rcases hy with rfl | hy
      · exact mul_pos (hp a (by simp)) (hw b (by simp))
      · exact ih r (fun x hx => hp x (List.mem_cons_of_mem _ hx)) (fun x hx => hw x (List.mem_cons_of_mem _ hx)) y hy

theorem zipMul_affine_sum (a b : ℝ) (p w : List ℝ) (hlen : p.length = w.length) :
    (List.zipWith (NF.realX e).mul (p.map (fun t => a + b * t)) w).sum
      = a * w.sum + b * (List.zipWith (NF.realX e).mul p w).sum := by
  induction p generalizing w with
  | nil =>
    cases w with
    | nil => simp
    | cons _ _ => simp at hlen
  | cons x t ih =>
    cases w with
    | nil => simp at hlen
    | cons y r =>
      have := ih r (by simpa using hlen)
      simp only [List.map_cons, List.zipWith_cons_cons, List.sum_cons, NF.realX_mul] at this ⊢
      rw [this]; ring

theorem zipMul_getD (p w : List ℝ) (k : ℕ) (hp : k < p.length) (hw : k < w.length) :
    (List.zipWith (NF.realX e).mul p w).getD k 0 = p.getD k 0 * w.getD k 0 := by
  simp [List.getD, hp, hw]


/-! ### the program after the (optional) tails padding of the unnormalised heights, forward direction -/

/-- the text of `quadSpline` from `area` on (forward branch), as a function of the widths, the (padded) unnormalised
    heights and the normalised input -/
def quadRest {α : Type} (o : XOps α) (c : QCfg) (widths uhe : List α) (x' : α) : Except Err (α × α) := do
  let area := sumG o (List.zipWith o.mul (pairMeans o uhe) widths)
  let heights := uhe.map (fun u => o.add (o.ofFloat c.minH) (o.mul (o.ofFloat (1 - c.minH)) (o.div u area)))
  let blc := cumsumG o (List.zipWith o.mul (pairMeans o heights) widths)
  let blc := o.zero :: setLast blc o.one
  let locs := o.zero :: setLast (cumsumG o widths) o.one
  let idx := searchsortedG o c.eps locs x'
  let loc ← getI locs idx
  let w ← getI widths idx
  let lcdf ← getI blc idx
  let hl ← getI heights idx
  let hr ← getI heights (idx + 1)
  let env := [x', loc, w, lcdf, hl, hr]
  let bl := o.ofFloat (boxLog c.box)
  let out := o.clamp o.zero o.one (evalX o env quadFwdE)
  let ld := evalX o env quadFwdLdE
  return (o.add (o.mul out (o.ofFloat (c.box.top - c.box.bottom))) (o.ofFloat c.box.bottom), o.add ld bl)

def fwdOut {α : Type} (o : XOps α) (c : QCfg) (env : List α) : α × α :=
  (o.add (o.mul (o.clamp o.zero o.one (evalX o env quadFwdE)) (o.ofFloat (c.box.top - c.box.bottom))) (o.ofFloat c.box.bottom),
    o.add (evalX o env quadFwdLdE) (o.ofFloat (boxLog c.box)))

/-- **`quadRest` after its control flow**, over any `XOps`: once the knot lists are named, the search has returned bin `i`
    and the five gathers have succeeded, the program is the closed form on the gathered entries.  It holds by unfolding for
    every scalar type, so the real run and the dual run are read off the same statement. -/
theorem quadRest_of_search {α : Type} (o : XOps α) (c : QCfg) (W U : List α) (x : α) {hts blc locs : List α}
    (hH : U.map (fun u => o.add (o.ofFloat c.minH) (o.mul (o.ofFloat (1 - c.minH))
      (o.div u (sumG o (List.zipWith o.mul (pairMeans o U) W))))) = hts)
    (hB : o.zero :: setLast (cumsumG o (List.zipWith o.mul (pairMeans o hts) W)) o.one = blc)
    (hL : o.zero :: setLast (cumsumG o W) o.one = locs)
    {i : ℕ} {loc w lcdf hl hr : α} (h1 : getI locs (i : Int) = .ok loc) (h2 : getI W (i : Int) = .ok w)
    (h3 : getI blc (i : Int) = .ok lcdf) (h4 : getI hts (i : Int) = .ok hl) (h5 : getI hts ((i : Int) + 1) = .ok hr)
    (hs : searchsortedG o c.eps locs x = (i : Int)) :
    quadRest o c W U x = .ok (fwdOut o c [x, loc, w, lcdf, hl, hr]) := by
  unfold quadRest
  simp only [hH, hB, hL, hs, h1, h2, h3, h4, h5]
  rfl

/-- the padding constant, as the program computes it from the gathered `w0 wl u0 ul` -/
def cstOf {α : Type} (o : XOps α) (widths uhe : List α) (K : ℕ) (w0 wl u0 ul : α) : α :=
  let half := o.ofFloat 0.5
  let fw := o.mul half w0
  let lw := o.mul half wl
  let inner := List.zipWith o.mul (pairMeans o uhe) ((widths.drop 1).take (K - 2))
  let numer := o.add (o.add (o.mul (o.mul half fw) u0) (o.mul (o.mul half lw) ul)) (sumG o inner)
  o.div numer (o.sub (o.sub o.one (o.mul half fw)) (o.mul half lw))

/-- the text of the (optional) padding step of `quadSpline` -/
def padU {α : Type} (o : XOps α) (widths uhe : List α) (K : ℕ) : Except Err (List α) :=
  if uhe.length + 1 == K then do
    let w0 ← getI widths 0
    let wl ← getI widths (K - 1)
    let u0 ← getI uhe 0
    let ul ← getI uhe (Int.ofNat uhe.length - 1)
    let cst := cstOf o widths uhe K w0 wl u0 ul
    pure (cst :: (uhe ++ [cst]))
  else pure uhe

/-- `quadSpline … false` = guards, then the padding step, then `quadRest` (any scalar type) -/
theorem quadSpline_split {α : Type} (o : XOps α) (c : QCfg) (uw uh : List α) (x : α)
    (hg : (o.lt x (o.ofFloat c.box.left) || o.lt (o.ofFloat c.box.right) x) = false)
    (hgW : ¬ (c.minW * uw.length.toFloat > 1.0)) (hgH : ¬ (c.minH * uw.length.toFloat > 1.0)) :
    quadSpline o c uw uh false x
      = (padU o (flooredSoftmax o c.minW uw) (uh.map (fun u => o.add (o.softplus u) (o.ofFloat 1e-3))) uw.length) >>= fun U =>
        quadRest o c (flooredSoftmax o c.minW uw) U
          (o.div (o.sub x (o.ofFloat c.box.left)) (o.ofFloat (c.box.right - c.box.left))) := by
  unfold quadSpline quadRest padU cstOf
  simp only [Bool.false_eq_true, if_false, hg, hgW, hgH]

theorem padU_of_ne {α : Type} (o : XOps α) (widths uhe : List α) (K : ℕ) (h : uhe.length + 1 ≠ K) :
    padU o widths uhe K = .ok uhe := by
  unfold padU
  rw [if_neg (by simpa using h)]
  rfl

theorem padU_tails_gen {α : Type} (o : XOps α) (z : α) (Wd Ud : List α) (K : ℕ) (hU : 0 < Ud.length)
    (hK : Ud.length + 1 = K) (hW : Wd.length = K) :
    padU o Wd Ud K = .ok (cstOf o Wd Ud K (Wd.getD 0 z) (Wd.getD (K - 1) z) (Ud.getD 0 z) (Ud.getD (Ud.length - 1) z) ::
      (Ud ++ [cstOf o Wd Ud K (Wd.getD 0 z) (Wd.getD (K - 1) z) (Ud.getD 0 z) (Ud.getD (Ud.length - 1) z)])) := by
  have hb : (Ud.length + 1 == K) = true := by simpa using hK
  have g1 : getI Wd 0 = .ok (Wd.getD 0 z) := by
    have := SplineTotal.getI_ok_getD Wd 0 (by omega) z
    simpa using this
  have g2 : getI Wd ((K : Int) - 1) = .ok (Wd.getD (K - 1) z) := by
    have := SplineTotal.getI_ok_getD Wd (K - 1) (by omega) z
    have hc : ((K - 1 : ℕ) : Int) = (K : Int) - 1 := by omega
    rw [hc] at this
    exact this
  have g3 : getI Ud 0 = .ok (Ud.getD 0 z) := by
    have := SplineTotal.getI_ok_getD Ud 0 (by omega) z
    simpa using this
  have g4 : getI Ud (Int.ofNat Ud.length - 1) = .ok (Ud.getD (Ud.length - 1) z) := by
    have := SplineTotal.getI_ok_getD Ud (Ud.length - 1) (by omega) z
    have hc : ((Ud.length - 1 : ℕ) : Int) = Int.ofNat Ud.length - 1 := by
      simp only [Int.ofNat_eq_natCast]; omega
    rw [hc] at this
    exact this
  unfold padU
  simp only [hb, if_true, g1, g2, g3, g4]
  rfl

/-- **bounded case** (`uh` has `K+1` entries): the tails padding is not executed and the program is `quadRest` on the
    floored-softmax widths and `softplus(u)+1e-3` -/
theorem quadSpline_bounded {α : Type} (o : XOps α) (c : QCfg) (uw uh : List α) (x : α)
    (hg : (o.lt x (o.ofFloat c.box.left) || o.lt (o.ofFloat c.box.right) x) = false)
    (hgW : ¬ (c.minW * uw.length.toFloat > 1.0)) (hgH : ¬ (c.minH * uw.length.toFloat > 1.0))
    (hlen : uh.length + 1 ≠ uw.length) :
    quadSpline o c uw uh false x
      = quadRest o c (flooredSoftmax o c.minW uw) (uh.map (fun u => o.add (o.softplus u) (o.ofFloat 1e-3)))
          (o.div (o.sub x (o.ofFloat c.box.left)) (o.ofFloat (c.box.right - c.box.left))) := by
  rw [quadSpline_split o c uw uh x hg hgW hgH, padU_of_ne _ _ _ _ (by rw [List.length_map]; exact hlen),
    ExecGlue.ok_bind]

/-! ### the lists the program builds, and what is true of them -/
/- Names used from here on (normalised coordinates, `t ∈ [0,1]`): `Wd` widths, `U` padded unnormalised heights; `area` their
   trapezium sum; `hts` normalised heights, `ars` bin areas, `blc` cdf knots (`0 :: cumsum ars`), `locs` location knots;
   `lc wd bl ht k` the `k`-th entry of `locs Wd blc hts`; `idxN` the searched bin, `binN binLdN` the closed forms of bin `k`,
   `GN LdN` the whole normalised cdf and log-density.  In box coordinates: `nx` the normalised input, `Wq Uq` the widths and
   heights `quadSpline` forms, `cstT Ut` the tails padding constant and padded heights, `gen_*` the statements for any
   program that runs `quadRest` on `nx x` (`RunsRest`). -/

/- The fields of `CoreValid` (second stage, Core/Spline.lean:202-223, on ANY widths `Wd` and padded heights `U`):
   `hK hlenU`        `K ≥ 1` widths, `K+1` unnormalised heights (gathers :208-212 in range);
   `hWpos hWsum`     the widths are positive and sum to one (true of the floored softmax);
   `hUpos`           unnormalised heights `softplus(u) + 1e-3` are positive, so the area :202 is;
   `hmH0 hcH hmH1`   floor of the heights :203: `0 ≤ min_h ≤ 1` and the double `1 - min_h` read exactly;
   `heps`            the `eps` of `searchsortedG` is positive. -/
/-- what the second stage needs of the widths `Wd` and the (padded) unnormalised heights `U` -/
structure CoreValid (c : QCfg) (Wd U : List ℝ) : Prop where
  hK : Wd ≠ []
  hlenU : U.length = Wd.length + 1
  hWpos : ∀ w ∈ Wd, 0 < w
  hWsum : Wd.sum = 1
  hUpos : ∀ u ∈ U, 0 < u
  hmH0 : 0 ≤ e c.minH
  hcH : e (1 - c.minH) = 1 - e c.minH
  hmH1 : e c.minH ≤ 1
  heps : 0 < e c.eps

def area (Wd U : List ℝ) : ℝ := sumG (NF.realX e) (List.zipWith (NF.realX e).mul (pairMeans (NF.realX e) U) Wd)
def hts (c : QCfg) (Wd U : List ℝ) : List ℝ :=
  U.map (fun u => (NF.realX e).add ((NF.realX e).ofFloat c.minH)
    ((NF.realX e).mul ((NF.realX e).ofFloat (1 - c.minH)) ((NF.realX e).div u (area e Wd U))))
/-- areas of the trapezia under the normalised piecewise-linear density -/
def ars (c : QCfg) (Wd U : List ℝ) : List ℝ :=
  List.zipWith (NF.realX e).mul (pairMeans (NF.realX e) (hts e c Wd U)) Wd
def blc (c : QCfg) (Wd U : List ℝ) : List ℝ :=
  (NF.realX e).zero :: setLast (cumsumG (NF.realX e) (ars e c Wd U)) (NF.realX e).one
def locs (Wd : List ℝ) : List ℝ := (NF.realX e).zero :: setLast (cumsumG (NF.realX e) Wd) (NF.realX e).one

variable {e}
variable {c : QCfg} {Wd U : List ℝ}

theorem pm_length (hv : CoreValid e c Wd U) : (pairMeans (NF.realX e) U).length = Wd.length := by
  rw [pairMeans_length, hv.hlenU]; omega

theorem area_pos (hv : CoreValid e c Wd U) : 0 < area e Wd U := by
  unfold area
  rw [NF.sumG_real]
  refine List.sum_pos _ (zipMul_pos e _ _ (pairMeans_pos e U hv.hUpos) hv.hWpos) fun h => ?_
  have := congrArg List.length h
  simp only [List.length_zipWith, pm_length hv, List.length_nil, min_self] at this
  exact hv.hK (List.length_eq_zero_iff.mp this)

theorem hts_eq (hv : CoreValid e c Wd U) :
    hts e c Wd U = U.map (fun u => e c.minH + ((1 - e c.minH) / area e Wd U) * u) := by
  unfold hts
  apply List.map_congr_left
  intro u _
  simp only [NF.realX_add, NF.realX_ofFloat, NF.realX_mul, NF.realX_div, hv.hcH]
  ring

theorem hts_length (hv : CoreValid e c Wd U) : (hts e c Wd U).length = Wd.length + 1 := by
  simp [hts, hv.hlenU]

theorem hts_pos (hv : CoreValid e c Wd U) : ∀ h ∈ hts e c Wd U, 0 < h := by
  intro h hh
  rw [hts_eq hv] at hh
  simp only [List.mem_map] at hh
  obtain ⟨u, hu, rfl⟩ := hh
  have hup := hv.hUpos u hu
  have ha := area_pos hv
  have hm0 := hv.hmH0
  have hm1 := hv.hmH1
  rcases eq_or_lt_of_le hm1 with h1 | h1
  · rw [h1]; simp
  · have : 0 < (1 - e c.minH) / area e Wd U * u := by
      apply mul_pos (div_pos (by linarith) ha) hup
    linarith

theorem ars_length (hv : CoreValid e c Wd U) : (ars e c Wd U).length = Wd.length := by
  simp [ars, pairMeans_length, hts_length hv]

theorem ars_pos (hv : CoreValid e c Wd U) : ∀ a ∈ ars e c Wd U, 0 < a :=
  zipMul_pos e _ _ (pairMeans_pos e _ (hts_pos hv)) hv.hWpos

/-- **the total area under the normalised piecewise-linear density is exactly 1** (over the reals): the floor
    `minH + (1-minH)·u/area` keeps the normalisation because the widths sum to one -/
theorem ars_sum (hv : CoreValid e c Wd U) : (ars e c Wd U).sum = 1 := by
  unfold ars
  rw [hts_eq hv, pairMeans_map_affine, zipMul_affine_sum e _ _ _ _ (pm_length hv), hv.hWsum]
  have ha := area_pos hv
  have : (List.zipWith (NF.realX e).mul (pairMeans (NF.realX e) U) Wd).sum = area e Wd U := by
    unfold area; rw [NF.sumG_real]
  rw [this]
  field_simp
  ring

theorem ars_ne (hv : CoreValid e c Wd U) : ars e c Wd U ≠ [] := by
  intro h
  have := ars_length hv
  rw [h] at this
  exact hv.hK (List.length_eq_zero_iff.mp this.symm)

theorem locs_facts (hv : CoreValid e c Wd U) :
    (locs e Wd).length = Wd.length + 1 ∧ (locs e Wd).head? = some 0 ∧
    (locs e Wd).getLast? = some 1 ∧ (locs e Wd).Pairwise (· < ·) := by
  have := SplineExec.unitKnots_valid e Wd hv.hK hv.hWpos hv.hWsum
  simpa [locs] using this

theorem blc_facts (hv : CoreValid e c Wd U) :
    (blc e c Wd U).length = Wd.length + 1 ∧ (blc e c Wd U).head? = some 0 ∧
    (blc e c Wd U).getLast? = some 1 ∧ (blc e c Wd U).Pairwise (· < ·) := by
  have := SplineExec.unitKnots_valid e (ars e c Wd U) (ars_ne hv) (ars_pos hv) (ars_sum hv)
  rw [ars_length hv] at this
  simpa [blc] using this

/-! ### knots and per-bin closed forms, normalised coordinates -/

variable (e)
def lc (Wd : List ℝ) (k : ℕ) : ℝ := (locs e Wd).getD k 0
def wd (Wd : List ℝ) (k : ℕ) : ℝ := Wd.getD k 0
def bl (c : QCfg) (Wd U : List ℝ) (k : ℕ) : ℝ := (blc e c Wd U).getD k 0
def ht (c : QCfg) (Wd U : List ℝ) (k : ℕ) : ℝ := (hts e c Wd U).getD k 0

def idxN (c : QCfg) (Wd : List ℝ) (t : ℝ) : ℕ := (searchsortedG (NF.realX e) c.eps (locs e Wd) t).toNat

def envN (c : QCfg) (Wd U : List ℝ) (k : ℕ) (t : ℝ) : ℕ → ℝ :=
  Bridge.qEnv t (lc e Wd k) (wd Wd k) (bl e c Wd U k) (ht e c Wd U k) (ht e c Wd U (k+1))

def binN (c : QCfg) (Wd U : List ℝ) (k : ℕ) (t : ℝ) : ℝ := evalR (envN e c Wd U k t) quadFwdE
def binLdN (c : QCfg) (Wd U : List ℝ) (k : ℕ) (t : ℝ) : ℝ := evalR (envN e c Wd U k t) quadFwdLdE
variable {e}

theorem lc_strict (hv : CoreValid e c Wd U) : ∀ k < Wd.length, lc e Wd k < lc e Wd (k+1) := by
  intro k hk
  obtain ⟨hlen, _, _, hp⟩ := locs_facts hv
  exact SplineExec.pairwise_getD_lt _ hp k (by omega)
theorem bl_strict (hv : CoreValid e c Wd U) : ∀ k < Wd.length, bl e c Wd U k < bl e c Wd U (k+1) := by
  intro k hk
  obtain ⟨hlen, _, _, hp⟩ := blc_facts hv
  exact SplineExec.pairwise_getD_lt _ hp k (by omega)
theorem lc_zero (hv : CoreValid e c Wd U) : lc e Wd 0 = 0 := SplineExec.head_getD _ _ (locs_facts hv).2.1
theorem lc_last (hv : CoreValid e c Wd U) : lc e Wd Wd.length = 1 := SplineExec.last_getD _ _ _ (locs_facts hv).1 (locs_facts hv).2.2.1
theorem bl_zero (hv : CoreValid e c Wd U) : bl e c Wd U 0 = 0 := SplineExec.head_getD _ _ (blc_facts hv).2.1
theorem bl_last (hv : CoreValid e c Wd U) : bl e c Wd U Wd.length = 1 :=
  SplineExec.last_getD _ _ _ (blc_facts hv).1 (blc_facts hv).2.2.1

theorem wd_pos (hv : CoreValid e c Wd U) : ∀ k < Wd.length, 0 < wd Wd k :=
  fun k hk => hv.hWpos _ (SplineExec.getD_mem Wd k hk)

theorem ht_pos (hv : CoreValid e c Wd U) : ∀ k < Wd.length + 1, 0 < ht e c Wd U k :=
  fun k hk => hts_pos hv _ (SplineExec.getD_mem _ k (hts_length hv ▸ hk))

theorem lc_step (hv : CoreValid e c Wd U) : ∀ k < Wd.length, lc e Wd (k+1) = lc e Wd k + wd Wd k :=
  fun k hk => SplineExec.unitKnots_step e Wd hv.hK hv.hWsum k hk

theorem bl_step (hv : CoreValid e c Wd U) : ∀ k < Wd.length,
    bl e c Wd U (k+1) = bl e c Wd U k + (ht e c Wd U k + ht e c Wd U (k+1)) / 2 * wd Wd k := by
  intro k hk
  unfold bl blc
  rw [SplineExec.unitKnots_step e _ (ars_ne hv) (ars_sum hv) k (by rw [ars_length hv]; exact hk)]
  congr 1
  unfold ars
  rw [zipMul_getD e _ _ k (by rw [pairMeans_length, hts_length hv]; omega) hk,
    pairMeans_getD e _ k (by rw [hts_length hv]; omega)]
  rfl

theorem search_spec (hv : CoreValid e c Wd U) :
    ExecGlue.SearchSpec (lc e Wd) Wd.length (idxN e c Wd) ∧
    ∀ t, 0 ≤ t → t ≤ 1 → searchsortedG (NF.realX e) c.eps (locs e Wd) t = ((idxN e c Wd t : ℕ) : Int) :=
  SplineTotal.search_spec_list e c.eps hv.heps (locs e Wd) Wd.length 0 1 (List.length_pos_of_ne_nil hv.hK) (locs_facts hv)

/-! ### one bin -/

theorem binN_eq (k : ℕ) (t : ℝ) :
    binN e c Wd U k t = Quad.cdf (ht e c Wd U k) (ht e c Wd U (k+1)) (wd Wd k) (bl e c Wd U k) ((t - lc e Wd k) / wd Wd k) := by
  unfold binN envN; rw [Bridge.quadFwdE_eq]

theorem binLdN_eq (k : ℕ) (t : ℝ) :
    binLdN e c Wd U k t = Real.log (Quad.pdf (ht e c Wd U k) (ht e c Wd U (k+1)) ((t - lc e Wd k) / wd Wd k)) := by
  unfold binLdN envN; rw [Bridge.quadFwdLdE_eq]

/-- the difference of two values is `(b - a) · w · pdf((a+b)/2)` -/
theorem cdf_strictMonoOn {hl hr w c0 : ℝ} (hw : 0 < w) (h0 : 0 < hl) (h1 : 0 < hr) :
    StrictMonoOn (Quad.cdf hl hr w c0) (Set.Icc 0 1) := by
  intro a ha b hb hab
  have hmid : 0 < Quad.pdf hl hr ((a + b) / 2) :=
    Quad.pdf_pos h0 h1 (div_nonneg (add_nonneg ha.1 hb.1) zero_le_two)
      ((div_le_one zero_lt_two).2 (one_add_one_eq_two (R := ℝ) ▸ add_le_add ha.2 hb.2))
  have hdiff : Quad.cdf hl hr w c0 b - Quad.cdf hl hr w c0 a = (b - a) * w * Quad.pdf hl hr ((a + b) / 2) := by
    unfold Quad.cdf Quad.pdf; ring
  exact sub_pos.1 (hdiff ▸ mul_pos (mul_pos (sub_pos.mpr hab) hw) hmid)

theorem relpos_mem (hv : CoreValid e c Wd U) (k : ℕ) (hk : k < Wd.length) (t : ℝ)
    (h0 : lc e Wd k ≤ t) (h1 : t ≤ lc e Wd (k+1)) :
    0 ≤ (t - lc e Wd k) / wd Wd k ∧ (t - lc e Wd k) / wd Wd k ≤ 1 := by
  have hw := wd_pos hv k hk
  rw [lc_step hv k hk] at h1
  exact ⟨div_nonneg (sub_nonneg.2 h0) hw.le, (div_le_one hw).2 (sub_le_iff_le_add'.2 h1)⟩

theorem bin_strictMonoOn (hv : CoreValid e c Wd U) (k : ℕ) (hk : k < Wd.length) :
    StrictMonoOn (binN e c Wd U k) (Set.Icc (lc e Wd k) (lc e Wd (k+1))) := by
  intro a ha b hb hab
  rw [binN_eq, binN_eq]
  exact cdf_strictMonoOn (wd_pos hv k hk) (ht_pos hv k (by omega)) (ht_pos hv (k+1) (by omega))
    (relpos_mem hv k hk a ha.1 ha.2) (relpos_mem hv k hk b hb.1 hb.2)
    (div_lt_div_of_pos_right (sub_lt_sub_right hab _) (wd_pos hv k hk))

theorem bin_endpoints (hv : CoreValid e c Wd U) (k : ℕ) (hk : k < Wd.length) :
    binN e c Wd U k (lc e Wd k) = bl e c Wd U k ∧ binN e c Wd U k (lc e Wd (k+1)) = bl e c Wd U (k+1) := by
  have hw := wd_pos hv k hk
  constructor
  · rw [binN_eq, sub_self, zero_div, Quad.cdf_left]
  · rw [binN_eq, lc_step hv k hk, bl_step hv k hk]
    have : (lc e Wd k + wd Wd k - lc e Wd k) / wd Wd k = 1 := by
      rw [add_sub_cancel_left]; exact div_self hw.ne'
    rw [this, Quad.cdf_right]; ring

/-! ### the whole normalised cdf `GN : [0,1] → [0,1]` (search a bin, evaluate its closed form) -/

variable (e)
def GN (c : QCfg) (Wd U : List ℝ) (t : ℝ) : ℝ := binN e c Wd U (idxN e c Wd t) t
def LdN (c : QCfg) (Wd U : List ℝ) (t : ℝ) : ℝ := binLdN e c Wd U (idxN e c Wd t) t
variable {e}

theorem searchedN (hv : CoreValid e c Wd U) :
    ExecGlue.Searched Wd.length (lc e Wd) (bl e c Wd U) 0 1 0 1 (binN e c Wd U) (idxN e c Wd) (GN e c Wd U) where
  pos := List.length_pos_of_ne_nil hv.hK
  x0 := lc_zero hv
  xK := lc_last hv
  y0 := bl_zero hv
  yK := bl_last hv
  xs_strict := lc_strict hv
  spec := (search_spec hv).1
  eq := fun _ _ _ => rfl
  left := fun k hk => (bin_endpoints hv k hk).1
  right := fun k hk => (bin_endpoints hv k hk).2
  mono := bin_strictMonoOn hv

theorem bin_mem_unit (hv : CoreValid e c Wd U) (k : ℕ) (hk : k < Wd.length) (t : ℝ)
    (h0 : lc e Wd k ≤ t) (h1 : t ≤ lc e Wd (k+1)) : 0 ≤ binN e c Wd U k t ∧ binN e c Wd U k t ≤ 1 :=
  (searchedN hv).ybin_subset k hk ((searchedN hv).bin_mem k hk t ⟨h0, h1⟩)

theorem rest_eq_bin (hv : CoreValid e c Wd U) (hdbt : e (c.box.top - c.box.bottom) = e c.box.top - e c.box.bottom)
    (t : ℝ) (ht0 : 0 ≤ t) (ht1 : t ≤ 1) :
    quadRest (NF.realX e) c Wd U t
      = .ok (binN e c Wd U (idxN e c Wd t) t * (e c.box.top - e c.box.bottom) + e c.box.bottom,
             binLdN e c Wd U (idxN e c Wd t) t + e (boxLog c.box)) := by
  obtain ⟨hiK, hle, hle1, _⟩ := (searchedN hv).sel t ht0 ht1
  obtain ⟨hu0, hu1⟩ := bin_mem_unit hv _ hiK t hle hle1
  have hi0 : idxN e c Wd t < Wd.length + 1 := Nat.lt_succ_of_lt hiK
  have hi1 : idxN e c Wd t + 1 < Wd.length + 1 := Nat.succ_lt_succ hiK
  rw [quadRest_of_search (NF.realX e) c Wd U t (hts := hts e c Wd U) (blc := blc e c Wd U) (locs := locs e Wd) rfl rfl rfl
    (SplineTotal.getI_getD _ _ ((locs_facts hv).1 ▸ hi0)) (SplineTotal.getI_getD _ _ hiK)
    (SplineTotal.getI_getD _ _ ((blc_facts hv).1 ▸ hi0)) (SplineTotal.getI_getD _ _ (hts_length hv ▸ hi0))
    (SplineTotal.getI_getD _ (idxN e c Wd t + 1) (hts_length hv ▸ hi1)) ((search_spec hv).2 t ht0 ht1)]
  have hbin : evalX (NF.realX e) [t, (locs e Wd).getD (idxN e c Wd t) 0, Wd.getD (idxN e c Wd t) 0,
      (blc e c Wd U).getD (idxN e c Wd t) 0, (hts e c Wd U).getD (idxN e c Wd t) 0,
      (hts e c Wd U).getD (idxN e c Wd t + 1) 0] quadFwdE = binN e c Wd U (idxN e c Wd t) t :=
    SplineExec.evalX_eq_evalR e _ _
  unfold fwdOut
  rw [hbin, NF.realX_clamp01 e _ hu0 hu1, SplineExec.evalX_eq_evalR]
  simp only [NF.realX_add, NF.realX_mul, NF.realX_ofFloat, hdbt]
  rfl

theorem quadFwdE_hasDerivAt {hl hr w c loc x : ℝ} (hw : 0 < w) (h0 : 0 < hl) (h1 : 0 < hr)
    (hx0 : loc ≤ x) (hx1 : x ≤ loc + w) :
    HasDerivAt (fun x => evalR (Bridge.qEnv x loc w c hl hr) quadFwdE)
      (Real.exp (evalR (Bridge.qEnv x loc w c hl hr) quadFwdLdE)) x := by
  have hfun : (fun x => evalR (Bridge.qEnv x loc w c hl hr) quadFwdE) = fun x => Quad.cdf hl hr w c ((x - loc) / w) :=
    funext fun z => Bridge.quadFwdE_eq z loc w c hl hr
  have ha0 : 0 ≤ (x - loc) / w := div_nonneg (sub_nonneg.2 hx0) hw.le
  have ha1 : (x - loc) / w ≤ 1 := (div_le_one hw).2 (sub_le_iff_le_add'.2 hx1)
  rw [hfun, Bridge.quadFwdLdE_eq, Real.exp_log (Quad.pdf_pos h0 h1 ha0 ha1)]
  exact Quad.cdf_hasDerivAt hw

theorem bin_hasDerivAt (hv : CoreValid e c Wd U) (k : ℕ) (hk : k < Wd.length) (t : ℝ)
    (h0 : lc e Wd k ≤ t) (h1 : t ≤ lc e Wd (k+1)) :
    HasDerivAt (binN e c Wd U k) (Real.exp (binLdN e c Wd U k t)) t :=
  quadFwdE_hasDerivAt (wd_pos hv k hk) (ht_pos hv k (by omega)) (ht_pos hv (k+1) (by omega)) h0 (lc_step hv k hk ▸ h1)

/-! ### from normalised coordinates to the box: any program that is `quadRest` on the normalised input -/

variable (e)
structure BoxValid (c : QCfg) : Prop where
  hlr : e c.box.left < e c.box.right
  hdlr : e (c.box.right - c.box.left) = e c.box.right - e c.box.left
  hbt : e c.box.bottom < e c.box.top
  hdbt : e (c.box.top - c.box.bottom) = e c.box.top - e c.box.bottom

def nx (c : QCfg) (x : ℝ) : ℝ := (x - e c.box.left) / (e c.box.right - e c.box.left)

variable {e}

theorem nx_mem (hb : BoxValid e c) (x : ℝ) (hx0 : e c.box.left ≤ x) (hx1 : x ≤ e c.box.right) :
    0 ≤ nx e c x ∧ nx e c x ≤ 1 :=
  ExecGlue.unit_mem hb.hlr hx0 hx1

theorem nx_left (c : QCfg) : nx e c (e c.box.left) = 0 := by unfold nx; simp

theorem nx_eq (hb : BoxValid e c) (x : ℝ) :
    (NF.realX e).div ((NF.realX e).sub x ((NF.realX e).ofFloat c.box.left)) ((NF.realX e).ofFloat (c.box.right - c.box.left))
      = nx e c x := by
  unfold nx
  rw [← hb.hdlr]
  rfl

section generic
variable {P : ℝ → Except Err (ℝ × ℝ)}

def RunsRest (e : Float → ℝ) (c : QCfg) (Wd U : List ℝ) (P : ℝ → Except Err (ℝ × ℝ)) : Prop :=
  ∀ x, e c.box.left ≤ x → x ≤ e c.box.right → P x = quadRest (NF.realX e) c Wd U (nx e c x)

theorem gen_exec (hv : CoreValid e c Wd U) (hb : BoxValid e c) (hP : RunsRest e c Wd U P)
    (x : ℝ) (hx0 : e c.box.left ≤ x) (hx1 : x ≤ e c.box.right) :
    P x = .ok (GN e c Wd U (nx e c x) * (e c.box.top - e c.box.bottom) + e c.box.bottom,
               LdN e c Wd U (nx e c x) + e (boxLog c.box)) := by
  obtain ⟨h0, h1⟩ := nx_mem hb x hx0 hx1
  rw [hP x hx0 hx1, rest_eq_bin hv hb.hdbt _ h0 h1]
  rfl

theorem gen_val (hv : CoreValid e c Wd U) (hb : BoxValid e c) (hP : RunsRest e c Wd U P)
    (x : ℝ) (hx0 : e c.box.left ≤ x) (hx1 : x ≤ e c.box.right) :
    valOf (P x) = GN e c Wd U (nx e c x) * (e c.box.top - e c.box.bottom) + e c.box.bottom := by
  rw [gen_exec hv hb hP x hx0 hx1]; rfl

theorem gen_ld (hv : CoreValid e c Wd U) (hb : BoxValid e c) (hP : RunsRest e c Wd U P)
    (x : ℝ) (hx0 : e c.box.left ≤ x) (hx1 : x ≤ e c.box.right) :
    ldOf (P x) = LdN e c Wd U (nx e c x) + e (boxLog c.box) := by
  rw [gen_exec hv hb hP x hx0 hx1]; rfl

/-! the per-bin closed forms and the knots in box coordinates, as the affine maps `nx`, `· * (top - bottom) + bottom` carry them -/
variable (e c Wd U) in
def xkW (k : ℕ) : ℝ := e c.box.left + (e c.box.right - e c.box.left) * lc e Wd k
variable (e c Wd U) in
def binX (k : ℕ) (x : ℝ) : ℝ := binN e c Wd U k (nx e c x) * (e c.box.top - e c.box.bottom) + e c.box.bottom
variable (e c Wd U) in
def ldX (k : ℕ) (x : ℝ) : ℝ := binLdN e c Wd U k (nx e c x) + e (boxLog c.box)

/-- any program that is `quadRest` on the normalised input, as a searched piecewise map of the box: `searchedN` carried to the
    box.  Both shapes of the executed program are instances (`runsRest_of_valid`, `runsRest_of_validT`) -/
theorem searched (hv : CoreValid e c Wd U) (hb : BoxValid e c) (hP : RunsRest e c Wd U P) :
    ExecGlue.Searched Wd.length (xkW e c Wd) (fun k => e c.box.bottom + (e c.box.top - e c.box.bottom) * bl e c Wd U k)
      (e c.box.left) (e c.box.right) (e c.box.bottom) (e c.box.top)
      (binX e c Wd U) (fun x => idxN e c Wd (nx e c x)) (fun x => valOf (P x)) :=
  (searchedN hv).rescale hb.hlr hb.hbt (gen_val hv hb hP)

theorem binX_hasDerivAt (hv : CoreValid e c Wd U) (hb : BoxValid e c)
    (hbl : e (boxLog c.box) = Real.log ((e c.box.top - e c.box.bottom) / (e c.box.right - e c.box.left)))
    (k : ℕ) (hk : k < Wd.length) (x : ℝ) (h0 : xkW e c Wd k ≤ x) (h1 : x ≤ xkW e c Wd (k+1)) :
    HasDerivAt (binX e c Wd U k) (Real.exp (ldX e c Wd U k x)) x := by
  unfold ldX
  rw [hbl]
  exact ExecGlue.rescale_hasDerivAt hb.hlr hb.hbt (bin_hasDerivAt hv k hk _
    ((ExecGlue.unit_le_iff hb.hlr).1.2 h0) ((ExecGlue.unit_le_iff hb.hlr).2.2 h1))

/-- the density is continuous across the knots: both neighbours take the log of the shared height -/
theorem ldX_knot (hv : CoreValid e c Wd U) (hb : BoxValid e c) (k : ℕ) (hk : k + 1 < Wd.length) :
    ldX e c Wd U k (xkW e c Wd (k+1)) = ldX e c Wd U (k+1) (xkW e c Wd (k+1)) := by
  have hk0 : k < Wd.length := Nat.lt_of_succ_lt hk
  have hn : nx e c (xkW e c Wd (k+1)) = lc e Wd (k+1) := ExecGlue.unit_scale hb.hlr
  unfold ldX
  rw [hn, binLdN_eq, binLdN_eq, lc_step hv k hk0, add_sub_cancel_left, div_self (wd_pos hv k hk0).ne', sub_self, zero_div]
  unfold Quad.pdf
  rw [one_mul, zero_mul, zero_add, sub_add_cancel]

/-- **C01 on the whole open box**: the value is differentiable at EVERY point strictly inside the box, knots included, with
    derivative `exp` of the log-abs-det (which includes the `boxLog` constant: `hbl` says the `Float` computation `boxLog` is read
    as the real logarithm) -/
theorem gen_hasDerivAt_all (hv : CoreValid e c Wd U) (hb : BoxValid e c) (hP : RunsRest e c Wd U P)
    (hbl : e (boxLog c.box) = Real.log ((e c.box.top - e c.box.bottom) / (e c.box.right - e c.box.left)))
    (x : ℝ) (hx0 : e c.box.left < x) (hx1 : x < e c.box.right) :
    HasDerivAt (fun x => valOf (P x)) (Real.exp (ldOf (P x))) x :=
  (searched hv hb hP).hasDerivAt_all (gen_ld hv hb hP) (binX_hasDerivAt hv hb hbl) (ldX_knot hv hb) x hx0 hx1

theorem gen_hasDerivWithinAt_left (hv : CoreValid e c Wd U) (hb : BoxValid e c) (hP : RunsRest e c Wd U P)
    (hbl : e (boxLog c.box) = Real.log ((e c.box.top - e c.box.bottom) / (e c.box.right - e c.box.left))) :
    HasDerivWithinAt (fun x => valOf (P x)) (Real.exp (ldOf (P (e c.box.left)))) (Set.Ici (e c.box.left)) (e c.box.left) := by
  have S := searched hv hb hP
  have hlt := S.xs_strict 0 S.pos
  have h := S.hasDerivWithinAt_Ici 0 S.pos (binX_hasDerivAt hv hb hbl 0 S.pos _ le_rfl hlt.le)
  have hi : idxN e c Wd (nx e c (e c.box.left)) = 0 := S.idx_eq 0 S.pos _ S.x0.le (S.x0 ▸ hlt)
  have hld : ldOf (P (e c.box.left)) = ldX e c Wd U 0 (e c.box.left) := by
    rw [gen_ld hv hb hP _ le_rfl hb.hlr.le]; unfold LdN ldX; rw [hi]
  rwa [S.x0, ← hld] at h

end generic

/-! ### the executed program `quadSpline … false`, bounded case (`uh` has `K+1` entries: the tails padding branch
`if uhe.length + 1 == K` is NOT taken) -/

variable (e)
/- The fields of `QuadValid` (bounded shape, `uh` has `K+1` entries): `hK hlenh` shapes; `hgW hgH` the guards :185-186 pass;
   `hmW0 hcW hmWK` floor of the widths (Spline.lean:105-106) as in `RQValid`; `hmH0 hcH hmH1` floor of the heights :203;
   `h1e3` the constant added to `softplus` at :188 is read as non-negative; `hbox` (`BoxValid`) the box is non-degenerate
   and the differences of :182-183 are read exactly; `heps` as above. -/
/-- an accepted bounded configuration, with the reading `e` of the Python doubles exact on the expressions the code forms -/
structure QuadValid (c : QCfg) (uw uh : List ℝ) : Prop where
  hK : uw ≠ []
  hlenh : uh.length = uw.length + 1
  hgW : ¬ (c.minW * uw.length.toFloat > 1.0)
  hgH : ¬ (c.minH * uw.length.toFloat > 1.0)
  hmW0 : 0 ≤ e c.minW
  hcW : e (1 - c.minW * uw.length.toFloat) = 1 - e c.minW * uw.length
  hmWK : e c.minW * uw.length ≤ 1
  hmH0 : 0 ≤ e c.minH
  hcH : e (1 - c.minH) = 1 - e c.minH
  hmH1 : e c.minH ≤ 1
  h1e3 : 0 ≤ e 1e-3
  hbox : BoxValid e c
  heps : 0 < e c.eps

def Wq (c : QCfg) (uw : List ℝ) : List ℝ := flooredSoftmax (NF.realX e) c.minW uw
def Uq (uh : List ℝ) : List ℝ := uh.map (fun u => (NF.realX e).add ((NF.realX e).softplus u) ((NF.realX e).ofFloat 1e-3))

/-- what the program returns (0 on the error branch, which `exec_eq_bin` shows is not taken in the domain) -/
def val (c : QCfg) (uw uh : List ℝ) (x : ℝ) : ℝ := valOf (quadSpline (NF.realX e) c uw uh false x)
def ld (c : QCfg) (uw uh : List ℝ) (x : ℝ) : ℝ := ldOf (quadSpline (NF.realX e) c uw uh false x)
variable {e}
variable {uw uh : List ℝ}

theorem Wq_length (c : QCfg) (uw : List ℝ) : (Wq e c uw).length = uw.length := by
  simp [Wq, SplineExec.flooredSoftmax_eq, SplineExec.softmaxG_length]

theorem Uq_length (uh : List ℝ) : (Uq e uh).length = uh.length := List.length_map _

theorem Uq_pos (h1e3 : 0 ≤ e 1e-3) (uh : List ℝ) : ∀ u ∈ Uq e uh, 0 < u := by
  intro u hu
  simp only [Uq, List.mem_map] at hu
  obtain ⟨a, _, rfl⟩ := hu
  have := NF.realX_softplus_pos e a
  simp only [NF.realX_add, NF.realX_ofFloat]
  linarith

theorem core_of_valid (hv : QuadValid e c uw uh) : CoreValid e c (Wq e c uw) (Uq e uh) := by
  have h := SplineExec.flooredSoftmax_valid e c.minW uw hv.hK hv.hmW0 hv.hcW hv.hmWK
  refine ⟨?_, ?_, h.1, h.2, Uq_pos hv.h1e3 uh, hv.hmH0, hv.hcH, hv.hmH1, hv.heps⟩
  · intro h'; have := h.2; unfold Wq at h'; rw [h'] at this; simp at this
  · rw [Wq_length]; simp [Uq, hv.hlenh]

theorem runsRest_of_pad {U : List ℝ} (hgW : ¬ (c.minW * uw.length.toFloat > 1.0))
    (hgH : ¬ (c.minH * uw.length.toFloat > 1.0)) (hb : BoxValid e c)
    (hpad : padU (NF.realX e) (Wq e c uw) (Uq e uh) uw.length = .ok U) :
    RunsRest e c (Wq e c uw) U (quadSpline (NF.realX e) c uw uh false) := by
  intro x hx0 hx1
  have h1 : flooredSoftmax (NF.realX e) c.minW uw = Wq e c uw := rfl
  have h2 : uh.map (fun u => (NF.realX e).add ((NF.realX e).softplus u) ((NF.realX e).ofFloat 1e-3)) = Uq e uh := rfl
  rw [quadSpline_split (NF.realX e) c uw uh x (SplineTotal.guard_false _ _ x hx0 hx1) hgW hgH, h1, h2, hpad, ExecGlue.ok_bind,
    nx_eq hb]

theorem runsRest_of_valid (hv : QuadValid e c uw uh) :
    RunsRest e c (Wq e c uw) (Uq e uh) (quadSpline (NF.realX e) c uw uh false) :=
  runsRest_of_pad hv.hgW hv.hgH hv.hbox (padU_of_ne _ _ _ _ (by rw [Uq_length, hv.hlenh]; omega))

/-- **C17, totality + closed form**: for every `x ∈ [left, right]` the executed program returns a value, and it is the
    closed form of the bin the executed search selected (rescaled to the box; log-det with the box term) -/
theorem exec_eq_bin (hv : QuadValid e c uw uh) (x : ℝ) (hx0 : e c.box.left ≤ x) (hx1 : x ≤ e c.box.right) :
    quadSpline (NF.realX e) c uw uh false x
      = .ok (binN e c (Wq e c uw) (Uq e uh) (idxN e c (Wq e c uw) (nx e c x)) (nx e c x) * (e c.box.top - e c.box.bottom)
               + e c.box.bottom,
             binLdN e c (Wq e c uw) (Uq e uh) (idxN e c (Wq e c uw) (nx e c x)) (nx e c x) + e (boxLog c.box)) :=
  gen_exec (core_of_valid hv) hv.hbox (runsRest_of_valid hv) x hx0 hx1

theorem exec_ok (hv : QuadValid e c uw uh) (x : ℝ) (hx0 : e c.box.left ≤ x) (hx1 : x ≤ e c.box.right) :
    quadSpline (NF.realX e) c uw uh false x = .ok (val e c uw uh x, ld e c uw uh x) := by
  unfold val ld; rw [exec_eq_bin hv x hx0 hx1]; rfl

theorem idx_spec (hv : QuadValid e c uw uh) (x : ℝ) (hx0 : e c.box.left ≤ x) (hx1 : x ≤ e c.box.right) :
    idxN e c (Wq e c uw) (nx e c x) < uw.length ∧
    lc e (Wq e c uw) (idxN e c (Wq e c uw) (nx e c x)) ≤ nx e c x ∧
    nx e c x ≤ lc e (Wq e c uw) (idxN e c (Wq e c uw) (nx e c x) + 1) := by
  obtain ⟨h0, h1⟩ := nx_mem hv.hbox x hx0 hx1
  have h := (searchedN (core_of_valid hv)).sel (nx e c x) h0 h1
  rw [Wq_length] at h
  exact ⟨h.1, h.2.1, h.2.2.1⟩

/-- **normalisation facts** the code relies on (bounded case): normalised heights positive, every trapezium area
    positive, total area exactly 1 — so `bin_left_cdf[..., -1] = 1.0` changes nothing over the reals; same for the
    location knots -/
theorem normalisation (hv : QuadValid e c uw uh) :
    (∀ h ∈ hts e c (Wq e c uw) (Uq e uh), 0 < h) ∧
    (ars e c (Wq e c uw) (Uq e uh)).sum = 1 ∧
    (cumsumG (NF.realX e) (ars e c (Wq e c uw) (Uq e uh))).getLast? = some 1 ∧
    setLast (cumsumG (NF.realX e) (ars e c (Wq e c uw) (Uq e uh))) 1 = cumsumG (NF.realX e) (ars e c (Wq e c uw) (Uq e uh)) ∧
    setLast (cumsumG (NF.realX e) (Wq e c uw)) 1 = cumsumG (NF.realX e) (Wq e c uw) := by
  have hc := core_of_valid hv
  have hl := SplineExec.cumsumG_last e _ (ars_ne hc)
  rw [ars_sum hc] at hl
  have hl' := SplineExec.cumsumG_last e _ hc.hK
  rw [hc.hWsum] at hl'
  exact ⟨hts_pos hc, ars_sum hc, hl, SplineExec.setLast_of_getLast _ _ hl, SplineExec.setLast_of_getLast _ _ hl'⟩

/-! ### the tails case (`uh` has `K-1` entries): the branch `if uhe.length + 1 == K` IS taken; the unnormalised heights
are padded on both sides with the constant `cst` the code computes, then the same second stage runs -/

variable (e)
/- `QuadValidT` (tails shape, `uh` has `K-1` entries, padded by :190-201): the fields of `QuadValid`, with `huh hlenh` the
   shapes and `hhalf` the double `0.5` of the padding constant :189 read as `1/2`. -/
/-- an accepted tails configuration (`K ≥ 2` bins, `K-1` interior heights) -/
structure QuadValidT (c : QCfg) (uw uh : List ℝ) : Prop where
  huh : uh ≠ []
  hlenh : uh.length + 1 = uw.length
  hgW : ¬ (c.minW * uw.length.toFloat > 1.0)
  hgH : ¬ (c.minH * uw.length.toFloat > 1.0)
  hmW0 : 0 ≤ e c.minW
  hcW : e (1 - c.minW * uw.length.toFloat) = 1 - e c.minW * uw.length
  hmWK : e c.minW * uw.length ≤ 1
  hmH0 : 0 ≤ e c.minH
  hcH : e (1 - c.minH) = 1 - e c.minH
  hmH1 : e c.minH ≤ 1
  h1e3 : 0 ≤ e 1e-3
  hhalf : e 0.5 = 1 / 2
  hbox : BoxValid e c
  heps : 0 < e c.eps

/-- the padding constant and the padded unnormalised heights of the tails case -/
def cstT (c : QCfg) (uw uh : List ℝ) : ℝ :=
  cstOf (NF.realX e) (Wq e c uw) (Uq e uh) uw.length ((Wq e c uw).getD 0 0) ((Wq e c uw).getD (uw.length - 1) 0)
    ((Uq e uh).getD 0 0) ((Uq e uh).getD (uh.length - 1) 0)
def Ut (c : QCfg) (uw uh : List ℝ) : List ℝ := cstT e c uw uh :: (Uq e uh ++ [cstT e c uw uh])
variable {e}

theorem W_valid_T (hv : QuadValidT e c uw uh) :
    (∀ w ∈ Wq e c uw, 0 < w) ∧ (Wq e c uw).sum = 1 := by
  have hK : uw ≠ [] := by
    intro h; have := hv.hlenh; rw [h] at this; simp at this
  exact SplineExec.flooredSoftmax_valid e c.minW uw hK hv.hmW0 hv.hcW hv.hmWK

theorem W_ends_T (hv : QuadValidT e c uw uh) :
    (0 < (Wq e c uw).getD 0 0 ∧ (Wq e c uw).getD 0 0 ≤ 1) ∧
    (0 < (Wq e c uw).getD (uw.length - 1) 0 ∧ (Wq e c uw).getD (uw.length - 1) 0 ≤ 1) := by
  obtain ⟨hWpos, hWsum⟩ := W_valid_T hv
  have hlen := hv.hlenh
  have h0 := SplineExec.getD_mem (Wq e c uw) 0 (by rw [Wq_length]; omega)
  have hl := SplineExec.getD_mem (Wq e c uw) (uw.length - 1) (by rw [Wq_length]; omega)
  have hle := List.single_le_sum fun w hw => (hWpos w hw).le
  exact ⟨⟨hWpos _ h0, hWsum ▸ hle _ h0⟩, ⟨hWpos _ hl, hWsum ▸ hle _ hl⟩⟩

/-- positivity of the padding constant, as a fact about the five numbers it is made of -/
theorem cst_pos_of {w0 wl u0 ul s : ℝ} (hw0 : 0 < w0 ∧ w0 ≤ 1) (hwl : 0 < wl ∧ wl ≤ 1) (hu0 : 0 < u0) (hul : 0 < ul)
    (hs : 0 ≤ s) :
    0 < (1 / 2 * (1 / 2 * w0) * u0 + 1 / 2 * (1 / 2 * wl) * ul + s) / (1 - 1 / 2 * (1 / 2 * w0) - 1 / 2 * (1 / 2 * wl)) := by
  have hh : (0:ℝ) < 1 / 2 := one_half_pos
  have h1 : 0 < 1 / 2 * (1 / 2 * w0) * u0 := mul_pos (mul_pos hh (mul_pos hh hw0.1)) hu0
  have h2 : 0 < 1 / 2 * (1 / 2 * wl) * ul := mul_pos (mul_pos hh (mul_pos hh hwl.1)) hul
  refine div_pos (add_pos_of_pos_of_nonneg (add_pos h1 h2) hs) ?_
  linarith [hw0.2, hwl.2]

theorem cstT_pos (hv : QuadValidT e c uw uh) : 0 < cstT e c uw uh := by
  obtain ⟨hWpos, _⟩ := W_valid_T hv
  obtain ⟨hw0, hwl⟩ := W_ends_T hv
  have hUpos := Uq_pos hv.h1e3 uh
  have hul : 0 < uh.length := List.length_pos_of_ne_nil hv.huh
  have hinner : 0 ≤ sumG (NF.realX e) (List.zipWith (NF.realX e).mul (pairMeans (NF.realX e) (Uq e uh))
      (((Wq e c uw).drop 1).take (uw.length - 2))) := by
    rw [NF.sumG_real]
    exact List.sum_nonneg fun y hy => (zipMul_pos e _ _ (pairMeans_pos e _ hUpos)
      (fun w hw => hWpos w (List.mem_of_mem_drop (List.mem_of_mem_take hw))) y hy).le
  unfold cstT cstOf
  simp only [NF.realX_div, NF.realX_add, NF.realX_mul, NF.realX_sub, NF.realX_one, NF.realX_ofFloat, hv.hhalf]
  exact cst_pos_of hw0 hwl (hUpos _ (SplineExec.getD_mem _ 0 (by rw [Uq_length]; exact hul)))
    (hUpos _ (SplineExec.getD_mem _ (uh.length - 1) (by rw [Uq_length]; omega))) hinner

theorem padU_tails (hv : QuadValidT e c uw uh) :
    padU (NF.realX e) (Wq e c uw) (Uq e uh) uw.length = .ok (Ut e c uw uh) := by
  rw [padU_tails_gen (NF.realX e) 0 (Wq e c uw) (Uq e uh) uw.length
    (by rw [Uq_length]; exact List.length_pos_of_ne_nil hv.huh) (by rw [Uq_length]; exact hv.hlenh) (Wq_length c uw), Uq_length]
  rfl

theorem core_of_validT (hv : QuadValidT e c uw uh) : CoreValid e c (Wq e c uw) (Ut e c uw uh) := by
  obtain ⟨hWpos, hWsum⟩ := W_valid_T hv
  refine ⟨?_, ?_, hWpos, hWsum, ?_, hv.hmH0, hv.hcH, hv.hmH1, hv.heps⟩
  · intro h'; rw [h'] at hWsum; simp at hWsum
  · rw [Wq_length]; simp [Ut, Uq_length]; have := hv.hlenh; omega
  · intro u hu
    have hc := cstT_pos hv
    simp only [Ut, List.mem_cons, List.mem_append, List.not_mem_nil, or_false] at hu
    rcases hu with rfl | hu | rfl
    · exact hc
    · exact Uq_pos hv.h1e3 uh u hu
    · exact hc

theorem runsRest_of_validT (hv : QuadValidT e c uw uh) :
    RunsRest e c (Wq e c uw) (Ut e c uw uh) (quadSpline (NF.realX e) c uw uh false) :=
  runsRest_of_pad hv.hgW hv.hgH hv.hbox (padU_tails hv)

/-- normalisation facts, tails case: padding constant and heights positive, total area exactly 1, pins are no-ops -/
theorem normalisation_T (hv : QuadValidT e c uw uh) :
    0 < cstT e c uw uh ∧
    (∀ h ∈ hts e c (Wq e c uw) (Ut e c uw uh), 0 < h) ∧
    (ars e c (Wq e c uw) (Ut e c uw uh)).sum = 1 ∧
    setLast (cumsumG (NF.realX e) (ars e c (Wq e c uw) (Ut e c uw uh))) 1 = cumsumG (NF.realX e) (ars e c (Wq e c uw) (Ut e c uw uh)) ∧
    setLast (cumsumG (NF.realX e) (Wq e c uw)) 1 = cumsumG (NF.realX e) (Wq e c uw) := by
  have hc := core_of_validT hv
  have hl := SplineExec.cumsumG_last e _ (ars_ne hc)
  rw [ars_sum hc] at hl
  have hl' := SplineExec.cumsumG_last e _ hc.hK
  rw [hc.hWsum] at hl'
  exact ⟨cstT_pos hv, hts_pos hc, ars_sum hc, SplineExec.setLast_of_getLast _ _ hl, SplineExec.setLast_of_getLast _ _ hl'⟩

/-! ### the bin knots in box coordinates -/

variable (e)
def xk (c : QCfg) (uw : List ℝ) (k : ℕ) : ℝ := e c.box.left + (e c.box.right - e c.box.left) * lc e (Wq e c uw) k
variable {e}

theorem nx_bin_iff (hb : BoxValid e c) (uw : List ℝ) (k : ℕ) (x : ℝ) :
    (lc e (Wq e c uw) k < nx e c x ↔ xk e c uw k < x) ∧ (nx e c x < lc e (Wq e c uw) k ↔ x < xk e c uw k) :=
  ExecGlue.unit_lt_iff hb.hlr

theorem xk_facts (hv : QuadValid e c uw uh) :
    xk e c uw 0 = e c.box.left ∧ xk e c uw uw.length = e c.box.right ∧ ∀ k < uw.length, xk e c uw k < xk e c uw (k+1) := by
  have S := searched (core_of_valid hv) hv.hbox (runsRest_of_valid hv)
  rw [← Wq_length (e := e) c uw]
  exact ⟨S.x0, S.xK, S.xs_strict⟩

/-- **C01 in box coordinates**: for `x` strictly between two consecutive knots `xk k < x < xk (k+1)` -/
theorem val_hasDerivAt_x (hv : QuadValid e c uw uh)
    (hbl : e (boxLog c.box) = Real.log ((e c.box.top - e c.box.bottom) / (e c.box.right - e c.box.left)))
    (k : ℕ) (hk : k < uw.length) (x : ℝ) (h0 : xk e c uw k < x) (h1 : x < xk e c uw (k+1)) :
    HasDerivAt (val e c uw uh) (Real.exp (ld e c uw uh x)) x := by
  obtain ⟨hx0, hx1⟩ := (searched (core_of_valid hv) hv.hbox (runsRest_of_valid hv)).open_bin_subset k
    ((Wq_length c uw).symm ▸ hk) ⟨h0, h1⟩
  exact gen_hasDerivAt_all (core_of_valid hv) hv.hbox (runsRest_of_valid hv) hbl x hx0 hx1

theorem val_hasDerivAt_x_T (hv : QuadValidT e c uw uh)
    (hbl : e (boxLog c.box) = Real.log ((e c.box.top - e c.box.bottom) / (e c.box.right - e c.box.left)))
    (k : ℕ) (hk : k < uw.length) (x : ℝ) (h0 : xk e c uw k < x) (h1 : x < xk e c uw (k+1)) :
    HasDerivAt (val e c uw uh) (Real.exp (ld e c uw uh x)) x := by
  obtain ⟨hx0, hx1⟩ := (searched (core_of_validT hv) hv.hbox (runsRest_of_validT hv)).open_bin_subset k
    ((Wq_length c uw).symm ▸ hk) ⟨h0, h1⟩
  exact gen_hasDerivAt_all (core_of_validT hv) hv.hbox (runsRest_of_validT hv) hbl x hx0 hx1

theorem idxN_zero (hv : CoreValid e c Wd U) : idxN e c Wd 0 = 0 :=
  (searchedN hv).idx_eq 0 (searchedN hv).pos 0 (lc_zero hv).le (lc_zero hv ▸ lc_strict hv 0 (searchedN hv).pos)

theorem LdN_zero (hv : CoreValid e c Wd U) : LdN e c Wd U 0 = Real.log (ht e c Wd U 0) := by
  unfold LdN
  rw [idxN_zero hv, binLdN_eq, lc_zero hv]
  simp [Quad.pdf]

/-! ### FINDING (tails case): the padded boundary heights are NOT 1 after normalisation

quadratic.py says "Set boundary heights s.t. after normalization they are exactly 1" (so that the derivative would be
continuous with the identity tails).  The constant the code computes halves the end widths twice
(`first_widths = 0.5 * widths[..., 0]`, then `0.5 * first_widths`), while the trapezium rule of `unnormalized_area` weighs
the two end bins with `0.5 * widths`.  Over the reals, for two equal bins and one interior height the normalised boundary
height is `(1 + minH)/2`, not 1 (real code, float64, zero parameters, tail_bound 1, minH = 0: `exp(logabsdet)` at `x = ±1`
is 0.5, and 1.0 just outside).  Not a C01/C09 violation: the map is still a strictly increasing bijection of the box with
the right log-det; only the claimed C¹ join with the tails is false. -/

theorem tails_cst_example (hhalf : e 0.5 = 1 / 2) (s : ℝ) :
    cstOf (NF.realX e) [1/2, 1/2] [s] 2 (1/2) (1/2) s s = s / 3 := by
  simp [cstOf, pairMeans, sumG, hhalf]
  ring

theorem tails_boundary_height_example (hcH : e (1 - c.minH) = 1 - e c.minH) (s : ℝ) (hs : 0 < s) :
    (hts e c [1/2, 1/2] [s / 3, s, s / 3]).getD 0 0 = (1 + e c.minH) / 2 := by
  have ha : area e [1/2, 1/2] [s / 3, s, s / 3] = 2 * s / 3 := by
    simp [area, pairMeans, sumG]
    ring
  simp only [hts, ha, List.map_cons, List.getD_cons_zero, NF.realX_add, NF.realX_mul, NF.realX_div, NF.realX_ofFloat, hcH]
  field_simp
  ring

theorem Wq_zero2 (hmW : e c.minW = 0)
    (hcW : e (1 - c.minW * ([0,0] : List ℝ).length.toFloat) = 1 - e c.minW * ([0,0] : List ℝ).length) :
    Wq e c [0, 0] = [1/2, 1/2] := by
  unfold Wq
  rw [SplineExec.flooredSoftmax_eq, hcW, hmW, SplineExec.softmaxG_eq]
  simp [maxG]
  norm_num

/-- **on the executed tails program** (two bins, zero width parameters, any interior height parameter `u`): the first
    normalised height is `(1 + minH)/2 ≠ 1` (unless `minH = 1`) -/
theorem tails_boundary_height_not_one (u : ℝ) (hv : QuadValidT e c [0, 0] [u]) (hmW : e c.minW = 0) :
    ht e c (Wq e c [0, 0]) (Ut e c [0, 0] [u]) 0 = (1 + e c.minH) / 2 := by
  have hW := Wq_zero2 hmW hv.hcW
  have hs : 0 < (Uq e [u]).getD 0 0 := Uq_pos hv.h1e3 [u] _ (by simp [Uq])
  have hU : Uq e [u] = [(Uq e [u]).getD 0 0] := by simp [Uq]
  set s := (Uq e [u]).getD 0 0 with hsd
  have hc : cstT e c [0, 0] [u] = s / 3 := by
    unfold cstT
    rw [hW, hU]
    simp only [List.length_cons, List.length_nil, List.getD_cons_zero, List.getD_cons_succ]
    exact tails_cst_example hv.hhalf s
  unfold ht Ut
  rw [hc, hW, hU]
  exact tails_boundary_height_example hv.hcH s hs

/-- … hence the executed log-abs-det at `x = left` of that tails program is `log((1+minH)/2) + boxLog`, while the
    identity tail just outside has log-abs-det 0 -/
theorem tails_ld_left (u : ℝ) (hv : QuadValidT e c [0, 0] [u]) (hmW : e c.minW = 0) :
    ld e c [0, 0] [u] (e c.box.left) = Real.log ((1 + e c.minH) / 2) + e (boxLog c.box) := by
  have hc := core_of_validT hv
  unfold ld
  rw [gen_ld hc hv.hbox (runsRest_of_validT hv) _ le_rfl hv.hbox.hlr.le, nx_left, LdN_zero hc,
    tails_boundary_height_not_one u hv hmW]

/-! ### non-vacuity: concrete accepted configurations with a concrete reading of the doubles

(`hbl`, the reading of `boxLog`, is a hypothesis of the derivative theorems only; `Float.log` is opaque to the kernel, so
for a concrete box it can be discharged only conditionally: see `boxLog_example`.) -/

/- `eNV` the two-valued reading (`0.0 ↦ 0`, every other double `↦ 1`); `cNV` the unit box with zero floors -/
def eNV (f : Float) : ℝ := if f == 0.0 then 0 else 1
def cNV : QCfg := { box := ⟨0.0, 1.0, 0.0, 1.0⟩, minW := 0.0, minH := 0.0 }


theorem eNV_nonneg (f : Float) : 0 ≤ eNV f := by unfold eNV; split <;> norm_num

theorem eNV_zero : eNV 0.0 = 0 := if_pos FloatFacts.zero_beq_zero
theorem eNV_of_ne {f : Float} (h : (f == 0.0) = false) : eNV f = 1 := if_neg (ne_true_of_eq_false h)

theorem valid_example : QuadValid eNV cNV [0] [0, 0] := by
  have h1 : eNV 1.0 = 1 := eNV_of_ne FloatFacts.one_beq_zero
  have hlt : eNV 0.0 < eNV 1.0 := by rw [eNV_zero, h1]; exact zero_lt_one
  have hd : eNV (1.0 - 0.0) = eNV 1.0 - eNV 0.0 := by rw [FloatFacts.one_sub_zero_eq, eNV_zero, sub_zero]
  exact
    { hK := List.cons_ne_nil _ _, hlenh := rfl, hgW := FloatFacts.guard_one, hgH := FloatFacts.guard_one,
      hmW0 := eNV_zero.ge,
      hcW := show eNV (1 - 0.0 * (1:Nat).toFloat) = 1 - eNV 0.0 * ((1:ℕ):ℝ) by
        rw [FloatFacts.floor_one_eq, h1, eNV_zero, zero_mul, sub_zero],
      hmWK := show eNV 0.0 * ((1:ℕ):ℝ) ≤ 1 by rw [eNV_zero, zero_mul]; exact zero_le_one,
      hmH0 := eNV_zero.ge,
      hcH := show eNV (1 - 0.0) = 1 - eNV 0.0 by rw [FloatFacts.ofNat_one_sub_zero_eq, h1, eNV_zero, sub_zero],
      hmH1 := show eNV 0.0 ≤ 1 by rw [eNV_zero]; exact zero_le_one,
      h1e3 := eNV_nonneg _, hbox := ⟨hlt, hd, hlt, hd⟩,
      heps := lt_of_lt_of_eq one_pos (eNV_of_ne FloatFacts.eps_beq_zero).symm }

/- `eT` as `eNV` but exact on `0.5` as well (the tails padding needs `e 0.5 = 1/2`) -/
def eT (f : Float) : ℝ := if f == 0.0 then 0 else if f == 0.5 then 1 / 2 else 1
theorem eT_nonneg (f : Float) : 0 ≤ eT f := by unfold eT; split_ifs <;> norm_num

theorem eT_zero : eT 0.0 = 0 := if_pos FloatFacts.zero_beq_zero
theorem eT_half : eT 0.5 = 1 / 2 := (if_neg (ne_true_of_eq_false FloatFacts.half_beq_zero)).trans (if_pos FloatFacts.half_beq_half)
theorem eT_of_ne {f : Float} (h0 : (f == 0.0) = false) (hh : (f == 0.5) = false) : eT f = 1 :=
  (if_neg (ne_true_of_eq_false h0)).trans (if_neg (ne_true_of_eq_false hh))

theorem valid_example_T : QuadValidT eT cNV [0, 0] [0] := by
  have h1 : eT 1.0 = 1 := eT_of_ne FloatFacts.one_beq_zero FloatFacts.one_beq_half
  have hlt : eT 0.0 < eT 1.0 := by rw [eT_zero, h1]; exact zero_lt_one
  have hd : eT (1.0 - 0.0) = eT 1.0 - eT 0.0 := by rw [FloatFacts.one_sub_zero_eq, eT_zero, sub_zero]
  exact
    { huh := List.cons_ne_nil _ _, hlenh := rfl, hgW := FloatFacts.guard_two, hgH := FloatFacts.guard_two,
      hmW0 := eT_zero.ge,
      hcW := show eT (1 - 0.0 * (2:Nat).toFloat) = 1 - eT 0.0 * ((2:ℕ):ℝ) by
        rw [FloatFacts.floor_two_eq, h1, eT_zero, zero_mul, sub_zero],
      hmWK := show eT 0.0 * ((2:ℕ):ℝ) ≤ 1 by rw [eT_zero, zero_mul]; exact zero_le_one,
      hmH0 := eT_zero.ge,
      hcH := show eT (1 - 0.0) = 1 - eT 0.0 by rw [FloatFacts.ofNat_one_sub_zero_eq, h1, eT_zero, sub_zero],
      hmH1 := show eT 0.0 ≤ 1 by rw [eT_zero]; exact zero_le_one,
      h1e3 := eT_nonneg _, hhalf := eT_half, hbox := ⟨hlt, hd, hlt, hd⟩,
      heps := lt_of_lt_of_eq one_pos (eT_of_ne FloatFacts.eps_beq_zero FloatFacts.eps_beq_half).symm }

/-- the `boxLog` hypothesis of `val_hasDerivAt_x` for the example, given that `Float.log (1.0/1.0)` is `0.0` -/
theorem boxLog_example (h : (boxLog cNV.box == 0.0) = true) :
    eNV (boxLog cNV.box) = Real.log ((eNV cNV.box.top - eNV cNV.box.bottom) / (eNV cNV.box.right - eNV cNV.box.left)) := by
  have h0 : eNV (boxLog cNV.box) = 0 := if_pos h
  show _ = Real.log ((eNV 1.0 - eNV 0.0) / (eNV 1.0 - eNV 0.0))
  rw [h0, eNV_of_ne FloatFacts.one_beq_zero, eNV_zero, sub_zero, div_one, Real.log_one]

/-! ### the executed log-abs-det is the log of a POSITIVE density (plus the box constant), everywhere in the domain -/

section dens
variable {P : ℝ → Except Err (ℝ × ℝ)}
theorem gen_ld_pos (hv : CoreValid e c Wd U) (hb : BoxValid e c) (hP : RunsRest e c Wd U P)
    (x : ℝ) (hx0 : e c.box.left ≤ x) (hx1 : x ≤ e c.box.right) :
    ∃ p : ℝ, 0 < p ∧ ldOf (P x) = Real.log p + e (boxLog c.box) := by
  obtain ⟨h0, h1⟩ := nx_mem hb x hx0 hx1
  obtain ⟨hiK, hle, hle1, _⟩ := (searchedN hv).sel (nx e c x) h0 h1
  obtain ⟨ha0, ha1⟩ := relpos_mem hv _ hiK _ hle hle1
  refine ⟨_, Quad.pdf_pos (ht_pos hv _ (Nat.lt_succ_of_lt hiK)) (ht_pos hv _ (Nat.succ_lt_succ hiK)) ha0 ha1, ?_⟩
  rw [gen_ld hv hb hP x hx0 hx1, LdN, binLdN_eq]
end dens

theorem ld_pos (hv : QuadValid e c uw uh) (x : ℝ) (hx0 : e c.box.left ≤ x) (hx1 : x ≤ e c.box.right) :
    ∃ p : ℝ, 0 < p ∧ ld e c uw uh x = Real.log p + e (boxLog c.box) :=
  gen_ld_pos (core_of_valid hv) hv.hbox (runsRest_of_valid hv) x hx0 hx1

theorem ld_pos_T (hv : QuadValidT e c uw uh) (x : ℝ) (hx0 : e c.box.left ≤ x) (hx1 : x ≤ e c.box.right) :
    ∃ p : ℝ, 0 < p ∧ ld e c uw uh x = Real.log p + e (boxLog c.box) :=
  gen_ld_pos (core_of_validT hv) hv.hbox (runsRest_of_validT hv) x hx0 hx1

/-! ### the one shape excluded from `QuadValidT` -/

/-- tails shape with a single bin (`uh = []`): the padding step indexes the empty height vector — `IndexError`, for every
    in-domain input (the Python code raises the same on `unnorm_heights_exp[..., 0]`) -/
theorem tails_one_bin_error (w x : ℝ) (hx0 : e c.box.left ≤ x) (hx1 : x ≤ e c.box.right)
    (hgW : ¬ (c.minW * ([w] : List ℝ).length.toFloat > 1.0)) (hgH : ¬ (c.minH * ([w] : List ℝ).length.toFloat > 1.0)) :
    quadSpline (NF.realX e) c [w] [] false x = .error .indexError := by
  rw [quadSpline_split (NF.realX e) c [w] [] x (SplineTotal.guard_false _ _ x hx0 hx1) hgW hgH]
  have hl : (flooredSoftmax (NF.realX e) c.minW [w]).length = 1 := Wq_length (e := e) c [w]
  obtain ⟨a, ha⟩ : ∃ a, flooredSoftmax (NF.realX e) c.minW [w] = [a] := by
    match h : flooredSoftmax (NF.realX e) c.minW [w], hl with
    | [a], _ => exact ⟨a, rfl⟩
  rw [ha]
  rfl
end
end QuadWhole
