import NflowsModel.Lemmas.TorchUtils
import NflowsModel.Lemmas.SplineExec
import NflowsModel.Lemmas.ExecGlue
/-!
# Lemmas/SplineTotal — the executed search and gathers of the spline programs, at the reals

What every executed spline does before its closed form: the domain test raises outside the interval of the direction and
passes inside, `searchsortedG` over a strictly increasing knot list meets `ExecGlue.SearchSpec`, and `getI` at the index it
returns succeeds.
-/
open NF

namespace SplineTotal
variable (e : Float → ℝ)

theorem realX_ordered' : NF.TU.OrderedX (NF.realX e) := ⟨fun _ _ => rfl, fun _ _ => rfl⟩

theorem guard_false {e : Float → ℝ} (lo hi : Float) (x : ℝ) (h0 : e lo ≤ x) (h1 : x ≤ e hi) :
    ((NF.realX e).lt x ((NF.realX e).ofFloat lo) || (NF.realX e).lt ((NF.realX e).ofFloat hi) x) = false := by
  simp only [NF.realX_lt, NF.realX_ofFloat, Bool.or_eq_false_iff, decide_eq_false_iff_not, not_lt]
  exact ⟨h0, h1⟩

theorem guard_real (lo hi : Float) (x : ℝ) :
    ((NF.realX e).lt x ((NF.realX e).ofFloat lo) || (NF.realX e).lt ((NF.realX e).ofFloat hi) x) = true
      ↔ (x < e lo ∨ e hi < x) := by
  simp only [NF.realX_lt, NF.realX_ofFloat, Bool.or_eq_true, decide_eq_true_eq]

theorem ok_dom_of_rejects {ρ : Type} {P : Except Err ρ} {e : Float → ℝ} {lo hi : Float} {x : ℝ} {r : ρ}
    (hrej : ((NF.realX e).lt x ((NF.realX e).ofFloat lo) || (NF.realX e).lt ((NF.realX e).ofFloat hi) x) = true →
      P = .error .outsideDomain) (hok : P = .ok r) : e lo ≤ x ∧ x ≤ e hi := by
  by_contra hx
  rw [not_and_or, not_le, not_le] at hx
  rw [hrej ((guard_real e lo hi x).mpr hx)] at hok
  cases hok

/-! ### the domain test of the bounded splines, whatever the scalar semantics: forward `[left, right]`, inverse `[bottom, top]` -/

section guard
variable {α : Type} (o : XOps α)

theorem rqSpline_rejects_outside (c : RQCfg) (uw uh ud : List α) (inverse : Bool) (x : α)
    (h : (o.lt x (o.ofFloat (if inverse then c.box.bottom else c.box.left)) ||
          o.lt (o.ofFloat (if inverse then c.box.top else c.box.right)) x) = true) :
    rqSpline o c uw uh ud inverse x = .error .outsideDomain := by
  unfold rqSpline
  dsimp only
  rw [if_pos h]
  rfl

theorem quadSpline_rejects_outside (c : QCfg) (uw uh : List α) (inverse : Bool) (x : α)
    (h : (o.lt x (o.ofFloat (if inverse then c.box.bottom else c.box.left)) ||
          o.lt (o.ofFloat (if inverse then c.box.top else c.box.right)) x) = true) :
    quadSpline o c uw uh inverse x = .error .outsideDomain := by
  unfold quadSpline
  dsimp only
  rw [if_pos h]
  rfl

theorem linSpline_rejects_outside (box : Box) (eps : Float) (up : List α) (inverse : Bool) (x : α)
    (h : (o.lt x (o.ofFloat (if inverse then box.bottom else box.left)) ||
          o.lt (o.ofFloat (if inverse then box.top else box.right)) x) = true) :
    linSpline o box eps up inverse x = .error .outsideDomain := by
  unfold linSpline
  dsimp only
  rw [if_pos h]
  rfl

theorem cubicSpline_rejects_outside (c : CCfg) (uw uh : List α) (udl udr : α) (inverse : Bool) (x : α)
    (h : (o.lt x (o.ofFloat (if inverse then c.box.bottom else c.box.left)) ||
          o.lt (o.ofFloat (if inverse then c.box.top else c.box.right)) x) = true) :
    cubicSpline o c uw uh udl udr inverse x = .error .outsideDomain := by
  unfold cubicSpline
  dsimp only
  rw [if_pos h]
  rfl

end guard

theorem getI_ok {α : Type} (xs : List α) (i : ℕ) (h : i < xs.length) : getI xs (i : Int) = .ok xs[i] := by
  unfold getI
  have : ¬ ((i : Int) < 0) := by omega
  simp [this, h]

theorem getI_ok_getD {α : Type} (l : List α) (i : ℕ) (h : i < l.length) (d : α) : getI l (i : Int) = .ok (l.getD i d) := by
  rw [getI_ok l i h, List.getD_eq_getElem?_getD, List.getElem?_eq_getElem h]; rfl

theorem getI_getD (l : List ℝ) (i : ℕ) (h : i < l.length) : getI l (i : Int) = .ok (l.getD i 0) := getI_ok_getD l i h 0

theorem diffsG_length (xs : List ℝ) : (diffsG (NF.realX e) xs).length = xs.length - 1 := by
  induction xs with
  | nil => rfl
  | cons a t ih =>
    cases t with
    | nil => rfl
    | cons b r => simp [diffsG, ih]

/-- the executed search meets the search specification on any strictly increasing knot list -/
theorem search_spec_list (eps : Float) (heps : 0 < e eps) (kn : List ℝ) (K : ℕ) (a b : ℝ) (hK0 : 0 < K)
    (hkn : kn.length = K + 1 ∧ kn.head? = some a ∧ kn.getLast? = some b ∧ kn.Pairwise (· < ·)) :
    ExecGlue.SearchSpec (fun k => kn.getD k 0) K (fun t => (searchsortedG (NF.realX e) eps kn t).toNat) ∧
    ∀ t, a ≤ t → t ≤ b →
      searchsortedG (NF.realX e) eps kn t = (((searchsortedG (NF.realX e) eps kn t).toNat : ℕ) : Int) := by
  obtain ⟨hlen, hhead, hlast, hp⟩ := hkn
  obtain ⟨init, rfl⟩ := List.getLast?_eq_some_iff.mp hlast
  obtain rfl : init.length = K := by simpa using hlen
  obtain ⟨a', t, rfl⟩ := List.exists_cons_of_length_pos hK0
  obtain rfl : a' = a := by simpa using hhead
  have hb : b < NF.TU.bumpedLast (NF.realX e) eps b := by
    have hnot : ¬ (b + e eps < b) := by linarith
    have hup : (NF.realX e).nextUp b = b := rfl
    simp only [NF.TU.bumpedLast, hup, XOps.maxA, NF.realX_add, NF.realX_ofFloat, NF.realX_lt, hnot, decide_false,
      Bool.false_eq_true, if_false]
    linarith
  have key : ∀ x, a' ≤ x → x ≤ b →
      ∃ i : ℕ, searchsortedG (NF.realX e) eps (a' :: t ++ [b]) x = (i : Int) ∧ i < (a' :: t).length ∧
        (a' :: t ++ [b]).getD i 0 ≤ x ∧
        (x < (a' :: t ++ [b]).getD (i+1) 0 ∨ (i + 1 = (a' :: t).length ∧ x = b)) := by
    intro x hx0 hx1
    obtain ⟨i, hi, hiK, lo, hi', hlo, hhi, hle, hr⟩ :=
      Properties.C20.searchsorted_spec (NF.realX e) (realX_ordered' e) eps (a' :: t) b x hp hb a' rfl hx0 hx1
    refine ⟨i, hi, hiK, ?_, ?_⟩
    · rw [List.getD_eq_getElem?_getD, hlo]; exact hle
    · rw [List.getD_eq_getElem?_getD, hhi]; exact hr
  have hL : (a' :: t ++ [b]).getD (a' :: t).length 0 = b := by simp
  constructor
  · intro x hx0 hx1
    obtain ⟨i, hi, hiK, hle, hr⟩ := key x hx0 (hL ▸ hx1)
    simp only [hi, Int.toNat_natCast, hL]
    exact ⟨hiK, hle, hr⟩
  · intro x hx0 hx1
    obtain ⟨i, hi, _⟩ := key x hx0 hx1
    rw [hi, Int.toNat_natCast]

/-- **the executed RQ program after its control flow**, over any `XOps`: when the domain test and the two floor guards pass,
    the search returns bin `i` and the six gathers succeed, the program returns the direction's closed form on the gathered
    environment (inverse: behind the discriminant assertion). -/
theorem rqSpline_of_search {α : Type} (o : XOps α) (c : RQCfg) (uw uh ud : List α) (inv : Bool) (x : α)
    {cw wd ch ht dv : List α}
    (hW : rqKnots o c.box.left c.box.right (flooredSoftmax o c.minW uw) = (cw, wd))
    (hH : rqKnots o c.box.bottom c.box.top (flooredSoftmax o c.minH uh) = (ch, ht))
    (hD : ud.map (fun u => o.add (o.ofFloat c.minD) (o.softplusB (o.ofFloat c.beta) u)) = dv)
    (hlo : o.lt x (o.ofFloat (if inv then c.box.bottom else c.box.left)) = false)
    (hhi : o.lt (o.ofFloat (if inv then c.box.top else c.box.right)) x = false)
    (hgW : ¬ c.minW * uw.length.toFloat > 1.0) (hgH : ¬ c.minH * uw.length.toFloat > 1.0)
    {i : ℕ} (hs : searchsortedG o c.eps (if inv then ch else cw) x = (i : Int))
    {xk w yk h d0 d1 : α} (h1 : getI cw (i : Int) = .ok xk) (h2 : getI wd (i : Int) = .ok w)
    (h3 : getI ch (i : Int) = .ok yk) (h4 : getI ht (i : Int) = .ok h)
    (h5 : getI dv (i : Int) = .ok d0) (h6 : getI dv ((i : Int) + 1) = .ok d1) :
    rqSpline o c uw uh ud inv x =
      if inv then
        if o.ge (evalX o [x, xk, w, yk, h, d0, d1] rqDiscE) o.zero then
          .ok (o.add (o.mul (evalX o [x, xk, w, yk, h, d0, d1] rqRootE) w) xk,
            o.neg (evalX o [evalX o [x, xk, w, yk, h, d0, d1] rqRootE, xk, w, yk, h, d0, d1] rqLdThetaE))
        else .error .assertion
      else .ok (evalX o [x, xk, w, yk, h, d0, d1] rqFwdE, evalX o [x, xk, w, yk, h, d0, d1] rqFwdLdE) := by
  unfold rqSpline
  simp only [hlo, hhi, Bool.or_self, Bool.false_eq_true, if_false, hgW, hgH, hW, hH, hD, hs, h1, h2, h3, h4, h5, h6]
  cases inv
  · rfl
  · show (if (!o.ge (evalX o [x, xk, w, yk, h, d0, d1] rqDiscE) o.zero) = true then _ else _) = _
    cases o.ge (evalX o [x, xk, w, yk, h, d0, d1] rqDiscE) o.zero <;> rfl

end SplineTotal
