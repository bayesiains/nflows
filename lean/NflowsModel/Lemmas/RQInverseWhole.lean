import NflowsModel.Lemmas.RQWhole
import NflowsModel.Lemmas.ElemPair
/-!
# Lemmas/RQInverseWhole — the EXECUTED rational-quadratic spline, INVERSE direction, as a whole program over the reals

`rqSpline (NF.realX e) c uw uh ud true y` is the list program the driver runs at `Float`/`Float32`, instantiated at ℝ:
softmax, floors, cumsum, pinned knots, search over the **y-knots** `ch`, gathers, discriminant assertion, stable root,
`out = root·w + xk`, log-abs-det `-(log dnum − 2 log den)` at the root.  For every accepted configuration
(`RQWhole.RQValid`) this file proves, about that program itself:

* it returns a value for every `y ∈ [bottom, top]` (the discriminant assertion never fires), and that value is the
  closed form of the bin the search selected (`exec_eq_bin`);
* it is the searched piecewise inverse of `RQWhole.searched` (`searchedInv`), off which the whole-function facts are read:
  round trips against the executed FORWARD program in both orders, `inv` a strictly increasing bijection of `[bottom, top]`
  onto `[left, right]`, corner to corner and knot to knot, the two searches selecting the same bin at EVERY `y ∈ [bottom, top]`;
* hence the log-abs-det law on the whole closed box, knots included, and inside every open y-bin the derivative of `inv`
  is `exp` of the log-abs-det the inverse program returns.
-/
open NF DualSound

namespace RQInverseWhole
open RQWhole
noncomputable section
variable (e : Float → ℝ)

def idxI (c : RQCfg) (uh : List ℝ) (y : ℝ) : ℕ := (searchsortedG (NF.realX e) c.eps (ch e c uh) y).toNat

def binRoot (c : RQCfg) (uw uh ud : List ℝ) (k : ℕ) (y : ℝ) : ℝ := evalR (env e c uw uh ud k y) rqRootE
def binDisc (c : RQCfg) (uw uh ud : List ℝ) (k : ℕ) (y : ℝ) : ℝ := evalR (env e c uw uh ud k y) rqDiscE
def binInv (c : RQCfg) (uw uh ud : List ℝ) (k : ℕ) (y : ℝ) : ℝ :=
  binRoot e c uw uh ud k y * (xs e c uw (k+1) - xs e c uw k) + xs e c uw k
def binInvLd (c : RQCfg) (uw uh ud : List ℝ) (k : ℕ) (y : ℝ) : ℝ :=
  - evalR (env e c uw uh ud k (binRoot e c uw uh ud k y)) rqLdThetaE

/-- what the inverse program returns (0 on the error branch, which `exec_eq_bin` shows is not taken in the domain) -/
def inv (c : RQCfg) (uw uh ud : List ℝ) (y : ℝ) : ℝ :=
  match rqSpline (NF.realX e) c uw uh ud true y with
  | .ok r => r.1
  | .error _ => 0
def invLd (c : RQCfg) (uw uh ud : List ℝ) (y : ℝ) : ℝ :=
  match rqSpline (NF.realX e) c uw uh ud true y with
  | .ok r => r.2
  | .error _ => 0

theorem rqDiscE_eq (y xk w yk h d0 d1 : ℝ) :
    evalR (Bridge.rqEnv y xk w yk h d0 d1) rqDiscE =
      (RQ.qb (h / w) d0 d1 h (y - yk)) ^ 2 - 4 * RQ.qa (h / w) d0 d1 h (y - yk) * RQ.qc (h / w) (y - yk) := by
  simp only [rqDiscE, RQ.qa, RQ.qb, RQ.qc, NF.v, Bridge.evalR_hadd, Bridge.evalR_hsub, Bridge.evalR_hmul, Bridge.evalR_hdiv, evalR_var, Bridge.evalR_ofNat, evalR_neg,
    Bridge.rqEnv0, Bridge.rqEnv2, Bridge.rqEnv3, Bridge.rqEnv4, Bridge.rqEnv5, Bridge.rqEnv6, pow_two]

theorem rqLdThetaE_eq (th xk w yk h d0 d1 : ℝ) :
    evalR (Bridge.rqEnv th xk w yk h d0 d1) rqLdThetaE =
      Real.log (RQ.dnum (h / w) d0 d1 th) - 2 * Real.log (RQ.den (h / w) d0 d1 th) := by
  simp only [rqLdThetaE, RQ.dnum, RQ.den, NF.v, Bridge.evalR_hadd, Bridge.evalR_hsub, Bridge.evalR_hmul, Bridge.evalR_hdiv, evalR_var, Bridge.evalR_one, Bridge.evalR_ofNat, evalR_log,
    Bridge.rqEnv0, Bridge.rqEnv2, Bridge.rqEnv4, Bridge.rqEnv5, Bridge.rqEnv6, pow_two]

variable {e}
variable {c : RQCfg} {uw uh ud : List ℝ}

theorem search_spec (hv : RQValid e c uw uh ud) :
    ExecGlue.SearchSpec (ys e c uh) uw.length (idxI e c uh) ∧
    ∀ y, e c.box.bottom ≤ y → y ≤ e c.box.top →
      searchsortedG (NF.realX e) c.eps (ch e c uh) y = ((idxI e c uh y : ℕ) : Int) :=
  SplineTotal.search_spec_list e c.eps hv.heps (ch e c uh) uw.length _ _ (List.length_pos_of_ne_nil hv.hK) (ch_facts hv)

/-- the executed inverse terms of one bin, whatever its data: for `y` in the bin's output range the discriminant is
    non-negative, the root lies in `[0,1]`, and the executed forward term maps `root·w + xk` back to `y` -/
theorem rq_executed_root {y xk w yk h d0 d1 : ℝ} (hw : 0 < w) (hh : 0 < h) (h0 : 0 < d0) (h1 : 0 < d1)
    (hy0 : yk ≤ y) (hy1 : y ≤ yk + h) :
    0 ≤ evalR (Bridge.rqEnv y xk w yk h d0 d1) rqDiscE ∧ 0 ≤ evalR (Bridge.rqEnv y xk w yk h d0 d1) rqRootE ∧
    evalR (Bridge.rqEnv y xk w yk h d0 d1) rqRootE ≤ 1 ∧
    evalR (Bridge.rqEnv (evalR (Bridge.rqEnv y xk w yk h d0 d1) rqRootE * w + xk) xk w yk h d0 d1) rqFwdE = y := by
  obtain ⟨hd, hr0, hr1, hg⟩ := RQ.inverse_correct (s := h / w) (Δ := y - yk) (div_pos hh hw) h0 h1 hh
    (sub_nonneg.2 hy0) (sub_le_iff_le_add'.2 hy1)
  have hroot : evalR (Bridge.rqEnv y xk w yk h d0 d1) rqRootE = _ := Bridge.rqRootE_eq y xk w yk h d0 d1
  rw [← hroot] at hr0 hr1 hg
  refine ⟨by rw [rqDiscE_eq]; exact hd, hr0, hr1, ?_⟩
  rw [Bridge.rqFwdE_eq, ExecGlue.scale_unit hw.ne', hg, add_sub_cancel]

theorem bin_facts (hv : RQValid e c uw uh ud) (k : ℕ) (hk : k < uw.length) (y : ℝ)
    (hy0 : ys e c uh k ≤ y) (hy1 : y ≤ ys e c uh (k+1)) :
    0 ≤ binDisc e c uw uh ud k y ∧ 0 ≤ binRoot e c uw uh ud k y ∧ binRoot e c uw uh ud k y ≤ 1 ∧
    binVal e c uw uh ud k (binInv e c uw uh ud k y) = y := by
  obtain ⟨hw, hh, h0, h1⟩ := bin_data_pos hv k hk
  exact rq_executed_root hw hh h0 h1 hy0 (hy1.trans_eq (add_sub_cancel _ _).symm)

theorem sel (hv : RQValid e c uw uh ud) (y : ℝ) (hy0 : e c.box.bottom ≤ y) (hy1 : y ≤ e c.box.top) :
    idxI e c uh y < uw.length ∧ ys e c uh (idxI e c uh y) ≤ y ∧ y ≤ ys e c uh (idxI e c uh y + 1) ∧
    (y < ys e c uh (idxI e c uh y + 1) ∨ (idxI e c uh y + 1 = uw.length ∧ y = e c.box.top)) :=
  (search_spec hv).1.mem_bin (ys_zero hv) (ys_last hv) y hy0 hy1

theorem disc_nonneg (hv : RQValid e c uw uh ud) (y : ℝ) (hy0 : e c.box.bottom ≤ y) (hy1 : y ≤ e c.box.top) :
    0 ≤ binDisc e c uw uh ud (idxI e c uh y) y := by
  obtain ⟨hiK, hle, hyle, _⟩ := sel hv y hy0 hy1
  exact (bin_facts hv _ hiK y hle hyle).1

/-- **the inverse program's result is the inverse closed form of the bin it searched** — for every `y` in the domain;
    in particular the discriminant assertion never fires (C17) -/
theorem exec_eq_bin (hv : RQValid e c uw uh ud) (y : ℝ) (hy0 : e c.box.bottom ≤ y) (hy1 : y ≤ e c.box.top) :
    rqSpline (NF.realX e) c uw uh ud true y
      = .ok (binInv e c uw uh ud (idxI e c uh y) y, binInvLd e c uw uh ud (idxI e c uh y) y) := by
  have hdisc : 0 ≤ evalR (env e c uw uh ud (idxI e c uh y) y) rqDiscE := disc_nonneg hv y hy0 hy1
  rw [rqSpline_of_index true y _ hv.hgW hv.hgH hy0 hy1 (cw_facts hv).1 (ch_facts hv).1 hv.hlend
    ((search_spec hv).2 y hy0 hy1) (sel hv y hy0 hy1).1, if_pos rfl, if_pos hdisc]
  rfl

theorem inv_eq (hv : RQValid e c uw uh ud) (y : ℝ) (hy0 : e c.box.bottom ≤ y) (hy1 : y ≤ e c.box.top) :
    inv e c uw uh ud y = binInv e c uw uh ud (idxI e c uh y) y := by
  unfold inv; rw [exec_eq_bin hv y hy0 hy1]

theorem invLd_eq (hv : RQValid e c uw uh ud) (y : ℝ) (hy0 : e c.box.bottom ≤ y) (hy1 : y ≤ e c.box.top) :
    invLd e c uw uh ud y = binInvLd e c uw uh ud (idxI e c uh y) y := by
  unfold invLd; rw [exec_eq_bin hv y hy0 hy1]

/-- **totality in the domain (C17)**: for every `y ∈ [bottom, top]` the inverse program returns a value (no
    `outsideDomain`, no `valueError`, no index error, and the `discriminant ≥ 0` assertion does not fire) -/
theorem exec_ok (hv : RQValid e c uw uh ud) (y : ℝ) (hy0 : e c.box.bottom ≤ y) (hy1 : y ≤ e c.box.top) :
    rqSpline (NF.realX e) c uw uh ud true y = .ok (inv e c uw uh ud y, invLd e c uw uh ud y) := by
  rw [inv_eq hv y hy0 hy1, invLd_eq hv y hy0 hy1]; exact exec_eq_bin hv y hy0 hy1


theorem searchedInv (hv : RQValid e c uw uh ud) :
    ExecGlue.SearchedInv uw.length (xs e c uw) (ys e c uh) (e c.box.bottom) (e c.box.top)
      (binVal e c uw uh ud) (binInv e c uw uh ud) (idxI e c uh) (inv e c uw uh ud) where
  specI := (search_spec hv).1
  eqI := inv_eq hv
  mem := fun k hk y h0 h1 => by
    obtain ⟨_, hr0, hr1, _⟩ := bin_facts hv k hk y h0 h1
    have hw := (bin_data_pos hv k hk).1
    exact ⟨le_add_of_nonneg_left (mul_nonneg hr0 hw.le), le_sub_iff_add_le.1 (mul_le_of_le_one_left hw.le hr1)⟩
  root := fun k hk y h0 h1 => (bin_facts hv k hk y h0 h1).2.2.2

/-- per-bin log-abs-det law: the inverse evaluates the forward's log-derivative term at its root -/
theorem ld_law (hv : RQValid e c uw uh ud) (k : ℕ) (hk : k < uw.length) (y : ℝ) (_ : ys e c uh k ≤ y)
    (_ : y ≤ ys e c uh (k+1)) : binInvLd e c uw uh ud k y = - binLd e c uw uh ud k (binInv e c uw uh ud k y) := by
  have hw := (bin_data_pos hv k hk).1
  unfold binInvLd binLd env binInv
  rw [rqLdThetaE_eq, Bridge.rqFwdLdE_eq, ExecGlue.scale_unit hw.ne']

theorem boxPair (hv : RQValid e c uw uh ud) :
    ElemPair.BoxPair (rqSpline (NF.realX e) c uw uh ud false) (rqSpline (NF.realX e) c uw uh ud true)
      (e c.box.left) (e c.box.right) (e c.box.bottom) (e c.box.top) where
  dom := fun x _ h => SplineTotal.ok_dom_of_rejects (SplineTotal.rqSpline_rejects_outside _ c uw uh ud false x) h
  domI := fun y _ h => SplineTotal.ok_dom_of_rejects (SplineTotal.rqSpline_rejects_outside _ c uw uh ud true y) h
  total := fun x h0 h1 => ⟨_, RQWhole.exec_eq_bin hv x h0 h1⟩
  totalI := fun y h0 h1 => ⟨_, exec_eq_bin hv y h0 h1⟩
  rinv := (searchedInv hv).rightInv (searched hv)

theorem idxI_val (hv : RQValid e c uw uh ud) (x : ℝ) (hx0 : e c.box.left ≤ x) (hx1 : x ≤ e c.box.right) :
    idxI e c uh (val e c uw uh ud x) = idx e c uw x := (searchedInv hv).idxI_val (searched hv) x hx0 hx1

/-- **log-abs-det law, end to end, on the whole box** (C02): the second output of the executed inverse program at `y`
    is the negated second output of the executed forward program at `inv y` — for every `y ∈ [bottom, top]`, knots
    included (no extra hypothesis is needed because the two searches agree) -/
theorem invLd_eq_neg_ld (hv : RQValid e c uw uh ud) (y : ℝ) (hy0 : e c.box.bottom ≤ y) (hy1 : y ≤ e c.box.top) :
    invLd e c uw uh ud y = - ld e c uw uh ud (inv e c uw uh ud y) :=
  (searchedInv hv).invLd_eq_neg_ld (searched hv) (ld_eq hv) (invLd_eq hv) (ld_law hv) y hy0 hy1

theorem ldLaw (hv : RQValid e c uw uh ud) :
    ElemPair.LdLaw (rqSpline (NF.realX e) c uw uh ud false) (rqSpline (NF.realX e) c uw uh ud true) (e c.box.bottom) (e c.box.top) :=
  invLd_eq_neg_ld hv

/-- **inside every open y-bin the derivative of the executed inverse is `exp` of the log-abs-det the inverse program
    returns** (C01 for the inverse direction) -/
theorem inv_hasDerivAt (hv : RQValid e c uw uh ud) (k : ℕ) (hk : k < uw.length) (y : ℝ)
    (h0 : ys e c uh k < y) (h1 : y < ys e c uh (k+1)) :
    HasDerivAt (inv e c uw uh ud) (Real.exp (invLd e c uw uh ud y)) y :=
  (searchedInv hv).inv_hasDerivAt (searched hv) (invLd_eq hv) (ld_law hv)
    (fun k hk x h0 h1 => bin_hasDerivAt hv k hk x h0.le h1.le) k hk y h0 h1

/-! ### non-vacuity: the statements instantiated at the concrete accepted configuration `RQWhole.valid_example`
(one bin on the unit box, reading `eNV`) -/


theorem example_roundtrip (y : ℝ) (hy0 : 0 ≤ y) (hy1 : y ≤ 1) :
    rqSpline (NF.realX eNV) cNV [0] [0] [0, 0] true y = .ok (inv eNV cNV [0] [0] [0, 0] y, invLd eNV cNV [0] [0] [0, 0] y) ∧
    val eNV cNV [0] [0] [0, 0] (inv eNV cNV [0] [0] [0, 0] y) = y ∧
    invLd eNV cNV [0] [0] [0, 0] y = - ld eNV cNV [0] [0] [0, 0] (inv eNV cNV [0] [0] [0, 0] y) := by
  have hb : eNV cNV.box.bottom = 0 := by simp [eNV, cNV, FloatFacts.zero_beq_zero]
  have ht : eNV cNV.box.top = 1 := by simp [eNV, cNV, FloatFacts.one_beq_zero]
  have h0 : eNV cNV.box.bottom ≤ y := by rw [hb]; exact hy0
  have h1 : y ≤ eNV cNV.box.top := by rw [ht]; exact hy1
  exact ⟨exec_ok valid_example y h0 h1, (searchedInv valid_example).val_inv (searched valid_example) y h0 h1, invLd_eq_neg_ld valid_example y h0 h1⟩

end
end RQInverseWhole
