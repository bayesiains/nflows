import Mathlib.LinearAlgebra.Matrix.ToLin
import Mathlib.LinearAlgebra.Matrix.NonsingularInverse
import Mathlib.LinearAlgebra.Matrix.Permutation
import Mathlib.Analysis.Calculus.FDeriv.Add
import Mathlib.Analysis.Calculus.FDeriv.Prod
import Mathlib.Analysis.Calculus.Deriv.Comp
import Mathlib.Topology.Algebra.Module.FiniteDimension
import Mathlib.Topology.Algebra.Module.Determinant
import Mathlib.Tactic
/-!
# The continuous linear map of a matrix; an affine map has a constant derivative

`ofMat M` is `x ↦ M *ᵥ x` as a continuous linear map over any finite index type, with its determinant.  A function that
is `v ↦ L v + c` pointwise has derivative `L` everywhere (`hasFDerivAt_of_eq`): the Jacobian of every affine layer
(the linear family, the 1×1 convolution) is read off from this one fact.  A map that acts coordinate by coordinate has the
diagonal of the coordinate derivatives as derivative (`hasFDerivAt_coordwise`; ActNorm, BatchNorm in eval mode, a row of
scalar transformers), and that diagonal map is `ofMat (diagonal c)` (`pi_smul_proj_eq`).  A permutation matrix has
`|det| = 1`.
Mathlib only, so that every file of the development can stand on it.
-/
open Matrix

namespace MatrixCLM
variable {ι : Type} [Fintype ι] [DecidableEq ι]

noncomputable def ofMat (M : Matrix ι ι ℝ) : (ι → ℝ) →L[ℝ] (ι → ℝ) := LinearMap.toContinuousLinearMap (Matrix.toLin' M)

theorem ofMat_apply (M : Matrix ι ι ℝ) (x : ι → ℝ) : ofMat M x = M *ᵥ x := by simp [ofMat]

theorem ofMat_det (M : Matrix ι ι ℝ) : (ofMat M).det = M.det := by
  rw [ofMat, ContinuousLinearMap.det, LinearMap.coe_toContinuousLinearMap, LinearMap.det_toLin']

/-- stated over an abstract space, so that the instances of a concrete `ι → ℝ` are found once, at the use -/
theorem hasFDerivAt_of_eq {E : Type*} [NormedAddCommGroup E] [NormedSpace ℝ E] {f : E → E} (L : E →L[ℝ] E) (c : E)
    (h : ∀ v, f v = L v + c) (x : E) : HasFDerivAt f L x := by
  rw [funext h]
  exact L.hasFDerivAt.add_const c

theorem hasFDerivAt_affine (M : Matrix ι ι ℝ) (b x : ι → ℝ) : HasFDerivAt (fun v => M *ᵥ v + b) (ofMat M) x :=
  hasFDerivAt_of_eq (ofMat M) b (fun v => by rw [ofMat_apply]) x

theorem bijective_affine (M : Matrix ι ι ℝ) (b : ι → ℝ) (hM : M.det ≠ 0) : Function.Bijective fun v : ι → ℝ => M *ᵥ v + b := by
  have hu : IsUnit M.det := isUnit_iff_ne_zero.2 hM
  refine Function.bijective_iff_has_inverse.2 ⟨fun y => M⁻¹ *ᵥ (y - b), fun x => ?_, fun y => ?_⟩
  · simp [Matrix.mulVec_mulVec, Matrix.nonsing_inv_mul M hu]
  · simp [Matrix.mulVec_mulVec, Matrix.mul_nonsing_inv M hu]

omit [DecidableEq ι] in
/-- the inner function is named: left to unification, `x i =?= ?g x` is solved only after a long failed attempt -/
theorem hasFDerivAt_coordwise {f : ι → ℝ → ℝ} {c x : ι → ℝ} (h : ∀ i, HasDerivAt (f i) (c i) (x i)) :
    HasFDerivAt (fun (v : ι → ℝ) (i : ι) => f i (v i))
      (ContinuousLinearMap.pi fun i => c i • ContinuousLinearMap.proj (R := ℝ) (φ := fun _ : ι => ℝ) i) x :=
  hasFDerivAt_pi.mpr fun i =>
    HasDerivAt.comp_hasFDerivAt (f := fun v : ι → ℝ => v i) x (h i) (hasFDerivAt_apply i x)

theorem pi_smul_proj_eq (c : ι → ℝ) :
    (ContinuousLinearMap.pi fun i => c i • ContinuousLinearMap.proj (R := ℝ) (φ := fun _ : ι => ℝ) i) = ofMat (Matrix.diagonal c) := by
  ext v i
  simp [ofMat_apply, Matrix.mulVec_diagonal]

theorem abs_det_permMatrix (σ : Equiv.Perm ι) : |(σ.permMatrix ℝ).det| = 1 := by
  rw [Matrix.det_permutation]
  rcases Int.units_eq_one_or (Equiv.Perm.sign σ) with h | h <;> simp [h]

end MatrixCLM
