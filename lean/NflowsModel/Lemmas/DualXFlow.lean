import NflowsModel.Core.Density
import NflowsModel.Lemmas.DualXLU
import NflowsModel.Lemmas.DualXOrth
import NflowsModel.Lemmas.DistReal
import NflowsModel.Lemmas.FlowRowsExec
import NflowsModel.Lemmas.StageMoreRows
import Mathlib.Tactic
/-!
# Lemmas/DualXFlow — whole flows run on dual numbers: `CompositeTransform` and `Flow.log_prob` (C16)

The composition level above the per-program theorems, about the executed batch-level programs of `Lemmas/FlowRowsExec.lean` /
`Lemmas/StageMoreRows.lean` (flat `[B, w]` arrays).  `DualSoundStage t S D`: along every differentiable curve of (inputs, context)
the dual call `D` and the real calls `S s` (parameters moving with `s`) are accepted together or raise the same exception, and the
dual outputs are (value at `t`, derivative at `t`).  The cascade `compStage` (`CompositeTransform.forward`) of such stages is one,
the linear and normalisation layers are instances, the normal base densities satisfy the analogous `DualSoundBase`, and
`flowLogProbExec` (`Flow._log_prob`, flows/base.py:42-49) puts them together: `flow_logprob_dual_sound`.  Cascade and flow are proved
once, for `DualSoundStageAlong l l'` (stages sound on a set of inputs, with "every `s`" read along filters), which
`Lemmas/DualXFlowStages.lean` also instantiates near `t`.
-/
open NF DualSound DualX DualXLU Filter Topology NF.Density NF.FlowRowsExec NF.StageMore NF.Norm LinearFresh
  NF.RowIndependenceMore

-- `NearTriple` and `cascadeP` are declared here, in the namespace `DualXFlowStages` under which the statements of
-- `Lemmas/DualXFlowStages.lean` and of `Properties/` name them
namespace DualXFlowStages

/-- a stage of a cascade with its admissible set: (set of dual inputs, real stage at parameter `s`, dual stage) -/
abbrev NearTriple := (ℕ → Array (ℝ × ℝ) → Array (ℝ × ℝ) → Prop) × (ℝ → BStage ℝ) × BStage (ℝ × ℝ)

/-- the admissible set of a cascade: the input is admissible for the first stage, and whatever the first dual stage returns is
    admissible for the rest (a condition on the DUAL run only, checkable while running it) -/
def cascadeP (B : ℕ) (dc : Array (ℝ × ℝ)) : List NearTriple → Array (ℝ × ℝ) → Prop
  | [], _ => True
  | T :: Ts, dX => T.1 B dX dc ∧ ∀ dY dL, T.2.2 B dX dc = .ok (dY, dL) → cascadeP B dc Ts dY

end DualXFlowStages

namespace DualXFlow
noncomputable section

variable {e : Float → ℝ} {t : ℝ}

/-! ## 1. curves of flat arrays -/

theorem rowsD_dual (w B : ℕ) {X : ℝ → Array ℝ} {dX : Array (ℝ × ℝ)} (h : DA t X dX) :
    DM t (fun s => rowsD w (NF.realX e).zero B (X s)) (rowsD w (dualX (NF.realX e)).zero B dX) := by
  unfold rowsD rowD
  refine DL.ofMap _ _ _ (fun b _ => DL.ofMap _ _ _ (fun k _ => ?_))
  simp only [← toList_getD]
  exact DL.getD' h (b * w + k) (IsDual.zero e t)

theorem fitRow_dual (w : ℕ) {F : ℝ → List ℝ} {ds : List (ℝ × ℝ)} (h : DV t F ds) :
    DV t (fun s => fitRow w (NF.realX e).zero (F s)) (fitRow w (dualX (NF.realX e)).zero ds) := by
  unfold fitRow
  exact DL.ofMap _ _ _ (fun k _ => DL.getD' h k (IsDual.zero e t))

theorem flat_dual (w : ℕ) {Y : ℝ → List (List ℝ)} {dY : List (List (ℝ × ℝ))} (h : DM t Y dY) :
    DA t (fun s => ((Y s).flatMap (fitRow w (NF.realX e).zero)).toArray)
      ((dY.flatMap (fitRow w (dualX (NF.realX e)).zero)).toArray) := by
  unfold DA
  exact DL.flatMap _ _ h (fun f d hfd => fitRow_dual w hfd)

theorem rowsOf_dual (w B : ℕ) {Z : ℝ → Array ℝ} {dz : Array (ℝ × ℝ)} (h : DA t Z dz) :
    DM t (fun s => rowsOf w B (Z s).toList) (rowsOf w B dz.toList) := by
  unfold rowsOf
  exact DL.ofMap _ _ _ (fun i _ => (h.drop (i * w)).take w)

/-! ## 2. dual-sound stages and their cascade -/

/-- **the dual run of a batch-level pass is sound along every differentiable curve**: `S s` is the real pass at parameter `s`
    (its parameters move with `s`), `D` the pass on dual numbers.  For every batch size and every curve of (inputs, context)
    represented by the dual data: if the dual call is accepted then the real call is accepted at every `s`, with outputs and
    log-dets that are curves represented by the dual outputs (same sizes, entries = (value at `t`, derivative at `t`)); if the
    dual call raises, the real call raises the same exception at every `s`. -/
structure DualSoundStage (t : ℝ) (S : ℝ → BStage ℝ) (D : BStage (ℝ × ℝ)) : Prop where
  ok : ∀ (B : ℕ) (X c : ℝ → Array ℝ) (dX dc dY : Array (ℝ × ℝ)) (dL : List (ℝ × ℝ)), DA t X dX → DA t c dc →
    D B dX dc = .ok (dY, dL) →
    ∃ (Y : ℝ → Array ℝ) (L : ℝ → List ℝ), (∀ s, S s B (X s) (c s) = .ok (Y s, L s)) ∧ DA t Y dY ∧ DV t L dL
  raises : ∀ (B : ℕ) (X c : ℝ → Array ℝ) (dX dc : Array (ℝ × ℝ)) (err : Err), DA t X dX → DA t c dc →
    D B dX dc = .error err → ∀ s, S s B (X s) (c s) = .error err

/-- `DualSoundStage` on the dual inputs in `P`, with "at every `s`" read along filters (`l = l' = ⊤`: at every `s`; `l = 𝓝 t`,
    `l' = pure t`: accepted near `t`, raising at `t`): on `P`, an accepted dual call is matched by real calls accepted for
    `l`-eventually all `s`, a raising dual call by real calls raising the same exception for `l'`-eventually all `s`.
    To feed a `DualSoundStage` / `DualSoundStageOn` / `DualSoundStageNear` to the lemmas about this form: `dualSoundStage_iff_along`,
    `dualSoundStageOn_iff_along`, `dualSoundStageNear_iff_along`; `dualSoundStage_iff_on` only passes between the first two. -/
structure DualSoundStageAlong (l l' : Filter ℝ) (t : ℝ) (P : ℕ → Array (ℝ × ℝ) → Array (ℝ × ℝ) → Prop) (S : ℝ → BStage ℝ)
    (D : BStage (ℝ × ℝ)) : Prop where
  ok : ∀ (B : ℕ) (X c : ℝ → Array ℝ) (dX dc dY : Array (ℝ × ℝ)) (dL : List (ℝ × ℝ)), P B dX dc → DA t X dX → DA t c dc →
    D B dX dc = .ok (dY, dL) →
    ∃ (Y : ℝ → Array ℝ) (L : ℝ → List ℝ), (∀ᶠ s in l, S s B (X s) (c s) = .ok (Y s, L s)) ∧ DA t Y dY ∧ DV t L dL
  raises : ∀ (B : ℕ) (X c : ℝ → Array ℝ) (dX dc : Array (ℝ × ℝ)) (err : Err), P B dX dc → DA t X dX → DA t c dc →
    D B dX dc = .error err → ∀ᶠ s in l', S s B (X s) (c s) = .error err


theorem dualSoundStage_iff_along {S : ℝ → BStage ℝ} {D : BStage (ℝ × ℝ)} :
    DualSoundStage t S D ↔ DualSoundStageAlong ⊤ ⊤ t (fun _ _ _ => True) S D :=
  ⟨fun h => ⟨fun B X c dX dc dY dL _ => by simpa only [eventually_top] using h.ok B X c dX dc dY dL,
      fun B X c dX dc err _ => by simpa only [eventually_top] using h.raises B X c dX dc err⟩,
   fun h => ⟨fun B X c dX dc dY dL => by simpa only [eventually_top] using h.ok B X c dX dc dY dL trivial,
      fun B X c dX dc err => by simpa only [eventually_top] using h.raises B X c dX dc err trivial⟩⟩

theorem DualSoundStageAlong.mono {l₁ l₁' l₂ l₂' : Filter ℝ} {P P' : ℕ → Array (ℝ × ℝ) → Array (ℝ × ℝ) → Prop} {S : ℝ → BStage ℝ}
    {D : BStage (ℝ × ℝ)} (h : DualSoundStageAlong l₁ l₁' t P S D) (hl : l₂ ≤ l₁) (hl' : l₂' ≤ l₁')
    (hPP : ∀ B dX dc, P' B dX dc → P B dX dc) : DualSoundStageAlong l₂ l₂' t P' S D where
  ok := fun B X c dX dc dY dL hP hX hc hD => by
    obtain ⟨Y, L, h1, h2, h3⟩ := h.ok B X c dX dc dY dL (hPP _ _ _ hP) hX hc hD
    exact ⟨Y, L, h1.filter_mono hl, h2, h3⟩
  raises := fun B X c dX dc err hP hX hc hD => (h.raises B X c dX dc err (hPP _ _ _ hP) hX hc hD).filter_mono hl'

variable (e) in
theorem dualSound_passStage (w : ℕ) (FR : ℝ → List (List ℝ) → List (List ℝ) × List ℝ)
    (FD : List (List (ℝ × ℝ)) → List (List (ℝ × ℝ)) × List (ℝ × ℝ))
    (hF : ∀ rows drows, DM t rows drows →
      DM t (fun s => (FR s (rows s)).1) (FD drows).1 ∧ DV t (fun s => (FR s (rows s)).2) (FD drows).2) :
    DualSoundStage t (fun s => passStage w (NF.realX e).zero (FR s)) (passStage w (dualX (NF.realX e)).zero FD) where
  ok := by
    intro B X c dX dc dY dL hX _ h
    simp only [passStage, Except.ok.injEq, Prod.mk.injEq] at h
    obtain ⟨rfl, rfl⟩ := h
    obtain ⟨h1, h2⟩ := hF _ _ (rowsD_dual (e := e) w B hX)
    exact ⟨_, _, fun s => rfl, flat_dual w h1, h2⟩
  raises := by
    intro B X c dX dc err _ _ h
    simp [passStage] at h

theorem ldAdd_dual {L L' : ℝ → List ℝ} {dL dL' : List (ℝ × ℝ)} (B : ℕ) (h : DV t L dL) (h' : DV t L' dL') :
    DV t (fun s => (ldLD (NF.realX e) B).add (L s) (L' s)) ((ldLD (dualX (NF.realX e)) B).add dL dL') :=
  DL.zipWith' (fun _ => (NF.realX e).add) (dualX (NF.realX e)).add h h' (fun _ _ _ _ ha hb => IsDual.add e ha hb)

theorem ldZero_dual (B : ℕ) :
    DV t (fun _ => (ldLD (NF.realX e) B).zero) (ldLD (dualX (NF.realX e)) B).zero :=
  DL.replicate B (rel := fun f d => IsDual f t d) (IsDual.zero e t)

/-- the loop of `CompositeTransform._cascade` from any running (value, log-det); `l' ≤ l`: where a later stage raises, the
    earlier ones are accepted -/
theorem cascadeFrom_along {l l' : Filter ℝ} (hl : l' ≤ l) {Ts : List DualXFlowStages.NearTriple}
    (h : ∀ T ∈ Ts, DualSoundStageAlong l l' t T.1 T.2.1 T.2.2) (B : ℕ)
    {c : ℝ → Array ℝ} {dc : Array (ℝ × ℝ)} (hc : DA t c dc) {X : ℝ → Array ℝ} {dX : Array (ℝ × ℝ)} {L0 : ℝ → List ℝ}
    {dL0 : List (ℝ × ℝ)} (hX : DA t X dX) (hL : DV t L0 dL0) (hP : DualXFlowStages.cascadeP B dc Ts dX) :
    (∀ dY dL, Wrap.cascadeFrom (ldLD (dualX (NF.realX e)) B) ((Ts.map fun T => T.2.2).map fun T => T B) dX dL0 dc = .ok (dY, dL) →
      ∃ (Y : ℝ → Array ℝ) (L : ℝ → List ℝ),
        (∀ᶠ s in l, Wrap.cascadeFrom (ldLD (NF.realX e) B) ((Ts.map fun T => T.2.1 s).map fun T => T B) (X s) (L0 s) (c s)
          = .ok (Y s, L s)) ∧ DA t Y dY ∧ DV t L dL) ∧
    (∀ err, Wrap.cascadeFrom (ldLD (dualX (NF.realX e)) B) ((Ts.map fun T => T.2.2).map fun T => T B) dX dL0 dc = .error err →
      ∀ᶠ s in l', Wrap.cascadeFrom (ldLD (NF.realX e) B) ((Ts.map fun T => T.2.1 s).map fun T => T B) (X s) (L0 s) (c s)
        = .error err) := by
  induction Ts generalizing X dX L0 dL0 with
  | nil =>
    refine ⟨fun dY dL hD => ?_, fun err hD => ?_⟩
    · simp only [List.map_nil, Wrap.cascadeFrom, Except.ok.injEq, Prod.mk.injEq] at hD
      obtain ⟨rfl, rfl⟩ := hD
      exact ⟨X, L0, Eventually.of_forall fun s => rfl, hX, hL⟩
    · simp [Wrap.cascadeFrom] at hD
  | cons T Ts ih =>
    have hT := h T List.mem_cons_self
    have ih' := fun {X dX L0 dL0} hX hL hP =>
      ih (X := X) (dX := dX) (L0 := L0) (dL0 := dL0) (fun T' hT' => h T' (List.mem_cons_of_mem _ hT')) hX hL hP
    refine ⟨fun dY dL hD => ?_, fun err hD => ?_⟩
    · rw [List.map_cons, List.map_cons, cascadeFrom_cons_ok] at hD
      obtain ⟨dy, dl, h1, h2⟩ := hD
      obtain ⟨Y1, L1, hS, hY1, hL1⟩ := hT.ok B X c dX dc dy dl hP.1 hX hc h1
      obtain ⟨Y, L, hrest, hY, hLL⟩ := (ih' hY1 (ldAdd_dual B hL hL1) (hP.2 dy dl h1)).1 dY dL h2
      refine ⟨Y, L, ?_, hY, hLL⟩
      filter_upwards [hS, hrest] with s hs1 hs2
      simp only [List.map_cons]
      exact (cascadeFrom_cons_ok _ _ _ _ _ _ _).2 ⟨Y1 s, L1 s, hs1, hs2⟩
    · rw [List.map_cons, List.map_cons, cascadeFrom_cons_error] at hD
      simp only [List.map_cons]
      rcases hD with h1 | ⟨dy, dl, h1, h2⟩
      · exact (hT.raises B X c dX dc err hP.1 hX hc h1).mono fun s hs => (cascadeFrom_cons_error _ _ _ _ _ _ _).2 (Or.inl hs)
      · obtain ⟨Y1, L1, hS, hY1, hL1⟩ := hT.ok B X c dX dc dy dl hP.1 hX hc h1
        filter_upwards [hS.filter_mono hl, (ih' hY1 (ldAdd_dual B hL hL1) (hP.2 dy dl h1)).2 err h2] with s hs1 hs2
        exact (cascadeFrom_cons_error _ _ _ _ _ _ _).2 (Or.inr ⟨Y1 s, L1 s, hs1, hs2⟩)

variable (e) in
theorem dualSoundAlong_compStage {l l' : Filter ℝ} (hl : l' ≤ l) {Ts : List DualXFlowStages.NearTriple}
    (h : ∀ T ∈ Ts, DualSoundStageAlong l l' t T.1 T.2.1 T.2.2) :
    DualSoundStageAlong l l' t (fun B dX dc => DualXFlowStages.cascadeP B dc Ts dX)
      (fun s => compStage (NF.realX e) (Ts.map fun T => T.2.1 s))
      (compStage (dualX (NF.realX e)) (Ts.map fun T => T.2.2)) where
  ok := fun B _ _ _ _ dY dL hP hX hc hD => (cascadeFrom_along hl h B hc hX (ldZero_dual B) hP).1 dY dL hD
  raises := fun B _ _ _ _ err hP hX hc hD => (cascadeFrom_along hl h B hc hX (ldZero_dual B) hP).2 err hD

theorem exists_triples {Ss : List (ℝ → BStage ℝ)} {Ds : List (BStage (ℝ × ℝ))} (h : List.Forall₂ (DualSoundStage t) Ss Ds) :
    ∃ Ts : List DualXFlowStages.NearTriple, (∀ T ∈ Ts, DualSoundStageAlong ⊤ ⊤ t T.1 T.2.1 T.2.2) ∧
      (∀ s, (Ts.map fun T => T.2.1 s) = Ss.map fun S => S s) ∧ (Ts.map fun T => T.2.2) = Ds ∧
      ∀ B dc dX, DualXFlowStages.cascadeP B dc Ts dX := by
  induction h with
  | nil => exact ⟨[], by simp, fun _ => rfl, rfl, fun _ _ _ => trivial⟩
  | @cons S D Ss Ds hSD _ ih =>
    obtain ⟨Ts, h1, h2, h3, h4⟩ := ih
    refine ⟨(fun _ _ _ => True, S, D) :: Ts, fun T hT => ?_, fun s => ?_, ?_, fun B dc dX => ⟨trivial, fun _ _ _ => h4 _ _ _⟩⟩
    · rcases List.mem_cons.1 hT with rfl | hT
      exacts [dualSoundStage_iff_along.1 hSD, h1 T hT]
    · rw [List.map_cons, List.map_cons, h2]
    · rw [List.map_cons, h3]

variable (e) in
/-- **composition principle**: `CompositeTransform.forward` (the executed `compStage` = `Wrap.cascade`: outputs fed forward,
    log-dets added onto `zeros(B)`, the first exception aborts) over dual-sound stages is a dual-sound stage; the parameters of ALL
    stages move simultaneously (stage `k` at parameter `s` is `Ss[k] s`). -/
theorem dualSound_compStage {Ss : List (ℝ → BStage ℝ)} {Ds : List (BStage (ℝ × ℝ))}
    (h : List.Forall₂ (DualSoundStage t) Ss Ds) :
    DualSoundStage t (fun s => compStage (NF.realX e) (Ss.map fun S => S s)) (compStage (dualX (NF.realX e)) Ds) := by
  obtain ⟨Ts, h1, h2, h3, h4⟩ := exists_triples h
  have hc := dualSoundAlong_compStage e le_rfl h1
  simp only [h2, h3] at hc
  exact dualSoundStage_iff_along.2 ⟨fun B X c dX dc dY dL _ => hc.ok B X c dX dc dY dL (h4 _ _ _),
    fun B X c dX dc err _ => hc.raises B X c dX dc err (h4 _ _ _)⟩

/-! ## 3. instances: `LULinear`, `ActNorm`, `BatchNorm` (evaluation mode) -/

theorem timesOnes_dual {lad : ℝ → ℝ} {dlad : ℝ × ℝ} (h : IsDual lad t dlad) {rows : ℝ → List (List ℝ)}
    {drows : List (List (ℝ × ℝ))} (hrows : DM t rows drows) :
    DV t (fun s => timesOnes (Rr e) (lad s) (rows s).length) (timesOnes (Dd e) dlad drows.length) := by
  have hlen : ∀ s, (rows s).length = drows.length := DL.length hrows
  simp only [timesOnes, hlen]
  exact DL.map' (fun s w => (Rr e).mul (lad s) w) (fun w => (Dd e).mul dlad w)
    (DL.replicate drows.length (rel := fun f d => IsDual f t d) (one_dual (e := e) (t := t)))
    (fun _ _ _ hw => IsDual.mul e h hw)

variable (e) in
/-- **`LULinear.forward` as a stage** (outputs by `luForward_dual_curve`, log-dets `logabsdet() * ones(B)` by
    `luLogabsdet_dual_curve`), along any differentiable curve of ALL parameter tensors.  Side conditions inherited: no
    unconstrained diagonal entry AT the softplus threshold 20; no diagonal entry `softplus(u) + eps` equal to `0`. -/
theorem dualSound_luStage (w : ℕ) {P : ℝ → LF.LUParams ℝ} {dp : LF.LUParams (ℝ × ℝ)} (hP : LUCurve t P dp)
    (hthr : ∀ d ∈ dp.udiag, d.1 ≠ 20) (hne : ∀ d ∈ dp.udiag, LF.softplus (Rr e) d.1 + dp.eps.1 ≠ 0) :
    DualSoundStage t (fun s => luStage (NF.realX e) w (P s)) (luStage (dualX (NF.realX e)) w dp) :=
  dualSound_passStage e w (fun s => luForwardLd (Rr e) (P s)) (luForwardLd (Dd e) dp)
    (fun _ _ hrows => ⟨luForward_dual_curve hP hrows hthr, timesOnes_dual (luLogabsdet_dual_curve hP hthr hne) hrows⟩)

/-- the executed (non-initialising) `ActNorm.forward` on the rows of a 2-D batch -/
def actPass {α : Type} (o : XOps α) (F : ℕ) (ls sh : List α) (rows : List (List α)) : List (List α) × List α :=
  (rows.map (fun r => (List.range F).map (fun j =>
      o.add (o.mul (o.exp (ls.getD j o.zero)) (r.getD j o.zero)) (sh.getD j o.zero))),
    List.replicate rows.length (sumG o ls))

theorem actPass_eq {α : Type} (o : XOps α) (F : ℕ) (ls sh : List α) (rows : List (List α)) :
    actApply o F ls sh (.d2 rows) = .d2 (actPass o F ls sh rows).1 ∧
    actLogdet o ls (.d2 rows) false = (actPass o F ls sh rows).2 := by
  simp [actPass, actApply, Batch.mapCh, actLogdet, Batch.size]

theorem actStage_eq_pass {α : Type} (o : XOps α) (F : ℕ) (s : ActSt α) (hs : s.initialized = true ∨ s.training = false) :
    actStage o F s = passStage F o.zero (actPass o F s.logScale s.shift) :=
  actStage_eq_passStage o F s hs

theorem actPass_dual (F : ℕ) {ls sh : ℝ → List ℝ} {dls dsh : List (ℝ × ℝ)} {rows : ℝ → List (List ℝ)}
    {drows : List (List (ℝ × ℝ))} (hls : DV t ls dls) (hsh : DV t sh dsh) (hrows : DM t rows drows) :
    DM t (fun s => (actPass (NF.realX e) F (ls s) (sh s) (rows s)).1) (actPass (dualX (NF.realX e)) F dls dsh drows).1 ∧
    DV t (fun s => (actPass (NF.realX e) F (ls s) (sh s) (rows s)).2) (actPass (dualX (NF.realX e)) F dls dsh drows).2 := by
  constructor
  · unfold actPass
    refine DL.map' _ _ hrows (fun f d _ hrow => DL.ofMap _ _ _ (fun j _ => ?_))
    exact IsDual.add e (IsDual.mul e (IsDual.exp e (DL.getD' hls j (IsDual.zero e t))) (DL.getD' hrow j (IsDual.zero e t)))
      (DL.getD' hsh j (IsDual.zero e t))
  · exact actLogdet_dual_curve hls (.d2 hrows) false

structure ActCurve (t : ℝ) (S : ℝ → ActSt ℝ) (ds : ActSt (ℝ × ℝ)) : Prop where
  training : ∀ s, (S s).training = ds.training
  initialized : ∀ s, (S s).initialized = ds.initialized
  logScale : DV t (fun s => (S s).logScale) ds.logScale
  shift : DV t (fun s => (S s).shift) ds.shift

variable (e) in
/-- **`ActNorm.forward` (initialised, or evaluation mode) as a stage**: the executed machine step `actStep`, along any
    differentiable curve of (`log_scale`, `shift`); no numerical side condition (`exp`, `·`, `+` only) -/
theorem dualSound_actStage (F : ℕ) {S : ℝ → ActSt ℝ} {ds : ActSt (ℝ × ℝ)} (hS : ActCurve t S ds)
    (hs : ds.initialized = true ∨ ds.training = false) :
    DualSoundStage t (fun s => actStage (NF.realX e) F (S s)) (actStage (dualX (NF.realX e)) F ds) := by
  have hsR : ∀ s, (S s).initialized = true ∨ (S s).training = false := fun s => by
    rw [hS.initialized, hS.training]; exact hs
  rw [actStage_eq_pass _ F ds hs, show (fun s => actStage (NF.realX e) F (S s))
    = fun s => passStage F (NF.realX e).zero (actPass (NF.realX e) F (S s).logScale (S s).shift) from
      funext fun s => actStage_eq_pass _ F (S s) (hsR s)]
  exact dualSound_passStage e F _ _ (fun rows drows hrows => actPass_dual F hS.logScale hS.shift hrows)

structure BNCurve (t : ℝ) (cfg : ℝ → BNCfg ℝ) (S : ℝ → BNSt ℝ) (dcfg : BNCfg (ℝ × ℝ)) (ds : BNSt (ℝ × ℝ)) : Prop where
  training : ∀ s, (S s).training = ds.training
  eps : IsDual (fun s => (cfg s).eps) t dcfg.eps
  runMean : DV t (fun s => (S s).runMean) ds.runMean
  runVar : DV t (fun s => (S s).runVar) ds.runVar
  uweight : DV t (fun s => (S s).uweight) ds.uweight
  bias : DV t (fun s => (S s).bias) ds.bias

variable (e) in
/-- **`BatchNorm.forward` in evaluation mode as a stage** (executed `bnStep`), along any differentiable curve of (running
    buffers, unconstrained weight, bias, eps).  Side conditions inherited from `bnNormalise_dual_curve` / `bnLogdet_dual_curve`:
    no unconstrained weight AT the softplus threshold 20, `running_var + eps > 0`, `weight ≠ 0`. -/
theorem dualSound_bnEvalStage (F : ℕ) {cfg : ℝ → BNCfg ℝ} {S : ℝ → BNSt ℝ} {dcfg : BNCfg (ℝ × ℝ)} {ds : BNSt (ℝ × ℝ)}
    (hS : BNCurve t cfg S dcfg ds) (hs : ds.training = false)
    (hthr : ∀ j < F, (ds.uweight.getD j (0, 0)).1 ≠ 20)
    (hpos : ∀ j < F, 0 < (ds.runVar.getD j (0, 0)).1 + dcfg.eps.1)
    (hw : ∀ j < F, (NF.realX e).softplus (ds.uweight.getD j (0, 0)).1 + dcfg.eps.1 ≠ 0) :
    DualSoundStage t (fun s => bnEvalStage (NF.realX e) (cfg s) F (S s)) (bnEvalStage (dualX (NF.realX e)) dcfg F ds) := by
  rw [bnEvalStage_eq_passStage _ dcfg F ds hs, show (fun s => bnEvalStage (NF.realX e) (cfg s) F (S s))
    = fun s => passStage F (NF.realX e).zero (fun rows =>
      (bnNormalise (NF.realX e) (cfg s) F (S s).runMean (S s).runVar (S s).uweight (S s).bias rows,
        bnLogdet (NF.realX e) (cfg s) F (S s).runVar (S s).uweight rows.length false)) from
      funext fun s => bnEvalStage_eq_passStage _ (cfg s) F (S s) (by rw [hS.training]; exact hs)]
  refine dualSound_passStage e F _ _ (fun rows drows hrows => ⟨?_, ?_⟩)
  · exact bnNormalise_dual_curve F hS.eps hS.runMean hS.runVar hS.uweight hS.bias hrows hthr hpos
  · have hlen : ∀ s, (rows s).length = drows.length := DL.length hrows
    simp only [hlen]
    exact bnLogdet_dual_curve F drows.length false hS.eps hS.runVar hS.uweight hthr hw (fun j hj => (hpos j hj).ne')

/-! ## 4. base densities -/

theorem logZ_dual (D : ℕ) : IsDual (fun _ => logZ (NF.realX e) D) t (logZ (dualX (NF.realX e)) D) := by
  unfold logZ log2piG piG
  have hm := IsDual.mul e (IsDual.two e t)
    (IsDual.mul e (IsDual.ofRat e 4 1 t) (IsDual.atan e (IsDual.one e t)))
  refine IsDual.mul e (IsDual.mul e (IsDual.ofRat e 1 2 t) (IsDual.ofNat e D t)) (IsDual.log e hm ?_)
  rw [hm.val]
  have hpi : piG (NF.realX e) = Real.pi := DistReal.piG_real e
  unfold piG at hpi
  simp only [hpi, realX_mul, realX_two]
  exact (mul_pos two_pos Real.pi_pos).ne'

theorem stdNormalRow_dual (D : ℕ) {x : ℝ → List ℝ} {dx : List (ℝ × ℝ)} (hx : DV t x dx) :
    IsDual (fun s => stdNormalRow (NF.realX e) D (x s)) t (stdNormalRow (dualX (NF.realX e)) D dx) := by
  unfold stdNormalRow
  exact IsDual.sub e (IsDual.mul e (IsDual.ofRat e (-1) 2 t)
    (sumG_dual (DL.map' (fun _ => (NF.realX e).sq) (dualX (NF.realX e)).sq hx (fun _ _ _ h => IsDual.sq e h))))
    (logZ_dual D)

theorem zipWith3_dual {X M Ls : ℝ → List ℝ} {dx dm dls : List (ℝ × ℝ)} (g : ℝ → ℝ → ℝ → ℝ)
    (g' : ℝ × ℝ → ℝ × ℝ → ℝ × ℝ → ℝ × ℝ) (hx : DV t X dx) (hm : DV t M dm) (hl : DV t Ls dls)
    (hg : ∀ f₁ d₁ f₂ d₂ f₃ d₃, IsDual f₁ t d₁ → IsDual f₂ t d₂ → IsDual f₃ t d₃ →
      IsDual (fun s => g (f₁ s) (f₂ s) (f₃ s)) t (g' d₁ d₂ d₃)) :
    DV t (fun s => zipWith3 g (X s) (M s) (Ls s)) (zipWith3 g' dx dm dls) := by
  obtain ⟨xs, hX, h1⟩ := hx
  obtain ⟨ms, hM, h2⟩ := hm
  obtain ⟨ls, hL, h3⟩ := hl
  have hrw : (fun s => zipWith3 g (X s) (M s) (Ls s))
      = fun s => zipWith3 g (xs.map fun f => f s) (ms.map fun f => f s) (ls.map fun f => f s) :=
    funext fun s => by rw [hX, hM, hL]
  rw [hrw]
  clear hrw hX hM hL
  induction h1 generalizing ms dm ls dls with
  | nil => simpa [zipWith3] using (DL.nil : DV t (fun _ => []) [])
  | cons ha _ ih =>
    cases h2 with
    | nil => simpa [zipWith3] using (DL.nil : DV t (fun _ => []) [])
    | cons hb h2' =>
      cases h3 with
      | nil => simpa [zipWith3] using (DL.nil : DV t (fun _ => []) [])
      | cons hc h3' =>
        simp only [List.map_cons, zipWith3]
        exact DL.cons (hg _ _ _ _ _ _ ha hb hc) (ih _ h2' _ h3')

theorem diagNormalRow_dual (D : ℕ) {x m ls : ℝ → List ℝ} {dx dm dls : List (ℝ × ℝ)} (hx : DV t x dx) (hm : DV t m dm)
    (hl : DV t ls dls) :
    IsDual (fun s => diagNormalRow (NF.realX e) D (m s) (ls s) (x s)) t (diagNormalRow (dualX (NF.realX e)) D dm dls dx) := by
  unfold diagNormalRow
  have hnorm := zipWith3_dual (t := t)
    (fun xi mm l => (NF.realX e).mul ((NF.realX e).sub xi mm) ((NF.realX e).exp ((NF.realX e).neg l)))
    (fun xi mm l => (dualX (NF.realX e)).mul ((dualX (NF.realX e)).sub xi mm)
      ((dualX (NF.realX e)).exp ((dualX (NF.realX e)).neg l))) hx hm hl
    (fun _ _ _ _ _ _ h1 h2 h3 => IsDual.mul e (IsDual.sub e h1 h2) (IsDual.exp e (IsDual.neg e h3)))
  exact IsDual.sub e (IsDual.sub e (IsDual.mul e (IsDual.ofRat e (-1) 2 t)
    (sumG_dual (DL.map' (fun _ => (NF.realX e).sq) (dualX (NF.realX e)).sq hnorm (fun _ _ _ h => IsDual.sq e h))))
    (sumG_dual hl)) (logZ_dual D)

variable (e) in
theorem stdNormalRow_line_dual_sound (D : ℕ) (dx : List (ℝ × ℝ)) :
    (stdNormalRow (dualX (NF.realX e)) D dx).1 = stdNormalRow (NF.realX e) D (lineV 0 dx) ∧
    HasDerivAt (fun s => stdNormalRow (NF.realX e) D (lineV s dx)) (stdNormalRow (dualX (NF.realX e)) D dx).2 0 :=
  stdNormalRow_dual (x := fun s => lineV s dx) D (lineV_dual dx)

variable (e) in
theorem diagNormalRow_line_dual_sound (D : ℕ) (dm dls dx : List (ℝ × ℝ)) :
    (diagNormalRow (dualX (NF.realX e)) D dm dls dx).1 = diagNormalRow (NF.realX e) D (lineV 0 dm) (lineV 0 dls) (lineV 0 dx) ∧
    HasDerivAt (fun s => diagNormalRow (NF.realX e) D (lineV s dm) (lineV s dls) (lineV s dx))
      (diagNormalRow (dualX (NF.realX e)) D dm dls dx).2 0 :=
  -- the curves are named: left to unification they are found by unfolding `diagNormalRow`
  diagNormalRow_dual (x := fun s => lineV s dx) (m := fun s => lineV s dm) (ls := fun s => lineV s dls) D
    (lineV_dual dx) (lineV_dual dm) (lineV_dual dls)

/-- **the dual run of a base density is sound along every differentiable curve** (noise rows, embedded context; `bR s` is the
    real density at parameter `s`): accepted together with `log_prob` entries (value, derivative); same exception otherwise -/
structure DualSoundBase (t : ℝ) (bR : ℝ → BaseD ℝ) (bD : BaseD (ℝ × ℝ)) : Prop where
  ok : ∀ (B : ℕ) (rows : ℝ → List (List ℝ)) (drows : List (List (ℝ × ℝ))) (c : ℝ → Array ℝ) (dc : Array (ℝ × ℝ))
    (dlp : List (ℝ × ℝ)), DM t rows drows → DA t c dc → bD B drows dc = .ok dlp →
    ∃ lp : ℝ → List ℝ, (∀ s, bR s B (rows s) (c s) = .ok (lp s)) ∧ DV t lp dlp
  raises : ∀ (B : ℕ) (rows : ℝ → List (List ℝ)) (drows : List (List (ℝ × ℝ))) (c : ℝ → Array ℝ) (dc : Array (ℝ × ℝ))
    (err : DErr), DM t rows drows → DA t c dc → bD B drows dc = .error err → ∀ s, bR s B (rows s) (c s) = .error err

/-- the two checks of `Distribution.log_prob` / `_log_prob` (base.py:34-39, normal.py:25): they only see sizes -/
def guardD (n : ℕ) (ctx : Option ℕ) (shape inShape : List ℕ) : Except DErr Unit := do
  baseCheck n ctx
  shapeCheck shape inShape

theorem stdNormalLogProb_guard {α : Type} (o : XOps α) (shape inShape : List ℕ) (ctx : Option ℕ) (rows : List (List α)) :
    stdNormalLogProb o shape inShape ctx rows =
      match guardD rows.length ctx shape inShape with
      | .ok _ => .ok (rows.map (stdNormalRow o (numel shape)))
      | .error err => .error err := by
  unfold stdNormalLogProb guardD
  cases h1 : baseCheck rows.length ctx with
  | error err => rfl
  | ok u =>
    cases h2 : shapeCheck shape inShape with
    | error err => rfl
    | ok u' => rfl

theorem diagNormalLogProb_guard {α : Type} (o : XOps α) (shape inShape : List ℕ) (ctx : Option ℕ) (mean logStd : List α)
    (rows : List (List α)) :
    diagNormalLogProb o shape inShape ctx mean logStd rows =
      match guardD rows.length ctx shape inShape with
      | .ok _ => .ok (rows.map (diagNormalRow o (numel shape) mean logStd))
      | .error err => .error err := by
  unfold diagNormalLogProb guardD
  cases h1 : baseCheck rows.length ctx with
  | error err => rfl
  | ok u =>
    cases h2 : shapeCheck shape inShape with
    | error err => rfl
    | ok u' => rfl

/-- a base density that runs size checks (`g`: batch size, number of rows) and then maps a row function over the noise rows is
    dual sound as soon as the row function is: the checks only see sizes, so both runs raise together -/
theorem dualSoundBase_of_rows (g : ℕ → ℕ → Except DErr Unit) (rowR : ℝ → List ℝ → ℝ) (rowD : List (ℝ × ℝ) → ℝ × ℝ)
    (hrow : ∀ x dx, DV t x dx → IsDual (fun s => rowR s (x s)) t (rowD dx)) :
    DualSoundBase t
      (fun s B rows _ => match g B rows.length with | .ok _ => .ok (rows.map (rowR s)) | .error err => .error err)
      (fun B rows _ => match g B rows.length with | .ok _ => .ok (rows.map rowD) | .error err => .error err) where
  ok := by
    intro B rows drows _ _ dlp hrows _ h
    refine ⟨fun s => (rows s).map (rowR s), fun s => ?_, ?_⟩
    · beta_reduce at h ⊢
      rw [DL.length hrows s]
      cases hg : g B drows.length with
      | error err => rw [hg] at h; cases h
      | ok u => rfl
    · cases hg : g B drows.length with
      | error err => simp only [hg] at h; cases h
      | ok u =>
        simp only [hg, Except.ok.injEq] at h
        subst h
        exact DL.map' rowR rowD hrows (fun _ _ _ hx => hrow _ _ hx)
  raises := by
    intro B rows drows _ _ err hrows _ h s
    rw [DL.length hrows s]
    cases hg : g B drows.length with
    | error err' => rw [hg] at h; cases h; rfl
    | ok u => rw [hg] at h; cases h

variable (e) in
/-- **`StandardNormal.log_prob` on dual numbers is sound** (C16), the executed batch program (checks included; `c` = whether a
    context is passed, its value is ignored): along any differentiable curve of noise rows, every entry of the dual run is
    (row log-density at `t`, its derivative at `t`); the checks only see sizes, so both runs raise together. -/
theorem standard_normal_logprob_dual_sound (shape inShape : List ℕ) (c : Bool) :
    DualSoundBase t (fun _ B rows _ => stdNormalLogProb (NF.realX e) shape inShape (ctxOf c B) rows)
      (fun B rows _ => stdNormalLogProb (dualX (NF.realX e)) shape inShape (ctxOf c B) rows) := by
  simp only [stdNormalLogProb_guard]
  exact dualSoundBase_of_rows (fun B n => guardD n (ctxOf c B) shape inShape) (fun _ => stdNormalRow (NF.realX e) (numel shape))
    (stdNormalRow (dualX (NF.realX e)) (numel shape)) (fun _ _ hx => stdNormalRow_dual _ hx)

variable (e) in
/-- **`DiagonalNormal.log_prob` on dual numbers is sound** (C16): along any differentiable curve of (noise rows, `mean_`,
    `log_std_`) simultaneously -/
theorem diagNormal_logprob_dual_sound (shape inShape : List ℕ) (c : Bool) {m ls : ℝ → List ℝ} {dm dls : List (ℝ × ℝ)}
    (hm : DV t m dm) (hl : DV t ls dls) :
    DualSoundBase t (fun s B rows _ => diagNormalLogProb (NF.realX e) shape inShape (ctxOf c B) (m s) (ls s) rows)
      (fun B rows _ => diagNormalLogProb (dualX (NF.realX e)) shape inShape (ctxOf c B) dm dls rows) := by
  simp only [diagNormalLogProb_guard]
  exact dualSoundBase_of_rows (fun B n => guardD n (ctxOf c B) shape inShape)
    (fun s => diagNormalRow (NF.realX e) (numel shape) (m s) (ls s)) (diagNormalRow (dualX (NF.realX e)) (numel shape) dm dls)
    (fun _ _ hx => diagNormalRow_dual _ hx hm hl)

/-! ## 5. `Flow.log_prob` -/

/-- **`Flow._log_prob` (the executed `flowLogProbExec`, flows/base.py:42-49) on dual numbers**: embedding net and base density
    dual sound, transform dual sound along `l`, `l'` ⟹ on admissible inputs, if the dual run is accepted so is the real run
    `l`-eventually, and the returned `log_prob + logabsdet` entries are (value at `t`, derivative at `t`); if the dual run raises
    (the transform's exception or the base density's), the real run raises the same `l'`-eventually.  `l' ≤ l`: where the base
    density raises, the transform is accepted. -/
theorem flowLogProbExec_dual_along {l l' : Filter ℝ} (hl : l' ≤ l) (w : ℕ) {embR : ℝ → ℕ → Array ℝ → Array ℝ}
    {embD : ℕ → Array (ℝ × ℝ) → Array (ℝ × ℝ)} {P : ℕ → Array (ℝ × ℝ) → Array (ℝ × ℝ) → Prop}
    {S : ℝ → BStage ℝ} {D : BStage (ℝ × ℝ)} {bR : ℝ → BaseD ℝ} {bD : BaseD (ℝ × ℝ)}
    (hemb : ∀ B c dc, DA t c dc → DA t (fun s => embR s B (c s)) (embD B dc))
    (hT : DualSoundStageAlong l l' t P S D) (hb : DualSoundBase t bR bD) (B : ℕ) {X ctx : ℝ → Array ℝ} {dX dctx : Array (ℝ × ℝ)}
    (hX : DA t X dX) (hc : DA t ctx dctx) (hP : P B dX (embD B dctx)) :
    (∀ dlps, flowLogProbExec (dualX (NF.realX e)) w embD D bD B dX dctx = .ok dlps →
      ∃ lps : ℝ → List ℝ,
        (∀ᶠ s in l, flowLogProbExec (NF.realX e) w (embR s) (S s) (bR s) B (X s) (ctx s) = .ok (lps s)) ∧ DV t lps dlps) ∧
    (∀ err, flowLogProbExec (dualX (NF.realX e)) w embD D bD B dX dctx = .error err →
      ∀ᶠ s in l', flowLogProbExec (NF.realX e) w (embR s) (S s) (bR s) B (X s) (ctx s) = .error err) := by
  have hE := hemb B ctx dctx hc
  cases hD : D B dX (embD B dctx) with
  | error err0 =>
    have hR := hT.raises B X _ dX _ err0 hP hX hE hD
    refine ⟨fun dlps h => ?_, fun err h => ?_⟩
    · rw [flow_of_T_error _ hD] at h; cases h
    · rw [flow_of_T_error _ hD] at h
      cases h
      exact hR.mono fun s hs => flow_of_T_error _ hs
  | ok p =>
    obtain ⟨dz, dld⟩ := p
    obtain ⟨Z, L, hS, hZ, hL⟩ := hT.ok B X _ dX _ dz dld hP hX hE hD
    have hrows := rowsOf_dual w B hZ
    cases hB : bD B (rowsOf w B dz.toList) (embD B dctx) with
    | error err0 =>
      have hR := hb.raises B _ _ _ _ err0 hrows hE hB
      refine ⟨fun dlps h => ?_, fun err h => ?_⟩
      · rw [flow_of_base_error _ hD hB] at h; cases h
      · rw [flow_of_base_error _ hD hB] at h
        cases h
        exact (hS.filter_mono hl).mono fun s hs => flow_of_base_error _ hs (hR s)
    | ok dlp =>
      obtain ⟨lp, hlp, hlpd⟩ := hb.ok B _ _ _ _ dlp hrows hE hB
      refine ⟨fun dlps h => ?_, fun err h => ?_⟩
      · rw [flow_of_ok _ hD hB] at h
        simp only [Except.ok.injEq] at h
        subst h
        exact ⟨fun s => List.zipWith (NF.realX e).add (lp s) (L s), hS.mono fun s hs => flow_of_ok _ hs (hlp s),
          DL.zipWith' (fun _ => (NF.realX e).add) (dualX (NF.realX e)).add hlpd hL (fun _ _ _ _ ha hb => IsDual.add e ha hb)⟩
      · rw [flow_of_ok _ hD hB] at h; cases h

/-- **`Flow._log_prob` without embedding net along the straight lines `primal + s · tangent` through inputs and context**, for a
    transform dual sound along `l`, `l'` at `0`: sizes and entries of the returned `log_prob`s -/
theorem flow_logprob_line_along {l l' : Filter ℝ} (hl : l' ≤ l) (w : ℕ) {P : ℕ → Array (ℝ × ℝ) → Array (ℝ × ℝ) → Prop}
    {S : ℝ → BStage ℝ} {D : BStage (ℝ × ℝ)} {bR : ℝ → BaseD ℝ} {bD : BaseD (ℝ × ℝ)} (hT : DualSoundStageAlong l l' 0 P S D)
    (hb : DualSoundBase 0 bR bD) (B : ℕ) (dX dctx : Array (ℝ × ℝ)) (hP : P B dX dctx) :
    (∀ dlps, flowLogProbExec (dualX (NF.realX e)) w (fun _ a => a) D bD B dX dctx = .ok dlps →
      ∃ lps : ℝ → List ℝ,
        (∀ᶠ s in l, flowLogProbExec (NF.realX e) w (fun _ a => a) (S s) (bR s) B (lineA s dX) (lineA s dctx) = .ok (lps s)) ∧
        (∀ s, (lps s).length = dlps.length) ∧
        ∀ i, (dlps.getD i (0, 0)).1 = (lps 0).getD i 0 ∧ HasDerivAt (fun s => (lps s).getD i 0) (dlps.getD i (0, 0)).2 0) ∧
    (∀ err, flowLogProbExec (dualX (NF.realX e)) w (fun _ a => a) D bD B dX dctx = .error err →
      ∀ᶠ s in l', flowLogProbExec (NF.realX e) w (fun _ a => a) (S s) (bR s) B (lineA s dX) (lineA s dctx) = .error err) := by
  have h := flowLogProbExec_dual_along (e := e) hl w (embR := fun _ _ a => a) (embD := fun _ a => a)
    (fun _ _ _ hc => hc) hT hb B (lineA_dual dX) (lineA_dual dctx) hP
  refine ⟨fun dlps hD => ?_, h.2⟩
  obtain ⟨lps, h1, h2⟩ := h.1 dlps hD
  exact ⟨lps, h1, DL.length h2, fun i => DV.entry h2 i⟩

def lineAct (s : ℝ) (ds : ActSt (ℝ × ℝ)) : ActSt ℝ :=
  ⟨ds.training, ds.initialized, lineV s ds.logScale, lineV s ds.shift, ds.initCount⟩

variable (e) in
theorem dualSound_luStage_line (w : ℕ) (dp : LF.LUParams (ℝ × ℝ)) (hthr : ∀ d ∈ dp.udiag, d.1 ≠ 20) (heps : 0 ≤ dp.eps.1) :
    DualSoundStage 0 (fun s => luStage (NF.realX e) w (lineP s dp)) (luStage (dualX (NF.realX e)) w dp) :=
  dualSound_luStage e w (lineP_curve dp) hthr (fun d _ => softplus_add_ne heps d.1)

theorem lineAct_curve (ds : ActSt (ℝ × ℝ)) : ActCurve 0 (fun s => lineAct s ds) ds :=
  ⟨fun _ => rfl, fun _ => rfl, lineV_dual _, lineV_dual _⟩

theorem lineBN_curve (dcfg : BNCfg (ℝ × ℝ)) (ds : BNSt (ℝ × ℝ)) :
    BNCurve 0 (fun s => lineCfg s dcfg) (fun s => lineBN s ds) dcfg ds :=
  ⟨fun _ => rfl, line_dual _, lineV_dual _, lineV_dual _, lineV_dual _, lineV_dual _⟩

variable (e) in
/-- **HEADLINE: `Flow.log_prob` on dual numbers is sound** (C16).  A flow whose transform is the `CompositeTransform` of
    dual-sound stages (the parameters of EVERY stage move: stage `k` at `s` is `Ss[k] s`, e.g. `luStage … (lineP s dp)`), any
    dual-sound base density (`standard_normal_logprob_dual_sound`, `diagNormal_logprob_dual_sound`), no embedding net; inputs and
    context move along `primal + s · tangent`.  If the dual run of the executed `Flow._log_prob` returns `dlps`, then the real run
    is accepted at every `s`, returns as many rows, and for every batch row `i`: the primal part of `dlps[i]` is the real
    `log_prob` of row `i` at `s = 0` and its tangent part is the derivative at `s = 0` of the real `log_prob` of row `i` along the
    line through inputs AND all parameters simultaneously.  If the dual run raises, the real run raises the same at every `s`. -/
theorem flow_logprob_dual_sound (w : ℕ) {Ss : List (ℝ → BStage ℝ)} {Ds : List (BStage (ℝ × ℝ))}
    (hT : List.Forall₂ (DualSoundStage 0) Ss Ds) {bR : ℝ → BaseD ℝ} {bD : BaseD (ℝ × ℝ)} (hb : DualSoundBase 0 bR bD)
    (B : ℕ) (dX dctx : Array (ℝ × ℝ)) :
    (∀ dlps, flowLogProbExec (dualX (NF.realX e)) w (fun _ a => a) (compStage (dualX (NF.realX e)) Ds) bD B dX dctx = .ok dlps →
      ∃ lps : ℝ → List ℝ,
        (∀ s, flowLogProbExec (NF.realX e) w (fun _ a => a) (compStage (NF.realX e) (Ss.map fun S => S s)) (bR s) B
          (lineA s dX) (lineA s dctx) = .ok (lps s)) ∧
        (∀ s, (lps s).length = dlps.length) ∧
        ∀ i, (dlps.getD i (0, 0)).1 = (lps 0).getD i 0 ∧ HasDerivAt (fun s => (lps s).getD i 0) (dlps.getD i (0, 0)).2 0) ∧
    (∀ err, flowLogProbExec (dualX (NF.realX e)) w (fun _ a => a) (compStage (dualX (NF.realX e)) Ds) bD B dX dctx = .error err →
      ∀ s, flowLogProbExec (NF.realX e) w (fun _ a => a) (compStage (NF.realX e) (Ss.map fun S => S s)) (bR s) B
        (lineA s dX) (lineA s dctx) = .error err) := by
  simpa only [eventually_top] using flow_logprob_line_along (e := e) le_rfl w
    (dualSoundStage_iff_along.1 (dualSound_compStage e hT)) hb B dX dctx trivial

variable (e) in
/-- **the flow `[ActNorm, LULinear]` with a standard-normal base**: `log_prob` on dual numbers returns per batch row
    (value, derivative along the line through the inputs, `log_scale`, `shift`, and every `LULinear` tensor).  Inherited, forced
    side conditions: ActNorm initialised (or in evaluation mode); no unconstrained diagonal entry AT the softplus threshold `20`
    (`DualXLU.lu_forward_not_differentiable_at_threshold`); `eps ≥ 0`. -/
theorem flow_act_lu_logprob_dual_sound (w : ℕ) (ds : ActSt (ℝ × ℝ)) (dp : LF.LUParams (ℝ × ℝ))
    (hs : ds.initialized = true ∨ ds.training = false) (hthr : ∀ d ∈ dp.udiag, d.1 ≠ 20) (heps : 0 ≤ dp.eps.1)
    (shape inShape : List ℕ) (c : Bool) (B : ℕ) (dX dctx : Array (ℝ × ℝ)) :
    let flowD := flowLogProbExec (dualX (NF.realX e)) w (fun _ a => a)
      (compStage (dualX (NF.realX e)) [actStage (dualX (NF.realX e)) w ds, luStage (dualX (NF.realX e)) w dp])
      (fun B rows _ => stdNormalLogProb (dualX (NF.realX e)) shape inShape (ctxOf c B) rows) B dX dctx
    let flowR := fun s : ℝ => flowLogProbExec (NF.realX e) w (fun _ a => a)
      (compStage (NF.realX e) [actStage (NF.realX e) w (lineAct s ds), luStage (NF.realX e) w (lineP s dp)])
      (fun B rows _ => stdNormalLogProb (NF.realX e) shape inShape (ctxOf c B) rows) B (lineA s dX) (lineA s dctx)
    (∀ dlps, flowD = .ok dlps → ∃ lps : ℝ → List ℝ, (∀ s, flowR s = .ok (lps s)) ∧ (∀ s, (lps s).length = dlps.length) ∧
      ∀ i, (dlps.getD i (0, 0)).1 = (lps 0).getD i 0 ∧ HasDerivAt (fun s => (lps s).getD i 0) (dlps.getD i (0, 0)).2 0) ∧
    (∀ err, flowD = .error err → ∀ s, flowR s = .error err) := by
  have hT : List.Forall₂ (DualSoundStage 0)
      [fun s => actStage (NF.realX e) w (lineAct s ds), fun s => luStage (NF.realX e) w (lineP s dp)]
      [actStage (dualX (NF.realX e)) w ds, luStage (dualX (NF.realX e)) w dp] :=
    .cons (dualSound_actStage e w (lineAct_curve ds) hs) (.cons (dualSound_luStage_line e w dp hthr heps) .nil)
  exact flow_logprob_dual_sound e w hT (standard_normal_logprob_dual_sound e shape inShape c) B dX dctx

/-! ### non-vacuity: the flow `[ActNorm, LULinear]`, `n = 2`, explicit numbers, every tensor and the inputs moving -/

/-- a flow with a never-raising transform, a standard-normal base of matching shape and no context never raises (any scalar
    semantics): for such flows the hypothesis "the dual run returns `dlps`" of the headlines is satisfiable for every input -/
theorem flow_stdNormal_accepted {α : Type} (o : XOps α) (w : ℕ) {T : BStage α} (hT : TotalStage T) (shape : List ℕ) (B : ℕ)
    (x ctx : Array α) :
    ∃ lps, flowLogProbExec o w (fun _ a => a) T (fun B rows _ => stdNormalLogProb o shape shape (ctxOf false B) rows) B x ctx
      = .ok lps := by
  obtain ⟨⟨z, ld⟩, hz⟩ := hT B x ctx
  have hg : ∀ n, guardD n (ctxOf false B) shape shape = .ok () := fun n => by
    simp only [guardD, baseCheck, ctxOf, shapeCheck, bne_self_eq_false, Bool.false_eq_true, if_false]; rfl
  exact ⟨_, flow_of_ok (emb := fun _ a => a) _ hz (by rw [stdNormalLogProb_guard, hg])⟩

theorem flow_act_lu_accepted {α : Type} (o : XOps α) (w : ℕ) (s : ActSt α) (p : LF.LUParams α)
    (hs : s.initialized = true ∨ s.training = false) (shape : List ℕ) (B : ℕ) (x ctx : Array α) :
    ∃ lps, flowLogProbExec o w (fun _ a => a) (compStage o [actStage o w s, luStage o w p])
      (fun B rows _ => stdNormalLogProb o shape shape (ctxOf false B) rows) B x ctx = .ok lps :=
  flow_stdNormal_accepted o w (total_compStage o _ fun T hT => by
    rcases List.mem_pair.1 hT with rfl | rfl
    · rw [actStage_eq_passStage o w s hs]; exact total_passStage _ _ _
    · exact total_passStage _ _ _) shape B x ctx

/-- `log_scale = (0, ½)`, `shift = (1, −1)` with tangents `(1, −1)`, `(0, 2)`; initialised, evaluation mode -/
def flowExAct : ActSt (ℝ × ℝ) := ⟨false, true, [(0, 1), (1/2, -1)], [(1, 0), (-1, 2)], 0⟩

def flowExX : Array (ℝ × ℝ) := #[(1, 1), (2, 0), (0, 0), (-1, 1)]

variable (e) in
/-- the concrete instance: ActNorm as above, `LULinear` = `DualXLU.exP` (`L = [[1,0],[½,1]]`, unconstrained diagonal `(0, 1)`,
    `eps = 10⁻³`, all tensors with tangents), batch of two rows.  The dual run IS accepted, and each of its two entries is
    (real `log_prob` of the row, derivative along the line through inputs and all parameters). -/
example :
    ∃ dlps, flowLogProbExec (dualX (NF.realX e)) 2 (fun _ a => a)
        (compStage (dualX (NF.realX e)) [actStage (dualX (NF.realX e)) 2 flowExAct, luStage (dualX (NF.realX e)) 2 exP])
        (fun B rows _ => stdNormalLogProb (dualX (NF.realX e)) [2] [2] (ctxOf false B) rows) 2 flowExX #[] = .ok dlps ∧
      ∃ lps : ℝ → List ℝ,
        (∀ s, flowLogProbExec (NF.realX e) 2 (fun _ a => a)
          (compStage (NF.realX e) [actStage (NF.realX e) 2 (lineAct s flowExAct), luStage (NF.realX e) 2 (lineP s exP)])
          (fun B rows _ => stdNormalLogProb (NF.realX e) [2] [2] (ctxOf false B) rows) 2 (lineA s flowExX) (lineA s #[])
            = .ok (lps s)) ∧
        (∀ s, (lps s).length = dlps.length) ∧
        ∀ i, (dlps.getD i (0, 0)).1 = (lps 0).getD i 0 ∧ HasDerivAt (fun s => (lps s).getD i 0) (dlps.getD i (0, 0)).2 0 := by
  obtain ⟨dlps, h⟩ := flow_act_lu_accepted (dualX (NF.realX e)) 2 flowExAct exP (Or.inl rfl) [2] 2 flowExX #[]
  exact ⟨dlps, h, (flow_act_lu_logprob_dual_sound e 2 flowExAct exP (Or.inl rfl) exP_thr (by norm_num [exP]) [2] [2] false 2
    flowExX #[]).1 dlps h⟩

variable (e) in
/-- the same composition machinery with other parts: `[BatchNorm (eval), LULinear]` and a `DiagonalNormal` base whose `mean_` and
    `log_std_` move as well -/
example (dcfg : BNCfg (ℝ × ℝ)) (ds : BNSt (ℝ × ℝ)) (dp : LF.LUParams (ℝ × ℝ)) (dm dls : List (ℝ × ℝ)) (F : ℕ)
    (hs : ds.training = false) (hthrB : ∀ j < F, (ds.uweight.getD j (0, 0)).1 ≠ 20)
    (hpos : ∀ j < F, 0 < (ds.runVar.getD j (0, 0)).1 + dcfg.eps.1)
    (hw : ∀ j < F, (NF.realX e).softplus (ds.uweight.getD j (0, 0)).1 + dcfg.eps.1 ≠ 0)
    (hthr : ∀ d ∈ dp.udiag, d.1 ≠ 20) (heps : 0 ≤ dp.eps.1) (shape inShape : List ℕ) (c : Bool) (B : ℕ)
    (dX dctx : Array (ℝ × ℝ)) :=
  flow_logprob_dual_sound e F
    (Ss := [fun s => bnEvalStage (NF.realX e) (lineCfg s dcfg) F (lineBN s ds), fun s => luStage (NF.realX e) F (lineP s dp)])
    (.cons (dualSound_bnEvalStage e F (lineBN_curve dcfg ds) hs hthrB hpos hw)
      (.cons (dualSound_luStage_line e F dp hthr heps) .nil))
    (diagNormal_logprob_dual_sound e shape inShape c (lineV_dual dm) (lineV_dual dls)) B dX dctx

end
end DualXFlow

