import NflowsModel.Core.TorchUtils
import NflowsModel.Lemmas.TorchUtils
import NflowsModel.Core.Ops.C20
/-!
# Lemmas/DetL — the executable Laplace determinant `detL` of `Core/TorchUtils` IS `Matrix.det`, for every size
-/
open NF NF.TU

namespace NF.DetL

def toMat (n : ℕ) (m : List (List ℤ)) : Matrix (Fin n) (Fin n) ℤ :=
  Matrix.of fun i j => (m.getD i []).getD j 0

theorem foldl_add_range {β : Type} [AddCommMonoid β] (f : ℕ → β) (k : ℕ) :
    (List.range k).foldl (fun acc j => acc + f j) 0 = ∑ j : Fin k, f j := by
  induction k with
  | zero => rfl
  | succ k ih => rw [List.range_succ, List.foldl_append, ih, Fin.sum_univ_castSucc]; rfl

theorem sign_eq (j : ℕ) : (if j % 2 == 0 then (1 : ℤ) else -1) = (-1) ^ j := by
  rcases Nat.even_or_odd j with h | h
  · rw [h.neg_one_pow, Nat.even_iff.mp h]; rfl
  · rw [h.neg_one_pow, Nat.odd_iff.mp h]; rfl

theorem removeAt_getD {α : Type} (l : List α) (d : α) {n : ℕ} (j : Fin (n + 1)) (k : Fin n) :
    (removeAt l j).getD k d = l.getD (j.succAbove k) d := by
  rw [removeAt, ← List.eraseIdx_eq_take_drop_succ, List.getD_eq_getElem?_getD, List.getD_eq_getElem?_getD,
    List.getElem?_eraseIdx]
  by_cases h : k.castSucc < j
  · rw [Fin.succAbove_of_castSucc_lt _ _ h, if_pos (show (k : ℕ) < j from h)]; rfl
  · rw [Fin.succAbove_of_le_castSucc _ _ (not_lt.mp h), if_neg (show ¬ (k : ℕ) < j from h)]; rfl

theorem detL_eq_det_toMat (n : ℕ) (m : List (List ℤ)) : detL n m = (toMat n m).det := by
  induction n generalizing m with
  | zero => rw [Matrix.det_fin_zero, detL]
  | succ n ih =>
    cases m with
    | nil =>
      have : toMat (n + 1) [] = 0 := by ext i j; simp [toMat]
      rw [this, Matrix.det_zero]; simp [detL]
    | cons row rest =>
      rw [Matrix.det_succ_row_zero]
      simp only [detL]
      rw [foldl_add_range (fun j => (if j % 2 == 0 then (1 : ℤ) else -1) * row.getD j 0 *
        detL n (rest.map (fun r => removeAt r j)))]
      refine Finset.sum_congr rfl fun j _ => ?_
      rw [sign_eq, ih]
      congr 2
      ext i k
      simp only [toMat, Matrix.of_apply, Matrix.submatrix_apply, Fin.val_succ, List.getD_cons_succ]
      rw [← removeAt_getD]
      congr 1
      simp only [List.getD_eq_getElem?_getD, List.getElem?_map]
      cases rest[(i : ℕ)]? <;> simp [removeAt]

structure WellShaped (n : ℕ) (m : List (List ℤ)) : Prop where
  rows : m.length = n
  cols : ∀ r ∈ m, r.length = n

def ofMat {n : ℕ} (M : Matrix (Fin n) (Fin n) ℤ) : List (List ℤ) := List.ofFn fun i => List.ofFn fun j => M i j

theorem ofMat_wellShaped {n : ℕ} (M : Matrix (Fin n) (Fin n) ℤ) : WellShaped n (ofMat M) := by
  constructor
  · simp [ofMat]
  · intro r hr; simp only [ofMat, List.mem_ofFn] at hr; obtain ⟨i, rfl⟩ := hr; simp

theorem toMat_ofMat {n : ℕ} (M : Matrix (Fin n) (Fin n) ℤ) : toMat n (ofMat M) = M := by
  ext i j
  simp [toMat, ofMat, List.getD_eq_getElem?_getD]

theorem ofMat_toMat {n : ℕ} {m : List (List ℤ)} (h : WellShaped n m) : ofMat (toMat n m) = m := by
  apply List.ext_getElem
  · rw [ofMat, List.length_ofFn, h.rows]
  · intro i h1 h2
    have hr : m[i].length = n := h.cols _ (List.getElem_mem h2)
    apply List.ext_getElem
    · simp only [ofMat, List.getElem_ofFn, List.length_ofFn, hr]
    · intro j h3 h4
      simp only [ofMat, List.getElem_ofFn, toMat, Matrix.of_apply, List.getD_eq_getElem?_getD,
        List.getElem?_eq_getElem h2, List.getElem?_eq_getElem h4, Option.getD_some]

theorem detL_eq_det (n : ℕ) (M : Matrix (Fin n) (Fin n) ℤ) :
    detL n (List.ofFn fun i => List.ofFn fun j => M i j) = M.det := by
  have := detL_eq_det_toMat n (ofMat M)
  rwa [toMat_ofMat] at this

/-! ## corollaries: the algebra of `Matrix.det` transfers to the executable function -/

theorem detL_mul (n : ℕ) (a b c : List (List ℤ)) (h : toMat n c = toMat n a * toMat n b) :
    detL n c = detL n a * detL n b := by
  rw [detL_eq_det_toMat, detL_eq_det_toMat, detL_eq_det_toMat, h, Matrix.det_mul]

theorem filterMap_getElem?_eq_map {n : ℕ} (m : List (List ℤ)) (hc : ∀ r ∈ m, r.length = n) (i : ℕ) (hi : i < n) :
    m.filterMap (fun row => row[i]?) = m.map (fun row => row.getD i 0) := by
  rw [← List.filterMap_eq_map]
  refine List.filterMap_congr fun r hr => ?_
  rw [Function.comp_apply, List.getD_eq_getElem?_getD, List.getElem?_eq_getElem (hc r hr ▸ hi), Option.getD_some]

theorem toMat_transposeRows {n : ℕ} {m : List (List ℤ)} (h : WellShaped n m) :
    toMat n (transposeRows m n) = (toMat n m).transpose := by
  ext i j
  have hj : (j : ℕ) < m.length := h.rows ▸ j.2
  simp only [toMat, Matrix.of_apply, Matrix.transpose_apply, transposeRows, List.getD_eq_getElem?_getD,
    List.getElem?_map, List.getElem?_range i.2, Option.map_some, Option.getD_some,
    filterMap_getElem?_eq_map m h.cols i i.2, List.getElem?_eq_getElem hj]

theorem detL_transpose {n : ℕ} {m : List (List ℤ)} (h : WellShaped n m) :
    detL n (transposeRows m n) = detL n m := by
  rw [detL_eq_det_toMat, detL_eq_det_toMat, toMat_transposeRows h, Matrix.det_transpose]

theorem detL_one (n : ℕ) : detL n (ofMat (1 : Matrix (Fin n) (Fin n) ℤ)) = 1 := by
  rw [ofMat, detL_eq_det, Matrix.det_one]

theorem detL_upperTriangular {n : ℕ} (M : Matrix (Fin n) (Fin n) ℤ) (h : ∀ i j, j < i → M i j = 0) :
    detL n (ofMat M) = ∏ i, M i i := by
  rw [ofMat, detL_eq_det]
  exact Matrix.det_of_isUpperTriangular (fun i j hij => h i j hij)

/-! ## `logabsdet` (torchutils.py:64-68): the real counterpart of the executed `logabsdetF`, every size -/

noncomputable def toMatR (n : ℕ) (m : List (List ℤ)) : Matrix (Fin n) (Fin n) ℝ := (toMat n m).map (Int.cast : ℤ → ℝ)

theorem det_toMatR (n : ℕ) (m : List (List ℤ)) : (toMatR n m).det = ((detL n m : ℤ) : ℝ) := by
  rw [detL_eq_det_toMat, toMatR]
  exact ((Int.castRingHom ℝ).map_det (toMat n m)).symm

/-- the real number `logabsdetF` rounds: `log (natAbs (detL n m))` -/
noncomputable def logabsdetL (n : ℕ) (m : List (List ℤ)) : ℝ := Real.log (((detL n m).natAbs : ℕ) : ℝ)

theorem logabsdetL_eq (n : ℕ) (m : List (List ℤ)) : logabsdetL n m = logabsdetR (toMatR n m) := by
  rw [logabsdetL, logabsdetR, det_toMatR, Nat.cast_natAbs, Int.cast_abs]

theorem logabsdetL_spec (n : ℕ) (m : List (List ℤ)) (h : detL n m ≠ 0) :
    Real.exp (logabsdetL n m) = |((detL n m : ℤ) : ℝ)| ∧ Real.exp (logabsdetL n m) = |(toMatR n m).det| ∧
    Real.exp (Real.log |((detL n m : ℤ) : ℝ)|) = |(toMatR n m).det| ∧
    logabsdetR (-(toMatR n m)) = logabsdetL n m := by
  have hd : (toMatR n m).det ≠ 0 := by rw [det_toMatR]; exact Int.cast_ne_zero.mpr h
  have h1 : Real.exp (logabsdetR (toMatR n m)) = |(toMatR n m).det| := Real.exp_log (abs_pos.mpr hd)
  have h2 : logabsdetR (-(toMatR n m)) = logabsdetR (toMatR n m) := by
    rw [logabsdetR, logabsdetR, Matrix.det_neg, abs_mul, abs_pow, abs_neg, abs_one, one_pow, one_mul]
  rw [logabsdetL_eq]
  refine ⟨by rw [h1, det_toMatR], h1, ?_, h2⟩
  rw [← det_toMatR]; exact h1

theorem detL_eq_zero_iff (n : ℕ) (m : List (List ℤ)) : detL n m = 0 ↔ (toMatR n m).det = 0 := by
  rw [det_toMatR]; exact Int.cast_eq_zero.symm

/-! ## what the driver op `c20.logabsdet` feeds to `detL`: the row-major `n*n` data cut into rows by `chunk20` -/

theorem chunk20_eq_chunkRows {β : Type} (n : ℕ) (d : List β) (hn : 0 < n) (hd : d.length = n * n) :
    chunk20 n d = chunkRows n n d := by
  rw [chunk20, if_neg (by simpa using hn.ne'), hd, Nat.mul_div_cancel _ hn]; rfl

theorem chunk20_wellShaped (n : ℕ) (d : List ℤ) (hd : d.length = n * n) : WellShaped n (chunk20 n d) := by
  rcases Nat.eq_zero_or_pos n with rfl | hn
  · exact ⟨by simp [chunk20], by simp [chunk20]⟩
  · rw [chunk20_eq_chunkRows n d hn hd]
    exact ⟨chunkRows_length n n d, chunkRows_row_length n n d hd⟩

theorem toMat_chunk20 (n : ℕ) (d : List ℤ) (hd : d.length = n * n) (i j : Fin n) :
    toMat n (chunk20 n d) i j = d.getD (i * n + j) 0 := by
  rw [toMat, Matrix.of_apply, chunk20_eq_chunkRows n d i.pos hd, List.getD_eq_getElem?_getD, List.getD_eq_getElem?_getD,
    chunkRows_getElem? n n d i i.2, Option.getD_some, List.getD_eq_getElem?_getD, List.getElem?_take_of_lt j.2,
    List.getElem?_drop]

/-- **the integer the driver returns for `c20.logabsdet` is `Matrix.det` of the row-major matrix of the request, every size** -/
theorem detL_chunk20 (n : ℕ) (d : List ℤ) (hd : d.length = n * n) :
    detL n (chunk20 n d) = Matrix.det (Matrix.of fun i j : Fin n => d.getD (i * n + j) 0) := by
  rw [detL_eq_det_toMat]; congr 1; ext i j; exact toMat_chunk20 n d hd i j

/-- sanity (a 5×5 instance beyond `detL_small`, evaluated by the kernel) -/
example : detL 5 [[2, 0, 1, 3, 1], [1, 1, 0, 0, -2], [0, 5, 1, 2, 0], [7, 0, 0, 2, 1], [1, -1, 3, 0, 4]] = 547 := by decide +kernel

end NF.DetL
