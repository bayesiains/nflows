import NflowsModel.Core.Norm
import NflowsModel.Core.Density
import NflowsModel.Core.FlowPairing
import NflowsModel.Core.LinearFamily
import NflowsModel.Real.RealX
import NflowsModel.Lemmas.LogdetExecNorm
import NflowsModel.Lemmas.LogdetExecConv
import Mathlib.Tactic
/-!
# Lemmas/RowIndependenceMore — C12 for the executed normalisation layers (evaluation mode), distributions, flows, 1×1 convolution

For the EXECUTED definitions of `Core/` and for EVERY scalar semantics (`o : XOps α` / `o : Ops α`, hence bit-for-bit for the
`Float` run): running the batch = running every row alone.  For the machines this is read off the step equations
(`NormMachine`); for the `log_prob`s off their common shape, value-independent checks followed by one value per row
(`rowIndep_of_form`, `RowIndep`: a batch-level rejection is the rejection of every row); `flowLogProbBatch`
(flows/base.py:42-49 on whole batches) is `FlowPairing.flowLogProb` row by row under `RowWise`.
CONTRAST at `NF.realX e`: training-mode BatchNorm and the initialising call of ActNorm are NOT row independent.

Forced hypotheses: `perm.getD c 0 < n` / `perm.idxOf c < n` for the convolution (a channel index outside `0..n-1` would address the
next batch item in the flat NCHW list — model artefact, `index_select` raises in torch); `pShape ≠ []` for the conditional normal
(counterexample in §5); `params.length = rows.length` there (rectangular encoder output).
-/
open NF NF.Norm

namespace NF.RowIndependenceMore

/-! ## 0. a computable scalar semantics for the concrete examples (`Int`, transcendental functions = identity) -/

/-- toy operations on `Int` (only used to evaluate the generic theorems on concrete batches by `decide`) -/
def intOps : Ops Int where
  ofRat n d := n / (d : Int)
  add := (· + ·); sub := (· - ·); mul := (· * ·); div := (· / ·); neg := (- ·)
  exp := id; log := id; sqrt := id
  lt a b := decide (a < b)

def intX : XOps Int where
  toOps := intOps
  ofFloat _ := 0
  toFloat _ := 0
  le a b := decide (a ≤ b)
  tanh := id; atan := id; tan := id; cos := id; sin := id
  atan2 a _ := a; abs x := (x.natAbs : Int); floor := id
  floorInt := id
  nextUp := id
  isFinite _ := true

/-! ## 1. Normalisation layers -/

section norm
variable {α : Type} (o : XOps α)

def item? : Batch α → Nat → Option (Batch α)
  | .d2 rows, i => (rows[i]?).map fun r => .d2 [r]
  | .d4 h w imgs, i => (imgs[i]?).map fun img => .d4 h w [img]
  | .bad _, _ => none

/-- **BatchNorm, evaluation mode, forward (executed machine step).**  The state is unchanged, the call succeeds, and for every row `r = rows[i]`
    the call on the one-row batch `[r]` returns exactly row `i` of the batch output and entry `i` of the batch log-det. -/
theorem bn_eval_forward_row_independent (cfg : BNCfg α) (F : Nat) (s : BNSt α) (hs : s.training = false)
    (rows : List (List α)) :
    ∃ (outs : List (List α)) (lds : List α), bnStep o cfg F s (.fwd (.d2 rows)) = (s, some (.ok (.d2 outs, lds))) ∧
      outs.length = rows.length ∧ lds.length = rows.length ∧
      ∀ (i : Nat) (r : List α), rows[i]? = some r → ∃ (y : List α) (l : α), outs[i]? = some y ∧ lds[i]? = some l ∧
        bnStep o cfg F s (.fwd (.d2 [r])) = (s, some (.ok (.d2 [y], [l]))) := by
  refine ⟨_, _, bnStep_eval_fwd o cfg F s hs rows, List.length_map _, List.length_replicate, fun i r hr => ?_⟩
  have hi : i < rows.length := (List.getElem?_eq_some_iff.mp hr).1
  exact ⟨_, _, by rw [bnNormalise, List.getElem?_map, hr]; rfl, by rw [bnLogdet, List.getElem?_replicate, if_pos hi],
    bnStep_eval_fwd o cfg F s hs [r]⟩

theorem bn_eval_inverse_row_independent (cfg : BNCfg α) (F : Nat) (s : BNSt α) (hs : s.training = false)
    (rows : List (List α)) :
    ∃ (outs : List (List α)) (lds : List α), bnStep o cfg F s (.inv (.d2 rows)) = (s, some (.ok (.d2 outs, lds))) ∧
      outs.length = rows.length ∧ lds.length = rows.length ∧
      ∀ (i : Nat) (r : List α), rows[i]? = some r → ∃ (y : List α) (l : α), outs[i]? = some y ∧ lds[i]? = some l ∧
        bnStep o cfg F s (.inv (.d2 [r])) = (s, some (.ok (.d2 [y], [l]))) := by
  refine ⟨_, _, bnStep_eval_inv o cfg F s hs rows, List.length_map _, List.length_replicate, fun i r hr => ?_⟩
  have hi : i < rows.length := (List.getElem?_eq_some_iff.mp hr).1
  exact ⟨_, _, by rw [bnDenormalise, List.getElem?_map, hr]; rfl, by rw [bnLogdet, List.getElem?_replicate, if_pos hi],
    bnStep_eval_inv o cfg F s hs [r]⟩

theorem item?_cases {b bi : Batch α} {i : Nat} (h : item? b i = some bi) :
    (∃ rows r, b = .d2 rows ∧ rows[i]? = some r ∧ bi = .d2 [r]) ∨
      (∃ h' w imgs img, b = .d4 h' w imgs ∧ imgs[i]? = some img ∧ bi = .d4 h' w [img]) := by
  cases b with
  | bad d => cases h
  | d2 rows =>
    obtain ⟨r, hr, rfl⟩ := Option.map_eq_some_iff.mp h
    exact Or.inl ⟨rows, r, rfl, hr, rfl⟩
  | d4 h' w imgs =>
    obtain ⟨r, hr, rfl⟩ := Option.map_eq_some_iff.mp h
    exact Or.inr ⟨h', w, imgs, r, rfl, hr, rfl⟩

theorem actLogdet_item (ls : List α) (b bi : Batch α) (inverse : Bool) (i : Nat) (h : item? b i = some bi) :
    ∃ l, (actLogdet o ls b inverse)[i]? = some l ∧ actLogdet o ls bi inverse = [l] := by
  obtain ⟨rows, r, rfl, hr, rfl⟩ | ⟨h', w, imgs, r, rfl, hr, rfl⟩ := item?_cases h
  · exact ⟨_, List.getElem?_replicate.trans (if_pos (List.getElem?_eq_some_iff.mp hr).1), rfl⟩
  · exact ⟨_, List.getElem?_replicate.trans (if_pos (List.getElem?_eq_some_iff.mp hr).1), rfl⟩

theorem mapCh_item (F : Nat) (f : Nat → α → α) (b bi : Batch α) (i : Nat) (h : item? b i = some bi) :
    item? (b.mapCh o F f) i = some (bi.mapCh o F f) := by
  obtain ⟨rows, r, rfl, hr, rfl⟩ | ⟨h', w, imgs, r, rfl, hr, rfl⟩ := item?_cases h
  · simp only [Batch.mapCh, item?, List.getElem?_map, hr, Option.map_some, List.map_cons, List.map_nil]
  · simp only [Batch.mapCh, item?, List.getElem?_map, hr, Option.map_some, List.map_cons, List.map_nil]

theorem item?_valid (b bi : Batch α) (i : Nat) (h : item? b i = some bi) : b.valid24 = true ∧ bi.valid24 = true := by
  obtain ⟨rows, r, rfl, hr, rfl⟩ | ⟨h', w, imgs, r, rfl, hr, rfl⟩ := item?_cases h <;> exact ⟨rfl, rfl⟩

/-- **ActNorm after initialisation (or in evaluation mode), forward, 2-D and 4-D (executed machine step).**  In a state that will not
    initialise, the call on a valid batch leaves the state unchanged and, for every item `i`, the call on that item alone returns
    item `i` of the batch output and entry `i` of the batch log-det (with the `h·w` factor for images). -/
theorem act_forward_row_independent (F : Nat) (s : ActSt α) (hs : s.initialized = true ∨ s.training = false)
    (b : Batch α) (hv : b.valid24 = true) :
    ∃ (out : Batch α) (lds : List α), actStep o F s (.fwd b) = (s, some (.ok (out, lds))) ∧
      out.size = b.size ∧ lds.length = b.size ∧
      ∀ (i : Nat) (bi : Batch α), item? b i = some bi → ∃ (yi : Batch α) (l : α), item? out i = some yi ∧ lds[i]? = some l ∧
        actStep o F s (.fwd bi) = (s, some (.ok (yi, [l]))) := by
  refine ⟨_, _, actStep_fwd_noinit o F s hs b hv, Batch.size_mapCh o F _ b, List.length_replicate, fun i bi hbi => ?_⟩
  obtain ⟨l, hl1, hl2⟩ := actLogdet_item o s.logScale b bi false i hbi
  exact ⟨_, l, mapCh_item o F _ b bi i hbi, hl1, by rw [actStep_fwd_noinit o F s hs bi (item?_valid b bi i hbi).2, hl2]; rfl⟩

/-- **ActNorm, inverse** (never initialises: any state). -/
theorem act_inverse_row_independent (F : Nat) (s : ActSt α) (b : Batch α) (hv : b.valid24 = true) :
    ∃ (out : Batch α) (lds : List α), actStep o F s (.inv b) = (s, some (.ok (out, lds))) ∧
      out.size = b.size ∧ lds.length = b.size ∧
      ∀ (i : Nat) (bi : Batch α), item? b i = some bi → ∃ (yi : Batch α) (l : α), item? out i = some yi ∧ lds[i]? = some l ∧
        actStep o F s (.inv bi) = (s, some (.ok (yi, [l]))) := by
  refine ⟨_, _, actStep_inv_ok o F s b hv, Batch.size_mapCh o F _ b, List.length_replicate, fun i bi hbi => ?_⟩
  obtain ⟨l, hl1, hl2⟩ := actLogdet_item o s.logScale b bi true i hbi
  exact ⟨_, l, mapCh_item o F _ b bi i hbi, hl1, by rw [actStep_inv_ok o F s bi (item?_valid b bi i hbi).2, hl2]; rfl⟩

end norm

/-! ### the contrast: training-mode BatchNorm and the initialising call of ActNorm are NOT row independent -/

section contrast
variable (e : Float → ℝ)

/-- the statistics of the two columns used below: `[0, 2]` has mean `1` and unbiased variance `2`; `[0]` has mean `0` and
    variance `0 / 0 = 0` -/
theorem meanL_zero_two : meanL (NF.realX e) [0, 2] = 1 := by
  simp only [meanL, sumG_real, List.sum_cons, List.sum_nil, List.length_cons, List.length_nil, realX_div, realX_ofNat]
  norm_num

theorem varUL_zero_two : varUL (NF.realX e) [0, 2] = 2 := by
  simp only [varUL, meanL_zero_two, sumG_real, List.map_cons, List.map_nil, List.sum_cons, List.sum_nil,
    List.length_cons, List.length_nil, realX_div, realX_ofNat, realX_sub, realX_sq, realX_one]
  norm_num

theorem meanL_zero : meanL (NF.realX e) [0] = 0 := by
  simp only [meanL, sumG_real, List.sum_cons, List.sum_nil, add_zero, realX_div, zero_div]

theorem varUL_zero : varUL (NF.realX e) [0] = 0 := by
  simp only [varUL, meanL_zero, sumG_real, List.map_cons, List.map_nil, List.sum_cons, List.sum_nil, realX_div,
    realX_sub, realX_sq, sub_zero, add_zero, ne_eq, OfNat.ofNat_ne_zero, not_false_eq_true, zero_pow, zero_div]

/-- the batch `[[0], [2]]` through training-mode BatchNorm (one feature): row 0 of the output is
    `w · ((0 - 1) / √(2 + eps)) + bias`, while the row `[0]` alone gives `bias` -/
theorem bn_training_batch_value (cfg : BNCfg ℝ) (s : BNSt ℝ) (hs : s.training = true) :
    (bnStep (NF.realX e) cfg 1 s (.fwd (.d2 [[0], [2]]))).2 =
      some (.ok (.d2 (bnNormalise (NF.realX e) cfg 1 [1] [2] s.uweight s.bias [[0], [2]]),
        bnLogdet (NF.realX e) cfg 1 [2] s.uweight 2 false)) := by
  have hm : colMeans (NF.realX e) 1 [[0], [2]] = [1] :=
    (rfl : _ = [meanL (NF.realX e) [0, 2]]).trans (by rw [meanL_zero_two])
  have hv : colVars (NF.realX e) 1 [[0], [2]] = [2] :=
    (rfl : _ = [varUL (NF.realX e) [0, 2]]).trans (by rw [varUL_zero_two])
  rw [bnStep_train_fwd _ cfg 1 s hs, hm, hv]
  rfl

theorem bn_training_single_value (cfg : BNCfg ℝ) (s : BNSt ℝ) (hs : s.training = true) :
    (bnStep (NF.realX e) cfg 1 s (.fwd (.d2 [[0]]))).2 =
      some (.ok (.d2 (bnNormalise (NF.realX e) cfg 1 [0] [0] s.uweight s.bias [[0]]),
        bnLogdet (NF.realX e) cfg 1 [0] s.uweight 1 false)) := by
  have hm : colMeans (NF.realX e) 1 [[0]] = [0] := (rfl : _ = [meanL (NF.realX e) [0]]).trans (by rw [meanL_zero])
  have hv : colVars (NF.realX e) 1 [[0]] = [0] := (rfl : _ = [varUL (NF.realX e) [0]]).trans (by rw [varUL_zero])
  rw [bnStep_train_fwd _ cfg 1 s hs, hm, hv]
  rfl

/-- **BatchNorm in TRAINING mode is not row independent** (for every state in training mode and every `eps > 0`): on the batch
    `[[0], [2]]` the call succeeds, and row 0 of its output is NOT what the row `[0]` evaluated alone returns (whatever log-det
    one pairs it with).  This is the statement of `bn_eval_forward_row_independent` with `training = true`, refuted. -/
theorem bn_training_not_row_independent (cfg : BNCfg ℝ) (heps : 0 < cfg.eps) (s : BNSt ℝ) (hs : s.training = true) :
    ∃ (rows outs : List (List ℝ)) (lds : List ℝ),
      (bnStep (NF.realX e) cfg 1 s (.fwd (.d2 rows))).2 = some (.ok (.d2 outs, lds)) ∧
      ∃ (i : Nat) (r y : List ℝ), rows[i]? = some r ∧ outs[i]? = some y ∧
        ∀ l : List ℝ, (bnStep (NF.realX e) cfg 1 s (.fwd (.d2 [r]))).2 ≠ some (.ok (.d2 [y], l)) := by
  refine ⟨[[0], [2]], _, _, bn_training_batch_value e cfg s hs, 0, [0], _, rfl, rfl, ?_⟩
  intro l h
  rw [bn_training_single_value e cfg s hs] at h
  have hw := LogdetExec.bnWeight_pos e cfg heps.le s.uweight 0
  have h1 : 0 < Real.sqrt (2 + cfg.eps) := Real.sqrt_pos.mpr (add_pos two_pos heps)
  -- entry `[0][0]` of both outputs: `w · ((0 - 0) / √(0 + eps)) + bias = w · ((0 - 1) / √(2 + eps)) + bias`
  have h0 := congrArg (fun r => match r with | some (.ok (.d2 ((a :: _) :: _), _)) => a | _ => 0) h
  simp only [bnNormalise, List.map_cons, List.map_nil, List.range_one, List.getD_cons_zero, realX_add, realX_mul,
    realX_div, realX_sub, realX_sqrt, realX_zero] at h0
  rw [sub_self, zero_div, mul_zero, zero_sub, add_left_inj, eq_comm, mul_eq_zero, div_eq_zero_iff] at h0
  rcases h0 with h0 | h0 | h0
  · exact hw.ne' h0
  · exact one_ne_zero (neg_eq_zero.mp h0)
  · exact h1.ne' h0

/-- the initialising call of ActNorm on the batch `[[0], [2]]` (one feature): `std = √2`, `log_scale = -log √2`,
    `shift = -mean(x / std)` -/
theorem act_init_batch_value (s : ActSt ℝ) (hs : s.training = true) (hi : s.initialized = false) :
    (actStep (NF.realX e) 1 s (.fwd (.d2 [[0], [2]]))).2 =
      some (.ok (actApply (NF.realX e) 1 [-Real.log (Real.sqrt 2)] [-(2 / Real.sqrt 2 / 2)] (.d2 [[0], [2]]),
        actLogdet (NF.realX e) [-Real.log (Real.sqrt 2)] (.d2 [[0], [2]]) false)) := by
  have hc : actInitCol (NF.realX e) [0, 2] = (-Real.log (Real.sqrt 2), -(2 / Real.sqrt 2 / 2)) := by
    simp only [actInitCol, varUL_zero_two, meanL, sumG_real, List.map_cons, List.map_nil, List.sum_cons, List.sum_nil,
      List.length_cons, List.length_nil, realX_div, realX_ofNat, realX_neg, realX_log, realX_sqrt, zero_div, zero_add,
      add_zero]
    norm_num
  have hI : actInit (NF.realX e) 1 (.d2 [[0], [2]]) = ([-Real.log (Real.sqrt 2)], [-(2 / Real.sqrt 2 / 2)]) :=
    (rfl : _ = ([(actInitCol (NF.realX e) [0, 2]).1], [(actInitCol (NF.realX e) [0, 2]).2])).trans (by rw [hc])
  rw [actStep_fwd_init _ 1 s hs hi _ rfl, hI]

theorem act_init_single_value (s : ActSt ℝ) (hs : s.training = true) (hi : s.initialized = false) :
    (actStep (NF.realX e) 1 s (.fwd (.d2 [[0]]))).2 =
      some (.ok (actApply (NF.realX e) 1 [0] [0] (.d2 [[0]]), actLogdet (NF.realX e) [0] (.d2 [[0]]) false)) := by
  have hc : actInitCol (NF.realX e) [0] = (0, 0) := by
    simp only [actInitCol, varUL_zero, meanL, sumG_real, List.map_cons, List.map_nil, List.sum_cons, List.sum_nil,
      realX_div, realX_neg, realX_log, realX_sqrt, Real.sqrt_zero, Real.log_zero, neg_zero, zero_div, add_zero]
  have hI : actInit (NF.realX e) 1 (.d2 [[0]]) = ([0], [0]) :=
    (rfl : _ = ([(actInitCol (NF.realX e) [0]).1], [(actInitCol (NF.realX e) [0]).2])).trans (by rw [hc])
  rw [actStep_fwd_init _ 1 s hs hi _ rfl, hI]

/-- **The first (initialising) forward call of ActNorm is not row independent**: in a fresh training-mode state, on the batch
    `[[0], [2]]` the call succeeds and row 0 of its output (`-(2/√2)/2`) is NOT what the row `[0]` evaluated alone returns (`0`). -/
theorem act_init_not_row_independent (s : ActSt ℝ) (hs : s.training = true) (hi : s.initialized = false) :
    ∃ (rows outs : List (List ℝ)) (lds : List ℝ),
      (actStep (NF.realX e) 1 s (.fwd (.d2 rows))).2 = some (.ok (.d2 outs, lds)) ∧
      ∃ (i : Nat) (r y : List ℝ), rows[i]? = some r ∧ outs[i]? = some y ∧
        ∀ l : List ℝ, (actStep (NF.realX e) 1 s (.fwd (.d2 [r]))).2 ≠ some (.ok (.d2 [y], l)) := by
  refine ⟨[[0], [2]], _, _, act_init_batch_value e s hs hi, 0, [0], _, rfl, rfl, ?_⟩
  intro l h
  rw [act_init_single_value e s hs hi] at h
  have h1 : 0 < Real.sqrt 2 := Real.sqrt_pos.mpr two_pos
  -- entry `[0][0]` of both outputs: `e⁰ · 0 + 0 = e^{-log √2} · 0 + -(2 / √2 / 2)`
  have h0 := congrArg (fun r => match r with | some (.ok (.d2 ((a :: _) :: _), _)) => a | _ => 0) h
  simp only [actApply, Batch.mapCh, List.map_cons, List.map_nil, List.range_one, List.getD_cons_zero, realX_add,
    realX_mul, realX_exp, realX_zero] at h0
  rw [mul_zero, mul_zero, zero_add, zero_add, eq_comm, neg_eq_zero] at h0
  exact (div_pos (div_pos two_pos h1) two_pos).ne' h0

end contrast

/-! ## 2. `log_prob` of the executed distributions (`Core/Density.lean`) -/

section dist
open NF.Density
variable {α : Type} (o : XOps α)

/-- "the batch call = every row alone", for a call that returns one value per row or raises for the whole batch:
    * if the batch call returns `lps`, it has one entry per row and row `i` alone returns `[lps[i]]`;
    * if the batch call raises `err`, every row alone raises `err`
    (so: for a non-empty batch, the batch is accepted iff every row alone is, and then the values agree). -/
def RowIndep (batch : Except DErr (List α)) (n : Nat) (single : Nat → Except DErr (List α)) : Prop :=
  (∀ lps, batch = .ok lps → lps.length = n ∧ ∀ i, i < n → ∃ l, lps[i]? = some l ∧ single i = .ok [l]) ∧
  (∀ err, batch = .error err → ∀ i, i < n → single i = .error err)

theorem RowIndep.ok_iff {batch : Except DErr (List α)} {n : Nat} {single : Nat → Except DErr (List α)}
    (h : RowIndep batch n single) (hn : 0 < n) :
    (∃ lps, batch = .ok lps) ↔ ∀ i, i < n → ∃ l, single i = .ok [l] := by
  constructor
  · rintro ⟨lps, hl⟩ i hi
    obtain ⟨l, -, h2⟩ := (h.1 lps hl).2 i hi
    exact ⟨l, h2⟩
  · intro hall
    cases hb : batch with
    | ok lps => exact ⟨lps, rfl⟩
    | error err =>
      obtain ⟨l, hl⟩ := hall 0 hn
      rw [h.2 err hb 0 hn] at hl
      cases hl

/-- the common shape of the executed `log_prob`s: checks that do not look at the values, then one value per row -/
theorem rowIndep_of_form (chk : Except DErr Unit) (ys : List α) (batch : Except DErr (List α))
    (single : Nat → Except DErr (List α)) (hb : batch = chk >>= fun _ => pure ys)
    (hs : ∀ i (h : i < ys.length), single i = chk >>= fun _ => pure [ys[i]]) :
    RowIndep batch ys.length single := by
  subst hb
  cases chk with
  | error e =>
    refine ⟨fun lps h => by simp [bind, Except.bind] at h, fun err h i hi => ?_⟩
    rw [hs i hi]
    simpa [bind, Except.bind] using h
  | ok u =>
    refine ⟨fun lps h => ?_, fun err h => by simp [bind, Except.bind, pure, Except.pure] at h⟩
    simp only [bind, Except.bind, pure, Except.pure, Except.ok.injEq] at h
    subst h
    exact ⟨rfl, fun i hi => ⟨ys[i], by simp [hi], by rw [hs i hi]; rfl⟩⟩

/-- … with two such checks in a row (the shape check, then the check of the encoder output) -/
theorem rowIndep_of_form2 (a b : Except DErr Unit) (ys : List α) (batch : Except DErr (List α))
    (single : Nat → Except DErr (List α)) (hb : batch = a >>= fun _ => b >>= fun _ => pure ys)
    (hs : ∀ i (h : i < ys.length), single i = a >>= fun _ => b >>= fun _ => pure [ys[i]]) :
    RowIndep batch ys.length single :=
  rowIndep_of_form (a >>= fun _ => b) ys batch single (by rw [hb, bind_assoc])
    (fun i h => by rw [hs i h, bind_assoc])

/-- the context-row count handed to `Distribution.log_prob`: none, or one context row per input row -/
def ctxOf (c : Bool) (n : Nat) : Option Nat := if c then some n else none

theorem baseCheck_ctxOf (c : Bool) (n : Nat) : baseCheck n (ctxOf c n) = .ok () := by
  cases c <;> simp [baseCheck, ctxOf]

theorem rowIndep_of_rowMap (shape inShape : List Nat) (c : Bool) (rowFn : List α → α) (rows : List (List α))
    (lp : Option Nat → List (List α) → Except DErr (List α))
    (hlp : ∀ ctxRows rs, lp ctxRows rs = baseCheck rs.length ctxRows >>= fun _ => shapeCheck shape inShape >>= fun _ =>
      pure (rs.map rowFn)) :
    RowIndep (lp (ctxOf c rows.length) rows) rows.length (fun i => lp (ctxOf c 1) [rows.getD i []]) := by
  have h := rowIndep_of_form (shapeCheck shape inShape) (rows.map rowFn) (lp (ctxOf c rows.length) rows)
    (fun i => lp (ctxOf c 1) [rows.getD i []])
    (by rw [hlp, baseCheck_ctxOf]; rfl)
    (by
      intro i hi
      have hi' : i < rows.length := by simpa using hi
      rw [hlp, show ([rows.getD i []] : List (List α)).length = 1 from rfl, baseCheck_ctxOf]
      simp [List.getD_eq_getElem?_getD, hi']
      rfl)
  simpa using h

/-- **`StandardNormal.log_prob`**: batch = rows alone (with or without a context of matching row count) -/
theorem stdNormal_logProb_row_independent (shape inShape : List Nat) (c : Bool) (rows : List (List α)) :
    RowIndep (stdNormalLogProb o shape inShape (ctxOf c rows.length) rows) rows.length
      (fun i => stdNormalLogProb o shape inShape (ctxOf c 1) [rows.getD i []]) :=
  rowIndep_of_rowMap shape inShape c (stdNormalRow o (numel shape)) rows (stdNormalLogProb o shape inShape) fun _ _ => rfl

/-- **`DiagonalNormal.log_prob`** (parameters shared by the batch) -/
theorem diagNormal_logProb_row_independent (shape inShape : List Nat) (c : Bool) (mean logStd : List α)
    (rows : List (List α)) :
    RowIndep (diagNormalLogProb o shape inShape (ctxOf c rows.length) mean logStd rows) rows.length
      (fun i => diagNormalLogProb o shape inShape (ctxOf c 1) mean logStd [rows.getD i []]) :=
  rowIndep_of_rowMap shape inShape c (diagNormalRow o (numel shape) mean logStd) rows
    (fun cr rs => diagNormalLogProb o shape inShape cr mean logStd rs) fun _ _ => rfl

/-- the value-independent checks of `ConditionalDiagonalNormal._compute_params` on an encoder output `[R] ++ pShape` with
    `pShape ≠ []`: even last dimension, `reshape` possible -/
def condChk (shape pShape : List Nat) : Except DErr Unit :=
  if (pShape.getLast?.getD 0) % 2 != 0 then .error runtimeErr
  else if numel pShape / 2 != numel shape then .error runtimeErr else .ok ()

theorem condNormalParams_eq (shape pShape : List Nat) (hp : pShape ≠ []) (R : Nat) (params : List (List α)) :
    condNormalParams shape (some R) R pShape params = condChk shape pShape >>= fun _ =>
      pure (params.map (fun p => (splitHalves (pShape.getLast?.getD 0) p).1),
            params.map (fun p => (splitHalves (pShape.getLast?.getD 0) p).2)) := by
  cases pShape with
  | nil => exact absurd rfl hp
  | cons a t =>
    simp only [condNormalParams, condChk, List.getLast?_cons_cons, bne_self_eq_false]
    split_ifs <;> first | rfl | (exfalso; assumption)

/-- **`ConditionalDiagonalNormal.log_prob`** given the (row-wise) context-encoder output `params : [B] ++ pShape`: batch = rows
    alone, row `i` alone being given context/parameter row `i`. -/
theorem condNormal_logProb_row_independent (shape inShape pShape : List Nat) (hp : pShape ≠ [])
    (params rows : List (List α)) (hlen : params.length = rows.length) :
    RowIndep (condNormalLogProb o shape inShape (some rows.length) rows.length pShape params rows) rows.length
      (fun i => condNormalLogProb o shape inShape (some 1) 1 pShape [params.getD i []] [rows.getD i []]) := by
  have h := rowIndep_of_form2 (shapeCheck shape inShape) (condChk shape pShape)
    ((List.range rows.length).map fun i => diagNormalRow o (numel shape)
      ((params.map (fun p => (splitHalves (pShape.getLast?.getD 0) p).1)).getD i [])
      ((params.map (fun p => (splitHalves (pShape.getLast?.getD 0) p).2)).getD i []) (rows.getD i []))
    (condNormalLogProb o shape inShape (some rows.length) rows.length pShape params rows)
    (fun i => condNormalLogProb o shape inShape (some 1) 1 pShape [params.getD i []] [rows.getD i []])
    (by
      unfold condNormalLogProb
      rw [condNormalParams_eq shape pShape hp]
      simp only [baseCheck, bne_self_eq_false, Bool.false_eq_true, if_false, bind_assoc, pure_bind]
      rfl)
    (by
      intro i hi
      rw [List.length_map, List.length_range] at hi
      unfold condNormalLogProb
      rw [show ([rows.getD i []] : List (List α)).length = 1 from rfl, condNormalParams_eq shape pShape hp]
      simp only [baseCheck, bne_self_eq_false, Bool.false_eq_true, if_false, bind_assoc, pure_bind,
        List.range_one, List.map_cons, List.map_nil, List.getElem_map, List.getElem_range,
        List.getD_eq_getElem?_getD, List.getElem?_map, List.getElem?_eq_getElem (hlen ▸ hi), Option.map_some]
      rfl)
  rwa [List.length_map, List.length_range] at h

def bernChk (shape pShape : List Nat) : Except DErr Unit :=
  if numel pShape != numel shape then .error runtimeErr else .ok ()

theorem bernParams_eq (shape pShape : List Nat) (R : Nat) (params : List (List α)) :
    bernParams shape (some R) R pShape params = bernChk shape pShape >>= fun _ => pure params := by
  simp only [bernParams, bernChk, bne_self_eq_false]
  split_ifs <;> first | rfl | (exfalso; assumption)

/-- **`ConditionalIndependentBernoulli.log_prob`** given the (row-wise) encoder output: batch = rows alone -/
theorem bern_logProb_row_independent (shape inShape pShape : List Nat) (params rows : List (List α)) :
    RowIndep (bernLogProb o shape inShape (some rows.length) rows.length pShape params rows) rows.length
      (fun i => bernLogProb o shape inShape (some 1) 1 pShape [params.getD i []] [rows.getD i []]) := by
  have h := rowIndep_of_form2 (shapeCheck shape inShape) (bernChk shape pShape)
    ((List.range rows.length).map fun i => bernRow o (params.getD i []) (rows.getD i []))
    (bernLogProb o shape inShape (some rows.length) rows.length pShape params rows)
    (fun i => bernLogProb o shape inShape (some 1) 1 pShape [params.getD i []] [rows.getD i []])
    (by
      unfold bernLogProb
      rw [bernParams_eq shape pShape]
      simp only [baseCheck, bne_self_eq_false, Bool.false_eq_true, if_false, bind_assoc, pure_bind]
      rfl)
    (by
      intro i hi
      unfold bernLogProb
      rw [show ([rows.getD i []] : List (List α)).length = 1 from rfl, bernParams_eq shape pShape]
      simp only [baseCheck, bne_self_eq_false, Bool.false_eq_true, if_false, bind_assoc, pure_bind,
        List.range_one, List.map_cons, List.map_nil, List.getD_cons_zero, List.getElem_map, List.getElem_range]
      rfl)
  rwa [List.length_map, List.length_range] at h

/-- **`MADEMoG.log_prob`** given the (row-wise) MADE output `outs`: batch = rows alone -/
theorem mog_logProb_row_independent (eps : α) (F M : Nat) (c : Bool) (outs rows : List (List α)) :
    RowIndep (mogLogProb o eps F M (ctxOf c rows.length) outs rows) rows.length
      (fun i => mogLogProb o eps F M (ctxOf c 1) [outs.getD i []] [rows.getD i []]) := by
  have h := rowIndep_of_form (.ok ())
    ((List.range rows.length).map fun i => mogRow o eps F M (outs.getD i []) (rows.getD i []))
    (mogLogProb o eps F M (ctxOf c rows.length) outs rows)
    (fun i => mogLogProb o eps F M (ctxOf c 1) [outs.getD i []] [rows.getD i []])
    (by unfold mogLogProb; rw [baseCheck_ctxOf])
    (by
      intro i hi
      unfold mogLogProb
      rw [show ([rows.getD i []] : List (List α)).length = 1 from rfl, baseCheck_ctxOf]
      simp only [List.range_one, List.map_cons, List.map_nil, List.getD_cons_zero, List.getElem_map, List.getElem_range])
  rwa [List.length_map, List.length_range] at h

end dist

/-! ## 3. `Flow.log_prob` on a batch (`flows/base.py:42-49`) -/

section flow
open NF.FlowPairing
variable {Z X C E V : Type}

/-- `Flow._log_prob(inputs, context)` as the code runs it, on WHOLE batches: `embedded = embedding_net(context)`,
    `noise, logabsdet = transform(inputs, embedded)`, `log_prob = distribution.log_prob(noise, embedded)`,
    `return log_prob + logabsdet` (flows/base.py:42-49).  `emb`, `T`, `blp` are the batch-level passes. -/
def flowLogProbBatch (emb : List C → List E) (T : List X → List E → List Z × List V) (blp : List Z → List E → List V)
    (add : V → V → V) (xs : List X) (ctx : List C) : List V :=
  let e := emb ctx
  let r := T xs e
  List.zipWith add (blp r.1 e) r.2

/-- the batch-level passes of a flow are row-wise, with the per-row functions collected in `f` (what the C12 theorems give for
    the executed coupling / autoregressive / CDF passes, §2 for the base distributions, and a hypothesis for the nets) -/
structure RowWise (f : FlowFns Z X C E V) (emb : List C → List E) (T : List X → List E → List Z × List V)
    (blp : List Z → List E → List V) : Prop where
  emb_rows : ∀ ctx, emb ctx = ctx.map f.emb
  T_rows : ∀ xs es, xs.length = es.length → T xs es = (List.zipWith f.tfwd xs es, List.zipWith f.ld xs es)
  blp_rows : ∀ zs es, zs.length = es.length → blp zs es = List.zipWith f.blp zs es

theorem zipWith_flow (f : FlowFns Z X C E V) (xs : List X) (ctx : List C) :
    List.zipWith f.add (List.zipWith f.blp (List.zipWith f.tfwd xs (ctx.map f.emb)) (ctx.map f.emb))
        (List.zipWith f.ld xs (ctx.map f.emb))
      = List.zipWith (flowLogProb1 f) xs ctx := by
  induction xs generalizing ctx with
  | nil => simp
  | cons x xs ih =>
    cases ctx with
    | nil => simp
    | cons c cs => simp [ih cs, flowLogProb1]

/-- **`Flow.log_prob` of a batch is the list of the single-row `log_prob`s**: for row-wise transform, base distribution and
    embedding net, the batch-level program equals the row-by-row model `FlowPairing.flowLogProb` of `Core/`, entry `i` is
    `flowLogProb1` of row `i` with context row `i`, and running the batch-level program on the one-row batch `[x_i]`, `[c_i]`
    returns exactly `[entry i]`. -/
theorem flow_logProb_row_independent (f : FlowFns Z X C E V) (emb : List C → List E)
    (T : List X → List E → List Z × List V) (blp : List Z → List E → List V) (hrw : RowWise f emb T blp)
    (xs : List X) (ctx : List C) (hlen : xs.length = ctx.length) :
    flowLogProbBatch emb T blp f.add xs ctx = flowLogProb f xs ctx ∧
    (flowLogProbBatch emb T blp f.add xs ctx).length = xs.length ∧
    ∀ (i : Nat) (x : X) (c : C), xs[i]? = some x → ctx[i]? = some c →
      (flowLogProbBatch emb T blp f.add xs ctx)[i]? = some (flowLogProb1 f x c) ∧
      flowLogProbBatch emb T blp f.add [x] [c] = [flowLogProb1 f x c] := by
  have key : ∀ (xs : List X) (ctx : List C), xs.length = ctx.length →
      flowLogProbBatch emb T blp f.add xs ctx = List.zipWith (flowLogProb1 f) xs ctx := by
    intro xs ctx hl
    unfold flowLogProbBatch
    simp only [hrw.emb_rows]
    rw [hrw.T_rows xs _ (by simpa using hl)]
    simp only
    rw [hrw.blp_rows _ _ (by simp [hl])]
    exact zipWith_flow f xs ctx
  refine ⟨by rw [key xs ctx hlen]; rfl, by rw [key xs ctx hlen]; simp [hlen], ?_⟩
  intro i x c hx hc
  refine ⟨by rw [key xs ctx hlen]; simp [List.getElem?_zipWith, hx, hc], ?_⟩
  rw [key [x] [c] rfl]
  rfl

theorem map_eq_zipWith_left {A B D : Type} (g : A → D) (zs : List A) (es : List B) (h : zs.length = es.length) :
    zs.map g = List.zipWith (fun z _ => g z) zs es := by
  induction zs generalizing es with
  | nil => simp
  | cons z zs ih =>
    cases es with
    | nil => simp at h
    | cons e es => simp [ih es (by simpa using h)]

/-- the hypotheses `RowWise` are satisfiable with the EXECUTED `StandardNormal` base density (`Density.stdNormalRow`, whose batch
    pass ignores the context) and any per-row transform / embedding: so `flow_logProb_row_independent` applies to it -/
theorem rowWise_stdNormal_base {α : Type} (o : XOps α) (D : Nat) (embRow : C → E) (tfwd : List α → E → List α)
    (ld : List α → E → α) :
    RowWise (Z := List α) (X := List α) (V := α)
      { emb := embRow, tinv := fun z _ => z, ldInv := fun _ _ => o.zero, tfwd := tfwd, ld := ld,
        blp := fun z _ => NF.Density.stdNormalRow o D z, add := o.add, sub := o.sub }
      (fun ctx => ctx.map embRow) (fun xs es => (List.zipWith tfwd xs es, List.zipWith ld xs es))
      (fun zs _ => zs.map (NF.Density.stdNormalRow o D)) :=
  ⟨fun _ => rfl, fun _ _ _ => rfl, fun zs es h => map_eq_zipWith_left _ zs es h⟩

end flow

/-! ## 4. `OneByOneConvolution` (`Core/LinearFamily.lean`): batch item `b` of the result reads batch item `b` of the input only -/

section conv
open NF.LF LogdetExec
variable {α : Type} (o : Ops α)

def ItemAgree (C H W b b' : Nat) (xs xs' : List α) : Prop :=
  ∀ c h w, c < C → h < H → w < W → xs.getD (nchw C H W b c h w) (zero o) = xs'.getD (nchw C H W b' c h w) (zero o)

theorem convRows_agree (B B' C H W b b' : Nat) (ys ys' : List α) (hb : b < B) (hb' : b' < B')
    (h : ItemAgree o C H W b b' ys ys') (hh : Nat) (w : Nat) (hhh : hh < H) (hw : w < W) :
    (convRows o B C H W ys)[(b * H + hh) * W + w]? = (convRows o B' C H W ys')[(b' * H + hh) * W + w]? := by
  rw [convRows_getElem? o B C H W ys b hh w hb hhh hw, convRows_getElem? o B' C H W ys' b' hh w hb' hhh hw]
  congr 1
  apply List.map_congr_left
  intro c hc
  exact h c hh w (List.mem_range.mp hc) hhh hw

theorem convUnrows_map_agree (B B' C H W b b' : Nat) (g : List α → List α) (X X' : List (List α)) (hb : b < B) (hb' : b' < B')
    (h : ∀ hh w, hh < H → w < W → X[(b * H + hh) * W + w]? = X'[(b' * H + hh) * W + w]?) :
    ItemAgree o C H W b b' (convUnrows o B C H W (X.map g)) (convUnrows o B' C H W (X'.map g)) := by
  intro c hh w hc hhh hw
  rw [convUnrows_getD o B C H W _ b c hh w hb hc hhh hw, convUnrows_getD o B' C H W _ b' c hh w hb' hc hhh hw]
  simp only [List.getD_eq_getElem?_getD, List.getElem?_map, h hh w hhh hw]

theorem permuteChannels_agree (B B' C H W b b' : Nat) (perm : List Nat) (hperm : ∀ c, c < C → perm.getD c 0 < C)
    (xs xs' : List α) (hb : b < B) (hb' : b' < B') (h : ItemAgree o C H W b b' xs xs') :
    ItemAgree o C H W b b' (permuteChannels o B C H W perm xs) (permuteChannels o B' C H W perm xs') := by
  intro c hh w hc hhh hw
  rw [permuteChannels_getD o B C H W perm xs b c hh w hb hc hhh hw,
    permuteChannels_getD o B' C H W perm xs' b' c hh w hb' hc hhh hw]
  exact h _ hh w (hperm c hc) hhh hw

theorem convLogabsdet_agree (p : LUParams α) (B B' H W b b' : Nat) (sign : α → α) (hb : b < B) (hb' : b' < B') :
    (convLogabsdet o p B H W sign)[b]? = (convLogabsdet o p B' H W sign)[b']? := by
  simp [convLogabsdet, hb, hb']

/-- **1×1 convolution, forward (executed).**  Two calls (batch sizes may differ — e.g. the item evaluated alone) whose inputs agree
    on batch item `b` / `b'` agree on that item of the output and on that entry of the log-det, for every scalar semantics. -/
theorem conv_forward_item_independent (p : LUParams α) (perm : List Nat) (hperm : ∀ c, c < p.n → perm.getD c 0 < p.n)
    {B B' b b' : Nat} (H W : Nat) (xs xs' : List α) (hb : b < B) (hb' : b' < B')
    (hx : ItemAgree o p.n H W b b' xs xs') :
    ItemAgree o p.n H W b b' (convForward o p perm B H W xs).1 (convForward o p perm B' H W xs').1 ∧
    (convForward o p perm B H W xs).2[b]? = (convForward o p perm B' H W xs').2[b']? := by
  refine ⟨?_, convLogabsdet_agree o p B B' H W b b' id hb hb'⟩
  simp only [convForward, luForward_eq_map]
  exact convUnrows_map_agree o B B' p.n H W b b' _ _ _ hb hb' (fun hh w hhh hw =>
    convRows_agree o B B' p.n H W b b' _ _ hb hb'
      (permuteChannels_agree o B B' p.n H W b b' perm hperm xs xs' hb hb' hx) hh w hhh hw)

theorem conv_inverse_item_independent (p : LUParams α) (perm : List Nat) (hperm : ∀ c, c < p.n → perm.idxOf c < p.n)
    {B B' b b' : Nat} (H W : Nat) (xs xs' : List α) (hb : b < B) (hb' : b' < B')
    (hx : ItemAgree o p.n H W b b' xs xs') :
    ItemAgree o p.n H W b b' (convInverse o p perm B H W xs).1 (convInverse o p perm B' H W xs').1 ∧
    (convInverse o p perm B H W xs).2[b]? = (convInverse o p perm B' H W xs').2[b']? := by
  refine ⟨?_, convLogabsdet_agree o p B B' H W b b' o.neg hb hb'⟩
  simp only [convInverse, luInverse_eq_map]
  have hinv : ∀ c, c < p.n → ((List.range p.n).map (fun c => perm.idxOf c)).getD c 0 < p.n := by
    intro c hc
    simp [List.getD_eq_getElem?_getD, hc, hperm c hc]
  have hmid : ItemAgree o p.n H W b b' (convUnrows o B p.n H W ((convRows o B p.n H W xs).map (luInvRow o p)))
      (convUnrows o B' p.n H W ((convRows o B' p.n H W xs').map (luInvRow o p))) :=
    convUnrows_map_agree o B B' p.n H W b b' _ _ _ hb hb'
      (fun hh w hhh hw => convRows_agree o B B' p.n H W b b' _ _ hb hb' hx hh w hhh hw)
  exact permuteChannels_agree o B B' p.n H W b b' _ hinv _ _ hb hb' hmid

end conv

/-! ## 5. concrete instances (toy `Int` semantics; the theorems above hold for every semantics) -/

section examples
open NF.Density NF.LF NF.FlowPairing

def resOut {α : Type} : Res α → Option (List (List α) × List α)
  | some (.ok (.d2 rows, l)) => some (rows, l)
  | _ => none

def exBN : BNSt Int := ⟨false, [1, 2], [3, 8], [0, 1], [5, 6], 0⟩
def exAct : ActSt Int := ⟨true, true, [2, 3], [1, 1], 1⟩
def exLU : LUParams Int := ⟨2, [3], [5], [1, 2], [7, 8], 1⟩

/-- BatchNorm (eval), forward and inverse: row 1 of the batch run = the row alone -/
example :
    resOut (bnStep intX ⟨1, 1⟩ 2 exBN (.fwd (.d2 [[10, 20], [7, 9], [0, 3]]))).2
        = some ([[7, 12], [6, 6], [4, 6]], [4, 4, 4]) ∧
    resOut (bnStep intX ⟨1, 1⟩ 2 exBN (.fwd (.d2 [[7, 9]]))).2 = some ([[6, 6]], [4]) ∧
    resOut (bnStep intX ⟨1, 1⟩ 2 exBN (.inv (.d2 [[10, 20], [7, 9], [0, 3]]))).2
        = some ([[21, 38], [9, 11], [-19, -7]], [-4, -4, -4]) ∧
    resOut (bnStep intX ⟨1, 1⟩ 2 exBN (.inv (.d2 [[7, 9]]))).2 = some ([[9, 11]], [-4]) := by
  decide

example :
    resOut (actStep intX 2 exAct (.fwd (.d2 [[10, 20], [7, 9], [0, 3]]))).2
        = some ([[21, 61], [15, 28], [1, 10]], [5, 5, 5]) ∧
    resOut (actStep intX 2 exAct (.fwd (.d2 [[7, 9]]))).2 = some ([[15, 28]], [5]) ∧
    resOut (actStep intX 2 exAct (.inv (.d2 [[10, 20], [7, 9], [0, 3]]))).2
        = some ([[4, 6], [3, 2], [-1, 0]], [-5, -5, -5]) ∧
    resOut (actStep intX 2 exAct (.inv (.d2 [[7, 9]]))).2 = some ([[3, 2]], [-5]) := by
  decide

/-- the same contrast as `bn_training_not_row_independent`, computed: in training mode row 1 of the batch run differs from the
    row alone -/
example :
    (resOut (bnStep intX ⟨1, 1⟩ 2 { exBN with training := true } (.fwd (.d2 [[10, 20], [7, 9], [0, 3]]))).2).map
        (fun p => p.1[1]?)
      ≠ (resOut (bnStep intX ⟨1, 1⟩ 2 { exBN with training := true } (.fwd (.d2 [[7, 9]]))).2).map (fun p => p.1[0]?) := by
  decide

def okVal {β : Type} : Except DErr β → Option β
  | .ok a => some a
  | _ => none

/-- `StandardNormal` / `ConditionalDiagonalNormal` `log_prob`: entry 1 of the batch = the row alone -/
example :
    okVal (stdNormalLogProb intX [2] [2] none [[1, 2], [3, 4], [5, 6]]) = some [-5, -25, -61] ∧
    okVal (stdNormalLogProb intX [2] [2] none [[3, 4]]) = some [-25] ∧
    okVal (condNormalLogProb intX [2] [2] (some 3) 3 [4] [[1, 2, 3, 4], [0, 0, 1, 1], [5, 5, 5, 5]] [[1, 2], [3, 4], [5, 6]])
        = some [-7, -27, -35] ∧
    okVal (condNormalLogProb intX [2] [2] (some 1) 1 [4] [[0, 0, 1, 1]] [[3, 4]]) = some [-27] := by
  decide

/-- the hypothesis `pShape ≠ []` of `condNormal_logProb_row_independent` is forced IN THE MODEL: for an encoder output of shape `[B]`
    (no trailing dimension) `params.shape[-1]` is the batch size itself, so the evenness check depends on `B`: with an empty event
    (`shape = [0]`) the batch of 2 is accepted while each row alone is rejected.  (Degenerate: zero-sized event.) -/
example :
    (okVal (condNormalLogProb intX [0] [0] (some 2) 2 [] [[], []] [[], []])).isSome = true ∧
    (okVal (condNormalLogProb intX [0] [0] (some 1) 1 [] [[]] [[]])).isSome = false := by
  decide

/-- a batch-level flow `log_prob` on tagged data: entry `i` pairs row `i` with context row `i` only -/
example :
    flowLogProbBatch (fun c : List Nat => c.map (· + 100))
        (fun (xs : List (Nat × Nat)) es => (List.zipWith (fun x _ => x.1) xs es, List.zipWith (fun x e => [x.1, e]) xs es))
        (List.zipWith fun z e => [z, e]) (· ++ ·) [(1, 0), (2, 0)] [7, 8]
      = [[1, 107, 1, 107], [2, 108, 2, 108]] := by
  decide

/-- 1×1 convolution (`B = 2`, `C = 2`, `H = 1`, `W = 2`): item 1 of the batch run = that item alone, forward and inverse -/
example :
    convForward intOps exLU [1, 0] 2 1 2 [1, 2, 3, 4, 5, 6, 7, 8] = ([21, 29, 54, 82, 53, 61, 166, 194], [14, 14]) ∧
    convForward intOps exLU [1, 0] 1 1 2 [5, 6, 7, 8] = ([53, 61, 166, 194], [14]) ∧
    convInverse intOps exLU [1, 0] 2 1 2 [1, 2, 3, 4, 5, 6, 7, 8] = ([3, 2, -7, -5, 1, 0, -3, -1], [-14, -14]) ∧
    convInverse intOps exLU [1, 0] 1 1 2 [5, 6, 7, 8] = ([1, 0, -3, -1], [-14]) := by
  decide

end examples

end NF.RowIndependenceMore
