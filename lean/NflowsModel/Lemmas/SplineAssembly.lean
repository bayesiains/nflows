import NflowsModel.Lemmas.ExecGlue
import Mathlib.Tactic
/-!
# Lemmas/SplineAssembly — a K-bin spline assembled from per-bin pieces in normalised coordinates (the shape the four
families share), searched by the `Finset` form `Glue.binIdx` of `searchsorted`: an instance of `ExecGlue.Searched`.
The executed programs do not go through this file: each family has its own instance of `Searched` over the executed
`searchsortedG` (`RQWhole.searched`, `QuadWhole.searched`, `LinWhole.searched`, `CubicWhole.searched`).
-/

namespace SplineAssembly
open Glue


/-- per-bin piece in the normalised coordinate: g k θ for θ ∈ [0,1] -/
structure Pieces (K : ℕ) where
  xs : ℕ → ℝ
  ys : ℕ → ℝ
  g : ℕ → ℝ → ℝ
  hx : ∀ k < K, xs k < xs (k+1)
  g0 : ∀ k < K, g k 0 = 0
  g1 : ∀ k < K, g k 1 = ys (k+1) - ys k
  gmono : ∀ k < K, StrictMonoOn (g k) (Set.Icc 0 1)

variable {K : ℕ}

/-- the formula of bin k (what the code evaluates after gathering bin k's parameters) -/
noncomputable def binF (P : Pieces K) (k : ℕ) (x : ℝ) : ℝ := P.ys k + P.g k ((x - P.xs k) / (P.xs (k+1) - P.xs k))

noncomputable def spline (P : Pieces K) (eps x : ℝ) : ℝ := binF P (binIdx P.xs K eps x) x

theorem binF_strictMonoOn (P : Pieces K) (k : ℕ) (hk : k < K) :
    StrictMonoOn (binF P k) (Set.Icc (P.xs k) (P.xs (k+1))) := by
  intro a ha b hb hab
  have hw : 0 < P.xs (k+1) - P.xs k := sub_pos.mpr (P.hx k hk)
  have hθ : ∀ z ∈ Set.Icc (P.xs k) (P.xs (k+1)), (z - P.xs k) / (P.xs (k+1) - P.xs k) ∈ Set.Icc (0:ℝ) 1 := by
    intro z hz
    constructor
    · exact div_nonneg (sub_nonneg.mpr hz.1) hw.le
    · rw [div_le_one hw]; linarith [hz.2]
  have := P.gmono k hk (hθ a ha) (hθ b hb) (by
    apply div_lt_div_of_pos_right _ hw; linarith)
  simp only [binF]; linarith

theorem binF_left (P : Pieces K) (k : ℕ) (hk : k < K) : binF P k (P.xs k) = P.ys k := by
  simp [binF, P.g0 k hk]
theorem binF_right (P : Pieces K) (k : ℕ) (hk : k < K) : binF P k (P.xs (k+1)) = P.ys (k+1) := by
  have hw : P.xs (k+1) - P.xs k ≠ 0 := (sub_pos.mpr (P.hx k hk)).ne'
  simp [binF, div_self hw, P.g1 k hk]

theorem spec (P : Pieces K) (eps : ℝ) (hK : 0 < K) (heps : 0 < eps) : ExecGlue.SearchSpec P.xs K (binIdx P.xs K eps) :=
  fun x hlo hhi => binSearch_spec P.xs K eps x hK heps P.hx hlo hhi

theorem searched (P : Pieces K) (eps : ℝ) (hK : 0 < K) (heps : 0 < eps) :
    ExecGlue.Searched K P.xs P.ys (P.xs 0) (P.xs K) (P.ys 0) (P.ys K) (binF P) (binIdx P.xs K eps) (spline P eps) where
  pos := hK
  x0 := rfl
  xK := rfl
  y0 := rfl
  yK := rfl
  xs_strict := P.hx
  spec := spec P eps hK heps
  eq := fun _ _ _ => rfl
  left := binF_left P
  right := binF_right P
  mono := binF_strictMonoOn P

/-- on each closed bin the searched spline coincides with that bin's formula (at the right knot by continuity) -/
theorem spline_eq_binF (P : Pieces K) (eps : ℝ) (hK : 0 < K) (heps : 0 < eps)
    (spec : ∀ x, P.xs 0 ≤ x → x ≤ P.xs K →
      let i := binIdx P.xs K eps x
      i < K ∧ P.xs i ≤ x ∧ (x < P.xs (i+1) ∨ (i + 1 = K ∧ x = P.xs K)))
    (hmono : ∀ j k, j ≤ k → k ≤ K → P.xs j ≤ P.xs k)
    (k : ℕ) (hk : k < K) (x : ℝ) (hx : x ∈ Set.Icc (P.xs k) (P.xs (k+1))) :
    spline P eps x = binF P k x := (searched P eps hK heps).eqOn_bin k hk hx

/-- C09 for any family: the searched K-bin spline is strictly increasing on the whole box -/
theorem spline_strictMonoOn (P : Pieces K) (eps : ℝ) (hK : 0 < K) (heps : 0 < eps) :
    StrictMonoOn (spline P eps) (Set.Icc (P.xs 0) (P.xs K)) := (searched P eps hK heps).strictMonoOn

theorem spline_left (P : Pieces K) (eps : ℝ) (hK : 0 < K) (heps : 0 < eps) : spline P eps (P.xs 0) = P.ys 0 :=
  (searched P eps hK heps).endpoints.1


end SplineAssembly
