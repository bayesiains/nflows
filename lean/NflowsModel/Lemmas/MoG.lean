import NflowsModel.Lemmas.Gaussian
import Mathlib.Tactic

namespace MoG

noncomputable section
open MeasureTheory ProbabilityTheory Real Finset

variable {M : ℕ}
def mogTerm (logpi μ σ : Fin M → ℝ) (x : ℝ) (k : Fin M) : ℝ :=
  logpi k - (1/2) * (Real.log (2*π) + 2 * Real.log (σ k) + ((x - μ k) / σ k)^2)
/-- one feature of `MixtureOfGaussiansMADE.log_prob` (nn/nde/made.py:337-350) before the sum over features:
    logsumexp_k of the components -/
def mogLogp (logpi μ σ : Fin M → ℝ) (x : ℝ) : ℝ := Real.log (∑ k, Real.exp (mogTerm logpi μ σ x k))

def var (s : ℝ) (hs : 0 < s) : NNReal := ⟨s^2, by positivity⟩
@[simp] theorem var_coe (s : ℝ) (hs : 0 < s) : ((var s hs : NNReal) : ℝ) = s^2 := rfl
theorem var_ne_zero (s : ℝ) (hs : 0 < s) : var s hs ≠ 0 := by
  intro h; have := congrArg NNReal.toReal h
  rw [var_coe] at this; simp at this; exact hs.ne' this

theorem term_eq (logpi μ σ : Fin M → ℝ) (hσ : ∀ k, 0 < σ k) (x : ℝ) (k : Fin M) :
    Real.exp (mogTerm logpi μ σ x k) = Real.exp (logpi k) * gaussianPDFReal (μ k) (var (σ k) (hσ k)) x := by
  rw [Gaussian.gaussianPDFReal_eq_exp (μ k) x (hσ k) (var_coe _ _), ← Real.exp_add, mogTerm]
  congr 1
  ring

theorem mog_feature_normalised (logpi μ σ : Fin M → ℝ) (hσ : ∀ k, 0 < σ k) (hpi : ∑ k, Real.exp (logpi k) = 1) :
    ∫ x, Real.exp (mogLogp logpi μ σ x) = 1 := by
  have hpos : ∀ x, 0 < ∑ k, Real.exp (mogTerm logpi μ σ x k) := by
    intro x
    have hM : (univ : Finset (Fin M)).Nonempty := by
      by_contra hc
      rw [Finset.not_nonempty_iff_eq_empty] at hc
      rw [hc] at hpi; simp at hpi
    exact Finset.sum_pos (fun k _ => Real.exp_pos _) hM
  have h1 : ∀ x, Real.exp (mogLogp logpi μ σ x) = ∑ k, Real.exp (logpi k) * gaussianPDFReal (μ k) (var (σ k) (hσ k)) x := by
    intro x; unfold mogLogp; rw [Real.exp_log (hpos x)]
    exact Finset.sum_congr rfl (fun k _ => term_eq logpi μ σ hσ x k)
  simp_rw [h1]
  exact (Gaussian.integral_mixture _ _ fun k => integral_gaussianPDFReal_eq_one _ (var_ne_zero _ (hσ k))).trans hpi

end
end MoG
