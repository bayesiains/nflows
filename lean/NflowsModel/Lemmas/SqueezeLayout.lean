import NflowsModel.Lemmas.ViewLayout
import Mathlib.Tactic.Ring
import Mathlib.Tactic.Linarith
/-!
# Lemmas/SqueezeLayout — `SqueezeTransform` as strided views (reshape.py:28-68), for EVERY factor `f`

forward:  `x.view(b, c, h/f, f, w/f, f).permute(0, 1, 3, 5, 2, 4)` then a contiguous view `[b, c·f·f, h/f, w/f]`;
inverse:  `y.view(b, c, f, f, h, w).permute(0, 1, 4, 2, 5, 3)` then a contiguous view `[b, c, h·f, w·f]`.
With image height `Ho·f` and width `Wo·f` (the constructor-accepted sizes) the element read at the permuted index is a
polynomial identity between flat offsets, closed by `ring` with all sizes symbolic.
-/
namespace View
variable {α : Type} [Inhabited α]

theorem squeeze_forward_layout (X : Array α) (B C Ho Wo f b c fi fj i j : Nat) :
    (((ofArray X [B, C, Ho * f, Wo * f]).reshape [B, C, Ho, f, Wo, f]).permute [0, 1, 3, 5, 2, 4]).get [b, c, fi, fj, i, j]
      = (ofArray X [B, C, Ho * f, Wo * f]).get [b, c, i * f + fi, j * f + fj] := by
  refine get_congr rfl ?_
  simp only [permute, reshape, ofArray, rowMajor, dot, List.map, List.getD_cons_succ, List.getD_cons_zero, List.foldl]
  ring

theorem squeeze_output_channel (Y : Array α) (B C Ho Wo f b c fi fj i j : Nat) :
    ((ofArray Y [B, C * f * f, Ho, Wo]).reshape [B, C, f, f, Ho, Wo]).get [b, c, fi, fj, i, j]
      = (ofArray Y [B, C * f * f, Ho, Wo]).get [b, (c * f + fi) * f + fj, i, j] := by
  refine get_congr rfl ?_
  simp only [reshape, ofArray, rowMajor, dot, List.foldl]
  ring

theorem squeeze_inverse_layout (Y : Array α) (B C Ho Wo f b c fi fj i j : Nat) :
    (((ofArray Y [B, C * f * f, Ho, Wo]).reshape [B, C, f, f, Ho, Wo]).permute [0, 1, 4, 2, 5, 3]).get [b, c, i, fi, j, fj]
      = (ofArray Y [B, C * f * f, Ho, Wo]).get [b, (c * f + fi) * f + fj, i, j] := by
  refine get_congr rfl ?_
  simp only [permute, reshape, ofArray, rowMajor, dot, List.map, List.getD_cons_succ, List.getD_cons_zero, List.foldl]
  ring

theorem unsqueeze_output_pixel (X : Array α) (B C Ho Wo f b c fi fj i j : Nat) :
    ((ofArray X [B, C, Ho * f, Wo * f]).reshape [B, C, Ho, f, Wo, f]).get [b, c, i, fi, j, fj]
      = (ofArray X [B, C, Ho * f, Wo * f]).get [b, c, i * f + fi, j * f + fj] := by
  refine get_congr rfl ?_
  simp only [reshape, ofArray, rowMajor, dot, List.foldl]
  ring

end View
