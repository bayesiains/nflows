import NflowsModel.Lemmas.DualXNonlin
/-!
# Lemmas/DualXSpline — homomorphisms of `XOps`: zero tangents stay zero, value components see the real run (C16)

* `XHom o₁ o₂ φ`: `φ` commutes with twenty primitives of `XOps` (all but `atan2`, `floorInt`, `toFloat`, `isFinite`, so
  programs that use one of these, `linSpline` forward and `cubicSpline`, are not covered); the list programs of
  `Core/Basic.lean`, the knot pipeline of `Core/Spline.lean` and the element-wise transforms of `Core/Nonlin.lean` commute with
  any `XHom` (`XHom.softmaxG … XHom.rqKnots`, `XHom.searchsortedG`, `XHom.evalX`, `XHom.nonlinEl`).
* two instances over the reals: `lift_hom` (`a ↦ (a, 0)`: parameters with zero tangent stay zero-tangent through the
  whole pipeline) and `fst_hom` (value component: comparisons / the bin search of the dual program see only values; taking
  gradients never changes outputs or errors, `nonlinEl_value`).
* what every executed spline program needs: the domain check and the guard of the tails wrapper on dual numbers read the value
  component (`d_guard`, `tailsWrap_dual_unfold`); the form in which the input-direction headlines are stated (`DualRes.headline`);
  `DualRun`, the form of the cores along curves.

The RQ, quadratic and linear spline files (`Lemmas/DualXRQ.lean`, `DualXQuad.lean`, `DualXLin.lean`) take the same four steps under
different names.  (1) The lists the dual program builds from the dual parameters are `DualXParam.IsDualL` of the real lists along the
curve (`knots_dualL`, `gathered_dualL`; `hts_dualL … envG_dualL`; `pdf_dualL`, `cdf_dualL`).  (2) The control flow of the dual run
reads value components, so at `t` it selects the bin of the real run (`fst_hom` through `XHom.searchsortedG`, `searchsortedG_dual_at`;
linear forward `d_floorInt`); strictly inside a bin the real run stays in that bin near `t` (`searchsortedG_dual_bin`, or continuity
of the knots with the `exec_eq_bin` of the `…Whole` file).  (3) The bin's terms are `Smooth` there, so `evalD_curve` /
`evalX_isDual` make the outputs `IsDual`: a `DualRun` (`rqSpline_dual_open_curve`, `quadRest_dual_param_core`,
`linSpline_dual_param_core`).  (4) `DualRun.dualRes`, then `DualRes.values` along the line of parameters (`*_dual_param`), or
`DualRes.headline` with the derivative of the value for the seed `(x, 1)` (`rqSpline_dual`, `quadSpline_dual`; the linear file reads
the seed off its closed-domain core, `linSpline_dual_values`).  The cubic files do not: there the parameters have zero tangent (`XHom`
lifts) and the input direction is read off `DualXCubic.exec_dual`.
-/
open NF DualSound Filter Topology

namespace DualX

structure XHom {α β : Type} (o₁ : XOps α) (o₂ : XOps β) (φ : α → β) : Prop where
  ofRat : ∀ n d, φ (o₁.ofRat n d) = o₂.ofRat n d
  ofFloat : ∀ x, φ (o₁.ofFloat x) = o₂.ofFloat x
  add : ∀ a b, φ (o₁.add a b) = o₂.add (φ a) (φ b)
  sub : ∀ a b, φ (o₁.sub a b) = o₂.sub (φ a) (φ b)
  mul : ∀ a b, φ (o₁.mul a b) = o₂.mul (φ a) (φ b)
  div : ∀ a b, φ (o₁.div a b) = o₂.div (φ a) (φ b)
  neg : ∀ a, φ (o₁.neg a) = o₂.neg (φ a)
  exp : ∀ a, φ (o₁.exp a) = o₂.exp (φ a)
  log : ∀ a, φ (o₁.log a) = o₂.log (φ a)
  sqrt : ∀ a, φ (o₁.sqrt a) = o₂.sqrt (φ a)
  lt : ∀ a b, o₁.lt a b = o₂.lt (φ a) (φ b)
  le : ∀ a b, o₁.le a b = o₂.le (φ a) (φ b)
  nextUp : ∀ a, φ (o₁.nextUp a) = o₂.nextUp (φ a)
  tanh : ∀ a, φ (o₁.tanh a) = o₂.tanh (φ a)
  atan : ∀ a, φ (o₁.atan a) = o₂.atan (φ a)
  tan : ∀ a, φ (o₁.tan a) = o₂.tan (φ a)
  cos : ∀ a, φ (o₁.cos a) = o₂.cos (φ a)
  sin : ∀ a, φ (o₁.sin a) = o₂.sin (φ a)
  abs : ∀ a, φ (o₁.abs a) = o₂.abs (φ a)
  floor : ∀ a, φ (o₁.floor a) = o₂.floor (φ a)

namespace XHom
variable {α β : Type} {o₁ : XOps α} {o₂ : XOps β} {φ : α → β} (h : XHom o₁ o₂ φ)
include h

theorem zero : φ o₁.zero = o₂.zero := h.ofRat 0 1
theorem one : φ o₁.one = o₂.one := h.ofRat 1 1
theorem ofNat (n : ℕ) : φ (o₁.ofNat n) = o₂.ofNat n := h.ofRat n 1

theorem ite_lt (a b u v : α) :
    φ (if o₁.lt a b then u else v) = if o₂.lt (φ a) (φ b) then φ u else φ v := by
  rw [h.lt a b]; split_ifs <;> rfl

theorem minA (a b : α) : φ (o₁.minA a b) = o₂.minA (φ a) (φ b) := h.ite_lt b a b a
theorem maxA (a b : α) : φ (o₁.maxA a b) = o₂.maxA (φ a) (φ b) := h.ite_lt a b b a

theorem log1p (x : α) : φ (o₁.log1p x) = o₂.log1p (φ x) := by
  unfold XOps.log1p
  simp only [← h.add, ← h.one, ← h.le]
  split_ifs
  · rfl
  · simp only [h.div, h.mul, h.log, h.sub, h.add, h.one]

theorem softplusB (b x : α) : φ (o₁.softplusB b x) = o₂.softplusB (φ b) (φ x) := by
  unfold XOps.softplusB
  simp only [← h.mul, ← h.ofRat 20 1, ← h.lt]
  split_ifs
  · rfl
  · simp only [h.div, h.log1p, h.exp, h.mul]

theorem foldl_add (xs : List α) (acc : α) :
    φ (xs.foldl o₁.add acc) = (xs.map φ).foldl o₂.add (φ acc) := by
  induction xs generalizing acc with
  | nil => rfl
  | cons a t ih => simp only [List.foldl_cons, List.map_cons]; rw [ih, h.add]

theorem sumG (xs : List α) : φ (NF.sumG o₁ xs) = NF.sumG o₂ (xs.map φ) := by
  unfold NF.sumG; rw [h.foldl_add, h.zero]

theorem foldl_max (xs : List α) (acc : α) :
    φ (xs.foldl (fun m y => if o₁.lt m y then y else m) acc)
      = (xs.map φ).foldl (fun m y => if o₂.lt m y then y else m) (φ acc) := by
  induction xs generalizing acc with
  | nil => rfl
  | cons a t ih => simp only [List.foldl_cons, List.map_cons]; rw [ih, h.ite_lt]

theorem maxG (xs : List α) : φ (NF.maxG o₁ xs) = NF.maxG o₂ (xs.map φ) := by
  cases xs with
  | nil => exact h.zero
  | cons a t => simp only [NF.maxG, List.map_cons]; exact h.foldl_max t a

theorem softmaxG (xs : List α) : (NF.softmaxG o₁ xs).map φ = NF.softmaxG o₂ (xs.map φ) := by
  have hes : (xs.map (fun x => o₁.exp (o₁.sub x (NF.maxG o₁ xs)))).map φ
      = (xs.map φ).map (fun x => o₂.exp (o₂.sub x (NF.maxG o₂ (xs.map φ)))) := by
    rw [List.map_map, List.map_map]
    apply List.map_congr_left
    intro x _
    simp only [Function.comp, h.exp, h.sub, h.maxG]
  simp only [NF.softmaxG]
  rw [← hes, ← h.sumG]
  simp only [List.map_map]
  apply List.map_congr_left
  intro x _
  simp only [Function.comp, h.div]

theorem cumsum_foldl (xs : List α) (st : α × List α) :
    (φ (xs.foldl (fun (st : α × List α) x => (o₁.add st.1 x, o₁.add st.1 x :: st.2)) st).1,
      (xs.foldl (fun (st : α × List α) x => (o₁.add st.1 x, o₁.add st.1 x :: st.2)) st).2.map φ)
      = (xs.map φ).foldl (fun (st : β × List β) x => (o₂.add st.1 x, o₂.add st.1 x :: st.2)) (φ st.1, st.2.map φ) := by
  induction xs generalizing st with
  | nil => rfl
  | cons a t ih =>
    simp only [List.foldl_cons, List.map_cons]
    rw [ih]
    simp only [h.add, List.map_cons]

theorem cumsumG (xs : List α) : (NF.cumsumG o₁ xs).map φ = NF.cumsumG o₂ (xs.map φ) := by
  have := h.cumsum_foldl xs (o₁.zero, [])
  simp only [List.map_nil, h.zero] at this
  show ((xs.foldl (fun (st : α × List α) x => (o₁.add st.1 x, o₁.add st.1 x :: st.2)) (o₁.zero, [])).2.reverse).map φ
    = ((xs.map φ).foldl (fun (st : β × List β) x => (o₂.add st.1 x, o₂.add st.1 x :: st.2)) (o₂.zero, [])).2.reverse
  rw [← this, List.map_reverse]

omit h in
theorem setLast (xs : List α) (v : α) : (NF.setLast xs v).map φ = NF.setLast (xs.map φ) (φ v) := by
  unfold NF.setLast
  rw [← List.map_reverse]
  cases xs.reverse with
  | nil => rfl
  | cons a t => simp only [List.map_cons, List.map_reverse]

omit h in
theorem setFirst (xs : List α) (v : α) : (NF.setFirst xs v).map φ = NF.setFirst (xs.map φ) (φ v) := by
  cases xs <;> rfl

theorem diffsG : ∀ xs : List α, (NF.diffsG o₁ xs).map φ = NF.diffsG o₂ (xs.map φ)
  | [] => rfl
  | [_] => rfl
  | a :: b :: r => by
    simp only [NF.diffsG, List.map_cons, h.sub]
    have := diffsG (b :: r)
    simp only [List.map_cons] at this
    rw [this]

theorem flooredSoftmax (m : Float) (u : List α) :
    (NF.flooredSoftmax o₁ m u).map φ = NF.flooredSoftmax o₂ m (u.map φ) := by
  unfold NF.flooredSoftmax
  simp only [List.length_map]
  rw [← h.softmaxG, List.map_map, List.map_map]
  apply List.map_congr_left
  intro x _
  simp only [Function.comp, h.add, h.mul, h.ofFloat]

theorem rqKnots (lo hi : Float) (w : List α) :
    ((NF.rqKnots o₁ lo hi w).1.map φ, (NF.rqKnots o₁ lo hi w).2.map φ) = NF.rqKnots o₂ lo hi (w.map φ) := by
  have hc : ((o₁.zero :: NF.cumsumG o₁ w).map (fun c => o₁.add (o₁.mul (o₁.ofFloat (hi - lo)) c) (o₁.ofFloat lo))).map φ
      = (o₂.zero :: NF.cumsumG o₂ (w.map φ)).map (fun c => o₂.add (o₂.mul (o₂.ofFloat (hi - lo)) c) (o₂.ofFloat lo)) := by
    rw [← h.cumsumG, ← h.zero, ← List.map_cons, List.map_map, List.map_map]
    apply List.map_congr_left
    intro x _
    simp only [Function.comp, h.add, h.mul, h.ofFloat]
  simp only [NF.rqKnots]
  rw [h.diffsG, XHom.setLast, XHom.setFirst, hc, h.ofFloat, h.ofFloat]

theorem searchsortedG (eps : Float) (locs : List α) (x : α) :
    NF.searchsortedG o₁ eps locs x = NF.searchsortedG o₂ eps (locs.map φ) (φ x) := by
  unfold NF.searchsortedG
  rw [← List.map_reverse]
  have hl : ∀ l : List α, (l.filter (fun l => o₁.ge x l)).length = ((l.map φ).filter (fun l => o₂.ge (φ x) l)).length := by
    intro l
    rw [List.filter_map, List.length_map]
    congr 2
    funext l
    simp only [Function.comp, XOps.ge, h.le]
  cases locs.reverse with
  | nil => simp only [List.map_nil]; rw [hl]; rfl
  | cons a t =>
    simp only [List.map_cons]
    rw [hl]
    simp only [List.map_reverse, List.map_cons, h.maxA, h.add, h.ofFloat, h.nextUp]

omit h in
theorem getI_ok (xs : List α) (i : Int) (v : α) (hv : NF.getI xs i = .ok v) : NF.getI (xs.map φ) i = .ok (φ v) := by
  unfold NF.getI at *
  split_ifs at hv ⊢ with hi
  rw [List.getElem?_map]
  cases hx : xs[i.toNat]? with
  | none => rw [hx] at hv; simp at hv
  | some y => rw [hx] at hv; simp only [Option.map_some]; injection hv with hv; rw [hv]

theorem evalX (l : List α) (E : Expr) : φ (NF.evalX o₁ l E) = NF.evalX o₂ (l.map φ) E := by
  unfold NF.evalX
  induction E with
  | var i =>
    show φ (l.getD i o₁.zero) = (l.map φ).getD i o₂.zero
    rw [← h.zero]; simp only [List.getD_eq_getElem?_getD, List.getElem?_map]
    cases l[i]? <;> rfl
  | lit n d => exact h.ofRat n d
  | add a b iha ihb => exact (h.add _ _).trans (by rw [iha, ihb]; rfl)
  | sub a b iha ihb => exact (h.sub _ _).trans (by rw [iha, ihb]; rfl)
  | mul a b iha ihb => exact (h.mul _ _).trans (by rw [iha, ihb]; rfl)
  | div a b iha ihb => exact (h.div _ _).trans (by rw [iha, ihb]; rfl)
  | neg a iha => exact (h.neg _).trans (by rw [iha]; rfl)
  | exp a iha => exact (h.exp _).trans (by rw [iha]; rfl)
  | log a iha => exact (h.log _).trans (by rw [iha]; rfl)
  | sqrt a iha => exact (h.sqrt _).trans (by rw [iha]; rfl)
  | ifLt a b u v iha ihb ihu ihv =>
    refine (h.ite_lt _ _ _ _).trans ?_
    rw [iha, ihb, ihu, ihv]; rfl

/-! ### the element-wise transforms of `Core/Nonlin.lean` commute with any homomorphism -/

theorem softplus (x : α) : φ (o₁.softplus x) = o₂.softplus (φ x) := by
  unfold XOps.softplus; rw [h.softplusB, h.one]

theorem sigmoid (x : α) : φ (o₁.sigmoid x) = o₂.sigmoid (φ x) := by
  unfold XOps.sigmoid; simp only [h.div, h.add, h.exp, h.neg, h.one]

theorem clamp (lo hi x : α) : φ (o₁.clamp lo hi x) = o₂.clamp (φ lo) (φ hi) (φ x) := by
  unfold XOps.clamp; rw [h.minA, h.maxA]

def mapRes (φ : α → β) (r : Except Err (α × α)) : Except Err (β × β) :=
  match r with | .ok p => .ok (φ p.1, φ p.2) | .error err => .error err

omit h in
theorem mapRes_ok (p : α × α) : mapRes φ (.ok p) = .ok (φ p.1, φ p.2) := rfl
omit h in
theorem mapRes_error (err : Err) : mapRes φ (.error err : Except Err (α × α)) = .error err := rfl

theorem expT (inv : Bool) (x : α) : mapRes φ (NF.expT o₁ inv x) = NF.expT o₂ inv (φ x) := by
  unfold NF.expT
  cases inv
  · simp only [Bool.false_eq_true, if_false, mapRes_ok, h.exp]
  · simp only [if_true, ← h.zero, ← h.le, apply_ite (mapRes φ), mapRes_ok, mapRes_error, h.log, h.neg]

theorem tanhT (inv : Bool) (x : α) : mapRes φ (NF.tanhT o₁ inv x) = NF.tanhT o₂ inv (φ x) := by
  unfold NF.tanhT
  cases inv
  · simp only [Bool.false_eq_true, if_false, mapRes_ok, h.tanh, h.mul, h.sub, h.softplus, h.ofFloat]
  · have hg : (o₂.le (φ x) (o₂.neg o₂.one) || o₂.ge (φ x) o₂.one) = (o₁.le x (o₁.neg o₁.one) || o₁.ge x o₁.one) := by
      simp only [XOps.ge, ← h.one, ← h.neg, ← h.le]
    simp only [if_true, hg, apply_ite (mapRes φ), mapRes_ok, mapRes_error, h.mul, h.log, h.div, h.add, h.sub, h.neg,
      h.ofFloat, h.one]

theorem affineT (sc sh : α) (inv : Bool) (x : α) :
    mapRes φ (NF.affineT o₁ sc sh inv x) = NF.affineT o₂ (φ sc) (φ sh) inv (φ x) := by
  unfold NF.affineT
  cases inv <;> simp only [Bool.false_eq_true, if_false, if_true, mapRes_ok, h.add, h.mul, h.div, h.sub, h.neg, h.log, h.abs]

theorem scaleShiftT (sc sh : α) (inv : Bool) (x : α) :
    mapRes φ (NF.scaleShiftT o₁ sc sh inv x) = NF.scaleShiftT o₂ (φ sc) (φ sh) inv (φ x) := by
  unfold NF.scaleShiftT
  cases inv <;> simp only [Bool.false_eq_true, if_false, if_true, mapRes_ok, h.add, h.mul, h.div, h.sub, h.neg, h.log]

theorem gluT (ctx : α) (inv : Bool) (x : α) :
    mapRes φ (NF.gluT o₁ ctx inv x) = NF.gluT o₂ (φ ctx) inv (φ x) := by
  unfold NF.gluT
  cases inv <;> simp only [Bool.false_eq_true, if_false, if_true, mapRes_ok, h.mul, h.div, h.neg, h.log, h.sigmoid]

theorem leakyReluT (slope : Float) (ls : α) (inv : Bool) (x : α) :
    mapRes φ (NF.leakyReluT o₁ slope ls inv x) = NF.leakyReluT o₂ slope (φ ls) inv (φ x) := by
  unfold NF.leakyReluT
  cases inv <;>
    simp only [Bool.false_eq_true, if_false, if_true, mapRes_ok, h.ite_lt, h.mul, h.neg, h.ofFloat, h.zero, h.one]

theorem cauchyT (inv : Bool) (x : α) : mapRes φ (NF.cauchyT o₁ inv x) = NF.cauchyT o₂ inv (φ x) := by
  unfold NF.cauchyT
  cases inv
  · simp only [Bool.false_eq_true, if_false, mapRes_ok, h.add, h.mul, h.atan, h.sub, h.log, h.ofFloat, h.one]
  · have hg : (o₂.lt (φ x) o₂.zero || o₂.gt (φ x) o₂.one) = (o₁.lt x o₁.zero || o₁.gt x o₁.one) := by
      simp only [XOps.gt, ← h.one, ← h.zero, ← h.lt]
    simp only [if_true, hg, apply_ite (mapRes φ), mapRes_ok, mapRes_error, h.tan, h.mul, h.sub, h.neg, h.log, h.add,
      h.ofFloat, h.one]

theorem sigmoidT (T : α) (eps : Float) (inv : Bool) (x : α) :
    mapRes φ (NF.sigmoidT o₁ T eps inv x) = NF.sigmoidT o₂ (φ T) eps inv (φ x) := by
  unfold NF.sigmoidT
  cases inv
  · simp only [Bool.false_eq_true, if_false, mapRes_ok, h.sigmoid, h.mul, h.sub, h.log, h.softplus, h.neg]
  · have hg : (o₂.lt (φ x) o₂.zero || o₂.gt (φ x) o₂.one) = (o₁.lt x o₁.zero || o₁.gt x o₁.one) := by
      simp only [XOps.gt, ← h.one, ← h.zero, ← h.lt]
    simp only [if_true, hg, apply_ite (mapRes φ), mapRes_ok, mapRes_error, h.mul, h.div, h.sub, h.log, h.log1p, h.neg,
      h.clamp, h.softplus, h.ofFloat, h.one]

theorem logTanhT (cut invCut alpha beta : Float) (inv : Bool) (x : α) :
    mapRes φ (NF.logTanhT o₁ cut invCut alpha beta inv x) = NF.logTanhT o₂ cut invCut alpha beta inv (φ x) := by
  unfold NF.logTanhT
  cases inv
  · have hg1 : o₂.gt (φ x) (o₂.ofFloat cut) = o₁.gt x (o₁.ofFloat cut) := by
      simp only [XOps.gt, ← h.ofFloat, ← h.lt]
    have hg2 : o₂.lt (φ x) (o₂.neg (o₂.ofFloat cut)) = o₁.lt x (o₁.neg (o₁.ofFloat cut)) := by
      simp only [← h.ofFloat, ← h.neg, ← h.lt]
    simp only [Bool.false_eq_true, if_false, hg1, hg2, apply_ite (mapRes φ), mapRes_ok, h.mul, h.log, h.div, h.neg,
      h.tanh, h.sub, h.ofFloat, h.one]
  · have hg1 : o₂.gt (φ x) (o₂.ofFloat invCut) = o₁.gt x (o₁.ofFloat invCut) := by
      simp only [XOps.gt, ← h.ofFloat, ← h.lt]
    have hg2 : o₂.lt (φ x) (o₂.neg (o₂.ofFloat invCut)) = o₁.lt x (o₁.neg (o₁.ofFloat invCut)) := by
      simp only [← h.ofFloat, ← h.neg, ← h.lt]
    simp only [if_true, hg1, hg2, apply_ite (mapRes φ), mapRes_ok, h.mul, h.log, h.div, h.neg, h.exp, h.add, h.sub,
      h.ofFloat, h.one]

theorem nonlinEl (kind : String) (ds : Array Float) (ps : List α) (inv : Bool) (x : α) :
    mapRes φ (NF.nonlinEl o₁ kind ds ps inv x) = NF.nonlinEl o₂ kind ds (ps.map φ) inv (φ x) := by
  have hp : ∀ k, (ps.map φ).getD k o₂.zero = φ (ps.getD k o₁.zero) := by
    intro k; rw [← h.zero]; simp only [List.getD_eq_getElem?_getD, List.getElem?_map]
    cases ps[k]? <;> rfl
  unfold NF.nonlinEl
  simp only [hp]
  split
  · exact h.expT _ _
  · exact h.tanhT _ _
  · exact h.logTanhT _ _ _ _ _ _
  · exact h.leakyReluT _ _ _ _
  · exact h.sigmoidT _ _ _ _
  · exact h.sigmoidT _ _ _ _
  · exact h.cauchyT _ _
  · exact h.cauchyT _ _
  · exact h.affineT _ _ _ _
  · rw [mapRes_ok, h.zero]
  · rfl

end XHom

theorem rqKnots_snd {α : Type} (o : XOps α) (lo hi : Float) (w : List α) :
    (rqKnots o lo hi w).2 = diffsG o (rqKnots o lo hi w).1 := rfl

theorem hom_getD {α β : Type} {φ : α → β} (l : List α) (k : ℕ) (d : α) : (l.map φ).getD k (φ d) = φ (l.getD k d) := by
  simp only [List.getD_eq_getElem?_getD, List.getElem?_map]
  cases l[k]? <;> rfl

theorem hom_zipWith {α β : Type} {φ : α → β} (f : α → α → α) (g : β → β → β) (hfg : ∀ a b, φ (f a b) = g (φ a) (φ b)) :
    ∀ a b : List α, (List.zipWith f a b).map φ = List.zipWith g (a.map φ) (b.map φ)
  | [], _ => by simp
  | _ :: _, [] => by simp
  | x :: a, y :: b => by
    simp only [List.zipWith_cons_cons, List.map_cons, hfg, hom_zipWith f g hfg a b]

noncomputable section
variable (e : Float → ℝ)

def ι (a : ℝ) : ℝ × ℝ := (a, 0)

theorem lift_hom : XHom (NF.realX e) (dualX (NF.realX e)) ι where
  ofRat n d := (d_ofRat e n d).symm
  ofFloat x := (d_ofFloat e x).symm
  add a b := by simp [ι]
  sub a b := by simp [ι]
  mul a b := by simp [ι]
  div a b := by simp [ι]
  neg a := by simp [ι]
  exp a := by simp [ι]
  log a := by simp [ι]
  sqrt a := by rw [d_sqrt]; simp [ι]
  lt _ _ := rfl
  le _ _ := rfl
  nextUp _ := rfl
  tanh a := by rw [d_tanh]; simp [ι]
  atan a := by rw [d_atan]; simp [ι]
  tan a := by rw [d_tan]; simp [ι]
  cos a := by simp [ι]
  sin a := by simp [ι]
  abs a := by simp [ι]
  floor a := by rw [d_floor]; simp [ι]

theorem fst_hom : XHom (dualX (NF.realX e)) (NF.realX e) Prod.fst where
  ofRat _ _ := rfl
  ofFloat _ := rfl
  add _ _ := rfl
  sub _ _ := rfl
  mul _ _ := rfl
  div _ _ := rfl
  neg _ := rfl
  exp _ := rfl
  log _ := rfl
  sqrt _ := rfl
  lt _ _ := rfl
  le _ _ := rfl
  nextUp _ := rfl
  tanh _ := rfl
  atan _ := rfl
  tan _ := rfl
  cos _ := rfl
  sin _ := rfl
  abs _ := rfl
  floor _ := rfl

theorem fst_ι : Prod.fst ∘ ι = id := rfl

theorem evalX_dual (l : List (ℝ × ℝ)) (E : Expr) :
    evalX (dualX (NF.realX e)) l E = evalD (envOf l (0, 0)) E := by
  unfold evalX
  rw [d_zero]
  rfl

/-! ## Value projection / zero-tangent lifting of the element-wise transforms (every input, kinks and errors included) -/

/-- **taking gradients never changes outputs or errors**: the value components of the dual run of any element-wise
    transform are exactly the real run (same `.ok` values, same `.error`) — at every input, kinks included -/
theorem nonlinEl_value (kind : String) (dsF : Array Float) (ps : List (ℝ × ℝ)) (inv : Bool) (dx : ℝ × ℝ) :
    XHom.mapRes Prod.fst (nonlinEl (dualX (NF.realX e)) kind dsF ps inv dx)
      = nonlinEl (NF.realX e) kind dsF (ps.map Prod.fst) inv dx.1 :=
  (fst_hom e).nonlinEl kind dsF ps inv dx

theorem nonlinEl_lift (kind : String) (dsF : Array Float) (ps : List ℝ) (inv : Bool) (x : ℝ) :
    nonlinEl (dualX (NF.realX e)) kind dsF (ps.map ι) inv (ι x)
      = XHom.mapRes ι (nonlinEl (NF.realX e) kind dsF ps inv x) :=
  ((lift_hom e).nonlinEl kind dsF ps inv x).symm

theorem tailsWrap_dual_unfold (tb : Float) (dx : ℝ × ℝ) (inner : Box → Except Err ((ℝ × ℝ) × (ℝ × ℝ))) :
    tailsWrap (dualX (NF.realX e)) tb dx inner
      = if -e tb ≤ dx.1 ∧ dx.1 ≤ e tb then inner ⟨-tb, tb, -tb, tb⟩ else .ok (dx, (0, 0)) := by
  unfold tailsWrap
  simp only [XOps.ge, d_le, d_neg, d_ofFloat, d_zero, Bool.and_eq_true, decide_eq_true_eq]

/-! ## what every executed spline program needs -/

theorem d_guard (e : Float → ℝ) (lo hi : Float) (dX : ℝ × ℝ) (h0 : e lo ≤ dX.1) (h1 : dX.1 ≤ e hi) :
    ((dualX (NF.realX e)).lt dX ((dualX (NF.realX e)).ofFloat lo)
      || (dualX (NF.realX e)).lt ((dualX (NF.realX e)).ofFloat hi) dX) = false := by
  simp only [d_lt, d_ofFloat, Bool.or_eq_false_iff, decide_eq_false_iff_not, not_lt]
  exact ⟨h0, h1⟩

theorem DualRes.headline {F : ℝ → Except Err (ℝ × ℝ)} {r} {x : ℝ} {f g : ℝ → ℝ} (h : DualRes F x r)
    (hf : ∀ s, f s = outY (F s)) (hg : ∀ s, g s = outL (F s)) (hder : HasDerivAt f (Real.exp (g x)) x) :
    ∃ l' : ℝ, r = .ok ((f x, Real.exp (g x)), (g x, l')) ∧ HasDerivAt f (Real.exp (g x)) x ∧ HasDerivAt g l' x := by
  obtain ⟨v', l', hr, hv', hl'⟩ := h.values hf hg
  rw [hv'.unique hder] at hr
  exact ⟨l', hr, hder, hl'⟩

/-- what a spline core along curves proves, and what a layer asks of its element: the dual run `r` is accepted, the real program
    `F` is accepted NEAR `t` with outputs two curves, and the outputs of `r` are the (value, derivative) pairs of these curves
    at `t` (the hypotheses of `DualRes.intro'`; `DualRes` forgets the acceptance near `t`) -/
def DualRun (F : ℝ → Except Err (ℝ × ℝ)) (t : ℝ) (r : Except Err ((ℝ × ℝ) × (ℝ × ℝ))) : Prop :=
  ∃ (fy fl : ℝ → ℝ) (dy dl : ℝ × ℝ), r = .ok (dy, dl) ∧ (∀ᶠ s in 𝓝 t, F s = .ok (fy s, fl s)) ∧ IsDual fy t dy ∧ IsDual fl t dl

theorem DualRun.dualRes {F : ℝ → Except Err (ℝ × ℝ)} {t : ℝ} {r} (h : DualRun F t r) : DualRes F t r :=
  let ⟨_, _, _, _, hr, hF, hy, hl⟩ := h
  DualRes.intro' hr hF hy hl

end
end DualX
