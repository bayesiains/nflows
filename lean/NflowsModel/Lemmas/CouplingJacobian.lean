import NflowsModel.Lemmas.CouplingJacobianImg
/-!
# Lemmas/CouplingJacobian — the Jacobian of a row of the EXECUTED coupling layer on 2-D inputs (C01, C02, C03)

For the executed autoregressive transform `Lemmas/ARWhole.lean` / `Lemmas/FlowWholeND.lean` connect the returned
log-abs-det to the determinant of the row Jacobian (`ar_row_logdet`, `ar_row_abs_det`, `arRowDiffeo`).  For the executed
coupling layer (`couplingApply`, `Core/Structure.lean`) `Lemmas/CouplingJacobianImg.lean` does it for an item of `C·S`
entries of a `[B, C, S]` input, by the determinant theorem `RankedDet.det_of_masked` with the rank function "identity
entries first, then the transformed ones".  A row of a 2-D input is the item at `S = 1`: what is said here of the row map
`couplingRowMap` (channel by channel, its dependency structure, its determinant, `ld[b] = log |det J_b|`, differentiability
from the conditioner) is read off the item theorems at `S = 1` (§1, §2, §5).

The conditioner is an ARBITRARY function `net : Array ℝ → Array ℝ`, run — as coupling.py:82-88 does — on the identity
split: `params = net (idSplit x)`.  NO hypothesis on `net` is needed for the triangular structure (contrast `AutoregNet`
for MADE): the program itself hands it the identity channels only.  2-D inputs (`S = 1`), no unconditional transform.

The row-map statements are for BOTH passes (`inverse : Bool`; `couplingRun … false = couplingForward`,
`couplingRun … true = couplingInverse`): the inverse pass also hands the conditioner the identity channels only.

What a new element kind must supply.  For the Jacobian theorem `coupling_row_logdet`: the law `hdiag`, i.e. at every
transformed entry `HasDerivAt (couplingElMap …) (exp (couplingElLd … x_i)) x_i`; for the spline kinds it is obtained from
`LayerDerivMore.ElLawAt` of the dispatcher (`coupling_logdet_of_elLawAt`, and `ar_logdet_of_elLawAt` for `hdiag` of
`ARWhole.ar_row_logdet`; `CouplingJacobianImg` asks the same law of `entryElMap` at pixel `k % S` of channel `k / S`).  For
the round trip, the n-D part `couplingRowDiffeo` and the pipelines: a `CouplingFamily` — both orders of per-element
invertibility, NO element ever raises, and the law at EVERY real (`CouplingFamily.law` is `hdiag` for all parameters and
inputs).  It is stated at `S = 1` and demands totality, so the bounded spline kinds (which raise outside their box) are not
instances; the instances are RQ with linear tails, additive and affine.
-/
open MeasureTheory NF DualSound Properties.C03

namespace NF.CouplingJacobian
open NF.StructureExec NF.ARWhole

/-! ## 1. The row map of the executed pass (either direction); the 2-D layer is the layer of `CouplingJacobianImg` at `S = 1` -/

/-- row `b` of the executed pass in direction `inverse` (`couplingRun`: conditioner run on the identity split, then
    `couplingApply … inverse`) as a map `ℝ^C → ℝ^C`: the batch is `x` with row `b` replaced by `v` -/
noncomputable def couplingRowMap (e : Float → ℝ) (c : ElCfg) (mask : List ℝ) (B : Nat) (net : Array ℝ → Array ℝ)
    (inverse : Bool) (x : Array ℝ) (b : Nat) (v : Fin mask.length → ℝ) : Fin mask.length → ℝ :=
  rowOf (NF.realX e) mask.length b (couplingRun (NF.realX e) c mask B net inverse (setRow B mask.length x b v)).out

/-- the scalar map of channel `i` of row `b` at the conditioner output `params` (value semantics of the buffer: an
    element that raises leaves the input value) -/
noncomputable def couplingElMap (e : Float → ℝ) (c : ElCfg) (mask : List ℝ) (params : Array ℝ) (inverse : Bool)
    (b : Nat) (i : Fin mask.length) (s : ℝ) : ℝ :=
  applyEl (chanEl (NF.realX e) c mask params b i inverse) s

/-- the log-det the element of channel `i` of row `b` returns at `s` (zero if it raises) -/
noncomputable def couplingElLd (e : Float → ℝ) (c : ElCfg) (mask : List ℝ) (params : Array ℝ) (inverse : Bool)
    (b : Nat) (i : Fin mask.length) (s : ℝ) : ℝ :=
  ldOf (NF.realX e) (chanEl (NF.realX e) c mask params b i inverse s)

section flat
open NF.CouplingJacobianImg NF.CouplingConsequences

/-! At `S = 1` entry `i` of an item is channel `i`: the only work is `Nat.div_one`, `Nat.mod_one` inside the `Nat`-indexed
`isTk`, `entryEl`. -/

theorem isTk_one (e : Float → ℝ) (mask : List ℝ) (i : Fin mask.length) : isTk e mask 1 i.1 = isT (NF.realX e) mask i := by
  unfold isTk isT
  rw [Nat.div_one]

theorem entryEl_one (e : Float → ℝ) (c : ElCfg) (mask : List ℝ) (params : Array ℝ) (inverse : Bool) (b : Nat)
    (i : Fin mask.length) : entryEl e c mask 1 params inverse b i.1 = chanEl (NF.realX e) c mask params b i inverse := by
  unfold entryEl chanEl
  rw [Nat.div_one, Nat.mod_one]

theorem entryElMap_one (e : Float → ℝ) (c : ElCfg) (mask : List ℝ) (params : Array ℝ) (inverse : Bool) (b : Nat)
    (i : Fin mask.length) : entryElMap e c mask 1 params inverse b i.1 = couplingElMap e c mask params inverse b i := by
  unfold entryElMap couplingElMap
  rw [entryEl_one]

theorem entryElLd_one (e : Float → ℝ) (c : ElCfg) (mask : List ℝ) (params : Array ℝ) (inverse : Bool) (b : Nat)
    (i : Fin mask.length) : entryElLd e c mask 1 params inverse b i.1 = couplingElLd e c mask params inverse b i := by
  unfold entryElLd couplingElLd
  rw [entryEl_one]

/-- `StructureExec.coupling_ld_real_channels` without its hypothesis: over the reals, `ld[b]` is the sum over the
    channels of the element log-dets of the transformed channels (`0` where the element raised) -/
theorem coupling_ld_channels (e : Float → ℝ) (c : ElCfg) (mask : List ℝ) (B : Nat) (x params uparams : Array ℝ)
    (inverse : Bool) {b : Nat} (hb : b < B) :
    (couplingApply (NF.realX e) c mask B 1 x params inverse none uparams).ld[b]?
      = some (∑ i : Fin mask.length,
          if isT (NF.realX e) mask i then
            ldOf (NF.realX e) (chanEl (NF.realX e) c mask params b i inverse (rowOf (NF.realX e) mask.length b x i))
          else 0) := by
  rw [coupling_ld_channels_pixels e c mask 1 x params uparams inverse hb]
  congr 1
  refine Finset.sum_congr rfl fun i _ => ?_
  rw [Fin.sum_univ_one]
  unfold chanEl rowOf
  rw [realX_zero]
  rfl

theorem couplingRowMap_self (e : Float → ℝ) (c : ElCfg) (mask : List ℝ) (B : Nat) (net : Array ℝ → Array ℝ)
    (inverse : Bool) (x : Array ℝ) (hx : x.size = B * mask.length) (b : Nat) :
    couplingRowMap e c mask B net inverse x b (rowOf (NF.realX e) mask.length b x)
      = rowOf (NF.realX e) mask.length b (couplingRun (NF.realX e) c mask B net inverse x).out := by
  unfold couplingRowMap
  rw [setRow_rowOf e B _ x hx b]

theorem couplingRowMap_apply (e : Float → ℝ) (c : ElCfg) (mask : List ℝ) (B : Nat) (net : Array ℝ → Array ℝ)
    (inverse : Bool) (x : Array ℝ) {b : Nat} (hb : b < B) (v : Fin mask.length → ℝ) (i : Fin mask.length) :
    couplingRowMap e c mask B net inverse x b v i
      = if isT (NF.realX e) mask i then
          couplingElMap e c mask (net (idSplit (NF.realX e) mask B (setRow B mask.length x b v))) inverse b i (v i)
        else v i := by
  have h := item_apply e c mask 1 (Nat.mul_one _) inverse (fun z _ => net z) x #[] hb v i
  rwa [layer_one_eq_couplingRun, paramsOf_one, isTk_one, entryElMap_one] at h

theorem not_isT_of_mem_identityIdx (e : Float → ℝ) (mask : List ℝ) {ch : Nat}
    (h : ch ∈ identityIdx (NF.realX e) mask) (hlt : ch < mask.length) : isT (NF.realX e) mask ⟨ch, hlt⟩ = false := by
  have hd := maskDisjoint_real e mask ch h
  cases hT : isT (NF.realX e) mask ⟨ch, hlt⟩ with
  | false => rfl
  | true => exact absurd ((mem_transformIdx_iff (NF.realX e) mask ⟨ch, hlt⟩).2 hT) hd

/-- **dependency structure**: along any `v` that agrees with row `b` of `x` on the identity channels, identity outputs
    are the identity inputs and transformed output `i` is the scalar element map AT THE PARAMETERS OF `x` applied to
    `v i` — it depends on `v i` and the identity inputs only -/
theorem couplingRowMap_eq (e : Float → ℝ) (c : ElCfg) (mask : List ℝ) (B : Nat) (net : Array ℝ → Array ℝ)
    (inverse : Bool) (x : Array ℝ) (hx : x.size = B * mask.length) {b : Nat} (hb : b < B) (v : Fin mask.length → ℝ)
    (hv : ∀ i, isT (NF.realX e) mask i = false → v i = rowOf (NF.realX e) mask.length b x i) (i : Fin mask.length) :
    couplingRowMap e c mask B net inverse x b v i
      = if isT (NF.realX e) mask i then couplingElMap e c mask (net (idSplit (NF.realX e) mask B x)) inverse b i (v i)
        else v i := by
  have h := item_eq e c mask 1 (Nat.mul_one _) inverse (fun z _ => net z) x #[] hx hb v
    (fun k hk => hv k (by rwa [isTk_one] at hk)) i
  rwa [layer_one_eq_couplingRun, paramsOf_one, isTk_one, entryElMap_one] at h

/-! ## 2. C01: the Jacobian of the row map is triangular up to the mask's permutation -/

/-- the determinant of the Jacobian of the row map is the product of the element derivatives (`1` on identity
    channels) -/
theorem coupling_row_det (e : Float → ℝ) (c : ElCfg) (mask : List ℝ) (B : Nat) (net : Array ℝ → Array ℝ)
    (inverse : Bool) (x : Array ℝ) (hx : x.size = B * mask.length) {b : Nat} (hb : b < B)
    {L : (Fin mask.length → ℝ) →L[ℝ] (Fin mask.length → ℝ)}
    (hL : HasFDerivAt (couplingRowMap e c mask B net inverse x b) L (rowOf (NF.realX e) mask.length b x))
    (d : Fin mask.length → ℝ)
    (hdiag : ∀ i, isT (NF.realX e) mask i = true →
      HasDerivAt (couplingElMap e c mask (net (idSplit (NF.realX e) mask B x)) inverse b i) (d i)
        (rowOf (NF.realX e) mask.length b x i)) :
    LinearMap.det (L : (Fin mask.length → ℝ) →ₗ[ℝ] (Fin mask.length → ℝ))
      = ∏ i, if isT (NF.realX e) mask i then d i else 1 := by
  have h := coupling_item_det e c mask 1 (Nat.mul_one _) inverse (fun z _ => net z) x #[] hx hb (L := L)
    (by simp only [layer_one_eq_couplingRun]; exact hL) d
    (fun k hk => by
      rw [isTk_one] at hk
      rw [entryElMap_one, paramsOf_one]
      exact hdiag k hk)
  simpa only [isTk_one] using h

/-- **C01 (executed coupling layer)**: for ANY conditioner `net` (no hypothesis on it: it is run on the identity split),
    if the row map has Fréchet derivative `L` at row `b` of `x` and every transformed element obeys the per-element law
    (derivative of the element map = `exp` of the log-det it returns), then entry `b` of the log-abs-det the executed
    pass (either direction) returns is `l` with `|det L| = exp l` -/
theorem coupling_row_abs_det (e : Float → ℝ) (c : ElCfg) (mask : List ℝ) (B : Nat) (net : Array ℝ → Array ℝ)
    (inverse : Bool) (x : Array ℝ) (hx : x.size = B * mask.length) {b : Nat} (hb : b < B)
    {L : (Fin mask.length → ℝ) →L[ℝ] (Fin mask.length → ℝ)}
    (hL : HasFDerivAt (couplingRowMap e c mask B net inverse x b) L (rowOf (NF.realX e) mask.length b x))
    (hdiag : ∀ i, isT (NF.realX e) mask i = true →
      HasDerivAt (couplingElMap e c mask (net (idSplit (NF.realX e) mask B x)) inverse b i)
        (Real.exp (couplingElLd e c mask (net (idSplit (NF.realX e) mask B x)) inverse b i (rowOf (NF.realX e) mask.length b x i)))
        (rowOf (NF.realX e) mask.length b x i)) :
    ∃ l, (couplingRun (NF.realX e) c mask B net inverse x).ld[b]? = some l ∧ |L.det| = Real.exp l := by
  have h := coupling_item_abs_det e c mask 1 (Nat.mul_one _) inverse (fun z _ => net z) x #[] hx hb (L := L)
    (by simp only [layer_one_eq_couplingRun]; exact hL)
    (fun k hk => by
      rw [isTk_one] at hk
      rw [entryElMap_one, entryElLd_one, paramsOf_one]
      exact hdiag k hk)
  rwa [layer_one_eq_couplingRun] at h

end flat

/-- the `log` form: `ld[b] = log |det J_b|` -/
theorem coupling_row_logdet (e : Float → ℝ) (c : ElCfg) (mask : List ℝ) (B : Nat) (net : Array ℝ → Array ℝ)
    (inverse : Bool) (x : Array ℝ) (hx : x.size = B * mask.length) {b : Nat} (hb : b < B)
    {L : (Fin mask.length → ℝ) →L[ℝ] (Fin mask.length → ℝ)}
    (hL : HasFDerivAt (couplingRowMap e c mask B net inverse x b) L (rowOf (NF.realX e) mask.length b x))
    (hdiag : ∀ i, isT (NF.realX e) mask i = true →
      HasDerivAt (couplingElMap e c mask (net (idSplit (NF.realX e) mask B x)) inverse b i)
        (Real.exp (couplingElLd e c mask (net (idSplit (NF.realX e) mask B x)) inverse b i (rowOf (NF.realX e) mask.length b x i)))
        (rowOf (NF.realX e) mask.length b x i)) :
    (couplingRun (NF.realX e) c mask B net inverse x).ld[b]?
      = some (Real.log |LinearMap.det (L : (Fin mask.length → ℝ) →ₗ[ℝ] (Fin mask.length → ℝ))|) := by
  obtain ⟨l, hl, hdet⟩ := coupling_row_abs_det e c mask B net inverse x hx hb hL hdiag
  rw [hl]
  rw [ContinuousLinearMap.det] at hdet
  rw [hdet, Real.log_exp]

/-! ## 3. The per-element law discharged, both directions: additive, affine, RQ with linear tails

The laws are those of `couplingEl` at ANY layout `(Ft, S, b, t, s)` (`CouplingJacobianImg` §2, §8), read at `S = 1, s = 0`
(`chanEl`). -/

/-- number of transformed channels / position of channel `i` among them -/
noncomputable abbrev nT (e : Float → ℝ) (mask : List ℝ) : Nat := (transformIdx (NF.realX e) mask).length
noncomputable abbrev tpos (e : Float → ℝ) (mask : List ℝ) (i : Fin mask.length) : Nat :=
  (transformIdx (NF.realX e) mask).idxOf i.val

theorem tpos_lt (e : Float → ℝ) (mask : List ℝ) (i : Fin mask.length) (hi : isT (NF.realX e) mask i = true) :
    tpos e mask i < nT e mask :=
  (idxOf_transform (NF.realX e) mask ((mem_transformIdx_iff (NF.realX e) mask i).2 hi)).1

theorem couplingElMap_additive_hasDerivAt (e : Float → ℝ) (c : ElCfg) (hk : c.kind = "additive") (mask : List ℝ)
    (params : Array ℝ) (inverse : Bool) (b : Nat) (i : Fin mask.length) (x : ℝ) :
    HasDerivAt (couplingElMap e c mask params inverse b i) (Real.exp (couplingElLd e c mask params inverse b i x)) x :=
  couplingEl_additive_hasDerivAt e c hk _ 1 params inverse b _ 0 x

/-- affine coupling (both scale activations, both directions): the law holds for every parameter array at every real, as
    soon as the constant `1e-3` is read as a non-negative real -/
theorem couplingElMap_affine_hasDerivAt (e : Float → ℝ) (he : 0 ≤ e 1e-3) (c : ElCfg) (hk : c.kind = "affine")
    (mask : List ℝ) (params : Array ℝ) (inverse : Bool) (b : Nat) (i : Fin mask.length) (x : ℝ) :
    HasDerivAt (couplingElMap e c mask params inverse b i) (Real.exp (couplingElLd e c mask params inverse b i x)) x :=
  couplingEl_affine_hasDerivAt e he c hk _ 1 params inverse b _ 0 x

/-- RQ coupling with linear tails: the law holds for every parameter array at EVERY real (knots included), both
    directions -/
theorem couplingElMap_rq_tails_hasDerivAt (e : Float → ℝ) (c : ElCfg) (hc : RQTailsCfgValid e c)
    (hp : TailsWhole.PadExact e (tMD c) (tBe c)) (mask : List ℝ) (params : Array ℝ) (inverse : Bool) (b : Nat)
    (i : Fin mask.length) (x : ℝ) :
    HasDerivAt (couplingElMap e c mask params inverse b i) (Real.exp (couplingElLd e c mask params inverse b i x)) x := by
  have h := CouplingJacobianImg.entryElMap_rq_tails_hasDerivAt e c hc hp mask 1 params inverse b i.1 x
  rwa [entryElMap_one, entryElLd_one] at h

/-- **C01, additive coupling, either pass**: `|det J_b| = exp ld[b]` (both are `1`), whatever the conditioner -/
theorem coupling_additive_row_abs_det (e : Float → ℝ) (c : ElCfg) (hk : c.kind = "additive") (mask : List ℝ) (B : Nat)
    (net : Array ℝ → Array ℝ) (inverse : Bool) (x : Array ℝ) (hx : x.size = B * mask.length) {b : Nat} (hb : b < B)
    {L : (Fin mask.length → ℝ) →L[ℝ] (Fin mask.length → ℝ)}
    (hL : HasFDerivAt (couplingRowMap e c mask B net inverse x b) L (rowOf (NF.realX e) mask.length b x)) :
    ∃ l, (couplingRun (NF.realX e) c mask B net inverse x).ld[b]? = some l ∧ |L.det| = Real.exp l :=
  coupling_row_abs_det e c mask B net inverse x hx hb hL
    fun i _ => couplingElMap_additive_hasDerivAt e c hk mask _ inverse b i _

/-- **C01, affine coupling, either pass** -/
theorem coupling_affine_row_abs_det (e : Float → ℝ) (he : 0 ≤ e 1e-3) (c : ElCfg) (hk : c.kind = "affine")
    (mask : List ℝ) (B : Nat) (net : Array ℝ → Array ℝ) (inverse : Bool) (x : Array ℝ) (hx : x.size = B * mask.length)
    {b : Nat} (hb : b < B) {L : (Fin mask.length → ℝ) →L[ℝ] (Fin mask.length → ℝ)}
    (hL : HasFDerivAt (couplingRowMap e c mask B net inverse x b) L (rowOf (NF.realX e) mask.length b x)) :
    ∃ l, (couplingRun (NF.realX e) c mask B net inverse x).ld[b]? = some l ∧ |L.det| = Real.exp l :=
  coupling_row_abs_det e c mask B net inverse x hx hb hL
    fun i _ => couplingElMap_affine_hasDerivAt e he c hk mask _ inverse b i _

/-- **C01, RQ coupling with linear tails** (`PiecewiseRationalQuadraticCouplingTransform(tails='linear')`), either pass,
    at EVERY real input row -/
theorem coupling_rq_tails_row_abs_det (e : Float → ℝ) (c : ElCfg) (hc : RQTailsCfgValid e c)
    (hp : TailsWhole.PadExact e (tMD c) (tBe c)) (mask : List ℝ) (B : Nat) (net : Array ℝ → Array ℝ) (inverse : Bool)
    (x : Array ℝ) (hx : x.size = B * mask.length) {b : Nat} (hb : b < B)
    {L : (Fin mask.length → ℝ) →L[ℝ] (Fin mask.length → ℝ)}
    (hL : HasFDerivAt (couplingRowMap e c mask B net inverse x b) L (rowOf (NF.realX e) mask.length b x)) :
    ∃ l, (couplingRun (NF.realX e) c mask B net inverse x).ld[b]? = some l ∧ |L.det| = Real.exp l :=
  coupling_row_abs_det e c mask B net inverse x hx hb hL
    fun i _ => couplingElMap_rq_tails_hasDerivAt e c hc hp mask _ inverse b i _

/-! ## 4. C02 with the conditioner in the loop: `couplingInverse ∘ couplingForward = id` and the other order -/

theorem idSplit_out (e : Float → ℝ) (c : ElCfg) (mask : List ℝ) (B : Nat) (x params uparams : Array ℝ) (inverse : Bool) :
    idSplit (NF.realX e) mask B (couplingApply (NF.realX e) c mask B 1 x params inverse none uparams).out
      = idSplit (NF.realX e) mask B x := by
  unfold idSplit
  rw [← coupling_condIn_eq_gather_out (NF.realX e) c mask B 1 x params inverse uparams (maskDisjoint_real e mask)]
  exact coupling_condIn_none ..

theorem affine_form_rev {qf qi : ℝ → ElRes ℝ} {scale shift : ℝ} (hs : scale ≠ 0)
    (hfw : ∀ s, qf s = .ok (s * scale + shift, Real.log scale, []))
    (hiv : ∀ s, qi s = .ok ((s - shift) / scale, -Real.log scale, []))
    {xi y l : ℝ} {al : List ℝ} (h : qi xi = .ok (y, l, al)) : qf y = .ok (xi, -l, []) := by
  rw [hiv] at h
  obtain ⟨rfl, rfl, -⟩ : (xi - shift) / scale = y ∧ -Real.log scale = l ∧ [] = al := by
    simpa only [Except.ok.injEq, Prod.mk.injEq] using h
  rw [hfw, div_mul_cancel₀ _ hs, sub_add_cancel, neg_neg]

theorem elInvertibleRev_additive_real (e : Float → ℝ) (c : ElCfg) (hk : c.kind = "additive") (Ft S : Nat)
    (params : Array ℝ) (B : Nat) : ElInvertibleRev (NF.realX e) c Ft S params B :=
  fun b t s _ _ _ _ _ _ _ hf => ⟨[], affine_form_rev one_ne_zero (couplingEl_additive e c hk Ft S params b t s)
    (couplingEl_additive_inv e c hk Ft S params b t s) hf⟩

theorem elInvertibleRev_affine_real (e : Float → ℝ) (he : 0 ≤ e 1e-3) (c : ElCfg) (hk : c.kind = "affine") (Ft S : Nat)
    (params : Array ℝ) (B : Nat) : ElInvertibleRev (NF.realX e) c Ft S params B :=
  fun b t s _ _ _ _ _ _ _ hf => ⟨[], affine_form_rev (affineScale_pos e he c.act _).ne'
    (couplingEl_affine e c hk Ft S params b t s) (couplingEl_affine_inv e c hk Ft S params b t s) hf⟩

/-- **what the layer theorems need of an element family** (2-D inputs): both orders of per-element invertibility, no
    element ever raises, the per-element derivative law at every real — for EVERY parameter array -/
structure CouplingFamily (e : Float → ℝ) (c : ElCfg) : Prop where
  inv : ∀ (Ft : Nat) (params : Array ℝ) (B : Nat), ElInvertible (NF.realX e) c Ft 1 params B
  invRev : ∀ (Ft : Nat) (params : Array ℝ) (B : Nat), ElInvertibleRev (NF.realX e) c Ft 1 params B
  ok : ∀ (mask : List ℝ) (B : Nat) (x params uparams : Array ℝ) (inverse : Bool),
    (couplingApply (NF.realX e) c mask B 1 x params inverse none uparams).err = none
  law : ∀ (mask : List ℝ) (params : Array ℝ) (inverse : Bool) (b : Nat) (i : Fin mask.length) (x : ℝ),
    HasDerivAt (couplingElMap e c mask params inverse b i) (Real.exp (couplingElLd e c mask params inverse b i x)) x

/-- `PiecewiseRationalQuadraticCouplingTransform(tails='linear')` -/
theorem rqTailsFamily {e : Float → ℝ} {c : ElCfg} (hc : RQTailsCfgValid e c)
    (hp : TailsWhole.PadExact e (tMD c) (tBe c)) : CouplingFamily e c where
  inv := fun Ft params B => elInvertible_rq_tails_real e c hc Ft 1 params B
  invRev := fun Ft params B => elInvertibleRev_rq_tails_real e c hc Ft 1 params B
  ok := fun mask B x params uparams inverse => coupling_rq_tails_err_none e c hc mask B 1 x params uparams inverse
  law := fun mask params inverse b i x => couplingElMap_rq_tails_hasDerivAt e c hc hp mask params inverse b i x

/-- `AdditiveCouplingTransform` (NICE): no hypothesis -/
theorem additiveFamily (e : Float → ℝ) {c : ElCfg} (hk : c.kind = "additive") : CouplingFamily e c where
  inv := fun Ft params B => elInvertible_additive_real e c hk Ft 1 params B
  invRev := fun Ft params B => elInvertibleRev_additive_real e c hk Ft 1 params B
  ok := fun mask B x params uparams inverse => coupling_additive_err_none (NF.realX e) c hk mask B 1 x params uparams inverse
  law := fun mask params inverse b i x => couplingElMap_additive_hasDerivAt e c hk mask params inverse b i x

/-- `AffineCouplingTransform` (RealNVP), both scale activations: `1e-3` read as a non-negative real -/
theorem affineFamily {e : Float → ℝ} (he : 0 ≤ e 1e-3) {c : ElCfg} (hk : c.kind = "affine") : CouplingFamily e c where
  inv := fun Ft params B => elInvertible_affine_real e he c hk Ft 1 params B
  invRev := fun Ft params B => elInvertibleRev_affine_real e he c hk Ft 1 params B
  ok := fun mask B x params uparams inverse => coupling_affine_err_none (NF.realX e) c hk mask B 1 x params uparams inverse
  law := fun mask params inverse b i x => couplingElMap_affine_hasDerivAt e he c hk mask params inverse b i x

/-- **C02 (executed coupling layer, the conditioner RE-RUN by the inverse pass)**: for ANY conditioner `net`, `B`, mask
    and real `[B, C]` input, `inverse(forward(x)) = x`, nothing raises, the log-dets are negated — the inverse pass
    recomputes the parameters from its own input and gets the same ones -/
theorem coupling_net_roundtrip {e : Float → ℝ} {c : ElCfg}
    (hinv : ∀ (Ft : Nat) (params : Array ℝ) (B : Nat), ElInvertible (NF.realX e) c Ft 1 params B)
    (hok : ∀ (mask : List ℝ) (B : Nat) (x params uparams : Array ℝ) (inverse : Bool),
      (couplingApply (NF.realX e) c mask B 1 x params inverse none uparams).err = none)
    (mask : List ℝ) (B : Nat) (net : Array ℝ → Array ℝ) (x : Array ℝ) (hsz : B * mask.length ≤ x.size) :
    let fwd := couplingForward (NF.realX e) c mask B net x
    let inv := couplingInverse (NF.realX e) c mask B net fwd.out
    fwd.err = none ∧ inv.err = none ∧ inv.out = x ∧ ∀ b, b < B → inv.ld[b]? = (fwd.ld[b]?).map (fun l => -l) := by
  intro fwd inv
  have h := coupling_inverse_forward_real e c mask B 1 x (net (idSplit (NF.realX e) mask B x)) #[] #[]
    (hinv _ _ _) (hok mask B x _ #[] false) (by rw [Nat.mul_one]; exact hsz)
  have hinv : inv = couplingApply (NF.realX e) c mask B 1 fwd.out (net (idSplit (NF.realX e) mask B x)) true := by
    show couplingApply (NF.realX e) c mask B 1 fwd.out (net (idSplit (NF.realX e) mask B fwd.out)) true = _
    rw [show idSplit (NF.realX e) mask B fwd.out = idSplit (NF.realX e) mask B x from idSplit_out e c mask B x _ _ false]
  rw [hinv]
  exact ⟨hok mask B x _ #[] false, h.2.1, h.1, h.2.2.2⟩

/-- the other order: `forward(inverse(y)) = y` -/
theorem coupling_net_roundtrip_rev {e : Float → ℝ} {c : ElCfg}
    (hrev : ∀ (Ft : Nat) (params : Array ℝ) (B : Nat), ElInvertibleRev (NF.realX e) c Ft 1 params B)
    (hok : ∀ (mask : List ℝ) (B : Nat) (x params uparams : Array ℝ) (inverse : Bool),
      (couplingApply (NF.realX e) c mask B 1 x params inverse none uparams).err = none)
    (mask : List ℝ) (B : Nat) (net : Array ℝ → Array ℝ) (y : Array ℝ) (hsz : B * mask.length ≤ y.size) :
    let inv := couplingInverse (NF.realX e) c mask B net y
    let fwd := couplingForward (NF.realX e) c mask B net inv.out
    inv.err = none ∧ fwd.err = none ∧ fwd.out = y ∧ ∀ b, b < B → fwd.ld[b]? = (inv.ld[b]?).map (fun l => -l) := by
  intro inv fwd
  have h := coupling_forward_inverse_real e c mask B 1 y (net (idSplit (NF.realX e) mask B y)) #[] #[]
    (hrev _ _ _) (hok mask B y _ #[] true) (by rw [Nat.mul_one]; exact hsz)
  have hfwd : fwd = couplingApply (NF.realX e) c mask B 1 inv.out (net (idSplit (NF.realX e) mask B y)) false := by
    show couplingApply (NF.realX e) c mask B 1 inv.out (net (idSplit (NF.realX e) mask B inv.out)) false = _
    rw [show idSplit (NF.realX e) mask B inv.out = idSplit (NF.realX e) mask B y from idSplit_out e c mask B y _ _ true]
  rw [hfwd]
  exact ⟨hok mask B y _ #[] true, h.2.1, h.1, h.2.2.2⟩

/-- **C02, `PiecewiseRationalQuadraticCouplingTransform(tails='linear')` with its conditioner**: both orders -/
theorem coupling_net_rq_tails_roundtrip (e : Float → ℝ) (c : ElCfg) (hc : RQTailsCfgValid e c)
    (mask : List ℝ) (B : Nat) (net : Array ℝ → Array ℝ) (x : Array ℝ) (hsz : B * mask.length ≤ x.size) :
    (let fwd := couplingForward (NF.realX e) c mask B net x
     let inv := couplingInverse (NF.realX e) c mask B net fwd.out
     fwd.err = none ∧ inv.err = none ∧ inv.out = x ∧ ∀ b, b < B → inv.ld[b]? = (fwd.ld[b]?).map (fun l => -l))
    ∧ (let inv := couplingInverse (NF.realX e) c mask B net x
       let fwd := couplingForward (NF.realX e) c mask B net inv.out
       inv.err = none ∧ fwd.err = none ∧ fwd.out = x ∧ ∀ b, b < B → fwd.ld[b]? = (inv.ld[b]?).map (fun l => -l)) :=
  ⟨coupling_net_roundtrip (fun Ft params B => elInvertible_rq_tails_real e c hc Ft 1 params B)
      (fun mask B x params uparams inverse => coupling_rq_tails_err_none e c hc mask B 1 x params uparams inverse)
      mask B net x hsz,
   coupling_net_roundtrip_rev (fun Ft params B => elInvertibleRev_rq_tails_real e c hc Ft 1 params B)
      (fun mask B x params uparams inverse => coupling_rq_tails_err_none e c hc mask B 1 x params uparams inverse)
      mask B net x hsz⟩

/-! ## 5. C03: the executed coupling layer as an n-D part -/

section part
variable (e : Float → ℝ) (c : ElCfg) (mask : List ℝ) (net : Array ℝ → Array ℝ) (C : ℕ)

noncomputable def couplingRowT (v : Fin C → ℝ) : Fin C → ℝ :=
  fun i => (couplingForward (NF.realX e) c mask 1 net (Array.ofFn v)).out.getD i 0

noncomputable def couplingRowLd (v : Fin C → ℝ) : ℝ :=
  (couplingForward (NF.realX e) c mask 1 net (Array.ofFn v)).ld.getD 0 0

noncomputable def couplingRowInv (y : Fin C → ℝ) : Fin C → ℝ :=
  fun i => (couplingInverse (NF.realX e) c mask 1 net (Array.ofFn y)).out.getD i 0

theorem couplingRowMap_one (x : Array ℝ) :
    couplingRowMap e c mask 1 net false x 0 = couplingRowT e c mask net mask.length := by
  funext w i
  simp [couplingRowMap, couplingRowT, couplingRun_false, FlowWholeND.setRow_one, rowOf, flatIdx]

theorem couplingRowMap_one_inv (x : Array ℝ) :
    couplingRowMap e c mask 1 net true x 0 = couplingRowInv e c mask net mask.length := by
  funext w i
  simp [couplingRowMap, couplingRowInv, couplingRun_true, FlowWholeND.setRow_one, rowOf, flatIdx]

theorem rowOf_ofFn (v : Fin C → ℝ) : rowOf (NF.realX e) C 0 (Array.ofFn v) = v := by
  funext i
  simp [rowOf, flatIdx]

theorem couplingForward_out_ofFn (v : Fin C → ℝ) :
    (couplingForward (NF.realX e) c mask 1 net (Array.ofFn v)).out = Array.ofFn (couplingRowT e c mask net C v) := by
  unfold couplingRowT
  rw [FlowWholeND.ofFn_getD]
  simp [couplingForward]

theorem couplingInverse_out_ofFn (y : Fin C → ℝ) :
    (couplingInverse (NF.realX e) c mask 1 net (Array.ofFn y)).out = Array.ofFn (couplingRowInv e c mask net C y) := by
  unfold couplingRowInv
  rw [FlowWholeND.ofFn_getD]
  simp [couplingInverse]

/-- the hypotheses: the mask has `C` entries, an element family accepted by the layer theorems (`rqTailsFamily`,
    `additiveFamily`, `affineFamily`), and — explicitly — differentiability of the row map (the conditioner is an
    arbitrary function) -/
structure CouplingRowHyp : Prop where
  hm : mask.length = C
  fam : CouplingFamily e c
  hdiff : Differentiable ℝ (couplingRowT e c mask net C)

variable {e c mask net C}

theorem couplingRowInv_T (hm : mask.length = C) (fam : CouplingFamily e c) (v : Fin C → ℝ) :
    couplingRowInv e c mask net C (couplingRowT e c mask net C v) = v := by
  have h := (coupling_net_roundtrip fam.inv fam.ok mask 1 net (Array.ofFn v) (by simp [hm])).2.2.1
  rw [couplingForward_out_ofFn, couplingInverse_out_ofFn] at h
  exact FlowWholeND.ofFn_inj h

theorem couplingRowT_Inv (hm : mask.length = C) (fam : CouplingFamily e c) (y : Fin C → ℝ) :
    couplingRowT e c mask net C (couplingRowInv e c mask net C y) = y := by
  have h := (coupling_net_roundtrip_rev fam.invRev fam.ok mask 1 net (Array.ofFn y) (by simp [hm])).2.2.1
  rw [couplingInverse_out_ofFn, couplingForward_out_ofFn] at h
  exact FlowWholeND.ofFn_inj h

theorem couplingRow_bijective (h : CouplingRowHyp e c mask net C) : Function.Bijective (couplingRowT e c mask net C) :=
  Function.bijective_iff_has_inverse.2
    ⟨couplingRowInv e c mask net C, couplingRowInv_T h.hm h.fam, couplingRowT_Inv h.hm h.fam⟩

theorem couplingRow_abs_det (h : CouplingRowHyp e c mask net C) (v : Fin C → ℝ) :
    |(fderiv ℝ (couplingRowT e c mask net C) v).det| = Real.exp (couplingRowLd e c mask net C v) := by
  obtain ⟨hm, fam, hdiff⟩ := h
  subst hm
  have hL : HasFDerivAt (couplingRowMap e c mask 1 net false (Array.ofFn v) 0) (fderiv ℝ (couplingRowT e c mask net _) v)
      (rowOf (NF.realX e) mask.length 0 (Array.ofFn v)) := by
    rw [couplingRowMap_one, rowOf_ofFn]
    exact (hdiff v).hasFDerivAt
  obtain ⟨l, hl, hdet⟩ := coupling_row_abs_det e c mask 1 net false (Array.ofFn v) (by simp) (b := 0)
    (by omega) hL (fun i _ => fam.law mask _ false 0 i _)
  rw [couplingRun_false] at hl
  rw [hdet, couplingRowLd, List.getD_eq_getElem?_getD, hl]
  rfl

/-- the same for the executed INVERSE pass (the map `sample` runs): wherever its row map is differentiable, the
    log-abs-det it returns is `log |det|` of its Jacobian -/
theorem couplingRowInv_abs_det (hm : mask.length = C) (fam : CouplingFamily e c) (y : Fin C → ℝ)
    (hdiff : DifferentiableAt ℝ (couplingRowInv e c mask net C) y) :
    |(fderiv ℝ (couplingRowInv e c mask net C) y).det|
      = Real.exp ((couplingInverse (NF.realX e) c mask 1 net (Array.ofFn y)).ld.getD 0 0) := by
  subst hm
  have hL : HasFDerivAt (couplingRowMap e c mask 1 net true (Array.ofFn y) 0) (fderiv ℝ (couplingRowInv e c mask net _) y)
      (rowOf (NF.realX e) mask.length 0 (Array.ofFn y)) := by
    rw [couplingRowMap_one_inv, rowOf_ofFn]
    exact hdiff.hasFDerivAt
  obtain ⟨l, hl, hdet⟩ := coupling_row_abs_det e c mask 1 net true (Array.ofFn y) (by simp) (b := 0)
    (by omega) hL (fun i _ => fam.law mask _ true 0 i _)
  rw [couplingRun_true] at hl
  rw [hdet, List.getD_eq_getElem?_getD, hl]
  rfl

/-- **the executed coupling layer (RQ with linear tails / additive / affine; any mask, any conditioner) as an n-D part**,
    under `CouplingRowHyp`: a bijection of `ℝ^C` whose inverse is the executed inverse pass, with `|det J| = exp ld` -/
noncomputable def couplingRowDiffeo (h : CouplingRowHyp e c mask net C) : DiffeoN C where
  T := couplingRowT e c mask net C
  T' := fun v => fderiv ℝ (couplingRowT e c mask net C) v
  ld := couplingRowLd e c mask net C
  bij := couplingRow_bijective h
  deriv := fun v => (h.hdiff v).hasFDerivAt
  ld_eq := couplingRow_abs_det h

section flat
open NF.CouplingJacobianImg NF.CouplingConsequences

theorem couplingRowT_eq_item :
    couplingRowT e c mask net C = fun v : Fin C → ℝ =>
      rowOf (NF.realX e) C 0 (layer (NF.realX e) c mask 1 false none #[] (fun z _ => net z) 1 (setRow 1 C #[] 0 v) #[]).out := by
  funext v i
  simp [couplingRowT, layer_one_eq_couplingRun, couplingRun_false, FlowWholeND.setRow_one, rowOf, flatIdx]

/-- **`CouplingRowHyp` is satisfiable**: for a conditioner that ignores its input (any constant parameter array — e.g. a
    network whose last layer has zero weights, arbitrary biases) the row map is differentiable everywhere, so the
    hypothesis holds for every accepted family and ANY mask -/
theorem couplingRowHyp_const_net (hm : mask.length = C) (fam : CouplingFamily e c) (params : Array ℝ) :
    CouplingRowHyp e c mask (fun _ => params) C := by
  refine ⟨hm, fam, ?_⟩
  subst hm
  rw [couplingRowT_eq_item]
  exact item_differentiable_const e c mask 1 (Nat.mul_one _) false params #[] #[] Nat.one_pos fun k _ τ => by
    rw [entryElMap_one, entryElLd_one]
    exact fam.law mask params false 0 k τ

end flat

/-! ### `CouplingRowHyp` with a NON-constant conditioner: affine conditioners, additive / affine coupling -/

theorem idSplit_entry_differentiable (e : Float → ℝ) (mask : List ℝ) (C j : ℕ) :
    Differentiable ℝ fun v : Fin C → ℝ => (idSplit (NF.realX e) mask 1 (Array.ofFn v)).getD j 0 := by
  simpa only [CouplingConsequences.condInOf_one, FlowWholeND.setRow_one] using
    CouplingJacobianImg.condInOf_entry_differentiable e mask 1 C false 1 #[] 0 j

/-- the conditioner, run on the identity split of a one-row batch, is entry-wise differentiable in the row (networks with
    smooth activations; affine conditioners: `affineNet_diffNet`) -/
def DiffNet (e : Float → ℝ) (mask : List ℝ) (C : ℕ) (net : Array ℝ → Array ℝ) : Prop :=
  ∀ k, Differentiable ℝ fun v : Fin C → ℝ => (net (idSplit (NF.realX e) mask 1 (Array.ofFn v))).getD k 0

theorem affineNet_diffNet (e : Float → ℝ) (mask : List ℝ) (C : ℕ) {n : ℕ} {net : Array ℝ → Array ℝ}
    (hnet : AffineNet n net) : DiffNet e mask C net := fun k => by
  simpa only [CouplingConsequences.paramsOf_one, FlowWholeND.setRow_one] using
    CouplingJacobianImg.paramsOf_affineNet_differentiable e mask 1 C false (net := fun z _ => net z) 1 #[] #[] 0 hnet k

theorem constNet_diffNet (e : Float → ℝ) (mask : List ℝ) (C : ℕ) (params : Array ℝ) :
    DiffNet e mask C (fun _ => params) := fun _ => differentiable_const _

/-- **`CouplingRowHyp` holds for the executed ADDITIVE coupling layer (NICE) with ANY entry-wise differentiable
    conditioner**, any mask: the differentiability of the row map is reduced to that of the conditioner -/
theorem couplingRowHyp_additive_diffNet (e : Float → ℝ) {c : ElCfg} (hk : c.kind = "additive") {mask : List ℝ}
    {C : ℕ} (hm : mask.length = C) {net : Array ℝ → Array ℝ} (hnet : DiffNet e mask C net) :
    CouplingRowHyp e c mask net C := by
  refine ⟨hm, additiveFamily e hk, ?_⟩
  rw [couplingRowT_eq_item]
  exact CouplingJacobianImg.item_differentiable_additive e c hk mask 1 (by rw [Nat.mul_one]; exact hm) false
    (fun z _ => net z) #[] #[] Nat.one_pos fun j => by
      simp only [CouplingConsequences.paramsOf_one, FlowWholeND.setRow_one]; exact hnet j

theorem couplingRowHyp_additive_affineNet (e : Float → ℝ) {c : ElCfg} (hk : c.kind = "additive") {mask : List ℝ}
    {C : ℕ} (hm : mask.length = C) {n : ℕ} {net : Array ℝ → Array ℝ} (hnet : AffineNet n net) :
    CouplingRowHyp e c mask net C :=
  couplingRowHyp_additive_diffNet e hk hm (affineNet_diffNet e mask C hnet)

/-- **`CouplingRowHyp` holds for the executed AFFINE coupling layer (RealNVP, default scale activation) with ANY
    entry-wise differentiable conditioner**, any mask -/
theorem couplingRowHyp_affine_diffNet {e : Float → ℝ} (he : 0 ≤ e 1e-3) {c : ElCfg} (hk : c.kind = "affine")
    (hact : (c.act == "general") = false) {mask : List ℝ} {C : ℕ} (hm : mask.length = C)
    {net : Array ℝ → Array ℝ} (hnet : DiffNet e mask C net) :
    CouplingRowHyp e c mask net C := by
  refine ⟨hm, affineFamily he hk, ?_⟩
  rw [couplingRowT_eq_item]
  exact CouplingJacobianImg.item_differentiable_affine e he c hk hact mask 1 (by rw [Nat.mul_one]; exact hm) false
    (fun z _ => net z) #[] #[] Nat.one_pos fun j => by
      simp only [CouplingConsequences.paramsOf_one, FlowWholeND.setRow_one]; exact hnet j

theorem couplingRowHyp_affine_affineNet {e : Float → ℝ} (he : 0 ≤ e 1e-3) {c : ElCfg} (hk : c.kind = "affine")
    (hact : (c.act == "general") = false) {mask : List ℝ} {C : ℕ} (hm : mask.length = C) {n : ℕ}
    {net : Array ℝ → Array ℝ} (hnet : AffineNet n net) :
    CouplingRowHyp e c mask net C :=
  couplingRowHyp_affine_diffNet he hk hact hm (affineNet_diffNet e mask C hnet)

end part

/-! ## 6. End to end: pipelines with coupling layers -/

section pipeline
open FlowWholeND

/-- a layer on `[B, n]` inputs: one of the layers of `FlowWholeND.ExecLayer` (executed RQ-CDF with linear tails,
    permutation, LU / QR / SVD linear, masked-autoregressive RQ) or an executed COUPLING layer of any family that meets
    `CouplingRowHyp` (RQ with linear tails, additive, affine) -/
inductive ExecLayer2 (e : Float → ℝ) (n : ℕ) where
  /-- `PiecewiseRationalQuadraticCDF`, `Permutation`, `LULinear`, `QRLinear`, `SVDLinear`,
      `MaskedPiecewiseRationalQuadraticAutoregressiveTransform` -/
  | base (L : ExecLayer e n)
  /-- `PiecewiseRationalQuadraticCouplingTransform(mask, tails='linear')`, `AdditiveCouplingTransform` or
      `AffineCouplingTransform` with conditioner `net`: the element family and the explicit differentiability hypothesis are
      inside `CouplingRowHyp` -/
  | coupling (c : ElCfg) (mask : List ℝ) (net : Array ℝ → Array ℝ) (h : CouplingRowHyp e c mask net n)

variable {e : Float → ℝ}

noncomputable def ExecLayer2.run {n : ℕ} : ExecLayer2 e n → (Fin n → ℝ) → (Fin n → ℝ) × ℝ
  | .base L, v => L.run v
  | .coupling c mask net _, v =>
    let r := couplingForward (NF.realX e) c mask 1 net (Array.ofFn v)
    (fun i => r.out.getD i 0, r.ld.getD 0 0)

noncomputable def ExecLayer2.part {n : ℕ} : ExecLayer2 e n → DiffeoN n
  | .base L => L.part
  | .coupling _ _ _ h => couplingRowDiffeo h

theorem ExecLayer2.run_eq {n : ℕ} (L : ExecLayer2 e n) (v : Fin n → ℝ) : L.run v = (L.part.T v, L.part.ld v) := by
  cases L with
  | base L => exact ExecLayer.run_eq L v
  | coupling c mask net h =>
    -- both sides are `(fun i => r.out.getD i 0, r.ld.getD 0 0)` for the same executed result `r`, once the fields `T`, `ld`
    -- of `couplingRowDiffeo` are projected; `rfl` alone would unfold `Array.getD` first
    simp only [ExecLayer2.run, ExecLayer2.part, couplingRowDiffeo, couplingRowLd]
    rfl

/-- RUN a list of layers in the order given, accumulating the log-abs-dets (`CompositeTransform._cascade`) -/
noncomputable def runAll2 {n : ℕ} : List (ExecLayer2 e n) → (Fin n → ℝ) → (Fin n → ℝ) × ℝ
  | [], v => (v, 0)
  | L :: rest, v => ((runAll2 rest (L.run v).1).1, (L.run v).2 + (runAll2 rest (L.run v).1).2)

theorem runAll2_eq {n : ℕ} (Ls : List (ExecLayer2 e n)) (v : Fin n → ℝ) :
    runAll2 Ls v = ((progN (Ls.map ExecLayer2.part)).T v, (progN (Ls.map ExecLayer2.part)).ld v) := by
  induction Ls generalizing v with
  | nil => rfl
  | cons L rest ih =>
    simp only [runAll2, List.map_cons, ExecLayer2.run_eq L v, ih]
    rfl

/-- **End to end, n dimensions, WITH coupling layers**: `Flow(CompositeTransform(layers), StandardNormal([n])).log_prob`,
    every layer RUN by its executed program and the base by the executed `stdNormalRow`, is a normalised probability
    density — for every list of executed RQ-CDF (linear tails) / permutation / LU / QR / SVD-linear layers,
    masked-autoregressive RQ layers AND RQ coupling layers (any mask; the last two whenever their row map is
    differentiable), any depth, any `n`, any parameters and conditioners. -/
theorem executed_pipeline2_normalised {n : ℕ} (Ls : List (ExecLayer2 e n)) :
    ∫ x : Fin n → ℝ, Real.exp (NF.Density.stdNormalRow (NF.realX e) n (List.ofFn (runAll2 Ls x).1) + (runAll2 Ls x).2) = 1 := by
  simp_rw [runAll2_eq Ls]
  exact executed_flow_normalised e _

/-- the same over the executed `DiagonalNormal` / `ConditionalDiagonalNormal` row (any means and log-stds of length `n`) -/
theorem executed_pipeline2_normalised_diag {n : ℕ} (means logStds : List ℝ) (hm : means.length = n)
    (hl : logStds.length = n) (Ls : List (ExecLayer2 e n)) :
    ∫ x : Fin n → ℝ, Real.exp (NF.Density.diagNormalRow (NF.realX e) n means logStds (List.ofFn (runAll2 Ls x).1)
        + (runAll2 Ls x).2) = 1 := by
  simp_rw [runAll2_eq Ls]
  exact executed_flow_normalised_cond e means logStds hm hl _

end pipeline

/-! ## 7. Non-vacuity -/

section witness

/-- a coupling configuration: one bin, tail bound 1 -/
def cC1 : ElCfg := { container := "coupling", kind := "rq", tails := true, K := 1, ds := #[1.0, 0.0, 0.0, 0.0, 1.0] }

/-- the hypotheses `RQTailsCfgValid`, `PadExact` are jointly satisfiable at `cC1` (conditional — as
    `NF.ARWhole.pad_cfg_example` — on the seven `Float` comparisons an evaluator confirms: `Float.log` / `Float.exp` are
    opaque to the kernel) -/
theorem pad_cfg_example_coupling (hk : (TailsWhole.kP == TailsWhole.kP) = true)
    (h0 : ((0.0:Float) == TailsWhole.kP) = false) (h1 : ((1.0:Float) == TailsWhole.kP) = false)
    (hm1 : ((-(1.0:Float)) == TailsWhole.kP) = false) (h2 : (((1.0:Float) - (-(1.0:Float))) == TailsWhole.kP) = false)
    (h6 : ((1e-6:Float) == TailsWhole.kP) = false) (hcc : (((1:Float) - 0.0 * (1:Nat).toFloat) == TailsWhole.kP) = false) :
    RQTailsCfgValid TailsWhole.eP cC1 ∧ TailsWhole.PadExact TailsWhole.eP (tMD cC1) (tBe cC1) :=
  ⟨⟨rfl, rfl, by decide, (TailsWhole.pad_example hk h0 h1 hm1 h2 h6 hcc).1⟩,
   (TailsWhole.pad_example hk h0 h1 hm1 h2 h6 hcc).2⟩

/-- `[LU-linear, RQ coupling (mask [0,1]), permutation, RQ coupling (mask [1,0]), RQ-CDF]` over `StandardNormal`, the
    coupling conditioners constant: a normalised density -/
example (hk : (TailsWhole.kP == TailsWhole.kP) = true) (h0 : ((0.0:Float) == TailsWhole.kP) = false)
    (h1 : ((1.0:Float) == TailsWhole.kP) = false) (hm1 : ((-(1.0:Float)) == TailsWhole.kP) = false)
    (h2 : (((1.0:Float) - (-(1.0:Float))) == TailsWhole.kP) = false) (h6 : ((1e-6:Float) == TailsWhole.kP) = false)
    (hcc : (((1:Float) - 0.0 * (1:Nat).toFloat) == TailsWhole.kP) = false) (p1 p2 p3 : Array ℝ) :
    ∃ Ls : List (ExecLayer2 TailsWhole.eP 2), Ls.length = 5 ∧
      ∫ x : Fin 2 → ℝ, Real.exp (NF.Density.stdNormalRow (NF.realX TailsWhole.eP) 2 (List.ofFn (runAll2 Ls x).1)
        + (runAll2 Ls x).2) = 1 := by
  obtain ⟨hc, hp⟩ := pad_cfg_example_coupling hk h0 h1 hm1 h2 h6 hcc
  exact ⟨[.base (.lu [3] [5] [0, 1] [1, -1] (1 / 1000) rfl (by norm_num) rfl),
    .coupling cC1 [0, 1] (fun _ => p1) (couplingRowHyp_const_net rfl (rqTailsFamily hc hp) p1),
    .base (.perm (Equiv.swap 0 1)),
    .coupling cC1 [1, 0] (fun _ => p2) (couplingRowHyp_const_net rfl (rqTailsFamily hc hp) p2),
    .base (.cdf cC1 hc hp p3)], rfl, executed_pipeline2_normalised _⟩

/-- NICE and RealNVP layers with genuinely input-dependent (affine) conditioners `net z = A z + β`, any weights: NO
    hypothesis is left apart from the reading of `1e-3` as a non-negative real -/
example (e : Float → ℝ) (he : 0 ≤ e 1e-3) (A1 : Fin 1 → ℕ → ℝ) (β1 : Fin 1 → ℝ) (A2 : Fin 2 → ℕ → ℝ) (β2 : Fin 2 → ℝ) :
    ∃ Ls : List (ExecLayer2 e 2), Ls.length = 3 ∧
      ∫ x : Fin 2 → ℝ, Real.exp (NF.Density.stdNormalRow (NF.realX e) 2 (List.ofFn (runAll2 Ls x).1)
        + (runAll2 Ls x).2) = 1 :=
  ⟨[.coupling { kind := "additive" } [0, 1] _
      (couplingRowHyp_additive_affineNet e rfl rfl (affineNet_ofFn 1 1 A1 β1)),
    .base (.perm (Equiv.swap 0 1)),
    .coupling { kind := "affine" } [0, 1] _
      (couplingRowHyp_affine_affineNet he rfl (by decide) rfl (affineNet_ofFn 2 1 A2 β2))],
   rfl, executed_pipeline2_normalised _⟩

end witness

end NF.CouplingJacobian
