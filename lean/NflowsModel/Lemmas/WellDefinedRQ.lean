import NflowsModel.Lemmas.RQWhole
import NflowsModel.Lemmas.RQInverseWhole
import Mathlib.Tactic
/-!
# Lemmas/WellDefinedRQ — every logarithm / division / square root the EXECUTED rational-quadratic spline forms on an
in-domain input has its operand in the domain of the operation

Over ℝ every arithmetic operation is total (`Real.log 0 = 0`, `x / 0 = 0`, `Real.sqrt` of a negative number is `0`), so
`rqSpline (NF.realX e) … x = .ok r` alone does not say that the program stayed inside the domains of `log`, `/`, `sqrt`.
This file states and proves exactly that, operation by operation, for the program text of `Core/Spline.lean`
(`rqSpline`, lines 124-150) and of the helpers it calls.

## Enumeration (forward direction, `rqSpline o c uw uh ud false x`)

| # | where (file:line)                              | operation                        | operand                                   | covered by (field of `RQFwdWellDefined`; rows 1-5 in its field `stageA : RQStageAWellDefined`) |
|---|------------------------------------------------|----------------------------------|-------------------------------------------|-----------------------------------|
| 1 | Spline:131 → `flooredSoftmax` :106 → Basic:37  | `o.div e s` (softmax of `uw`)    | `s = sumG (exp (u − max))` over `uw`      | `stageA.softmaxW_divisor` (`0 <`), `softmaxG_shape`        |
| 2 | Spline:133 → the same for `uh`                 | `o.div e s` (softmax of `uh`)    | `s = sumG (exp (u − max))` over `uh`      | `stageA.softmaxH_divisor` (`0 <`), `softmaxG_shape`        |
| 3 | Spline:132 → XOps:47 `softplusB`               | `o.div (log1p …) beta`           | `beta = o.ofFloat c.beta`                 | `stageA.softplus_divisor` (`0 <`), `softplusB_shape`        |
| 4 | XOps:47 → XOps:43 `log1p (exp (beta*u))`       | `o.log u'`, `u' = 1 + exp(beta*u)` | `1 + exp (beta * u)`                    | `stageA.log1p_log_arg` (`0 <`, every `u`), `softplusB_shape`|
| 5 | XOps:43 `log1p`, compensated quotient          | `o.div (log u' * x) (u' − 1)`    | `(1 + exp (beta*u)) − 1`                  | `stageA.log1p_divisor` (`0 <`, every `u`), `softplusB_shape`|
| 6 | Spline:150 `rqFwdE`:24, `rqFwdLdE`:40          | `v 4 / v 2`  (slope `s = h/w`)   | `w` = gathered width                      | `gather_w`, `w_pos`, `evalW`      |
| 7 | Spline:150 `rqFwdE`:25, `rqFwdLdE`:41          | `(v 0 − v 1) / v 2`  (θ)         | `w` (same operand)                        | `gather_w`, `w_pos`, `evalW`      |
| 8 | Spline:150 `rqFwdE`:27                         | `… / (s + (d0+d1−2s)·θ(1−θ))`    | `den`                                     | `evalDen`, `den_pos`              |
| 9 | Spline:150 `rqFwdLdE`:45                       | `.log dnum`                      | `dnum = s²(d1θ² + 2sθ(1−θ) + d0(1−θ)²)`   | `evalDnum`, `dnum_pos`            |
|10 | Spline:150 `rqFwdLdE`:45                       | `.log den`                       | `den`                                     | `evalDen`, `den_pos`              |

No square root is formed in the forward direction.  The threshold branch of `softplusB` (`20 < beta*u ↦ u`) forms no
operation.  The only other divisions are the rational literals `o.ofRat n 1` (`o.zero`, `o.one`, `20`, and the `Expr`
literals `1`, `2`): divisor the literal `1`.  `rqKnots`, `cumsumG`, `setFirst/Last`, `diffsG`, `searchsortedG`, `getI`
form no `log` / `div` / `sqrt`.

That rows 6-10 are about the operands of the very `Expr` terms the program evaluates is `rqFwdE_shape`, `rqFwdLdE_shape`
(both `rfl`): the sub-terms `wE`, `denE`, `dnumE` below ARE the divisor / logarithm arguments of `rqFwdE`, `rqFwdLdE`;
the environment they are evaluated in is the one the program builds from its gathers (`exec`, `gather_w`).

`stageA` also exports the by-products of rows 1-5 that rows 6-10 rest on: every width and height (difference of the
executed knots) and every knot derivative the program can gather is positive (`widths_pos`, `heights_pos`, `derivs_pos`).

## Inverse direction, `rqSpline o c uw uh ud true y` (stage A as rows 1-5, field `stageA`, then)

| # | where                                  | operation                              | operand                               | covered by (`RQInvWellDefined`)     |
|---|----------------------------------------|----------------------------------------|---------------------------------------|-------------------------------------|
| 6'| `rqDiscE`:49, `rqRootE`:58, `rqLdThetaE`:31 | `v 4 / v 2`                       | `w` = gathered width                  | `w_pos`                             |
| 7'| `rqRootE`:62                           | `.sqrt rqDiscE`                        | discriminant                          | `disc_nonneg` (`0 ≤`)               |
| 8'| `rqRootE`:62                           | `(2c) / (−b − sqrt disc)`              | `−b − sqrt disc`                      | `root_divisor_neg` (`< 0`, so `≠ 0`)|
| 9'| `rqLdThetaE`:36 at θ = root            | `.log dnum`                            | `dnum` at the root                    | `dnum_pos`                          |
|10'| `rqLdThetaE`:36 at θ = root            | `.log den`                             | `den` at the root                     | `den_pos`                           |

`rqRootE_shape`, `rqLdThetaE_shape` (both `rfl`): `rootDivE`, `dnumThE`, `denThE` ARE the divisor / logarithm arguments of
the executed terms, and the square root is taken of the very term `rqDiscE` whose sign the program asserts.  The two
remaining operations of the inverse branch, `o.add (o.mul root w) xk` and `o.neg ld`, form no `log` / `div` / `sqrt`.

No finding: every operand is in its domain on the whole closed box, end-points included, for every parameter vector.
-/
open NF DualSound

namespace NF.WellDefined.RQ
noncomputable section

/-! ### the operand sub-terms of the executed `Expr` closed forms -/

/-- the divisor of `s = v 4 / v 2` and of `θ = (v 0 − v 1) / v 2`: the gathered width -/
def wE : Expr := v 2
/-- the slope `s = h / w` as the program writes it -/
def sE : Expr := v 4 / wE
/-- the relative position `θ = (x − xk) / w` as the program writes it -/
def thE : Expr := (v 0 - v 1) / wE
/-- the divisor of `rqFwdE` and the second logarithm argument of `rqFwdLdE` -/
def denE : Expr := sE + (v 5 + v 6 - 2 * sE) * (thE * (1 - thE))
/-- the first logarithm argument of `rqFwdLdE` -/
def dnumE : Expr := (sE * sE) * (v 6 * (thE * thE) + 2 * sE * (thE * (1 - thE)) + v 5 * ((1 - thE) * (1 - thE)))

theorem rqFwdE_shape : rqFwdE = v 3 + (v 4 * (sE * (thE * thE) + v 5 * (thE * (1 - thE)))) / denE := rfl
theorem rqFwdLdE_shape : rqFwdLdE = .log dnumE - 2 * .log denE := rfl

variable (e : Float → ℝ)

/-! ### closed-form readings of the operands at bin `k` -/

def W (c : RQCfg) (uw : List ℝ) (k : ℕ) : ℝ := RQWhole.xs e c uw (k+1) - RQWhole.xs e c uw k
def H (c : RQCfg) (uh : List ℝ) (k : ℕ) : ℝ := RQWhole.ys e c uh (k+1) - RQWhole.ys e c uh k
def theta (c : RQCfg) (uw : List ℝ) (k : ℕ) (x : ℝ) : ℝ := (x - RQWhole.xs e c uw k) / W e c uw k
def S (c : RQCfg) (uw uh : List ℝ) (k : ℕ) : ℝ := H e c uh k / W e c uw k
def den (c : RQCfg) (uw uh ud : List ℝ) (k : ℕ) (x : ℝ) : ℝ :=
  S e c uw uh k + (RQWhole.ds e c ud k + RQWhole.ds e c ud (k+1) - 2 * S e c uw uh k)
    * (theta e c uw k x * (1 - theta e c uw k x))
def dnum (c : RQCfg) (uw uh ud : List ℝ) (k : ℕ) (x : ℝ) : ℝ :=
  (S e c uw uh k * S e c uw uh k) *
    (RQWhole.ds e c ud (k+1) * (theta e c uw k x * theta e c uw k x)
      + 2 * S e c uw uh k * (theta e c uw k x * (1 - theta e c uw k x))
      + RQWhole.ds e c ud k * ((1 - theta e c uw k x) * (1 - theta e c uw k x)))

variable {e}
variable {c : RQCfg} {uw uh ud : List ℝ}

theorem evalW (k : ℕ) (x : ℝ) : evalR (RQWhole.env e c uw uh ud k x) wE = W e c uw k := rfl

theorem evalDen (k : ℕ) (x : ℝ) : evalR (RQWhole.env e c uw uh ud k x) denE = den e c uw uh ud k x := by
  simp only [denE, sE, thE, wE, den, S, theta, W, H, NF.v, Bridge.evalR_hadd, Bridge.evalR_hsub, Bridge.evalR_hmul, Bridge.evalR_hdiv, evalR_var, Bridge.evalR_one, Bridge.evalR_ofNat,
    RQWhole.env, Bridge.rqEnv0, Bridge.rqEnv1, Bridge.rqEnv2, Bridge.rqEnv4, Bridge.rqEnv5, Bridge.rqEnv6]

theorem evalDnum (k : ℕ) (x : ℝ) : evalR (RQWhole.env e c uw uh ud k x) dnumE = dnum e c uw uh ud k x := by
  simp only [dnumE, sE, thE, wE, dnum, S, theta, W, H, NF.v, Bridge.evalR_hadd, Bridge.evalR_hsub, Bridge.evalR_hmul, Bridge.evalR_hdiv, evalR_var, Bridge.evalR_one, Bridge.evalR_ofNat,
    RQWhole.env, Bridge.rqEnv0, Bridge.rqEnv1, Bridge.rqEnv2, Bridge.rqEnv4, Bridge.rqEnv5, Bridge.rqEnv6]

theorem den_eq_RQ (k : ℕ) (x : ℝ) :
    den e c uw uh ud k x = _root_.RQ.den (S e c uw uh k) (RQWhole.ds e c ud k) (RQWhole.ds e c ud (k+1)) (theta e c uw k x) := rfl

theorem dnum_eq_RQ (k : ℕ) (x : ℝ) :
    dnum e c uw uh ud k x = _root_.RQ.dnum (S e c uw uh k) (RQWhole.ds e c ud k) (RQWhole.ds e c ud (k+1)) (theta e c uw k x) := by
  unfold dnum _root_.RQ.dnum; ring

theorem binLd_unfold (k : ℕ) (x : ℝ) :
    RQWhole.binLd e c uw uh ud k x = Real.log (dnum e c uw uh ud k x) - 2 * Real.log (den e c uw uh ud k x) := by
  unfold RQWhole.binLd
  rw [rqFwdLdE_shape]
  simp [evalDen, evalDnum]

/-! ### stage A: softmax and softplus -/

/-- the program's softmax IS `es.map (· / s)` with `s` the sum named in `SplineExec.softmax_divisor_pos` -/
theorem softmaxG_shape (u : List ℝ) :
    softmaxG (NF.realX e) u
      = (u.map fun t => (NF.realX e).exp ((NF.realX e).sub t (maxG (NF.realX e) u))).map
          (fun x => (NF.realX e).div x
            (sumG (NF.realX e) (u.map fun t => (NF.realX e).exp ((NF.realX e).sub t (maxG (NF.realX e) u))))) := rfl

/-- the operations inside `log1p (exp (b*u))`: the logarithm argument `u' = 1 + exp (b*u)` and the divisor `u' − 1` are
    positive, and the shortcut branch `u' == 1` is not taken -/
theorem log1p_ops (b u : ℝ) :
    0 < (NF.realX e).add (NF.realX e).one ((NF.realX e).exp ((NF.realX e).mul b u)) ∧
    0 < (NF.realX e).sub ((NF.realX e).add (NF.realX e).one ((NF.realX e).exp ((NF.realX e).mul b u))) (NF.realX e).one ∧
    ((NF.realX e).le ((NF.realX e).add (NF.realX e).one ((NF.realX e).exp ((NF.realX e).mul b u))) (NF.realX e).one
      && (NF.realX e).le (NF.realX e).one ((NF.realX e).add (NF.realX e).one ((NF.realX e).exp ((NF.realX e).mul b u)))) = false := by
  simp only [NF.realX_add, NF.realX_one, NF.realX_exp, NF.realX_mul, NF.realX_sub, NF.realX_le]
  have h := Real.exp_pos (b * u)
  refine ⟨by linarith, by linarith, ?_⟩
  have : ¬ (1 + Real.exp (b * u) ≤ 1) := by linarith
  simp [this]

/-- the program's `softplusB` is, below the threshold, `log1p (exp (beta*u)) / beta`, and that `log1p` is the compensated
    quotient `log u' * x / (u' − 1)` with `u' = 1 + x`, `x = exp (beta*u)` (the `u' = 1` branch is not taken: `x > 0`) -/
theorem softplusB_shape (beta u : ℝ) :
    (NF.realX e).softplusB beta u
      = if (NF.realX e).lt ((NF.realX e).ofRat 20 1) ((NF.realX e).mul beta u) then u
        else (NF.realX e).div
          ((NF.realX e).div
            ((NF.realX e).mul
              ((NF.realX e).log ((NF.realX e).add (NF.realX e).one ((NF.realX e).exp ((NF.realX e).mul beta u))))
              ((NF.realX e).exp ((NF.realX e).mul beta u)))
            ((NF.realX e).sub ((NF.realX e).add (NF.realX e).one ((NF.realX e).exp ((NF.realX e).mul beta u))) (NF.realX e).one))
          beta := by
  unfold XOps.softplusB XOps.log1p
  simp only [(log1p_ops beta u).2.2, Bool.false_eq_true, if_false]

/-! ### the bundle -/

/-- rows 1-5 (stage A, shared by both directions): softmax divisors, `softplus` divisor, the logarithm and the divisor
    inside `log1p`; and their by-products: every width, height and knot derivative the program can gather is positive -/
structure RQStageAWellDefined (e : Float → ℝ) (c : RQCfg) (uw uh ud : List ℝ) : Prop where
  /-- rows 1, 2: the softmax divisors -/
  softmaxW_divisor :
    0 < sumG (NF.realX e) (uw.map fun t => (NF.realX e).exp ((NF.realX e).sub t (maxG (NF.realX e) uw)))
  softmaxH_divisor :
    0 < sumG (NF.realX e) (uh.map fun t => (NF.realX e).exp ((NF.realX e).sub t (maxG (NF.realX e) uh)))
  /-- row 3: the `softplus` divisor `beta` -/
  softplus_divisor : 0 < (NF.realX e).ofFloat c.beta
  /-- row 4: the logarithm inside `log1p (exp (beta*u))`, for every `u` (in particular every entry of `ud`) -/
  log1p_log_arg : ∀ u : ℝ,
    0 < (NF.realX e).add (NF.realX e).one ((NF.realX e).exp ((NF.realX e).mul ((NF.realX e).ofFloat c.beta) u))
  /-- row 5: the divisor of the compensated quotient inside `log1p` -/
  log1p_divisor : ∀ u : ℝ,
    0 < (NF.realX e).sub
      ((NF.realX e).add (NF.realX e).one ((NF.realX e).exp ((NF.realX e).mul ((NF.realX e).ofFloat c.beta) u)))
      (NF.realX e).one
  /-- by-products of rows 1-5: all widths, heights (differences of the executed knots) and knot derivatives are positive -/
  widths_pos : ∀ k < uw.length, 0 < W e c uw k
  heights_pos : ∀ k < uw.length, 0 < H e c uh k
  derivs_pos : ∀ k < uw.length + 1, 0 < RQWhole.ds e c ud k

theorem rq_stageA_well_defined (hv : RQWhole.RQValid e c uw uh ud) : RQStageAWellDefined e c uw uh ud := by
  have huh : uh ≠ [] := by
    intro h; have := hv.hlenh; rw [h] at this; exact hv.hK (List.length_eq_zero_iff.mp this.symm)
  exact {
    softmaxW_divisor := SplineExec.softmax_divisor_pos e uw hv.hK
    softmaxH_divisor := SplineExec.softmax_divisor_pos e uh huh
    softplus_divisor := hv.hbeta
    log1p_log_arg := fun u => (log1p_ops _ u).1
    log1p_divisor := fun u => (log1p_ops _ u).2.1
    widths_pos := fun k hk => sub_pos.mpr (RQWhole.xs_strict hv k hk)
    heights_pos := fun k hk => sub_pos.mpr (RQWhole.ys_strict hv k hk)
    derivs_pos := RQWhole.ds_pos hv }

/-! ### forward -/

/-- every `log` argument is positive and every divisor is positive on the forward run at `x` (rows 1-5 in `stageA`) -/
structure RQFwdWellDefined (e : Float → ℝ) (c : RQCfg) (uw uh ud : List ℝ) (x : ℝ) : Prop where
  stageA : RQStageAWellDefined e c uw uh ud
  /-- the tie to the program: it returns the closed forms of the bin the EXECUTED search selected -/
  exec : rqSpline (NF.realX e) c uw uh ud false x
      = .ok (RQWhole.binVal e c uw uh ud (RQWhole.idx e c uw x) x, RQWhole.binLd e c uw uh ud (RQWhole.idx e c uw x) x)
  idx_lt : RQWhole.idx e c uw x < uw.length
  in_bin : RQWhole.xs e c uw (RQWhole.idx e c uw x) ≤ x ∧ x ≤ RQWhole.xs e c uw (RQWhole.idx e c uw x + 1)
  /-- rows 6, 7: the value the program gathers for `w` (slot 2 of the environment) is the width of the searched bin … -/
  gather_w :
    getI (rqKnots (NF.realX e) c.box.left c.box.right (flooredSoftmax (NF.realX e) c.minW uw)).2
        (searchsortedG (NF.realX e) c.eps
          (rqKnots (NF.realX e) c.box.left c.box.right (flooredSoftmax (NF.realX e) c.minW uw)).1 x)
      = .ok (W e c uw (RQWhole.idx e c uw x))
  /-- … and is positive -/
  w_pos : 0 < evalR (RQWhole.env e c uw uh ud (RQWhole.idx e c uw x) x) wE
  theta_mem : 0 ≤ theta e c uw (RQWhole.idx e c uw x) x ∧ theta e c uw (RQWhole.idx e c uw x) x ≤ 1
  /-- rows 8, 10: divisor of `rqFwdE`, second logarithm of `rqFwdLdE` -/
  den_pos : 0 < evalR (RQWhole.env e c uw uh ud (RQWhole.idx e c uw x) x) denE
  /-- row 9: first logarithm of `rqFwdLdE` -/
  dnum_pos : 0 < evalR (RQWhole.env e c uw uh ud (RQWhole.idx e c uw x) x) dnumE
  /-- the returned log-abs-det, unfolded: both logarithms are taken at positive, explicitly written arguments -/
  ld_unfold : RQWhole.binLd e c uw uh ud (RQWhole.idx e c uw x) x
      = Real.log (dnum e c uw uh ud (RQWhole.idx e c uw x) x) - 2 * Real.log (den e c uw uh ud (RQWhole.idx e c uw x) x)
  den_pos' : 0 < den e c uw uh ud (RQWhole.idx e c uw x) x
  dnum_pos' : 0 < dnum e c uw uh ud (RQWhole.idx e c uw x) x

theorem gather_w_of_valid (hv : RQWhole.RQValid e c uw uh ud) (x : ℝ) (hx0 : e c.box.left ≤ x) (hx1 : x ≤ e c.box.right) :
    getI (rqKnots (NF.realX e) c.box.left c.box.right (flooredSoftmax (NF.realX e) c.minW uw)).2
        (searchsortedG (NF.realX e) c.eps
          (rqKnots (NF.realX e) c.box.left c.box.right (flooredSoftmax (NF.realX e) c.minW uw)).1 x)
      = .ok (W e c uw (RQWhole.idx e c uw x)) := by
  obtain ⟨hiK, -⟩ := (RQWhole.searched hv).sel x hx0 hx1
  have hcwlen := (RQWhole.cw_facts hv).1
  have hwlen : (diffsG (NF.realX e) (RQWhole.cw e c uw)).length = uw.length := by
    rw [SplineTotal.diffsG_length, hcwlen]; omega
  have h1 : (rqKnots (NF.realX e) c.box.left c.box.right (flooredSoftmax (NF.realX e) c.minW uw)).1 = RQWhole.cw e c uw := rfl
  have h2 : (rqKnots (NF.realX e) c.box.left c.box.right (flooredSoftmax (NF.realX e) c.minW uw)).2
      = diffsG (NF.realX e) (RQWhole.cw e c uw) := rfl
  rw [h1, h2, (RQWhole.search_spec hv).2 x hx0 hx1,
    SplineTotal.getI_getD _ _ (by omega : RQWhole.idx e c uw x < (diffsG (NF.realX e) (RQWhole.cw e c uw)).length),
    SplineExec.diffsG_getD e _ _ (by omega)]
  rfl

/-- **RQ forward, well-definedness**: on every input of the closed domain, under the validity bundle, every logarithm the
    executed program takes has a positive argument and every division has a positive divisor (table in the file header). -/
theorem rq_forward_well_defined (hv : RQWhole.RQValid e c uw uh ud) (x : ℝ)
    (hx0 : e c.box.left ≤ x) (hx1 : x ≤ e c.box.right) : RQFwdWellDefined e c uw uh ud x := by
  obtain ⟨hiK, hle, hle1, -⟩ := (RQWhole.searched hv).sel x hx0 hx1
  have hA := rq_stageA_well_defined hv
  have hD := hA.derivs_pos
  set k := RQWhole.idx e c uw x with hk
  have hw := hA.widths_pos k hiK
  have hs : 0 < S e c uw uh k := div_pos (hA.heights_pos k hiK) hw
  have ht0 : 0 ≤ theta e c uw k x := div_nonneg (by linarith) hw.le
  have ht1 : theta e c uw k x ≤ 1 := by
    unfold theta; rw [div_le_one hw]; unfold W; linarith
  have hden : 0 < den e c uw uh ud k x := by
    rw [den_eq_RQ]; exact _root_.RQ.den_pos hs (hD k (by omega)) (hD (k+1) (by omega)) ht0 ht1
  have hdnum : 0 < dnum e c uw uh ud k x := by
    rw [dnum_eq_RQ]; exact _root_.RQ.dnum_pos hs (hD k (by omega)) (hD (k+1) (by omega)) ht0 ht1
  exact {
    stageA := hA
    exec := RQWhole.exec_eq_bin hv x hx0 hx1
    idx_lt := hiK
    in_bin := ⟨hle, hle1⟩
    gather_w := gather_w_of_valid hv x hx0 hx1
    w_pos := by rw [evalW]; exact hw
    theta_mem := ⟨ht0, ht1⟩
    den_pos := by rw [evalDen]; exact hden
    dnum_pos := by rw [evalDnum]; exact hdnum
    ld_unfold := binLd_unfold k x
    den_pos' := hden
    dnum_pos' := hdnum }

/-! ### inverse -/

/-- operand sub-terms of the executed inverse `Expr` terms (`rqDiscE`, `rqRootE`, `rqLdThetaE`) -/
def dlE : Expr := v 0 - v 3
def bE : Expr := v 4 * v 5 - dlE * (v 5 + v 6 - 2 * sE)
def cE : Expr := .neg sE * dlE
/-- the divisor of the root `2c / (−b − sqrt disc)` -/
def rootDivE : Expr := .neg bE - .sqrt rqDiscE
/-- the two logarithm arguments of `rqLdThetaE` (slot 0 of the environment is the root θ) -/
def denThE : Expr := sE + (v 5 + v 6 - 2 * sE) * (v 0 * (1 - v 0))
def dnumThE : Expr := (sE * sE) * (v 6 * (v 0 * v 0) + 2 * sE * (v 0 * (1 - v 0)) + v 5 * ((1 - v 0) * (1 - v 0)))

theorem rqRootE_shape : rqRootE = (2 * cE) / rootDivE := rfl
theorem rqLdThetaE_shape : rqLdThetaE = .log dnumThE - 2 * .log denThE := rfl

/-- the square-root argument is non-negative, the root's divisor is negative (hence non-zero), the width is positive
    and both logarithms of the log-abs-det are taken at positive arguments, on the inverse run at `y` -/
structure RQInvWellDefined (e : Float → ℝ) (c : RQCfg) (uw uh ud : List ℝ) (y : ℝ) : Prop where
  stageA : RQStageAWellDefined e c uw uh ud
  /-- the tie to the program: it returns the closed forms of the y-bin the EXECUTED search selected -/
  exec : rqSpline (NF.realX e) c uw uh ud true y
      = .ok (RQInverseWhole.binInv e c uw uh ud (RQInverseWhole.idxI e c uh y) y,
             RQInverseWhole.binInvLd e c uw uh ud (RQInverseWhole.idxI e c uh y) y)
  idx_lt : RQInverseWhole.idxI e c uh y < uw.length
  in_bin : RQWhole.ys e c uh (RQInverseWhole.idxI e c uh y) ≤ y ∧ y ≤ RQWhole.ys e c uh (RQInverseWhole.idxI e c uh y + 1)
  /-- row 6': the divisor `w` of `s = v 4 / v 2` in all three terms -/
  w_pos : 0 < evalR (RQWhole.env e c uw uh ud (RQInverseWhole.idxI e c uh y) y) wE
  /-- row 7': the argument of `.sqrt rqDiscE` -/
  disc_nonneg : 0 ≤ evalR (RQWhole.env e c uw uh ud (RQInverseWhole.idxI e c uh y) y) rqDiscE
  /-- row 8': the divisor of the root -/
  root_divisor_neg : evalR (RQWhole.env e c uw uh ud (RQInverseWhole.idxI e c uh y) y) rootDivE < 0
  root_mem : 0 ≤ RQInverseWhole.binRoot e c uw uh ud (RQInverseWhole.idxI e c uh y) y ∧
    RQInverseWhole.binRoot e c uw uh ud (RQInverseWhole.idxI e c uh y) y ≤ 1
  /-- rows 9', 10': the two logarithm arguments of `rqLdThetaE`, evaluated (as the program does) with the root in slot 0 -/
  dnum_pos : 0 < evalR (RQWhole.env e c uw uh ud (RQInverseWhole.idxI e c uh y)
      (RQInverseWhole.binRoot e c uw uh ud (RQInverseWhole.idxI e c uh y) y)) dnumThE
  den_pos : 0 < evalR (RQWhole.env e c uw uh ud (RQInverseWhole.idxI e c uh y)
      (RQInverseWhole.binRoot e c uw uh ud (RQInverseWhole.idxI e c uh y) y)) denThE
  ld_unfold : RQInverseWhole.binInvLd e c uw uh ud (RQInverseWhole.idxI e c uh y) y
      = - (Real.log (evalR (RQWhole.env e c uw uh ud (RQInverseWhole.idxI e c uh y)
              (RQInverseWhole.binRoot e c uw uh ud (RQInverseWhole.idxI e c uh y) y)) dnumThE)
          - 2 * Real.log (evalR (RQWhole.env e c uw uh ud (RQInverseWhole.idxI e c uh y)
              (RQInverseWhole.binRoot e c uw uh ud (RQInverseWhole.idxI e c uh y) y)) denThE))

theorem evalDenTh (k : ℕ) (t : ℝ) :
    evalR (RQWhole.env e c uw uh ud k t) denThE
      = _root_.RQ.den (S e c uw uh k) (RQWhole.ds e c ud k) (RQWhole.ds e c ud (k+1)) t := by
  simp only [denThE, sE, wE, _root_.RQ.den, S, W, H, NF.v, Bridge.evalR_hadd, Bridge.evalR_hsub, Bridge.evalR_hmul, Bridge.evalR_hdiv, evalR_var, Bridge.evalR_one, Bridge.evalR_ofNat,
    RQWhole.env, Bridge.rqEnv0, Bridge.rqEnv2, Bridge.rqEnv4, Bridge.rqEnv5, Bridge.rqEnv6]

theorem evalDnumTh (k : ℕ) (t : ℝ) :
    evalR (RQWhole.env e c uw uh ud k t) dnumThE
      = _root_.RQ.dnum (S e c uw uh k) (RQWhole.ds e c ud k) (RQWhole.ds e c ud (k+1)) t := by
  simp only [dnumThE, sE, wE, _root_.RQ.dnum, S, W, H, NF.v, Bridge.evalR_hadd, Bridge.evalR_hsub, Bridge.evalR_hmul, Bridge.evalR_hdiv, evalR_var, Bridge.evalR_one, Bridge.evalR_ofNat,
    RQWhole.env, Bridge.rqEnv0, Bridge.rqEnv2, Bridge.rqEnv4, Bridge.rqEnv5, Bridge.rqEnv6, pow_two]

theorem evalB (k : ℕ) (y : ℝ) :
    evalR (RQWhole.env e c uw uh ud k y) bE
      = _root_.RQ.qb (S e c uw uh k) (RQWhole.ds e c ud k) (RQWhole.ds e c ud (k+1)) (H e c uh k) (y - RQWhole.ys e c uh k) := by
  simp only [bE, dlE, sE, wE, _root_.RQ.qb, S, W, H, NF.v, Bridge.evalR_hadd, Bridge.evalR_hsub, Bridge.evalR_hmul, Bridge.evalR_hdiv, evalR_var, Bridge.evalR_ofNat,
    RQWhole.env, Bridge.rqEnv0, Bridge.rqEnv2, Bridge.rqEnv3, Bridge.rqEnv4, Bridge.rqEnv5, Bridge.rqEnv6]

/-- the root's divisor `−b − sqrt disc` is negative on the closed y-bin (`RQ.root_divisor_neg`, from `stable_root`: `0 < b + sqrt disc`) -/
theorem root_divisor_neg_bin (hv : RQWhole.RQValid e c uw uh ud) (k : ℕ) (hk : k < uw.length) (y : ℝ)
    (hy0 : RQWhole.ys e c uh k ≤ y) (hy1 : y ≤ RQWhole.ys e c uh (k+1)) :
    evalR (RQWhole.env e c uw uh ud k y) rootDivE < 0 := by
  have hA := rq_stageA_well_defined hv
  have hw := hA.widths_pos k hk
  have hh := hA.heights_pos k hk
  have hneg := _root_.RQ.root_divisor_neg (d1 := RQWhole.ds e c ud (k+1)) (div_pos hh hw) (hA.derivs_pos k (by omega)) hh
    (sub_nonneg.mpr hy0) (sub_le_sub_right hy1 _ : y - RQWhole.ys e c uh k ≤ H e c uh k)
  show - evalR (RQWhole.env e c uw uh ud k y) bE - Real.sqrt (evalR (RQWhole.env e c uw uh ud k y) rqDiscE) < 0
  rw [evalB, show evalR (RQWhole.env e c uw uh ud k y) rqDiscE = _ from RQInverseWhole.rqDiscE_eq y _ _ _ _ _ _]
  exact hneg

/-- **RQ inverse, well-definedness**: on every `y` of the closed domain the square root is taken of a non-negative
    discriminant, the root's divisor is non-zero (negative), and every logarithm has a positive argument. -/
theorem rq_inverse_well_defined (hv : RQWhole.RQValid e c uw uh ud) (y : ℝ)
    (hy0 : e c.box.bottom ≤ y) (hy1 : y ≤ e c.box.top) : RQInvWellDefined e c uw uh ud y := by
  obtain ⟨hiK, hle, hle1, _⟩ := RQInverseWhole.sel hv y hy0 hy1
  have hA := rq_stageA_well_defined hv
  set k := RQInverseWhole.idxI e c uh y with hk
  obtain ⟨hdisc, hr0, hr1, _⟩ := RQInverseWhole.bin_facts hv k hiK y hle hle1
  have hw := hA.widths_pos k hiK
  have hs : 0 < S e c uw uh k := div_pos (hA.heights_pos k hiK) hw
  have h0 := hA.derivs_pos k (by omega)
  have h1 := hA.derivs_pos (k+1) (by omega)
  exact {
    stageA := hA
    exec := RQInverseWhole.exec_eq_bin hv y hy0 hy1
    idx_lt := hiK
    in_bin := ⟨hle, hle1⟩
    w_pos := by rw [evalW]; exact hw
    disc_nonneg := hdisc
    root_divisor_neg := root_divisor_neg_bin hv k hiK y hle hle1
    root_mem := ⟨hr0, hr1⟩
    dnum_pos := by rw [evalDnumTh]; exact _root_.RQ.dnum_pos hs h0 h1 hr0 hr1
    den_pos := by rw [evalDenTh]; exact _root_.RQ.den_pos hs h0 h1 hr0 hr1
    ld_unfold := by
      unfold RQInverseWhole.binInvLd
      rw [rqLdThetaE_shape]
      simp }

/-! ### non-vacuity: the bundles are inhabited at the concrete accepted configuration `RQWhole.valid_example`, at the
end-points of the box and in between -/

private theorem b0 : ((0.0:Float) == 0.0) = true := FloatFacts.zero_beq_zero
private theorem b1 : ((1.0:Float) == 0.0) = false := FloatFacts.one_beq_zero

example : RQFwdWellDefined RQWhole.eNV RQWhole.cNV [0] [0] [0, 0] (1/2) :=
  rq_forward_well_defined RQWhole.valid_example (1/2) (RQWhole.eNV_zero.trans_le (by norm_num))
    ((by norm_num : (1/2:ℝ) ≤ 1).trans_eq (RQWhole.eNV_of_ne b1).symm)
example : RQFwdWellDefined RQWhole.eNV RQWhole.cNV [0] [0] [0, 0] 0 :=
  rq_forward_well_defined RQWhole.valid_example 0 RQWhole.eNV_zero.le (zero_le_one.trans_eq (RQWhole.eNV_of_ne b1).symm)
example : RQFwdWellDefined RQWhole.eNV RQWhole.cNV [0] [0] [0, 0] 1 :=
  rq_forward_well_defined RQWhole.valid_example 1 (RQWhole.eNV_zero.trans_le zero_le_one) (RQWhole.eNV_of_ne b1).ge
example : RQInvWellDefined RQWhole.eNV RQWhole.cNV [0] [0] [0, 0] (1/2) :=
  rq_inverse_well_defined RQWhole.valid_example (1/2) (RQWhole.eNV_zero.trans_le (by norm_num))
    ((by norm_num : (1/2:ℝ) ≤ 1).trans_eq (RQWhole.eNV_of_ne b1).symm)
example : RQInvWellDefined RQWhole.eNV RQWhole.cNV [0] [0] [0, 0] 0 :=
  rq_inverse_well_defined RQWhole.valid_example 0 RQWhole.eNV_zero.le (zero_le_one.trans_eq (RQWhole.eNV_of_ne b1).symm)

end
end NF.WellDefined.RQ
