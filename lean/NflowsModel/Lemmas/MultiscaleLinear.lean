import NflowsModel.Lemmas.MultiscaleJacobian
import NflowsModel.Lemmas.LinearJacobian
import NflowsModel.Lemmas.NaiveGauss

/-!
# Lemmas/MultiscaleLinear — the executed linear family as stages of the executed `MultiscaleCompositeTransform` (C01)

`Lemmas/MultiscaleJacobian` proves C01 for the multiscale wrapper over stages described by `StageJac` (a stage on ONE 1-D item);
`Lemmas/LinearJacobian` / `Lemmas/NaiveGauss` prove C01 for the executed linear layers as `PassIs` (a pass on a BATCH of rows).
The adapter: the stage of a pass runs it on the one-row batch `[item]` (the library hands the wrapped transform the batched tensor;
a 1-D item is one row), and a `PassIs` pass is a `StageJac` stage with returned log-det `log |det M|`.  Instances for the five
layer classes, two-stage multiscale transforms built by `MS.build`, and a concrete one at `n = 4`.
-/

open NF.LF NF.Wrap DualSound Matrix LinearBridge LinearFresh LinearJacobian MultiscaleJacobian

namespace MultiscaleLinear

/-- a batch pass `F` (returning `(outputs, logabsdets)`) run on the one-row batch `[item]`: the wrapped transform as the
    multiscale loop sees it on one 1-D item.  Anything but one output row and one log-det is a shape error. -/
def passOnItem (F : List (List ℝ) → List (List ℝ) × List ℝ) (x : Item ℝ) : Except Err (Item ℝ × ℝ) :=
  match F [x.data] with
  | ([y], [l]) => .ok (⟨x.shape, y⟩, l)
  | _ => .error .runtime

def stageOfPass (F G : List (List ℝ) → List (List ℝ) × List ℝ) : Tr (Item ℝ) Unit ℝ :=
  ⟨fun x _ => passOnItem F x, fun x _ => passOnItem G x⟩

theorem passOnItem_ok (F : List (List ℝ) → List (List ℝ) × List ℝ) (s : List Nat) (d y : List ℝ) (l : ℝ)
    (h : F [d] = ([y], [l])) : passOnItem F ⟨s, d⟩ = .ok (⟨s, y⟩, l) := by
  simp only [passOnItem, h]

theorem list_eq_singleton {β : Type} (l : List β) (c : β) (h1 : l.length = 1) (h0 : l[0]? = some c) : l = [c] := by
  obtain ⟨a, rfl⟩ := List.length_eq_one_iff.mp h1
  simp only [List.getElem?_cons_zero, Option.some.injEq] at h0
  rw [h0]

theorem pass_singleton {n : ℕ} {F : List (List ℝ) → List (List ℝ) × List ℝ} {g : List ℝ → List ℝ}
    {φ : (Fin n → ℝ) → (Fin n → ℝ)} {M : Matrix (Fin n) (Fin n) ℝ} (h : PassIs n F g φ M) (v : Fin n → ℝ) :
    F [List.ofFn v] = ([List.ofFn (φ v)], [Real.log |M.det|]) := by
  obtain ⟨D, rfl, h1, h2, _, _, h5, h6⟩ := h
  have hl : (([List.ofFn v] : List (List ℝ))[0]'(by simp)).length = n := by simp
  obtain ⟨_, k2⟩ := h6 [List.ofFn v] 0 (by simp) hl
  rw [jac_det] at k2
  have e1 : (F [List.ofFn v]).1 = [List.ofFn (φ v)] := by rw [h1, List.map_singleton, h2]
  have e2 : (F [List.ofFn v]).2 = [Real.log |M.det|] := list_eq_singleton _ _ (by rw [h5]; rfl) k2
  exact Prod.ext e1 e2

theorem passOnItem_of_passIs {n : ℕ} {F : List (List ℝ) → List (List ℝ) × List ℝ} {g : List ℝ → List ℝ}
    {φ : (Fin n → ℝ) → (Fin n → ℝ)} {M : Matrix (Fin n) (Fin n) ℝ} (h : PassIs n F g φ M) (s : List Nat) (v : Fin n → ℝ) :
    passOnItem F ⟨s, List.ofFn v⟩ = .ok (⟨s, List.ofFn (φ v)⟩, Real.log |M.det|) :=
  passOnItem_ok F s _ _ _ (pass_singleton h v)

theorem stageJac_of_passIs {n : ℕ} {F : List (List ℝ) → List (List ℝ) × List ℝ} {g : List ℝ → List ℝ}
    {φ : (Fin n → ℝ) → (Fin n → ℝ)} {M : Matrix (Fin n) (Fin n) ℝ} (h : PassIs n F g φ M)
    (G : List (List ℝ) → List (List ℝ) × List ℝ) :
    StageJac () (stageOfPass F G) n φ (fun _ => Real.log |M.det|) := by
  intro v
  refine ⟨passOnItem_of_passIs h [n] v, jac M, h.hasFDerivAt v, ?_, ?_⟩
  · rw [jac_det]; exact h.det_ne_zero
  · rw [jac_det]

theorem stageJac_of_passIs_inv {n : ℕ} {F G : List (List ℝ) → List (List ℝ) × List ℝ} {g : List ℝ → List ℝ}
    {ψ : (Fin n → ℝ) → (Fin n → ℝ)} {M : Matrix (Fin n) (Fin n) ℝ} (h : PassIs n G g ψ M) (s : List Nat) (v : Fin n → ℝ) :
    (stageOfPass F G).inv ⟨s, List.ofFn v⟩ () = .ok (⟨s, List.ofFn (ψ v)⟩, Real.log |M.det|) :=
  passOnItem_of_passIs h s v

/-! ## instances: the five executed linear layers as multiscale stages -/

noncomputable def luStage (p : LUParams ℝ) : Tr (Item ℝ) Unit ℝ := stageOfPass (luForwardLd realOps p) (luInverseLd realOps p)
noncomputable def qrStage (p : QRParams ℝ) : Tr (Item ℝ) Unit ℝ := stageOfPass (qrForwardLd realOps p) (qrInverseLd realOps p)
noncomputable def svdStage (p : SVDParams ℝ) : Tr (Item ℝ) Unit ℝ :=
  stageOfPass (svdForwardLd realOps p) (svdInverseLd realOps p)
noncomputable def hhStage (qs : List (List ℝ)) : Tr (Item ℝ) Unit ℝ := stageOfPass (hhForwardLd realOps qs) (hhInverseLd realOps qs)
noncomputable def naiveStage (n : ℕ) (W : List (List ℝ)) (b : List ℝ) : Tr (Item ℝ) Unit ℝ :=
  stageOfPass (NaiveGauss.naiveForwardLd realOps n W b) (NaiveGauss.naiveInverseLd realOps n W b)

theorem _root_.LinearBridge.Denotes.stageJac {n : ℕ} {W : Matrix (Fin n) (Fin n) ℝ} {b : Fin n → ℝ} {weight winv : List (List ℝ)}
    {ld : ℝ} {g gi : List ℝ → List ℝ} (h : Denotes W b weight winv ld g gi) {F : List (List ℝ) → List (List ℝ) × List ℝ}
    (hF : PairRowWise F g (realOps.mul ld (one realOps))) (G : List (List ℝ) → List (List ℝ) × List ℝ) :
    StageJac () (stageOfPass F G) n (affine W b) (fun _ => Real.log |W.det|) :=
  stageJac_of_passIs (h.passIs hF) G

theorem hh_stage_logdet_zero {n : ℕ} (vs : List (Fin n → ℝ)) (hv : ∀ v ∈ vs, v ⬝ᵥ v ≠ 0) :
    Real.log |(LinearFamily.Q vs).det| = 0 := by
  rw [LinearFamily.Q_det_abs vs hv, Real.log_one]

/-! ## two stages built the documented way -/

/-- **two arbitrary executed passes as the two stages** of `MultiscaleCompositeTransform(2, split_dim=1)` on items of size
    `c + h ≥ 4` (`c = ⌈n/2⌉` emitted after stage 1, `h = ⌊n/2⌋` passed on): the object `MS.build` returns, run forward on `v`,
    outputs `φ₁ v` with its last `h` coordinates sent through `φ₂`, returns the SUM of the two passes' log-dets, and that sum is
    `log |det D|` for the Fréchet derivative `D` of the whole item map. -/
theorem multiscale_two_pass_logdet_is_jacobian (c h : ℕ) (hc : (c + h + 1) / 2 = c) (h4 : 4 ≤ c + h)
    {F₁ G₁ F₂ G₂ : List (List ℝ) → List (List ℝ) × List ℝ} {g₁ g₂ : List ℝ → List ℝ}
    {φ₁ : (Fin (c + h) → ℝ) → (Fin (c + h) → ℝ)} {φ₂ : (Fin h → ℝ) → (Fin h → ℝ)}
    {M₁ : Matrix (Fin (c + h)) (Fin (c + h)) ℝ} {M₂ : Matrix (Fin h) (Fin h) ℝ}
    (p₁ : PassIs (c + h) F₁ g₁ φ₁ M₁) (p₂ : PassIs h F₂ g₂ φ₂ M₂) (v : Fin (c + h) → ℝ) :
    ∃ m : MS ℝ Unit ℝ, MS.build 2 (.int 1) [stageOfPass F₁ G₁, stageOfPass F₂ G₂] [c + h] = .ok m ∧
      m.forward (LD.std ℝ) ⟨[c + h], List.ofFn v⟩ () =
        .ok (⟨[c + h], List.ofFn (blockMap (splitFin c h) φ₂ (φ₁ v))⟩, Real.log |M₁.det| + Real.log |M₂.det|) ∧
      ∃ D : (Fin (c + h) → ℝ) →L[ℝ] (Fin (c + h) → ℝ),
        HasFDerivAt (blockMap (splitFin c h) φ₂ ∘ φ₁) D v ∧ D.det ≠ 0 ∧
        Real.log |M₁.det| + Real.log |M₂.det| = Real.log |D.det| := by
  refine ⟨_, two_stage_built c h hc h4 _ _, ?_⟩
  have := two_stage_logdet () c h hc (by omega) (stageOfPass F₁ G₁) (stageOfPass F₂ G₂) _ _ _ _
    (stageJac_of_passIs p₁ G₁) (stageJac_of_passIs p₂ G₂) v
  rw [← ofFn_blockMap] at this
  exact this

/-- `LUParams` with the size field set (so that the size is `m` by definition) -/
def luSized (m : ℕ) (p : LUParams ℝ) : LUParams ℝ := { p with n := m }

theorem luSized_eq (m : ℕ) (p : LUParams ℝ) (h : p.n = m) : luSized m p = p := by
  cases p; simp only [luSized] at *; subst h; rfl

/-- **C01 for a two-stage multiscale transform over two executed `LULinear` stages** (sizes `c + h` and `h`,
    `c = ⌈n/2⌉`, `h = ⌊n/2⌋`, `n = c + h ≥ 4`), built by `MS.build` (`add_transform` twice): the forward pass on the item `v`
    returns `luLogabsdet p₁ + luLogabsdet p₂` — the sum of the two `LULinear.logabsdet()` — and that sum is `log |det D|`
    for the Fréchet derivative `D` of the item map `v ↦ (id × (W₂ · + b₂)) (W₁ v + b₁)` that the forward pass computes. -/
theorem multiscale_lu_logdet_is_jacobian (c h : ℕ) (hc : (c + h + 1) / 2 = c) (h4 : 4 ≤ c + h) (q₁ q₂ : LUParams ℝ)
    (hlen₁ : q₁.udiag.length = c + h) (heps₁ : 0 ≤ q₁.eps) (hb₁ : q₁.bias.length = c + h)
    (hlen₂ : q₂.udiag.length = h) (heps₂ : 0 ≤ q₂.eps) (hb₂ : q₂.bias.length = h) (v : Fin (c + h) → ℝ) :
    ∃ m : MS ℝ Unit ℝ,
      MS.build 2 (.int 1) [luStage (luSized (c + h) q₁), luStage (luSized h q₂)] [c + h] = .ok m ∧
      m.forward (LD.std ℝ) ⟨[c + h], List.ofFn v⟩ () =
        .ok (⟨[c + h], List.ofFn (blockMap (splitFin c h)
                (affine (luW (luSized h q₂)) (vecFn h q₂.bias))
                (affine (luW (luSized (c + h) q₁)) (vecFn (c + h) q₁.bias) v))⟩,
             luLogabsdet realOps (luSized (c + h) q₁) + luLogabsdet realOps (luSized h q₂)) ∧
      ∃ D : (Fin (c + h) → ℝ) →L[ℝ] (Fin (c + h) → ℝ),
        HasFDerivAt (blockMap (splitFin c h) (affine (luW (luSized h q₂)) (vecFn h q₂.bias)) ∘
          affine (luW (luSized (c + h) q₁)) (vecFn (c + h) q₁.bias)) D v ∧ D.det ≠ 0 ∧
        luLogabsdet realOps (luSized (c + h) q₁) + luLogabsdet realOps (luSized h q₂) = Real.log |D.det| := by
  have d₁ := lu_denotes (luSized (c + h) q₁) hlen₁ heps₁ hb₁
  have d₂ := lu_denotes (luSized h q₂) hlen₂ heps₂ hb₂
  rw [d₁.ld_eq, d₂.ld_eq]
  exact multiscale_two_pass_logdet_is_jacobian c h hc h4 (d₁.passIs (luForwardLd_pair _ _)) (d₂.passIs (luForwardLd_pair _ _)) v

/-- the same for ARBITRARY `LUParams` of the right sizes (`p₁.n = c + h`, `p₂.n = h`): the item map `Φ` is quantified
    existentially (its type depends on `p₁.n`), but it is determined by the first clause — it is the map the executed
    forward pass computes on every item. -/
theorem multiscale_lu_logdet_is_jacobian' (c h : ℕ) (hc : (c + h + 1) / 2 = c) (h4 : 4 ≤ c + h) (p₁ p₂ : LUParams ℝ)
    (hn₁ : p₁.n = c + h) (hn₂ : p₂.n = h)
    (hlen₁ : p₁.udiag.length = p₁.n) (heps₁ : 0 ≤ p₁.eps) (hb₁ : p₁.bias.length = p₁.n)
    (hlen₂ : p₂.udiag.length = p₂.n) (heps₂ : 0 ≤ p₂.eps) (hb₂ : p₂.bias.length = p₂.n) :
    ∃ (m : MS ℝ Unit ℝ) (Φ : (Fin (c + h) → ℝ) → (Fin (c + h) → ℝ)),
      MS.build 2 (.int 1) [luStage p₁, luStage p₂] [c + h] = .ok m ∧
      ∀ v : Fin (c + h) → ℝ,
        m.forward (LD.std ℝ) ⟨[c + h], List.ofFn v⟩ () =
          .ok (⟨[c + h], List.ofFn (Φ v)⟩, luLogabsdet realOps p₁ + luLogabsdet realOps p₂) ∧
        ∃ D : (Fin (c + h) → ℝ) →L[ℝ] (Fin (c + h) → ℝ), HasFDerivAt Φ D v ∧ D.det ≠ 0 ∧
          luLogabsdet realOps p₁ + luLogabsdet realOps p₂ = Real.log |D.det| := by
  rw [← luSized_eq _ p₁ hn₁, ← luSized_eq _ p₂ hn₂]
  rw [hn₁] at hlen₁ hb₁
  rw [hn₂] at hlen₂ hb₂
  refine ⟨_, blockMap (splitFin c h) (affine (luW (luSized h p₂)) (vecFn h p₂.bias)) ∘
      affine (luW (luSized (c + h) p₁)) (vecFn (c + h) p₁.bias), two_stage_built c h hc h4 _ _, fun v => ?_⟩
  obtain ⟨m, hm, hf, hD⟩ := multiscale_lu_logdet_is_jacobian c h hc h4 p₁ p₂ hlen₁ heps₁ hb₁ hlen₂ heps₂ hb₂ v
  rw [two_stage_built c h hc h4] at hm
  cases hm
  exact ⟨hf, hD⟩

/-! ## a concrete instance at `n = 4` -/

/-- an `LULinear` on 4 features: 6 strictly-lower entries, 6 strictly-upper entries, 4 unconstrained diagonal entries -/
noncomputable abbrev pLU4 : LUParams ℝ :=
  { n := 2 + 2, lower := [3, 1, -2, 0, 4, 1], upper := [5, -1, 2, 0, 1, 3], udiag := [0, 1, -1, 2], bias := [1, -1, 0, 2],
    eps := 1 / 1000 }

theorem pLU4_eps : (0 : ℝ) ≤ pLU4.eps := by show (0 : ℝ) ≤ 1 / 1000; norm_num

/-- `n = 4`: stage 1 is the `LULinear` `pLU4` on the 4 coordinates, stage 2 is `LinearJacobian.pLU` on the 2 passed-on
    ones; the built object's forward pass returns `logabsdet(pLU4) + logabsdet(pLU)`, the log-abs-det of the Jacobian of
    the map it computes. -/
example (v : Fin (2 + 2) → ℝ) :
    ∃ m : MS ℝ Unit ℝ, MS.build 2 (.int 1) [luStage pLU4, luStage pLU] [2 + 2] = .ok m ∧
      m.forward (LD.std ℝ) ⟨[2 + 2], List.ofFn v⟩ () =
        .ok (⟨[2 + 2], List.ofFn (blockMap (splitFin 2 2) (affine (luW pLU) (vecFn 2 pLU.bias))
                (affine (luW pLU4) (vecFn (2 + 2) pLU4.bias) v))⟩,
             luLogabsdet realOps pLU4 + luLogabsdet realOps pLU) ∧
      ∃ D : (Fin (2 + 2) → ℝ) →L[ℝ] (Fin (2 + 2) → ℝ),
        HasFDerivAt (blockMap (splitFin 2 2) (affine (luW pLU) (vecFn 2 pLU.bias)) ∘
          affine (luW pLU4) (vecFn (2 + 2) pLU4.bias)) D v ∧ D.det ≠ 0 ∧
        luLogabsdet realOps pLU4 + luLogabsdet realOps pLU = Real.log |D.det| :=
  multiscale_lu_logdet_is_jacobian 2 2 (by norm_num) (by norm_num) pLU4 pLU rfl pLU4_eps rfl rfl pLU_eps rfl v

/-- a MIXED instance through the generic adapter: stage 1 the `LULinear` `pLU4`, stage 2 the `QRLinear`
    `LinearJacobian.pQR` (two non-trivial Householder reflections) on the 2 passed-on coordinates -/
example (v : Fin (2 + 2) → ℝ) :
    ∃ m : MS ℝ Unit ℝ, MS.build 2 (.int 1) [luStage pLU4, qrStage pQR] [2 + 2] = .ok m ∧
      m.forward (LD.std ℝ) ⟨[2 + 2], List.ofFn v⟩ () =
        .ok (⟨[2 + 2], List.ofFn (blockMap (splitFin 2 2) (affine (qrW pQR [![1, 2], ![0, 3]]) (vecFn 2 pQR.bias))
                (affine (luW pLU4) (vecFn (2 + 2) pLU4.bias) v))⟩,
             Real.log |(luW pLU4).det| + Real.log |(qrW pQR [![1, 2], ![0, 3]]).det|) ∧
      ∃ D : (Fin (2 + 2) → ℝ) →L[ℝ] (Fin (2 + 2) → ℝ),
        HasFDerivAt (blockMap (splitFin 2 2) (affine (qrW pQR [![1, 2], ![0, 3]]) (vecFn 2 pQR.bias)) ∘
          affine (luW pLU4) (vecFn (2 + 2) pLU4.bias)) D v ∧ D.det ≠ 0 ∧
        Real.log |(luW pLU4).det| + Real.log |(qrW pQR [![1, 2], ![0, 3]]).det| = Real.log |D.det| :=
  multiscale_two_pass_logdet_is_jacobian 2 2 (by norm_num) (by norm_num)
    ((lu_denotes pLU4 rfl pLU4_eps rfl).passIs (luForwardLd_pair _ pLU4))
    ((qr_denotes pQR _ rfl LinearFamily.vs_ex_ne rfl rfl).passIs (qrForwardLd_pair _ pQR)) v

end MultiscaleLinear
