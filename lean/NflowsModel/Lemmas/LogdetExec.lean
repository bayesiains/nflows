import NflowsModel.Lemmas.LogdetExecConv
import NflowsModel.Lemmas.LogdetExecNorm
import NflowsModel.Lemmas.LogdetExecPerm
/-!
# Lemmas/LogdetExec — log-abs-det of whole EXECUTED layers whose Jacobian determinant carries a size factor (C01, C02, C17)

Umbrella of three files, all in namespace `LogdetExec`, all about the list programs the driver runs
(`Core/LinearFamily.lean`, `Core/Norm.lean`, `Core/Reshape.lean`) evaluated over ℝ:

* `Lemmas/LogdetExecConv.lean` — `OneByOneConvolution`: every batch entry of the log-det returned by `convForward` is
  `H·W·luLogabsdet` (`convLogabsdet_entry`), the executed map on a batch item IS the per-pixel map `v ↦ W (v ∘ σ) + b`
  (`convForward_item`), whose Fréchet derivative is the block-diagonal `convJac` with
  `log |det| = H·W·log |det W|` = the returned entry (`conv_logdet_is_log_abs_det_fderiv`); round trip
  `conv_roundtrip`, `conv_logdet_inverse_neg`.
* `Lemmas/LogdetExecNorm.lean` — `ActNorm` on 2-D and 4-D inputs (`actLogdet_d2`, `actLogdet_d4`: `Σ log_scale` resp.
  `H·W·Σ log_scale`; `actnorm_d2_logdet_is_log_abs_det`, `actnorm_d4_logdet_is_log_abs_det`: it is `log |det J|` of the
  executed diagonal map; `actUnapply_actApply`, `actStep_fwd_inv`), `BatchNorm` in evaluation mode
  (`batchnorm_logdet_is_log_abs_det`, `bnDenormalise_bnNormalise`, `bnStep_eval_fwd_inv`); both as a certified pair of
  coordinatewise row passes (`PassPair`: `passPair_act`, `passPair_bn`), from which the stage round trips are read
  (`PassPair.roundTrip`, `Lemmas/StageRoundTrips.lean`).
* `Lemmas/LogdetExecPerm.lean` — `Permutation` along any dimension of any shape and `SqueezeTransform`: each batch item of
  the executed output is a coordinate permutation of the same item of the input (`permuteDim_item_is_reindex_general`,
  `squeezeFwd_item_is_reindex_dvd`, `squeezeInv_item_is_reindex`), hence `|det J| = 1 = exp 0` (`ItemReindex.logdet`);
  error characterisations (`permuteDim_error_iff`, `squeezeFwd_error_iff`, `squeezeInv_error_iff`), executed round trips
  (`permuteDim_roundtrip`, `squeeze_roundtrip`), and what the model accepts although it is not a bijection
  (`permuteDim_accepts_non_permutation`, `non_permutation_det_zero`).
-/
