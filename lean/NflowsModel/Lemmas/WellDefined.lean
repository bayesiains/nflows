import NflowsModel.Lemmas.WellDefinedRQ
import NflowsModel.Lemmas.WellDefinedLin
import NflowsModel.Lemmas.WellDefinedQuad
import NflowsModel.Lemmas.WellDefinedCubic
import NflowsModel.Lemmas.WellDefinedNonlin
/-!
# Lemmas/WellDefined — "accepted ⇒ every partial operation is applied inside its domain" (index file)

Over ℝ the conclusion `∃ r, prog = .ok r` of the in-domain totality theorems does not exclude
`log 0`, `x / 0`, `sqrt (< 0)` (Mathlib totalises them).  The companion theorems below say, for each EXECUTED program of
`Core/Spline.lean` / `Core/Nonlin.lean` at `NF.realX e`, on the closed in-domain box and under the same validity bundle as
the totality theorem: the program returns the closed forms of the bin its own search selected (`exec` field) AND every
logarithm argument it forms is `> 0`, every divisor is `≠ 0` (`> 0` or `< 0` proved), every square-root argument is `≥ 0`.
Each sub-file has a docstring table `operation (line of Core/Spline.lean) → field` for checking that the enumeration is complete;
operands are stated on the program's own sub-terms where possible (`sumG … (uw.map …)`, `evalR env <sub-Expr>` with `rfl`
"shape" lemmas showing the sub-`Expr` IS the divisor / log argument of the executed `Expr`).

| program                          | theorem (in the sub-file)          | sub-file              |
|----------------------------------|------------------------------------|-----------------------|
| `rqSpline … false`               | `rq_forward_well_defined`          | `WellDefinedRQ`       |
| `rqSpline … true`                | `rq_inverse_well_defined`          | `WellDefinedRQ`       |
| `linSpline … false / true`       | `lin_forward/inverse_well_defined` | `WellDefinedLin`      |
| `quadSpline … false / true`      | `quad_forward/inverse_well_defined` (bounded shape), `…_T` (tails shape, `K ≥ 2`) | `WellDefinedQuad` |
| `cubicSpline … false`            | `cubic_forward_well_defined`       | `WellDefinedCubic`    |
| `cubicSpline … true`             | `cubic_inverse_well_defined_partial` + FINDINGS `ia_zero_all_inputs`, `cardano_log_zero_example` | `WellDefinedCubic` |
| `expT/tanhT/sigmoidT/cauchyT … true` | `NF.WellDefined.Nonlin.*_inverse_well_defined` | `WellDefinedNonlin` |

**Findings** (cubic inverse; recorded findings F24/F25): the full statement is FALSE for the cubic inverse.  At accepted
configurations and for EVERY in-domain input (i) the three divisions by the gathered leading coefficient `ia` are divisions by
zero when the selected bin is linear (`Cubic.ia_zero_all_inputs`), (ii) the Cardano branch passes exactly `0` to
`cbrtG`, i.e. forms `log |0|` (`cubic_inverse_cardano_log_zero`).  The program still returns `.ok` with a positive log-det
argument — rescued by the quadratic fallback / `sign 0 = 0` / the clamp into the bin, not by the operations being in domain.
Hence only the `_partial` form for that program.  (CauchyCDF inverse at the accepted end points is well defined only because
the double `π̂` is below `π`: `Nonlin.cauchy_inverse_well_defined`, `Nonlin.cauchy_inverse_pole_ideal`.)
-/
open NF

namespace NF.WellDefined
variable {e : Float → ℝ}

/-- **quadratic spline, forward, tails parameter shape** (`K ≥ 2`): plus the end-height padding divisor -/
theorem quad_forward_well_defined_T {c : QCfg} {uw uh : List ℝ} (hv : QuadWhole.QuadValidT e c uw uh) (x : ℝ)
    (hx0 : e c.box.left ≤ x) (hx1 : x ≤ e c.box.right) : WellDefinedQuad.QuadFwdWellDefinedT e c uw uh x :=
  WellDefinedQuad.quad_forward_well_defined_T hv x hx0 hx1

/-- **quadratic spline, inverse, tails parameter shape** (`K ≥ 2`) -/
theorem quad_inverse_well_defined_T {c : QCfg} {uw uh : List ℝ} (hv : QuadWhole.QuadValidT e c uw uh) (y : ℝ)
    (hy0 : e c.box.bottom ≤ y) (hy1 : y ≤ e c.box.top) : WellDefinedQuad.QuadInvWellDefinedT e c uw uh y :=
  WellDefinedQuad.quad_inverse_well_defined_T hv y hy0 hy1

/-- **FINDING** (cubic inverse, Spline.lean:285, 377-378 / cubic.py `cbrt`): at an accepted one-bin configuration
    (`sigmoid udl = 1/7`, `sigmoid udr = 4/7`), for EVERY in-domain `y`: no quadratic fallback, `disc < 0` (Cardano branch
    selected) and one of the two `cbrtG` arguments is exactly `0` — the program forms `log |0|` -/
alias cubic_inverse_cardano_log_zero := Cubic.cardano_log_zero_example

end NF.WellDefined
