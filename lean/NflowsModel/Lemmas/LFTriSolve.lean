import NflowsModel.Lemmas.LFIndex
import Mathlib.Algebra.BigOperators.Intervals
import Mathlib.Data.List.GetD
/-!
# Lemmas/LFTriSolve — the triangular solves of `Core/LinearFamily` at `realOps`

Forward substitution (`solveLowerUnit`) and back substitution (`solveUpper`) solve the triangular systems they
are meant to solve, together with real evaluation of the list primitives `sum`, `dot`, `entry`, `matVec`.
-/

namespace LFTriSolve
open NF.LF DualSound

/-! ## A. real evaluation of the list primitives -/

@[simp] theorem two_real : two realOps = 2 := by
  show ((2 : ℤ) : ℝ) / ((1 : ℕ) : ℝ) = 2
  rw [Nat.cast_one, div_one, Int.cast_ofNat]

theorem foldl_add_real (a : ℝ) (l : List ℝ) : l.foldl realOps.add a = a + l.sum := by
  induction l generalizing a with
  | nil => simp
  | cons x xs ih => rw [List.foldl_cons, ih, LFIndex.realOps_add, List.sum_cons]; ring

theorem sum_real (xs : List ℝ) : sum realOps xs = xs.sum := by
  unfold NF.LF.sum
  rw [foldl_add_real, LFIndex.zero_real, zero_add]

theorem zipWith_mul_sum (xs ys : List ℝ) :
    (List.zipWith realOps.mul xs ys).sum
      = ∑ j ∈ Finset.range (min xs.length ys.length), xs.getD j 0 * ys.getD j 0 := by
  induction xs generalizing ys with
  | nil => simp
  | cons x xs ih =>
    cases ys with
    | nil => simp
    | cons y ys =>
      rw [List.zipWith_cons_cons, List.sum_cons, ih, LFIndex.realOps_mul]
      have : min (x :: xs).length (y :: ys).length = min xs.length ys.length + 1 := by
        simp only [List.length_cons]; omega
      rw [this, Finset.sum_range_succ']
      simp only [List.getD_cons_succ, List.getD_cons_zero]
      ring

theorem dot_real_zipWith (xs ys : List ℝ) : dot realOps xs ys = (List.zipWith (· * ·) xs ys).sum := by
  unfold dot
  rw [sum_real]
  rfl

theorem dot_real (xs ys : List ℝ) :
    dot realOps xs ys = ∑ j ∈ Finset.range (min xs.length ys.length), xs.getD j 0 * ys.getD j 0 := by
  rw [dot_real_zipWith]
  exact zipWith_mul_sum xs ys

theorem entry_real (M : List (List ℝ)) (i j : Nat) : entry realOps M i j = (M.getD i []).getD j 0 := by
  unfold entry
  rw [LFIndex.zero_real]

/-! ## B. forward substitution -/

section generic
variable {α : Type}

theorem solveLowerUnitAux_prefix (o : Ops α) (acc : List α) (L : List (List α)) (b : List α) :
    acc <+: solveLowerUnitAux o acc L b := by
  induction L generalizing acc b with
  | nil => simp [solveLowerUnitAux]
  | cons row rest ih =>
    cases b with
    | nil => simp [solveLowerUnitAux]
    | cons bi bs =>
      rw [solveLowerUnitAux]
      exact (List.prefix_append acc _).trans (ih _ _)

theorem solveLowerUnitAux_length (o : Ops α) (acc : List α) (L : List (List α)) (b : List α) :
    (solveLowerUnitAux o acc L b).length = acc.length + min L.length b.length := by
  induction L generalizing acc b with
  | nil => simp [solveLowerUnitAux]
  | cons row rest ih =>
    cases b with
    | nil => simp [solveLowerUnitAux]
    | cons bi bs =>
      rw [solveLowerUnitAux, ih]
      simp only [List.length_append, List.length_cons, List.length_nil]
      omega

theorem solveLowerUnit_length (o : Ops α) (L : List (List α)) (b : List α) :
    (solveLowerUnit o L b).length = min L.length b.length := by
  unfold solveLowerUnit
  rw [solveLowerUnitAux_length]; simp

/-- forward substitution, entry `t` past the accumulator (mirror of `solveUpperAux_dot`) -/
theorem solveLowerUnitAux_spec (o : Ops α) (acc : List α) (L : List (List α)) (b : List α) (t : Nat)
    (ht : t < min L.length b.length) :
    (solveLowerUnitAux o acc L b).getD (acc.length + t) (zero o)
      = o.sub (b.getD t (zero o)) (dot o (L.getD t []) ((solveLowerUnitAux o acc L b).take (acc.length + t))) := by
  induction L generalizing acc b t with
  | nil => simp at ht
  | cons row rest ih =>
    cases b with
    | nil => simp at ht
    | cons bi bs =>
      rw [solveLowerUnitAux]
      cases t with
      | zero =>
        -- the freshly appended entry
        obtain ⟨s, hs⟩ := solveLowerUnitAux_prefix o (acc ++ [o.sub bi (dot o row acc)]) rest bs
        rw [← hs]
        simp [List.getD_eq_getElem?_getD]
      | succ t =>
        have e : acc.length + (t + 1) = (acc ++ [o.sub bi (dot o row acc)]).length + t := by
          rw [List.length_append, List.length_singleton]; omega
        rw [e, List.getD_cons_succ, List.getD_cons_succ]
        exact ih _ _ t (by simp only [List.length_cons] at ht; omega)

theorem solveLowerUnit_rec (o : Ops α) (L : List (List α)) (b : List α) (i : Nat)
    (hi : i < min L.length b.length) :
    (solveLowerUnit o L b).getD i (zero o)
      = o.sub (b.getD i (zero o)) (dot o (L.getD i []) ((solveLowerUnit o L b).take i)) := by
  have := solveLowerUnitAux_spec o [] L b i hi
  rwa [List.length_nil, Nat.zero_add] at this

end generic

theorem getD_take_of_lt {α : Type} (l : List α) (i j : Nat) (d : α) (h : j < i) :
    (l.take i).getD j d = l.getD j d := by
  simp [List.getD_eq_getElem?_getD, h]

theorem getD_mem_length {n : Nat} (M : List (List ℝ)) (hrow : ∀ r ∈ M, r.length = n) (i : Nat)
    (hi : i < M.length) : (M.getD i []).length = n := by
  rw [List.getD_eq_getElem _ _ hi]
  exact hrow _ (List.getElem_mem hi)

theorem solveLowerUnit_correct (n : Nat) (L : List (List ℝ)) (b : List ℝ) (hL : L.length = n)
    (hrow : ∀ r ∈ L, r.length = n) (hb : b.length = n) :
    let xs := solveLowerUnit realOps L b
    xs.length = n ∧
      ∀ i < n, (∑ j ∈ Finset.range i, entry realOps L i j * xs.getD j 0) + xs.getD i 0 = b.getD i 0 := by
  intro xs
  have hlen : xs.length = n := by
    show (solveLowerUnit realOps L b).length = n
    rw [solveLowerUnit_length, hL, hb, min_self]
  refine ⟨hlen, fun i hi => ?_⟩
  have hrec := solveLowerUnit_rec realOps L b i (by rw [hL, hb, min_self]; exact hi)
  rw [LFIndex.zero_real, LFIndex.realOps_sub, dot_real] at hrec
  have hrl : (L.getD i []).length = n := getD_mem_length L hrow i (by omega)
  have hmin : min (L.getD i []).length ((solveLowerUnit realOps L b).take i).length = i := by
    rw [hrl, List.length_take]
    have : (solveLowerUnit realOps L b).length = n := hlen
    omega
  rw [hmin] at hrec
  have hsum : ∑ j ∈ Finset.range i, entry realOps L i j * xs.getD j 0
      = ∑ j ∈ Finset.range i, (L.getD i []).getD j 0 * ((solveLowerUnit realOps L b).take i).getD j 0 := by
    refine Finset.sum_congr rfl (fun j hj => ?_)
    rw [entry_real, getD_take_of_lt _ _ _ _ (Finset.mem_range.mp hj)]
  rw [hsum]
  show _ + (solveLowerUnit realOps L b).getD i 0 = _
  rw [hrec]; ring

/-! ## C. back substitution -/

theorem solveUpperAux_length {α : Type} (o : Ops α) (i : Nat) (U : List (List α)) (b : List α) :
    (solveUpperAux o i U b).length = min U.length b.length := by
  induction U generalizing i b with
  | nil => simp [solveUpperAux]
  | cons row rest ih =>
    cases b with
    | nil => simp [solveUpperAux]
    | cons bi bs =>
      simp only [solveUpperAux, List.length_cons, ih]
      omega

theorem solveUpper_length {α : Type} (o : Ops α) (U : List (List α)) (b : List α) :
    (solveUpper o U b).length = min U.length b.length :=
  solveUpperAux_length o 0 U b

theorem dot_cons_real (a b : ℝ) (as bs : List ℝ) : dot realOps (a :: as) (b :: bs) = a * b + dot realOps as bs := by
  unfold dot
  rw [sum_real, sum_real, List.zipWith_cons_cons, List.sum_cons, LFIndex.realOps_mul]

theorem getD_drop {α : Type} (l : List α) (i j : Nat) (d : α) : (l.drop i).getD j d = l.getD (i + j) d := by
  rw [List.getD_eq_getElem?_getD, List.getD_eq_getElem?_getD, List.getElem?_drop]

/-- the invariant of back substitution: row `t`, read from its pivot on, against the solution from entry `t` on, gives
    `b t` (the recursion only ever sees these suffixes) -/
theorem solveUpperAux_dot (i : Nat) (rows : List (List ℝ)) (bs : List ℝ) (hlen : rows.length = bs.length)
    (hp : ∀ t < rows.length, (rows.getD t []).getD (i + t) 0 ≠ 0) :
    ∀ t < rows.length,
      dot realOps ((rows.getD t []).drop (i + t)) ((solveUpperAux realOps i rows bs).drop t) = bs.getD t 0 := by
  induction rows generalizing i bs with
  | nil => intro t ht; exact absurd ht (Nat.not_lt_zero t)
  | cons row rest ih =>
    cases bs with
    | nil => exact absurd hlen (Nat.succ_ne_zero _)
    | cons bi bs =>
      intro t ht
      rw [solveUpperAux]
      cases t with
      | zero =>
        have hpiv : row.getD i 0 ≠ 0 := hp 0 ht
        have hi : i < row.length := by
          by_contra h
          exact hpiv (by rw [List.getD_eq_getElem?_getD, List.getElem?_eq_none (not_lt.mp h)]; rfl)
        rw [List.getD_cons_zero, List.getD_cons_zero, Nat.add_zero, List.drop_zero, List.drop_eq_getElem_cons hi,
          dot_cons_real, LFIndex.zero_real, LFIndex.realOps_div, LFIndex.realOps_sub, List.getD_eq_getElem _ _ hi,
          mul_div_cancel₀ _ (by rwa [List.getD_eq_getElem _ _ hi] at hpiv), sub_add_cancel]
      | succ t =>
        have e : i + (t + 1) = i + 1 + t := by omega
        rw [List.getD_cons_succ, List.getD_cons_succ, List.drop_succ_cons, e]
        exact ih (i + 1) bs (Nat.succ.inj hlen)
          (fun s hs => by have := hp (s + 1) (Nat.succ_lt_succ hs); rwa [List.getD_cons_succ, show i + (s + 1) = i + 1 + s by omega] at this)
          t (Nat.lt_of_succ_lt_succ ht)

theorem solveUpper_correct (n : Nat) (U : List (List ℝ)) (b : List ℝ) (hU : U.length = n)
    (hrow : ∀ r ∈ U, r.length = n) (hb : b.length = n) (hd : ∀ i < n, entry realOps U i i ≠ 0) :
    let xs := solveUpper realOps U b
    xs.length = n ∧ ∀ i < n, ∑ j ∈ Finset.Ico i n, entry realOps U i j * xs.getD j 0 = b.getD i 0 := by
  intro xs
  have hxs : xs.length = n := by
    show (solveUpper realOps U b).length = n
    rw [solveUpper_length, hU, hb, min_self]
  refine ⟨hxs, fun i hi => ?_⟩
  have h := solveUpperAux_dot 0 U b (hU.trans hb.symm)
    (fun t ht => by rw [Nat.zero_add, ← entry_real]; exact hd t (hU ▸ ht)) i (hU.symm ▸ hi)
  rw [Nat.zero_add, dot_real, List.length_drop, List.length_drop, getD_mem_length U hrow i (hU.symm ▸ hi),
    show (solveUpperAux realOps 0 U b).length = n from hxs, min_self] at h
  rw [Finset.sum_Ico_eq_sum_range, ← h]
  refine Finset.sum_congr rfl (fun s _ => ?_)
  rw [entry_real, getD_drop, getD_drop]
  rfl

/-! ## D. matrix–vector product -/

theorem matVec_real (n : Nat) (M : List (List ℝ)) (x : List ℝ) (hM : M.length = n)
    (hrow : ∀ r ∈ M, r.length = n) (hx : x.length = n) :
    ∀ i < n, (matVec realOps M x).getD i 0 = ∑ j ∈ Finset.range n, entry realOps M i j * x.getD j 0 := by
  intro i hi
  have hi' : i < M.length := by omega
  unfold matVec
  rw [List.getD_eq_getElem _ _ (by simpa using hi'), List.getElem_map, dot_real,
    hrow _ (List.getElem_mem hi'), hx, min_self]
  refine Finset.sum_congr rfl (fun j _ => ?_)
  rw [entry_real, List.getD_eq_getElem _ _ hi']

end LFTriSolve
