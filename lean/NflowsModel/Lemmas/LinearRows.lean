import NflowsModel.Core.LinearFamily
import Mathlib.Data.Nat.Notation
/-!
# Lemmas/LinearRows — every pass of the linear family is `List.map` of a row function

For every `Ops α` (hence for the `Float` / `Float32` runs as well) a pass of `Core/LinearFamily` acts on a batch row by row
(`RowWise`), and so do both components of the pair `(outputs, logabsdet)` it returns (`PairRowWise`): batch rows are independent
(C12), and what a layer computes is a statement about ONE row function.  The row functions of the five classes, the pairs the
passes return, and the two predicates with their API are here; nothing here mentions the reals.
-/
open NF.LF

namespace LinearJacobian

def RowWise {Row Out : Type} (f : List Row → List Out) (g : Row → Out) : Prop := ∀ X, f X = X.map g

namespace RowWise
variable {Row Out : Type} {f : List Row → List Out} {g : Row → Out}

theorem congr_rows {F G : List Row → List Out} {f g : Row → Out} (hF : RowWise F f)
    (hG : RowWise G g) (X : List Row) (h : ∀ x ∈ X, F [x] = G [x]) : F X = G X := by
  rw [hF X, hG X]
  refine List.map_congr_left fun x hx => ?_
  have := h x hx
  rw [hF [x], hG [x]] at this
  simpa using this

theorem length (h : RowWise f g) (X : List Row) : (f X).length = X.length := by rw [h X, List.length_map]

theorem getElem? (h : RowWise f g) (X : List Row) (i : ℕ) : (f X)[i]? = X[i]?.map g := by rw [h X, List.getElem?_map]

theorem getD (h : RowWise f g) (X : List Row) (i : ℕ) (hi : i < X.length) (d : Row) (d' : Out) :
    (f X).getD i d' = g (X.getD i d) := by
  simp [h X, List.getD_eq_getElem?_getD, hi]

theorem singleton (h : RowWise f g) (x : Row) : f [x] = [g x] := h [x]

theorem row_alone (h : RowWise f g) (X : List Row) (i : ℕ) (hi : i < X.length) : f [X[i]] = [(f X)[i]'(by rw [h.length]; exact hi)] := by
  simp [h X, h [X[i]]]

theorem append (h : RowWise f g) (X Y : List Row) : f (X ++ Y) = f X ++ f Y := by rw [h, h, h, List.map_append]

theorem take (h : RowWise f g) (X : List Row) (k : ℕ) : f (X.take k) = (f X).take k := by rw [h, h, List.map_take]

theorem drop (h : RowWise f g) (X : List Row) (k : ℕ) : f (X.drop k) = (f X).drop k := by rw [h, h, List.map_drop]

theorem perm (h : RowWise f g) {X Y : List Row} (hp : X.Perm Y) : (f X).Perm (f Y) := by rw [h, h]; exact hp.map g

theorem reverse (h : RowWise f g) (X : List Row) : f X.reverse = (f X).reverse := by rw [h, h, List.map_reverse]

theorem sublist (h : RowWise f g) {X Y : List Row} (hs : X.Sublist Y) : (f X).Sublist (f Y) := by rw [h, h]; exact hs.map g

end RowWise

def PairRowWise {Row Out A : Type} (F : List Row → List Out × List A) (g : Row → Out) (c : A) : Prop :=
  ∀ X, F X = (X.map g, X.map (fun _ => c))

namespace PairRowWise
variable {Row Out A : Type} {F : List Row → List Out × List A} {g : Row → Out} {c : A}

theorem fst (h : PairRowWise F g c) : RowWise (fun X => (F X).1) g := fun X => by
  show (F X).1 = _; rw [h X]
theorem snd (h : PairRowWise F g c) : RowWise (fun X => (F X).2) (fun _ => c) := fun X => by
  show (F X).2 = _; rw [h X]

theorem row_alone (h : PairRowWise F g c) (X : List Row) (i : ℕ) (hi : i < X.length) :
    (F X).1[i]? = some (g X[i]) ∧ (F X).2[i]? = some c ∧ F [X[i]] = ([g X[i]], [c]) := by
  rw [h X, h [X[i]]]
  simp [hi]

theorem append (h : PairRowWise F g c) (X Y : List Row) : F (X ++ Y) = ((F X).1 ++ (F Y).1, (F X).2 ++ (F Y).2) := by
  rw [h, h, h]; simp

theorem perm (h : PairRowWise F g c) {X Y : List Row} (hp : X.Perm Y) :
    ((F X).1.zip (F X).2).Perm ((F Y).1.zip (F Y).2) := by
  rw [h, h]
  simp only [List.zip_map']
  exact hp.map _

theorem sublist (h : PairRowWise F g c) {X Y : List Row} (hs : X.Sublist Y) :
    ((F X).1.zip (F X).2).Sublist ((F Y).1.zip (F Y).2) := by
  rw [h, h]
  simp only [List.zip_map']
  exact hs.map _

end PairRowWise

end LinearJacobian

/-! ## the row functions -/

namespace LogdetExec
section lists
variable {α : Type} (o : Ops α)

/-- `LULinear.forward_no_cache` on one row (lu.py:56-68) -/
def luRow (p : LUParams α) (x : List α) : List α :=
  addV o (matVec o (luL o p) (matVec o (luU o p) x)) p.bias

theorem luForward_eq_map (p : LUParams α) (X : List (List α)) : luForward o p X = X.map (luRow o p) := by
  simp [luForward, linear, linear0, luRow, List.map_map, Function.comp_def]

/-- `LULinear.inverse_no_cache` on one row (lu.py:70-91) -/
def luInvRow (p : LUParams α) (x : List α) : List α :=
  solveUpper o (luU o p) (solveLowerUnit o (luL o p) (subV o x p.bias))
theorem luInverse_eq_map (p : LUParams α) (X : List (List α)) : luInverse o p X = X.map (luInvRow o p) := rfl

end lists
end LogdetExec

namespace LinearJacobian
section rows
variable {α : Type} (o : Ops α)

/-- `QRLinear.forward_no_cache` on one row -/
def qrRow (p : QRParams α) (x : List α) : List α := addV o (hhSeq o p.qs (matVec o (qrR o p) x)) p.bias
/-- `QRLinear.inverse_no_cache` on one row -/
def qrInvRow (p : QRParams α) (x : List α) : List α := solveUpper o (qrR o p) (hhSeq o p.qs.reverse (subV o x p.bias))
/-- `SVDLinear.forward_no_cache` on one row -/
def svdRow (p : SVDParams α) (x : List α) : List α :=
  addV o (hhSeq o p.qs1 (List.zipWith o.mul (hhSeq o p.qs2 x) (svdDiag o p))) p.bias
/-- `SVDLinear.inverse_no_cache` on one row -/
def svdInvRow (p : SVDParams α) (x : List α) : List α :=
  hhSeq o p.qs2.reverse (List.zipWith o.div (hhSeq o p.qs1.reverse (subV o x p.bias)) (svdDiag o p))
/-- `NaiveLinear.forward_no_cache` on one row -/
def naiveRow (W : List (List α)) (b : List α) (x : List α) : List α := addV o (matVec o W x) b
/-- the inverse matrix `NaiveLinear.inverse_no_cache` builds (it does not depend on the batch) -/
def naiveWinv (n : ℕ) (W : List (List α)) : List (List α) :=
  let aug := (W.zip (eye o n)).map (fun p => p.1 ++ p.2)
  ((List.range n).foldl (fun st c => gaussStep o c st) ([], aug, [])).1.map (fun r => r.drop n)
/-- `NaiveLinear.inverse_no_cache` on one row -/
def naiveInvRow (n : ℕ) (W : List (List α)) (b : List α) (x : List α) : List α := matVec o (naiveWinv o n W) (subV o x b)

theorem luForward_rowwise (p : LUParams α) : RowWise (luForward o p) (LogdetExec.luRow o p) :=
  LogdetExec.luForward_eq_map o p
theorem luInverse_rowwise (p : LUParams α) : RowWise (luInverse o p) (LogdetExec.luInvRow o p) :=
  LogdetExec.luInverse_eq_map o p
theorem qrForward_rowwise (p : QRParams α) : RowWise (qrForward o p) (qrRow o p) := fun X => by
  simp [qrForward, hhForward, linear0, qrRow, List.map_map, Function.comp_def]
theorem qrInverse_rowwise (p : QRParams α) : RowWise (qrInverse o p) (qrInvRow o p) := fun X => by
  simp [qrInverse, hhInverse, qrInvRow, List.map_map, Function.comp_def]
theorem svdForward_rowwise (p : SVDParams α) : RowWise (svdForward o p) (svdRow o p) := fun X => by
  simp [svdForward, hhForward, svdRow, List.map_map, Function.comp_def]
theorem svdInverse_rowwise (p : SVDParams α) : RowWise (svdInverse o p) (svdInvRow o p) := fun X => by
  simp [svdInverse, hhInverse, svdInvRow, List.map_map, Function.comp_def]
theorem hhForward_rowwise (qs : List (List α)) : RowWise (hhForward o qs) (hhSeq o qs) := fun _ => rfl
theorem hhInverse_rowwise (qs : List (List α)) : RowWise (hhInverse o qs) (hhSeq o qs.reverse) := fun _ => rfl
theorem naiveForward_rowwise (W : List (List α)) (b : List α) : RowWise (naiveForward o W b) (naiveRow o W b) := fun _ => rfl
theorem naiveInverse_rowwise (n : ℕ) (W : List (List α)) (b : List α) :
    RowWise (naiveInverse o n W b) (naiveInvRow o n W b) := fun X => by
  simp [naiveInverse, naiveWinv, naiveInvRow, linear0, List.map_map, Function.comp_def]

end rows
end LinearJacobian

/-! ## the pair `(outputs, logabsdet)` the passes return

`Core/LinearFamily` models the outputs of the passes and the scalar `logabsdet()`; the driver answers `[ld]` once per
layer (`Core/Ops/C11.lean`).  The code returns `logabsdet() * ones(B)` from `forward_no_cache`, `(-logabsdet()) * ones(B)`
from `inverse_no_cache` (lu.py:67,88-91, qr.py:61,80-82, svd.py:73,93-95) and `new_zeros(B)` from
`HouseholderSequence` (orthogonal.py:89-90).  The pairs below are built from the Core functions exactly so. -/

namespace LinearFresh
section passes
variable {α : Type} (o : Ops α)

/-- `c * inputs.new_ones(B)` -/
def timesOnes (c : α) (B : ℕ) : List α := (List.replicate B (one o)).map (fun w => o.mul c w)

def luForwardLd (p : LUParams α) (X : List (List α)) : List (List α) × List α :=
  (luForward o p X, timesOnes o (luLogabsdet o p) X.length)
def luInverseLd (p : LUParams α) (X : List (List α)) : List (List α) × List α :=
  (luInverse o p X, timesOnes o (o.neg (luLogabsdet o p)) X.length)
def qrForwardLd (p : QRParams α) (X : List (List α)) : List (List α) × List α :=
  (qrForward o p X, timesOnes o (qrLogabsdet o p) X.length)
def qrInverseLd (p : QRParams α) (X : List (List α)) : List (List α) × List α :=
  (qrInverse o p X, timesOnes o (o.neg (qrLogabsdet o p)) X.length)
def svdForwardLd (p : SVDParams α) (X : List (List α)) : List (List α) × List α :=
  (svdForward o p X, timesOnes o (svdLogabsdet o p) X.length)
def svdInverseLd (p : SVDParams α) (X : List (List α)) : List (List α) × List α :=
  (svdInverse o p X, timesOnes o (o.neg (svdLogabsdet o p)) X.length)
/-- `HouseholderSequence.forward` / `.inverse`: `(outputs, inputs.new_zeros(batch_size))` -/
def hhForwardLd (qs : List (List α)) (X : List (List α)) : List (List α) × List α :=
  (hhForward o qs X, List.replicate X.length (zero o))
def hhInverseLd (qs : List (List α)) (X : List (List α)) : List (List α) × List α :=
  (hhInverse o qs X, List.replicate X.length (zero o))
end passes
end LinearFresh

namespace NaiveGauss
open LinearFresh

/-- `NaiveLinear.forward` with its log-abs-det (`slogdet(W)[1] * ones(B)`, linear.py:169-181) -/
def naiveForwardLd {α : Type} (o : Ops α) (n : ℕ) (W : List (List α)) (b : List α) (X : List (List α)) : List (List α) × List α :=
  (naiveForward o W b X, timesOnes o (naiveLogabsdet o n W) X.length)
/-- `NaiveLinear.inverse` with its log-abs-det (`-sum(log|diag(lu)|) * ones(B)`, linear.py:183-200) -/
def naiveInverseLd {α : Type} (o : Ops α) (n : ℕ) (W : List (List α)) (b : List α) (X : List (List α)) : List (List α) × List α :=
  (naiveInverse o n W b X, timesOnes o (o.neg (naiveLogabsdet o n W)) X.length)

end NaiveGauss

namespace LinearJacobian
open LinearFresh
section pairs
variable {α : Type} (o : Ops α)

theorem timesOnes_eq_map {Row : Type} (c : α) (X : List Row) :
    timesOnes o c X.length = X.map (fun _ => o.mul c (one o)) := by
  simp [timesOnes, List.map_replicate, List.map_const']

theorem PairRowWise.of_timesOnes {Row Out : Type} {f : List Row → List Out} {g : Row → Out} (h : RowWise f g) (c : α) :
    PairRowWise (fun X => (f X, timesOnes o c X.length)) g (o.mul c (one o)) := fun X => by
  show (f X, timesOnes o c X.length) = _
  rw [timesOnes_eq_map, h X]

/-! C12 for the ten executed passes of the linear family, for every `Ops α` (the `Float` and `Float32` runs included): -/

theorem luForwardLd_pair (p : LUParams α) :
    PairRowWise (luForwardLd o p) (LogdetExec.luRow o p) (o.mul (luLogabsdet o p) (one o)) :=
  .of_timesOnes o (luForward_rowwise o p) _
theorem luInverseLd_pair (p : LUParams α) :
    PairRowWise (luInverseLd o p) (LogdetExec.luInvRow o p) (o.mul (o.neg (luLogabsdet o p)) (one o)) :=
  .of_timesOnes o (luInverse_rowwise o p) _
theorem qrForwardLd_pair (p : QRParams α) :
    PairRowWise (qrForwardLd o p) (qrRow o p) (o.mul (qrLogabsdet o p) (one o)) :=
  .of_timesOnes o (qrForward_rowwise o p) _
theorem qrInverseLd_pair (p : QRParams α) :
    PairRowWise (qrInverseLd o p) (qrInvRow o p) (o.mul (o.neg (qrLogabsdet o p)) (one o)) :=
  .of_timesOnes o (qrInverse_rowwise o p) _
theorem svdForwardLd_pair (p : SVDParams α) :
    PairRowWise (svdForwardLd o p) (svdRow o p) (o.mul (svdLogabsdet o p) (one o)) :=
  .of_timesOnes o (svdForward_rowwise o p) _
theorem svdInverseLd_pair (p : SVDParams α) :
    PairRowWise (svdInverseLd o p) (svdInvRow o p) (o.mul (o.neg (svdLogabsdet o p)) (one o)) :=
  .of_timesOnes o (svdInverse_rowwise o p) _
theorem hhForwardLd_pair (qs : List (List α)) : PairRowWise (hhForwardLd o qs) (hhSeq o qs) (zero o) := fun X => by
  simp [hhForwardLd, hhForward, List.map_const']
theorem hhInverseLd_pair (qs : List (List α)) : PairRowWise (hhInverseLd o qs) (hhSeq o qs.reverse) (zero o) := fun X => by
  simp [hhInverseLd, hhInverse, List.map_const']
theorem naiveForwardLd_pair (n : ℕ) (W : List (List α)) (b : List α) :
    PairRowWise (NaiveGauss.naiveForwardLd o n W b) (naiveRow o W b) (o.mul (naiveLogabsdet o n W) (one o)) :=
  .of_timesOnes o (naiveForward_rowwise o W b) _
theorem naiveInverseLd_pair (n : ℕ) (W : List (List α)) (b : List α) :
    PairRowWise (NaiveGauss.naiveInverseLd o n W b) (naiveInvRow o n W b) (o.mul (o.neg (naiveLogabsdet o n W)) (one o)) :=
  .of_timesOnes o (naiveInverse_rowwise o n W b) _

end pairs
end LinearJacobian
