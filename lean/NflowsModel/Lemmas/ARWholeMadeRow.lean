import NflowsModel.Lemmas.ARWhole
/-!
# Lemmas/ARWholeMadeRow — the executable MADE model run ROW BY ROW on real numbers (`M = ℝ`) as the conditioner of
the executed autoregressive transform

`Core/Made.forward` is generic in the value `M` carried by a unit.  `Lemmas/MadeNet.madeReal` instantiates it at
functions of the whole batch (so that C06 can be stated and proved, batch norm in training mode included).  Here the
SAME `forward` is instantiated at plain reals, one row at a time (`scalarOps`, `rowParams`: per-unit maps act on the
value of the unit — evaluation mode), which is the program a numeric driver runs; a homomorphism lemma
(`forward_hom`: `forward` commutes with any map of values that preserves `zero / add / smul` and the parameters)
identifies it with `madeReal` (`madeRowNet_eq`), so the whole-program theorems of `ARWhole` apply to it.
-/
open NF

namespace NF.Made
variable {S M M' : Type}

/-! ## `forward` commutes with homomorphisms of the value type -/

structure OpsHom (o : MOps S M) (o' : MOps S M') (φ : M → M') : Prop where
  zero : φ o.zero = o'.zero
  add : ∀ a b, φ (o.add a b) = o'.add (φ a) (φ b)
  smul : ∀ s a, φ (o.smul s a) = o'.smul s (φ a)

structure ParamsHom (φ : M → M') (P : Params S M) (P' : Params S M') : Prop where
  W : P'.W = P.W
  bias : ∀ l k, P'.bias l k = φ (P.bias l k)
  ctx : ∀ s k, P'.ctx s k = φ (P.ctx s k)
  um : ∀ s sl k v, P'.um s sl k (φ v) = φ (P.um s sl k v)

def stMap (φ : M → M') (h : St M) : St M' := h.map fun p => (p.1, φ p.2)

variable {o : MOps S M} {o' : MOps S M'} {φ : M → M'}

theorem msum_hom (hφ : OpsHom o o' φ) (l : List M) : φ (msum o l) = msum o' (l.map φ) := by
  induction l with
  | nil => exact hφ.zero
  | cons a r ih => simp only [msum, List.map_cons, hφ.add, ih]

theorem linear_hom (hφ : OpsHom o o' φ) (strict : Bool) (dOut : List Nat) (W : Nat → Nat → S) (b : Nat → M)
    (b' : Nat → M') (hb : ∀ k, b' k = φ (b k)) (h : St M) :
    linear o' strict dOut W b' (stMap φ h) = stMap φ (linear o strict dOut W b h) := by
  unfold linear stMap
  apply List.ext_getElem
  · simp
  · intro k h1 h2
    simp only [List.getElem_mapIdx, List.getElem_map]
    rw [hφ.add, msum_hom hφ, hb]
    congr 3
    apply List.ext_getElem
    · simp
    · intro i h3 h4
      simp only [List.getElem_mapIdx, List.getElem_map]
      split
      · rw [hφ.smul]
      · rw [hφ.zero]

theorem mapUnits_hom (f : Nat → M → M) (f' : Nat → M' → M') (hf : ∀ k v, f' k (φ v) = φ (f k v)) (h : St M) :
    mapUnits f' (stMap φ h) = stMap φ (mapUnits f h) := by
  unfold mapUnits stMap
  apply List.ext_getElem
  · simp
  · intro k h1 h2
    simp only [List.getElem_mapIdx, List.getElem_map, hf]

theorem addConst_hom (hφ : OpsHom o o' φ) (c : Nat → M) (c' : Nat → M') (hc : ∀ k, c' k = φ (c k)) (h : St M) :
    addConst o' c' (stMap φ h) = stMap φ (addConst o c h) := by
  unfold addConst stMap
  apply List.ext_getElem
  · simp
  · intro k h1 h2
    simp only [List.getElem_mapIdx, List.getElem_map, hφ.add, hc]

theorem residualAdd_hom (hφ : OpsHom o o' φ) (h t : St M) :
    residualAdd o' (stMap φ h) (stMap φ t) = stMap φ (residualAdd o h t) := by
  unfold residualAdd stMap
  apply List.ext_getElem
  · simp
  · intro k h1 h2
    simp only [List.getElem_map, List.getElem_zip, hφ.add]

theorem blockFwd_hom (hφ : OpsHom o o' φ) {P : Params S M} {P' : Params S M'} (hP : ParamsHom φ P P') (n : Net)
    (bi li : Nat) (b : Block) (h : St M) :
    blockFwd o' P' n bi li b (stMap φ h) = stMap φ (blockFwd o P n bi li b h) := by
  have hbn : ∀ (s : Slot) (t : St M), (if n.bn then mapUnits (P'.um (bi + 1) s) (stMap φ t) else stMap φ t)
      = stMap φ (if n.bn then mapUnits (P.um (bi + 1) s) t else t) := by
    intro s t; split
    · exact mapUnits_hom _ _ (hP.um _ _) t
    · rfl
  have hctx : ∀ (t : St M), (if n.hasCtx then addConst o' (P'.ctx (bi + 1)) (stMap φ t) else stMap φ t)
      = stMap φ (if n.hasCtx then addConst o (P.ctx (bi + 1)) t else t) := by
    intro t; split
    · exact addConst_hom hφ _ _ (hP.ctx _) t
    · rfl
  cases b with
  | ff d =>
    simp only [blockFwd]
    rw [hbn, hP.W, linear_hom hφ false d (P.W li) (P.bias li) (P'.bias li) (hP.bias li),
      mapUnits_hom _ _ (hP.um _ _), mapUnits_hom _ _ (hP.um _ _)]
  | res d0 d1 =>
    simp only [blockFwd]
    rw [hbn, mapUnits_hom _ _ (hP.um _ _), hP.W,
      linear_hom hφ false d0 (P.W li) (P.bias li) (P'.bias li) (hP.bias li), hctx, hbn,
      mapUnits_hom _ _ (hP.um _ _), mapUnits_hom _ _ (hP.um _ _),
      linear_hom hφ false d1 (P.W (li + 1)) (P.bias (li + 1)) (P'.bias (li + 1)) (hP.bias (li + 1)),
      residualAdd_hom hφ]

theorem blocksFwd_hom (hφ : OpsHom o o' φ) {P : Params S M} {P' : Params S M'} (hP : ParamsHom φ P P') (n : Net) :
    ∀ (bs : List Block) (bi li : Nat) (h : St M),
      blocksFwd o' P' n bi li bs (stMap φ h) = stMap φ (blocksFwd o P n bi li bs h) := by
  intro bs
  induction bs with
  | nil => intro bi li h; rfl
  | cons b r ih =>
    intro bi li h
    simp only [blocksFwd]
    rw [blockFwd_hom hφ hP, ih]

theorem forward_hom (hφ : OpsHom o o' φ) {P : Params S M} {P' : Params S M'} (hP : ParamsHom φ P P') (n : Net)
    (x : List M) : forward o' P' n (x.map φ) = stMap φ (forward o P n x) := by
  have hz : (inputDegrees n.F).zip (x.map φ) = stMap φ ((inputDegrees n.F).zip x) := by
    unfold stMap
    rw [List.zip_map_right]
    rfl
  unfold forward
  simp only
  rw [hz, hP.W, linear_hom hφ false n.d0 (P.W 0) (P.bias 0) (P'.bias 0) (hP.bias 0)]
  have h1 : (if n.hasCtx then
        (if n.nde then addConst o' (P'.ctx 0) (stMap φ (linear o false n.d0 (P.W 0) (P.bias 0) ((inputDegrees n.F).zip x)))
         else addConst o' (fun k => P'.um 0 .ctxAct k (P'.ctx 0 k))
            (stMap φ (linear o false n.d0 (P.W 0) (P.bias 0) ((inputDegrees n.F).zip x))))
      else stMap φ (linear o false n.d0 (P.W 0) (P.bias 0) ((inputDegrees n.F).zip x)))
      = stMap φ (if n.hasCtx then
        (if n.nde then addConst o (P.ctx 0) (linear o false n.d0 (P.W 0) (P.bias 0) ((inputDegrees n.F).zip x))
         else addConst o (fun k => P.um 0 .ctxAct k (P.ctx 0 k))
            (linear o false n.d0 (P.W 0) (P.bias 0) ((inputDegrees n.F).zip x)))
      else linear o false n.d0 (P.W 0) (P.bias 0) ((inputDegrees n.F).zip x)) := by
    split
    · split
      · exact addConst_hom hφ _ _ (hP.ctx 0) _
      · exact addConst_hom hφ _ _ (fun k => by rw [hP.ctx, hP.um]) _
    · rfl
  rw [h1]
  have h2 : ∀ t : St M, (if (!n.nde && !n.residual) = true then mapUnits (P'.um 0 .initAct) (stMap φ t) else stMap φ t)
      = stMap φ (if (!n.nde && !n.residual) = true then mapUnits (P.um 0 .initAct) t else t) := by
    intro t; split
    · exact mapUnits_hom _ _ (hP.um _ _) t
    · rfl
  rw [h2, blocksFwd_hom hφ hP,
    linear_hom hφ true _ (P.W (1 + nLinears n.blocks)) (P.bias (1 + nLinears n.blocks)) _ (hP.bias _)]

theorem outputs_hom (hφ : OpsHom o o' φ) {P : Params S M} {P' : Params S M'} (hP : ParamsHom φ P P') (n : Net)
    (x : List M) : outputs o' P' n (x.map φ) = (outputs o P n x).map φ := by
  unfold outputs
  rw [forward_hom hφ hP, stMap, List.map_map, List.map_map]
  rfl

end NF.Made

/-! ## The scalar instance: one row of real numbers through the executable MADE -/

namespace NF.Made

def scalarOps : MOps ℝ ℝ where
  zero := 0
  add := fun a b => a + b
  smul := fun s a => s * a

/-- real parameters for one row: weights, biases, the row's context contributions `context_layer(context)[k]`, and
    per-unit maps (activation, dropout mask, batch norm in evaluation mode) acting on the value of the unit -/
def rowParams (W : ℕ → ℕ → ℕ → ℝ) (bias : ℕ → ℕ → ℝ) (ctxr : ℕ → ℕ → ℝ) (act : ℕ → Slot → ℕ → ℝ → ℝ) :
    Params ℝ ℝ where
  W := W
  bias := bias
  ctx := ctxr
  um := act

def madeRow (n : Net) (W : ℕ → ℕ → ℕ → ℝ) (bias : ℕ → ℕ → ℝ) (ctxr : ℕ → ℕ → ℝ) (act : ℕ → Slot → ℕ → ℝ → ℝ)
    (row : List ℝ) : List ℝ :=
  outputs scalarOps (rowParams W bias ctxr act) n row

theorem evalHom {β : Type} (X : β → ℕ → ℝ) (b : β) : OpsHom (realOps β) scalarOps (fun f : RM β => f X b) where
  zero := rfl
  add := fun _ _ => rfl
  smul := fun _ _ => rfl

theorem evalParamsHom {β : Type} (X : β → ℕ → ℝ) (b : β) (W : ℕ → ℕ → ℕ → ℝ) (bias : ℕ → ℕ → ℝ)
    (ctxv : ℕ → ℕ → β → ℝ) (act : ℕ → Slot → ℕ → ℝ → ℝ) :
    ParamsHom (fun f : RM β => f X b)
      (realParams W bias ctxv (fun s sl k col b' => act s sl k (col b')))
      (rowParams W bias (fun s k => ctxv s k b) act) where
  W := rfl
  bias := fun _ _ => rfl
  ctx := fun _ _ => rfl
  um := fun _ _ _ _ => rfl

/-- **the row-wise scalar run IS the function-valued model** (`madeReal`, about which C06 is proved) when the
    per-unit maps act row by row: output `u` for row `b` of the batch `X` -/
theorem madeRow_eq_madeReal {β : Type} (n : Net) (W : ℕ → ℕ → ℕ → ℝ) (bias : ℕ → ℕ → ℝ) (ctxv : ℕ → ℕ → β → ℝ)
    (act : ℕ → Slot → ℕ → ℝ → ℝ) (X : β → ℕ → ℝ) (b : β) (u : ℕ) :
    (madeRow n W bias (fun s k => ctxv s k b) act ((List.range n.F).map (X b))).getD u 0
      = madeReal n W bias ctxv (fun s sl k col b' => act s sl k (col b')) X b u := by
  have hin : (List.range n.F).map (X b) = (realInputs β n.F).map (fun f : RM β => f X b) := by
    simp [realInputs, List.map_map]
  unfold madeRow madeReal
  rw [hin, outputs_hom (evalHom X b) (evalParamsHom X b W bias ctxv act)]
  simp only [List.getD_eq_getElem?_getD, List.getElem?_map]
  cases (outputs (realOps β) (realParams W bias ctxv fun s sl k col b' => act s sl k (col b')) n
    (realInputs β n.F))[u]? <;> rfl

theorem madeRow_length (n : Net) (W : ℕ → ℕ → ℕ → ℝ) (bias : ℕ → ℕ → ℝ) (ctxr : ℕ → ℕ → ℝ)
    (act : ℕ → Slot → ℕ → ℝ → ℝ) (row : List ℝ) : (madeRow n W bias ctxr act row).length = n.F * n.m :=
  outputs_length _ _ _

end NF.Made

/-! ## The conditioner of the executed autoregressive transform, row by row -/

namespace NF.ARWhole
open NF.Made NF.StructureExec

def rowList (F : Nat) (x : Array ℝ) (b : Nat) : List ℝ := (List.range F).map fun j => x.getD (b * F + j) 0

/-- adapter: `autoregressive_net(inputs, context)` — the executed row program `madeRow` applied to every row of the
    flat `[B, F]` input (`ctxr b` = the context contributions of row `b`), results concatenated into the flat
    `[B, F * m]` parameter tensor that `arApply` slices -/
def madeRowNet (n : Net) (W : ℕ → ℕ → ℕ → ℝ) (bias : ℕ → ℕ → ℝ) (B : Nat) (ctxr : ℕ → ℕ → ℕ → ℝ)
    (act : ℕ → Slot → ℕ → ℝ → ℝ) (x : Array ℝ) : Array ℝ :=
  ((List.range B).flatMap fun b => madeRow n W bias (ctxr b) act (rowList n.F x b)).toArray

theorem madeRowNet_eq (n : Net) (W : ℕ → ℕ → ℕ → ℝ) (bias : ℕ → ℕ → ℝ) (B : Nat) (ctxr : ℕ → ℕ → ℕ → ℝ)
    (act : ℕ → Slot → ℕ → ℝ → ℝ) :
    madeRowNet n W bias B ctxr act
      = madeNet n W bias B (fun s k b => ctxr b.1 s k) (fun s sl k col b' => act s sl k (col b')) := by
  funext x
  unfold madeRowNet madeNet
  congr 1
  apply List.flatMap_congr
  intro b hb
  have hb' : b < B := List.mem_range.1 hb
  apply List.ext_getElem
  · rw [madeRow_length]; simp
  · intro u h1 h2
    have hrow : rowList n.F x b = (List.range n.F).map (batchOf B n.F x ⟨b, hb'⟩) := rfl
    have := madeRow_eq_madeReal (β := Fin B) n W bias (fun s k b => ctxr b.1 s k) act (batchOf B n.F x) ⟨b, hb'⟩ u
    rw [← hrow] at this
    simp only [List.getElem_map, List.getElem_range, hb', dite_true]
    rw [← this, List.getD_eq_getElem?_getD, List.getElem?_eq_getElem h1]
    rfl

/-- **C02 + C06, row-wise executed MADE, generic element family**: for every architecture accepted by `build`,
    every real weight assignment, every `B`: if the forward pass raised nothing and the elements invert on the
    forward parameters, the `F`-pass loop returns the input, has the prefix invariant, and negates the log-det. -/
theorem madeRow_ar_inverse_forward (e : Float → ℝ) (c : ElCfg) (a : Arch) (n : Net) (hbuild : build a = .ok n)
    (hmult : a.mult = pw c) (W : ℕ → ℕ → ℕ → ℝ) (bias : ℕ → ℕ → ℝ) (B : Nat) (ctxr : ℕ → ℕ → ℕ → ℝ)
    (act : ℕ → Slot → ℕ → ℝ → ℝ) (x : Array ℝ) (hx : x.size = B * a.F)
    (hinv : ArElInvertible (NF.realX e) c a.F (madeRowNet n W bias B ctxr act x) B)
    (herr : (arForward (NF.realX e) c B a.F (madeRowNet n W bias B ctxr act) x).err = none) :
    let net := madeRowNet n W bias B ctxr act
    let fwd := arForward (NF.realX e) c B a.F net x
    let inv := arInverse (NF.realX e) c B a.F net fwd.out
    inv.out = x
      ∧ (∀ k, AgreeBelow B a.F k (arIter (NF.realX e) c B a.F net fwd.out k).out x)
      ∧ (∀ b, b < B → inv.ld[b]? = (fwd.ld[b]?).map (fun l => -l)) := by
  rw [madeRowNet_eq] at hinv herr ⊢
  obtain ⟨h1, h2, _, h4⟩ := made_ar_inverse_forward e c a n hbuild hmult W bias B _ _ x hx hinv herr
  exact ⟨h1, h2, h4⟩

/-! ### non-vacuity: a concrete architecture, a concrete configuration -/

def exArch : Arch := { F := 3, H := 4, nBlocks := 1, mult := 2, residual := true, random := false, nde := false,
                       ctx := 0, bn := false }

theorem exArch_builds : ∃ n, build exArch = .ok n := by
  have h : (match build exArch with | .ok _ => true | .error _ => false) = true := by decide
  cases hb : build exArch with
  | ok n => exact ⟨n, rfl⟩
  | error err => rw [hb] at h; cases h

/-- affine elements with `eps = 1e-3` read by `RQWhole.eNV` (a two-valued reading, `≥ 0` everywhere) -/
def exAffine : ElCfg := { container := "ar", kind := "araffine", ds := #[1e-3] }

theorem exArch_affine_roundtrip (n : Net) (hn : build exArch = .ok n) (W : ℕ → ℕ → ℕ → ℝ) (bias : ℕ → ℕ → ℝ)
    (B : Nat) (ctxr : ℕ → ℕ → ℕ → ℝ) (act : ℕ → Slot → ℕ → ℝ → ℝ) (x : Array ℝ) (hx : x.size = B * 3) :
    (arInverse (NF.realX RQWhole.eNV) exAffine B 3 (madeRowNet n W bias B ctxr act)
      (arForward (NF.realX RQWhole.eNV) exAffine B 3 (madeRowNet n W bias B ctxr act) x).out).out = x := by
  have he : 0 ≤ RQWhole.eNV (exAffine.ds.getD 0 0.0) := by
    unfold RQWhole.eNV; split <;> norm_num
  rw [madeRowNet_eq]
  exact (made_affine_roundtrip_real RQWhole.eNV exAffine rfl he exArch n hn rfl W bias B _ _ x hx).1.2.2.1

/-- one-bin RQ elements (`StructureExecRQ.cW`), multiplier `3·1+1 = 4` -/
def exArchRQ : Arch := { exArch with mult := 4 }

theorem exArchRQ_builds : ∃ n, build exArchRQ = .ok n := by
  have h : (match build exArchRQ with | .ok _ => true | .error _ => false) = true := by decide
  cases hb : build exArchRQ with
  | ok n => exact ⟨n, rfl⟩
  | error err => rw [hb] at h; cases h

theorem exArchRQ_roundtrip (n : Net) (hn : build exArchRQ = .ok n) (W : ℕ → ℕ → ℕ → ℝ) (bias : ℕ → ℕ → ℝ)
    (B : Nat) (ctxr : ℕ → ℕ → ℕ → ℝ) (act : ℕ → Slot → ℕ → ℝ → ℝ) (x : Array ℝ) (hx : x.size = B * 3)
    (hbox : InBox (RQWhole.eNV (rqCfgOf cW).box.left) (RQWhole.eNV (rqCfgOf cW).box.right) B 3 x) :
    (arInverse (NF.realX RQWhole.eNV) cW B 3 (madeRowNet n W bias B ctxr act)
      (arForward (NF.realX RQWhole.eNV) cW B 3 (madeRowNet n W bias B ctxr act) x).out).out = x := by
  rw [madeRowNet_eq]
  exact ((made_rq_roundtrip_real RQWhole.eNV cW rqCfgValid_example exArchRQ n hn rfl W bias B _ _).1 x hx hbox).2.2.1

end NF.ARWhole
