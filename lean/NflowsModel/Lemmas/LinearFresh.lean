import NflowsModel.Real.LinearBridge
/-!
# Lemmas/LinearFresh — freshly constructed layers of the linear family, the log-abs-det the passes return

The constructors of LU / QR / SVD / Householder layers (`lu.py:13-42`, `qr.py:14-35`, `svd.py:14-54`, `linear.py:34-36`,
`orthogonal.py:16-63`) are model functions with the errors the code raises; every accepted size and initialisation mode yields a
`Usable` layer (the five accessors describe one invertible affine map, on whole batches); `identity_init=True` with `0 ≤ eps < 1`
gives `W = 1`, and `eps < 1` is forced.  The pairs `(outputs, logabsdet)` the passes return (`Lemmas/LinearRows`) carry `log|det W|`,
`-log|det W| = log|det W⁻¹|`, and `0 = log|det Q|` for Householder sequences.  Both are read off `LinearBridge.Denotes`
(`Denotes.usable`, `Denotes.passesAgree`: proved here of any layer class that supplies a `Denotes`).
-/
open Matrix NF.LF DualSound LinearBridge

namespace LinearFresh
noncomputable section

/-! ## §1 usable layers -/

/-- "usable": `weight()` is an invertible matrix `W`, `weight_inverse()` its two-sided inverse, `logabsdet()` is
    `log|det W|`, the forward pass is `x ↦ W x + b` on every row of every batch and the inverse pass undoes it. -/
def Usable (n : ℕ) (weight winv : List (List ℝ)) (ld : ℝ) (fwd inv : List (List ℝ) → List (List ℝ))
    (b : Fin n → ℝ) : Prop :=
  ∃ W Winv : Matrix (Fin n) (Fin n) ℝ,
    weight = ofMat W ∧ winv = ofMat Winv ∧ IsUnit W.det ∧ Winv * W = 1 ∧ W * Winv = 1 ∧
    ld = Real.log |W.det| ∧
    (∀ xs : List (Fin n → ℝ), fwd (xs.map List.ofFn) = xs.map (fun x => List.ofFn (W *ᵥ x + b))) ∧
    (∀ xs : List (Fin n → ℝ), inv (fwd (xs.map List.ofFn)) = xs.map List.ofFn)

theorem batch_of_single {β γ : Type} (F : List β → List γ) (hF : ∀ X, F X = X.flatMap (fun x => F [x]))
    (g : β → γ) (h1 : ∀ x, F [x] = [g x]) (X : List β) : F X = X.map g := by
  rw [hF X, List.map_eq_flatMap]
  simp only [h1]

section denotes
variable {n : ℕ} {W : Matrix (Fin n) (Fin n) ℝ} {b : Fin n → ℝ} {weight winv : List (List ℝ)} {ld : ℝ} {g gi : List ℝ → List ℝ}

theorem _root_.LinearBridge.Denotes.usable (h : Denotes W b weight winv ld g gi) {fwd inv : List (List ℝ) → List (List ℝ)}
    (hF : LinearJacobian.RowWise fwd g) (hI : LinearJacobian.RowWise inv gi) : Usable n weight winv ld fwd inv b := by
  refine ⟨W, W⁻¹, h.weight_eq, h.winv_eq, isUnit_iff_ne_zero.mpr h.det_ne, h.inv_mul, h.mul_inv, h.ld_eq, fun xs => ?_,
    fun xs => ?_⟩
  · rw [hF, List.map_map]
    exact List.map_congr_left fun x _ => h.row x
  · rw [hF, hI, List.map_map, List.map_map]
    exact List.map_congr_left fun x _ => h.roundtrip x

end denotes

/-! ## §2 the constructors -/
section ctor
variable {α : Type} (o : Ops α)

/-- `n_triangular_entries = ((features - 1) * features) // 2` (lu.py:22, qr.py:20) -/
def nTri (n : ℕ) : ℕ := ((n - 1) * n) / 2

/-- the `identity_init` constant `np.log(np.exp(1 - eps) - 1)` (lu.py:36, svd.py:50) -/
def idConst (eps : α) : α := o.log (o.sub (o.exp (o.sub (one o) eps)) (one o))

/-- `torch.zeros(k)` -/
def zeros (k : ℕ) : List α := List.replicate k (zero o)

/-- parameters after `LULinear.__init__` with `identity_init=False`: bias zero, the three `init.uniform_` draws
    `lo`, `up`, `ud` (any values; the constructor makes them of lengths `nTri n`, `nTri n`, `n`) -/
def luInit (n : ℕ) (eps : α) (lo up ud : List α) : LUParams α :=
  { n := n, lower := lo, upper := up, udiag := ud, bias := zeros o n, eps := eps }

/-- parameters after `LULinear.__init__` with `identity_init=True` (lu.py:33-37) -/
def luIdInit (n : ℕ) (eps : α) : LUParams α :=
  luInit o n eps (zeros o (nTri n)) (zeros o (nTri n)) (List.replicate n (idConst o eps))

/-- `LULinear(features, identity_init, eps)` for an integer `features`; `draws = none` is `identity_init=True`
    (`Linear.__init__` raises `TypeError` unless `features` is a positive int, linear.py:34-36) -/
def luConstruct (features : Int) (eps : α) (draws : Option (List α × List α × List α)) : Except Err (LUParams α) :=
  if features ≤ 0 then .error .typeError
  else .ok (match draws with
    | none => luIdInit o features.toNat eps
    | some d => luInit o features.toNat eps d.1 d.2.1 d.2.2)

/-- parameters after `QRLinear.__init__` (qr.py:14-35): uniform draws `up`, `ld`, zero bias, the Householder
    sequence's constructor q-vectors -/
def qrInit (n num : ℕ) (up ld : List α) : QRParams α :=
  { n := n, upper := up, logDiag := ld, qs := hhInitQ o n num, bias := zeros o n }

/-- `QRLinear(features, num_householder)` for integer arguments -/
def qrConstruct (features num : Int) (up ld : List α) : Except Err (QRParams α) :=
  if features ≤ 0 then .error .typeError
  else match (hhConstruct o features num : Except Err (List (List α))) with
    | .error e => .error e
    | .ok _ => .ok (qrInit o features.toNat num.toNat up ld)

/-- parameters after `SVDLinear.__init__` with `identity_init=False` (svd.py:14-54): both Householder sequences get
    the same constructor q-vectors -/
def svdInit (n num : ℕ) (eps : α) (ud : List α) : SVDParams α :=
  { n := n, udiag := ud, qs1 := hhInitQ o n num, qs2 := hhInitQ o n num, bias := zeros o n, eps := eps }

/-- `identity_init=True` (svd.py:49-51) -/
def svdIdInit (n num : ℕ) (eps : α) : SVDParams α := svdInit o n num eps (List.replicate n (idConst o eps))

/-- `SVDLinear(features, num_householder, identity_init, eps)` for integer arguments, in the code's order:
    `Linear.__init__` (`TypeError`), `assert num_householder % 2 == 0` (svd.py:19, `AssertionError`), then the two
    `HouseholderSequence` constructors (`TypeError` for `num ≤ 0`) -/
def svdConstruct (features num : Int) (eps : α) (draw : Option (List α)) : Except Err (SVDParams α) :=
  if features ≤ 0 then .error .typeError
  else if num % 2 != 0 then .error .assertion
  else match (hhConstruct o features num : Except Err (List (List α))) with
    | .error e => .error e
    | .ok _ => .ok (match draw with
      | none => svdIdInit o features.toNat num.toNat eps
      | some ud => svdInit o features.toNat num.toNat eps ud)

theorem exists_ok_ite {ε β : Type} (c : Prop) [Decidable c] (e : ε) (y : Except ε β) :
    (∃ p, (if c then Except.error e else y) = .ok p) ↔ ¬ c ∧ ∃ p, y = .ok p := by
  by_cases h : c
  · rw [if_pos h]; exact ⟨fun ⟨_, hp⟩ => (nomatch hp), fun hn => absurd h hn.1⟩
  · rw [if_neg h]; exact ⟨fun hp => ⟨h, hp⟩, fun hp => hp.2⟩

theorem qrConstruct_eq (features num : Int) (up ld : List α) :
    qrConstruct o features num up ld =
      if features ≤ 0 then .error .typeError else if num ≤ 0 then .error .typeError
      else .ok (qrInit o features.toNat num.toNat up ld) := by
  unfold qrConstruct hhConstruct
  by_cases h : features ≤ 0
  · simp only [if_pos h]
  · by_cases h2 : num ≤ 0
    · simp only [if_neg h, if_pos h2]
    · simp only [if_neg h, if_neg h2]

theorem svdConstruct_eq (features num : Int) (eps : α) (draw : Option (List α)) :
    svdConstruct o features num eps draw =
      if features ≤ 0 then .error .typeError else if num % 2 != 0 then .error .assertion
      else if num ≤ 0 then .error .typeError
      else .ok (match draw with
        | none => svdIdInit o features.toNat num.toNat eps
        | some ud => svdInit o features.toNat num.toNat eps ud) := by
  unfold svdConstruct hhConstruct
  by_cases h : features ≤ 0
  · simp only [if_pos h]
  · by_cases h2 : num ≤ 0
    · simp only [if_neg h, if_pos h2]
    · simp only [if_neg h, if_neg h2]

theorem construct_accepts (features num : Int) (eps : α) (dl : Option (List α × List α × List α)) (up ld : List α)
    (ds : Option (List α)) :
    ((∃ p, luConstruct o features eps dl = .ok p) ↔ 1 ≤ features) ∧
    ((∃ p, qrConstruct o features num up ld = .ok p) ↔ 1 ≤ features ∧ 1 ≤ num) ∧
    ((∃ p, svdConstruct o features num eps ds = .ok p) ↔ 1 ≤ features ∧ 1 ≤ num ∧ num % 2 = 0) := by
  refine ⟨?_, ?_, ?_⟩
  · unfold luConstruct
    rw [exists_ok_ite]
    exact ⟨fun h => by omega, fun h => ⟨by omega, _, rfl⟩⟩
  · rw [qrConstruct_eq, exists_ok_ite, exists_ok_ite]
    exact ⟨fun h => by omega, fun h => ⟨by omega, by omega, _, rfl⟩⟩
  · rw [svdConstruct_eq, exists_ok_ite, exists_ok_ite, exists_ok_ite, bne_iff_ne, ne_eq, not_not]
    exact ⟨fun h => by omega, fun h => ⟨by omega, by omega, by omega, _, rfl⟩⟩

theorem svd_odd_rejected (features num : Int) (hf : 1 ≤ features) (hodd : num % 2 = 1) (eps : α) (ds : Option (List α)) :
    svdConstruct o features num eps ds = .error .assertion := by
  unfold svdConstruct
  have h : ¬ features ≤ 0 := by omega
  simp [h, hodd]

end ctor

/-! ## §3 fresh layers are usable, for every accepted size and initialisation mode -/

theorem vecFn_zeros (n : ℕ) : vecFn n (zeros realOps n) = 0 := by
  funext i
  simp [vecFn, zeros, List.getD_eq_getElem?_getD]

theorem zeros_length {α : Type} (o : Ops α) (k : ℕ) : (zeros o k).length = k := by simp [zeros]

theorem initVs_ne (n num : ℕ) (hf : 0 < n) : ∀ v ∈ initVs n num hf, v ⬝ᵥ v ≠ 0 := fun v h => by
  rw [initVs_unit n num hf v h]; exact one_ne_zero

theorem construct_ok {α : Type} (o : Ops α) (n num : ℕ) (hn : 1 ≤ n) (hk : 1 ≤ num) (eps : α) (lo up ud ld : List α) :
    luConstruct o (n : ℤ) eps none = .ok (luIdInit o n eps) ∧
    luConstruct o (n : ℤ) eps (some (lo, up, ud)) = .ok (luInit o n eps lo up ud) ∧
    qrConstruct o (n : ℤ) (num : ℤ) up ld = .ok (qrInit o n num up ld) ∧
    (num % 2 = 0 → svdConstruct o (n : ℤ) (num : ℤ) eps none = .ok (svdIdInit o n num eps) ∧
      svdConstruct o (n : ℤ) (num : ℤ) eps (some ud) = .ok (svdInit o n num eps ud)) := by
  have h1 : n ≠ 0 := by omega
  have h2 : num ≠ 0 := by omega
  refine ⟨by simp [luConstruct, h1], by simp [luConstruct, h1], by simp [qrConstruct, hhConstruct, h1, h2], ?_⟩
  intro hev
  have h3 : (num : ℤ) % 2 = 0 := by omega
  constructor <;> simp [svdConstruct, hhConstruct, h1, h2, h3]

/-- **a fresh `LULinear` is usable**: every `features`, `identity_init=False` with any draws (`ud` of the constructor's
    length), any `eps ≥ 0`; the bias is zero -/
theorem lu_fresh_usable (n : ℕ) (eps : ℝ) (heps : 0 ≤ eps) (lo up ud : List ℝ) (hud : ud.length = n) :
    Usable n (luWeight realOps (luInit realOps n eps lo up ud)) (luWeightInverse realOps (luInit realOps n eps lo up ud))
      (luLogabsdet realOps (luInit realOps n eps lo up ud)) (luForward realOps (luInit realOps n eps lo up ud))
      (luInverse realOps (luInit realOps n eps lo up ud)) 0 := by
  have := (lu_denotes (luInit realOps n eps lo up ud) hud heps (zeros_length _ n)).usable
    (LinearJacobian.luForward_rowwise _ _) (LinearJacobian.luInverse_rowwise _ _)
  simpa only [luInit, vecFn_zeros] using this

theorem lu_fresh_id_usable (n : ℕ) (eps : ℝ) (heps : 0 ≤ eps) :
    Usable n (luWeight realOps (luIdInit realOps n eps)) (luWeightInverse realOps (luIdInit realOps n eps))
      (luLogabsdet realOps (luIdInit realOps n eps)) (luForward realOps (luIdInit realOps n eps))
      (luInverse realOps (luIdInit realOps n eps)) 0 :=
  lu_fresh_usable n eps heps _ _ _ (by simp)

/-- **a fresh `QRLinear` is usable**: every `features ≥ 1`, every Householder count (odd, even, beyond
    `2·features`), any draws with `log_upper_diag` of the constructor's length -/
theorem qr_fresh_usable (n num : ℕ) (hn : 1 ≤ n) (up ld : List ℝ) (hld : ld.length = n) :
    Usable n (qrWeight realOps (qrInit realOps n num up ld)) (qrWeightInverse realOps (qrInit realOps n num up ld))
      (qrLogabsdet realOps (qrInit realOps n num up ld)) (qrForward realOps (qrInit realOps n num up ld))
      (qrInverse realOps (qrInit realOps n num up ld)) 0 := by
  have := (qr_denotes (qrInit realOps n num up ld) (initVs n num hn) (hhInitQ_real n num hn) (initVs_ne n num hn) hld
    (zeros_length _ n)).usable (LinearJacobian.qrForward_rowwise _ _) (LinearJacobian.qrInverse_rowwise _ _)
  simpa only [qrInit, vecFn_zeros] using this

/-- **a fresh `SVDLinear` is usable**: every `features ≥ 1`, every Householder count (the constructor accepts the even
    ones), any draw `ud` of the constructor's length, any `eps ≥ 0` -/
theorem svd_fresh_usable (n num : ℕ) (hn : 1 ≤ n) (eps : ℝ) (heps : 0 ≤ eps) (ud : List ℝ) (hud : ud.length = n) :
    Usable n (svdWeight realOps (svdInit realOps n num eps ud)) (svdWeightInverse realOps (svdInit realOps n num eps ud))
      (svdLogabsdet realOps (svdInit realOps n num eps ud)) (svdForward realOps (svdInit realOps n num eps ud))
      (svdInverse realOps (svdInit realOps n num eps ud)) 0 := by
  have := (svd_denotes (svdInit realOps n num eps ud) (initVs n num hn) (initVs n num hn) (hhInitQ_real n num hn)
    (hhInitQ_real n num hn) (initVs_ne n num hn) (initVs_ne n num hn) hud heps (zeros_length _ n)).usable
    (LinearJacobian.svdForward_rowwise _ _) (LinearJacobian.svdInverse_rowwise _ _)
  simpa only [svdInit, vecFn_zeros] using this

theorem svd_fresh_id_usable (n num : ℕ) (hn : 1 ≤ n) (eps : ℝ) (heps : 0 ≤ eps) :
    Usable n (svdWeight realOps (svdIdInit realOps n num eps)) (svdWeightInverse realOps (svdIdInit realOps n num eps))
      (svdLogabsdet realOps (svdIdInit realOps n num eps)) (svdForward realOps (svdIdInit realOps n num eps))
      (svdInverse realOps (svdIdInit realOps n num eps)) 0 :=
  svd_fresh_usable n num hn eps heps _ (by simp)

/-! ### `identity_init=True` gives the identity matrix (for `0 ≤ eps < 1`) -/

theorem lookupIdx_zero (idx : List (ℕ × ℕ)) (vals : List ℝ) (hz : ∀ v ∈ vals, v = 0) (i j : ℕ) :
    (lookupIdx idx vals i j).getD 0 = 0 := by
  unfold lookupIdx
  cases h : (idx.zip vals).find? (fun p => p.1 == (i, j)) with
  | none => rfl
  | some q =>
    have hm : q ∈ idx.zip vals := List.mem_of_find?_eq_some h
    simpa using hz q.2 (List.of_mem_zip (a := q.1) (b := q.2) hm).2

theorem mkLower_zero {n : ℕ} : LU.mkLower (fun _ _ : Fin n => (0 : ℝ)) = 1 := by
  ext i j
  simp only [LU.mkLower, Matrix.one_apply]
  by_cases h : j < i
  · simp [h, h.ne']
  · simp [h]

theorem mkUpper_one {n : ℕ} : LU.mkUpper (fun _ _ : Fin n => (0 : ℝ)) (fun _ => 1) = 1 := by
  ext i j
  simp only [LU.mkUpper, Matrix.one_apply]
  by_cases h : i < j
  · simp [h, h.ne]
  · simp [h]

theorem loFn_zeros (n k : ℕ) : loFn n (zeros realOps k) = fun _ _ => 0 := by
  funext i j
  exact lookupIdx_zero _ _ (fun v hv => by simpa [zeros] using (List.eq_of_mem_replicate hv)) i j

theorem upFn_zeros (n k : ℕ) : upFn n (zeros realOps k) = fun _ _ => 0 := by
  funext i j
  exact lookupIdx_zero _ _ (fun v hv => by simpa [zeros] using (List.eq_of_mem_replicate hv)) i j

theorem idConst_real (eps : ℝ) : idConst realOps eps = Real.log (Real.exp (1 - eps) - 1) := by
  simp [idConst, LFIndex.realOps_log, LFIndex.realOps_sub, LFIndex.realOps_exp]

theorem idDiag_one (n : ℕ) (eps : ℝ) (h0 : 0 ≤ eps) (h1 : eps < 1) :
    vecFn n (posDiag realOps eps (List.replicate n (idConst realOps eps))) = fun _ => 1 := by
  funext i
  have hi : (i : ℕ) < n := i.2
  simp only [vecFn, posDiag, List.map_replicate, List.getD_eq_getElem?_getD, List.getElem?_replicate, hi, if_true,
    Option.getD_some, idConst_real]
  exact LFIndex.identity_init_diag eps h0 h1

/-- **fresh `LULinear(identity_init=True)`, `0 ≤ eps < 1`: `weight()` is the identity matrix, `logabsdet() = 0`,
    the forward pass is the identity map** -/
theorem lu_identity_init (n : ℕ) (eps : ℝ) (h0 : 0 ≤ eps) (h1 : eps < 1) :
    luW (luIdInit realOps n eps) = 1 ∧
    luWeight realOps (luIdInit realOps n eps) = eye realOps n ∧
    luLogabsdet realOps (luIdInit realOps n eps) = 0 ∧
    ∀ xs : List (Fin n → ℝ), luForward realOps (luIdInit realOps n eps) (xs.map List.ofFn) = xs.map List.ofFn := by
  have hW : luW (luIdInit realOps n eps) = 1 := by
    unfold luW luIdInit luInit
    simp only
    rw [loFn_zeros, upFn_zeros, idDiag_one n eps h0 h1, mkLower_zero, mkUpper_one, one_mul]
  obtain ⟨W, Winv, hw, -, -, -, -, hld, hf, -⟩ := lu_fresh_id_usable n eps h0
  have hWW : W = 1 := (ofMat_injective (hw.symm.trans (luWeight_executed _))).trans hW
  subst hWW
  refine ⟨hW, by rw [hw, eye_eq], by rw [hld]; simp, fun xs => ?_⟩
  rw [hf]; simp

/-- an even number of constructor q-vectors: the reflections cancel in pairs, the sequence is the identity -/
theorem seqMat_initVs_even (n k : ℕ) (hn : 0 < n) : LinearFamily.seqMat (initVs n (2 * k) hn) = 1 := by
  induction k with
  | zero => rfl
  | succ k ih =>
    have hr : List.range (2 * (k + 1)) = List.range (2 * k) ++ [2 * k, 2 * k + 1] := by
      rw [show 2 * (k + 1) = 2 * k + 1 + 1 by ring, List.range_succ, List.range_succ]; simp
    have e1 : 2 * k / 2 = k := by omega
    have e2 : (2 * k + 1) / 2 = k := by omega
    unfold initVs at ih ⊢
    rw [hr, List.map_append, LinearFamily.seqMat_append, ih, one_mul]
    simp only [List.map_cons, List.map_nil, e1, e2, LinearFamily.seqMat, List.prod_cons, List.prod_nil, mul_one]
    exact LinearFamily.hhMat_mul_self _ (by rw [dotProduct_single, Pi.single_eq_same, mul_one]; exact one_ne_zero)

theorem Q_initVs_even (n k : ℕ) (hn : 0 < n) : LinearFamily.Q (initVs n (2 * k) hn) = 1 := by
  unfold LinearFamily.Q; rw [seqMat_initVs_even, Matrix.transpose_one]

/-- stated for a free `n`: inside `svdW p` the index type is `Fin p.n`, and rewriting `Q … = 1` there does not typecheck -/
theorem svdW_one {n : ℕ} (vs : List (Fin n → ℝ)) (d : Fin n → ℝ) (hQ : LinearFamily.Q vs = 1) (hd : d = fun _ => 1) :
    LinearFamily.Q vs * Matrix.diagonal d * LinearFamily.Q vs = 1 := by
  rw [hQ, hd]; simp

/-- **fresh `SVDLinear(identity_init=True)`, `0 ≤ eps < 1`, any accepted (even) Householder count: `weight()` is the
    identity matrix, `logabsdet() = 0`, the forward pass is the identity map** -/
theorem svd_identity_init (n k : ℕ) (hn : 1 ≤ n) (eps : ℝ) (h0 : 0 ≤ eps) (h1 : eps < 1) :
    svdWeight realOps (svdIdInit realOps n (2 * k) eps) = eye realOps n ∧
    svdLogabsdet realOps (svdIdInit realOps n (2 * k) eps) = 0 ∧
    ∀ xs : List (Fin n → ℝ), svdForward realOps (svdIdInit realOps n (2 * k) eps) (xs.map List.ofFn) = xs.map List.ofFn := by
  have hD : (svdD (svdIdInit realOps n (2 * k) eps) : Fin n → ℝ) = fun _ => 1 := by
    funext i
    have hi : (i : ℕ) < n := i.2
    simp only [svdD, svdIdInit, svdInit, svdDiag, vecFn, List.map_replicate, List.getD_eq_getElem?_getD,
      List.getElem?_replicate, hi, if_true, Option.getD_some, idConst_real]
    have := LFIndex.identity_init_diag eps h0 h1
    rw [LFIndex.realOps_add]; linarith
  have hW : svdW (svdIdInit realOps n (2 * k) eps) (initVs n (2 * k) hn) (initVs n (2 * k) hn) = 1 := by
    exact svdW_one _ _ (Q_initVs_even n k hn) hD
  obtain ⟨W, Winv, hw, -, -, -, -, hld, hf, -⟩ := svd_fresh_id_usable n (2 * k) hn eps h0
  have hWW : W = 1 :=
    (ofMat_injective (hw.symm.trans (svdWeight_executed (svdIdInit realOps n (2 * k) eps) (initVs n (2 * k) hn)
      (initVs n (2 * k) hn) (hhInitQ_real n (2 * k) hn) (hhInitQ_real n (2 * k) hn) (by simp [svdIdInit, svdInit])))).trans hW
  subst hWW
  refine ⟨by rw [hw, eye_eq], by rw [hld]; simp, fun xs => ?_⟩
  rw [hf]; simp

/-! ### the requirement `eps < 1` is forced -/

/-- no value of the unconstrained parameter gives a unit diagonal when `eps ≥ 1` (`softplus > 0`): no constructor
    checks `eps`, and `identity_init=True` with `eps ≥ 1` does NOT start at the identity in the real-number model -/
theorem identity_init_needs_eps_lt_one (eps c : ℝ) (h : 1 ≤ eps) : softplus realOps c + eps ≠ 1 := by
  have := LFIndex.softplus_real_pos c
  intro hc; linarith

/-- at `eps = 1` the constant is `log(exp 0 - 1) = log 0` (`-inf` with a NumPy warning in Python; `0` in the
    totalised real-number model, giving the diagonal `log 2 + 1`); for `eps > 1` the argument of the logarithm is
    negative (`nan` in Python) -/
theorem idConst_at_one :
    Real.exp (1 - 1) - 1 = (0 : ℝ) ∧ idConst realOps 1 = Real.log 0 ∧
    softplus realOps (idConst realOps 1) + 1 = Real.log 2 + 1 ∧
    ∀ eps : ℝ, 1 < eps → Real.exp (1 - eps) - 1 < 0 := by
  have h0 : Real.exp (1 - 1) - 1 = (0 : ℝ) := by simp
  refine ⟨h0, by rw [idConst_real, h0], ?_, fun eps h => ?_⟩
  · rw [idConst_real, h0, Real.log_zero, LFIndex.softplus_real, if_neg (by norm_num), Real.exp_zero]
    norm_num
  · have : Real.exp (1 - eps) < 1 := by rw [Real.exp_lt_one_iff]; linarith
    linarith

theorem lu_identity_init_eps_one_counterexample :
    luWeight realOps (luIdInit realOps 1 1) = [[Real.log 2 + 1]] ∧ luLogabsdet realOps (luIdInit realOps 1 1) ≠ 0 := by
  have hd : softplus realOps (idConst realOps 1) + 1 = Real.log 2 + 1 := idConst_at_one.2.2.1
  have hl : Real.log 2 > 0 := Real.log_pos (by norm_num)
  constructor
  · simp [luWeight, luIdInit, luInit, luL, luU, luLower, mkUpper, tab2, matMul, NF.LF.transpose, NF.LF.col, dot, NF.LF.sum, posDiag,
      List.range_succ, LFIndex.realOps_add, LFIndex.realOps_mul, hd]
  · simp only [luLogabsdet, luIdInit, luInit, sumLog, posDiag, NF.LF.sum, List.replicate, List.map_cons, List.map_nil,
      List.foldl_cons, List.foldl_nil, LFIndex.realOps_add, LFIndex.realOps_log, hd, LFIndex.zero_real, zero_add]
    exact (Real.log_pos (by linarith)).ne'

/-! ## §4 the pair `(outputs, logabsdet)` the passes return (`Lemmas/LinearRows`) -/

theorem timesOnes_real (c : ℝ) (B : ℕ) : timesOnes realOps c B = List.replicate B c := by
  simp [timesOnes, LFIndex.realOps_mul]

/-- **what both passes return, outputs and log-abs-det, against the matrix the accessors describe**:
    `weight()` is `W`, `weight_inverse()` is `Winv`, two-sided inverses; on every batch the forward pass returns
    `(W x + b, log|det W|)` per row, the inverse pass returns `(Winv (y - b), log|det Winv|)` per row,
    `log|det Winv| = -log|det W|`, and the inverse pass applied to the forward outputs returns the inputs.
    (`LinearJacobian.PassIs` is the per-pass statement with the Fréchet derivative of the row map.) -/
def PassesAgree (n : ℕ) (weight winv : List (List ℝ)) (fwdLd invLd : List (List ℝ) → List (List ℝ) × List ℝ)
    (b : Fin n → ℝ) : Prop :=
  ∃ W Winv : Matrix (Fin n) (Fin n) ℝ,
    weight = ofMat W ∧ winv = ofMat Winv ∧ Winv * W = 1 ∧ W * Winv = 1 ∧
    Real.log |Winv.det| = - Real.log |W.det| ∧
    ∀ xs : List (Fin n → ℝ),
      fwdLd (xs.map List.ofFn)
        = (xs.map (fun x => List.ofFn (W *ᵥ x + b)), List.replicate xs.length (Real.log |W.det|)) ∧
      invLd (xs.map List.ofFn)
        = (xs.map (fun y => List.ofFn (Winv *ᵥ (y - b))), List.replicate xs.length (Real.log |Winv.det|)) ∧
      (invLd (fwdLd (xs.map List.ofFn)).1).1 = xs.map List.ofFn

theorem _root_.LinearJacobian.PairRowWise.replicate {Row Out : Type} {F : List Row → List Out × List ℝ} {g : Row → Out} {c : ℝ}
    (h : LinearJacobian.PairRowWise F g (realOps.mul c (one realOps))) (X : List Row) :
    F X = (X.map g, List.replicate X.length c) := by
  rw [h X, ← LinearJacobian.timesOnes_eq_map, timesOnes_real]

theorem _root_.LinearBridge.Denotes.passesAgree {n : ℕ} {W : Matrix (Fin n) (Fin n) ℝ} {b : Fin n → ℝ}
    {weight winv : List (List ℝ)} {ld : ℝ} {g gi : List ℝ → List ℝ} (h : Denotes W b weight winv ld g gi)
    {fwdLd invLd : List (List ℝ) → List (List ℝ) × List ℝ}
    (hF : LinearJacobian.PairRowWise fwdLd g (realOps.mul ld (one realOps)))
    (hI : LinearJacobian.PairRowWise invLd gi (realOps.mul (realOps.neg ld) (one realOps))) :
    PassesAgree n weight winv fwdLd invLd b := by
  have hdet : Real.log |W⁻¹.det| = - Real.log |W.det| := LinearFamily.log_abs_det_inv W
  refine ⟨W, W⁻¹, h.weight_eq, h.winv_eq, h.inv_mul, h.mul_inv, hdet, fun xs => ⟨?_, ?_, ?_⟩⟩
  · rw [hF.replicate, List.map_map, List.length_map, h.ld_eq]
    exact congrArg (·, _) (List.map_congr_left fun x _ => h.row x)
  · rw [hI.replicate, List.map_map, List.length_map, hdet, h.ld_eq]
    exact congrArg (·, _) (List.map_congr_left fun y _ => h.invRow y)
  · rw [hF.replicate, hI.replicate]
    show ((xs.map List.ofFn).map g).map gi = _
    rw [List.map_map, List.map_map]
    exact List.map_congr_left fun x _ => h.roundtrip x

/-- **HouseholderSequence: both passes return `(Q x, 0)` resp. `(Qᵀ x, 0)`, and `0 = log|det Q| = log|det Qᵀ|`**
    (`matrix()` is `Q`), on every batch, whenever no q-vector is zero -/
theorem hh_passes {n : ℕ} (vs : List (Fin n → ℝ)) (hv : ∀ v ∈ vs, v ⬝ᵥ v ≠ 0) :
    hhMatrix realOps n (vs.map List.ofFn) = ofMat (LinearFamily.Q vs) ∧
    Real.log |(LinearFamily.Q vs).det| = 0 ∧ Real.log |(LinearFamily.Q vs)ᵀ.det| = 0 ∧
    ∀ xs : List (Fin n → ℝ),
      hhForwardLd realOps (vs.map List.ofFn) (xs.map List.ofFn)
        = (xs.map (fun x => List.ofFn (LinearFamily.Q vs *ᵥ x)), List.replicate xs.length (Real.log |(LinearFamily.Q vs).det|)) ∧
      hhInverseLd realOps (vs.map List.ofFn) (xs.map List.ofFn)
        = (xs.map (fun x => List.ofFn ((LinearFamily.Q vs)ᵀ *ᵥ x)),
           List.replicate xs.length (Real.log |(LinearFamily.Q vs)ᵀ.det|)) ∧
      (hhInverseLd realOps (vs.map List.ofFn) (hhForwardLd realOps (vs.map List.ofFn) (xs.map List.ofFn)).1).1
        = xs.map List.ofFn := by
  have hd : Real.log |(LinearFamily.Q vs).det| = 0 := by rw [LinearFamily.Q_det_abs vs hv, Real.log_one]
  have hdT : Real.log |(LinearFamily.Q vs)ᵀ.det| = 0 := by rw [Matrix.det_transpose]; exact hd
  refine ⟨LinearBridge.hhMatrix_executed vs, hd, hdT, fun xs => ⟨?_, ?_, ?_⟩⟩
  · rw [hhForwardLd, hhForward, List.map_map, List.length_map, hd, LFIndex.zero_real]
    exact congrArg (·, _) (List.map_congr_left fun x _ => isMulVec_hhSeq vs x)
  · rw [hhInverseLd, hhInverse, List.map_map, List.length_map, hdT, LFIndex.zero_real]
    exact congrArg (·, _) (List.map_congr_left fun x _ => isMulVec_hhSeq_reverse vs x)
  · show ((xs.map List.ofFn).map (hhSeq realOps (vs.map List.ofFn))).map (hhSeq realOps (vs.map List.ofFn).reverse) = _
    rw [List.map_map, List.map_map]
    exact List.map_congr_left fun x _ => hhSeq_roundtrip vs hv x

theorem hh_fresh_passes (n num : ℕ) (hn : 1 ≤ n) :
    ∃ vs : List (Fin n → ℝ), hhInitQ realOps n num = vs.map List.ofFn ∧ (∀ v ∈ vs, v ⬝ᵥ v ≠ 0) ∧
    ∀ xs : List (Fin n → ℝ),
      (hhForwardLd realOps (hhInitQ realOps n num) (xs.map List.ofFn)).2 = List.replicate xs.length 0 ∧
      Real.log |(LinearFamily.Q vs).det| = 0 ∧
      (hhForwardLd realOps (hhInitQ realOps n num) (xs.map List.ofFn)).1 = xs.map (fun x => List.ofFn (LinearFamily.Q vs *ᵥ x)) := by
  refine ⟨initVs n num hn, hhInitQ_real n num hn, initVs_ne n num hn, fun xs => ?_⟩
  obtain ⟨-, hd, -, h⟩ := hh_passes (initVs n num hn) (initVs_ne n num hn)
  rw [hhInitQ_real n num hn, (h xs).1, hd]
  exact ⟨rfl, rfl, rfl⟩

theorem fresh_passes (n num : ℕ) (hn : 1 ≤ n) (eps : ℝ) (heps : 0 ≤ eps) (lo up ud ld : List ℝ) (hud : ud.length = n)
    (hld : ld.length = n) :
    PassesAgree n (luWeight realOps (luInit realOps n eps lo up ud)) (luWeightInverse realOps (luInit realOps n eps lo up ud))
      (luForwardLd realOps (luInit realOps n eps lo up ud)) (luInverseLd realOps (luInit realOps n eps lo up ud)) 0 ∧
    PassesAgree n (qrWeight realOps (qrInit realOps n num up ld)) (qrWeightInverse realOps (qrInit realOps n num up ld))
      (qrForwardLd realOps (qrInit realOps n num up ld)) (qrInverseLd realOps (qrInit realOps n num up ld)) 0 ∧
    PassesAgree n (svdWeight realOps (svdInit realOps n num eps ud)) (svdWeightInverse realOps (svdInit realOps n num eps ud))
      (svdForwardLd realOps (svdInit realOps n num eps ud)) (svdInverseLd realOps (svdInit realOps n num eps ud)) 0 :=
  ⟨vecFn_zeros n ▸ (lu_denotes (luInit realOps n eps lo up ud) hud heps (zeros_length _ n)).passesAgree
      (LinearJacobian.luForwardLd_pair _ _) (LinearJacobian.luInverseLd_pair _ _),
   vecFn_zeros n ▸ (qr_denotes (qrInit realOps n num up ld) (initVs n num hn) (hhInitQ_real n num hn) (initVs_ne n num hn) hld
      (zeros_length _ n)).passesAgree (LinearJacobian.qrForwardLd_pair _ _) (LinearJacobian.qrInverseLd_pair _ _),
   vecFn_zeros n ▸ (svd_denotes (svdInit realOps n num eps ud) (initVs n num hn) (initVs n num hn) (hhInitQ_real n num hn)
      (hhInitQ_real n num hn) (initVs_ne n num hn) (initVs_ne n num hn) hud heps (zeros_length _ n)).passesAgree
      (LinearJacobian.svdForwardLd_pair _ _) (LinearJacobian.svdInverseLd_pair _ _)⟩

/-! ## non-vacuity: concrete instances -/

/-- a fresh `QRLinear(features = 3, num_householder = 7)` (odd count, beyond `2·features`) with concrete draws -/
example : Usable 3 (qrWeight realOps (qrInit realOps 3 7 [5, -1, 2] [0, 1, -1]))
    (qrWeightInverse realOps (qrInit realOps 3 7 [5, -1, 2] [0, 1, -1])) (qrLogabsdet realOps (qrInit realOps 3 7 [5, -1, 2] [0, 1, -1]))
    (qrForward realOps (qrInit realOps 3 7 [5, -1, 2] [0, 1, -1])) (qrInverse realOps (qrInit realOps 3 7 [5, -1, 2] [0, 1, -1])) 0 :=
  qr_fresh_usable 3 7 (by norm_num) _ _ rfl

/-- its `logabsdet()` is the sum of the drawn `log_upper_diag`, `0 + 1 - 1 = 0`, although `W ≠ I` -/
example : qrLogabsdet realOps (qrInit realOps 3 7 [5, -1, 2] [0, 1, -1]) = 0 := by
  simp [qrLogabsdet, qrInit, NF.LF.sum, LFIndex.realOps_add]

/-- a fresh `LULinear(2, identity_init=False, eps=1e-3)` with concrete draws, and the default `identity_init=True` -/
example : Usable 2 (luWeight realOps (luInit realOps 2 (1/1000) [3] [5] [0, 1])) (luWeightInverse realOps (luInit realOps 2 (1/1000) [3] [5] [0, 1]))
    (luLogabsdet realOps (luInit realOps 2 (1/1000) [3] [5] [0, 1])) (luForward realOps (luInit realOps 2 (1/1000) [3] [5] [0, 1]))
    (luInverse realOps (luInit realOps 2 (1/1000) [3] [5] [0, 1])) 0 :=
  lu_fresh_usable 2 _ (by norm_num) _ _ _ rfl
example : luWeight realOps (luIdInit realOps 4 (1/1000)) = eye realOps 4 :=
  (lu_identity_init 4 _ (by norm_num) (by norm_num)).2.1
/-- the default `SVDLinear(features = 2, num_householder = 4)` starts at the identity -/
example : svdWeight realOps (svdIdInit realOps 2 (2 * 2) (1/1000)) = eye realOps 2 :=
  (svd_identity_init 2 2 (by norm_num) _ (by norm_num) (by norm_num)).1
example : svdConstruct realOps 3 5 (1/1000) none = .error .assertion := svd_odd_rejected _ 3 5 (by norm_num) (by norm_num) _ _
example : (∃ p, qrConstruct realOps 3 5 [] [] = .ok p) := ((construct_accepts realOps 3 5 0 none [] [] none).2.1).mpr (by norm_num)

end
end LinearFresh
