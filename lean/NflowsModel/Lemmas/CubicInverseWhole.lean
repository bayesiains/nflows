import NflowsModel.Lemmas.CubicWhole
import NflowsModel.Lemmas.StableRoot
import NflowsModel.Lemmas.CubicInverseRoots
import Mathlib.Topology.Order.IntermediateValue
import Mathlib.Analysis.SpecialFunctions.Trigonometric.Basic
import Mathlib.Analysis.SpecialFunctions.Complex.Arg
/-!
# Lemmas/CubicInverseWhole — the EXECUTED piecewise-cubic spline, INVERSE direction, as a whole program over the reals

`cubicSpline (NF.realX e) c uw uh udl udr true y`: guards, normalisation, the lists of `Lemmas/CubicWhole.lean`, search over the
y-knots, seven gathers, Blinn's depressed cubic with the trigonometric three-root formula and closest-to-the-bin selection or
Cardano's formula, the "almost quadratic bin" override `|a|·w³ < thr·h` with the stable quadratic root, clamp of the root into
its bin, log-abs-det, rescaling.  Totality, range and positivity of the log argument need no root formula.  Where no bin
takes the approximate fallback with `a ≠ 0` (`ExactBin`, `AllExact`) the program is the searched piecewise inverse of the
forward one (`searchedInv`: bijection, both round trips), with derivative `exp` of its log-abs-det; in general
`|forward(inverse y) − y| < thr·h·(top − bottom)`, the log-abs-det law holds unconditionally, and a concrete configuration
shows that exactness cannot be dropped.  The real algebra of the root formulas is in `Lemmas/CubicInverseRoots.lean`.
-/
open NF DualSound

namespace CubicInverseWhole
open CubicWhole

/- The pieces of the program (`out1`, `inBin`, `sc`, `invCore`, …) are in `Lemmas/CubicProgram.lean`; here `yn idxH` are the
   normalised input and the searched y-bin, `coreN` the program on the gathered bin, `preRoot rootN` the selected root
   before and after the clamp. -/
noncomputable section
variable (e : Float → ℝ)

def yn (c : CCfg) (y : ℝ) : ℝ :=
  (NF.realX e).div ((NF.realX e).sub y ((NF.realX e).ofFloat c.box.bottom)) ((NF.realX e).ofFloat (c.box.top - c.box.bottom))

/-! ### totality: search over the y-knots, the seven gathers -/

variable {e}
variable {c : CCfg} {uw uh : List ℝ} {udl udr : ℝ}

def idxH (e : Float → ℝ) (c : CCfg) (uh : List ℝ) (t : ℝ) : ℕ := (searchsortedG (NF.realX e) c.seps (cumh e c uh) t).toNat

theorem search_specH (hv' : CubicValid e c uw uh) :
    ExecGlue.SearchSpec (chs e c uh) uw.length (idxH e c uh) ∧
    ∀ t, 0 ≤ t → t ≤ 1 → searchsortedG (NF.realX e) c.seps (cumh e c uh) t = ((idxH e c uh t : ℕ) : Int) :=
  SplineTotal.search_spec_list e c.seps hv'.hseps (cumh e c uh) uw.length 0 1 (K_pos hv') (cumh_facts hv')

theorem selH (hv' : CubicValid e c uw uh) (t : ℝ) (ht0 : 0 ≤ t) (ht1 : t ≤ 1) :
    idxH e c uh t < uw.length ∧ chs e c uh (idxH e c uh t) ≤ t ∧ t ≤ chs e c uh (idxH e c uh t + 1) ∧
    (t < chs e c uh (idxH e c uh t + 1) ∨ (idxH e c uh t + 1 = uw.length ∧ t = 1)) :=
  (search_specH hv').1.mem_bin (chs_zero hv') (chs_last hv') t ht0 ht1

def coreN (e : Float → ℝ) (c : CCfg) (uw uh : List ℝ) (udl udr : ℝ) (t : ℝ) : ℝ × ℝ × List ℝ :=
  let i := idxH e c uh t
  invCore (NF.realX e) c (aK e c uw uh udl udr i) (bK e c uw uh udl udr i) (dv e c uw uh udl udr i) (chs e c uh i)
    (cws e c uw i) (cws e c uw (i+1)) (CubicWhole.hv e c uh i) t

theorem yn_eq (hv' : CubicValid e c uw uh) (y : ℝ) : yn e c y = (y - e c.box.bottom) / (e c.box.top - e c.box.bottom) := by
  simp [yn, hv'.hdbt]

theorem yn_unit (hv' : CubicValid e c uw uh) (y : ℝ) (hy0 : e c.box.bottom ≤ y) (hy1 : y ≤ e c.box.top) :
    0 ≤ yn e c y ∧ yn e c y ≤ 1 := by
  rw [yn_eq hv']
  exact ExecGlue.unit_mem hv'.hbt hy0 hy1

/-- **C17 — in-domain totality of the inverse program**: for every `y ∈ [bottom, top]` it returns `.ok`, and the value is
    `invCore` on the gathered parameters of the searched y-bin -/
theorem exec_eq_core (hv' : CubicValid e c uw uh) (y : ℝ) (hy0 : e c.box.bottom ≤ y) (hy1 : y ≤ e c.box.top) :
    cubicSpline (NF.realX e) c uw uh udl udr true y = .ok (coreN e c uw uh udl udr (yn e c y)) := by
  have h := exec_real (udl := udl) (udr := udr) hv' true y hy0 hy1 (yn_unit hv' y hy0 hy1)
  simp only [CubicProgram.core, CubicProgram.normIn, idxD, if_true] at h
  exact h

theorem exec_total (hv' : CubicValid e c uw uh) (y : ℝ) (hy0 : e c.box.bottom ≤ y) (hy1 : y ≤ e c.box.top) :
    ∃ r, cubicSpline (NF.realX e) c uw uh udl udr true y = .ok r := ⟨_, exec_eq_core hv' y hy0 hy1⟩


/-! ### what the program returns: output, log-abs-det, alternatives -/

/-- what the inverse program returns (0 on the error branch, which `exec_eq_core` shows is not taken in the domain) -/
def inv (e : Float → ℝ) (c : CCfg) (uw uh : List ℝ) (udl udr : ℝ) (y : ℝ) : ℝ :=
  match cubicSpline (NF.realX e) c uw uh udl udr true y with
  | .ok r => r.1
  | .error _ => 0
def invLd (e : Float → ℝ) (c : CCfg) (uw uh : List ℝ) (udl udr : ℝ) (y : ℝ) : ℝ :=
  match cubicSpline (NF.realX e) c uw uh udl udr true y with
  | .ok r => r.2.1
  | .error _ => 0
def invAlts (e : Float → ℝ) (c : CCfg) (uw uh : List ℝ) (udl udr : ℝ) (y : ℝ) : List ℝ :=
  match cubicSpline (NF.realX e) c uw uh udl udr true y with
  | .ok r => r.2.2
  | .error _ => []

theorem exec_ok (hv' : CubicValid e c uw uh) (y : ℝ) (hy0 : e c.box.bottom ≤ y) (hy1 : y ≤ e c.box.top) :
    cubicSpline (NF.realX e) c uw uh udl udr true y
      = .ok (inv e c uw uh udl udr y, invLd e c uw uh udl udr y, invAlts e c uw uh udl udr y) := by
  unfold inv invLd invAlts; rw [exec_eq_core hv' y hy0 hy1]

def preRoot (e : Float → ℝ) (c : CCfg) (uw uh : List ℝ) (udl udr : ℝ) (t : ℝ) : ℝ × List ℝ :=
  let i := idxH e c uh t
  out1 (NF.realX e) c (aK e c uw uh udl udr i) (bK e c uw uh udl udr i) (dv e c uw uh udl udr i) (chs e c uh i)
    (cws e c uw i) (cws e c uw (i+1)) (CubicWhole.hv e c uh i) t

def rootN (e : Float → ℝ) (c : CCfg) (uw uh : List ℝ) (udl udr : ℝ) (t : ℝ) : ℝ :=
  inBin (NF.realX e) (cws e c uw (idxH e c uh t)) (cws e c uw (idxH e c uh t + 1)) (preRoot e c uw uh udl udr t).1

/-- the clamped root of bin `k` at level `t`: `rootN t` is this at the searched bin -/
def gN (e : Float → ℝ) (c : CCfg) (uw uh : List ℝ) (udl udr : ℝ) (k : ℕ) (t : ℝ) : ℝ :=
  inBin (NF.realX e) (cws e c uw k) (cws e c uw (k+1))
    (out1 (NF.realX e) c (aK e c uw uh udl udr k) (bK e c uw uh udl udr k) (dv e c uw uh udl udr k) (chs e c uh k)
      (cws e c uw k) (cws e c uw (k+1)) (CubicWhole.hv e c uh k) t).1


theorem inBin_eq (l r t : ℝ) : inBin (NF.realX e) l r t = min (max t l) r := by
  simp only [inBin, NF.realX_maxA, NF.realX_minA]

theorem inBin_mem (l r t : ℝ) (h : l ≤ r) : l ≤ inBin (NF.realX e) l r t ∧ inBin (NF.realX e) l r t ≤ r := by
  rw [inBin_eq]
  exact ⟨le_min (le_max_right _ _) h, min_le_right _ _⟩

theorem inBin_id (l r t : ℝ) (h0 : l ≤ t) (h1 : t ≤ r) : inBin (NF.realX e) l r t = t := by
  rw [inBin_eq, max_eq_left h0, min_eq_left h1]


theorem sc_eq (c : CCfg) (t : ℝ) :
    sc (NF.realX e) c t = min (max t 0) 1 * e (c.box.right - c.box.left) + e c.box.left := by
  simp only [sc, NF.realX_clamp, NF.realX_zero, NF.realX_one, NF.realX_add, NF.realX_mul, NF.realX_ofFloat]

theorem sc_id (hv' : CubicValid e c uw uh) (t : ℝ) (h0 : 0 ≤ t) (h1 : t ≤ 1) :
    sc (NF.realX e) c t = t * (e c.box.right - e c.box.left) + e c.box.left := by
  rw [sc_eq, hv'.hdlr, max_eq_left h0, min_eq_left h1]

/-- the executed derivative term of a bin, written as the inverse program writes it -/
theorem binD_text (k : ℕ) (r : ℝ) :
    (NF.realX e).add ((NF.realX e).add ((NF.realX e).mul ((NF.realX e).mul ((NF.realX e).ofNat 3) (aK e c uw uh udl udr k))
        ((NF.realX e).mul ((NF.realX e).sub r (cws e c uw k)) ((NF.realX e).sub r (cws e c uw k))))
        ((NF.realX e).mul ((NF.realX e).mul (NF.realX e).two (bK e c uw uh udl udr k)) ((NF.realX e).sub r (cws e c uw k))))
        (dv e c uw uh udl udr k)
      = binD e c uw uh udl udr k r := by
  simp [binD, CubicWhole.env, Bridge.cEnv, cubicDerivE, envOf, NF.v]

theorem coreN_eq (t : ℝ) :
    coreN e c uw uh udl udr t
      = (sc (NF.realX e) c (rootN e c uw uh udl udr t),
         - Real.log (binD e c uw uh udl udr (idxH e c uh t) (rootN e c uw uh udl udr t)) - e (boxLog c.box),
         ((preRoot e c uw uh udl udr t).2.map
            (inBin (NF.realX e) (cws e c uw (idxH e c uh t)) (cws e c uw (idxH e c uh t + 1)))).map (sc (NF.realX e) c)) := by
  unfold coreN invCore
  simp only [binD_text]
  rfl

theorem inv_eq (hv' : CubicValid e c uw uh) (y : ℝ) (hy0 : e c.box.bottom ≤ y) (hy1 : y ≤ e c.box.top) :
    inv e c uw uh udl udr y = sc (NF.realX e) c (rootN e c uw uh udl udr (yn e c y)) := by
  unfold inv; rw [exec_eq_core hv' y hy0 hy1, coreN_eq]

theorem invLd_eq (hv' : CubicValid e c uw uh) (y : ℝ) (hy0 : e c.box.bottom ≤ y) (hy1 : y ≤ e c.box.top) :
    invLd e c uw uh udl udr y
      = - Real.log (binD e c uw uh udl udr (idxH e c uh (yn e c y)) (rootN e c uw uh udl udr (yn e c y))) - e (boxLog c.box) := by
  unfold invLd; rw [exec_eq_core hv' y hy0 hy1, coreN_eq]

/-- the normalised inverse as a searched piecewise map: no root law is claimed, the clamp alone keeps `gN k` in its bin -/
theorem searchedI₀ (hv' : CubicValid e c uw uh) :
    ExecGlue.SearchedInv₀ uw.length (cws e c uw) (chs e c uh) 0 1 (gN e c uw uh udl udr) (idxH e c uh)
      (rootN e c uw uh udl udr) :=
  ⟨(search_specH hv').1, fun _ _ _ => rfl, fun k hk _ _ _ => inBin_mem (e := e) _ _ _ (cws_strict hv' k hk).le⟩

theorem rootN_mem (hv' : CubicValid e c uw uh) (t : ℝ) (ht0 : 0 ≤ t) (ht1 : t ≤ 1) :
    rootN e c uw uh udl udr t ∈ Set.Icc (cws e c uw (idxH e c uh t)) (cws e c uw (idxH e c uh t + 1)) ∧
    0 ≤ rootN e c uw uh udl udr t ∧ rootN e c uw uh udl udr t ≤ 1 :=
  ⟨(searchedI₀ hv').inv_mem_bin (searchedN (udl := udl) (udr := udr) hv') t ht0 ht1,
    (searchedI₀ hv').inv_mapsTo (searchedN (udl := udl) (udr := udr) hv') ⟨ht0, ht1⟩⟩

theorem nval_rootN_sub (hv' : CubicValid e c uw uh) (t : ℝ) (ht0 : 0 ≤ t) (ht1 : t ≤ 1) :
    nval e c uw uh udl udr (rootN e c uw uh udl udr t) - t
      = binN e c uw uh udl udr (idxH e c uh t) (gN e c uw uh udl udr (idxH e c uh t) t) - t :=
  (searchedI₀ hv').val_inv_sub (searchedN hv') t ht0 ht1

/-- **C17: the argument of the logarithm in the returned log-abs-det is strictly positive** for every `y ∈ [bottom, top]`
    (it is the derivative term of the searched bin at a point of that closed bin — whatever root was selected, because the
    root is clamped into its bin first): the log-abs-det is a genuine logarithm, never `log 0` or `log` of a negative. -/
theorem invLd_arg_pos (hv' : CubicValid e c uw uh) (y : ℝ) (hy0 : e c.box.bottom ≤ y) (hy1 : y ≤ e c.box.top) :
    0 < binD e c uw uh udl udr (idxH e c uh (yn e c y)) (rootN e c uw uh udl udr (yn e c y)) := by
  obtain ⟨ht0, ht1⟩ := yn_unit hv' y hy0 hy1
  obtain ⟨hiK, _, _, _⟩ := selH hv' _ ht0 ht1
  obtain ⟨⟨h0, h1⟩, _, _⟩ := rootN_mem (udl := udl) (udr := udr) hv' _ ht0 ht1
  exact binD_pos hv' _ hiK _ h0 h1

theorem inv_eq_root (hv' : CubicValid e c uw uh) (y : ℝ) (hy0 : e c.box.bottom ≤ y) (hy1 : y ≤ e c.box.top) :
    inv e c uw uh udl udr y = rootN e c uw uh udl udr (yn e c y) * (e c.box.right - e c.box.left) + e c.box.left := by
  obtain ⟨ht0, ht1⟩ := yn_unit hv' y hy0 hy1
  obtain ⟨_, h0, h1⟩ := rootN_mem (udl := udl) (udr := udr) hv' _ ht0 ht1
  rw [inv_eq hv' y hy0 hy1, sc_id hv' _ h0 h1]

theorem inv_eq_bin (hv' : CubicValid e c uw uh) (y : ℝ) (hy0 : e c.box.bottom ≤ y) (hy1 : y ≤ e c.box.top) :
    inv e c uw uh udl udr y
      = gN e c uw uh udl udr (idxH e c uh ((y - e c.box.bottom) / (e c.box.top - e c.box.bottom)))
          ((y - e c.box.bottom) / (e c.box.top - e c.box.bottom)) * (e c.box.right - e c.box.left) + e c.box.left := by
  rw [inv_eq_root hv' y hy0 hy1, yn_eq hv']; rfl

theorem searchedI (hv' : CubicValid e c uw uh) :
    ExecGlue.SearchedInv₀ uw.length (xk e c uw) (fun k => e c.box.bottom + (e c.box.top - e c.box.bottom) * chs e c uh k)
      (e c.box.bottom) (e c.box.top)
      (fun k y => gN e c uw uh udl udr k ((y - e c.box.bottom) / (e c.box.top - e c.box.bottom))
        * (e c.box.right - e c.box.left) + e c.box.left)
      (fun y => idxH e c uh ((y - e c.box.bottom) / (e c.box.top - e c.box.bottom))) (inv e c uw uh udl udr) :=
  (searchedI₀ hv').rescale hv'.hlr hv'.hbt (inv_eq_bin hv')

/-- **C17: the output of the inverse program lies in `[left, right]`** — unconditionally, by the clamp into the bin -/
theorem inv_mem (hv' : CubicValid e c uw uh) (y : ℝ) (hy0 : e c.box.bottom ≤ y) (hy1 : y ≤ e c.box.top) :
    inv e c uw uh udl udr y ∈ Set.Icc (e c.box.left) (e c.box.right) :=
  (searchedI hv').inv_mapsTo (searched (udl := udl) (udr := udr) hv') ⟨hy0, hy1⟩

/-! ### the executed root formulas are the formulas of `Lemmas/CubicInverseRoots` -/

/-- the reading `e` of the Python doubles is exact on the literals of the root formulas, and the threshold is positive.
    NB `hs3` is an idealisation: the double `0.5 * math.sqrt(3)` is read as the real `√3/2` (it is within one ulp of it);
    it is used only by the statements about the trigonometric branch. -/
structure InvConsts (e : Float → ℝ) (c : CCfg) : Prop where
  h3 : e 3.0 = 3
  h4 : e 4.0 = 4
  hm2 : e (-2.0) = -2
  hmh : e (-0.5) = -(1/2)
  hs3 : e (0.5 * Float.sqrt 3.0) = Real.sqrt 3 / 2
  hthr : 0 < e c.thr

@[simp] theorem realX_cos (a : ℝ) : (NF.realX e).cos a = Real.cos a := rfl
@[simp] theorem realX_sin (a : ℝ) : (NF.realX e).sin a = Real.sin a := rfl
@[simp] theorem realX_atan2 (y x : ℝ) : (NF.realX e).atan2 y x = Complex.arg ⟨x, y⟩ := rfl

theorem cbrtG_real (e : Float → ℝ) (h3 : e 3.0 = 3) (x : ℝ) : cbrtG (NF.realX e) x = CubicRoots.cbrt x := by
  unfold cbrtG CubicRoots.cbrt XOps.sign
  simp only [NF.realX_mul, NF.realX_exp, NF.realX_div, NF.realX_log, NF.realX_abs, NF.realX_ofFloat, h3, NF.realX_lt,
    NF.realX_zero, NF.realX_one, NF.realX_neg, decide_eq_true_eq]

theorem out0_trig (hc : InvConsts e c) (ia ib ic id lcw rcw x' : ℝ)
    (h : 0 ≤ CubicRoots.disc (ib/ia/3) (ic/ia/3) ((id - x')/ia)) :
    out0 (NF.realX e) ia ib ic id lcw rcw x' = pick (NF.realX e) lcw rcw
      [CubicRoots.trig1 (CubicRoots.δ1 (ib/ia/3) (ic/ia/3)) (CubicRoots.dep1 (ib/ia/3) (ic/ia/3) ((id - x')/ia))
          (CubicRoots.disc (ib/ia/3) (ic/ia/3) ((id - x')/ia)) + (-(ib/ia/3) + lcw),
       CubicRoots.trig2 (CubicRoots.δ1 (ib/ia/3) (ic/ia/3)) (CubicRoots.dep1 (ib/ia/3) (ic/ia/3) ((id - x')/ia))
          (CubicRoots.disc (ib/ia/3) (ic/ia/3) ((id - x')/ia)) + (-(ib/ia/3) + lcw),
       CubicRoots.trig3 (CubicRoots.δ1 (ib/ia/3) (ic/ia/3)) (CubicRoots.dep1 (ib/ia/3) (ic/ia/3) ((id - x')/ia))
          (CubicRoots.disc (ib/ia/3) (ic/ia/3) ((id - x')/ia)) + (-(ib/ia/3) + lcw)] := by
  unfold CubicRoots.disc CubicRoots.dep1 CubicRoots.δ1 CubicRoots.δ2 CubicRoots.δ3 at *
  unfold out0 trigRoots CubicRoots.trig1 CubicRoots.trig2 CubicRoots.trig3
  simp only [NF.realX_mul, NF.realX_div, NF.realX_add, NF.realX_sub, NF.realX_neg, NF.realX_sqrt, NF.realX_ofFloat,
    NF.realX_zero, NF.realX_two, XOps.ge, NF.realX_le, hc.h3, hc.h4, hc.hm2, hc.hmh, hc.hs3, realX_cos, realX_sin,
    realX_atan2, h, decide_true, if_true, List.map_cons, List.map_nil]

/-! ### the selection among the three trigonometric candidates -/

theorem foldl_min_le (f : ℝ → ℝ → ℝ) (hf : ∀ m d, f m d = min m d) (l : List ℝ) (m : ℝ) :
    l.foldl f m ≤ m ∧ ∀ d ∈ l, l.foldl f m ≤ d := by
  induction l generalizing m with
  | nil => simp
  | cons a t ih =>
    rw [List.foldl_cons, hf]
    obtain ⟨h1, h2⟩ := ih (min m a)
    refine ⟨le_trans h1 (min_le_left _ _), ?_⟩
    intro d hd
    rcases List.mem_cons.mp hd with rfl | hd
    · exact le_trans h1 (min_le_right _ _)
    · exact h2 d hd

theorem foldl_min_ge (f : ℝ → ℝ → ℝ) (hf : ∀ m d, f m d = min m d) (l : List ℝ) (m lb : ℝ) (hm : lb ≤ m)
    (hl : ∀ d ∈ l, lb ≤ d) : lb ≤ l.foldl f m := by
  induction l generalizing m with
  | nil => simpa using hm
  | cons a t ih =>
    rw [List.foldl_cons, hf]
    exact ih (min m a) (le_min hm (hl a (by simp))) (fun d hd => hl d (by simp [hd]))

theorem zip_map_self (f : ℝ → ℝ) (rs : List ℝ) : rs.zip (rs.map f) = rs.map (fun r => (r, f r)) := by
  induction rs with
  | nil => rfl
  | cons a t ih => simp [ih]

/-- distance of `r` to the bin `[l, rr]` as the program writes it: `relu(l − r) + relu(r − rr)` -/
def dist (l rr r : ℝ) : ℝ := (if 0 < l - r then l - r else 0) + (if 0 < r - rr then r - rr else 0)

theorem dist_nonneg (l rr r : ℝ) : 0 ≤ dist l rr r := by
  unfold dist; split_ifs <;> linarith

theorem dist_le_zero (l rr r : ℝ) (h : dist l rr r ≤ 0) : l ≤ r ∧ r ≤ rr := by
  unfold dist at h; split_ifs at h <;> constructor <;> linarith

theorem dist_in (l rr r : ℝ) (h0 : l ≤ r) (h1 : r ≤ rr) : dist l rr r = 0 := by
  unfold dist
  rw [if_neg (by linarith), if_neg (by linarith)]; ring

theorem pick_spec (l rr x : ℝ) (hl : l ≤ x) (hr : x ≤ rr) (rs : List ℝ) (hmem : x ∈ rs)
    (huniq : ∀ r ∈ rs, l ≤ r → r ≤ rr → r = x) :
    (pick (NF.realX e) l rr rs).1 = x ∧ ∀ r ∈ (pick (NF.realX e) l rr rs).2, r = x := by
  unfold pick
  simp only [NF.realX_lt, NF.realX_zero, NF.realX_add, NF.realX_sub, decide_eq_true_eq]
  have hds : (rs.map fun r => (if 0 < l - r then l - r else 0) + (if 0 < r - rr then r - rr else 0)) = rs.map (dist l rr) := rfl
  rw [hds, zip_map_self]
  set dmin := (rs.map (dist l rr)).foldl (fun m d => if d < m then d else m) ((rs.map (dist l rr)).getD 0 0) with hdmin
  have hmin : dmin ≤ 0 := by
    have := (foldl_min_le (fun m d => if d < m then d else m)
      (fun m d => by by_cases h : d < m <;> simp [h, le_of_lt, not_lt.mp])
      (rs.map (dist l rr)) ((rs.map (dist l rr)).getD 0 0)).2 (dist l rr x) (List.mem_map.mpr ⟨x, hmem, rfl⟩)
    rw [dist_in l rr x hl hr] at this
    exact this
  set good := ((rs.map fun r => (r, dist l rr r)).filter fun rd => !decide (dmin < rd.2)).map (·.1) with hgood
  have hg : ∀ g ∈ good, g = x := by
    intro g hgm
    rw [hgood] at hgm
    simp only [List.mem_map, List.mem_filter, Bool.not_eq_true', decide_eq_false_iff_not, not_lt] at hgm
    obtain ⟨p, ⟨⟨r, hr, rfl⟩, hd⟩, rfl⟩ := hgm
    obtain ⟨h0, h1⟩ := dist_le_zero l rr r (le_trans hd hmin)
    exact huniq r hr h0 h1
  have hx : x ∈ good := by
    rw [hgood]
    simp only [List.mem_map, List.mem_filter, Bool.not_eq_true', decide_eq_false_iff_not, not_lt]
    refine ⟨(x, dist l rr x), ⟨⟨x, hmem, rfl⟩, ?_⟩, rfl⟩
    rw [dist_in l rr x hl hr]
    refine foldl_min_ge _ (fun m d => by by_cases h : d < m <;> simp [h, le_of_lt, not_lt.mp]) _ _ 0 ?_ ?_
    · cases rs with
      | nil => simp
      | cons a t => simp [dist_nonneg]
    · intro d hd
      obtain ⟨r, _, rfl⟩ := List.mem_map.mp hd
      exact dist_nonneg l rr r
  cases hgd : good with
  | nil => rw [hgd] at hx; simp at hx
  | cons g t =>
    simp only
    exact ⟨hg g (by rw [hgd]; simp), fun r hr => hg r (by rw [hgd]; exact hr)⟩

/-! ### the selected root is the root in the bin -/

theorem out0_cardano (hc : InvConsts e c) (ia ib ic id lcw rcw x' : ℝ)
    (h : CubicRoots.disc (ib/ia/3) (ic/ia/3) ((id - x')/ia) < 0) :
    out0 (NF.realX e) ia ib ic id lcw rcw x' =
      (CubicRoots.cbrt ((-(CubicRoots.dep1 (ib/ia/3) (ic/ia/3) ((id - x')/ia))
            + Real.sqrt (-(CubicRoots.disc (ib/ia/3) (ic/ia/3) ((id - x')/ia)))) / 2)
        + CubicRoots.cbrt ((-(CubicRoots.dep1 (ib/ia/3) (ic/ia/3) ((id - x')/ia))
            - Real.sqrt (-(CubicRoots.disc (ib/ia/3) (ic/ia/3) ((id - x')/ia)))) / 2)
        - ib/ia/3 + lcw, []) := by
  have h' : ¬ 0 ≤ CubicRoots.disc (ib/ia/3) (ic/ia/3) ((id - x')/ia) := not_le.mpr h
  unfold CubicRoots.disc CubicRoots.dep1 CubicRoots.δ1 CubicRoots.δ2 CubicRoots.δ3 at *
  unfold out0 cardano
  simp only [NF.realX_mul, NF.realX_div, NF.realX_add, NF.realX_sub, NF.realX_neg, NF.realX_sqrt, NF.realX_ofFloat,
    NF.realX_zero, NF.realX_two, XOps.ge, NF.realX_le, NF.realX_lt, hc.h3, hc.h4, hc.hm2, cbrtG_real e hc.h3,
    h, h', decide_true, decide_false, if_true, if_false, Bool.false_eq_true]

theorem quadRoot_eq (hc : InvConsts e c) (ib ic id lcw x' : ℝ) :
    quadRoot (NF.realX e) ib ic id lcw x' = CubicRoots.qroot ib ic (id - x') + lcw := by
  unfold quadRoot CubicRoots.qroot
  simp only [NF.realX_mul, NF.realX_div, NF.realX_add, NF.realX_sub, NF.realX_neg, NF.realX_sqrt, NF.realX_ofFloat,
    NF.realX_zero, NF.realX_two, NF.realX_maxA, hc.h4]

theorem fallback_eq (ia lcw rcw ih : ℝ) :
    fallback (NF.realX e) c ia lcw rcw ih = decide (|ia| * ((rcw - lcw) * (rcw - lcw) * (rcw - lcw)) < e c.thr * ih) := by
  simp only [fallback, NF.realX_lt, NF.realX_mul, NF.realX_abs, NF.realX_sub, NF.realX_ofFloat]

theorem binN_poly (k : ℕ) (x : ℝ) :
    binN e c uw uh udl udr k x
      = aK e c uw uh udl udr k * (x - cws e c uw k)^3 + bK e c uw uh udl udr k * (x - cws e c uw k)^2
        + dv e c uw uh udl udr k * (x - cws e c uw k) + chs e c uh k := by
  simp [binN, CubicWhole.env, Bridge.cEnv, cubicFwdE, envOf, NF.v]
  ring

theorem bin_poly_right (hv' : CubicValid e c uw uh) (k : ℕ) (hk : k < uw.length) :
    aK e c uw uh udl udr k * (wv e c uw k)^3 + bK e c uw uh udl udr k * (wv e c uw k)^2
      + dv e c uw uh udl udr k * wv e c uw k + chs e c uh k = chs e c uh (k+1) := by
  have h := (bin_endpoints (udl := udl) (udr := udr) hv' k hk).2
  rwa [binN_poly, cws_succ hv' k hk, add_sub_cancel_left] at h

theorem bin_root_exists (hv' : CubicValid e c uw uh) (k : ℕ) (hk : k < uw.length) (t : ℝ)
    (h0 : chs e c uh k ≤ t) (h1 : t ≤ chs e c uh (k+1)) :
    ∃ x ∈ Set.Icc (cws e c uw k) (cws e c uw (k+1)), binN e c uw uh udl udr k x = t := by
  have hcont : ContinuousOn (binN e c uw uh udl udr k) (Set.Icc (cws e c uw k) (cws e c uw (k+1))) :=
    fun x _ => (bin_hasDerivAt hv' k hk x).continuousAt.continuousWithinAt
  have := intermediate_value_Icc (cws_strict hv' k hk).le hcont
  rw [(bin_endpoints hv' k hk).1, (bin_endpoints hv' k hk).2] at this
  exact this ⟨h0, h1⟩

/-- **the selected root is the root in the bin** — per bin, for every level `t` of the closed y-bin `k`: if the quadratic
    fallback is not taken (or the bin is genuinely quadratic, `a = 0`), the root the program selects (before the clamps)
    IS the unique point `x` of the closed x-bin with `bin_k(x) = t`, and so is every admissible alternative -/
theorem out1_exact (hv' : CubicValid e c uw uh) (hc : InvConsts e c) (k : ℕ) (hk : k < uw.length) (t : ℝ)
    (h0 : chs e c uh k ≤ t) (h1 : t ≤ chs e c uh (k+1))
    (hcase : fallback (NF.realX e) c (aK e c uw uh udl udr k) (cws e c uw k) (cws e c uw (k+1)) (CubicWhole.hv e c uh k) = false
              ∨ aK e c uw uh udl udr k = 0)
    (x : ℝ) (hx : x ∈ Set.Icc (cws e c uw k) (cws e c uw (k+1))) (hxt : binN e c uw uh udl udr k x = t) :
    (out1 (NF.realX e) c (aK e c uw uh udl udr k) (bK e c uw uh udl udr k) (dv e c uw uh udl udr k) (chs e c uh k)
      (cws e c uw k) (cws e c uw (k+1)) (CubicWhole.hv e c uh k) t).1 = x ∧
    ∀ r ∈ (out1 (NF.realX e) c (aK e c uw uh udl udr k) (bK e c uw uh udl udr k) (dv e c uw uh udl udr k) (chs e c uh k)
      (cws e c uw k) (cws e c uw (k+1)) (CubicWhole.hv e c uh k) t).2, r = x := by
  have hinj := (bin_strictMonoOn (udl := udl) (udr := udr) hv' k hk).injOn
  have hP : ∀ r, binN e c uw uh udl udr k r = t ↔
      aK e c uw uh udl udr k * (r - cws e c uw k)^3 + bK e c uw uh udl udr k * (r - cws e c uw k)^2
        + dv e c uw uh udl udr k * (r - cws e c uw k) + (chs e c uh k - t) = 0 := by
    intro r; rw [binN_poly, ← sub_eq_zero, add_sub_assoc]
  have hw := wv_pos hv' k hk
  have hrr := cws_succ hv' k hk
  have hcpos : 0 < dv e c uw uh udl udr k := (dv_range (udl := udl) (udr := udr) hv' k hk).1.1
  have hend := bin_poly_right (udl := udl) (udr := udr) hv' k hk
  rw [hrr] at hx hcase hinj
  rw [← hend] at h1
  rw [hrr]
  clear hend hrr
  generalize aK e c uw uh udl udr k = a at *
  generalize bK e c uw uh udl udr k = b at *
  generalize dv e c uw uh udl udr k = c' at *
  generalize chs e c uh k = d at *
  generalize cws e c uw k = l at *
  generalize wv e c uw k = w at *
  unfold out1
  by_cases hfb : fallback (NF.realX e) c a l (l + w) (CubicWhole.hv e c uh k) = true
  · rw [if_pos hfb]
    have ha : a = 0 := by
      rcases hcase with h | h
      · rw [h] at hfb; exact absurd hfb (by simp)
      · exact h
    rw [quadRoot_eq hc]
    rw [ha, zero_mul, zero_add] at h1
    obtain ⟨_, q0, q1, hq⟩ := CubicRoots.qroot_exact (b := b) (c := c') (cc := d - t) hw hcpos (sub_nonpos.mpr h0)
      (by rw [← add_sub_assoc]; exact sub_nonneg.mpr h1)
    have hb : binN e c uw uh udl udr k (CubicRoots.qroot b c' (d - t) + l) = t := by
      rw [hP, ha, add_sub_cancel_right, zero_mul, zero_add]; exact hq
    exact ⟨hinj ⟨le_add_of_nonneg_left q0, by rw [add_comm l w]; exact add_le_add_left q1 l⟩ hx (hb.trans hxt.symm), by simp⟩
  · rw [if_neg hfb]
    have hfb' : fallback (NF.realX e) c a l (l + w) (CubicWhole.hv e c uh k) = false := by simpa using hfb
    have ha : a ≠ 0 := by
      intro ha
      have hpos := mul_pos hc.hthr (hv_pos hv' k hk)
      rw [fallback_eq, ha, abs_zero, zero_mul] at hfb'
      exact absurd hpos (of_decide_eq_false hfb')
    have hΔ := CubicRoots.disc_eq (b/a/3) (c'/a/3) ((d - t)/a)
    have hroot := (hP x).mp hxt
    rw [CubicRoots.monic a b c' (d - t) (x - l) ha] at hroot
    have hroot' := (mul_eq_zero.mp hroot).resolve_left ha
    by_cases hd : 0 ≤ CubicRoots.disc (b/a/3) (c'/a/3) ((d - t)/a)
    · rw [out0_trig hc _ _ _ _ _ _ _ hd]
      obtain ⟨r1, r2, r3⟩ := CubicRoots.trig_roots hΔ hd
      have hcomp := CubicRoots.trig_complete hΔ hd hroot'
      set m := CubicRoots.δ1 (b/a/3) (c'/a/3)
      set n := CubicRoots.dep1 (b/a/3) (c'/a/3) ((d - t)/a)
      set Δ := CubicRoots.disc (b/a/3) (c'/a/3) ((d - t)/a)
      -- a position `r` and its depressed variable `τ = r − l + b/a/3` determine each other
      have hpos : ∀ τ, x - l + b/a/3 = τ → x = τ + (-(b/a/3) + l) := fun τ h => by rw [← h]; ring
      have hdep : ∀ τ : ℝ, τ + (-(b/a/3) + l) - l + b/a/3 = τ := fun τ => by ring
      apply pick_spec l (l + w) x hx.1 hx.2
      · rcases hcomp with h | h | h <;> rw [hpos _ h] <;> simp
      · intro r hr hr0 hr1
        simp only [List.mem_cons, List.not_mem_nil, or_false] at hr
        apply hinj ⟨hr0, hr1⟩ hx
        rw [hxt, hP, CubicRoots.monic a b c' (d - t) (r - l) ha]
        rcases hr with rfl | rfl | rfl
        · rw [hdep, r1, mul_zero]
        · rw [hdep, r2, mul_zero]
        · rw [hdep, r3, mul_zero]
    · have hd' := not_le.mp hd
      rw [out0_cardano hc _ _ _ _ _ _ _ hd']
      have := CubicRoots.cardano_unique hΔ hd' hroot'
      exact ⟨by simp only; rw [← this]; ring, by simp⟩

/-- the inverse is EXACT at bin `k`: the quadratic fallback `|a|·w³ < thr·h` is not taken there, or the bin is genuinely
    quadratic (`a = 0`, where the fallback formula is exact) -/
def ExactBin (e : Float → ℝ) (c : CCfg) (uw uh : List ℝ) (udl udr : ℝ) (k : ℕ) : Prop :=
  fallback (NF.realX e) c (aK e c uw uh udl udr k) (cws e c uw k) (cws e c uw (k+1)) (CubicWhole.hv e c uh k) = false
    ∨ aK e c uw uh udl udr k = 0

theorem fallback_iff (hv' : CubicValid e c uw uh) (k : ℕ) (hk : k < uw.length) :
    fallback (NF.realX e) c (aK e c uw uh udl udr k) (cws e c uw k) (cws e c uw (k+1)) (CubicWhole.hv e c uh k) = true
      ↔ |aK e c uw uh udl udr k| * (wv e c uw k)^3 < e c.thr * CubicWhole.hv e c uh k := by
  rw [fallback_eq, cws_succ hv' k hk, add_sub_cancel_left, decide_eq_true_eq, ← pow_three']

theorem rootN_spec (hv' : CubicValid e c uw uh) (hc : InvConsts e c) (t : ℝ) (ht0 : 0 ≤ t) (ht1 : t ≤ 1)
    (hex : ExactBin e c uw uh udl udr (idxH e c uh t)) :
    binN e c uw uh udl udr (idxH e c uh t) (rootN e c uw uh udl udr t) = t ∧
    (preRoot e c uw uh udl udr t).1 = rootN e c uw uh udl udr t ∧
    ∀ r ∈ (preRoot e c uw uh udl udr t).2, r = rootN e c uw uh udl udr t := by
  obtain ⟨hiK, hle, hle1, _⟩ := selH hv' t ht0 ht1
  obtain ⟨x, hx, hxt⟩ := bin_root_exists (udl := udl) (udr := udr) hv' _ hiK t hle hle1
  obtain ⟨h1, h2⟩ := out1_exact hv' hc _ hiK t hle hle1 hex x hx hxt
  have hr : rootN e c uw uh udl udr t = x := by
    unfold rootN preRoot
    rw [h1, inBin_id _ _ _ hx.1 hx.2]
  rw [hr]
  exact ⟨hxt, h1, h2⟩

theorem nval_rootN (hv' : CubicValid e c uw uh) (hc : InvConsts e c) (t : ℝ) (ht0 : 0 ≤ t) (ht1 : t ≤ 1)
    (hex : ExactBin e c uw uh udl udr (idxH e c uh t)) :
    nval e c uw uh udl udr (rootN e c uw uh udl udr t) = t :=
  (searchedI₀ hv').val_inv_at (searchedN hv') t ht0 ht1 (rootN_spec hv' hc t ht0 ht1 hex).1

/-! ### the round trips on the boxes (C02) -/

theorem xn_inv (hv' : CubicValid e c uw uh) (y : ℝ) (hy0 : e c.box.bottom ≤ y) (hy1 : y ≤ e c.box.top) :
    xn e c (inv e c uw uh udl udr y) = rootN e c uw uh udl udr (yn e c y) := by
  have hD : 0 < e c.box.right - e c.box.left := sub_pos.mpr hv'.hlr
  rw [xn_eq hv', inv_eq_root hv' y hy0 hy1]
  exact ExecGlue.scale_unit hD.ne'

/-- **the residual of forward ∘ inverse on the box is the normalised residual, scaled by the height of the box**: the exact
    round trip, the approximate one and its failure are the three readings of this equation -/
theorem val_inv_sub (hv' : CubicValid e c uw uh) (y : ℝ) (hy0 : e c.box.bottom ≤ y) (hy1 : y ≤ e c.box.top) :
    val e c uw uh udl udr (inv e c uw uh udl udr y) - y
      = (nval e c uw uh udl udr (rootN e c uw uh udl udr (yn e c y)) - yn e c y) * (e c.box.top - e c.box.bottom) := by
  obtain ⟨ht0, ht1⟩ := yn_unit hv' y hy0 hy1
  rw [(searchedI hv').val_inv_sub (searched hv') y hy0 hy1, nval_rootN_sub hv' _ ht0 ht1, yn_eq hv']
  exact ExecGlue.rescale_sub hv'.hlr hv'.hbt _ _ y

/-- **C02: forward ∘ inverse = id** at every `y ∈ [bottom, top]` whose searched bin is exact -/
theorem val_inv (hv' : CubicValid e c uw uh) (hc : InvConsts e c) (y : ℝ) (hy0 : e c.box.bottom ≤ y) (hy1 : y ≤ e c.box.top)
    (hex : ExactBin e c uw uh udl udr (idxH e c uh (yn e c y))) :
    val e c uw uh udl udr (inv e c uw uh udl udr y) = y := by
  obtain ⟨ht0, ht1⟩ := yn_unit hv' y hy0 hy1
  have h := val_inv_sub (udl := udl) (udr := udr) hv' y hy0 hy1
  rw [nval_rootN hv' hc _ ht0 ht1 hex, sub_self, zero_mul] at h
  exact sub_eq_zero.1 h

/-- **C02: inverse ∘ forward = id** at every `x ∈ [left, right]` whose image lies in an exact bin -/
theorem inv_val (hv' : CubicValid e c uw uh) (hc : InvConsts e c) (x : ℝ) (hx0 : e c.box.left ≤ x) (hx1 : x ≤ e c.box.right)
    (hex : ExactBin e c uw uh udl udr (idxH e c uh (yn e c (val e c uw uh udl udr x)))) :
    inv e c uw uh udl udr (val e c uw uh udl udr x) = x := by
  obtain ⟨hm0, hm1⟩ := (searched (udl := udl) (udr := udr) hv').mapsTo ⟨hx0, hx1⟩
  exact (searched hv').strictMonoOn.injOn (inv_mem hv' _ hm0 hm1) ⟨hx0, hx1⟩ (val_inv hv' hc _ hm0 hm1 hex)

/-- at any point `r` of the closed x-bin `i` the derivative term of the bin the FORWARD search selects at `r` equals the
    derivative term of bin `i` (same bin, or — at an interior right knot — the next bin, where the spline is C¹) -/
theorem binD_idxN (hv' : CubicValid e c uw uh) (i : ℕ) (hi : i < uw.length) (r : ℝ)
    (h0 : cws e c uw i ≤ r) (h1 : r ≤ cws e c uw (i+1)) :
    binD e c uw uh udl udr (idxN e c uw r) r = binD e c uw uh udl udr i r := by
  rcases ExecGlue.idx_mem_bin (cws e c uw) uw.length (idxN e c uw) (cws_strict hv') (search_spec hv').1 i hi r ⟨h0, h1⟩
    with h | ⟨hi1, heq, h⟩
  · rw [h]
  · rw [h, heq, (binD_knots hv' (i+1) hi1).1, (binD_knots hv' i hi).2]

/-- **C02, log-abs-det law, UNCONDITIONALLY on the whole box** (fallback bins included, no hypothesis on the constants of
    the root formulas): the inverse program's log-abs-det is minus the forward program's log-abs-det at the inverse
    program's output.  (Both evaluate the same derivative polynomial at the same clamped point.) -/
theorem invLd_eq_neg_ld_always (hv' : CubicValid e c uw uh) (y : ℝ) (hy0 : e c.box.bottom ≤ y) (hy1 : y ≤ e c.box.top) :
    invLd e c uw uh udl udr y = - ld e c uw uh udl udr (inv e c uw uh udl udr y) := by
  obtain ⟨ht0, ht1⟩ := yn_unit hv' y hy0 hy1
  obtain ⟨hi0, hi1⟩ := inv_mem (udl := udl) (udr := udr) hv' y hy0 hy1
  obtain ⟨hiK, _, _, _⟩ := selH hv' _ ht0 ht1
  obtain ⟨⟨m0, m1⟩, _, _⟩ := rootN_mem (udl := udl) (udr := udr) hv' _ ht0 ht1
  rw [invLd_eq hv' y hy0 hy1, ld_eq hv' _ hi0 hi1, xn_inv hv' y hy0 hy1, binD_idxN hv' _ hiK _ m0 m1]
  ring

theorem invAlts_eq (hv' : CubicValid e c uw uh) (hc : InvConsts e c) (y : ℝ) (hy0 : e c.box.bottom ≤ y) (hy1 : y ≤ e c.box.top)
    (hex : ExactBin e c uw uh udl udr (idxH e c uh (yn e c y))) :
    ∀ r ∈ invAlts e c uw uh udl udr y, r = inv e c uw uh udl udr y := by
  obtain ⟨ht0, ht1⟩ := yn_unit hv' y hy0 hy1
  obtain ⟨_, h1, h2⟩ := rootN_spec hv' hc _ ht0 ht1 hex
  intro r hr
  unfold invAlts at hr
  rw [exec_eq_core hv' y hy0 hy1, coreN_eq] at hr
  simp only [List.mem_map] at hr
  obtain ⟨_, ⟨a, ha, rfl⟩, rfl⟩ := hr
  obtain ⟨⟨m0, m1⟩, _, _⟩ := rootN_mem (udl := udl) (udr := udr) hv' _ ht0 ht1
  rw [inv_eq hv' y hy0 hy1, h2 a ha, inBin_id _ _ _ m0 m1]


/-! ### the inverse as a bijection of the boxes (C09), when no bin takes the approximate fallback -/

def AllExact (e : Float → ℝ) (c : CCfg) (uw uh : List ℝ) (udl udr : ℝ) : Prop :=
  ∀ k < uw.length, ExactBin e c uw uh udl udr k

theorem exact_at (hv' : CubicValid e c uw uh) (hall : AllExact e c uw uh udl udr) (t : ℝ) (ht0 : 0 ≤ t) (ht1 : t ≤ 1) :
    ExactBin e c uw uh udl udr (idxH e c uh t) := hall _ (selH hv' t ht0 ht1).1

theorem gN_root (hv' : CubicValid e c uw uh) (hc : InvConsts e c) (k : ℕ) (hk : k < uw.length)
    (hex : ExactBin e c uw uh udl udr k) (t : ℝ) (h0 : chs e c uh k ≤ t) (h1 : t ≤ chs e c uh (k+1)) :
    binN e c uw uh udl udr k (gN e c uw uh udl udr k t) = t := by
  obtain ⟨x, hx, hxt⟩ := bin_root_exists (udl := udl) (udr := udr) hv' k hk t h0 h1
  unfold gN
  rw [(out1_exact hv' hc k hk t h0 h1 hex x hx hxt).1, inBin_id _ _ _ hx.1 hx.2, hxt]

/-- **where every bin is solved exactly the executed inverse program is the searched piecewise inverse of
    `CubicWhole.searched`**: strictly increasing bijection of `[bottom, top]` onto `[left, right]`, corner to corner and knot
    to knot, both round trips (C09, C02) are read off this -/
theorem searchedInv (hv' : CubicValid e c uw uh) (hc : InvConsts e c) (hall : AllExact e c uw uh udl udr) :
    ExecGlue.SearchedInv uw.length (xk e c uw) (fun k => e c.box.bottom + (e c.box.top - e c.box.bottom) * chs e c uh k)
      (e c.box.bottom) (e c.box.top) (binX e c uw uh udl udr)
      (fun k y => gN e c uw uh udl udr k ((y - e c.box.bottom) / (e c.box.top - e c.box.bottom))
        * (e c.box.right - e c.box.left) + e c.box.left)
      (fun y => idxH e c uh ((y - e c.box.bottom) / (e c.box.top - e c.box.bottom))) (inv e c uw uh udl udr) :=
  (show ExecGlue.SearchedInv uw.length (cws e c uw) (chs e c uh) 0 1 (binN e c uw uh udl udr) (gN e c uw uh udl udr)
      (idxH e c uh) (rootN e c uw uh udl udr) from
    ⟨searchedI₀ hv', fun k hk t h0 h1 => gN_root hv' hc k hk (hall k hk) t h0 h1⟩).rescale hv'.hlr hv'.hbt (inv_eq_bin hv')

theorem invLd_eq_neg_ld_all (hv' : CubicValid e c uw uh) (hc : InvConsts e c) (hall : AllExact e c uw uh udl udr)
    (y : ℝ) (hy0 : e c.box.bottom ≤ y) (hy1 : y ≤ e c.box.top) :
    invLd e c uw uh udl udr y = - ld e c uw uh udl udr (inv e c uw uh udl udr y) :=
  invLd_eq_neg_ld_always hv' y hy0 hy1

theorem invOn (hv' : CubicValid e c uw uh) (hc : InvConsts e c) (hall : AllExact e c uw uh udl udr) :
    Set.InvOn (inv e c uw uh udl udr) (val e c uw uh udl udr) (Set.Icc (e c.box.left) (e c.box.right))
      (Set.Icc (e c.box.bottom) (e c.box.top)) :=
  ⟨fun x hx => (searchedInv hv' hc hall).inv_val (searched hv') x hx.1 hx.2,
    fun y hy => (searchedInv hv' hc hall).val_inv (searched hv') y hy.1 hy.2⟩


/-! ### the approximate fallback: what `quadratic_threshold` costs -/

theorem fallback_root (hv' : CubicValid e c uw uh) (hc : InvConsts e c) (k : ℕ) (hk : k < uw.length) (t : ℝ)
    (hfb : fallback (NF.realX e) c (aK e c uw uh udl udr k) (cws e c uw k) (cws e c uw (k+1)) (CubicWhole.hv e c uh k) = true) :
    gN e c uw uh udl udr k t
      = min (max (CubicRoots.qroot (bK e c uw uh udl udr k) (dv e c uw uh udl udr k) (chs e c uh k - t)) 0) (wv e c uw k)
        + cws e c uw k := by
  unfold gN out1
  rw [if_pos hfb, quadRoot_eq hc, inBin_eq, cws_succ hv' k hk, ← min_add_add_right, ← max_add_add_right, zero_add,
    add_comm (wv e c uw k)]

theorem fallback_sub (hv' : CubicValid e c uw uh) (hc : InvConsts e c) (k : ℕ) (hk : k < uw.length) (t : ℝ)
    (hfb : fallback (NF.realX e) c (aK e c uw uh udl udr k) (cws e c uw k) (cws e c uw (k+1)) (CubicWhole.hv e c uh k) = true) :
    binN e c uw uh udl udr k (gN e c uw uh udl udr k t) - t
      = aK e c uw uh udl udr k
          * (min (max (CubicRoots.qroot (bK e c uw uh udl udr k) (dv e c uw uh udl udr k) (chs e c uh k - t)) 0) (wv e c uw k))^3
        + bK e c uw uh udl udr k
          * (min (max (CubicRoots.qroot (bK e c uw uh udl udr k) (dv e c uw uh udl udr k) (chs e c uh k - t)) 0) (wv e c uw k))^2
        + dv e c uw uh udl udr k
          * min (max (CubicRoots.qroot (bK e c uw uh udl udr k) (dv e c uw uh udl udr k) (chs e c uh k - t)) 0) (wv e c uw k)
        + (chs e c uh k - t) := by
  rw [fallback_root hv' hc k hk t hfb, binN_poly, add_sub_cancel_right, add_sub_assoc]

theorem fallback_residual (hv' : CubicValid e c uw uh) (hc : InvConsts e c) (k : ℕ) (hk : k < uw.length) (t : ℝ)
    (h0 : chs e c uh k ≤ t) (h1 : t ≤ chs e c uh (k+1))
    (hfb : fallback (NF.realX e) c (aK e c uw uh udl udr k) (cws e c uw k) (cws e c uw (k+1)) (CubicWhole.hv e c uh k) = true) :
    |binN e c uw uh udl udr k (gN e c uw uh udl udr k t) - t| ≤ |aK e c uw uh udl udr k| * (wv e c uw k)^3 := by
  rw [fallback_sub hv' hc k hk t hfb]
  exact CubicRoots.qroot_approx (wv_pos hv' k hk) (dv_range (udl := udl) (udr := udr) hv' k hk).1.1 (sub_nonpos.2 h0)
    (by linarith [bin_poly_right (udl := udl) (udr := udr) hv' k hk])

theorem nval_rootN_approx (hv' : CubicValid e c uw uh) (hc : InvConsts e c) (t : ℝ) (ht0 : 0 ≤ t) (ht1 : t ≤ 1) :
    |nval e c uw uh udl udr (rootN e c uw uh udl udr t) - t|
      ≤ |aK e c uw uh udl udr (idxH e c uh t)| * (wv e c uw (idxH e c uh t))^3 ∧
    |nval e c uw uh udl udr (rootN e c uw uh udl udr t) - t| < e c.thr * CubicWhole.hv e c uh (idxH e c uh t) := by
  obtain ⟨hiK, hle, hle1, _⟩ := selH hv' t ht0 ht1
  rw [nval_rootN_sub hv' t ht0 ht1]
  by_cases hfb : fallback (NF.realX e) c (aK e c uw uh udl udr (idxH e c uh t)) (cws e c uw (idxH e c uh t))
      (cws e c uw (idxH e c uh t + 1)) (CubicWhole.hv e c uh (idxH e c uh t)) = true
  · have hres := fallback_residual (udl := udl) (udr := udr) hv' hc _ hiK t hle hle1 hfb
    exact ⟨hres, lt_of_le_of_lt hres ((fallback_iff (udl := udl) (udr := udr) hv' _ hiK).mp hfb)⟩
  · have h0 : binN e c uw uh udl udr (idxH e c uh t) (gN e c uw uh udl udr (idxH e c uh t) t) - t = 0 :=
      sub_eq_zero.mpr (rootN_spec hv' hc t ht0 ht1 (Or.inl (by simpa using hfb))).1
    rw [h0, abs_zero]
    exact ⟨mul_nonneg (abs_nonneg _) (pow_nonneg (wv_pos hv' _ hiK).le 3), mul_pos hc.hthr (hv_pos hv' _ hiK)⟩

/-- **C02 on the whole box, fallback included, with the explicit constant**: `|val (inv y) − y| < thr · (top − bottom)` for
    EVERY `y ∈ [bottom, top]` — the round trip is exact up to the declared `quadratic_threshold` (relative to the height
    of the box; more precisely relative to the height of the searched bin) -/
theorem val_inv_approx (hv' : CubicValid e c uw uh) (hc : InvConsts e c) (y : ℝ) (hy0 : e c.box.bottom ≤ y) (hy1 : y ≤ e c.box.top) :
    |val e c uw uh udl udr (inv e c uw uh udl udr y) - y|
      < e c.thr * CubicWhole.hv e c uh (idxH e c uh (yn e c y)) * (e c.box.top - e c.box.bottom) ∧
    |val e c uw uh udl udr (inv e c uw uh udl udr y) - y| < e c.thr * (e c.box.top - e c.box.bottom) := by
  obtain ⟨ht0, ht1⟩ := yn_unit hv' y hy0 hy1
  obtain ⟨hiK, _, _, _⟩ := selH hv' _ ht0 ht1
  have hD : 0 < e c.box.top - e c.box.bottom := sub_pos.mpr hv'.hbt
  have h1 : |val e c uw uh udl udr (inv e c uw uh udl udr y) - y|
      < e c.thr * CubicWhole.hv e c uh (idxH e c uh (yn e c y)) * (e c.box.top - e c.box.bottom) := by
    rw [val_inv_sub hv' y hy0 hy1, abs_mul, abs_of_pos hD]
    exact mul_lt_mul_of_pos_right (nval_rootN_approx (udl := udl) (udr := udr) hv' hc _ ht0 ht1).2 hD
  refine ⟨h1, lt_of_lt_of_le h1 ?_⟩
  -- a bin height is at most 1
  have hh1 : CubicWhole.hv e c uh (idxH e c uh (yn e c y)) ≤ 1 := by
    have h0' := (chs_unit hv' (idxH e c uh (yn e c y)) hiK.le).1
    have h1' := (chs_unit hv' (idxH e c uh (yn e c y) + 1) hiK).2
    have := chs_succ hv' _ hiK
    linarith
  rw [mul_assoc]
  exact mul_le_mul_of_nonneg_left (mul_le_of_le_one_left hD.le hh1) hc.hthr.le

/-! ### non-vacuity: a concrete reading of the doubles and concrete parameters satisfying every hypothesis -/

/-- the position of a double among the eight literals of the root formulas (`8`: none of them).  `0.8660254037844386` is
    the double `0.5 * Float.sqrt 3.0`, the constant `√3/2` of the trigonometric root formulas as the code forms it
    (`FloatFacts.sqrt3_half_eq`) -/
def codeI (f : Float) : Nat :=
  if f == 0.0 then 0 else if f == 3.0 then 1 else if f == 4.0 then 2 else if f == -2.0 then 3 else if f == -0.5 then 4
  else if f == 0.8660254037844386 then 5 else if f == 0.5 then 6 else if f == 1e-3 then 7 else 8
def tableI : Nat → ℝ
  | 0 => 0 | 1 => 3 | 2 => 4 | 3 => -2 | 4 => -(1/2) | 5 => Real.sqrt 3 / 2 | 6 => 1/2 | 7 => 1/1000 | _ => 1
/-- the reading exact on every literal of the root formulas (`3, 4, -2, -1/2, 1/2, 1e-3`, and `0.5·√3` read as `√3/2`),
    through `codeI`; every other double is read as `1` -/
def eI (f : Float) : ℝ := tableI (codeI f)

theorem codeI_key (i : Nat) {k : Float} {v : Nat}
    (hi : [((0.0:Float), 0), (3.0, 1), (4.0, 2), (-2.0, 3), (-0.5, 4), (0.8660254037844386, 5), (0.5, 6), (1e-3, 7)][i]?
      = some (k, v)) : codeI k = v :=
  FloatFacts.readTbl_key 8 i hi FloatFacts.cubicRoot_keys

/-! the two literals that are no key, both read as `1` -/
theorem codeI_one : codeI 1.0 = 8 := by decide +kernel
private theorem kseps : codeI 1e-6 = 8 := by decide +kernel

theorem eI_zero : eI 0.0 = 0 := by rw [eI, codeI_key 0 rfl]; rfl
theorem eI_one : eI 1.0 = 1 := by rw [eI, codeI_one]; rfl
theorem eI_eps : eI 1e-6 = 1 := by rw [eI, kseps]; rfl
theorem eI_diff : eI (1.0 - 0.0) = 1 := by rw [FloatFacts.one_sub_zero_eq]; exact eI_one
theorem ex_half : eI 0.5 = 1/2 := by rw [eI, codeI_key 6 rfl]; rfl
theorem ex_thr : eI cNV.thr = 1/1000 := by show eI 1e-3 = _; rw [eI, codeI_key 7 rfl]; rfl
theorem ex_bottom : eI cNV.box.bottom = 0 := eI_zero
theorem ex_top : eI cNV.box.top = 1 := eI_one

theorem valid_exampleI : CubicValid eI cNV [0, 0] [0, 0] where
  hK := List.cons_ne_nil _ _
  hlenh := rfl
  hgW := FloatFacts.guard_two
  hgH := FloatFacts.guard_two
  hmW0 := eI_zero.ge
  hcW := by
    show eI (1 - 0.0 * (2:Nat).toFloat) = 1 - eI 0.0 * ((2:ℕ):ℝ)
    rw [FloatFacts.floor_two_eq, eI_one, eI_zero, zero_mul, sub_zero]
  hmWK := by show eI 0.0 * ((2:ℕ):ℝ) ≤ 1; rw [eI_zero, zero_mul]; exact zero_le_one
  hmH0 := eI_zero.ge
  hcH := by
    show eI (1 - 0.0 * (2:Nat).toFloat) = 1 - eI 0.0 * ((2:ℕ):ℝ)
    rw [FloatFacts.floor_two_eq, eI_one, eI_zero, zero_mul, sub_zero]
  hmHK := by show eI 0.0 * ((2:ℕ):ℝ) ≤ 1; rw [eI_zero, zero_mul]; exact zero_le_one
  hlr := by show eI 0.0 < eI 1.0; rw [eI_zero, eI_one]; exact zero_lt_one
  hdlr := by show eI (1.0 - 0.0) = eI 1.0 - eI 0.0; rw [eI_diff, eI_one, eI_zero, sub_zero]
  hbt := by show eI 0.0 < eI 1.0; rw [eI_zero, eI_one]; exact zero_lt_one
  hdbt := by show eI (1.0 - 0.0) = eI 1.0 - eI 0.0; rw [eI_diff, eI_one, eI_zero, sub_zero]
  hseps := by show 0 < eI 1e-6; rw [eI_eps]; exact one_pos
  hhalf := by rw [ex_half]; exact one_half_pos

theorem consts_example : InvConsts eI cNV where
  h3 := by rw [eI, codeI_key 1 rfl]; rfl
  h4 := by rw [eI, codeI_key 2 rfl]; rfl
  hm2 := by rw [eI, codeI_key 3 rfl]; rfl
  hmh := by rw [eI, codeI_key 4 rfl]; rfl
  hs3 := by rw [FloatFacts.sqrt3_half_eq, eI, codeI_key 5 rfl]; rfl
  hthr := by rw [ex_thr]; norm_num

/-! the two-equal-bins spline (`uw = uh = [0, 0]`, equal floors) for ANY accepted configuration: all slopes are `1`,
    the interior knot derivative is `1`, the end derivatives are `3·sigmoid(ud)`, so `a_k · w_k² = 3·sigmoid(ud) − 1` -/
section twoBins
variable {e : Float → ℝ} {cc : CCfg} (hv' : CubicValid e cc [0, 0] [0, 0])
  (hhw : ∀ k, CubicWhole.hv e cc [0, 0] k = wv e cc [0, 0] k) (hhalf : e 0.5 = 1 / 2)
include hv' hhw

theorem tb_sv (k : ℕ) (hk : k < 2) : sv e cc [0, 0] [0, 0] k = 1 := by
  rw [sv_eq hv' k hk, hhw]
  exact div_self (wv_pos hv' k hk).ne'

theorem tb_dv0 (udl udr : ℝ) : dv e cc [0, 0] [0, 0] udl udr 0 = (NF.realX e).sigmoid udl * 3 := by
  rw [dv_end_left, tb_sv hv' hhw 0 Nat.zero_lt_two, mul_one]

theorem tb_dv2 (udl udr : ℝ) : dv e cc [0, 0] [0, 0] udl udr 2 = (NF.realX e).sigmoid udr * 3 := by
  have := dv_end_right (udl := udl) (udr := udr) hv'
  simp only [List.length_cons, List.length_nil] at this
  rw [this, tb_sv hv' hhw 1 (Nat.lt_succ_self 1), mul_one]

include hhalf

theorem tb_dv1 (udl udr : ℝ) : dv e cc [0, 0] [0, 0] udl udr 1 = 1 := by
  have h0 := wv_pos hv' 0 Nat.zero_lt_two
  have h1 := wv_pos hv' 1 (Nat.lt_succ_self 1)
  have := dv_interior (udl := udl) (udr := udr) hv' 0 (Nat.lt_succ_self 1)
  rw [zero_add] at this
  rw [this, tb_sv hv' hhw 0 Nat.zero_lt_two, tb_sv hv' hhw 1 (Nat.lt_succ_self 1), hhalf, mul_one, mul_one, min_self]
  have : (1/2 : ℝ) * (wv e cc [0, 0] 1 + wv e cc [0, 0] 0) / (wv e cc [0, 0] 0 + wv e cc [0, 0] 1) = 1/2 := by
    rw [add_comm, mul_div_assoc, div_self (add_pos h0 h1).ne', mul_one]
  rw [this, min_eq_right (by norm_num)]; norm_num

theorem tb_aK0 (udl udr : ℝ) :
    aK e cc [0, 0] [0, 0] udl udr 0 = ((NF.realX e).sigmoid udl * 3 - 1) / (wv e cc [0, 0] 0)^2 := by
  unfold aK
  rw [tb_dv0 hv' hhw, zero_add, tb_dv1 hv' hhw hhalf, tb_sv hv' hhw 0 Nat.zero_lt_two]; ring

theorem tb_aK1 (udl udr : ℝ) :
    aK e cc [0, 0] [0, 0] udl udr 1 = ((NF.realX e).sigmoid udr * 3 - 1) / (wv e cc [0, 0] 1)^2 := by
  unfold aK
  rw [tb_dv1 hv' hhw hhalf, tb_dv2 hv' hhw, tb_sv hv' hhw 1 (Nat.lt_succ_self 1)]; ring

end twoBins

/-! the example: that spline at the reading `eI` on the unit box -/

theorem ex_hv (k : ℕ) : CubicWhole.hv eI cNV [0, 0] k = wv eI cNV [0, 0] k := rfl

theorem ex_sv (k : ℕ) (hk : k < 2) : sv eI cNV [0, 0] [0, 0] k = 1 := tb_sv valid_exampleI ex_hv k hk

theorem ex_dv0 (udl udr : ℝ) : dv eI cNV [0, 0] [0, 0] udl udr 0 = (NF.realX eI).sigmoid udl * 3 :=
  tb_dv0 valid_exampleI ex_hv udl udr

theorem ex_dv1 (udl udr : ℝ) : dv eI cNV [0, 0] [0, 0] udl udr 1 = 1 := tb_dv1 valid_exampleI ex_hv ex_half udl udr

theorem ex_aK0 (udl udr : ℝ) :
    aK eI cNV [0, 0] [0, 0] udl udr 0 = ((NF.realX eI).sigmoid udl * 3 - 1) / (wv eI cNV [0, 0] 0)^2 :=
  tb_aK0 valid_exampleI ex_hv ex_half udl udr

theorem ex_aK1 (udl udr : ℝ) :
    aK eI cNV [0, 0] [0, 0] udl udr 1 = ((NF.realX eI).sigmoid udr * 3 - 1) / (wv eI cNV [0, 0] 1)^2 :=
  tb_aK1 valid_exampleI ex_hv ex_half udl udr

theorem sigmoid_neg_log2 : (NF.realX eI).sigmoid (-Real.log 2) = 1/3 := by
  rw [NF.realX_sigmoid, neg_neg, Real.exp_log (by norm_num)]; norm_num

theorem sigmoid_log3 : (NF.realX eI).sigmoid (Real.log 3) = 3/4 := by
  rw [NF.realX_sigmoid, Real.exp_neg, Real.exp_log (by norm_num)]; norm_num

/-- in the example `a = A / w²` with `A > 0`, so the fallback quantity `|a|·w³` is `A·w` -/
theorem abs_div_sq_mul_cube {A w : ℝ} (hA : 0 < A) (hw : 0 < w) : |A / w^2| * w^3 = A * w := by
  rw [abs_of_pos (div_pos hA (pow_pos hw 2)), pow_succ w 2, ← mul_assoc, div_mul_cancel₀ _ (pow_pos hw 2).ne']

/-- **witness 1** (`ud = −log 2`: the spline is the identity, every bin has `a = 0`): every bin is exact, through the
    quadratic fallback, which is exact there -/
theorem allExact_example_quadratic : AllExact eI cNV [0, 0] [0, 0] (-Real.log 2) (-Real.log 2) := by
  intro k hk
  right
  have hk' : k = 0 ∨ k = 1 := by simp at hk; omega
  rcases hk' with rfl | rfl
  · rw [ex_aK0, sigmoid_neg_log2]; norm_num
  · rw [ex_aK1, sigmoid_neg_log2]; norm_num

/-- **witness 2** (`ud = log 3`, `a·w² = 5/4` in both bins): no bin takes the fallback; the root comes from the
    trigonometric / Cardano formulas -/
theorem allExact_example_cubic : AllExact eI cNV [0, 0] [0, 0] (Real.log 3) (Real.log 3) := by
  intro k hk
  left
  have hk' : k = 0 ∨ k = 1 := by simp at hk; omega
  rw [Bool.eq_false_iff]
  intro hfb
  have hlt := (fallback_iff (udl := Real.log 3) (udr := Real.log 3) valid_exampleI k hk).mp hfb
  have hw := wv_pos valid_exampleI k hk
  have ha : aK eI cNV [0, 0] [0, 0] (Real.log 3) (Real.log 3) k = (5/4) / (wv eI cNV [0, 0] k)^2 := by
    rcases hk' with rfl | rfl
    · rw [ex_aK0, sigmoid_log3]; norm_num
    · rw [ex_aK1, sigmoid_log3]; norm_num
  rw [ha, abs_div_sq_mul_cube (by norm_num) hw, ex_thr, ex_hv] at hlt
  linarith

/-! ### the exactness hypothesis is forced: in a fallback bin with `a ≠ 0` the model's inverse is NOT the inverse of the
model's forward (over ℝ, no rounding involved) -/

/-- per bin: fallback taken, `a ≠ 0`, level strictly inside the y-bin, radicand of the quadratic non-negative ⇒ the
    clamped root the program returns is not mapped back to `t` by the bin's cubic -/
theorem fallback_inexact (hv' : CubicValid e c uw uh) (hc : InvConsts e c) (k : ℕ) (hk : k < uw.length) (t : ℝ)
    (h0 : chs e c uh k < t) (h1 : t < chs e c uh (k+1))
    (hfb : fallback (NF.realX e) c (aK e c uw uh udl udr k) (cws e c uw k) (cws e c uw (k+1)) (CubicWhole.hv e c uh k) = true)
    (ha : aK e c uw uh udl udr k ≠ 0)
    (hrad : 0 ≤ dv e c uw uh udl udr k * dv e c uw uh udl udr k - 4 * bK e c uw uh udl udr k * (chs e c uh k - t)) :
    binN e c uw uh udl udr k (gN e c uw uh udl udr k t) ≠ t := by
  rw [Ne, ← sub_eq_zero, fallback_sub hv' hc k hk t hfb]
  exact CubicRoots.qroot_inexact (dv_range (udl := udl) (udr := udr) hv' k hk).1.1 (sub_neg.2 h0)
    (by linarith [bin_poly_right (udl := udl) (udr := udr) hv' k hk]) ha hrad

theorem idxH_of_mem (hv' : CubicValid e c uw uh) (k : ℕ) (hk : k < uw.length) (t : ℝ)
    (h0 : chs e c uh k ≤ t) (h1 : t < chs e c uh (k+1)) : idxH e c uh t = k :=
  ExecGlue.idx_unique (chs e c uh) uw.length (idxH e c uh) (chs_strict hv') (search_specH hv').1 k hk t h0 (Or.inl h1)

theorem val_inv_ne (hv' : CubicValid e c uw uh) (y : ℝ) (hy0 : e c.box.bottom ≤ y) (hy1 : y ≤ e c.box.top)
    (h : nval e c uw uh udl udr (rootN e c uw uh udl udr (yn e c y)) ≠ yn e c y) :
    val e c uw uh udl udr (inv e c uw uh udl udr y) ≠ y := fun hcon =>
  h (sub_eq_zero.1 ((mul_eq_zero.1 ((val_inv_sub hv' y hy0 hy1).symm.trans (sub_eq_zero.2 hcon))).resolve_right
    (sub_pos.mpr hv'.hbt).ne'))

/-! concrete counterexample: the example spline with `3·sigmoid(udl) − 1 = 1/2000` (so `0 < |a|·w³ = w/2000 < thr·h = w/1000`) -/

theorem sigmoid_cex : (NF.realX eI).sigmoid (Real.log (2001/3999)) = 2001/6000 := by
  rw [NF.realX_sigmoid, Real.exp_neg, Real.exp_log (by norm_num)]; norm_num

theorem ex_bK0 (udl udr : ℝ) :
    bK eI cNV [0, 0] [0, 0] udl udr 0 = (2 - 2 * ((NF.realX eI).sigmoid udl * 3)) / wv eI cNV [0, 0] 0 := by
  unfold bK
  rw [ex_dv0, zero_add, ex_dv1, ex_sv 0 (by norm_num)]; ring

/-- **counterexample to the unconditional round trip (model, over ℝ)**: two equal bins on the unit box, `thr` read as
    `1/1000`, `udl = log(2001/3999)`; at `y = (first y-knot)/2` the fallback is taken with `a ≠ 0` and
    `forward(inverse(y)) ≠ y`.  (The error is `< thr · h` by `val_inv_approx`.) -/
theorem round_trip_counterexample :
    val eI cNV [0, 0] [0, 0] (Real.log (2001/3999)) 0 (inv eI cNV [0, 0] [0, 0] (Real.log (2001/3999)) 0 (wv eI cNV [0, 0] 0 / 2))
      ≠ wv eI cNV [0, 0] 0 / 2 := by
  have hv' := valid_exampleI
  have h02 : 0 < ([0, 0] : List ℝ).length := Nat.zero_lt_two
  have hw := wv_pos hv' 0 h02
  have hc0 : chs eI cNV [0, 0] 0 = 0 := chs_zero hv'
  have hc1 : chs eI cNV [0, 0] 1 = wv eI cNV [0, 0] 0 := by
    have := chs_succ hv' 0 h02
    rw [zero_add, hc0, zero_add, ex_hv] at this; exact this
  have hw1 : wv eI cNV [0, 0] 0 ≤ 1 := hc1.symm.trans_le (chs_unit hv' 1 (Nat.le_succ 1)).2
  have ha : aK eI cNV [0, 0] [0, 0] (Real.log (2001/3999)) 0 0 = (1/2000) / (wv eI cNV [0, 0] 0)^2 := by
    rw [ex_aK0, sigmoid_cex]; norm_num
  have hb : bK eI cNV [0, 0] [0, 0] (Real.log (2001/3999)) 0 0 = (-(1/1000)) / wv eI cNV [0, 0] 0 := by
    rw [ex_bK0, sigmoid_cex]; norm_num
  have hd : dv eI cNV [0, 0] [0, 0] (Real.log (2001/3999)) 0 0 = 2001/2000 := by
    rw [ex_dv0, sigmoid_cex]; norm_num
  have hfb := (fallback_iff (udl := Real.log (2001/3999)) (udr := 0) hv' 0 h02).mpr
    (by rw [ha, abs_div_sq_mul_cube (by norm_num) hw, ex_thr, ex_hv]; exact mul_lt_mul_of_pos_right (by norm_num) hw)
  -- from here on the first width is just a number `w ∈ (0, 1]`
  generalize wv eI cNV [0, 0] 0 = w at *
  have h2 : 0 < w / 2 := half_pos hw
  have h2w : w / 2 < w := half_lt_self hw
  have hyn : yn eI cNV (w / 2) = w / 2 := by rw [yn_eq hv', ex_bottom, ex_top, sub_zero, sub_zero, div_one]
  apply val_inv_ne hv' _ (ex_bottom.trans_le h2.le) ((h2w.le.trans hw1).trans_eq ex_top.symm)
  rw [hyn]
  have hidx : idxH eI cNV [0, 0] (w / 2) = 0 := idxH_of_mem hv' 0 h02 _ (hc0.trans_le h2.le) (h2w.trans_eq hc1.symm)
  -- the residual at `w / 2` is that of the quadratic root in bin `0`
  intro hcon
  have hsub := nval_rootN_sub (udl := Real.log (2001/3999)) (udr := 0) hv' (w / 2) h2.le (h2w.le.trans hw1)
  rw [hcon, sub_self, hidx] at hsub
  refine fallback_inexact hv' consts_example 0 h02 _ (hc0.trans_lt h2) (h2w.trans_eq hc1.symm) hfb ?_ ?_
    (sub_eq_zero.1 hsub.symm)
  · rw [ha]; positivity
  · rw [hd, hb, hc0, zero_sub, show 4 * (-(1/1000) / w) * -(w / 2) = 1/500 by field_simp; ring]
    norm_num

/-! ### C01 for the inverse direction (where the inverse is exact) -/

/-- **C01, inverse direction, at EVERY point of the open box** (y-knots included): the executed inverse is differentiable
    and its derivative is `exp` of the log-abs-det the inverse program returns (`boxLog` read as the real logarithm) -/
theorem inv_hasDerivAt_all (hv' : CubicValid e c uw uh) (hc : InvConsts e c) (hall : AllExact e c uw uh udl udr)
    (hbl : e (boxLog c.box) = Real.log ((e c.box.top - e c.box.bottom) / (e c.box.right - e c.box.left)))
    (y : ℝ) (hy0 : e c.box.bottom < y) (hy1 : y < e c.box.top) :
    HasDerivAt (inv e c uw uh udl udr) (Real.exp (invLd e c uw uh udl udr y)) y := by
  have R := (searchedInv hv' hc hall).rightInv (searched hv')
  -- strictly inside `(bottom, top)` the inverse lands strictly inside `(left, right)`, where the forward map is differentiable
  obtain ⟨h0, h1⟩ := R.inv_mem_Ioo ⟨le_rfl, hv'.hlr.le⟩ ⟨hv'.hlr.le, le_rfl⟩ (by rw [(searched hv').endpoints.1]; exact hy0)
    (by rw [(searched hv').endpoints.2]; exact hy1)
  rw [invLd_eq_neg_ld_always hv' y hy0.le hy1.le, Real.exp_neg]
  exact R.inv_hasDerivAt ⟨hy0, hy1⟩ (val_hasDerivAt_all hv' hbl _ h0 h1) (Real.exp_pos _).ne'
end
end CubicInverseWhole
