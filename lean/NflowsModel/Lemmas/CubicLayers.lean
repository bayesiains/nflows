import NflowsModel.Lemmas.CubicInverseWhole
import NflowsModel.Lemmas.TailsWhole
import NflowsModel.Lemmas.ARWhole
/-!
# Lemmas/CubicLayers — the CUBIC spline family at the layer level and on the whole line (C02, C09, C17)

The element facts of `CubicWhole` / `CubicInverseWhole` / `TailsWhole` lifted to what runs them at `NF.realX e`: the
dispatcher `elTransform`, the coupling layer, the autoregressive transform and MADE, bounded and with linear tails.
The inverse program takes an APPROXIMATE quadratic fallback in bins with `|a|·w³ < quadratic_threshold·h`; where `a ≠ 0`
there it is not the inverse of the forward program.  So every exact round trip carries an exactness hypothesis (per
element, per slice or per parameter array), and next to it stands what holds WITHOUT it: totality in the domain, outputs
in the box, EXACT negation of the log-dets, and `|forward(inverse y) − y| < quadratic_threshold · (top − bottom)` per entry.
-/
open NF DualSound

namespace CubicLayers
open NF.StructureExec NF.ARWhole CubicWhole

/-! ## One bounded element: the executed forward and inverse programs in terms of `val`/`ld`/`inv`/`invLd`/`invAlts` -/

section element
variable {e : Float → ℝ} {c : CCfg} {uw uh : List ℝ} {udl udr : ℝ}

/- Names: `CubicWhole.exec_ok` / `CubicInverseWhole.exec_ok` say what the program returns in its domain (`val`, `ld` /
   `inv`, `invLd`, `invAlts`); `fwd_ok` / `inv_ok_fwd` read a successful call backwards; `binOf y` is the y-bin the
   inverse search selects at `y`.  Later: `SliceValid` / `SliceExact` are `CubicValid` / `AllExact` of the lists the
   dispatcher slices out of a parameter vector; `Near` is "equal or within `quadratic_threshold·(top − bottom)`". -/

theorem fwd_ok_dom {x : ℝ} {r : ℝ × ℝ × List ℝ}
    (h : cubicSpline (NF.realX e) c uw uh udl udr false x = .ok r) : e c.box.left ≤ x ∧ x ≤ e c.box.right :=
  SplineTotal.ok_dom_of_rejects (SplineTotal.cubicSpline_rejects_outside _ c uw uh udl udr false x) h

theorem inv_ok_dom {y : ℝ} {r : ℝ × ℝ × List ℝ}
    (h : cubicSpline (NF.realX e) c uw uh udl udr true y = .ok r) : e c.box.bottom ≤ y ∧ y ≤ e c.box.top :=
  SplineTotal.ok_dom_of_rejects (SplineTotal.cubicSpline_rejects_outside _ c uw uh udl udr true y) h

theorem fwd_ok (hv : CubicValid e c uw uh) {x y l : ℝ} {al : List ℝ}
    (h : cubicSpline (NF.realX e) c uw uh udl udr false x = .ok (y, l, al)) :
    (e c.box.left ≤ x ∧ x ≤ e c.box.right) ∧ y = val e c uw uh udl udr x ∧ l = ld e c uw uh udl udr x ∧ al = [] ∧
    (e c.box.bottom ≤ y ∧ y ≤ e c.box.top) := by
  obtain ⟨hx0, hx1⟩ := fwd_ok_dom h
  rw [exec_ok hv x hx0 hx1] at h
  simp only [Except.ok.injEq, Prod.mk.injEq] at h
  obtain ⟨rfl, rfl, rfl⟩ := h
  exact ⟨⟨hx0, hx1⟩, rfl, rfl, rfl, (CubicWhole.searched hv).mapsTo ⟨hx0, hx1⟩⟩

noncomputable def binOf (e : Float → ℝ) (c : CCfg) (uh : List ℝ) (y : ℝ) : ℕ :=
  CubicInverseWhole.idxH e c uh (CubicInverseWhole.yn e c y)

/-- **one bounded cubic element over the reals, inverse ∘ forward** — per element: if the forward program succeeds with
    `(y, l, al)` and the bin `y` falls into is exact (`ExactBin`: the quadratic fallback is not taken there, or the bin is
    genuinely quadratic), the inverse program with the same parameters returns `(x, -l, al')`; every admissible
    alternative in `al'` is `x` itself, and the forward alternatives are empty. -/
theorem cubicSpline_real_invertible (hv : CubicValid e c uw uh) (hc : CubicInverseWhole.InvConsts e c) {x y l : ℝ}
    {al : List ℝ} (h : cubicSpline (NF.realX e) c uw uh udl udr false x = .ok (y, l, al))
    (hex : CubicInverseWhole.ExactBin e c uw uh udl udr (binOf e c uh y)) :
    cubicSpline (NF.realX e) c uw uh udl udr true y = .ok (x, -l, CubicInverseWhole.invAlts e c uw uh udl udr y)
      ∧ al = [] ∧ ∀ r ∈ CubicInverseWhole.invAlts e c uw uh udl udr y, r = x := by
  obtain ⟨⟨hx0, hx1⟩, rfl, rfl, rfl, hy0, hy1⟩ := fwd_ok hv h
  have h1 := CubicInverseWhole.inv_val hv hc x hx0 hx1 hex
  have h2 := CubicInverseWhole.invLd_eq_neg_ld_always (udl := udl) (udr := udr) hv _ hy0 hy1
  have h3 := CubicInverseWhole.invAlts_eq hv hc _ hy0 hy1 hex
  rw [h1] at h2 h3
  exact ⟨by rw [CubicInverseWhole.exec_ok hv _ hy0 hy1, h1, h2], rfl, h3⟩

theorem inv_ok_fwd (hv : CubicValid e c uw uh) {x y l : ℝ} {al : List ℝ}
    (h : cubicSpline (NF.realX e) c uw uh udl udr true y = .ok (x, l, al)) :
    (e c.box.bottom ≤ y ∧ y ≤ e c.box.top) ∧ x = CubicInverseWhole.inv e c uw uh udl udr y ∧
    (e c.box.left ≤ x ∧ x ≤ e c.box.right) ∧
    cubicSpline (NF.realX e) c uw uh udl udr false x = .ok (val e c uw uh udl udr x, -l, []) := by
  obtain ⟨hy0, hy1⟩ := inv_ok_dom h
  rw [CubicInverseWhole.exec_ok hv y hy0 hy1] at h
  simp only [Except.ok.injEq, Prod.mk.injEq] at h
  obtain ⟨rfl, rfl, _⟩ := h
  obtain ⟨hx0, hx1⟩ := CubicInverseWhole.inv_mem (udl := udl) (udr := udr) hv y hy0 hy1
  refine ⟨⟨hy0, hy1⟩, rfl, ⟨hx0, hx1⟩, ?_⟩
  rw [exec_ok hv _ hx0 hx1, CubicInverseWhole.invLd_eq_neg_ld_always hv y hy0 hy1, neg_neg]

theorem cubicSpline_real_invertible_rev (hv : CubicValid e c uw uh) (hc : CubicInverseWhole.InvConsts e c) {x y l : ℝ}
    {al : List ℝ} (h : cubicSpline (NF.realX e) c uw uh udl udr true y = .ok (x, l, al))
    (hex : CubicInverseWhole.ExactBin e c uw uh udl udr (binOf e c uh y)) :
    cubicSpline (NF.realX e) c uw uh udl udr false x = .ok (y, -l, []) := by
  obtain ⟨⟨hy0, hy1⟩, rfl, _, hf⟩ := inv_ok_fwd hv h
  rw [hf, CubicInverseWhole.val_inv hv hc y hy0 hy1 hex]

/-- **one bounded cubic element, forward ∘ inverse, NO exactness hypothesis**: the forward program accepts the inverse
    program's output (it lies in `[left, right]`), returns EXACTLY the negated log-abs-det, and a value within
    `quadratic_threshold · (top − bottom)` of the inverse program's input. -/
theorem cubicSpline_real_rev_approx (hv : CubicValid e c uw uh) (hc : CubicInverseWhole.InvConsts e c) {x y l : ℝ}
    {al : List ℝ} (h : cubicSpline (NF.realX e) c uw uh udl udr true y = .ok (x, l, al)) :
    e c.box.left ≤ x ∧ x ≤ e c.box.right ∧
    ∃ y', cubicSpline (NF.realX e) c uw uh udl udr false x = .ok (y', -l, []) ∧
      |y' - y| < e c.thr * (e c.box.top - e c.box.bottom) := by
  obtain ⟨⟨hy0, hy1⟩, rfl, ⟨hx0, hx1⟩, hf⟩ := inv_ok_fwd hv h
  exact ⟨hx0, hx1, _, hf, (CubicInverseWhole.val_inv_approx hv hc y hy0 hy1).2⟩

/-- the log-abs-det part of the previous statement needs no hypothesis on the constants of the root formulas -/
theorem cubicSpline_real_rev_ld (hv : CubicValid e c uw uh) {x y l : ℝ}
    {al : List ℝ} (h : cubicSpline (NF.realX e) c uw uh udl udr true y = .ok (x, l, al)) :
    e c.box.left ≤ x ∧ x ≤ e c.box.right ∧
    ∃ y', cubicSpline (NF.realX e) c uw uh udl udr false x = .ok (y', -l, []) ∧
      e c.box.bottom ≤ y' ∧ y' ≤ e c.box.top := by
  obtain ⟨_, _, ⟨hx0, hx1⟩, hf⟩ := inv_ok_fwd hv h
  obtain ⟨hm0, hm1⟩ := (CubicWhole.searched (udl := udl) (udr := udr) hv).mapsTo ⟨hx0, hx1⟩
  exact ⟨hx0, hx1, _, hf, hm0, hm1⟩

end element

/-! ## What `elTransform` runs for kind `"cubic"` (bounded), and the per-slice hypotheses -/

section dispatch
variable {α : Type}

/-- the spline configuration `elTransform` builds for the bounded cubic family -/
def cubicCfgOf (c : ElCfg) : CCfg :=
  { box := ⟨c.ds.getD 0 0.0, c.ds.getD 1 0.0, c.ds.getD 2 0.0, c.ds.getD 3 0.0⟩,
    minW := c.ds.getD 4 0.0, minH := c.ds.getD 5 0.0, eps := c.ds.getD 6 0.0, thr := c.ds.getD 7 0.0 }

/-- the two unnormalised end derivatives `elTransform` reads off a parameter vector -/
def cubicL (o : XOps α) (c : ElCfg) (p : List α) : α := p.getD (2 * c.K) o.zero
def cubicR (o : XOps α) (c : ElCfg) (p : List α) : α := p.getD (2 * c.K + 1) o.zero

/-- **`elTransform` for the bounded cubic family is the executed `cubicSpline`** on the sliced (and scaled) widths and
    heights (`rqW`, `rqH`: the same slicing as the rational-quadratic family) and the two end derivatives -/
theorem elTransform_cubic (o : XOps α) (c : ElCfg) (hk : c.kind = "cubic") (ht : c.tails = false) (inverse : Bool)
    (p : List α) (x : α) :
    elTransform o c inverse p x
      = cubicSpline o (cubicCfgOf c) (rqW o c p) (rqH o c p) (cubicL o c p) (cubicR o c p) inverse x := by
  unfold cubicCfgOf cubicL cubicR
  exact NF.StructureExec.elTransform_cubic o c hk ht inverse p x

theorem mult_cubic {c : ElCfg} (hk : c.kind = "cubic") : c.mult = 2 * c.K + 2 := by
  simp [ElCfg.mult, hk]

theorem pw_cubic {c : ElCfg} (hk : c.kind = "cubic") : pw c = 2 * c.K + 2 := by
  simp [pw, ElCfg.mult, hk]

theorem sliceParts_unscaled (o : XOps α) (c : ElCfg) (hK : c.K = 2) (hs1 : c.scaling.2.1 = false)
    (hs2 : c.scaling.2.2 = false) (w0 w1 h0 h1 l r : α) :
    rqW o c [w0, w1, h0, h1, l, r] = [w0, w1] ∧ rqH o c [w0, w1, h0, h1, l, r] = [h0, h1] ∧
    cubicL o c [w0, w1, h0, h1, l, r] = l ∧ cubicR o c [w0, w1, h0, h1, l, r] = r := by
  unfold rqW rqH cubicL cubicR rqScale
  rw [hs1, hs2, hK]
  exact ⟨rfl, rfl, rfl, rfl⟩

end dispatch

def SliceValid (e : Float → ℝ) (c : ElCfg) (cc : CCfg) (p : List ℝ) : Prop :=
  CubicValid e cc (rqW (NF.realX e) c p) (rqH (NF.realX e) c p)

def SliceExact (e : Float → ℝ) (c : ElCfg) (cc : CCfg) (p : List ℝ) : Prop :=
  CubicInverseWhole.AllExact e cc (rqW (NF.realX e) c p) (rqH (NF.realX e) c p)
    (cubicL (NF.realX e) c p) (cubicR (NF.realX e) c p)

theorem cubicValid_of_lengths {e : Float → ℝ} {cc : CCfg} {uw uh uw' uh' : List ℝ}
    (hv : CubicValid e cc uw uh) (hw : uw'.length = uw.length) (hh : uh'.length = uw.length) :
    CubicValid e cc uw' uh' where
  hK := by
    have := List.length_pos_of_ne_nil hv.hK
    exact List.ne_nil_of_length_pos (by omega)
  hlenh := by rw [hh, hw]
  hgW := by rw [hw]; exact hv.hgW
  hgH := by rw [hw]; exact hv.hgH
  hmW0 := hv.hmW0
  hcW := by rw [hw]; exact hv.hcW
  hmWK := by rw [hw]; exact hv.hmWK
  hmH0 := hv.hmH0
  hcH := by rw [hh, ← hv.hlenh]; exact hv.hcH
  hmHK := by rw [hh, ← hv.hlenh]; exact hv.hmHK
  hlr := hv.hlr
  hdlr := hv.hdlr
  hbt := hv.hbt
  hdbt := hv.hdbt
  hseps := hv.hseps
  hhalf := hv.hhalf

theorem sliceValid_of_length {e : Float → ℝ} {c : ElCfg} {cc : CCfg}
    (hv : CubicValid e cc (List.replicate c.K 0) (List.replicate c.K 0)) (p : List ℝ) (hlen : p.length = 2 * c.K + 2) :
    SliceValid e c cc p := by
  obtain ⟨hw, hh⟩ := rqW_rqH_length (NF.realX e) c (p := p) (by omega)
  apply cubicValid_of_lengths hv
  · rw [hw, List.length_replicate]
  · rw [hh, List.length_replicate]

/-! ## One element as the dispatcher runs it (bounded) -/

section el
variable {e : Float → ℝ} {c : ElCfg}

/-- the bounded cubic family as an element family of the layers: accepted exactly on the intervals of the box, on every
    valid slice (the program has three outputs, so this is read off the dispatcher) -/
theorem cubic_accepts (hk : c.kind = "cubic") (ht : c.tails = false) :
    ElAccepts (NF.realX e) c (SliceValid e c (cubicCfgOf c))
      (ElemPair.boxD (e (cubicCfgOf c).box.left) (e (cubicCfgOf c).box.right) (e (cubicCfgOf c).box.bottom) (e (cubicCfgOf c).box.top)) := by
  intro d p x hv
  rw [elTransform_cubic _ c hk ht]
  cases d
  · exact ⟨fun ⟨_, h⟩ => fwd_ok_dom h, fun hx => ⟨_, exec_ok hv x hx.1 hx.2⟩⟩
  · exact ⟨fun ⟨_, h⟩ => inv_ok_dom h, fun hx => ⟨_, CubicInverseWhole.exec_ok hv x hx.1 hx.2⟩⟩

/-- … with its results in the interval of the other direction, exactness or not -/
theorem cubic_maps (hk : c.kind = "cubic") (ht : c.tails = false) :
    ElMaps (NF.realX e) c (SliceValid e c (cubicCfgOf c))
      (ElemPair.boxD (e (cubicCfgOf c).box.left) (e (cubicCfgOf c).box.right) (e (cubicCfgOf c).box.bottom) (e (cubicCfgOf c).box.top)) := by
  intro d p x y l al hv h
  rw [elTransform_cubic _ c hk ht] at h
  cases d
  · exact (fwd_ok hv h).2.2.2.2
  · exact (inv_ok_fwd hv h).2.2.1

/-- … and undone exactly, either order, on the slices none of whose bins takes the quadratic fallback (so the bin the
    inverse search selects is exact, whatever the level) -/
theorem cubic_undoes (hk : c.kind = "cubic") (ht : c.tails = false) (hc : CubicInverseWhole.InvConsts e (cubicCfgOf c))
    (d : Bool) : ElUndoes Eq d (NF.realX e) c
      (fun p => SliceValid e c (cubicCfgOf c) p ∧ SliceExact e c (cubicCfgOf c) p) := by
  intro p x y l al hv hf
  rw [elTransform_cubic _ c hk ht] at hf ⊢
  cases d
  · obtain ⟨_, _, _, _, m0, m1⟩ := fwd_ok hv.1 hf
    have hu := CubicInverseWhole.yn_unit hv.1 y m0 m1
    exact ⟨x, _, (cubicSpline_real_invertible hv.1 hc hf (CubicInverseWhole.exact_at hv.1 hv.2 _ hu.1 hu.2)).1, rfl⟩
  · obtain ⟨hy0, hy1⟩ := inv_ok_dom hf
    have hu := CubicInverseWhole.yn_unit hv.1 x hy0 hy1
    exact ⟨x, [], cubicSpline_real_invertible_rev hv.1 hc hf (CubicInverseWhole.exact_at hv.1 hv.2 _ hu.1 hu.2), rfl⟩

/-- … and WITHOUT exactness, forward ∘ inverse: undone up to `quadratic_threshold · (top − bottom)`, the log-abs-det
    negated exactly -/
theorem cubic_undoes_approx (hk : c.kind = "cubic") (ht : c.tails = false)
    (hc : CubicInverseWhole.InvConsts e (cubicCfgOf c)) :
    ElUndoes (fun a b => |a - b| < e (cubicCfgOf c).thr * (e (cubicCfgOf c).box.top - e (cubicCfgOf c).box.bottom)) true
      (NF.realX e) c (SliceValid e c (cubicCfgOf c)) := by
  intro p y x l al hv h
  rw [elTransform_cubic _ c hk ht] at h ⊢
  obtain ⟨y', h', hn⟩ := (cubicSpline_real_rev_approx hv hc h).2.2
  exact ⟨y', [], h', hn⟩

end el

/-! ## The executed coupling layer, bounded cubic family -/

section coupling
variable {e : Float → ℝ} {c : ElCfg}

def CubicParamsValid (e : Float → ℝ) (c : ElCfg) (Ft S : Nat) (params : Array ℝ) (B : Nat) : Prop :=
  ∀ b t s, b < B → t < Ft → s < S →
    SliceValid e c (cubicCfgOf c) (condSlice (NF.realX e) c.mult Ft S params b t s)

def CubicParamsExact (e : Float → ℝ) (c : ElCfg) (Ft S : Nat) (params : Array ℝ) (B : Nat) : Prop :=
  ∀ b t s, b < B → t < Ft → s < S →
    SliceValid e c (cubicCfgOf c) (condSlice (NF.realX e) c.mult Ft S params b t s) ∧
    SliceExact e c (cubicCfgOf c) (condSlice (NF.realX e) c.mult Ft S params b t s)

theorem CubicParamsExact.valid {Ft S B : Nat} {params : Array ℝ} (h : CubicParamsExact e c Ft S params B) :
    CubicParamsValid e c Ft S params B := fun b t s hb ht hs => (h b t s hb ht hs).1

/-- an accepted bounded cubic element configuration: `K ≥ 1` bins, and the constants are accepted for (one, hence every)
    parameter vector with `K` widths and `K` heights; the literals of the root formulas are read exactly -/
structure CubicCfgValid (e : Float → ℝ) (c : ElCfg) : Prop where
  hk : c.kind = "cubic"
  ht : c.tails = false
  hK : 0 < c.K
  hv : CubicValid e (cubicCfgOf c) (List.replicate c.K 0) (List.replicate c.K 0)
  hc : CubicInverseWhole.InvConsts e (cubicCfgOf c)

theorem cubicParamsValid_of_cfg (hcv : CubicCfgValid e c) (Ft S : Nat) (params : Array ℝ) (B : Nat) :
    CubicParamsValid e c Ft S params B := by
  intro b t s _ _ _
  exact sliceValid_of_length hcv.hv _ (by rw [condSlice_length, mult_cubic hcv.hk])

theorem cubic_kind_ne {c : ElCfg} (hk : c.kind = "cubic") : c.kind ≠ "affine" ∧ c.kind ≠ "additive" :=
  spline_kind_ne (.inr (.inr (.inr hk)))

def TransformedInBox (e : Float → ℝ) (mask : List ℝ) (B S : Nat) (x : Array ℝ) (lo hi : ℝ) : Prop :=
  ∀ b t s, b < B → t < (transformIdx (NF.realX e) mask).length → s < S →
    lo ≤ x.getD (flatIdx mask.length S b ((transformIdx (NF.realX e) mask).getD t 0) s) 0 ∧
    x.getD (flatIdx mask.length S b ((transformIdx (NF.realX e) mask).getD t 0) s) 0 ≤ hi

/-- **C02, the other order, under `CubicParamsExact`**: forward ∘ inverse -/
theorem coupling_cubic_roundtrip_rev_real (hk : c.kind = "cubic") (ht : c.tails = false)
    (hc : CubicInverseWhole.InvConsts e (cubicCfgOf c))
    (mask : List ℝ) (B S : Nat) (y params uparams uparams' : Array ℝ)
    (hv : CubicParamsExact e c (transformIdx (NF.realX e) mask).length S params B)
    (herr : (couplingApply (NF.realX e) c mask B S y params true none uparams).err = none)
    (hsz : B * mask.length * S ≤ y.size) :
    let inv := couplingApply (NF.realX e) c mask B S y params true none uparams
    let fwd := couplingApply (NF.realX e) c mask B S inv.out params false none uparams'
    fwd.out = y ∧ fwd.err = none ∧ fwd.condIn = inv.condIn ∧ ∀ b, b < B → fwd.ld[b]? = (inv.ld[b]?).map (fun l => -l) :=
  (cubic_undoes hk ht hc true).coupling_roundtrip_real e (cubic_kind_ne hk) mask B S y params
    uparams uparams' hv herr hsz

end coupling

/-! ## The bounded cubic coupling layer WITHOUT the exactness hypothesis: what survives when the elements invert
only approximately but negate their log-dets exactly (`StructureExec.coupling_roundtrip_real` with the relation `Near`) -/

section approx
variable {e : Float → ℝ} {c : ElCfg}

def Near (e : Float → ℝ) (cc : CCfg) (a b : ℝ) : Prop :=
  a = b ∨ |a - b| < e cc.thr * (e cc.box.top - e cc.box.bottom)

theorem near_of_valid {cc : CCfg} {uw uh : List ℝ} (hv : CubicValid e cc uw uh) (hc : CubicInverseWhole.InvConsts e cc)
    {a b : ℝ} (h : Near e cc a b) : |a - b| < e cc.thr * (e cc.box.top - e cc.box.bottom) := by
  rcases h with h | h
  · rw [h, sub_self, abs_zero]; exact mul_pos hc.hthr (sub_pos.mpr hv.hbt)
  · exact h

/-- **C02 for the executed bounded cubic coupling layer with NO exactness hypothesis (forward ∘ inverse).**  Accepted
    slices, any `y` whose transformed entries lie in `[bottom, top]`: the inverse pass raises nothing and its transformed
    outputs lie in `[left, right]`; the forward pass on them with the same parameters raises nothing, is given the same
    conditioner input, returns EXACTLY the negated row log-dets, and every entry of its output equals the corresponding
    entry of `y` or differs from it by less than `quadratic_threshold · (top − bottom)`. -/
theorem coupling_cubic_rev_approx_real (hk : c.kind = "cubic") (ht : c.tails = false)
    (hc : CubicInverseWhole.InvConsts e (cubicCfgOf c))
    (mask : List ℝ) (B S : Nat) (y params uparams uparams' : Array ℝ)
    (hv : CubicParamsValid e c (transformIdx (NF.realX e) mask).length S params B)
    (hbox : TransformedInBox e mask B S y (e (cubicCfgOf c).box.bottom) (e (cubicCfgOf c).box.top))
    (hsz : B * mask.length * S ≤ y.size) :
    let inv := couplingApply (NF.realX e) c mask B S y params true none uparams
    let fwd := couplingApply (NF.realX e) c mask B S inv.out params false none uparams'
    inv.err = none ∧ TransformedInBox e mask B S inv.out (e (cubicCfgOf c).box.left) (e (cubicCfgOf c).box.right)
      ∧ fwd.err = none ∧ (∀ j, Near e (cubicCfgOf c) (fwd.out.getD j 0) (y.getD j 0)) ∧ fwd.condIn = inv.condIn
      ∧ ∀ b, b < B → fwd.ld[b]? = (inv.ld[b]?).map (fun l => -l) := by
  intro inv fwd
  obtain ⟨h1, h2⟩ := (cubic_accepts hk ht).coupling_pass_mem (cubic_kind_ne hk) (cubic_maps hk ht)
    mask B S y params uparams true hv hv hsz (by rw [realX_zero]; exact hbox)
  rw [realX_zero] at h2
  obtain ⟨h3, h4, h5, h6⟩ := coupling_roundtrip_real e c mask B S y params uparams uparams'
    (Near e (cubicCfgOf c)) (fun a => Or.inl rfl) true
    (((cubic_undoes_approx hk ht hc).mono fun _ _ => Or.inr).elRel (cubic_kind_ne hk) hv) h1 hsz
  exact ⟨h1, h2, h3, h4, h5, h6⟩

end approx

/-! ## The executed autoregressive transform, bounded cubic family -/

section ar
variable {e : Float → ℝ} {c : ElCfg}

def CubicParamsValidAR (e : Float → ℝ) (c : ElCfg) (F : Nat) (params : Array ℝ) (B : Nat) : Prop :=
  ∀ b i, b < B → i < F → SliceValid e c (cubicCfgOf c) (arSlice (NF.realX e) c F params b i)

def CubicParamsExactAR (e : Float → ℝ) (c : ElCfg) (F : Nat) (params : Array ℝ) (B : Nat) : Prop :=
  ∀ b i, b < B → i < F →
    SliceValid e c (cubicCfgOf c) (arSlice (NF.realX e) c F params b i) ∧
    SliceExact e c (cubicCfgOf c) (arSlice (NF.realX e) c F params b i)

theorem CubicParamsExactAR.valid {F B : Nat} {params : Array ℝ} (h : CubicParamsExactAR e c F params B) :
    CubicParamsValidAR e c F params B := fun b i hb hi => (h b i hb hi).1

def CubicNetValid (e : Float → ℝ) (c : ElCfg) (B F : Nat) (net : Array ℝ → Array ℝ) : Prop :=
  ∀ z : Array ℝ, z.size = B * F → CubicParamsValidAR e c F (net z) B

/-- true of the library: validity depends on the configuration and the length `2K + 2` of the vectors only -/
theorem cubicNetValid_of_cfg (hcv : CubicCfgValid e c) (B F : Nat) (net : Array ℝ → Array ℝ) :
    CubicNetValid e c B F net := by
  intro z _ b i _ _
  exact sliceValid_of_length hcv.hv _ (by rw [arSlice_length, pw_cubic hcv.hk])

section made
open NF.Made

/-- **the masked autoregressive bounded cubic transform with the MADE conditioner.**  Every architecture accepted by
    `build` with multiplier `2K + 2`, every weight assignment, every `B`: for every input in `[left, right]` at whose
    parameters all bins are exact — forward raises nothing, no pass of the inverse loop raises, the loop returns the
    input exactly and the negated log-det; and in the other order for every `y` in `[bottom, top]` with exact bins at the
    loop's result. -/
theorem made_cubic_roundtrip_real (hcv : CubicCfgValid e c) (a : Arch) (n : Net)
    (hbuild : build a = .ok n) (hmult : a.mult = 2 * c.K + 2) (W : ℕ → ℕ → ℕ → ℝ) (bias : ℕ → ℕ → ℝ) (B : Nat)
    (ctxv : ℕ → ℕ → Fin B → ℝ) (g : ℕ → Slot → ℕ → (Fin B → ℝ) → Fin B → ℝ) :
    let net := madeNet n W bias B ctxv g
    (∀ x : Array ℝ, x.size = B * a.F → InBox (e (cubicCfgOf c).box.left) (e (cubicCfgOf c).box.right) B a.F x →
      CubicParamsExactAR e c a.F (net x) B →
      let fwd := arForward (NF.realX e) c B a.F net x
      let inv := arInverse (NF.realX e) c B a.F net fwd.out
      fwd.err = none ∧ inv.err = none ∧ inv.out = x
        ∧ (∀ k, AgreeBelow B a.F k (arIter (NF.realX e) c B a.F net fwd.out k).out x)
        ∧ (∀ b, b < B → inv.ld[b]? = (fwd.ld[b]?).map (fun l => -l)))
    ∧ (∀ y : Array ℝ, y.size = B * a.F → InBox (e (cubicCfgOf c).box.bottom) (e (cubicCfgOf c).box.top) B a.F y →
      CubicParamsExactAR e c a.F (net (arInverse (NF.realX e) c B a.F net y).out) B →
      let inv := arInverse (NF.realX e) c B a.F net y
      let fwd := arForward (NF.realX e) c B a.F net inv.out
      inv.err = none ∧ fwd.err = none ∧ fwd.out = y
        ∧ (∀ b, b < B → fwd.ld[b]? = (inv.ld[b]?).map (fun l => -l))) :=
  made_roundtrip_real_of e (cubic_undoes hcv.hk hcv.ht hcv.hc) (cubic_accepts hcv.hk hcv.ht) a n hbuild
    (hmult.trans (pw_cubic hcv.hk).symm) W bias B ctxv g (cubicNetValid_of_cfg hcv B a.F _)

end made
end ar

section arbox
variable {e : Float → ℝ} {c : ElCfg}

/-- **C17**: the result of the inverse loop on inputs in `[bottom, top]` lies in `[left, right]` (no exactness hypothesis) -/
theorem ar_cubic_inverse_out_box (hk : c.kind = "cubic") (ht : c.tails = false) (B F : Nat)
    (net : Array ℝ → Array ℝ) (y : Array ℝ) (hy : y.size = B * F) (hv : CubicNetValid e c B F net)
    (hbox : InBox (e (cubicCfgOf c).box.bottom) (e (cubicCfgOf c).box.top) B F y) :
    InBox (e (cubicCfgOf c).box.left) (e (cubicCfgOf c).box.right) B F (arInverse (NF.realX e) c B F net y).out := by
  rcases Nat.eq_zero_or_pos F with rfl | hF
  · intro j hj; exact absurd hj (by rw [Nat.mul_zero]; exact Nat.not_lt_zero _)
  obtain ⟨k, rfl⟩ : ∃ k, F = k + 1 := ⟨F - 1, by omega⟩
  rw [arInverse_eq_iter, arIter_succ, arPass_out]
  have hv' := hv _ (arIter_out_size (NF.realX e) c B (k + 1) net y hy k)
  have h := (ar_pass_mem (cubic_accepts hk ht) (cubic_maps hk ht) hv' hv' (x := y) (d := true)
    (by rw [realX_zero]; exact hbox)).2
  rw [realX_zero] at h
  exact h

end arbox

/-! ## The bounded cubic autoregressive transform WITHOUT the exactness hypothesis
(`ARWhole.ar_forward_inverse_rel_real`) -/


section arapprox
variable {e : Float → ℝ} {c : ElCfg}

/-- **C02 for the executed autoregressive bounded cubic transform with NO exactness hypothesis (forward ∘ inverse).**
    Any autoregressive conditioner whose outputs are accepted configurations, any `y` in `[bottom, top]`: no pass of the
    `F`-pass loop raises; the forward pass on the loop's result raises nothing, returns EXACTLY the negated row log-dets
    (for `F ≥ 1`), and every entry of its output is within `quadratic_threshold · (top − bottom)` of that of `y`. -/
theorem ar_cubic_rev_approx_real (hk : c.kind = "cubic") (ht : c.tails = false)
    (hc : CubicInverseWhole.InvConsts e (cubicCfgOf c)) (B F : Nat)
    (net : Array ℝ → Array ℝ) (y : Array ℝ) (hnet : AutoregNet B F (pw c) net) (hv : CubicNetValid e c B F net)
    (hy : y.size = B * F) (hbox : InBox (e (cubicCfgOf c).box.bottom) (e (cubicCfgOf c).box.top) B F y) :
    let inv := arInverse (NF.realX e) c B F net y
    let fwd := arForward (NF.realX e) c B F net inv.out
    inv.err = none ∧ fwd.err = none
      ∧ (∀ j, j < B * F → |fwd.out.getD j 0 - y.getD j 0|
            < e (cubicCfgOf c).thr * (e (cubicCfgOf c).box.top - e (cubicCfgOf c).box.bottom))
      ∧ (0 < F → ∀ b, b < B → fwd.ld[b]? = (inv.ld[b]?).map (fun l => -l)) := by
  intro inv fwd
  have h1 := (cubic_accepts hk ht).ar_inverse_err_none hv hy (by rw [realX_zero]; exact hbox)
  have hsz := arInverse_out_size (NF.realX e) c B F net y hy
  exact ⟨h1, ar_forward_inverse_rel_real e c B F net y _ hnet hy h1 ((cubic_undoes_approx hk ht hc).arElRevRel (hv _ hsz))⟩

end arapprox

/-! ## The inverse at the bottom of the box -/

section junction
open CubicInverseWhole
variable {e : Float → ℝ} {c : CCfg} {uw uh : List ℝ} {udl udr : ℝ}

/-- **`inverse(bottom) = left` with NO exactness hypothesis**: at the bottom of the box the level is the first y-knot, and
    there the stable quadratic root of the fallback branch is `0` exactly (its numerator `2·(d − t)` vanishes) -/
theorem inv_bottom (hv : CubicValid e c uw uh) (hc : InvConsts e c) :
    inv e c uw uh udl udr (e c.box.bottom) = e c.box.left := by
  have hK := K_pos hv
  have hyn : yn e c (e c.box.bottom) = 0 := by rw [yn_eq hv, sub_self, zero_div]
  have hidx : idxH e c uh 0 = 0 :=
    idxH_of_mem hv 0 hK 0 (by rw [chs_zero hv]) (by have := chs_strict hv 0 hK; rwa [chs_zero hv] at this)
  by_cases hfb : fallback (NF.realX e) c (aK e c uw uh udl udr 0) (cws e c uw 0) (cws e c uw (0+1)) (CubicWhole.hv e c uh 0) = true
  · rw [inv_eq_root hv _ le_rfl hv.hbt.le, hyn]
    have hr : rootN e c uw uh udl udr 0 = 0 := by
      unfold rootN preRoot
      rw [hidx]
      unfold out1
      rw [if_pos hfb, quadRoot_eq hc, chs_zero hv, sub_self]
      have hq : CubicRoots.qroot (bK e c uw uh udl udr 0) (dv e c uw uh udl udr 0) 0 = 0 := by
        unfold CubicRoots.qroot; rw [mul_zero, zero_div]
      rw [hq]
      have h01 := (cws_strict hv 0 hK).le
      show inBin (NF.realX e) (cws e c uw 0) (cws e c uw (0 + 1)) (0 + cws e c uw 0) = 0
      rw [zero_add (cws e c uw 0)]
      exact (inBin_id (e := e) _ _ _ le_rfl h01).trans (cws_zero hv)
    rw [hr]; ring
  · have hlr := hv.hlr.le
    have hex : ExactBin e c uw uh udl udr (idxH e c uh (yn e c (val e c uw uh udl udr (e c.box.left)))) := by
      rw [(CubicWhole.searched hv).endpoints.1, hyn, hidx]
      exact Or.inl (by simpa using hfb)
    have := inv_val hv hc (e c.box.left) le_rfl hlr hex
    rw [(CubicWhole.searched hv).endpoints.1] at this
    exact this

end junction

/-! ## The executed cubic spline with linear tails, INVERSE direction, on the whole real line

`TailsWhole.cubicTails` is the text of the tails branch of `elTransform` for kind `"cubic"` (`elTransform_cubic_tails`);
`TailsWhole.cubicValT` / `cubicLdT` are its forward outputs, `cubic_tails_whole` the forward C09 statement. -/

section tailsInv
open TailsWhole
variable (e : Float → ℝ) (tb minW minH eps thr : Float) (uw uh : List ℝ) (udl udr : ℝ)

/-- the three outputs of the cubic tails program, inverse direction (0 / [] on the error branch, never taken) -/
noncomputable def cubicInvT (y : ℝ) : ℝ :=
  match cubicTails (NF.realX e) tb minW minH eps thr uw uh udl udr true y with
  | .ok r => r.1
  | .error _ => 0
noncomputable def cubicInvLdT (y : ℝ) : ℝ :=
  match cubicTails (NF.realX e) tb minW minH eps thr uw uh udl udr true y with
  | .ok r => r.2.1
  | .error _ => 0
noncomputable def cubicInvAltsT (y : ℝ) : List ℝ :=
  match cubicTails (NF.realX e) tb minW minH eps thr uw uh udl udr true y with
  | .ok r => r.2.2
  | .error _ => []

/- `CC`: the configuration of the tails wrapper (box `[-B, B]²`); `IV`: the value the inverse tails program returns -/
local notation "CC" => ccfgT tb minW minH eps thr
local notation "IV" => cubicInvT e tb minW minH eps thr uw uh udl udr

theorem cubicInvT_eq_ext : IV = ext (e tb) (CubicInverseWhole.inv e CC uw uh udl udr) := by
  funext x
  unfold cubicInvT ext CubicInverseWhole.inv
  rw [cubicTails_unfold]
  by_cases h : -e tb ≤ x ∧ x ≤ e tb
  · rw [if_pos h, if_pos h]; rfl
  · rw [if_neg h, if_neg h]

theorem cubicInvLdT_eq (y : ℝ) :
    cubicInvLdT e tb minW minH eps thr uw uh udl udr y = if -e tb ≤ y ∧ y ≤ e tb then CubicInverseWhole.invLd e CC uw uh udl udr y else 0 := by
  unfold cubicInvLdT CubicInverseWhole.invLd
  rw [cubicTails_unfold]
  by_cases h : -e tb ≤ y ∧ y ≤ e tb
  · rw [if_pos h, if_pos h]; rfl
  · rw [if_neg h, if_neg h]

variable {e tb minW minH eps thr uw uh udl udr}

/-- **C17 on the whole line, inverse direction**: the program returns a value at EVERY real input -/
theorem cubic_tails_inv_total (hv : CubicValid e CC uw uh) (hneg : e (-tb) = - e tb) (y : ℝ) :
    cubicTails (NF.realX e) tb minW minH eps thr uw uh udl udr true y = .ok (IV y, cubicInvLdT e tb minW minH eps thr uw uh udl udr y, cubicInvAltsT e tb minW minH eps thr uw uh udl udr y) := by
  by_cases h : -e tb ≤ y ∧ y ≤ e tb
  · have hy0 : e (-tb) ≤ y := by rw [hneg]; exact h.1
    have := CubicInverseWhole.exec_eq_core (udl := udl) (udr := udr) hv y hy0 h.2
    unfold cubicInvT cubicInvLdT cubicInvAltsT; rw [cubicTails_unfold, if_pos h, this]
  · unfold cubicInvT cubicInvLdT cubicInvAltsT; rw [cubicTails_unfold, if_neg h]

theorem cubic_inv_outside (y : ℝ) (h : y < -e tb ∨ e tb < y) : IV y = y ∧ cubicInvLdT e tb minW minH eps thr uw uh udl udr y = 0 ∧ cubicInvAltsT e tb minW minH eps thr uw uh udl udr y = [] := by
  have hn : ¬ (-e tb ≤ y ∧ y ≤ e tb) := by rintro ⟨h0, h1⟩; rcases h with h | h <;> linarith
  refine ⟨?_, ?_, ?_⟩
  · rw [cubicInvT_eq_ext]; exact ext_outside y h
  · rw [cubicInvLdT_eq, if_neg hn]
  · unfold cubicInvAltsT; rw [cubicTails_unfold, if_neg hn]

theorem cubic_inv_inside (y : ℝ) (h0 : -e tb ≤ y) (h1 : y ≤ e tb) :
    IV y = CubicInverseWhole.inv e CC uw uh udl udr y ∧ cubicInvLdT e tb minW minH eps thr uw uh udl udr y = CubicInverseWhole.invLd e CC uw uh udl udr y := by
  constructor
  · rw [cubicInvT_eq_ext]; exact ext_inside y h0 h1
  · rw [cubicInvLdT_eq, if_pos ⟨h0, h1⟩]

/-- inputs in the box have outputs in the box — no exactness hypothesis (the two clamps) -/
theorem cubic_inv_mem_box (hv : CubicValid e CC uw uh) (hneg : e (-tb) = - e tb) (y : ℝ) (h0 : -e tb ≤ y) (h1 : y ≤ e tb) :
    -e tb ≤ IV y ∧ IV y ≤ e tb := by
  have hy0 : e (-tb) ≤ y := by rw [hneg]; exact h0
  have hm : e (-tb) ≤ CubicInverseWhole.inv e CC uw uh udl udr y ∧ CubicInverseWhole.inv e CC uw uh udl udr y ≤ e tb :=
    CubicInverseWhole.inv_mem (udl := udl) (udr := udr) hv y hy0 h1
  rw [hneg] at hm
  rw [(cubic_inv_inside y h0 h1).1]
  exact hm

/-- **C02 on the whole line, the log-abs-det law, UNCONDITIONALLY** (no exactness hypothesis, no hypothesis on the
    constants of the root formulas): at every real `y` the inverse program's log-abs-det is minus the forward program's
    log-abs-det at the inverse program's output -/
theorem cubic_tails_ld_law (hv : CubicValid e CC uw uh) (hneg : e (-tb) = - e tb) (y : ℝ) : cubicInvLdT e tb minW minH eps thr uw uh udl udr y = - cubicLdT e tb minW minH eps thr uw uh udl udr (IV y) := by
  by_cases h : -e tb ≤ y ∧ y ≤ e tb
  · obtain ⟨m0, m1⟩ := cubic_inv_mem_box (udl := udl) (udr := udr) hv hneg y h.1 h.2
    have hy0 : e (-tb) ≤ y := by rw [hneg]; exact h.1
    rw [(cubic_inside (IV y) m0 m1).2, (cubic_inv_inside y h.1 h.2).2, (cubic_inv_inside y h.1 h.2).1]
    exact CubicInverseWhole.invLd_eq_neg_ld_always (udl := udl) (udr := udr) hv y hy0 h.2
  · have ho := not_box h
    obtain ⟨h1, h2, _⟩ := cubic_inv_outside (uw := uw) (uh := uh) (udl := udl) (udr := udr) (minW := minW) (minH := minH)
      (eps := eps) (thr := thr) y ho
    rw [h1, h2, (cubic_outside y ho).2, neg_zero]

/-- **C02 on the whole line WITHOUT exactness**: `|forward(inverse y) − y| < quadratic_threshold · 2B` at every real `y`
    (and `= 0` outside the box) -/
theorem cubic_tails_val_inv_approx (hv : CubicValid e CC uw uh) (hc : CubicInverseWhole.InvConsts e CC)
    (hneg : e (-tb) = - e tb) (y : ℝ) : |cubicValT e tb minW minH eps thr uw uh udl udr (IV y) - y| < e thr * (e tb - -e tb) := by
  by_cases h : -e tb ≤ y ∧ y ≤ e tb
  · obtain ⟨m0, m1⟩ := cubic_inv_mem_box (udl := udl) (udr := udr) hv hneg y h.1 h.2
    have hy0 : e (-tb) ≤ y := by rw [hneg]; exact h.1
    rw [(cubic_inside (IV y) m0 m1).1, (cubic_inv_inside y h.1 h.2).1]
    have := (CubicInverseWhole.val_inv_approx (udl := udl) (udr := udr) hv hc y hy0 h.2).2
    have hb : e (CC).box.bottom = - e tb := hneg
    rw [hb] at this
    exact this
  · have ho := not_box h
    obtain ⟨h1, _, _⟩ := cubic_inv_outside (uw := uw) (uh := uh) (udl := udl) (udr := udr) (minW := minW) (minH := minH)
      (eps := eps) (thr := thr) y ho
    rw [h1, (cubic_outside y ho).1, sub_self, abs_zero]
    exact mul_pos hc.hthr (sub_pos.2 (neg_lt_self (tb_pos hneg hv.hlr)))

section junctionT
open TailsWhole
variable {e : Float → ℝ} {tb minW minH eps thr : Float} {uw uh : List ℝ} {udl udr : ℝ}

/-- **no jump at the LEFT junction, no exactness hypothesis**: `inverse(−B) = −B`.  (At the right junction this needs the
    last bin to be exact — `cubic_tails_inv_junctions`: in a last bin that takes the fallback with `a < 0` the clamped
    quadratic root at the top level lies strictly inside the bin.) -/
theorem cubic_tails_inv_left_junction (hv : CubicValid e (ccfgT tb minW minH eps thr) uw uh)
    (hc : CubicInverseWhole.InvConsts e (ccfgT tb minW minH eps thr)) (hneg : e (-tb) = - e tb) :
    cubicInvT e tb minW minH eps thr uw uh udl udr (-e tb) = -e tb := by
  have hB := tb_pos hneg hv.hlr
  rw [(cubic_inv_inside (-e tb) le_rfl (neg_lt_self hB).le).1]
  have := inv_bottom (udl := udl) (udr := udr) hv hc
  rwa [show e (ccfgT tb minW minH eps thr).box.bottom = - e tb from hneg,
    show e (ccfgT tb minW minH eps thr).box.left = - e tb from hneg] at this

end junctionT

/-- continuity at a junction needs only the exactness of the END bin: `inverse(−B) = −B` if the bin `−B` falls into
    is exact, `inverse(B) = B` if the bin `B` falls into is exact -/
theorem cubic_tails_inv_junctions (hv : CubicValid e CC uw uh) (hc : CubicInverseWhole.InvConsts e CC)
    (hneg : e (-tb) = - e tb) :
    (CubicInverseWhole.ExactBin e CC uw uh udl udr (binOf e CC uh (e (-tb))) → IV (-e tb) = -e tb) ∧
    (CubicInverseWhole.ExactBin e CC uw uh udl udr (binOf e CC uh (e tb)) → IV (e tb) = e tb) := by
  have hB := tb_pos hneg hv.hlr
  obtain ⟨hl, hr⟩ := (CubicWhole.searched (udl := udl) (udr := udr) hv).endpoints
  have hlr : e (CC).box.left ≤ e (CC).box.right := hv.hlr.le
  constructor
  · exact fun _ => cubic_tails_inv_left_junction hv hc hneg
  · intro hex
    rw [(cubic_inv_inside (e tb) (neg_lt_self hB).le le_rfl).1]
    have := CubicInverseWhole.inv_val hv hc (e (CC).box.right) hlr le_rfl (by rw [hr]; exact hex)
    rw [hr] at this
    exact this

theorem cubic_inv_boxBij (hv : CubicValid e CC uw uh) (hc : CubicInverseWhole.InvConsts e CC)
    (hall : CubicInverseWhole.AllExact e CC uw uh udl udr) (hneg : e (-tb) = - e tb) :
    BoxBij (e tb) (CubicInverseWhole.inv e CC uw uh udl udr) := by
  have Q := CubicInverseWhole.searchedInv hv hc hall
  have P := CubicWhole.searched (udl := udl) (udr := udr) hv
  have hm : StrictMonoOn (CubicInverseWhole.inv e CC uw uh udl udr) (Set.Icc (e (-tb)) (e tb)) :=
    Q.inv_strictMonoOn P
  have he : CubicInverseWhole.inv e CC uw uh udl udr (e (-tb)) = e (-tb)
      ∧ CubicInverseWhole.inv e CC uw uh udl udr (e tb) = e tb := Q.inv_endpoints P
  have hs : Set.SurjOn (CubicInverseWhole.inv e CC uw uh udl udr) (Set.Icc (e (-tb)) (e tb)) (Set.Icc (e (-tb)) (e tb)) :=
    (Q.inv_bijOn P).surjOn
  rw [hneg] at hm he hs
  exact ⟨tb_pos hneg hv.hlr, hm, he.1, he.2, hs⟩

/-- **C09 on the whole line, inverse direction, under `AllExact`**: no jump at the junctions, strictly increasing,
    continuous, a bijection of ℝ mapping the box onto itself -/
theorem cubic_tails_inv_whole (hv : CubicValid e CC uw uh) (hc : CubicInverseWhole.InvConsts e CC)
    (hall : CubicInverseWhole.AllExact e CC uw uh udl udr) (hneg : e (-tb) = - e tb) :
    IV (-e tb) = -e tb ∧ IV (e tb) = e tb ∧ StrictMono IV ∧ Continuous IV ∧ Function.Bijective IV ∧
    Set.BijOn IV (Set.Icc (-e tb) (e tb)) (Set.Icc (-e tb) (e tb)) := by
  have hb := cubic_inv_boxBij hv hc hall hneg
  rw [cubicInvT_eq_ext]
  exact ⟨ext_left hb, ext_right hb, ext_strictMono hb, ext_continuous hb, ext_bijective hb, ext_bijOn_box hb⟩

/-- **C02 on the whole line under `AllExact`: both round trips at EVERY real input** -/
theorem cubic_tails_round_trips (hv : CubicValid e CC uw uh) (hc : CubicInverseWhole.InvConsts e CC)
    (hall : CubicInverseWhole.AllExact e CC uw uh udl udr) (hneg : e (-tb) = - e tb) :
    (∀ x, IV (cubicValT e tb minW minH eps thr uw uh udl udr x) = x) ∧ (∀ y, cubicValT e tb minW minH eps thr uw uh udl udr (IV y) = y) := by
  have hb := cubic_inv_boxBij hv hc hall hneg
  have hf := cubic_boxBij (udl := udl) (udr := udr) hv hneg
  rw [cubicInvT_eq_ext, cubicValT_eq_ext]
  constructor
  · intro x
    refine ext_ext_cancel hf (fun x h0 h1 => ?_) x
    exact (CubicInverseWhole.searchedInv hv hc hall).inv_val (CubicWhole.searched hv) x (by show e (-tb) ≤ x; rw [hneg]; exact h0) h1
  · intro y
    refine ext_ext_cancel hb (fun y h0 h1 => ?_) y
    exact (CubicInverseWhole.searchedInv hv hc hall).val_inv (CubicWhole.searched hv) y (by show e (-tb) ≤ y; rw [hneg]; exact h0) h1

end tailsInv

/-! ## The cubic family with linear tails as the dispatcher runs it: one element, coupling layer, autoregressive -/

section tailsLayers
open TailsWhole
variable {e : Float → ℝ} {c : ElCfg}

/-- the spline configuration `elTransform` builds for the cubic family with linear tails: the box `[-B, B]²` -/
def cubicCfgOfT (c : ElCfg) : CCfg :=
  ccfgT (c.ds.getD 0 0.0) (c.ds.getD 1 0.0) (c.ds.getD 2 0.0) (c.ds.getD 3 0.0) (c.ds.getD 4 0.0)

/-- an accepted cubic-with-tails element configuration: `K ≥ 1` bins, the constants accepted for (one, hence every)
    parameter vector with `K` widths and `K` heights, the literals of the root formulas read exactly, and the `Float`
    negation of the tail bound read as the real negation -/
structure CubicTailsCfgValid (e : Float → ℝ) (c : ElCfg) : Prop where
  hk : c.kind = "cubic"
  ht : c.tails = true
  hK : 0 < c.K
  hv : CubicValid e (cubicCfgOfT c) (List.replicate c.K 0) (List.replicate c.K 0)
  hc : CubicInverseWhole.InvConsts e (cubicCfgOfT c)
  hneg : e (-(c.ds.getD 0 0.0)) = - e (c.ds.getD 0 0.0)

/-- the forward / inverse outputs of the tails element with parameter vector `p`, as functions on ℝ: `elV`, `elL` the forward
    value and log-abs-det, `elIV`, `elIL`, `elIA` the inverse value, log-abs-det and alternatives -/
noncomputable def elV (e : Float → ℝ) (c : ElCfg) (p : List ℝ) : ℝ → ℝ :=
  cubicValT e (c.ds.getD 0 0.0) (c.ds.getD 1 0.0) (c.ds.getD 2 0.0) (c.ds.getD 3 0.0) (c.ds.getD 4 0.0)
    (rqW (NF.realX e) c p) (rqH (NF.realX e) c p) (cubicL (NF.realX e) c p) (cubicR (NF.realX e) c p)
noncomputable def elL (e : Float → ℝ) (c : ElCfg) (p : List ℝ) : ℝ → ℝ :=
  cubicLdT e (c.ds.getD 0 0.0) (c.ds.getD 1 0.0) (c.ds.getD 2 0.0) (c.ds.getD 3 0.0) (c.ds.getD 4 0.0)
    (rqW (NF.realX e) c p) (rqH (NF.realX e) c p) (cubicL (NF.realX e) c p) (cubicR (NF.realX e) c p)
noncomputable def elIV (e : Float → ℝ) (c : ElCfg) (p : List ℝ) : ℝ → ℝ :=
  cubicInvT e (c.ds.getD 0 0.0) (c.ds.getD 1 0.0) (c.ds.getD 2 0.0) (c.ds.getD 3 0.0) (c.ds.getD 4 0.0)
    (rqW (NF.realX e) c p) (rqH (NF.realX e) c p) (cubicL (NF.realX e) c p) (cubicR (NF.realX e) c p)
noncomputable def elIL (e : Float → ℝ) (c : ElCfg) (p : List ℝ) : ℝ → ℝ :=
  cubicInvLdT e (c.ds.getD 0 0.0) (c.ds.getD 1 0.0) (c.ds.getD 2 0.0) (c.ds.getD 3 0.0) (c.ds.getD 4 0.0)
    (rqW (NF.realX e) c p) (rqH (NF.realX e) c p) (cubicL (NF.realX e) c p) (cubicR (NF.realX e) c p)
noncomputable def elIA (e : Float → ℝ) (c : ElCfg) (p : List ℝ) : ℝ → List ℝ :=
  cubicInvAltsT e (c.ds.getD 0 0.0) (c.ds.getD 1 0.0) (c.ds.getD 2 0.0) (c.ds.getD 3 0.0) (c.ds.getD 4 0.0)
    (rqW (NF.realX e) c p) (rqH (NF.realX e) c p) (cubicL (NF.realX e) c p) (cubicR (NF.realX e) c p)

/-- **C17 (element, tails)**: on an accepted slice the element returns a value at EVERY real input, both directions -/
theorem cubic_tails_el_total (hk : c.kind = "cubic") (ht : c.tails = true) (p : List ℝ)
    (hv : SliceValid e c (cubicCfgOfT c) p) (hneg : e (-(c.ds.getD 0 0.0)) = - e (c.ds.getD 0 0.0)) (x : ℝ) :
    elTransform (NF.realX e) c false p x = .ok (elV e c p x, elL e c p x, []) ∧
    elTransform (NF.realX e) c true p x = .ok (elIV e c p x, elIL e c p x, elIA e c p x) := by
  rw [elTransform_cubic_tails _ c hk ht, elTransform_cubic_tails _ c hk ht]
  exact ⟨cubic_tails_total hv hneg x, cubic_tails_inv_total hv hneg x⟩

theorem tails_inv_ok_fwd (hk : c.kind = "cubic") (ht : c.tails = true) (p : List ℝ)
    (hv : SliceValid e c (cubicCfgOfT c) p) (hneg : e (-(c.ds.getD 0 0.0)) = - e (c.ds.getD 0 0.0)) {x y l : ℝ}
    {al : List ℝ} (h : elTransform (NF.realX e) c true p y = .ok (x, l, al)) :
    x = elIV e c p y ∧ elTransform (NF.realX e) c false p x = .ok (elV e c p x, -l, []) := by
  rw [(cubic_tails_el_total hk ht p hv hneg y).2] at h
  simp only [Except.ok.injEq, Prod.mk.injEq] at h
  obtain ⟨rfl, rfl, _⟩ := h
  refine ⟨rfl, ?_⟩
  rw [(cubic_tails_el_total hk ht p hv hneg _).1,
    show elIL e c p y = - elL e c p (elIV e c p y) from cubic_tails_ld_law hv hneg y, neg_neg]

theorem sliceValidT_of_cfg (hcv : CubicTailsCfgValid e c) (p : List ℝ) (hlen : p.length = 2 * c.K + 2) :
    SliceValid e c (cubicCfgOfT c) p := sliceValid_of_length hcv.hv p hlen

theorem cubic_tails_accepts (hk : c.kind = "cubic") (ht : c.tails = true)
    (hneg : e (-(c.ds.getD 0 0.0)) = - e (c.ds.getD 0 0.0)) :
    ElAccepts (NF.realX e) c (SliceValid e c (cubicCfgOfT c)) (fun _ _ => True) := by
  intro d p x hv
  refine ⟨fun _ => trivial, fun _ => ?_⟩
  cases d
  · exact ⟨_, (cubic_tails_el_total hk ht p hv hneg x).1⟩
  · exact ⟨_, (cubic_tails_el_total hk ht p hv hneg x).2⟩

theorem cubic_tails_undoes (hk : c.kind = "cubic") (ht : c.tails = true)
    (hc : CubicInverseWhole.InvConsts e (cubicCfgOfT c)) (hneg : e (-(c.ds.getD 0 0.0)) = - e (c.ds.getD 0 0.0))
    (d : Bool) : ElUndoes Eq d (NF.realX e) c
      (fun p => SliceValid e c (cubicCfgOfT c) p ∧ SliceExact e c (cubicCfgOfT c) p) := by
  intro p x y l al hv hf
  obtain ⟨hr1, hr2⟩ := cubic_tails_round_trips hv.1 hc hv.2 hneg
  cases d
  · rw [(cubic_tails_el_total hk ht p hv.1 hneg x).1] at hf
    simp only [Except.ok.injEq, Prod.mk.injEq] at hf
    obtain ⟨rfl, rfl, _⟩ := hf
    have h : elTransform (NF.realX e) c true p (elV e c p x) = .ok (x, - elL e c p x, elIA e c p (elV e c p x)) := by
      rw [(cubic_tails_el_total hk ht p hv.1 hneg _).2,
        show elIL e c p (elV e c p x) = - elL e c p (elIV e c p (elV e c p x)) from cubic_tails_ld_law hv.1 hneg _,
        show elIV e c p (elV e c p x) = x from hr1 x]
    exact ⟨x, _, h, rfl⟩
  · obtain ⟨rfl, h⟩ := tails_inv_ok_fwd hk ht p hv.1 hneg hf
    rw [show elV e c p (elIV e c p x) = x from hr2 x] at h
    exact ⟨x, [], h, rfl⟩

/-- WITHOUT exactness, forward ∘ inverse, at every real input: undone up to `quadratic_threshold · 2B`, the
    log-abs-det negated exactly -/
theorem cubic_tails_undoes_approx (hk : c.kind = "cubic") (ht : c.tails = true)
    (hc : CubicInverseWhole.InvConsts e (cubicCfgOfT c)) (hneg : e (-(c.ds.getD 0 0.0)) = - e (c.ds.getD 0 0.0)) :
    ElUndoes (fun a b => |a - b| < e (c.ds.getD 4 0.0) * (e (c.ds.getD 0 0.0) - -e (c.ds.getD 0 0.0))) true
      (NF.realX e) c (SliceValid e c (cubicCfgOfT c)) := by
  intro p y x l al hv h
  obtain ⟨rfl, hf⟩ := tails_inv_ok_fwd hk ht p hv hneg h
  exact ⟨_, [], hf, cubic_tails_val_inv_approx hv hc hneg y⟩

/-! ### coupling layer -/

theorem condSliceValidT (hcv : CubicTailsCfgValid e c) (Ft S : Nat) (params : Array ℝ) (b t s : Nat) :
    SliceValid e c (cubicCfgOfT c) (condSlice (NF.realX e) c.mult Ft S params b t s) :=
  sliceValidT_of_cfg hcv _ (by rw [condSlice_length, mult_cubic hcv.hk])

def CubicTailsParamsExact (e : Float → ℝ) (c : ElCfg) (Ft S : Nat) (params : Array ℝ) (B : Nat) : Prop :=
  ∀ b t s, b < B → t < Ft → s < S → SliceExact e c (cubicCfgOfT c) (condSlice (NF.realX e) c.mult Ft S params b t s)

/-- **C17**: the cubic coupling layer with linear tails never raises, in either direction, whatever the input and the
    parameters -/
theorem coupling_cubic_tails_err_none (hcv : CubicTailsCfgValid e c) (mask : List ℝ) (B S : Nat)
    (x params uparams : Array ℝ) (inverse : Bool) :
    (couplingApply (NF.realX e) c mask B S x params inverse none uparams).err = none :=
  ((cubic_tails_accepts hcv.hk hcv.ht hcv.hneg).coupling_err_none_iff (cubic_kind_ne hcv.hk)
    mask B S x params uparams inverse (fun b t s _ _ _ => condSliceValidT hcv _ S params b t s)).2
    (fun _ _ _ _ _ _ => trivial)

/-- **C02 (tails) with NO exactness hypothesis (forward ∘ inverse)**: ANY parameters, ANY real array: neither pass
    raises, the row log-dets are negated EXACTLY, and every entry of the result is within
    `quadratic_threshold · 2B` of the input -/
theorem coupling_cubic_tails_rev_approx_real (hcv : CubicTailsCfgValid e c)
    (mask : List ℝ) (B S : Nat) (y params uparams uparams' : Array ℝ) (hsz : B * mask.length * S ≤ y.size) :
    let inv := couplingApply (NF.realX e) c mask B S y params true none uparams
    let fwd := couplingApply (NF.realX e) c mask B S inv.out params false none uparams'
    inv.err = none ∧ fwd.err = none
      ∧ (∀ j, |fwd.out.getD j 0 - y.getD j 0| < e (c.ds.getD 4 0.0) * (e (c.ds.getD 0 0.0) - -e (c.ds.getD 0 0.0)))
      ∧ fwd.condIn = inv.condIn ∧ ∀ b, b < B → fwd.ld[b]? = (inv.ld[b]?).map (fun l => -l) := by
  intro inv fwd
  have h1 := coupling_cubic_tails_err_none hcv mask B S y params uparams true
  have hpos : 0 < e (c.ds.getD 4 0.0) * (e (c.ds.getD 0 0.0) - -e (c.ds.getD 0 0.0)) :=
    mul_pos hcv.hc.hthr (sub_pos.2 (neg_lt_self (tb_pos hcv.hneg hcv.hv.hlr)))
  obtain ⟨h3, h4, h5, h6⟩ := coupling_roundtrip_real e c mask B S y params uparams uparams'
    _ (fun a => by rw [sub_self, abs_zero]; exact hpos) true
    ((cubic_tails_undoes_approx hcv.hk hcv.ht hcv.hc hcv.hneg).elRel (cubic_kind_ne hcv.hk)
      (fun b t s _ _ _ => condSliceValidT hcv _ S params b t s)) h1 hsz
  exact ⟨h1, h3, h4, h5, h6⟩

/-! ### autoregressive -/

def CubicTailsParamsExactAR (e : Float → ℝ) (c : ElCfg) (F : Nat) (params : Array ℝ) (B : Nat) : Prop :=
  ∀ b i, b < B → i < F → SliceExact e c (cubicCfgOfT c) (arSlice (NF.realX e) c F params b i)

theorem arSliceValidT (hcv : CubicTailsCfgValid e c) (F : Nat) (params : Array ℝ) (b i : Nat) :
    SliceValid e c (cubicCfgOfT c) (arSlice (NF.realX e) c F params b i) :=
  sliceValidT_of_cfg hcv _ (by rw [arSlice_length, pw_cubic hcv.hk])

/-- **C02 (autoregressive, tails) with NO exactness hypothesis (forward ∘ inverse)**: any autoregressive conditioner, ANY
    real `[B, F]` array -/
theorem ar_cubic_tails_rev_approx_real (hcv : CubicTailsCfgValid e c) (B F : Nat)
    (net : Array ℝ → Array ℝ) (hnet : AutoregNet B F (2 * c.K + 2) net) (y : Array ℝ) (hy : y.size = B * F) :
    let inv := arInverse (NF.realX e) c B F net y
    let fwd := arForward (NF.realX e) c B F net inv.out
    inv.err = none ∧ fwd.err = none
      ∧ (∀ j, j < B * F → |fwd.out.getD j 0 - y.getD j 0|
            < e (c.ds.getD 4 0.0) * (e (c.ds.getD 0 0.0) - -e (c.ds.getD 0 0.0)))
      ∧ (0 < F → ∀ b, b < B → fwd.ld[b]? = (inv.ld[b]?).map (fun l => -l)) := by
  intro inv fwd
  have hnet' : AutoregNet B F (pw c) net := by rw [pw_cubic hcv.hk]; exact hnet
  have h1 := (cubic_tails_accepts hcv.hk hcv.ht hcv.hneg).ar_inverse_err_none (net := net)
    (fun z _ b i _ _ => arSliceValidT hcv F (net z) b i) hy (fun _ _ => trivial)
  exact ⟨h1, ar_forward_inverse_rel_real e c B F net y _ hnet' hy h1
    ((cubic_tails_undoes_approx hcv.hk hcv.ht hcv.hc hcv.hneg).arElRevRel (fun b i _ _ => arSliceValidT hcv F _ b i))⟩

section made
open NF.Made

/-- **the masked autoregressive cubic flow layer with linear tails and the MADE conditioner**: every architecture
    accepted by `build` with multiplier `2K + 2`, every weight assignment, every `B`, EVERY real `[B, F]` input: no pass
    raises; where the bins are exact at the conditioner's parameters the round trips are exact with negated log-dets
    (both orders); and WITHOUT any exactness hypothesis forward ∘ inverse negates the log-dets exactly and returns the
    input up to `quadratic_threshold · 2B` per entry. -/
theorem made_cubic_tails_roundtrip_real (hcv : CubicTailsCfgValid e c) (a : Arch) (n : Net)
    (hbuild : build a = .ok n) (hmult : a.mult = 2 * c.K + 2) (W : ℕ → ℕ → ℕ → ℝ) (bias : ℕ → ℕ → ℝ) (B : Nat)
    (ctxv : ℕ → ℕ → Fin B → ℝ) (g : ℕ → Slot → ℕ → (Fin B → ℝ) → Fin B → ℝ) :
    let net := madeNet n W bias B ctxv g
    (∀ x : Array ℝ, x.size = B * a.F → CubicTailsParamsExactAR e c a.F (net x) B →
      let fwd := arForward (NF.realX e) c B a.F net x
      let inv := arInverse (NF.realX e) c B a.F net fwd.out
      fwd.err = none ∧ inv.err = none ∧ inv.out = x
        ∧ (∀ k, AgreeBelow B a.F k (arIter (NF.realX e) c B a.F net fwd.out k).out x)
        ∧ (∀ b, b < B → inv.ld[b]? = (fwd.ld[b]?).map (fun l => -l)))
    ∧ (∀ y : Array ℝ, y.size = B * a.F →
      CubicTailsParamsExactAR e c a.F (net (arInverse (NF.realX e) c B a.F net y).out) B →
      let inv := arInverse (NF.realX e) c B a.F net y
      let fwd := arForward (NF.realX e) c B a.F net inv.out
      inv.err = none ∧ fwd.err = none ∧ fwd.out = y
        ∧ (∀ b, b < B → fwd.ld[b]? = (inv.ld[b]?).map (fun l => -l)))
    ∧ (∀ y : Array ℝ, y.size = B * a.F →
      let inv := arInverse (NF.realX e) c B a.F net y
      let fwd := arForward (NF.realX e) c B a.F net inv.out
      inv.err = none ∧ fwd.err = none
        ∧ (∀ j, j < B * a.F → |fwd.out.getD j 0 - y.getD j 0|
              < e (c.ds.getD 4 0.0) * (e (c.ds.getD 0 0.0) - -e (c.ds.getD 0 0.0)))
        ∧ (∀ b, b < B → fwd.ld[b]? = (inv.ld[b]?).map (fun l => -l))) := by
  obtain ⟨hF, hnet⟩ := madeNet_autoreg_of_build hbuild hmult W bias B ctxv g
  have h := made_roundtrip_real_of e (cubic_tails_undoes hcv.hk hcv.ht hcv.hc hcv.hneg)
    (cubic_tails_accepts hcv.hk hcv.ht hcv.hneg) a n hbuild (hmult.trans (pw_cubic hcv.hk).symm) W bias B ctxv g
    (fun z _ b i _ _ => arSliceValidT hcv a.F _ b i)
  intro net
  refine ⟨fun x hx hex => h.1 x hx (fun _ _ => trivial) (fun b i hb hi => ⟨arSliceValidT hcv a.F _ b i, hex b i hb hi⟩),
    fun y hy hex => h.2 y hy (fun _ _ => trivial) (fun b i hb hi => ⟨arSliceValidT hcv a.F _ b i, hex b i hb hi⟩), ?_⟩
  intro y hy
  obtain ⟨h1, h2, h3, h4⟩ := ar_cubic_tails_rev_approx_real hcv B a.F _ hnet y hy
  exact ⟨h1, h2, h3, h4 hF⟩

end made

end tailsLayers

/-! ## Per-element exactness for the tails element -/

section tailsEl
open TailsWhole
variable {e : Float → ℝ} {c : ElCfg}

/-- **C02 (element, tails), inverse ∘ forward, exactness stated per element**: if the forward element succeeds with
    `(y, l, al)` and — when `y` lies in the box — the bin `y` falls into is exact, the inverse element returns `(x, -l, al')` -/
theorem cubic_tails_real_invertible_el (hk : c.kind = "cubic") (ht : c.tails = true) (p : List ℝ)
    (hv : SliceValid e c (cubicCfgOfT c) p) (hc : CubicInverseWhole.InvConsts e (cubicCfgOfT c))
    (hneg : e (-(c.ds.getD 0 0.0)) = - e (c.ds.getD 0 0.0)) {x y l : ℝ} {al : List ℝ}
    (h : elTransform (NF.realX e) c false p x = .ok (y, l, al))
    (hex : -e (c.ds.getD 0 0.0) ≤ y → y ≤ e (c.ds.getD 0 0.0) →
      CubicInverseWhole.ExactBin e (cubicCfgOfT c) (rqW (NF.realX e) c p) (rqH (NF.realX e) c p)
        (cubicL (NF.realX e) c p) (cubicR (NF.realX e) c p) (binOf e (cubicCfgOfT c) (rqH (NF.realX e) c p) y)) :
    ∃ al', elTransform (NF.realX e) c true p y = .ok (x, -l, al') := by
  rw [elTransform_cubic_tails _ c hk ht] at h ⊢
  rw [cubicTails_unfold] at h ⊢
  by_cases hin : -e (c.ds.getD 0 0.0) ≤ x ∧ x ≤ e (c.ds.getD 0 0.0)
  · rw [if_pos hin] at h
    have h : cubicSpline (NF.realX e) (cubicCfgOfT c) (rqW (NF.realX e) c p) (rqH (NF.realX e) c p)
        (cubicL (NF.realX e) c p) (cubicR (NF.realX e) c p) false x = .ok (y, l, al) := h
    have hm : e (-(c.ds.getD 0 0.0)) ≤ y ∧ y ≤ e (c.ds.getD 0 0.0) := (fwd_ok hv h).2.2.2.2
    rw [hneg] at hm
    rw [if_pos hm]
    exact ⟨_, (cubicSpline_real_invertible hv hc h (hex hm.1 hm.2)).1⟩
  · rw [if_neg hin] at h
    simp only [Except.ok.injEq, Prod.mk.injEq] at h
    obtain ⟨rfl, rfl, _⟩ := h
    rw [if_neg hin]
    exact ⟨[], by simp⟩

end tailsEl

/-! ## Non-vacuity: concrete configurations, readings of the doubles and parameter arrays satisfying every bundle -/

section witness
open CubicInverseWhole

theorem condSlice_empty (e : Float → ℝ) (m Ft S b t s : Nat) :
    condSlice (NF.realX e) m Ft S #[] b t s = List.replicate m 0 := by
  simp [condSlice, List.map_const']

theorem arSlice_empty (e : Float → ℝ) (c : ElCfg) (F b i : Nat) :
    arSlice (NF.realX e) c F #[] b i = List.replicate (pw c) 0 := by
  simp [arSlice, List.map_const']

section twoBins
variable {e : Float → ℝ} {cc : CCfg} (hv' : CubicValid e cc [0, 0] [0, 0])
  (hhw : ∀ k, CubicWhole.hv e cc [0, 0] k = wv e cc [0, 0] k) (hhalf : e 0.5 = 1 / 2)
include hv' hhw

include hhalf in
theorem tb_aK (udl : ℝ) (k : ℕ) (hk : k < 2) :
    aK e cc [0, 0] [0, 0] udl udl k = ((NF.realX e).sigmoid udl * 3 - 1) / (wv e cc [0, 0] k)^2 := by
  have hk' : k = 0 ∨ k = 1 := by omega
  rcases hk' with rfl | rfl
  · exact tb_aK0 hv' hhw hhalf udl udl
  · exact tb_aK1 hv' hhw hhalf udl udl

include hhalf in
/-- with both unnormalised end derivatives `0` (`sigmoid 0 = 1/2`, `a·w² = 1/2`) no bin takes the fallback as soon as
    `quadratic_threshold < 1/2` -/
theorem tb_allExact_zero (hthr : e cc.thr < 1 / 2) : AllExact e cc [0, 0] [0, 0] 0 0 := by
  intro k hk
  left
  have hk2 : k < 2 := by simpa using hk
  rw [Bool.eq_false_iff]
  intro hfb
  have hlt := (fallback_iff (udl := 0) (udr := 0) hv' k hk).mp hfb
  rw [hhw] at hlt
  have hw := wv_pos hv' k hk
  have hs : (NF.realX e).sigmoid 0 = 1 / 2 := by rw [NF.realX_sigmoid]; norm_num
  rw [tb_aK hv' hhw hhalf 0 k hk2, hs, abs_div_sq_mul_cube (by norm_num) hw] at hlt
  -- `w/2 < thr·w` with `w > 0` and `thr < 1/2`
  linarith only [hlt, mul_lt_mul_of_pos_right hthr hw]

end twoBins

/-! ### bounded: two bins on the unit box, the reading `CubicInverseWhole.eI`, every read of the empty parameter array is 0 -/

/-- bounded witness: two-bin cubic element on the unit box, `quadratic_threshold = 1e-3` -/
def cC : ElCfg := { container := "cdf", kind := "cubic", K := 2, ds := #[0.0, 1.0, 0.0, 1.0, 0.0, 0.0, 1e-5, 1e-3] }

theorem cubicCfgOf_cC : cubicCfgOf cC = cNV := rfl

theorem cubicCfgValid_example : CubicCfgValid eI cC where
  hk := rfl
  ht := rfl
  hK := by decide
  hv := valid_exampleI
  hc := consts_example

theorem sliceParts_cC :
    rqW (NF.realX eI) cC [0, 0, 0, 0, 0, 0] = [0, 0] ∧ rqH (NF.realX eI) cC [0, 0, 0, 0, 0, 0] = [0, 0] ∧
    cubicL (NF.realX eI) cC [0, 0, 0, 0, 0, 0] = 0 ∧ cubicR (NF.realX eI) cC [0, 0, 0, 0, 0, 0] = 0 :=
  sliceParts_unscaled _ cC rfl rfl rfl 0 0 0 0 0 0

theorem allExact_example_zero : AllExact eI cNV [0, 0] [0, 0] 0 0 :=
  tb_allExact_zero valid_exampleI ex_hv ex_half (by rw [ex_thr]; norm_num)

theorem cubicParamsExact_example (Ft S B : Nat) : CubicParamsExact eI cC Ft S #[] B := by
  intro b t s _ _ _
  obtain ⟨h1, h2, h3, h4⟩ := sliceParts_cC
  rw [condSlice_empty, show List.replicate cC.mult (0 : ℝ) = [0, 0, 0, 0, 0, 0] from rfl]
  unfold SliceValid SliceExact
  rw [h1, h2, h3, h4]
  exact ⟨valid_exampleI, allExact_example_zero⟩

theorem coupling_cubic_example (mask : List ℝ) (B S : Nat) (x : Array ℝ) (hsz : B * mask.length * S ≤ x.size)
    (herr : (couplingApply (NF.realX eI) cC mask B S x #[] false none #[]).err = none) :
    let fwd := couplingApply (NF.realX eI) cC mask B S x #[] false none #[]
    let inv := couplingApply (NF.realX eI) cC mask B S fwd.out #[] true none #[]
    inv.out = x ∧ inv.err = none ∧ inv.condIn = fwd.condIn ∧ ∀ b, b < B → inv.ld[b]? = (fwd.ld[b]?).map (fun l => -l) :=
  (cubic_undoes (e := eI) (c := cC) rfl rfl consts_example false).coupling_roundtrip_real eI (cubic_kind_ne rfl)
    mask B S x #[] #[] #[] (cubicParamsExact_example _ S B) herr hsz

theorem cubicParamsExactAR_example (F B : Nat) : CubicParamsExactAR eI cC F #[] B := by
  intro b i _ _
  obtain ⟨h1, h2, h3, h4⟩ := sliceParts_cC
  rw [arSlice_empty, show List.replicate (pw cC) (0 : ℝ) = [0, 0, 0, 0, 0, 0] from rfl]
  unfold SliceValid SliceExact
  rw [h1, h2, h3, h4]
  exact ⟨valid_exampleI, allExact_example_zero⟩

/-- the autoregressive theorem instantiated: the conditioner that returns the empty tensor (every read is 0), every
    `B`, `F`, every input in the unit box -/
theorem ar_cubic_example (B F : Nat) (x : Array ℝ) (hx : x.size = B * F)
    (hbox : InBox (eI (cubicCfgOf cC).box.left) (eI (cubicCfgOf cC).box.right) B F x) :
    let net : Array ℝ → Array ℝ := fun _ => #[]
    let fwd := arForward (NF.realX eI) cC B F net x
    let inv := arInverse (NF.realX eI) cC B F net fwd.out
    fwd.err = none ∧ inv.err = none ∧ inv.out = x
      ∧ (∀ k, AgreeBelow B F k (arIter (NF.realX eI) cC B F net fwd.out k).out x)
      ∧ (0 < F → ∀ b, b < B → inv.ld[b]? = (fwd.ld[b]?).map (fun l => -l)) :=
  ar_roundtrip_real_of eI (cubic_undoes (c := cC) rfl rfl consts_example) (cubic_accepts rfl rfl) B F (fun _ => #[])
    (fun _x _x' _i _ _ _ _ _b _k _ _ => rfl) -- a constant net ignores its input
    (cubicNetValid_of_cfg cubicCfgValid_example B F _) x hx (cubicParamsExactAR_example F B) hbox

/-! ### the exactness hypothesis is forced at the level of the dispatcher: an accepted slice on which
`forward(inverse(y)) ≠ y` (from `CubicInverseWhole.round_trip_counterexample`; the error is below the declared bound by
`cubic_undoes_approx`) -/

theorem cubic_el_round_trip_counterexample :
    ∃ (p : List ℝ) (y x l : ℝ) (al : List ℝ), SliceValid eI cC (cubicCfgOf cC) p ∧
      elTransform (NF.realX eI) cC true p y = .ok (x, l, al) ∧
      ∀ y' l' al', elTransform (NF.realX eI) cC false p x = .ok (y', l', al') → y' ≠ y := by
  obtain ⟨hw, hh, hl, hr⟩ := sliceParts_unscaled (NF.realX eI) cC rfl rfl rfl 0 0 0 0 (Real.log (2001/3999)) 0
  have hv : SliceValid eI cC (cubicCfgOf cC) [0, 0, 0, 0, Real.log (2001/3999), 0] := by
    unfold SliceValid; rw [hw, hh]; exact valid_exampleI
  have h02 : 0 < ([0, 0] : List ℝ).length := Nat.zero_lt_two
  have hw0 := wv_pos valid_exampleI 0 h02
  have hc1 : chs eI cNV [0, 0] 1 = wv eI cNV [0, 0] 0 := by
    have := chs_succ valid_exampleI 0 h02
    rwa [zero_add, chs_zero valid_exampleI, zero_add, ex_hv] at this
  have hw1 : wv eI cNV [0, 0] 0 ≤ 1 := hc1.symm.trans_le (chs_unit valid_exampleI 1 (Nat.le_succ 1)).2
  have hy0 : eI cNV.box.bottom ≤ wv eI cNV [0, 0] 0 / 2 := ex_bottom.trans_le (half_pos hw0).le
  have hy1 : wv eI cNV [0, 0] 0 / 2 ≤ eI cNV.box.top := ((half_le_self hw0.le).trans hw1).trans_eq ex_top.symm
  refine ⟨_, wv eI cNV [0, 0] 0 / 2, inv eI cNV [0, 0] [0, 0] (Real.log (2001/3999)) 0 (wv eI cNV [0, 0] 0 / 2),
    invLd eI cNV [0, 0] [0, 0] (Real.log (2001/3999)) 0 (wv eI cNV [0, 0] 0 / 2),
    invAlts eI cNV [0, 0] [0, 0] (Real.log (2001/3999)) 0 (wv eI cNV [0, 0] 0 / 2), hv, ?_, ?_⟩
  · rw [elTransform_cubic _ cC rfl rfl, hw, hh, hl, hr]
    exact CubicInverseWhole.exec_ok (udl := Real.log (2001/3999)) (udr := 0) valid_exampleI _ hy0 hy1
  · intro y' l' al' h
    rw [elTransform_cubic _ cC rfl rfl, hw, hh, hl, hr] at h
    have h' : cubicSpline (NF.realX eI) cNV [0, 0] [0, 0] (Real.log (2001/3999)) 0 false
        (inv eI cNV [0, 0] [0, 0] (Real.log (2001/3999)) 0 (wv eI cNV [0, 0] 0 / 2)) = .ok (y', l', al') := h
    rw [(fwd_ok valid_exampleI h').2.1]
    exact round_trip_counterexample

/-! ### tails: two bins, tail bound 1, a reading exact on every literal of both structures -/

/-- `eT = tableT ∘ codeT`: a reading of the doubles exact on every literal `cCT` and the root formulas mention
    (`CubicInverseWhole.eI` extended by `-1.0 ↦ -1` and `2.0 ↦ 2`) -/
def codeT (f : Float) : Nat :=
  if f == 0.0 then 0 else if f == 3.0 then 1 else if f == 4.0 then 2 else if f == -2.0 then 3 else if f == -0.5 then 4
  else if f == 0.8660254037844386 then 5 else if f == 0.5 then 6 else if f == 1e-3 then 7
  else if f == (-(1.0:Float)) then 9 else if f == 2.0 then 10 else 8
noncomputable def tableT : Nat → ℝ
  | 0 => 0 | 1 => 3 | 2 => 4 | 3 => -2 | 4 => -(1/2) | 5 => Real.sqrt 3 / 2 | 6 => 1/2 | 7 => 1/1000
  | 9 => -1 | 10 => 2 | _ => 1
noncomputable def eT (f : Float) : ℝ := tableT (codeT f)

theorem codeT_key (i : Nat) {k : Float} {v : Nat}
    (hi : [((0.0:Float), 0), (3.0, 1), (4.0, 2), (-2.0, 3), (-0.5, 4), (0.8660254037844386, 5), (0.5, 6), (1e-3, 7),
      (-(1.0:Float), 9), (2.0, 10)][i]? = some (k, v)) : codeT k = v :=
  FloatFacts.readTbl_key 8 i hi FloatFacts.cubicRootTails_keys

/-! the two literals that are no key, both read as `1` -/
private theorem t1 : codeT 1.0 = 8 := by decide +kernel
private theorem tseps : codeT 1e-6 = 8 := by decide +kernel

/-- tails witness: two-bin cubic element with linear tails, tail bound 1 -/
def cCT : ElCfg := { container := "cdf", kind := "cubic", tails := true, K := 2, ds := #[1.0, 0.0, 0.0, 1e-5, 1e-3] }

theorem cubicCfgOfT_cCT : cubicCfgOfT cCT = TailsWhole.ccfgT 1.0 0.0 0.0 1e-5 1e-3 := rfl

/-! the readings of `eT` that the two bundles need -/
theorem eT_0 : eT 0.0 = 0 := by rw [eT, codeT_key 0 rfl]; rfl
theorem eT_1 : eT 1.0 = 1 := by rw [eT, t1]; rfl
theorem eT_n1 : eT (-(1.0:Float)) = -1 := by rw [eT, codeT_key 8 rfl]; rfl
theorem eT_d : eT ((1.0:Float) - (-(1.0:Float))) = 2 := by rw [FloatFacts.one_sub_negOne_eq, eT, codeT_key 9 rfl]; rfl
theorem eT_c : eT ((1:Float) - 0.0 * (2:Nat).toFloat) = 1 := by rw [FloatFacts.floor_two_eq]; exact eT_1
theorem eT_seps : eT 1e-6 = 1 := by rw [eT, tseps]; rfl
theorem eT_half : eT 0.5 = 1 / 2 := by rw [eT, codeT_key 6 rfl]; rfl
theorem eT_thr : eT 1e-3 = 1 / 1000 := by rw [eT, codeT_key 7 rfl]; rfl

theorem valid_exampleT : CubicValid eT (TailsWhole.ccfgT 1.0 0.0 0.0 1e-5 1e-3) [0, 0] [0, 0] := by
  have hc : eT ((1:Float) - 0.0 * (2:Nat).toFloat) = 1 - eT 0.0 * ((2:ℕ):ℝ) := by rw [eT_c, eT_0, zero_mul, sub_zero]
  have hK : eT 0.0 * ((2:ℕ):ℝ) ≤ 1 := by rw [eT_0, zero_mul]; exact zero_le_one
  have hlt : eT (-(1.0:Float)) < eT 1.0 := by rw [eT_n1, eT_1]; norm_num
  have hd : eT ((1.0:Float) - (-(1.0:Float))) = eT 1.0 - eT (-(1.0:Float)) := by rw [eT_d, eT_1, eT_n1]; norm_num
  exact
    { hK := List.cons_ne_nil _ _, hlenh := rfl, hgW := FloatFacts.guard_two, hgH := FloatFacts.guard_two,
      hmW0 := eT_0.ge, hcW := hc, hmWK := hK, hmH0 := eT_0.ge, hcH := hc, hmHK := hK,
      hlr := hlt, hdlr := hd, hbt := hlt, hdbt := hd,
      hseps := lt_of_lt_of_eq one_pos eT_seps.symm,
      hhalf := lt_of_lt_of_eq (by norm_num) eT_half.symm }

theorem consts_exampleT : InvConsts eT (TailsWhole.ccfgT 1.0 0.0 0.0 1e-5 1e-3) where
  h3 := by rw [eT, codeT_key 1 rfl]; rfl
  h4 := by rw [eT, codeT_key 2 rfl]; rfl
  hm2 := by rw [eT, codeT_key 3 rfl]; rfl
  hmh := by rw [eT, codeT_key 4 rfl]; rfl
  hs3 := by rw [FloatFacts.sqrt3_half_eq, eT, codeT_key 5 rfl]; rfl
  hthr := lt_of_lt_of_eq (by norm_num) eT_thr.symm

theorem eT_neg : eT (-(1.0:Float)) = - eT 1.0 := by rw [eT_n1, eT_1]

theorem cubicTailsCfgValid_example : CubicTailsCfgValid eT cCT where
  hk := rfl
  ht := rfl
  hK := by decide
  hv := valid_exampleT
  hc := consts_exampleT
  hneg := eT_neg

theorem allExact_exampleT : AllExact eT (TailsWhole.ccfgT 1.0 0.0 0.0 1e-5 1e-3) [0, 0] [0, 0] 0 0 :=
  tb_allExact_zero valid_exampleT (fun _ => rfl) eT_half (lt_of_eq_of_lt eT_thr (by norm_num))

theorem sliceParts_cCT :
    rqW (NF.realX eT) cCT [0, 0, 0, 0, 0, 0] = [0, 0] ∧ rqH (NF.realX eT) cCT [0, 0, 0, 0, 0, 0] = [0, 0] ∧
    cubicL (NF.realX eT) cCT [0, 0, 0, 0, 0, 0] = 0 ∧ cubicR (NF.realX eT) cCT [0, 0, 0, 0, 0, 0] = 0 :=
  sliceParts_unscaled _ cCT rfl rfl rfl 0 0 0 0 0 0

theorem cubicTailsParamsExact_example (Ft S B : Nat) : CubicTailsParamsExact eT cCT Ft S #[] B := by
  intro b t s _ _ _
  obtain ⟨h1, h2, h3, h4⟩ := sliceParts_cCT
  rw [condSlice_empty, show List.replicate cCT.mult (0 : ℝ) = [0, 0, 0, 0, 0, 0] from rfl]
  unfold SliceExact
  rw [h1, h2, h3, h4]
  exact allExact_exampleT

theorem coupling_cubic_tails_example (mask : List ℝ) (B S : Nat) (x : Array ℝ) (hsz : B * mask.length * S ≤ x.size) :
    let fwd := couplingApply (NF.realX eT) cCT mask B S x #[] false none #[]
    let inv := couplingApply (NF.realX eT) cCT mask B S fwd.out #[] true none #[]
    fwd.err = none ∧ inv.out = x ∧ inv.err = none ∧ inv.condIn = fwd.condIn
      ∧ ∀ b, b < B → inv.ld[b]? = (fwd.ld[b]?).map (fun l => -l) :=
  ⟨coupling_cubic_tails_err_none cubicTailsCfgValid_example mask B S x #[] #[] false,
    (cubic_tails_undoes (e := eT) (c := cCT) rfl rfl consts_exampleT eT_neg false).coupling_roundtrip_real eT
      (cubic_kind_ne rfl) mask B S x #[] #[] #[]
      (fun b t s hb ht hs => ⟨condSliceValidT cubicTailsCfgValid_example _ S #[] b t s,
        cubicTailsParamsExact_example _ S B b t s hb ht hs⟩)
      (coupling_cubic_tails_err_none cubicTailsCfgValid_example mask B S x #[] #[] false) hsz⟩

theorem cubic_tails_inv_example :
    StrictMono (cubicInvT eT 1.0 0.0 0.0 1e-5 1e-3 [0, 0] [0, 0] 0 0) ∧
    Function.Bijective (cubicInvT eT 1.0 0.0 0.0 1e-5 1e-3 [0, 0] [0, 0] 0 0) ∧
    (∀ x, cubicInvT eT 1.0 0.0 0.0 1e-5 1e-3 [0, 0] [0, 0] 0 0
      (TailsWhole.cubicValT eT 1.0 0.0 0.0 1e-5 1e-3 [0, 0] [0, 0] 0 0 x) = x) :=
  ⟨(cubic_tails_inv_whole valid_exampleT consts_exampleT allExact_exampleT eT_neg).2.2.1,
   (cubic_tails_inv_whole valid_exampleT consts_exampleT allExact_exampleT eT_neg).2.2.2.2.1,
   (cubic_tails_round_trips valid_exampleT consts_exampleT allExact_exampleT eT_neg).1⟩

end witness

end CubicLayers
