import NflowsModel.Properties.C03
import NflowsModel.Lemmas.FlowPushforward
import NflowsModel.Lemmas.FlowBounded
import NflowsModel.Lemmas.NonlinExec
import NflowsModel.Lemmas.FlowWholeND
import NflowsModel.Lemmas.FlowRowsExec
/-!
# Lemmas/FlowMore — C03 for `Sigmoid` / `Logit` stages, for a `MADEMoG` (or ANY normalised) base, and with an embedding net

The three cases the header of `Properties/C03.lean` sends to `Properties/C03M.lean` (which restates what is proved here), each read off the
change-of-variables lemmas of `Lemmas/Pushforward.lean`.
`Sigmoid : ℝ → (0,1)` and `Logit : (0,1) → ℝ` (temperature `T > 0`), 1-D and coordinate-wise in n dimensions: normalised for the EXACT
log-det `sigLdIdeal`.  The executed `Sigmoid.forward` evaluates it with the thresholded `F.softplus`, exact for `|T x| ≤ 20` only and larger
by `log (1 + e^{−|T x|}) ≤ e⁻²⁰` beyond, so the executed density integrates to a number in `[1, exp (e⁻²⁰)]`; the executed `Logit.forward` is
the exact map strictly inside its clamp `[ε̂, 1 − ε̂]` and clamps outside (declared approximation).  Any base: the hypothesis bundle
`DiffeoFlow` with any `∫ exp blp = 1`; `mogLogp` IS the executed `Density.mogRow`.  Embedding net: the flow with `emb` at context `c` is the
flow without at `emb c` (`withEmb`), for the list-level terms and for the executed array-level `flowLogProbExec`.  The last section
shows that `Logit` on `(0,1)` meets the on-support hypotheses of `Lemmas/FlowPushforward.lean` (the witness `logit_example` of that file's
namespace, here because the facts about `logit` are above it).

Taken from `Properties/`: `DiffeoN`, `progN` and `stdNormal1_exec_normalised` (C03); `stdNormal_normalised`, `mog_joint_normalised`,
`mog_feature_exec_normalised` (C05, through C03).
-/
open MeasureTheory NF NF.FlowPairing DualX

namespace FlowMore
noncomputable section
open NonlinExec

/-! ## 1. `Sigmoid` : ℝ → (0,1) and `Logit` : (0,1) → ℝ -/

theorem sigmoid_image_univ {T : ℝ} (hT : T ≠ 0) : (fun x => gate (T * x)) '' Set.univ = Set.Ioo (0:ℝ) 1 := by
  ext u
  constructor
  · rintro ⟨x, _, rfl⟩; exact ⟨gate_pos _, gate_lt_one _⟩
  · rintro ⟨h0, h1⟩
    refine ⟨1 / T * logit u, trivial, ?_⟩
    have hx : T * (1 / T * logit u) = logit u := by field_simp
    show gate (T * (1 / T * logit u)) = u
    rw [hx, gate_logit h0 h1]

theorem sigmoid_injective {T : ℝ} (hT : T ≠ 0) : Function.Injective (fun x => gate (T * x)) := by
  intro a b h
  have := congrArg logit h
  simp only [logit_gate] at this
  exact mul_left_cancel₀ hT this

theorem sigmoid_change_of_variables {T : ℝ} (hT : 0 < T) (p : ℝ → ℝ) :
    ∫ z in Set.Ioo (0:ℝ) 1, p z = ∫ x, p (gate (T * x)) * Real.exp (sigLdIdeal T (T * x)) := by
  have h := Pushforward.integral_image_countable_exception (fun x => gate (T * x))
    (fun x => Real.exp (sigLdIdeal T (T * x))) (fun x => sigLdIdeal T (T * x)) p Set.univ ∅ MeasurableSet.univ
    Set.countable_empty (sigmoid_injective hT.ne').injOn
    (fun x _ => (hasDerivAt_gate hT x).hasDerivWithinAt) (fun x _ => abs_of_pos (Real.exp_pos _))
  rw [sigmoid_image_univ hT.ne'] at h
  rw [h, Measure.restrict_univ]

/-- **C03, `Sigmoid` stage, density form**: a base density on `(0,1)` that integrates to one there, pulled back through
    `x ↦ σ(T x)` with the exact log-det, integrates to one over ℝ.  (No measurability / sign condition on `p`.) -/
theorem sigmoid_flow_normalised_density {T : ℝ} (hT : 0 < T) (p : ℝ → ℝ) (hp : ∫ z in Set.Ioo (0:ℝ) 1, p z = 1) :
    ∫ x, p (gate (T * x)) * Real.exp (sigLdIdeal T (T * x)) = 1 := by
  rw [← sigmoid_change_of_variables hT p, hp]

/-- **C03, `Sigmoid` stage** in the form `Flow._log_prob` computes: `exp (base.log_prob (σ(T x)) + logabsdet x)` -/
theorem sigmoid_flow_normalised {T : ℝ} (hT : 0 < T) (blp : ℝ → ℝ)
    (hp : ∫ z in Set.Ioo (0:ℝ) 1, Real.exp (blp z) = 1) :
    ∫ x, Real.exp (blp (gate (T * x)) + sigLdIdeal T (T * x)) = 1 := by
  simp_rw [Real.exp_add]
  exact sigmoid_flow_normalised_density hT (fun z => Real.exp (blp z)) hp

/-! ### the EXECUTED `Sigmoid.forward` (`sigmoidT … false`): value `σ(T x)`, log-det with the THRESHOLDED softplus -/

def sigmoidExecLogProb (e : Float → ℝ) (T : ℝ) (eps : Float) (blp : ℝ → ℝ) (x : ℝ) : ℝ :=
  blp (outY (sigmoidT (NF.realX e) T eps false x)) + outL (sigmoidT (NF.realX e) T eps false x)

theorem sigmoidExecLogProb_eq (e : Float → ℝ) (T : ℝ) (eps : Float) (blp : ℝ → ℝ) (x : ℝ) :
    sigmoidExecLogProb e T eps blp x = blp (gate (T * x)) + sigLd T (T * x) := by
  unfold sigmoidExecLogProb; rw [sigmoidT_fwd_run]; rfl

theorem sigmoidExecLogProb_exact (e : Float → ℝ) (T : ℝ) (eps : Float) (blp : ℝ → ℝ) {x : ℝ} (h : |T * x| ≤ 20) :
    sigmoidExecLogProb e T eps blp x = blp (gate (T * x)) + sigLdIdeal T (T * x) := by
  rw [sigmoidExecLogProb_eq, sigLd_eq_ideal T h]

/-- the executed `Sigmoid` flow density is NOT exactly normalised (the declared approximation of `F.softplus`) -/
theorem sigmoidExecLogProb_gap (e : Float → ℝ) (T : ℝ) (eps : Float) (blp : ℝ → ℝ) {x : ℝ} (h : 20 < |T * x|) :
    sigmoidExecLogProb e T eps blp x = blp (gate (T * x)) + sigLdIdeal T (T * x) + Real.log (1 + Real.exp (-|T * x|))
    ∧ 0 < Real.log (1 + Real.exp (-|T * x|)) ∧ Real.log (1 + Real.exp (-|T * x|)) ≤ Real.exp (-20) := by
  refine ⟨?_, gap_pos _, gap_le h⟩
  rw [sigmoidExecLogProb_eq, sigLd_gap T h]; ring

theorem gate_strictMono : StrictMono gate := by
  intro a b hab
  unfold gate
  have h1 : Real.exp (-b) < Real.exp (-a) := Real.exp_lt_exp.mpr (by linarith)
  exact one_div_lt_one_div_of_lt (by positivity) (by linarith)

theorem sigmoid_image_region {T : ℝ} (hT : T ≠ 0) :
    (fun x => gate (T * x)) '' {x | |T * x| ≤ 20} = Set.Icc (gate (-20)) (gate 20) := by
  ext u
  constructor
  · rintro ⟨x, hx, rfl⟩
    obtain ⟨h1, h2⟩ := abs_le.mp (show |T * x| ≤ 20 from hx)
    exact ⟨gate_strictMono.monotone h1, gate_strictMono.monotone h2⟩
  · rintro ⟨h1, h2⟩
    have h0 : 0 < u := lt_of_lt_of_le (gate_pos _) h1
    have h1' : u < 1 := lt_of_le_of_lt h2 (gate_lt_one _)
    have hx : T * (1 / T * logit u) = logit u := by field_simp
    refine ⟨1 / T * logit u, ?_, ?_⟩
    · show |T * (1 / T * logit u)| ≤ 20
      rw [hx, abs_le]
      rw [← gate_logit h0 h1'] at h1 h2
      exact ⟨gate_strictMono.le_iff_le.mp h1, gate_strictMono.le_iff_le.mp h2⟩
    · show gate (T * (1 / T * logit u)) = u
      rw [hx, gate_logit h0 h1']

theorem measurableSet_region (T : ℝ) : MeasurableSet {x : ℝ | |T * x| ≤ 20} :=
  (isClosed_le (by fun_prop) (by fun_prop)).measurableSet

/-- **the EXECUTED `Sigmoid` stage on the region where its log-det is exact**: over `{x | |T x| ≤ 20}` the integral of
    `exp` of the executed log-prob is the mass of the base on `[σ(−20), σ(20)]` (all of `(0,1)` but `2·σ(−20) ≈ 4·10⁻⁹`) -/
theorem sigmoid_executed_exact_region (e : Float → ℝ) {T : ℝ} (hT : 0 < T) (eps : Float) (blp : ℝ → ℝ) :
    ∫ x in {x | |T * x| ≤ 20}, Real.exp (sigmoidExecLogProb e T eps blp x)
      = ∫ z in Set.Icc (gate (-20)) (gate 20), Real.exp (blp z) := by
  have h := Pushforward.integral_image_countable_exception (fun x => gate (T * x))
    (fun x => Real.exp (sigLdIdeal T (T * x))) (fun x => sigLdIdeal T (T * x)) (fun z => Real.exp (blp z))
    {x | |T * x| ≤ 20} ∅ (measurableSet_region T) Set.countable_empty (sigmoid_injective hT.ne').injOn
    (fun x _ => (hasDerivAt_gate hT x).hasDerivWithinAt) (fun x _ => abs_of_pos (Real.exp_pos _))
  rw [sigmoid_image_region hT.ne'] at h
  rw [h]
  apply setIntegral_congr_fun (measurableSet_region T)
  intro x hx
  show Real.exp (sigmoidExecLogProb e T eps blp x) = _
  rw [sigmoidExecLogProb_exact e T eps blp hx, Real.exp_add]

/-! ### uniform base on the unit interval (the executed `BoxUniform(0, 1)` row) -/

theorem uniformDensity_unit_normalised (e : Float → ℝ) : ∫ z in Set.Ioo (0:ℝ) 1, FlowBounded.uniformDensity e 0 1 z = 1 := by
  rw [← integral_Icc_eq_integral_Ioo]
  exact FlowBounded.uniformDensity_normalised e 0 1 one_pos

/-- **`Flow(Sigmoid(T), BoxUniform(0,1))` is normalised over ℝ** (executed base row; exact log-det), every temperature `T > 0` -/
theorem sigmoid_uniform_flow_normalised (e : Float → ℝ) {T : ℝ} (hT : 0 < T) :
    ∫ x, (if Density.insideBox (NF.realX e) [0] [1] [gate (T * x)] = true
        then Real.exp (Density.boxUniformRow (NF.realX e) [0] [1] [gate (T * x)] + sigLdIdeal T (T * x)) else 0) = 1 := by
  have := sigmoid_flow_normalised_density hT (FlowBounded.uniformDensity e 0 1) (uniformDensity_unit_normalised e)
  refine Eq.trans ?_ this
  congr 1; funext x
  unfold FlowBounded.uniformDensity
  split
  · rw [Real.exp_add]
  · simp

theorem sigmoid_uniform_logprob (e : Float → ℝ) (T x : ℝ) :
    Density.insideBox (NF.realX e) [0] [1] [gate (T * x)] = true ∧
      Density.boxUniformRow (NF.realX e) [0] [1] [gate (T * x)] = 0 := by
  have hin : (0:ℝ) ≤ gate (T * x) ∧ gate (T * x) < 1 := ⟨(gate_pos _).le, gate_lt_one _⟩
  refine ⟨(FlowBounded.uniform1_inside e 0 1 _).mpr hin, ?_⟩
  rw [FlowBounded.uniform1_row e 0 1 _ hin]; simp

/-- non-vacuous instance: `T = 1`, uniform base: `∫ σ'(x) dx = 1` in the form the flow computes it -/
example (e : Float → ℝ) : ∫ x : ℝ, Real.exp (0 + sigLdIdeal 1 (1 * x)) = 1 := by
  have h := sigmoid_uniform_flow_normalised e (T := 1) one_pos
  simp_rw [(sigmoid_uniform_logprob e 1 _).1, (sigmoid_uniform_logprob e 1 _).2, if_true] at h
  exact h

/-! ### `Logit` : (0,1) → ℝ (the inverse direction; `InverseTransform(Sigmoid)`) -/

/-- the exact log-det of `y ↦ logit y / T` : `−(log T + log y + log (1 − y))` -/
def logitLd (T y : ℝ) : ℝ := -(Real.log T + Real.log y + Real.log (1 - y))

theorem logit_image_Ioo {T : ℝ} (hT : T ≠ 0) : (fun y => 1 / T * logit y) '' Set.Ioo (0:ℝ) 1 = Set.univ := by
  apply Set.eq_univ_of_forall
  intro x
  refine ⟨gate (T * x), ⟨gate_pos _, gate_lt_one _⟩, ?_⟩
  show 1 / T * logit (gate (T * x)) = x
  rw [logit_gate]; field_simp

theorem logit_injOn {T : ℝ} (hT : T ≠ 0) : Set.InjOn (fun y => 1 / T * logit y) (Set.Ioo (0:ℝ) 1) := by
  intro a ha b hb h
  have h' : logit a = logit b := mul_left_cancel₀ (one_div_ne_zero hT) h
  rw [← gate_logit ha.1 ha.2, ← gate_logit hb.1 hb.2, h']

theorem logit_abs_deriv {T y : ℝ} (hT : 0 < T) (h0 : 0 < y) (h1 : y < 1) :
    |1 / T * (1 / (y * (1 - y)))| = Real.exp (logitLd T y) := by
  have h1' : 0 < 1 - y := by linarith
  unfold logitLd
  rw [abs_of_pos (by positivity), Real.exp_neg, Real.exp_add, Real.exp_add, Real.exp_log hT, Real.exp_log h0, Real.exp_log h1']
  field_simp

theorem logit_change_of_variables {T : ℝ} (hT : 0 < T) (p : ℝ → ℝ) :
    ∫ z, p z = ∫ y in Set.Ioo (0:ℝ) 1, p (1 / T * logit y) * Real.exp (logitLd T y) := by
  have h := Pushforward.integral_image_countable_exception (fun y => 1 / T * logit y)
    (fun y => 1 / T * (1 / (y * (1 - y)))) (logitLd T) p (Set.Ioo 0 1) ∅ measurableSet_Ioo
    Set.countable_empty (logit_injOn hT.ne')
    (fun y hy => ((hasDerivAt_logit hy.1.1 hy.1.2).const_mul (1 / T)).hasDerivWithinAt)
    (fun y hy => logit_abs_deriv hT hy.1.1 hy.1.2)
  rw [logit_image_Ioo hT.ne', Measure.restrict_univ] at h
  exact h

/-- **C03, `Logit` stage**: data on `(0,1)`, `Logit` with temperature `T > 0`, ANY base on ℝ that integrates to one (Gaussian, MoG, …):
    `exp (base.log_prob (logit y / T) + logabsdet y)` integrates to one over `(0,1)` -/
theorem logit_flow_normalised {T : ℝ} (hT : 0 < T) (blp : ℝ → ℝ) (hp : ∫ z, Real.exp (blp z) = 1) :
    ∫ y in Set.Ioo (0:ℝ) 1, Real.exp (blp (1 / T * logit y) + logitLd T y) = 1 := by
  simp_rw [Real.exp_add]
  rw [← logit_change_of_variables hT (fun z => Real.exp (blp z)), hp]

/-- the EXECUTED `Logit.forward` (`sigmoidT … true`) returns exactly this value and this log-det strictly inside the clamp
    `[ε̂, 1 − ε̂]` and within the softplus thresholds (`|logit y| ≤ 20`, automatic for `ε̂ ≥ 2.1·10⁻⁹`).  Outside it CLAMPS (constant
    value, finite log-det: `NonlinExec.sigmoidT_inv_flat_lo`), so the executed `Logit` flow density is a declared approximation on
    `(0, ε̂) ∪ (1 − ε̂, 1)` -/
theorem logit_executed_eq {e : Float → ℝ} {T : ℝ} {eps : Float} {y : ℝ} (hc : SigmoidClamp e eps) (hT : T ≠ 0)
    (hlo : e eps ≤ y) (hhi : y ≤ e (1 - eps)) (hthr : |logit y| ≤ 20) :
    sigmoidT (NF.realX e) T eps true y = .ok (1 / T * logit y, logitLd T y) := by
  have h0 : 0 < y := by linarith [hc.hlo]
  have h1 : y < 1 := by linarith [hc.hhi]
  rw [sigmoidT_inv_run e T eps h0.le h1.le]
  have hcl : clampR (e eps) (e (1 - eps)) y = y := by
    unfold clampR; rw [max_eq_left hlo, min_eq_left hhi]
  have hx : T * (1 / T * logit y) = logit y := by field_simp
  rw [hcl, hx, sigLd_eq_ideal T hthr, sigLdIdeal_logit h0 h1]
  rfl

example (e : Float → ℝ) :
    ∫ y in Set.Ioo (0:ℝ) 1, Real.exp (Density.stdNormalRow (NF.realX e) 1 [1 / 1 * logit y] + logitLd 1 y) = 1 :=
  logit_flow_normalised one_pos (fun z => Density.stdNormalRow (NF.realX e) 1 [z]) (Properties.C03.stdNormal1_exec_normalised e)

/-! ## 2. ANY normalised base in place of the Gaussian; the MADE mixture of Gaussians -/

open Properties.C03

/-- the hypothesis bundle of the n-D theorems (`Properties.C03.DiffeoN`) on an unconditional model flow `FlowFns0`: `tfwd` a
    bijection of ℝⁿ, Fréchet differentiable, `|det tfwd'| = exp ld` (C01 + C02 + C09 of the transform at hand) -/
structure DiffeoFlow {n : ℕ} (f : FlowFns0 (Fin n → ℝ) (Fin n → ℝ) ℝ)
    (T' : (Fin n → ℝ) → ((Fin n → ℝ) →L[ℝ] (Fin n → ℝ))) : Prop where
  hadd : ∀ a b, f.add a b = a + b
  hbij : Function.Bijective f.tfwd
  hd : ∀ x, HasFDerivAt f.tfwd (T' x) x
  habs : ∀ x, |(T' x).det| = Real.exp (f.ld x)

/-- **C03 with ANY base**: no measurability, sign or shape condition on the base log-density `f.blp` beyond `∫ exp (blp) = 1` -/
theorem flow_normalised_any_base {n : ℕ} (f : FlowFns0 (Fin n → ℝ) (Fin n → ℝ) ℝ)
    (T' : (Fin n → ℝ) → ((Fin n → ℝ) →L[ℝ] (Fin n → ℝ))) (h : DiffeoFlow f T')
    (hbase : ∫ z, Real.exp (f.blp z) = 1) :
    ∫ x, Real.exp (flowLogProb0 f x) = 1 := by
  have := ChangeOfVar.flow_normalised_nd f.tfwd T' f.ld (fun z => Real.exp (f.blp z)) h.hbij h.hd h.habs hbase
  simpa only [flowLogProb0, h.hadd, Real.exp_add] using this

/-- the model flow assembled from a program of library parts and a base log-density (`tinv` by choice: the parts are bijections) -/
def progFlow {n : ℕ} (parts : List (DiffeoN n)) (blp : (Fin n → ℝ) → ℝ) : FlowFns0 (Fin n → ℝ) (Fin n → ℝ) ℝ where
  tinv := Function.invFun (progN parts).T
  ldInv z := -(progN parts).ld (Function.invFun (progN parts).T z)
  tfwd := (progN parts).T
  ld := (progN parts).ld
  blp := blp
  add := (· + ·)
  sub := (· - ·)

theorem progFlow_diffeoFlow {n : ℕ} (parts : List (DiffeoN n)) (blp : (Fin n → ℝ) → ℝ) :
    DiffeoFlow (progFlow parts blp) (progN parts).T' where
  hadd := fun _ _ => rfl
  hbij := (progN parts).bij
  hd := (progN parts).deriv
  habs := (progN parts).ld_eq

theorem flow_normalised_any_base_prog {n : ℕ} (parts : List (DiffeoN n)) (blp : (Fin n → ℝ) → ℝ)
    (hbase : ∫ z, Real.exp (blp z) = 1) :
    ∫ x, Real.exp (flowLogProb0 (progFlow parts blp) x) = 1 :=
  flow_normalised_any_base _ _ (progFlow_diffeoFlow parts blp) hbase

/-- `MixtureOfGaussiansMADE.log_prob` of one row (made.py:340-352): the sum over the features of the executed conditional
    `mogFeature`, whose parameters `lg i`, `μ i`, `u i` (MADE outputs for feature `i`) are functions of the prefix `x_{<i}` -/
def mogLogp (e : Float → ℝ) (eps : ℝ) {M : ℕ} (lg μ u : (i : ℕ) → (Fin i → ℝ) → Fin M → ℝ) {D : ℕ} (x : Fin D → ℝ) : ℝ :=
  ∑ i : Fin D, Density.mogFeature (NF.realX e) eps (List.ofFn (lg i (AutoregDensity.pre x i)))
    (List.ofFn (μ i (AutoregDensity.pre x i))) (List.ofFn (u i (AutoregDensity.pre x i))) (x i)

theorem range_map_eq_ofFn {β : Type} (D : ℕ) (g : ℕ → β) : (List.range D).map g = List.ofFn (fun i : Fin D => g i) := by
  rw [List.ofFn_eq_map, ← List.map_coe_finRange_eq_range, List.map_map]
  rfl

/-- **`mogLogp` IS the executed row program `Density.mogRow`** (`MixtureOfGaussiansMADE.log_prob`, made.py:330-352) whenever the flat
    MADE output row `out` (layout `(F, M, 3)`) holds, for feature `i`, the logits / means / unconstrained stds `lg i`, `μ i`, `u i`
    of the prefix `x_{<i}` (the autoregressive property, C06) -/
theorem mogRow_eq_mogLogp (e : Float → ℝ) (eps : ℝ) {M D : ℕ} (lg μ u : (i : ℕ) → (Fin i → ℝ) → Fin M → ℝ)
    (x : Fin D → ℝ) (out : List ℝ)
    (h0 : ∀ i : Fin D, Density.mogColumn M out i 0 0 = List.ofFn (lg i (AutoregDensity.pre x i)))
    (h1 : ∀ i : Fin D, Density.mogColumn M out i 1 0 = List.ofFn (μ i (AutoregDensity.pre x i)))
    (h2 : ∀ i : Fin D, Density.mogColumn M out i 2 0 = List.ofFn (u i (AutoregDensity.pre x i))) :
    Density.mogRow (NF.realX e) eps D M out (List.ofFn x) = mogLogp e eps lg μ u x := by
  unfold Density.mogRow mogLogp
  rw [NF.sumG_real, range_map_eq_ofFn, List.sum_ofFn]
  apply Finset.sum_congr rfl
  intro i _
  simp only [NF.realX_zero]
  rw [h0 i, h1 i, h2 i]
  congr 1
  simp

theorem measurable_mogLogp (e : Float → ℝ) (eps : ℝ) {M : ℕ} (hM : 0 < M) (lg μ u : (i : ℕ) → (Fin i → ℝ) → Fin M → ℝ)
    (hlg : ∀ i k, Measurable fun y => lg i y k) (hμ : ∀ i k, Measurable fun y => μ i y k)
    (hu : ∀ i k, Measurable fun y => u i y k) (D : ℕ) :
    Measurable (fun x : Fin D → ℝ => mogLogp e eps lg μ u x) := by
  unfold mogLogp
  refine Finset.measurable_sum _ (fun i _ => ?_)
  have h := DistReal.measurable_mogFeature e hM eps (lg i) (μ i) (u i) (hlg i) (hμ i) (hu i)
  have h2 : Measurable (fun x : Fin D → ℝ => (AutoregDensity.pre x i, x i)) :=
    (AutoregDensity.measurable_pre i).prodMk (measurable_pi_apply i)
  have h3 := h.comp h2
  rw [Function.comp_def] at h3
  exact h3

/-- `Properties.C05.mog_joint_normalised` as a Bochner integral of `exp (log_prob)` -/
theorem mog_base_normalised (e : Float → ℝ) {M : ℕ} (hM : 0 < M) (eps : ℝ) (heps : 0 < eps)
    (lg μ u : (i : ℕ) → (Fin i → ℝ) → Fin M → ℝ)
    (hlg : ∀ i k, Measurable fun y => lg i y k) (hμ : ∀ i k, Measurable fun y => μ i y k)
    (hu : ∀ i k, Measurable fun y => u i y k) (D : ℕ) :
    ∫ x : Fin D → ℝ, Real.exp (mogLogp e eps lg μ u x) = 1 := by
  have hL := Properties.C05.mog_joint_normalised e hM eps heps lg μ u hlg hμ hu D
  have hmeas := measurable_mogLogp e eps hM lg μ u hlg hμ hu D
  rw [integral_eq_lintegral_of_nonneg_ae (Filter.Eventually.of_forall fun x => (Real.exp_pos _).le)
    (Real.measurable_exp.comp hmeas).aestronglyMeasurable]
  have hprod : ∀ x : Fin D → ℝ, ENNReal.ofReal (Real.exp (mogLogp e eps lg μ u x))
      = ∏ i : Fin D, ENNReal.ofReal (Real.exp (Density.mogFeature (NF.realX e) eps
          (List.ofFn (lg i (AutoregDensity.pre x i))) (List.ofFn (μ i (AutoregDensity.pre x i)))
          (List.ofFn (u i (AutoregDensity.pre x i))) (x i))) := by
    intro x
    unfold mogLogp
    rw [Real.exp_sum, ENNReal.ofReal_prod_of_nonneg (fun i _ => (Real.exp_pos _).le)]
  simp_rw [hprod]
  rw [hL]; simp

/-- **C03 with a `MADEMoG` base**: every program of library transforms of ℝᴰ followed by the autoregressive mixture of Gaussians
    (any number of components `M ≥ 1`, any `ε > 0`, MADE outputs measurable in the prefix) is a normalised density -/
theorem flow_normalised_mog_base (e : Float → ℝ) {M : ℕ} (hM : 0 < M) (eps : ℝ) (heps : 0 < eps)
    (lg μ u : (i : ℕ) → (Fin i → ℝ) → Fin M → ℝ)
    (hlg : ∀ i k, Measurable fun y => lg i y k) (hμ : ∀ i k, Measurable fun y => μ i y k)
    (hu : ∀ i k, Measurable fun y => u i y k) {D : ℕ} (parts : List (DiffeoN D)) :
    ∫ x, Real.exp (flowLogProb0 (progFlow parts (mogLogp e eps lg μ u)) x) = 1 :=
  flow_normalised_any_base_prog parts _ (mog_base_normalised e hM eps heps lg μ u hlg hμ hu D)

theorem flow_normalised_mog_base' (e : Float → ℝ) {M : ℕ} (hM : 0 < M) (eps : ℝ) (heps : 0 < eps)
    (lg μ u : (i : ℕ) → (Fin i → ℝ) → Fin M → ℝ)
    (hlg : ∀ i k, Measurable fun y => lg i y k) (hμ : ∀ i k, Measurable fun y => μ i y k)
    (hu : ∀ i k, Measurable fun y => u i y k) {D : ℕ} (parts : List (DiffeoN D)) :
    ∫ x, Real.exp (mogLogp e eps lg μ u ((progN parts).T x) + (progN parts).ld x) = 1 :=
  flow_normalised_mog_base e hM eps heps lg μ u hlg hμ hu parts

/-- **the same on the EXECUTED `mogRow`**: `made z` is the flat MADE output row the base computes from the noise row `z`; its
    autoregressive layout (`hlay`) is the only link assumed between the network and the parameter functions -/
theorem flow_normalised_mogRow_base (e : Float → ℝ) {M : ℕ} (hM : 0 < M) (eps : ℝ) (heps : 0 < eps)
    (lg μ u : (i : ℕ) → (Fin i → ℝ) → Fin M → ℝ)
    (hlg : ∀ i k, Measurable fun y => lg i y k) (hμ : ∀ i k, Measurable fun y => μ i y k)
    (hu : ∀ i k, Measurable fun y => u i y k) {D : ℕ} (made : (Fin D → ℝ) → List ℝ)
    (hlay : ∀ (z : Fin D → ℝ) (i : Fin D),
      Density.mogColumn M (made z) i 0 0 = List.ofFn (lg i (AutoregDensity.pre z i)) ∧
      Density.mogColumn M (made z) i 1 0 = List.ofFn (μ i (AutoregDensity.pre z i)) ∧
      Density.mogColumn M (made z) i 2 0 = List.ofFn (u i (AutoregDensity.pre z i)))
    (parts : List (DiffeoN D)) :
    ∫ x, Real.exp (Density.mogRow (NF.realX e) eps D M (made ((progN parts).T x)) (List.ofFn ((progN parts).T x))
        + (progN parts).ld x) = 1 := by
  have h := flow_normalised_mog_base' e hM eps heps lg μ u hlg hμ hu parts
  rw [← h]
  congr 1; funext x
  rw [mogRow_eq_mogLogp e eps lg μ u _ _ (fun i => (hlay _ i).1) (fun i => (hlay _ i).2.1) (fun i => (hlay _ i).2.2)]

theorem logit_mog_flow_normalised (e : Float → ℝ) {M : ℕ} (hM : 0 < M) (eps : ℝ) (heps : 0 < eps) (lg μ u : Fin M → ℝ)
    {T : ℝ} (hT : 0 < T) :
    ∫ y in Set.Ioo (0:ℝ) 1, Real.exp (Density.mogFeature (NF.realX e) eps (List.ofFn lg) (List.ofFn μ) (List.ofFn u)
        (1 / T * logit y) + logitLd T y) = 1 :=
  logit_flow_normalised hT _ (Properties.C05.mog_feature_exec_normalised e hM eps heps lg μ u)

def twoXPlusOne : Diffeo1 := Diffeo1.affine 2 1 two_pos

/-- non-vacuous instance: one feature, two mixture components (logits `0, log 3`, means `−1, 2`, unconstrained stds `0, 1`,
    `ε = 10⁻³`), transform `x ↦ 2x + 1` -/
example (e : Float → ℝ) :
    ∫ x : Fin 1 → ℝ, Real.exp (mogLogp e (1 / 1000) (M := 2) (fun _ _ => ![0, Real.log 3]) (fun _ _ => ![-1, 2])
        (fun _ _ => ![0, 1]) ((progN [FlowWholeND.piDiffeo fun _ => twoXPlusOne]).T x)
        + (progN [FlowWholeND.piDiffeo fun _ => twoXPlusOne]).ld x) = 1 :=
  flow_normalised_mog_base' e (M := 2) (by norm_num) (1 / 1000) (by norm_num) (fun _ _ => ![0, Real.log 3])
    (fun _ _ => ![-1, 2]) (fun _ _ => ![0, 1]) (fun _ _ => measurable_const)
    (fun _ _ => measurable_const) (fun _ _ => measurable_const) [FlowWholeND.piDiffeo fun _ => twoXPlusOne]

/-! ## 3. the embedding network -/

section embedding
variable {Z X C E V : Type}

/-- the flow `g` (whose own contexts are of type `E`) with the embedding network `emb : C → E` put in front, as `Flow.__init__`
    does with `embedding_net` (flows/base.py:31-40) -/
def withEmb (g : FlowFns Z X E E V) (emb : C → E) : FlowFns Z X C E V :=
  { g with emb := fun c => g.emb (emb c) }

theorem flowLogProb1_withEmb (g : FlowFns Z X E E V) (emb : C → E) (x : X) (c : C) :
    flowLogProb1 (withEmb g emb) x c = flowLogProb1 g x (emb c) := rfl

theorem flowLogProb_withEmb (g : FlowFns Z X E E V) (emb : C → E) (xs : List X) (ctx : List C) :
    flowLogProb (withEmb g emb) xs ctx = flowLogProb g xs (ctx.map emb) := by
  unfold flowLogProb
  rw [List.zipWith_map_right]
  rfl

theorem flowSample_withEmb (g : FlowFns Z X E E V) (emb : C → E) (ctx : List C) (n : ℕ) (N : List (List Z)) :
    flowSample (withEmb g emb) ctx n N = flowSample g (ctx.map emb) n N := by
  unfold flowSample
  simp only [List.map_map]
  rfl

theorem flowSalp_withEmb (g : FlowFns Z X E E V) (emb : C → E) (ctx : List C) (n : ℕ) (N : List (List Z)) :
    flowSalp (withEmb g emb) ctx n N = flowSalp g (ctx.map emb) n N := by
  unfold flowSalp
  simp only [List.map_map]
  rfl

theorem flowLogProb1_emb (f : FlowFns Z X C E V) (x : X) (c : C) :
    flowLogProb1 f x c = flowLogProb1 ({ f with emb := id } : FlowFns Z X E E V) x (f.emb c) := rfl

theorem flowLogProbExec_embedding {α : Type} (o : XOps α) (w : ℕ) (emb : ℕ → Array α → Array α) (T : FlowRowsExec.BStage α)
    (base : FlowRowsExec.BaseD α) (B : ℕ) (x ctx : Array α) :
    FlowRowsExec.flowLogProbExec o w emb T base B x ctx
      = FlowRowsExec.flowLogProbExec o w (fun _ a => a) T base B x (emb B ctx) := rfl

/-- **C03 with an embedding network**: if the embedding-free flow `g` is a normalised density (on a support `S e` that may depend
    on the context) for every embedded context value `e`, then with ANY embedding network in front it is a normalised density for
    every raw context row `c` -/
theorem flow_with_embedding_normalised {X : Type} [MeasureSpace X] {Z C E : Type} (g : FlowFns Z X E E ℝ) (emb : C → E)
    (S : E → Set X) (h : ∀ e, ∫ x in S e, Real.exp (flowLogProb1 g x e) = 1) (c : C) :
    ∫ x in S (emb c), Real.exp (flowLogProb1 (withEmb g emb) x c) = 1 :=
  h (emb c)

end embedding

structure CondDiffeoFlow {n : ℕ} {C E : Type} (f : FlowFns (Fin n → ℝ) (Fin n → ℝ) C E ℝ) (e : E)
    (T' : (Fin n → ℝ) → ((Fin n → ℝ) →L[ℝ] (Fin n → ℝ))) : Prop where
  hadd : ∀ a b, f.add a b = a + b
  hbij : Function.Bijective fun x => f.tfwd x e
  hd : ∀ x, HasFDerivAt (fun x => f.tfwd x e) (T' x) x
  habs : ∀ x, |(T' x).det| = Real.exp (f.ld x e)
  hbase : ∫ z, Real.exp (f.blp z e) = 1

theorem cond_flow_normalised {n : ℕ} {C E : Type} (f : FlowFns (Fin n → ℝ) (Fin n → ℝ) C E ℝ) (c : C)
    (T' : (Fin n → ℝ) → ((Fin n → ℝ) →L[ℝ] (Fin n → ℝ))) (h : CondDiffeoFlow f (f.emb c) T') :
    ∫ x, Real.exp (flowLogProb1 f x c) = 1 := by
  rw [show (fun x => Real.exp (flowLogProb1 f x c)) = fun x => Real.exp (flowLogProb0 (FlowPushforward.condFns f c) x) from rfl]
  exact flow_normalised_any_base (FlowPushforward.condFns f c) T'
    { hadd := h.hadd, hbij := h.hbij, hd := h.hd, habs := h.habs } h.hbase

/-- **C03, n-D, with an embedding network**: hypotheses for every embedded value `e`, conclusion for every embedding net and every
    raw context row -/
theorem flow_with_embedding_normalised_nd {n : ℕ} {C E : Type} (g : FlowFns (Fin n → ℝ) (Fin n → ℝ) E E ℝ) (hid : ∀ e, g.emb e = e)
    (T' : E → (Fin n → ℝ) → ((Fin n → ℝ) →L[ℝ] (Fin n → ℝ))) (h : ∀ e, CondDiffeoFlow g e (T' e)) (emb : C → E) (c : C) :
    ∫ x, Real.exp (flowLogProb1 (withEmb g emb) x c) = 1 := by
  have hc : (withEmb g emb).emb c = emb c := hid (emb c)
  apply cond_flow_normalised (withEmb g emb) c (T' (emb c))
  rw [hc]
  have := h (emb c)
  exact { hadd := this.hadd, hbij := this.hbij, hd := this.hd, habs := this.habs, hbase := this.hbase }

def ctxAffine (r : Float → ℝ) : FlowFns ℝ ℝ ℝ ℝ ℝ where
  emb := id
  tinv z c := (z - c) / 2
  ldInv _ _ := -Real.log 2
  tfwd x c := 2 * x + c
  ld _ _ := Real.log 2
  blp z c := Density.stdNormalRow (NF.realX r) 1 [z - c]
  add := (· + ·)
  sub := (· - ·)

theorem ctxAffine_normalised (r : Float → ℝ) (c : ℝ) : ∫ x, Real.exp (flowLogProb1 (ctxAffine r) x c) = 1 := by
  have hbase : ∫ z : ℝ, Real.exp (Density.stdNormalRow (NF.realX r) 1 [z - c]) = 1 := by
    rw [integral_sub_right_eq_self (fun z : ℝ => Real.exp (Density.stdNormalRow (NF.realX r) 1 [z])) c]
    exact Properties.C03.stdNormal1_exec_normalised r
  exact ChangeOfVar.flow_logprob_normalised_1d _ _ (fun z => Density.stdNormalRow (NF.realX r) 1 [z - c])
    (Diffeo1.affine 2 c two_pos).bij (Diffeo1.affine 2 c two_pos).deriv hbase

/-- non-vacuous instance of `flow_with_embedding_normalised`: ANY context type, ANY embedding function into ℝ, any context row -/
example (r : Float → ℝ) (C : Type) (emb : C → ℝ) (c : C) :
    ∫ x, Real.exp (flowLogProb1 (withEmb (ctxAffine r) emb) x c) = 1 := by
  have := flow_with_embedding_normalised (ctxAffine r) emb (fun _ => Set.univ)
    (fun e => by rw [Measure.restrict_univ]; exact ctxAffine_normalised r e) c
  rwa [Measure.restrict_univ] at this

/-! ## 4. coordinate-wise (element-wise) `Sigmoid` / `Logit` layers in n dimensions -/

theorem pi_change_of_variables {n : ℕ} (f f' ld : Fin n → ℝ → ℝ) (S : Fin n → Set ℝ) (hS : ∀ i, MeasurableSet (S i))
    (hinj : ∀ i, Set.InjOn (f i) (S i)) (hd : ∀ i, ∀ x ∈ S i, HasDerivWithinAt (f i) (f' i x) (S i) x)
    (habs : ∀ i, ∀ x ∈ S i, |f' i x| = Real.exp (ld i x)) (p : (Fin n → ℝ) → ℝ) :
    ∫ z in Set.univ.pi (fun i => f i '' S i), p z
      = ∫ x in Set.univ.pi S, p (fun i => f i (x i)) * Real.exp (∑ i, ld i (x i)) := by
  have hm : MeasurableSet (Set.univ.pi S) := MeasurableSet.univ_pi hS
  have hinjP : Set.InjOn (Pi.map f) (Set.univ.pi S) := by
    intro a ha b hb h
    funext i
    exact hinj i (ha i trivial) (hb i trivial) (congrFun h i)
  have hder : ∀ x ∈ Set.univ.pi S,
      HasFDerivWithinAt (Pi.map f) (FlowWholeND.diagCLM fun i => f' i (x i)) (Set.univ.pi S) x := by
    intro x hx
    unfold FlowWholeND.diagCLM
    show HasFDerivWithinAt (fun (x : Fin n → ℝ) i => f i (x i)) _ _ _
    rw [hasFDerivWithinAt_pi]
    intro i
    have h1 : HasFDerivWithinAt (fun v : Fin n → ℝ => v i)
        (ContinuousLinearMap.proj (R := ℝ) (φ := fun _ : Fin n => ℝ) i) (Set.univ.pi S) x :=
      hasFDerivWithinAt_apply i x _
    -- the inner function is named: left to unification, `x i =?= ?f x` is only solved after a long failed attempt
    exact HasDerivWithinAt.comp_hasFDerivWithinAt (f := fun v : Fin n → ℝ => v i) x (hd i (x i) (hx i trivial)) h1
      (fun v hv => hv i trivial)
  rw [← Set.piMap_image_univ_pi]
  refine Pushforward.integral_image_nd (Pi.map f) _ (fun x => ∑ i, ld i (x i)) p _ hm hinjP hder (fun x hx => ?_)
  rw [FlowWholeND.diagCLM_det, Finset.abs_prod, Real.exp_sum,
    Finset.prod_congr rfl (fun i _ => habs i (x i) (hx i trivial))]

/-- **C03, element-wise `Sigmoid` layer (per-coordinate temperatures `T i > 0`) onto the open unit cube, any base normalised there** -/
theorem sigmoid_flow_normalised_nd {n : ℕ} (T : Fin n → ℝ) (hT : ∀ i, 0 < T i) (blp : (Fin n → ℝ) → ℝ)
    (hp : ∫ z in Set.univ.pi (fun _ : Fin n => Set.Ioo (0:ℝ) 1), Real.exp (blp z) = 1) :
    ∫ x : Fin n → ℝ, Real.exp (blp (fun i => gate (T i * x i)) + ∑ i, sigLdIdeal (T i) (T i * x i)) = 1 := by
  have h := pi_change_of_variables (fun i x => gate (T i * x)) (fun i x => Real.exp (sigLdIdeal (T i) (T i * x)))
    (fun i x => sigLdIdeal (T i) (T i * x)) (fun _ => Set.univ) (fun _ => MeasurableSet.univ)
    (fun i => (sigmoid_injective (hT i).ne').injOn) (fun i x _ => (hasDerivAt_gate (hT i) x).hasDerivWithinAt)
    (fun i x _ => abs_of_pos (Real.exp_pos _)) (fun z => Real.exp (blp z))
  simp only [sigmoid_image_univ (hT _).ne', Set.pi_univ, Measure.restrict_univ] at h
  simp_rw [Real.exp_add]
  rw [← h, hp]

/-- **C03, element-wise `Logit` layer on the open unit cube, ANY base normalised on ℝⁿ** (Gaussian, MADE-MoG, …) -/
theorem logit_flow_normalised_nd {n : ℕ} (T : Fin n → ℝ) (hT : ∀ i, 0 < T i) (blp : (Fin n → ℝ) → ℝ)
    (hp : ∫ z, Real.exp (blp z) = 1) :
    ∫ y in Set.univ.pi (fun _ : Fin n => Set.Ioo (0:ℝ) 1),
      Real.exp (blp (fun i => 1 / T i * logit (y i)) + ∑ i, logitLd (T i) (y i)) = 1 := by
  have h := pi_change_of_variables (fun i y => 1 / T i * logit y) (fun i y => 1 / T i * (1 / (y * (1 - y))))
    (fun i y => logitLd (T i) y) (fun _ => Set.Ioo 0 1) (fun _ => measurableSet_Ioo)
    (fun i => logit_injOn (hT i).ne')
    (fun i y hy => ((hasDerivAt_logit hy.1 hy.2).const_mul (1 / T i)).hasDerivWithinAt)
    (fun i y hy => logit_abs_deriv (hT i) hy.1 hy.2) (fun z => Real.exp (blp z))
  simp only [logit_image_Ioo (hT _).ne', Set.pi_univ, Measure.restrict_univ] at h
  simp_rw [Real.exp_add]
  rw [← h, hp]

/-- **data on the open unit cube, an element-wise `Logit` layer, then ANY program of library transforms of ℝⁿ, then ANY normalised base**
    (the usual image-data pipeline): `exp (log_prob)` integrates to one over the cube; log-dets add as `CompositeTransform` does -/
theorem logit_then_prog_flow_normalised {n : ℕ} (T : Fin n → ℝ) (hT : ∀ i, 0 < T i) (parts : List (DiffeoN n))
    (blp : (Fin n → ℝ) → ℝ) (hp : ∫ z, Real.exp (blp z) = 1) :
    ∫ y in Set.univ.pi (fun _ : Fin n => Set.Ioo (0:ℝ) 1),
      Real.exp (blp ((progN parts).T fun i => 1 / T i * logit (y i))
        + (∑ i, logitLd (T i) (y i) + (progN parts).ld fun i => 1 / T i * logit (y i))) = 1 := by
  have h := logit_flow_normalised_nd T hT (fun z => blp ((progN parts).T z) + (progN parts).ld z)
    (FlowWholeND.flow_logprob_normalised_progN parts blp hp)
  refine Eq.trans ?_ h
  congr 1; funext y
  congr 1; ring

theorem logit_stdNormal_flow_normalised_nd (e : Float → ℝ) {n : ℕ} (T : Fin n → ℝ) (hT : ∀ i, 0 < T i) :
    ∫ y in Set.univ.pi (fun _ : Fin n => Set.Ioo (0:ℝ) 1),
      Real.exp (Density.stdNormalRow (NF.realX e) n (List.ofFn fun i => 1 / T i * logit (y i)) + ∑ i, logitLd (T i) (y i)) = 1 :=
  logit_flow_normalised_nd T hT (fun z => Density.stdNormalRow (NF.realX e) n (List.ofFn z))
    (Properties.C05.stdNormal_normalised e n)

theorem logit_mog_flow_normalised_nd (e : Float → ℝ) {M : ℕ} (hM : 0 < M) (eps : ℝ) (heps : 0 < eps)
    (lg μ u : (i : ℕ) → (Fin i → ℝ) → Fin M → ℝ)
    (hlg : ∀ i k, Measurable fun y => lg i y k) (hμ : ∀ i k, Measurable fun y => μ i y k)
    (hu : ∀ i k, Measurable fun y => u i y k) {n : ℕ} (T : Fin n → ℝ) (hT : ∀ i, 0 < T i) :
    ∫ y in Set.univ.pi (fun _ : Fin n => Set.Ioo (0:ℝ) 1),
      Real.exp (mogLogp e eps lg μ u (fun i => 1 / T i * logit (y i)) + ∑ i, logitLd (T i) (y i)) = 1 :=
  logit_flow_normalised_nd T hT _ (mog_base_normalised e hM eps heps lg μ u hlg hμ hu n)

/-- element-wise `Sigmoid` followed by the executed `BoxUniform(0,1)ⁿ`: the support test always passes, the uniform
    log-density is `0`, and the density `exp (Σ logabsdet)` integrates to one over ℝⁿ -/
theorem sigmoid_uniform_flow_normalised_nd (e : Float → ℝ) {n : ℕ} (T : Fin n → ℝ) (hT : ∀ i, 0 < T i) :
    ∫ x : Fin n → ℝ, (if Density.insideBox (NF.realX e) (List.ofFn fun _ : Fin n => (0:ℝ)) (List.ofFn fun _ : Fin n => (1:ℝ))
          (List.ofFn fun i => gate (T i * x i)) = true
        then Real.exp (Density.boxUniformRow (NF.realX e) (List.ofFn fun _ : Fin n => (0:ℝ)) (List.ofFn fun _ : Fin n => (1:ℝ))
          (List.ofFn fun i => gate (T i * x i)) + ∑ i, sigLdIdeal (T i) (T i * x i)) else 0) = 1 := by
  have hin : ∀ x : Fin n → ℝ, ∀ i, (0:ℝ) ≤ gate (T i * x i) ∧ gate (T i * x i) < 1 :=
    fun x i => ⟨(gate_pos _).le, gate_lt_one _⟩
  have hfac : ∀ x : Fin n → ℝ, (if Density.insideBox (NF.realX e) (List.ofFn fun _ : Fin n => (0:ℝ))
          (List.ofFn fun _ : Fin n => (1:ℝ)) (List.ofFn fun i => gate (T i * x i)) = true
        then Real.exp (Density.boxUniformRow (NF.realX e) (List.ofFn fun _ : Fin n => (0:ℝ)) (List.ofFn fun _ : Fin n => (1:ℝ))
          (List.ofFn fun i => gate (T i * x i)) + ∑ i, sigLdIdeal (T i) (T i * x i)) else 0)
      = ∏ i, Real.exp (sigLdIdeal (T i) (T i * x i)) := by
    intro x
    rw [if_pos ((DistReal.insideBox_real e _ _ _).mpr (hin x)), DistReal.boxUniformRow_real e _ _ _ (hin x), ← Real.exp_sum]
    simp only [sub_zero, Real.log_one, Finset.sum_const_zero, neg_zero, zero_add]
  simp_rw [hfac]
  rw [integral_fintype_prod_volume_eq_prod (fun i (t : ℝ) => Real.exp (sigLdIdeal (T i) (T i * t)))]
  apply Finset.prod_eq_one
  intro i _
  have := sigmoid_flow_normalised (hT i) (fun _ => 0) (by simp)
  simpa using this

/-! ## 5. supplements: the executed `mogRow` instance; the executed `Sigmoid` log-det over the whole line -/

/-- non-vacuous instance of `flow_normalised_mogRow_base`: the flat MADE row `[0, −1, 0, log 3, 2, 1]` (one feature, two components) -/
example (e : Float → ℝ) :
    ∫ x : Fin 1 → ℝ, Real.exp (Density.mogRow (NF.realX e) (1 / 1000) 1 2 [0, -1, 0, Real.log 3, 2, 1]
        (List.ofFn ((progN [FlowWholeND.piDiffeo fun _ => twoXPlusOne]).T x))
        + (progN [FlowWholeND.piDiffeo fun _ => twoXPlusOne]).ld x) = 1 :=
  flow_normalised_mogRow_base e (M := 2) (by norm_num) (1 / 1000) (by norm_num) (fun _ _ => ![0, Real.log 3])
    (fun _ _ => ![-1, 2]) (fun _ _ => ![0, 1]) (fun _ _ => measurable_const)
    (fun _ _ => measurable_const) (fun _ _ => measurable_const) (fun _ => [0, -1, 0, Real.log 3, 2, 1])
    (fun z i => by
      have hi : i = 0 := Subsingleton.elim _ _
      subst hi
      exact ⟨rfl, rfl, rfl⟩)
    [FlowWholeND.piDiffeo fun _ => twoXPlusOne]

/-- `NonlinExec.spT` and `DistReal.softplusT` are the same function -/
theorem measurable_spT : Measurable spT := DistReal.measurable_softplusT

theorem sigLd_sub_ideal_nonneg (T z : ℝ) : 0 ≤ sigLd T z - sigLdIdeal T z ∧ sigLd T z - sigLdIdeal T z ≤ Real.exp (-20) := by
  by_cases h : |z| ≤ 20
  · rw [sigLd_eq_ideal T h]; simp [(Real.exp_pos _).le]
  · rw [not_le] at h
    rw [sigLd_gap T h]
    constructor
    · linarith [gap_pos z]
    · linarith [gap_le h]

/-- **the EXECUTED `Sigmoid` flow (thresholded softplus in the log-det) over the whole line**: `exp (log_prob)` integrates to a
    number in `[1, exp (e⁻²⁰)]` (`exp (e⁻²⁰) − 1 ≈ 2.1·10⁻⁹`) — normalised up to the declared softplus approximation, not exactly -/
theorem sigmoid_executed_flow_almost_normalised (e : Float → ℝ) {T : ℝ} (hT : 0 < T) (eps : Float) (blp : ℝ → ℝ)
    (hp : ∫ z in Set.Ioo (0:ℝ) 1, Real.exp (blp z) = 1) :
    1 ≤ ∫ x, Real.exp (sigmoidExecLogProb e T eps blp x) ∧
      ∫ x, Real.exp (sigmoidExecLogProb e T eps blp x) ≤ Real.exp (Real.exp (-20)) := by
  have hF := sigmoid_flow_normalised hT blp hp
  have hFi : Integrable (fun x => Real.exp (blp (gate (T * x)) + sigLdIdeal T (T * x))) := integrable_of_integral_eq_one hF
  have hG : ∀ x, Real.exp (sigmoidExecLogProb e T eps blp x)
      = Real.exp (blp (gate (T * x)) + sigLdIdeal T (T * x)) * Real.exp (sigLd T (T * x) - sigLdIdeal T (T * x)) := by
    intro x
    rw [sigmoidExecLogProb_eq, ← Real.exp_add]; congr 1; ring
  have hgm : Measurable (fun x : ℝ => Real.exp (sigLd T (T * x) - sigLdIdeal T (T * x))) := by
    apply Real.measurable_exp.comp
    have hm : Measurable (fun x : ℝ => T * x) := measurable_const.mul measurable_id
    have h1 : Measurable (fun z => sigLd T z) := by
      unfold sigLd
      exact (measurable_const.sub (measurable_spT.comp measurable_neg)).sub measurable_spT
    have h2 : Measurable (fun z => sigLdIdeal T z) := by
      unfold sigLdIdeal
      fun_prop
    exact (h1.comp hm).sub (h2.comp hm)
  have hGi : Integrable (fun x => Real.exp (sigmoidExecLogProb e T eps blp x)) := by
    simp_rw [hG]
    refine hFi.mul_bdd (c := Real.exp (Real.exp (-20))) hgm.aestronglyMeasurable (Filter.Eventually.of_forall fun x => ?_)
    rw [Real.norm_eq_abs, abs_of_pos (Real.exp_pos _)]
    exact Real.exp_le_exp.mpr (sigLd_sub_ideal_nonneg T _).2
  constructor
  · rw [← hF]
    apply integral_mono hFi hGi
    intro x
    show _ ≤ Real.exp (sigmoidExecLogProb e T eps blp x)
    rw [hG]
    have h1 : 1 ≤ Real.exp (sigLd T (T * x) - sigLdIdeal T (T * x)) := Real.one_le_exp (sigLd_sub_ideal_nonneg T _).1
    exact le_mul_of_one_le_right (Real.exp_pos _).le h1
  · have : ∫ x, Real.exp (blp (gate (T * x)) + sigLdIdeal T (T * x)) * Real.exp (Real.exp (-20)) = Real.exp (Real.exp (-20)) := by
      rw [integral_mul_const, hF, one_mul]
    rw [← this]
    apply integral_mono hGi (hFi.mul_const _)
    intro x
    show Real.exp (sigmoidExecLogProb e T eps blp x) ≤ _
    rw [hG]
    exact mul_le_mul_of_nonneg_left (Real.exp_le_exp.mpr (sigLd_sub_ideal_nonneg T _).2) (Real.exp_pos _).le

end
end FlowMore

/-! ## 6. `Logit` as a flow on supports: it meets the hypotheses `FlowPushforward.Flow0On` -/

namespace FlowPushforward
open NonlinExec

/-- bounded support: nflows' `Logit` as the forward transform, data on `(0,1)`, noise on ℝ:
    `tfwd x = log x − log (1 − x)`, `tinv = sigmoid`, `ld x = −log x − log (1 − x)` -/
noncomputable def logitFlow : FlowFns0 ℝ ℝ ℝ where
  tinv z := 1 / (1 + Real.exp (-z))
  ldInv z := Real.log (1 / (1 + Real.exp (-z))) + Real.log (1 - 1 / (1 + Real.exp (-z)))
  tfwd x := Real.log x - Real.log (1 - x)
  ld x := - Real.log x - Real.log (1 - x)
  blp z := -z ^ 2 / 2
  add := (· + ·)
  sub := (· - ·)

theorem logit_flow0On : Flow0On logitFlow (Set.Ioo 0 1) Set.univ ∅ (fun x => 1 / (x * (1 - x))) where
  hadd := fun _ _ => rfl
  hS := measurableSet_Ioo
  hK := Set.countable_empty
  hfwd := fun _ _ => trivial
  hinv := fun z _ => ⟨gate_pos z, gate_lt_one z⟩
  hl := fun _ hx => gate_logit hx.1 hx.2
  hr := fun z _ => logit_gate z
  hd := fun _ hx => (hasDerivAt_logit hx.1.1 hx.1.2).hasDerivWithinAt
  habs := fun x hx => by
    have h := FlowMore.logit_abs_deriv one_pos hx.1.1 hx.1.2
    rwa [one_div_one, one_mul, FlowMore.logitLd, Real.log_one, zero_add, neg_add'] at h

/-- … hence samples `sigmoid (noise)` have the density `exp (flowLogProb0 logitFlow)` on `(0,1)` -/
theorem logit_example (A : Set ℝ) (hA : MeasurableSet A) :
    ∫ z in (fun z => 1 / (1 + Real.exp (-z))) ⁻¹' A, Real.exp (-z ^ 2 / 2)
      = ∫ x in A ∩ Set.Ioo 0 1, Real.exp (flowLogProb0 logitFlow x) := by
  have := flow0_samples_follow_logprob_on logitFlow _ _ _ _ logit_flow0On A hA
  rwa [Set.inter_univ] at this

end FlowPushforward
