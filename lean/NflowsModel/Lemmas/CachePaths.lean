import NflowsModel.Lemmas.LinearFresh
import NflowsModel.Core.Cache
/-!
# Lemmas/CachePaths — the cached and the uncached code paths of the linear family agree IN VALUE

`Core/Cache.lean` (property C10) abstracts tensors to version tags and assumes that a slot holds the accessor's value and that
`F.linear` with the cached matrices computes what `forward_no_cache` / `inverse_no_cache` compute.  Here that is proved of the
EXECUTED list programs of `Core/LinearFamily.lean`: the cached branches of `Linear.forward` / `Linear.inverse`
(linear.py:46-51, 65-70) and `_check_forward_cache` / `_check_inverse_cache` (linear.py:55-63, 74-85) on VALUE slots; for every
layer that `LinearBridge.Denotes` an affine map over ℝ (`Denotes.cache_paths`; LU, QR, SVD with constructor shapes, `eps ≥ 0`, no zero
q-vector in `Properties/C10V`), on rows of length `n`, both cached passes equal the uncached ones and the log-abs-det slot is `log|det|` of the cached weight, MINUS it of the cached inverse; these classes do not override the
combined routines (linear.py:108-116), so "combined = separate" is the definition.  For `NaiveLinear`, at any scalar semantics,
the cached paths read the same Gauss–Jordan elimination as the uncached ones (that it computes `W⁻¹` and `log|det W|` over ℝ is
`Lemmas/NaiveGauss`).  `OneByOneConvolution` calls `LULinear` on the pixel rows; `denote_current` composes the version-level
conclusion of C10 with these value-level theorems.

Not covered: floating-point agreement of the two paths (`x (L U)ᵀ` vs `(x Uᵀ) Lᵀ` round differently; agreement up to rounding is
the harness's tolerance); the log-abs-det VECTORS `ld * ones(B)` of the cached branches (`cachedForward` / `cachedInverse` return outputs only; the scalar slot
is covered, and the vectors the uncached passes return are in `Lemmas/LinearRows`).
-/
open NF.LF DualSound Matrix LinearBridge

namespace NF.CachePaths

/-! ## the cached branches, any scalar semantics -/
section model
variable {α : Type} (o : Ops α)

/-- `Linear.forward`, cached branch (linear.py:47-51): `F.linear(inputs, cache.weight, bias)` -/
def cachedForward (W : List (List α)) (b : List α) (X : List (List α)) : List (List α) := linear o W b X

/-- `Linear.inverse`, cached branch (linear.py:66-70): `F.linear(inputs - bias, cache.inverse)` -/
def cachedInverse (Winv : List (List α)) (b : List α) (X : List (List α)) : List (List α) :=
  linear0 o Winv (X.map (fun x => subV o x b))

/-- the five abstract methods of `Linear` (linear.py:118-137) plus the bias, and the two combined routines -/
structure Accessors (α : Type) where
  weight : List (List α)
  weightInverse : List (List α)
  logabsdet : α
  bias : List α
  forwardNoCache : List (List α) → List (List α)
  inverseNoCache : List (List α) → List (List α)
  /-- `weight_and_logabsdet()` -/
  combinedW : List (List α) × α := (weight, logabsdet)
  /-- `weight_inverse_and_logabsdet()` -/
  combinedInv : List (List α) × α := (weightInverse, logabsdet)

/-- `_check_forward_cache` / `_check_inverse_cache` on value slots (linear.py:55-63, 74-85): both empty → the combined
    routine; one empty → the separate accessor; returns the two slots after the check -/
def checkCache (combined : List (List α) × α) (single : List (List α)) (ld : α)
    (cM : Option (List (List α))) (cLd : Option α) : List (List α) × α :=
  match cM, cLd with
  | none, none => combined
  | none, some l => (single, l)
  | some m, none => (m, ld)
  | some m, some l => (m, l)

/-- **cache-fill invariant on values**: if every non-empty slot holds the value of its accessor (what `Core/Cache.lean`
    calls "computed from the current version") and the combined routine returns the pair of the separate accessors, the
    slots after the check are the separate accessors -/
theorem checkCache_eq (combined : List (List α) × α) (single : List (List α)) (ld : α)
    (cM : Option (List (List α))) (cLd : Option α) (hc : combined = (single, ld))
    (hM : ∀ m, cM = some m → m = single) (hL : ∀ l, cLd = some l → l = ld) :
    checkCache combined single ld cM cLd = (single, ld) := by
  cases cM with
  | none => cases cLd with
    | none => exact hc
    | some l => simp [checkCache, hL l rfl]
  | some m => cases cLd with
    | none => simp [checkCache, hM m rfl]
    | some l => simp [checkCache, hM m rfl, hL l rfl]

/-- the accessors of `LULinear` (lu.py); the combined routines are the base-class defaults (not overridden) -/
def luAcc (p : LUParams α) : Accessors α :=
  { weight := luWeight o p, weightInverse := luWeightInverse o p, logabsdet := luLogabsdet o p, bias := p.bias,
    forwardNoCache := luForward o p, inverseNoCache := luInverse o p }
/-- the accessors of `QRLinear` (qr.py) -/
def qrAcc (p : QRParams α) : Accessors α :=
  { weight := qrWeight o p, weightInverse := qrWeightInverse o p, logabsdet := qrLogabsdet o p, bias := p.bias,
    forwardNoCache := qrForward o p, inverseNoCache := qrInverse o p }
/-- the accessors of `SVDLinear` (svd.py) -/
def svdAcc (p : SVDParams α) : Accessors α :=
  { weight := svdWeight o p, weightInverse := svdWeightInverse o p, logabsdet := svdLogabsdet o p, bias := p.bias,
    forwardNoCache := svdForward o p, inverseNoCache := svdInverse o p }

/-- **value transparency of the cache for one set of accessors on a batch `X`**: whatever the slots held (empty, or the
    accessor values), the cached forward / inverse passes return the outputs of the uncached passes, and the log-abs-det
    slot they read is `logabsdet()` -/
structure ValueTransparent (A : Accessors α) (X : List (List α)) : Prop where
  combinedW_eq : A.combinedW = (A.weight, A.logabsdet)
  combinedInv_eq : A.combinedInv = (A.weightInverse, A.logabsdet)
  forward_eq : ∀ cM cLd, (∀ m, cM = some m → m = A.weight) → (∀ l, cLd = some l → l = A.logabsdet) →
    cachedForward o (checkCache A.combinedW A.weight A.logabsdet cM cLd).1 A.bias X = A.forwardNoCache X ∧
    (checkCache A.combinedW A.weight A.logabsdet cM cLd).2 = A.logabsdet
  inverse_eq : ∀ cM cLd, (∀ m, cM = some m → m = A.weightInverse) → (∀ l, cLd = some l → l = A.logabsdet) →
    cachedInverse o (checkCache A.combinedInv A.weightInverse A.logabsdet cM cLd).1 A.bias X = A.inverseNoCache X ∧
    (checkCache A.combinedInv A.weightInverse A.logabsdet cM cLd).2 = A.logabsdet

theorem valueTransparent_of (A : Accessors α) (X : List (List α))
    (hW : A.combinedW = (A.weight, A.logabsdet)) (hI : A.combinedInv = (A.weightInverse, A.logabsdet))
    (hf : cachedForward o A.weight A.bias X = A.forwardNoCache X)
    (hi : cachedInverse o A.weightInverse A.bias X = A.inverseNoCache X) : ValueTransparent o A X := by
  refine ⟨hW, hI, fun cM cLd hM hL => ?_, fun cM cLd hM hL => ?_⟩
  · rw [checkCache_eq _ _ _ cM cLd hW hM hL]; exact ⟨hf, rfl⟩
  · rw [checkCache_eq _ _ _ cM cLd hI hM hL]; exact ⟨hi, rfl⟩

theorem cachedForward_rowwise (W : List (List α)) (b : List α) :
    LinearJacobian.RowWise (cachedForward o W b) (LinearJacobian.naiveRow o W b) := fun _ => rfl
theorem cachedInverse_rowwise (W : List (List α)) (b : List α) :
    LinearJacobian.RowWise (cachedInverse o W b) (fun x => matVec o W (subV o x b)) := fun X => by
  simp [cachedInverse, linear0, List.map_map, Function.comp_def]

end model

/-! ## over the reals: `F.linear` with a matrix and its inverse -/
section real
variable {n : ℕ}

theorem cachedInverse_row (Winv : Matrix (Fin n) (Fin n) ℝ) (b : List ℝ) (hb : b.length = n) (y : Fin n → ℝ) :
    cachedInverse realOps (ofMat Winv) b [List.ofFn y] = [List.ofFn (Winv *ᵥ (y - vecFn n b))] := by
  unfold cachedInverse linear0
  simp only [List.map_cons, List.map_nil]
  rw [subV_list _ _ hb, matVec_ofMat]
  rfl

theorem forward_paths_agree (b : List ℝ) (hb : b.length = n) (Wl : List (List ℝ)) (fwd : List (List ℝ) → List (List ℝ))
    {g : List ℝ → List ℝ} (hR : LinearJacobian.RowWise fwd g) (W : Matrix (Fin n) (Fin n) ℝ) (hW : Wl = ofMat W)
    (hg : ∀ x : Fin n → ℝ, g (List.ofFn x) = List.ofFn (W *ᵥ x + vecFn n b))
    (X : List (List ℝ)) (hX : ∀ x ∈ X, x.length = n) : cachedForward realOps Wl b X = fwd X := by
  apply LinearJacobian.RowWise.congr_rows (cachedForward_rowwise realOps Wl b) hR
  intro x hx
  rw [list_eq_ofFn x (hX x hx), hW, hR.singleton, hg, (cachedForward_rowwise realOps _ b).singleton, naiveRow_executed W b hb]

theorem inverse_paths_agree (b : List ℝ) (hb : b.length = n) (Wil : List (List ℝ)) (inv : List (List ℝ) → List (List ℝ))
    {gi : List ℝ → List ℝ} (hR : LinearJacobian.RowWise inv gi) (Winv : Matrix (Fin n) (Fin n) ℝ) (hWi : Wil = ofMat Winv)
    (hgi : ∀ y : Fin n → ℝ, gi (List.ofFn y) = List.ofFn (Winv *ᵥ (y - vecFn n b)))
    (X : List (List ℝ)) (hX : ∀ x ∈ X, x.length = n) : cachedInverse realOps Wil b X = inv X := by
  apply LinearJacobian.RowWise.congr_rows (cachedInverse_rowwise realOps Wil b) hR
  intro x hx
  rw [list_eq_ofFn x (hX x hx), hWi, cachedInverse_row Winv b hb, hR.singleton, hgi]

/-- **the cache of a layer that denotes `x ↦ W x + b` is transparent in value** (all slots, both passes, the log-abs-det scalar
    and its sign), provided the combined routines return the pairs of the separate accessors -/
theorem _root_.LinearBridge.Denotes.cache_paths (A : Accessors ℝ) (hb : A.bias.length = n) {W : Matrix (Fin n) (Fin n) ℝ}
    {g gi : List ℝ → List ℝ} (h : Denotes W (vecFn n A.bias) A.weight A.weightInverse A.logabsdet g gi)
    (hF : LinearJacobian.RowWise A.forwardNoCache g) (hI : LinearJacobian.RowWise A.inverseNoCache gi)
    (hcW : A.combinedW = (A.weight, A.logabsdet)) (hcI : A.combinedInv = (A.weightInverse, A.logabsdet))
    (X : List (List ℝ)) (hX : ∀ x ∈ X, x.length = n) :
    ValueTransparent realOps A X ∧
    ∃ W Winv : Matrix (Fin n) (Fin n) ℝ, A.weight = ofMat W ∧ A.weightInverse = ofMat Winv ∧
      Winv * W = 1 ∧ W * Winv = 1 ∧
      A.logabsdet = Real.log |W.det| ∧ -A.logabsdet = Real.log |Winv.det| :=
  ⟨valueTransparent_of realOps A X hcW hcI (forward_paths_agree A.bias hb _ _ hF W h.weight_eq h.row X hX)
      (inverse_paths_agree A.bias hb _ _ hI W⁻¹ h.winv_eq h.invRow X hX),
    W, W⁻¹, h.weight_eq, h.winv_eq, h.inv_mul, h.mul_inv, h.ld_eq,
    by rw [LinearFamily.log_abs_det_inv, h.ld_eq]⟩

end real

/-! ## LULinear -/

/-- **`F.linear(X, weight(), bias) = forward_no_cache(X)`** for `LULinear`, as executed over ℝ: the single matrix
    product with `L U` against the two triangular products (lu.py:56-68); any parameter values -/
theorem lu_cached_forward (p : LUParams ℝ) (hb : p.bias.length = p.n) (X : List (List ℝ)) (hX : ∀ x ∈ X, x.length = p.n) :
    cachedForward realOps (luWeight realOps p) p.bias X = luForward realOps p X :=
  forward_paths_agree p.bias hb _ _ (LinearJacobian.luForward_rowwise realOps p) (luW p) (luWeight_executed p) (luRow_executed p hb) X hX

/-- **`F.linear(X - bias, weight_inverse()) = inverse_no_cache(X)`** for `LULinear`, as executed over ℝ: the product with
    the matrix obtained by solving against the identity, against the two triangular solves per row (lu.py:70-91, 102-117) -/
theorem lu_cached_inverse (p : LUParams ℝ) (hlen : p.udiag.length = p.n) (heps : 0 ≤ p.eps) (hb : p.bias.length = p.n)
    (X : List (List ℝ)) (hX : ∀ x ∈ X, x.length = p.n) :
    cachedInverse realOps (luWeightInverse realOps p) p.bias X = luInverse realOps p X :=
  inverse_paths_agree p.bias hb _ _ (LinearJacobian.luInverse_rowwise realOps p) _ (lu_denotes p hlen heps hb).winv_eq
    (lu_denotes p hlen heps hb).invRow X hX

/-! ## OneByOneConvolution: `LULinear` on every pixel (conv.py:17-30 calls `super().forward` / `super().inverse`) -/

theorem convRows_row_length {α : Type} (o : Ops α) (B C H W : Nat) (xs : List α) :
    ∀ x ∈ convRows o B C H W xs, x.length = C := by
  intro x hx
  simp only [convRows, List.mem_map, List.mem_range] at hx
  obtain ⟨r, _, rfl⟩ := hx
  simp

theorem conv_cached_forward (p : LUParams ℝ) (hb : p.bias.length = p.n) (perm : List Nat) (B H W : Nat) (xs : List ℝ) :
    convUnrows realOps B p.n H W (cachedForward realOps (luWeight realOps p) p.bias
      (convRows realOps B p.n H W (permuteChannels realOps B p.n H W perm xs))) = (convForward realOps p perm B H W xs).1 := by
  unfold convForward
  simp only
  rw [lu_cached_forward p hb _ (convRows_row_length realOps B p.n H W _)]

theorem conv_cached_inverse (p : LUParams ℝ) (hlen : p.udiag.length = p.n) (heps : 0 ≤ p.eps) (hb : p.bias.length = p.n)
    (perm : List Nat) (B H W : Nat) (xs : List ℝ) :
    permuteChannels realOps B p.n H W ((List.range p.n).map (fun c => perm.idxOf c))
      (convUnrows realOps B p.n H W (cachedInverse realOps (luWeightInverse realOps p) p.bias (convRows realOps B p.n H W xs)))
      = (convInverse realOps p perm B H W xs).1 := by
  unfold convInverse
  simp only
  rw [lu_cached_inverse p hlen heps hb _ (convRows_row_length realOps B p.n H W _)]

/-! ## NaiveLinear — by specification of `torch.inverse` / `torch.lu` / `lu_solve` / `slogdet` (one elimination), any `o` -/
section naive
variable {α : Type} (o : Ops α)

def naivePivots (n : Nat) (W : List (List α)) : List α :=
  ((List.range n).foldl (fun st c => gaussStep o c st)
    ([], (W.zip (eye o n)).map (fun p => p.1 ++ p.2), [])).2.2

/-- `NaiveLinear.weight_inverse_and_logabsdet` (linear.py:217-236; the only combined routine the library overrides):
    `lu_solve(identity, lu(W))` and `sum(log|diag(lu)|)` from the SAME factorisation -/
def naiveCombinedInv (n : Nat) (W : List (List α)) : Except Err (List (List α) × α) :=
  (gaussInverse o n W).map (fun r => (r.1, sum o (r.2.map (fun p => o.log (absA o p)))))

/-- `weight()` is the parameter itself (linear.py:202-206): the cached forward pass IS the uncached one -/
theorem naive_cached_forward (W : List (List α)) (b : List α) (X : List (List α)) :
    cachedForward o W b X = naiveForward o W b X := rfl

theorem naive_cached_inverse (n : Nat) (W : List (List α)) (b : List α) (X : List (List α)) (Winv : List (List α))
    (pivs : List α) (h : gaussInverse o n W = .ok (Winv, pivs)) :
    cachedInverse o Winv b X = naiveInverse o n W b X := by
  unfold gaussInverse at h
  unfold naiveInverse cachedInverse
  simp only at h ⊢
  generalize (List.range n).foldl (fun st c => gaussStep o c st)
    ([], (W.zip (eye o n)).map (fun p => p.1 ++ p.2), []) = st at h ⊢
  obtain ⟨done, rest, pv⟩ := st
  simp only at h ⊢
  split at h
  · cases h
  · cases h; rfl

/-- the combined routine returns the pair (`weight_inverse()`, `logabsdet()`): same inverse, and a log-abs-det that is
    `logabsdet()` — NOT its negative (the seeded change C10c) -/
theorem naive_combined_eq (n : Nat) (W : List (List α)) (Winv : List (List α)) (pivs : List α)
    (h : gaussInverse o n W = .ok (Winv, pivs)) :
    naiveCombinedInv o n W = .ok (Winv, naiveLogabsdet o n W) ∧ pivs = naivePivots o n W := by
  unfold naiveCombinedInv
  rw [h]
  unfold gaussInverse at h
  unfold naiveLogabsdet naivePivots
  simp only at h ⊢
  generalize (List.range n).foldl (fun st c => gaussStep o c st)
    ([], (W.zip (eye o n)).map (fun p => p.1 ++ p.2), []) = st at h ⊢
  obtain ⟨done, rest, pv⟩ := st
  simp only at h ⊢
  split at h
  · cases h
  · cases h; exact ⟨rfl, rfl⟩

end naive

/-- if the elimination returns a matrix that IS a left inverse of `W` (the specification of `torch.inverse`, proved of the
    executed elimination in `Lemmas/NaiveGauss`), the uncached inverse pass of `NaiveLinear` undoes the forward pass — and
    singular `W` is excluded by that hypothesis -/
theorem naive_inverse_executed {n : ℕ} (W Winv : Matrix (Fin n) (Fin n) ℝ) (b : List ℝ) (hb : b.length = n) (pivs : List ℝ)
    (h : gaussInverse realOps n (ofMat W) = .ok (ofMat Winv, pivs)) (hinv : Winv * W = 1) (x : Fin n → ℝ) :
    naiveInverse realOps n (ofMat W) b (naiveForward realOps (ofMat W) b [List.ofFn x]) = [List.ofFn x] := by
  rw [← naive_cached_inverse realOps n (ofMat W) b _ (ofMat Winv) pivs h,
    (LinearJacobian.naiveForward_rowwise realOps _ b).singleton, naiveRow_executed W b hb, cachedInverse_row Winv b hb,
    LinearFamily.naive_roundtrip W Winv hinv]

/-! ## reading the observables of the C10 machine as values

`Core/Cache.lean` reports a pass as `Out.ok wv wdt lv ldt`: "outputs computed with the weight (inverse) of parameter
version `wv`, log-abs-det of version `lv`".  With `A v` the accessors at the parameter values of version `v`, the value
such an observable denotes is the cached formula with the slot of version `wv` and the LIVE bias (`self.bias` is never
cached).  C10 proves `wv = lv = current version` on every admissible history; together with `ValueTransparent` this is
"the same outputs and log-abs-dets as recomputing without the cache", in value. -/
section denote
variable {α : Type} (o : Ops α)

def denoteFwd (A : Nat → Accessors α) (cur : Nat) (X : List (List α)) : Cache.Out → Option (List (List α) × α)
  | .ok wv _ lv _ => some (cachedForward o (A wv).weight (A cur).bias X, (A lv).logabsdet)
  | _ => none

/-- the pass returns MINUS the slot (linear.py:69) -/
def denoteInv (neg : α → α) (A : Nat → Accessors α) (cur : Nat) (X : List (List α)) : Cache.Out → Option (List (List α) × α)
  | .ok wv _ lv _ => some (cachedInverse o (A wv).weightInverse (A cur).bias X, neg (A lv).logabsdet)
  | _ => none

/-- an observable that names the CURRENT version (what `Properties.C10.cache_transparent_partial` establishes, it being
    equal to the reference's `.ok ver dt ver dt`) denotes the uncached results -/
theorem denote_current (neg : α → α) (A : Nat → Accessors α) (cur : Nat) (X : List (List α))
    (hA : ValueTransparent o (A cur) X) (d d' : Cache.DT) :
    denoteFwd o A cur X (.ok cur d cur d') = some ((A cur).forwardNoCache X, (A cur).logabsdet) ∧
    denoteInv o neg A cur X (.ok cur d cur d') = some ((A cur).inverseNoCache X, neg (A cur).logabsdet) := by
  have hf := (hA.forward_eq none none (fun _ h => by cases h) (fun _ h => by cases h)).1
  have hi := (hA.inverse_eq none none (fun _ h => by cases h) (fun _ h => by cases h)).1
  simp only [checkCache, hA.combinedW_eq, hA.combinedInv_eq] at hf hi
  simp only [denoteFwd, denoteInv, hf, hi, and_self]

end denote

/-! ## non-vacuity: the theorems instantiated at concrete, non-trivial parameters -/

example :
    let p : LUParams ℝ := { n := 2, lower := [3], upper := [5], udiag := [0, 1], bias := [1, -1], eps := 1 / 1000 }
    cachedForward realOps (luWeight realOps p) p.bias [[1, 2], [-4, 7]] = luForward realOps p [[1, 2], [-4, 7]] ∧
    cachedInverse realOps (luWeightInverse realOps p) p.bias [[1, 2], [-4, 7]] = luInverse realOps p [[1, 2], [-4, 7]] := by
  intro p
  have hX : ∀ x ∈ ([[1, 2], [-4, 7]] : List (List ℝ)), x.length = p.n := by
    intro x hx
    simp only [List.mem_cons, List.not_mem_nil, or_false] at hx
    rcases hx with rfl | rfl <;> rfl
  exact ⟨lu_cached_forward p rfl _ hX, lu_cached_inverse p rfl (by norm_num) rfl _ hX⟩

example :
    let p : QRParams ℝ :=
      { n := 2, upper := [5], logDiag := [0, 1],
        qs := [List.ofFn (![1, 2] : Fin 2 → ℝ), List.ofFn (![0, 3] : Fin 2 → ℝ)], bias := [1, -1] }
    cachedInverse realOps (qrWeightInverse realOps p) p.bias [[1, 2], [-4, 7]] = qrInverse realOps p [[1, 2], [-4, 7]] := by
  intro p
  have hX : ∀ x ∈ ([[1, 2], [-4, 7]] : List (List ℝ)), x.length = p.n := by
    intro x hx
    simp only [List.mem_cons, List.not_mem_nil, or_false] at hx
    rcases hx with rfl | rfl <;> rfl
  have h := qr_denotes p [![1, 2], ![0, 3]] rfl LinearFamily.vs_ex_ne rfl rfl
  exact inverse_paths_agree p.bias rfl _ _ (LinearJacobian.qrInverse_rowwise realOps p) _ h.winv_eq h.invRow _ hX

end NF.CachePaths
