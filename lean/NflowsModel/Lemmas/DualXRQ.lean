import NflowsModel.Lemmas.DualXSearch
import NflowsModel.Lemmas.RQInverseWhole
/-!
# Lemmas/DualXRQ — the EXECUTED rational-quadratic spline, both directions, run on dual numbers, ARBITRARY tangent direction (C16)

The input AND the unnormalised widths / heights / derivatives may all carry tangents (a joint direction).  Per direction:

* the closed-domain core (`rqSpline_dual_closed_curve`, `rqSpline_dual_inv_closed_curve`): along any differentiable curve of
  parameters and input, at EVERY point of the closed domain (knots included) the dual run returns the (value, derivative) pairs of
  the closed forms of the bin the real run selects — the control flow (domain test, bin search, discriminant assertion) reads value
  components, the gathered dual knots are the (value, derivative) pairs of the real knots (`DualXParam.gathered_dualL`), and the bin
  terms are smooth on the closed bin (forward: positive denominator; inverse: the discriminant of the stable root is positive and
  its denominator negative on the closed y-bin, and the inverse log-det term is evaluated AT the dual root);
* strictly inside a bin the bin index is locally constant along the curve by continuity of the knots, so near `t` the real run is
  that bin's closed form (`DualRun`) and the tangents are the derivatives of the real program's two outputs ALONG THE CURVE
  (`rqSpline_dual_param_curve`, `rqSpline_dual_inv_param_curve`; side condition: no derivative parameter on the softplus
  threshold `β·u = 20`, a jump of the executed softplus);
* readings: the constant curve of parameters with seed `(x, 1)` (`rqSpline_dual`, `rqSpline_dual_inv`: the value tangent is `exp` of
  the returned log-det; the derivative parameters pass the softplus kink with zero tangent and need no side condition; at every
  point of the closed box, knots included, `rqSpline_dual_closed`, `rqSpline_dual_inv_closed`) and the straight line
  `s ↦ (params + s·dir, x + s·x')` (`rqSpline_dual_param`, `rqSpline_dual_inv_param`).
-/
open NF DualSound Filter Topology

namespace DualX
noncomputable section

/-! ## the bin terms are smooth on the closed bin -/

section terms

/-! ### the denominator and the derivative numerator of the RQ bin, as terms in the slope `s` and relative position `th` -/

theorem smooth_rqDenE {env : ℕ → ℝ} {s th d0 d1 : Expr} (hs : Smooth env s) (hth : Smooth env th) (h0 : Smooth env d0)
    (h1 : Smooth env d1) : Smooth env (s + (d0 + d1 - 2 * s) * (th * (1 - th))) :=
  hs.add (((h0.add h1).sub ((Smooth.ofNat 2).mul hs)).mul (hth.mul ((Smooth.ofNat 1).sub hth)))

theorem evalR_rqDenE (env : ℕ → ℝ) (s th d0 d1 : Expr) :
    evalR env (s + (d0 + d1 - 2 * s) * (th * (1 - th)))
      = RQ.den (evalR env s) (evalR env d0) (evalR env d1) (evalR env th) := by
  simp only [Bridge.evalR_hadd, Bridge.evalR_hmul, Bridge.evalR_hsub, Bridge.evalR_ofNat, Bridge.evalR_one]
  rfl

theorem smooth_rqDnumE {env : ℕ → ℝ} {s th d0 d1 : Expr} (hs : Smooth env s) (hth : Smooth env th) (h0 : Smooth env d0)
    (h1 : Smooth env d1) :
    Smooth env ((s * s) * (d1 * (th * th) + 2 * s * (th * (1 - th)) + d0 * ((1 - th) * (1 - th)))) :=
  (hs.mul hs).mul (((h1.mul (hth.mul hth)).add (((Smooth.ofNat 2).mul hs).mul (hth.mul ((Smooth.ofNat 1).sub hth)))).add
    (h0.mul (((Smooth.ofNat 1).sub hth).mul ((Smooth.ofNat 1).sub hth))))

theorem evalR_rqDnumE (env : ℕ → ℝ) (s th d0 d1 : Expr) :
    evalR env ((s * s) * (d1 * (th * th) + 2 * s * (th * (1 - th)) + d0 * ((1 - th) * (1 - th))))
      = RQ.dnum (evalR env s) (evalR env d0) (evalR env d1) (evalR env th) := by
  simp only [Bridge.evalR_hadd, Bridge.evalR_hmul, Bridge.evalR_hsub, Bridge.evalR_ofNat, Bridge.evalR_one, RQ.dnum]
  ring

/-- the executed log-det term at relative position `th`: smooth where `w ≠ 0` and `den`, `dnum` do not vanish -/
theorem smooth_rqLdE {env : ℕ → ℝ} {th : Expr} (hth : Smooth env th) (hw : env 2 ≠ 0)
    (hden : RQ.den (env 4 / env 2) (env 5) (env 6) (evalR env th) ≠ 0)
    (hdnum : RQ.dnum (env 4 / env 2) (env 5) (env 6) (evalR env th) ≠ 0) :
    Smooth env (.log ((v 4 / v 2 * (v 4 / v 2)) * (v 6 * (th * th) + 2 * (v 4 / v 2) * (th * (1 - th))
        + v 5 * ((1 - th) * (1 - th))))
      - 2 * .log (v 4 / v 2 + (v 5 + v 6 - 2 * (v 4 / v 2)) * (th * (1 - th)))) := by
  have hS : Smooth env (v 4 / v 2) := (Smooth.var 4).div (Smooth.var 2) hw
  exact ((smooth_rqDnumE hS hth (.var 5) (.var 6)).log (by rw [evalR_rqDnumE]; exact hdnum)).sub
    ((Smooth.ofNat 2).mul ((smooth_rqDenE hS hth (.var 5) (.var 6)).log (by rw [evalR_rqDenE]; exact hden)))

/-- the executed RQ forward value term is smooth on the CLOSED bin: the denominator is positive there
    (`Properties.C16.rq_interior_smooth` is this lemma) -/
theorem rqFwd_closed_smooth {x xk w yk h d0 d1 : ℝ} (hw : 0 < w) (hh : 0 < h) (h0 : 0 < d0) (h1 : 0 < d1)
    (hx0 : xk ≤ x) (hx1 : x ≤ xk + w) :
    Smooth (Bridge.rqEnv x xk w yk h d0 d1) rqFwdE := by
  have ht0 : 0 ≤ (x - xk) / w := div_nonneg (by linarith) hw.le
  have ht1 : (x - xk) / w ≤ 1 := by rw [div_le_one hw]; linarith
  have hden := (RQ.den_pos (div_pos hh hw) h0 h1 ht0 ht1).ne'
  have hS : Smooth (Bridge.rqEnv x xk w yk h d0 d1) (v 4 / v 2) := (Smooth.var 4).div (Smooth.var 2) hw.ne'
  have hth : Smooth (Bridge.rqEnv x xk w yk h d0 d1) ((v 0 - v 1) / v 2) :=
    ((Smooth.var 0).sub (Smooth.var 1)).div (Smooth.var 2) hw.ne'
  exact (Smooth.var 3).add (((Smooth.var 4).mul ((hS.mul (hth.mul hth)).add
    ((Smooth.var 5).mul (hth.mul ((Smooth.ofNat 1).sub hth))))).div (smooth_rqDenE hS hth (.var 5) (.var 6))
      (by rw [evalR_rqDenE]; exact hden))

theorem rqLd_closed_smooth {x xk w yk h d0 d1 : ℝ} (hw : 0 < w) (hh : 0 < h) (h0 : 0 < d0) (h1 : 0 < d1)
    (hx0 : xk ≤ x) (hx1 : x ≤ xk + w) :
    Smooth (Bridge.rqEnv x xk w yk h d0 d1) rqFwdLdE := by
  have ht0 : 0 ≤ (x - xk) / w := div_nonneg (by linarith) hw.le
  have ht1 : (x - xk) / w ≤ 1 := by rw [div_le_one hw]; linarith
  exact smooth_rqLdE (th := (v 0 - v 1) / v 2) (((Smooth.var 0).sub (Smooth.var 1)).div (Smooth.var 2) hw.ne') hw.ne'
    (RQ.den_pos (div_pos hh hw) h0 h1 ht0 ht1).ne' (RQ.dnum_pos (div_pos hh hw) h0 h1 ht0 ht1).ne'

/-! ### the inverse quadratic: discriminant and denominator of the stable root -/

theorem rq_inv_interior {s d0 d1 h Δ : ℝ} (hs : 0 < s) (hΔ0 : 0 < Δ) (hΔ1 : Δ < h) :
    0 < (RQ.qb s d0 d1 h Δ) ^ 2 - 4 * RQ.qa s d0 d1 h Δ * RQ.qc s Δ ∧
    - RQ.qb s d0 d1 h Δ - Real.sqrt ((RQ.qb s d0 d1 h Δ) ^ 2 - 4 * RQ.qa s d0 d1 h Δ * RQ.qc s Δ) < 0 := by
  have hc0 : RQ.qc s Δ < 0 := by rw [RQ.qc, neg_mul]; exact neg_neg_of_pos (mul_pos hs hΔ0)
  have hq1 : 0 < RQ.qa s d0 d1 h Δ + RQ.qb s d0 d1 h Δ + RQ.qc s Δ := by
    rw [RQ.q_sum]; exact mul_pos hs (sub_pos.mpr hΔ1)
  obtain ⟨_, hpos, _⟩ := stable_root hc0.le hq1.le (fun h' => absurd h' hc0.ne)
  refine ⟨?_, by rw [← neg_add']; exact neg_neg_of_pos hpos⟩
  -- the discriminant is `(b + 2c)²` plus the positive `4 (-c) (a + b + c)`
  rw [show (RQ.qb s d0 d1 h Δ) ^ 2 - 4 * RQ.qa s d0 d1 h Δ * RQ.qc s Δ = (RQ.qb s d0 d1 h Δ + 2 * RQ.qc s Δ) ^ 2
    + 4 * (-RQ.qc s Δ) * (RQ.qa s d0 d1 h Δ + RQ.qb s d0 d1 h Δ + RQ.qc s Δ) by ring]
  exact add_pos_of_nonneg_of_pos (sq_nonneg _) (mul_pos (mul_pos four_pos (neg_pos.mpr hc0)) hq1)

/-- on the closed bin (`0 ≤ Δ ≤ h`) the discriminant is POSITIVE and the denominator `-b - √disc` of the stable root is
    negative (at `Δ = 0` the discriminant is `(h d0)²`, at `Δ = h` it is `(h d1)²`) -/
theorem rq_inv_closed {s d0 d1 h Δ : ℝ} (hs : 0 < s) (hh : 0 < h) (h0 : 0 < d0) (h1 : 0 < d1)
    (hΔ0 : 0 ≤ Δ) (hΔ1 : Δ ≤ h) :
    0 < (RQ.qb s d0 d1 h Δ) ^ 2 - 4 * RQ.qa s d0 d1 h Δ * RQ.qc s Δ ∧
    - RQ.qb s d0 d1 h Δ - Real.sqrt ((RQ.qb s d0 d1 h Δ) ^ 2 - 4 * RQ.qa s d0 d1 h Δ * RQ.qc s Δ) < 0 := by
  rcases eq_or_lt_of_le hΔ0 with heq | hpos
  · rw [← heq]
    have hb : RQ.qb s d0 d1 h 0 = h * d0 := by simp [RQ.qb]
    have hc : RQ.qc s 0 = 0 := by simp [RQ.qc]
    have hp : 0 < h * d0 := mul_pos hh h0
    rw [hb, hc, mul_zero, sub_zero]
    refine ⟨pow_pos hp 2, ?_⟩
    have := Real.sqrt_nonneg ((h * d0) ^ 2)
    linarith only [this, hp]
  · rcases eq_or_lt_of_le hΔ1 with heq | hlt
    · rw [heq]
      have hd : (RQ.qb s d0 d1 h h) ^ 2 - 4 * RQ.qa s d0 d1 h h * RQ.qc s h = (h * d1) ^ 2 := by
        simp only [RQ.qa, RQ.qb, RQ.qc]; ring
      have hp : 0 < h * d1 := mul_pos hh h1
      rw [hd, Real.sqrt_sq hp.le]
      refine ⟨pow_pos hp 2, ?_⟩
      have hb : - RQ.qb s d0 d1 h h - h * d1 = -(2 * (h * s)) := by simp only [RQ.qb]; ring
      rw [hb]
      have := mul_pos hh hs
      linarith only [this]
    · exact rq_inv_interior hs hpos hlt

theorem rqRootDen_eq (y xk w yk h d0 d1 : ℝ) :
    - (h * d0 - (y - yk) * (d0 + d1 - 2 * (h / w))) - Real.sqrt (evalR (Bridge.rqEnv y xk w yk h d0 d1) rqDiscE)
      = - RQ.qb (h / w) d0 d1 h (y - yk) - Real.sqrt ((RQ.qb (h / w) d0 d1 h (y - yk)) ^ 2
          - 4 * RQ.qa (h / w) d0 d1 h (y - yk) * RQ.qc (h / w) (y - yk)) := by
  rw [RQInverseWhole.rqDiscE_eq]
  simp only [RQ.qb]

theorem rqRoot_closed_smooth {y xk w yk h d0 d1 : ℝ} (hw : 0 < w) (hh : 0 < h) (h0 : 0 < d0) (h1 : 0 < d1)
    (hy0 : yk ≤ y) (hy1 : y ≤ yk + h) :
    Smooth (Bridge.rqEnv y xk w yk h d0 d1) rqRootE := by
  have hs : 0 < h / w := div_pos hh hw
  obtain ⟨hdisc, hden⟩ := rq_inv_closed hs hh h0 h1 (sub_nonneg.mpr hy0) (by linarith : y - yk ≤ h)
  rw [← RQInverseWhole.rqDiscE_eq y xk w yk h d0 d1] at hdisc
  rw [← rqRootDen_eq y xk w yk h d0 d1] at hden
  have hS : Smooth (Bridge.rqEnv y xk w yk h d0 d1) (v 4 / v 2) := (Smooth.var 4).div (Smooth.var 2) hw.ne'
  have hdl : Smooth (Bridge.rqEnv y xk w yk h d0 d1) (v 0 - v 3) := (Smooth.var 0).sub (Smooth.var 3)
  have hk : Smooth (Bridge.rqEnv y xk w yk h d0 d1) (v 5 + v 6 - 2 * (v 4 / v 2)) :=
    ((Smooth.var 5).add (Smooth.var 6)).sub ((Smooth.ofNat 2).mul hS)
  have hb : Smooth (Bridge.rqEnv y xk w yk h d0 d1) (v 4 * v 5 - (v 0 - v 3) * (v 5 + v 6 - 2 * (v 4 / v 2))) :=
    ((Smooth.var 4).mul (Smooth.var 5)).sub (hdl.mul hk)
  have hc : Smooth (Bridge.rqEnv y xk w yk h d0 d1) (.neg (v 4 / v 2) * (v 0 - v 3)) := hS.neg.mul hdl
  have hD : Smooth (Bridge.rqEnv y xk w yk h d0 d1) rqDiscE :=
    (hb.mul hb).sub (((Smooth.ofNat 4).mul ((hdl.mul hk).add ((Smooth.var 4).mul (hS.sub (Smooth.var 5))))).mul hc)
  refine ((Smooth.ofNat 2).mul hc).div (hb.neg.sub (hD.sqrt hdisc.ne')) (ne_of_eq_of_ne ?_ hden.ne)
  simp only [Bridge.evalR_hsub, Bridge.evalR_hmul, Bridge.evalR_hadd, Bridge.evalR_hdiv, Bridge.evalR_ofNat, evalR_neg,
    evalR_sqrt]
  rfl

theorem rqLdTheta_smooth {th xk w yk h d0 d1 : ℝ} (hw : 0 < w) (hh : 0 < h) (h0 : 0 < d0) (h1 : 0 < d1)
    (ht0 : 0 ≤ th) (ht1 : th ≤ 1) :
    Smooth (Bridge.rqEnv th xk w yk h d0 d1) rqLdThetaE :=
  smooth_rqLdE (th := v 0) (Smooth.var 0) hw.ne' (RQ.den_pos (div_pos hh hw) h0 h1 ht0 ht1).ne'
    (RQ.dnum_pos (div_pos hh hw) h0 h1 ht0 ht1).ne'

end terms

/-! ## the two searches, zero-tangent derivative parameters, the accepted one-bin configuration -/

section whole
open RQWhole
variable {e : Float → ℝ} {c : RQCfg} {uw uh ud : List ℝ}

theorem idx_of_open_bin (hv : RQValid e c uw uh ud) (k : ℕ) (hk : k < uw.length) (x : ℝ)
    (h0 : xs e c uw k < x) (h1 : x < xs e c uw (k+1)) :
    e c.box.left ≤ x ∧ x ≤ e c.box.right ∧ idx e c uw x = k :=
  have P := searched hv
  let ⟨hx0, hx1⟩ := P.bin_subset k hk ⟨h0.le, h1.le⟩
  ⟨hx0, hx1, P.idx_eq k hk x h0.le h1⟩

theorem dv_lift (c : RQCfg) (ud : List ℝ) :
    (ud.map ι).map (fun u => (dualX (NF.realX e)).add ((dualX (NF.realX e)).ofFloat c.minD)
        ((dualX (NF.realX e)).softplusB ((dualX (NF.realX e)).ofFloat c.beta) u))
      = (dv e c ud).map ι := by
  unfold dv
  rw [List.map_map, List.map_map]
  apply List.map_congr_left
  intro u _
  simp only [Function.comp, (lift_hom e).add, (lift_hom e).softplusB, (lift_hom e).ofFloat]

theorem val_eq_outY (x : ℝ) : val e c uw uh ud x = outY (rqSpline (NF.realX e) c uw uh ud false x) := rfl
theorem ld_eq_outL (x : ℝ) : ld e c uw uh ud x = outL (rqSpline (NF.realX e) c uw uh ud false x) := rfl

section
open RQInverseWhole

theorem idxI_of_open_bin (hv : RQValid e c uw uh ud) (k : ℕ) (hk : k < uw.length) (y : ℝ)
    (h0 : ys e c uh k < y) (h1 : y < ys e c uh (k+1)) :
    e c.box.bottom ≤ y ∧ y ≤ e c.box.top ∧ idxI e c uh y = k :=
  let ⟨hy0, hy1⟩ := (searched hv).ybin_subset k hk ⟨h0.le, h1.le⟩
  ⟨hy0, hy1, (searchedInv hv).idxI_eq (searched hv) k hk y h0.le h1⟩

end

/-! ### the accepted one-bin configuration `RQWhole.valid_example` on the unit box -/

theorem eNV_box : eNV cNV.box.left = 0 ∧ eNV cNV.box.right = 1 ∧ eNV cNV.box.bottom = 0 ∧ eNV cNV.box.top = 1 := by
  simp [eNV, cNV, FloatFacts.zero_beq_zero, FloatFacts.one_beq_zero]

theorem xs_example : xs eNV cNV [0] 0 = 0 ∧ xs eNV cNV [0] (0+1) = 1 :=
  ⟨(xs_zero valid_example).trans eNV_box.1, (xs_last valid_example).trans eNV_box.2.1⟩

theorem ys_example : ys eNV cNV [0] 0 = 0 ∧ ys eNV cNV [0] (0+1) = 1 :=
  ⟨(ys_zero valid_example).trans eNV_box.2.2.1, (ys_last valid_example).trans eNV_box.2.2.2⟩

theorem thr_example (k : ℕ) (hk : k < ([0, 0] : List ℝ).length) : eNV cNV.beta * ([0, 0] : List ℝ).getD k 0 ≠ 20 := by
  have : ([0, 0] : List ℝ).getD k 0 = 0 := by
    rcases k with _|_|k
    · rfl
    · rfl
    · simp at hk
  rw [this]; norm_num

end whole

/-! ## forward -/

section forward
open RQWhole DualXParam

variable {e : Float → ℝ} {c : RQCfg}

section curve
variable {FW FH FD : ℝ → List ℝ} {FX : ℝ → ℝ} {t : ℝ} {dW dH dD : List (ℝ × ℝ)} {dx : ℝ × ℝ}

/-- **the dual run on the whole closed domain, along a curve**: the knot derivatives enter as a dual list of their own
    (`hDV`, see `DualXParam.gathered_dualL`) -/
theorem rqSpline_dual_closed_curve (hW : IsDualL FW t dW) (hH : IsDualL FH t dH)
    (hDV : IsDualL (fun s => dv e c (FD s)) t (dDV e c dD)) (hX : IsDual FX t dx)
    (hv : RQValid e c (FW t) (FH t) (FD t)) (hx0 : e c.box.left ≤ FX t) (hx1 : FX t ≤ e c.box.right) :
    ∃ dy dl : ℝ × ℝ, rqSpline (dualX (NF.realX e)) c dW dH dD false dx = .ok (dy, dl) ∧
      IsDual (fun s => binVal e c (FW s) (FH s) (FD s) (idx e c (FW t) (FX t)) (FX s)) t dy ∧
      IsDual (fun s => binLd e c (FW s) (FH s) (FD s) (idx e c (FW t) (FX t)) (FX s)) t dl := by
  have hv' : RQValid e c (dW.map Prod.fst) (dH.map Prod.fst) (dD.map Prod.fst) := by
    rw [hW.map_fst, hH.map_fst]; exact RQValid.transfer hv rfl rfl (by rw [List.length_map, dv_dualL_length hDV t])
  have hexec := rqSpline_dualG_exec dW dH dD hv' dx (by rw [hX.1]; exact hx0) (by rw [hX.1]; exact hx1)
  rw [hW.map_fst, hX.1] at hexec
  obtain ⟨hiK, hle, hle1, -⟩ := (searched hv).sel (FX t) hx0 hx1
  generalize idx e c (FW t) (FX t) = k at hiK hle hle1 hexec
  -- the two bin terms along the curve, smooth on the closed bin
  have hEnv := gathered_isDual e hW hH hDV hv k hiK hX
  have hw : 0 < xs e c (FW t) (k+1) - xs e c (FW t) k := sub_pos.mpr (xs_strict hv k hiK)
  have hh : 0 < ys e c (FH t) (k+1) - ys e c (FH t) k := sub_pos.mpr (ys_strict hv k hiK)
  have hd0 := ds_pos hv k (Nat.lt_succ_of_lt hiK)
  have hd1 := ds_pos hv (k+1) (Nat.succ_lt_succ hiK)
  have hxr : FX t ≤ xs e c (FW t) k + (xs e c (FW t) (k+1) - xs e c (FW t) k) := by rw [add_sub_cancel]; exact hle1
  refine ⟨_, _, hexec, ?_, ?_⟩
  · rw [evalX_dual]
    exact evalD_curve _ _ t hEnv rqFwdE (rqFwd_closed_smooth (yk := ys e c (FH t) k) hw hh hd0 hd1 hle hxr)
  · rw [evalX_dual]
    exact evalD_curve _ _ t hEnv rqFwdLdE (rqLd_closed_smooth (yk := ys e c (FH t) k) hw hh hd0 hd1 hle hxr)

/-- strictly inside a bin the bin index is locally constant along the curve (the knots are continuous): near `t` the real run is
    the closed form of bin `k`, whose (value, derivative) pairs the dual run returns -/
theorem rqSpline_dual_open_curve (hW : IsDualL FW t dW) (hH : IsDualL FH t dH)
    (hDV : IsDualL (fun s => dv e c (FD s)) t (dDV e c dD)) (hX : IsDual FX t dx)
    (hv : RQValid e c (FW t) (FH t) (FD t))
    (k : ℕ) (hk : k < (FW t).length) (h0 : xs e c (FW t) k < FX t) (h1 : FX t < xs e c (FW t) (k+1)) :
    DualRun (fun s => rqSpline (NF.realX e) c (FW s) (FH s) (FD s) false (FX s)) t
      (rqSpline (dualX (NF.realX e)) c dW dH dD false dx) := by
  obtain ⟨hx0, hx1, hik⟩ := idx_of_open_bin hv k hk (FX t) h0 h1
  obtain ⟨dy, dl, hexec, hY, hLd⟩ := rqSpline_dual_closed_curve hW hH hDV hX hv hx0 hx1
  rw [hik] at hY hLd
  have hKW := (knots_dualL e c.minW c.box.left c.box.right hW).1
  refine ⟨_, _, dy, dl, hexec, ?_, hY, hLd⟩
  filter_upwards [(hKW.getD_any k).2.continuousAt.eventually_lt hX.2.continuousAt h0,
    hX.2.continuousAt.eventually_lt (hKW.getD_any (k+1)).2.continuousAt h1] with s hs0 hs1
  have hvs : RQValid e c (FW s) (FH s) (FD s) :=
    RQValid.transfer hv (by rw [hW.1 s, hW.1 t]) (by rw [hH.1 s, hH.1 t])
      (by rw [dv_dualL_length hDV s, dv_dualL_length hDV t])
  obtain ⟨hz0, hz1, hzk⟩ := idx_of_open_bin hvs k (by rw [hW.1 s, ← hW.1 t]; exact hk) (FX s) hs0 hs1
  rw [RQWhole.exec_eq_bin hvs _ hz0 hz1, hzk]

/-- **the real chain rule for the executed RQ forward program**: along ANY curve `s ↦ (FW s, FH s, FD s, FX s)` of
    unnormalised parameters and input that is differentiable at `t`, the program run on the dual lists / dual number holding
    the (value, derivative) pairs at `t` is, for `FX t` strictly inside a bin, sound for the real program along the curve: it
    returns the two real outputs at `t` together with the derivatives at `t` of `s ↦ val (params s) (FX s)` and
    `s ↦ ld (params s) (FX s)` (`DualRun.dualRes`, `DualRes.values`).
    Side condition: no derivative parameter sits on the softplus threshold `β·u = 20`. -/
theorem rqSpline_dual_param_curve (hW : IsDualL FW t dW) (hH : IsDualL FH t dH) (hD : IsDualL FD t dD) (hX : IsDual FX t dx)
    (hv : RQValid e c (FW t) (FH t) (FD t))
    (hthr : ∀ k < (FD t).length, e c.beta * (FD t).getD k 0 ≠ 20)
    (k : ℕ) (hk : k < (FW t).length) (h0 : xs e c (FW t) k < FX t) (h1 : FX t < xs e c (FW t) (k+1)) :
    DualRun (fun s => rqSpline (NF.realX e) c (FW s) (FH s) (FD s) false (FX s)) t
      (rqSpline (dualX (NF.realX e)) c dW dH dD false dx) :=
  rqSpline_dual_open_curve hW hH (dv_dualL e hD hv.hbeta hthr) hX hv k hk h0 h1

end curve

/-! ### the input direction: zero-tangent parameters -/

variable {uw uh ud : List ℝ}

/-- the derivative parameters pass the softplus kink with zero tangent -/
theorem dv_const_dualL (c : RQCfg) (ud : List ℝ) (x : ℝ) : IsDualL (fun _ => dv e c ud) x (dDV e c (ud.map ι)) := by
  rw [show dDV e c (ud.map ι) = (dv e c ud).map ι from dv_lift c ud]
  exact IsDualL.const _ x

theorem rqSpline_dualRes (hv : RQValid e c uw uh ud) (k : ℕ) (hk : k < uw.length) (x : ℝ)
    (h0 : xs e c uw k < x) (h1 : x < xs e c uw (k+1)) :
    DualRes (fun s => rqSpline (NF.realX e) c uw uh ud false s) x
      (rqSpline (dualX (NF.realX e)) c (uw.map ι) (uh.map ι) (ud.map ι) false (x, 1)) :=
  (rqSpline_dual_open_curve (FW := fun _ => uw) (FH := fun _ => uh) (FD := fun _ => ud) (FX := fun s => s)
    (IsDualL.const uw x) (IsDualL.const uh x) (dv_const_dualL c ud x) (IsDual.id x) hv k hk h0 h1).dualRes

theorem rqSpline_dual (hv : RQValid e c uw uh ud) (k : ℕ) (hk : k < uw.length) (x : ℝ)
    (h0 : xs e c uw k < x) (h1 : x < xs e c uw (k+1)) :
    ∃ l' : ℝ, rqSpline (dualX (NF.realX e)) c (uw.map ι) (uh.map ι) (ud.map ι) false (x, 1)
        = .ok ((val e c uw uh ud x, Real.exp (ld e c uw uh ud x)), (ld e c uw uh ud x, l')) ∧
      HasDerivAt (val e c uw uh ud) (Real.exp (ld e c uw uh ud x)) x ∧ HasDerivAt (ld e c uw uh ud) l' x :=
  (rqSpline_dualRes hv k hk x h0 h1).headline val_eq_outY ld_eq_outL (val_hasDerivAt hv k hk x h0 h1)

/-- **the bounded executed RQ spline on dual numbers at EVERY `x` of the closed box** (knots and end-points included):
    value components are the real outputs and the tangent of the value is `exp` of the returned log-abs-det (the
    derivative of the selected bin's formula, which at a knot is the one-sided derivative from the right, resp. from the
    left at the right end; by `RQWhole.val_hasDerivAt_all` it is the two-sided derivative at every interior point) -/
theorem rqSpline_dual_closed (hi : RQValid e c uw uh ud) (x : ℝ) (hx0 : e c.box.left ≤ x) (hx1 : x ≤ e c.box.right) :
    ∃ l' : ℝ, rqSpline (dualX (NF.realX e)) c (uw.map ι) (uh.map ι) (ud.map ι) false (x, 1)
        = .ok ((val e c uw uh ud x, Real.exp (ld e c uw uh ud x)), (ld e c uw uh ud x, l')) := by
  obtain ⟨dy, dl, hr, hY, hLd⟩ := rqSpline_dual_closed_curve (FW := fun _ => uw) (FH := fun _ => uh) (FD := fun _ => ud)
    (FX := fun s => s) (IsDualL.const uw x) (IsDualL.const uh x) (dv_const_dualL c ud x) (IsDual.id x)
    hi hx0 hx1
  obtain ⟨hiK, hle, hle1, -⟩ := (searched hi).sel x hx0 hx1
  have hval : val e c uw uh ud x = binVal e c uw uh ud (idx e c uw x) x := val_eq hi x hx0 hx1
  have hld : ld e c uw uh ud x = binLd e c uw uh ud (idx e c uw x) x := ld_eq hi x hx0 hx1
  generalize idx e c uw x = k at hiK hle hle1 hY hLd hval hld
  -- the tangent of the value is the derivative of bin `k`'s formula, `exp` of its log-det term
  have hder := RQBin.rq_executed_logdet (xk := xs e c uw k) (yk := ys e c uh k) (d0 := ds e c ud k) (d1 := ds e c ud (k+1))
    (x := x) (sub_pos.mpr (xs_strict hi k hiK)) (sub_pos.mpr (ys_strict hi k hiK)) (ds_pos hi k (by omega))
    (ds_pos hi (k+1) (by omega)) hle (by linarith)
  refine ⟨dl.2, ?_⟩
  rw [hr, hval, hld]
  exact congrArg Except.ok (Prod.ext (Prod.ext hY.1 (hY.2.unique hder)) (Prod.ext hLd.1 rfl))

/-- non-vacuity on the concrete accepted configuration of `RQWhole.valid_example` (one bin on the unit box) -/
theorem rqSpline_dual_example (x : ℝ) (h0 : 0 < x) (h1 : x < 1) :
    ∃ l' : ℝ, rqSpline (dualX (NF.realX eNV)) cNV [ι 0] [ι 0] [ι 0, ι 0] false (x, 1)
        = .ok ((val eNV cNV [0] [0] [0, 0] x, Real.exp (ld eNV cNV [0] [0] [0, 0] x)), (ld eNV cNV [0] [0] [0, 0] x, l')) := by
  obtain ⟨l', h, -, -⟩ := rqSpline_dual valid_example 0 (by simp) x (by rw [xs_example.1]; exact h0)
    (by rw [xs_example.2]; exact h1)
  exact ⟨l', h⟩

/-! ### the joint direction along a straight line -/

/-- **PARAMETER (and input) direction, executed RQ forward program**: run on the dual input `(x, x')` with the unnormalised
    widths / heights / derivatives carrying the tangent lists `uw' uh' ud'` (any direction), for `x` strictly inside bin `k`
    the dual program returns `((val x, v'), (ld x, l'))` where `v'`, `l'` are the derivatives at `s = 0` of the REAL executed
    program's two outputs along the line `s ↦ (uw + s·uw', uh + s·uh', ud + s·ud', x + s·x')`.
    Side condition: no derivative parameter sits on the softplus threshold `β·u = 20` (a jump of the executed softplus). -/
theorem rqSpline_dual_param (hv : RQValid e c uw uh ud) (uw' uh' ud' : List ℝ)
    (hlw : uw.length = uw'.length) (hlh : uh.length = uh'.length) (hld : ud.length = ud'.length)
    (hthr : ∀ k < ud.length, e c.beta * ud.getD k 0 ≠ 20)
    (k : ℕ) (hk : k < uw.length) (x x' : ℝ) (h0 : xs e c uw k < x) (h1 : x < xs e c uw (k+1)) :
    ∃ v' l' : ℝ, rqSpline (dualX (NF.realX e)) c (List.zip uw uw') (List.zip uh uh') (List.zip ud ud') false (x, x')
        = .ok ((val e c uw uh ud x, v'), (ld e c uw uh ud x, l')) ∧
      HasDerivAt (fun s => val e c (DualXParam.lineL uw uw' s) (DualXParam.lineL uh uh' s) (DualXParam.lineL ud ud' s)
        (x + s * x')) v' 0 ∧
      HasDerivAt (fun s => ld e c (DualXParam.lineL uw uw' s) (DualXParam.lineL uh uh' s) (DualXParam.lineL ud ud' s)
        (x + s * x')) l' 0 := by
  have zW : DualXParam.lineL uw uw' 0 = uw := DualXParam.lineL_zero uw uw' hlw.le
  have zH : DualXParam.lineL uh uh' 0 = uh := DualXParam.lineL_zero uh uh' hlh.le
  have zD : DualXParam.lineL ud ud' 0 = ud := DualXParam.lineL_zero ud ud' hld.le
  have hx0 : x + 0 * x' = x := by rw [zero_mul, add_zero]
  have := (rqSpline_dual_param_curve (e := e) (c := c) (DualXParam.IsDualL.lineL uw uw') (DualXParam.IsDualL.lineL uh uh')
    (DualXParam.IsDualL.lineL ud ud') (IsDual.line x x') (by rw [zW, zH, zD]; exact hv) (by rw [zD]; exact hthr)
    k (by rw [zW]; exact hk) (by rw [zW, hx0]; exact h0) (by rw [zW, hx0]; exact h1)).dualRes.values
    (f := fun s => val e c (DualXParam.lineL uw uw' s) (DualXParam.lineL uh uh' s) (DualXParam.lineL ud ud' s) (x + s * x'))
    (g := fun s => ld e c (DualXParam.lineL uw uw' s) (DualXParam.lineL uh uh' s) (DualXParam.lineL ud ud' s) (x + s * x'))
    (fun _ => rfl) (fun _ => rfl)
  beta_reduce at this
  rwa [zW, zH, zD, hx0] at this

theorem rqSpline_dual_param_fixed_x (hv : RQValid e c uw uh ud) (uw' uh' ud' : List ℝ)
    (hlw : uw.length = uw'.length) (hlh : uh.length = uh'.length) (hld : ud.length = ud'.length)
    (hthr : ∀ k < ud.length, e c.beta * ud.getD k 0 ≠ 20)
    (k : ℕ) (hk : k < uw.length) (x : ℝ) (h0 : xs e c uw k < x) (h1 : x < xs e c uw (k+1)) :
    ∃ v' l' : ℝ, rqSpline (dualX (NF.realX e)) c (List.zip uw uw') (List.zip uh uh') (List.zip ud ud') false (x, 0)
        = .ok ((val e c uw uh ud x, v'), (ld e c uw uh ud x, l')) ∧
      HasDerivAt (fun s => val e c (DualXParam.lineL uw uw' s) (DualXParam.lineL uh uh' s) (DualXParam.lineL ud ud' s) x) v' 0 ∧
      HasDerivAt (fun s => ld e c (DualXParam.lineL uw uw' s) (DualXParam.lineL uh uh' s) (DualXParam.lineL ud ud' s) x) l' 0 := by
  obtain ⟨v', l', h, hv', hl'⟩ := rqSpline_dual_param hv uw' uh' ud' hlw hlh hld hthr k hk x 0 h0 h1
  refine ⟨v', l', h, ?_, ?_⟩
  · simpa using hv'
  · simpa using hl'

/-- non-vacuity on the accepted one-bin configuration `RQWhole.valid_example` (unit box), EVERY direction
    `([a], [b], [p, q], x')`.  With one width logit and one height logit the softmax has no tie of its maximum here; the tie
    case is exercised in `DualXParam.softmax_tie_example`. -/
theorem rqSpline_dual_param_example (a b p q x x' : ℝ) (h0 : 0 < x) (h1 : x < 1) :
    ∃ v' l' : ℝ, rqSpline (dualX (NF.realX eNV)) cNV [(0, a)] [(0, b)] [(0, p), (0, q)] false (x, x')
        = .ok ((val eNV cNV [0] [0] [0, 0] x, v'), (ld eNV cNV [0] [0] [0, 0] x, l')) ∧
      HasDerivAt (fun s => val eNV cNV [0 + s * a] [0 + s * b] [0 + s * p, 0 + s * q] (x + s * x')) v' 0 ∧
      HasDerivAt (fun s => ld eNV cNV [0 + s * a] [0 + s * b] [0 + s * p, 0 + s * q] (x + s * x')) l' 0 :=
  rqSpline_dual_param valid_example [a] [b] [p, q] rfl rfl rfl thr_example 0 (by simp) x x' (by rw [xs_example.1]; exact h0)
    (by rw [xs_example.2]; exact h1)

end forward

/-! ## inverse -/

section inverse
open RQWhole RQInverseWhole DualXParam

variable {e : Float → ℝ} {c : RQCfg}

section curve
variable {FW FH FD : ℝ → List ℝ} {FY : ℝ → ℝ} {t : ℝ} {dW dH dD : List (ℝ × ℝ)} {dy : ℝ × ℝ}

/-- **the dual inverse run on the whole closed domain, y-knots included, along a curve**: domain test, y-bin search and
    discriminant assertion read value components, so the run selects the y-bin `k` the real run selects at `t` and evaluates
    that bin's root / output / log-det terms on the gathered dual knots: it returns the (value, derivative) pairs of that bin's
    closed forms along the curve.  The knot derivatives enter as a dual list of their own (`hDV`, see
    `DualXParam.gathered_dualL`). -/
theorem rqSpline_dual_inv_closed_curve (hW : IsDualL FW t dW) (hH : IsDualL FH t dH)
    (hDV : IsDualL (fun s => dv e c (FD s)) t (dDV e c dD)) (hY : IsDual FY t dy)
    (hv : RQValid e c (FW t) (FH t) (FD t)) (hy0 : e c.box.bottom ≤ FY t) (hy1 : FY t ≤ e c.box.top) :
    ∃ dx dl : ℝ × ℝ, rqSpline (dualX (NF.realX e)) c dW dH dD true dy = .ok (dx, dl) ∧
      IsDual (fun s => binInv e c (FW s) (FH s) (FD s) (idxI e c (FH t) (FY t)) (FY s)) t dx ∧
      IsDual (fun s => binInvLd e c (FW s) (FH s) (FD s) (idxI e c (FH t) (FY t)) (FY s)) t dl := by
  obtain ⟨hk, h0, h1, _⟩ := (searchedInv hv).sel (searched hv) (FY t) hy0 hy1
  generalize hik : idxI e c (FH t) (FY t) = k at hk h0 h1
  have hG := gathered_dualL e hW hH hDV hv k hk hY
  have hKH := (knots_dualL e c.minH c.box.bottom c.box.top hH).1
  have hexec : rqSpline (dualX (NF.realX e)) c dW dH dD true dy
      = .ok ((dualX (NF.realX e)).add
               ((dualX (NF.realX e)).mul (evalX (dualX (NF.realX e)) (gathered e c dW dH dD k dy) rqRootE)
                 ((dKW e c dW).2.getD k 0)) ((dKW e c dW).1.getD k 0),
             (dualX (NF.realX e)).neg (evalX (dualX (NF.realX e)) (gathered e c dW dH dD k
               (evalX (dualX (NF.realX e)) (gathered e c dW dH dD k dy) rqRootE)) rqLdThetaE)) := by
    have hv' : RQValid e c (dW.map Prod.fst) (dH.map Prod.fst) (dD.map Prod.fst) := by
      rw [hW.map_fst, hH.map_fst]
      exact RQValid.transfer hv rfl rfl (by rw [List.length_map, dv_dualL_length hDV t])
    obtain ⟨hl1, hl2, hl3, hl4, hl5⟩ := dK_length dW dH dD hv'
    obtain ⟨hlo, hhi⟩ := Bool.or_eq_false_iff.mp (d_guard e _ _ dy (by rw [hY.1]; exact hy0) (by rw [hY.1]; exact hy1))
    have hkD : k < dW.length := by rw [← hW.1 t]; exact hk
    have hgW := hv'.hgW
    have hgH := hv'.hgH
    rw [List.length_map] at hgW hgH
    have hs : searchsortedG (dualX (NF.realX e)) c.eps (dKH e c dH).1 dy = ((k : ℕ) : Int) :=
      ((searchsortedG_dual_at c.eps hKH hY).trans ((RQInverseWhole.search_spec hv).2 _ hy0 hy1)).trans (by rw [hik])
    have hge : (dualX (NF.realX e)).ge (evalX (dualX (NF.realX e)) (gathered e c dW dH dD k dy) rqDiscE)
        (dualX (NF.realX e)).zero = true := by
      simp only [XOps.ge, d_le, d_zero, decide_eq_true_eq]
      rw [(fst_hom e).evalX, hG.map_fst, SplineExec.evalX_eq_evalR]
      have := disc_nonneg hv (FY t) hy0 hy1
      rwa [hik] at this
    rw [SplineTotal.rqSpline_of_search _ c dW dH dD true dy (cw := (dKW e c dW).1) (wd := (dKW e c dW).2)
      (ch := (dKH e c dH).1) (ht := (dKH e c dH).2) (dv := dDV e c dD) rfl rfl rfl hlo hhi hgW hgH hs
      (SplineTotal.getI_ok_getD _ _ (by rw [hl1]; exact Nat.lt_succ_of_lt hkD) 0)
      (SplineTotal.getI_ok_getD _ _ (by rw [hl2]; exact hkD) 0)
      (SplineTotal.getI_ok_getD _ _ (by rw [hl3]; exact Nat.lt_succ_of_lt hkD) 0)
      (SplineTotal.getI_ok_getD _ _ (by rw [hl4]; exact hkD) 0)
      (SplineTotal.getI_ok_getD _ _ (by rw [hl5]; exact Nat.lt_succ_of_lt hkD) 0)
      (SplineTotal.getI_ok_getD _ (k + 1) (by rw [hl5]; exact Nat.succ_lt_succ hkD) 0), if_pos rfl]
    exact if_pos hge
  have hw : 0 < xs e c (FW t) (k+1) - xs e c (FW t) k := sub_pos.mpr (xs_strict hv k hk)
  have hh : 0 < ys e c (FH t) (k+1) - ys e c (FH t) k := sub_pos.mpr (ys_strict hv k hk)
  have hd0 := ds_pos hv k (Nat.lt_succ_of_lt hk)
  have hd1 := ds_pos hv (k+1) (Nat.succ_lt_succ hk)
  -- the root along the curve, smooth on the closed bin
  have hroot : IsDual (fun s => binRoot e c (FW s) (FH s) (FD s) k (FY s)) t
      (evalX (dualX (NF.realX e)) (gathered e c dW dH dD k dy) rqRootE) := by
    rw [evalX_dual]
    exact evalD_curve _ _ t (gathered_isDual e hW hH hDV hv k hk hY) rqRootE
      (rqRoot_closed_smooth hw hh hd0 hd1 h0 (by rw [add_sub_cancel]; exact h1))
  obtain ⟨_, hr0, hr1, _⟩ := bin_facts hv k hk (FY t) h0 h1
  have hKW := rqKnots_getD_isDual e c.minW c.box.left c.box.right hW k
    ((Nat.succ_lt_succ hk).trans_eq (cw_facts hv).1.symm)
  refine ⟨_, _, hexec, IsDual.add e (IsDual.mul e hroot hKW.2) hKW.1, IsDual.neg e ?_⟩
  -- the log-abs-det: the log-det term evaluated AT the dual root
  rw [evalX_dual]
  exact evalD_curve _ _ t (gathered_isDual e hW hH hDV hv k hk hroot) rqLdThetaE (rqLdTheta_smooth hw hh hd0 hd1 hr0 hr1)

/-- strictly inside a y-bin the y-bin index is locally constant along the curve (the y-knots are continuous): near `t` the real
    inverse run is the closed form of y-bin `k`, whose (value, derivative) pairs the dual run returns -/
theorem rqSpline_dual_inv_open_curve (hW : IsDualL FW t dW) (hH : IsDualL FH t dH)
    (hDV : IsDualL (fun s => dv e c (FD s)) t (dDV e c dD)) (hY : IsDual FY t dy)
    (hv : RQValid e c (FW t) (FH t) (FD t))
    (k : ℕ) (hk : k < (FW t).length) (h0 : ys e c (FH t) k < FY t) (h1 : FY t < ys e c (FH t) (k+1)) :
    DualRun (fun s => rqSpline (NF.realX e) c (FW s) (FH s) (FD s) true (FY s)) t
      (rqSpline (dualX (NF.realX e)) c dW dH dD true dy) := by
  obtain ⟨hy0, hy1, hik⟩ := idxI_of_open_bin hv k hk (FY t) h0 h1
  obtain ⟨dx, dl, hexec, hO, hLd⟩ := rqSpline_dual_inv_closed_curve hW hH hDV hY hv hy0 hy1
  rw [hik] at hO hLd
  have hKH := (knots_dualL e c.minH c.box.bottom c.box.top hH).1
  refine ⟨_, _, dx, dl, hexec, ?_, hO, hLd⟩
  filter_upwards [(hKH.getD_any k).2.continuousAt.eventually_lt hY.2.continuousAt h0,
    hY.2.continuousAt.eventually_lt (hKH.getD_any (k+1)).2.continuousAt h1] with s hs0 hs1
  have hvs : RQValid e c (FW s) (FH s) (FD s) :=
    RQValid.transfer hv (by rw [hW.1 s, hW.1 t]) (by rw [hH.1 s, hH.1 t])
      (by rw [dv_dualL_length hDV s, dv_dualL_length hDV t])
  obtain ⟨hz0, hz1, hzk⟩ := idxI_of_open_bin hvs k (by rw [hW.1 s, ← hW.1 t]; exact hk) (FY s) hs0 hs1
  rw [RQInverseWhole.exec_eq_bin hvs _ hz0 hz1, hzk]

/-- **the real chain rule for the executed RQ INVERSE program**: along ANY curve `s ↦ (FW s, FH s, FD s, FY s)` of
    unnormalised parameters and input that is differentiable at `t`, for `FY t` strictly inside y-bin `k` the dual run is sound
    for the real inverse program along the curve: it returns the real outputs with tangents the derivatives of
    `s ↦ inv (params s) (FY s)` and `s ↦ invLd (params s) (FY s)` at `t` (`DualRun.dualRes`, `DualRes.values`).
    Side condition: no derivative parameter sits on the softplus threshold `β·u = 20`. -/
theorem rqSpline_dual_inv_param_curve (hW : IsDualL FW t dW) (hH : IsDualL FH t dH) (hD : IsDualL FD t dD)
    (hY : IsDual FY t dy) (hv : RQValid e c (FW t) (FH t) (FD t))
    (hthr : ∀ k < (FD t).length, e c.beta * (FD t).getD k 0 ≠ 20)
    (k : ℕ) (hk : k < (FW t).length) (h0 : ys e c (FH t) k < FY t) (h1 : FY t < ys e c (FH t) (k+1)) :
    DualRun (fun s => rqSpline (NF.realX e) c (FW s) (FH s) (FD s) true (FY s)) t
      (rqSpline (dualX (NF.realX e)) c dW dH dD true dy) :=
  rqSpline_dual_inv_open_curve hW hH (dv_dualL e hD hv.hbeta hthr) hY hv k hk h0 h1

end curve

variable {uw uh ud : List ℝ}

/-! ### the input direction: zero-tangent parameters -/

theorem rqSpline_dualRes_inv (hv : RQValid e c uw uh ud) (k : ℕ) (hk : k < uw.length) (y : ℝ)
    (h0 : ys e c uh k < y) (h1 : y < ys e c uh (k+1)) :
    DualRes (fun s => rqSpline (NF.realX e) c uw uh ud true s) y
      (rqSpline (dualX (NF.realX e)) c (uw.map ι) (uh.map ι) (ud.map ι) true (y, 1)) :=
  (rqSpline_dual_inv_open_curve (FW := fun _ => uw) (FH := fun _ => uh) (FD := fun _ => ud) (FY := fun s => s)
    (IsDualL.const uw y) (IsDualL.const uh y) (dv_const_dualL c ud y) (IsDual.id y) hv k hk h0 h1).dualRes

theorem rqSpline_dual_inv (hv : RQValid e c uw uh ud) (k : ℕ) (hk : k < uw.length) (y : ℝ)
    (h0 : ys e c uh k < y) (h1 : y < ys e c uh (k+1)) :
    ∃ l' : ℝ, rqSpline (dualX (NF.realX e)) c (uw.map ι) (uh.map ι) (ud.map ι) true (y, 1)
        = .ok ((inv e c uw uh ud y, Real.exp (invLd e c uw uh ud y)), (invLd e c uw uh ud y, l')) ∧
      HasDerivAt (inv e c uw uh ud) (Real.exp (invLd e c uw uh ud y)) y ∧ HasDerivAt (invLd e c uw uh ud) l' y :=
  (rqSpline_dualRes_inv hv k hk y h0 h1).headline (fun _ => rfl) (fun _ => rfl) (inv_hasDerivAt hv k hk y h0 h1)

theorem rqSpline_dual_inv_tangent (hv : RQValid e c uw uh ud) (y : ℝ) (hy0 : e c.box.bottom ≤ y) (hy1 : y ≤ e c.box.top) :
    Real.exp (invLd e c uw uh ud y) = 1 / Real.exp (ld e c uw uh ud (inv e c uw uh ud y)) := by
  rw [invLd_eq_neg_ld hv y hy0 hy1, Real.exp_neg, one_div]

theorem inv_eqOn_bin (hv : RQValid e c uw uh ud) (k : ℕ) (hk : k < uw.length) :
    Set.EqOn (inv e c uw uh ud) (binInv e c uw uh ud k) (Set.Icc (ys e c uh k) (ys e c uh (k+1))) := by
  intro y hy
  have hmem := (searchedInv hv).mem k hk y hy.1 hy.2
  exact ((searchedInv hv).rightInv (searched hv)).inv_eq ((searched hv).bin_subset k hk hmem)
    (((searched hv).eqOn_bin k hk hmem).trans ((searchedInv hv).root k hk y hy.1 hy.2))

theorem rqSpline_dual_inv_closed (hi : RQValid e c uw uh ud) (y : ℝ) (hy0 : e c.box.bottom ≤ y) (hy1 : y ≤ e c.box.top) :
    ∃ v' l' : ℝ, rqSpline (dualX (NF.realX e)) c (uw.map ι) (uh.map ι) (ud.map ι) true (y, 1)
        = .ok ((inv e c uw uh ud y, v'), (invLd e c uw uh ud y, l')) ∧
      HasDerivAt (binInv e c uw uh ud (idxI e c uh y)) v' y ∧ HasDerivAt (binInvLd e c uw uh ud (idxI e c uh y)) l' y := by
  obtain ⟨dx, dl, hr, hO, hL⟩ := rqSpline_dual_inv_closed_curve (FW := fun _ => uw) (FH := fun _ => uh) (FD := fun _ => ud)
    (FY := fun s => s) (IsDualL.const uw y) (IsDualL.const uh y) (dv_const_dualL c ud y) (IsDual.id y)
    hi hy0 hy1
  refine ⟨dx.2, dl.2, ?_, hO.2, hL.2⟩
  rw [hr, inv_eq hi y hy0 hy1, invLd_eq hi y hy0 hy1]
  exact congrArg Except.ok (Prod.ext (Prod.ext hO.1 rfl) (Prod.ext hL.1 rfl))

/-- non-vacuity on the concrete accepted configuration of `RQWhole.valid_example` (one bin on the unit box) -/
theorem rqSpline_dual_inv_example (y : ℝ) (h0 : 0 < y) (h1 : y < 1) :
    ∃ l' : ℝ, rqSpline (dualX (NF.realX eNV)) cNV [ι 0] [ι 0] [ι 0, ι 0] true (y, 1)
        = .ok ((inv eNV cNV [0] [0] [0, 0] y, Real.exp (invLd eNV cNV [0] [0] [0, 0] y)),
            (invLd eNV cNV [0] [0] [0, 0] y, l')) ∧
      HasDerivAt (inv eNV cNV [0] [0] [0, 0]) (Real.exp (invLd eNV cNV [0] [0] [0, 0] y)) y := by
  obtain ⟨l', h, hd, -⟩ := rqSpline_dual_inv valid_example 0 (by simp) y (by rw [ys_example.1]; exact h0)
    (by rw [ys_example.2]; exact h1)
  exact ⟨l', h, hd⟩

/-! ### the joint direction along a straight line -/

/-- **PARAMETER (and input) direction, executed RQ INVERSE program**: run on the dual input `(y, y')` with the unnormalised
    widths / heights / derivatives carrying the tangent lists `uw' uh' ud'` (any direction), for `y` strictly inside y-bin `k`
    the dual program returns `((inv y, v'), (invLd y, l'))` where `v'`, `l'` are the derivatives at `s = 0` of the REAL
    executed inverse program's two outputs along the line `s ↦ (uw + s·uw', uh + s·uh', ud + s·ud', y + s·y')`.
    Side condition: no derivative parameter sits on the softplus threshold `β·u = 20` (a jump of the executed softplus). -/
theorem rqSpline_dual_inv_param (hv : RQValid e c uw uh ud) (uw' uh' ud' : List ℝ)
    (hlw : uw.length = uw'.length) (hlh : uh.length = uh'.length) (hld : ud.length = ud'.length)
    (hthr : ∀ k < ud.length, e c.beta * ud.getD k 0 ≠ 20)
    (k : ℕ) (hk : k < uw.length) (y y' : ℝ) (h0 : ys e c uh k < y) (h1 : y < ys e c uh (k+1)) :
    ∃ v' l' : ℝ, rqSpline (dualX (NF.realX e)) c (List.zip uw uw') (List.zip uh uh') (List.zip ud ud') true (y, y')
        = .ok ((inv e c uw uh ud y, v'), (invLd e c uw uh ud y, l')) ∧
      HasDerivAt (fun s => inv e c (DualXParam.lineL uw uw' s) (DualXParam.lineL uh uh' s) (DualXParam.lineL ud ud' s)
        (y + s * y')) v' 0 ∧
      HasDerivAt (fun s => invLd e c (DualXParam.lineL uw uw' s) (DualXParam.lineL uh uh' s) (DualXParam.lineL ud ud' s)
        (y + s * y')) l' 0 := by
  have zW : lineL uw uw' 0 = uw := lineL_zero uw uw' hlw.le
  have zH : lineL uh uh' 0 = uh := lineL_zero uh uh' hlh.le
  have zD : lineL ud ud' 0 = ud := lineL_zero ud ud' hld.le
  have hy0 : y + 0 * y' = y := by rw [zero_mul, add_zero]
  have := (rqSpline_dual_inv_param_curve (e := e) (c := c) (IsDualL.lineL uw uw') (IsDualL.lineL uh uh')
    (IsDualL.lineL ud ud') (IsDual.line y y') (by rw [zW, zH, zD]; exact hv) (by rw [zD]; exact hthr)
    k (by rw [zW]; exact hk) (by rw [zH, hy0]; exact h0) (by rw [zH, hy0]; exact h1)).dualRes.values
    (f := fun s => inv e c (lineL uw uw' s) (lineL uh uh' s) (lineL ud ud' s) (y + s * y'))
    (g := fun s => invLd e c (lineL uw uw' s) (lineL uh uh' s) (lineL ud ud' s) (y + s * y'))
    (fun _ => rfl) (fun _ => rfl)
  beta_reduce at this
  rwa [zW, zH, zD, hy0] at this

theorem rqSpline_dual_inv_param_fixed_y (hv : RQValid e c uw uh ud) (uw' uh' ud' : List ℝ)
    (hlw : uw.length = uw'.length) (hlh : uh.length = uh'.length) (hld : ud.length = ud'.length)
    (hthr : ∀ k < ud.length, e c.beta * ud.getD k 0 ≠ 20)
    (k : ℕ) (hk : k < uw.length) (y : ℝ) (h0 : ys e c uh k < y) (h1 : y < ys e c uh (k+1)) :
    ∃ v' l' : ℝ, rqSpline (dualX (NF.realX e)) c (List.zip uw uw') (List.zip uh uh') (List.zip ud ud') true (y, 0)
        = .ok ((inv e c uw uh ud y, v'), (invLd e c uw uh ud y, l')) ∧
      HasDerivAt (fun s => inv e c (DualXParam.lineL uw uw' s) (DualXParam.lineL uh uh' s) (DualXParam.lineL ud ud' s) y) v' 0 ∧
      HasDerivAt (fun s => invLd e c (DualXParam.lineL uw uw' s) (DualXParam.lineL uh uh' s) (DualXParam.lineL ud ud' s) y) l' 0 := by
  obtain ⟨v', l', h, hv', hl'⟩ := rqSpline_dual_inv_param hv uw' uh' ud' hlw hlh hld hthr k hk y 0 h0 h1
  refine ⟨v', l', h, ?_, ?_⟩
  · simpa using hv'
  · simpa using hl'

/-- non-vacuity on the concrete accepted configuration of `RQWhole.valid_example` (one bin on the unit box), EVERY direction
    `([a], [b], [p, q], y')` -/
theorem rqSpline_dual_inv_param_example (a b p q y y' : ℝ) (h0 : 0 < y) (h1 : y < 1) :
    ∃ v' l' : ℝ, rqSpline (dualX (NF.realX eNV)) cNV [(0, a)] [(0, b)] [(0, p), (0, q)] true (y, y')
        = .ok ((inv eNV cNV [0] [0] [0, 0] y, v'), (invLd eNV cNV [0] [0] [0, 0] y, l')) ∧
      HasDerivAt (fun s => inv eNV cNV [0 + s * a] [0 + s * b] [0 + s * p, 0 + s * q] (y + s * y')) v' 0 ∧
      HasDerivAt (fun s => invLd eNV cNV [0 + s * a] [0 + s * b] [0 + s * p, 0 + s * q] (y + s * y')) l' 0 :=
  rqSpline_dual_inv_param valid_example [a] [b] [p, q] rfl rfl rfl thr_example 0 (by simp) y y' (by rw [ys_example.1]; exact h0)
    (by rw [ys_example.2]; exact h1)

end inverse

end
end DualX
