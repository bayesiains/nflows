import NflowsModel.Core.TorchUtils
import NflowsModel.Lemmas.TorchUtils
/-!
# Lemmas/SplitInfer — `split_leading_dim` with an inferred `-1`: the FULL behaviour of the model, zero-size tensors included

`Properties/C20.split_merge_id_infer_partial` assumes `0 < prod (shape[1:])`.  Here the executed `inferSize` /
`splitLeading` are characterised completely (exactly when they succeed, with what, and that every failure is a
`RuntimeError`), and the split-then-merge round trip is stated as an `iff`: it returns `x` exactly when the trailing
block is non-empty or the explicit split multiplies to `shape[0]`.
-/
open NF NF.TU

namespace NF.SplitInfer
variable {α : Type}

def negCount (sh : List Int) : Nat := (sh.filter (· == -1)).length
def explProd (sh : List Int) : Nat := prodL ((sh.filter (· != -1)).map Int.toNat)

theorem any_eq_neg1_false {sh : List Int} (h : negCount sh = 0) : sh.any (· == -1) = false := by
  cases hb : sh.any (· == -1) with
  | false => rfl
  | true => have := filter_pos_of_any sh hb; unfold negCount at h; omega

theorem any_lt_false {sh : List Int} (h : ∀ d ∈ sh, -1 ≤ d) : sh.any (· < -1) = false := by
  rw [List.any_eq_false]; intro a ha; have := h a ha; simp only [decide_eq_true_eq]; omega

theorem any_lt_true {sh : List Int} (h : ∃ d ∈ sh, d < -1) : sh.any (· < -1) = true := by
  obtain ⟨d, hd, hlt⟩ := h
  exact List.any_eq_true.mpr ⟨d, hd, by simpa using hlt⟩

theorem explProd_of_explicit {sh : List Int} (h : negCount sh = 0) : explProd sh = prodL (sh.map Int.toNat) := by
  rw [explProd, filter_ne_neg1_of_any sh (any_eq_neg1_false h)]

/-! ## `inferSize`, completely -/

theorem inferSize_many (numel : Nat) (sh : List Int) (h : 1 < negCount sh) : inferSize numel sh = .error .runtime := by
  rw [inferSize_eq]; exact if_pos h

theorem inferSize_invalid (numel : Nat) (sh : List Int) (h : ∃ d ∈ sh, d < -1) : inferSize numel sh = .error .runtime := by
  rw [inferSize_eq]
  by_cases c1 : (sh.filter (· == -1)).length > 1
  · exact if_pos c1
  · rw [if_neg c1, if_pos (any_lt_true h)]

theorem inferSize_explicit (numel : Nat) (sh : List Int) (h0 : negCount sh = 0) (hge : ∀ d ∈ sh, -1 ≤ d) :
    inferSize numel sh = if numel = explProd sh then .ok (sh.map Int.toNat) else .error .runtime := by
  rw [explProd_of_explicit h0]
  exact inferSize_of_explicit numel sh (any_eq_neg1_false h0) (any_lt_false hge)

theorem inferSize_infer (numel : Nat) (sh : List Int) (h1 : negCount sh = 1) (hge : ∀ d ∈ sh, -1 ≤ d) :
    inferSize numel sh =
      if 0 < explProd sh ∧ explProd sh ∣ numel then .ok (sh.map (fillDim (numel / explProd sh))) else .error .runtime :=
  inferSize_of_infer numel sh h1 (any_lt_false hge)

theorem exists_lt_of_not_ge {sh : List Int} (hge : ¬ ∀ d ∈ sh, -1 ≤ d) : ∃ d ∈ sh, d < -1 := by
  by_contra hcon
  apply hge; intro d hd
  by_contra hlt
  exact hcon ⟨d, hd, by omega⟩

theorem inferSize_error_runtime {numel : Nat} {sh : List Int} {e : Err} (h : inferSize numel sh = .error e) : e = .runtime := by
  by_cases hge : ∀ d ∈ sh, -1 ≤ d
  · rcases Nat.lt_trichotomy (negCount sh) 1 with h1 | h1 | h1
    · rw [inferSize_explicit _ _ (by omega) hge] at h
      split at h
      · exact absurd h (by simp)
      · injection h with h; exact h.symm
    · rw [inferSize_infer _ _ h1 hge] at h
      split at h
      · exact absurd h (by simp)
      · injection h with h; exact h.symm
    · rw [inferSize_many _ _ h1] at h; injection h with h; exact h.symm
  · rw [inferSize_invalid _ _ (exists_lt_of_not_ge hge)] at h; injection h with h; exact h.symm

/-! ## the requested shape of `split_leading_dim`: `sh ++ shape[1:]` -/

theorem negCount_append_ofNat (sh : List Int) (t : List Nat) : negCount (sh ++ t.map Int.ofNat) = negCount sh := by
  simp [negCount, List.filter_append, filter_eq_neg1_ofNat]

theorem explProd_append_ofNat (sh : List Int) (t : List Nat) : explProd (sh ++ t.map Int.ofNat) = explProd sh * prodL t := by
  simp only [explProd, List.filter_append, filter_ne_neg1_ofNat, List.map_append, map_toNat_ofNat, prodL_append]

theorem ge_append_ofNat {sh : List Int} (t : List Nat) (h : ∀ d ∈ sh, -1 ≤ d) : ∀ d ∈ sh ++ t.map Int.ofNat, -1 ≤ d := by
  intro d hd
  rcases List.mem_append.mp hd with h1 | h1
  · exact h d h1
  · obtain ⟨b, _, rfl⟩ := List.mem_map.mp h1; simp only [Int.ofNat_eq_natCast]; omega

theorem map_toNat_append_ofNat (sh : List Int) (t : List Nat) :
    (sh ++ t.map Int.ofNat).map Int.toNat = sh.map Int.toNat ++ t := by
  rw [List.map_append, map_toNat_ofNat]

theorem map_fillDim_append_ofNat (q : Nat) (sh : List Int) (t : List Nat) :
    (sh ++ t.map Int.ofNat).map (fillDim q) = sh.map (fillDim q) ++ t := by
  rw [List.map_append, map_fillDim_ofNat]

/-! ## `splitLeading`, completely (a tensor of shape `[s0] ++ tail`, any sizes, zero included) -/

section
variable (x : T α) (s0 : ℕ) (tail : List ℕ) (sh : List Int)

theorem numel_eq (hx : x.shape = s0 :: tail) : x.numel = s0 * prodL tail := by simp [T.numel, hx, prodL]

theorem splitLeading_invalid (hx : x.shape = s0 :: tail) (h : ∃ d ∈ sh, d < -1) : splitLeading x sh = .error .runtime := by
  simp only [splitLeading, reshape, hx, List.drop_succ_cons, List.drop_zero]
  rw [inferSize_invalid _ _ (by obtain ⟨d, hd, hlt⟩ := h; exact ⟨d, List.mem_append_left _ hd, hlt⟩)]

theorem splitLeading_many (hx : x.shape = s0 :: tail) (h : 1 < negCount sh) : splitLeading x sh = .error .runtime := by
  simp only [splitLeading, reshape, hx, List.drop_succ_cons, List.drop_zero]
  rw [inferSize_many _ _ (by rw [negCount_append_ofNat]; exact h)]

/-- explicit split: accepted iff the ELEMENT COUNTS agree, `prod sh * prod tail = s0 * prod tail` — on a zero-size
    trailing block every explicit split is accepted (torch cannot check it against `shape[0]`) -/
theorem splitLeading_explicit (hx : x.shape = s0 :: tail) (h0 : negCount sh = 0) (hge : ∀ d ∈ sh, -1 ≤ d) :
    splitLeading x sh =
      if s0 * prodL tail = explProd sh * prodL tail then .ok ⟨sh.map Int.toNat ++ tail, x.data⟩ else .error .runtime := by
  simp only [splitLeading, reshape, hx, List.drop_succ_cons, List.drop_zero]
  rw [inferSize_explicit _ _ (by rw [negCount_append_ofNat]; exact h0) (ge_append_ofNat tail hge),
    explProd_append_ofNat, numel_eq x s0 tail hx, map_toNat_append_ofNat]
  by_cases heq : s0 * prodL tail = explProd sh * prodL tail
  · simp only [heq, if_true]
  · simp only [heq, if_false]

theorem splitLeading_infer (hx : x.shape = s0 :: tail) (h1 : negCount sh = 1) (hge : ∀ d ∈ sh, -1 ≤ d) :
    splitLeading x sh =
      if 0 < prodL tail ∧ 0 < explProd sh ∧ explProd sh ∣ s0 then
        .ok ⟨sh.map (fillDim (s0 / explProd sh)) ++ tail, x.data⟩ else .error .runtime := by
  simp only [splitLeading, reshape, hx, List.drop_succ_cons, List.drop_zero]
  rw [inferSize_infer _ _ (by rw [negCount_append_ofNat]; exact h1) (ge_append_ofNat tail hge),
    explProd_append_ofNat, numel_eq x s0 tail hx, map_fillDim_append_ofNat]
  by_cases hc : 0 < prodL tail ∧ 0 < explProd sh ∧ explProd sh ∣ s0
  · obtain ⟨ht, hp, hd⟩ := hc
    have hc' : 0 < explProd sh * prodL tail ∧ explProd sh * prodL tail ∣ s0 * prodL tail :=
      ⟨Nat.mul_pos hp ht, Nat.mul_dvd_mul_right hd _⟩
    rw [if_pos hc', if_pos ⟨ht, hp, hd⟩, Nat.mul_div_mul_right _ _ ht]
  · have hc' : ¬ (0 < explProd sh * prodL tail ∧ explProd sh * prodL tail ∣ s0 * prodL tail) := by
      rintro ⟨hpos, hd⟩
      have ht : 0 < prodL tail := Nat.pos_of_mul_pos_left hpos
      have hp : 0 < explProd sh := Nat.pos_of_mul_pos_right hpos
      exact hc ⟨ht, hp, (Nat.mul_dvd_mul_iff_right ht).mp hd⟩
    rw [if_neg hc', if_neg hc]

theorem splitLeading_error_runtime {e : Err} (h : splitLeading x sh = .error e) : e = .runtime := by
  simp only [splitLeading, reshape] at h
  cases hinf : inferSize (T.numel x) (sh ++ (x.shape.drop 1).map Int.ofNat) with
  | error e' => rw [hinf] at h; injection h with h; subst h; exact inferSize_error_runtime hinf
  | ok s => rw [hinf] at h; exact absurd h (by simp)

def Accepts : Prop :=
  (∀ d ∈ sh, -1 ≤ d) ∧
    ((negCount sh = 0 ∧ (prodL tail = 0 ∨ explProd sh = s0)) ∨
     (negCount sh = 1 ∧ 0 < prodL tail ∧ 0 < explProd sh ∧ explProd sh ∣ s0))

def filled : List ℕ := sh.map (fillDim (s0 / explProd sh))

theorem filled_length : (filled s0 sh).length = sh.length := by simp [filled]

theorem splitLeading_ok_iff (hx : x.shape = s0 :: tail) :
    (∃ y, splitLeading x sh = .ok y) ↔ Accepts s0 tail sh := by
  by_cases hge : ∀ d ∈ sh, -1 ≤ d
  · rcases Nat.lt_trichotomy (negCount sh) 1 with h | h | h
    · have h0 : negCount sh = 0 := by omega
      rw [splitLeading_explicit x s0 tail sh hx h0 hge]
      constructor
      · rintro ⟨y, hy⟩
        split at hy
        · rename_i heq
          refine ⟨hge, Or.inl ⟨h0, ?_⟩⟩
          rcases Nat.eq_zero_or_pos (prodL tail) with ht | ht
          · exact Or.inl ht
          · exact Or.inr (Nat.eq_of_mul_eq_mul_right ht heq).symm
        · exact absurd hy (by simp)
      · rintro ⟨_, ⟨_, h2⟩ | ⟨h2, _⟩⟩
        · have : s0 * prodL tail = explProd sh * prodL tail := by
            rcases h2 with h2 | h2
            · simp [h2]
            · rw [h2]
          rw [if_pos this]; exact ⟨_, rfl⟩
        · omega
    · rw [splitLeading_infer x s0 tail sh hx h hge]
      constructor
      · rintro ⟨y, hy⟩
        split at hy
        · rename_i hc; exact ⟨hge, Or.inr ⟨h, hc⟩⟩
        · exact absurd hy (by simp)
      · rintro ⟨_, ⟨h2, _⟩ | ⟨_, hc⟩⟩
        · omega
        · rw [if_pos hc]; exact ⟨_, rfl⟩
    · rw [splitLeading_many x s0 tail sh hx h]
      constructor
      · rintro ⟨y, hy⟩; exact absurd hy (by simp)
      · rintro ⟨_, ⟨h2, _⟩ | ⟨h2, _⟩⟩ <;> omega
  · have hex : ∃ d ∈ sh, d < -1 := exists_lt_of_not_ge hge
    rw [splitLeading_invalid x s0 tail sh hx hex]
    constructor
    · rintro ⟨y, hy⟩; exact absurd hy (by simp)
    · rintro ⟨h1, _⟩; exact absurd h1 hge

theorem splitLeading_error_iff (hx : x.shape = s0 :: tail) :
    splitLeading x sh = .error .runtime ↔ ¬ Accepts s0 tail sh := by
  rw [← splitLeading_ok_iff x s0 tail sh hx]
  cases h : splitLeading x sh with
  | error e =>
    obtain rfl := splitLeading_error_runtime x sh h
    exact ⟨fun _ ⟨_, hy⟩ => (nomatch hy), fun _ => rfl⟩
  | ok y => exact ⟨fun h => (nomatch h), fun h => absurd ⟨y, rfl⟩ h⟩

theorem splitLeading_value (hx : x.shape = s0 :: tail) (y : T α) (h : splitLeading x sh = .ok y) :
    y = ⟨filled s0 sh ++ tail, x.data⟩ := by
  have hacc := (splitLeading_ok_iff x s0 tail sh hx).mp ⟨y, h⟩
  obtain ⟨hge, ⟨h0, h2⟩ | ⟨h1, hc⟩⟩ := hacc
  · rw [splitLeading_explicit x s0 tail sh hx h0 hge] at h
    split at h
    · injection h with h
      rw [← h, filled, map_toNat_eq_fillDim (s0 / explProd sh) sh (any_eq_neg1_false h0)]
    · exact absurd h (by simp)
  · rw [splitLeading_infer x s0 tail sh hx h1 hge, if_pos hc] at h
    injection h with h; exact h.symm

theorem prodL_filled (hacc : Accepts s0 tail sh) :
    prodL (filled s0 sh) = if negCount sh = 0 then explProd sh else s0 := by
  obtain ⟨hge, ⟨h0, h2⟩ | ⟨h1, _, hp, hd⟩⟩ := hacc
  · rw [if_pos h0, filled, prodL_map_fillDim]
    unfold negCount at h0; rw [h0]; simp [explProd]
  · rw [if_neg (by omega), filled, prodL_map_fillDim]
    unfold negCount at h1; rw [h1, pow_one]
    exact Nat.div_mul_cancel hd
end

/-! ## merge after split -/

/-- **split (explicit or with one `-1`) then merge, EVERY tensor `[s0] ++ tail` (zero sizes included), full statement.**
    Whenever the split returns `y`: the data is unchanged, `y.shape = s ++ tail` with `len s = len sh`, merging the
    `len sh` leading dimensions always succeeds with shape `[prod s] ++ tail`, and it gives back `x` itself IFF
    `prod s = shape[0]` IFF (the trailing block is non-empty OR the explicit split multiplies to `shape[0]`).
    The only way to miss is the zero-size trailing block with a wrong explicit split (which torch cannot reject). -/
theorem split_merge_id_infer (x y : T α) (s0 : ℕ) (tail : List ℕ) (sh : List Int) (hx : x.shape = s0 :: tail)
    (hsh : sh ≠ []) (h : splitLeading x sh = .ok y) :
    y.data = x.data ∧
    (∃ s : List ℕ, s.length = sh.length ∧ y.shape = s ++ tail ∧ prodL s * prodL tail = s0 * prodL tail ∧
      mergeLeading y (.int sh.length) = .ok ⟨prodL s :: tail, x.data⟩ ∧
      (mergeLeading y (.int sh.length) = .ok x ↔ prodL s = s0)) ∧
    (mergeLeading y (.int sh.length) = .ok x ↔ (0 < prodL tail ∨ explProd sh = s0)) := by
  have hacc := (splitLeading_ok_iff x s0 tail sh hx).mp ⟨y, h⟩
  have hy := splitLeading_value x s0 tail sh hx y h
  have hlen : 0 < sh.length := List.length_pos_of_ne_nil hsh
  have hm : mergeLeading y (.int sh.length) = .ok ⟨prodL (filled s0 sh) :: tail, x.data⟩ := by
    have := mergeLeading_ok (⟨filled s0 sh ++ tail, x.data⟩ : T α) sh.length hlen (by simp [filled])
    rw [hy, this]
    have e1 : (filled s0 sh ++ tail).take sh.length = filled s0 sh := List.take_left' (filled_length s0 sh)
    have e2 : (filled s0 sh ++ tail).drop sh.length = tail := List.drop_left' (filled_length s0 sh)
    simp only [e1, e2]
  have hxe : x = ⟨s0 :: tail, x.data⟩ := by cases x; simp_all
  have hiff : mergeLeading y (.int sh.length) = .ok x ↔ prodL (filled s0 sh) = s0 := by
    rw [hm]
    constructor
    · intro heq
      have h2 : (⟨prodL (filled s0 sh) :: tail, x.data⟩ : T α) = x := by injection heq
      have h3 := congrArg T.shape h2
      rw [hx] at h3
      simp only [List.cons.injEq, and_true] at h3
      exact h3
    · intro heq; rw [heq, ← hxe]
  have hprod := prodL_filled s0 tail sh hacc
  refine ⟨by rw [hy], ⟨filled s0 sh, filled_length s0 sh, by rw [hy], ?_, hm, hiff⟩, ?_⟩
  · obtain ⟨_, ⟨h0, h2⟩ | ⟨h1, _⟩⟩ := hacc
    · rw [hprod, if_pos h0]
      rcases h2 with h2 | h2
      · simp [h2]
      · rw [h2]
    · rw [hprod, if_neg (by omega)]
  · rw [hiff, hprod]
    obtain ⟨_, ⟨h0, h2⟩ | ⟨h1, ht, _⟩⟩ := hacc
    · rw [if_pos h0]
      constructor
      · intro he; exact Or.inr he
      · rintro (ht | he)
        · rcases h2 with h2 | h2
          · omega
          · exact h2
        · exact he
    · rw [if_neg (by omega)]
      exact ⟨fun _ => Or.inl ht, fun _ => rfl⟩

/-- the `_partial` theorem of `Properties/C20` is the case `0 < prod tail` -/
theorem split_merge_id_infer_of_pos (x y : T α) (s0 : ℕ) (tail : List ℕ) (sh : List Int) (hx : x.shape = s0 :: tail)
    (hp : 0 < prodL tail) (hsh : sh ≠ []) (h : splitLeading x sh = .ok y) :
    y.data = x.data ∧ (∃ s : List ℕ, s.length = sh.length ∧ y.shape = s ++ tail ∧ prodL s = s0) ∧
      mergeLeading y (.int sh.length) = .ok x := by
  obtain ⟨hd, ⟨s, hl, hs, _, _, hiff⟩, hiff2⟩ := split_merge_id_infer x y s0 tail sh hx hsh h
  have hm := hiff2.mpr (Or.inl hp)
  exact ⟨hd, ⟨s, hl, hs, hiff.mp hm⟩, hm⟩

theorem splitLeading_infer_empty (x : T α) (s0 : ℕ) (tail : List ℕ) (sh : List Int) (hx : x.shape = s0 :: tail)
    (ht : prodL tail = 0) (hneg : (-1 : Int) ∈ sh) : splitLeading x sh = .error .runtime := by
  rw [splitLeading_error_iff x s0 tail sh hx]
  rintro ⟨_, ⟨h0, _⟩ | ⟨_, hpos, _⟩⟩
  · have := any_eq_neg1_false h0
    rw [List.any_eq_false] at this
    exact this (-1) hneg (by simp)
  · omega

theorem splitLeading_explicit_empty (x : T α) (s0 : ℕ) (tail : List ℕ) (s : List ℕ) (hx : x.shape = s0 :: tail)
    (ht : prodL tail = 0) : splitLeading x (s.map Int.ofNat) = .ok ⟨s ++ tail, x.data⟩ := by
  have h0 : negCount (s.map Int.ofNat) = 0 := by simp [negCount, filter_eq_neg1_ofNat]
  have hge : ∀ d ∈ s.map Int.ofNat, -1 ≤ d := by
    intro d hd; obtain ⟨b, _, rfl⟩ := List.mem_map.mp hd; simp only [Int.ofNat_eq_natCast]; omega
  rw [splitLeading_explicit x s0 tail _ hx h0 hge, if_pos (by simp [ht]), map_toNat_ofNat]

end NF.SplitInfer
