import NflowsModel.Core.View
import Mathlib.Tactic.Ring
import Mathlib.Tactic.Linarith
/-! # Lemmas/ViewLayout — reading a strided view is reading a flat offset; the `[B, C·M, H, W]` parameter layout -/
namespace View
variable {α : Type} [Inhabited α]

theorem foldl_mul (l : List Nat) (a : Nat) : l.foldl (· * ·) a = a * l.foldl (· * ·) 1 := by
  induction l generalizing a with
  | nil => simp
  | cons x xs ih => simp only [List.foldl_cons]; rw [ih (a * x), ih (1 * x)]; ring

theorem get_congr {v w : View α} {idx idx' : List Nat} (hd : v.data = w.data)
    (h : v.offset + dot idx v.strides = w.offset + dot idx' w.strides) : v.get idx = w.get idx' := by
  rw [get, get, hd, h]

/-- `transform_params.reshape(b, c, -1, h, w).permute(0, 1, 3, 4, 2)` (coupling.py:283-285):
    entry (b,c,i,j,k) is the conditioner's channel `c*M + k` at pixel (i,j) of batch item b. -/
theorem param_layout_img (P : Array α) (B C M H W b c i j k : Nat) :
    (((ofArray P [B, C*M, H, W]).reshape [B, C, M, H, W]).permute [0,1,3,4,2]).get [b,c,i,j,k]
      = (ofArray P [B, C*M, H, W]).get [b, c*M + k, i, j] := by
  refine get_congr rfl ?_
  simp only [permute, reshape, ofArray, rowMajor, dot, List.map, List.getD_cons_succ, List.getD_cons_zero, List.foldl]
  ring
end View

