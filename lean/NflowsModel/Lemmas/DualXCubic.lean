import NflowsModel.Lemmas.DualXQuad
import NflowsModel.Lemmas.CubicWhole
/-!
# Lemmas/DualXCubic — the EXECUTED piecewise-cubic (monotone Hermite) spline run on dual numbers: the execution lemma of both
directions, and the forward direction (C16)

The stages of the normal form of `Lemmas/CubicProgram.lean` (`Wg`, `cumwG`, … `tailProgG`, declared there in this namespace, generic
in the scalar record) commute with any `DualX.XHom`, so do its seven gathers (`gather_hom`);
at `NF.realX e` the lists are those of `Lemmas/CubicWhole.lean`.  With zero-tangent parameters the dual run of either direction
selects the bin of the real run and evaluates `CubicProgram.core` on the zero-tangent lifts of that bin's entries (`exec_dual`).
Forward, the `clamp 0 1` is not at a tie anywhere in the open box (`nval_unit_open`).  Strictly inside a bin the run returns
`((val x, exp (ld x)), (ld x, l'), [])`; at EVERY point of the open box, interior knots included, the value tangent is still the
true derivative (the spline is C¹).
-/
open NF DualSound DualX Filter Topology

namespace DualXCubic

/-! ### the list stages of `cubicSpline` commute with any homomorphism of `XOps` -/
section homfree
variable {α β : Type} {φ : α → β}

theorem hom_minPair (o₁ : XOps α) (o₂ : XOps β) (f : α → α → α) (g : β → β → β)
    (hfg : ∀ a b, φ (f a b) = g (φ a) (φ b)) :
    ∀ l : List α, (minPair o₁ f l).map φ = minPair o₂ g (l.map φ)
  | [] => rfl
  | [_] => rfl
  | a :: b :: r => by
    have := hom_minPair o₁ o₂ f g hfg (b :: r)
    simp only [List.map_cons] at this
    simp only [minPair, List.map_cons, hfg, this]

end homfree

section hom
variable {α β : Type} {o₁ : XOps α} {o₂ : XOps β} {φ : α → β} (h : XHom o₁ o₂ φ)
include h

theorem hom_sign (x : α) : φ (o₁.sign x) = o₂.sign (φ x) := by
  simp only [XOps.sign, h.ite_lt, h.zero, h.neg, h.one]

theorem hom_ms2f (w s : List α) :
    (cubicSpline.ms2f o₁ w s).map φ = cubicSpline.ms2f o₂ (w.map φ) (s.map φ) := by
  induction w generalizing s with
  | nil => simp [cubicSpline.ms2f]
  | cons w0 wt ih =>
    cases wt with
    | nil => simp [cubicSpline.ms2f]
    | cons w1 wr =>
      match s with
      | [] => simp [cubicSpline.ms2f]
      | [_] => simp [cubicSpline.ms2f]
      | s0 :: s1 :: sr =>
        have := ih (s1 :: sr)
        simp only [List.map_cons] at this
        simp only [cubicSpline.ms2f, List.map_cons, h.div, h.mul, h.add, h.ofFloat, this]

variable (c : CCfg)

theorem hom_W (uw : List α) : (Wg o₁ c uw).map φ = Wg o₂ c (uw.map φ) := h.flooredSoftmax _ _
theorem hom_H (uh : List α) : (Hg o₁ c uh).map φ = Hg o₂ c (uh.map φ) := h.flooredSoftmax _ _

theorem hom_cumw (uw : List α) : (cumwG o₁ c uw).map φ = cumwG o₂ c (uw.map φ) := by
  unfold cumwG
  rw [List.map_cons, XHom.setLast, h.cumsumG, hom_W h, h.zero, h.one]

theorem hom_cumh (uh : List α) : (cumhG o₁ c uh).map φ = cumhG o₂ c (uh.map φ) := by
  unfold cumhG
  rw [List.map_cons, XHom.setLast, h.cumsumG, hom_H h, h.zero, h.one]

theorem hom_slopes (uw uh : List α) : (slopesG o₁ c uw uh).map φ = slopesG o₂ c (uw.map φ) (uh.map φ) := by
  unfold slopesG
  rw [hom_zipWith _ _ h.div, hom_H h, hom_W h]

theorem hom_ms (uw uh : List α) : (msG o₁ c uw uh).map φ = msG o₂ c (uw.map φ) (uh.map φ) := by
  unfold msG
  rw [hom_zipWith _ _ h.minA,
    hom_minPair o₁ o₂ (fun a b => o₁.minA (o₁.abs a) (o₁.abs b)) (fun a b => o₂.minA (o₂.abs a) (o₂.abs b))
      (fun a b => by rw [h.minA, h.abs, h.abs]),
    hom_ms2f h, hom_slopes h, hom_W h]

theorem hom_sgn (uw uh : List α) : (sgnG o₁ c uw uh).map φ = sgnG o₂ c (uw.map φ) (uh.map φ) := by
  unfold sgnG
  rw [hom_minPair o₁ o₂ (fun a b => o₁.add (o₁.sign a) (o₁.sign b)) (fun a b => o₂.add (o₂.sign a) (o₂.sign b))
      (fun a b => by rw [h.add, hom_sign h, hom_sign h]), hom_slopes h]

theorem hom_derivsOf (uw uh : List α) (udl udr s0 sl : α) :
    (derivsOfG o₁ c uw uh udl udr s0 sl).map φ
      = derivsOfG o₂ c (uw.map φ) (uh.map φ) (φ udl) (φ udr) (φ s0) (φ sl) := by
  unfold derivsOfG
  simp only [List.map_cons, List.map_append, List.map_nil, h.mul, h.sigmoid, h.ofNat, hom_zipWith _ _ h.mul,
    hom_ms h, hom_sgn h]

theorem hom_aEl (l r s w : α) : φ (aEl o₁ l r s w) = aEl o₂ (φ l) (φ r) (φ s) (φ w) := by
  simp only [aEl, h.div, h.sub, h.add, h.mul, DualXQuad.hom_two h]

theorem hom_bEl (l r s w : α) : φ (bEl o₁ l r s w) = bEl o₂ (φ l) (φ r) (φ s) (φ w) := by
  simp only [bEl, h.div, h.sub, h.mul, DualXQuad.hom_two h, h.ofNat]

theorem hom_aLof (K : ℕ) (uw uh dv : List α) :
    (aLofG o₁ c K uw uh dv).map φ = aLofG o₂ c K (uw.map φ) (uh.map φ) (dv.map φ) := by
  unfold aLofG
  rw [List.map_map, ← hom_slopes h, ← hom_W h, ← List.map_take, ← List.map_drop, ← h.zero, ← h.one]
  apply List.map_congr_left
  intro k _
  simp only [Function.comp, hom_getD, hom_aEl h]

theorem hom_bLof (K : ℕ) (uw uh dv : List α) :
    (bLofG o₁ c K uw uh dv).map φ = bLofG o₂ c K (uw.map φ) (uh.map φ) (dv.map φ) := by
  unfold bLofG
  rw [List.map_map, ← hom_slopes h, ← hom_W h, ← List.map_take, ← List.map_drop, ← h.zero, ← h.one]
  apply List.map_congr_left
  intro k _
  simp only [Function.comp, hom_getD, hom_bEl h]

/-- **the seven gathers on parameters lifted along a homomorphism of scalar semantics return the lifted entries** -/
theorem gather_hom {γ : Type} (K : ℕ) (uw uh dv : List α) (i : ℕ) (d0 : α) (hi : i < K)
    (hdv : i < (dv.take K).length) (hch : i < (cumhG o₁ c uh).length) (hcw : i + 1 < (cumwG o₁ c uw).length)
    (hH : i < (Hg o₁ c uh).length) (k : β → β → β → β → β → β → β → Except Err γ) :
    CubicProgram.gather o₂ c K (uw.map φ) (uh.map φ) (dv.map φ) (i : Int) k
      = k (φ ((aLofG o₁ c K uw uh dv).getD i d0)) (φ ((bLofG o₁ c K uw uh dv).getD i d0)) (φ ((dv.take K).getD i d0))
          (φ ((cumhG o₁ c uh).getD i d0)) (φ ((cumwG o₁ c uw).getD i d0)) (φ ((cumwG o₁ c uw).getD (i+1) d0))
          (φ ((Hg o₁ c uh).getD i d0)) := by
  rw [CubicProgram.gather_eq o₂ c K _ _ _ i (φ d0) hi (by rw [← List.map_take, List.length_map]; exact hdv)
      (by rw [← hom_cumh h, List.length_map]; exact hch) (by rw [← hom_cumw h, List.length_map]; exact hcw)
      (by rw [← hom_H h, List.length_map]; exact hH),
    ← hom_aLof h, ← hom_bLof h, ← List.map_take, ← hom_cumh h, ← hom_cumw h, ← hom_H h]
  simp only [hom_getD]

end hom

noncomputable section
open CubicWhole
variable (e : Float → ℝ)

/-! ### the real program of `Lemmas/CubicWhole.lean` is the generic normal form at `NF.realX e` -/

theorem tailProg_eq_G (c : CCfg) (uw uh dv : List ℝ) (t : ℝ) :
    tailProg e c uw uh dv t = tailProgG (NF.realX e) c uw.length uw uh dv t := rfl

/-! ### the per-bin dual environment and the two outputs the dual program forms from it -/

def envD (c : CCfg) (uw uh : List ℝ) (udl udr : ℝ) (k : ℕ) (x' : ℝ × ℝ) : List (ℝ × ℝ) :=
  [x', ι (cws e c uw k), ι (aK e c uw uh udl udr k), ι (bK e c uw uh udl udr k), ι (dv e c uw uh udl udr k),
    ι (chs e c uh k)]

def yD (c : CCfg) (env : List (ℝ × ℝ)) : ℝ × ℝ :=
  (dualX (NF.realX e)).add ((dualX (NF.realX e)).mul
    ((dualX (NF.realX e)).clamp (dualX (NF.realX e)).zero (dualX (NF.realX e)).one (evalX (dualX (NF.realX e)) env cubicFwdE))
    ((dualX (NF.realX e)).ofFloat (c.box.top - c.box.bottom))) ((dualX (NF.realX e)).ofFloat c.box.bottom)
def lD (c : CCfg) (env : List (ℝ × ℝ)) : ℝ × ℝ :=
  (dualX (NF.realX e)).add ((dualX (NF.realX e)).log (evalX (dualX (NF.realX e)) env cubicDerivE))
    ((dualX (NF.realX e)).ofFloat (boxLog c.box))

def xnD (c : CCfg) (x : ℝ) : ℝ × ℝ := xnG (dualX (NF.realX e)) c (x, 1)

variable {e}
variable {c : CCfg} {uw uh : List ℝ} {udl udr : ℝ}

theorem gather_dual (hv : CubicValid e c uw uh) {i : ℕ} (hi : i < uw.length) {β : Type}
    (k : ℝ × ℝ → ℝ × ℝ → ℝ × ℝ → ℝ × ℝ → ℝ × ℝ → ℝ × ℝ → ℝ × ℝ → Except Err β) :
    CubicProgram.gather (dualX (NF.realX e)) c uw.length (uw.map ι) (uh.map ι) ((derivs e c uw uh udl udr).map ι) (i : Int) k
      = k (ι (aK e c uw uh udl udr i)) (ι (bK e c uw uh udl udr i)) (ι (dv e c uw uh udl udr i)) (ι (chs e c uh i))
          (ι (cws e c uw i)) (ι (cws e c uw (i+1))) (ι (CubicWhole.hv e c uh i)) := by
  obtain ⟨h1, h2, h3, h4⟩ := lens (udl := udl) (udr := udr) hv hi
  rw [gather_hom (lift_hom e) c uw.length uw uh _ i 0 hi h1 h2 h3 h4]
  exact congrArg₂ (fun a b => k (ι a) (ι b) _ _ _ _ _) (aLof_getD hv hi) (bLof_getD hv hi) |>.trans
    (by rw [getD_take _ _ _ hi]; rfl)

/-- **the dual run on zero-tangent parameters, either direction, any input tangent**: for every input whose value is in the
    domain it selects the bin of the real run and evaluates `core` on the zero-tangent lifts of that bin's entries (floored
    softmax, cumsum, pinned knots, slopes, `minPair`/`ms2f` knot derivatives, sigmoid end derivatives, per-bin
    coefficients, search, gathers all act on / keep zero tangents) -/
theorem exec_dual (hv : CubicValid e c uw uh) (d : Bool) (x' : ℝ × ℝ)
    (hx0 : e (if d then c.box.bottom else c.box.left) ≤ x'.1) (hx1 : x'.1 ≤ e (if d then c.box.top else c.box.right))
    (ht : 0 ≤ (CubicProgram.normIn (dualX (NF.realX e)) c d x').1 ∧ (CubicProgram.normIn (dualX (NF.realX e)) c d x').1 ≤ 1) :
    cubicSpline (dualX (NF.realX e)) c (uw.map ι) (uh.map ι) (ι udl) (ι udr) d x'
      = .ok (CubicProgram.core (dualX (NF.realX e)) c d
          (ι (aK e c uw uh udl udr (idxD e c uw uh d (CubicProgram.normIn (dualX (NF.realX e)) c d x').1)))
          (ι (bK e c uw uh udl udr (idxD e c uw uh d (CubicProgram.normIn (dualX (NF.realX e)) c d x').1)))
          (ι (dv e c uw uh udl udr (idxD e c uw uh d (CubicProgram.normIn (dualX (NF.realX e)) c d x').1)))
          (ι (chs e c uh (idxD e c uw uh d (CubicProgram.normIn (dualX (NF.realX e)) c d x').1)))
          (ι (cws e c uw (idxD e c uw uh d (CubicProgram.normIn (dualX (NF.realX e)) c d x').1)))
          (ι (cws e c uw (idxD e c uw uh d (CubicProgram.normIn (dualX (NF.realX e)) c d x').1 + 1)))
          (ι (CubicWhole.hv e c uh (idxD e c uw uh d (CubicProgram.normIn (dualX (NF.realX e)) c d x').1)))
          (CubicProgram.normIn (dualX (NF.realX e)) c d x')) := by
  have hL := lift_hom e
  have hg1 := d_guard e _ _ x' hx0 hx1
  have hS : slopesG (dualX (NF.realX e)) c (uw.map ι) (uh.map ι) = (slopes e c uw uh).map ι := (hom_slopes hL c uw uh).symm
  have hdv : derivsOfG (dualX (NF.realX e)) c (uw.map ι) (uh.map ι) (ι udl) (ι udr) (ι (sv e c uw uh 0))
      (ι (sv e c uw uh (uw.length - 1))) = (derivs e c uw uh udl udr).map ι := (hom_derivsOf hL c uw uh udl udr _ _).symm
  obtain ⟨hs, hiK⟩ := search_eq hv d _ ht.1 ht.2
  have hs' : searchsortedG (dualX (NF.realX e)) c.seps
      (if d then cumhG (dualX (NF.realX e)) c (uh.map ι) else cumwG (dualX (NF.realX e)) c (uw.map ι))
      (CubicProgram.normIn (dualX (NF.realX e)) c d x') = ((idxD e c uw uh d (CubicProgram.normIn (dualX (NF.realX e)) c d x').1 : ℕ) : Int) := by
    rw [← hs, ← DualXQuad.search_lift]
    cases d
    · exact congrArg (fun l => searchsortedG _ _ l _) (hom_cumw hL c uw).symm
    · exact congrArg (fun l => searchsortedG _ _ l _) (hom_cumh hL c uh).symm
  rw [CubicProgram.cubicSpline_eq]
  simp only [hg1, List.length_map, hv.hgW, hv.hgH, Bool.false_eq_true, if_false, hS]
  rw [XHom.getI_ok (φ := ι) _ _ _ (getI_slopes hv).1, XHom.getI_ok (φ := ι) _ _ _ (getI_slopes hv).2]
  simp only [bind_ok, hdv, hs']
  exact gather_dual hv hiK _

theorem xnD_fst (x : ℝ) : (xnD e c x).1 = xn e c x := rfl

theorem xnD_isDual (hv : CubicValid e c uw uh) (x : ℝ) : IsDual (xn e c) x (xnD e c x) := by
  have hD : e c.box.right - e c.box.left ≠ 0 := (sub_pos.mpr hv.hlr).ne'
  refine (IsDual.div e (IsDual.sub e (IsDual.id x) (IsDual.ofFloat e c.box.left x))
    (IsDual.ofFloat e (c.box.right - c.box.left) x) ?_).congr_fun (fun s => rfl)
  rw [d_ofFloat, hv.hdlr]; exact hD

theorem cubicSpline_dual_exec (hv : CubicValid e c uw uh) (x : ℝ) (hx0 : e c.box.left ≤ x) (hx1 : x ≤ e c.box.right) :
    cubicSpline (dualX (NF.realX e)) c (uw.map ι) (uh.map ι) (ι udl) (ι udr) false (x, 1)
      = .ok (yD e c (envD e c uw uh udl udr (idxN e c uw (xn e c x)) (xnD e c x)),
             lD e c (envD e c uw uh udl udr (idxN e c uw (xn e c x)) (xnD e c x)), []) := by
  have h := exec_dual (udl := udl) (udr := udr) hv false (x, 1) hx0 hx1 (xn_unit hv x hx0 hx1)
  simp only [CubicProgram.core, CubicProgram.normIn, idxD, Bool.false_eq_true, if_false] at h
  exact h

/-! ### per-bin soundness: both bin terms are polynomials, hence smooth everywhere -/

theorem cubicFwd_smooth (env : ℕ → ℝ) : Smooth env cubicFwdE := by
  simp only [cubicFwdE, NF.v, Expr.add_def, Expr.sub_def, Expr.mul_def, Smooth, and_self]

theorem cubicDeriv_smooth (env : ℕ → ℝ) : Smooth env cubicDerivE := by
  simp only [cubicDerivE, NF.v, Expr.add_def, Expr.sub_def, Expr.mul_def, Expr.ofNat_def, Smooth, and_self]

theorem cEnv_isDual {g : ℝ → ℝ} {x : ℝ} {x' : ℝ × ℝ} (hx : IsDual g x x') (a1 a2 a3 a4 a5 : ℝ) (E : Expr)
    (hs : Smooth (Bridge.cEnv (g x) a1 a2 a3 a4 a5) E) :
    IsDual (fun z => evalR (Bridge.cEnv (g z) a1 a2 a3 a4 a5) E) x
      (evalX (dualX (NF.realX e)) [x', ι a1, ι a2, ι a3, ι a4, ι a5] E) :=
  (DualXParam.evalX_isDual (DualXParam.IsDualL.cons hx (DualXParam.IsDualL.const [a1, a2, a3, a4, a5] x)) E hs).congr_fun
    (fun _ => SplineExec.evalX_eq_evalR e _ _)

theorem binN_isDual {g : ℝ → ℝ} {x : ℝ} {x' : ℝ × ℝ} (hx : IsDual g x x') (k : ℕ) :
    IsDual (fun z => binN e c uw uh udl udr k (g z)) x
      (evalX (dualX (NF.realX e)) (envD e c uw uh udl udr k x') cubicFwdE) :=
  cEnv_isDual hx _ _ _ _ _ cubicFwdE (cubicFwd_smooth _)

theorem binD_isDual {g : ℝ → ℝ} {x : ℝ} {x' : ℝ × ℝ} (hx : IsDual g x x') (k : ℕ) :
    IsDual (fun z => binD e c uw uh udl udr k (g z)) x
      (evalX (dualX (NF.realX e)) (envD e c uw uh udl udr k x') cubicDerivE) :=
  cEnv_isDual hx _ _ _ _ _ cubicDerivE (cubicDeriv_smooth _)

/-- the two outputs of the real program when bin `k` is selected (exactly the shape `exec_eq_bin` returns) -/
def Fk (e : Float → ℝ) (c : CCfg) (uw uh : List ℝ) (udl udr : ℝ) (k : ℕ) (z : ℝ) : ℝ :=
  (NF.realX e).clamp 0 1 (binN e c uw uh udl udr k (xn e c z)) * e (c.box.top - c.box.bottom) + e c.box.bottom
def Gk (e : Float → ℝ) (c : CCfg) (uw uh : List ℝ) (udl udr : ℝ) (k : ℕ) (z : ℝ) : ℝ :=
  Real.log (binD e c uw uh udl udr k (xn e c z)) + e (boxLog c.box)

theorem val_eq_Fk (hv : CubicValid e c uw uh) (x : ℝ) (hx0 : e c.box.left ≤ x) (hx1 : x ≤ e c.box.right) :
    val e c uw uh udl udr x = Fk e c uw uh udl udr (idxN e c uw (xn e c x)) x := by
  unfold val; rw [exec_eq_bin hv x hx0 hx1]; rfl

theorem ld_eq_Gk (hv : CubicValid e c uw uh) (x : ℝ) (hx0 : e c.box.left ≤ x) (hx1 : x ≤ e c.box.right) :
    ld e c uw uh udl udr x = Gk e c uw uh udl udr (idxN e c uw (xn e c x)) x := by
  unfold ld; rw [exec_eq_bin hv x hx0 hx1]; rfl

/-- per-bin soundness with the clamp / rescale / `+ boxLog` post-processing: whenever the bin value at `x` is strictly
    inside `(0,1)` (**the `clamp 0 1` is not at a tie**) and the bin derivative term is non-zero -/
theorem bin_dual (hv : CubicValid e c uw uh) (k : ℕ) (x : ℝ)
    (h0 : 0 < binN e c uw uh udl udr k (xn e c x)) (h1 : binN e c uw uh udl udr k (xn e c x) < 1)
    (hd : binD e c uw uh udl udr k (xn e c x) ≠ 0) :
    IsDual (Fk e c uw uh udl udr k) x (yD e c (envD e c uw uh udl udr k (xnD e c x))) ∧
    IsDual (Gk e c uw uh udl udr k) x (lD e c (envD e c uw uh udl udr k (xnD e c x))) := by
  have hx := xnD_isDual hv x
  have hY0 : IsDual (fun z => binN e c uw uh udl udr k (xn e c z)) x
      (evalX (dualX (NF.realX e)) (envD e c uw uh udl udr k (xnD e c x)) cubicFwdE) := binN_isDual hx k
  have hL0 : IsDual (fun z => binD e c uw uh udl udr k (xn e c z)) x
      (evalX (dualX (NF.realX e)) (envD e c uw uh udl udr k (xnD e c x)) cubicDerivE) := binD_isDual hx k
  have hval : (evalX (dualX (NF.realX e)) (envD e c uw uh udl udr k (xnD e c x)) cubicFwdE).1
      = binN e c uw uh udl udr k (xn e c x) := hY0.1
  have hcl := IsDual.clamp e (IsDual.zero e x) (IsDual.one e x) hY0
    (by rw [d_zero, hval]; exact ne_of_gt h0)
    (by rw [d_zero, d_one, hval, max_eq_left h0.le]; exact ne_of_lt h1)
  constructor
  · exact (IsDual.add e (IsDual.mul e hcl (IsDual.ofFloat e (c.box.top - c.box.bottom) x))
      (IsDual.ofFloat e c.box.bottom x)).congr_fun
      (fun s => by simp only [Fk, NF.realX_zero, NF.realX_one, NF.realX_add, NF.realX_mul, NF.realX_ofFloat])
  · exact (IsDual.add e (IsDual.log e hL0 (by rw [hL0.1]; exact hd)) (IsDual.ofFloat e (boxLog c.box) x)).congr_fun
      (fun s => by simp only [Gk, NF.realX_add, NF.realX_log, NF.realX_ofFloat])

theorem xn_unit_open (hv : CubicValid e c uw uh) (x : ℝ) (hxL : e c.box.left < x) (hxR : x < e c.box.right) :
    0 < xn e c x ∧ xn e c x < 1 := by
  rw [xn_eq hv]
  have hD : 0 < e c.box.right - e c.box.left := sub_pos.mpr hv.hlr
  exact ⟨div_pos (by linarith) hD, by rw [div_lt_one hD]; linarith⟩

theorem nval_unit_open (hv : CubicValid e c uw uh) (t : ℝ) (ht0 : 0 < t) (ht1 : t < 1) :
    0 < binN e c uw uh udl udr (idxN e c uw t) t ∧ binN e c uw uh udl udr (idxN e c uw t) t < 1 := by
  have hm := (searchedN (udl := udl) (udr := udr) hv).strictMonoOn
  obtain ⟨hl, hr⟩ := (searchedN (udl := udl) (udr := udr) hv).endpoints
  have h1 := hm (a := 0) ⟨le_rfl, zero_le_one⟩ (b := t) ⟨ht0.le, ht1.le⟩ ht0
  have h2 := hm (a := t) ⟨ht0.le, ht1.le⟩ (b := 1) ⟨zero_le_one, le_rfl⟩ ht1
  rw [hl] at h1
  rw [hr] at h2
  exact ⟨h1, h2⟩

theorem cubicSpline_dual_sel (hv : CubicValid e c uw uh) (x : ℝ) (hxL : e c.box.left < x) (hxR : x < e c.box.right) :
    ∃ dy dl : ℝ × ℝ,
      cubicSpline (dualX (NF.realX e)) c (uw.map ι) (uh.map ι) (ι udl) (ι udr) false (x, 1) = .ok (dy, dl, []) ∧
      IsDual (Fk e c uw uh udl udr (idxN e c uw (xn e c x))) x dy ∧
      IsDual (Gk e c uw uh udl udr (idxN e c uw (xn e c x))) x dl := by
  obtain ⟨ht0, ht1⟩ := xn_unit_open hv x hxL hxR
  obtain ⟨hn0, hn1⟩ := nval_unit_open (udl := udl) (udr := udr) hv _ ht0 ht1
  have hpos := ld_arg_pos (udl := udl) (udr := udr) hv x hxL.le hxR.le
  obtain ⟨hY, hLd⟩ := bin_dual hv _ x hn0 hn1 hpos.ne'
  exact ⟨_, _, cubicSpline_dual_exec hv x hxL.le hxR.le, hY, hLd⟩

theorem xn_bin (hv : CubicValid e c uw uh) (k : ℕ) (x : ℝ) :
    (xk e c uw k < x ↔ cws e c uw k < xn e c x) ∧ (x < xk e c uw k ↔ xn e c x < cws e c uw k) := by
  have hD : 0 < e c.box.right - e c.box.left := sub_pos.mpr hv.hlr
  rw [xn_eq hv, lt_div_iff₀ hD, div_lt_iff₀ hD]
  unfold xk
  constructor <;> constructor <;> intro h <;> linarith

theorem cws_sub_unit (hv : CubicValid e c uw uh) (k : ℕ) (hk : k < uw.length) :
    0 ≤ cws e c uw k ∧ cws e c uw (k+1) ≤ 1 := by
  have hmono := ExecGlue.knots_mono (cws e c uw) uw.length (cws_strict hv)
  constructor
  · rw [← cws_zero hv]; exact hmono 0 k (Nat.zero_le _) hk.le
  · rw [← cws_last hv]; exact hmono (k+1) uw.length hk le_rfl

theorem open_bin (hv : CubicValid e c uw uh) (k : ℕ) (hk : k < uw.length) (x : ℝ)
    (h0 : xk e c uw k < x) (h1 : x < xk e c uw (k+1)) :
    e c.box.left < x ∧ x < e c.box.right ∧ idxN e c uw (xn e c x) = k := by
  obtain ⟨hck0, hck1⟩ := cws_sub_unit hv k hk
  obtain ⟨hxL, hxR⟩ := DualXQuad.affine_Ioo hv.hlr hck0 hck1 h0 h1
  exact ⟨hxL, hxR, ExecGlue.idx_unique (cws e c uw) uw.length (idxN e c uw) (cws_strict hv) (search_spec hv).1 k hk _
    ((xn_bin hv k x).1.mp h0).le (Or.inl ((xn_bin hv (k+1) x).2.mp h1))⟩

theorem cubicSpline_dual_core (hv : CubicValid e c uw uh) (k : ℕ) (hk : k < uw.length) (x : ℝ)
    (h0 : xk e c uw k < x) (h1 : x < xk e c uw (k+1)) :
    ∃ dy dl : ℝ × ℝ,
      cubicSpline (dualX (NF.realX e)) c (uw.map ι) (uh.map ι) (ι udl) (ι udr) false (x, 1) = .ok (dy, dl, []) ∧
      IsDual (val e c uw uh udl udr) x dy ∧ IsDual (ld e c uw uh udl udr) x dl := by
  obtain ⟨hxL, hxR, hik⟩ := open_bin hv k hk x h0 h1
  obtain ⟨dy, dl, hr, hy, hl⟩ := cubicSpline_dual_sel (udl := udl) (udr := udr) hv x hxL hxR
  rw [hik] at hy hl
  have hnear : ∀ᶠ z in 𝓝 x, z ∈ Set.Ioo (xk e c uw k) (xk e c uw (k+1)) := Ioo_mem_nhds h0 h1
  refine ⟨dy, dl, hr, hy.congr ?_, hl.congr ?_⟩
  · filter_upwards [hnear] with z hz
    obtain ⟨hzL, hzR, hzk⟩ := open_bin hv k hk z hz.1 hz.2
    rw [val_eq_Fk hv z hzL.le hzR.le, hzk]
  · filter_upwards [hnear] with z hz
    obtain ⟨hzL, hzR, hzk⟩ := open_bin hv k hk z hz.1 hz.2
    rw [ld_eq_Gk hv z hzL.le hzR.le, hzk]

/-- **the executed piecewise-cubic spline on dual numbers** (forward): for `x` strictly inside bin `k` the dual run with
    zero-tangent parameters and seed `(x, 1)` returns `((val x, exp (ld x)), (ld x, l'), [])` — the real outputs, with
    tangents the derivatives of the real program's two outputs (`exp (ld x)` IS `d val / dx`, `l'` is `d ld / dx`).
    (`hbl`: the `Float` constant `boxLog` is read as the real logarithm — needed only to identify the value tangent with
    `exp (ld x)`; see `cubicSpline_dual_core`.) -/
theorem cubicSpline_dual (hv : CubicValid e c uw uh)
    (hbl : e (boxLog c.box) = Real.log ((e c.box.top - e c.box.bottom) / (e c.box.right - e c.box.left)))
    (k : ℕ) (hk : k < uw.length) (x : ℝ) (h0 : xk e c uw k < x) (h1 : x < xk e c uw (k+1)) :
    ∃ l' : ℝ, cubicSpline (dualX (NF.realX e)) c (uw.map ι) (uh.map ι) (ι udl) (ι udr) false (x, 1)
        = .ok ((val e c uw uh udl udr x, Real.exp (ld e c uw uh udl udr x)), (ld e c uw uh udl udr x, l'), []) ∧
      HasDerivAt (val e c uw uh udl udr) (Real.exp (ld e c uw uh udl udr x)) x ∧
      HasDerivAt (ld e c uw uh udl udr) l' x := by
  obtain ⟨dy, dl, hr, hy, hl⟩ := cubicSpline_dual_core (udl := udl) (udr := udr) hv k hk x h0 h1
  have hder := val_hasDerivAt (udl := udl) (udr := udr) hv hbl k hk x h0 h1
  refine ⟨dl.2, ?_, hder, hl.2⟩
  rw [hr]
  congr 1
  refine Prod.ext (Prod.ext hy.1 (hy.2.unique hder)) (Prod.ext (Prod.ext hl.1 rfl) rfl)

/-- the `DualRes` shape for the three-component result of `cubicSpline` -/
theorem cubicSpline_dualRes (hv : CubicValid e c uw uh) (k : ℕ) (hk : k < uw.length) (x : ℝ)
    (h0 : xk e c uw k < x) (h1 : x < xk e c uw (k+1)) :
    ∃ dy dl : ℝ × ℝ,
      cubicSpline (dualX (NF.realX e)) c (uw.map ι) (uh.map ι) (ι udl) (ι udr) false (x, 1) = .ok (dy, dl, []) ∧
      cubicSpline (NF.realX e) c uw uh udl udr false x = .ok (dy.1, dl.1, []) ∧
      HasDerivAt (val e c uw uh udl udr) dy.2 x ∧ HasDerivAt (ld e c uw uh udl udr) dl.2 x := by
  obtain ⟨dy, dl, hr, hy, hl⟩ := cubicSpline_dual_core (udl := udl) (udr := udr) hv k hk x h0 h1
  obtain ⟨hxL, hxR, -⟩ := open_bin hv k hk x h0 h1
  refine ⟨dy, dl, hr, ?_, hy.2, hl.2⟩
  rw [hy.1, hl.1, val_eq_Fk hv x hxL.le hxR.le, ld_eq_Gk hv x hxL.le hxR.le, exec_eq_bin hv x hxL.le hxR.le]
  rfl

/-! ### every point of the open box, interior knots included: the VALUE tangent is the true derivative -/

/-- derivative of the selected bin's value output (the clamp is locally the identity) -/
theorem Fk_hasDerivAt (hv : CubicValid e c uw uh) (k : ℕ) (hk : k < uw.length) (x : ℝ)
    (h0 : 0 < binN e c uw uh udl udr k (xn e c x)) (h1 : binN e c uw uh udl udr k (xn e c x) < 1) :
    HasDerivAt (Fk e c uw uh udl udr k)
      (binD e c uw uh udl udr k (xn e c x) * (1 / (e c.box.right - e c.box.left)) * e (c.box.top - c.box.bottom)) x := by
  have hlin : HasDerivAt (xn e c) (1 / (e c.box.right - e c.box.left)) x := by
    have : xn e c = fun y => (y - e c.box.left) / (e c.box.right - e c.box.left) := funext (xn_eq hv)
    rw [this]
    exact ExecGlue.unit_hasDerivAt _ _ x
  have hb := bin_hasDerivAt (udl := udl) (udr := udr) hv k hk (xn e c x)
  have hcomp : HasDerivAt (fun z => binN e c uw uh udl udr k (xn e c z))
      (binD e c uw uh udl udr k (xn e c x) * (1 / (e c.box.right - e c.box.left))) x := HasDerivAt.comp x hb hlin
  have hc := (hcomp.mul_const (e (c.box.top - c.box.bottom))).add_const (e c.box.bottom)
  refine hc.congr_of_eventuallyEq ?_
  have hnear : ∀ᶠ z in 𝓝 x, binN e c uw uh udl udr k (xn e c z) ∈ Set.Ioo (0:ℝ) 1 :=
    hcomp.continuousAt.eventually (Ioo_mem_nhds h0 h1)
  filter_upwards [hnear] with z hz
  unfold Fk
  rw [NF.realX_clamp_id e 0 1 _ hz.1.le hz.2.le]

/-- **at EVERY point of the open box — inside bins and at interior knots — the dual run returns the real outputs, and
    the tangent of the value IS the true derivative `exp (ld x)` of the executed value function** (the spline is C¹: at
    a knot the dual run differentiates one bin's polynomial, whose derivative there is the common knot derivative).
    No claim on the log-det tangent `l'` at knots: `ld` is in general not differentiable there. -/
theorem cubicSpline_dual_all (hv : CubicValid e c uw uh)
    (hbl : e (boxLog c.box) = Real.log ((e c.box.top - e c.box.bottom) / (e c.box.right - e c.box.left)))
    (x : ℝ) (hxL : e c.box.left < x) (hxR : x < e c.box.right) :
    ∃ l' : ℝ, cubicSpline (dualX (NF.realX e)) c (uw.map ι) (uh.map ι) (ι udl) (ι udr) false (x, 1)
        = .ok ((val e c uw uh udl udr x, Real.exp (ld e c uw uh udl udr x)), (ld e c uw uh udl udr x, l'), []) ∧
      HasDerivAt (val e c uw uh udl udr) (Real.exp (ld e c uw uh udl udr x)) x := by
  obtain ⟨dy, dl, hr, hy, hl⟩ := cubicSpline_dual_sel (udl := udl) (udr := udr) hv x hxL hxR
  obtain ⟨ht0, ht1⟩ := xn_unit_open hv x hxL hxR
  obtain ⟨hn0, hn1⟩ := nval_unit_open (udl := udl) (udr := udr) hv _ ht0 ht1
  have hpos := ld_arg_pos (udl := udl) (udr := udr) hv x hxL.le hxR.le
  have hiK : idxN e c uw (xn e c x) < uw.length :=
    ((search_spec hv).1 _ (by rw [cws_zero hv]; exact ht0.le) (by rw [cws_last hv]; exact ht1.le)).1
  have hF := Fk_hasDerivAt hv _ hiK x hn0 hn1
  have hD : 0 < e c.box.right - e c.box.left := sub_pos.mpr hv.hlr
  have hT : 0 < e c.box.top - e c.box.bottom := sub_pos.mpr hv.hbt
  have htan : dy.2 = Real.exp (ld e c uw uh udl udr x) := by
    rw [hy.2.unique hF, ld_eq_Gk hv x hxL.le hxR.le]
    unfold Gk
    rw [hbl, Real.exp_add, Real.exp_log hpos, Real.exp_log (div_pos hT hD), hv.hdbt]
    ring
  refine ⟨dl.2, ?_, val_hasDerivAt_all hv hbl x hxL hxR⟩
  rw [hr]
  congr 1
  refine Prod.ext (Prod.ext ?_ htan) (Prod.ext (Prod.ext ?_ rfl) rfl)
  · show dy.1 = _
    rw [hy.1, val_eq_Fk hv x hxL.le hxR.le]
  · show dl.1 = _
    rw [hl.1, ld_eq_Gk hv x hxL.le hxR.le]

theorem cubicSpline_dual_knot (hv : CubicValid e c uw uh)
    (hbl : e (boxLog c.box) = Real.log ((e c.box.top - e c.box.bottom) / (e c.box.right - e c.box.left)))
    (j : ℕ) (hj0 : 0 < j) (hjK : j < uw.length) :
    ∃ l' : ℝ, cubicSpline (dualX (NF.realX e)) c (uw.map ι) (uh.map ι) (ι udl) (ι udr) false (xk e c uw j, 1)
        = .ok ((val e c uw uh udl udr (xk e c uw j), Real.exp (ld e c uw uh udl udr (xk e c uw j))),
               (ld e c uw uh udl udr (xk e c uw j), l'), []) ∧
      HasDerivAt (val e c uw uh udl udr) (Real.exp (ld e c uw uh udl udr (xk e c uw j))) (xk e c uw j) := by
  have hD : 0 < e c.box.right - e c.box.left := sub_pos.mpr hv.hlr
  have h0 : 0 < cws e c uw j := by
    have h2 := cws_strict hv (j-1) (by omega)
    rw [show j - 1 + 1 = j by omega] at h2
    exact lt_of_le_of_lt (cws_sub_unit hv (j-1) (by omega)).1 h2
  have h1 : cws e c uw j < 1 := lt_of_lt_of_le (cws_strict hv j hjK) (cws_sub_unit hv j hjK).2
  have h2 : 0 < (e c.box.right - e c.box.left) * cws e c uw j := mul_pos hD h0
  have h3 : (e c.box.right - e c.box.left) * cws e c uw j < e c.box.right - e c.box.left := mul_lt_of_lt_one_right hD h1
  refine cubicSpline_dual_all hv hbl (xk e c uw j) ?_ ?_
  · unfold xk; linarith
  · unfold xk; linarith

/-! ### non-vacuity on the concrete accepted configuration of `CubicWhole.valid_example` (two bins on the unit box) -/

/-- every `x` strictly inside either bin (any end-derivative parameters), and such `x` exist -/
theorem cubicSpline_dual_example (udl udr : ℝ) :
    (∀ k < 2, ∀ x : ℝ, xk eNV cNV [0, 0] k < x → x < xk eNV cNV [0, 0] (k+1) →
      ∃ dy dl : ℝ × ℝ,
        cubicSpline (dualX (NF.realX eNV)) cNV [ι 0, ι 0] [ι 0, ι 0] (ι udl) (ι udr) false (x, 1) = .ok (dy, dl, []) ∧
        cubicSpline (NF.realX eNV) cNV [0, 0] [0, 0] udl udr false x = .ok (dy.1, dl.1, []) ∧
        HasDerivAt (val eNV cNV [0, 0] [0, 0] udl udr) dy.2 x ∧ HasDerivAt (ld eNV cNV [0, 0] [0, 0] udl udr) dl.2 x) ∧
    ∀ k < 2, xk eNV cNV [0, 0] k < xk eNV cNV [0, 0] (k+1) := by
  have hv := valid_example
  refine ⟨fun k hk x h0 h1 => cubicSpline_dualRes hv k hk x h0 h1, fun k hk => ?_⟩
  exact DualXQuad.affine_lt hv.hlr (cws_strict hv k hk)

/-- … and the headline form, given that the (kernel-opaque) `Float.log (1.0/1.0)` is `0.0` -/
theorem cubicSpline_dual_example' (hlog : (boxLog cNV.box == 0.0) = true) (udl udr : ℝ) (k : ℕ) (hk : k < 2) (x : ℝ)
    (h0 : xk eNV cNV [0, 0] k < x) (h1 : x < xk eNV cNV [0, 0] (k+1)) :
    ∃ l' : ℝ, cubicSpline (dualX (NF.realX eNV)) cNV [ι 0, ι 0] [ι 0, ι 0] (ι udl) (ι udr) false (x, 1)
        = .ok ((val eNV cNV [0, 0] [0, 0] udl udr x, Real.exp (ld eNV cNV [0, 0] [0, 0] udl udr x)),
               (ld eNV cNV [0, 0] [0, 0] udl udr x, l'), []) ∧
      HasDerivAt (val eNV cNV [0, 0] [0, 0] udl udr) (Real.exp (ld eNV cNV [0, 0] [0, 0] udl udr x)) x ∧
      HasDerivAt (ld eNV cNV [0, 0] [0, 0] udl udr) l' x :=
  cubicSpline_dual valid_example (hbl_example hlog) k hk x h0 h1

theorem cubicSpline_dual_knot_example (hlog : (boxLog cNV.box == 0.0) = true) (udl udr : ℝ) :
    ∃ l' : ℝ, cubicSpline (dualX (NF.realX eNV)) cNV [ι 0, ι 0] [ι 0, ι 0] (ι udl) (ι udr) false (xk eNV cNV [0, 0] 1, 1)
        = .ok ((val eNV cNV [0, 0] [0, 0] udl udr (xk eNV cNV [0, 0] 1),
                Real.exp (ld eNV cNV [0, 0] [0, 0] udl udr (xk eNV cNV [0, 0] 1))),
               (ld eNV cNV [0, 0] [0, 0] udl udr (xk eNV cNV [0, 0] 1), l'), []) ∧
      HasDerivAt (val eNV cNV [0, 0] [0, 0] udl udr)
        (Real.exp (ld eNV cNV [0, 0] [0, 0] udl udr (xk eNV cNV [0, 0] 1))) (xk eNV cNV [0, 0] 1) :=
  cubicSpline_dual_knot valid_example (hbl_example hlog) 1 (by norm_num) (by simp)

end

end DualXCubic
