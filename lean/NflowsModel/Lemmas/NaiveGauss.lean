import NflowsModel.Lemmas.LinearJacobian
import NflowsModel.Lemmas.CachePaths

/-!
# Lemmas/NaiveGauss — the EXECUTED Gauss–Jordan elimination with partial pivoting (`NaiveLinear`) is verified (C11, C01)

`Core/LinearFamily` realises `torch.inverse` / `torch.slogdet` / `torch.lu` + `lu_solve` of `NaiveLinear`
(linear.py:169-244) as ONE program: `gaussStep` folded over the columns of `[W | I]`, the pivot row chosen by `argmaxCol`.
It is verified here at `realOps`, for every `n` and every real `n × n` matrix `W`, which discharges the specification
hypotheses of `CachePaths.naive_inverse_executed` and `Properties.C11.naive_roundtrip`.

The invariant `Inv W c done rest pivs` after `c` columns: every row `[a | b]` satisfies `a = b ᵥ* W`; the first `c` columns
of the left block are unit vectors on `done` and zero on `rest`; `|det (left block)| * |∏ pivs| = |det W|`; all pivots are
non-zero.  Moving the pivot row is a permutation of the rows, under which `|det|` is unchanged (seen through the
order-independent Gram matrix); scaling and eliminating divides `det` by the pivot; and for `det W ≠ 0` the pivot found by
`argmaxCol` is non-zero, so nothing is divided by zero.  A singular `W` makes the elimination record a zero pivot
(`gaussInverse` reports `RuntimeError`), and the real-number values of the passes that go on dividing are shown in §7:
the hypothesis `det W ≠ 0` of every headline is forced.
-/

open NF.LF DualSound Matrix LinearBridge

namespace NaiveGauss
variable {n : ℕ}

/-! ## 0. scalars and list plumbing -/

theorem absA_real (x : ℝ) : absA realOps x = |x| := by
  unfold absA
  rw [realOps_lt, LFIndex.zero_real]
  by_cases h : x < 0
  · simp only [h, decide_true, if_true]; exact (abs_of_neg h).symm
  · simp only [h, decide_false]; exact (abs_of_nonneg (not_lt.mp h)).symm

/-- the row operation of `gaussStep`: `r - r[c] * nrow` -/
def elimRow (c : ℕ) (nrow r : List ℝ) : List ℝ := List.zipWith (fun a b => a - r.getD c 0 * b) r nrow

theorem length_elimRow (c : ℕ) (nrow r : List ℝ) : (elimRow c nrow r).length = min r.length nrow.length := by
  simp [elimRow]

theorem getD_nrow (prow : List ℝ) (piv : ℝ) (j : ℕ) : (prow.map (· / piv)).getD j 0 = prow.getD j 0 / piv := by
  have h := List.getD_map prow 0 (n := j) (· / piv)
  rwa [zero_div] at h

theorem getD_elimRow (c : ℕ) (prow r : List ℝ) (piv : ℝ) (h : r.length = prow.length) (j : ℕ) :
    (elimRow c (prow.map (· / piv)) r).getD j 0 = r.getD j 0 - r.getD c 0 * (prow.getD j 0 / piv) := by
  unfold elimRow
  by_cases hj : j < r.length
  · have hj' : j < prow.length := h ▸ hj
    simp [List.getD_eq_getElem?_getD, hj, hj']
  · have hj' : ¬ j < prow.length := h ▸ hj
    simp [List.getD_eq_getElem?_getD, List.getElem?_zipWith, List.getElem?_eq_none (not_lt.mp hj),
      List.getElem?_eq_none (not_lt.mp hj')]

theorem getD_mem {β : Type} (L : List β) (d : β) {i : ℕ} (h : i < L.length) : L.getD i d ∈ L := by
  rw [List.getD_eq_getElem _ _ h]; exact List.getElem_mem h

theorem getD_map_mid {β : Type} (A B : List β) (x y : β) (e : β → β) (d : β) (i : ℕ)
    (hi : i < (A ++ x :: B).length) :
    (A.map e ++ y :: B.map e).getD i d = if i = A.length then y else e ((A ++ x :: B).getD i d) := by
  rcases lt_trichotomy i A.length with h | h | h
  · rw [List.getD_append _ _ _ _ (by simpa using h), List.getD_append _ _ _ _ h, if_neg (ne_of_lt h)]
    simp [List.getD_eq_getElem?_getD, h]
  · subst h
    rw [List.getD_append_right _ _ _ _ (by simp)]
    simp
  · rw [List.getD_append_right _ _ _ _ (by simpa using h.le), List.getD_append_right _ _ _ _ h.le, if_neg (ne_of_gt h)]
    simp only [List.length_map]
    obtain ⟨m, hm⟩ : ∃ m, i - A.length = m + 1 := ⟨i - A.length - 1, by omega⟩
    rw [hm]
    simp only [List.getD_cons_succ]
    have hmB : m < B.length := by simp at hi; omega
    simp [List.getD_eq_getElem?_getD, hmB]

theorem sum_fin_getD {β : Type} (L : List β) (d : β) (hl : L.length = n) (f : β → ℝ) :
    ∑ i : Fin n, f (L.getD i d) = (L.map f).sum := by
  subst hl
  rw [← List.sum_ofFn]
  congr 1
  apply List.ext_getElem
  · simp
  · intro i h1 h2
    have hi : i < L.length := by simpa using h1
    simp [List.getD_eq_getElem?_getD]

/-! ## 1. `argmaxCol`: the selected row has the largest modulus in column `c` -/

theorem fold_some (f : Option (ℝ × ℕ) → ℝ × ℕ → Option (ℝ × ℕ))
    (hf : ∀ b p, f (some b) p = if b.1 < p.1 then some p else some b) (ps : List (ℝ × ℕ)) (b0 : ℝ × ℕ) :
    ∃ b, ps.foldl f (some b0) = some b ∧
      (b = b0 ∨ b ∈ ps) ∧ b0.1 ≤ b.1 ∧ ∀ p ∈ ps, p.1 ≤ b.1 := by
  induction ps generalizing b0 with
  | nil => exact ⟨b0, rfl, Or.inl rfl, le_refl _, by simp⟩
  | cons p ps ih =>
    rw [List.foldl_cons]
    by_cases h : b0.1 < p.1
    · obtain ⟨b, hb, hmem, h0, hall⟩ := ih p
      refine ⟨b, ?_, ?_, le_trans h.le h0, ?_⟩
      · rw [← hb, hf, if_pos h]
      · rcases hmem with rfl | hm
        · exact Or.inr (List.mem_cons_self)
        · exact Or.inr (List.mem_cons_of_mem _ hm)
      · intro q hq
        rcases List.mem_cons.mp hq with rfl | hq
        · exact h0
        · exact hall q hq
    · obtain ⟨b, hb, hmem, h0, hall⟩ := ih b0
      refine ⟨b, ?_, ?_, h0, ?_⟩
      · rw [← hb, hf, if_neg h]
      · rcases hmem with rfl | hm
        · exact Or.inl rfl
        · exact Or.inr (List.mem_cons_of_mem _ hm)
      · intro q hq
        rcases List.mem_cons.mp hq with rfl | hq
        · exact le_trans (not_lt.mp h) h0
        · exact hall q hq

theorem argmaxCol_spec (rows : List (List ℝ)) (c : ℕ) (hne : rows ≠ []) :
    argmaxCol realOps rows c < rows.length ∧
    ∀ r ∈ rows, |r.getD c 0| ≤ |(rows.getD (argmaxCol realOps rows c) []).getD c 0| := by
  unfold argmaxCol
  simp only [LFIndex.zero_real, List.length_map]
  generalize hps : (rows.map (fun r => absA realOps (r.getD c 0))).zip (List.range rows.length) = ps
  have hpslen : ps.length = rows.length := by rw [← hps]; simp
  have hget : ∀ i (h : i < ps.length), ps[i] = (|(rows.getD i []).getD c 0|, i) := by
    intro i h
    have hi : i < rows.length := hpslen ▸ h
    subst hps
    simp [absA_real, List.getD_eq_getElem?_getD, hi]
  cases ps with
  | nil => exact absurd (List.length_eq_zero_iff.mp hpslen.symm) hne
  | cons p0 ps' =>
    rw [List.foldl_cons]
    dsimp only
    -- `fold_some` is an induction over the list for an arbitrary step function satisfying the equation below; the `match`
    -- in `argmaxCol` is abstracted to such an `f` first
    suffices h : ∀ f : Option (ℝ × ℕ) → ℝ × ℕ → Option (ℝ × ℕ),
        (∀ b p, f (some b) p = if realOps.lt b.1 p.1 = true then some p else some b) →
        ((ps'.foldl f (some p0)).elim 0 (fun b => b.2)) < rows.length ∧
        ∀ r ∈ rows, |r.getD c 0| ≤ |(rows.getD ((ps'.foldl f (some p0)).elim 0 (fun b => b.2)) []).getD c 0| from
      h _ (fun b p => rfl)
    intro f hf
    obtain ⟨b, hb, hmem, h0, hall⟩ := fold_some f (fun b p => by
      rw [hf, realOps_lt]; simp only [decide_eq_true_eq]) ps' p0
    rw [hb]
    simp only [Option.elim]
    have hbmem : b ∈ p0 :: ps' := by
      rcases hmem with rfl | hm
      · exact List.mem_cons_self
      · exact List.mem_cons_of_mem _ hm
    obtain ⟨i, hi, hbi⟩ := List.mem_iff_getElem.mp hbmem
    rw [hget i hi] at hbi
    subst hbi
    refine ⟨hpslen ▸ hi, ?_⟩
    intro r hr
    obtain ⟨i', hi', rfl⟩ := List.mem_iff_getElem.mp hr
    have hi'' : i' < (p0 :: ps').length := by rw [hpslen]; exact hi'
    have hle : ((p0 :: ps')[i']).1 ≤ |(rows.getD i []).getD c 0| := by
      rcases List.mem_cons.mp (List.getElem_mem hi'') with h | h
      · rw [h]; exact h0
      · exact hall _ h
    rw [hget i' hi''] at hle
    simpa [List.getD_eq_getElem?_getD, hi'] using hle

/-! ## 2. determinant facts (matrix level) -/

theorem det_elim_step (M M' : Matrix (Fin n) (Fin n) ℝ) (p q : Fin n) (piv : ℝ) (hp : piv ≠ 0)
    (h : ∀ i j, M' i j = if i = p then M p j / piv else M i j - M i q * (M p j / piv)) :
    M'.det * piv = M.det := by
  have hN : (M.updateRow p (fun j => M p j / piv)).det = piv⁻¹ * M.det := by
    have : (fun j => M p j / piv) = piv⁻¹ • (M p) := by funext j; simp [div_eq_inv_mul]
    rw [this, det_updateRow_smul, updateRow_eq_self]
  have hM' : M'.det = (M.updateRow p (fun j => M p j / piv)).det := by
    apply det_eq_of_forall_row_eq_smul_add_const (fun i => if i = p then 0 else - M i q) p (by simp)
    intro i j
    rw [h]
    by_cases hi : i = p
    · subst hi; simp
    · simp [hi, updateRow_ne]; ring
  rw [hM', hN]; field_simp

theorem det_zero_of_col (M : Matrix (Fin n) (Fin n) ℝ) (c : Fin n)
    (h1 : ∀ i j : Fin n, j < c → M i j = if i = j then 1 else 0)
    (h2 : ∀ i : Fin n, c ≤ i → M i c = 0) : M.det = 0 := by
  rw [← exists_mulVec_eq_zero_iff]
  refine ⟨fun j => if j = c then 1 else if j < c then - M j c else 0, ?_, ?_⟩
  · intro h; have := congrFun h c; simp at this
  · funext i
    simp only [mulVec, dotProduct, Pi.zero_apply]
    by_cases hi : i < c
    · have hterm : ∀ j : Fin n, M i j * (if j = c then 1 else if j < c then - M j c else 0)
          = (if j = c then M i c else 0) + (if j = i then - M i c else 0) := by
        intro j
        by_cases hjc : j = c
        · subst hjc; simp [hi.ne']
        · by_cases hj : j < c
          · rw [h1 i j hj]
            by_cases hij : i = j
            · subst hij; simp [hjc, hj]
            · simp [hjc, hj, hij, Ne.symm hij]
          · have : j ≠ i := by rintro rfl; exact hj hi
            simp [hjc, hj, this]
      rw [Finset.sum_congr rfl (fun j _ => hterm j), Finset.sum_add_distrib]
      simp
    · apply Finset.sum_eq_zero
      intro j _
      by_cases hjc : j = c
      · subst hjc; rw [h2 i (not_lt.mp hi)]; simp
      · by_cases hj : j < c
        · rw [h1 i j hj, if_neg (by rintro rfl; exact hi hj)]; simp
        · simp [hjc, hj]

/-- the left `n × n` block of a list of (augmented) rows -/
def lm (n : ℕ) (L : List (List ℝ)) : Matrix (Fin n) (Fin n) ℝ := fun i j => (L.getD i []).getD j 0

/-- the Gram matrix `MᵀM` written with order-independent list sums -/
def gramL (n : ℕ) (L : List (List ℝ)) : Matrix (Fin n) (Fin n) ℝ :=
  fun j j' => (L.map (fun r => r.getD j 0 * r.getD j' 0)).sum

theorem lm_gram (L : List (List ℝ)) (hl : L.length = n) : (lm n L)ᵀ * lm n L = gramL n L := by
  ext j j'
  simp only [Matrix.mul_apply, transpose_apply, lm, gramL]
  exact sum_fin_getD L [] hl (fun r => r.getD j 0 * r.getD j' 0)

theorem abs_det_perm (L L' : List (List ℝ)) (h : L.Perm L') (hl : L.length = n) :
    |(lm n L).det| = |(lm n L').det| := by
  have hl' : L'.length = n := h.length_eq ▸ hl
  have hg : gramL n L = gramL n L' := by
    funext j j'
    exact (h.map _).sum_eq
  have h1 : (lm n L).det ^ 2 = (gramL n L).det := by
    rw [← lm_gram L hl, det_mul, det_transpose, sq]
  have h2 : (lm n L').det ^ 2 = (gramL n L').det := by
    rw [← lm_gram L' hl', det_mul, det_transpose, sq]
  exact (sq_eq_sq_iff_abs_eq_abs _ _).mp (by rw [h1, h2, hg])

/-! ## 3. the invariant of `gaussStep` -/

def RowOK (W : Matrix (Fin n) (Fin n) ℝ) (r : List ℝ) : Prop :=
  r.length = n + n ∧ ∀ j : Fin n, r.getD j 0 = ∑ k : Fin n, r.getD (n + k) 0 * W k j

theorem rowOK_nrow (W : Matrix (Fin n) (Fin n) ℝ) (prow : List ℝ) (piv : ℝ) (h : RowOK W prow) :
    RowOK W (prow.map (· / piv)) := by
  refine ⟨by rw [List.length_map]; exact h.1, ?_⟩
  intro j
  rw [getD_nrow, h.2 j, Finset.sum_div]
  apply Finset.sum_congr rfl
  intro k _
  rw [getD_nrow]; ring

theorem rowOK_elim (W : Matrix (Fin n) (Fin n) ℝ) (c : ℕ) (prow r : List ℝ) (piv : ℝ) (hp : RowOK W prow) (hr : RowOK W r) :
    RowOK W (elimRow c (prow.map (· / piv)) r) := by
  have hlen : r.length = prow.length := by rw [hr.1, hp.1]
  refine ⟨by rw [length_elimRow, List.length_map, hr.1, hp.1, min_self], ?_⟩
  intro j
  rw [getD_elimRow c prow r piv hlen, hr.2 j, hp.2 j]
  have : ∀ k : Fin n, (elimRow c (prow.map (· / piv)) r).getD (n + k) 0 * W k j
      = r.getD (n + k) 0 * W k j - r.getD c 0 / piv * (prow.getD (n + k) 0 * W k j) := by
    intro k
    rw [getD_elimRow c prow r piv hlen]; ring
  rw [Finset.sum_congr rfl (fun k _ => this k), Finset.sum_sub_distrib, ← Finset.mul_sum]
  ring

/-- the pivot row / pivot / normalised pivot row chosen by `gaussStep` in column `c` -/
noncomputable def pivRow (c : ℕ) (rest : List (List ℝ)) : List ℝ := rest.getD (argmaxCol realOps rest c) []
noncomputable def pivot (c : ℕ) (rest : List (List ℝ)) : ℝ := (pivRow c rest).getD c 0
noncomputable def nrowOf (c : ℕ) (rest : List (List ℝ)) : List ℝ := (pivRow c rest).map (· / pivot c rest)

theorem gaussStep_eq (c : ℕ) (done rest : List (List ℝ)) (pivs : List ℝ) (hne : rest ≠ []) :
    gaussStep realOps c (done, rest, pivs) =
      (done.map (elimRow c (nrowOf c rest)) ++ [nrowOf c rest],
       (rest.eraseIdx (argmaxCol realOps rest c)).map (elimRow c (nrowOf c rest)), pivs ++ [pivot c rest]) := by
  cases rest with
  | nil => exact absurd rfl hne
  | cons r rs =>
    simp only [gaussStep, LFIndex.zero_real]
    rfl

/-- the loop INVARIANT of the elimination (not an inverse) after the columns `0 … c-1` have been processed; `W` is the input
    matrix, `done` the finished rows, `rest` the remaining ones, `pivs` the pivots recorded so far -/
structure Inv (W : Matrix (Fin n) (Fin n) ℝ) (c : ℕ) (done rest : List (List ℝ)) (pivs : List ℝ) : Prop where
  lenD : done.length = c
  lenT : done.length + rest.length = n
  rows : ∀ r ∈ done ++ rest, RowOK W r
  unit : ∀ i < c, ∀ j < c, (done.getD i []).getD j 0 = if i = j then 1 else 0
  zero : ∀ r ∈ rest, ∀ j < c, r.getD j 0 = 0
  det : |(lm n (done ++ rest)).det| * |pivs.prod| = |W.det|
  piv : ∀ p ∈ pivs, p ≠ 0
  lenP : pivs.length = c

section step
variable {W : Matrix (Fin n) (Fin n) ℝ} {c : ℕ} {done rest : List (List ℝ)} {pivs : List ℝ}

theorem Inv.rest_ne (h : Inv W c done rest pivs) (hc : c < n) : rest ≠ [] := by
  intro hr
  have := h.lenT; have := h.lenD
  subst hr
  simp at *; omega

theorem Inv.argmax_lt (h : Inv W c done rest pivs) (hc : c < n) : argmaxCol realOps rest c < rest.length :=
  (argmaxCol_spec rest c (h.rest_ne hc)).1

theorem Inv.pivRow_mem (h : Inv W c done rest pivs) (hc : c < n) : pivRow c rest ∈ rest :=
  getD_mem _ _ (h.argmax_lt hc)

theorem Inv.pivRow_ok (h : Inv W c done rest pivs) (hc : c < n) : RowOK W (pivRow c rest) :=
  h.rows _ (List.mem_append_right _ (h.pivRow_mem hc))

theorem pivot_ne_zero_of_col (c : ℕ) (rest : List (List ℝ)) (h : ∃ r ∈ rest, r.getD c 0 ≠ 0) : pivot c rest ≠ 0 := by
  obtain ⟨r, hr, hne⟩ := h
  intro hp
  have := (argmaxCol_spec rest c (List.ne_nil_of_mem hr)).2 r hr
  have hp' : (rest.getD (argmaxCol realOps rest c) []).getD c 0 = 0 := hp
  rw [hp', abs_zero] at this
  exact hne (abs_eq_zero.mp (le_antisymm this (abs_nonneg _)))

theorem Inv.pivot_ne_zero (h : Inv W c done rest pivs) (hc : c < n) (hW : W.det ≠ 0) : pivot c rest ≠ 0 := by
  intro hp
  have hcol : ∀ r ∈ rest, r.getD c 0 = 0 := fun r hr =>
    by_contra fun hne => pivot_ne_zero_of_col c rest ⟨r, hr, hne⟩ hp
  have hrest : ∀ i : Fin n, c ≤ i → (done ++ rest).getD i [] ∈ rest := by
    intro i hi
    rw [List.getD_append_right _ _ _ _ (by rw [h.lenD]; exact hi)]
    exact getD_mem _ _ (by have := h.lenT; have := i.2; have := h.lenD; omega)
  have hdet : (lm n (done ++ rest)).det = 0 := by
    apply det_zero_of_col _ ⟨c, hc⟩
    · intro i j hj
      have hj' : (j : ℕ) < c := hj
      by_cases hi : (i : ℕ) < c
      · show ((done ++ rest).getD i []).getD j 0 = _
        rw [List.getD_append _ _ _ _ (by rw [h.lenD]; exact hi), h.unit i hi j hj']
        simp only [Fin.ext_iff]
      · show ((done ++ rest).getD i []).getD j 0 = _
        rw [h.zero _ (hrest i (not_lt.mp hi)) j hj', if_neg]
        intro hij; rw [hij] at hi; exact hi hj'
    · intro i hi
      exact hcol _ (hrest i hi)
  have := h.det
  rw [hdet, abs_zero, zero_mul] at this
  exact hW (abs_eq_zero.mp this.symm)

/-- determinant bookkeeping of one step: swap (a permutation of the rows), scale, eliminate -/
theorem Inv.det_step (h : Inv W c done rest pivs) (hc : c < n) (hp : pivot c rest ≠ 0) :
    |(lm n ((done.map (elimRow c (nrowOf c rest)) ++ [nrowOf c rest]) ++
        (rest.eraseIdx (argmaxCol realOps rest c)).map (elimRow c (nrowOf c rest)))).det| * |pivot c rest|
      = |(lm n (done ++ rest)).det| := by
  have hk := h.argmax_lt hc
  have hprow : pivRow c rest = rest[argmaxCol realOps rest c] := List.getD_eq_getElem _ _ hk
  have hperm : (done ++ pivRow c rest :: rest.eraseIdx (argmaxCol realOps rest c)).Perm (done ++ rest) := by
    rw [hprow]
    exact List.Perm.append_left done (List.getElem_cons_eraseIdx_perm hk)
  have hlen0 : (done ++ pivRow c rest :: rest.eraseIdx (argmaxCol realOps rest c)).length = n := by
    rw [hperm.length_eq, List.length_append]; exact h.lenT
  rw [← abs_det_perm _ _ hperm hlen0, ← abs_mul]
  congr 1
  apply det_elim_step _ _ ⟨c, hc⟩ ⟨c, hc⟩ _ hp
  intro i j
  have hi : (i : ℕ) < (done ++ pivRow c rest :: rest.eraseIdx (argmaxCol realOps rest c)).length := by
    rw [hlen0]; exact i.2
  have hrow : ((done.map (elimRow c (nrowOf c rest)) ++ [nrowOf c rest]) ++
        (rest.eraseIdx (argmaxCol realOps rest c)).map (elimRow c (nrowOf c rest))).getD i []
      = if (i : ℕ) = done.length then nrowOf c rest
        else elimRow c (nrowOf c rest) ((done ++ pivRow c rest :: rest.eraseIdx (argmaxCol realOps rest c)).getD i []) := by
    rw [List.append_assoc, List.singleton_append]
    exact getD_map_mid _ _ _ _ _ _ _ hi
  have hpiv0 : (done ++ pivRow c rest :: rest.eraseIdx (argmaxCol realOps rest c)).getD c [] = pivRow c rest := by
    rw [List.getD_append_right _ _ _ _ (by rw [h.lenD]), h.lenD]; simp
  show (_ : List ℝ).getD j 0 = if i = ⟨c, hc⟩ then
      ((done ++ pivRow c rest :: rest.eraseIdx (argmaxCol realOps rest c)).getD c []).getD j 0 / pivot c rest
    else ((done ++ pivRow c rest :: rest.eraseIdx (argmaxCol realOps rest c)).getD i []).getD j 0 -
      ((done ++ pivRow c rest :: rest.eraseIdx (argmaxCol realOps rest c)).getD i []).getD c 0 *
      (((done ++ pivRow c rest :: rest.eraseIdx (argmaxCol realOps rest c)).getD c []).getD j 0 / pivot c rest)
  rw [hrow, hpiv0, h.lenD]
  by_cases hic : (i : ℕ) = c
  · rw [if_pos hic, if_pos (Fin.ext hic)]
    exact getD_nrow _ _ _
  · rw [if_neg hic, if_neg (fun hh => hic (congrArg Fin.val hh))]
    have hmem : (done ++ pivRow c rest :: rest.eraseIdx (argmaxCol realOps rest c)).getD i [] ∈ done ++ rest :=
      hperm.subset (getD_mem _ _ hi)
    have hl : ((done ++ pivRow c rest :: rest.eraseIdx (argmaxCol realOps rest c)).getD i []).length
        = (pivRow c rest).length := by
      rw [(h.rows _ hmem).1, (h.pivRow_ok hc).1]
    exact getD_elimRow c _ _ _ hl j

theorem Inv.step (h : Inv W c done rest pivs) (hc : c < n) (hp : pivot c rest ≠ 0) :
    Inv W (c + 1) (done.map (elimRow c (nrowOf c rest)) ++ [nrowOf c rest])
      ((rest.eraseIdx (argmaxCol realOps rest c)).map (elimRow c (nrowOf c rest))) (pivs ++ [pivot c rest]) := by
  have hk := h.argmax_lt hc
  have hpm := h.pivRow_mem hc
  have hpok := h.pivRow_ok hc
  have hpp : (pivRow c rest).getD c 0 / pivot c rest = 1 := div_self hp
  have hpz : ∀ j < c, (pivRow c rest).getD j 0 = 0 := h.zero _ hpm
  have hothers : ∀ r ∈ rest.eraseIdx (argmaxCol realOps rest c), r ∈ rest := fun r hr => List.mem_of_mem_eraseIdx hr
  have hlen : ∀ r ∈ done ++ rest, r.length = (pivRow c rest).length := fun r hr => by rw [(h.rows r hr).1, hpok.1]
  refine ⟨?_, ?_, ?_, ?_, ?_, ?_, ?_, ?_⟩
  · -- lenD
    simp [h.lenD]
  · -- lenT
    have := h.lenT
    simp only [List.length_append, List.length_map, List.length_singleton, List.length_eraseIdx, hk, if_true]
    omega
  · -- rows
    intro r hr
    simp only [List.mem_append, List.mem_map, List.mem_singleton] at hr
    rcases hr with (⟨r0, hr0, rfl⟩ | rfl) | ⟨r0, hr0, rfl⟩
    · exact rowOK_elim W c _ _ _ hpok (h.rows _ (List.mem_append_left _ hr0))
    · exact rowOK_nrow W _ _ hpok
    · exact rowOK_elim W c _ _ _ hpok (h.rows _ (List.mem_append_right _ (hothers _ hr0)))
  · -- unit
    intro i hi j hj
    rcases Nat.lt_succ_iff_lt_or_eq.mp hi with hi' | rfl
    · have hid : i < done.length := h.lenD ▸ hi'
      rw [List.getD_append _ _ _ _ (by simpa using hid)]
      have hmem : done.getD i [] ∈ done := getD_mem _ _ hid
      have : (done.map (elimRow c (nrowOf c rest))).getD i [] = elimRow c (nrowOf c rest) (done.getD i []) := by
        simp [List.getD_eq_getElem?_getD, hid]
      rw [this]
      unfold nrowOf
      rw [getD_elimRow c _ _ _ (hlen _ (List.mem_append_left _ hmem))]
      rcases Nat.lt_succ_iff_lt_or_eq.mp hj with hj' | rfl
      · rw [hpz j hj', h.unit i hi' j hj']; simp
      · rw [hpp, if_neg (ne_of_lt hi')]; ring
    · rw [List.getD_append_right _ _ _ _ (by simp [h.lenD])]
      simp only [List.length_map, h.lenD, Nat.sub_self, List.getD_cons_zero]
      unfold nrowOf
      rw [getD_nrow]
      rcases Nat.lt_succ_iff_lt_or_eq.mp hj with hj' | rfl
      · rw [hpz j hj', if_neg (ne_of_gt hj')]; simp
      · rw [if_pos rfl]; exact hpp
  · -- zero
    intro r hr j hj
    obtain ⟨r0, hr0, rfl⟩ := List.mem_map.mp hr
    have hr0' := hothers _ hr0
    unfold nrowOf
    rw [getD_elimRow c _ _ _ (hlen _ (List.mem_append_right _ hr0'))]
    rcases Nat.lt_succ_iff_lt_or_eq.mp hj with hj' | rfl
    · rw [hpz j hj', h.zero r0 hr0' j hj']; simp
    · rw [hpp]; ring
  · -- det
    rw [List.prod_append, List.prod_singleton, abs_mul, ← h.det, ← h.det_step hc hp]
    ring
  · -- piv
    intro p hpm'
    rcases List.mem_append.mp hpm' with hm | hm
    · exact h.piv p hm
    · rw [List.mem_singleton.mp hm]; exact hp
  · -- lenP
    simp [h.lenP]

end step

/-! ## 4. the whole elimination -/

/-- the augmented matrix `[W | I]` as `gaussInverse` / `naiveLogabsdet` / `naiveInverse` build it -/
noncomputable def aug (W : Matrix (Fin n) (Fin n) ℝ) : List (List ℝ) :=
  ((ofMat W).zip (eye realOps n)).map (fun p => p.1 ++ p.2)

noncomputable def run (W : Matrix (Fin n) (Fin n) ℝ) (c : ℕ) : List (List ℝ) × List (List ℝ) × List ℝ :=
  (List.range c).foldl (fun st c => gaussStep realOps c st) ([], aug W, [])

theorem run_succ (W : Matrix (Fin n) (Fin n) ℝ) (c : ℕ) : run W (c + 1) = gaussStep realOps c (run W c) := by
  unfold run
  rw [List.range_succ, List.foldl_append]
  rfl

theorem aug_eq (W : Matrix (Fin n) (Fin n) ℝ) :
    aug W = List.ofFn (fun i : Fin n => List.ofFn (W i) ++ List.ofFn ((1 : Matrix (Fin n) (Fin n) ℝ) i)) := by
  unfold aug
  rw [eye_eq]
  unfold ofMat
  apply List.ext_getElem
  · simp
  · intro i h1 h2
    simp

theorem getD_left (x y : Fin n → ℝ) (j : Fin n) : (List.ofFn x ++ List.ofFn y).getD j 0 = x j := by
  rw [List.getD_append _ _ _ _ (by simp)]
  simp [List.getD_eq_getElem?_getD]

theorem getD_right (x y : Fin n → ℝ) (k : Fin n) : (List.ofFn x ++ List.ofFn y).getD (n + k) 0 = y k := by
  rw [List.getD_append_right _ _ _ _ (by simp)]
  simp [List.getD_eq_getElem?_getD]

theorem inv_init (W : Matrix (Fin n) (Fin n) ℝ) : Inv W 0 [] (aug W) [] := by
  have hmem : ∀ r ∈ aug W, ∃ i : Fin n, r = List.ofFn (W i) ++ List.ofFn ((1 : Matrix (Fin n) (Fin n) ℝ) i) := by
    intro r hr
    rw [aug_eq, List.mem_ofFn] at hr
    obtain ⟨i, hi⟩ := hr
    exact ⟨i, hi.symm⟩
  refine ⟨rfl, by simp [aug_eq], ?_, by intro i hi; omega, by intro r _ j hj; omega, ?_, by simp, rfl⟩
  · intro r hr
    obtain ⟨i, rfl⟩ := hmem r (by simpa using hr)
    refine ⟨by simp, ?_⟩
    intro j
    rw [getD_left]
    simp only [getD_right, Matrix.one_apply]
    simp
  · have : lm n ([] ++ aug W) = W := by
      funext i j
      show (([] ++ aug W).getD i []).getD j 0 = W i j
      rw [List.nil_append, aug_eq]
      have : (List.ofFn (fun i : Fin n => List.ofFn (W i) ++ List.ofFn ((1 : Matrix (Fin n) (Fin n) ℝ) i))).getD i []
          = List.ofFn (W i) ++ List.ofFn ((1 : Matrix (Fin n) (Fin n) ℝ) i) := by
        simp [List.getD_eq_getElem?_getD]
      rw [this, getD_left]
    rw [this]; simp

theorem gaussStep_keeps_zero (c : ℕ) (st : List (List ℝ) × List (List ℝ) × List ℝ) (h : (0 : ℝ) ∈ st.2.2) :
    (0 : ℝ) ∈ (gaussStep realOps c st).2.2 := by
  obtain ⟨done, rest, pivs⟩ := st
  by_cases hr : rest = []
  · subst hr; exact h
  · rw [gaussStep_eq c done rest pivs hr]
    exact List.mem_append_left _ h

theorem run_inv_or_singular (W : Matrix (Fin n) (Fin n) ℝ) :
    ∀ c ≤ n, Inv W c (run W c).1 (run W c).2.1 (run W c).2.2 ∨ (W.det = 0 ∧ (0 : ℝ) ∈ (run W c).2.2) := by
  intro c
  induction c with
  | zero => intro _; exact Or.inl (inv_init W)
  | succ c ih =>
    intro hc
    have hc' : c < n := hc
    rw [run_succ]
    rcases ih hc'.le with h | h
    · rcases hrun : run W c with ⟨done, rest, pivs⟩
      rw [hrun] at h
      replace h : Inv W c done rest pivs := h
      rw [gaussStep_eq c done rest pivs (h.rest_ne hc')]
      by_cases hp : pivot c rest = 0
      · refine Or.inr ⟨by_contra fun hW => h.pivot_ne_zero hc' hW hp, ?_⟩
        show (0 : ℝ) ∈ pivs ++ [pivot c rest]
        rw [hp]; simp
      · exact Or.inl (h.step hc' hp)
    · exact Or.inr ⟨h.1, gaussStep_keeps_zero c _ h.2⟩

theorem inv_run (W : Matrix (Fin n) (Fin n) ℝ) (hW : W.det ≠ 0) (c : ℕ) (hc : c ≤ n) :
    Inv W c (run W c).1 (run W c).2.1 (run W c).2.2 :=
  (run_inv_or_singular W c hc).resolve_right fun h => hW h.1

/-- **no division by zero**: at every column of the elimination of a non-singular matrix the pivot found by `argmaxCol`
    (the entry of largest modulus in the remaining column) is non-zero -/
theorem naive_pivot_ne_zero (W : Matrix (Fin n) (Fin n) ℝ) (hW : W.det ≠ 0) (c : ℕ) (hc : c < n) :
    pivot c (run W c).2.1 ≠ 0 :=
  (inv_run W hW c hc.le).pivot_ne_zero hc hW

theorem sum_log_abs (ps : List ℝ) (h : ∀ p ∈ ps, p ≠ 0) : (ps.map (fun p => Real.log |p|)).sum = Real.log |ps.prod| := by
  induction ps with
  | nil => simp
  | cons p ps ih =>
    have hp : p ≠ 0 := h p List.mem_cons_self
    have hps : ∀ q ∈ ps, q ≠ 0 := fun q hq => h q (List.mem_cons_of_mem _ hq)
    have hprod : ps.prod ≠ 0 := List.prod_ne_zero (fun h0 => hps 0 h0 rfl)
    rw [List.map_cons, List.sum_cons, List.prod_cons, abs_mul, Real.log_mul (abs_ne_zero.mpr hp) (abs_ne_zero.mpr hprod),
      ih hps]

theorem final_of_inv {W : Matrix (Fin n) (Fin n) ℝ} {done rest : List (List ℝ)} {pivs : List ℝ} (h : Inv W n done rest pivs) :
    ∃ B : Matrix (Fin n) (Fin n) ℝ, done.map (fun r => r.drop n) = ofMat B ∧ B * W = 1 ∧
      rest = [] ∧ (∀ p ∈ pivs, p ≠ 0) ∧ |pivs.prod| = |W.det| ∧ pivs.length = n := by
  have hrest : rest = [] := by
    have := h.lenT; have := h.lenD
    exact List.length_eq_zero_iff.mp (by omega)
  subst hrest
  have hdmem : ∀ i : Fin n, done.getD i [] ∈ done := fun i => getD_mem _ _ (by rw [h.lenD]; exact i.2)
  have hok : ∀ i : Fin n, RowOK W (done.getD i []) := fun i => h.rows _ (by simpa using hdmem i)
  have hWF : WF n (done.map (fun r => r.drop n)) := ⟨by rw [List.length_map, h.lenD], fun r hr => by
    obtain ⟨r0, hr0, rfl⟩ := List.mem_map.mp hr
    rw [List.length_drop, (h.rows r0 (by simpa using hr0)).1, Nat.add_sub_cancel]⟩
  have hB : ∀ i k : Fin n, toMat n (done.map (fun r => r.drop n)) i k = (done.getD i []).getD (n + k) 0 := by
    intro i k
    have hi : (i : ℕ) < done.length := by rw [h.lenD]; exact i.2
    have hrow : (done.map (fun r => r.drop n)).getD i [] = (done.getD i []).drop n := by
      rw [List.getD_eq_getElem _ _ (by rwa [List.length_map]), List.getElem_map, List.getD_eq_getElem _ _ hi]
    rw [toMat, LFTriSolve.entry_real, hrow, LFTriSolve.getD_drop]
  have hM : done.map (fun r => r.drop n) = ofMat (toMat n (done.map (fun r => r.drop n))) := (ofMat_toMat hWF).symm
  refine ⟨_, hM, ?_, rfl, h.piv, ?_, h.lenP⟩
  · ext i j
    rw [Matrix.mul_apply]
    simp only [hB]
    rw [← (hok i).2 j, h.unit i i.2 j j.2, Matrix.one_apply]
    simp only [Fin.ext_iff]
  · have hone : lm n (done ++ []) = 1 := by
      funext i j
      show ((done ++ []).getD i []).getD j 0 = _
      rw [List.append_nil, h.unit i i.2 j j.2, Matrix.one_apply]
      simp only [Fin.ext_iff]
    have := h.det
    rw [hone, det_one, abs_one, one_mul] at this
    exact this

theorem run_final (W : Matrix (Fin n) (Fin n) ℝ) (hW : W.det ≠ 0) :
    ∃ B : Matrix (Fin n) (Fin n) ℝ, (run W n).1.map (fun r => r.drop n) = ofMat B ∧ B * W = 1 ∧
      (run W n).2.1 = [] ∧ (∀ p ∈ (run W n).2.2, p ≠ 0) ∧ |(run W n).2.2.prod| = |W.det| ∧ (run W n).2.2.length = n :=
  final_of_inv (inv_run W hW n le_rfl)

theorem zero_pivot_of_singular (W : Matrix (Fin n) (Fin n) ℝ) (hW : W.det = 0) : (0 : ℝ) ∈ (run W n).2.2 := by
  rcases run_inv_or_singular W n le_rfl with h | h
  · exfalso
    obtain ⟨B, -, -, -, hpiv, hprod, -⟩ := final_of_inv h
    rw [hW, abs_zero, abs_eq_zero] at hprod
    exact List.prod_ne_zero (fun h0 => hpiv 0 h0 rfl) hprod
  · exact h.2

/-! ## 5. headlines -/

theorem naiveWinv_eq_run (W : Matrix (Fin n) (Fin n) ℝ) :
    LinearJacobian.naiveWinv realOps n (ofMat W) = (run W n).1.map (fun r => r.drop n) := rfl

theorem naivePivots_eq_run (W : Matrix (Fin n) (Fin n) ℝ) : NF.CachePaths.naivePivots realOps n (ofMat W) = (run W n).2.2 := rfl

theorem naiveLogabsdet_eq_run (W : Matrix (Fin n) (Fin n) ℝ) :
    naiveLogabsdet realOps n (ofMat W) = sum realOps ((run W n).2.2.map (fun p => realOps.log (absA realOps p))) := rfl

theorem gaussInverse_eq_run (W : Matrix (Fin n) (Fin n) ℝ) :
    gaussInverse realOps n (ofMat W) =
      if (run W n).2.2.any (fun p => !(realOps.lt p (zero realOps) || realOps.lt (zero realOps) p)) then .error .runtime
      else .ok ((run W n).1.map (fun r => r.drop n), (run W n).2.2) := rfl

/-- **`weight_inverse()` of `NaiveLinear`, as executed, is `W⁻¹`** for every `n` and every non-singular `W` -/
theorem naive_inverse_is_inverse (W : Matrix (Fin n) (Fin n) ℝ) (hW : W.det ≠ 0) :
    LinearJacobian.naiveWinv realOps n (ofMat W) = ofMat W⁻¹ := by
  obtain ⟨B, hB, hBW, -⟩ := run_final W hW
  rw [naiveWinv_eq_run, hB, Matrix.inv_eq_left_inv hBW]

/-- **`logabsdet()` of `NaiveLinear`, as executed, is `log |det W|`** -/
theorem naive_logabsdet_is_log_abs_det (W : Matrix (Fin n) (Fin n) ℝ) (hW : W.det ≠ 0) :
    naiveLogabsdet realOps n (ofMat W) = Real.log |W.det| := by
  obtain ⟨B, -, -, -, hpiv, hprod, -⟩ := run_final W hW
  rw [naiveLogabsdet_eq_run, LFTriSolve.sum_real, ← hprod, ← sum_log_abs _ hpiv]
  congr 1
  apply List.map_congr_left
  intro p _
  rw [absA_real]; rfl

theorem isZeroTest (p : ℝ) : (!(realOps.lt p (zero realOps) || realOps.lt (zero realOps) p)) = decide (p = 0) := by
  rw [realOps_lt, realOps_lt, LFIndex.zero_real]
  rcases lt_trichotomy p 0 with h | h | h
  · simp [h, h.ne]
  · simp [h]
  · simp [h, h.ne']

/-- **`weight_inverse()` (`torch.inverse`) succeeds on a non-singular `W` and returns `W⁻¹`** together with the pivots -/
theorem gaussInverse_ok (W : Matrix (Fin n) (Fin n) ℝ) (hW : W.det ≠ 0) :
    gaussInverse realOps n (ofMat W) = .ok (ofMat W⁻¹, NF.CachePaths.naivePivots realOps n (ofMat W)) := by
  obtain ⟨B, hB, hBW, -, hpiv, -⟩ := run_final W hW
  rw [gaussInverse_eq_run, naivePivots_eq_run, hB, Matrix.inv_eq_left_inv hBW, if_neg]
  simp only [isZeroTest, List.any_eq_true, decide_eq_true_eq, not_exists, not_and]
  exact fun p hp => hpiv p hp

/-- **singular `W`: the model reports `RuntimeError`** (torch raises `LinAlgError`), for every `n` -/
theorem gaussInverse_singular (W : Matrix (Fin n) (Fin n) ℝ) (hW : W.det = 0) :
    gaussInverse realOps n (ofMat W) = .error .runtime := by
  rw [gaussInverse_eq_run, if_pos]
  simp only [isZeroTest, List.any_eq_true, decide_eq_true_eq]
  exact ⟨0, zero_pivot_of_singular W hW, rfl⟩

theorem gaussInverse_error_iff (W : Matrix (Fin n) (Fin n) ℝ) :
    gaussInverse realOps n (ofMat W) = .error .runtime ↔ W.det = 0 := by
  constructor
  · intro h
    by_contra hW
    rw [gaussInverse_ok W hW] at h
    cases h
  · exact gaussInverse_singular W

theorem naive_pivots_ne_zero (W : Matrix (Fin n) (Fin n) ℝ) (hW : W.det ≠ 0) :
    ∀ p ∈ NF.CachePaths.naivePivots realOps n (ofMat W), p ≠ 0 := by
  obtain ⟨B, -, -, -, hpiv, -⟩ := run_final W hW
  exact hpiv

theorem naive_pivots_prod (W : Matrix (Fin n) (Fin n) ℝ) (hW : W.det ≠ 0) :
    |(NF.CachePaths.naivePivots realOps n (ofMat W)).prod| = |W.det| := by
  obtain ⟨B, -, -, -, -, hprod, -⟩ := run_final W hW
  exact hprod

/-! ## 6. `NaiveLinear` as a layer: the specification hypotheses of `CachePaths` discharged -/

open LinearJacobian LinearFresh

theorem naive_inverse_row_is_affine (W : Matrix (Fin n) (Fin n) ℝ) (hW : W.det ≠ 0) (b : List ℝ) (hb : b.length = n)
    (y : Fin n → ℝ) :
    naiveInvRow realOps n (ofMat W) b (List.ofFn y) = List.ofFn (invAffine W (vecFn n b) y) := by
  unfold naiveInvRow
  rw [naive_inverse_is_inverse W hW, subV_list _ _ hb, matVec_ofMat]
  rfl

/-- **the executed inverse pass undoes the executed forward pass** (`CachePaths.naive_inverse_executed` without hypotheses
    on the elimination) -/
theorem naive_roundtrip_executed (W : Matrix (Fin n) (Fin n) ℝ) (hW : W.det ≠ 0) (b : List ℝ) (hb : b.length = n)
    (x : Fin n → ℝ) :
    naiveInverse realOps n (ofMat W) b (naiveForward realOps (ofMat W) b [List.ofFn x]) = [List.ofFn x] :=
  NF.CachePaths.naive_inverse_executed W W⁻¹ b hb _ (gaussInverse_ok W hW)
    (Matrix.nonsing_inv_mul W (isUnit_iff_ne_zero.mpr hW)) x

theorem naive_combined_executed (W : Matrix (Fin n) (Fin n) ℝ) (hW : W.det ≠ 0) :
    NF.CachePaths.naiveCombinedInv realOps n (ofMat W) = .ok (ofMat W⁻¹, Real.log |W.det|) := by
  rw [(NF.CachePaths.naive_combined_eq realOps n (ofMat W) _ _ (gaussInverse_ok W hW)).1, naive_logabsdet_is_log_abs_det W hW]

/-- **`NaiveLinear` with a non-singular weight, as executed**: the elimination of `[W | I]` returns `W⁻¹` and the pivots whose
    logs sum to `log |det W|` -/
theorem naive_denotes (W : Matrix (Fin n) (Fin n) ℝ) (hW : W.det ≠ 0) (b : List ℝ) (hb : b.length = n) :
    Denotes W (vecFn n b) (ofMat W) (naiveWinv realOps n (ofMat W)) (naiveLogabsdet realOps n (ofMat W))
      (naiveRow realOps (ofMat W) b) (naiveInvRow realOps n (ofMat W) b) :=
  ⟨hW, rfl, naive_inverse_is_inverse W hW, naive_logabsdet_is_log_abs_det W hW, naiveRow_executed W b hb,
    naive_inverse_row_is_affine W hW b hb⟩

/-! ## 7. concrete instances (both need a row swap in column 0) -/

theorem det_ex2 : (!![0, 2; 1, 1] : Matrix (Fin 2) (Fin 2) ℝ).det = -2 := by
  rw [Matrix.det_fin_two_of]; norm_num

theorem det_ex2_ne : (!![0, 2; 1, 1] : Matrix (Fin 2) (Fin 2) ℝ).det ≠ 0 := by rw [det_ex2]; norm_num

theorem inv_ex2 : (!![0, 2; 1, 1] : Matrix (Fin 2) (Fin 2) ℝ)⁻¹ = !![-1/2, 1; 1/2, 0] := by
  apply Matrix.inv_eq_left_inv
  rw [Matrix.mul_fin_two, Matrix.one_fin_two]
  norm_num

theorem det_ex3 : (!![0, 1, 2; 1, 0, 3; 4, -3, 8] : Matrix (Fin 3) (Fin 3) ℝ).det = -2 := by
  rw [Matrix.det_fin_three]; simp; norm_num

theorem det_ex3_ne : (!![0, 1, 2; 1, 0, 3; 4, -3, 8] : Matrix (Fin 3) (Fin 3) ℝ).det ≠ 0 := by rw [det_ex3]; norm_num

theorem inv_ex3 : (!![0, 1, 2; 1, 0, 3; 4, -3, 8] : Matrix (Fin 3) (Fin 3) ℝ)⁻¹
    = !![-9/2, 7, -3/2; -2, 4, -1; 3/2, -2, 1/2] := by
  apply Matrix.inv_eq_left_inv
  rw [Matrix.mul_fin_three, Matrix.one_fin_three]
  norm_num

/-- `naive_inverse_is_inverse`, 2 × 2 with a zero in the pivot position -/
example : naiveWinv realOps 2 (ofMat !![0, 2; 1, 1]) = [[-1/2, 1], [1/2, 0]] := by
  rw [naive_inverse_is_inverse _ det_ex2_ne, inv_ex2]
  simp [ofMat]

/-- `naive_inverse_is_inverse`, 3 × 3 with a row swap -/
example : naiveWinv realOps 3 (ofMat !![0, 1, 2; 1, 0, 3; 4, -3, 8]) = [[-9/2, 7, -3/2], [-2, 4, -1], [3/2, -2, 1/2]] := by
  rw [naive_inverse_is_inverse _ det_ex3_ne, inv_ex3]
  simp [ofMat]

example : naiveLogabsdet realOps 2 (ofMat !![0, 2; 1, 1]) = Real.log 2 := by
  rw [naive_logabsdet_is_log_abs_det _ det_ex2_ne, det_ex2]; norm_num

example : naiveLogabsdet realOps 3 (ofMat !![0, 1, 2; 1, 0, 3; 4, -3, 8]) = Real.log 2 := by
  rw [naive_logabsdet_is_log_abs_det _ det_ex3_ne, det_ex3]; norm_num

/-- `gaussInverse_ok` / `naive_pivot_ne_zero`: the elimination succeeds although `W 0 0 = 0` -/
example : ∃ pivs, gaussInverse realOps 2 (ofMat !![0, 2; 1, 1]) = .ok ([[-1/2, 1], [1/2, 0]], pivs) ∧ ∀ p ∈ pivs, p ≠ 0 := by
  refine ⟨_, ?_, naive_pivots_ne_zero _ det_ex2_ne⟩
  rw [gaussInverse_ok _ det_ex2_ne, inv_ex2]
  simp [ofMat]

example : pivot 0 (run (!![0, 1, 2; 1, 0, 3; 4, -3, 8] : Matrix (Fin 3) (Fin 3) ℝ) 0).2.1 ≠ 0 :=
  naive_pivot_ne_zero _ det_ex3_ne 0 (by norm_num)

example (x : Fin 3 → ℝ) :
    naiveInverse realOps 3 (ofMat !![0, 1, 2; 1, 0, 3; 4, -3, 8]) [1, -1, 2]
      (naiveForward realOps (ofMat !![0, 1, 2; 1, 0, 3; 4, -3, 8]) [1, -1, 2] [List.ofFn x]) = [List.ofFn x] :=
  naive_roundtrip_executed (n := 3) !![0, 1, 2; 1, 0, 3; 4, -3, 8] det_ex3_ne _ rfl x

example : PassIs 3 (naiveForwardLd realOps 3 (ofMat !![0, 1, 2; 1, 0, 3; 4, -3, 8]) [1, -1, 2])
    (naiveRow realOps (ofMat !![0, 1, 2; 1, 0, 3; 4, -3, 8]) [1, -1, 2])
    (affine !![0, 1, 2; 1, 0, 3; 4, -3, 8] (vecFn 3 [1, -1, 2])) !![0, 1, 2; 1, 0, 3; 4, -3, 8] :=
  (naive_denotes (n := 3) !![0, 1, 2; 1, 0, 3; 4, -3, 8] det_ex3_ne [1, -1, 2] rfl).passIs
    (naiveForwardLd_pair _ _ _ _)

/-- **singular input**: `weight_inverse()` of the model reports `RuntimeError` (torch: `LinAlgError`) -/
example : gaussInverse realOps 2 (ofMat !![1, 2; 2, 4]) = .error .runtime :=
  gaussInverse_singular _ (by rw [Matrix.det_fin_two_of]; norm_num)

example : gaussInverse realOps 3 (ofMat !![1, 2, 3; 4, 5, 6; 7, 8, 9]) = .error .runtime :=
  gaussInverse_singular _ (by rw [Matrix.det_fin_three]; simp; norm_num)

/-! ### the executed program evaluated directly (no theorem in between): the recorded pivots show the row swaps -/

theorem realOps_neg (a : ℝ) : realOps.neg a = -a := rfl

/-- the final state of the elimination of `!![0, 2; 1, 1]`: column 0 has its largest modulus in row 1, so the pivots are `1`
    then `2` (product `2 = -det W`) -/
theorem run_ex2 :
    run (!![0, 2; 1, 1] : Matrix (Fin 2) (Fin 2) ℝ) 2 = ([[1, 0, -1/2, 1], [0, 1, 1/2, 0]], [], [1, 2]) := by
  norm_num [run, aug, ofMat, eye, tab2, gaussStep, argmaxCol, absA, realOps_lt, List.range_succ,
    LFIndex.realOps_sub, LFIndex.realOps_mul, LFIndex.realOps_div, realOps_neg, LFIndex.zero_real, LFIndex.one_real,
    List.eraseIdx]

example : NF.CachePaths.naivePivots realOps 2 (ofMat !![0, 2; 1, 1]) = [1, 2] := by
  rw [naivePivots_eq_run, run_ex2]

/-- rows are taken in the order 2, 0, 1; the pivots `4, 1, -1/2` multiply to `-2 = det W` -/
example : NF.CachePaths.naivePivots realOps 3 (ofMat !![0, 1, 2; 1, 0, 3; 4, -3, 8]) = [4, 1, -1/2] := by
  norm_num [NF.CachePaths.naivePivots, ofMat, eye, tab2, gaussStep, argmaxCol, absA, realOps_lt, List.range_succ,
    LFIndex.realOps_sub, LFIndex.realOps_mul, LFIndex.realOps_div, realOps_neg, LFIndex.zero_real, LFIndex.one_real,
    List.eraseIdx]

example : naiveWinv realOps 2 (ofMat !![0, 2; 1, 1]) = [[-1/2, 1], [1/2, 0]] := by
  rw [naiveWinv_eq_run, run_ex2]
  rfl

/-! ### singular `W = !![1, 2; 2, 4]`: what the model returns AT THE REALS

`weight_inverse()` is `RuntimeError` (above).  The passes that do not raise (`logabsdet()`, `inverse_no_cache`, modelled on
`torch.slogdet` / `torch.lu` + `lu_solve`) record the zero pivot and go on dividing by it.  At `Float` that division gives
`inf`/`nan` and `log 0 = -inf` (what the library returns); at `realOps` Lean's total `x / 0 = 0`, `Real.log 0 = 0` give the
finite values below, so for singular `W` the real-number semantics says nothing about the floating-point run — the
hypothesis `det W ≠ 0` of every headline is forced. -/

theorem run_singular_ex :
    run (!![1, 2; 2, 4] : Matrix (Fin 2) (Fin 2) ℝ) 2 = ([[1, 2, 0, 1/2], [0, 0, 0, 0]], [], [2, 0]) := by
  norm_num [run, aug, ofMat, eye, tab2, gaussStep, argmaxCol, absA, realOps_lt, List.range_succ,
    LFIndex.realOps_sub, LFIndex.realOps_mul, LFIndex.realOps_div, realOps_neg, LFIndex.zero_real, LFIndex.one_real,
    List.eraseIdx]

example : NF.CachePaths.naivePivots realOps 2 (ofMat !![1, 2; 2, 4]) = [2, 0] := by
  rw [naivePivots_eq_run, run_singular_ex]

/-- `naive_logabsdet_is_log_abs_det` is false without `det W ≠ 0`: here `det W = 0`, `log |det W| = 0`, the model returns
    `log 2` -/
theorem naiveLogabsdet_singular_example :
    naiveLogabsdet realOps 2 (ofMat !![1, 2; 2, 4]) = Real.log 2 ∧
    (!![1, 2; 2, 4] : Matrix (Fin 2) (Fin 2) ℝ).det = 0 ∧
    naiveLogabsdet realOps 2 (ofMat !![1, 2; 2, 4]) ≠ Real.log |(!![1, 2; 2, 4] : Matrix (Fin 2) (Fin 2) ℝ).det| := by
  have h1 : naiveLogabsdet realOps 2 (ofMat !![1, 2; 2, 4]) = Real.log 2 := by
    rw [naiveLogabsdet_eq_run, run_singular_ex]
    simp [NF.LF.sum, absA_real, LFIndex.realOps_add, LFIndex.realOps_log]
  have h2 : (!![1, 2; 2, 4] : Matrix (Fin 2) (Fin 2) ℝ).det = 0 := by rw [Matrix.det_fin_two_of]; norm_num
  refine ⟨h1, h2, ?_⟩
  rw [h1, h2, abs_zero, Real.log_zero]
  exact (Real.log_pos (by norm_num)).ne'

/-- the matrix `inverse_no_cache` multiplies by when `W` is singular (over ℝ; not an inverse of anything) -/
example : naiveWinv realOps 2 (ofMat !![1, 2; 2, 4]) = [[0, 1/2], [0, 0]] := by
  rw [naiveWinv_eq_run, run_singular_ex]
  rfl

end NaiveGauss
