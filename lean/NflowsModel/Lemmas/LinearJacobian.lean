import NflowsModel.Lemmas.LinearFresh
import NflowsModel.Lemmas.MatrixCLM

/-!
# Lemmas/LinearJacobian — the EXECUTED linear family: the returned log-abs-det is `log |det D|` of the derivative `D` of the
# row map actually computed (C01), row by row (C12)

About the list programs the driver runs (`luForward` … `naiveInverse` of `Core/LinearFamily`) and the pairs
`(outputs, logabsdet)` built from them.  Every pass is `List.map` of a row function and so are both components of the returned pair
(`RowWise`, `PairRowWise`: `Lemmas/LinearRows`, any `Ops α`).  At the reals the row function of a layer that `LinearBridge.Denotes`
`x ↦ W x + b` is `affine W b` (resp. `invAffine`), whose derivative at every point is `jac W`; `PassIs` bundles this with "entry `i`
of the returned log-dets is `log |det (jac W)|`", and `pass_core` proves it once for all classes (`Denotes.passIs`, `.passIs_inv` for
LU / QR / SVD / Naive).  `HouseholderSequence` has no `weight_inverse()` / `logabsdet()` accessors and returns zeros, so it denotes no
layer: its two passes are read off `pass_core` directly, with `Q` and `Qᵀ`.  The hypotheses `(X[i]).length = n` (§5) and
`bias.length = n` (`Lemmas/LogdetExecConv` §7) are forced.
-/

open NF.LF DualSound Matrix LinearBridge LinearFresh

namespace LinearJacobian

/-! ## 1. the affine map, its derivative, the determinant of the derivative -/

section affine
variable {n : ℕ}

def affine (W : Matrix (Fin n) (Fin n) ℝ) (b : Fin n → ℝ) : (Fin n → ℝ) → (Fin n → ℝ) := fun x => W *ᵥ x + b

noncomputable def invAffine (W : Matrix (Fin n) (Fin n) ℝ) (b : Fin n → ℝ) : (Fin n → ℝ) → (Fin n → ℝ) :=
  fun y => W⁻¹ *ᵥ (y - b)

/-- definitionally `MatrixCLM.ofMat W` -/
noncomputable def jac (W : Matrix (Fin n) (Fin n) ℝ) : (Fin n → ℝ) →L[ℝ] (Fin n → ℝ) :=
  LinearMap.toContinuousLinearMap (Matrix.toLin' W)

theorem jac_apply (W : Matrix (Fin n) (Fin n) ℝ) (x : Fin n → ℝ) : jac W x = W *ᵥ x := MatrixCLM.ofMat_apply W x

theorem jac_det (W : Matrix (Fin n) (Fin n) ℝ) : (jac W).det = W.det := MatrixCLM.ofMat_det W

theorem affine_hasFDerivAt (W : Matrix (Fin n) (Fin n) ℝ) (b x : Fin n → ℝ) : HasFDerivAt (affine W b) (jac W) x :=
  MatrixCLM.hasFDerivAt_affine W b x

theorem invAffine_eq (W : Matrix (Fin n) (Fin n) ℝ) (b : Fin n → ℝ) : invAffine W b = affine W⁻¹ (-(W⁻¹ *ᵥ b)) := by
  funext y
  simp only [invAffine, affine, Matrix.mulVec_sub]
  rw [sub_eq_add_neg]

theorem invAffine_hasFDerivAt (W : Matrix (Fin n) (Fin n) ℝ) (b y : Fin n → ℝ) : HasFDerivAt (invAffine W b) (jac W⁻¹) y := by
  rw [invAffine_eq]; exact affine_hasFDerivAt _ _ _

theorem affine_invAffine (W : Matrix (Fin n) (Fin n) ℝ) (hW : W.det ≠ 0) (b y : Fin n → ℝ) : affine W b (invAffine W b y) = y := by
  simp only [affine, invAffine, Matrix.mulVec_mulVec, Matrix.mul_nonsing_inv _ (isUnit_iff_ne_zero.2 hW), Matrix.one_mulVec,
    sub_add_cancel]

theorem invAffine_affine (W : Matrix (Fin n) (Fin n) ℝ) (hW : W.det ≠ 0) (b x : Fin n → ℝ) : invAffine W b (affine W b x) = x :=
  LinearFamily.naive_roundtrip W W⁻¹ (Matrix.nonsing_inv_mul _ (isUnit_iff_ne_zero.2 hW)) b x

theorem det_inv_ne_zero (W : Matrix (Fin n) (Fin n) ℝ) (hW : W.det ≠ 0) : (W⁻¹).det ≠ 0 := by
  rw [Matrix.det_nonsing_inv, Ring.inverse_eq_inv']; exact inv_ne_zero hW

/-- what the headlines say about one executed pass `F` (a batch function returning `(outputs, logabsdets)`), a map
    `φ` on `Fin n → ℝ` and a matrix `M`: the row function `g` IS `φ` on every row of length `n`, `φ` has the derivative
    `D = jac M` at every point, `D` is non-singular, and on every batch `X`, every row `i` of length `n`:
    output row `i` is `φ` of input row `i` (no other row enters), and log-det entry `i` is `log |det D|`.
    (`D` is named so that the statement speaks of the derivative; it is `jac M`.)  Against `LinearFresh.PassesAgree`: that one
    is about a forward/inverse PAIR and the accessors `weight()` / `weight_inverse()`, on batches of well-shaped rows, with no
    derivative; `PassIs` is about ONE pass, any batch, and says the returned number is `log |det|` of the Fréchet derivative. -/
def PassIs (n : ℕ) (F : List (List ℝ) → List (List ℝ) × List ℝ) (g : List ℝ → List ℝ) (φ : (Fin n → ℝ) → (Fin n → ℝ))
    (M : Matrix (Fin n) (Fin n) ℝ) : Prop :=
  ∃ D : (Fin n → ℝ) →L[ℝ] (Fin n → ℝ),
    D = jac M ∧
    (∀ X, (F X).1 = X.map g) ∧
    (∀ v : Fin n → ℝ, g (List.ofFn v) = List.ofFn (φ v)) ∧
    (∀ x0, HasFDerivAt φ D x0) ∧
    D.det ≠ 0 ∧
    (∀ X, (F X).2.length = X.length) ∧
    ∀ (X : List (List ℝ)) (i : ℕ) (hi : i < X.length), (X[i]).length = n →
      (F X).1[i]? = some (List.ofFn (φ (vecFn n X[i]))) ∧ (F X).2[i]? = some (Real.log |D.det|)

theorem pass_core (F : List (List ℝ) → List (List ℝ) × List ℝ) (g : List ℝ → List ℝ) (φ : (Fin n → ℝ) → (Fin n → ℝ))
    (M : Matrix (Fin n) (Fin n) ℝ) (ld : ℝ)
    (hF : ∀ X, F X = (X.map g, List.replicate X.length ld))
    (hg : ∀ v : Fin n → ℝ, g (List.ofFn v) = List.ofFn (φ v))
    (hφ : ∀ x0, HasFDerivAt φ (jac M) x0) (hM : M.det ≠ 0) (hld : ld = Real.log |M.det|) :
    PassIs n F g φ M := by
  refine ⟨jac M, rfl, fun X => by rw [hF], hg, hφ, by rw [jac_det]; exact hM, fun X => by rw [hF]; simp, ?_⟩
  intro X i hi hlen
  rw [hF, jac_det, ← hld]
  refine ⟨?_, by simp [hi]⟩
  have hx : X[i] = List.ofFn (vecFn n X[i]) := list_eq_ofFn _ hlen
  simp only [List.getElem?_map, List.getElem?_eq_getElem hi, Option.map_some]
  rw [← hg, ← hx]

theorem pass_core_inv (F : List (List ℝ) → List (List ℝ) × List ℝ) (g : List ℝ → List ℝ) (W : Matrix (Fin n) (Fin n) ℝ)
    (b : Fin n → ℝ) (ld : ℝ) (hF : ∀ X, F X = (X.map g, List.replicate X.length (-ld)))
    (hg : ∀ y : Fin n → ℝ, g (List.ofFn y) = List.ofFn (invAffine W b y)) (hW : W.det ≠ 0) (hld : ld = Real.log |W.det|) :
    PassIs n F g (invAffine W b) W⁻¹ ∧ Real.log |(jac W⁻¹).det| = -Real.log |(jac W).det| :=
  ⟨pass_core F g _ _ (-ld) hF hg (invAffine_hasFDerivAt W b) (det_inv_ne_zero W hW) (by rw [hld, LinearFamily.log_abs_det_inv]),
   by rw [jac_det, jac_det, LinearFamily.log_abs_det_inv]⟩

end affine

/-! ## 2. the executed row functions at the reals are the affine maps of the C11 matrices -/

section denotes
variable {n : ℕ} {W : Matrix (Fin n) (Fin n) ℝ} {b : Fin n → ℝ} {weight winv : List (List ℝ)} {ld : ℝ} {g gi : List ℝ → List ℝ}

/-- C01 + C12 for the forward pass of a layer that denotes `x ↦ W x + b`: the row map has the non-singular derivative `jac W` at
    every point and entry `i` of the returned log-abs-dets is `log |det (jac W)|` -/
theorem _root_.LinearBridge.Denotes.passIs (h : Denotes W b weight winv ld g gi) {F : List (List ℝ) → List (List ℝ) × List ℝ}
    (hF : PairRowWise F g (realOps.mul ld (one realOps))) : PassIs n F g (affine W b) W :=
  pass_core F g _ W ld hF.replicate h.row (affine_hasFDerivAt W b) h.det_ne h.ld_eq

theorem _root_.LinearBridge.Denotes.passIs_inv (h : Denotes W b weight winv ld g gi) {F : List (List ℝ) → List (List ℝ) × List ℝ}
    (hF : PairRowWise F gi (realOps.mul (realOps.neg ld) (one realOps))) :
    PassIs n F gi (invAffine W b) W⁻¹ ∧ Real.log |(jac W⁻¹).det| = -Real.log |(jac W).det| :=
  pass_core_inv F gi W b ld hF.replicate h.invRow h.det_ne h.ld_eq

end denotes

/-! ### Householder sequence -/

theorem Q_inv {n : ℕ} (vs : List (Fin n → ℝ)) (hv : ∀ v ∈ vs, v ⬝ᵥ v ≠ 0) : (LinearFamily.Q vs)⁻¹ = (LinearFamily.Q vs)ᵀ :=
  Matrix.inv_eq_left_inv (LinearFamily.Q_orthogonal vs hv).1

theorem hhRow_affine {n : ℕ} (vs : List (Fin n → ℝ)) (v : Fin n → ℝ) :
    hhSeq realOps (vs.map List.ofFn) (List.ofFn v) = List.ofFn (affine (LinearFamily.Q vs) 0 v) := by
  rw [isMulVec_hhSeq vs v, affine, add_zero]

theorem hhInvRow_affine {n : ℕ} (vs : List (Fin n → ℝ)) (v : Fin n → ℝ) :
    hhSeq realOps (vs.map List.ofFn).reverse (List.ofFn v) = List.ofFn (affine (LinearFamily.Q vs)ᵀ 0 v) := by
  rw [isMulVec_hhSeq_reverse vs v, affine, add_zero]

/-! ## 3. headlines -/

/-- **C01 + C12 for the executed `HouseholderSequence.forward`**: row map `x ↦ Q x`, the returned zeros are `log |det Q|` -/
theorem hh_logdet_is_log_abs_det_fderiv {n : ℕ} (vs : List (Fin n → ℝ)) (hv : ∀ v ∈ vs, v ⬝ᵥ v ≠ 0) :
    PassIs n (hhForwardLd realOps (vs.map List.ofFn)) (hhSeq realOps (vs.map List.ofFn)) (affine (LinearFamily.Q vs) 0)
      (LinearFamily.Q vs) :=
  pass_core _ _ _ _ 0
    (fun X => by rw [hhForwardLd, LFIndex.zero_real]; rfl)
    (hhRow_affine vs) (affine_hasFDerivAt _ _) (LinearFamily.Q_det_ne_zero vs hv)
    (by rw [LinearFamily.Q_det_abs vs hv, Real.log_one])

theorem hh_logdet_is_log_abs_det_fderiv_inverse {n : ℕ} (vs : List (Fin n → ℝ)) (hv : ∀ v ∈ vs, v ⬝ᵥ v ≠ 0) :
    PassIs n (hhInverseLd realOps (vs.map List.ofFn)) (hhSeq realOps (vs.map List.ofFn).reverse)
      (affine (LinearFamily.Q vs)ᵀ 0) (LinearFamily.Q vs)ᵀ ∧
    (LinearFamily.Q vs)ᵀ = (LinearFamily.Q vs)⁻¹ ∧
    affine (LinearFamily.Q vs)ᵀ 0 = invAffine (LinearFamily.Q vs) 0 :=
  ⟨pass_core _ _ _ _ 0
    (fun X => by rw [hhInverseLd, LFIndex.zero_real]; rfl)
    (hhInvRow_affine vs) (affine_hasFDerivAt _ _) (by rw [Matrix.det_transpose]; exact LinearFamily.Q_det_ne_zero vs hv)
    (by rw [Matrix.det_transpose, LinearFamily.Q_det_abs vs hv, Real.log_one]),
   (Q_inv vs hv).symm,
   by funext y; simp [affine, invAffine, Q_inv vs hv]⟩

/-- **the executed `NaiveLinear.forward`** on a well-shaped weight `ofMat W` (any `W`, singular or not): row-wise, the
    row map is `x ↦ W x + b` with derivative `jac W`, `det (jac W) = det W`.  (The log-abs-det `naiveLogabsdet` needs
    `det W ≠ 0`: `NaiveGauss.naive_denotes`.) -/
theorem naive_forward_is_affine_fderiv {n : ℕ} (W : Matrix (Fin n) (Fin n) ℝ) (b : List ℝ) (hb : b.length = n) :
    (∀ X, naiveForward realOps (ofMat W) b X = X.map (naiveRow realOps (ofMat W) b)) ∧
    (∀ v : Fin n → ℝ, naiveRow realOps (ofMat W) b (List.ofFn v) = List.ofFn (affine W (vecFn n b) v)) ∧
    (∀ x0, HasFDerivAt (affine W (vecFn n b)) (jac W) x0) ∧ (jac W).det = W.det ∧
    ∀ (X : List (List ℝ)) (i : ℕ) (hi : i < X.length), (X[i]).length = n →
      (naiveForward realOps (ofMat W) b X)[i]? = some (List.ofFn (affine W (vecFn n b) (vecFn n X[i]))) := by
  refine ⟨naiveForward_rowwise realOps _ b, naiveRow_executed W b hb, affine_hasFDerivAt _ _, jac_det W, ?_⟩
  intro X i hi hlen
  have hx : X[i] = List.ofFn (vecFn n X[i]) := list_eq_ofFn _ hlen
  rw [naiveForward_rowwise realOps _ b, List.getElem?_map, List.getElem?_eq_getElem hi, Option.map_some, hx,
    naiveRow_executed W b hb, ← hx]
  rfl

/-! ### reading a `PassIs` -/

section read
variable {n : ℕ} {F : List (List ℝ) → List (List ℝ) × List ℝ} {g : List ℝ → List ℝ} {φ : (Fin n → ℝ) → (Fin n → ℝ)}
  {M : Matrix (Fin n) (Fin n) ℝ}

theorem PassIs.rowwise (h : PassIs n F g φ M) : RowWise (fun X => (F X).1) g := by
  obtain ⟨D, _, h1, _⟩ := h; exact h1

theorem PassIs.hasFDerivAt (h : PassIs n F g φ M) (x0 : Fin n → ℝ) : HasFDerivAt φ (jac M) x0 := by
  obtain ⟨D, rfl, _, _, h3, _⟩ := h; exact h3 x0

theorem PassIs.fderiv_eq (h : PassIs n F g φ M) (x0 : Fin n → ℝ) : fderiv ℝ φ x0 = jac M := (h.hasFDerivAt x0).fderiv

theorem PassIs.det_ne_zero (h : PassIs n F g φ M) : M.det ≠ 0 := by
  obtain ⟨D, rfl, _, _, _, h4, _⟩ := h; rwa [jac_det] at h4

theorem PassIs.entry (h : PassIs n F g φ M) (X : List (List ℝ)) (i : ℕ) (hi : i < X.length) (hlen : (X[i]).length = n) :
    (F X).1[i]? = some (List.ofFn (φ (vecFn n X[i]))) ∧
    (F X).2[i]? = some (Real.log |(fderiv ℝ φ (vecFn n X[i])).det|) ∧
    (F X).2[i]? = some (Real.log |M.det|) := by
  have hf := h.fderiv_eq (vecFn n X[i])
  obtain ⟨D, rfl, _, _, _, _, _, h6⟩ := h
  obtain ⟨h7, h8⟩ := h6 X i hi hlen
  refine ⟨h7, by rw [hf]; exact h8, by rw [h8, jac_det]⟩

/-- C12 from a `PassIs`: the batch run restricted to row `i` is the run of row `i` alone, outputs and log-det -/
theorem PassIs.row_alone (h : PassIs n F g φ M) (X : List (List ℝ)) (i : ℕ) (hi : i < X.length) (hlen : (X[i]).length = n) :
    (F [X[i]]).1[0]? = (F X).1[i]? ∧ (F [X[i]]).2[0]? = (F X).2[i]? := by
  obtain ⟨h1, _, h3⟩ := h.entry X i hi hlen
  obtain ⟨k1, _, k3⟩ := h.entry [X[i]] 0 (by simp) (by simpa using hlen)
  simp only [List.getElem_cons_zero] at k1
  exact ⟨by rw [h1, k1], by rw [h3, k3]⟩

end read

/-! ## 4. concrete instances: the hypotheses of every headline are satisfiable -/

theorem v12_ne : ∀ v ∈ ([![1, 2]] : List (Fin 2 → ℝ)), v ⬝ᵥ v ≠ 0 := fun v hv =>
  LinearFamily.vs_ex_ne v (by simp only [List.mem_cons, List.not_mem_nil, or_false] at hv ⊢; exact Or.inl hv)

theorem v03_ne : ∀ v ∈ ([![0, 3]] : List (Fin 2 → ℝ)), v ⬝ᵥ v ≠ 0 := fun v hv =>
  LinearFamily.vs_ex_ne v (by simp only [List.mem_cons, List.not_mem_nil, or_false] at hv ⊢; exact Or.inr hv)

/-- the `LULinear` of `Properties/C11` (`n = 2`, lower `[3]`, upper `[5]`), batch `[[1, 2], [3, 4]]` -/
noncomputable abbrev pLU : LUParams ℝ := { n := 2, lower := [3], upper := [5], udiag := [0, 1], bias := [1, -1], eps := 1 / 1000 }

theorem pLU_eps : (0 : ℝ) ≤ pLU.eps := by show (0 : ℝ) ≤ 1 / 1000; norm_num

example : PassIs 2 (luForwardLd realOps pLU) (LogdetExec.luRow realOps pLU) (affine (luW pLU) (vecFn 2 pLU.bias)) (luW pLU) ∧
    PassIs 2 (luInverseLd realOps pLU) (LogdetExec.luInvRow realOps pLU) (invAffine (luW pLU) (vecFn 2 pLU.bias)) (luW pLU)⁻¹ ∧
    (luForwardLd realOps pLU [[1, 2], [3, 4]]).2[1]? = some (Real.log |(fderiv ℝ (affine (luW pLU) (vecFn 2 pLU.bias)) ![3, 4]).det|) ∧
    (luForwardLd realOps pLU [[1, 2], [3, 4]]).1[1]? = (luForwardLd realOps pLU [[3, 4]]).1[0]? := by
  have h := lu_denotes pLU rfl pLU_eps rfl
  have hf := h.passIs (luForwardLd_pair _ pLU)
  refine ⟨hf, (h.passIs_inv (luInverseLd_pair _ pLU)).1, ?_, ?_⟩
  · have h := (hf.entry [[1, 2], [3, 4]] 1 (by simp) rfl).2.1
    rw [h, hf.fderiv_eq, hf.fderiv_eq]
  · exact ((hf.row_alone [[1, 2], [3, 4]] 1 (by simp) rfl).1).symm

noncomputable abbrev pQR : QRParams ℝ :=
  { n := 2, upper := [5], logDiag := [0, 1], qs := [List.ofFn (![1, 2] : Fin 2 → ℝ), List.ofFn (![0, 3] : Fin 2 → ℝ)],
    bias := [1, -1] }

example : PassIs 2 (qrForwardLd realOps pQR) (qrRow realOps pQR) (affine (qrW pQR [![1, 2], ![0, 3]]) (vecFn 2 pQR.bias))
      (qrW pQR [![1, 2], ![0, 3]]) ∧
    PassIs 2 (qrInverseLd realOps pQR) (qrInvRow realOps pQR) (invAffine (qrW pQR [![1, 2], ![0, 3]]) (vecFn 2 pQR.bias))
      (qrW pQR [![1, 2], ![0, 3]])⁻¹ ∧
    (qrForwardLd realOps pQR [[1, 2], [3, 4]]).2[1]? = some (Real.log |(qrW pQR [![1, 2], ![0, 3]]).det|) := by
  have h := qr_denotes pQR _ rfl LinearFamily.vs_ex_ne rfl rfl
  have hf := h.passIs (qrForwardLd_pair _ pQR)
  exact ⟨hf, (h.passIs_inv (qrInverseLd_pair _ pQR)).1, (hf.entry [[1, 2], [3, 4]] 1 (by simp) rfl).2.2⟩

noncomputable abbrev pSVD : SVDParams ℝ :=
  { n := 2, udiag := [0, 1], qs1 := [List.ofFn (![1, 2] : Fin 2 → ℝ)], qs2 := [List.ofFn (![0, 3] : Fin 2 → ℝ)],
    bias := [1, -1], eps := 1 / 1000 }

theorem pSVD_eps : (0 : ℝ) ≤ pSVD.eps := by show (0 : ℝ) ≤ 1 / 1000; norm_num

example : PassIs 2 (svdForwardLd realOps pSVD) (svdRow realOps pSVD) (affine (svdW pSVD [![1, 2]] [![0, 3]]) (vecFn 2 pSVD.bias))
      (svdW pSVD [![1, 2]] [![0, 3]]) ∧
    PassIs 2 (svdInverseLd realOps pSVD) (svdInvRow realOps pSVD) (invAffine (svdW pSVD [![1, 2]] [![0, 3]]) (vecFn 2 pSVD.bias))
      (svdW pSVD [![1, 2]] [![0, 3]])⁻¹ ∧
    (svdInverseLd realOps pSVD [[1, 2], [3, 4]]).2[0]? = some (Real.log |((svdW pSVD [![1, 2]] [![0, 3]])⁻¹).det|) := by
  have h := svd_denotes pSVD _ _ rfl rfl v12_ne v03_ne rfl pSVD_eps rfl
  have hi := (h.passIs_inv (svdInverseLd_pair _ pSVD)).1
  exact ⟨h.passIs (svdForwardLd_pair _ pSVD), hi, (hi.entry [[1, 2], [3, 4]] 0 (by simp) rfl).2.2⟩

example : PassIs 2 (hhForwardLd realOps ([![1, 2], ![0, 3]].map List.ofFn)) (hhSeq realOps ([![1, 2], ![0, 3]].map List.ofFn))
      (affine (LinearFamily.Q [![1, 2], ![0, 3]]) 0) (LinearFamily.Q [![1, 2], ![0, 3]]) ∧
    PassIs 2 (hhInverseLd realOps ([![1, 2], ![0, 3]].map List.ofFn)) (hhSeq realOps ([![1, 2], ![0, 3]].map List.ofFn).reverse)
      (affine (LinearFamily.Q [![1, 2], ![0, 3]])ᵀ 0) (LinearFamily.Q [![1, 2], ![0, 3]])ᵀ ∧
    (hhForwardLd realOps ([![1, 2], ![0, 3]].map List.ofFn) [[1, 2], [3, 4]]).2[1]? = some 0 := by
  have hf := hh_logdet_is_log_abs_det_fderiv _ LinearFamily.vs_ex_ne
  refine ⟨hf, (hh_logdet_is_log_abs_det_fderiv_inverse _ LinearFamily.vs_ex_ne).1, ?_⟩
  have h := (hf.entry [[1, 2], [3, 4]] 1 (by simp) rfl).2.2
  rw [h, LinearFamily.Q_det_abs _ LinearFamily.vs_ex_ne, Real.log_one]

/-- a singular `NaiveLinear` weight is allowed in `naive_forward_is_affine_fderiv` -/
example : (∀ x0, HasFDerivAt (affine (!![1, 2; 2, 4] : Matrix (Fin 2) (Fin 2) ℝ) (vecFn 2 [1, -1])) (jac !![1, 2; 2, 4]) x0) ∧
    (naiveForward realOps (ofMat !![1, 2; 2, 4]) [1, -1] [[1, 2], [3, 4]])[1]?
      = some (List.ofFn (affine (!![1, 2; 2, 4] : Matrix (Fin 2) (Fin 2) ℝ) (vecFn 2 [1, -1]) (vecFn 2 [3, 4]))) :=
  have h := naive_forward_is_affine_fderiv (n := 2) !![1, 2; 2, 4] [1, -1] rfl
  ⟨h.2.2.1, h.2.2.2.2 [[1, 2], [3, 4]] 1 (by simp) rfl⟩

/-! ## 5. the row-length hypothesis of `PassIs` is forced

The passes whose first step on a row is a `zipWith` against the row itself (`subV`, `hhApply`) return a row no longer than
their input: on an EMPTY row they return the empty row, whatever `n` is, whereas the affine formula gives a row of length
`n`.  (The library rejects such an input by a shape check / a broadcasting error; rows of a tensor all have one length.) -/

section forced
variable {α : Type} (o : Ops α)

theorem hhApply_nil (q : List α) : hhApply o q [] = [] := by simp [hhApply]

theorem hhSeq_nil (qs : List (List α)) : hhSeq o qs [] = [] := by
  induction qs with
  | nil => rfl
  | cons q qs ih =>
    simp only [hhSeq, List.foldl_cons] at ih ⊢
    rw [hhApply_nil]; exact ih

theorem svdRow_nil (p : SVDParams α) : svdRow o p [] = [] := by simp [svdRow, hhSeq_nil, addV]
theorem svdInvRow_nil (p : SVDParams α) : svdInvRow o p [] = [] := by simp [svdInvRow, hhSeq_nil, subV]
theorem qrInvRow_nil (p : QRParams α) : qrInvRow o p [] = [] := by
  simp only [qrInvRow, subV, List.zipWith_nil_left, hhSeq_nil, solveUpper]
  cases qrR o p <;> rfl

end forced

/-- **counterexample** to the last clause of `PassIs` without `(X[i]).length = n`: the executed `SVDLinear.forward` of the
    instance above sends the empty row to the empty row, not to a row of length 2 -/
theorem svd_row_length_forced :
    (svdForwardLd realOps pSVD [[]]).1[0]?
      ≠ some (List.ofFn (affine (svdW pSVD [![1, 2]] [![0, 3]]) (vecFn 2 pSVD.bias) (vecFn 2 []))) := by
  rw [svdForwardLd, svdForward_rowwise realOps pSVD]
  simp only [List.map_cons, List.map_nil, svdRow_nil, List.getElem?_cons_zero]
  intro h
  have := congrArg (Option.map List.length) h
  simp at this

theorem hh_row_length_forced :
    (hhForwardLd realOps ([![1, 2], ![0, 3]].map List.ofFn) [[]]).1[0]?
      ≠ some (List.ofFn (affine (LinearFamily.Q [![1, 2], ![0, 3]]) 0 (vecFn 2 []))) := by
  rw [hhForwardLd, hhForward_rowwise realOps]
  simp only [List.map_cons, List.map_nil, hhSeq_nil, List.getElem?_cons_zero]
  intro h
  have := congrArg (Option.map List.length) h
  simp at this

end LinearJacobian
