import Mathlib.Analysis.SpecialFunctions.Log.Basic
import Mathlib.Tactic
import NflowsModel.Lemmas.TorchUtils
/-!
# Lemmas/Utils — specifications of small utilities over ℝ and `Bool`

C20: `cbrt` (torchutils.py:150-152), the masks (torchutils.py:94-136), the `typechecks` predicates; C17: the batch-global
domain guard of `Exp.inverse`.
-/

namespace Utils

noncomputable section

def cbrt (x : ℝ) : ℝ := SignType.sign x * Real.exp (Real.log |x| / 3)

theorem cbrt_cube (x : ℝ) : (cbrt x)^3 = x := by
  rcases eq_or_ne x 0 with rfl | h
  · simp [cbrt]
  · have e : Real.exp (Real.log |x| / 3) ^ 3 = |x| := by
      rw [← Real.exp_nat_mul, Nat.cast_ofNat, mul_div_cancel₀ _ three_ne_zero, Real.exp_log (abs_pos.mpr h)]
    rw [cbrt, mul_pow, e]
    rcases h.lt_or_gt with h | h
    · rw [sign_neg h, abs_of_neg h, SignType.coe_neg_one]; ring
    · rw [sign_pos h, abs_of_pos h, SignType.coe_one, one_pow, one_mul]

def alternatingMask (n : ℕ) (even : Bool) : List Bool := (List.range n).map (fun i => if even then i % 2 == 0 else i % 2 == 1)
def midSplitMask (n : ℕ) : List Bool := (List.range n).map (fun i => decide (i < (if n % 2 = 0 then n / 2 else n / 2 + 1)))

theorem midSplit_count (n : ℕ) : (midSplitMask n).count true = (n + 1) / 2 := by
  unfold midSplitMask
  have hm : (if n % 2 = 0 then n / 2 else n / 2 + 1) = (n + 1) / 2 := by
    rw [NF.TU.half_succ]
    rcases Nat.mod_two_eq_zero_or_one n with h | h <;> rw [h] <;> rfl
  rw [hm, List.count_eq_countP, List.countP_map]
  have hf : ((fun b => b == true) ∘ fun i => decide (i < (n + 1) / 2)) = fun i => decide (i < (n + 1) / 2) :=
    funext fun i => beq_true _
  rw [hf, NF.TU.countP_range_lt]
  refine Nat.min_eq_left ?_
  rw [NF.TU.half_succ]
  conv_rhs => rw [← Nat.div_add_mod n 2]
  exact Nat.add_le_add_right (Nat.le_mul_of_pos_left _ Nat.two_pos) _

/-- predicates (typechecks.py) on the Python values that can reach them -/
inductive PyVal | int (n : Int) | bool (b : Bool) | float | none | str deriving DecidableEq
def isInt : PyVal → Bool | .int _ => true | .bool _ => true | _ => false      -- isinstance(True, int) is True
def asInt : PyVal → Option Int | .int n => some n | .bool b => some (if b then 1 else 0) | _ => none
def isPositiveInt (v : PyVal) : Bool := match asInt v with | some n => decide (n > 0) | none => false
def isNonnegInt (v : PyVal) : Bool := match asInt v with | some n => decide (n ≥ 0) | none => false
/-- `not n & (n-1)` for positive ints -/
def isPowerOfTwo (v : PyVal) : Bool := match asInt v with | some n => decide (n > 0) && (n.toNat &&& (n.toNat - 1)) == 0 | none => false
example : isPositiveInt (.bool true) = true ∧ isPositiveInt .float = false ∧ isPositiveInt (.int 0) = false := by decide
example : isPowerOfTwo (.int 8) = true ∧ isPowerOfTwo (.int 6) = false ∧ isPowerOfTwo (.int 0) = false ∧ isPowerOfTwo (.int 1) = true := by decide

/-- C17: the guard of `Exp.inverse` is batch-global (`torch.min` over the whole batch); `minL` is that minimum -/
def minL : List ℝ → ℝ
  | [] => 0
  | [x] => x
  | x :: y :: t => min x (minL (y :: t))

theorem minL_le_iff (c : ℝ) : ∀ xs : List ℝ, xs ≠ [] → (minL xs ≤ c ↔ ∃ x ∈ xs, x ≤ c) := by
  intro xs
  induction xs with
  | nil => intro h; exact absurd rfl h
  | cons x t ih =>
    intro _
    cases t with
    | nil => simp [minL]
    | cons y t' =>
      have := ih (by simp)
      simp only [minL, min_le_iff, this]
      constructor
      · rintro (h | ⟨z, hz, hzc⟩)
        · exact ⟨x, by simp, h⟩
        · exact ⟨z, List.mem_cons_of_mem _ hz, hzc⟩
      · rintro ⟨z, hz, hzc⟩
        rcases List.mem_cons.mp hz with rfl | hz'
        · exact Or.inl hzc
        · exact Or.inr ⟨z, hz', hzc⟩

/-- `Exp.inverse` raises InputOutsideDomain iff some element is ≤ 0 (nonlinearities.py:26-27) -/
theorem exp_inverse_rejects_iff (xs : List ℝ) (h : xs ≠ []) : (minL xs ≤ 0) ↔ ¬ (∀ x ∈ xs, 0 < x) := by
  rw [minL_le_iff 0 xs h]; push Not; rfl

end
end Utils
