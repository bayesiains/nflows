import NflowsModel.Lemmas.StructureExec
import NflowsModel.Lemmas.StructureExecRQ
import NflowsModel.Lemmas.MadeNet
import NflowsModel.Lemmas.RankedDet
import NflowsModel.Lemmas.AutoregInverse
/-!
# Lemmas/ARWhole — the executed AUTOREGRESSIVE transform as a whole program (C02, C06, C01)

`autoregressive.py:38-52`:
```
def forward(self, inputs, context=None):
    autoregressive_params = self.autoregressive_net(inputs, context)
    outputs, logabsdet = self._elementwise_forward(inputs, autoregressive_params)
def inverse(self, inputs, context=None):
    num_inputs = int(np.prod(inputs.shape[1:]))
    outputs = torch.zeros_like(inputs)
    logabsdet = None
    for _ in range(num_inputs):
        autoregressive_params = self.autoregressive_net(outputs, context)
        outputs, logabsdet = self._elementwise_inverse(inputs, autoregressive_params)
    return outputs, logabsdet
```
The element-wise pass is the executed `NF.arApply` (`Core/Structure.lean`).  The conditioner is any function
`net : Array α → Array α` from the WHOLE `[B, F]` batch to the `[B, F, m]` parameter tensor (so a conditioner that
couples the rows of the batch — batch norm in training mode — is covered; a conditioner applied row by row is a
special case, see `madeRowNet` in `Lemmas/ARWholeMadeRow.lean`).

The one hypothesis on the conditioner is `AutoregNet`: the parameters of feature `i` of a row depend only on the features
`< i` of the batch.  The inverse loop is handled by an invariant on `arIter` — after pass `k` the first `k` features of
every row are the original ones (`AgreeBelow`, `arIter_prefix`), hence the parameters the next pass reads for feature `k`
are the forward ones — and per-element invertibility (`ArElInvertible`, or up to a relation `ArElRevRel` for the other
order) does the rest.  The same triangular dependency gives C01: the Jacobian of a row is lower-triangular with the element
derivatives on the diagonal (`ar_row_det`).  The MADE model satisfies `AutoregNet` by the degree bookkeeping of
`Lemmas/MadeNet` (C06).  §5 states the passes and the loop, §6 the MADE round trip (`made_roundtrip_real_of`), once for any
element family given by `StructureExec.ElAccepts` / `ElUndoes`; the bounded RQ and the affine family are instances here, the others in their files.
-/
open NF

namespace NF.ARWhole
open NF.StructureExec
variable {α : Type}

/-! ## 1. The executed programs -/

/-- number of conditioner outputs per feature that `arEl` reads: `ElCfg.mult`, except for the kind `"araffine"`, which
    `mult` does not list -/
def pw (c : ElCfg) : Nat := if c.kind == "araffine" then 2 else c.mult

/-- the parameter vector `params[b, i, :]` that `arEl` slices out -/
def arSlice (o : XOps α) (c : ElCfg) (F : Nat) (params : Array α) (b i : Nat) : List α :=
  (List.range (pw c)).map fun k => params.getD ((b * F + i) * pw c + k) o.zero

theorem arSlice_length (o : XOps α) (c : ElCfg) (F : Nat) (params : Array α) (b i : Nat) :
    (arSlice o c F params b i).length = pw c := by simp [arSlice]

theorem arEl_eq (o : XOps α) (c : ElCfg) (F : Nat) (x params : Array α) (inverse : Bool) (b i : Nat) :
    arEl o c F x params inverse b i
      = elTransform o c inverse (arSlice o c F params b i) (x.getD (b * F + i) o.zero) := rfl

/-- `AutoregressiveTransform.forward` (autoregressive.py:38-41) -/
def arForward (o : XOps α) (c : ElCfg) (B F : Nat) (net : Array α → Array α) (x : Array α) : TResult α :=
  arApply o c B F x (net x) false

/-- the loop state before the first pass: `outputs = zeros_like(inputs)`, `logabsdet = None` -/
def arInit (o : XOps α) (y : Array α) : TResult α := { out := Array.replicate y.size o.zero, ld := [] }

/-- one pass of the inverse loop (autoregressive.py:48-51): the conditioner is fed the CURRENT outputs, the
    element-wise inverse is applied to the loop-invariant `inputs = y`; outputs and log-det are overwritten.
    An exception raised in any pass aborts the loop: `err` keeps the first one. -/
def arPass (o : XOps α) (c : ElCfg) (B F : Nat) (net : Array α → Array α) (y : Array α) (cur : TResult α) :
    TResult α :=
  let r := arApply o c B F y (net cur.out) true
  { r with err := match cur.err with | some e => some e | none => r.err }

/-- `AutoregressiveTransform.inverse` (autoregressive.py:43-52): exactly `F` passes from the zero array, the result
    (outputs AND log-det) is that of the LAST pass. -/
def arInverse (o : XOps α) (c : ElCfg) (B F : Nat) (net : Array α → Array α) (y : Array α) : TResult α :=
  (List.range F).foldl (fun cur _ => arPass o c B F net y cur) (arInit o y)

def arIter (o : XOps α) (c : ElCfg) (B F : Nat) (net : Array α → Array α) (y : Array α) (k : Nat) : TResult α :=
  (arPass o c B F net y)^[k] (arInit o y)

theorem foldl_range_const {β : Type} (f : β → β) (z : β) (n : Nat) :
    (List.range n).foldl (fun a _ => f a) z = f^[n] z := by
  induction n with
  | zero => rfl
  | succ n ih => rw [List.range_succ, List.foldl_append, ih, Function.iterate_succ_apply']; rfl

theorem arInverse_eq_iter (o : XOps α) (c : ElCfg) (B F : Nat) (net : Array α → Array α) (y : Array α) :
    arInverse o c B F net y = arIter o c B F net y F :=
  foldl_range_const _ _ F

theorem arIter_succ (o : XOps α) (c : ElCfg) (B F : Nat) (net : Array α → Array α) (y : Array α) (k : Nat) :
    arIter o c B F net y (k + 1) = arPass o c B F net y (arIter o c B F net y k) :=
  Function.iterate_succ_apply' _ _ _

theorem arPass_out (o : XOps α) (c : ElCfg) (B F : Nat) (net : Array α → Array α) (y : Array α) (cur : TResult α) :
    (arPass o c B F net y cur).out = (arApply o c B F y (net cur.out) true).out := rfl

theorem arPass_ld (o : XOps α) (c : ElCfg) (B F : Nat) (net : Array α → Array α) (y : Array α) (cur : TResult α) :
    (arPass o c B F net y cur).ld = (arApply o c B F y (net cur.out) true).ld := rfl

theorem arIter_succ_getElem? (o : XOps α) (c : ElCfg) (B F : Nat) (net : Array α → Array α) (y : Array α) (k : Nat)
    {b i : Nat} (hb : b < B) (hi : i < F) :
    (arIter o c B F net y (k + 1)).out[b * F + i]?
      = some (outOf o (arEl o c F y (net (arIter o c B F net y k).out) true b i)) := by
  rw [arIter_succ o c B F net y k, arPass_out, arApply, elemwise_out_getElem? o B F _ hb hi]

theorem arForward_getElem? (o : XOps α) (c : ElCfg) (B F : Nat) (net : Array α → Array α) (x : Array α)
    {b i : Nat} (hb : b < B) (hi : i < F) :
    (arForward o c B F net x).out[b * F + i]? = some (outOf o (arEl o c F x (net x) false b i)) := by
  rw [arForward, arApply, elemwise_out_getElem? o B F _ hb hi]

theorem arApply_out_size (o : XOps α) (c : ElCfg) (B F : Nat) (x params : Array α) (inverse : Bool) :
    (arApply o c B F x params inverse).out.size = B * F := elemwise_out_size o B F _

theorem arIter_out_size (o : XOps α) (c : ElCfg) (B F : Nat) (net : Array α → Array α) (y : Array α)
    (hy : y.size = B * F) (k : Nat) : (arIter o c B F net y k).out.size = B * F := by
  cases k with
  | zero => simp [arIter, arInit, hy]
  | succ k => rw [arIter_succ, arPass_out, arApply_out_size]

theorem arInverse_out_size (o : XOps α) (c : ElCfg) (B F : Nat) (net : Array α → Array α) (y : Array α)
    (hy : y.size = B * F) : (arInverse o c B F net y).out.size = B * F := by
  rw [arInverse_eq_iter]; exact arIter_out_size o c B F net y hy F

/-! ## 2. Hypotheses -/

/-- **the conditioner is strictly autoregressive** (C06): the parameter block of feature `i` (of every row) is
    determined by the features `j < i` (of all rows).  Only `[B, F]`-shaped arrays are compared. -/
def AutoregNet (B F m : Nat) (net : Array α → Array α) : Prop :=
  ∀ (x x' : Array α) (i : Nat), x.size = B * F → x'.size = B * F → i < F →
    (∀ b j, b < B → j < i → x[b * F + j]? = x'[b * F + j]?) →
    ∀ b k, b < B → k < m → (net x)[(b * F + i) * m + k]? = (net x')[(b * F + i) * m + k]?

/-- **per-element invertibility** for the parameter tensor `params` (mirrors `StructureExec.ElInvertible`): whenever
    the forward element map succeeds with `(y, l)`, the inverse element map with the SAME parameter vector sends `y`
    back to the input with log-det `-l`. -/
def ArElInvertible (o : XOps α) (c : ElCfg) (F : Nat) (params : Array α) (B : Nat) : Prop :=
  ∀ b i xi y l al, b < B → i < F →
    elTransform o c false (arSlice o c F params b i) xi = .ok (y, l, al) →
    ∃ al', elTransform o c true (arSlice o c F params b i) y = .ok (xi, o.neg l, al')

def ArElInvertibleRev (o : XOps α) (c : ElCfg) (F : Nat) (params : Array α) (B : Nat) : Prop :=
  ∀ b i yi x l al, b < B → i < F →
    elTransform o c true (arSlice o c F params b i) yi = .ok (x, l, al) →
    ∃ al', elTransform o c false (arSlice o c F params b i) x = .ok (yi, o.neg l, al')

/-- per element, up to a relation `R`: whenever the inverse element map succeeds with `(x, l)`, the forward one succeeds
    at `x` with log-det EXACTLY `-l` and a value `R`-related to the inverse map's input (`R = Eq`: `ArElInvertibleRev`) -/
def ArElRevRel (R : α → α → Prop) (o : XOps α) (c : ElCfg) (F : Nat) (params : Array α) (B : Nat) : Prop :=
  ∀ b i yi x l al, b < B → i < F →
    elTransform o c true (arSlice o c F params b i) yi = .ok (x, l, al) →
    ∃ y' al', elTransform o c false (arSlice o c F params b i) x = .ok (y', o.neg l, al') ∧ R y' yi

theorem ArElInvertibleRev.rel {o : XOps α} {c : ElCfg} {F B : Nat} {params : Array α}
    (h : ArElInvertibleRev o c F params B) : ArElRevRel Eq o c F params B := by
  intro b i yi x l al hb hi hf
  obtain ⟨al', h'⟩ := h b i yi x l al hb hi hf
  exact ⟨yi, al', h', rfl⟩

def AgreeBelow (B F k : Nat) (z x : Array α) : Prop :=
  ∀ b i, b < B → i < F → i < k → z[b * F + i]? = x[b * F + i]?

theorem exists_row_feature {B F j : Nat} (hj : j < B * F) : ∃ b i, b < B ∧ i < F ∧ j = b * F + i :=
  have hF : 0 < F := Nat.pos_of_lt_mul_left hj
  ⟨j / F, j % F, (Nat.div_lt_iff_lt_mul hF).2 hj, Nat.mod_lt _ hF, (Nat.div_add_mod' j F).symm⟩

theorem arSlice_congr (o : XOps α) (c : ElCfg) (F : Nat) (p p' : Array α) (b i : Nat)
    (h : ∀ k, k < pw c → p[(b * F + i) * pw c + k]? = p'[(b * F + i) * pw c + k]?) :
    arSlice o c F p b i = arSlice o c F p' b i := by
  unfold arSlice
  apply List.map_congr_left
  intro k hk
  exact getD_congr (h k (List.mem_range.1 hk)) _

theorem arSlice_of_agree (o : XOps α) (c : ElCfg) {B F : Nat} {net : Array α → Array α}
    (hnet : AutoregNet B F (pw c) net) {z x : Array α} (hz : z.size = B * F) (hx : x.size = B * F) {k : Nat}
    (hag : AgreeBelow B F k z x) {b i : Nat} (hb : b < B) (hi : i < F) (hik : i ≤ k) :
    arSlice o c F (net z) b i = arSlice o c F (net x) b i := by
  apply arSlice_congr
  intro r hr
  exact hnet z x i hz hx hi (fun b' j hb' hj => hag b' j hb' (by omega) (by omega)) b r hb hr

/-! ## 3. C02: the `F`-pass loop undoes the forward pass -/

section c02
variable (o : XOps α) (c : ElCfg) (B F : Nat) (net : Array α → Array α) (x : Array α)

theorem fwd_el (herr : (arForward o c B F net x).err = none) {b i : Nat} (hb : b < B) (hi : i < F) :
    ∃ y l al, elTransform o c false (arSlice o c F (net x) b i) (x.getD (b * F + i) o.zero) = .ok (y, l, al)
      ∧ (arForward o c B F net x).out.getD (b * F + i) o.zero = y := by
  obtain ⟨⟨y, l, al⟩, hy⟩ := (elemwise_err_none o B F _).1 herr b i hb hi
  refine ⟨y, l, al, by rw [← arEl_eq]; exact hy, ?_⟩
  have h := elemwise_out_getElem? o B F (arEl o c F x (net x) false) hb hi
  rw [hy] at h
  unfold arForward arApply
  rw [Array.getD_eq_getD_getElem?, h]
  rfl

/-- **one pass**: if the current outputs `z` agree with `x` on the features `< k`, then in the pass fed with `z`
    every element `i ≤ k` of every row returns `x[b, i]` and the negated forward log-derivative -/
theorem pass_el (hnet : AutoregNet B F (pw c) net) (hinv : ArElInvertible o c F (net x) B)
    (herr : (arForward o c B F net x).err = none) (hx : x.size = B * F)
    {z : Array α} (hz : z.size = B * F) {k : Nat} (hag : AgreeBelow B F k z x)
    {b i : Nat} (hb : b < B) (hi : i < F) (hik : i ≤ k) :
    ∃ al', arEl o c F (arForward o c B F net x).out (net z) true b i
      = .ok (x.getD (b * F + i) o.zero, o.neg (ldOf o (arEl o c F x (net x) false b i)), al') := by
  obtain ⟨y, l, al, h1, h2⟩ := fwd_el o c B F net x herr hb hi
  obtain ⟨al', h3⟩ := hinv b i _ y l al hb hi h1
  refine ⟨al', ?_⟩
  rw [arEl_eq, arEl_eq, arSlice_of_agree o c hnet hz hx hag hb hi hik, h2, h3, h1]
  rfl

theorem pass_agree (hnet : AutoregNet B F (pw c) net) (hinv : ArElInvertible o c F (net x) B)
    (herr : (arForward o c B F net x).err = none) (hx : x.size = B * F)
    {z : Array α} (hz : z.size = B * F) {k : Nat} (hag : AgreeBelow B F k z x) :
    AgreeBelow B F (k + 1) (arApply o c B F (arForward o c B F net x).out (net z) true).out x := by
  intro b i hb hi hik
  obtain ⟨al', h⟩ := pass_el o c B F net x hnet hinv herr hx hz hag hb hi (by omega)
  rw [arApply, elemwise_out_getElem? o B F _ hb hi, h]
  have hj : b * F + i < x.size := by rw [hx]; exact RowMajor.lt2 hb hi
  rw [Array.getElem?_eq_getElem hj, getD_of_lt hj]
  rfl

/-- **the invariant of the loop**: after pass `k` the first `k` features of every row are already correct
    (from the zero array; nothing is claimed — or true — about the other features) -/
theorem arIter_prefix (hnet : AutoregNet B F (pw c) net) (hinv : ArElInvertible o c F (net x) B)
    (herr : (arForward o c B F net x).err = none) (hx : x.size = B * F) (k : Nat) :
    AgreeBelow B F k (arIter o c B F net (arForward o c B F net x).out k).out x := by
  induction k with
  | zero => intro b i _ _ h; omega
  | succ k ih =>
    rw [arIter_succ, arPass_out]
    exact pass_agree o c B F net x hnet hinv herr hx
      (arIter_out_size o c B F net _ (arApply_out_size ..) k) ih

theorem arIter_pass_el (hnet : AutoregNet B F (pw c) net) (hinv : ArElInvertible o c F (net x) B)
    (herr : (arForward o c B F net x).err = none) (hx : x.size = B * F) (k : Nat)
    {b i : Nat} (hb : b < B) (hi : i < F) (hik : i ≤ k) :
    ∃ al', arEl o c F (arForward o c B F net x).out
        (net (arIter o c B F net (arForward o c B F net x).out k).out) true b i
      = .ok (x.getD (b * F + i) o.zero, o.neg (ldOf o (arEl o c F x (net x) false b i)), al') :=
  pass_el o c B F net x hnet hinv herr hx (arIter_out_size o c B F net _ (arApply_out_size ..) k)
    (arIter_prefix o c B F net x hnet hinv herr hx k) hb hi hik

/-- **C02 (executed autoregressive transform), outputs**: the `F`-pass loop applied to the forward output returns
    the input array exactly — every batch size `B`, feature count `F` (including `0`), conditioner, element family -/
theorem ar_inverse_forward (hnet : AutoregNet B F (pw c) net) (hinv : ArElInvertible o c F (net x) B)
    (herr : (arForward o c B F net x).err = none) (hx : x.size = B * F) :
    (arInverse o c B F net (arForward o c B F net x).out).out = x := by
  rw [arInverse_eq_iter]
  apply Array.ext_getElem?
  intro j
  have hsz := arIter_out_size o c B F net (arForward o c B F net x).out (arApply_out_size ..) F
  by_cases hj : j < B * F
  · obtain ⟨b, i, hb, hi, rfl⟩ := exists_row_feature hj
    exact arIter_prefix o c B F net x hnet hinv herr hx F b i hb hi hi
  · rw [getElem?_none_of_not_lt (by omega), getElem?_none_of_not_lt (by omega)]

/-- **C02, log-dets**: for `F ≥ 1` the log-det returned by the loop (that of the LAST pass) is, row by row, the left
    fold of the NEGATED per-element log-derivatives of the forward pass, in feature order.
    (`F = 0`: the code returns `logabsdet = None`, the model `[]`.) -/
theorem ar_inverse_forward_ld (hnet : AutoregNet B F (pw c) net) (hinv : ArElInvertible o c F (net x) B)
    (herr : (arForward o c B F net x).err = none) (hx : x.size = B * F) (hF : 0 < F) {b : Nat} (hb : b < B) :
    (arForward o c B F net x).ld[b]?
        = some ((List.range F).foldl (fun acc i => o.add acc (ldOf o (arEl o c F x (net x) false b i))) o.zero)
    ∧ (arInverse o c B F net (arForward o c B F net x).out).ld[b]?
        = some ((List.range F).foldl
            (fun acc i => o.add acc (o.neg (ldOf o (arEl o c F x (net x) false b i)))) o.zero) := by
  refine ⟨ar_ld_getElem? o c B F x (net x) false hb, ?_⟩
  obtain ⟨k, rfl⟩ : ∃ k, F = k + 1 := ⟨F - 1, by omega⟩
  rw [arInverse_eq_iter, arIter_succ, arPass_ld, ar_ld_getElem? o c B (k + 1) _ _ true hb]
  congr 1
  apply List.foldl_ext
  intro acc i hi
  have hi' := List.mem_range.1 hi
  obtain ⟨al', h⟩ := arIter_pass_el o c B (k + 1) net x hnet hinv herr hx k hb hi' (by omega)
  rw [h]
  rfl

theorem ar_inverse_last_pass_ok (hnet : AutoregNet B F (pw c) net) (hinv : ArElInvertible o c F (net x) B)
    (herr : (arForward o c B F net x).err = none) (hx : x.size = B * F) :
    (arApply o c B F (arForward o c B F net x).out
      (net (arIter o c B F net (arForward o c B F net x).out (F - 1)).out) true).err = none := by
  rw [arApply, elemwise_err_none]
  intro b i hb hi
  obtain ⟨al', h⟩ := arIter_pass_el o c B F net x hnet hinv herr hx (F - 1) hb hi (by omega)
  exact ⟨_, h⟩

/-- the conditioner input of the last pass already yields the forward parameters (`autoregressive_last_pass_params`
    for the executed loop): every parameter vector read by the last pass is the forward one -/
theorem ar_inverse_last_pass_params (hnet : AutoregNet B F (pw c) net) (hinv : ArElInvertible o c F (net x) B)
    (herr : (arForward o c B F net x).err = none) (hx : x.size = B * F) {b i : Nat} (hb : b < B) (hi : i < F) :
    arSlice o c F (net (arIter o c B F net (arForward o c B F net x).out (F - 1)).out) b i
      = arSlice o c F (net x) b i :=
  arSlice_of_agree o c hnet (arIter_out_size o c B F net _ (arApply_out_size ..) (F - 1)) hx
    (arIter_prefix o c B F net x hnet hinv herr hx (F - 1)) hb hi (by omega)

end c02

theorem arIter_err_none (o : XOps α) (c : ElCfg) (B F : Nat) (net : Array α → Array α) (y : Array α) (k : Nat) :
    (arIter o c B F net y k).err = none
      ↔ ∀ j, j < k → (arApply o c B F y (net (arIter o c B F net y j).out) true).err = none := by
  induction k with
  | zero => simp [arIter, arInit]
  | succ k ih =>
    rw [arIter_succ]
    have hs : (arPass o c B F net y (arIter o c B F net y k)).err
        = match (arIter o c B F net y k).err with
          | some e => some e
          | none => (arApply o c B F y (net (arIter o c B F net y k).out) true).err := rfl
    rw [hs]
    constructor
    · intro h j hj
      cases he : (arIter o c B F net y k).err with
      | some e0 => rw [he] at h; cases h
      | none =>
        rw [he] at h
        rcases Nat.lt_succ_iff_lt_or_eq.1 hj with hlt | rfl
        · exact (ih.1 he) j hlt
        · exact h
    · intro h
      have h1 : (arIter o c B F net y k).err = none := ih.2 (fun j hj => h j (by omega))
      rw [h1]
      exact h k (by omega)

theorem ar_inverse_err_none (o : XOps α) (c : ElCfg) (B F : Nat) (net : Array α → Array α) (y : Array α)
    (hy : y.size = B * F)
    (htot : ∀ z : Array α, z.size = B * F → ∀ b i, b < B → i < F →
      ∃ v, elTransform o c true (arSlice o c F (net z) b i) (y.getD (b * F + i) o.zero) = .ok v) :
    (arInverse o c B F net y).err = none := by
  rw [arInverse_eq_iter, arIter_err_none]
  intro j _
  rw [arApply, elemwise_err_none]
  intro b i hb hi
  exact htot _ (arIter_out_size o c B F net y hy j) b i hb hi

/-! ### the other order: `forward ∘ inverse` -/

section rev
variable (o : XOps α) (c : ElCfg) (B F : Nat) (net : Array α → Array α) (y : Array α)

/-- consecutive loop states agree on the features `< k` after `k` and `k + 1` passes: the features stabilise one per
    pass, from the left (needs only the autoregressive conditioner, no invertibility) -/
theorem arIter_stable (hnet : AutoregNet B F (pw c) net) (hy : y.size = B * F) (k : Nat) :
    AgreeBelow B F k (arIter o c B F net y (k + 1)).out (arIter o c B F net y k).out := by
  induction k with
  | zero => intro b i _ _ h; omega
  | succ k ih =>
    intro b i hb hi hik
    have hs := arSlice_of_agree o c hnet (arIter_out_size o c B F net y hy (k + 1))
      (arIter_out_size o c B F net y hy k) ih hb hi (by omega : i ≤ k)
    have h1 : (arIter o c B F net y (k + 1 + 1)).out[b * F + i]?
        = some (outOf o (arEl o c F y (net (arIter o c B F net y (k + 1)).out) true b i)) := by
      rw [arIter_succ o c B F net y (k + 1), arPass_out, arApply, elemwise_out_getElem? o B F _ hb hi]
    have h2 : (arIter o c B F net y (k + 1)).out[b * F + i]?
        = some (outOf o (arEl o c F y (net (arIter o c B F net y k).out) true b i)) := by
      rw [arIter_succ o c B F net y k, arPass_out, arApply, elemwise_out_getElem? o B F _ hb hi]
    rw [h1, h2, arEl_eq, arEl_eq, hs]

/-- the result of the loop is a FIXED POINT of the pass: every parameter vector the conditioner returns on the final
    outputs is the one the last pass used -/
theorem ar_inverse_fixed_params (hnet : AutoregNet B F (pw c) net) (hy : y.size = B * F) {b i : Nat}
    (hb : b < B) (hi : i < F) :
    arSlice o c F (net (arInverse o c B F net y).out) b i
      = arSlice o c F (net (arIter o c B F net y (F - 1)).out) b i := by
  rw [arInverse_eq_iter]
  obtain ⟨k, rfl⟩ : ∃ k, F = k + 1 := ⟨F - 1, by omega⟩
  exact arSlice_of_agree o c hnet (arIter_out_size o c B (k + 1) net y hy (k + 1))
    (arIter_out_size o c B (k + 1) net y hy k) (arIter_stable o c B (k + 1) net y hnet hy k) hb hi (by omega)

/-- element `(b, i)` of the last pass, in terms of the FINAL outputs' parameters -/
theorem ar_inverse_el (hnet : AutoregNet B F (pw c) net) (hy : y.size = B * F)
    (herr : (arInverse o c B F net y).err = none) {b i : Nat} (hb : b < B) (hi : i < F) :
    ∃ l al, elTransform o c true (arSlice o c F (net (arInverse o c B F net y).out) b i) (y.getD (b * F + i) o.zero)
        = .ok ((arInverse o c B F net y).out.getD (b * F + i) o.zero, l, al)
      ∧ ldOf o (arEl o c F y (net (arIter o c B F net y (F - 1)).out) true b i) = l := by
  rw [ar_inverse_fixed_params o c B F net y hnet hy hb hi]
  obtain ⟨k, rfl⟩ : ∃ k, F = k + 1 := ⟨F - 1, by omega⟩
  rw [arInverse_eq_iter] at herr ⊢
  have hlast := (arIter_err_none o c B (k + 1) net y (k + 1)).1 herr k (by omega)
  obtain ⟨⟨x, l, al⟩, hx⟩ := (elemwise_err_none o B (k + 1) _).1 hlast b i hb hi
  have hout : (arIter o c B (k + 1) net y (k + 1)).out[b * (k + 1) + i]? = some x := by
    rw [arIter_succ, arPass_out, arApply, elemwise_out_getElem? o B (k + 1) _ hb hi, hx]; rfl
  refine ⟨l, al, ?_, ?_⟩
  · have hget : (arIter o c B (k + 1) net y (k + 1)).out.getD (b * (k + 1) + i) o.zero = x := by
      rw [Array.getD_eq_getD_getElem?, hout]; rfl
    rw [hget, ← arEl_eq]
    exact hx
  · rw [Nat.add_sub_cancel, hx]; rfl

/-- **C02, the other order, up to `R`**: the forward pass applied to the result of the `F`-pass loop raises nothing,
    returns entries `R`-related to the loop's input `y`, and its row log-det is the left fold of the negated
    per-element log-derivatives of the LAST pass of the loop — provided the loop raised nothing -/
theorem ar_forward_inverse_rel (R : α → α → Prop) (hnet : AutoregNet B F (pw c) net) (hy : y.size = B * F)
    (herr : (arInverse o c B F net y).err = none)
    (hinv : ArElRevRel R o c F (net (arInverse o c B F net y).out) B) :
    (arForward o c B F net (arInverse o c B F net y).out).err = none
      ∧ (∀ j, j < B * F → R ((arForward o c B F net (arInverse o c B F net y).out).out.getD j o.zero) (y.getD j o.zero))
      ∧ (0 < F → ∀ b, b < B →
          (arForward o c B F net (arInverse o c B F net y).out).ld[b]?
            = some ((List.range F).foldl (fun acc i => o.add acc
                (o.neg (ldOf o (arEl o c F y (net (arIter o c B F net y (F - 1)).out) true b i)))) o.zero)) := by
  have hel : ∀ b i, b < B → i < F → ∃ y' l al', arEl o c F (arInverse o c B F net y).out
      (net (arInverse o c B F net y).out) false b i = .ok (y', o.neg l, al') ∧ R y' (y.getD (b * F + i) o.zero)
      ∧ ldOf o (arEl o c F y (net (arIter o c B F net y (F - 1)).out) true b i) = l := by
    intro b i hb hi
    obtain ⟨l, al, h1, h2⟩ := ar_inverse_el o c B F net y hnet hy herr hb hi
    obtain ⟨y', al', h3, h4⟩ := hinv b i _ _ l al hb hi h1
    exact ⟨y', l, al', by rw [arEl_eq]; exact h3, h4, h2⟩
  refine ⟨?_, ?_, ?_⟩
  · rw [arForward, arApply, elemwise_err_none]
    intro b i hb hi
    obtain ⟨y', l, al', h, _⟩ := hel b i hb hi
    exact ⟨_, h⟩
  · intro j hj
    obtain ⟨b, i, hb, hi, rfl⟩ := exists_row_feature hj
    obtain ⟨y', l, al', h, hR, _⟩ := hel b i hb hi
    rw [Array.getD_eq_getD_getElem?, arForward, arApply, elemwise_out_getElem? o B F _ hb hi, h]
    exact hR
  · intro hF b hb
    rw [arForward, ar_ld_getElem? o c B F _ _ false hb]
    congr 1
    apply List.foldl_ext
    intro acc i hi
    have hi' := List.mem_range.1 hi
    obtain ⟨y', l, al', h, _, h2⟩ := hel b i hb hi'
    rw [h, h2]
    rfl

end rev

/-! ## 4. Over the reals -/

theorem foldl_neg_real {β : Type} (e : Float → ℝ) (l : List β) (g : β → ℝ) :
    l.foldl (fun acc i => (NF.realX e).add acc ((NF.realX e).neg (g i))) (NF.realX e).zero
      = - l.foldl (fun acc i => (NF.realX e).add acc (g i)) (NF.realX e).zero := by
  have key : ∀ z : ℝ, l.foldl (fun acc i => (NF.realX e).add acc ((NF.realX e).neg (g i))) (-z)
      = - l.foldl (fun acc i => (NF.realX e).add acc (g i)) z := by
    induction l with
    | nil => intro z; rfl
    | cons a l ih =>
      intro z
      simp only [List.foldl_cons, realX_add, realX_neg]
      rw [← neg_add]
      exact ih (z + g a)
  have := key 0
  simpa using this

/-- **C02 (executed autoregressive transform over the reals)**: any conditioner that is autoregressive, any element
    family that inverts on the forward parameters, any `B`, `F`: the `F`-pass loop returns the input, after pass `k`
    the first `k` features are correct, the last pass raises nothing, and (for `F ≥ 1`) the returned log-det — the
    one of the last pass — is the negated forward log-det. -/
theorem ar_inverse_forward_real (e : Float → ℝ) (c : ElCfg) (B F : Nat) (net : Array ℝ → Array ℝ) (x : Array ℝ)
    (hnet : AutoregNet B F (pw c) net) (hinv : ArElInvertible (NF.realX e) c F (net x) B)
    (herr : (arForward (NF.realX e) c B F net x).err = none) (hx : x.size = B * F) :
    let fwd := arForward (NF.realX e) c B F net x
    let inv := arInverse (NF.realX e) c B F net fwd.out
    inv.out = x
      ∧ (∀ k, AgreeBelow B F k (arIter (NF.realX e) c B F net fwd.out k).out x)
      ∧ (arApply (NF.realX e) c B F fwd.out (net (arIter (NF.realX e) c B F net fwd.out (F - 1)).out) true).err = none
      ∧ (0 < F → ∀ b, b < B → inv.ld[b]? = (fwd.ld[b]?).map (fun l => -l)) := by
  intro fwd inv
  refine ⟨ar_inverse_forward _ c B F net x hnet hinv herr hx, arIter_prefix _ c B F net x hnet hinv herr hx,
    ar_inverse_last_pass_ok _ c B F net x hnet hinv herr hx, ?_⟩
  intro hF b hb
  obtain ⟨h1, h2⟩ := ar_inverse_forward_ld _ c B F net x hnet hinv herr hx hF hb
  show (arInverse (NF.realX e) c B F net (arForward (NF.realX e) c B F net x).out).ld[b]?
    = ((arForward (NF.realX e) c B F net x).ld[b]?).map _
  rw [h1, h2, foldl_neg_real]
  rfl

/-- **C02, the other order, over the reals, up to `R`**: the row log-dets are negated exactly -/
theorem ar_forward_inverse_rel_real (e : Float → ℝ) (c : ElCfg) (B F : Nat) (net : Array ℝ → Array ℝ) (y : Array ℝ)
    (R : ℝ → ℝ → Prop) (hnet : AutoregNet B F (pw c) net) (hy : y.size = B * F)
    (herr : (arInverse (NF.realX e) c B F net y).err = none)
    (hinv : ArElRevRel R (NF.realX e) c F (net (arInverse (NF.realX e) c B F net y).out) B) :
    let inv := arInverse (NF.realX e) c B F net y
    let fwd := arForward (NF.realX e) c B F net inv.out
    fwd.err = none ∧ (∀ j, j < B * F → R (fwd.out.getD j 0) (y.getD j 0))
      ∧ (0 < F → ∀ b, b < B → fwd.ld[b]? = (inv.ld[b]?).map (fun l => -l)) := by
  intro inv fwd
  obtain ⟨h2, h3, h4⟩ := ar_forward_inverse_rel (NF.realX e) c B F net y R hnet hy herr hinv
  rw [realX_zero] at h3
  refine ⟨h2, h3, ?_⟩
  intro hF b hb
  have h5 := h4 hF b hb
  obtain ⟨k, rfl⟩ : ∃ k, F = k + 1 := ⟨F - 1, by omega⟩
  have h6 : (arInverse (NF.realX e) c B (k + 1) net y).ld[b]?
      = some ((List.range (k + 1)).foldl (fun acc i => (NF.realX e).add acc
            (ldOf (NF.realX e) (arEl (NF.realX e) c (k + 1) y (net (arIter (NF.realX e) c B (k + 1) net y (k + 1 - 1)).out) true b i)))
              (NF.realX e).zero) := by
    rw [arInverse_eq_iter, arIter_succ, arPass_ld, ar_ld_getElem? (NF.realX e) c B (k + 1) _ _ true hb]
    rfl
  show (arForward (NF.realX e) c B (k + 1) net (arInverse (NF.realX e) c B (k + 1) net y).out).ld[b]?
    = ((arInverse (NF.realX e) c B (k + 1) net y).ld[b]?).map _
  rw [h5, h6, foldl_neg_real]
  rfl

/-- **C02, the other order, over the reals** -/
theorem ar_forward_inverse_real (e : Float → ℝ) (c : ElCfg) (B F : Nat) (net : Array ℝ → Array ℝ) (y : Array ℝ)
    (hnet : AutoregNet B F (pw c) net) (hy : y.size = B * F)
    (herr : (arInverse (NF.realX e) c B F net y).err = none)
    (hinv : ArElInvertibleRev (NF.realX e) c F (net (arInverse (NF.realX e) c B F net y).out) B) :
    let inv := arInverse (NF.realX e) c B F net y
    let fwd := arForward (NF.realX e) c B F net inv.out
    fwd.out = y ∧ fwd.err = none ∧ (0 < F → ∀ b, b < B → fwd.ld[b]? = (inv.ld[b]?).map (fun l => -l)) := by
  obtain ⟨h1, h2, h3⟩ := ar_forward_inverse_rel_real e c B F net y Eq hnet hy herr hinv.rel
  have hsz : (arForward (NF.realX e) c B F net (arInverse (NF.realX e) c B F net y).out).out.size = y.size := by
    rw [arForward, arApply_out_size, hy]
  refine ⟨Array.ext hsz (fun j hj hj' => ?_), h1, h3⟩
  have := h2 j (by rw [← hy]; exact hj')
  rwa [getD_of_lt hj, getD_of_lt hj'] at this

/-! ## 5. The passes and the loop for an element family (`StructureExec.ElAccepts`, `StructureExec.ElUndoes`) -/

def ArSlicesValid (o : XOps α) (c : ElCfg) (V : List α → Prop) (F : Nat) (params : Array α) (B : Nat) : Prop :=
  ∀ b i, b < B → i < F → V (arSlice o c F params b i)

section family
variable {o : XOps α} {c : ElCfg} {V : List α → Prop} {D : Bool → α → Prop} {F B : Nat} {params : Array α}

theorem _root_.NF.StructureExec.ElUndoes.arElInvertible (h : ElUndoes Eq false o c V)
    (hv : ArSlicesValid o c V F params B) : ArElInvertible o c F params B := by
  intro b i xi y l al hb hi hf
  obtain ⟨x', al', h1, rfl⟩ := h _ xi y l al (hv b i hb hi) hf
  exact ⟨al', h1⟩

theorem _root_.NF.StructureExec.ElUndoes.arElRevRel {R : α → α → Prop} (h : ElUndoes R true o c V)
    (hv : ArSlicesValid o c V F params B) : ArElRevRel R o c F params B :=
  fun b i yi x l al hb hi hf => h _ yi x l al (hv b i hb hi) hf

theorem _root_.NF.StructureExec.ElUndoes.arElInvertibleRev (h : ElUndoes Eq true o c V)
    (hv : ArSlicesValid o c V F params B) : ArElInvertibleRev o c F params B := by
  intro b i xi y l al hb hi hf
  obtain ⟨x', al', h1, rfl⟩ := h _ xi y l al (hv b i hb hi) hf
  exact ⟨al', h1⟩

theorem _root_.NF.StructureExec.ElAccepts.ar_err_none_iff (h : ElAccepts o c V D) (hv : ArSlicesValid o c V F params B)
    (x : Array α) (d : Bool) :
    (arApply o c B F x params d).err = none ↔ ∀ b i, b < B → i < F → D d (x.getD (b * F + i) o.zero) := by
  rw [arApply, elemwise_err_none]
  constructor
  · intro H b i hb hi
    have hok := H b i hb hi
    rw [arEl_eq] at hok
    exact (h d _ _ (hv b i hb hi)).1 hok
  · intro H b i hb hi
    rw [arEl_eq]
    exact (h d _ _ (hv b i hb hi)).2 (H b i hb hi)

theorem _root_.NF.StructureExec.ElAccepts.ar_inverse_err_none (h : ElAccepts o c V D) {net : Array α → Array α}
    (hv : ∀ z : Array α, z.size = B * F → ArSlicesValid o c V F (net z) B) {y : Array α} (hy : y.size = B * F)
    (hbox : ∀ j, j < B * F → D true (y.getD j o.zero)) : (arInverse o c B F net y).err = none :=
  NF.ARWhole.ar_inverse_err_none o c B F net y hy
    (fun z hz b i hb hi => (h true _ _ (hv z hz b i hb hi)).2 (hbox _ (RowMajor.lt2 hb hi)))

theorem ar_pass_mem {W : List α → Prop} (ha : ElAccepts o c V D) (hm : ElMaps o c W D)
    (hv : ArSlicesValid o c V F params B) (hw : ArSlicesValid o c W F params B) {x : Array α} {d : Bool}
    (hbox : ∀ j, j < B * F → D d (x.getD j o.zero)) :
    (arApply o c B F x params d).err = none
      ∧ ∀ j, j < B * F → D (!d) ((arApply o c B F x params d).out.getD j o.zero) := by
  refine ⟨(ha.ar_err_none_iff hv x d).2 (fun b i hb hi => hbox _ (RowMajor.lt2 hb hi)), ?_⟩
  intro j hj
  obtain ⟨b, i, hb, hi, rfl⟩ := exists_row_feature hj
  obtain ⟨⟨y, l, al⟩, hy⟩ := (ha d _ _ (hv b i hb hi)).2 (hbox _ hj)
  have hout : (arApply o c B F x params d).out.getD (b * F + i) o.zero = y := by
    rw [Array.getD_eq_getD_getElem?, arApply, elemwise_out_getElem? _ B F _ hb hi, arEl_eq, hy]
    rfl
  rw [hout]
  exact hm d _ _ y l al (hw b i hb hi) hy

end family

section familyReal
variable (e : Float → ℝ) {c : ElCfg} {V V' : List ℝ → Prop} {D : Bool → ℝ → Prop}
  (hu : ∀ d, ElUndoes Eq d (NF.realX e) c V') (ha : ElAccepts (NF.realX e) c V D)
  (B F : Nat) (net : Array ℝ → Array ℝ) (hnet : AutoregNet B F (pw c) net)
  (hv : ∀ z : Array ℝ, z.size = B * F → ArSlicesValid (NF.realX e) c V F (net z) B)
include hu ha hnet hv

/-- **C02 for the executed masked-autoregressive transform of a family that is undone exactly, over the reals**: inputs
    in the forward domain; nothing raises in any pass, the loop returns the input and (for `F ≥ 1`) the negated log-det.
    `V` (acceptance) is asked of whatever the conditioner returns, `V'` (undoing) only of the forward parameters. -/
theorem ar_roundtrip_real_of (x : Array ℝ) (hx : x.size = B * F)
    (hex : ArSlicesValid (NF.realX e) c V' F (net x) B) (hbox : ∀ j, j < B * F → D false (x.getD j 0)) :
    let fwd := arForward (NF.realX e) c B F net x
    let inv := arInverse (NF.realX e) c B F net fwd.out
    fwd.err = none ∧ inv.err = none ∧ inv.out = x
      ∧ (∀ k, AgreeBelow B F k (arIter (NF.realX e) c B F net fwd.out k).out x)
      ∧ (0 < F → ∀ b, b < B → inv.ld[b]? = (fwd.ld[b]?).map (fun l => -l)) := by
  intro fwd inv
  obtain ⟨h1, h2⟩ := ar_pass_mem ha (ElMaps.of_undoes hu ha) (hv x hx) (fun b i hb hi => ⟨hv x hx b i hb hi, hex b i hb hi⟩)
    (x := x) (d := false) (by rw [realX_zero]; exact hbox)
  obtain ⟨h3, h4, _, h5⟩ := ar_inverse_forward_real e c B F net x hnet ((hu false).arElInvertible hex) h1 hx
  exact ⟨h1, ha.ar_inverse_err_none hv (arApply_out_size ..) h2, h3, h4, h5⟩

theorem ar_roundtrip_rev_real_of (y : Array ℝ) (hy : y.size = B * F)
    (hex : ArSlicesValid (NF.realX e) c V' F (net (arInverse (NF.realX e) c B F net y).out) B)
    (hbox : ∀ j, j < B * F → D true (y.getD j 0)) :
    let inv := arInverse (NF.realX e) c B F net y
    let fwd := arForward (NF.realX e) c B F net inv.out
    inv.err = none ∧ fwd.err = none ∧ fwd.out = y
      ∧ (0 < F → ∀ b, b < B → fwd.ld[b]? = (inv.ld[b]?).map (fun l => -l)) := by
  intro inv fwd
  have h1 := ha.ar_inverse_err_none hv hy (by rw [realX_zero]; exact hbox)
  obtain ⟨h2, h3, h4⟩ := ar_forward_inverse_real e c B F net y hnet hy h1 ((hu true).arElInvertibleRev hex)
  exact ⟨h1, h3, h2, h4⟩

end familyReal

/-! ### the bounded rational-quadratic family -/

/-- the conditioner returns an accepted RQ configuration for every feature of every row, whatever `[B, F]` array
    it is fed (true of the library: the parameters are unconstrained, softmax / softplus make them valid) -/
def RQNetValid (e : Float → ℝ) (c : ElCfg) (B F : Nat) (net : Array ℝ → Array ℝ) : Prop :=
  ∀ z : Array ℝ, z.size = B * F → ArSlicesValid (NF.realX e) c (RQVecValid e c) F (net z) B

def InBox (lo hi : ℝ) (B F : Nat) (x : Array ℝ) : Prop := ∀ j, j < B * F → lo ≤ x.getD j 0 ∧ x.getD j 0 ≤ hi

/-! ### the RQ parameters of the library are always accepted: validity depends on the configuration only -/

/-- `RQValid` constrains the configuration and the LENGTHS of the three parameter lists, not their values -/
theorem rqValid_of_lengths {e : Float → ℝ} {c : RQCfg} {uw uh ud uw' uh' ud' : List ℝ}
    (hv : RQWhole.RQValid e c uw uh ud) (hw : uw'.length = uw.length) (hh : uh'.length = uw.length)
    (hd : ud'.length = uw.length + 1) : RQWhole.RQValid e c uw' uh' ud' where
  hK := by
    have := List.length_pos_of_ne_nil hv.hK
    exact List.ne_nil_of_length_pos (by omega)
  hlenh := by rw [hh, hw]
  hlend := by rw [hd, hw]
  hgW := by rw [hw]; exact hv.hgW
  hgH := by rw [hw]; exact hv.hgH
  hmW0 := hv.hmW0
  hcW := by rw [hw]; exact hv.hcW
  hmWK := by rw [hw]; exact hv.hmWK
  hmH0 := hv.hmH0
  hcH := by rw [hh, ← hv.hlenh]; exact hv.hcH
  hmHK := by rw [hh, ← hv.hlenh]; exact hv.hmHK
  hlr := hv.hlr
  hdlr := hv.hdlr
  hbt := hv.hbt
  hdbt := hv.hdbt
  heps := hv.heps
  hminD := hv.hminD
  hbeta := hv.hbeta

/-- an accepted bounded-RQ element configuration: `K ≥ 1` bins and the constants of the spline are accepted for
    (one, hence every) parameter vector with `K` widths, `K` heights, `K + 1` derivatives -/
structure RQCfgValid (e : Float → ℝ) (c : ElCfg) : Prop where
  hk : c.kind = "rq"
  ht : c.tails = false
  hK : 0 < c.K
  hv : RQWhole.RQValid e (rqCfgOf c) (List.replicate c.K 0) (List.replicate c.K 0) (List.replicate (c.K + 1) 0)

theorem pw_rq {c : ElCfg} (hk : c.kind = "rq") (ht : c.tails = false) : pw c = 3 * c.K + 1 := by
  simp [pw, ElCfg.mult, hk, ht]

theorem rqNetValid_of_cfg (e : Float → ℝ) (c : ElCfg) (hc : RQCfgValid e c) (B F : Nat) (net : Array ℝ → Array ℝ) :
    RQNetValid e c B F net := by
  intro z _ b i _ _
  have hlen : (arSlice (NF.realX e) c F (net z) b i).length = 3 * c.K + 1 := by
    rw [arSlice_length, pw_rq hc.hk hc.ht]
  obtain ⟨hw, hh⟩ := rqW_rqH_length (NF.realX e) c (p := arSlice (NF.realX e) c F (net z) b i) (by omega)
  apply rqValid_of_lengths hc.hv
  · rw [hw, List.length_replicate]
  · rw [hh, List.length_replicate]
  · rw [rqD_length, List.length_replicate, hlen]; omega

/-- non-vacuity: the one-bin configuration on the unit box of `StructureExecRQ.cW` -/
theorem rqCfgValid_example : RQCfgValid RQWhole.eNV cW where
  hk := rfl
  ht := rfl
  hK := by decide
  hv := RQWhole.valid_example

/-! ## 6. C06 ⇒ the hypothesis `AutoregNet` for the executable MADE model -/

section made
open NF.Made

/-- adapter: a flat `[B, F]` array as the batch `X b j` that `Made.madeReal` (the executed `Made.outputs` at
    real-valued functions of the whole batch) consumes -/
def batchOf (B F : Nat) (x : Array ℝ) : Fin B → ℕ → ℝ := fun b j => x.getD (b.1 * F + j) 0

/-- adapter: the conditioner `autoregressive_net` of a masked autoregressive transform: the executed
    `Made.outputs` of the net `n` with weights `W`, biases, context contributions `ctxv` and per-unit maps `g`
    (activation, dropout mask, batch norm — which may couple the `B` rows), as a map from the flat `[B, F]` input to
    the flat `[B, F * m]` parameter tensor -/
noncomputable def madeNet (n : Net) (W : ℕ → ℕ → ℕ → ℝ) (bias : ℕ → ℕ → ℝ) (B : Nat) (ctxv : ℕ → ℕ → Fin B → ℝ)
    (g : ℕ → Slot → ℕ → (Fin B → ℝ) → Fin B → ℝ) (x : Array ℝ) : Array ℝ :=
  ((List.range B).flatMap fun b => (List.range (n.F * n.m)).map fun u =>
    if h : b < B then madeReal n W bias ctxv g (batchOf B n.F x) ⟨b, h⟩ u else 0).toArray

theorem madeNet_size (n : Net) (W : ℕ → ℕ → ℕ → ℝ) (bias : ℕ → ℕ → ℝ) (B : Nat) (ctxv : ℕ → ℕ → Fin B → ℝ)
    (g : ℕ → Slot → ℕ → (Fin B → ℝ) → Fin B → ℝ) (x : Array ℝ) :
    (madeNet n W bias B ctxv g x).size = B * (n.F * n.m) := by
  simp only [madeNet, List.size_toArray]
  exact flatRange_length _ B (n.F * n.m)

theorem madeNet_getElem? (n : Net) (W : ℕ → ℕ → ℕ → ℝ) (bias : ℕ → ℕ → ℝ) (B : Nat) (ctxv : ℕ → ℕ → Fin B → ℝ)
    (g : ℕ → Slot → ℕ → (Fin B → ℝ) → Fin B → ℝ) (x : Array ℝ) {b i k : Nat} (hb : b < B) (hi : i < n.F)
    (hk : k < n.m) :
    (madeNet n W bias B ctxv g x)[(b * n.F + i) * n.m + k]?
      = some (madeReal n W bias ctxv g (batchOf B n.F x) ⟨b, hb⟩ (i * n.m + k)) := by
  have hu : i * n.m + k < n.F * n.m := RowMajor.lt2 hi hk
  simp only [madeNet, List.getElem?_toArray]
  rw [RowMajor.assoc, flatRange_getElem? _ B (n.F * n.m) b (i * n.m + k) hb hu]
  simp [hb]

/-- **C06 ⇒ `AutoregNet`**: the MADE conditioner of every valid net is autoregressive in the sense the inverse loop
    needs, for all weights, biases, context, per-unit maps, batch size -/
theorem madeNet_autoreg (n : Net) (hv : n.valid = true) (hm : 0 < n.m) (W : ℕ → ℕ → ℕ → ℝ) (bias : ℕ → ℕ → ℝ)
    (B : Nat) (ctxv : ℕ → ℕ → Fin B → ℝ) (g : ℕ → Slot → ℕ → (Fin B → ℝ) → Fin B → ℝ) :
    AutoregNet B n.F n.m (madeNet n W bias B ctxv g) := by
  intro x x' i _ _ hi hag b k hb hk
  rw [madeNet_getElem? n W bias B ctxv g x hb hi hk, madeNet_getElem? n W bias B ctxv g x' hb hi hk]
  congr 1
  apply madeReal_autoregressive n hv hm
  intro j hj b'
  rw [RowMajor.div i hk] at hj
  exact getD_congr (hag b'.1 j b'.2 hj) 0

theorem madeNet_autoreg_of_build {a : Arch} {n : Net} (hbuild : build a = .ok n) {m : Nat} (hmult : a.mult = m)
    (W : ℕ → ℕ → ℕ → ℝ) (bias : ℕ → ℕ → ℝ) (B : Nat) (ctxv : ℕ → ℕ → Fin B → ℝ)
    (g : ℕ → Slot → ℕ → (Fin B → ℝ) → Fin B → ℝ) : 0 < a.F ∧ AutoregNet B a.F m (madeNet n W bias B ctxv g) := by
  obtain ⟨hv, hF, hm, hFa, hma⟩ := build_valid hbuild
  rw [← hmult, ← hma, ← hFa]
  exact ⟨hF, madeNet_autoreg n hv hm W bias B ctxv g⟩

/-- **C02 + C06: the masked autoregressive transform.**  For every architecture accepted by `Made.build` (both
    copies of `MADE.__init__`), whose multiplier is the parameter count of the element family, every weight / bias /
    context / activation / batch-norm / dropout assignment, every batch size `B`: if the forward pass raised nothing
    and the elements invert on the forward parameters, the `F`-pass inverse loop started from zeros returns the input
    exactly, after pass `k` the first `k` features are correct, the last pass raises nothing, and the returned
    log-det is the negated forward log-det (`F = a.F ≥ 1` is guaranteed by `build`). -/
theorem made_ar_inverse_forward (e : Float → ℝ) (c : ElCfg) (a : Arch) (n : Net) (hbuild : build a = .ok n)
    (hmult : a.mult = pw c) (W : ℕ → ℕ → ℕ → ℝ) (bias : ℕ → ℕ → ℝ) (B : Nat) (ctxv : ℕ → ℕ → Fin B → ℝ)
    (g : ℕ → Slot → ℕ → (Fin B → ℝ) → Fin B → ℝ) (x : Array ℝ) (hx : x.size = B * a.F)
    (hinv : ArElInvertible (NF.realX e) c a.F (madeNet n W bias B ctxv g x) B)
    (herr : (arForward (NF.realX e) c B a.F (madeNet n W bias B ctxv g) x).err = none) :
    let net := madeNet n W bias B ctxv g
    let fwd := arForward (NF.realX e) c B a.F net x
    let inv := arInverse (NF.realX e) c B a.F net fwd.out
    inv.out = x
      ∧ (∀ k, AgreeBelow B a.F k (arIter (NF.realX e) c B a.F net fwd.out k).out x)
      ∧ (arApply (NF.realX e) c B a.F fwd.out
          (net (arIter (NF.realX e) c B a.F net fwd.out (a.F - 1)).out) true).err = none
      ∧ (∀ b, b < B → inv.ld[b]? = (fwd.ld[b]?).map (fun l => -l)) := by
  obtain ⟨hF, hnet⟩ := madeNet_autoreg_of_build hbuild hmult W bias B ctxv g
  intro net fwd inv
  obtain ⟨h1, h2, h3, h4⟩ := ar_inverse_forward_real e c B a.F _ x hnet hinv herr hx
  exact ⟨h1, h2, h3, h4 hF⟩

/-- **a masked autoregressive transform with a MADE conditioner, any element family that is undone exactly**: every
    architecture accepted by `build` whose multiplier is the parameter count of the family, every weight assignment, every
    `B`; both orders, on the domains of the family.  `V'` (undoing) is asked of the parameters of the forward pass only. -/
theorem made_roundtrip_real_of (e : Float → ℝ) {c : ElCfg} {V V' : List ℝ → Prop} {D : Bool → ℝ → Prop}
    (hu : ∀ d, ElUndoes Eq d (NF.realX e) c V') (ha : ElAccepts (NF.realX e) c V D)
    (a : Arch) (n : Net) (hbuild : build a = .ok n) (hmult : a.mult = pw c) (W : ℕ → ℕ → ℕ → ℝ) (bias : ℕ → ℕ → ℝ)
    (B : Nat) (ctxv : ℕ → ℕ → Fin B → ℝ) (g : ℕ → Slot → ℕ → (Fin B → ℝ) → Fin B → ℝ)
    (hv : ∀ z : Array ℝ, z.size = B * a.F → ArSlicesValid (NF.realX e) c V a.F (madeNet n W bias B ctxv g z) B) :
    let net := madeNet n W bias B ctxv g
    (∀ x : Array ℝ, x.size = B * a.F → (∀ j, j < B * a.F → D false (x.getD j 0)) →
      ArSlicesValid (NF.realX e) c V' a.F (net x) B →
      let fwd := arForward (NF.realX e) c B a.F net x
      let inv := arInverse (NF.realX e) c B a.F net fwd.out
      fwd.err = none ∧ inv.err = none ∧ inv.out = x
        ∧ (∀ k, AgreeBelow B a.F k (arIter (NF.realX e) c B a.F net fwd.out k).out x)
        ∧ (∀ b, b < B → inv.ld[b]? = (fwd.ld[b]?).map (fun l => -l)))
    ∧ (∀ y : Array ℝ, y.size = B * a.F → (∀ j, j < B * a.F → D true (y.getD j 0)) →
      ArSlicesValid (NF.realX e) c V' a.F (net (arInverse (NF.realX e) c B a.F net y).out) B →
      let inv := arInverse (NF.realX e) c B a.F net y
      let fwd := arForward (NF.realX e) c B a.F net inv.out
      inv.err = none ∧ fwd.err = none ∧ fwd.out = y
        ∧ (∀ b, b < B → fwd.ld[b]? = (inv.ld[b]?).map (fun l => -l))) := by
  obtain ⟨hF, hnet⟩ := madeNet_autoreg_of_build hbuild hmult W bias B ctxv g
  intro net
  constructor
  · intro x hx hbox hex
    obtain ⟨h1, h2, h3, h4, h5⟩ := ar_roundtrip_real_of e hu ha B a.F _ hnet hv x hx hex hbox
    exact ⟨h1, h2, h3, h4, h5 hF⟩
  · intro y hy hbox hex
    obtain ⟨h1, h2, h3, h4⟩ := ar_roundtrip_rev_real_of e hu ha B a.F _ hnet hv y hy hex hbox
    exact ⟨h1, h2, h3, h4 hF⟩

/-- **the masked autoregressive bounded rational-quadratic transform, nothing left to assume about the network or
    the elements**: every architecture accepted by `build` with multiplier `3K + 1`, every weight assignment, every
    `B`, every input in `[left, right]`: forward raises nothing, no pass of the inverse loop raises, the loop returns
    the input exactly and the negated log-det; and in the other order for every `y` in `[bottom, top]`. -/
theorem made_rq_roundtrip_real (e : Float → ℝ) (c : ElCfg) (hc : RQCfgValid e c) (a : Arch) (n : Net)
    (hbuild : build a = .ok n) (hmult : a.mult = 3 * c.K + 1) (W : ℕ → ℕ → ℕ → ℝ) (bias : ℕ → ℕ → ℝ) (B : Nat)
    (ctxv : ℕ → ℕ → Fin B → ℝ) (g : ℕ → Slot → ℕ → (Fin B → ℝ) → Fin B → ℝ) :
    let net := madeNet n W bias B ctxv g
    (∀ x : Array ℝ, x.size = B * a.F → InBox (e (rqCfgOf c).box.left) (e (rqCfgOf c).box.right) B a.F x →
      let fwd := arForward (NF.realX e) c B a.F net x
      let inv := arInverse (NF.realX e) c B a.F net fwd.out
      fwd.err = none ∧ inv.err = none ∧ inv.out = x
        ∧ (∀ k, AgreeBelow B a.F k (arIter (NF.realX e) c B a.F net fwd.out k).out x)
        ∧ (∀ b, b < B → inv.ld[b]? = (fwd.ld[b]?).map (fun l => -l)))
    ∧ (∀ y : Array ℝ, y.size = B * a.F → InBox (e (rqCfgOf c).box.bottom) (e (rqCfgOf c).box.top) B a.F y →
      let inv := arInverse (NF.realX e) c B a.F net y
      let fwd := arForward (NF.realX e) c B a.F net inv.out
      inv.err = none ∧ fwd.err = none ∧ fwd.out = y
        ∧ (∀ b, b < B → fwd.ld[b]? = (inv.ld[b]?).map (fun l => -l))) := by
  have hv := rqNetValid_of_cfg e c hc B a.F (madeNet n W bias B ctxv g)
  have h := made_roundtrip_real_of e (rq_undoes e c hc.hk hc.ht) (rq_accepts e c hc.hk hc.ht) a n hbuild
    (hmult.trans (pw_rq hc.hk hc.ht).symm) W bias B ctxv g hv
  exact ⟨fun x hx hbox => h.1 x hx hbox (hv x hx),
    fun y hy hbox => h.2 y hy hbox (hv _ (arInverse_out_size _ c B a.F _ y hy))⟩

end made

/-! ## 7. C01: the forward log-det is the sum of the element log-derivatives = `log |det|` of the row Jacobian -/

theorem ar_forward_ld_real (e : Float → ℝ) (c : ElCfg) (B F : Nat) (net : Array ℝ → Array ℝ) (x : Array ℝ)
    {b : Nat} (hb : b < B) :
    (arForward (NF.realX e) c B F net x).ld[b]?
      = some (∑ i : Fin F, ldOf (NF.realX e) (arEl (NF.realX e) c F x (net x) false b i)) :=
  ar_ld_real e c B F x (net x) false hb

/-- **the dependency structure of the forward pass** (what makes the Jacobian lower-triangular): element `(b, i)` —
    its output, its log-derivative, whether it raises — is determined by `x[b, i]` and the features `j < i` (of all
    rows, through the conditioner).  It does not depend on `x[b', j]` for `j ≥ i`, `(b', j) ≠ (b, i)`. -/
theorem ar_forward_dep (o : XOps α) (c : ElCfg) (B F : Nat) (net : Array α → Array α)
    (hnet : AutoregNet B F (pw c) net) {x x' : Array α} (hx : x.size = B * F) (hx' : x'.size = B * F)
    {b i : Nat} (hb : b < B) (hi : i < F)
    (hlow : ∀ b' j, b' < B → j < i → x[b' * F + j]? = x'[b' * F + j]?) (hown : x[b * F + i]? = x'[b * F + i]?) :
    arEl o c F x (net x) false b i = arEl o c F x' (net x') false b i
      ∧ (arForward o c B F net x).out[b * F + i]? = (arForward o c B F net x').out[b * F + i]? := by
  have h : arEl o c F x (net x) false b i = arEl o c F x' (net x') false b i := by
    rw [arEl_eq, arEl_eq, arSlice_of_agree o c hnet hx hx' (k := i) (fun b' j hb' _ hj => hlow b' j hb' hj) hb hi
      (le_refl i), getD_congr hown]
  refine ⟨h, ?_⟩
  rw [arForward, arForward, arApply, arApply, elemwise_out_getElem? o B F _ hb hi, elemwise_out_getElem? o B F _ hb hi, h]

def setRow (B F : Nat) (x : Array ℝ) (b : Nat) (v : Fin F → ℝ) : Array ℝ :=
  Array.ofFn (n := B * F) fun j =>
    if j.1 / F = b then (if h : j.1 % F < F then v ⟨j.1 % F, h⟩ else 0) else x.getD j.1 0

theorem setRow_size (B F : Nat) (x : Array ℝ) (b : Nat) (v : Fin F → ℝ) : (setRow B F x b v).size = B * F := by
  simp [setRow]

theorem setRow_getElem? (B F : Nat) (x : Array ℝ) (b : Nat) (v : Fin F → ℝ) {b' j : Nat} (hb' : b' < B) (hj : j < F) :
    (setRow B F x b v)[b' * F + j]? = some (if b' = b then v ⟨j, hj⟩ else x.getD (b' * F + j) 0) := by
  have hlt : b' * F + j < (setRow B F x b v).size := by rw [setRow_size]; exact RowMajor.lt2 hb' hj
  rw [Array.getElem?_eq_getElem hlt]
  simp only [setRow, Array.getElem_ofFn, RowMajor.div b' hj, RowMajor.mod b' hj, hj, dite_true]

noncomputable def rowMap (e : Float → ℝ) (c : ElCfg) (B F : Nat) (net : Array ℝ → Array ℝ) (x : Array ℝ) (b : Nat)
    (v : Fin F → ℝ) : Fin F → ℝ :=
  fun i => (arForward (NF.realX e) c B F net (setRow B F x b v)).out.getD (b * F + i.1) 0

noncomputable def elMap (e : Float → ℝ) (c : ElCfg) (F : Nat) (params : Array ℝ) (b i : Nat) (s : ℝ) : ℝ :=
  outOf (NF.realX e) (elTransform (NF.realX e) c false (arSlice (NF.realX e) c F params b i) s)

theorem rowMap_eq (e : Float → ℝ) (c : ElCfg) (B F : Nat) (net : Array ℝ → Array ℝ) (x : Array ℝ)
    (hnet : AutoregNet B F (pw c) net) (hx : x.size = B * F) {b : Nat} (hb : b < B) (v : Fin F → ℝ) (i : Fin F)
    (hag : ∀ j : Fin F, j < i → v j = x.getD (b * F + j.1) 0) :
    rowMap e c B F net x b v i = elMap e c F (net x) b i (v i) := by
  have hagree : AgreeBelow B F i.1 (setRow B F x b v) x := by
    intro b' j hb' hj hji
    have hlt : b' * F + j < x.size := by rw [hx]; exact RowMajor.lt2 hb' hj
    have hxj : x[b' * F + j]? = some (x.getD (b' * F + j) 0) := by
      rw [Array.getElem?_eq_getElem hlt, getD_of_lt hlt]
    rw [setRow_getElem? B F x b v hb' hj, hxj]
    refine congrArg some ?_
    by_cases hbb : b' = b
    · rw [if_pos hbb]; subst hbb; exact hag ⟨j, hj⟩ hji
    · rw [if_neg hbb]
  have hs := arSlice_of_agree (NF.realX e) c hnet (setRow_size B F x b v) hx hagree hb i.2 (le_refl _)
  have hown : (setRow B F x b v).getD (b * F + i.1) 0 = v i := by
    rw [Array.getD_eq_getD_getElem?, setRow_getElem? B F x b v hb i.2]
    simp
  unfold rowMap elMap
  rw [Array.getD_eq_getD_getElem?, arForward, arApply, elemwise_out_getElem? _ B F _ hb i.2, arEl_eq, hs,
    realX_zero, hown]
  rfl

/-- **the Jacobian of a row of the executed autoregressive transform**: for an autoregressive conditioner, the
    determinant of the Jacobian `L` at row `b` of `x` of the row map (other rows fixed) is the product of the element
    derivatives — because `L` is lower-triangular (`ar_forward_dep`) with them on the diagonal; in particular it is
    positive.  `hdiag` is the per-element law (C01 of the element family): the scalar element map at the forward
    parameters has derivative `exp (its log-det)`. -/
theorem ar_row_det (e : Float → ℝ) (c : ElCfg) (B F : Nat) (net : Array ℝ → Array ℝ) (x : Array ℝ)
    (hnet : AutoregNet B F (pw c) net) (hx : x.size = B * F) {b : Nat} (hb : b < B)
    {L : (Fin F → ℝ) →L[ℝ] (Fin F → ℝ)}
    (hL : HasFDerivAt (rowMap e c B F net x b) L (fun i => x.getD (b * F + i.1) 0))
    (hdiag : ∀ i : Fin F, HasDerivAt (elMap e c F (net x) b i)
      (Real.exp (ldOf (NF.realX e) (arEl (NF.realX e) c F x (net x) false b i))) (x.getD (b * F + i.1) 0)) :
    LinearMap.det (L : (Fin F → ℝ) →ₗ[ℝ] (Fin F → ℝ))
      = ∏ i : Fin F, Real.exp (ldOf (NF.realX e) (arEl (NF.realX e) c F x (net x) false b i)) :=
  RankedDet.det_of_guarded hL (fun i => i.1) _ (fun v i h => rowMap_eq e c B F net x hnet hx hb v i h) _ hdiag

/-- **C01 (executed autoregressive transform)**: `ld[b]` returned by the forward pass is `log |det J|` for the Jacobian
    `J` of `ar_row_det` -/
theorem ar_row_logdet (e : Float → ℝ) (c : ElCfg) (B F : Nat) (net : Array ℝ → Array ℝ) (x : Array ℝ)
    (hnet : AutoregNet B F (pw c) net) (hx : x.size = B * F) {b : Nat} (hb : b < B)
    {L : (Fin F → ℝ) →L[ℝ] (Fin F → ℝ)}
    (hL : HasFDerivAt (rowMap e c B F net x b) L (fun i => x.getD (b * F + i.1) 0))
    (hdiag : ∀ i : Fin F, HasDerivAt (elMap e c F (net x) b i)
      (Real.exp (ldOf (NF.realX e) (arEl (NF.realX e) c F x (net x) false b i))) (x.getD (b * F + i.1) 0)) :
    (arForward (NF.realX e) c B F net x).ld[b]?
      = some (Real.log |LinearMap.det (L : (Fin F → ℝ) →ₗ[ℝ] (Fin F → ℝ))|) := by
  rw [ar_forward_ld_real e c B F net x hb, ar_row_det e c B F net x hnet hx hb hL hdiag, RankedDet.log_abs_prod_exp]

/-! ## 8. The affine family (`MaskedAffineAutoregressiveTransform`, autoregressive.py:96-128): MAF, unconditionally -/

theorem pw_araffine {c : ElCfg} (hk : c.kind = "araffine") : pw c = 2 := by simp [pw, hk]

theorem afScale_pos (e : Float → ℝ) (c : ElCfg) (he : 0 ≤ e (c.ds.getD 0 0.0)) (p : List ℝ) :
    0 < afScale (NF.realX e) c p := by
  have := NF.realX_softplus_pos e (p.getD 0 (NF.realX e).zero)
  simp only [afScale, realX_add, realX_ofFloat]
  linarith

theorem araffine_accepts (o : XOps α) (c : ElCfg) (hk : c.kind = "araffine") :
    ElAccepts o c (fun _ => True) (fun _ _ => True) :=
  ElAccepts.of_prog (elTransform_araffine o c hk)
    (fun _ _ d _ => ⟨fun _ => trivial, fun _ => by cases d <;> exact ⟨_, rfl⟩⟩)

theorem araffine_undoes (e : Float → ℝ) (c : ElCfg) (hk : c.kind = "araffine") (he : 0 ≤ e (c.ds.getD 0 0.0))
    (d : Bool) : ElUndoes Eq d (NF.realX e) c (fun _ => True) :=
  ElUndoes.of_prog (elTransform_araffine _ c hk) (fun p _ => scaleShiftT_undoes e _ _ (afScale_pos e c he p).ne') d

theorem arElInvertible_araffine_real (e : Float → ℝ) (c : ElCfg) (hk : c.kind = "araffine")
    (he : 0 ≤ e (c.ds.getD 0 0.0)) (F : Nat) (params : Array ℝ) (B : Nat) :
    ArElInvertible (NF.realX e) c F params B ∧ ArElInvertibleRev (NF.realX e) c F params B :=
  ⟨(araffine_undoes e c hk he false).arElInvertible (fun _ _ _ _ => trivial),
    (araffine_undoes e c hk he true).arElInvertibleRev (fun _ _ _ _ => trivial)⟩

theorem ar_affine_err_none (o : XOps α) (c : ElCfg) (hk : c.kind = "araffine") (B F : Nat)
    (net : Array α → Array α) (x : Array α) :
    (arForward o c B F net x).err = none ∧ (x.size = B * F → (arInverse o c B F net x).err = none) :=
  ⟨((araffine_accepts o c hk).ar_err_none_iff (fun _ _ _ _ => trivial) x false).2 (fun _ _ _ _ => trivial),
    fun hx => (araffine_accepts o c hk).ar_inverse_err_none (fun _ _ _ _ _ _ => trivial) hx (fun _ _ => trivial)⟩

/-- **C02 for the executed masked AFFINE autoregressive transform (MAF) over the reals**: any autoregressive
    conditioner, any `B`, `F`, any input array of the right size — no other hypothesis than the reading of the
    constant `eps` (`1e-3`) as a non-negative real. -/
theorem ar_affine_roundtrip_real (e : Float → ℝ) (c : ElCfg) (hk : c.kind = "araffine")
    (he : 0 ≤ e (c.ds.getD 0 0.0)) (B F : Nat) (net : Array ℝ → Array ℝ) (hnet : AutoregNet B F 2 net)
    (x : Array ℝ) (hx : x.size = B * F) :
    (let fwd := arForward (NF.realX e) c B F net x
     let inv := arInverse (NF.realX e) c B F net fwd.out
     fwd.err = none ∧ inv.err = none ∧ inv.out = x
      ∧ (∀ k, AgreeBelow B F k (arIter (NF.realX e) c B F net fwd.out k).out x)
      ∧ (0 < F → ∀ b, b < B → inv.ld[b]? = (fwd.ld[b]?).map (fun l => -l)))
    ∧ (let inv := arInverse (NF.realX e) c B F net x
       let fwd := arForward (NF.realX e) c B F net inv.out
       inv.err = none ∧ fwd.err = none ∧ fwd.out = x
        ∧ (0 < F → ∀ b, b < B → fwd.ld[b]? = (inv.ld[b]?).map (fun l => -l))) := by
  have hnet' : AutoregNet B F (pw c) net := by rw [pw_araffine hk]; exact hnet
  exact ⟨ar_roundtrip_real_of e (araffine_undoes e c hk he) (araffine_accepts _ c hk) B F net hnet'
      (fun _ _ _ _ _ _ => trivial) x hx (fun _ _ _ _ => trivial) (fun _ _ => trivial),
    ar_roundtrip_rev_real_of e (araffine_undoes e c hk he) (araffine_accepts _ c hk) B F net hnet'
      (fun _ _ _ _ _ _ => trivial) x hx (fun _ _ _ _ => trivial) (fun _ _ => trivial)⟩

section madeAffine
open NF.Made

/-- **MAF with a MADE conditioner, unconditionally**: every architecture accepted by `build` with multiplier `2`,
    every weight / bias / context / activation / batch-norm / dropout assignment, every `B`, every `[B, F]` input:
    the `F`-pass inverse loop undoes the forward pass (and the forward pass undoes the loop), nothing raises, the
    log-dets are negated. -/
theorem made_affine_roundtrip_real (e : Float → ℝ) (c : ElCfg) (hk : c.kind = "araffine")
    (he : 0 ≤ e (c.ds.getD 0 0.0)) (a : Arch) (n : Net) (hbuild : build a = .ok n) (hmult : a.mult = 2)
    (W : ℕ → ℕ → ℕ → ℝ) (bias : ℕ → ℕ → ℝ) (B : Nat) (ctxv : ℕ → ℕ → Fin B → ℝ)
    (g : ℕ → Slot → ℕ → (Fin B → ℝ) → Fin B → ℝ) (x : Array ℝ) (hx : x.size = B * a.F) :
    let net := madeNet n W bias B ctxv g
    (let fwd := arForward (NF.realX e) c B a.F net x
     let inv := arInverse (NF.realX e) c B a.F net fwd.out
     fwd.err = none ∧ inv.err = none ∧ inv.out = x
      ∧ (∀ k, AgreeBelow B a.F k (arIter (NF.realX e) c B a.F net fwd.out k).out x)
      ∧ (∀ b, b < B → inv.ld[b]? = (fwd.ld[b]?).map (fun l => -l)))
    ∧ (let inv := arInverse (NF.realX e) c B a.F net x
       let fwd := arForward (NF.realX e) c B a.F net inv.out
       inv.err = none ∧ fwd.err = none ∧ fwd.out = x
        ∧ (∀ b, b < B → fwd.ld[b]? = (inv.ld[b]?).map (fun l => -l))) := by
  have h := made_roundtrip_real_of e (araffine_undoes e c hk he) (araffine_accepts _ c hk) a n hbuild
    (hmult.trans (pw_araffine hk).symm) W bias B ctxv g (fun _ _ _ _ _ _ => trivial)
  exact ⟨h.1 x hx (fun _ _ => trivial) (fun _ _ _ _ => trivial), h.2 x hx (fun _ _ => trivial) (fun _ _ _ _ => trivial)⟩

end madeAffine

/-! ## 9. C01: the per-element derivative law discharged for the affine and the bounded-RQ family -/

theorem outOf_araffine_fwd (e : Float → ℝ) (c : ElCfg) (hk : c.kind = "araffine") (p : List ℝ) (x : ℝ) :
    outOf (NF.realX e) (elTransform (NF.realX e) c false p x) = x * afScale (NF.realX e) c p + p.getD 1 0 := by
  rw [elTransform_araffine _ c hk]
  simp [scaleShiftT, Except.map, outOf]

theorem outOf_araffine_inv (e : Float → ℝ) (c : ElCfg) (hk : c.kind = "araffine") (p : List ℝ) (y : ℝ) :
    outOf (NF.realX e) (elTransform (NF.realX e) c true p y) = (y - p.getD 1 0) / afScale (NF.realX e) c p := by
  rw [elTransform_araffine _ c hk]
  simp [scaleShiftT, Except.map, outOf]

theorem elMap_affine (e : Float → ℝ) (c : ElCfg) (hk : c.kind = "araffine") (F : Nat) (params : Array ℝ) (b i : Nat) :
    elMap e c F params b i = fun s => s * afScale (NF.realX e) c (arSlice (NF.realX e) c F params b i)
      + (arSlice (NF.realX e) c F params b i).getD 1 0 :=
  funext fun s => outOf_araffine_fwd e c hk _ s

theorem ldOf_affine (e : Float → ℝ) (c : ElCfg) (hk : c.kind = "araffine") (F : Nat) (x params : Array ℝ) (b i : Nat) :
    ldOf (NF.realX e) (arEl (NF.realX e) c F x params false b i)
      = Real.log (afScale (NF.realX e) c (arSlice (NF.realX e) c F params b i)) := by
  rw [arEl_eq, elTransform_araffine _ c hk]
  simp [scaleShiftT, Except.map, ldOf]

theorem elMap_affine_hasDerivAt (e : Float → ℝ) (c : ElCfg) (hk : c.kind = "araffine") (he : 0 ≤ e (c.ds.getD 0 0.0))
    (F : Nat) (x params : Array ℝ) (b i : Nat) :
    HasDerivAt (elMap e c F params b i)
      (Real.exp (ldOf (NF.realX e) (arEl (NF.realX e) c F x params false b i))) (x.getD (b * F + i) 0) := by
  rw [elMap_affine e c hk, ldOf_affine e c hk, Real.exp_log (afScale_pos e c he (arSlice (NF.realX e) c F params b i))]
  have hd := ((hasDerivAt_id (x.getD (b * F + i) 0)).mul_const
    (afScale (NF.realX e) c (arSlice (NF.realX e) c F params b i))).add_const
    ((arSlice (NF.realX e) c F params b i).getD 1 0)
  simpa only [id_eq, one_mul] using hd

theorem elMap_rq (e : Float → ℝ) (c : ElCfg) (hk : c.kind = "rq") (ht : c.tails = false) (F : Nat)
    (params : Array ℝ) (b i : Nat) :
    elMap e c F params b i = RQWhole.val e (rqCfgOf c)
      (rqW (NF.realX e) c (arSlice (NF.realX e) c F params b i))
      (rqH (NF.realX e) c (arSlice (NF.realX e) c F params b i))
      (rqD c (arSlice (NF.realX e) c F params b i)) := by
  funext s
  unfold elMap RQWhole.val
  rw [elTransform_rq _ c hk ht]
  cases rqSpline (NF.realX e) (rqCfgOf c) (rqW (NF.realX e) c (arSlice (NF.realX e) c F params b i))
    (rqH (NF.realX e) c (arSlice (NF.realX e) c F params b i)) (rqD c (arSlice (NF.realX e) c F params b i)) false s with
  | error err => simp [Except.map, outOf]
  | ok v => rfl

theorem ldOf_rq (e : Float → ℝ) (c : ElCfg) (hk : c.kind = "rq") (ht : c.tails = false) (F : Nat)
    (x params : Array ℝ) (b i : Nat) :
    ldOf (NF.realX e) (arEl (NF.realX e) c F x params false b i) = RQWhole.ld e (rqCfgOf c)
      (rqW (NF.realX e) c (arSlice (NF.realX e) c F params b i))
      (rqH (NF.realX e) c (arSlice (NF.realX e) c F params b i))
      (rqD c (arSlice (NF.realX e) c F params b i)) (x.getD (b * F + i) 0) := by
  unfold RQWhole.ld
  rw [arEl_eq, elTransform_rq _ c hk ht, realX_zero]
  cases rqSpline (NF.realX e) (rqCfgOf c) (rqW (NF.realX e) c (arSlice (NF.realX e) c F params b i))
    (rqH (NF.realX e) c (arSlice (NF.realX e) c F params b i)) (rqD c (arSlice (NF.realX e) c F params b i)) false
    (x.getD (b * F + i) 0) with
  | error err => simp [Except.map, ldOf]
  | ok v => rfl

/-- **C01 for a row of the executed bounded-RQ autoregressive transform**: when every feature of row `b` lies
    strictly inside a bin of its own spline (the splines are `C¹` but the executed program is only proved
    differentiable away from the knots), `ld[b] = log |det J_b|` -/
theorem ar_rq_row_logdet (e : Float → ℝ) (c : ElCfg) (hc : RQCfgValid e c) (B F : Nat)
    (net : Array ℝ → Array ℝ) (x : Array ℝ) (hnet : AutoregNet B F (3 * c.K + 1) net) (hx : x.size = B * F)
    {b : Nat} (hb : b < B)
    (hbin : ∀ i : Fin F, ∃ k, k < c.K ∧
      RQWhole.xs e (rqCfgOf c) (rqW (NF.realX e) c (arSlice (NF.realX e) c F (net x) b i)) k < x.getD (b * F + i.1) 0
      ∧ x.getD (b * F + i.1) 0
          < RQWhole.xs e (rqCfgOf c) (rqW (NF.realX e) c (arSlice (NF.realX e) c F (net x) b i)) (k + 1))
    {L : (Fin F → ℝ) →L[ℝ] (Fin F → ℝ)}
    (hL : HasFDerivAt (rowMap e c B F net x b) L (fun i => x.getD (b * F + i.1) 0)) :
    (arForward (NF.realX e) c B F net x).ld[b]?
      = some (Real.log |LinearMap.det (L : (Fin F → ℝ) →ₗ[ℝ] (Fin F → ℝ))|) := by
  apply ar_row_logdet e c B F net x (by rw [pw_rq hc.hk hc.ht]; exact hnet) hx hb hL
  intro i
  obtain ⟨k, hk, h0, h1⟩ := hbin i
  have hv := rqNetValid_of_cfg e c hc B F net x hx b i hb i.2
  have hlen : (rqW (NF.realX e) c (arSlice (NF.realX e) c F (net x) b i)).length = c.K :=
    (rqW_rqH_length _ c (by rw [arSlice_length, pw_rq hc.hk hc.ht]; omega)).1
  rw [elMap_rq e c hc.hk hc.ht, ldOf_rq e c hc.hk hc.ht]
  exact RQWhole.val_hasDerivAt hv k (by rw [hlen]; exact hk) _ h0 h1

/-! ## 10. Refinement: on one row the executed loop IS the abstract iteration of `Lemmas/AutoregInverse.lean`

`AutoregInverse.arIter g finv y z₀ k` (`Properties.C02.autoregressive_inverse_exact`) is the abstract `k`-pass
iteration on `Fin F → X`.  With `g v i` = the parameter vector the conditioner returns for feature `i`, `finv` / `f` =
the executed element maps (zero where they raise, as `arApply` stores), the executed loop state of a one-row batch
is that iteration, pass by pass, and `AutoregNet` is `StrictAR g`.  (The abstract theorem needs the element inverse
to be TOTAL, `∀ p x, finv p (f p x) = x`, which fails for splines outside their box; the executed theorems above need
it only where the forward pass succeeded.) -/

section refine
variable (o : XOps α) (c : ElCfg) (F : Nat) (net : Array α → Array α)

def toFn (z : Array α) : Fin F → α := fun i => z.getD i.1 o.zero
def absG : (Fin F → α) → Fin F → List α := fun v i => arSlice o c F (net (Array.ofFn v)) 0 i
def absF (p : List α) (x : α) : α := outOf o (elTransform o c false p x)
def absFinv (p : List α) (y : α) : α := outOf o (elTransform o c true p y)

theorem ofFn_toFn {z : Array α} (hz : z.size = F) : Array.ofFn (toFn o F z) = z := by
  apply Array.ext
  · simp [hz]
  · intro i h1 h2
    simp only [Array.getElem_ofFn, toFn]
    exact getD_of_lt h2 _

theorem toFn_pass (x params : Array α) (inverse : Bool) (i : Fin F) :
    toFn o F (arApply o c 1 F x params inverse).out i
      = outOf o (elTransform o c inverse (arSlice o c F params 0 i) (toFn o F x i)) := by
  have h := elemwise_out_getElem? o 1 F (arEl o c F x params inverse) (Nat.zero_lt_one) i.2
  simp only [Nat.zero_mul, Nat.zero_add] at h
  unfold toFn
  rw [Array.getD_eq_getD_getElem?, arApply, h, arEl_eq]
  simp only [Nat.zero_mul, Nat.zero_add]
  rfl

theorem arIter_refines (y : Array α) (hy : y.size = F) (k : Nat) :
    toFn o F (arIter o c 1 F net y k).out
      = AutoregInverse.arIter (absG o c F net) (absFinv o c) (toFn o F y) (fun _ => o.zero) k := by
  induction k with
  | zero =>
    funext i
    simp only [arIter, arInit, toFn, AutoregInverse.arIter, Array.getD_eq_getD_getElem?, Array.getElem?_replicate,
      Function.iterate_zero, id]
    split <;> rfl
  | succ k ih =>
    funext i
    rw [arIter_succ, arPass_out, toFn_pass]
    simp only [AutoregInverse.arIter, AutoregInverse.arPass, absFinv, absG]
    rw [← ih, ofFn_toFn o F (by rw [arIter_out_size o c 1 F net y (by omega) k]; omega)]

theorem arForward_refines (x : Array α) (hx : x.size = F) :
    toFn o F (arForward o c 1 F net x).out
      = AutoregInverse.arForward (absG o c F net) (absF o c) (toFn o F x) := by
  funext i
  rw [arForward, toFn_pass]
  simp only [AutoregInverse.arForward, absF, absG]
  rw [ofFn_toFn o F hx]

theorem strictAR_of_autoregNet (hnet : AutoregNet 1 F (pw c) net) : AutoregInverse.StrictAR (absG o c F net) := by
  intro v v' i hag
  unfold absG
  apply arSlice_of_agree o c hnet (k := i.1) (by simp) (by simp) ?_ Nat.zero_lt_one i.2 (le_refl _)
  intro b j hb hj hji
  have hb0 : b = 0 := by omega
  subst hb0
  simp only [Nat.zero_mul, Nat.zero_add]
  rw [Array.getElem?_eq_getElem (by simpa using hj), Array.getElem?_eq_getElem (by simpa using hj)]
  simp only [Array.getElem_ofFn]
  exact congrArg some (hag ⟨j, hj⟩ hji)

/-- the abstract theorem `AutoregInverse.autoregressive_inverse_exact`, transported to the executed loop, for an
    element family whose (totalised) inverse is exact everywhere — e.g. the affine family over the reals -/
theorem ar_row_inverse_via_abstract (hnet : AutoregNet 1 F (pw c) net)
    (hinv : ∀ p x, absFinv o c p (absF o c p x) = x) (x : Array α) (hx : x.size = F) :
    toFn o F (arInverse o c 1 F net (arForward o c 1 F net x).out).out = toFn o F x := by
  rw [arInverse_eq_iter, arIter_refines o c F net _ (by rw [arForward, arApply_out_size]; omega), arForward_refines o c F net x hx]
  exact AutoregInverse.autoregressive_inverse_exact _ _ _ (strictAR_of_autoregNet o c F net hnet) hinv _ _

end refine

end NF.ARWhole
