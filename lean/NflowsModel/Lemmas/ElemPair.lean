import NflowsModel.Lemmas.ExecGlue
import NflowsModel.Core.Spline
import NflowsModel.Real.RealX
/-!
# Lemmas/ElemPair — the two directions of one bounded element program, as ONE record

What a spline family proves about its executed pair `F` (forward) and `G` (inverse) on `[a, b] → [c, d]`: in each
direction a run that returns had its input in the interval and every input of the interval returns, and the returned
values are `ExecGlue.RightInvOn`.  `BoxPair` is that record.  It is symmetric in the two programs, so "returns exactly on
the interval" and "the other direction undoes a run, log-det negated" are each stated once; `BoxPair.accepts` and
`BoxPair.undoes` say them of the program with its direction flag (`ProgAccepts`, `ProgUndoes`), the form in which the
layers take an element family.
-/
open NF

namespace QuadWhole
noncomputable section

/- the two outputs of a run (0 on the error branch); every family uses them, under the names `QuadWhole.valOf`, `QuadWhole.ldOf` -/
def valOf (r : Except Err (ℝ × ℝ)) : ℝ := match r with
  | .ok r => r.1
  | .error _ => 0
def ldOf (r : Except Err (ℝ × ℝ)) : ℝ := match r with
  | .ok r => r.2
  | .error _ => 0

end
end QuadWhole

namespace ElemPair
open ExecGlue QuadWhole

theorem ok_eta {r : Except Err (ℝ × ℝ)} (h : ∃ p, r = .ok p) : r = .ok (valOf r, ldOf r) := by
  obtain ⟨p, rfl⟩ := h; rfl

/-- what the dispatcher makes of a run of a family's two-output program that returned -/
theorem map_ok_eta {r : Except Err (ℝ × ℝ)} (h : ∃ p, r = .ok p) :
    r.map (fun ab => (ab.1, ab.2, ([] : List ℝ))) = .ok (valOf r, ldOf r, []) := by
  obtain ⟨p, rfl⟩ := h; rfl

def ProgAccepts {α : Type} (prog : Bool → α → Except Err (α × α)) (D : Bool → α → Prop) : Prop :=
  ∀ d x, (∃ r, prog d x = .ok r) ↔ D d x

def ProgUndoes {α : Type} (o : XOps α) (prog : Bool → α → Except Err (α × α)) : Prop :=
  ∀ d x y l, prog d x = .ok (y, l) → prog (!d) y = .ok (x, o.neg l)

def boxD (a b c d : ℝ) : Bool → ℝ → Prop := fun dir x => if dir then c ≤ x ∧ x ≤ d else a ≤ x ∧ x ≤ b

structure BoxPair (F G : ℝ → Except Err (ℝ × ℝ)) (a b c d : ℝ) : Prop where
  dom : ∀ x r, F x = .ok r → a ≤ x ∧ x ≤ b
  domI : ∀ y r, G y = .ok r → c ≤ y ∧ y ≤ d
  total : ∀ x, a ≤ x → x ≤ b → ∃ r, F x = .ok r
  totalI : ∀ y, c ≤ y → y ≤ d → ∃ r, G y = .ok r
  rinv : RightInvOn (fun x => valOf (F x)) (fun y => valOf (G y)) a b c d

/-- the log-abs-det law of a pair, in the form the inverse whole-program files prove it -/
def LdLaw (F G : ℝ → Except Err (ℝ × ℝ)) (c d : ℝ) : Prop :=
  ∀ y, c ≤ y → y ≤ d → ldOf (G y) = - ldOf (F (valOf (G y)))

namespace BoxPair
variable {F G : ℝ → Except Err (ℝ × ℝ)} {a b c d : ℝ} (h : BoxPair F G a b c d)
include h

/-- the roles of the two programs can be exchanged: every statement is needed in one direction only -/
theorem symm : BoxPair G F c d a b where
  dom := h.domI
  domI := h.dom
  total := h.totalI
  totalI := h.total
  rinv := ⟨h.rinv.inv_strictMonoOn, h.rinv.inv_mapsTo, h.rinv.mapsTo, fun _ hx => h.rinv.left_inv hx⟩

theorem ld_symm (hl : LdLaw F G c d) : LdLaw G F a b := fun x h0 h1 => by
  have hm := h.rinv.mapsTo ⟨h0, h1⟩
  rw [hl _ hm.1 hm.2, h.rinv.left_inv ⟨h0, h1⟩, neg_neg]

/-- **C17 for one bounded element**: the program returns exactly on its interval -/
theorem returns_iff (x : ℝ) : (∃ r, F x = .ok r) ↔ a ≤ x ∧ x ≤ b :=
  ⟨fun ⟨r, hr⟩ => h.dom x r hr, fun hx => h.total x hx.1 hx.2⟩

/-- **C02 for one bounded element**: a run that returned `(y, l)` is undone by the other program, log-det negated -/
theorem invertible (hl : LdLaw F G c d) {x y l : ℝ} (hf : F x = .ok (y, l)) : G y = .ok (x, -l) := by
  have hx := h.dom x _ hf
  have hy : y ∈ Set.Icc c d := by have := h.rinv.mapsTo hx; rwa [hf] at this
  have hv : valOf (G y) = x := by have := h.rinv.left_inv hx; rwa [hf] at this
  have hl' := hl y hy.1 hy.2
  rw [hv, hf] at hl'
  rw [ok_eta (h.totalI y hy.1 hy.2), hv, hl']
  rfl

end BoxPair

section prog
variable {P : Bool → ℝ → Except Err (ℝ × ℝ)} {a b c d : ℝ} (h : BoxPair (P false) (P true) a b c d)
include h

theorem BoxPair.accepts : ProgAccepts P (boxD a b c d)
  | false, x => h.returns_iff x
  | true, y => h.symm.returns_iff y

theorem BoxPair.undoes {e : Float → ℝ} (hl : LdLaw (P false) (P true) c d) : ProgUndoes (NF.realX e) P
  | false, _, _, _, hf => h.invertible hl hf
  | true, _, _, _, hf => h.symm.invertible (h.ld_symm hl) hf

end prog

end ElemPair
