import NflowsModel.Lemmas.DistContract
import Mathlib.Tactic
/-!
# Lemmas/BatchLayoutLink — `batchLayout` is about the object that `Hooks.sample` builds (C18)

`samplePieces` (`Lemmas/DistContract`) is the list `Hooks.sample` hands to `catShapes`; `sampleValues` threads abstract draws
`draw : (piece : Nat) → (outer row : Nat) → (pos : Nat) → δ` through the same control flow and joins the pieces with
`catPieces`.  Its shape projection is `Hooks.sample` (no hypothesis), and under the hook contract its rows list the
draws in `batchLayout` order.

What is NOT modelled: randomness.  "Independent draws laid side by side are distributed as one call" is a statement
about the generator and stays with the harness; what is proved is that no draw of any piece is dropped, repeated,
or moved.
-/
namespace NF.Dist

/-! ## the pieces under the hook contract -/

theorem pieceShape_getD (event : Shape) (ctx : Option Shape) (hctx : ctx ≠ some []) (k : Nat) :
    (pieceShape event ctx k).getD (catDim ctx) 0 = k := by
  match ctx, hctx with
  | none, _ => rfl
  | some (R :: rest), _ => rfl

theorem samplePieces_ok {h : Hooks} {event : Shape} {okRow : Option Shape → Prop} (S : SampleSpec h event okRow)
    (ctx : Option Shape) (hctx : Accepts okRow ctx) (n b : Nat) (hb : 0 < b) :
    samplePieces h (.int n) ctx (.int b) = .ok ((batchSizes n b).map (pieceShape event ctx)) :=
  samplePieces_generic h ctx n b hb _ (fun k hk => hook_pieceShape S ctx hctx k hk)

/-- **sizes along the concatenation dimension**: the list fed to `catShapes (catDim ctx)` inside `Hooks.sample` has,
    along `catDim ctx`, exactly the sizes `batchSizes n b` — the list `batchLayout` is defined from -/
theorem samplePieces_sizes {h : Hooks} {event : Shape} {okRow : Option Shape → Prop} (S : SampleSpec h event okRow)
    (ctx : Option Shape) (hctx : Accepts okRow ctx) (n b : Nat) (hn : 0 < n) (hb : 0 < b) :
    ∃ pieces : List Shape,
      samplePieces h (.int n) ctx (.int b) = .ok pieces ∧
      h.sample (.int n) ctx (.int b) = catShapes (catDim ctx) pieces ∧
      pieces.map (fun s => s.getD (catDim ctx) 0) = batchSizes n b := by
  refine ⟨_, samplePieces_ok S ctx hctx n b hb, ?_, ?_⟩
  · rw [sample_eq_cat_samplePieces h _ ctx _ (isPositiveInt_natCast hn) (isPositiveInt_natCast hb),
      samplePieces_ok S ctx hctx n b hb]
    rfl
  · rw [List.map_map]
    conv_rhs => rw [← List.map_id (batchSizes n b)]
    apply List.map_congr_left
    intro k _
    simpa using pieceShape_getD event ctx (accepts_ne_nil hctx) k

/-! ## value level: the same control flow with abstract draws -/

/-- a generated tensor seen along its draw dimension `dim`: its shape and, for every outer index
    `r < ∏ shape[:dim]` (one without context, the context row with a context), the `shape[dim]` draws in order -/
structure Piece (δ : Type) where
  shape : Shape
  rows : List (List δ)
deriving DecidableEq, Repr

variable {δ : Type}

def Piece.ofShape (dim : Nat) (draw : Nat → Nat → δ) (s : Shape) : Piece δ :=
  ⟨s, (List.range (numel (s.take dim))).map fun r => (List.range (s.getD dim 0)).map fun q => draw r q⟩

/-- value-level `_sample`: the `piece`-th call of the hook; its draws are `draw piece` -/
def sampleHookV (h : Hooks) (draw : Nat → Nat → Nat → δ) (piece : Nat) (k : PyVal) (ctx : Option Shape) :
    Except DErr (Piece δ) :=
  (h.sampleHook k ctx).map (Piece.ofShape (catDim ctx) (draw piece))

/-- `torch.cat(pieces, dim)` with values: the shape is `catShapes`; for every outer index the blocks of the pieces
    are appended one after the other along `dim` -/
def catPieces (dim : Nat) (ps : List (Piece δ)) : Except DErr (Piece δ) :=
  (catShapes dim (ps.map (·.shape))).map fun s =>
    ⟨s, (List.range (numel (s.take dim))).map fun r => (ps.map fun p => p.rows.getD r []).flatten⟩

/-- the value-level twin of `Hooks.sample`: same validation, same `mapM` over `List.replicate (n / b) b` (the call
    index threaded with `zipIdx`), same remainder test, `catPieces` where `Hooks.sample` has `catShapes` -/
def sampleValues (h : Hooks) (draw : Nat → Nat → Nat → δ) (num : PyVal) (ctx : Option Shape) (batch : PyVal) :
    Except DErr (Piece δ) :=
  if !isPositiveInt num then .error .typeError else
  match batch with
  | .none => sampleHookV h draw 0 num ctx
  | b =>
    if !isPositiveInt b then .error .typeError else
    ((List.replicate (num.toNat / b.toNat) b).zipIdx.mapM (fun ki => sampleHookV h draw ki.2 ki.1 ctx)) >>= fun full =>
    (if num.toNat % b.toNat > 0
     then (sampleHookV h draw (num.toNat / b.toNat) (.int (num.toNat % b.toNat : Nat)) ctx).map (fun s => [s])
     else .ok []) >>= fun rest =>
    catPieces (catDim ctx) (full ++ rest)

/-! ### (i) the shape projection of `sampleValues` is `Hooks.sample` -/

theorem sampleHookV_ok (h : Hooks) (draw : Nat → Nat → Nat → δ) (p : Nat) {k : PyVal} {ctx : Option Shape} {s : Shape}
    (hs : h.sampleHook k ctx = .ok s) :
    sampleHookV h draw p k ctx = .ok (Piece.ofShape (catDim ctx) (draw p) s) := by
  simp [sampleHookV, hs]

theorem sampleHookV_error (h : Hooks) (draw : Nat → Nat → Nat → δ) (p : Nat) {k : PyVal} {ctx : Option Shape}
    {e : DErr} (hs : h.sampleHook k ctx = .error e) : sampleHookV h draw p k ctx = .error e := by
  simp [sampleHookV, hs]

@[simp] theorem Piece.ofShape_shape (dim : Nat) (draw : Nat → Nat → δ) (s : Shape) :
    (Piece.ofShape dim draw s).shape = s := rfl

theorem mapM_zipIdx_shape (h : Hooks) (draw : Nat → Nat → Nat → δ) (ctx : Option Shape) :
    ∀ (l : List PyVal) (p : Nat),
      ((l.zipIdx p).mapM (fun ki => sampleHookV h draw ki.2 ki.1 ctx)).map (List.map (·.shape))
        = l.mapM (fun k => h.sampleHook k ctx) := by
  intro l
  induction l with
  | nil => intro p; rfl
  | cons a t ih =>
    intro p
    rw [List.zipIdx_cons, List.mapM_cons, List.mapM_cons, ← ih (p + 1)]
    cases hs : h.sampleHook a ctx with
    | error e => rw [sampleHookV_error h draw p hs]; rfl
    | ok s =>
      rw [sampleHookV_ok h draw p hs]
      cases (t.zipIdx (p + 1)).mapM (fun ki => sampleHookV h draw ki.2 ki.1 ctx) with
      | error e => rfl
      | ok ps => rfl

theorem catPieces_shape (dim : Nat) (ps : List (Piece δ)) :
    (catPieces dim ps).map (·.shape) = catShapes dim (ps.map (·.shape)) := by
  unfold catPieces
  cases catShapes dim (ps.map (·.shape)) <;> rfl

/-- `sampleValues` after its two argument checks -/
theorem sampleValues_unfold (h : Hooks) (draw : Nat → Nat → Nat → δ) (num : PyVal) (ctx : Option Shape) (b : PyVal)
    (hnum : isPositiveInt num = true) (hb : isPositiveInt b = true) :
    sampleValues h draw num ctx b =
      (((List.replicate (num.toNat / b.toNat) b).zipIdx.mapM (fun ki => sampleHookV h draw ki.2 ki.1 ctx))
        >>= fun full =>
      (if num.toNat % b.toNat > 0
       then (sampleHookV h draw (num.toNat / b.toNat) (.int (num.toNat % b.toNat : Nat)) ctx).map (fun s => [s])
       else .ok []) >>= fun rest =>
      catPieces (catDim ctx) (full ++ rest)) := by
  cases b with
  | none => simp [isPositiveInt] at hb
  | int _ | bool _ | float | str =>
    simp only [sampleValues, hnum, hb, Bool.not_true, Bool.false_eq_true, if_false]

/-- **(i)** for every hook pair, every argument and every context — error paths included — forgetting the draws of
    `sampleValues` gives exactly the executed `Hooks.sample` -/
theorem sampleValues_shape (h : Hooks) (draw : Nat → Nat → Nat → δ) (num : PyVal) (ctx : Option Shape)
    (batch : PyVal) :
    (sampleValues h draw num ctx batch).map (·.shape) = h.sample num ctx batch := by
  by_cases hnum : isPositiveInt num = true
  swap
  · simp [sampleValues, Hooks.sample, hnum]
  by_cases hbn : batch = .none
  · subst hbn
    simp only [sampleValues, Hooks.sample, hnum, Bool.not_true, Bool.false_eq_true, if_false, sampleHookV]
    cases h.sampleHook num ctx <;> rfl
  by_cases hb : isPositiveInt batch = true
  swap
  · have hb' : isPositiveInt batch = false := Bool.eq_false_iff.mpr hb
    rw [sample_typeError_of_bad_batch h num ctx batch hb' hbn]
    cases batch with
    | none => exact absurd rfl hbn
    | int _ | bool _ | float | str =>
      simp only [sampleValues, hnum, hb', Bool.not_true, Bool.not_false, Bool.false_eq_true, if_false, if_true, map_error]
  rw [sampleValues_unfold h draw num ctx batch hnum hb, sample_unfold h num ctx batch hnum hb,
    ← mapM_zipIdx_shape h draw ctx _ 0]
  cases (List.zipIdx _ 0).mapM (fun ki => sampleHookV h draw ki.2 ki.1 ctx) with
  | error e => rfl
  | ok full =>
    simp only [ok_bind, map_ok]
    split
    · cases hs : h.sampleHook (.int (num.toNat % batch.toNat : Nat)) ctx with
      | error e => rw [sampleHookV_error h draw _ hs]; rfl
      | ok s =>
        rw [sampleHookV_ok h draw _ hs]
        simp only [map_ok, ok_bind]
        rw [catPieces_shape]
        simp
    · simp only [ok_bind]
      rw [catPieces_shape]
      simp

/-! ### (ii) where every draw of the result comes from -/

theorem flatten_piecesLayout (f : Nat → Nat → δ) : ∀ (sizes : List Nat) (p : Nat),
    ((sizes.zipIdx p).map fun ki => (List.range ki.1).map (f ki.2)).flatten
      = (piecesLayout p sizes).map fun pq => f pq.1 pq.2 := by
  intro sizes
  induction sizes with
  | nil => intro p; simp [piecesLayout]
  | cons a t ih =>
    intro p
    simp [List.zipIdx_cons, piecesLayout, ih (p + 1), Function.comp_def]

theorem map_fst_zipIdx' {α β : Type} (g : α → β) : ∀ (l : List α) (p : Nat),
    ((l.zipIdx p).map fun ki => g ki.1) = l.map g := by
  intro l
  induction l with
  | nil => intro p; rfl
  | cons a t ih => intro p; simp [List.zipIdx_cons, ih (p + 1)]

theorem mapM_zipIdx_ok (h : Hooks) (draw : Nat → Nat → Nat → δ) (ctx : Option Shape) (mk : Nat → Shape) (b : Nat)
    (hhook : h.sampleHook (.int b) ctx = .ok (mk b)) : ∀ (q p : Nat),
    ((List.replicate q (PyVal.int b)).zipIdx p).mapM (fun ki => sampleHookV h draw ki.2 ki.1 ctx)
      = .ok (((List.replicate q b).zipIdx p).map fun ki => Piece.ofShape (catDim ctx) (draw ki.2) (mk ki.1)) := by
  intro q
  induction q with
  | zero => intro p; rfl
  | succ q ih =>
    intro p
    rw [List.replicate_succ, List.replicate_succ, List.zipIdx_cons, List.zipIdx_cons, List.mapM_cons,
      sampleHookV_ok h draw p hhook, ih (p + 1)]
    rfl

/-- number of outer rows of a generated tensor along the draw dimension: 1 without a context, `R` with `R`
    context rows -/
def outerRows : Option Shape → Nat
  | none => 1
  | some [] => 0
  | some (r :: _) => r

/-- joining contract-shaped pieces of the given sizes: the rows are the pieces' draws in `piecesLayout` order -/
theorem catPieces_layout (dim R : Nat) (mk : Nat → Shape) (draw : Nat → Nat → Nat → δ)
    (hcat : ∀ l : List Nat, l ≠ [] → catShapes dim (l.map mk) = .ok (mk l.sum))
    (hR : ∀ k, numel ((mk k).take dim) = R) (hsz : ∀ k, (mk k).getD dim 0 = k)
    (sizes : List Nat) (hne : sizes ≠ []) :
    catPieces dim ((sizes.zipIdx 0).map fun ki => Piece.ofShape dim (draw ki.2) (mk ki.1))
      = .ok ⟨mk sizes.sum, (List.range R).map fun r => (piecesLayout 0 sizes).map fun pq => draw pq.1 r pq.2⟩ := by
  unfold catPieces
  have hsh : (((sizes.zipIdx 0).map fun ki => Piece.ofShape dim (draw ki.2) (mk ki.1)).map (·.shape))
      = sizes.map mk := by
    rw [List.map_map]
    exact map_fst_zipIdx' mk sizes 0
  rw [hsh, hcat sizes hne]
  simp only [map_ok, hR]
  congr 2
  apply List.map_congr_left
  intro r hr
  rw [List.mem_range] at hr
  rw [← flatten_piecesLayout (fun i q => draw i r q) sizes 0, List.map_map]
  congr 1
  apply List.map_congr_left
  intro ki _
  simp only [Function.comp_apply, Piece.ofShape, hR, hsz, List.getD_eq_getElem?_getD, List.getElem?_map,
    List.getElem?_range hr, Option.map_some, Option.getD_some]

/-- generic form of (ii): if the hook returns `mk k` for `k` draws, where `mk k` has `k` slices along the draw
    dimension and `R` outer rows, and `cat` of such pieces adds the counts up, then the value-level result has shape
    `mk n` and its rows list the pieces' draws in `batchLayout` order -/
theorem sampleValues_generic (h : Hooks) (ctx : Option Shape) (n b : Nat) (hn : 0 < n) (hb : 0 < b)
    (mk : Nat → Shape) (R : Nat)
    (hhook : ∀ k : Nat, 0 < k → h.sampleHook (.int k) ctx = .ok (mk k))
    (hcat : ∀ l : List Nat, l ≠ [] → catShapes (catDim ctx) (l.map mk) = .ok (mk l.sum))
    (hR : ∀ k, numel ((mk k).take (catDim ctx)) = R) (hsz : ∀ k, (mk k).getD (catDim ctx) 0 = k)
    (draw : Nat → Nat → Nat → δ) :
    sampleValues h draw (.int n) ctx (.int b)
      = .ok ⟨mk n, (List.range R).map fun r => (batchLayout n b).map fun pq => draw pq.1 r pq.2⟩ := by
  rw [sampleValues_unfold h draw _ ctx _ (isPositiveInt_natCast hn) (isPositiveInt_natCast hb)]
  simp only [PyVal.toNat, Int.toNat_natCast]
  rw [mapM_zipIdx_ok h draw ctx mk b (hhook b hb)]
  simp only [ok_bind]
  have key : ∀ rest : List (Piece δ),
      rest = ((if n % b > 0 then [n % b] else []).zipIdx (n / b)).map
        (fun ki => Piece.ofShape (catDim ctx) (draw ki.2) (mk ki.1)) →
      catPieces (catDim ctx)
        ((((List.replicate (n / b) b).zipIdx 0).map fun ki => Piece.ofShape (catDim ctx) (draw ki.2) (mk ki.1)) ++ rest)
        = .ok ⟨mk n, (List.range R).map fun r => (batchLayout n b).map fun pq => draw pq.1 r pq.2⟩ := by
    intro rest hrest
    have : (((List.replicate (n / b) b).zipIdx 0).map fun ki => Piece.ofShape (catDim ctx) (draw ki.2) (mk ki.1))
        ++ rest = ((batchSizes n b).zipIdx 0).map fun ki => Piece.ofShape (catDim ctx) (draw ki.2) (mk ki.1) := by
      rw [hrest, batchSizes, List.zipIdx_append, List.map_append]
      simp
    rw [this, catPieces_layout (catDim ctx) R mk draw hcat hR hsz _ (batchSizes_ne_nil n b hn hb), batchSizes_sum]
    rfl
  by_cases hr : n % b > 0
  · have hk := hhook (n % b) hr
    simp only [hr, if_true, sampleHookV_ok h draw _ hk, map_ok, ok_bind]
    exact key _ (by simp [hr])
  · simp only [hr, if_false, ok_bind]
    exact key _ (by simp [hr])

theorem sampleValues_unbatched_generic (h : Hooks) (ctx : Option Shape) (n : Nat) (hn : 0 < n)
    (mk : Nat → Shape) (R : Nat) (hhook : ∀ k : Nat, 0 < k → h.sampleHook (.int k) ctx = .ok (mk k))
    (hR : ∀ k, numel ((mk k).take (catDim ctx)) = R) (hsz : ∀ k, (mk k).getD (catDim ctx) 0 = k)
    (draw : Nat → Nat → Nat → δ) :
    sampleValues h draw (.int n) ctx .none
      = .ok ⟨mk n, (List.range R).map fun r => (List.range n).map fun q => draw 0 r q⟩ := by
  simp only [sampleValues, isPositiveInt_natCast hn, Bool.not_true, Bool.false_eq_true, if_false,
    sampleHookV_ok h draw 0 (hhook n hn), Piece.ofShape, hR, hsz]

theorem pieceShape_outer (event : Shape) (ctx : Option Shape) (hctx : ctx ≠ some []) (k : Nat) :
    numel ((pieceShape event ctx k).take (catDim ctx)) = outerRows ctx := by
  match ctx, hctx with
  | none, _ => rfl
  | some (R :: rest), _ => exact Nat.mul_one R

/-- **(ii)** batched generation at the value level, for every class that meets the hook contract, every accepted
    context, every `n > 0`, `b > 0`: the executed control flow of `Hooks.sample`, fed the draws
    `draw piece row pos`, returns the contract shape and, for every outer row `r` (one without a context, each of the
    `R` context rows with a context), the draws `draw p r q` for `(p, q)` running through `batchLayout n b`.
    So `batchLayout_spec` (every draw of every piece exactly once, in order) is about what `Hooks.sample` builds. -/
theorem sampleValues_batched {h : Hooks} {event : Shape} {okRow : Option Shape → Prop} (S : SampleSpec h event okRow)
    (ctx : Option Shape) (hctx : Accepts okRow ctx) (n b : Nat) (hn : 0 < n) (hb : 0 < b)
    (draw : Nat → Nat → Nat → δ) :
    sampleValues h draw (.int n) ctx (.int b)
      = .ok ⟨contractSample event (ctxRows ctx) n,
          (List.range (outerRows ctx)).map fun r => (batchLayout n b).map fun pq => draw pq.1 r pq.2⟩ :=
  sampleValues_generic h ctx n b hn hb (pieceShape event ctx) (outerRows ctx)
    (fun k hk => hook_pieceShape S ctx hctx k hk)
    (cat_pieceShape event ctx (accepts_ne_nil hctx))
    (pieceShape_outer event ctx (accepts_ne_nil hctx))
    (pieceShape_getD event ctx (accepts_ne_nil hctx)) draw

theorem sampleValues_unbatched {h : Hooks} {event : Shape} {okRow : Option Shape → Prop}
    (S : SampleSpec h event okRow) (ctx : Option Shape) (hctx : Accepts okRow ctx) (n : Nat) (hn : 0 < n)
    (draw : Nat → Nat → Nat → δ) :
    sampleValues h draw (.int n) ctx .none
      = .ok ⟨contractSample event (ctxRows ctx) n,
          (List.range (outerRows ctx)).map fun r => (List.range n).map fun q => draw 0 r q⟩ :=
  sampleValues_unbatched_generic h ctx n hn (pieceShape event ctx) (outerRows ctx)
    (fun k hk => hook_pieceShape S ctx hctx k hk)
    (pieceShape_outer event ctx (accepts_ne_nil hctx))
    (pieceShape_getD event ctx (accepts_ne_nil hctx)) draw

/-- **position `k` of the concatenated result**: for every outer row `r` and every `k < n`, draw `k` of row `r` of
    the batched result is draw `k % b` of piece `k / b` (of that row); each row has exactly `n` draws -/
theorem sampleValues_draw {h : Hooks} {event : Shape} {okRow : Option Shape → Prop} (S : SampleSpec h event okRow)
    (ctx : Option Shape) (hctx : Accepts okRow ctx) (n b : Nat) (hn : 0 < n) (hb : 0 < b)
    (draw : Nat → Nat → Nat → δ) :
    ∃ P : Piece δ, sampleValues h draw (.int n) ctx (.int b) = .ok P ∧
      P.shape = contractSample event (ctxRows ctx) n ∧
      P.rows.length = outerRows ctx ∧
      ∀ r, r < outerRows ctx → ∃ row, P.rows[r]? = some row ∧ row.length = n ∧
        ∀ k, k < n → row[k]? = some (draw (k / b) r (k % b)) ∧
          (batchLayout n b)[k]? = some (k / b, k % b) := by
  refine ⟨_, sampleValues_batched S ctx hctx n b hn hb draw, rfl, by rw [List.length_map, List.length_range], ?_⟩
  intro r hr
  obtain ⟨hlen, hget⟩ := batchLayout_spec n b hb
  refine ⟨(batchLayout n b).map fun pq => draw pq.1 r pq.2, ?_, by rw [List.length_map, hlen], ?_⟩
  · rw [List.getElem?_map, List.getElem?_range hr]
    rfl
  · intro k hk
    refine ⟨?_, hget k hk⟩
    rw [List.getElem?_map, hget k hk]
    rfl

/-- **batching changes nothing about the values either**: the batched result is the single unbatched call whose
    `k`-th draw (of row `r`) is draw `k % b` of piece `k / b` — the pieces laid side by side along the draw
    dimension, none dropped, repeated or interleaved -/
theorem sampleValues_batched_eq_unbatched {h : Hooks} {event : Shape} {okRow : Option Shape → Prop}
    (S : SampleSpec h event okRow) (ctx : Option Shape) (hctx : Accepts okRow ctx) (n b : Nat) (hn : 0 < n)
    (hb : 0 < b) (draw : Nat → Nat → Nat → δ) :
    sampleValues h draw (.int n) ctx (.int b)
      = sampleValues h (fun _ r k => draw (k / b) r (k % b)) (.int n) ctx .none := by
  rw [sampleValues_batched S ctx hctx n b hn hb draw, sampleValues_unbatched S ctx hctx n hn, batchLayout_eq n b hb]
  simp only [List.map_map, Function.comp_def]

/-! ## concrete instances (the executed functions, by `decide`) -/

/-- no context, `n = 5`, `b = 2`: pieces of sizes `[2, 2, 1] = batchSizes 5 2`, draws tagged (piece, row, pos) -/
example : sampleValues (stdNormal [3]) (fun p r q => (p, r, q)) (.int 5) none (.int 2)
    = .ok ⟨[5, 3], [[(0, 0, 0), (0, 0, 1), (1, 0, 0), (1, 0, 1), (2, 0, 0)]]⟩ := by decide

/-- two context rows, `n = 5`, `b = 2`: the same layout in every context row -/
example : sampleValues (stdNormal [3]) (fun p r q => (p, r, q)) (.int 5) (some [2, 4]) (.int 2)
    = .ok ⟨[2, 5, 3], [[(0, 0, 0), (0, 0, 1), (1, 0, 0), (1, 0, 1), (2, 0, 0)],
                        [(0, 1, 0), (0, 1, 1), (1, 1, 0), (1, 1, 1), (2, 1, 0)]]⟩ := by decide

/-- the shape projection agrees with the executed `Hooks.sample` on the same arguments -/
example : (stdNormal [3]).sample (.int 5) (some [2, 4]) (.int 2) = .ok [2, 5, 3] := by decide

/-- the rows are `batchLayout 5 2` -/
example : (batchLayout 5 2).map (fun pq => (pq.1, 1, pq.2))
    = [(0, 1, 0), (0, 1, 1), (1, 1, 0), (1, 1, 1), (2, 1, 0)] := by decide

example : samplePieces (stdNormal [3]) (.int 7) (some [2, 4]) (.int 3) = .ok [[2, 3, 3], [2, 3, 3], [2, 1, 3]]
    ∧ batchSizes 7 3 = [3, 3, 1] := by decide

/-- an error path: the value-level twin fails exactly as `Hooks.sample` does -/
example : sampleValues (stdNormal [3]) (fun p r q => (p, r, q)) (.int 5) none (.int 0) = .error .typeError
    ∧ (stdNormal [3]).sample (.int 5) none (.int 0) = .error .typeError := by decide

/-- the hypotheses of `sampleValues_batched` are satisfiable: the theorem instantiated -/
example (draw : Nat → Nat → Nat → δ) :
    sampleValues (stdNormal [3]) draw (.int 5) (some [2, 4]) (.int 2)
      = .ok ⟨[2, 5, 3], (List.range 2).map fun r => (batchLayout 5 2).map fun pq => draw pq.1 r pq.2⟩ :=
  sampleValues_batched (stdNormal_sampleSpec [3]) (some [2, 4]) ⟨trivial, fun d hd => by simp at hd; omega⟩ 5 2
    (by omega) (by omega) draw

end NF.Dist
