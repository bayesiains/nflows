import NflowsModel.Lemmas.CouplingJacobian
import NflowsModel.Lemmas.StructureExecQuad
import NflowsModel.Lemmas.CubicLayers
import NflowsModel.Lemmas.LinTails
/-!
# Lemmas/LayerDerivMore — C01 inside layers from a per-element law (`ElLawAt`); the bounded RQ, quadratic, cubic and
linear spline elements, with and without linear tails

`CouplingJacobian.coupling_row_logdet` / `ARWhole.ar_row_logdet` reduce "the returned `ld[b]` is `log |det J_b|` of the
executed row map" to the per-element law `hdiag`:

* coupling: `HasDerivAt (couplingElMap e c mask params inverse b i) (exp (couplingElLd … x_i)) x_i` for every transformed
  channel `i`, `params` = what the conditioner returned for the identity split (`couplingElMap` has BUFFER semantics: an
  element that raises leaves its input value);
* autoregressive: `HasDerivAt (elMap e c F (net x) b i) (exp (ldOf (arEl …))) x_i` (`elMap` stores 0 where the element raises).

Both follow from ONE statement about the element program `q = elTransform … slice`, `ElLawAt q x`: on a NEIGHBOURHOOD of `x`
it succeeds with `(f s, g s, _)` and `HasDerivAt f (exp (g x)) x` (`ElLawAt.applyEl` for the buffer semantics,
`ElLawAt.outOf` for zero-on-error).  So a NEW spline kind gets its layer theorems by proving `ElLawAt` of the dispatcher on
a slice at the points it allows — `ElLawAt.of_prog` from its branch equation, where its two-output program returns
(`ElemPair.BoxPair.total`, `TailsWhole.wrap_total`) and the derivative law of the returned value; `ElLawAt.of_Ioo` for the
three-output cubic program — and calling `coupling_logdet_of_elLawAt` (either pass; the `S = 1` case of
`coupling_item_logdet_of_elLawAt`, which is for `[B, C, S]` inputs) / `ar_logdet_of_elLawAt`; the `coupling_*_logdet_is_jacobian`
and `ar_*_logdet_is_jacobian` of `Properties/C01L.lean`, `Properties/C01V.lean` are such calls (the bounded linear and RQ
coupling ones stand here and in `LayerDerivInv`, where the consistency of the two passes uses them), but for the RQ coupling
layer with linear tails: its law holds at every real and is `CouplingJacobian.couplingElMap_rq_tails_hasDerivAt`.
`CouplingFamily.law` (`CouplingJacobian`) is the same law demanded at EVERY real, which only the total kinds (additive,
affine, RQ with tails) meet.
-/
open NF DualSound

namespace NF.LayerDerivMore
open NF.StructureExec NF.CouplingJacobian NF.ARWhole

/-! ## 0. The generic step -/

def ElLawAt (q : ℝ → ElRes ℝ) (x : ℝ) : Prop :=
  ∃ f g : ℝ → ℝ, (∀ᶠ s in nhds x, ∃ al, q s = .ok (f s, g s, al)) ∧ HasDerivAt f (Real.exp (g x)) x

theorem ElLawAt.hasDerivAt (e : Float → ℝ) {q : ℝ → ElRes ℝ} {x : ℝ} (h : ElLawAt q x) {F : ℝ → ℝ}
    (hF : ∀ s y l al, q s = .ok (y, l, al) → F s = y) :
    HasDerivAt F (Real.exp (ldOf (NF.realX e) (q x))) x := by
  obtain ⟨f, g, hev, hd⟩ := h
  obtain ⟨al, hx⟩ := hev.self_of_nhds
  rw [hx]
  exact hd.congr_of_eventuallyEq (hev.mono fun s ⟨_, hs⟩ => hF s _ _ _ hs)

theorem ElLawAt.applyEl (e : Float → ℝ) {q : ℝ → ElRes ℝ} {x : ℝ} (h : ElLawAt q x) :
    HasDerivAt (applyEl q) (Real.exp (ldOf (NF.realX e) (q x))) x :=
  h.hasDerivAt e fun s y l al hs => by unfold StructureExec.applyEl; rw [hs]

theorem ElLawAt.outOf (e : Float → ℝ) {q : ℝ → ElRes ℝ} {x : ℝ} (h : ElLawAt q x) :
    HasDerivAt (fun s => outOf (NF.realX e) (q s)) (Real.exp (ldOf (NF.realX e) (q x))) x :=
  h.hasDerivAt e fun s y l al hs => by show NF.outOf _ (q s) = y; rw [hs]; rfl

theorem ElLawAt.of_Ioo {q : ℝ → ElRes ℝ} {f g : ℝ → ℝ} {a b x : ℝ} (h0 : a < x) (h1 : x < b)
    (hd : HasDerivAt f (Real.exp (g x)) x) (hq : ∀ s, a ≤ s → s ≤ b → ∃ al, q s = .ok (f s, g s, al)) :
    ElLawAt q x :=
  ⟨f, g, Filter.eventually_of_mem (Ioo_mem_nhds h0 h1) fun s hs => hq s hs.1.le hs.2.le, hd⟩

/-- the dispatcher runs a two-output program `P` (`heq`, the family's branch equation) that returns on a neighbourhood `D`
    of `x` (`ElemPair.BoxPair.total`, `TailsWhole.wrap_total`): the law is the derivative law of what `P` returns, the form
    in which the whole-program files state it -/
theorem ElLawAt.of_prog {q : ℝ → ElRes ℝ} {P : ℝ → Except Err (ℝ × ℝ)} {D : Set ℝ} {x : ℝ}
    (heq : ∀ s, q s = (P s).map fun ab => (ab.1, ab.2, [])) (hD : D ∈ nhds x) (htot : ∀ s ∈ D, ∃ r, P s = .ok r)
    (hd : HasDerivAt (fun s => QuadWhole.valOf (P s)) (Real.exp (QuadWhole.ldOf (P x))) x) : ElLawAt q x :=
  ⟨_, _, Filter.eventually_of_mem hD fun s hs => ⟨[], (heq s).trans (ElemPair.map_ok_eta (htot s hs))⟩, hd⟩

/-- the parameter slice of channel `i` of row `b` in the coupling layer -/
noncomputable abbrev chanSlice (e : Float → ℝ) (c : ElCfg) (mask : List ℝ) (params : Array ℝ) (b : Nat)
    (i : Fin mask.length) : List ℝ :=
  condSlice (NF.realX e) c.mult (nT e mask) 1 params b (tpos e mask i) 0

section entries
open NF.CouplingJacobianImg NF.CouplingConsequences

/-- the parameter slice of entry `k` of an item (pixel `k % S` of channel `k / S`) -/
noncomputable abbrev entrySlice (e : Float → ℝ) (c : ElCfg) (mask : List ℝ) (S : Nat) (params : Array ℝ) (b k : Nat) :
    List ℝ :=
  condSlice (NF.realX e) c.mult (nT e mask) S params b ((transformIdx (NF.realX e) mask).idxOf (k / S)) (k % S)

/-- coupling, any `S`: the per-element hypothesis of `coupling_item_logdet` from `ElLawAt` of `elTransform` on the entry's
    slice -/
theorem entryEl_law (e : Float → ℝ) (c : ElCfg) (hk1 : c.kind ≠ "affine") (hk2 : c.kind ≠ "additive")
    (mask : List ℝ) (S : Nat) (params : Array ℝ) (inverse : Bool) (b k : Nat) (x : ℝ)
    (h : ElLawAt (elTransform (NF.realX e) c inverse (entrySlice e c mask S params b k)) x) :
    HasDerivAt (entryElMap e c mask S params inverse b k) (Real.exp (entryElLd e c mask S params inverse b k x)) x := by
  have hq : entryEl e c mask S params inverse b k = elTransform (NF.realX e) c inverse (entrySlice e c mask S params b k) :=
    funext fun τ => couplingEl_spline (NF.realX e) c S params inverse hk1 hk2 _ _ _ _ _
  unfold entryElMap entryElLd
  rw [hq]
  exact h.applyEl e

/-- **C01 for the coupling layer of any spline family on `[B, C, S]` inputs, either pass**: if the dispatcher obeys
    `ElLawAt` on the slice of every entry of a transformed channel at the entry of item `b` it is applied to, the returned
    `ld[b]` is `log |det J_b|`, `J_b` the Fréchet derivative of the executed item map -/
theorem coupling_item_logdet_of_elLawAt (e : Float → ℝ) (c : ElCfg) (hk1 : c.kind ≠ "affine") (hk2 : c.kind ≠ "additive")
    (mask : List ℝ) (S : Nat) {N : Nat} (hN : mask.length * S = N) (inverse : Bool)
    (net : Array ℝ → Array ℝ → Array ℝ) {B : Nat} (x ctx : Array ℝ) (hx : x.size = B * N) {b : Nat}
    (hb : b < B) {L : (Fin N → ℝ) →L[ℝ] (Fin N → ℝ)}
    (hL : HasFDerivAt (fun v => rowOf (NF.realX e) N b
        (layer (NF.realX e) c mask S inverse none #[] net B (setRow B N x b v) ctx).out) L (rowOf (NF.realX e) N b x))
    (h : ∀ k : Fin N, isTk e mask S k = true →
      ElLawAt (elTransform (NF.realX e) c inverse
        (entrySlice e c mask S (paramsOf (NF.realX e) mask S inverse none #[] net B x ctx) b k)) (rowOf (NF.realX e) N b x k)) :
    (layer (NF.realX e) c mask S inverse none #[] net B x ctx).ld[b]?
      = some (Real.log |LinearMap.det (L : (Fin N → ℝ) →ₗ[ℝ] (Fin N → ℝ))|) :=
  coupling_item_logdet e c mask S hN inverse net x ctx hx hb hL fun k hk =>
    entryEl_law e c hk1 hk2 mask S _ inverse b k _ (h k hk)

end entries

theorem entrySlice_one (e : Float → ℝ) (c : ElCfg) (mask : List ℝ) (params : Array ℝ) (b : Nat) (i : Fin mask.length) :
    entrySlice e c mask 1 params b i.1 = chanSlice e c mask params b i := by
  unfold entrySlice chanSlice
  rw [Nat.div_one, Nat.mod_one]

/-- autoregressive: the per-element hypothesis of `ar_row_logdet` from `ElLawAt` of `elTransform` on the feature's slice -/
theorem arEl_law (e : Float → ℝ) (c : ElCfg) (F : Nat) (x params : Array ℝ) (b i : Nat)
    (h : ElLawAt (elTransform (NF.realX e) c false (arSlice (NF.realX e) c F params b i)) (x.getD (b * F + i) 0)) :
    HasDerivAt (elMap e c F params b i)
      (Real.exp (ldOf (NF.realX e) (arEl (NF.realX e) c F x params false b i))) (x.getD (b * F + i) 0) := by
  rw [arEl_eq, realX_zero]
  exact h.outOf e

/-! ## 1. The bounded families: `ElLawAt` of the executed element program -/

/-- **bounded RQ element, forward, strictly inside an input bin** (`RQWhole.val_hasDerivAt`) -/
theorem rq_elLawAt (e : Float → ℝ) (c : ElCfg) (hk : c.kind = "rq") (ht : c.tails = false) (p : List ℝ)
    (hv : RQWhole.RQValid e (rqCfgOf c) (rqW (NF.realX e) c p) (rqH (NF.realX e) c p) (rqD c p))
    (k : ℕ) (hkK : k < (rqW (NF.realX e) c p).length) (x : ℝ)
    (h0 : RQWhole.xs e (rqCfgOf c) (rqW (NF.realX e) c p) k < x)
    (h1 : x < RQWhole.xs e (rqCfgOf c) (rqW (NF.realX e) c p) (k + 1)) :
    ElLawAt (elTransform (NF.realX e) c false p) x :=
  have S := RQWhole.searched hv
  .of_prog (elTransform_rq _ c hk ht false p) (S.box_mem_nhds hkK h0 h1)
    (fun s hs => (RQInverseWhole.boxPair hv).total s hs.1 hs.2) (RQWhole.val_hasDerivAt hv k hkK x h0 h1)

/-- **bounded piecewise-quadratic element, forward, strictly inside a bin** (`QuadWhole.val_hasDerivAt_x`) -/
theorem quad_elLawAt (e : Float → ℝ) (c : ElCfg) (hk : c.kind = "quad") (ht : c.tails = false) (p : List ℝ)
    (hv : QuadWhole.QuadValid e (quadCfgOf c) (quadW (NF.realX e) c p) (quadH (NF.realX e) c p))
    (hbl : e (boxLog (quadCfgOf c).box) = Real.log ((e (quadCfgOf c).box.top - e (quadCfgOf c).box.bottom)
      / (e (quadCfgOf c).box.right - e (quadCfgOf c).box.left)))
    (k : ℕ) (hkK : k < (quadW (NF.realX e) c p).length) (x : ℝ)
    (h0 : QuadWhole.xk e (quadCfgOf c) (quadW (NF.realX e) c p) k < x)
    (h1 : x < QuadWhole.xk e (quadCfgOf c) (quadW (NF.realX e) c p) (k + 1)) :
    ElLawAt (elTransform (NF.realX e) c false p) x :=
  have R := QuadInverseWhole.runs_of_valid hv
  have hkW := hkK.trans_eq (QuadWhole.Wq_length (e := e) (quadCfgOf c) _).symm
  .of_prog (elTransform_quad _ c hk ht false p) (R.searched.box_mem_nhds hkW h0 h1)
    (fun s hs => (QuadInverseWhole.quad_boxPair R).total s hs.1 hs.2) (QuadWhole.val_hasDerivAt_x hv hbl k hkK x h0 h1)

/-- **bounded piecewise-cubic element, forward, at every point of the OPEN box** — interior knots included
    (`CubicWhole.val_hasDerivAt_all`) -/
theorem cubic_elLawAt (e : Float → ℝ) (c : ElCfg) (hk : c.kind = "cubic") (ht : c.tails = false) (p : List ℝ)
    (hv : CubicLayers.SliceValid e c (CubicLayers.cubicCfgOf c) p)
    (hbl : e (boxLog (CubicLayers.cubicCfgOf c).box)
      = Real.log ((e (CubicLayers.cubicCfgOf c).box.top - e (CubicLayers.cubicCfgOf c).box.bottom)
      / (e (CubicLayers.cubicCfgOf c).box.right - e (CubicLayers.cubicCfgOf c).box.left)))
    (x : ℝ) (h0 : e (CubicLayers.cubicCfgOf c).box.left < x) (h1 : x < e (CubicLayers.cubicCfgOf c).box.right) :
    ElLawAt (elTransform (NF.realX e) c false p) x :=
  .of_Ioo h0 h1
    (CubicWhole.val_hasDerivAt_all (udl := CubicLayers.cubicL (NF.realX e) c p) (udr := CubicLayers.cubicR (NF.realX e) c p)
      hv hbl x h0 h1)
    fun s hs0 hs1 => ⟨[], by rw [CubicLayers.elTransform_cubic _ c hk ht]; exact CubicWhole.exec_ok hv s hs0 hs1⟩

/-- the box `elTransform` builds for the bounded linear family -/
def linBoxOf (c : ElCfg) : Box := ⟨c.ds.getD 0 0.0, c.ds.getD 1 0.0, c.ds.getD 2 0.0, c.ds.getD 3 0.0⟩

/-- **bounded piecewise-linear element, forward, strictly inside a bin** (`LinWhole.val_hasDerivAt_x`; a piecewise-linear
    map has kinks at the knots) -/
theorem lin_elLawAt (e : Float → ℝ) (c : ElCfg) (hk : c.kind = "lin") (ht : c.tails = false) (p : List ℝ)
    (hv : LinWhole.LinValid e (linBoxOf c) 1e-6 p)
    (hlogK : e (Float.log (1.0 / p.length.toFloat)) = Real.log (1 / (p.length : ℝ)))
    (hbl : e (boxLog (linBoxOf c)) = Real.log ((e (linBoxOf c).top - e (linBoxOf c).bottom)
      / (e (linBoxOf c).right - e (linBoxOf c).left)))
    (k : ℕ) (hkK : k < p.length) (x : ℝ)
    (h0 : LinWhole.xk e (linBoxOf c) p.length k < x) (h1 : x < LinWhole.xk e (linBoxOf c) p.length (k + 1)) :
    ElLawAt (elTransform (NF.realX e) c false p) x :=
  have S := LinWhole.searched hv
  .of_prog (LinTails.elTransform_lin _ c hk ht false p) (S.box_mem_nhds hkK h0 h1)
    (fun s hs => (LinWhole.boxPair hv).total s hs.1 hs.2) (LinWhole.val_hasDerivAt_x hv hlogK hbl k hkK x h0 h1)

/-- **bounded piecewise-linear element, inverse, strictly inside an output bin** (`LinWhole.inv_hasDerivAt_y`) -/
theorem lin_inv_elLawAt (e : Float → ℝ) (c : ElCfg) (hk : c.kind = "lin") (ht : c.tails = false) (p : List ℝ)
    (hv : LinWhole.LinValid e (linBoxOf c) 1e-6 p)
    (hbl : e (boxLog (linBoxOf c)) = Real.log ((e (linBoxOf c).top - e (linBoxOf c).bottom)
      / (e (linBoxOf c).right - e (linBoxOf c).left)))
    (k : ℕ) (hkK : k < p.length) (y : ℝ)
    (h0 : LinWhole.yk e (linBoxOf c) p k < y) (h1 : y < LinWhole.yk e (linBoxOf c) p (k + 1)) :
    ElLawAt (elTransform (NF.realX e) c true p) y :=
  have S := LinWhole.searched hv
  .of_prog (LinTails.elTransform_lin _ c hk ht true p) (S.ybox_mem_nhds hkK h0 h1)
    (fun s hs => (LinWhole.boxPair hv).totalI s hs.1 hs.2) (LinWhole.inv_hasDerivAt_y hv hbl k hkK y h0 h1)

/-! ## 2. The executed COUPLING layer (conditioner in the loop): the general theorem, and the bounded linear family

Same statement as `CouplingJacobian.coupling_rq_tails_row_abs_det` / `coupling_row_logdet`: ANY conditioner `net` (it is run
on the identity split, as coupling.py does), any numeric mask, any batch size; Fréchet differentiability of the row map is
a hypothesis (the conditioner is arbitrary).  Bounded splines raise outside their box and the linear one has kinks at the
knots, so in the families' layer theorems the position of every TRANSFORMED entry of the row is an explicit hypothesis:
strictly inside a bin for the quadratic and the linear family (the quadratic value is C¹ across interior knots,
`QuadWhole.gen_hasDerivAt_all`: for it the open box would do), in the open box for the cubic one. -/

section coupling
variable (e : Float → ℝ) (c : ElCfg) (mask : List ℝ) (B : Nat) (net : Array ℝ → Array ℝ) (x : Array ℝ)

/-- what the conditioner returned for the batch `x` -/
noncomputable abbrev cParams : Array ℝ := net (idSplit (NF.realX e) mask B x)

/-- **C01 for the coupling layer of any spline family, either pass**: if the dispatcher obeys `ElLawAt` on the slice of
    every transformed channel at the entry of row `b` it is applied to, the returned `ld[b]` is `log |det J_b|`.  Every
    `coupling_*_logdet_is_jacobian` but the RQ one with linear tails is this with the family's own `*_elLawAt`. -/
theorem coupling_logdet_of_elLawAt {kind : String} (hk : c.kind = kind) (hk1 : kind ≠ "affine") (hk2 : kind ≠ "additive")
    (inverse : Bool) (hx : x.size = B * mask.length) {b : Nat} (hb : b < B)
    {L : (Fin mask.length → ℝ) →L[ℝ] (Fin mask.length → ℝ)}
    (hL : HasFDerivAt (couplingRowMap e c mask B net inverse x b) L (rowOf (NF.realX e) mask.length b x))
    (h : ∀ i, isT (NF.realX e) mask i = true →
      ElLawAt (elTransform (NF.realX e) c inverse (chanSlice e c mask (cParams e mask B net x) b i))
        (rowOf (NF.realX e) mask.length b x i)) :
    (couplingRun (NF.realX e) c mask B net inverse x).ld[b]?
      = some (Real.log |LinearMap.det (L : (Fin mask.length → ℝ) →ₗ[ℝ] (Fin mask.length → ℝ))|) :=
  by
  have h' := coupling_item_logdet_of_elLawAt e c (fun h => hk1 (hk.symm.trans h)) (fun h => hk2 (hk.symm.trans h)) mask 1
    (Nat.mul_one _) inverse (fun z _ => net z) x #[] hx hb (L := L)
    (by simp only [CouplingConsequences.layer_one_eq_couplingRun]; exact hL)
    (fun k hk => by
      rw [isTk_one] at hk
      rw [entrySlice_one, CouplingConsequences.paramsOf_one]
      exact h k hk)
  rwa [CouplingConsequences.layer_one_eq_couplingRun] at h'

/-- **C01, bounded piecewise-LINEAR coupling layer** (`PiecewiseLinearCouplingTransform`, no tails), forward pass: if every
    parameter slice is accepted (`LinTails.LinParamsValid`: `LinWhole.LinValid` + the `np.log(1/K)` constant read as the
    real logarithm), `boxLog` is read as the real logarithm, and every transformed entry of row `b` lies STRICTLY INSIDE
    one of the `K` equal bins, then the returned `ld[b]` is `log |det J_b|`. -/
theorem coupling_linear_logdet_is_jacobian (hk : c.kind = "lin") (ht : c.tails = false)
    (hbl : e (boxLog (linBoxOf c)) = Real.log ((e (linBoxOf c).top - e (linBoxOf c).bottom)
      / (e (linBoxOf c).right - e (linBoxOf c).left)))
    (hx : x.size = B * mask.length) {b : Nat} (hb : b < B)
    (hv : LinTails.LinParamsValid e c (nT e mask) 1 (cParams e mask B net x) B)
    (hbin : ∀ i, isT (NF.realX e) mask i = true → ∃ k, k < c.K ∧
      LinWhole.xk e (linBoxOf c) c.K k < rowOf (NF.realX e) mask.length b x i ∧
      rowOf (NF.realX e) mask.length b x i < LinWhole.xk e (linBoxOf c) c.K (k + 1))
    {L : (Fin mask.length → ℝ) →L[ℝ] (Fin mask.length → ℝ)}
    (hL : HasFDerivAt (couplingRowMap e c mask B net false x b) L (rowOf (NF.realX e) mask.length b x)) :
    (couplingRun (NF.realX e) c mask B net false x).ld[b]?
      = some (Real.log |LinearMap.det (L : (Fin mask.length → ℝ) →ₗ[ℝ] (Fin mask.length → ℝ))|) := by
  refine coupling_logdet_of_elLawAt e c mask B net x hk (by decide) (by decide) false hx hb hL fun i hi => ?_
  obtain ⟨k, hkK, h0, h1⟩ := hbin i hi
  obtain ⟨hv1, hv2⟩ := hv b _ 0 hb (tpos_lt e mask i hi) Nat.one_pos
  have hlen : (chanSlice e c mask (cParams e mask B net x) b i).length = c.K := by rw [condSlice_length, LinTails.mult_lin hk]
  rw [← hlen] at hkK h0 h1
  exact lin_elLawAt e c hk ht _ hv1 hv2 hbl k hkK _ h0 h1

/-- **C01, bounded piecewise-LINEAR coupling layer, INVERSE pass**: every transformed entry of row `b` strictly inside an
    OUTPUT bin (`yk k < y_i < yk (k+1)`) of its own spline; the returned `ld[b]` is `log |det|` of the Fréchet derivative of
    the executed inverse row map -/
theorem coupling_linear_inverse_logdet_is_jacobian (hk : c.kind = "lin") (ht : c.tails = false)
    (hbl : e (boxLog (linBoxOf c)) = Real.log ((e (linBoxOf c).top - e (linBoxOf c).bottom)
      / (e (linBoxOf c).right - e (linBoxOf c).left)))
    (hx : x.size = B * mask.length) {b : Nat} (hb : b < B)
    (hv : LinTails.LinParamsValid e c (nT e mask) 1 (cParams e mask B net x) B)
    (hbin : ∀ i, isT (NF.realX e) mask i = true → ∃ k, k < c.K ∧
      LinWhole.yk e (linBoxOf c) (chanSlice e c mask (cParams e mask B net x) b i) k < rowOf (NF.realX e) mask.length b x i ∧
      rowOf (NF.realX e) mask.length b x i < LinWhole.yk e (linBoxOf c) (chanSlice e c mask (cParams e mask B net x) b i) (k + 1))
    {L : (Fin mask.length → ℝ) →L[ℝ] (Fin mask.length → ℝ)}
    (hL : HasFDerivAt (couplingRowMap e c mask B net true x b) L (rowOf (NF.realX e) mask.length b x)) :
    (couplingRun (NF.realX e) c mask B net true x).ld[b]?
      = some (Real.log |LinearMap.det (L : (Fin mask.length → ℝ) →ₗ[ℝ] (Fin mask.length → ℝ))|) := by
  refine coupling_logdet_of_elLawAt e c mask B net x hk (by decide) (by decide) true hx hb hL fun i hi => ?_
  obtain ⟨k, hkK, h0, h1⟩ := hbin i hi
  have hlen : (chanSlice e c mask (cParams e mask B net x) b i).length = c.K := by rw [condSlice_length, LinTails.mult_lin hk]
  exact lin_inv_elLawAt e c hk ht _ (hv b _ 0 hb (tpos_lt e mask i hi) Nat.one_pos).1 hbl k (hlen ▸ hkK) _ h0 h1

end coupling

/-! ## 3. The executed AUTOREGRESSIVE layer (forward pass): the general theorem

Same statement as `ARWhole.ar_rq_row_logdet`: an autoregressive conditioner (`AutoregNet`), row `b`, Fréchet
differentiability of the row map as a hypothesis. -/

section ar
variable (e : Float → ℝ) (c : ElCfg) (B F : Nat) (net : Array ℝ → Array ℝ) (x : Array ℝ)

theorem pw_quad {c : ElCfg} (hk : c.kind = "quad") (ht : c.tails = false) : pw c = 2 * c.K + 1 := by
  simp [pw, ElCfg.mult, hk, ht]

theorem pw_lin {c : ElCfg} (hk : c.kind = "lin") : pw c = c.K := by
  simp [pw, ElCfg.mult, hk]

theorem pw_quad_tails {c : ElCfg} (hk : c.kind = "quad") (ht : c.tails = true) : pw c = 2 * c.K - 1 := by
  simp [pw, ElCfg.mult, hk, ht]

/-- **C01 for the autoregressive layer of any spline family**: `ARWhole.ar_row_logdet` with the per-element hypothesis
    stated as `ElLawAt` of the dispatcher on the slice of every feature; `m` is the family's parameter count -/
theorem ar_logdet_of_elLawAt {m : Nat} (hm : pw c = m) (hnet : AutoregNet B F m net) (hx : x.size = B * F) {b : Nat}
    (hb : b < B) {L : (Fin F → ℝ) →L[ℝ] (Fin F → ℝ)}
    (hL : HasFDerivAt (rowMap e c B F net x b) L (fun i => x.getD (b * F + i.1) 0))
    (h : ∀ i : Fin F, ElLawAt (elTransform (NF.realX e) c false (arSlice (NF.realX e) c F (net x) b i))
      (x.getD (b * F + i.1) 0)) :
    (arForward (NF.realX e) c B F net x).ld[b]?
      = some (Real.log |LinearMap.det (L : (Fin F → ℝ) →ₗ[ℝ] (Fin F → ℝ))|) :=
  ar_row_logdet e c B F net x (hm ▸ hnet) hx hb hL fun i => arEl_law e c F x (net x) b i (h i)

end ar

/-! ## 4. The families with LINEAR TAILS (`tails='linear'`): the element never raises, identity outside `[-B, B]`

The law holds in the tails (derivative `1 = exp 0`) and inside the box as for the bounded families; it FAILS in general at
the two junctions `±B` for all three families (`TailsWhole.quad_tails_not_differentiable_left`,
`LinTails.lin_tails_not_differentiable_left`; the cubic end derivatives are free parameters), and at the interior knots of
the linear spline; the position hypotheses below exclude those points (and, for the quadratic spline, its interior knots as
well, where the law does hold). -/

section tailsEl
open TailsWhole

/-- where the quadratic-with-tails element with widths `uw` obeys the law: in a tail or strictly inside a bin -/
def QuadTailsPos (e : Float → ℝ) (c : ElCfg) (uw : List ℝ) (x : ℝ) : Prop :=
  (x < -e (c.ds.getD 0 0.0) ∨ e (c.ds.getD 0 0.0) < x) ∨
  ∃ k, k < uw.length ∧ QuadWhole.xk e (quadCfgOfT c) uw k < x ∧ x < QuadWhole.xk e (quadCfgOfT c) uw (k + 1)

/-- **quadratic element with linear tails, forward**: in the tails and strictly inside every bin -/
theorem quad_tails_elLawAt (e : Float → ℝ) (c : ElCfg) (hk : c.kind = "quad") (ht : c.tails = true) (p : List ℝ)
    (hv : QuadWhole.QuadValidT e (quadCfgOfT c) (quadW (NF.realX e) c p) (quadH (NF.realX e) c p))
    (hneg : e (-(c.ds.getD 0 0.0)) = - e (c.ds.getD 0 0.0)) (hbl0 : e (boxLog (tbox (c.ds.getD 0 0.0))) = 0)
    (x : ℝ) (hpos : QuadTailsPos e c (quadW (NF.realX e) c p) x) :
    ElLawAt (elTransform (NF.realX e) c false p) x := by
  refine .of_prog (StructureExec.elTransform_quad_tails _ c hk ht false p) Filter.univ_mem
    (fun s _ => ⟨_, wrap_total (quad_wrapPair hv hneg).valid s⟩) ?_
  rcases hpos with ho | ⟨k, hkK, h0, h1⟩
  · exact wrap_hasDerivAt_outside x ho
  · exact quad_hasDerivAt_bin hv hneg hbl0 k hkK x h0 h1

/-- **cubic element with linear tails, forward**: at every real except the two junctions `±B` -/
theorem cubic_tails_elLawAt (e : Float → ℝ) (c : ElCfg) (hk : c.kind = "cubic") (ht : c.tails = true) (p : List ℝ)
    (hv : CubicLayers.SliceValid e c (CubicLayers.cubicCfgOfT c) p)
    (hneg : e (-(c.ds.getD 0 0.0)) = - e (c.ds.getD 0 0.0)) (hbl0 : e (boxLog (tbox (c.ds.getD 0 0.0))) = 0)
    (x : ℝ) (hxl : x ≠ -e (c.ds.getD 0 0.0)) (hxr : x ≠ e (c.ds.getD 0 0.0)) :
    ElLawAt (elTransform (NF.realX e) c false p) x :=
  ⟨CubicLayers.elV e c p, CubicLayers.elL e c p,
    Filter.Eventually.of_forall (fun s => ⟨[], (CubicLayers.cubic_tails_el_total hk ht p hv hneg s).1⟩),
    cubic_hasDerivAt hv hneg hbl0 x hxl hxr⟩

/-- where the linear-with-tails element with `K` bins obeys the law: in a tail or strictly inside a bin -/
def LinTailsPos (e : Float → ℝ) (c : ElCfg) (K : ℕ) (x : ℝ) : Prop :=
  (x < -e (c.ds.getD 0 0.0) ∨ e (c.ds.getD 0 0.0) < x) ∨
  ∃ k, k < K ∧ LinWhole.xk e (tbox (c.ds.getD 0 0.0)) K k < x ∧ x < LinWhole.xk e (tbox (c.ds.getD 0 0.0)) K (k + 1)

/-- **linear element with linear tails, forward**: in the tails and strictly inside every bin -/
theorem lin_tails_elLawAt (e : Float → ℝ) (c : ElCfg) (hk : c.kind = "lin") (ht : c.tails = true) (p : List ℝ)
    (hv : LinWhole.LinValid e (tbox (c.ds.getD 0 0.0)) 1e-6 p)
    (hlogK : e (Float.log (1.0 / p.length.toFloat)) = Real.log (1 / (p.length : ℝ)))
    (hneg : e (-(c.ds.getD 0 0.0)) = - e (c.ds.getD 0 0.0)) (hbl0 : e (boxLog (tbox (c.ds.getD 0 0.0))) = 0)
    (x : ℝ) (hpos : LinTailsPos e c p.length x) :
    ElLawAt (elTransform (NF.realX e) c false p) x := by
  refine .of_prog (LinTails.elTransform_lin_tails _ c hk ht false p) Filter.univ_mem
    (fun s _ => ⟨_, wrap_total (LinTails.lin_wrapPair hv hneg).valid s⟩) ?_
  rcases hpos with ho | ⟨k, hkK, h0, h1⟩
  · exact wrap_hasDerivAt_outside x ho
  · exact LinTails.lin_tails_hasDerivAt_bin hv hneg hlogK hbl0 k hkK x h0 h1

end tailsEl

/-! ## 5. Non-vacuity: the hypothesis bundles of the families' layer theorems (`Properties/C01L.lean`) are satisfiable

Unit box, the two-valued reading `eNV` (`0.0 ↦ 0`, every other double `↦ 1`) of the `*Whole` files and their
`valid_example`s.  `Float.log` is opaque to the kernel, so — exactly as `QuadWhole.boxLog_example`,
`CubicWhole.hbl_example`, `LinWhole.logs_example` — the readings of the `np.log` constants are granted as `Float`
equalities an evaluator confirms (`hlog : boxLog ⟨0,1,0,1⟩ == 0.0`, `hlogK : Float.log (1.0/1.0) == 0.0`).  What is left in
each example is a hypothesis on the DATA only: the transformed entries of the row lie in `(0, 1)` (one bin: strictly
inside the bin; cubic: two bins, the interior knot allowed) and the row map is Fréchet differentiable. -/

section witness

private theorem w00 : ((0.0:Float) == 0.0) = true := FloatFacts.zero_beq_zero

/-- bounded cubic coupling configuration: two bins on the unit box, the default `eps`, `thr` -/
def cCu : ElCfg := { container := "coupling", kind := "cubic", K := 2, ds := #[0.0, 1.0, 0.0, 1.0, 0.0, 0.0, 1e-5, 1e-3] }
/-- bounded linear coupling configuration: one bin on the unit box -/
def cLi : ElCfg := { container := "coupling", kind := "lin", K := 1, ds := #[0.0, 1.0, 0.0, 1.0] }

theorem cubicCfgOf_cCu : CubicLayers.cubicCfgOf cCu = CubicWhole.cNV := rfl
theorem linBoxOf_cLi : linBoxOf cLi = ⟨0.0, 1.0, 0.0, 1.0⟩ := rfl

theorem quad_slice_example (mask : List ℝ) (B : Nat) (x : Array ℝ) (b : Nat) (i : Fin mask.length) :
    chanSlice QuadWhole.eNV cQ mask (cParams QuadWhole.eNV mask B (fun _ => #[]) x) b i = [0, 0, 0] := by
  have hm : cQ.mult = 3 := by decide
  unfold chanSlice cParams
  rw [hm]
  simp [condSlice, List.range_succ]

theorem quad_parts_example :
    quadW (NF.realX QuadWhole.eNV) cQ [0, 0, 0] = [0] ∧ quadH (NF.realX QuadWhole.eNV) cQ [0, 0, 0] = [0, 0] :=
  ⟨by simp [quadW, quadScale, cQ], by simp [quadH, quadScale, cQ]⟩

/-- `(0, 1)` is the one bin of the quadratic witness `cQ` on the zero slice -/
theorem quad_bin_example {s : ℝ} (h0 : 0 < s) (h1 : s < 1) :
    ∃ k, k < (quadW (NF.realX QuadWhole.eNV) cQ [0, 0, 0]).length ∧
      QuadWhole.xk QuadWhole.eNV (quadCfgOf cQ) (quadW (NF.realX QuadWhole.eNV) cQ [0, 0, 0]) k < s ∧
      s < QuadWhole.xk QuadWhole.eNV (quadCfgOf cQ) (quadW (NF.realX QuadWhole.eNV) cQ [0, 0, 0]) (k + 1) := by
  obtain ⟨f0, fK, _⟩ := QuadWhole.xk_facts QuadWhole.valid_example
  have e0 : QuadWhole.eNV QuadWhole.cNV.box.left = 0 := if_pos w00
  have e1 : QuadWhole.eNV QuadWhole.cNV.box.right = 1 := QuadWhole.eNV_of_ne FloatFacts.one_beq_zero
  rw [quad_parts_example.1, show quadCfgOf cQ = QuadWhole.cNV from rfl]
  refine ⟨0, Nat.one_pos, by rw [f0, e0]; exact h0, ?_⟩
  rw [show QuadWhole.xk QuadWhole.eNV QuadWhole.cNV [0] (0 + 1) = 1 from fK.trans e1]
  exact h1

/-- `(0, 1)` is the one input bin of the linear witness `cLi` -/
theorem lin_bin_example {s : ℝ} (h0 : 0 < s) (h1 : s < 1) :
    ∃ k, k < cLi.K ∧ LinWhole.xk RQWhole.eNV (linBoxOf cLi) cLi.K k < s ∧
      s < LinWhole.xk RQWhole.eNV (linBoxOf cLi) cLi.K (k + 1) := by
  have hx0 : LinWhole.xk RQWhole.eNV (linBoxOf cLi) cLi.K 0 = 0 := by
    rw [linBoxOf_cLi, show cLi.K = 1 from rfl]
    simp [LinWhole.xk, LinWhole.kn, RQWhole.eNV_zero]
  have hx1 : LinWhole.xk RQWhole.eNV (linBoxOf cLi) cLi.K (0 + 1) = 1 := by
    rw [linBoxOf_cLi, show cLi.K = 1 from rfl]
    simp [LinWhole.xk, LinWhole.kn, RQWhole.eNV_zero, RQWhole.eNV_of_ne FloatFacts.one_beq_zero]
  exact ⟨0, by decide, hx0 ▸ h0, hx1 ▸ h1⟩

/-- … and the one output bin, for every accepted one-entry slice -/
theorem lin_ybin_example {p : List ℝ} (hv : LinWhole.LinValid RQWhole.eNV (linBoxOf cLi) 1e-6 p) (hlen : p.length = 1)
    {s : ℝ} (h0 : 0 < s) (h1 : s < 1) :
    ∃ k, k < cLi.K ∧ LinWhole.yk RQWhole.eNV (linBoxOf cLi) p k < s ∧
      s < LinWhole.yk RQWhole.eNV (linBoxOf cLi) p (k + 1) := by
  have hy0 := (LinWhole.searched hv).y0
  have hyK := (LinWhole.searched hv).yK
  rw [hlen] at hyK
  have e0 : RQWhole.eNV (linBoxOf cLi).bottom = 0 := if_pos w00
  have e1 : RQWhole.eNV (linBoxOf cLi).top = 1 := RQWhole.eNV_of_ne FloatFacts.one_beq_zero
  exact ⟨0, by decide, by rw [hy0, e0]; exact h0, by rw [hyK, e1]; exact h1⟩

/-- quadratic coupling: `StructureExec.cQ` (one bin), conditioner returning the empty array (every read is 0) -/
example (hlog : (boxLog QuadWhole.cNV.box == 0.0) = true) (mask : List ℝ) (B : Nat) (x : Array ℝ)
    (hx : x.size = B * mask.length) {b : Nat} (hb : b < B)
    (hin : ∀ i, isT (NF.realX QuadWhole.eNV) mask i = true →
      0 < rowOf (NF.realX QuadWhole.eNV) mask.length b x i ∧ rowOf (NF.realX QuadWhole.eNV) mask.length b x i < 1)
    {L : (Fin mask.length → ℝ) →L[ℝ] (Fin mask.length → ℝ)}
    (hL : HasFDerivAt (couplingRowMap QuadWhole.eNV cQ mask B (fun _ => #[]) false x b) L
      (rowOf (NF.realX QuadWhole.eNV) mask.length b x)) :
    (couplingRun (NF.realX QuadWhole.eNV) cQ mask B (fun _ => #[]) false x).ld[b]?
      = some (Real.log |LinearMap.det (L : (Fin mask.length → ℝ) →ₗ[ℝ] (Fin mask.length → ℝ))|) := by
  refine coupling_logdet_of_elLawAt QuadWhole.eNV cQ mask B (fun _ => #[]) x (rfl : cQ.kind = "quad") (by decide) (by decide)
    false hx hb hL fun i hi => ?_
  rw [quad_slice_example]
  obtain ⟨k, hkK, h0, h1⟩ := quad_bin_example (hin i hi).1 (hin i hi).2
  exact quad_elLawAt QuadWhole.eNV cQ rfl rfl _ (by rw [quad_parts_example.1, quad_parts_example.2]; exact QuadWhole.valid_example)
    (QuadWhole.boxLog_example hlog) k hkK _ h0 h1

/-- cubic coupling: two bins, ANY conditioner -/
example (hlog : (boxLog CubicWhole.cNV.box == 0.0) = true) (mask : List ℝ) (B : Nat) (net : Array ℝ → Array ℝ)
    (x : Array ℝ) (hx : x.size = B * mask.length) {b : Nat} (hb : b < B)
    (hin : ∀ i, isT (NF.realX CubicWhole.eNV) mask i = true →
      0 < rowOf (NF.realX CubicWhole.eNV) mask.length b x i ∧ rowOf (NF.realX CubicWhole.eNV) mask.length b x i < 1)
    {L : (Fin mask.length → ℝ) →L[ℝ] (Fin mask.length → ℝ)}
    (hL : HasFDerivAt (couplingRowMap CubicWhole.eNV cCu mask B net false x b) L
      (rowOf (NF.realX CubicWhole.eNV) mask.length b x)) :
    (couplingRun (NF.realX CubicWhole.eNV) cCu mask B net false x).ld[b]?
      = some (Real.log |LinearMap.det (L : (Fin mask.length → ℝ) →ₗ[ℝ] (Fin mask.length → ℝ))|) := by
  have e0 : CubicWhole.eNV CubicWhole.cNV.box.left = 0 := if_pos w00
  have e1 : CubicWhole.eNV CubicWhole.cNV.box.right = 1 := CubicWhole.eNV_of_ne FloatFacts.one_beq_zero
  exact coupling_logdet_of_elLawAt CubicWhole.eNV cCu mask B net x (rfl : cCu.kind = "cubic") (by decide) (by decide)
    false hx hb hL fun i hi =>
      cubic_elLawAt CubicWhole.eNV cCu rfl rfl _
        (CubicLayers.sliceValid_of_length CubicWhole.valid_example _
          (by rw [condSlice_length, CubicLayers.mult_cubic rfl]))
        (CubicWhole.hbl_example hlog) _ (by rw [cubicCfgOf_cCu, e0]; exact (hin i hi).1)
        (by rw [cubicCfgOf_cCu, e1]; exact (hin i hi).2)

/-- the bundle of the linear family at `cLi`: every slice accepted, both `np.log` constants read exactly -/
theorem lin_bundle_example (h1 : (Float.log (1.0 / (1:ℕ).toFloat) == 0.0) = true)
    (h2 : (boxLog ⟨0.0, 1.0, 0.0, 1.0⟩ == 0.0) = true) (Ft S : Nat) (params : Array ℝ) (B : Nat) :
    LinTails.LinParamsValid RQWhole.eNV cLi Ft S params B ∧
    RQWhole.eNV (boxLog (linBoxOf cLi)) = Real.log ((RQWhole.eNV (linBoxOf cLi).top - RQWhole.eNV (linBoxOf cLi).bottom)
      / (RQWhole.eNV (linBoxOf cLi).right - RQWhole.eNV (linBoxOf cLi).left)) := by
  have hm : cLi.mult = 1 := by decide
  refine ⟨fun b t s _ _ _ => ?_, (LinWhole.logs_example h1 h2).2⟩
  have hlen : (condSlice (NF.realX RQWhole.eNV) cLi.mult Ft S params b t s).length = 1 := by
    rw [condSlice_length, hm]
  refine ⟨LinWhole.valid_unit_box _ (List.ne_nil_of_length_pos (by rw [hlen]; exact Nat.one_pos)), ?_⟩
  rw [hlen]
  exact (LinWhole.logs_example h1 h2).1

/-- linear coupling: one bin, ANY conditioner -/
example (h1 : (Float.log (1.0 / (1:ℕ).toFloat) == 0.0) = true) (h2 : (boxLog ⟨0.0, 1.0, 0.0, 1.0⟩ == 0.0) = true)
    (mask : List ℝ) (B : Nat) (net : Array ℝ → Array ℝ)
    (x : Array ℝ) (hx : x.size = B * mask.length) {b : Nat} (hb : b < B)
    (hin : ∀ i, isT (NF.realX RQWhole.eNV) mask i = true →
      0 < rowOf (NF.realX RQWhole.eNV) mask.length b x i ∧ rowOf (NF.realX RQWhole.eNV) mask.length b x i < 1)
    {L : (Fin mask.length → ℝ) →L[ℝ] (Fin mask.length → ℝ)}
    (hL : HasFDerivAt (couplingRowMap RQWhole.eNV cLi mask B net false x b) L
      (rowOf (NF.realX RQWhole.eNV) mask.length b x)) :
    (couplingRun (NF.realX RQWhole.eNV) cLi mask B net false x).ld[b]?
      = some (Real.log |LinearMap.det (L : (Fin mask.length → ℝ) →ₗ[ℝ] (Fin mask.length → ℝ))|) := by
  obtain ⟨hv, hbl⟩ := lin_bundle_example h1 h2 (nT RQWhole.eNV mask) 1 (cParams RQWhole.eNV mask B net x) B
  exact coupling_linear_logdet_is_jacobian RQWhole.eNV cLi mask B net x rfl rfl hbl hx hb hv
    (fun i hi => lin_bin_example (hin i hi).1 (hin i hi).2) hL

/-- quadratic autoregressive layer: one bin, conditioner returning the empty array -/
example (hlog : (boxLog QuadWhole.cNV.box == 0.0) = true) (B F : Nat) (x : Array ℝ) (hx : x.size = B * F)
    {b : Nat} (hb : b < B) (hin : ∀ i : Fin F, 0 < x.getD (b * F + i.1) 0 ∧ x.getD (b * F + i.1) 0 < 1)
    {L : (Fin F → ℝ) →L[ℝ] (Fin F → ℝ)}
    (hL : HasFDerivAt (rowMap QuadWhole.eNV cQ B F (fun _ => #[]) x b) L (fun i => x.getD (b * F + i.1) 0)) :
    (arForward (NF.realX QuadWhole.eNV) cQ B F (fun _ => #[]) x).ld[b]?
      = some (Real.log |LinearMap.det (L : (Fin F → ℝ) →ₗ[ℝ] (Fin F → ℝ))|) := by
  have hs : ∀ i : Fin F, arSlice (NF.realX QuadWhole.eNV) cQ F #[] b i = [0, 0, 0] := by
    intro i
    have hm : pw cQ = 3 := by decide
    unfold arSlice
    rw [hm]
    simp [List.range_succ]
  refine ar_logdet_of_elLawAt QuadWhole.eNV cQ B F (fun _ => #[]) x (pw_quad rfl rfl)
    (fun _ _ _ _ _ _ _ _ _ _ _ => rfl) hx hb hL fun i => ?_
  rw [hs i]
  obtain ⟨k, hkK, h0, h1⟩ := quad_bin_example (hin i).1 (hin i).2
  exact quad_elLawAt QuadWhole.eNV cQ rfl rfl _ (by rw [quad_parts_example.1, quad_parts_example.2]; exact QuadWhole.valid_example)
    (QuadWhole.boxLog_example hlog) k hkK _ h0 h1

/-- cubic autoregressive layer: two bins, ANY autoregressive conditioner -/
example (hlog : (boxLog CubicWhole.cNV.box == 0.0) = true) (B F : Nat) (net : Array ℝ → Array ℝ) (x : Array ℝ)
    (hnet : AutoregNet B F 6 net) (hx : x.size = B * F)
    {b : Nat} (hb : b < B) (hin : ∀ i : Fin F, 0 < x.getD (b * F + i.1) 0 ∧ x.getD (b * F + i.1) 0 < 1)
    {L : (Fin F → ℝ) →L[ℝ] (Fin F → ℝ)}
    (hL : HasFDerivAt (rowMap CubicWhole.eNV cCu B F net x b) L (fun i => x.getD (b * F + i.1) 0)) :
    (arForward (NF.realX CubicWhole.eNV) cCu B F net x).ld[b]?
      = some (Real.log |LinearMap.det (L : (Fin F → ℝ) →ₗ[ℝ] (Fin F → ℝ))|) := by
  have e0 : CubicWhole.eNV CubicWhole.cNV.box.left = 0 := if_pos w00
  have e1 : CubicWhole.eNV CubicWhole.cNV.box.right = 1 := CubicWhole.eNV_of_ne FloatFacts.one_beq_zero
  exact ar_logdet_of_elLawAt CubicWhole.eNV cCu B F net x (CubicLayers.pw_cubic rfl) hnet hx hb hL fun i =>
    cubic_elLawAt CubicWhole.eNV cCu rfl rfl _
      (CubicLayers.sliceValid_of_length CubicWhole.valid_example _
        (by rw [arSlice_length, CubicLayers.pw_cubic rfl]))
      (CubicWhole.hbl_example hlog) _ (by rw [cubicCfgOf_cCu, e0]; exact (hin i).1)
      (by rw [cubicCfgOf_cCu, e1]; exact (hin i).2)

/-- linear autoregressive layer: one bin, ANY autoregressive conditioner -/
example (h1 : (Float.log (1.0 / (1:ℕ).toFloat) == 0.0) = true) (h2 : (boxLog ⟨0.0, 1.0, 0.0, 1.0⟩ == 0.0) = true)
    (B F : Nat) (net : Array ℝ → Array ℝ) (x : Array ℝ) (hnet : AutoregNet B F 1 net) (hx : x.size = B * F)
    {b : Nat} (hb : b < B) (hin : ∀ i : Fin F, 0 < x.getD (b * F + i.1) 0 ∧ x.getD (b * F + i.1) 0 < 1)
    {L : (Fin F → ℝ) →L[ℝ] (Fin F → ℝ)}
    (hL : HasFDerivAt (rowMap RQWhole.eNV cLi B F net x b) L (fun i => x.getD (b * F + i.1) 0)) :
    (arForward (NF.realX RQWhole.eNV) cLi B F net x).ld[b]?
      = some (Real.log |LinearMap.det (L : (Fin F → ℝ) →ₗ[ℝ] (Fin F → ℝ))|) := by
  refine ar_logdet_of_elLawAt RQWhole.eNV cLi B F net x (pw_lin rfl) hnet hx hb hL fun i => ?_
  obtain ⟨k, hkK, hk0, hk1⟩ := lin_bin_example (hin i).1 (hin i).2
  have hlen : (arSlice (NF.realX RQWhole.eNV) cLi F (net x) b i).length = 1 := by rw [arSlice_length, pw_lin rfl]; rfl
  exact lin_elLawAt RQWhole.eNV cLi rfl rfl _
    (LinWhole.valid_unit_box _ (List.ne_nil_of_length_pos (by rw [hlen]; exact Nat.one_pos)))
    (by rw [hlen]; exact (LinWhole.logs_example h1 h2).1) (LinWhole.logs_example h1 h2).2 k (by rw [hlen]; exact hkK) _
    (by rw [hlen]; exact hk0) (by rw [hlen]; exact hk1)

/-! ### the tails families (tail bound `1.0`): the bundles at the witnesses of `StructureExecQuad` (`eTT`, `cQT`),
`CubicLayers` (`eT`, `cCT`) and `LinTails` (`eTT`, every non-empty slice); `hlog0 : boxLog ⟨-1,1,-1,1⟩ == 0.0` is the one
opaque `Float.log` fact.  Data hypotheses left: the transformed entries lie in the right tail (quadratic, linear) / off
`±1` (cubic). -/

theorem eTT_zero_of {f : Float} (h : (f == 0.0) = true) : eTT f = 0 := by unfold eTT; rw [if_pos h]
theorem eTT_one : eTT 1.0 = 1 := eTT_1

/-- quadratic coupling with tails: two bins, conditioner returning the empty array, entries in the right tail -/
example (hlog0 : (boxLog (TailsWhole.tbox 1.0) == 0.0) = true) (mask : List ℝ) (B : Nat) (x : Array ℝ)
    (hx : x.size = B * mask.length) {b : Nat} (hb : b < B)
    (hin : ∀ i, isT (NF.realX eTT) mask i = true → 1 < rowOf (NF.realX eTT) mask.length b x i)
    {L : (Fin mask.length → ℝ) →L[ℝ] (Fin mask.length → ℝ)}
    (hL : HasFDerivAt (couplingRowMap eTT cQT mask B (fun _ => #[]) false x b) L (rowOf (NF.realX eTT) mask.length b x)) :
    (couplingRun (NF.realX eTT) cQT mask B (fun _ => #[]) false x).ld[b]?
      = some (Real.log |LinearMap.det (L : (Fin mask.length → ℝ) →ₗ[ℝ] (Fin mask.length → ℝ))|) :=
  coupling_logdet_of_elLawAt eTT cQT mask B (fun _ => #[]) x (rfl : cQT.kind = "quad") (by decide) (by decide) false hx hb hL
    fun i hi => quad_tails_elLawAt eTT cQT rfl rfl _
      (quadTailsParamsValid_example _ 1 B b _ 0 hb (tpos_lt eTT mask i hi) Nat.one_pos) hneg_example (eTT_zero_of hlog0) _
      (Or.inl (Or.inr (by rw [show cQT.ds.getD 0 0.0 = 1.0 from rfl, eTT_one]; exact hin i hi)))

/-- cubic coupling with tails: two bins, ANY conditioner, entries off the junctions -/
example (hlog0 : (boxLog (TailsWhole.tbox 1.0) == 0.0) = true) (mask : List ℝ) (B : Nat) (net : Array ℝ → Array ℝ)
    (x : Array ℝ) (hx : x.size = B * mask.length) {b : Nat} (hb : b < B)
    (hin : ∀ i, isT (NF.realX CubicLayers.eT) mask i = true →
      rowOf (NF.realX CubicLayers.eT) mask.length b x i ≠ -CubicLayers.eT 1.0 ∧
      rowOf (NF.realX CubicLayers.eT) mask.length b x i ≠ CubicLayers.eT 1.0)
    {L : (Fin mask.length → ℝ) →L[ℝ] (Fin mask.length → ℝ)}
    (hL : HasFDerivAt (couplingRowMap CubicLayers.eT CubicLayers.cCT mask B net false x b) L
      (rowOf (NF.realX CubicLayers.eT) mask.length b x)) :
    (couplingRun (NF.realX CubicLayers.eT) CubicLayers.cCT mask B net false x).ld[b]?
      = some (Real.log |LinearMap.det (L : (Fin mask.length → ℝ) →ₗ[ℝ] (Fin mask.length → ℝ))|) := by
  have h0 : CubicLayers.eT (boxLog (TailsWhole.tbox 1.0)) = 0 := by
    unfold CubicLayers.eT CubicLayers.codeT; rw [if_pos hlog0]; rfl
  exact coupling_logdet_of_elLawAt CubicLayers.eT CubicLayers.cCT mask B net x (rfl : CubicLayers.cCT.kind = "cubic")
    (by decide) (by decide) false hx hb hL fun i hi =>
      cubic_tails_elLawAt CubicLayers.eT CubicLayers.cCT rfl rfl _
        (CubicLayers.sliceValid_of_length CubicLayers.valid_exampleT _
          (by rw [condSlice_length, CubicLayers.mult_cubic rfl]))
        CubicLayers.eT_neg h0 _ (hin i hi).1 (hin i hi).2

/-- linear configuration with tails: one bin, tail bound 1 -/
def cLT : ElCfg := { kind := "lin", tails := true, K := 1, ds := #[1.0] }
theorem cLT_neg : eTT (-(cLT.ds.getD 0 0.0)) = - eTT (cLT.ds.getD 0 0.0) := eTT_neg

/-- linear coupling with tails: one bin, ANY conditioner, entries in the right tail -/
example (h1 : (Float.log (1.0 / (1:ℕ).toFloat) == 0.0) = true) (hlog0 : (boxLog (TailsWhole.tbox 1.0) == 0.0) = true)
    (mask : List ℝ) (B : Nat) (net : Array ℝ → Array ℝ) (x : Array ℝ) (hx : x.size = B * mask.length) {b : Nat} (hb : b < B)
    (hin : ∀ i, isT (NF.realX eTT) mask i = true → 1 < rowOf (NF.realX eTT) mask.length b x i)
    {L : (Fin mask.length → ℝ) →L[ℝ] (Fin mask.length → ℝ)}
    (hL : HasFDerivAt (couplingRowMap eTT cLT mask B net false x b) L
      (rowOf (NF.realX eTT) mask.length b x)) :
    (couplingRun (NF.realX eTT) cLT mask B net false x).ld[b]?
      = some (Real.log |LinearMap.det (L : (Fin mask.length → ℝ) →ₗ[ℝ] (Fin mask.length → ℝ))|) := by
  refine coupling_logdet_of_elLawAt eTT cLT mask B net x (rfl : cLT.kind = "lin") (by decide) (by decide) false hx hb hL
    fun i hi => ?_
  have hlen : (chanSlice eTT cLT mask (cParams eTT mask B net x) b i).length = 1 := by
    rw [condSlice_length]; decide
  refine lin_tails_elLawAt eTT cLT rfl rfl _
    (LinTails.valid_tails_box _ (List.ne_nil_of_length_pos (by rw [hlen]; exact Nat.one_pos))) ?_ cLT_neg
    (eTT_zero_of hlog0) _ (Or.inl (Or.inr (by
      rw [show (cLT.ds.getD 0 0.0) = 1.0 from rfl, eTT_one]
      exact hin i hi)))
  rw [hlen]
  have : eTT (Float.log (1.0 / (1:ℕ).toFloat)) = 0 := eTT_zero_of h1
  rw [this]; simp

/-- linear coupling, INVERSE pass: one bin, ANY conditioner, entries in `(0, 1)` -/
example (h1 : (Float.log (1.0 / (1:ℕ).toFloat) == 0.0) = true) (h2 : (boxLog ⟨0.0, 1.0, 0.0, 1.0⟩ == 0.0) = true)
    (mask : List ℝ) (B : Nat) (net : Array ℝ → Array ℝ)
    (x : Array ℝ) (hx : x.size = B * mask.length) {b : Nat} (hb : b < B)
    (hin : ∀ i, isT (NF.realX RQWhole.eNV) mask i = true →
      0 < rowOf (NF.realX RQWhole.eNV) mask.length b x i ∧ rowOf (NF.realX RQWhole.eNV) mask.length b x i < 1)
    {L : (Fin mask.length → ℝ) →L[ℝ] (Fin mask.length → ℝ)}
    (hL : HasFDerivAt (couplingRowMap RQWhole.eNV cLi mask B net true x b) L
      (rowOf (NF.realX RQWhole.eNV) mask.length b x)) :
    (couplingRun (NF.realX RQWhole.eNV) cLi mask B net true x).ld[b]?
      = some (Real.log |LinearMap.det (L : (Fin mask.length → ℝ) →ₗ[ℝ] (Fin mask.length → ℝ))|) := by
  obtain ⟨hv, hbl⟩ := lin_bundle_example h1 h2 (nT RQWhole.eNV mask) 1 (cParams RQWhole.eNV mask B net x) B
  exact coupling_linear_inverse_logdet_is_jacobian RQWhole.eNV cLi mask B net x rfl rfl hbl hx hb hv
    (fun i hi => lin_ybin_example (hv b _ 0 hb (tpos_lt RQWhole.eNV mask i hi) Nat.one_pos).1
      (by rw [condSlice_length]; decide) (hin i hi).1 (hin i hi).2) hL

end witness

end NF.LayerDerivMore
