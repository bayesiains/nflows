import NflowsModel.Lemmas.DualXLU
/-!
# Lemmas/DualXOrth — the EXECUTED Householder / QR / SVD / 1×1-convolution programs run on dual numbers (C16)

The relation `DL` and the form of headline of `Lemmas/DualXLU.lean`, for the list programs of `Core/LinearFamily.lean` that file
does not treat.  Side conditions: every q-vector has a non-zero entry at the primal point (the program divides by
`dot q q`; forced: `hh_forward_not_differentiable_at_zero_q`) and, for `SVDLinear`, the softplus threshold `≠ 20`.
-/
open NF DualSound DualX Filter Topology

namespace DualXOrth
open DualXLU
noncomputable section

section generic
variable {A B : Type}

theorem DL.reverse {rel : (ℝ → A) → B → Prop} {F : ℝ → List A} {ds : List B} (h : DL rel F ds) :
    DL rel (fun s => (F s).reverse) ds.reverse :=
  DualXLU.DL.reverse h

end generic

variable {e : Float → ℝ} {t : ℝ}

theorem two_dual : IsDual (fun _ => LF.two (Rr e)) t (LF.two (Dd e)) := IsDual.ofRat e 2 1 t
theorem two_R : LF.two (Rr e) = 2 := by show ((2:ℤ):ℝ) / ((1:ℕ):ℝ) = 2; norm_num

theorem sum_R (l : List ℝ) : LF.sum (Rr e) l = l.sum := by
  unfold LF.sum
  rw [zero_R]
  have h : ∀ (l : List ℝ) (a : ℝ), l.foldl (Rr e).add a = a + l.sum := by
    intro l
    induction l with
    | nil => intro a; simp
    | cons x l ih =>
      intro a
      rw [List.foldl_cons, ih, List.sum_cons]
      show a + x + l.sum = a + (x + l.sum)
      ring
  rw [h, zero_add]

/-! ## 1. `HouseholderSequence` -/

def sqNorm {α : Type} (o : Ops α) (q : List α) : α := LF.sum o (q.map (fun a => o.mul a a))

theorem sqNorm_dual {q : ℝ → List ℝ} {dq : List (ℝ × ℝ)} (hq : DV t q dq) :
    IsDual (fun s => sqNorm (Rr e) (q s)) t (sqNorm (Dd e) dq) :=
  sum_dual (DL.map' (fun _ a => (Rr e).mul a a) (fun a => (Dd e).mul a a) hq (fun _ _ _ ha => IsDual.mul e ha ha))

theorem sqNorm_R_ne (l : List ℝ) (h : ∃ a ∈ l, a ≠ 0) : sqNorm (Rr e) l ≠ 0 := by
  unfold sqNorm
  rw [sum_R]
  obtain ⟨a, ha, ha0⟩ := h
  have hnn : ∀ x ∈ l.map (fun a => (Rr e).mul a a), (0:ℝ) ≤ x := by
    intro x hx
    obtain ⟨b, _, rfl⟩ := List.mem_map.mp hx
    exact mul_self_nonneg b
  have hmem : (Rr e).mul a a ∈ l.map (fun a => (Rr e).mul a a) := List.mem_map.mpr ⟨a, ha, rfl⟩
  have hle : (Rr e).mul a a ≤ (l.map (fun a => (Rr e).mul a a)).sum := List.single_le_sum hnn _ hmem
  have hpos : 0 < (Rr e).mul a a := mul_self_pos.mpr ha0
  exact (lt_of_lt_of_le hpos hle).ne'

theorem hhApply_dual {q x : ℝ → List ℝ} {dq dx : List (ℝ × ℝ)} (hq : DV t q dq) (hx : DV t x dx)
    (hne : (sqNorm (Dd e) dq).1 ≠ 0) :
    DV t (fun s => LF.hhApply (Rr e) (q s) (x s)) (LF.hhApply (Dd e) dq dx) := by
  have hsq := sqNorm_dual (e := e) hq
  have htemp := dot_dual (e := e) hx hq
  have hcoef := IsDual.div e (two_dual (e := e) (t := t)) hsq hne
  have hscaled : DV t (fun s => (q s).map (fun a => (Rr e).mul ((Rr e).div (LF.two (Rr e)) (sqNorm (Rr e) (q s))) a))
      (dq.map (fun a => (Dd e).mul ((Dd e).div (LF.two (Dd e)) (sqNorm (Dd e) dq)) a)) :=
    DL.map' (fun s a => (Rr e).mul ((Rr e).div (LF.two (Rr e)) (sqNorm (Rr e) (q s))) a)
      (fun a => (Dd e).mul ((Dd e).div (LF.two (Dd e)) (sqNorm (Dd e) dq)) a) hq
      (fun _ _ _ ha => IsDual.mul e hcoef ha)
  exact DL.zipWith' (fun s xi si => (Rr e).sub xi ((Rr e).mul (LF.dot (Rr e) (x s) (q s)) si))
    (fun xi si => (Dd e).sub xi ((Dd e).mul (LF.dot (Dd e) dx dq) si)) hx hscaled
    (fun _ _ _ _ ha hb => IsDual.sub e ha (IsDual.mul e htemp hb))

theorem hhSeq_dual {qs : ℝ → List (List ℝ)} {dqs : List (List (ℝ × ℝ))} {x : ℝ → List ℝ} {dx : List (ℝ × ℝ)}
    (hqs : DM t qs dqs) (hx : DV t x dx) (hne : ∀ dq ∈ dqs, (sqNorm (Dd e) dq).1 ≠ 0) :
    DV t (fun s => LF.hhSeq (Rr e) (qs s) (x s)) (LF.hhSeq (Dd e) dqs dx) :=
  DL.foldl' (rel₀ := DV t) (fun _ acc q => LF.hhApply (Rr e) q acc) (fun acc q => LF.hhApply (Dd e) q acc)
    (DL.and_mem hqs hne) (fun _ _ _ _ hacc hq => hhApply_dual hq.1 hacc hq.2) hx

theorem hhForward_dual {qs X : ℝ → List (List ℝ)} {dqs dX : List (List (ℝ × ℝ))}
    (hqs : DM t qs dqs) (hX : DM t X dX) (hne : ∀ dq ∈ dqs, (sqNorm (Dd e) dq).1 ≠ 0) :
    DM t (fun s => LF.hhForward (Rr e) (qs s) (X s)) (LF.hhForward (Dd e) dqs dX) :=
  DL.map' (fun s x => LF.hhSeq (Rr e) (qs s) x) (fun x => LF.hhSeq (Dd e) dqs x) hX
    (fun _ _ _ hx => hhSeq_dual hqs hx hne)

theorem hhInverse_dual {qs X : ℝ → List (List ℝ)} {dqs dX : List (List (ℝ × ℝ))}
    (hqs : DM t qs dqs) (hX : DM t X dX) (hne : ∀ dq ∈ dqs, (sqNorm (Dd e) dq).1 ≠ 0) :
    DM t (fun s => LF.hhInverse (Rr e) (qs s) (X s)) (LF.hhInverse (Dd e) dqs dX) :=
  DL.map' (fun s x => LF.hhSeq (Rr e) (qs s).reverse x) (fun x => LF.hhSeq (Dd e) dqs.reverse x) hX
    (fun _ _ _ hx => hhSeq_dual (DL.reverse hqs) hx (fun dq hdq => hne dq (List.mem_reverse.mp hdq)))

def QNonzero (dqs : List (List (ℝ × ℝ))) : Prop := ∀ dq ∈ dqs, ∃ a ∈ dq, a.1 ≠ 0

theorem sqNorm_D_ne {dqs : List (List (ℝ × ℝ))} (h : QNonzero dqs) : ∀ dq ∈ dqs, (sqNorm (Dd e) dq).1 ≠ 0 := by
  intro dq hdq
  rw [(sqNorm_dual (e := e) (lineV_dual dq)).val, lineV_zero]
  obtain ⟨a, ha, ha0⟩ := h dq hdq
  exact sqNorm_R_ne _ ⟨a.1, List.mem_map.mpr ⟨a, ha, rfl⟩, ha0⟩

variable (e)

/-! ### non-vacuity: `n = 2`, two q-vectors, every entry moving -/

def exQ : List (List (ℝ × ℝ)) := [[(1, 1), (0, -1)], [(1/2, 0), (-1, 2)]]
def exX : List (List (ℝ × ℝ)) := [[(1, 1), (2, 0)], [(0, 0), (-1, 1)]]

theorem exQ_nonzero : QNonzero exQ := by
  intro dq hdq
  simp only [exQ, List.mem_cons, List.not_mem_nil, or_false] at hdq
  rcases hdq with rfl | rfl
  · exact ⟨(1, 1), by simp, by norm_num⟩
  · exact ⟨(-1, 2), by simp, by norm_num⟩

example (r c : ℕ) := (hhForward_dual (e := e) (lineM_dual exQ) (lineM_dual exX) (sqNorm_D_ne exQ_nonzero)).line_sound.2 r c
example (r c : ℕ) := (hhInverse_dual (e := e) (lineM_dual exQ) (lineM_dual exX) (sqNorm_D_ne exQ_nonzero)).line_sound.2 r c

/-! ### the q-vector hypothesis is forced -/

theorem zeroq_forward_eq (s : ℝ) :
    ((LF.hhForward (Rr e) (lineM s [[(0, 1)]]) (lineM s [[(1, 0)]])).getD 0 []).getD 0 0 = if s = 0 then 1 else -1 := by
  have h : ((LF.hhForward (Rr e) (lineM s [[(0, 1)]]) (lineM s [[(1, 0)]])).getD 0 []).getD 0 0
      = (1 + s * 0) - (0 + (1 + s * 0) * (0 + s * 1)) * (2 / (0 + (0 + s * 1) * (0 + s * 1)) * (0 + s * 1)) := by
    simp only [LF.hhForward, LF.hhSeq, LF.hhApply, LF.dot, LF.sum, lineM, lineV, DualXLU.line, zero_R, two_R,
      List.map_cons, List.map_nil, List.foldl_cons, List.foldl_nil, List.zipWith_cons_cons, List.zipWith_nil_right,
      List.getD_cons_zero]
    rfl
  rw [h]
  by_cases hs : s = 0
  · simp [hs]
  · have h2 : s * (2 / (s * s) * s) = 2 := by field_simp
    simp only [if_neg hs, mul_zero, add_zero, zero_add, mul_one, one_mul, h2]
    norm_num

/-- **the hypothesis `QNonzero` of `Properties.C16.hh_forward_dual_sound` cannot be dropped**: with a q-vector AT `0` the real
    executed program (which divides by `|q|² = 0`; at the reals `2 / 0 = 0`, in floating point the result is `nan`) is not
    continuous along the direction, so NO number is its derivative -/
theorem hh_forward_not_differentiable_at_zero_q :
    ¬ ∃ d' : ℝ, HasDerivAt
      (fun s => ((LF.hhForward (Rr e) (lineM s [[(0, 1)]]) (lineM s [[(1, 0)]])).getD 0 []).getD 0 0) d' 0 := by
  rintro ⟨d', h⟩
  rw [show (fun s => ((LF.hhForward (Rr e) (lineM s [[(0, 1)]]) (lineM s [[(1, 0)]])).getD 0 []).getD 0 0)
      = fun s : ℝ => if s = 0 then (1:ℝ) else -1 from funext (zeroq_forward_eq e)] at h
  -- the limit at `0` along `s ≠ 0` would be both the value `1` and the constant `-1`
  have h1 : Tendsto (fun s : ℝ => if s = 0 then (1:ℝ) else -1) (𝓝[≠] 0) (𝓝 1) := by
    simpa using h.continuousAt.tendsto.mono_left nhdsWithin_le_nhds
  have h2 : Tendsto (fun s : ℝ => if s = 0 then (1:ℝ) else -1) (𝓝[≠] 0) (𝓝 (-1)) :=
    tendsto_const_nhds.congr' (eventually_nhdsWithin_of_forall fun s hs => (if_neg hs).symm)
  have := tendsto_nhds_unique h1 h2
  norm_num at this

variable {e}

/-! ## 2. `QRLinear` -/

structure QRCurve (t : ℝ) (P : ℝ → LF.QRParams ℝ) (dp : LF.QRParams (ℝ × ℝ)) : Prop where
  n : ∀ s, (P s).n = dp.n
  upper : DV t (fun s => (P s).upper) dp.upper
  logDiag : DV t (fun s => (P s).logDiag) dp.logDiag
  qs : DM t (fun s => (P s).qs) dp.qs
  bias : DV t (fun s => (P s).bias) dp.bias

theorem qrR_dual {P : ℝ → LF.QRParams ℝ} {dp : LF.QRParams (ℝ × ℝ)} (hP : QRCurve t P dp) :
    DM t (fun s => LF.qrR (Rr e) (P s)) (LF.qrR (Dd e) dp) := by
  unfold LF.qrR
  simp only [hP.n]
  exact mkUpper_dual _ hP.upper
    (DL.map' (fun _ => (Rr e).exp) (Dd e).exp hP.logDiag (fun _ _ _ ha => IsDual.exp e ha))

theorem qrForward_dual_curve {P : ℝ → LF.QRParams ℝ} {dp : LF.QRParams (ℝ × ℝ)} {X : ℝ → List (List ℝ)}
    {dX : List (List (ℝ × ℝ))} (hP : QRCurve t P dp) (hX : DM t X dX) (hne : ∀ dq ∈ dp.qs, (sqNorm (Dd e) dq).1 ≠ 0) :
    DM t (fun s => LF.qrForward (Rr e) (P s) (X s)) (LF.qrForward (Dd e) dp dX) := by
  unfold LF.qrForward
  exact DL.map' (fun s y => LF.addV (Rr e) y (P s).bias) (fun y => LF.addV (Dd e) y dp.bias)
    (hhForward_dual hP.qs (linear0_dual (qrR_dual hP) hX) hne) (fun _ _ _ hy => addV_dual hy hP.bias)

theorem qrLogabsdet_dual_curve {P : ℝ → LF.QRParams ℝ} {dp : LF.QRParams (ℝ × ℝ)} (hP : QRCurve t P dp) :
    IsDual (fun s => LF.qrLogabsdet (Rr e) (P s)) t (LF.qrLogabsdet (Dd e) dp) :=
  sum_dual hP.logDiag

theorem qrInverse_dual_curve {P : ℝ → LF.QRParams ℝ} {dp : LF.QRParams (ℝ × ℝ)} {X : ℝ → List (List ℝ)}
    {dX : List (List (ℝ × ℝ))} (hP : QRCurve t P dp) (hX : DM t X dX) (hne : ∀ dq ∈ dp.qs, (sqNorm (Dd e) dq).1 ≠ 0)
    (hdiag : ∀ k, k < (LF.qrR (Dd e) dp).length → (((LF.qrR (Dd e) dp).getD k []).getD (0 + k) (LF.zero (Dd e))).1 ≠ 0) :
    DM t (fun s => LF.qrInverse (Rr e) (P s) (X s)) (LF.qrInverse (Dd e) dp dX) := by
  unfold LF.qrInverse
  refine DL.map' (fun s y => LF.solveUpper (Rr e) (LF.qrR (Rr e) (P s)) y)
    (fun y => LF.solveUpper (Dd e) (LF.qrR (Dd e) dp) y)
    (hhInverse_dual hP.qs (DL.map' (fun s x => LF.subV (Rr e) x (P s).bias) (fun x => LF.subV (Dd e) x dp.bias) hX
      (fun _ _ _ hx => subV_dual hx hP.bias)) hne) (fun _ _ _ hy => ?_)
  exact solveUpperAux_dual 0 (qrR_dual hP) hy hdiag

/-- the diagonal of `R` is `exp(log_upper_diag)`: never `0` -/
theorem qrR_diag_ne (dp : LF.QRParams (ℝ × ℝ)) (hn : dp.n ≤ dp.logDiag.length) (k : ℕ)
    (hk : k < (LF.qrR (Dd e) dp).length) :
    (((LF.qrR (Dd e) dp).getD k []).getD (0 + k) (LF.zero (Dd e))).1 ≠ 0 := by
  refine mkUpper_diag_ne dp.n dp.upper _ (by rw [List.length_map]; exact hn) (fun d hd => ?_) k hk
  obtain ⟨x, -, rfl⟩ := List.mem_map.mp hd
  exact (Real.exp_pos _).ne'

def lineQR (s : ℝ) (dp : LF.QRParams (ℝ × ℝ)) : LF.QRParams ℝ :=
  ⟨dp.n, lineV s dp.upper, lineV s dp.logDiag, lineM s dp.qs, lineV s dp.bias⟩

theorem lineQR_curve (dp : LF.QRParams (ℝ × ℝ)) : QRCurve 0 (fun s => lineQR s dp) dp :=
  ⟨fun _ => rfl, lineV_dual _, lineV_dual _, lineM_dual _, lineV_dual _⟩

variable (e)

/-- **`QRLinear.logabsdet` on dual numbers is sound** (C16), no side condition (`sum(log_upper_diag)`) -/
theorem qr_logabsdet_dual_sound (dp : LF.QRParams (ℝ × ℝ)) :
    (LF.qrLogabsdet (Dd e) dp).1 = LF.qrLogabsdet (Rr e) (lineQR 0 dp) ∧
    HasDerivAt (fun s => LF.qrLogabsdet (Rr e) (lineQR s dp)) (LF.qrLogabsdet (Dd e) dp).2 0 :=
  qrLogabsdet_dual_curve (e := e) (lineQR_curve dp)

/-- `R = [[exp 0, −1],[0, exp(1/2)]]`, the two reflections of `exQ`, bias `(0, 3)`; tangents on every entry -/
def exQR : LF.QRParams (ℝ × ℝ) := ⟨2, [(-1, 2)], [(0, 1), (1/2, -1)], exQ, [(0, 1), (3, 0)]⟩

example (r c : ℕ) :=
  (qrForward_dual_curve (e := e) (lineQR_curve exQR) (lineM_dual exX) (sqNorm_D_ne exQ_nonzero)).line_sound.2 r c
example := qr_logabsdet_dual_sound e exQR
example (r c : ℕ) := (qrInverse_dual_curve (e := e) (lineQR_curve exQR) (lineM_dual exX) (sqNorm_D_ne exQ_nonzero)
  (qrR_diag_ne exQR (by simp [exQR]))).line_sound.2 r c

variable {e}

/-! ## 3. `SVDLinear` -/

structure SVDCurve (t : ℝ) (P : ℝ → LF.SVDParams ℝ) (dp : LF.SVDParams (ℝ × ℝ)) : Prop where
  n : ∀ s, (P s).n = dp.n
  udiag : DV t (fun s => (P s).udiag) dp.udiag
  qs1 : DM t (fun s => (P s).qs1) dp.qs1
  qs2 : DM t (fun s => (P s).qs2) dp.qs2
  bias : DV t (fun s => (P s).bias) dp.bias
  eps : IsDual (fun s => (P s).eps) t dp.eps

theorem svdDiag_dual {P : ℝ → LF.SVDParams ℝ} {dp : LF.SVDParams (ℝ × ℝ)} (hP : SVDCurve t P dp)
    (hthr : ∀ d ∈ dp.udiag, d.1 ≠ 20) :
    DV t (fun s => LF.svdDiag (Rr e) (P s)) (LF.svdDiag (Dd e) dp) :=
  DL.map' (fun s x => (Rr e).add (P s).eps (LF.softplus (Rr e) x)) (fun x => (Dd e).add dp.eps (LF.softplus (Dd e) x))
    hP.udiag (fun _ d hd ha => IsDual.add e hP.eps (softplus_dual ha (hthr d hd)))

theorem divV_dual {F G : ℝ → List ℝ} {ds es : List (ℝ × ℝ)} (hx : DV t F ds) (hy : DV t G es)
    (hne : ∀ d ∈ es, d.1 ≠ 0) :
    DV t (fun s => List.zipWith (Rr e).div (F s) (G s)) (List.zipWith (Dd e).div ds es) :=
  DL.zipWith' (fun _ => (Rr e).div) (Dd e).div hx (DL.and_mem hy hne) (fun _ _ _ _ ha hb => IsDual.div e ha hb.1 hb.2)

theorem svdForward_dual_curve {P : ℝ → LF.SVDParams ℝ} {dp : LF.SVDParams (ℝ × ℝ)} {X : ℝ → List (List ℝ)}
    {dX : List (List (ℝ × ℝ))} (hP : SVDCurve t P dp) (hX : DM t X dX) (hthr : ∀ d ∈ dp.udiag, d.1 ≠ 20)
    (hne1 : ∀ dq ∈ dp.qs1, (sqNorm (Dd e) dq).1 ≠ 0) (hne2 : ∀ dq ∈ dp.qs2, (sqNorm (Dd e) dq).1 ≠ 0) :
    DM t (fun s => LF.svdForward (Rr e) (P s) (X s)) (LF.svdForward (Dd e) dp dX) := by
  unfold LF.svdForward
  exact DL.map' (fun s y => LF.addV (Rr e) y (P s).bias) (fun y => LF.addV (Dd e) y dp.bias)
    (hhForward_dual hP.qs1
      (DL.map' (fun s y => List.zipWith (Rr e).mul y (LF.svdDiag (Rr e) (P s)))
        (fun y => List.zipWith (Dd e).mul y (LF.svdDiag (Dd e) dp)) (hhForward_dual hP.qs2 hX hne2)
        (fun _ _ _ hy => mulV_dual hy (svdDiag_dual hP hthr))) hne1)
    (fun _ _ _ hy => addV_dual hy hP.bias)

theorem svdLogabsdet_dual_curve {P : ℝ → LF.SVDParams ℝ} {dp : LF.SVDParams (ℝ × ℝ)} (hP : SVDCurve t P dp)
    (hthr : ∀ d ∈ dp.udiag, d.1 ≠ 20) (hne : ∀ d ∈ LF.svdDiag (Dd e) dp, d.1 ≠ 0) :
    IsDual (fun s => LF.svdLogabsdet (Rr e) (P s)) t (LF.svdLogabsdet (Dd e) dp) := by
  unfold LF.svdLogabsdet LF.sumLog
  exact sum_dual (DL.map' (fun _ => (Rr e).log) (Dd e).log (svdDiag_dual hP hthr)
    (fun _ d hd ha => IsDual.log e ha (hne d hd)))

theorem svdInverse_dual_curve {P : ℝ → LF.SVDParams ℝ} {dp : LF.SVDParams (ℝ × ℝ)} {X : ℝ → List (List ℝ)}
    {dX : List (List (ℝ × ℝ))} (hP : SVDCurve t P dp) (hX : DM t X dX) (hthr : ∀ d ∈ dp.udiag, d.1 ≠ 20)
    (hne1 : ∀ dq ∈ dp.qs1, (sqNorm (Dd e) dq).1 ≠ 0) (hne2 : ∀ dq ∈ dp.qs2, (sqNorm (Dd e) dq).1 ≠ 0)
    (hne : ∀ d ∈ LF.svdDiag (Dd e) dp, d.1 ≠ 0) :
    DM t (fun s => LF.svdInverse (Rr e) (P s) (X s)) (LF.svdInverse (Dd e) dp dX) := by
  unfold LF.svdInverse
  exact hhInverse_dual hP.qs2
    (DL.map' (fun s y => List.zipWith (Rr e).div y (LF.svdDiag (Rr e) (P s)))
      (fun y => List.zipWith (Dd e).div y (LF.svdDiag (Dd e) dp))
      (hhInverse_dual hP.qs1 (DL.map' (fun s x => LF.subV (Rr e) x (P s).bias) (fun x => LF.subV (Dd e) x dp.bias) hX
        (fun _ _ _ hx => subV_dual hx hP.bias)) hne1)
      (fun _ _ _ hy => divV_dual hy (svdDiag_dual hP hthr) hne)) hne2

theorem svdDiag_ne (dp : LF.SVDParams (ℝ × ℝ)) (hthr : ∀ d ∈ dp.udiag, d.1 ≠ 20) (heps : 0 ≤ dp.eps.1) :
    ∀ d ∈ LF.svdDiag (Dd e) dp, d.1 ≠ 0 := by
  intro d hd
  obtain ⟨x, hx, rfl⟩ := List.mem_map.mp hd
  show dp.eps.1 + (LF.softplus (Dd e) x).1 ≠ 0
  rw [softplus_D_val _ (hthr x hx), add_comm]
  exact softplus_add_ne heps x.1

def lineSVD (s : ℝ) (dp : LF.SVDParams (ℝ × ℝ)) : LF.SVDParams ℝ :=
  ⟨dp.n, lineV s dp.udiag, lineM s dp.qs1, lineM s dp.qs2, lineV s dp.bias, DualXLU.line s dp.eps⟩

theorem lineSVD_curve (dp : LF.SVDParams (ℝ × ℝ)) : SVDCurve 0 (fun s => lineSVD s dp) dp :=
  ⟨fun _ => rfl, lineV_dual _, lineM_dual _, lineM_dual _, lineV_dual _, line_dual _⟩

variable (e)

/-- **`SVDLinear.logabsdet` on dual numbers is sound** (C16) for the library's `eps ≥ 0`; side condition: no unconstrained
    diagonal entry AT the softplus threshold 20 -/
theorem svd_logabsdet_dual_sound (dp : LF.SVDParams (ℝ × ℝ)) (hthr : ∀ d ∈ dp.udiag, d.1 ≠ 20) (heps : 0 ≤ dp.eps.1) :
    (LF.svdLogabsdet (Dd e) dp).1 = LF.svdLogabsdet (Rr e) (lineSVD 0 dp) ∧
    HasDerivAt (fun s => LF.svdLogabsdet (Rr e) (lineSVD s dp)) (LF.svdLogabsdet (Dd e) dp).2 0 :=
  svdLogabsdet_dual_curve (e := e) (lineSVD_curve dp) hthr (svdDiag_ne dp hthr heps)

/-- diagonal `10⁻³ + softplus(0, 1)`, reflections `exQ` on both sides, bias `(0, 3)`; tangents on every tensor -/
def exSVD : LF.SVDParams (ℝ × ℝ) := ⟨2, [(0, 1), (1, -1)], exQ, exQ, [(0, 1), (3, 0)], (1/1000, 0)⟩

theorem exSVD_thr : ∀ d ∈ exSVD.udiag, d.1 ≠ 20 := by
  intro d hd
  simp only [exSVD, List.mem_cons, List.not_mem_nil, or_false] at hd
  rcases hd with rfl | rfl <;> norm_num

example (r c : ℕ) := (svdForward_dual_curve (e := e) (lineSVD_curve exSVD) (lineM_dual exX) exSVD_thr (sqNorm_D_ne exQ_nonzero)
  (sqNorm_D_ne exQ_nonzero)).line_sound.2 r c
example := svd_logabsdet_dual_sound e exSVD exSVD_thr (by norm_num [exSVD])
example (r c : ℕ) :=
  (svdInverse_dual_curve (e := e) (lineSVD_curve exSVD) (lineM_dual exX) exSVD_thr (sqNorm_D_ne exQ_nonzero) (sqNorm_D_ne exQ_nonzero)
    (svdDiag_ne exSVD exSVD_thr (by norm_num [exSVD]))).line_sound.2 r c

variable {e}

/-! ## 4. `OneByOneConvolution.forward`: channel permutation, `LULinear` on every pixel, `H·W·logabsdet` -/

theorem permuteChannels_dual (B C H W : ℕ) (perm : List ℕ) {xs : ℝ → List ℝ} {dxs : List (ℝ × ℝ)} (hx : DV t xs dxs) :
    DV t (fun s => LF.permuteChannels (Rr e) B C H W perm (xs s)) (LF.permuteChannels (Dd e) B C H W perm dxs) := by
  unfold LF.permuteChannels
  exact DL.ofMap _ _ _ (fun k _ => DL.getD' hx _ zero_dual)

theorem convRows_dual (B C H W : ℕ) {xs : ℝ → List ℝ} {dxs : List (ℝ × ℝ)} (hx : DV t xs dxs) :
    DM t (fun s => LF.convRows (Rr e) B C H W (xs s)) (LF.convRows (Dd e) B C H W dxs) := by
  unfold LF.convRows
  exact DL.ofMap _ _ _ (fun r _ => DL.ofMap _ _ _ (fun c _ => DL.getD' hx _ zero_dual))

theorem convUnrows_dual (B C H W : ℕ) {rows : ℝ → List (List ℝ)} {drows : List (List (ℝ × ℝ))} (hrows : DM t rows drows) :
    DV t (fun s => LF.convUnrows (Rr e) B C H W (rows s)) (LF.convUnrows (Dd e) B C H W drows) := by
  unfold LF.convUnrows
  exact DL.ofMap _ _ _ (fun k _ => DL.getD' (DL.getD' hrows _ DL.nil) _ zero_dual)

/-- the per-sample log-abs-det `H·W·logabsdet`, with the sign the direction puts on it (`id` forward, `neg` inverse) -/
theorem convLogabsdet_dual {P : ℝ → LF.LUParams ℝ} {dp : LF.LUParams (ℝ × ℝ)} (hP : LUCurve t P dp) (B H W : ℕ)
    {sg : ℝ → ℝ} {sg' : ℝ × ℝ → ℝ × ℝ} (hsg : ∀ {f : ℝ → ℝ} {d : ℝ × ℝ}, IsDual f t d → IsDual (fun s => sg (f s)) t (sg' d))
    (hthr : ∀ d ∈ dp.udiag, d.1 ≠ 20) (hne : ∀ d ∈ dp.udiag, LF.softplus (Rr e) d.1 + dp.eps.1 ≠ 0) :
    DV t (fun s => LF.convLogabsdet (Rr e) (P s) B H W sg) (LF.convLogabsdet (Dd e) dp B H W sg') := by
  unfold LF.convLogabsdet
  exact DL.ofMap _ _ _ (fun _ _ => sum_dual
    (DL.replicate (H * W) (rel := fun f d => IsDual f t d) (hsg (luLogabsdet_dual_curve hP hthr hne))))

theorem convForward_dual_curve {P : ℝ → LF.LUParams ℝ} {dp : LF.LUParams (ℝ × ℝ)} (hP : LUCurve t P dp)
    (perm : List ℕ) (B H W : ℕ) {xs : ℝ → List ℝ} {dxs : List (ℝ × ℝ)} (hx : DV t xs dxs)
    (hthr : ∀ d ∈ dp.udiag, d.1 ≠ 20) (hne : ∀ d ∈ dp.udiag, LF.softplus (Rr e) d.1 + dp.eps.1 ≠ 0) :
    DV t (fun s => (LF.convForward (Rr e) (P s) perm B H W (xs s)).1) (LF.convForward (Dd e) dp perm B H W dxs).1 ∧
    DV t (fun s => (LF.convForward (Rr e) (P s) perm B H W (xs s)).2) (LF.convForward (Dd e) dp perm B H W dxs).2 := by
  unfold LF.convForward
  simp only [hP.n]
  exact ⟨convUnrows_dual _ _ _ _ (luForward_dual_curve hP
      (convRows_dual _ _ _ _ (permuteChannels_dual _ _ _ _ perm hx)) hthr),
    convLogabsdet_dual hP B H W (fun h => h) hthr hne⟩

variable (e)

/-- **`OneByOneConvolution.forward` on dual numbers is sound** (C16): direction in the (flat NCHW) input and in ALL `LULinear`
    parameters (lower, upper, unconstrained diagonal, bias, `eps`) simultaneously; the channel permutation is fixed data.  Both
    outputs (flat NCHW outputs; per-sample log-abs-det `H·W·logabsdet`) of the dual run have, for every `s`, the length of the
    real run, and every entry is (value at the primal parts, derivative along `primal + s · tangent` at `s = 0`).
    Side conditions: no unconstrained diagonal entry AT the softplus threshold 20, `eps ≥ 0`. -/
theorem conv_forward_dual_sound (dp : LF.LUParams (ℝ × ℝ)) (perm : List ℕ) (B H W : ℕ) (dxs : List (ℝ × ℝ))
    (hthr : ∀ d ∈ dp.udiag, d.1 ≠ 20) (heps : 0 ≤ dp.eps.1) :
    (∀ s, (LF.convForward (Rr e) (lineP s dp) perm B H W (lineV s dxs)).1.length
          = (LF.convForward (Dd e) dp perm B H W dxs).1.length ∧
        (LF.convForward (Rr e) (lineP s dp) perm B H W (lineV s dxs)).2.length
          = (LF.convForward (Dd e) dp perm B H W dxs).2.length) ∧
    (∀ k : ℕ,
      ((LF.convForward (Dd e) dp perm B H W dxs).1.getD k (0, 0)).1
          = (LF.convForward (Rr e) (lineP 0 dp) perm B H W (lineV 0 dxs)).1.getD k 0 ∧
      HasDerivAt (fun s => (LF.convForward (Rr e) (lineP s dp) perm B H W (lineV s dxs)).1.getD k 0)
        ((LF.convForward (Dd e) dp perm B H W dxs).1.getD k (0, 0)).2 0) ∧
    (∀ k : ℕ,
      ((LF.convForward (Dd e) dp perm B H W dxs).2.getD k (0, 0)).1
          = (LF.convForward (Rr e) (lineP 0 dp) perm B H W (lineV 0 dxs)).2.getD k 0 ∧
      HasDerivAt (fun s => (LF.convForward (Rr e) (lineP s dp) perm B H W (lineV s dxs)).2.getD k 0)
        ((LF.convForward (Dd e) dp perm B H W dxs).2.getD k (0, 0)).2 0) := by
  obtain ⟨h1, h2⟩ := convForward_dual_curve (e := e) (lineP_curve dp) perm B H W (lineV_dual dxs) hthr
    (fun d _ => softplus_add_ne heps d.1)
  exact ⟨fun s => ⟨DL.length h1 s, DL.length h2 s⟩, fun k => h1.entry k, fun k => h2.entry k⟩

/-- two channels swapped by the permutation, one sample, a `1 × 2` image, the `LULinear` parameters `exP` -/
example (k : ℕ) := (conv_forward_dual_sound e exP [1, 0] 1 1 2 [(1, 1), (2, 0), (0, 0), (-1, 1)] exP_thr
  (by norm_num [exP])).2.1 k
example (k : ℕ) := (conv_forward_dual_sound e exP [1, 0] 1 1 2 [(1, 1), (2, 0), (0, 0), (-1, 1)] exP_thr
  (by norm_num [exP])).2.2 k

variable {e}

/-! ## 5. the accessors `LULinear.weight()` and `LULinear.weight_inverse()` -/

theorem col_dual {M : ℝ → List (List ℝ)} {dM : List (List (ℝ × ℝ))} (hM : DM t M dM) (j : ℕ) :
    DV t (fun s => LF.col (Rr e) (M s) j) (LF.col (Dd e) dM j) :=
  DL.map' (fun _ row => row.getD j (LF.zero (Rr e))) (fun row => row.getD j (LF.zero (Dd e))) hM
    (fun _ _ _ hrow => DL.getD' hrow j zero_dual)

theorem transpose_dual (n : ℕ) {M : ℝ → List (List ℝ)} {dM : List (List (ℝ × ℝ))} (hM : DM t M dM) :
    DM t (fun s => LF.transpose (Rr e) n (M s)) (LF.transpose (Dd e) n dM) :=
  DL.ofMap (List.range n) (fun s j => LF.col (Rr e) (M s) j) (fun j => LF.col (Dd e) dM j) (fun j _ => col_dual hM j)

theorem matMul_dual (n : ℕ) {A B : ℝ → List (List ℝ)} {dA dB : List (List (ℝ × ℝ))} (hA : DM t A dA) (hB : DM t B dB) :
    DM t (fun s => LF.matMul (Rr e) n (A s) (B s)) (LF.matMul (Dd e) n dA dB) :=
  DL.map' (fun s row => (LF.transpose (Rr e) n (B s)).map (fun c => LF.dot (Rr e) row c))
    (fun row => (LF.transpose (Dd e) n dB).map (fun c => LF.dot (Dd e) row c)) hA
    (fun f d _ hrow => DL.map' (fun s c => LF.dot (Rr e) (f s) c) (fun c => LF.dot (Dd e) d c) (transpose_dual n hB)
      (fun _ _ _ hc => dot_dual hrow hc))

theorem eye_dual (n : ℕ) : DM t (fun _ => LF.eye (Rr e) n) (LF.eye (Dd e) n) :=
  tab2_diag_dual n (fun _ => one_dual) (fun _ _ => zero_dual)

theorem luWeight_dual_curve {P : ℝ → LF.LUParams ℝ} {dp : LF.LUParams (ℝ × ℝ)} (hP : LUCurve t P dp)
    (hthr : ∀ d ∈ dp.udiag, d.1 ≠ 20) : DM t (fun s => LF.luWeight (Rr e) (P s)) (LF.luWeight (Dd e) dp) := by
  unfold LF.luWeight; simp only [hP.n]
  exact matMul_dual _ (luL_dual hP) (luU_dual hP hthr)

theorem luWeightInverse_dual_curve {P : ℝ → LF.LUParams ℝ} {dp : LF.LUParams (ℝ × ℝ)} (hP : LUCurve t P dp)
    (hthr : ∀ d ∈ dp.udiag, d.1 ≠ 20)
    (hdiag : ∀ k, k < (LF.luU (Dd e) dp).length → (((LF.luU (Dd e) dp).getD k []).getD (0 + k) (LF.zero (Dd e))).1 ≠ 0) :
    DM t (fun s => LF.luWeightInverse (Rr e) (P s)) (LF.luWeightInverse (Dd e) dp) := by
  unfold LF.luWeightInverse; simp only [hP.n]
  exact transpose_dual _ (DL.map'
    (fun s v => LF.solveUpper (Rr e) (LF.luU (Rr e) (P s)) (LF.solveLowerUnit (Rr e) (LF.luL (Rr e) (P s)) v))
    (fun v => LF.solveUpper (Dd e) (LF.luU (Dd e) dp) (LF.solveLowerUnit (Dd e) (LF.luL (Dd e) dp) v)) (eye_dual _)
    (fun _ _ _ hv => solveUpperAux_dual 0 (luU_dual hP hthr) (solveLowerAux_dual DL.nil (luL_dual hP) hv) hdiag))

variable (e)

example (r c : ℕ) := (luWeight_dual_curve (e := e) (lineP_curve exP) exP_thr).line_sound.2 r c
example (r c : ℕ) := (luWeightInverse_dual_curve (e := e) (lineP_curve exP) exP_thr
  (luU_diag_ne exP exP_thr (by norm_num [exP]) (by simp [exP]))).line_sound.2 r c

variable {e}

/-! ## 6. further executed programs of the family: `OneByOneConvolution.inverse`, `HouseholderSequence.matrix()`,
    `QRLinear.weight()/weight_inverse()`, `SVDLinear.weight()/weight_inverse()` -/

theorem convInverse_dual_curve {P : ℝ → LF.LUParams ℝ} {dp : LF.LUParams (ℝ × ℝ)} (hP : LUCurve t P dp)
    (perm : List ℕ) (B H W : ℕ) {xs : ℝ → List ℝ} {dxs : List (ℝ × ℝ)} (hx : DV t xs dxs)
    (hthr : ∀ d ∈ dp.udiag, d.1 ≠ 20) (hne : ∀ d ∈ dp.udiag, LF.softplus (Rr e) d.1 + dp.eps.1 ≠ 0)
    (hdiag : ∀ k, k < (LF.luU (Dd e) dp).length → (((LF.luU (Dd e) dp).getD k []).getD (0 + k) (LF.zero (Dd e))).1 ≠ 0) :
    DV t (fun s => (LF.convInverse (Rr e) (P s) perm B H W (xs s)).1) (LF.convInverse (Dd e) dp perm B H W dxs).1 ∧
    DV t (fun s => (LF.convInverse (Rr e) (P s) perm B H W (xs s)).2) (LF.convInverse (Dd e) dp perm B H W dxs).2 := by
  unfold LF.convInverse
  simp only [hP.n]
  exact ⟨permuteChannels_dual _ _ _ _ _ (convUnrows_dual _ _ _ _ (luInverse_dual_curve hP
      (convRows_dual _ _ _ _ hx) hthr hdiag)),
    convLogabsdet_dual hP B H W (IsDual.neg e) hthr hne⟩

theorem diagM_dual {d : ℝ → List ℝ} {dd : List (ℝ × ℝ)} (hd : DV t d dd) :
    DM t (fun s => LF.diagM (Rr e) (d s)) (LF.diagM (Dd e) dd) := by
  unfold LF.diagM
  simp only [DL.length hd]
  exact tab2_diag_dual _ (fun i => DL.getD' hd i zero_dual) (fun _ _ => zero_dual)

theorem hhMatrix_dual (n : ℕ) {qs : ℝ → List (List ℝ)} {dqs : List (List (ℝ × ℝ))} (hqs : DM t qs dqs)
    (hne : ∀ dq ∈ dqs, (sqNorm (Dd e) dq).1 ≠ 0) :
    DM t (fun s => LF.hhMatrix (Rr e) n (qs s)) (LF.hhMatrix (Dd e) n dqs) :=
  hhInverse_dual hqs (eye_dual n) hne

theorem qrWeight_dual_curve {P : ℝ → LF.QRParams ℝ} {dp : LF.QRParams (ℝ × ℝ)} (hP : QRCurve t P dp)
    (hne : ∀ dq ∈ dp.qs, (sqNorm (Dd e) dq).1 ≠ 0) :
    DM t (fun s => LF.qrWeight (Rr e) (P s)) (LF.qrWeight (Dd e) dp) := by
  unfold LF.qrWeight; simp only [hP.n]
  exact transpose_dual _ (hhForward_dual hP.qs (transpose_dual _ (qrR_dual hP)) hne)

theorem qrWeightInverse_dual_curve {P : ℝ → LF.QRParams ℝ} {dp : LF.QRParams (ℝ × ℝ)} (hP : QRCurve t P dp)
    (hne : ∀ dq ∈ dp.qs, (sqNorm (Dd e) dq).1 ≠ 0)
    (hdiag : ∀ k, k < (LF.qrR (Dd e) dp).length → (((LF.qrR (Dd e) dp).getD k []).getD (0 + k) (LF.zero (Dd e))).1 ≠ 0) :
    DM t (fun s => LF.qrWeightInverse (Rr e) (P s)) (LF.qrWeightInverse (Dd e) dp) := by
  unfold LF.qrWeightInverse; simp only [hP.n]
  exact hhForward_dual hP.qs (transpose_dual _ (DL.map' (fun s v => LF.solveUpper (Rr e) (LF.qrR (Rr e) (P s)) v)
    (fun v => LF.solveUpper (Dd e) (LF.qrR (Dd e) dp) v) (eye_dual _)
    (fun _ _ _ hv => solveUpperAux_dual 0 (qrR_dual hP) hv hdiag))) hne

theorem svdWeight_dual_curve {P : ℝ → LF.SVDParams ℝ} {dp : LF.SVDParams (ℝ × ℝ)} (hP : SVDCurve t P dp)
    (hthr : ∀ d ∈ dp.udiag, d.1 ≠ 20)
    (hne1 : ∀ dq ∈ dp.qs1, (sqNorm (Dd e) dq).1 ≠ 0) (hne2 : ∀ dq ∈ dp.qs2, (sqNorm (Dd e) dq).1 ≠ 0) :
    DM t (fun s => LF.svdWeight (Rr e) (P s)) (LF.svdWeight (Dd e) dp) := by
  unfold LF.svdWeight; simp only [hP.n]
  exact transpose_dual _ (hhForward_dual hP.qs1
    (transpose_dual _ (hhInverse_dual hP.qs2 (diagM_dual (svdDiag_dual hP hthr)) hne2)) hne1)

theorem svdWeightInverse_dual_curve {P : ℝ → LF.SVDParams ℝ} {dp : LF.SVDParams (ℝ × ℝ)} (hP : SVDCurve t P dp)
    (hthr : ∀ d ∈ dp.udiag, d.1 ≠ 20)
    (hne1 : ∀ dq ∈ dp.qs1, (sqNorm (Dd e) dq).1 ≠ 0) (hne2 : ∀ dq ∈ dp.qs2, (sqNorm (Dd e) dq).1 ≠ 0)
    (hne : ∀ d ∈ LF.svdDiag (Dd e) dp, d.1 ≠ 0) :
    DM t (fun s => LF.svdWeightInverse (Rr e) (P s)) (LF.svdWeightInverse (Dd e) dp) := by
  unfold LF.svdWeightInverse; simp only [hP.n]
  exact transpose_dual _ (hhInverse_dual hP.qs2 (transpose_dual _ (hhForward_dual hP.qs1
    (diagM_dual (DL.map' (fun _ d => (Rr e).div (LF.one (Rr e)) d) (fun d => (Dd e).div (LF.one (Dd e)) d)
      (svdDiag_dual hP hthr) (fun _ d hd ha => IsDual.div e one_dual ha (hne d hd)))) hne1)) hne2)

variable (e)

/-- **`OneByOneConvolution.inverse` on dual numbers is sound** (C16): direction in the flat NCHW input and all `LULinear`
    parameters; both outputs.  Side conditions: threshold, `eps ≥ 0`, at least `n` unconstrained diagonal entries. -/
theorem conv_inverse_dual_sound (dp : LF.LUParams (ℝ × ℝ)) (perm : List ℕ) (B H W : ℕ) (dxs : List (ℝ × ℝ))
    (hthr : ∀ d ∈ dp.udiag, d.1 ≠ 20) (heps : 0 ≤ dp.eps.1) (hn : dp.n ≤ dp.udiag.length) :
    (∀ s, (LF.convInverse (Rr e) (lineP s dp) perm B H W (lineV s dxs)).1.length
          = (LF.convInverse (Dd e) dp perm B H W dxs).1.length ∧
        (LF.convInverse (Rr e) (lineP s dp) perm B H W (lineV s dxs)).2.length
          = (LF.convInverse (Dd e) dp perm B H W dxs).2.length) ∧
    (∀ k : ℕ,
      ((LF.convInverse (Dd e) dp perm B H W dxs).1.getD k (0, 0)).1
          = (LF.convInverse (Rr e) (lineP 0 dp) perm B H W (lineV 0 dxs)).1.getD k 0 ∧
      HasDerivAt (fun s => (LF.convInverse (Rr e) (lineP s dp) perm B H W (lineV s dxs)).1.getD k 0)
        ((LF.convInverse (Dd e) dp perm B H W dxs).1.getD k (0, 0)).2 0) ∧
    (∀ k : ℕ,
      ((LF.convInverse (Dd e) dp perm B H W dxs).2.getD k (0, 0)).1
          = (LF.convInverse (Rr e) (lineP 0 dp) perm B H W (lineV 0 dxs)).2.getD k 0 ∧
      HasDerivAt (fun s => (LF.convInverse (Rr e) (lineP s dp) perm B H W (lineV s dxs)).2.getD k 0)
        ((LF.convInverse (Dd e) dp perm B H W dxs).2.getD k (0, 0)).2 0) := by
  obtain ⟨h1, h2⟩ := convInverse_dual_curve (e := e) (lineP_curve dp) perm B H W (lineV_dual dxs) hthr
    (fun d _ => softplus_add_ne heps d.1) (luU_diag_ne dp hthr heps hn)
  exact ⟨fun s => ⟨DL.length h1 s, DL.length h2 s⟩, fun k => h1.entry k, fun k => h2.entry k⟩

example (k : ℕ) := (conv_inverse_dual_sound e exP [1, 0] 1 1 2 [(1, 1), (2, 0), (0, 0), (-1, 1)] exP_thr
  (by norm_num [exP]) (by simp [exP])).2.1 k

example (r c : ℕ) := (hhMatrix_dual (e := e) 2 (lineM_dual exQ) (sqNorm_D_ne exQ_nonzero)).line_sound.2 r c
example (r c : ℕ) := (qrWeight_dual_curve (e := e) (lineQR_curve exQR) (sqNorm_D_ne exQ_nonzero)).line_sound.2 r c
example (r c : ℕ) := (qrWeightInverse_dual_curve (e := e) (lineQR_curve exQR) (sqNorm_D_ne exQ_nonzero)
  (qrR_diag_ne exQR (by simp [exQR]))).line_sound.2 r c
example (r c : ℕ) := (svdWeight_dual_curve (e := e) (lineSVD_curve exSVD) exSVD_thr (sqNorm_D_ne exQ_nonzero)
  (sqNorm_D_ne exQ_nonzero)).line_sound.2 r c
example (r c : ℕ) :=
  (svdWeightInverse_dual_curve (e := e) (lineSVD_curve exSVD) exSVD_thr (sqNorm_D_ne exQ_nonzero) (sqNorm_D_ne exQ_nonzero)
    (svdDiag_ne exSVD exSVD_thr (by norm_num [exSVD]))).line_sound.2 r c

/-! ### the threshold hypothesis of the `SVDLinear` headlines is forced: the witness of
    `Properties.C16.svd_forward_not_differentiable_at_threshold` (Properties/C16O.lean) -/

/-- the `1 × 1` layer without reflections, unconstrained diagonal `20` (AT the threshold) moving with velocity `1`, input `1` -/
def thrSVD : LF.SVDParams (ℝ × ℝ) := ⟨1, [(20, 1)], [], [], [(0, 0)], (0, 0)⟩

theorem thr_svd_forward_eq (s : ℝ) :
    ((LF.svdForward (Rr e) (lineSVD s thrSVD) (lineM s [[(1, 0)]])).getD 0 []).getD 0 0
      = (NF.realX e).softplus (20 + s) := by
  rw [← softplus_R_eq]
  simp [LF.svdForward, LF.hhForward, LF.hhSeq, LF.svdDiag, LF.addV, lineSVD, lineM, lineV, DualXLU.line, thrSVD]

end
end DualXOrth
