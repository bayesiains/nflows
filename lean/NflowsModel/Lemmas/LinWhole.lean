import NflowsModel.Lemmas.QuadWhole
import NflowsModel.Lemmas.RQWhole
/-!
# Lemmas/LinWhole — the EXECUTED piecewise-LINEAR spline, both directions, as a whole program over the reals

`linSpline (NF.realX e) box eps up inverse x` is the list program the driver runs at `Float`/`Float32`
(`Core/Spline.lean`, mirror of `nflows/transforms/splines/linear.py`), instantiated at ℝ: domain guard, normalisation of
the input, `softmax`, `cumsum`, last cdf knot pinned to 1, padding with 0, then
* forward: `bin_pos = x'·K`, `floor`, conversion to an integer (`XOps.floorInt`, `⌊·⌋` on ℝ), the repair
  `idx ≥ K ↦ K − 1`, two gathers, `out = clamp 0 1 (cdf_k + (x'K − k)·pdf_k)`, `ld = log pdf_k − np.log(1/K) + boxLog`;
* inverse (linear.py with the fix c321ed1, finding F30): search over the cdf knots, `linspace(0,1,K+1)`, slopes `pdf·K`, three gathers,
  `out = clamp 0 1 ((i+1)/K + (y' − cdf_{i+1})/(pdf_i·K))`, `ld = −log(pdf_i·K) − boxLog`.

For every accepted configuration `LinValid e box eps up` (at least one bin, `left < right`, `bottom < top`, `e` exact on
the two differences the code forms, `0 < e eps`; NO condition on the parameter vector) the file proves, about the program
itself: totality on the closed domain with the closed form of the selected bin and inactive clamps (C17; the
floor-and-repair index meets the same `ExecGlue.SearchSpec` on the uniform knots `j/K` that `searchsorted` meets on the cdf
knots), strictly increasing bijections both ways, knot ↦ knot (C09), round trips on the closed box, knots included, and the
negated log-abs-det (C02; hypothesis `hlogK`: the forward program subtracts the Python-side double `np.log(1/K)` while the
inverse takes the in-tensor `log(pdf·K)`), derivatives inside the open bins (C01; `hlogK`, `hbl` forward, only `hbl`
inverse).
-/
open NF DualSound

namespace LinWhole
open QuadWhole (valOf ldOf)
/-! ### the program after its control flow, over any `XOps`

Once the two lists are named, the bin index is known and the gathers at it have succeeded, `linSpline` is its direction's
closed form on the gathered entries; by unfolding, for every scalar type, so the real and the dual run read the same
statement. -/
section program
variable {α : Type} (o : XOps α)

def linFwdInner (K : ℕ) (x' : α) (i : ℕ) (p c0 : α) : α :=
  o.add c0 (o.mul (o.sub (o.mul x' (o.ofNat K)) (o.ofRat (i : Int) 1)) p)

/-- what `linSpline … false` returns from the normalised input `x'`, the bin `i` and the gathered `pdf_i`, `cdf_i` -/
def linFwdOut (box : Box) (K : ℕ) (x' : α) (i : ℕ) (p c0 : α) : α × α :=
  (o.add (o.mul (o.clamp o.zero o.one (linFwdInner o K x' i p c0)) (o.ofFloat (box.top - box.bottom))) (o.ofFloat box.bottom),
    o.add (o.sub (o.log p) (o.ofFloat (Float.log (1.0 / K.toFloat)))) (o.ofFloat (boxLog box)))

def linInvInner (y' s rc rb : α) : α := o.add rb (o.div (o.sub y' rc) s)

/-- what `linSpline … true` returns from the normalised input `y'` and the gathered slope, right cdf knot, right boundary -/
def linInvOut (box : Box) (y' s rc rb : α) : α × α :=
  (o.add (o.mul (o.clamp o.zero o.one (linInvInner o y' s rc rb)) (o.ofFloat (box.right - box.left))) (o.ofFloat box.left),
    o.sub (o.neg (o.log s)) (o.ofFloat (boxLog box)))

variable (box : Box) (eps : Float) (up : List α) (x : α) {pdf cdf : List α}
  (hP : softmaxG o up = pdf) (hC : o.zero :: setLast (cumsumG o pdf) o.one = cdf) {x' : α} {i : ℕ}
include hP hC

theorem linSpline_of_index (hg : (o.lt x (o.ofFloat box.left) || o.lt (o.ofFloat box.right) x) = false)
    (hx : o.div (o.sub x (o.ofFloat box.left)) (o.ofFloat (box.right - box.left)) = x') {f : Int}
    (hf : o.floorInt (o.mul x' (o.ofNat up.length)) = f)
    (hi : (if f ≥ Int.ofNat up.length then Int.ofNat up.length - 1 else f) = (i : Int))
    {p c0 : α} (h1 : getI pdf (i : Int) = .ok p) (h2 : getI cdf (i : Int) = .ok c0) :
    linSpline o box eps up false x = .ok (linFwdOut o box up.length x' i p c0) := by
  unfold linSpline
  simp only [Bool.false_eq_true, if_false, hg, hP, hC, hx, hf, hi, h1, h2]
  rfl

theorem linSpline_of_search (hg : (o.lt x (o.ofFloat box.bottom) || o.lt (o.ofFloat box.top) x) = false)
    (hx : o.div (o.sub x (o.ofFloat box.bottom)) (o.ofFloat (box.top - box.bottom)) = x')
    (hs : searchsortedG o eps cdf x' = (i : Int)) {s rc rb : α}
    (h1 : getI (pdf.map (fun p => o.mul p (o.ofNat up.length))) (i : Int) = .ok s)
    (h2 : getI (cdf.drop 1) (i : Int) = .ok rc) (h3 : getI ((linspace01 o up.length).drop 1) (i : Int) = .ok rb) :
    linSpline o box eps up true x = .ok (linInvOut o box x' s rc rb) := by
  unfold linSpline
  simp only [if_true, Bool.false_eq_true, if_false, hg, hP, hC, hx, hs, h1, h2, h3]
  rfl

end program

noncomputable section
variable (e : Float → ℝ)

/-- `torch.floor(x).long()` at the reals is the integer floor -/
@[simp] theorem realX_floorInt (a : ℝ) : (NF.realX e).floorInt a = ⌊a⌋ := rfl

structure LinValid (box : Box) (eps : Float) (up : List ℝ) : Prop where
  hK : up ≠ []
  hlr : e box.left < e box.right
  hdlr : e (box.right - box.left) = e box.right - e box.left
  hbt : e box.bottom < e box.top
  hdbt : e (box.top - box.bottom) = e box.top - e box.bottom
  heps : 0 < e eps

/- `pdf cdf` the bin masses (softmax) and cdf knots; `pd cd k` their `k`-th entries; `kn K j = j/K` the uniform location
   knots; `idxZ idxF` the floor index of the forward direction (as `Int`, as `ℕ`); `binF GF LdF` forward closed form of bin
   `k`, whole normalised map and log-density; `bnd slp` the `linspace` boundaries and slopes `pdf·K` of the inverse;
   `idxI binI GI LdI` the same for the inverse (search over `cdf`); `nx ny` normalised inputs; `xk yk` knots in the box. -/
def pdf (up : List ℝ) : List ℝ := softmaxG (NF.realX e) up
def cdf (up : List ℝ) : List ℝ :=
  (NF.realX e).zero :: setLast (cumsumG (NF.realX e) (pdf e up)) (NF.realX e).one
def pd (up : List ℝ) (k : ℕ) : ℝ := (pdf e up).getD k 0
def cd (up : List ℝ) (k : ℕ) : ℝ := (cdf e up).getD k 0

variable {e}
variable {box : Box} {eps : Float} {up : List ℝ}

theorem pdf_length (up : List ℝ) : (pdf e up).length = up.length := SplineExec.softmaxG_length e up

theorem pdf_ne (hK : up ≠ []) : pdf e up ≠ [] := by
  intro h
  have := pdf_length (e := e) up
  rw [h] at this
  exact hK (List.length_eq_zero_iff.mp this.symm)

theorem pdf_pos (up : List ℝ) : ∀ p ∈ pdf e up, 0 < p := SplineExec.softmaxG_pos e up
theorem pdf_sum (hK : up ≠ []) : (pdf e up).sum = 1 := SplineExec.softmaxG_sum e up hK

theorem cdf_facts (hK : up ≠ []) :
    (cdf e up).length = up.length + 1 ∧ (cdf e up).head? = some 0 ∧
    (cdf e up).getLast? = some 1 ∧ (cdf e up).Pairwise (· < ·) := by
  have := SplineExec.unitKnots_valid e (pdf e up) (pdf_ne hK) (pdf_pos up) (pdf_sum hK)
  rw [pdf_length] at this
  simpa [cdf] using this

theorem K_pos (hK : up ≠ []) : 0 < up.length := List.length_pos_of_ne_nil hK
theorem K_posR (hK : up ≠ []) : (0:ℝ) < (up.length : ℝ) := by exact_mod_cast K_pos hK

theorem cd_zero (hK : up ≠ []) : cd e up 0 = 0 := SplineExec.head_getD _ _ (cdf_facts hK).2.1
theorem cd_last (hK : up ≠ []) : cd e up up.length = 1 :=
  SplineExec.last_getD _ _ _ (cdf_facts hK).1 (cdf_facts hK).2.2.1

theorem pd_pos (up : List ℝ) : ∀ k < up.length, 0 < pd e up k :=
  fun k hk => pdf_pos up _ (SplineExec.getD_mem _ k ((pdf_length up).symm ▸ hk))

theorem cd_step (hK : up ≠ []) : ∀ k < up.length, cd e up (k+1) = cd e up k + pd e up k :=
  fun k hk => SplineExec.unitKnots_step e _ (pdf_ne hK) (pdf_sum hK) k (by rw [pdf_length]; exact hk)

/-! ### the forward bin index: `floor`, integer conversion, the `>= num_bins` repair -/

/-- the index the forward program forms from the normalised input (text of `linSpline`, as an integer) -/
def idxZ (K : ℕ) (t : ℝ) : ℤ := if ⌊t * (K : ℝ)⌋ ≥ Int.ofNat K then Int.ofNat K - 1 else ⌊t * (K : ℝ)⌋
def idxF (K : ℕ) (t : ℝ) : ℕ := (idxZ K t).toNat
def kn (K : ℕ) (j : ℕ) : ℝ := (j : ℝ) / (K : ℝ)

theorem kn_zero (K : ℕ) : kn K 0 = 0 := by simp [kn]
theorem kn_last {K : ℕ} (hK : 0 < K) : kn K K = 1 := by
  unfold kn; exact div_self (by exact_mod_cast hK.ne')
theorem kn_strict {K : ℕ} (hK : 0 < K) : ∀ k < K, kn K k < kn K (k+1) := by
  intro k _
  unfold kn
  have : (0:ℝ) < K := by exact_mod_cast hK
  exact div_lt_div_of_pos_right (by push_cast; linarith) this

theorem idxF_spec {K : ℕ} (hK : 0 < K) :
    ExecGlue.SearchSpec (kn K) K (idxF K) ∧ ∀ t, 0 ≤ t → t ≤ 1 → idxZ K t = ((idxF K t : ℕ) : ℤ) := by
  have hKR : (0:ℝ) < K := by exact_mod_cast hK
  have key : ∀ t, 0 ≤ t → t ≤ 1 → idxZ K t = ((idxF K t : ℕ) : ℤ) ∧ idxF K t < K ∧ kn K (idxF K t) ≤ t ∧
      (t < kn K (idxF K t + 1) ∨ (idxF K t + 1 = K ∧ t = 1)) := by
    intro t ht0 ht1
    have hf0 : 0 ≤ ⌊t * (K : ℝ)⌋ := Int.floor_nonneg.mpr (mul_nonneg ht0 hKR.le)
    by_cases hge : ⌊t * (K : ℝ)⌋ ≥ Int.ofNat K
    · have hz : idxZ K t = (K : ℤ) - 1 := by unfold idxZ; rw [if_pos hge]; rfl
      have hn : idxF K t = K - 1 := by unfold idxF; rw [hz]; omega
      have hKt : (1:ℝ) * K ≤ t * K := by
        rw [one_mul]; exact le_trans (by exact_mod_cast hge) (Int.floor_le _)
      have ht : t = 1 := le_antisymm ht1 (le_of_mul_le_mul_right hKt hKR)
      refine ⟨by rw [hz, hn]; omega, by rw [hn]; omega, ?_, Or.inr ⟨by rw [hn]; omega, ht⟩⟩
      rw [hn, ht]
      unfold kn
      rw [div_le_one hKR]
      exact_mod_cast Nat.sub_le K 1
    · have hz : idxZ K t = ⌊t * (K : ℝ)⌋ := by unfold idxZ; rw [if_neg hge]
      have hlt : ⌊t * (K : ℝ)⌋ < (K : ℤ) := by
        have : ¬ ((K : ℤ) ≤ ⌊t * (K : ℝ)⌋) := hge
        omega
      have hn : ((idxF K t : ℕ) : ℤ) = ⌊t * (K : ℝ)⌋ := by unfold idxF; rw [hz]; omega
      have hnR : ((idxF K t : ℕ) : ℝ) = ((⌊t * (K : ℝ)⌋ : ℤ) : ℝ) := by
        rw [← hn]; norm_cast
      refine ⟨by rw [hz, hn], by omega, ?_, Or.inl ?_⟩
      · unfold kn
        rw [div_le_iff₀ hKR, hnR]
        exact Int.floor_le _
      · unfold kn
        rw [lt_div_iff₀ hKR]
        push_cast
        rw [hnR]
        exact Int.lt_floor_add_one _
  constructor
  · intro t ht0 ht1
    rw [kn_zero] at ht0
    rw [kn_last hK] at ht1
    obtain ⟨_, h1, h2, h3⟩ := key t ht0 ht1
    rw [kn_last hK]
    exact ⟨h1, h2, h3⟩
  · intro t ht0 ht1
    exact (key t ht0 ht1).1

theorem idxF_eq_min {K : ℕ} (hK : 0 < K) (t : ℝ) : idxF K t = min ⌊t * (K : ℝ)⌋₊ (K - 1) := by
  unfold idxF idxZ
  by_cases hge : ⌊t * (K : ℝ)⌋ ≥ Int.ofNat K
  · rw [if_pos hge]
    have h1 : (K : ℤ) ≤ ⌊t * (K : ℝ)⌋ := hge
    have h2 : K ≤ ⌊t * (K : ℝ)⌋₊ := by
      rw [← Int.floor_toNat]; omega
    have h3 : (Int.ofNat K - 1 : ℤ).toNat = K - 1 := by
      have : (Int.ofNat K : ℤ) = (K : ℤ) := rfl
      omega
    rw [h3]; omega
  · rw [if_neg hge]
    have h1 : ¬ ((K : ℤ) ≤ ⌊t * (K : ℝ)⌋) := hge
    rw [Int.floor_toNat]
    have h2 : ⌊t * (K : ℝ)⌋₊ < K := by
      rw [← Int.floor_toNat]; omega
    omega

/-! ### per-bin closed forms of the forward direction (normalised coordinates) and the whole normalised map -/

variable (e)
def binF (up : List ℝ) (k : ℕ) (t : ℝ) : ℝ := cd e up k + (t * (up.length : ℝ) - (k : ℝ)) * pd e up k
/-- the log-abs-det of bin `k` in normalised coordinates: `log pdf_k − lK`, `lK` the Python-side constant `np.log(1/K)` -/
def binLdF (up : List ℝ) (k : ℕ) : ℝ :=
  Real.log (pd e up k) - e (Float.log (1.0 / up.length.toFloat))
def GF (up : List ℝ) (t : ℝ) : ℝ := binF e up (idxF up.length t) t
def LdF (up : List ℝ) (t : ℝ) : ℝ := binLdF e up (idxF up.length t)
variable {e}

theorem binF_left (hK : up ≠ []) (k : ℕ) : binF e up k (kn up.length k) = cd e up k := by
  unfold binF kn
  rw [div_mul_cancel₀ _ (K_posR hK).ne']
  ring

theorem binF_right (hK : up ≠ []) (k : ℕ) (hk : k < up.length) : binF e up k (kn up.length (k+1)) = cd e up (k+1) := by
  unfold binF kn
  rw [div_mul_cancel₀ _ (K_posR hK).ne', cd_step hK k hk]
  push_cast
  ring

theorem bin_strictMonoOn (hK : up ≠ []) (k : ℕ) (hk : k < up.length) :
    StrictMonoOn (binF e up k) (Set.Icc (kn up.length k) (kn up.length (k+1))) := by
  intro a _ b _ hab
  exact add_lt_add_right (mul_lt_mul_of_pos_right
    (sub_lt_sub_right (mul_lt_mul_of_pos_right hab (K_posR hK)) _) (pd_pos up k hk)) _

theorem searchedN (hK : up ≠ []) :
    ExecGlue.Searched up.length (kn up.length) (cd e up) 0 1 0 1 (binF e up) (idxF up.length) (GF e up) where
  pos := K_pos hK
  x0 := kn_zero _
  xK := kn_last (K_pos hK)
  y0 := cd_zero hK
  yK := cd_last hK
  xs_strict := kn_strict (K_pos hK)
  spec := (idxF_spec (K_pos hK)).1
  eq := fun _ _ _ => rfl
  left := fun k _ => binF_left hK k
  right := binF_right hK
  mono := bin_strictMonoOn hK

theorem binF_mem (hK : up ≠ []) (k : ℕ) (hk : k < up.length) (t : ℝ)
    (h0 : kn up.length k ≤ t) (h1 : t ≤ kn up.length (k+1)) :
    cd e up k ≤ binF e up k t ∧ binF e up k t ≤ cd e up (k+1) ∧ 0 ≤ binF e up k t ∧ binF e up k t ≤ 1 := by
  obtain ⟨a, b⟩ := (searchedN (e := e) hK).bin_mem k hk t ⟨h0, h1⟩
  exact ⟨a, b, (searchedN (e := e) hK).ybin_subset k hk ⟨a, b⟩⟩

theorem line_hasDerivAt (c p K k t : ℝ) : HasDerivAt (fun t : ℝ => c + (t * K - k) * p) (K * p) t := by
  have h := ((((hasDerivAt_id t).mul_const K).sub_const k).mul_const p).const_add c
  rwa [one_mul] at h

theorem binF_hasDerivAt (up : List ℝ) (k : ℕ) (t : ℝ) :
    HasDerivAt (binF e up k) ((up.length : ℝ) * pd e up k) t :=
  line_hasDerivAt _ _ _ _ t

/-! ### the executed forward program -/

variable (e)
def nx (box : Box) (x : ℝ) : ℝ := (x - e box.left) / (e box.right - e box.left)
def ny (box : Box) (y : ℝ) : ℝ := (y - e box.bottom) / (e box.top - e box.bottom)
variable {e}

theorem nx_mem (hv : LinValid e box eps up) (x : ℝ) (hx0 : e box.left ≤ x) (hx1 : x ≤ e box.right) :
    0 ≤ nx e box x ∧ nx e box x ≤ 1 :=
  ExecGlue.unit_mem hv.hlr hx0 hx1

theorem ny_mem (hv : LinValid e box eps up) (y : ℝ) (hy0 : e box.bottom ≤ y) (hy1 : y ≤ e box.top) :
    0 ≤ ny e box y ∧ ny e box y ≤ 1 :=
  ExecGlue.unit_mem hv.hbt hy0 hy1

/-! the knots in box coordinates: `x_j = left + (j/K)(right − left)`, `y_j = bottom + cdf_j (top − bottom)` -/

variable (e)
def xk (box : Box) (K : ℕ) (j : ℕ) : ℝ := e box.left + kn K j * (e box.right - e box.left)
def yk (box : Box) (up : List ℝ) (j : ℕ) : ℝ := e box.bottom + cd e up j * (e box.top - e box.bottom)
variable {e}

theorem nx_bin_iff (hv : LinValid e box eps up) (k : ℕ) (x : ℝ) :
    (kn up.length k < nx e box x ↔ xk e box up.length k < x) ∧ (nx e box x < kn up.length k ↔ x < xk e box up.length k) := by
  unfold xk
  rw [mul_comm]
  exact ExecGlue.unit_lt_iff hv.hlr

theorem ny_bin_iff (hv : LinValid e box eps up) (k : ℕ) (y : ℝ) :
    (cd e up k < ny e box y ↔ yk e box up k < y) ∧ (ny e box y < cd e up k ↔ y < yk e box up k) := by
  unfold yk
  rw [mul_comm]
  exact ExecGlue.unit_lt_iff hv.hbt


/-- **C17, totality + closed form (forward)**: for every `x ∈ [left, right]` the executed forward program returns a
    value; it is the closed form of bin `min(⌊x'K⌋, K−1)` (clamp inactive), rescaled to `[bottom, top]` -/
theorem exec_eq_bin (hv : LinValid e box eps up) (x : ℝ) (hx0 : e box.left ≤ x) (hx1 : x ≤ e box.right) :
    linSpline (NF.realX e) box eps up false x
      = .ok (GF e up (nx e box x) * (e box.top - e box.bottom) + e box.bottom,
             LdF e up (nx e box x) + e (boxLog box)) := by
  obtain ⟨ht0, ht1⟩ := nx_mem hv x hx0 hx1
  have hidx := (idxF_spec (K_pos hv.hK)).2
  obtain ⟨hiK, hle, hle1, _⟩ := (searchedN (e := e) hv.hK).sel (nx e box x) ht0 ht1
  set i := idxF up.length (nx e box x) with hi
  obtain ⟨_, _, hu0, hu1⟩ := binF_mem (e := e) hv.hK i hiK _ hle hle1
  rw [linSpline_of_index (NF.realX e) box eps up x (pdf := pdf e up) (cdf := cdf e up) (x' := nx e box x) rfl rfl
    (SplineTotal.guard_false _ _ x hx0 hx1) (by simp only [NF.realX_div, NF.realX_sub, NF.realX_ofFloat, hv.hdlr]; rfl)
    (f := ⌊nx e box x * (up.length : ℝ)⌋) (by rw [NF.realX_ofNat]; rfl) (hidx _ ht0 ht1) (SplineTotal.getI_getD _ i (by rw [pdf_length]; exact hiK))
    (SplineTotal.getI_getD _ i (by rw [(cdf_facts hv.hK).1]; omega))]
  have hout : linFwdInner (NF.realX e) up.length (nx e box x) i ((pdf e up).getD i 0) ((cdf e up).getD i 0)
      = binF e up i (nx e box x) := by
    simp only [linFwdInner, NF.realX_add, NF.realX_mul, NF.realX_sub, NF.realX_ofRat, NF.realX_ofNat]
    unfold binF cd pd
    simp
  unfold linFwdOut
  rw [hout, NF.realX_clamp01 e _ hu0 hu1]
  simp only [NF.realX_add, NF.realX_mul, NF.realX_sub, NF.realX_log, NF.realX_ofFloat, hv.hdbt]
  rfl

theorem clamp_inactive (hv : LinValid e box eps up) (x : ℝ) (hx0 : e box.left ≤ x) (hx1 : x ≤ e box.right) :
    (NF.realX e).clamp (NF.realX e).zero (NF.realX e).one (GF e up (nx e box x)) = GF e up (nx e box x) := by
  obtain ⟨ht0, ht1⟩ := nx_mem hv x hx0 hx1
  obtain ⟨g0, g1⟩ := (searchedN (e := e) hv.hK).mapsTo ⟨ht0, ht1⟩
  exact NF.realX_clamp01 e _ g0 g1

variable (e)
/-- what the forward program returns (0 on the error branch, which `exec_eq_bin` shows is not taken in the domain) -/
def val (box : Box) (eps : Float) (up : List ℝ) (x : ℝ) : ℝ := valOf (linSpline (NF.realX e) box eps up false x)
def ld (box : Box) (eps : Float) (up : List ℝ) (x : ℝ) : ℝ := ldOf (linSpline (NF.realX e) box eps up false x)
variable {e}

/-- **C17**: the forward program returns `.ok (val x, ld x)` on the whole of `[left, right]` -/
theorem exec_ok (hv : LinValid e box eps up) (x : ℝ) (hx0 : e box.left ≤ x) (hx1 : x ≤ e box.right) :
    linSpline (NF.realX e) box eps up false x = .ok (val e box eps up x, ld e box eps up x) := by
  unfold val ld; rw [exec_eq_bin hv x hx0 hx1]; rfl

theorem val_eq (hv : LinValid e box eps up) (x : ℝ) (hx0 : e box.left ≤ x) (hx1 : x ≤ e box.right) :
    val e box eps up x = GF e up (nx e box x) * (e box.top - e box.bottom) + e box.bottom := by
  unfold val; rw [exec_eq_bin hv x hx0 hx1]; rfl

theorem ld_eq (hv : LinValid e box eps up) (x : ℝ) (hx0 : e box.left ≤ x) (hx1 : x ≤ e box.right) :
    ld e box eps up x = LdF e up (nx e box x) + e (boxLog box) := by
  unfold ld; rw [exec_eq_bin hv x hx0 hx1]; rfl

/-- the forward value fully spelled out: bin `k = min(⌊x'K⌋, K−1)`, `out = cdf_k + (x'K − k)·pdf_k` -/
theorem val_closed_form (hv : LinValid e box eps up) (x : ℝ) (hx0 : e box.left ≤ x) (hx1 : x ≤ e box.right) :
    val e box eps up x
      = (cd e up (min ⌊nx e box x * (up.length : ℝ)⌋₊ (up.length - 1))
          + (nx e box x * (up.length : ℝ) - ((min ⌊nx e box x * (up.length : ℝ)⌋₊ (up.length - 1) : ℕ) : ℝ))
            * pd e up (min ⌊nx e box x * (up.length : ℝ)⌋₊ (up.length - 1)))
        * (e box.top - e box.bottom) + e box.bottom := by
  rw [val_eq hv x hx0 hx1]
  unfold GF binF
  rw [idxF_eq_min (K_pos hv.hK)]

theorem ld_closed_form (hv : LinValid e box eps up) (x : ℝ) (hx0 : e box.left ≤ x) (hx1 : x ≤ e box.right) :
    ld e box eps up x
      = Real.log (pd e up (min ⌊nx e box x * (up.length : ℝ)⌋₊ (up.length - 1)))
        - e (Float.log (1.0 / up.length.toFloat)) + e (boxLog box) := by
  rw [ld_eq hv x hx0 hx1]
  unfold LdF binLdF
  rw [idxF_eq_min (K_pos hv.hK)]

variable (e) in
def binX (box : Box) (up : List ℝ) (k : ℕ) (x : ℝ) : ℝ := binF e up k (nx e box x) * (e box.top - e box.bottom) + e box.bottom

theorem xk_eq : (fun k => e box.left + (e box.right - e box.left) * kn up.length k) = xk e box up.length :=
  funext fun _ => congrArg _ (mul_comm _ _)
theorem yk_eq : (fun k => e box.bottom + (e box.top - e box.bottom) * cd e up k) = yk e box up :=
  funext fun _ => congrArg _ (mul_comm _ _)

theorem searched (hv : LinValid e box eps up) :
    ExecGlue.Searched up.length (xk e box up.length) (yk e box up) (e box.left) (e box.right) (e box.bottom) (e box.top)
      (binX e box up) (fun x => idxF up.length (nx e box x)) (val e box eps up) :=
  xk_eq ▸ yk_eq ▸ (searchedN hv.hK).rescale hv.hlr hv.hbt (val_eq hv)

theorem log_sub_log_inv {p K : ℝ} (hp : p ≠ 0) (hK : K ≠ 0) : Real.log p - Real.log (1 / K) = Real.log (p * K) := by
  rw [Real.log_mul hp hK, one_div, Real.log_inv, sub_neg_eq_add]

theorem exp_log_sub_log_inv {p K : ℝ} (hp : 0 < p) (hK : 0 < K) : Real.exp (Real.log p - Real.log (1 / K)) = p * K := by
  rw [log_sub_log_inv hp.ne' hK.ne', Real.exp_log (mul_pos hp hK)]

theorem exp_binLdF (hK : up ≠ [])
    (hlogK : e (Float.log (1.0 / up.length.toFloat)) = Real.log (1 / (up.length : ℝ))) (k : ℕ) (hk : k < up.length) :
    Real.exp (binLdF e up k) = pd e up k * (up.length : ℝ) := by
  rw [binLdF, hlogK]
  exact exp_log_sub_log_inv (pd_pos up k hk) (K_posR hK)

theorem binX_hasDerivAt_slope (k : ℕ) (x : ℝ) :
    HasDerivAt (binX e box up k)
      (pd e up k * (up.length : ℝ) * ((e box.top - e box.bottom) / (e box.right - e box.left))) x :=
  (((HasDerivAt.comp (h := nx e box) (h₂ := binF e up k) x (binF_hasDerivAt up k _) (ExecGlue.unit_hasDerivAt _ _ x)).mul_const
    (e box.top - e box.bottom)).add_const (e box.bottom)).congr_deriv (by ring)

theorem binX_hasDerivAt (hv : LinValid e box eps up)
    (hlogK : e (Float.log (1.0 / up.length.toFloat)) = Real.log (1 / (up.length : ℝ)))
    (hbl : e (boxLog box) = Real.log ((e box.top - e box.bottom) / (e box.right - e box.left)))
    (k : ℕ) (hk : k < up.length) (x : ℝ) :
    HasDerivAt (binX e box up k) (Real.exp (binLdF e up k + e (boxLog box))) x :=
  (binX_hasDerivAt_slope k x).congr_deriv (by
    rw [hbl, Real.exp_add, exp_binLdF hv.hK hlogK k hk, Real.exp_log (div_pos (sub_pos.2 hv.hbt) (sub_pos.2 hv.hlr))])

/-- **C01 (forward) in box coordinates**: strictly between two consecutive knots the derivative of the executed forward
    program is `exp` of the log-abs-det it returns — provided the two Python-side `np.log` constants are read as the real
    logarithms -/
theorem val_hasDerivAt_x (hv : LinValid e box eps up)
    (hlogK : e (Float.log (1.0 / up.length.toFloat)) = Real.log (1 / (up.length : ℝ)))
    (hbl : e (boxLog box) = Real.log ((e box.top - e box.bottom) / (e box.right - e box.left)))
    (k : ℕ) (hk : k < up.length) (x : ℝ) (h0 : xk e box up.length k < x) (h1 : x < xk e box up.length (k+1)) :
    HasDerivAt (val e box eps up) (Real.exp (ld e box eps up x)) x :=
  (searched hv).hasDerivAt (ldf := fun k _ => binLdF e up k + e (boxLog box)) (ld_eq hv)
    (fun k hk x _ _ => binX_hasDerivAt hv hlogK hbl k hk x) k hk x h0 h1

/-! ### the inverse direction: `linspace`, slopes `pdf·K`, right knots -/

variable (e)
/-- `torch.linspace(0, 1, K+1)` as the program computes it -/
def bnd (K : ℕ) : List ℝ := linspace01 (NF.realX e) K
/-- the slopes the inverse program forms: `pdf * num_bins` -/
def slp (up : List ℝ) : List ℝ := (pdf e up).map (fun p => (NF.realX e).mul p ((NF.realX e).ofNat up.length))
variable {e}

theorem bnd_length (K : ℕ) : (bnd e K).length = K + 1 := by simp [bnd, linspace01]

/-- **both halves of ATen's `linspace` are `i/K` over the reals**: `i·(1/K)` below the middle, `1 − (K−i)·(1/K)` above -/
theorem bnd_getD {K : ℕ} (hK : 0 < K) (j : ℕ) (hj : j ≤ K) : (bnd e K).getD j 0 = kn K j := by
  have hKR : (K : ℝ) ≠ 0 := by exact_mod_cast hK.ne'
  unfold bnd linspace01
  rw [List.getD_eq_getElem?_getD, List.getElem?_map, List.getElem?_range (by omega)]
  simp only [Option.map_some, Option.getD_some]
  unfold kn
  split_ifs
  · simp only [NF.realX_mul, NF.realX_div, NF.realX_one, NF.realX_ofNat]
    field_simp
  · simp only [NF.realX_mul, NF.realX_div, NF.realX_one, NF.realX_ofNat, NF.realX_sub]
    rw [Nat.cast_sub hj]
    field_simp
    ring

theorem slp_length (up : List ℝ) : (slp e up).length = up.length := by
  unfold slp; rw [List.length_map, pdf_length]

theorem slp_getD (i : ℕ) (hi : i < up.length) : (slp e up).getD i 0 = pd e up i * (up.length : ℝ) := by
  have hi' : i < (pdf e up).length := by rw [pdf_length]; exact hi
  unfold slp pd
  simp [List.getD, hi']

/-! ### search over the cdf knots, per-bin closed forms of the inverse, the whole normalised inverse -/

variable (e)
def idxI (eps : Float) (up : List ℝ) (s : ℝ) : ℕ := (searchsortedG (NF.realX e) eps (cdf e up) s).toNat
def binI (up : List ℝ) (k : ℕ) (s : ℝ) : ℝ :=
  kn up.length (k+1) + (s - cd e up (k+1)) / (pd e up k * (up.length : ℝ))
def binLdI (up : List ℝ) (k : ℕ) : ℝ := - Real.log (pd e up k * (up.length : ℝ))
def GI (eps : Float) (up : List ℝ) (s : ℝ) : ℝ := binI e up (idxI e eps up s) s
def LdI (eps : Float) (up : List ℝ) (s : ℝ) : ℝ := binLdI e up (idxI e eps up s)
variable {e}

theorem search_specI (hv : LinValid e box eps up) :
    ExecGlue.SearchSpec (cd e up) up.length (idxI e eps up) ∧
    ∀ t, 0 ≤ t → t ≤ 1 → searchsortedG (NF.realX e) eps (cdf e up) t = ((idxI e eps up t : ℕ) : Int) :=
  SplineTotal.search_spec_list e eps hv.heps (cdf e up) up.length 0 1 (K_pos hv.hK) (cdf_facts hv.hK)

theorem binI_eq (hK : up ≠ []) (k : ℕ) (hk : k < up.length) (s : ℝ) :
    binI e up k s = kn up.length k + (s - cd e up k) / (pd e up k * (up.length : ℝ)) := by
  have hp := pd_pos (e := e) up k hk
  have hKR := K_posR hK
  unfold binI kn
  rw [cd_step hK k hk]
  push_cast
  field_simp
  ring

theorem binF_binI (hK : up ≠ []) (k : ℕ) (hk : k < up.length) (s : ℝ) : binF e up k (binI e up k s) = s := by
  have hp := pd_pos (e := e) up k hk
  have hKR := K_posR hK
  rw [binI_eq hK k hk]
  unfold binF kn
  field_simp
  ring

theorem binI_mem (hK : up ≠ []) (k : ℕ) (hk : k < up.length) (s : ℝ)
    (hs0 : cd e up k ≤ s) (hs1 : s ≤ cd e up (k+1)) :
    binI e up k s ∈ Set.Icc (kn up.length k) (kn up.length (k+1)) ∧ 0 ≤ binI e up k s ∧ binI e up k s ≤ 1 := by
  have hpK : 0 < pd e up k * (up.length : ℝ) := mul_pos (pd_pos up k hk) (K_posR hK)
  have h1 : kn up.length k ≤ binI e up k s := by
    rw [binI_eq hK k hk]
    exact le_add_of_nonneg_right (div_nonneg (sub_nonneg.2 hs0) hpK.le)
  have h2 : binI e up k s ≤ kn up.length (k+1) :=
    add_le_of_nonpos_right (div_nonpos_of_nonpos_of_nonneg (sub_nonpos.2 hs1) hpK.le)
  exact ⟨⟨h1, h2⟩, (searchedN (e := e) hK).bin_subset k hk ⟨h1, h2⟩⟩

theorem searchedInvN (hv : LinValid e box eps up) :
    ExecGlue.SearchedInv up.length (kn up.length) (cd e up) 0 1 (binF e up) (binI e up) (idxI e eps up) (GI e eps up) where
  specI := (search_specI hv).1
  eqI := fun _ _ _ => rfl
  mem := fun k hk s h0 h1 => (binI_mem hv.hK k hk s h0 h1).1
  root := fun k hk s _ _ => binF_binI hv.hK k hk s

theorem idxI_GF (hv : LinValid e box eps up) (t : ℝ) (ht0 : 0 ≤ t) (ht1 : t ≤ 1) :
    idxI e eps up (GF e up t) = idxF up.length t := (searchedInvN hv).idxI_val (searchedN hv.hK) t ht0 ht1

/-! ### the executed inverse program -/

/-- **C17, totality + closed form (inverse)**: for every `y ∈ [bottom, top]` the executed inverse program returns a
    value; it is `(i+1)/K + (y' − cdf_{i+1})/(pdf_i·K)` for the bin `i` the executed search over the cdf knots selected
    (all three gathers in range, clamp inactive), rescaled to `[left, right]`; the log-abs-det is `−log(pdf_i·K) − boxLog` -/
theorem inv_exec_eq_bin (hv : LinValid e box eps up) (y : ℝ) (hy0 : e box.bottom ≤ y) (hy1 : y ≤ e box.top) :
    linSpline (NF.realX e) box eps up true y
      = .ok (GI e eps up (ny e box y) * (e box.right - e box.left) + e box.left,
             LdI e eps up (ny e box y) - e (boxLog box)) := by
  obtain ⟨hs0, hs1⟩ := ny_mem hv y hy0 hy1
  obtain ⟨hiK, hle, hle1, _⟩ := (searchedInvN hv).sel (searchedN hv.hK) _ hs0 hs1
  set i := idxI e eps up (ny e box y) with hi
  obtain ⟨_, hu0, hu1⟩ := binI_mem (e := e) hv.hK i hiK _ hle hle1
  rw [linSpline_of_search (NF.realX e) box eps up y (pdf := pdf e up) (cdf := cdf e up) (x' := ny e box y) rfl rfl
    (SplineTotal.guard_false _ _ y hy0 hy1) (by simp only [NF.realX_div, NF.realX_sub, NF.realX_ofFloat, hv.hdbt]; rfl)
    ((search_specI hv).2 _ hs0 hs1) (SplineTotal.getI_getD (slp e up) i (by rw [slp_length]; exact hiK))
    (SplineTotal.getI_getD _ i (by rw [List.length_drop, (cdf_facts hv.hK).1]; omega))
    (SplineTotal.getI_getD ((bnd e up.length).drop 1) i (by rw [List.length_drop, bnd_length]; omega)),
    slp_getD i hiK, SplineExec.getD_drop1, SplineExec.getD_drop1, bnd_getD (K_pos hv.hK) (i+1) hiK]
  have hout : linInvInner (NF.realX e) (ny e box y) (pd e up i * (up.length : ℝ)) ((cdf e up).getD (i+1) 0)
      (kn up.length (i+1)) = binI e up i (ny e box y) := rfl
  unfold linInvOut
  rw [hout, NF.realX_clamp01 e _ hu0 hu1]
  simp only [NF.realX_add, NF.realX_mul, NF.realX_sub, NF.realX_neg, NF.realX_log, NF.realX_ofFloat, hv.hdlr]
  rfl

theorem clamp_inactive_inv (hv : LinValid e box eps up) (y : ℝ) (hy0 : e box.bottom ≤ y) (hy1 : y ≤ e box.top) :
    (NF.realX e).clamp (NF.realX e).zero (NF.realX e).one (GI e eps up (ny e box y)) = GI e eps up (ny e box y) := by
  obtain ⟨hs0, hs1⟩ := ny_mem hv y hy0 hy1
  obtain ⟨g0, g1⟩ := (searchedInvN hv).inv_mapsTo (searchedN hv.hK) ⟨hs0, hs1⟩
  exact NF.realX_clamp01 e _ g0 g1

variable (e)
/-- what the inverse program returns (0 on the error branch, which `inv_exec_eq_bin` shows is not taken in the domain) -/
def inv (box : Box) (eps : Float) (up : List ℝ) (y : ℝ) : ℝ := valOf (linSpline (NF.realX e) box eps up true y)
def invLd (box : Box) (eps : Float) (up : List ℝ) (y : ℝ) : ℝ := ldOf (linSpline (NF.realX e) box eps up true y)
variable {e}

/-- **C17**: the inverse program returns `.ok (inv y, invLd y)` on the whole of `[bottom, top]` -/
theorem inv_exec_ok (hv : LinValid e box eps up) (y : ℝ) (hy0 : e box.bottom ≤ y) (hy1 : y ≤ e box.top) :
    linSpline (NF.realX e) box eps up true y = .ok (inv e box eps up y, invLd e box eps up y) := by
  unfold inv invLd; rw [inv_exec_eq_bin hv y hy0 hy1]; rfl

theorem inv_eq (hv : LinValid e box eps up) (y : ℝ) (hy0 : e box.bottom ≤ y) (hy1 : y ≤ e box.top) :
    inv e box eps up y = GI e eps up (ny e box y) * (e box.right - e box.left) + e box.left := by
  unfold inv; rw [inv_exec_eq_bin hv y hy0 hy1]; rfl

theorem invLd_eq (hv : LinValid e box eps up) (y : ℝ) (hy0 : e box.bottom ≤ y) (hy1 : y ≤ e box.top) :
    invLd e box eps up y = LdI e eps up (ny e box y) - e (boxLog box) := by
  unfold invLd; rw [inv_exec_eq_bin hv y hy0 hy1]; rfl

/-- the inverse value fully spelled out: `i` the searched cdf-bin, `out = i/K + (y' − cdf_i)/(pdf_i·K)` -/
theorem inv_closed_form (hv : LinValid e box eps up) (y : ℝ) (hy0 : e box.bottom ≤ y) (hy1 : y ≤ e box.top) :
    inv e box eps up y
      = ((idxI e eps up (ny e box y) : ℝ) / (up.length : ℝ)
          + (ny e box y - cd e up (idxI e eps up (ny e box y)))
              / (pd e up (idxI e eps up (ny e box y)) * (up.length : ℝ)))
        * (e box.right - e box.left) + e box.left ∧
    invLd e box eps up y = - Real.log (pd e up (idxI e eps up (ny e box y)) * (up.length : ℝ)) - e (boxLog box) := by
  obtain ⟨hs0, hs1⟩ := ny_mem hv y hy0 hy1
  obtain ⟨hiK, _, _, _⟩ := (searchedInvN hv).sel (searchedN hv.hK) _ hs0 hs1
  rw [inv_eq hv y hy0 hy1, invLd_eq hv y hy0 hy1]
  unfold GI LdI binLdI
  rw [binI_eq hv.hK _ hiK]
  exact ⟨rfl, rfl⟩

variable (e) in
def binY (box : Box) (up : List ℝ) (k : ℕ) (y : ℝ) : ℝ := binI e up k (ny e box y) * (e box.right - e box.left) + e box.left

theorem searchedInv (hv : LinValid e box eps up) :
    ExecGlue.SearchedInv up.length (xk e box up.length) (yk e box up) (e box.bottom) (e box.top)
      (binX e box up) (binY e box up) (fun y => idxI e eps up (ny e box y)) (inv e box eps up) :=
  xk_eq ▸ yk_eq ▸ (searchedInvN hv).rescale hv.hlr hv.hbt (inv_eq hv)

/-- per-bin log-abs-det law.  `boxLog` needs no reading (added by one program, subtracted by the other); the forward program
    subtracts the Python-side double `np.log(1/K)`, the inverse program takes `log` of the in-tensor slope `pdf·K`: they are
    negatives of each other exactly when the constant is read as the real `log (1/K)` -/
theorem ld_law (hv : LinValid e box eps up)
    (hlogK : e (Float.log (1.0 / up.length.toFloat)) = Real.log (1 / (up.length : ℝ)))
    (k : ℕ) (hk : k < up.length) (y : ℝ) (_ : yk e box up k ≤ y) (_ : y ≤ yk e box up (k+1)) :
    binLdI e up k - e (boxLog box) = - (binLdF e up k + e (boxLog box)) := by
  unfold binLdI binLdF
  rw [hlogK, log_sub_log_inv (pd_pos up k hk).ne' (K_posR hv.hK).ne']
  ring

theorem boxPair (hv : LinValid e box eps up) :
    ElemPair.BoxPair (linSpline (NF.realX e) box eps up false) (linSpline (NF.realX e) box eps up true)
      (e box.left) (e box.right) (e box.bottom) (e box.top) where
  dom := fun x _ h => SplineTotal.ok_dom_of_rejects (SplineTotal.linSpline_rejects_outside _ box eps up false x) h
  domI := fun y _ h => SplineTotal.ok_dom_of_rejects (SplineTotal.linSpline_rejects_outside _ box eps up true y) h
  total := fun x h0 h1 => ⟨_, exec_ok hv x h0 h1⟩
  totalI := fun y h0 h1 => ⟨_, inv_exec_ok hv y h0 h1⟩
  rinv := (searchedInv hv).rightInv (searched hv)

/-- **C02: the inverse log-abs-det is minus the forward log-abs-det at the inverse value**, on the whole closed box
    (knots included) -/
theorem invLd_eq_neg_ld (hv : LinValid e box eps up)
    (hlogK : e (Float.log (1.0 / up.length.toFloat)) = Real.log (1 / (up.length : ℝ)))
    (y : ℝ) (hy0 : e box.bottom ≤ y) (hy1 : y ≤ e box.top) :
    invLd e box eps up y = - ld e box eps up (inv e box eps up y) :=
  (searchedInv hv).invLd_eq_neg_ld (searched hv) (ldf := fun k _ => binLdF e up k + e (boxLog box))
    (ldg := fun k _ => binLdI e up k - e (boxLog box)) (ld_eq hv) (invLd_eq hv) (ld_law hv hlogK) y hy0 hy1

theorem ldLaw (hv : LinValid e box eps up)
    (hlogK : e (Float.log (1.0 / up.length.toFloat)) = Real.log (1 / (up.length : ℝ))) :
    ElemPair.LdLaw (linSpline (NF.realX e) box eps up false) (linSpline (NF.realX e) box eps up true) (e box.bottom) (e box.top) :=
  invLd_eq_neg_ld hv hlogK

/-- **C01 (inverse) in box coordinates**: strictly between two consecutive output knots the derivative of the executed
    inverse program is `exp` of the log-abs-det it returns.  Only `boxLog` must be read as the real logarithm: the law is used
    with the TRUE log-slope `log (pdf_k·K)` of the forward bin in place of the program's `binLdF` (which is that only when
    `np.log(1/K)` is read exactly) -/
theorem inv_hasDerivAt_y (hv : LinValid e box eps up)
    (hbl : e (boxLog box) = Real.log ((e box.top - e box.bottom) / (e box.right - e box.left)))
    (k : ℕ) (hk : k < up.length) (y : ℝ) (h0 : yk e box up k < y) (h1 : y < yk e box up (k+1)) :
    HasDerivAt (inv e box eps up) (Real.exp (invLd e box eps up y)) y := by
  refine (searchedInv hv).inv_hasDerivAt (searched hv)
    (ldf := fun k _ => Real.log (pd e up k * (up.length : ℝ)) + e (boxLog box))
    (ldg := fun k _ => binLdI e up k - e (boxLog box)) (invLd_eq hv) (fun k _ _ _ _ => by unfold binLdI; ring)
    (fun k hk x _ _ => ?_) k hk y h0 h1
  exact (binX_hasDerivAt_slope k x).congr_deriv (by
    rw [hbl, Real.exp_add, Real.exp_log (mul_pos (pd_pos up k hk) (K_posR hv.hK)),
      Real.exp_log (div_pos (sub_pos.2 hv.hbt) (sub_pos.2 hv.hlr))])

theorem exp_invLd_mul (hv : LinValid e box eps up)
    (hlogK : e (Float.log (1.0 / up.length.toFloat)) = Real.log (1 / (up.length : ℝ)))
    (y : ℝ) (hy0 : e box.bottom ≤ y) (hy1 : y ≤ e box.top) :
    Real.exp (invLd e box eps up y) * Real.exp (ld e box eps up (inv e box eps up y)) = 1 := by
  rw [invLd_eq_neg_ld hv hlogK y hy0 hy1, ← Real.exp_add]
  simp

theorem val_hasDerivWithinAt_left (hv : LinValid e box eps up) :
    HasDerivWithinAt (val e box eps up)
      (pd e up 0 * (up.length : ℝ) * ((e box.top - e box.bottom) / (e box.right - e box.left)))
      (Set.Ici (e box.left)) (e box.left) := by
  have P := searched hv
  have h := P.hasDerivWithinAt_Ici 0 P.pos (binX_hasDerivAt_slope 0 (xk e box up.length 0))
  rwa [P.x0] at h

/-! ### non-vacuity: the unit box, EVERY non-empty parameter vector, a concrete reading of the doubles -/


theorem valid_unit_box (up : List ℝ) (hK : up ≠ []) : LinValid RQWhole.eNV ⟨0.0, 1.0, 0.0, 1.0⟩ 1e-6 up where
  hK := hK
  hlr := by simp [RQWhole.eNV, FloatFacts.zero_beq_zero, FloatFacts.one_beq_zero]
  hdlr := by simp [RQWhole.eNV, FloatFacts.zero_beq_zero, FloatFacts.one_beq_zero, FloatFacts.one_sub_zero_eq]
  hbt := by simp [RQWhole.eNV, FloatFacts.zero_beq_zero, FloatFacts.one_beq_zero]
  hdbt := by simp [RQWhole.eNV, FloatFacts.zero_beq_zero, FloatFacts.one_beq_zero, FloatFacts.one_sub_zero_eq]
  heps := by simp [RQWhole.eNV, FloatFacts.eps_beq_zero]

theorem valid_example : LinValid RQWhole.eNV ⟨0.0, 1.0, 0.0, 1.0⟩ 1e-6 [0, 1, -1] := valid_unit_box _ (by simp)

/-- the two `np.log` readings `hlogK`, `hbl` hold for `eNV`, one bin and the unit box as soon as the two IEEE facts
    `log(1.0/1.0) == 0.0` and `log((1.0−0.0)/(1.0−0.0)) == 0.0` are granted (`Float.log` is opaque to the kernel, so
    they cannot be decided inside Lean; `#eval` confirms both) -/
theorem logs_example (h1 : (Float.log (1.0 / (1:ℕ).toFloat) == 0.0) = true)
    (h2 : (boxLog ⟨0.0, 1.0, 0.0, 1.0⟩ == 0.0) = true) :
    RQWhole.eNV (Float.log (1.0 / ([(0:ℝ)].length).toFloat)) = Real.log (1 / (([(0:ℝ)].length : ℕ) : ℝ)) ∧
    RQWhole.eNV (boxLog ⟨0.0, 1.0, 0.0, 1.0⟩)
      = Real.log ((RQWhole.eNV 1.0 - RQWhole.eNV 0.0) / (RQWhole.eNV 1.0 - RQWhole.eNV 0.0)) := by
  constructor
  · have : [(0:ℝ)].length = 1 := rfl
    rw [this]
    simp [RQWhole.eNV, h1]
  · simp [RQWhole.eNV, h2, FloatFacts.zero_beq_zero, FloatFacts.one_beq_zero]

/-- the floor index is computed from the real input (`XOps.floorInt`, not through `toFloat`, which is constant at the
    reals): with two bins the input `3/4` is in bin 1 -/
theorem idxF_example : idxF 2 (3/4 : ℝ) = 1 := by
  rw [idxF_eq_min (by norm_num)]
  have : ⌊(3/4 : ℝ) * ((2:ℕ) : ℝ)⌋₊ = 1 := by
    rw [Nat.floor_eq_iff (by norm_num)]
    norm_num
  rw [this]
  rfl

end
end LinWhole
