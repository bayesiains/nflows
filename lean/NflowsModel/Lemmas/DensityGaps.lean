import NflowsModel.Lemmas.DistReal
import Mathlib.MeasureTheory.Constructions.Pi
import Mathlib.MeasureTheory.Measure.Lebesgue.Basic
import Mathlib.MeasureTheory.Integral.Pi
import Mathlib.MeasureTheory.Measure.WithDensity
import Mathlib.Analysis.SpecialFunctions.Pow.Real
/-!
# Lemmas/DensityGaps — the executed densities of C05 as measure statements

The executed Bernoulli sampling map has the executed `log_prob` as its law; the KDE bandwidth `N ** (-1/(D+4))` and its
`N = 0` artefact; `MG1Uniform` is normalised and its sampling map has that law; the law of `μ + σ ⊙ ε` on `ℝᴰ`.
-/
open MeasureTheory ProbabilityTheory DualSound NF NF.Density DistReal

namespace DensityGaps
noncomputable section
variable (e : Float → ℝ)

/-! ## §1 Bernoulli: executed sigmoid, executed sampling map, executed density -/

theorem sigmoid_exec_eq_density (l : ℝ) (h : |l| ≤ 20) :
    (NF.realX e).sigmoid l = Real.exp (bernRow (NF.realX e) [l] [1]) ∧
    1 - (NF.realX e).sigmoid l = Real.exp (bernRow (NF.realX e) [l] [0]) := by
  have h2 := Bernoulli.bern_two l
  rw [realX_sigmoid, show bernRow (NF.realX e) [l] [1] = Bernoulli.bernLogp l true from bernRow_one e l h true,
    show bernRow (NF.realX e) [l] [0] = Bernoulli.bernLogp l false from bernRow_one e l h false,
    ← Bernoulli.exp_bernLogp_true l]
  exact ⟨rfl, by linarith⟩

/-- the executed sampling map on one context row / one draw (discrete.py:58-68) -/
theorem bernSampleMap_exec {D : ℕ} (l u : Fin D → ℝ) :
    bernSampleMap (NF.realX e) [List.ofFn l] 1 [List.ofFn u]
      = [List.ofFn fun i => if u i < (NF.realX e).sigmoid (l i) then (1 : ℝ) else 0] := by
  simp only [bernSampleMap, List.length_singleton, List.range_one, List.flatMap_cons, List.flatMap_nil, List.map_cons,
    List.map_nil, List.append_nil, Nat.zero_mul, Nat.add_zero, List.getD_cons_zero, zipWith_ofFn, realX_lt, realX_one, realX_zero,
    decide_eq_true_eq]

/-- one coordinate: the noise values in `[0,1)` for which the executed indicator equals `ind x` form an interval of
    length `exp(executed log_prob of x)` -/
theorem bern_coord_set (l : ℝ) (h : |l| ≤ 20) (x : Bool) :
    volume {t : ℝ | (0 ≤ t ∧ t < 1) ∧ (if t < (NF.realX e).sigmoid l then (1 : ℝ) else 0) = Bernoulli.ind x}
      = ENNReal.ofReal (Real.exp (bernRow (NF.realX e) [l] [Bernoulli.ind x])) := by
  obtain ⟨hp0, hp1⟩ := realX_sigmoid_mem e l
  obtain ⟨e1, e0⟩ := sigmoid_exec_eq_density e l h
  cases x
  · have : {t : ℝ | (0 ≤ t ∧ t < 1) ∧ (if t < (NF.realX e).sigmoid l then (1 : ℝ) else 0) = Bernoulli.ind false}
        = Set.Ico ((NF.realX e).sigmoid l) 1 := by
      ext t
      simp only [Set.mem_ofPred_eq, Set.mem_Ico, Bernoulli.ind, Bool.false_eq_true, if_false, ite_eq_right_iff,
        one_ne_zero, imp_false, not_lt]
      exact ⟨fun h => ⟨h.2, h.1.2⟩, fun h => ⟨⟨hp0.le.trans h.1, h.2⟩, h.1⟩⟩
    rw [this, Real.volume_Ico]
    simp only [Bernoulli.ind, Bool.false_eq_true, if_false]
    rw [← e0]
  · have : {t : ℝ | (0 ≤ t ∧ t < 1) ∧ (if t < (NF.realX e).sigmoid l then (1 : ℝ) else 0) = Bernoulli.ind true}
        = Set.Ico 0 ((NF.realX e).sigmoid l) := by
      ext t
      simp only [Set.mem_ofPred_eq, Set.mem_Ico, Bernoulli.ind, if_true, ite_eq_left_iff, zero_ne_one, imp_false,
        not_not]
      exact ⟨fun h => ⟨h.1.1, h.2⟩, fun h => ⟨⟨h.1, h.2.trans hp1⟩, h.2⟩⟩
    rw [this, Real.volume_Ico, sub_zero]
    simp only [Bernoulli.ind, if_true]
    rw [← e1]

/-- **samples follow the EXECUTED density, every event size `D`**: with noise `u` uniform on `[0,1)ᴰ` (`torch.rand`,
    trusted), the executed sampling map `[u < sigmoid(logits)]` returns the binary row `x` with probability
    `exp(bernRow …)` — `exp` of the executed `log_prob` of that row (logits below the softplus threshold, which
    `Properties.C05.bernoulli_threshold_counterexample` shows to be necessary for the density to be a density at all) -/
theorem bernoulli_sample_law_exec {D : ℕ} (l : Fin D → ℝ) (h : ∀ i, |l i| ≤ 20) (x : Fin D → Bool) :
    volume {u : Fin D → ℝ | (∀ i, 0 ≤ u i ∧ u i < 1) ∧
        bernSampleMap (NF.realX e) [List.ofFn l] 1 [List.ofFn u] = [List.ofFn fun i => Bernoulli.ind (x i)]}
      = ENNReal.ofReal (Real.exp (bernRow (NF.realX e) (List.ofFn l) (List.ofFn fun i => Bernoulli.ind (x i)))) := by
  have hset : {u : Fin D → ℝ | (∀ i, 0 ≤ u i ∧ u i < 1) ∧
        bernSampleMap (NF.realX e) [List.ofFn l] 1 [List.ofFn u] = [List.ofFn fun i => Bernoulli.ind (x i)]}
      = Set.pi Set.univ (fun i => {t : ℝ | (0 ≤ t ∧ t < 1) ∧
          (if t < (NF.realX e).sigmoid (l i) then (1 : ℝ) else 0) = Bernoulli.ind (x i)}) := by
    ext u
    simp only [Set.mem_ofPred_eq, bernSampleMap_exec, Set.mem_pi, Set.mem_univ, true_implies, List.cons.injEq, and_true]
    rw [List.ofFn_inj]
    constructor
    · rintro ⟨h1, h2⟩ i
      exact ⟨h1 i, congrFun h2 i⟩
    · intro h1
      exact ⟨fun i => (h1 i).1, funext fun i => (h1 i).2⟩
  rw [hset, volume_pi_pi, bernRow_sum, Real.exp_sum, ENNReal.ofReal_prod_of_nonneg (fun i _ => (Real.exp_pos _).le)]
  apply Finset.prod_congr rfl
  intro i _
  exact bern_coord_set e (l i) (h i) (x i)

/-! ## §2 the KDE bandwidth -/

theorem kdeExponent_neg (D : ℕ) : -(1 / ((D + 4 : ℕ) : ℝ)) < 0 := by
  exact neg_lt_zero.mpr (one_div_pos.mpr (Nat.cast_pos.mpr (Nat.succ_pos _)))

/-- **the bandwidth the code uses, `std = N ** (-1/(D+4))`, for a non-empty sample set**: the executed value is that
    real power, it is positive and at most one -/
theorem kdeStd_exec_pos (N D : ℕ) (hN : 0 < N) :
    kdeStd (NF.realX e) N D = (N : ℝ) ^ (-(1 / ((D + 4 : ℕ) : ℝ))) ∧ 0 < kdeStd (NF.realX e) N D ∧
    kdeStd (NF.realX e) N D ≤ 1 := by
  have h1 : kdeStd (NF.realX e) N D = (N : ℝ) ^ (-(1 / ((D + 4 : ℕ) : ℝ))) := by
    rw [kdeStd_real, Real.rpow_def_of_pos (Nat.cast_pos.mpr hN), mul_comm]
  refine ⟨h1, kdeStd_pos e N D, ?_⟩
  rw [h1]
  exact Real.rpow_le_one_of_one_le_of_nonpos (Nat.one_le_cast.mpr hN) (kdeExponent_neg D).le

/-- **artefact of the model at `N = 0`**: the executed formula `exp(-(1/(D+4)) · log N)` returns `1` for an empty
    sample set (`Real.log 0 = 0`), where Python's `0 ** (-1/(D+4))` raises `ZeroDivisionError`; it is NOT the real
    power `0 ^ (-1/(D+4)) = 0` of Mathlib's totalisation either.  So `0 < N` is a necessary hypothesis of
    `kdeStd_exec_pos`, and positivity of `kdeStd` at `N = 0` says nothing about the code. -/
theorem kdeStd_zero_counterexample (D : ℕ) :
    kdeStd (NF.realX e) 0 D = 1 ∧ kdeStd (NF.realX e) 0 D ≠ ((0 : ℕ) : ℝ) ^ (-(1 / ((D + 4 : ℕ) : ℝ))) := by
  have h1 : kdeStd (NF.realX e) 0 D = 1 := by
    rw [kdeStd_real, Nat.cast_zero, Real.log_zero, mul_zero, Real.exp_zero]
  rw [h1, Nat.cast_zero, Real.zero_rpow (kdeExponent_neg D).ne]
  exact ⟨rfl, one_ne_zero⟩

/-! ## product densities on a box -/

theorem indicator_pi_prod {D : ℕ} (s : Fin D → Set ℝ) (f : Fin D → ℝ → ℝ) (x : Fin D → ℝ) :
    (Set.pi Set.univ s).indicator (fun x => ∏ i, f i (x i)) x = ∏ i, (s i).indicator (f i) (x i) := by
  by_cases hx : x ∈ Set.pi Set.univ s
  · rw [Set.indicator_of_mem hx]
    exact Finset.prod_congr rfl fun i _ => (Set.indicator_of_mem (hx i (Set.mem_univ i)) _).symm
  · rw [Set.indicator_of_notMem hx]
    simp only [Set.mem_pi, Set.mem_univ, true_implies, not_forall] at hx
    obtain ⟨i, hi⟩ := hx
    exact (Finset.prod_eq_zero (Finset.mem_univ i) (Set.indicator_of_notMem hi _)).symm

/-- Fubini for a product density on a half-open box, written with the support test of the code -/
theorem integral_box_prod {D : ℕ} (a b : Fin D → ℝ) (f : Fin D → ℝ → ℝ) :
    ∫ x : Fin D → ℝ, (if ∀ i, a i ≤ x i ∧ x i < b i then ∏ i, f i (x i) else 0)
      = ∏ i, ∫ t in Set.Ico (a i) (b i), f i t := by
  have hbox : ∀ x : Fin D → ℝ, (if ∀ i, a i ≤ x i ∧ x i < b i then ∏ i, f i (x i) else 0)
      = ∏ i, (Set.Ico (a i) (b i)).indicator (f i) (x i) := fun x => by
    classical
    rw [← indicator_pi_prod, Set.indicator_apply]
    exact if_congr ⟨fun h i _ => h i, fun h i => h i (Set.mem_univ i)⟩ rfl rfl
  rw [funext hbox, integral_fintype_prod_volume_eq_prod (fun i t => (Set.Ico (a i) (b i)).indicator (f i) t)]
  exact Finset.prod_congr rfl fun i _ => integral_indicator measurableSet_Ico

/-! ## §3 MG1Uniform: normalisation and sampling law -/

theorem vecMul_measurePreserving {ι : Type} [Fintype ι] [DecidableEq ι] (M : Matrix ι ι ℝ) (hM : M.det = 1) :
    MeasurePreserving (fun p : ι → ℝ => Matrix.vecMul p M) volume volume := by
  have hfun : (fun p : ι → ℝ => Matrix.vecMul p M) = ⇑(Matrix.toLin' M.transpose) := by
    funext p; rw [Matrix.toLin'_apply, Matrix.mulVec_transpose]
  rw [hfun]
  refine ⟨(LinearMap.continuous_on_pi _).measurable, ?_⟩
  rw [Real.map_matrix_volume_pi_eq_smul_volume_pi (by rw [Matrix.det_transpose, hM]; exact one_ne_zero),
    Matrix.det_transpose, hM, inv_one, abs_one, ENNReal.ofReal_one, one_smul]

/-- the density of the noise: uniform on the closed box (torch's `Uniform` validates `low ≤ v ≤ high`) -/
def boxDens (low high : Fin 3 → ℝ) : (Fin 3 → ℝ) → ℝ :=
  (Set.Icc low high).indicator (fun _ => ∏ i, (high i - low i)⁻¹)

/-- **the density of the executed MG1 prior row**: `exp` of the sum of the per-coordinate values `mg1LogProb`
    returns, and `0` where it raises `ValueError` (noise outside the closed box) -/
def mg1Density (low high p : Fin 3 → ℝ) : ℝ :=
  match mg1LogProb (NF.realX e) (List.ofFn low) (List.ofFn high) (List.ofFn p) with
  | .ok v => Real.exp v.sum
  | .error _ => 0

theorem ofFn3 {α : Type} (p : Fin 3 → α) : List.ofFn p = [p 0, p 1, p 2] := by
  simp [List.ofFn_succ]

theorem vecMul_mg1A (p : Fin 3 → ℝ) : Matrix.vecMul p mg1A = ![p 0, p 1 - p 0, p 2] := by
  ext i
  fin_cases i <;> simp [mg1A, Matrix.vecMul, dotProduct, Fin.sum_univ_three] <;> ring

theorem vecMul_mg1Ainv (v : Fin 3 → ℝ) : Matrix.vecMul v mg1Ainv = ![v 0, v 0 + v 1, v 2] := by
  ext i
  fin_cases i <;> simp [mg1Ainv, Matrix.vecMul, dotProduct, Fin.sum_univ_three]

theorem mg1A_det : mg1A.det = 1 := by
  simp [mg1A, Matrix.det_fin_three]

theorem mg1Ainv_mul_mg1A : mg1Ainv * mg1A = 1 := by
  rw [mg1A, mg1Ainv, Matrix.mul_fin_three, Matrix.one_fin_three]
  norm_num

theorem mg1Ainv_det : mg1Ainv.det = 1 := by
  have h := congrArg Matrix.det mg1Ainv_mul_mg1A
  rwa [Matrix.det_mul, mg1A_det, mul_one, Matrix.det_one] at h

theorem mg1ToNoise_real (p : Fin 3 → ℝ) :
    mg1ToNoise (NF.realX e) (List.ofFn p) = List.ofFn (Matrix.vecMul p mg1A) := by
  rw [vecMul_mg1A, ofFn3 p, ofFn3]
  rfl

/-- at the reals one coordinate of torch's `Uniform.log_prob` is `-log(high - low)` for EVERY `x` (outside `[low, high)`
    the code's `log 0 = -inf` is `Real.log 0 = 0`): the support of `mg1Density` comes from the executed `ValueError`
    check, which is why the density below is defined through it -/
theorem uniformCoord_total (l h x : ℝ) : uniformCoord (NF.realX e) l h x = -Real.log (h - l) := by
  by_cases hin : l ≤ x ∧ x < h
  · exact uniformCoord_inside e l h x hin
  · simp [uniformCoord, hin]

theorem mg1Density_eq (low high p : Fin 3 → ℝ) (hlh : ∀ i, low i < high i) :
    mg1Density e low high p = boxDens low high (Matrix.vecMul p mg1A) := by
  unfold mg1Density mg1LogProb boxDens
  simp only [mg1ToNoise_real]
  by_cases hin : Matrix.vecMul p mg1A ∈ Set.Icc low high
  · rw [Set.indicator_of_mem hin]
    simp only [(closedBox_real e low high _).mpr hin, Bool.not_true, Bool.false_eq_true, if_false]
    simp only [zipWith3_ofFn, List.sum_ofFn, uniformCoord_total]
    rw [Real.exp_sum]
    refine Finset.prod_congr rfl fun i _ => ?_
    rw [Real.exp_neg, Real.exp_log (sub_pos.mpr (hlh i))]
  · rw [Set.indicator_of_notMem hin]
    simp only [Bool.eq_false_iff.mpr (mt (closedBox_real e low high _).mp hin), Bool.not_false, if_true]

theorem boxDens_measurable (low high : Fin 3 → ℝ) : Measurable (boxDens low high) :=
  measurable_const.indicator measurableSet_Icc

theorem boxDens_integral (low high : Fin 3 → ℝ) (hlh : ∀ i, low i < high i) : ∫ v, boxDens low high v = 1 := by
  unfold boxDens
  rw [integral_indicator_const _ measurableSet_Icc, Measure.real, Real.volume_Icc_pi_toReal (fun i => (hlh i).le),
    smul_eq_mul, ← Finset.prod_mul_distrib]
  apply Finset.prod_eq_one
  intro i _
  exact mul_inv_cancel₀ (by linarith [hlh i])

/-- **MG1Uniform is normalised**: `∫ exp(log_prob) = 1` for the executed prior row, every non-degenerate box
    (the push-forward of the box uniform by the linear map `A⁻¹` with `|det| = 1`) -/
theorem mg1_normalised (low high : Fin 3 → ℝ) (hlh : ∀ i, low i < high i) :
    ∫ p : Fin 3 → ℝ, mg1Density e low high p = 1 := by
  simp_rw [mg1Density_eq e low high _ hlh]
  have hmp := vecMul_measurePreserving mg1A mg1A_det
  have := integral_map (μ := volume) hmp.measurable.aemeasurable
    (f := boxDens low high) (boxDens_measurable low high).aestronglyMeasurable
  rw [hmp.map_eq] at this
  rw [← this]
  exact boxDens_integral low high hlh

/-- **MG1Uniform sampling has that law**: `sample()` draws noise uniformly on the box (torch's `Uniform.sample`,
    trusted; the closed and the half-open box differ by a null set) and returns the executed `_to_parameters(noise)`;
    the law of the result has density `exp(log_prob)` — the executed `mg1Density` — w.r.t. Lebesgue measure -/
theorem mg1_sample_law (low high : Fin 3 → ℝ) (hlh : ∀ i, low i < high i) :
    (volume.withDensity (fun v => ENNReal.ofReal (boxDens low high v))).map (fun v => Matrix.vecMul v mg1Ainv)
      = volume.withDensity (fun p => ENNReal.ofReal (mg1Density e low high p)) := by
  have hmp := vecMul_measurePreserving mg1Ainv mg1Ainv_det
  have hinv : ∀ v : Fin 3 → ℝ, Matrix.vecMul (Matrix.vecMul v mg1Ainv) mg1A = v := fun v => by
    rw [Matrix.vecMul_vecMul, mg1Ainv_mul_mg1A, Matrix.vecMul_one]
  have hmeasA : Measurable (fun p : Fin 3 → ℝ => Matrix.vecMul p mg1A) :=
    (vecMul_measurePreserving mg1A mg1A_det).measurable
  ext s hs
  rw [Measure.map_apply hmp.measurable hs, withDensity_apply _ (hmp.measurable hs), withDensity_apply _ hs]
  simp_rw [mg1Density_eq e low high _ hlh]
  have := hmp.setLIntegral_comp_preimage hs
    (f := fun p => ENNReal.ofReal (boxDens low high (Matrix.vecMul p mg1A)))
    (ENNReal.measurable_ofReal.comp ((boxDens_measurable low high).comp hmeasA))
  simp only [hinv] at this
  exact this

/-- the executed `_to_parameters` is the map of `mg1_sample_law` -/
theorem mg1_sample_exec (v : Fin 3 → ℝ) :
    mg1ToParams (NF.realX e) (List.ofFn v) = List.ofFn (Matrix.vecMul v mg1Ainv) := by
  rw [vecMul_mg1Ainv, ofFn3 v, ofFn3]
  rfl

/-! ## §4 DiagonalNormal / ConditionalDiagonalNormal: the `D`-dimensional sampling law -/

theorem pi_gaussian_eq_withDensity {D : ℕ} (m : Fin D → ℝ) (v : Fin D → NNReal) (hv : ∀ i, v i ≠ 0) :
    Measure.pi (fun i => gaussianReal (m i) (v i))
      = (volume : Measure (Fin D → ℝ)).withDensity
          (fun x => ENNReal.ofReal (∏ i, gaussianPDFReal (m i) (v i) (x i))) := by
  apply Measure.pi_eq
  intro s hs
  have hms : MeasurableSet (Set.pi Set.univ s) := MeasurableSet.univ_pi hs
  rw [withDensity_apply _ hms, ← lintegral_indicator hms]
  have hpt : ∀ x : Fin D → ℝ,
      (Set.pi Set.univ s).indicator (fun x => ENNReal.ofReal (∏ i, gaussianPDFReal (m i) (v i) (x i))) x
        = ENNReal.ofReal (∏ i, (s i).indicator (gaussianPDFReal (m i) (v i)) (x i)) := fun x => by
    rw [← indicator_pi_prod s fun i => gaussianPDFReal (m i) (v i)]
    exact congrFun (Set.indicator_comp_of_zero ENNReal.ofReal_zero) x
  simp_rw [hpt]
  have hnn : ∀ i t, 0 ≤ (s i).indicator (gaussianPDFReal (m i) (v i)) t :=
    fun i t => Set.indicator_nonneg (fun _ _ => gaussianPDFReal_nonneg _ _ _) t
  have hint : ∀ i, Integrable ((s i).indicator (gaussianPDFReal (m i) (v i))) volume :=
    fun i => (integrable_gaussianPDFReal _ _).indicator (hs i)
  rw [← ofReal_integral_eq_lintegral_ofReal]
  · rw [integral_fintype_prod_volume_eq_prod (fun i t => (s i).indicator (gaussianPDFReal (m i) (v i)) t),
      ENNReal.ofReal_prod_of_nonneg (fun i _ => integral_nonneg (hnn i))]
    apply Finset.prod_congr rfl
    intro i _
    rw [gaussianReal_apply_eq_integral _ (hv i), integral_indicator (hs i)]
  · rw [volume_pi]; exact Integrable.fintype_prod hint
  · exact Filter.Eventually.of_forall (fun x => Finset.prod_nonneg (fun i _ => hnn i (x i)))

/-- the 1-D sampling map `μ + exp(log σ)·ε` (normal.py:119-127) -/
theorem normal_map_one (μ ls : ℝ) :
    (gaussianReal 0 1).map (fun ε => μ + Real.exp ls * ε) = gaussianReal μ (Gaussian.var ls) :=
  (Gaussian.stdNormal_map_affine μ (Real.exp ls)).trans (congrArg _ (NNReal.coe_injective (by
    show Real.exp ls ^ 2 = Real.exp (2 * ls)
    rw [← Real.exp_nat_mul, Nat.cast_ofNat])))

theorem normal_map_pi {D : ℕ} (μ ls : Fin D → ℝ) :
    (Measure.pi fun _ : Fin D => gaussianReal 0 1).map (fun ε i => μ i + Real.exp (ls i) * ε i)
      = Measure.pi fun i => gaussianReal (μ i) (Gaussian.var (ls i)) := by
  have : ∀ i, SigmaFinite ((gaussianReal 0 1).map (fun ε => μ i + Real.exp (ls i) * ε)) := by
    intro i; rw [normal_map_one]; infer_instance
  rw [Measure.pi_map_pi (μ := fun _ : Fin D => gaussianReal 0 1) (f := fun i ε => μ i + Real.exp (ls i) * ε)
    (fun i => (Measurable.aemeasurable (by fun_prop)))]
  simp_rw [normal_map_one]

/-- **samples follow the EXECUTED density on `ℝᴰ`, every event size**: the law of `μ + σ ⊙ ε` with `ε` standard normal
    on `ℝᴰ` (`torch.randn`, trusted) has density `exp(diagNormalRow …)` — `exp` of the executed row `log_prob` of
    `DiagonalNormal` / `ConditionalDiagonalNormal` — with respect to Lebesgue measure on `Fin D → ℝ` -/
theorem normal_sample_law_pi {D : ℕ} (μ ls : Fin D → ℝ) :
    (Measure.pi fun _ : Fin D => gaussianReal 0 1).map (fun ε i => μ i + Real.exp (ls i) * ε i)
      = (volume : Measure (Fin D → ℝ)).withDensity (fun x => ENNReal.ofReal
          (Real.exp (diagNormalRow (NF.realX e) D (List.ofFn μ) (List.ofFn ls) (List.ofFn x)))) := by
  simp_rw [normal_map_pi, diagNormalRow_real, Gaussian.diagNormal_factor]
  exact pi_gaussian_eq_withDensity μ (fun i => Gaussian.var (ls i)) (fun i => Gaussian.var_ne_zero _)

/-- the executed sampling map on one context row / one draw is the coordinate-wise map of `normal_sample_law_pi` -/
theorem normalSampleMap_exec {D : ℕ} (μ ls ε : Fin D → ℝ) :
    normalSampleMap (NF.realX e) [List.ofFn μ] [List.ofFn ls] 1 [List.ofFn ε]
      = [List.ofFn fun i => μ i + Real.exp (ls i) * ε i] := by
  simp only [normalSampleMap, List.length_singleton, List.range_one, List.flatMap_cons, List.flatMap_nil, List.map_cons,
    List.map_nil, List.append_nil, Nat.zero_mul, Nat.add_zero, List.getD_cons_zero, List.map_ofFn, zipWith3_ofFn, Function.comp,
    realX_add, realX_mul, realX_exp]

theorem normal_density_mass {D : ℕ} (μ ls : Fin D → ℝ) :
    ((volume : Measure (Fin D → ℝ)).withDensity (fun x => ENNReal.ofReal
      (Real.exp (diagNormalRow (NF.realX e) D (List.ofFn μ) (List.ofFn ls) (List.ofFn x))))) Set.univ = 1 := by
  rw [← normal_sample_law_pi e μ ls, Measure.map_apply (by fun_prop) MeasurableSet.univ]
  simp

/-! ## non-vacuity: concrete instances -/

/-- the Bernoulli law at concrete logits (within the threshold, not all equal), outcome `(1, 0)` -/
example : volume {u : Fin 2 → ℝ | (∀ i, 0 ≤ u i ∧ u i < 1) ∧
      bernSampleMap (NF.realX e) [List.ofFn ![3, -7]] 1 [List.ofFn u] = [List.ofFn fun i => Bernoulli.ind (![true, false] i)]}
    = ENNReal.ofReal (Real.exp (bernRow (NF.realX e) (List.ofFn ![3, -7]) (List.ofFn fun i => Bernoulli.ind (![true, false] i)))) :=
  bernoulli_sample_law_exec e ![3, -7] (by intro i; fin_cases i <;> norm_num) _
example : kdeStd (NF.realX e) 100 4 = (100 : ℝ) ^ (-(1 / ((4 + 4 : ℕ) : ℝ))) := by
  have := (kdeStd_exec_pos e 100 4 (by norm_num)).1
  simpa using this
/-- the M/G/1 prior box of the experiments, `[0,10] × [0,10] × [0,1/3]` -/
example : ∫ p : Fin 3 → ℝ, mg1Density e ![0, 0, 0] ![10, 10, 1/3] p = 1 :=
  mg1_normalised e _ _ (by intro i; fin_cases i <;> norm_num)
/-- a point where the executed MG1 density is positive and one where the code raises (density 0) -/
example : mg1Density e ![0, 0, 0] ![10, 10, 1/3] ![1, 2, 1/4] = (10 : ℝ)⁻¹ * (10 : ℝ)⁻¹ * (1/3 : ℝ)⁻¹ ∧
    mg1Density e ![0, 0, 0] ![10, 10, 1/3] ![2, 1, 1/4] = 0 := by
  have hlh : ∀ i : Fin 3, (![0, 0, 0] : Fin 3 → ℝ) i < (![10, 10, 1/3] : Fin 3 → ℝ) i := by
    simp only [Fin.forall_fin_succ, Fin.succ_zero_eq_one, Fin.succ_one_eq_two, Matrix.cons_val_zero, Matrix.cons_val_one,
      Matrix.cons_val_two]
    norm_num
  constructor
  · rw [mg1Density_eq e _ _ _ hlh, boxDens, vecMul_mg1A, Set.indicator_of_mem]
    · simp only [Fin.prod_univ_three, Matrix.cons_val_zero, Matrix.cons_val_one, Matrix.cons_val_two]
      norm_num
    · simp only [Set.mem_Icc, Pi.le_def, Fin.forall_fin_succ, Fin.succ_zero_eq_one, Fin.succ_one_eq_two,
        Matrix.cons_val_zero, Matrix.cons_val_one, Matrix.cons_val_two]
      norm_num
  · rw [mg1Density_eq e _ _ _ hlh, boxDens, vecMul_mg1A, Set.indicator_of_notMem]
    intro h
    have := h.1 1
    norm_num at this
example : (Measure.pi fun _ : Fin 2 => gaussianReal 0 1).map (fun ε i => ![1, -2] i + Real.exp (![0, 1/2] i) * ε i)
    = (volume : Measure (Fin 2 → ℝ)).withDensity (fun x => ENNReal.ofReal
        (Real.exp (diagNormalRow (NF.realX e) 2 (List.ofFn ![1, -2]) (List.ofFn ![0, 1/2]) (List.ofFn x)))) :=
  normal_sample_law_pi e _ _

end
end DensityGaps
