import NflowsModel.Core.FlowPairing
import NflowsModel.Lemmas.Pairing
import Mathlib.Tactic
/-!
# Lemmas/FlowPairing — index algebra of the executable pairing model (C04)

The list-level helpers of `Core/FlowPairing` are definitionally the ones of `Lemmas/Pairing`, so its index laws transfer; on top of
them: the law of the whole `merge → repeat_rows → row-wise map → split` pipeline, and the pairing theorems of `flowSalp` / `flowSample`.
-/
namespace NF.FlowPairing

def get2 {α : Type} (x : List (List α)) (i j : Nat) : Option α := (x[i]?).bind (fun b => b[j]?)

def Uniform {α : Type} (x : List (List α)) (R n : Nat) : Prop := x.length = R ∧ ∀ b ∈ x, b.length = n

theorem repeatRows_eq {α : Type} (x : List α) (n : Nat) : repeatRows x n = Pairing.repeatRows x n := rfl
theorem mergeLeading_eq {α : Type} (x : List (List α)) : mergeLeading x = Pairing.mergeLeading x := rfl
theorem splitLeading_eq {α : Type} (n : Nat) (l : List α) : splitLeading n l = Pairing.splitLeading n l := rfl

theorem repeatRows_length {α : Type} (x : List α) (n : Nat) : (repeatRows x n).length = x.length * n :=
  Pairing.repeatRows_length x n

theorem repeatRows_get {α : Type} (x : List α) (n i j : Nat) (hi : i < x.length) (hj : j < n) :
    (repeatRows x n)[i * n + j]? = x[i]? := Pairing.repeatRows_get x n i j hi hj

theorem mergeLeading_get {α : Type} (x : List (List α)) (R n i j : Nat) (hx : Uniform x R n) (hi : i < R) (hj : j < n) :
    (mergeLeading x)[i * n + j]? = get2 x i j :=
  Pairing.mergeLeading_get x n i j hx.2 (hx.1 ▸ hi) hj

theorem mergeLeading_length {α : Type} (x : List (List α)) (R n : Nat) (hx : Uniform x R n) :
    (mergeLeading x).length = R * n :=
  hx.1 ▸ Pairing.mergeLeading_length x n hx.2

theorem splitLeading_get {α : Type} (n : Nat) (l : List α) (i j : Nat) (hi : i < l.length / n) (hj : j < n) :
    get2 (splitLeading n l) i j = l[i * n + j]? := Pairing.splitLeading_get n l i j hi hj

theorem splitLeading_uniform {α : Type} (n : Nat) (l : List α) (R : Nat) (hn : 0 < n) (hl : l.length = R * n) :
    Uniform (splitLeading n l) R n := by
  have hdiv : l.length / n = R := by rw [hl]; exact Nat.mul_div_cancel R hn
  constructor
  · rw [splitLeading, List.length_map, List.length_range, hdiv]
  · intro b hb
    simp only [splitLeading, List.mem_map, List.mem_range] at hb
    obtain ⟨i, hi, rfl⟩ := hb
    rw [hdiv] at hi
    rw [List.length_take, List.length_drop, hl, Nat.min_eq_left]
    exact Nat.le_sub_of_add_le' (Nat.succ_mul i n ▸ Nat.mul_le_mul_right n (Nat.succ_le_of_lt hi))

theorem get2_lt {α : Type} {x : List (List α)} {R n i j : Nat} (hx : Uniform x R n) (hi : i < R) (hj : j < n) :
    ∃ z, get2 x i j = some z := by
  have hi' : i < x.length := hx.1 ▸ hi
  have hj' : j < (x[i]).length := (hx.2 _ (List.getElem_mem hi')).symm ▸ hj
  exact ⟨x[i][j], by rw [get2, List.getElem?_eq_getElem hi', Option.bind_some, List.getElem?_eq_getElem hj']⟩

/-- **the pipeline**: `split(n) ∘ (row-wise f) ∘ (merge × repeat_rows(n))` pairs block `i`, draw `j` of the noise
    with row `i` of the (embedded) context -/
theorem pipeline_get {Z E W : Type} (f : Z → E → W) (N : List (List Z)) (e : List E) (R n i j : Nat)
    (hN : Uniform N R n) (he : e.length = R) (hi : i < R) (hj : j < n) (z : Z) (c : E)
    (hz : get2 N i j = some z) (hc : e[i]? = some c) :
    get2 (splitLeading n (List.zipWith f (mergeLeading N) (repeatRows e n))) i j = some (f z c) := by
  have hn : 0 < n := by omega
  have hlen : (List.zipWith f (mergeLeading N) (repeatRows e n)).length = R * n := by
    simp [mergeLeading_length N R n hN, repeatRows_length, he]
  have hdiv : (List.zipWith f (mergeLeading N) (repeatRows e n)).length / n = R := by
    rw [hlen]; exact Nat.mul_div_cancel R hn
  rw [splitLeading_get n _ i j (by rw [hdiv]; exact hi) hj, List.getElem?_zipWith,
    mergeLeading_get N R n i j hN hi hj, repeatRows_get e n i j (he ▸ hi) hj, hz, hc]

theorem pipeline_uniform {Z E W : Type} (f : Z → E → W) (N : List (List Z)) (e : List E) (R n : Nat) (hn : 0 < n)
    (hN : Uniform N R n) (he : e.length = R) :
    Uniform (splitLeading n (List.zipWith f (mergeLeading N) (repeatRows e n))) R n :=
  splitLeading_uniform n _ R hn (by simp [mergeLeading_length N R n hN, repeatRows_length, he])

theorem split_merge_get {Z : Type} (N : List (List Z)) (R n i j : Nat) (hN : Uniform N R n) (hi : i < R) (hj : j < n) :
    get2 (splitLeading n (mergeLeading N)) i j = get2 N i j := by
  have hn : 0 < n := by omega
  have hdiv : (mergeLeading N).length / n = R := by
    rw [mergeLeading_length N R n hN]; exact Nat.mul_div_cancel R hn
  rw [splitLeading_get n _ i j (by rw [hdiv]; exact hi) hj, mergeLeading_get N R n i j hN hi hj]

theorem split_merge_uniform {Z : Type} (N : List (List Z)) (R n : Nat) (hn : 0 < n) (hN : Uniform N R n) :
    Uniform (splitLeading n (mergeLeading N)) R n :=
  splitLeading_uniform n _ R hn (mergeLeading_length N R n hN)

theorem get2_zipWith {A B C : Type} (g : A → B → C) (x : List (List A)) (y : List (List B)) (i j : Nat) (a : A) (b : B)
    (ha : get2 x i j = some a) (hb : get2 y i j = some b) :
    get2 (List.zipWith (List.zipWith g) x y) i j = some (g a b) := by
  obtain ⟨bx, hx, ha⟩ := Option.bind_eq_some_iff.mp ha
  obtain ⟨by', hy, hb⟩ := Option.bind_eq_some_iff.mp hb
  simp only [get2, List.getElem?_zipWith, hx, hy, ha, hb, Option.bind_some]

/-! ## the flow programs of `Core/FlowPairing` -/

/-- **`Flow.sample_and_log_prob(n, context)`**, every `R`, every `n`: `samples[i][j] = T⁻¹(N i j; emb cᵢ)` and
    `logp[i][j] = base.logp(N i j; emb cᵢ) − ldInv(N i j; emb cᵢ)` -/
theorem salp_pairing {Z X C E V : Type} (f : FlowFns Z X C E V) (ctx : List C) (R n : ℕ)
    (N : List (List Z)) (hN : Uniform N R n) (hctx : ctx.length = R) (i j : ℕ) (hi : i < R) (hj : j < n)
    (z : Z) (c : C) (hz : get2 N i j = some z) (hc : ctx[i]? = some c) :
    get2 (flowSalp f ctx n N).1 i j = some (f.tinv z (f.emb c)) ∧
    get2 (flowSalp f ctx n N).2 i j = some (f.sub (f.blp z (f.emb c)) (f.ldInv z (f.emb c))) := by
  have hn : 0 < n := Nat.zero_lt_of_lt hj
  have he : (ctx.map f.emb).length = R := by rw [List.length_map, hctx]
  have hce : (ctx.map f.emb)[i]? = some (f.emb c) := by rw [List.getElem?_map, hc]; rfl
  have hU : Uniform (splitLeading n (mergeLeading N)) R n := split_merge_uniform N R n hn hN
  have hz' : get2 (splitLeading n (mergeLeading N)) i j = some z := by rw [split_merge_get N R n i j hN hi hj, hz]
  have hlp : get2 (splitLeading n (List.zipWith f.blp (mergeLeading N) (repeatRows (ctx.map f.emb) n))) i j
      = some (f.blp z (f.emb c)) := pipeline_get f.blp N (ctx.map f.emb) R n i j hN he hi hj z (f.emb c) hz hce
  unfold flowSalp
  simp only [distSalp]
  refine ⟨pipeline_get f.tinv _ _ R n i j hU he hi hj z (f.emb c) hz' hce, ?_⟩
  exact get2_zipWith f.sub _ _ i j _ _ hlp (pipeline_get f.ldInv _ _ R n i j hU he hi hj z (f.emb c) hz' hce)

theorem sample_pairing {Z X C E V : Type} (f : FlowFns Z X C E V) (ctx : List C) (R n : ℕ) (N : List (List Z))
    (hN : Uniform N R n) (hctx : ctx.length = R) (i j : ℕ) (hi : i < R) (hj : j < n) (z : Z) (c : C)
    (hz : get2 N i j = some z) (hc : ctx[i]? = some c) :
    get2 (flowSample f ctx n N) i j = some (f.tinv z (f.emb c)) := by
  unfold flowSample
  exact pipeline_get f.tinv N (ctx.map f.emb) R n i j hN (by rw [List.length_map, hctx]) hi hj z (f.emb c) hz
    (by rw [List.getElem?_map, hc]; rfl)

end NF.FlowPairing
