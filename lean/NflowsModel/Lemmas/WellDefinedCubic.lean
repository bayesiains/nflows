import NflowsModel.Lemmas.CubicWhole
import NflowsModel.Lemmas.CubicInverseWhole
import Mathlib.Tactic
/-!
# Lemmas/WellDefinedCubic — every logarithm / division / square root the EXECUTED piecewise-cubic spline forms on an
in-domain input has its operand in the domain of the operation

Over ℝ every arithmetic operation is total (`Real.log 0 = 0`, `x / 0 = 0`, `Real.sqrt` of a negative number is `0`), so
`cubicSpline (NF.realX e) … x = .ok r` alone does not say that the program stayed inside the domains of `log`, `/`,
`sqrt`.  This file states and proves exactly that, operation by operation, for the program text of `Core/Spline.lean`
(`cubicSpline`, lines 298-402) and of the helpers it calls (`flooredSoftmax` Spline:103-106, `softmaxG` Basic:33-37,
`XOps.sigmoid` XOps:51, `cubicSpline.ms2f` Spline:315-318, `cubicFwdE`/`cubicDerivE` Spline:81-86, `boxLog` Spline:175).

## Enumeration — forward direction, `cubicSpline o c uw uh udl udr false x`

Rows 1-9 do not depend on `x`: they are the eager list building shared by both directions (`CubicParamsWellDefined`).

| # | where (file:line)                                   | operation                                   | operand                                               | covered by                         |
|---|-----------------------------------------------------|---------------------------------------------|-------------------------------------------------------|------------------------------------|
| 1 | Spline:308 → `flooredSoftmax`:106 → Basic:37        | `o.div e s` (softmax of `uw`)               | `s = sumG (exp (u − max))` over `uw`                  | `softmaxW_divisor` (`0 <`)         |
| 2 | Spline:310 → the same for `uh`                      | `o.div e s` (softmax of `uh`)               | `s = sumG (exp (u − max))` over `uh`                  | `softmaxH_divisor` (`0 <`)         |
| 3 | Spline:312 `zipWith o.div heights widths`           | `o.div h w`, one per bin                    | every `w ∈ widths` (lists have equal length)          | `slopes_divisor` (`0 <`), `slopes_zip` |
| 4 | Spline:317 `ms2f`                                   | `o.div (0.5·(w1 s0 + w0 s1)) (o.add w0 w1)` | `w0 + w1`, `w0 w1` consecutive entries of `widths`    | `ms2_divisor` (`0 <`, ANY two entries) |
| 5 | Spline:323 → XOps:51 `o.sigmoid udl`                | `o.div o.one (1 + exp (−udl))`              | `1 + exp (−udl)`                                      | `sigmoidL_divisor` (`0 <`)         |
| 6 | Spline:324 → XOps:51 `o.sigmoid udr`                | `o.div o.one (1 + exp (−udr))`              | `1 + exp (−udr)`                                      | `sigmoidR_divisor` (`0 <`)         |
| 7 | Spline:331 `aL`, every `k < K` (eager `List.map`)   | `o.div (l + r − 2s) (o.mul w w)`            | `w·w`, `w = widths.getD k o.one`                      | `aL_divisor` (`0 <`, EVERY `k : ℕ`) |
| 8 | Spline:334 `bL`, every `k < K`                      | `o.div (3s − 2l − r) w`                     | `w = widths.getD k o.one`                             | `bL_divisor` (`0 <`, EVERY `k : ℕ`) |
| 9 | Spline:344 `boxLog c.box` (a `Float` constant)      | `Float.log ((top−bottom)/(right−left))`     | real reading: divisor `right−left`, log argument      | `boxLog_divisor`, `boxLog_log_arg` (`0 <`, on the `e`-readings) |
|10 | Spline:307                                          | `o.div (x − left) (ofFloat (right − left))` | `o.ofFloat (right − left)`                            | `norm_divisor` (`0 <`)             |
|11 | Spline:401                                          | `o.log (evalX o env cubicDerivE)`           | `3·ia·sh² + 2·ib·sh + ic` at the SELECTED bin         | `logdet_arg_pos` (`0 <`, on the executed `evalX` term), `logdet_arg_binD`, `logdet_arg_text` |

`exec` ties the closed-form names (`aK`, `bK`, `dv`, `chs`, `cws`, `binN`, `binD` of `Lemmas/CubicWhole.lean`, at the
index `idxN` the EXECUTED search returns) to the program: the program returns exactly
`(clamp 0 1 (binN …) · e(top−bottom) + e bottom, Real.log (binD …) + e (boxLog c.box), [])`; `idx_lt`, `in_bin` say where
that index lies.  `aL_entry`, `bL_entry` say that the gathered coefficients are entries of the program's own lists
(`CubicWhole.aLof`, `bLof` are the lists `aLofG`, `bLofG` of `CubicProgram.cubicSpline_eq : … := by cases d <;> rfl` at `NF.realX e`,
again by unfolding).

Nothing else forms a `log` / `div` / `sqrt` in the forward direction: the guards (Spline:302-305) compare only;
`cumsumG`, `setLast`, `minPair` (`abs`, `minA`, `sign`, `add`), `List.zipWith o.minA`, `List.zipWith o.mul`,
`searchsortedG` (`maxA`, `add`, `nextUp`, `ge`), `getI`, `cubicFwdE` / `cubicDerivE` (polynomials: `+`, `−`, `·` only),
`o.clamp` and the final rescaling (`mul`, `add`) are free of them.  The remaining divisions are the rational literals
`o.ofRat n 1` behind `o.zero`, `o.one`, `o.two`, `o.ofNat 3` and the `Expr` literals `2`, `3` (divisor: the literal `1`);
the Python-side constants `1 − minW·K`, `right − left`, `top − bottom` are `Float` subtractions / products.
NO square root is formed in the forward direction.  That the operands listed are the ones the program forms is visible in
the `rfl` examples `softmaxG_shape`, `flooredSoftmax_shape`, `sigmoid_shape`, `ms2f_shape` below.

**Key row 11.**  Positivity of the log-det argument holds on the CLOSED selected bin, knots and box ends included: over ℝ
`0 < sigmoid u < 1` strictly, every slope is `> 0`, hence every knot derivative lies strictly inside the
Fritsch–Carlson region `0 < d < 3s` of both adjacent bins (`CubicWhole.dv_range`) and `Cubic.dpoly_pos` applies for
`t ∈ [0,1]`.  No extra hypothesis is needed; there is no finding over ℝ.
Remark (floats, NOT a theorem here): the strictness `0 < sigmoid udl` is a fact of ℝ.  In binary64 `1/(1 + exp (−u))`
evaluates to `0` for `u ≲ −710` (`exp (−u)` overflows); then the left end derivative is `0`, the polynomial
`3a·sh² + 2b·sh + c` vanishes at `x = left` and the log-abs-det there is `log 0 = −∞`.  That input
(`unnormalized_derivatives_left ≲ −710`, `x = left`; symmetrically on the right) is outside what these real-number
theorems can express and was not run here; it is recorded so the gap is not overlooked.

## Inverse direction, `cubicSpline o c uw uh udl udr true y` (rows 1-9 as above, then) — PARTIAL

| #  | where            | operation                                         | operand                                  | status                                                     |
|----|------------------|---------------------------------------------------|------------------------------------------|------------------------------------------------------------|
| 10'| Spline:306       | `o.div (y − bottom) (ofFloat (top − bottom))`     | `o.ofFloat (top − bottom)`               | `norm_divisor` (`0 <`)                                     |
| 12 | Spline:346-348   | `o.div ib ia`, `o.div ic ia`, `o.div (id − x') ia`| `ia` (gathered `a` of the bin)           | **NOT in domain in general**: `ia_zero_example`, `ia_zero_all_inputs` |
| 13 | Spline:346-347   | `o.div … (o.ofFloat 3.0)`                         | `e 3.0`                                  | `three_divisor` (`= 3`, needs `InvConsts`)                 |
| 14 | Spline:357       | `o.sqrt disc`                                     | `disc`                                   | in domain by the guard `o.ge disc o.zero` of that branch   |
| 15 | Spline:357       | `o.div (atan2 …) (o.ofFloat 3.0)`                 | `e 3.0`                                  | `three_divisor`                                            |
| 16 | Spline:364       | `o.sqrt (o.neg dep2)`                             | `−dep2 = −delta1`                        | `trig_sqrt_arg_nonneg` (`0 ≤` whenever `0 ≤ disc`; pure algebra, any `b_ c_ d_`) |
| 17 | Spline:376       | `o.sqrt (o.neg disc)`                             | `−disc`                                  | in domain by the guard `o.lt disc o.zero` of that branch   |
| 18 | Spline:377-378 → `cbrtG`:285 | `o.log (o.abs x)`, twice              | `|x|`, `x = (−dep1 ± sqrt(−disc))/2`     | **NOT always**: `cardano_cbrt_args_mul`: the two `x` multiply to `−delta1³`, so one of them is `0` exactly when `delta1 = 0` (`cardano_cbrt_arg_zero_iff`); concrete accepted configuration where this happens on EVERY input: `cardano_log_zero_example` |
| 19 | `cbrtG`:285      | `o.div (log |x|) (o.ofFloat 3.0)`                 | `e 3.0`                                  | `three_divisor`                                            |
| 20 | Spline:377-378   | `o.div … o.two`                                   | literal `2`                              | literal                                                    |
| 21 | Spline:386-387   | `o.sqrt rad`, `rad = maxA (b² − 4ac) 0`           | `rad`                                    | `quad_sqrt_arg_nonneg` (`0 ≤`, every operand)              |
| 22 | Spline:387       | `o.div (2·cc) (−b − sqrt rad)`                    | `−ic − sqrt rad`                         | `quad_divisor_neg` (`< 0`, so `≠ 0`; `ic` = a knot derivative `> 0`) |
| 23 | Spline:395       | `o.log (3·ia·sh² + 2·ib·sh + ic)`                 | derivative term at the CLAMPED root      | `logdet_arg_pos` (`0 <`; true only because of the clamp `inBin`, Spline:391-392) |

Findings (recorded findings F24/F25): rows 12 and 18 are NOT well defined.  The model's `if` is lazy, but the
library evaluates every branch on every element and selects by masks, so the out-of-domain operations of the branch NOT
selected are executed there.  Over ℝ a linear bin (`ia = 0`) satisfies the "almost quadratic" test (Spline:383:
`|ia|·w³ = 0 < thr·h`), so the value returned comes from the quadratic root, and whatever `out1` is, the clamp into the
bin (Spline:391-392) makes the log-det argument positive — the result is rescued, the operations are not in domain.
-/
open NF DualSound

namespace NF.WellDefined.Cubic
noncomputable section
open CubicWhole

/-! ### the operands are sub-terms of the program (all `rfl`) -/

theorem softmaxG_shape {α : Type} (o : XOps α) (xs : List α) :
    softmaxG o xs
      = (xs.map (fun x => o.exp (o.sub x (maxG o xs)))).map
          (fun t => o.div t (sumG o (xs.map (fun x => o.exp (o.sub x (maxG o xs)))))) := rfl

/-- `flooredSoftmax` forms no division of its own -/
theorem flooredSoftmax_shape {α : Type} (o : XOps α) (m : Float) (u : List α) :
    flooredSoftmax o m u
      = (softmaxG o u).map (fun s => o.add (o.ofFloat m) (o.mul (o.ofFloat (1 - m * u.length.toFloat)) s)) := rfl

theorem sigmoid_shape {α : Type} (o : XOps α) (u : α) :
    o.sigmoid u = o.div o.one (o.add o.one (o.exp (o.neg u))) := rfl

theorem ms2f_shape {α : Type} (o : XOps α) (w0 w1 s0 s1 : α) (wr sr : List α) :
    cubicSpline.ms2f o (w0 :: w1 :: wr) (s0 :: s1 :: sr)
      = o.div (o.mul (o.ofFloat 0.5) (o.add (o.mul w1 s0) (o.mul w0 s1))) (o.add w0 w1)
          :: cubicSpline.ms2f o (w1 :: wr) (s1 :: sr) := rfl

variable (e : Float → ℝ)

/-! ### rows 1-9: the eager list building, independent of the input -/

/-- **every divisor of the list-building stage of `cubicSpline` (both directions) is positive**, stated on the terms the
    program forms; plus the real reading of the `Float` constant `boxLog c.box` -/
structure CubicParamsWellDefined (c : CCfg) (uw uh : List ℝ) (udl udr : ℝ) : Prop where
  /-- row 1: the divisor of the softmax over `uw` -/
  softmaxW_divisor :
    0 < sumG (NF.realX e) (uw.map (fun u => (NF.realX e).exp ((NF.realX e).sub u (maxG (NF.realX e) uw))))
  /-- row 2: the divisor of the softmax over `uh` -/
  softmaxH_divisor :
    0 < sumG (NF.realX e) (uh.map (fun u => (NF.realX e).exp ((NF.realX e).sub u (maxG (NF.realX e) uh))))
  /-- row 3: every divisor of `slopes = zipWith div heights widths` … -/
  slopes_divisor : ∀ w ∈ flooredSoftmax (NF.realX e) c.minW uw, 0 < w
  /-- … and the two lists have the same length `K` (no height is dropped by the `zipWith`) -/
  slopes_zip : (flooredSoftmax (NF.realX e) c.minH uh).length = uw.length ∧
    (flooredSoftmax (NF.realX e) c.minW uw).length = uw.length
  /-- row 4: the divisor `w0 + w1` of `ms2f`, for ANY two entries of `widths` (the program uses consecutive ones) -/
  ms2_divisor : ∀ w0 ∈ flooredSoftmax (NF.realX e) c.minW uw, ∀ w1 ∈ flooredSoftmax (NF.realX e) c.minW uw,
    0 < (NF.realX e).add w0 w1
  /-- row 5: the divisor of `sigmoid udl` -/
  sigmoidL_divisor : 0 < (NF.realX e).add (NF.realX e).one ((NF.realX e).exp ((NF.realX e).neg udl))
  /-- row 6: the divisor of `sigmoid udr` -/
  sigmoidR_divisor : 0 < (NF.realX e).add (NF.realX e).one ((NF.realX e).exp ((NF.realX e).neg udr))
  /-- row 7: the divisor `w·w` of `aL`, `w = widths.getD k o.one`, for every `k` (the program forms `k < K`) -/
  aL_divisor : ∀ k : ℕ, 0 < (NF.realX e).mul ((flooredSoftmax (NF.realX e) c.minW uw).getD k (NF.realX e).one)
    ((flooredSoftmax (NF.realX e) c.minW uw).getD k (NF.realX e).one)
  /-- row 8: the divisor `w` of `bL` -/
  bL_divisor : ∀ k : ℕ, 0 < (flooredSoftmax (NF.realX e) c.minW uw).getD k (NF.realX e).one
  /-- row 9: real reading of the `Float` constant `boxLog c.box = log ((top − bottom)/(right − left))`: its divisor … -/
  boxLog_divisor : 0 < e c.box.right - e c.box.left
  /-- … and its logarithm argument -/
  boxLog_log_arg : 0 < (e c.box.top - e c.box.bottom) / (e c.box.right - e c.box.left)
  aL_entry : ∀ k < uw.length, (aLof e c uw uh (derivs e c uw uh udl udr)).getD k 0 = aK e c uw uh udl udr k
  bL_entry : ∀ k < uw.length, (bLof e c uw uh (derivs e c uw uh udl udr)).getD k 0 = bK e c uw uh udl udr k

variable {e}
variable {c : CCfg} {uw uh : List ℝ}

theorem getD_one_pos (l : List ℝ) (hpos : ∀ w ∈ l, 0 < w) (k : ℕ) : 0 < l.getD k (NF.realX e).one := by
  rw [NF.realX_one]
  rcases Nat.lt_or_ge k l.length with h | h
  · rw [← SplineExec.getElem_eq_getD l k h |>.trans (CubicWhole.getD_default l k h 0 1)]
    exact hpos _ (List.getElem_mem h)
  · rw [List.getD_eq_default _ _ h]; exact one_pos

theorem sigmoid_divisor_pos (u : ℝ) : 0 < (NF.realX e).add (NF.realX e).one ((NF.realX e).exp ((NF.realX e).neg u)) := by
  simp only [NF.realX_add, NF.realX_one, NF.realX_exp, NF.realX_neg]
  have := Real.exp_pos (-u)
  linarith

theorem cubic_params_well_defined (hv : CubicValid e c uw uh) (udl udr : ℝ) :
    CubicParamsWellDefined e c uw uh udl udr where
  softmaxW_divisor := SplineExec.softmax_divisor_pos e uw hv.hK
  softmaxH_divisor := SplineExec.softmax_divisor_pos e uh (uh_ne hv)
  slopes_divisor := (W_facts hv).2.1
  slopes_zip := ⟨(H_facts hv).1, (W_facts hv).1⟩
  ms2_divisor := fun w0 h0 w1 h1 => add_pos ((W_facts hv).2.1 w0 h0) ((W_facts hv).2.1 w1 h1)
  sigmoidL_divisor := sigmoid_divisor_pos udl
  sigmoidR_divisor := sigmoid_divisor_pos udr
  aL_divisor := fun k => mul_pos (getD_one_pos _ (W_facts hv).2.1 k) (getD_one_pos _ (W_facts hv).2.1 k)
  bL_divisor := fun k => getD_one_pos _ (W_facts hv).2.1 k
  boxLog_divisor := sub_pos.mpr hv.hlr
  boxLog_log_arg := div_pos (sub_pos.mpr hv.hbt) (sub_pos.mpr hv.hlr)
  aL_entry := fun _ hk => aLof_getD hv hk
  bL_entry := fun _ hk => bLof_getD hv hk

/-! ### the forward direction -/

variable (e)

/-- **the executed cubic FORWARD program stays inside the domain of every `log` and `/` it forms** on the input `x`
    (it forms no `sqrt`): rows 1-11 of the table in the file header. -/
structure CubicFwdWellDefined (c : CCfg) (uw uh : List ℝ) (udl udr x : ℝ) : Prop
    extends CubicParamsWellDefined e c uw uh udl udr where
  /-- row 10: the divisor of the box normalisation `x' = (x − left) / (right − left)` -/
  norm_divisor : 0 < (NF.realX e).ofFloat (c.box.right - c.box.left)
  /-- what the program returns: the closed forms of the bin the EXECUTED search selected -/
  exec : cubicSpline (NF.realX e) c uw uh udl udr false x
      = .ok ((NF.realX e).clamp 0 1 (binN e c uw uh udl udr (idxN e c uw (xn e c x)) (xn e c x))
                * e (c.box.top - c.box.bottom) + e c.box.bottom,
             Real.log (binD e c uw uh udl udr (idxN e c uw (xn e c x)) (xn e c x)) + e (boxLog c.box), [])
  idx_lt : idxN e c uw (xn e c x) < uw.length
  in_bin : cws e c uw (idxN e c uw (xn e c x)) ≤ xn e c x ∧ xn e c x ≤ cws e c uw (idxN e c uw (xn e c x) + 1)
  /-- row 11: the argument of `o.log (evalX o env cubicDerivE)` on the environment of gathered values is POSITIVE -/
  logdet_arg_pos :
    0 < evalX (NF.realX e)
          [xn e c x, cws e c uw (idxN e c uw (xn e c x)), aK e c uw uh udl udr (idxN e c uw (xn e c x)),
           bK e c uw uh udl udr (idxN e c uw (xn e c x)), dv e c uw uh udl udr (idxN e c uw (xn e c x)),
           chs e c uh (idxN e c uw (xn e c x))] cubicDerivE
  /-- that executed term is `binD` at the selected bin (the name used in `exec`) … -/
  logdet_arg_binD :
    evalX (NF.realX e)
          [xn e c x, cws e c uw (idxN e c uw (xn e c x)), aK e c uw uh udl udr (idxN e c uw (xn e c x)),
           bK e c uw uh udl udr (idxN e c uw (xn e c x)), dv e c uw uh udl udr (idxN e c uw (xn e c x)),
           chs e c uh (idxN e c uw (xn e c x))] cubicDerivE
      = binD e c uw uh udl udr (idxN e c uw (xn e c x)) (xn e c x)
  /-- … and in plain text it is `3·a·sh² + 2·b·sh + c`, `sh = x' − lcw` -/
  logdet_arg_text :
    binD e c uw uh udl udr (idxN e c uw (xn e c x)) (xn e c x)
      = 3 * aK e c uw uh udl udr (idxN e c uw (xn e c x)) * ((xn e c x - cws e c uw (idxN e c uw (xn e c x)))
            * (xn e c x - cws e c uw (idxN e c uw (xn e c x))))
        + 2 * bK e c uw uh udl udr (idxN e c uw (xn e c x)) * (xn e c x - cws e c uw (idxN e c uw (xn e c x)))
        + dv e c uw uh udl udr (idxN e c uw (xn e c x))

variable {e}

theorem binD_evalX (udl udr : ℝ) (k : ℕ) (t : ℝ) :
    evalX (NF.realX e) [t, cws e c uw k, aK e c uw uh udl udr k, bK e c uw uh udl udr k, dv e c uw uh udl udr k,
        chs e c uh k] cubicDerivE = binD e c uw uh udl udr k t := by
  rw [SplineExec.evalX_eq_evalR]; rfl

theorem binD_plain (udl udr : ℝ) (k : ℕ) (t : ℝ) :
    binD e c uw uh udl udr k t
      = 3 * aK e c uw uh udl udr k * ((t - cws e c uw k) * (t - cws e c uw k))
        + 2 * bK e c uw uh udl udr k * (t - cws e c uw k) + dv e c uw uh udl udr k := by
  simp [binD, CubicWhole.env, Bridge.cEnv, cubicDerivE, envOf, NF.v]

/-- **C17, forward, well-definedness**: under `CubicValid`, for all unnormalised end derivatives and every `x` of the
    closed box `[left, right]`, every divisor the executed program forms is `> 0` and the argument of its one logarithm
    is `> 0` (no square root is formed). -/
theorem cubic_forward_well_defined (hv : CubicValid e c uw uh) (udl udr x : ℝ)
    (hx0 : e c.box.left ≤ x) (hx1 : x ≤ e c.box.right) : CubicFwdWellDefined e c uw uh udl udr x := by
  obtain ⟨ht0, ht1⟩ := xn_unit hv x hx0 hx1
  obtain ⟨hiK, hle, hle1, -⟩ := (search_spec hv).1.mem_bin (cws_zero hv) (cws_last hv) (xn e c x) ht0 ht1
  have hpos := ld_arg_pos (udl := udl) (udr := udr) hv x hx0 hx1
  exact
    { toCubicParamsWellDefined := cubic_params_well_defined hv udl udr
      norm_divisor := by
        show 0 < e (c.box.right - c.box.left)
        rw [hv.hdlr]; exact sub_pos.mpr hv.hlr
      exec := exec_eq_bin hv x hx0 hx1
      idx_lt := hiK
      in_bin := ⟨hle, hle1⟩
      logdet_arg_pos := by rw [binD_evalX]; exact hpos
      logdet_arg_binD := binD_evalX udl udr _ _
      logdet_arg_text := binD_plain udl udr _ _ }

/-- non-vacuity: the theorem applies to the concrete accepted configuration `CubicInverseWhole.valid_exampleI`
    (two bins on the unit box, a table reading of the doubles), at every point of `[0, 1]` and all end parameters -/
example (udl udr x : ℝ) (h0 : 0 ≤ x) (h1 : x ≤ 1) :
    CubicFwdWellDefined CubicInverseWhole.eI cNV [0, 0] [0, 0] udl udr x :=
  cubic_forward_well_defined CubicInverseWhole.valid_exampleI udl udr x
    (by rw [show CubicInverseWhole.eI cNV.box.left = 0 from CubicInverseWhole.ex_bottom]; exact h0)
    (by rw [show CubicInverseWhole.eI cNV.box.right = 1 from CubicInverseWhole.ex_top]; exact h1)

/-! ### the inverse direction — PARTIAL: what is in domain, what is not

NB evaluation order.  Lean is strict: in the compiled model the `let` bindings Spline:346-380 (`b_`, `c_`, `d_`, …, the pair
`(out0, alts)`) are evaluated BEFORE the "almost quadratic" test of Spline:383 is looked at, and inside `out0` the branch
is chosen by the sign of `disc`.  The library evaluates every branch on every element and selects by masks.  So rows
12-13 are executed on every input; rows 14-16 when `disc ≥ 0`; rows 17-20 when `disc < 0`; rows 21-22 when the test of
Spline:383 holds (model) / always (library). -/

open CubicInverseWhole

variable (e)

/-- **the part of the executed cubic INVERSE program that provably stays in domain** on the input `y` (rows 1-9, 10', 21-23
    of the header; rows 12 and 18 are NOT in domain in general, see `ia_zero_all_inputs`, `cardano_cbrt_arg_zero_iff`). -/
structure CubicInvWellDefinedPartial (c : CCfg) (uw uh : List ℝ) (udl udr y : ℝ) : Prop
    extends CubicParamsWellDefined e c uw uh udl udr where
  /-- row 10': the divisor of the box normalisation `y' = (y − bottom) / (top − bottom)` -/
  norm_divisor : 0 < (NF.realX e).ofFloat (c.box.top - c.box.bottom)
  /-- what the program returns: `invCore` (verbatim sub-term: `out1`, clamp into the bin, log-det, rescaling) on the closed
      forms `aK bK dv chs cws hv` of the bin `idxH` the EXECUTED search over the y-knots selected -/
  exec : cubicSpline (NF.realX e) c uw uh udl udr true y = .ok (coreN e c uw uh udl udr (yn e c y))
  exec_logdet : invLd e c uw uh udl udr y
      = - Real.log (binD e c uw uh udl udr (idxH e c uh (yn e c y)) (rootN e c uw uh udl udr (yn e c y))) - e (boxLog c.box)
  idx_lt : idxH e c uh (yn e c y) < uw.length
  /-- row 21: the radicand of the quadratic branch is `maxA (…) 0`, so `sqrt` is in domain whatever the operands -/
  quad_sqrt_arg_nonneg : ∀ z : ℝ, 0 ≤ (NF.realX e).maxA z (NF.realX e).zero
  /-- row 22: the divisor `−b − sqrt rad` of the quadratic branch, `b = ic` the gathered knot derivative, is NEGATIVE
      whatever the radicand -/
  quad_divisor_neg : ∀ rad : ℝ,
    (NF.realX e).sub ((NF.realX e).neg (dv e c uw uh udl udr (idxH e c uh (yn e c y)))) ((NF.realX e).sqrt rad) < 0
  /-- row 23: the argument of the logarithm of the log-abs-det, as the program writes it (`sh = root − lcw`, the root
      CLAMPED into the selected bin), is POSITIVE -/
  logdet_arg_pos :
    0 < (NF.realX e).add ((NF.realX e).add
          ((NF.realX e).mul ((NF.realX e).mul ((NF.realX e).ofNat 3) (aK e c uw uh udl udr (idxH e c uh (yn e c y))))
            ((NF.realX e).mul
              ((NF.realX e).sub (rootN e c uw uh udl udr (yn e c y)) (cws e c uw (idxH e c uh (yn e c y))))
              ((NF.realX e).sub (rootN e c uw uh udl udr (yn e c y)) (cws e c uw (idxH e c uh (yn e c y))))))
          ((NF.realX e).mul ((NF.realX e).mul (NF.realX e).two (bK e c uw uh udl udr (idxH e c uh (yn e c y))))
            ((NF.realX e).sub (rootN e c uw uh udl udr (yn e c y)) (cws e c uw (idxH e c uh (yn e c y))))))
          (dv e c uw uh udl udr (idxH e c uh (yn e c y)))
  /-- the same, under the name used in `exec_logdet` -/
  logdet_arg_binD :
    0 < binD e c uw uh udl udr (idxH e c uh (yn e c y)) (rootN e c uw uh udl udr (yn e c y))

variable {e}

/-- **C17, inverse, well-definedness, partial**: under `CubicValid`, for every `y ∈ [bottom, top]`. -/
theorem cubic_inverse_well_defined_partial (hv : CubicValid e c uw uh) (udl udr y : ℝ)
    (hy0 : e c.box.bottom ≤ y) (hy1 : y ≤ e c.box.top) : CubicInvWellDefinedPartial e c uw uh udl udr y := by
  obtain ⟨ht0, ht1⟩ := yn_unit hv y hy0 hy1
  obtain ⟨hiK, _, _, _⟩ := selH hv (yn e c y) ht0 ht1
  have hpos := invLd_arg_pos (udl := udl) (udr := udr) hv y hy0 hy1
  have hic : 0 < dv e c uw uh udl udr (idxH e c uh (yn e c y)) := (dv_range hv _ hiK).1.1
  exact
    { toCubicParamsWellDefined := cubic_params_well_defined hv udl udr
      norm_divisor := by
        show 0 < e (c.box.top - c.box.bottom)
        rw [hv.hdbt]; exact sub_pos.mpr hv.hbt
      exec := exec_eq_core hv y hy0 hy1
      exec_logdet := invLd_eq hv y hy0 hy1
      idx_lt := hiK
      quad_sqrt_arg_nonneg := fun z => by
        rw [NF.realX_maxA, NF.realX_zero]; exact le_max_right _ _
      quad_divisor_neg := fun rad => by
        simp only [NF.realX_sub, NF.realX_neg, NF.realX_sqrt]
        have := Real.sqrt_nonneg rad
        linarith
      logdet_arg_pos := by rw [binD_text]; exact hpos
      logdet_arg_binD := hpos }

/-- non-vacuity of the inverse statement, on the same concrete configuration -/
example (udl udr y : ℝ) (h0 : 0 ≤ y) (h1 : y ≤ 1) :
    CubicInvWellDefinedPartial eI cNV [0, 0] [0, 0] udl udr y :=
  cubic_inverse_well_defined_partial valid_exampleI udl udr y (by rw [ex_bottom]; exact h0) (by rw [ex_top]; exact h1)

/-- rows 13, 15, 19: the divisor `o.ofFloat 3.0` is the real `3` as soon as the double `3.0` is read exactly -/
theorem three_divisor (hc : InvConsts e c) : (NF.realX e).ofFloat 3.0 = 3 := hc.h3

/-- row 14: inside the branch `o.ge disc o.zero` the argument of `o.sqrt disc` is `≥ 0` -/
theorem guard_ge (d : ℝ) (h : (NF.realX e).ge d (NF.realX e).zero = true) : 0 ≤ d := by
  simpa [XOps.ge] using h

/-- row 17: inside the branch `o.lt disc o.zero` the argument of `o.sqrt (o.neg disc)` is `> 0` -/
theorem guard_lt (d : ℝ) (h : (NF.realX e).lt d (NF.realX e).zero = true) : 0 < (NF.realX e).neg d := by
  have : d < 0 := by simpa using h
  simpa using this

/-- row 16: **in the trigonometric branch `sqrt (−dep2)` is in domain**: for ANY `b_ c_ d_` (also the totalisation values
    they take when `ia = 0`), `0 ≤ disc` forces `0 ≤ −delta1`; on the program's own `let` terms (Spline:349-354). -/
theorem trig_sqrt_arg_nonneg (hc : InvConsts e c) (b_ c_ d_ : ℝ) :
    let delta1 := (NF.realX e).add ((NF.realX e).neg ((NF.realX e).mul b_ b_)) c_
    let delta2 := (NF.realX e).add ((NF.realX e).neg ((NF.realX e).mul c_ b_)) d_
    let delta3 := (NF.realX e).sub ((NF.realX e).mul b_ d_) ((NF.realX e).mul c_ c_)
    let disc := (NF.realX e).sub ((NF.realX e).mul ((NF.realX e).mul ((NF.realX e).ofFloat 4.0) delta1) delta3)
      ((NF.realX e).mul delta2 delta2)
    let dep2 := delta1
    (NF.realX e).ge disc (NF.realX e).zero = true → 0 ≤ (NF.realX e).neg dep2 := by
  intro delta1 delta2 delta3 disc dep2 h
  have h' : 0 ≤ CubicRoots.disc b_ c_ d_ := by
    have := guard_ge (e := e) disc h
    simpa only [disc, delta1, delta2, delta3, NF.realX_add, NF.realX_neg, NF.realX_mul, NF.realX_sub, NF.realX_ofFloat,
      hc.h4, CubicRoots.disc, CubicRoots.δ1, CubicRoots.δ2, CubicRoots.δ3] using this
  have hm := CubicRoots.m_nonpos (CubicRoots.disc_eq b_ c_ d_) h'
  simp only [dep2, delta1, NF.realX_add, NF.realX_neg, NF.realX_mul]
  unfold CubicRoots.δ1 at hm
  linarith

/-- row 18: **the two arguments of `cbrtG` in the Cardano branch multiply to `−delta1³`** (names of
    `CubicInverseWhole.out0_cardano`, which shows these ARE the arguments the program passes to `cbrtG`) -/
theorem cardano_cbrt_args_mul (B C D : ℝ) (h : CubicRoots.disc B C D < 0) :
    ((-(CubicRoots.dep1 B C D) + Real.sqrt (-(CubicRoots.disc B C D))) / 2)
      * ((-(CubicRoots.dep1 B C D) - Real.sqrt (-(CubicRoots.disc B C D))) / 2) = -(CubicRoots.δ1 B C)^3 := by
  have hs := Real.mul_self_sqrt (show 0 ≤ -(CubicRoots.disc B C D) by linarith)
  have hd := CubicRoots.disc_eq B C D
  linear_combination (-1/4 : ℝ) * hs + (1/4 : ℝ) * hd

/-- row 18, **finding**: in the Cardano branch one of the two `log |x|` of `cbrtG` is `log 0` EXACTLY when `delta1 = 0`
    (and then the program relies on `sign 0 · exp (log 0 / 3) = 0`).  Concrete valid input: one bin (`K = 1`, any accepted
    box, `uw = uh = [0]`), `udl = −log 6`, `udr = log (4/3)`, i.e. `sigmoid udl = 1/7`, `sigmoid udr = 4/7`: then
    `s = 1`, `d0 = 3/7`, `d1 = 12/7` (both inside `(0, 3s)`), `a = 1/7`, `b = c = 3/7`, the derivative is `(3/7)(u+1)²`,
    `b_ = c_ = 1`, `delta1 = 0`, `|a|·w³ = 1/7` is not below `thr·h = 10⁻³` (no fallback), `delta2 = −(1 + 7y')`,
    `disc = −delta2² < 0` for EVERY `y' ∈ [0,1]`: the Cardano branch is selected on the whole domain and its second
    `cbrtG` argument `(−dep1 − sqrt(−disc))/2` is `0`.  This configuration is proved below: `valid_example1`,
    `cardano_log_zero_example`; the equivalence here is the general statement. -/
theorem cardano_cbrt_arg_zero_iff (B C D : ℝ) (h : CubicRoots.disc B C D < 0) :
    ((-(CubicRoots.dep1 B C D) + Real.sqrt (-(CubicRoots.disc B C D))) / 2 = 0 ∨
      (-(CubicRoots.dep1 B C D) - Real.sqrt (-(CubicRoots.disc B C D))) / 2 = 0) ↔ CubicRoots.δ1 B C = 0 := by
  rw [← mul_eq_zero, cardano_cbrt_args_mul B C D h, neg_eq_zero, pow_eq_zero_iff (by norm_num)]

/-- the `log` of `cbrtG` (Spline:285) is in domain exactly off zero -/
theorem cbrt_log_arg_pos_iff (x : ℝ) : 0 < (NF.realX e).abs x ↔ x ≠ 0 := by
  rw [NF.realX_abs]; exact abs_pos

/-- row 12, **finding** (F24/F25): `ia` can be `0` at an accepted configuration.  In
    `CubicInverseWhole.valid_exampleI` with `udl = udr = −log 2` (the spline is the identity) both bins are linear … -/
theorem ia_zero_example (k : ℕ) (hk : k < 2) :
    aK eI cNV [0, 0] [0, 0] (-Real.log 2) (-Real.log 2) k = 0 := by
  have hk' : k = 0 ∨ k = 1 := by omega
  rcases hk' with rfl | rfl
  · rw [ex_aK0, sigmoid_neg_log2]; norm_num
  · rw [ex_aK1, sigmoid_neg_log2]; norm_num

/-- … so on EVERY in-domain input `y ∈ [0,1]` the gathered `ia` of the selected bin is `0` and the three divisions
    `ib/ia`, `ic/ia`, `(id − y')/ia` of Spline:346-348 are divisions by zero — while the program returns `.ok` and a
    positive log-det argument (`cubic_inverse_well_defined_partial`): the result is rescued by the fallback to the
    quadratic root and the clamp into the bin, not by the operations being in domain. -/
theorem ia_zero_all_inputs (y : ℝ) (h0 : 0 ≤ y) (h1 : y ≤ 1) :
    aK eI cNV [0, 0] [0, 0] (-Real.log 2) (-Real.log 2) (idxH eI cNV [0, 0] (yn eI cNV y)) = 0 ∧
    (NF.realX eI).div (bK eI cNV [0, 0] [0, 0] (-Real.log 2) (-Real.log 2) (idxH eI cNV [0, 0] (yn eI cNV y)))
      (aK eI cNV [0, 0] [0, 0] (-Real.log 2) (-Real.log 2) (idxH eI cNV [0, 0] (yn eI cNV y))) = 0 := by
  have hw := cubic_inverse_well_defined_partial valid_exampleI (-Real.log 2) (-Real.log 2) y
    (by rw [ex_bottom]; exact h0) (by rw [ex_top]; exact h1)
  have hz := ia_zero_example _ (by simpa using hw.idx_lt)
  exact ⟨hz, by rw [hz, NF.realX_div, div_zero]⟩

/-! ### row 18, the concrete configuration: one bin, `sigmoid udl = 1/7`, `sigmoid udr = 4/7` -/

theorem valid_example1 : CubicValid eI cNV [0] [0] where
  hK := List.cons_ne_nil _ _
  hlenh := rfl
  hgW := FloatFacts.guard_one
  hgH := FloatFacts.guard_one
  hmW0 := eI_zero.ge
  hcW := by
    show eI (1 - 0.0 * (1:Nat).toFloat) = 1 - eI 0.0 * ((1:ℕ):ℝ)
    rw [FloatFacts.floor_one_eq, eI_one, eI_zero, zero_mul, sub_zero]
  hmWK := by show eI 0.0 * ((1:ℕ):ℝ) ≤ 1; rw [eI_zero, zero_mul]; exact zero_le_one
  hmH0 := eI_zero.ge
  hcH := by
    show eI (1 - 0.0 * (1:Nat).toFloat) = 1 - eI 0.0 * ((1:ℕ):ℝ)
    rw [FloatFacts.floor_one_eq, eI_one, eI_zero, zero_mul, sub_zero]
  hmHK := by show eI 0.0 * ((1:ℕ):ℝ) ≤ 1; rw [eI_zero, zero_mul]; exact zero_le_one
  hlr := by show eI 0.0 < eI 1.0; rw [eI_zero, eI_one]; exact zero_lt_one
  hdlr := by show eI (1.0 - 0.0) = eI 1.0 - eI 0.0; rw [eI_diff, eI_one, eI_zero, sub_zero]
  hbt := by show eI 0.0 < eI 1.0; rw [eI_zero, eI_one]; exact zero_lt_one
  hdbt := by show eI (1.0 - 0.0) = eI 1.0 - eI 0.0; rw [eI_diff, eI_one, eI_zero, sub_zero]
  hseps := by show 0 < eI 1e-6; rw [eI_eps]; exact one_pos
  hhalf := by rw [ex_half]; exact one_half_pos

theorem ex1_wv : wv eI cNV [0] 0 = 1 := by
  have h := cws_succ valid_example1 0 (by simp)
  have hl := cws_last valid_example1
  simp only [List.length_cons, List.length_nil, zero_add] at hl
  rw [zero_add, hl, cws_zero valid_example1] at h
  linarith

theorem ex1_hv : CubicWhole.hv eI cNV [0] 0 = 1 := ex1_wv

theorem ex1_sv : sv eI cNV [0] [0] 0 = 1 := by
  rw [sv_eq valid_example1 0 (by simp), ex1_hv, ex1_wv]; norm_num

theorem sigmoid_neg_log6 : (NF.realX eI).sigmoid (-Real.log 6) = 1/7 := by
  rw [NF.realX_sigmoid, neg_neg, Real.exp_log (by norm_num)]; norm_num

theorem sigmoid_log43 : (NF.realX eI).sigmoid (Real.log (4/3)) = 4/7 := by
  rw [NF.realX_sigmoid, Real.exp_neg, Real.exp_log (by norm_num)]; norm_num

theorem ex1_dv0 : dv eI cNV [0] [0] (-Real.log 6) (Real.log (4/3)) 0 = 3/7 := by
  rw [dv_end_left, ex1_sv, sigmoid_neg_log6]; norm_num

theorem ex1_dv1 : dv eI cNV [0] [0] (-Real.log 6) (Real.log (4/3)) 1 = 12/7 := by
  have := dv_end_right (udl := -Real.log 6) (udr := Real.log (4/3)) valid_example1
  simp only [List.length_cons, List.length_nil, zero_add, Nat.sub_self] at this
  rw [this, ex1_sv, sigmoid_log43]; norm_num

theorem ex1_aK : aK eI cNV [0] [0] (-Real.log 6) (Real.log (4/3)) 0 = 1/7 := by
  unfold aK; rw [zero_add, ex1_dv0, ex1_dv1, ex1_sv, ex1_wv]; norm_num

theorem ex1_bK : bK eI cNV [0] [0] (-Real.log 6) (Real.log (4/3)) 0 = 3/7 := by
  unfold bK; rw [zero_add, ex1_dv0, ex1_dv1, ex1_sv, ex1_wv]; norm_num

/-- row 18, **finding, concrete**: at the accepted one-bin configuration `valid_example1` with `udl = −log 6`,
    `udr = log (4/3)`, for EVERY in-domain `y ∈ [0,1]`: the "almost quadratic" fallback is NOT taken, the discriminant is
    negative (so `out0` is the Cardano branch, `CubicInverseWhole.out0_cardano`), and `delta1 = 0` — hence, by
    `cardano_cbrt_arg_zero_iff`, one of the two `cbrtG` arguments is `0` and the program forms `log |0|`. -/
theorem cardano_log_zero_example (y : ℝ) (h0 : 0 ≤ y) (h1 : y ≤ 1) :
    let i := idxH eI cNV [0] (yn eI cNV y)
    let ia := aK eI cNV [0] [0] (-Real.log 6) (Real.log (4/3)) i
    let ib := bK eI cNV [0] [0] (-Real.log 6) (Real.log (4/3)) i
    let ic := dv eI cNV [0] [0] (-Real.log 6) (Real.log (4/3)) i
    let id := chs eI cNV [0] i
    fallback (NF.realX eI) cNV ia (cws eI cNV [0] i) (cws eI cNV [0] (i+1)) (CubicWhole.hv eI cNV [0] i) = false ∧
    CubicRoots.disc (ib/ia/3) (ic/ia/3) ((id - yn eI cNV y)/ia) < 0 ∧
    ((-(CubicRoots.dep1 (ib/ia/3) (ic/ia/3) ((id - yn eI cNV y)/ia))
        + Real.sqrt (-(CubicRoots.disc (ib/ia/3) (ic/ia/3) ((id - yn eI cNV y)/ia)))) / 2 = 0 ∨
     (-(CubicRoots.dep1 (ib/ia/3) (ic/ia/3) ((id - yn eI cNV y)/ia))
        - Real.sqrt (-(CubicRoots.disc (ib/ia/3) (ic/ia/3) ((id - yn eI cNV y)/ia)))) / 2 = 0) := by
  intro i ia ib ic id
  obtain ⟨ht0, ht1⟩ := yn_unit valid_example1 y (by rw [ex_bottom]; exact h0) (by rw [ex_top]; exact h1)
  obtain ⟨hiK, _, _, _⟩ := selH valid_example1 (yn eI cNV y) ht0 ht1
  have hi : i = 0 := by
    have : i < 1 := by simpa using hiK
    omega
  have hcl := cws_last valid_example1
  simp only [List.length_cons, List.length_nil, zero_add] at hcl
  have hdisc : CubicRoots.disc (ib/ia/3) (ic/ia/3) ((id - yn eI cNV y)/ia) < 0 ∧
      CubicRoots.δ1 (ib/ia/3) (ic/ia/3) = 0 := by
    simp only [ia, ib, ic, id, hi, ex1_aK, ex1_bK, ex1_dv0, chs_zero valid_example1]
    unfold CubicRoots.disc CubicRoots.δ1 CubicRoots.δ2 CubicRoots.δ3
    constructor
    · -- `disc = −delta2²` here, and `delta2 = −(1 + 7y') ≠ 0`
      norm_num
      intro h
      linarith only [h, ht0]
    · norm_num
  refine ⟨?_, hdisc.1, (cardano_cbrt_arg_zero_iff _ _ _ hdisc.1).mpr hdisc.2⟩
  rw [fallback_eq]
  simp only [ia, hi, ex1_aK, zero_add, hcl, cws_zero valid_example1, ex1_hv, ex_thr]
  norm_num

end
end NF.WellDefined.Cubic
