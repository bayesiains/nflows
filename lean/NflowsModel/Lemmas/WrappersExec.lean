import Mathlib.Tactic
import NflowsModel.Core.Wrappers
/-!
# Lemmas/WrappersExec — helper lemmas about the EXECUTABLE composite / inverse wrappers of `Core/Wrappers.lean`
-/
namespace NF.Wrap

variable {T C L : Type}

/-- the accumulator is a monoid: what is needed to re-associate `total_logabsdet += logabsdet` -/
structure LD.Lawful (A : LD L) : Prop where
  zero_add : ∀ a, A.add A.zero a = a
  add_zero : ∀ a, A.add a A.zero = a
  add_assoc : ∀ a b c, A.add (A.add a b) c = A.add a (A.add b c)

def LD.std (L : Type) [AddMonoid L] : LD L := ⟨0, (· + ·)⟩

theorem LD.std_lawful (L : Type) [AddMonoid L] : (LD.std L).Lawful :=
  ⟨fun a => by simp [LD.std], fun a => by simp [LD.std], fun a b c => by simp [LD.std, add_assoc]⟩

@[simp] theorem LD.std_zero (L : Type) [AddMonoid L] : (LD.std L).zero = 0 := rfl
@[simp] theorem LD.std_add (L : Type) [AddMonoid L] (a b : L) : (LD.std L).add a b = a + b := rfl

def liftPure (p : T → C → T × L) : T → C → Except Err (T × L) := fun x c => .ok (p x c)

def shiftLd (A : LD L) (l : L) : Except Err (T × L) → Except Err (T × L)
  | .error e => .error e
  | .ok r => .ok (r.1, A.add l r.2)

@[simp] theorem shiftLd_ok (A : LD L) (l : L) (r : T × L) : shiftLd A l (.ok r) = .ok (r.1, A.add l r.2) := rfl
@[simp] theorem shiftLd_error (A : LD L) (l : L) (e : Err) : shiftLd A l (.error e : Except Err (T × L)) = .error e := rfl

theorem cascadeFrom_cons (A : LD L) (f : T → C → Except Err (T × L)) (fs) (x : T) (l : L) (c : C) :
    cascadeFrom A (f :: fs) x l c =
      match f x c with
      | .error e => .error e
      | .ok (y, ld) => cascadeFrom A fs y (A.add l ld) c := by
  simp only [cascadeFrom]
  rcases f x c with e | ⟨y, ld⟩ <;> rfl

theorem cascadeFrom_append (A : LD L) (fs gs : List (T → C → Except Err (T × L))) (x : T) (l : L) (c : C) :
    cascadeFrom A (fs ++ gs) x l c =
      match cascadeFrom A fs x l c with
      | .error e => .error e
      | .ok (y, l') => cascadeFrom A gs y l' c := by
  induction fs generalizing x l with
  | nil => simp [cascadeFrom]
  | cons f fs ih =>
    simp only [List.cons_append, cascadeFrom]
    cases f x c with
    | error e => simp
    | ok r => obtain ⟨y, ld⟩ := r; simp [ih]

theorem cascadeFrom_acc (A : LD L) (hA : A.Lawful) (fs : List (T → C → Except Err (T × L))) (x : T) (l : L) (c : C) :
    cascadeFrom A fs x l c = shiftLd A l (cascadeFrom A fs x A.zero c) := by
  induction fs generalizing x l with
  | nil => simp [cascadeFrom, hA.add_zero]
  | cons f fs ih =>
    simp only [cascadeFrom]
    cases f x c with
    | error e => simp
    | ok r =>
      obtain ⟨y, ld⟩ := r
      simp only []
      rw [ih y (A.add l ld), ih y (A.add A.zero ld)]
      cases cascadeFrom A fs y A.zero c with
      | error e => simp
      | ok r => simp [hA.zero_add, hA.add_assoc]

theorem cascade_cons (A : LD L) (hA : A.Lawful) (f : T → C → Except Err (T × L)) (fs) (x : T) (c : C) :
    cascade A (f :: fs) x c =
      match f x c with
      | .error e => .error e
      | .ok (y, ld) => shiftLd A ld (cascade A fs y c) := by
  simp only [cascade, cascadeFrom]
  cases f x c with
  | error e => simp
  | ok r => obtain ⟨y, ld⟩ := r; simp only []; rw [hA.zero_add, cascadeFrom_acc A hA]

theorem cascade_append (A : LD L) (hA : A.Lawful) (fs gs : List (T → C → Except Err (T × L))) (x : T) (c : C) :
    cascade A (fs ++ gs) x c =
      match cascade A fs x c with
      | .error e => .error e
      | .ok (y, l) => shiftLd A l (cascade A gs y c) := by
  simp only [cascade, cascadeFrom_append]
  cases cascadeFrom A fs x A.zero c with
  | error e => simp
  | ok r => obtain ⟨y, l⟩ := r; simp only []; rw [cascadeFrom_acc A hA]

theorem cascade_singleton (A : LD L) (f : T → C → Except Err (T × L)) (x : T) (c : C) :
    cascade A [f] x c = shiftLd A A.zero (f x c) := by
  simp only [cascade, cascadeFrom]
  cases f x c with
  | error e => simp
  | ok r => obtain ⟨y, l⟩ := r; simp

def GoodTr {G : Type} [AddCommGroup G] (t : Tr T C G) : Prop :=
  ∀ x c y l, t.fwd x c = .ok (y, l) → t.inv y c = .ok (x, -l)


end NF.Wrap
