import Mathlib.Analysis.Calculus.FDeriv.Basic
import Mathlib.Analysis.Calculus.Deriv.Basic
import Mathlib.Analysis.Calculus.Deriv.Comp
import Mathlib.Analysis.Calculus.Deriv.Prod
import Mathlib.Analysis.Calculus.Deriv.Mul
import Mathlib.Analysis.Calculus.Deriv.Add
import Mathlib.LinearAlgebra.Matrix.Block
import Mathlib.LinearAlgebra.Matrix.ToLin
import Mathlib.LinearAlgebra.Determinant
import Mathlib.Analysis.Calculus.FDeriv.Pi
import Mathlib.Analysis.Calculus.LineDeriv.Basic
import Mathlib.Analysis.Calculus.Deriv.Shift
import Mathlib.Tactic
/-!
# Lemmas/RankedDet — the determinant of a Jacobian with ranked dependencies

If every output coordinate depends only on itself and on coordinates of strictly smaller rank, the Jacobian is triangular
up to the permutation that sorts by rank and its determinant is the product of the own-coordinate derivatives
(`det_of_ranked_dependency`).  The masked special case — identity on some coordinates, a scalar map of the own coordinate
on the others, as in a coupling layer — gives the determinant, its absolute value as `exp` of a sum, and the Jacobian entry
by entry (`det_of_masked`, `abs_det_of_masked`, `entries_of_masked`).  Both the masked and the autoregressive case are read off
`det_of_guarded`, which takes the dependency fact in the form the executed programs prove it.
-/

namespace RankedDet


open Matrix

variable {n : ℕ}

theorem line_apply_of_ne (x : Fin n → ℝ) (t : ℝ) {j k : Fin n} (h : k ≠ j) : (x + t • (Pi.single j (1 : ℝ) : Fin n → ℝ)) k = x k := by
  rw [Pi.add_apply, Pi.smul_apply, Pi.single_eq_of_ne h, smul_zero, add_zero]

theorem line_apply_self (x : Fin n → ℝ) (t : ℝ) (j : Fin n) : (x + t • (Pi.single j (1 : ℝ) : Fin n → ℝ)) j = x j + t := by
  rw [Pi.add_apply, Pi.smul_apply, Pi.single_eq_same, smul_eq_mul, mul_one]

theorem coord_line_deriv {F : (Fin n → ℝ) → (Fin n → ℝ)} {L : (Fin n → ℝ) →L[ℝ] (Fin n → ℝ)}
    {x : Fin n → ℝ} (hF : HasFDerivAt F L x) (i j : Fin n) :
    HasDerivAt (fun t : ℝ => F (x + t • Pi.single j 1) i) (L (Pi.single j 1) i) 0 :=
  hasDerivAt_pi.mp (hF.hasLineDerivAt (Pi.single j 1)) i

theorem entry_zero_of_indep {F : (Fin n → ℝ) → (Fin n → ℝ)} {L : (Fin n → ℝ) →L[ℝ] (Fin n → ℝ)}
    {x : Fin n → ℝ} (hF : HasFDerivAt F L x) (i j : Fin n)
    (hind : ∀ t : ℝ, F (x + t • Pi.single j 1) i = F x i) :
    L (Pi.single j 1) i = 0 :=
  (coord_line_deriv hF i j).unique ((hasDerivAt_const (0 : ℝ) (F x i)).congr_of_eventuallyEq (.of_forall hind))

/-- Triangular-dependency determinant. `r` ranks coordinates; `F i` depends only on `i` itself
and coordinates of strictly smaller rank; `d i` is the own-coordinate partial derivative. -/
theorem det_of_ranked_dependency {F : (Fin n → ℝ) → (Fin n → ℝ)}
    {L : (Fin n → ℝ) →L[ℝ] (Fin n → ℝ)} {x : Fin n → ℝ} (hF : HasFDerivAt F L x)
    (r : Fin n → ℕ) (d : Fin n → ℝ)
    (hind : ∀ i j, j ≠ i → ¬ (r j < r i) → ∀ t : ℝ, F (x + t • Pi.single j 1) i = F x i)
    (hdiag : ∀ i, HasDerivAt (fun t : ℝ => F (x + t • Pi.single i 1) i) (d i) 0) :
    LinearMap.det (L : (Fin n → ℝ) →ₗ[ℝ] (Fin n → ℝ)) = ∏ i, d i := by
  classical
  set M : Matrix (Fin n) (Fin n) ℝ := LinearMap.toMatrix' (L : (Fin n → ℝ) →ₗ[ℝ] (Fin n → ℝ)) with hM
  have hentry : ∀ i j, M i j = L (Pi.single j 1) i := by
    intro i j; simp [hM, LinearMap.toMatrix'_apply]
  have hzero : ∀ i j, j ≠ i → ¬ (r j < r i) → M i j = 0 := by
    intro i j hji hr
    rw [hentry]; exact entry_zero_of_indep hF i j (hind i j hji hr)
  have hdiagM : ∀ i, M i i = d i := by
    intro i; rw [hentry]; exact (coord_line_deriv hF i i).unique (hdiag i)
  -- key (rank, index), lexicographic, reversed: smaller keys are *columns* that may be non-zero
  let b : Fin n → (ℕ ×ₗ Fin n)ᵒᵈ := fun i => OrderDual.toDual (toLex (r i, i))
  have hb : Function.Injective b := by
    intro i j h
    have := congrArg (fun p => (ofLex (OrderDual.ofDual p)).2) h
    simpa [b] using this
  have hBT : M.BlockTriangular b := by
    intro i j hij
    -- hij : b j < b i  ↔  (r i, i) <lex (r j, j)
    have h1 : toLex (r i, i) < toLex (r j, j) := by simpa [b] using hij
    have hne : j ≠ i := by rintro rfl; exact lt_irrefl _ h1
    apply hzero i j hne
    intro hr
    have : toLex (r j, j) < toLex (r i, i) := by
      rw [Prod.Lex.toLex_lt_toLex]; exact Or.inl hr
    exact lt_asymm h1 this
  have hblock : ∀ i, (M.toSquareBlock b (b i)).det = M i i := by
    intro i
    letI : Unique { a // b a = b i } := ⟨⟨⟨i, rfl⟩⟩, fun j => Subtype.ext (hb j.property)⟩
    exact (det_unique _).trans rfl
  rw [← LinearMap.det_toMatrix' (L : (Fin n → ℝ) →ₗ[ℝ] (Fin n → ℝ)), ← hM, hBT.det,
    Finset.prod_image (fun i _ j _ h => hb h)]
  exact Finset.prod_congr rfl (fun i _ => (hblock i).trans (hdiagM i))


/-! **The fact in the form the programs supply it.**  Wherever `v` agrees with `x` on the coordinates of smaller rank than
`i`, output `i` is a scalar map `g i` of `v i` alone.  Autoregressive layer: `r i = i` (`ARWhole.rowMap_eq`).  Coupling layer:
rank `0` on the identity coordinates, where `g i = id`, rank `1` on the transformed ones (`masked_guarded`). -/

section guarded
variable {F : (Fin n → ℝ) → (Fin n → ℝ)} {L : (Fin n → ℝ) →L[ℝ] (Fin n → ℝ)} {x : Fin n → ℝ}
  {r : Fin n → ℕ} {g : Fin n → ℝ → ℝ}

theorem guarded_line_other (hg : ∀ v i, (∀ j, r j < r i → v j = x j) → F v i = g i (v i))
    {i j : Fin n} (hji : j ≠ i) (hr : ¬ r j < r i) (t : ℝ) : F (x + t • Pi.single j 1) i = F x i := by
  rw [hg (x + t • Pi.single j 1) i (fun j' hj' => line_apply_of_ne x t (fun h : j' = j => hr (h ▸ hj'))),
    hg x i (fun _ _ => rfl), line_apply_of_ne x t (Ne.symm hji)]

theorem guarded_line_self (hg : ∀ v i, (∀ j, r j < r i → v j = x j) → F v i = g i (v i))
    {d : Fin n → ℝ} (hdiag : ∀ i, HasDerivAt (g i) (d i) (x i)) (i : Fin n) :
    HasDerivAt (fun t : ℝ => F (x + t • Pi.single i 1) i) (d i) 0 := by
  rw [show (fun t : ℝ => F (x + t • Pi.single i 1) i) = fun t => g i (x i + t) from funext fun t => by
    rw [hg (x + t • Pi.single i 1) i (fun j' hj' => line_apply_of_ne x t (fun h : j' = i => lt_irrefl (r i) (h ▸ hj'))),
      line_apply_self]]
  have h := hdiag i
  rw [← add_zero (x i)] at h
  exact h.comp_const_add (x i) 0

theorem det_of_guarded (hF : HasFDerivAt F L x) (r : Fin n → ℕ) (g : Fin n → ℝ → ℝ)
    (hg : ∀ v i, (∀ j, r j < r i → v j = x j) → F v i = g i (v i))
    (d : Fin n → ℝ) (hdiag : ∀ i, HasDerivAt (g i) (d i) (x i)) :
    LinearMap.det (L : (Fin n → ℝ) →ₗ[ℝ] (Fin n → ℝ)) = ∏ i, d i :=
  det_of_ranked_dependency hF r d (fun _ _ hji hr => guarded_line_other hg hji hr) (guarded_line_self hg hdiag)

theorem entries_of_guarded (hF : HasFDerivAt F L x) (r : Fin n → ℕ) (g : Fin n → ℝ → ℝ)
    (hg : ∀ v i, (∀ j, r j < r i → v j = x j) → F v i = g i (v i))
    (d : Fin n → ℝ) (hdiag : ∀ i, HasDerivAt (g i) (d i) (x i)) :
    (∀ i j, j ≠ i → ¬ r j < r i → L (Pi.single j 1) i = 0) ∧ ∀ i, L (Pi.single i 1) i = d i :=
  ⟨fun i j hji hr => entry_zero_of_indep hF i j (guarded_line_other hg hji hr),
    fun i => (coord_line_deriv hF i i).unique (guarded_line_self hg hdiag i)⟩

end guarded

/-! **A masked triangular map** (the shape of a coupling layer): `F` is the identity on the coordinates with `T i = false`
and, along points that agree with `x` there, acts on every other coordinate `i` by a scalar map `g i` of that coordinate
alone. -/

section masked
variable {F : (Fin n → ℝ) → (Fin n → ℝ)} {L : (Fin n → ℝ) →L[ℝ] (Fin n → ℝ)} {x : Fin n → ℝ} {T : Fin n → Bool}
  {g : Fin n → ℝ → ℝ}

theorem masked_guarded (hid : ∀ v i, T i = false → F v i = v i)
    (htr : ∀ v, (∀ k, T k = false → v k = x k) → ∀ i, T i = true → F v i = g i (v i)) (v : Fin n → ℝ) (i : Fin n)
    (h : ∀ j, (if T j then 1 else 0) < (if T i then 1 else 0) → v j = x j) :
    F v i = (if T i then g i else id) (v i) := by
  cases hi : T i with
  | false => rw [hid v i hi]; rfl
  | true => rw [htr v (fun k hk => h k (by simp [hk, hi])) i hi]; rfl

theorem masked_diag {d : Fin n → ℝ} (hdiag : ∀ i, T i = true → HasDerivAt (g i) (d i) (x i)) (i : Fin n) :
    HasDerivAt (if T i then g i else id) (if T i then d i else 1) (x i) := by
  cases hi : T i with
  | false => exact hasDerivAt_id _
  | true => exact hdiag i hi

theorem det_of_masked (hF : HasFDerivAt F L x) (T : Fin n → Bool) (g : Fin n → ℝ → ℝ)
    (hid : ∀ v i, T i = false → F v i = v i)
    (htr : ∀ v, (∀ k, T k = false → v k = x k) → ∀ i, T i = true → F v i = g i (v i))
    (d : Fin n → ℝ) (hdiag : ∀ i, T i = true → HasDerivAt (g i) (d i) (x i)) :
    LinearMap.det (L : (Fin n → ℝ) →ₗ[ℝ] (Fin n → ℝ)) = ∏ i, if T i then d i else 1 :=
  det_of_guarded hF _ _ (masked_guarded hid htr) _ (masked_diag hdiag)

/-- its Jacobian entry by entry (`∂F_i/∂x_j = L (e_j) i`): rows of the identity matrix on the `T = false` coordinates, no
dependence of a `T = true` output on ANOTHER `T = true` input, diagonal `d`; only `∂F_i/∂x_j` with `T i = true`,
`T j = false` is left free -/
theorem entries_of_masked (hF : HasFDerivAt F L x) (T : Fin n → Bool) (g : Fin n → ℝ → ℝ)
    (hid : ∀ v i, T i = false → F v i = v i)
    (htr : ∀ v, (∀ k, T k = false → v k = x k) → ∀ i, T i = true → F v i = g i (v i))
    (d : Fin n → ℝ) (hdiag : ∀ i, T i = true → HasDerivAt (g i) (d i) (x i)) :
    (∀ i j, T i = false → L (Pi.single j 1) i = if i = j then 1 else 0)
    ∧ (∀ i j, T i = true → T j = true → j ≠ i → L (Pi.single j 1) i = 0)
    ∧ (∀ i, T i = true → L (Pi.single i 1) i = d i) := by
  obtain ⟨h0, h1⟩ := entries_of_guarded hF _ _ (masked_guarded hid htr) _ (masked_diag hdiag)
  refine ⟨fun i j hi => ?_, fun i j hi hj hji => h0 i j hji (by simp [hi, hj]), fun i hi => by rw [h1 i, hi, if_pos rfl]⟩
  by_cases hij : i = j
  · subst hij; rw [h1 i, hi, if_neg Bool.false_ne_true, if_pos rfl]
  · rw [if_neg hij]; exact h0 i j (Ne.symm hij) (by simp [hi])

end masked

/-- the step from a triangular Jacobian with diagonal `exp (l i)` to the log-det the programs return -/
theorem abs_prod_exp {ι : Type*} (s : Finset ι) (l : ι → ℝ) : |∏ i ∈ s, Real.exp (l i)| = Real.exp (∑ i ∈ s, l i) := by
  rw [← Real.exp_sum, abs_of_pos (Real.exp_pos _)]

theorem log_abs_prod_exp {ι : Type*} (s : Finset ι) (l : ι → ℝ) : Real.log |∏ i ∈ s, Real.exp (l i)| = ∑ i ∈ s, l i := by
  rw [abs_prod_exp, Real.log_exp]

theorem abs_det_of_masked {F : (Fin n → ℝ) → (Fin n → ℝ)} {L : (Fin n → ℝ) →L[ℝ] (Fin n → ℝ)} {x : Fin n → ℝ}
    (hF : HasFDerivAt F L x) (T : Fin n → Bool) (g : Fin n → ℝ → ℝ)
    (hid : ∀ v i, T i = false → F v i = v i)
    (htr : ∀ v, (∀ k, T k = false → v k = x k) → ∀ i, T i = true → F v i = g i (v i))
    (l : Fin n → ℝ) (hdiag : ∀ i, T i = true → HasDerivAt (g i) (Real.exp (l i)) (x i)) :
    |LinearMap.det (L : (Fin n → ℝ) →ₗ[ℝ] (Fin n → ℝ))| = Real.exp (∑ i, if T i then l i else 0) := by
  rw [det_of_masked hF T g hid htr _ hdiag, ← abs_prod_exp]
  exact congrArg _ (Finset.prod_congr rfl fun i _ => by split; exacts [rfl, Real.exp_zero.symm])

theorem logdet_eq_neg_of_roundtrip {n : ℕ} (f g : (Fin n → ℝ) → (Fin n → ℝ)) (y : Fin n → ℝ)
    {Lg Lf : (Fin n → ℝ) →L[ℝ] (Fin n → ℝ)} (hg : HasFDerivAt g Lg y) (hf : HasFDerivAt f Lf (g y))
    (hfg : ∀ᶠ v in nhds y, f (g v) = v) :
    Real.log |LinearMap.det (Lg : (Fin n → ℝ) →ₗ[ℝ] (Fin n → ℝ))|
      = - Real.log |LinearMap.det (Lf : (Fin n → ℝ) →ₗ[ℝ] (Fin n → ℝ))| := by
  have hid : HasFDerivAt (f ∘ g) (ContinuousLinearMap.id ℝ (Fin n → ℝ)) y :=
    (hasFDerivAt_id y).congr_of_eventuallyEq hfg
  have hdet : LinearMap.det (Lf : (Fin n → ℝ) →ₗ[ℝ] (Fin n → ℝ)) * LinearMap.det (Lg : (Fin n → ℝ) →ₗ[ℝ] (Fin n → ℝ)) = 1 := by
    have h : ((Lf.comp Lg : (Fin n → ℝ) →L[ℝ] (Fin n → ℝ)) : (Fin n → ℝ) →ₗ[ℝ] (Fin n → ℝ)) = LinearMap.id :=
      congrArg _ ((hf.comp y hg).unique hid)
    exact (LinearMap.det_comp _ _).symm.trans ((congrArg _ h).trans LinearMap.det_id)
  rw [eq_neg_iff_add_eq_zero, ← Real.log_mul (abs_ne_zero.2 (right_ne_zero_of_mul_eq_one hdet))
    (abs_ne_zero.2 (left_ne_zero_of_mul_eq_one hdet)), ← abs_mul, mul_comm, hdet, abs_one, Real.log_one]

end RankedDet
