import NflowsModel.Lemmas.StructureExec
import NflowsModel.Lemmas.RQInverseWhole
/-!
# Lemmas/StructureExecRQ — the bounded rational-quadratic family over the reals as an element family of the layers:
where a call returns and that the other direction undoes it (`rq_accepts`, `rq_undoes`), from `RQInverseWhole.boxPair`.
-/
open NF DualSound

namespace NF.StructureExec
variable {α : Type}

def RQVecValid (e : Float → ℝ) (c : ElCfg) (p : List ℝ) : Prop :=
  RQWhole.RQValid e (rqCfgOf c) (rqW (NF.realX e) c p) (rqH (NF.realX e) c p) (rqD c p)

theorem rq_accepts (e : Float → ℝ) (c : ElCfg) (hk : c.kind = "rq") (ht : c.tails = false) :
    ElAccepts (NF.realX e) c (RQVecValid e c)
      (ElemPair.boxD (e (rqCfgOf c).box.left) (e (rqCfgOf c).box.right) (e (rqCfgOf c).box.bottom) (e (rqCfgOf c).box.top)) :=
  ElAccepts.of_prog (elTransform_rq _ c hk ht) (fun _ hv => (RQInverseWhole.boxPair hv).accepts)

theorem rq_undoes (e : Float → ℝ) (c : ElCfg) (hk : c.kind = "rq") (ht : c.tails = false) (d : Bool) :
    ElUndoes Eq d (NF.realX e) c (RQVecValid e c) :=
  ElUndoes.of_prog (elTransform_rq _ c hk ht)
    (fun _ hv => (RQInverseWhole.boxPair hv).undoes (RQInverseWhole.ldLaw hv)) d

/-- every parameter slice the conditioner produced is an accepted RQ configuration (`SlicesValid (NF.realX e) c (RQVecValid e c)`
    written out: the two unfold to the same proposition) -/
def RQParamsValid (e : Float → ℝ) (c : ElCfg) (Ft S : Nat) (params : Array ℝ) (B : Nat) : Prop :=
  ∀ b t s, b < B → t < Ft → s < S →
    RQWhole.RQValid e (rqCfgOf c)
      (rqW (NF.realX e) c (condSlice (NF.realX e) c.mult Ft S params b t s))
      (rqH (NF.realX e) c (condSlice (NF.realX e) c.mult Ft S params b t s))
      (rqD c (condSlice (NF.realX e) c.mult Ft S params b t s))

/-! non-vacuity: a one-bin RQ configuration on the unit box (`RQWhole.valid_example`), every slice of the empty
    parameter array (all reads default to 0) is accepted.  (`container` only selects the `1/sqrt(hidden)` scaling policy,
    which is off whenever `hiddenFeatures = hiddenChannels = 0`: the witness serves the coupling and the autoregressive
    layer alike, as do `cQ`, `cQT`, `CubicLayers.cC`, `cCT`.) -/
def cW : ElCfg := { container := "cdf", kind := "rq", K := 1, ds := #[0.0, 1.0, 0.0, 1.0, 0.0, 0.0, 0.0, 1.0] }

theorem rqParamsValid_example (Ft S B : Nat) : RQParamsValid RQWhole.eNV cW Ft S #[] B := by
  intro b t s _ _ _
  have hs : condSlice (NF.realX RQWhole.eNV) cW.mult Ft S #[] b t s = [0, 0, 0, 0] := by
    have hm : cW.mult = 4 := by decide
    rw [hm]
    simp [condSlice, List.range_succ]
  rw [hs]
  have hw : rqW (NF.realX RQWhole.eNV) cW [0, 0, 0, 0] = [0] := by simp [rqW, rqScale, cW]
  have hh : rqH (NF.realX RQWhole.eNV) cW [0, 0, 0, 0] = [0] := by simp [rqH, rqScale, cW]
  have hd : rqD cW ([0, 0, 0, 0] : List ℝ) = [0, 0] := by simp [rqD, cW]
  rw [hw, hh, hd]
  exact RQWhole.valid_example

end NF.StructureExec
