import NflowsModel.Lemmas.StableRoot
import Mathlib.Analysis.SpecialFunctions.Log.Deriv
import Mathlib.Analysis.SpecialFunctions.Sqrt
import Mathlib.Analysis.Calculus.Deriv.MeanValue
import Mathlib.Tactic
/-!
# Lemmas/RQ — one rational-quadratic bin in the normalised coordinate θ ∈ [0,1]: positivity of the two logarithm arguments,
derivative, strict monotonicity, and the inverse as coded (stable root of the code's quadratic)
-/

noncomputable section

theorem stable_root {a b c : ℝ} (h0 : c ≤ 0) (h1 : 0 ≤ a + b + c) (hb : c = 0 → 0 < b) :
    let D := Real.sqrt (b^2 - 4*a*c)
    let θ := 2*c / (-b - D)
    0 ≤ b^2 - 4*a*c ∧ 0 < b + D ∧ 0 ≤ θ ∧ θ ≤ 1 ∧ a*θ^2 + b*θ + c = 0 :=
  StableRoot.stable_root h0 h1 hb

namespace RQ

/-- the RQ bin in the normalised coordinate θ ∈ [0,1]; s = h/w is the bin slope (rational_quadratic.py:166-176) -/
def g (s d0 d1 h θ : ℝ) : ℝ := h * (s * θ^2 + d0 * (θ * (1 - θ))) / (s + (d0 + d1 - 2*s) * (θ * (1 - θ)))
def den (s d0 d1 θ : ℝ) : ℝ := s + (d0 + d1 - 2*s) * (θ * (1 - θ))
/-- derivative numerator as coded (rational_quadratic.py:178-182), per unit of θ it is h/s times this / den² -/
def dnum (s d0 d1 θ : ℝ) : ℝ := s^2 * (d1 * θ^2 + 2*s*(θ*(1-θ)) + d0 * (1-θ)^2)

theorem den_pos {s d0 d1 θ : ℝ} (hs : 0 < s) (h0 : 0 < d0) (h1 : 0 < d1) (ht0 : 0 ≤ θ) (ht1 : θ ≤ 1) :
    0 < den s d0 d1 θ := by
  have e : den s d0 d1 θ = s * (2 * (θ - 1/2)^2 + 1/2) + (d0 + d1) * (θ * (1 - θ)) := by unfold den; ring
  rw [e]
  exact add_pos_of_pos_of_nonneg (mul_pos hs (by positivity))
    (mul_nonneg (add_pos h0 h1).le (mul_nonneg ht0 (sub_nonneg.mpr ht1)))

theorem dnum_pos {s d0 d1 θ : ℝ} (hs : 0 < s) (h0 : 0 < d0) (h1 : 0 < d1) (ht0 : 0 ≤ θ) (ht1 : θ ≤ 1) :
    0 < dnum s d0 d1 θ := by
  unfold dnum
  apply mul_pos (by positivity)
  have h3 : 0 ≤ θ * (1 - θ) := mul_nonneg ht0 (by linarith)
  rcases eq_or_lt_of_le ht0 with h | h
  · subst h; simp; exact h0
  · have : 0 < d1 * θ^2 := by positivity
    have : 0 ≤ 2*s*(θ*(1-θ)) := by positivity
    have : 0 ≤ d0 * (1-θ)^2 := by positivity
    linarith

/-- dg/dθ = (h/s) · dnum / den²  (so dy/dx = dnum/den² after dividing by w, since h/(s·w) = 1) -/
theorem g_hasDerivAt {s d0 d1 h θ : ℝ} (hs : 0 < s) (hd : den s d0 d1 θ ≠ 0) :
    HasDerivAt (g s d0 d1 h) (h / s * dnum s d0 d1 θ / (den s d0 d1 θ)^2) θ := by
  have hθ : HasDerivAt (fun θ : ℝ => θ) 1 θ := hasDerivAt_id' θ
  have h1 : HasDerivAt (fun θ : ℝ => θ * (1 - θ)) (1 - 2*θ) θ :=
    (hθ.mul ((hasDerivAt_const θ (1:ℝ)).sub hθ)).congr_deriv (by simp; ring)
  have hn : HasDerivAt (fun θ : ℝ => h * (s * θ^2 + d0 * (θ * (1 - θ)))) (h * (s * (2*θ) + d0 * (1 - 2*θ))) θ :=
    ((((hθ.pow 2).const_mul s).add (h1.const_mul d0)).const_mul h).congr_deriv (by simp)
  have hdn : HasDerivAt (fun θ : ℝ => s + (d0 + d1 - 2*s) * (θ * (1 - θ))) ((d0 + d1 - 2*s) * (1 - 2*θ)) θ :=
    (h1.const_mul (d0 + d1 - 2*s)).const_add s
  have e : h / s * dnum s d0 d1 θ = h * (s * (d1 * θ^2 + 2*s*(θ*(1-θ)) + d0 * (1-θ)^2)) := by
    rw [dnum, pow_two, mul_assoc s s, ← mul_assoc (h / s), div_mul_cancel₀ h hs.ne']
  refine (hn.div hdn hd).congr_deriv ?_
  rw [e, den]
  congr 1
  ring

theorem g_strictMonoOn {s d0 d1 h : ℝ} (hs : 0 < s) (h0 : 0 < d0) (h1 : 0 < d1) (hh : 0 < h) :
    StrictMonoOn (g s d0 d1 h) (Set.Icc 0 1) := by
  apply strictMonoOn_of_deriv_pos (convex_Icc 0 1)
  · intro θ hθ
    exact (g_hasDerivAt (h := h) hs (den_pos hs h0 h1 hθ.1 hθ.2).ne').continuousAt.continuousWithinAt
  · intro θ hθ
    rw [interior_Icc] at hθ
    have hd := den_pos hs h0 h1 hθ.1.le hθ.2.le
    rw [(g_hasDerivAt (h := h) hs hd.ne').deriv]
    have := dnum_pos hs h0 h1 hθ.1.le hθ.2.le
    positivity

theorem g_zero {s d0 d1 h : ℝ} : g s d0 d1 h 0 = 0 := by simp [g]
theorem g_one {s d0 d1 h : ℝ} (hs : 0 < s) : g s d0 d1 h 1 = h := by
  have hs' : s ≠ 0 := hs.ne'
  have : g s d0 d1 h 1 = h * s / s := by simp [g]
  rw [this, mul_div_assoc, div_self hs', mul_one]

/-- the code's quadratic coefficients for the inverse (rational_quadratic.py:137-143), Δ = y - y_k -/
def qa (s d0 d1 h Δ : ℝ) : ℝ := Δ * (d0 + d1 - 2*s) + h * (s - d0)
def qb (s d0 d1 h Δ : ℝ) : ℝ := h * d0 - Δ * (d0 + d1 - 2*s)
def qc (s Δ : ℝ) : ℝ := - s * Δ

theorem quad_iff {s d0 d1 h Δ θ : ℝ} (hd : den s d0 d1 θ ≠ 0) :
    qa s d0 d1 h Δ * θ^2 + qb s d0 d1 h Δ * θ + qc s Δ = 0 ↔ g s d0 d1 h θ = Δ := by
  unfold g
  unfold den at hd
  rw [div_eq_iff hd]
  unfold qa qb qc
  constructor <;> intro e <;> linarith [e]


theorem q_sum (s d0 d1 h Δ : ℝ) : qa s d0 d1 h Δ + qb s d0 d1 h Δ + qc s Δ = s * (h - Δ) := by
  unfold qa qb qc; ring

/-- for `Δ ∈ [0, h]` the code's coefficients are those of a quadratic with `q(0) ≤ 0 ≤ q(1)`: `stable_root` applies -/
theorem q_stable {s d0 d1 h Δ : ℝ} (hs : 0 < s) (h0 : 0 < d0) (hh : 0 < h) (hΔ0 : 0 ≤ Δ) (hΔ1 : Δ ≤ h) :
    qc s Δ ≤ 0 ∧ 0 ≤ qa s d0 d1 h Δ + qb s d0 d1 h Δ + qc s Δ ∧ (qc s Δ = 0 → 0 < qb s d0 d1 h Δ) := by
  refine ⟨?_, ?_, fun hc0 => ?_⟩
  · rw [qc, neg_mul]; exact neg_nonpos.mpr (mul_nonneg hs.le hΔ0)
  · rw [q_sum]; exact mul_nonneg hs.le (sub_nonneg.mpr hΔ1)
  · have hΔ : Δ = 0 := (mul_eq_zero.mp hc0).resolve_left (neg_ne_zero.mpr hs.ne')
    rw [qb, hΔ, zero_mul, sub_zero]; exact mul_pos hh h0

theorem root_divisor_neg {s d0 d1 h Δ : ℝ} (hs : 0 < s) (h0 : 0 < d0) (hh : 0 < h) (hΔ0 : 0 ≤ Δ) (hΔ1 : Δ ≤ h) :
    - qb s d0 d1 h Δ - Real.sqrt ((qb s d0 d1 h Δ)^2 - 4 * qa s d0 d1 h Δ * qc s Δ) < 0 := by
  obtain ⟨hc, hq1, hb⟩ := q_stable (d1 := d1) hs h0 hh hΔ0 hΔ1
  linarith [(stable_root hc hq1 hb).2.1]

/-- the inverse as coded returns a point of the bin that the forward formula maps back to Δ -/
theorem inverse_correct {s d0 d1 h Δ : ℝ} (hs : 0 < s) (h0 : 0 < d0) (h1 : 0 < d1) (hh : 0 < h)
    (hΔ0 : 0 ≤ Δ) (hΔ1 : Δ ≤ h) :
    let a := qa s d0 d1 h Δ; let b := qb s d0 d1 h Δ; let c := qc s Δ
    let θ := 2*c / (-b - Real.sqrt (b^2 - 4*a*c))
    0 ≤ b^2 - 4*a*c ∧ 0 ≤ θ ∧ θ ≤ 1 ∧ g s d0 d1 h θ = Δ := by
  intro a b c θ
  obtain ⟨hc, hq1, hb⟩ := q_stable (d1 := d1) hs h0 hh hΔ0 hΔ1
  obtain ⟨hd, _, ht0, ht1, hroot⟩ := stable_root hc hq1 hb
  exact ⟨hd, ht0, ht1, (quad_iff (den_pos hs h0 h1 ht0 ht1).ne').mp hroot⟩

/-- inverse ∘ forward = id on the bin (uniqueness from strict monotonicity) -/
theorem inverse_forward {s d0 d1 h θ₀ : ℝ} (hs : 0 < s) (h0 : 0 < d0) (h1 : 0 < d1) (hh : 0 < h)
    (ht0 : 0 ≤ θ₀) (ht1 : θ₀ ≤ 1) :
    let Δ := g s d0 d1 h θ₀
    let a := qa s d0 d1 h Δ; let b := qb s d0 d1 h Δ; let c := qc s Δ
    2*c / (-b - Real.sqrt (b^2 - 4*a*c)) = θ₀ := by
  intro Δ a b c
  have hm := g_strictMonoOn hs h0 h1 hh
  have hΔ0 : 0 ≤ Δ := by
    have := hm.monotoneOn (Set.left_mem_Icc.mpr zero_le_one) ⟨ht0, ht1⟩ ht0
    simpa [g_zero] using this
  have hΔ1 : Δ ≤ h := by
    have := hm.monotoneOn ⟨ht0, ht1⟩ (Set.right_mem_Icc.mpr zero_le_one) ht1
    simpa [g_one hs] using this
  obtain ⟨_, r0, r1, hg⟩ := inverse_correct hs h0 h1 hh hΔ0 hΔ1
  exact hm.injOn ⟨r0, r1⟩ ⟨ht0, ht1⟩ hg

/-- log-det as coded equals log of the true derivative dy/dx = dnum/den² -/
theorem logdet_eq {s d0 d1 θ : ℝ} (hs : 0 < s) (h0 : 0 < d0) (h1 : 0 < d1) (ht0 : 0 ≤ θ) (ht1 : θ ≤ 1) :
    Real.log (dnum s d0 d1 θ) - 2 * Real.log (den s d0 d1 θ) = Real.log (dnum s d0 d1 θ / (den s d0 d1 θ)^2) := by
  have hd := den_pos hs h0 h1 ht0 ht1
  have hn := dnum_pos hs h0 h1 ht0 ht1
  rw [Real.log_div hn.ne' (pow_ne_zero 2 hd.ne'), Real.log_pow]; norm_num
end RQ

end
