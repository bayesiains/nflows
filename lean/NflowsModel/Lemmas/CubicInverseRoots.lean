import Mathlib.Analysis.SpecialFunctions.Trigonometric.Basic
import Mathlib.Analysis.SpecialFunctions.Complex.Arg
import Mathlib.Analysis.SpecialFunctions.Sqrt
import Mathlib.Analysis.SpecialFunctions.Log.Basic
import Mathlib.Tactic
import NflowsModel.Lemmas.StableRoot

/-!
# Lemmas/CubicInverseRoots — the real algebra behind the closed-form roots of `cubic.py` (inverse direction)

Pure real analysis, no program: the cube root `sign x · exp(log|x|/3)`; Blinn's quantities of the monic cubic and its
depressed form; Cardano's root for `disc < 0` and its uniqueness; for `disc ≥ 0` the depressed cubic FACTORS over the three
trigonometric candidates (`atan2 = Complex.arg`, triple root included); the stable quadratic root of the fallback: exact when
`a = 0`, residual `≤ |a|·w³` otherwise, and genuinely non-zero.
-/
namespace CubicRoots
noncomputable section

/-- the cube root as `torchutils.cbrt` writes it: `sign x · exp(log|x| / 3)` -/
def cbrt (x : ℝ) : ℝ := (if 0 < x then 1 else if x < 0 then -1 else 0) * Real.exp (Real.log |x| / 3)

theorem cbrt_cube (x : ℝ) : cbrt x ^ 3 = x := by
  unfold cbrt
  have h3 : Real.exp (Real.log |x| / 3) ^ 3 = Real.exp (Real.log |x|) := by
    rw [← Real.exp_nat_mul]; congr 1; push_cast; ring
  rw [mul_pow, h3]
  rcases lt_trichotomy 0 x with h | h | h
  · rw [if_pos h, Real.exp_log (abs_pos.mpr h.ne'), abs_of_pos h]; ring
  · subst h; simp
  · rw [if_neg (not_lt.mpr h.le), if_pos h, Real.exp_log (abs_pos.mpr h.ne), abs_of_neg h]; ring

theorem cube_inj {x y : ℝ} (h : x ^ 3 = y ^ 3) : x = y :=
  (Odd.strictMono_pow (by decide : Odd 3)).injective h

/-! ### Blinn's quantities for the monic cubic `s³ + 3B s² + 3C s + D` -/

def δ1 (B C : ℝ) : ℝ := -(B*B) + C
def δ2 (B C D : ℝ) : ℝ := -(C*B) + D
def δ3 (B C D : ℝ) : ℝ := B*D - C*C
def disc (B C D : ℝ) : ℝ := 4 * δ1 B C * δ3 B C D - δ2 B C D * δ2 B C D
def dep1 (B C D : ℝ) : ℝ := -2 * B * δ1 B C + δ2 B C D

theorem depress (B C D s : ℝ) :
    s^3 + 3*B*s^2 + 3*C*s + D = (s + B)^3 + 3 * δ1 B C * (s + B) + dep1 B C D := by
  unfold dep1 δ1 δ2; ring

/-- the code's `discriminant` is `−(dep₁² + 4 δ₁³)` (i.e. `1/27` of the discriminant of the depressed cubic) -/
theorem disc_eq (B C D : ℝ) : disc B C D = -((dep1 B C D)^2 + 4 * (δ1 B C)^3) := by
  unfold disc dep1 δ1 δ2 δ3; ring

/-- the bin cubic `a s³ + b s² + c s + cc` (`a ≠ 0`) is `a` times the depressed cubic of the code's `b_, c_, d_` -/
theorem monic (a b c cc s : ℝ) (ha : a ≠ 0) :
    a*s^3 + b*s^2 + c*s + cc
      = a * ((s + b/a/3)^3 + 3 * δ1 (b/a/3) (c/a/3) * (s + b/a/3) + dep1 (b/a/3) (c/a/3) (cc/a)) := by
  rw [← depress]; field_simp

/-! ### the depressed cubic `τ³ + 3mτ + n` with `Δ = −(n² + 4m³)` -/

theorem cardano {m n Δ : ℝ} (hΔ : Δ = -(n^2 + 4*m^3)) (hneg : Δ < 0) :
    (cbrt ((-n + Real.sqrt (-Δ))/2) + cbrt ((-n - Real.sqrt (-Δ))/2))^3
      + 3*m*(cbrt ((-n + Real.sqrt (-Δ))/2) + cbrt ((-n - Real.sqrt (-Δ))/2)) + n = 0 := by
  have hS : Real.sqrt (-Δ) ^ 2 = -Δ := Real.sq_sqrt (by linarith)
  set S := Real.sqrt (-Δ)
  have hp := cbrt_cube ((-n + S)/2)
  have hq := cbrt_cube ((-n - S)/2)
  set p := cbrt ((-n + S)/2)
  set q := cbrt ((-n - S)/2)
  have hpq : p * q = -m := by
    apply cube_inj
    rw [mul_pow, hp, hq]
    linear_combination (-1/4 : ℝ) * hS + (1/4 : ℝ) * hΔ
  linear_combination hp + hq + 3 * (p + q) * hpq

theorem disc_nonneg_of_two_roots {m n Δ τ1 τ2 : ℝ} (hΔ : Δ = -(n^2 + 4*m^3))
    (h1 : τ1^3 + 3*m*τ1 + n = 0) (h2 : τ2^3 + 3*m*τ2 + n = 0) (hne : τ1 ≠ τ2) : 0 ≤ Δ := by
  have hd : τ1 - τ2 ≠ 0 := sub_ne_zero.mpr hne
  have hm : 3*m = -(τ1^2 + τ1*τ2 + τ2^2) := by
    have : (τ1 - τ2) * (3*m + (τ1^2 + τ1*τ2 + τ2^2)) = 0 := by linear_combination h1 - h2
    rcases mul_eq_zero.mp this with h | h
    · exact absurd h hd
    · linarith
  have hm' : m = -(τ1^2 + τ1*τ2 + τ2^2)/3 := by linarith
  have hn : n = τ1*τ2*(τ1+τ2) := by rw [hm'] at h1; linear_combination h1
  have : 27 * Δ = ((τ1 - τ2) * (2*τ1 + τ2) * (τ1 + 2*τ2))^2 := by rw [hΔ, hm', hn]; ring
  linarith [sq_nonneg ((τ1 - τ2) * (2*τ1 + τ2) * (τ1 + 2*τ2))]

theorem cardano_unique {m n Δ τ : ℝ} (hΔ : Δ = -(n^2 + 4*m^3)) (hneg : Δ < 0) (h : τ^3 + 3*m*τ + n = 0) :
    τ = cbrt ((-n + Real.sqrt (-Δ))/2) + cbrt ((-n - Real.sqrt (-Δ))/2) := by
  by_contra hne
  exact absurd (disc_nonneg_of_two_roots hΔ h (cardano hΔ hneg) hne) (not_le.mpr hneg)

theorem m_nonpos {m n Δ : ℝ} (hΔ : Δ = -(n^2 + 4*m^3)) (hpos : 0 ≤ Δ) : m ≤ 0 := by
  by_contra h
  have hm : 0 < m := lt_of_not_ge h
  have : 0 < m^3 := by positivity
  nlinarith [sq_nonneg n]

/-- the three candidates of the trigonometric branch, as the code writes them -/
def trig1 (m n Δ : ℝ) : ℝ := Real.cos (Complex.arg ⟨-n, Real.sqrt Δ⟩ / 3) * (2 * Real.sqrt (-m))
def trig2 (m n Δ : ℝ) : ℝ :=
  (-(1/2) * Real.cos (Complex.arg ⟨-n, Real.sqrt Δ⟩ / 3) - Real.sqrt 3 / 2 * Real.sin (Complex.arg ⟨-n, Real.sqrt Δ⟩ / 3))
    * (2 * Real.sqrt (-m))
def trig3 (m n Δ : ℝ) : ℝ :=
  (-(1/2) * Real.cos (Complex.arg ⟨-n, Real.sqrt Δ⟩ / 3) + Real.sqrt 3 / 2 * Real.sin (Complex.arg ⟨-n, Real.sqrt Δ⟩ / 3))
    * (2 * Real.sqrt (-m))

/-- **trigonometric branch** (`Δ ≥ 0`, the triple-root case `m = n = 0` included): the depressed cubic FACTORS over the
    three candidates, so they are exactly its real roots -/
theorem trig_factor {m n Δ : ℝ} (hΔ : Δ = -(n^2 + 4*m^3)) (hpos : 0 ≤ Δ) (τ : ℝ) :
    τ^3 + 3*m*τ + n = (τ - trig1 m n Δ) * (τ - trig2 m n Δ) * (τ - trig3 m n Δ) := by
  have hm := m_nonpos hΔ hpos
  have hr2 : Real.sqrt (-m) ^ 2 = -m := Real.sq_sqrt (by linarith)
  have hr0 : 0 ≤ Real.sqrt (-m) := Real.sqrt_nonneg _
  have hS2 : Real.sqrt Δ ^ 2 = Δ := Real.sq_sqrt hpos
  have hk : Real.sqrt 3 ^ 2 = 3 := Real.sq_sqrt (by norm_num)
  unfold trig1 trig2 trig3
  set r := Real.sqrt (-m)
  set z : ℂ := ⟨-n, Real.sqrt Δ⟩ with hz
  set θ := Complex.arg z / 3 with hθ
  have h3θ : 3 * θ = Complex.arg z := by rw [hθ]; ring
  have hnorm : ‖z‖ = 2 * r^3 := by
    have h1 : ‖z‖^2 = (2 * r^3)^2 := by
      rw [Complex.sq_norm, Complex.normSq_mk, show (2 * r^3)^2 = 4 * (r^2)^3 by ring, hr2]
      linear_combination hS2 + hΔ
    have h2 : 0 ≤ 2 * r^3 := by positivity
    exact (pow_left_inj₀ (norm_nonneg z) h2 (by norm_num : (2:ℕ) ≠ 0)).mp h1
  have hcos : ‖z‖ * Real.cos (Complex.arg z) = -n := by
    exact Complex.norm_mul_cos_arg z
  rw [← h3θ, Real.cos_three_mul, hnorm] at hcos
  have hs2 : Real.sin θ ^ 2 + Real.cos θ ^ 2 = 1 := Real.sin_sq_add_cos_sq θ
  set cθ := Real.cos θ
  set sθ := Real.sin θ
  set k := Real.sqrt 3
  have hm' : m = -r^2 := by linarith
  have hn' : n = -(2 * r^3 * (4 * cθ^3 - 3 * cθ)) := by linarith
  rw [hm', hn']
  linear_combination ((τ - 2*r*cθ) * r^2 * sθ^2) * hk + (3 * (τ - 2*r*cθ) * r^2) * hs2

theorem trig_roots {m n Δ : ℝ} (hΔ : Δ = -(n^2 + 4*m^3)) (hpos : 0 ≤ Δ) :
    (trig1 m n Δ)^3 + 3*m*(trig1 m n Δ) + n = 0 ∧ (trig2 m n Δ)^3 + 3*m*(trig2 m n Δ) + n = 0 ∧
    (trig3 m n Δ)^3 + 3*m*(trig3 m n Δ) + n = 0 := by
  refine ⟨?_, ?_, ?_⟩ <;> rw [trig_factor hΔ hpos] <;> ring

theorem trig_complete {m n Δ τ : ℝ} (hΔ : Δ = -(n^2 + 4*m^3)) (hpos : 0 ≤ Δ) (h : τ^3 + 3*m*τ + n = 0) :
    τ = trig1 m n Δ ∨ τ = trig2 m n Δ ∨ τ = trig3 m n Δ := by
  rw [trig_factor hΔ hpos] at h
  rcases mul_eq_zero.mp h with h | h
  · rcases mul_eq_zero.mp h with h | h
    · exact Or.inl (sub_eq_zero.mp h)
    · exact Or.inr (Or.inl (sub_eq_zero.mp h))
  · exact Or.inr (Or.inr (sub_eq_zero.mp h))


/-! ### the quadratic fallback -/

/-- the numerically stable root `2cc / (−c − √max(c² − 4·b·cc, 0))` of `b s² + c s + cc` -/
def qroot (b c cc : ℝ) : ℝ := 2*cc / (-c - Real.sqrt (max (c*c - 4*b*cc) 0))

theorem qroot_facts {b c cc : ℝ} (hc : 0 < c) (h0 : cc ≤ 0) :
    0 ≤ qroot b c cc ∧ qroot b c cc * (c + Real.sqrt (max (c*c - 4*b*cc) 0)) = -2*cc ∧
    (0 ≤ c*c - 4*b*cc → b * (qroot b c cc)^2 + c * qroot b c cc + cc = 0) := by
  set S := Real.sqrt (max (c*c - 4*b*cc) 0) with hSdef
  have hS0 : 0 ≤ S := Real.sqrt_nonneg _
  have hD : 0 < c + S := by linarith
  have hqdef : qroot b c cc = -2*cc/(c+S) := by
    unfold qroot; rw [← hSdef, show -c - S = -(c+S) by ring, div_neg, neg_mul, neg_div]
  have hq : qroot b c cc * (c + S) = -2*cc := by rw [hqdef]; field_simp
  refine ⟨by rw [hqdef]; apply div_nonneg <;> linarith, hq, fun hrad => ?_⟩
  have hS2 : S^2 = c*c - 4*b*cc := by rw [hSdef, max_eq_left hrad]; exact Real.sq_sqrt hrad
  have : (b*(qroot b c cc)^2 + c*qroot b c cc + cc) * (c+S)^2 = 0 := by
    linear_combination (b*(qroot b c cc*(c+S) - 2*cc) + c*(c+S)) * hq + cc * hS2
  exact (mul_eq_zero.mp this).resolve_right (by positivity)

/-- **fallback on a genuinely quadratic bin** (`a = 0`): if `q(s) = b s² + c s + cc` has `q(0) ≤ 0 ≤ q(w)` and `q'(0) = c > 0`
    then the radicand is non-negative (the clamp is inactive), the stable root lies in `[0, w]` and is an exact root -/
theorem qroot_exact {b c cc w : ℝ} (hw : 0 < w) (hc : 0 < c) (h0 : cc ≤ 0) (h1 : 0 ≤ b*w^2 + c*w + cc) :
    0 ≤ c*c - 4*b*cc ∧ 0 ≤ qroot b c cc ∧ qroot b c cc ≤ w ∧ b * (qroot b c cc)^2 + c * qroot b c cc + cc = 0 := by
  obtain ⟨hrad, hden, ha0, ha1, hroot⟩ :=
    StableRoot.stable_root (a := b*w^2) (b := c*w) (c := cc) h0 h1 (fun _ => mul_pos hc hw)
  have hfac : (c*w)^2 - 4*(b*w^2)*cc = w^2 * (c*c - 4*b*cc) := by ring
  have hrad' : 0 ≤ c*c - 4*b*cc := by
    rw [hfac] at hrad
    exact nonneg_of_mul_nonneg_right hrad (by positivity)
  have hsq : Real.sqrt ((c*w)^2 - 4*(b*w^2)*cc) = w * Real.sqrt (c*c - 4*b*cc) := by
    rw [hfac, Real.sqrt_mul (by positivity), Real.sqrt_sq hw.le]
  have hq : qroot b c cc = w * (2*cc / (-(c*w) - Real.sqrt ((c*w)^2 - 4*(b*w^2)*cc))) := by
    unfold qroot
    rw [max_eq_left hrad', hsq,
      show -(c*w) - w * Real.sqrt (c*c - 4*b*cc) = w * (-c - Real.sqrt (c*c - 4*b*cc)) by ring,
      ← mul_div_assoc, mul_div_mul_left _ _ hw.ne']
  set θ := 2*cc / (-(c*w) - Real.sqrt ((c*w)^2 - 4*(b*w^2)*cc))
  refine ⟨hrad', ?_, ?_, ?_⟩
  · rw [hq]; exact mul_nonneg hw.le ha0
  · rw [hq]; exact mul_le_of_le_one_right hw.le ha1
  · rw [hq]; linear_combination hroot


/- Idea of `qroot_approx`: with `q` the stable root of the quadratic part `Q(s) = b s² + c s + cc` and `s = min q w` the
   clamped value, `P(s) = a s³ + Q(s)` and `|a s³| ≤ |a| w³`, so it suffices to show `-|a|w³ ≤ P(s)` and `Q(s) ≤ 0`.
   If the radicand is non-negative, `Q(q) = 0` and `Q(s) = (s - q)(b(s + q) + c)` with the second factor `≥ 0`; the lower
   bound is `P(w) ≥ 0` when the clamp is active and `P(q) = a q³` otherwise.  If the radicand is negative, `√· = 0`, `b < 0` and
   `Q < 0` everywhere (upper bound); for the lower bound with `q < w`, `2bq + c < 0` puts `q` beyond the vertex of `Q`, so
   `Q(w) ≤ Q(q)`, and `P(w) ≥ 0` gives `P(q) ≥ a(q³ - w³) ≥ -|a| w³`. -/
/-- **fallback on an almost quadratic bin** (`a ≠ 0` allowed): for the bin cubic `P(s) = a s³ + b s² + c s + cc` with
    `P(0) = cc ≤ 0 ≤ P(w)` and `P'(0) = c > 0`, the stable root of the quadratic part, clamped into `[0, w]`, is an
    APPROXIMATE root of the cubic: the residual is bounded by the dropped term, `|P(s)| ≤ |a|·w³` -/
theorem qroot_approx {a b c cc w : ℝ} (hw : 0 < w) (hc : 0 < c) (h0 : cc ≤ 0)
    (h1 : 0 ≤ a*w^3 + b*w^2 + c*w + cc) :
    |a * (min (max (qroot b c cc) 0) w)^3 + b * (min (max (qroot b c cc) 0) w)^2 + c * (min (max (qroot b c cc) 0) w) + cc|
      ≤ |a| * w^3 := by
  obtain ⟨hq0, hq, hroot⟩ := qroot_facts (b := b) hc h0
  set S := Real.sqrt (max (c*c - 4*b*cc) 0) with hSdef
  have hS0 : 0 ≤ S := Real.sqrt_nonneg _
  have hS2 : S^2 = max (c*c - 4*b*cc) 0 := Real.sq_sqrt (le_max_right _ _)
  have hD : 0 < c + S := add_pos_of_pos_of_nonneg hc hS0
  set q := qroot b c cc
  rw [max_eq_left hq0]
  set s := min q w with hs
  have hsq : s ≤ q := min_le_left _ _
  have hsw : s ≤ w := min_le_right _ _
  have hs0 : 0 ≤ s := le_min hq0 hw.le
  have has : |a * s^3| ≤ |a| * w^3 := by
    rw [abs_mul, abs_of_nonneg (by positivity : 0 ≤ s^3)]
    exact mul_le_mul_of_nonneg_left (pow_le_pow_left₀ hs0 hsw 3) (abs_nonneg a)
  have has' := abs_le.mp has
  have haw : 0 ≤ |a| * w^3 := by positivity
  rw [abs_le]
  by_cases hrad : 0 ≤ c*c - 4*b*cc
  · rw [max_eq_left hrad] at hS2
    have hQq : b*q^2 + c*q + cc = 0 := hroot hrad
    have h2bq : 2*b*q + c = S := by
      have : (2*b*q + c - S) * (c+S) = 0 := by linear_combination 2*b*hq - hS2
      exact sub_eq_zero.mp ((mul_eq_zero.mp this).resolve_right hD.ne')
    have hQs : b*s^2 + c*s + cc ≤ 0 := by
      have e1 : b*s^2 + c*s + cc = (s - q) * (b*(s+q) + c) := by linear_combination hQq
      rw [e1]
      apply mul_nonpos_of_nonpos_of_nonneg (sub_nonpos.mpr hsq)
      by_cases hb : 0 ≤ b
      · exact add_nonneg (mul_nonneg hb (add_nonneg hs0 hq0)) hc.le
      · have hb' : b < 0 := lt_of_not_ge hb
        have : b*(s+q) + c = S + b*(s - q) := by linear_combination h2bq
        rw [this]
        exact add_nonneg hS0 (mul_nonneg_of_nonpos_of_nonpos hb'.le (sub_nonpos.mpr hsq))
    constructor
    · rcases le_or_gt w q with hwq | hqw
      · rw [show s = w from min_eq_right hwq]; exact (neg_nonpos.mpr haw).trans h1
      · have : s = q := min_eq_left hqw.le
        rw [this] at has' ⊢
        linarith only [has'.1, hQq]
    · linarith only [has'.2, hQs]
  · have hrad' : c*c - 4*b*cc < 0 := lt_of_not_ge hrad
    rw [max_eq_right hrad'.le] at hS2
    have hSz : S = 0 := (pow_eq_zero_iff (by norm_num : (2:ℕ) ≠ 0)).mp hS2
    rw [hSz, add_zero] at hq
    have hb : b < 0 := by
      by_contra hb
      have hb' : 0 ≤ b := not_lt.mp hb
      have := mul_nonneg hb' (neg_nonneg.mpr h0)
      linarith only [this, hrad', mul_pos hc hc]
    have hQneg : ∀ u : ℝ, b*u^2 + c*u + cc < 0 := by
      intro u
      have e : 4*b*(b*u^2 + c*u + cc) = (2*b*u + c)^2 - (c*c - 4*b*cc) := by ring
      by_contra hcon
      have hcon' : 0 ≤ b*u^2 + c*u + cc := not_lt.mp hcon
      have := mul_nonneg_of_nonpos_of_nonpos (by linarith only [hb] : 4*b ≤ 0) (neg_nonpos.mpr hcon')
      linarith only [this, e, hrad', sq_nonneg (2*b*u + c)]
    constructor
    · rcases le_or_gt w q with hwq | hqw
      · rw [show s = w from min_eq_right hwq]; exact (neg_nonpos.mpr haw).trans h1
      · have hsq' : s = q := min_eq_left hqw.le
        rw [hsq']
        have h2 : 2*b*q + c < 0 := by
          have e2 : (2*b*q + c) * c = c*c - 4*b*cc := by linear_combination 2*b*hq
          by_contra hcon
          linarith only [mul_nonneg (not_lt.mp hcon) hc.le, e2, hrad']
        have hQ : b*w^2 + c*w + cc ≤ b*q^2 + c*q + cc := by
          have e1 : (b*q^2 + c*q + cc) - (b*w^2 + c*w + cc) = (q - w) * (b*(q+w) + c) := by ring
          have : 0 ≤ (q - w) * (b*(q+w) + c) := by
            apply mul_nonneg_of_nonpos_of_nonpos (sub_nonpos.mpr hqw.le)
            linarith only [mul_neg_of_neg_of_pos hb (sub_pos.mpr hqw), h2]
          linarith only [e1, this]
        have hq3 : q^3 ≤ w^3 := pow_le_pow_left₀ hq0 hqw.le 3
        have hq30 : 0 ≤ q^3 := by positivity
        have hbound : a * (w^3 - q^3) ≤ |a| * w^3 := by
          calc a * (w^3 - q^3) ≤ |a| * (w^3 - q^3) := mul_le_mul_of_nonneg_right (le_abs_self a) (sub_nonneg.mpr hq3)
            _ ≤ |a| * w^3 := mul_le_mul_of_nonneg_left (sub_le_self _ hq30) (abs_nonneg a)
        linarith only [hQ, h1, hbound]
    · linarith only [hQneg s, has'.2]

/-- … and the approximation is genuinely inexact: with `a ≠ 0`, a level strictly inside the bin (`P(0) < 0 < P(w)`) and a
    non-negative radicand, the clamped stable quadratic root is NOT a root of the cubic -/
theorem qroot_inexact {a b c cc w : ℝ} (hc : 0 < c) (h0 : cc < 0)
    (h1 : 0 < a*w^3 + b*w^2 + c*w + cc) (ha : a ≠ 0) (hrad : 0 ≤ c*c - 4*b*cc) :
    a * (min (max (qroot b c cc) 0) w)^3 + b * (min (max (qroot b c cc) 0) w)^2 + c * (min (max (qroot b c cc) 0) w) + cc ≠ 0 := by
  obtain ⟨_, hq, hroot⟩ := qroot_facts (b := b) hc h0.le
  have hD : 0 < c + Real.sqrt (max (c*c - 4*b*cc) 0) := by linarith [Real.sqrt_nonneg (max (c*c - 4*b*cc) 0)]
  have hq0 : 0 < qroot b c cc := (mul_pos_iff_of_pos_right hD).mp (by rw [hq]; linarith)
  have hQq := hroot hrad
  set q := qroot b c cc
  rw [max_eq_left hq0.le]
  rcases le_or_gt w q with hwq | hqw
  · rw [min_eq_right hwq]; exact h1.ne'
  · rw [min_eq_left hqw.le]
    have : a*q^3 + b*q^2 + c*q + cc = a*q^3 := by linear_combination hQq
    rw [this]
    exact mul_ne_zero ha (pow_pos hq0 3).ne'
end
end CubicRoots
