import NflowsModel.Core.LinearFamily
import NflowsModel.Real.LinearBridge
import NflowsModel.Lemmas.MatrixCLM
import NflowsModel.Lemmas.RowMajor
import Mathlib.LinearAlgebra.Matrix.Block
import Mathlib.Tactic

/-!
# Lemmas/LogdetExecConv — value, Jacobian and log-det of the EXECUTED `OneByOneConvolution` (C01, the `H·W` factor; C02)

About the terms the driver runs (`NF.LF.convForward`, `convInverse`, `convLogabsdet` of `Core/LinearFamily`) at
`DualSound.realOps`.  `OneByOneConvolution` (conv.py) permutes the channels of an NCHW tensor, applies one `LULinear` to
the channel vector of every pixel and returns `H·W · logabsdet()` per batch item.  The item map is
`x ↦ convJac *ᵥ x + bias` with `convJac = blockDiagonal (fun _ => A * P_σ)` over `channel × pixel` (this fixes the side on
which the permutation matrix stands), so `log |det| = card(pixels) · log |det A|`: that is the returned entry
(`conv_logdet_is_log_abs_det_fderiv`).  The entry form of the executed output comes from the index arithmetic of the flat
NCHW layout; the round trip from `idxOf` being `σ⁻¹`.

Forced hypothesis `p.bias.length = p.n`: `addV` is a `zipWith`, so with an empty bias every executed row is empty
(`convForward_entry_needs_bias`; the library always allocates a bias of length `n`).  The returned log-dets do not depend on
`perm`; they are those of the executed map only when `perm` is a permutation list, which `RandomPermutation` constructs.
-/

open NF.LF DualSound Matrix LinearBridge

namespace LogdetExec

/-! ## 1. the log-det vector of the executed `OneByOneConvolution` -/

theorem sum_replicate (n : ℕ) (v : ℝ) : NF.LF.sum realOps (List.replicate n v) = (n : ℝ) * v := by
  rw [LFTriSolve.sum_real, List.sum_replicate, nsmul_eq_mul]

theorem convLogabsdet_length {α : Type} (o : Ops α) (p : LUParams α) (B H W : ℕ) (sign : α → α) :
    (convLogabsdet o p B H W sign).length = B := by
  simp [convLogabsdet]

theorem convLogabsdet_entry (p : LUParams ℝ) (B H W b : ℕ) (hb : b < B) :
    (convLogabsdet realOps p B H W id)[b]? = some (((H * W : ℕ) : ℝ) * luLogabsdet realOps p) := by
  simp [convLogabsdet, hb, sum_replicate]

theorem convLogabsdet_neg_entry (p : LUParams ℝ) (B H W b : ℕ) (hb : b < B) :
    (convLogabsdet realOps p B H W realOps.neg)[b]? = some (-(((H * W : ℕ) : ℝ) * luLogabsdet realOps p)) := by
  have hneg : ∀ a : ℝ, realOps.neg a = -a := fun _ => rfl
  simp [convLogabsdet, hb, sum_replicate, hneg]

theorem convForward_snd {α : Type} (o : Ops α) (p : LUParams α) (perm : List ℕ) (B H W : ℕ) (xs : List α) :
    (convForward o p perm B H W xs).2 = convLogabsdet o p B H W id := rfl

theorem convInverse_snd {α : Type} (o : Ops α) (p : LUParams α) (perm : List ℕ) (B H W : ℕ) (xs : List α) :
    (convInverse o p perm B H W xs).2 = convLogabsdet o p B H W o.neg := rfl


/-! ## 2. `(H·W) · log |det W|` is `log |det J|` of the block Jacobian -/

section det
variable {n : ℕ}

/-- the matrix of "permute the channels by `σ` (`y c = x (σ c)`), then apply `A` to the channel vector of every pixel",
    in (channel, pixel) coordinates; `ι` is the type of pixels -/
noncomputable def convJac (A : Matrix (Fin n) (Fin n) ℝ) (σ : Equiv.Perm (Fin n)) (ι : Type) [DecidableEq ι] :
    Matrix (Fin n × ι) (Fin n × ι) ℝ :=
  Matrix.blockDiagonal (fun _ : ι => A * σ.permMatrix ℝ)

theorem abs_det_convJac (A : Matrix (Fin n) (Fin n) ℝ) (σ : Equiv.Perm (Fin n)) (ι : Type) [Fintype ι] [DecidableEq ι] :
    |(convJac A σ ι).det| = |A.det| ^ Fintype.card ι := by
  unfold convJac
  rw [Matrix.det_blockDiagonal, Finset.prod_const, Finset.card_univ, abs_pow, Matrix.det_mul, abs_mul,
    MatrixCLM.abs_det_permMatrix, mul_one]

theorem log_abs_det_convJac (A : Matrix (Fin n) (Fin n) ℝ) (σ : Equiv.Perm (Fin n)) (ι : Type) [Fintype ι] [DecidableEq ι] :
    Real.log |(convJac A σ ι).det| = (Fintype.card ι : ℝ) * Real.log |A.det| := by
  rw [abs_det_convJac, Real.log_pow]

def convItemMap (A : Matrix (Fin n) (Fin n) ℝ) (bias : Fin n → ℝ) (σ : Equiv.Perm (Fin n)) (ι : Type) :
    (Fin n × ι → ℝ) → (Fin n × ι → ℝ) :=
  fun x q => (A *ᵥ (fun c' => x (σ c', q.2)) + bias) q.1

theorem convItemMap_eq (A : Matrix (Fin n) (Fin n) ℝ) (bias : Fin n → ℝ) (σ : Equiv.Perm (Fin n)) (ι : Type)
    [Fintype ι] [DecidableEq ι] (x : Fin n × ι → ℝ) :
    convItemMap A bias σ ι x = convJac A σ ι *ᵥ x + fun q => bias q.1 := by
  funext ⟨c, q⟩
  have h1 : (convJac A σ ι *ᵥ x) (c, q) = ((A * σ.permMatrix ℝ) *ᵥ fun c' => x (c', q)) c := by
    simp only [convJac, Matrix.mulVec, dotProduct, Fintype.sum_prod_type, Matrix.blockDiagonal_apply]
    apply Finset.sum_congr rfl
    intro c' _
    simp [Finset.sum_ite_eq]
  simp only [convItemMap, Pi.add_apply, h1, ← Matrix.mulVec_mulVec, Matrix.permMatrix_mulVec]
  rfl

theorem convItemMap_hasFDerivAt (A : Matrix (Fin n) (Fin n) ℝ) (bias : Fin n → ℝ) (σ : Equiv.Perm (Fin n)) (ι : Type)
    [Fintype ι] [DecidableEq ι] (x : Fin n × ι → ℝ) :
    HasFDerivAt (convItemMap A bias σ ι) (MatrixCLM.ofMat (convJac A σ ι)) x :=
  MatrixCLM.hasFDerivAt_of_eq _ (fun q : Fin n × ι => bias q.1)
    (fun v => by rw [MatrixCLM.ofMat_apply]; exact convItemMap_eq A bias σ ι v) x

end det

/-- **C01 for the executed `OneByOneConvolution`**: every entry of the returned log-abs-det vector is `log |det J|`,
    `J` the block matrix of the per-item map over the `H × W` pixels -/
theorem conv_logdet_is_log_abs_det (p : LUParams ℝ) (hlen : p.udiag.length = p.n) (heps : 0 ≤ p.eps)
    (σ : Equiv.Perm (Fin p.n)) (perm : List ℕ) (B H W : ℕ) (xs : List ℝ) (b : ℕ) (hb : b < B) :
    (convForward realOps p perm B H W xs).2[b]? = some (Real.log |(convJac (luW p) σ (Fin H × Fin W)).det|) := by
  rw [convForward_snd, convLogabsdet_entry p B H W b hb, luLogabsdet_executed p hlen heps, log_abs_det_convJac,
    Fintype.card_prod, Fintype.card_fin, Fintype.card_fin]

/-! ## 3. the executed forward map, entry by entry -/

theorem nchw_decode (C H W b c h w : ℕ) (hc : c < C) (hh : h < H) (hw : w < W) :
    nchw C H W b c h w % W = w ∧ (nchw C H W b c h w / W) % H = h ∧
    (nchw C H W b c h w / (W * H)) % C = c ∧ nchw C H W b c h w / (W * H * C) = b := by
  unfold nchw
  have d1 := RowMajor.div ((b * C + c) * H + h) hw
  have d2 := RowMajor.div (b * C + c) hh
  refine ⟨RowMajor.mod _ hw, ?_, ?_, ?_⟩
  · rw [d1, RowMajor.mod _ hh]
  · rw [← Nat.div_div_eq_div_mul, d1, d2, RowMajor.mod _ hc]
  · rw [← Nat.div_div_eq_div_mul, ← Nat.div_div_eq_div_mul, d1, d2, RowMajor.div _ hc]

theorem nchw_lt (B C H W b c h w : ℕ) (hb : b < B) (hc : c < C) (hh : h < H) (hw : w < W) :
    nchw C H W b c h w < B * C * H * W :=
  RowMajor.lt3 (RowMajor.lt2 hb hc) hh hw

theorem row_decode (H W b h w : ℕ) (hh : h < H) (hw : w < W) :
    ((b * H + h) * W + w) % W = w ∧ (((b * H + h) * W + w) / W) % H = h ∧ ((b * H + h) * W + w) / (W * H) = b := by
  have d1 := RowMajor.div (b * H + h) hw
  refine ⟨RowMajor.mod _ hw, ?_, ?_⟩
  · rw [d1, RowMajor.mod _ hh]
  · rw [← Nat.div_div_eq_div_mul, d1, RowMajor.div _ hh]


section lists
variable {α : Type} (o : Ops α)

theorem permuteChannels_length (B C H W : ℕ) (perm : List ℕ) (xs : List α) :
    (permuteChannels o B C H W perm xs).length = B * C * H * W := by simp [permuteChannels]

theorem convUnrows_length (B C H W : ℕ) (rows : List (List α)) :
    (convUnrows o B C H W rows).length = B * C * H * W := by simp [convUnrows]

theorem convRows_length (B C H W : ℕ) (xs : List α) : (convRows o B C H W xs).length = B * H * W := by
  simp [convRows]

theorem permuteChannels_getD (B C H W : ℕ) (perm : List ℕ) (xs : List α) (b c h w : ℕ)
    (hb : b < B) (hc : c < C) (hh : h < H) (hw : w < W) :
    (permuteChannels o B C H W perm xs).getD (nchw C H W b c h w) (zero o)
      = xs.getD (nchw C H W b (perm.getD c 0) h w) (zero o) := by
  obtain ⟨e1, e2, e3, e4⟩ := nchw_decode C H W b c h w hc hh hw
  have hlt := nchw_lt B C H W b c h w hb hc hh hw
  unfold permuteChannels
  rw [List.getD_eq_getElem?_getD, List.getElem?_map, List.getElem?_range hlt]
  simp only [Option.map_some, Option.getD_some, e1, e2, e3, e4]

theorem convUnrows_getD (B C H W : ℕ) (rows : List (List α)) (b c h w : ℕ)
    (hb : b < B) (hc : c < C) (hh : h < H) (hw : w < W) :
    (convUnrows o B C H W rows).getD (nchw C H W b c h w) (zero o)
      = (rows.getD ((b * H + h) * W + w) []).getD c (zero o) := by
  obtain ⟨e1, e2, e3, e4⟩ := nchw_decode C H W b c h w hc hh hw
  have hlt := nchw_lt B C H W b c h w hb hc hh hw
  unfold convUnrows
  rw [List.getD_eq_getElem?_getD, List.getElem?_map, List.getElem?_range hlt]
  simp only [Option.map_some, Option.getD_some, e1, e2, e3, e4]

theorem convRows_getElem? (B C H W : ℕ) (ys : List α) (b h w : ℕ) (hb : b < B) (hh : h < H) (hw : w < W) :
    (convRows o B C H W ys)[(b * H + h) * W + w]?
      = some ((List.range C).map (fun c => ys.getD (nchw C H W b c h w) (zero o))) := by
  obtain ⟨e1, e2, e3⟩ := row_decode H W b h w hh hw
  have hlt := RowMajor.lt3 hb hh hw
  unfold convRows
  rw [List.getElem?_map, List.getElem?_range hlt]
  simp only [Option.map_some, e1, e2, e3]

end lists


/-- the channel-permutation list of `σ` (as `FlowWholeND.permList`) -/
def permList {n : ℕ} (σ : Equiv.Perm (Fin n)) : List ℕ := List.ofFn fun k => (σ k : ℕ)

theorem permList_length {n : ℕ} (σ : Equiv.Perm (Fin n)) : (permList σ).length = n := by simp [permList]

theorem permList_getD {n : ℕ} (σ : Equiv.Perm (Fin n)) (c : Fin n) : (permList σ).getD c 0 = (σ c : ℕ) := by
  simp [permList, List.getD_eq_getElem?_getD]

theorem permuteChannels_entry (C : ℕ) (τ : Fin C → Fin C) (perm : List ℕ) (hperm : ∀ c : Fin C, perm.getD c 0 = (τ c : ℕ))
    (B H W : ℕ) (x : Fin B → Fin C → Fin H → Fin W → ℝ) (xs : List ℝ)
    (hx : ∀ (b : Fin B) (c : Fin C) (h : Fin H) (w : Fin W), xs.getD (nchw C H W b c h w) 0 = x b c h w)
    (b : Fin B) (c : Fin C) (h : Fin H) (w : Fin W) :
    (permuteChannels realOps B C H W perm xs).getD (nchw C H W b c h w) 0 = x b (τ c) h w := by
  have h0 := permuteChannels_getD realOps B C H W perm xs b c h w b.2 c.2 h.2 w.2
  rw [LFIndex.zero_real] at h0
  rw [h0, hperm c]
  exact hx b (τ c) h w

/-- rows of the executed `permute(0, 2, 3, 1).reshape(-1, c)` -/
theorem convRows_row (C B H W : ℕ) (y : Fin B → Fin C → Fin H → Fin W → ℝ) (ys : List ℝ)
    (hy : ∀ (b : Fin B) (c : Fin C) (h : Fin H) (w : Fin W), ys.getD (nchw C H W b c h w) 0 = y b c h w)
    (b : Fin B) (h : Fin H) (w : Fin W) :
    (convRows realOps B C H W ys)[((b : ℕ) * H + h) * W + w]? = some (List.ofFn (fun c : Fin C => y b c h w)) := by
  rw [convRows_getElem? realOps B C H W _ b h w b.2 h.2 w.2]
  congr 1
  apply List.ext_getElem
  · simp
  · intro i h1 h2
    have hi : i < C := by simpa using h1
    rw [List.getElem_map, List.getElem_range, List.getElem_ofFn, LFIndex.zero_real]
    exact hy b ⟨i, hi⟩ h w

theorem conv_row (C : ℕ) (σ : Equiv.Perm (Fin C)) (B H W : ℕ) (x : Fin B → Fin C → Fin H → Fin W → ℝ) (xs : List ℝ)
    (hx : ∀ (b : Fin B) (c : Fin C) (h : Fin H) (w : Fin W), xs.getD (nchw C H W b c h w) 0 = x b c h w) (b : Fin B) (h : Fin H) (w : Fin W) :
    (convRows realOps B C H W (permuteChannels realOps B C H W (permList σ) xs))[((b : ℕ) * H + h) * W + w]?
      = some (List.ofFn (fun c : Fin C => x b (σ c) h w)) :=
  convRows_row C B H W (fun b c h w => x b (σ c) h w) _
    (permuteChannels_entry C σ (permList σ) (permList_getD σ) B H W x xs hx) b h w

/-- **the executed forward map IS, pixel by pixel, `x ↦ W (x ∘ σ) + bias` on the channel vector** -/
theorem convForward_entry (p : LUParams ℝ) (hbias : p.bias.length = p.n) (σ : Equiv.Perm (Fin p.n)) (B H W : ℕ)
    (x : Fin B → Fin p.n → Fin H → Fin W → ℝ) (xs : List ℝ)
    (hx : ∀ (b : Fin B) (c : Fin p.n) (h : Fin H) (w : Fin W), xs.getD (nchw p.n H W b c h w) 0 = x b c h w)
    (b : Fin B) (c : Fin p.n) (h : Fin H) (w : Fin W) :
    (convForward realOps p (permList σ) B H W xs).1.getD (nchw p.n H W b c h w) 0
      = (luW p *ᵥ (fun c' => x b (σ c') h w) + vecFn p.n p.bias) c := by
  have h0 := convUnrows_getD realOps B p.n H W
    (luForward realOps p (convRows realOps B p.n H W (permuteChannels realOps B p.n H W (permList σ) xs)))
    b c h w b.2 c.2 h.2 w.2
  rw [LFIndex.zero_real] at h0
  show (convUnrows realOps B p.n H W _).getD _ 0 = _
  rw [h0, luForward_eq_map]
  simp only [List.getD_eq_getElem?_getD]
  rw [List.getElem?_map, conv_row p.n σ B H W x xs hx b h w,
    Option.map_some, Option.getD_some, luRow_executed p hbias, List.getElem?_ofFn]
  simp


/-! ## 4. round trip (C02) -/

/-- the inverse permutation that `convInverse` builds with `idxOf` (the library: `torch.argsort`, permutations.py:22-24) is `σ⁻¹` -/
theorem invperm_getD {n : ℕ} (σ : Equiv.Perm (Fin n)) (c : Fin n) :
    ((List.range n).map (fun c => (permList σ).idxOf c)).getD c 0 = (σ.symm c : ℕ) := by
  have hnd : (permList σ).Nodup := List.nodup_ofFn.2 (fun a b h => σ.injective (Fin.ext h))
  have hl : ((σ.symm c : Fin n) : ℕ) < (permList σ).length := by rw [permList_length]; exact (σ.symm c).2
  have hget : (permList σ)[((σ.symm c : Fin n) : ℕ)] = (c : ℕ) := by simp [permList]
  have h := hnd.idxOf_getElem _ hl
  rw [hget] at h
  simp [List.getD_eq_getElem?_getD, h]

/-- **C02 for the executed `OneByOneConvolution`**: `inverse (forward xs).1` returns the input, entry by entry -/
theorem conv_roundtrip_entry (p : LUParams ℝ) (hlen : p.udiag.length = p.n) (heps : 0 ≤ p.eps) (hbias : p.bias.length = p.n)
    (σ : Equiv.Perm (Fin p.n)) (B H W : ℕ) (x : Fin B → Fin p.n → Fin H → Fin W → ℝ) (xs : List ℝ)
    (hx : ∀ (b : Fin B) (c : Fin p.n) (h : Fin H) (w : Fin W), xs.getD (nchw p.n H W b c h w) 0 = x b c h w)
    (b : Fin B) (c : Fin p.n) (h : Fin H) (w : Fin W) :
    (convInverse realOps p (permList σ) B H W (convForward realOps p (permList σ) B H W xs).1).1.getD
      (nchw p.n H W b c h w) 0 = x b c h w := by
  set ys := (convForward realOps p (permList σ) B H W xs).1 with hys
  have hy := convForward_entry p hbias σ B H W x xs hx
  rw [← hys] at hy
  -- the rows handed to `LULinear.inverse`, and what it returns
  set out := convUnrows realOps B p.n H W (luInverse realOps p (convRows realOps B p.n H W ys)) with hout
  have hout_entry : ∀ (b : Fin B) (c : Fin p.n) (h : Fin H) (w : Fin W),
      out.getD (nchw p.n H W b c h w) 0 = x b (σ c) h w := by
    intro b c h w
    have h0 := convUnrows_getD realOps B p.n H W (luInverse realOps p (convRows realOps B p.n H W ys))
      b c h w b.2 c.2 h.2 w.2
    rw [LFIndex.zero_real] at h0
    rw [hout, h0, luInverse_eq_map]
    simp only [List.getD_eq_getElem?_getD]
    rw [List.getElem?_map, convRows_row p.n B H W _ ys hy b h w, Option.map_some, Option.getD_some]
    have hrow : (List.ofFn fun c : Fin p.n => (luW p *ᵥ (fun c' => x b (σ c') h w) + vecFn p.n p.bias) c)
        = List.ofFn (luW p *ᵥ (fun c' => x b (σ c') h w) + vecFn p.n p.bias) := rfl
    rw [hrow, (lu_denotes p hlen heps hbias).invRow_row, List.getElem?_ofFn]
    simp
  show (permuteChannels realOps B p.n H W _ out).getD _ 0 = _
  rw [permuteChannels_entry p.n (fun c => σ.symm c) _ (invperm_getD σ) B H W (fun b c h w => x b (σ c) h w) out
    hout_entry b c h w]
  simp

theorem nchw_surj (B C H W k : ℕ) (hk : k < B * C * H * W) :
    ∃ (b : Fin B) (c : Fin C) (h : Fin H) (w : Fin W), k = nchw C H W b c h w := by
  obtain ⟨hBC, hH, hW⟩ := RowMajor.pos3 hk
  have hC : 0 < C := Nat.pos_of_mul_pos_left hBC
  have hb : k / (W * H * C) < B := (Nat.div_lt_iff_lt_mul (Nat.mul_pos (Nat.mul_pos hW hH) hC)).2 (by
    calc k < B * C * H * W := hk
      _ = B * (W * H * C) := by ring)
  exact ⟨⟨_, hb⟩, ⟨_, Nat.mod_lt _ hC⟩, ⟨_, Nat.mod_lt _ hH⟩, ⟨_, Nat.mod_lt _ hW⟩, (RowMajor.recon4 k C H W).symm⟩

theorem convForward_fst_length {α : Type} (o : Ops α) (p : LUParams α) (perm : List ℕ) (B H W : ℕ) (xs : List α) :
    (convForward o p perm B H W xs).1.length = B * p.n * H * W := convUnrows_length o _ _ _ _ _

theorem convInverse_fst_length {α : Type} (o : Ops α) (p : LUParams α) (perm : List ℕ) (B H W : ℕ) (xs : List α) :
    (convInverse o p perm B H W xs).1.length = B * p.n * H * W := permuteChannels_length o _ _ _ _ _ _

/-- **C02, whole tensor**: on an input of the right size, `inverse (forward xs).1 = xs` as lists -/
theorem conv_roundtrip (p : LUParams ℝ) (hlen : p.udiag.length = p.n) (heps : 0 ≤ p.eps) (hbias : p.bias.length = p.n)
    (σ : Equiv.Perm (Fin p.n)) (B H W : ℕ) (xs : List ℝ) (hxs : xs.length = B * p.n * H * W) :
    (convInverse realOps p (permList σ) B H W (convForward realOps p (permList σ) B H W xs).1).1 = xs := by
  apply List.ext_getElem
  · rw [convInverse_fst_length, hxs]
  · intro k h1 h2
    obtain ⟨b, c, h, w, rfl⟩ := nchw_surj B p.n H W k (hxs ▸ h2)
    have h := conv_roundtrip_entry p hlen heps hbias σ B H W (fun b c h w => xs.getD (nchw p.n H W b c h w) 0) xs
      (fun _ _ _ _ => rfl) b c h w
    simp only [List.getD_eq_getElem?_getD] at h
    rw [List.getElem?_eq_getElem h1, List.getElem?_eq_getElem h2] at h
    simpa using h

/-! ## 5. headline: value, derivative and log-det of the executed layer together -/

/-- C02 for the log-dets: the entries returned by `inverse` are the negatives of those returned by `forward` -/
theorem conv_logdet_inverse_neg (p : LUParams ℝ) (perm perm' : List ℕ) (B H W : ℕ) (xs ys : List ℝ) (b : ℕ) (hb : b < B) :
    ∃ v : ℝ, (convForward realOps p perm B H W xs).2[b]? = some v ∧
      (convInverse realOps p perm' B H W ys).2[b]? = some (-v) :=
  ⟨_, by rw [convForward_snd]; exact convLogabsdet_entry p B H W b hb,
    by rw [convInverse_snd]; exact convLogabsdet_neg_entry p B H W b hb⟩

theorem convJac_det_ne_zero (p : LUParams ℝ) (hlen : p.udiag.length = p.n) (heps : 0 ≤ p.eps) (σ : Equiv.Perm (Fin p.n))
    (ι : Type) [Fintype ι] [DecidableEq ι] : (convJac (luW p) σ ι).det ≠ 0 := by
  rw [← abs_pos, abs_det_convJac]
  exact pow_pos (abs_pos.2 (luW_det_ne_zero p hlen heps)) _

def itemOf (C H W : ℕ) (xs : List ℝ) (b : ℕ) : Fin C × (Fin H × Fin W) → ℝ :=
  fun q => xs.getD (nchw C H W b q.1 q.2.1 q.2.2) 0

/-- **the executed forward pass on batch item `b` IS `convItemMap`** (no hypothesis on `xs`: out-of-range reads are the
    zero default of the model) -/
theorem convForward_item (p : LUParams ℝ) (hbias : p.bias.length = p.n) (σ : Equiv.Perm (Fin p.n)) (B H W : ℕ) (xs : List ℝ)
    (b : Fin B) :
    itemOf p.n H W (convForward realOps p (permList σ) B H W xs).1 b
      = convItemMap (luW p) (vecFn p.n p.bias) σ (Fin H × Fin W) (itemOf p.n H W xs b) := by
  funext ⟨c, h, w⟩
  exact convForward_entry p hbias σ B H W (fun b c h w => xs.getD (nchw p.n H W b c h w) 0) xs (fun _ _ _ _ => rfl) b c h w

/-- **C01 for the executed `OneByOneConvolution`**: the map computed on every batch item is `convItemMap`, it is
    differentiable everywhere with one and the same derivative `D` (non-singular), and every entry of the returned
    log-abs-det vector is `log |det D|` -/
theorem conv_logdet_is_log_abs_det_fderiv (p : LUParams ℝ) (hlen : p.udiag.length = p.n) (heps : 0 ≤ p.eps)
    (hbias : p.bias.length = p.n) (σ : Equiv.Perm (Fin p.n)) (B H W : ℕ) (xs : List ℝ) (b : Fin B) :
    ∃ D : (Fin p.n × (Fin H × Fin W) → ℝ) →L[ℝ] (Fin p.n × (Fin H × Fin W) → ℝ),
      itemOf p.n H W (convForward realOps p (permList σ) B H W xs).1 b
        = convItemMap (luW p) (vecFn p.n p.bias) σ (Fin H × Fin W) (itemOf p.n H W xs b) ∧
      (∀ x0, HasFDerivAt (convItemMap (luW p) (vecFn p.n p.bias) σ (Fin H × Fin W)) D x0) ∧
      D.det ≠ 0 ∧
      (convForward realOps p (permList σ) B H W xs).2[(b : ℕ)]? = some (Real.log |D.det|) ∧
      (convForward realOps p (permList σ) B H W xs).2.length = B := by
  refine ⟨_, convForward_item p hbias σ B H W xs b, convItemMap_hasFDerivAt _ _ σ _, ?_, ?_, ?_⟩
  · rw [MatrixCLM.ofMat_det]; exact convJac_det_ne_zero p hlen heps σ _
  · rw [MatrixCLM.ofMat_det]; exact conv_logdet_is_log_abs_det p hlen heps σ _ B H W xs b b.2
  · rw [convForward_snd, convLogabsdet_length]

/-! ## 6. non-vacuity -/

/-- a concrete `LULinear` (the one of `Properties/C11`), the swap of the two channels, `H = 2`, `W = 3`, batch of 2:
    all hypotheses hold, the log-det entry is `6 · logabsdet()` and the round trip returns the input -/
example : ∃ (p : LUParams ℝ) (σ : Equiv.Perm (Fin p.n)), p.n = 2 ∧ p.udiag.length = p.n ∧ 0 ≤ p.eps ∧ p.bias.length = p.n ∧
    σ ≠ 1 ∧
    (∀ xs : List ℝ, (convForward realOps p (permList σ) 2 2 3 xs).2[1]? = some (((2 * 3 : ℕ) : ℝ) * luLogabsdet realOps p)) ∧
    (∀ xs : List ℝ, (convForward realOps p (permList σ) 2 2 3 xs).2[1]?
      = some (Real.log |(convJac (luW p) σ (Fin 2 × Fin 3)).det|)) ∧
    (∀ xs : List ℝ, xs.length = 2 * p.n * 2 * 3 →
      (convInverse realOps p (permList σ) 2 2 3 (convForward realOps p (permList σ) 2 2 3 xs).1).1 = xs) := by
  let p : LUParams ℝ := { n := 2, lower := [3], upper := [5], udiag := [0, 1], bias := [1, -1], eps := 1 / 1000 }
  have heps : (0 : ℝ) ≤ p.eps := by show (0 : ℝ) ≤ 1 / 1000; norm_num
  refine ⟨p, Equiv.swap (0 : Fin 2) 1, rfl, rfl, heps, rfl, ?_, ?_, ?_, ?_⟩
  · intro h
    have := congrArg (fun e : Equiv.Perm (Fin 2) => e 0) h
    simp at this
  · intro xs; rw [convForward_snd]; exact convLogabsdet_entry p 2 2 3 1 (by norm_num)
  · intro xs; exact conv_logdet_is_log_abs_det p rfl heps _ _ 2 2 3 xs 1 (by norm_num)
  · intro xs hxs; exact conv_roundtrip p rfl heps rfl _ 2 2 3 xs hxs


/-! ## 7. the bias-length hypothesis is forced -/

/-- with an EMPTY bias list (`zipWith` stops at the shorter argument) every executed output row is empty, so every
    output entry reads the zero default: the hypothesis `p.bias.length = p.n` of `convForward_entry` cannot be dropped -/
theorem convForward_bias_nil (p : LUParams ℝ) (hb : p.bias = []) (perm : List ℕ) (B H W : ℕ) (xs : List ℝ) (k : ℕ) :
    (convForward realOps p perm B H W xs).1.getD k 0 = 0 := by
  have hrow : ∀ x, luRow realOps p x = [] := fun x => by simp [luRow, addV, hb]
  show (convUnrows realOps B p.n H W _).getD k 0 = 0
  rw [luForward_eq_map]
  unfold convUnrows
  rw [List.getD_eq_getElem?_getD, List.getElem?_map]
  cases hk : (List.range (B * p.n * H * W))[k]? with
  | none => simp
  | some j =>
    simp only [Option.map_some, Option.getD_some]
    rw [List.getD_eq_getElem?_getD (l := List.map _ _), List.getElem?_map]
    cases (convRows realOps B p.n H W (permuteChannels realOps B p.n H W perm xs))[(j / (W * H * p.n) * H + j / W % H) * W + j % W]? with
    | none => simp
    | some r => simp [hrow]

abbrev pNoBias : LUParams ℝ := { n := 1, lower := [], upper := [], udiag := [0], bias := [], eps := 0 }

/-- **counterexample** to `convForward_entry` without `p.bias.length = p.n`: one pixel, one channel, input `1`; the
    executed output entry is the default `0`, the affine formula gives the (non-zero) weight -/
theorem convForward_entry_needs_bias :
    (convForward realOps pNoBias (permList (1 : Equiv.Perm (Fin 1))) 1 1 1 [1]).1.getD (nchw 1 1 1 0 0 0 0) 0
      ≠ (luW pNoBias *ᵥ (fun _ => (1 : ℝ)) + vecFn 1 pNoBias.bias) 0 := by
  rw [convForward_bias_nil pNoBias rfl]
  have hdet : (luW pNoBias).det ≠ 0 := luW_det_ne_zero pNoBias rfl (le_refl _)
  have h1 : (luW pNoBias).det = luW pNoBias 0 0 := Matrix.det_fin_one _
  rw [h1] at hdet
  have h2 : (luW pNoBias *ᵥ (fun _ => (1 : ℝ)) + vecFn 1 pNoBias.bias) 0 = luW pNoBias 0 0 := by
    simp [Matrix.mulVec, dotProduct, vecFn]
  rw [h2]
  exact fun h => hdet h.symm
end LogdetExec
