import NflowsModel.Core.Norm
import NflowsModel.Real.RealX
import NflowsModel.Lemmas.NormMachine
import NflowsModel.Lemmas.MatrixCLM
import Mathlib.Analysis.Calculus.Deriv.Mul
import Mathlib.Analysis.Calculus.Deriv.Add
import Mathlib.Analysis.SpecialFunctions.Sqrt
import Mathlib.Data.List.GetD
import Mathlib.Algebra.BigOperators.Fin
import Mathlib.Tactic
/-!
# Lemmas/LogdetExecNorm — the log-abs-det RETURNED by the executed ActNorm / BatchNorm is `log |det J|` of the
executed map (C01, with the `H·W` factor of the 4-D ActNorm), and inverse ∘ forward is the identity (C02)

About the list programs of `Core/Norm.lean` (`actApply`, `actUnapply`, `actLogdet`, `bnNormalise`, `bnDenormalise`,
`bnLogdet`) and the machine steps `actStep` / `bnStep`, at `NF.realX e` for every `e`.  Both layers act coordinatewise by
an affine map, so the Jacobian is a diagonal map (`diagCLM`) and `log |det|` is the sum of the log-slopes; rows
`Fin F → ℝ` and images `Fin F × Fin (h*w) → ℝ` are encoded by `List.ofFn`.  For BatchNorm the statistics are arguments held
fixed: the running ones of evaluation mode.  With the batch statistics of training mode put in, the theorems speak of the map
with those statistics frozen, not of the map of the whole batch (whose statistics move with the input).

Forced hypotheses, each with a proved counterexample when dropped:
* `log_scale.length = F` (always true in the library, where the parameter has shape `[features]`; the model's state is
  an unconstrained list): with a longer list the returned value sums entries the map never uses —
  `actLogdet_length_hypothesis_forced`.
* BatchNorm `0 < var_j + eps`: at `var_j + eps = 0` the executed slope is `w / sqrt 0 = 0` over ℝ (torch: `inf`)
  and `log |slope| ≠ log w - ½ log 0` — `log_abs_slope_fails_at_zero`.
* BatchNorm `weight_j ≠ 0` (`bnWeight_pos`: automatic when `0 ≤ eps`).  Over ℝ the sign of the weight is immaterial
  because `Real.log` is even; torch returns NaN for a negative weight (possible only with `eps < 0`).
-/
open NF NF.Norm

namespace LogdetExec

noncomputable section

/-! ## 0. Diagonal maps over a finite index type -/

section Diag
variable {ι : Type} [Fintype ι] [DecidableEq ι]

def diagCLM (c : ι → ℝ) : (ι → ℝ) →L[ℝ] (ι → ℝ) :=
  ContinuousLinearMap.pi fun i => c i • ContinuousLinearMap.proj i

omit [Fintype ι] [DecidableEq ι] in
theorem diagCLM_apply (c : ι → ℝ) (v : ι → ℝ) (i : ι) : diagCLM c v i = c i * v i := by
  simp [diagCLM]

theorem diagCLM_det (c : ι → ℝ) : (diagCLM c).det = ∏ i, c i := by
  rw [diagCLM, MatrixCLM.pi_smul_proj_eq, MatrixCLM.ofMat_det, Matrix.det_diagonal]

theorem log_abs_det_diag_exp (l : ι → ℝ) :
    Real.log |(diagCLM fun i => Real.exp (l i)).det| = ∑ i, l i := by
  rw [diagCLM_det, ← Real.exp_sum, abs_of_pos (Real.exp_pos _), Real.log_exp]

theorem log_abs_det_diag (c : ι → ℝ) (hc : ∀ i, c i ≠ 0) :
    Real.log |(diagCLM c).det| = ∑ i, Real.log |c i| := by
  rw [diagCLM_det, Finset.abs_prod, Real.log_prod]
  intro i _
  exact abs_ne_zero.mpr (hc i)

end Diag

/-! ## 1. Row programs `(List.range F).map fun j => f j (r.getD j d)` and their sums -/

theorem sum_fin_getD (l : List ℝ) (F : ℕ) (h : l.length = F) : ∑ j : Fin F, l.getD j 0 = l.sum := by
  subst h
  rw [← List.sum_ofFn]
  congr 1
  apply List.ext_getElem (by simp)
  intro i h1 h2
  simp [List.getD_eq_getElem?_getD]

theorem sum_map_range (g : ℕ → ℝ) (F : ℕ) : ((List.range F).map g).sum = ∑ j : Fin F, g j := by
  rw [Fin.sum_univ_eq_sum_range (fun j => g j) F, Finset.sum_range, ← List.sum_ofFn]
  congr 1
  apply List.ext_getElem (by simp)
  intro i h1 h2
  simp

theorem map_range_ofFn {n : ℕ} (f : ℕ → ℝ → ℝ) (v : Fin n → ℝ) :
    ((List.range n).map fun j => f j ((List.ofFn v).getD j 0)) = List.ofFn fun j : Fin n => f j (v j) := by
  apply List.ext_getElem (by simp)
  intro j h1 h2
  simp only [List.length_map, List.length_range] at h1
  simp [List.getD_eq_getElem?_getD, h1]

theorem map_range_getD {α : Type} (F : ℕ) (g : ℕ → α → α) (hg : ∀ j, j < F → ∀ x, g j x = x) (d : α) (r : List α)
    (hr : r.length = F) : (List.range F).map (fun j => g j (r.getD j d)) = r := by
  apply List.ext_getElem
  · rw [List.length_map, List.length_range, hr]
  · intro j h1 h2
    have hj : j < F := by rwa [List.length_map, List.length_range] at h1
    rw [List.getElem_map, List.getElem_range, hg j hj, List.getD_eq_getElem _ _ h2]

theorem map_range_roundtrip (F : ℕ) (f fi : ℕ → ℝ → ℝ) (h : ∀ j, j < F → ∀ y, f j (fi j y) = y) (r : List ℝ)
    (hr : r.length = F) :
    (List.range F).map (fun j => f j (((List.range F).map fun k => fi k (r.getD k 0)).getD j 0)) = r :=
  (List.map_congr_left fun j hj => by rw [getD_map_range _ _ (List.mem_range.mp hj)]).trans
    (map_range_getD F (fun j x => f j (fi j x)) h 0 r hr)

variable (e : Float → ℝ)

/-! ## 2. The returned log-abs-det of ActNorm, in closed form -/

theorem actLogdet_d2 (ls : List ℝ) (rows : List (List ℝ)) :
    actLogdet (NF.realX e) ls (.d2 rows) false = List.replicate rows.length ls.sum := by
  simp [actLogdet, Batch.size, sumG_real]

theorem actLogdet_d4 (ls : List ℝ) (h w : ℕ) (imgs : List (List (List ℝ))) :
    actLogdet (NF.realX e) ls (.d4 h w imgs) false = List.replicate imgs.length (((h * w : ℕ) : ℝ) * ls.sum) := by
  simp [actLogdet, Batch.size, sumG_real]

theorem actLogdet_d2_inv (ls : List ℝ) (rows : List (List ℝ)) :
    actLogdet (NF.realX e) ls (.d2 rows) true = List.replicate rows.length (-ls.sum) := by
  simp [actLogdet, Batch.size, sumG_real]

theorem actLogdet_d4_inv (ls : List ℝ) (h w : ℕ) (imgs : List (List (List ℝ))) :
    actLogdet (NF.realX e) ls (.d4 h w imgs) true = List.replicate imgs.length (-(((h * w : ℕ) : ℝ) * ls.sum)) := by
  simp [actLogdet, Batch.size, sumG_real]

theorem actLogdet_inv_eq_neg (ls : List ℝ) (b : Batch ℝ) :
    actLogdet (NF.realX e) ls b true = (actLogdet (NF.realX e) ls b false).map (fun v => -v) := by
  simp only [actLogdet, List.map_replicate, if_true, Bool.false_eq_true, if_false, realX_neg]

theorem actLogdet_d2_getElem? (ls : List ℝ) (rows : List (List ℝ)) {i : ℕ} (hi : i < rows.length) :
    (actLogdet (NF.realX e) ls (.d2 rows) false)[i]? = some ls.sum := by
  rw [actLogdet_d2]; simp [hi]

theorem actLogdet_d4_getElem? (ls : List ℝ) (h w : ℕ) (imgs : List (List (List ℝ))) {i : ℕ} (hi : i < imgs.length) :
    (actLogdet (NF.realX e) ls (.d4 h w imgs) false)[i]? = some (((h * w : ℕ) : ℝ) * ls.sum) := by
  rw [actLogdet_d4]; simp [hi]

theorem actLogdet_length (ls : List ℝ) (b : Batch ℝ) (inv : Bool) :
    (actLogdet (NF.realX e) ls b inv).length = b.size := by
  unfold actLogdet
  exact List.length_replicate

/-! ## 3. The executed forward map of ActNorm, element by element -/

def actEl (ls sh : List ℝ) (j : ℕ) (x : ℝ) : ℝ := Real.exp (ls.getD j 0) * x + sh.getD j 0
def actElInv (ls sh : List ℝ) (j : ℕ) (y : ℝ) : ℝ := (y - sh.getD j 0) / Real.exp (ls.getD j 0)

theorem actApply_eq_mapCh (F : ℕ) (ls sh : List ℝ) (b : Batch ℝ) :
    actApply (NF.realX e) F ls sh b = b.mapCh (NF.realX e) F (actEl ls sh) := by
  simp only [actApply, realX_add, realX_mul, realX_exp, realX_zero]
  rfl

theorem actUnapply_eq_mapCh (F : ℕ) (ls sh : List ℝ) (b : Batch ℝ) :
    actUnapply (NF.realX e) F ls sh b = b.mapCh (NF.realX e) F (actElInv ls sh) := by
  simp only [actUnapply, realX_sub, realX_div, realX_exp, realX_zero]
  rfl

theorem actApply_d2 (F : ℕ) (ls sh : List ℝ) (rows : List (List ℝ)) :
    actApply (NF.realX e) F ls sh (.d2 rows) =
      .d2 (rows.map fun r => (List.range F).map fun j => Real.exp (ls.getD j 0) * r.getD j 0 + sh.getD j 0) := by
  simp only [actApply, Batch.mapCh, realX_add, realX_mul, realX_exp, realX_zero]

theorem actApply_d4 (F : ℕ) (ls sh : List ℝ) (h w : ℕ) (imgs : List (List (List ℝ))) :
    actApply (NF.realX e) F ls sh (.d4 h w imgs) =
      .d4 h w (imgs.map fun img => (List.range F).map fun c =>
        (img.getD c []).map fun x => Real.exp (ls.getD c 0) * x + sh.getD c 0) := by
  simp only [actApply, Batch.mapCh, realX_add, realX_mul, realX_exp, realX_zero]

theorem getD_map_nil {β γ : Type} (g : β → List γ) (l : List β) (i : ℕ) (d : β) :
    (l.map g).getD i [] = if i < l.length then g (l.getD i d) else [] := by
  split_ifs with h
  · rw [List.getD_eq_getElem _ _ (by rwa [List.length_map]), List.getElem_map, List.getD_eq_getElem _ _ h]
  · exact List.getD_eq_default _ _ (by rw [List.length_map]; exact not_lt.mp h)

theorem actApply_d2_entry (F : ℕ) (ls sh : List ℝ) (rows : List (List ℝ)) {i j : ℕ} (hj : j < F) :
    ∃ out, actApply (NF.realX e) F ls sh (.d2 rows) = .d2 out ∧ out.length = rows.length ∧
      (out.getD i []).getD j 0 =
        if i < rows.length then Real.exp (ls.getD j 0) * (rows.getD i []).getD j 0 + sh.getD j 0 else 0 := by
  refine ⟨_, actApply_d2 e F ls sh rows, List.length_map _, ?_⟩
  rw [getD_map_nil _ rows i []]
  by_cases hi : i < rows.length
  · rw [if_pos hi, if_pos hi, getD_map_range _ _ hj]
  · rw [if_neg hi, if_neg hi]
    rfl

theorem actApply_d4_entry (F : ℕ) (ls sh : List ℝ) (h w : ℕ) (imgs : List (List (List ℝ))) {i c p : ℕ}
    (hi : i < imgs.length) (hc : c < F) (hp : p < ((imgs.getD i []).getD c []).length) :
    ∃ out, actApply (NF.realX e) F ls sh (.d4 h w imgs) = .d4 h w out ∧ out.length = imgs.length ∧
      (((out.getD i []).getD c []).getD p 0) =
        Real.exp (ls.getD c 0) * (((imgs.getD i []).getD c []).getD p 0) + sh.getD c 0 := by
  refine ⟨_, actApply_d4 e F ls sh h w imgs, List.length_map _, ?_⟩
  rw [getD_map_nil _ imgs i [], if_pos hi, getD_map_range _ _ hc, List.getD_eq_getElem _ _ (by rwa [List.length_map]),
    List.getElem_map, List.getD_eq_getElem _ _ hp]

/-! ## 4. C01: the returned entry is `log |det J|` of the executed map -/

def encRow {F : ℕ} (x : Fin F → ℝ) : List ℝ := List.ofFn x
def encImg {F P : ℕ} (x : Fin F × Fin P → ℝ) : List (List ℝ) := List.ofFn fun c => List.ofFn fun p => x (c, p)

theorem encRow_getD {F : ℕ} (x : Fin F → ℝ) (j : Fin F) : (encRow x).getD j 0 = x j := by
  simp [encRow, List.getD_eq_getElem?_getD]

theorem encImg_getD {F P : ℕ} (x : Fin F × Fin P → ℝ) (c : Fin F) :
    (encImg x).getD c [] = List.ofFn fun p => x (c, p) := by
  simp [encImg, List.getD_eq_getElem?_getD]

theorem encRow_injective {F : ℕ} : Function.Injective (encRow (F := F)) := List.ofFn_injective

def actRowMap {F : ℕ} (ls sh : List ℝ) (x : Fin F → ℝ) : Fin F → ℝ := fun j => actEl ls sh j (x j)
def actImgMap {F P : ℕ} (ls sh : List ℝ) (x : Fin F × Fin P → ℝ) : Fin F × Fin P → ℝ :=
  fun cp => actEl ls sh cp.1 (x cp)

theorem actEl_hasDerivAt (ls sh : List ℝ) (j : ℕ) (x : ℝ) :
    HasDerivAt (actEl ls sh j) (Real.exp (ls.getD j 0)) x := by
  have h := ((hasDerivAt_id' x).const_mul (Real.exp (ls.getD j 0))).add_const (sh.getD j 0)
  rw [mul_one] at h
  exact h

theorem actApply_d2_enc {F : ℕ} (ls sh : List ℝ) (xs : List (Fin F → ℝ)) :
    actApply (NF.realX e) F ls sh (.d2 (xs.map encRow)) = .d2 (xs.map fun x => encRow (actRowMap ls sh x)) := by
  rw [actApply_d2, List.map_map]
  exact congrArg Batch.d2 (List.map_congr_left fun x _ => map_range_ofFn (actEl ls sh) x)

theorem actApply_d4_enc {F P : ℕ} (ls sh : List ℝ) (h w : ℕ) (xs : List (Fin F × Fin P → ℝ)) :
    actApply (NF.realX e) F ls sh (.d4 h w (xs.map encImg)) =
      .d4 h w (xs.map fun x => encImg (actImgMap ls sh x)) := by
  rw [actApply_d4, List.map_map]
  congr 1
  apply List.map_congr_left
  intro x _
  simp only [Function.comp]
  apply List.ext_getElem (by simp [encImg])
  intro c h1 h2
  simp only [List.length_map, List.length_range] at h1
  have hc := encImg_getD x ⟨c, h1⟩
  simp only at hc
  simp only [List.getElem_map, List.getElem_range, hc]
  simp only [encImg, List.getElem_ofFn, List.map_ofFn]
  rfl

theorem actRowMap_hasFDerivAt {F : ℕ} (ls sh : List ℝ) (x : Fin F → ℝ) :
    HasFDerivAt (actRowMap (F := F) ls sh) (diagCLM fun j : Fin F => Real.exp (ls.getD j 0)) x :=
  MatrixCLM.hasFDerivAt_coordwise fun j => actEl_hasDerivAt ls sh j (x j)

theorem actImgMap_hasFDerivAt {F P : ℕ} (ls sh : List ℝ) (x : Fin F × Fin P → ℝ) :
    HasFDerivAt (actImgMap (F := F) (P := P) ls sh)
      (diagCLM fun cp : Fin F × Fin P => Real.exp (ls.getD cp.1 0)) x :=
  MatrixCLM.hasFDerivAt_coordwise fun cp => actEl_hasDerivAt ls sh cp.1 (x cp)

theorem actRow_log_abs_det {F : ℕ} (ls : List ℝ) (hF : ls.length = F) :
    (diagCLM fun j : Fin F => Real.exp (ls.getD j 0)).det = Real.exp ls.sum ∧
    Real.log |(diagCLM fun j : Fin F => Real.exp (ls.getD j 0)).det| = ls.sum := by
  refine ⟨?_, ?_⟩
  · rw [diagCLM_det, ← Real.exp_sum, sum_fin_getD ls F hF]
  · rw [log_abs_det_diag_exp, sum_fin_getD ls F hF]

theorem actRow_matrix_det {F : ℕ} (ls : List ℝ) (hF : ls.length = F) :
    (Matrix.diagonal fun j : Fin F => Real.exp (ls.getD j 0)).det = Real.exp ls.sum := by
  rw [Matrix.det_diagonal, ← Real.exp_sum, sum_fin_getD ls F hF]

/-- 4-D determinant: `log |det J| = P · Σ log_scale` (`P = h*w` pixels per channel, each carrying its channel's slope) -/
theorem actImg_log_abs_det {F P : ℕ} (ls : List ℝ) (hF : ls.length = F) :
    (diagCLM fun cp : Fin F × Fin P => Real.exp (ls.getD cp.1 0)).det = Real.exp ((P : ℝ) * ls.sum) ∧
    Real.log |(diagCLM fun cp : Fin F × Fin P => Real.exp (ls.getD cp.1 0)).det| = (P : ℝ) * ls.sum := by
  have hsum : ∑ cp : Fin F × Fin P, ls.getD cp.1 0 = (P : ℝ) * ls.sum := by
    rw [Fintype.sum_prod_type, ← sum_fin_getD ls F hF, Finset.mul_sum]
    refine Finset.sum_congr rfl fun c _ => ?_
    show ∑ _p : Fin P, ls.getD c 0 = _
    rw [Finset.sum_const, Finset.card_univ, Fintype.card_fin, nsmul_eq_mul]
  exact ⟨by rw [diagCLM_det, ← Real.exp_sum, hsum], by rw [log_abs_det_diag_exp, hsum]⟩

/-- **C01, ActNorm on 2-D inputs.**  For `log_scale` of length `F` and any batch of `F`-rows: the executed forward
    pass returns the encoded images of `actRowMap`, this map is differentiable at every row with derivative `J`, and
    EVERY returned log-abs-det entry equals `log |det J|`. -/
theorem actnorm_d2_logdet_is_log_abs_det {F : ℕ} (ls sh : List ℝ) (hF : ls.length = F) (xs : List (Fin F → ℝ)) :
    actApply (NF.realX e) F ls sh (.d2 (xs.map encRow)) = .d2 (xs.map fun x => encRow (actRowMap ls sh x)) ∧
    ∀ i (hi : i < xs.length), ∃ J : (Fin F → ℝ) →L[ℝ] (Fin F → ℝ),
      HasFDerivAt (actRowMap (F := F) ls sh) J xs[i] ∧
      (actLogdet (NF.realX e) ls (.d2 (xs.map encRow)) false)[i]? = some (Real.log |J.det|) := by
  refine ⟨actApply_d2_enc e ls sh xs, fun i hi => ⟨_, actRowMap_hasFDerivAt ls sh xs[i], ?_⟩⟩
  rw [(actRow_log_abs_det ls hF).2, actLogdet_d2_getElem? e ls _ (by simpa using hi)]

/-- **C01, ActNorm on 4-D inputs (the `H·W` factor).**  For `log_scale` of length `F` and any batch of images with `F`
    channels of `h*w` pixels: the executed forward pass returns the encoded images of `actImgMap`, this map is
    differentiable at every item with derivative `J` (on `ℝ^(F·h·w)`), and EVERY returned log-abs-det entry — the
    value `(h*w) · Σ log_scale` — equals `log |det J|`. -/
theorem actnorm_d4_logdet_is_log_abs_det {F : ℕ} (ls sh : List ℝ) (hF : ls.length = F) (h w : ℕ)
    (xs : List (Fin F × Fin (h * w) → ℝ)) :
    actApply (NF.realX e) F ls sh (.d4 h w (xs.map encImg)) = .d4 h w (xs.map fun x => encImg (actImgMap ls sh x)) ∧
    ∀ i (hi : i < xs.length), ∃ J : (Fin F × Fin (h * w) → ℝ) →L[ℝ] (Fin F × Fin (h * w) → ℝ),
      HasFDerivAt (actImgMap (F := F) (P := h * w) ls sh) J xs[i] ∧
      (actLogdet (NF.realX e) ls (.d4 h w (xs.map encImg)) false)[i]? = some (Real.log |J.det|) := by
  refine ⟨actApply_d4_enc e ls sh h w xs, fun i hi => ⟨_, actImgMap_hasFDerivAt ls sh xs[i], ?_⟩⟩
  rw [(actImg_log_abs_det ls hF).2, actLogdet_d4_getElem? e ls h w _ (by simpa using hi)]

/-- **The `H·W` factor cannot be dropped.**  A 4-D log-det computed without it (i.e. the 2-D value `Σ log_scale`) is not
    the value the model returns, hence not `log |det J|`, as soon as `h*w ≠ 1` and `Σ log_scale ≠ 0`. -/
theorem dropped_HW_factor_detected (ls : List ℝ) (h w : ℕ) (hw : h * w ≠ 1) (hs : ls.sum ≠ 0) :
    ls.sum ≠ ((h * w : ℕ) : ℝ) * ls.sum := by
  intro hEq
  have h1 : (1 : ℝ) = ((h * w : ℕ) : ℝ) := mul_right_cancel₀ hs ((one_mul _).trans hEq)
  exact hw (by exact_mod_cast h1.symm)

theorem actLogdet_d2_ne_d4 (ls : List ℝ) (h w : ℕ) (hw : h * w ≠ 1) (hs : ls.sum ≠ 0)
    (rows : List (List ℝ)) (imgs : List (List (List ℝ))) (hB : imgs ≠ []) :
    actLogdet (NF.realX e) ls (.d2 rows) false ≠ actLogdet (NF.realX e) ls (.d4 h w imgs) false := by
  intro hEq
  rw [actLogdet_d2, actLogdet_d4] at hEq
  have hlen : rows.length = imgs.length := by simpa using congrArg List.length hEq
  have hpos : 0 < imgs.length := List.length_pos_iff.mpr hB
  have := congrArg (fun l => l[0]?) hEq
  simp [hlen, hpos] at this
  exact dropped_HW_factor_detected ls h w hw hs (by push_cast; exact this)

/-- the hypothesis `log_scale.length = F` of the C01 theorems is forced in the model: with `F = 1` and the (ill-shaped)
    parameter list `[0, 1]` the returned entry is `1` while `log |det J| = 0` -/
theorem actLogdet_length_hypothesis_forced :
    (actLogdet (NF.realX e) [0, 1] (.d2 [[5]]) false)[0]? = some 1 ∧
    Real.log |(diagCLM fun j : Fin 1 => Real.exp (([0, 1] : List ℝ).getD j 0)).det| = 0 := by
  refine ⟨?_, ?_⟩
  · rw [actLogdet_d2]; norm_num
  · rw [log_abs_det_diag_exp]; simp

/-! ## 5. C02 for ActNorm: inverse ∘ forward = id, and the inverse log-det is the negated forward log-det -/

def WellShaped (F : ℕ) : Batch ℝ → Prop
  | .d2 rows => ∀ r ∈ rows, r.length = F
  | .d4 _ _ imgs => ∀ img ∈ imgs, img.length = F
  | .bad _ => True

theorem actElInv_actEl (ls sh : List ℝ) (j : ℕ) (x : ℝ) : actElInv ls sh j (actEl ls sh j x) = x := by
  simp only [actElInv, actEl]
  field_simp
  ring

theorem actEl_actElInv (ls sh : List ℝ) (j : ℕ) (y : ℝ) : actEl ls sh j (actElInv ls sh j y) = y := by
  simp only [actElInv, actEl]
  field_simp
  ring

theorem mapCh_mapCh (F : ℕ) (f g : ℕ → ℝ → ℝ) (b : Batch ℝ) :
    (b.mapCh (NF.realX e) F f).mapCh (NF.realX e) F g = b.mapCh (NF.realX e) F (fun j x => g j (f j x)) := by
  cases b with
  | bad d => rfl
  | d2 rows =>
    simp only [Batch.mapCh, List.map_map]
    congr 1
    apply List.map_congr_left
    intro r _
    apply List.map_congr_left
    intro j hj
    simp only [getD_map_range _ _ (List.mem_range.mp hj)]
  | d4 h w imgs =>
    simp only [Batch.mapCh, List.map_map]
    congr 1
    apply List.map_congr_left
    intro img _
    apply List.map_congr_left
    intro c hc
    simp only [getD_map_range _ _ (List.mem_range.mp hc), List.map_map]
    rfl

theorem mapCh_id (F : ℕ) (f : ℕ → ℝ → ℝ) (hf : ∀ j x, f j x = x) (b : Batch ℝ) (hb : WellShaped F b) :
    b.mapCh (NF.realX e) F f = b := by
  cases b with
  | bad d => rfl
  | d2 rows =>
    exact congrArg Batch.d2 ((List.map_congr_left fun r hr => map_range_getD F f (fun j _ => hf j) _ r (hb r hr)).trans
      (List.map_id' rows))
  | d4 h w imgs =>
    have hm : ∀ c, c < F → ∀ l : List ℝ, l.map (f c) = l := fun c _ l => by rw [funext (hf c)]; exact List.map_id' l
    exact congrArg (Batch.d4 h w) ((List.map_congr_left fun img hi =>
      map_range_getD F (fun c l => l.map (f c)) hm [] img (hb img hi)).trans (List.map_id' imgs))

/-- **C02, ActNorm (executed).**  On a well-shaped batch (2-D or 4-D) `actUnapply` undoes `actApply` exactly,
    for every `log_scale`, `shift` (`exp ≠ 0`). -/
theorem actUnapply_actApply (F : ℕ) (ls sh : List ℝ) (b : Batch ℝ) (hb : WellShaped F b) :
    actUnapply (NF.realX e) F ls sh (actApply (NF.realX e) F ls sh b) = b := by
  rw [actApply_eq_mapCh, actUnapply_eq_mapCh, mapCh_mapCh]
  exact mapCh_id e F _ (fun j x => actElInv_actEl ls sh j x) b hb

theorem actApply_actUnapply (F : ℕ) (ls sh : List ℝ) (b : Batch ℝ) (hb : WellShaped F b) :
    actApply (NF.realX e) F ls sh (actUnapply (NF.realX e) F ls sh b) = b := by
  rw [actApply_eq_mapCh, actUnapply_eq_mapCh, mapCh_mapCh]
  exact mapCh_id e F _ (fun j x => actEl_actElInv ls sh j x) b hb

/-- the log-det depends on the batch only through its kind, `h*w` and its size, all preserved by `mapCh` -/
theorem actLogdet_mapCh (F : ℕ) (f : ℕ → ℝ → ℝ) (ls : List ℝ) (b : Batch ℝ) (inv : Bool) :
    actLogdet (NF.realX e) ls (b.mapCh (NF.realX e) F f) inv = actLogdet (NF.realX e) ls b inv := by
  cases b <;> simp only [actLogdet, Batch.mapCh, Batch.size, List.length_map]

/-- **C02, log-det part.**  The inverse-direction log-det evaluated at the forward OUTPUT is the entrywise negation of
    the forward log-det (no shape condition). -/
theorem actLogdet_inverse_at_output (F : ℕ) (ls sh : List ℝ) (b : Batch ℝ) :
    actLogdet (NF.realX e) ls (actApply (NF.realX e) F ls sh b) true =
      (actLogdet (NF.realX e) ls b false).map (fun v => -v) := by
  rw [actApply_eq_mapCh, actLogdet_mapCh, actLogdet_inv_eq_neg]

/-- **C02 on the machine.**  In a state that will not (re)initialise (already initialised, or evaluation mode): if
    `forward` on a well-shaped batch returns `(y, ld)` then `inverse` on `y` returns `(b, -ld)` and the state is
    unchanged by both calls. -/
theorem actStep_fwd_inv (F : ℕ) (s : ActSt ℝ) (hs : s.initialized = true ∨ s.training = false)
    (b : Batch ℝ) (hv : b.valid24 = true) (hb : WellShaped F b) :
    ∃ y ld, actStep (NF.realX e) F s (.fwd b) = (s, some (.ok (y, ld))) ∧
      actStep (NF.realX e) F s (.inv y) = (s, some (.ok (b, ld.map fun v => -v))) := by
  refine ⟨_, _, actStep_fwd_noinit _ F s hs b hv, ?_⟩
  rw [actStep_inv_ok _ F s (actApply _ F _ _ b) ((Batch.valid24_mapCh _ F _ b).trans hv), actUnapply_actApply e F _ _ b hb,
    actLogdet_inverse_at_output]

/-! ## 6. BatchNorm: the returned log-abs-det, the executed map, C01 and C02 -/

theorem bnWeight_real (cfg : BNCfg ℝ) (uw : List ℝ) (j : ℕ) :
    bnWeight (NF.realX e) cfg uw j = (NF.realX e).softplus (uw.getD j 0) + cfg.eps := by
  simp only [bnWeight, realX_add, realX_zero]

/-- the library default is `eps = 1e-5` -/
theorem bnWeight_pos (cfg : BNCfg ℝ) (heps : 0 ≤ cfg.eps) (uw : List ℝ) (j : ℕ) :
    0 < bnWeight (NF.realX e) cfg uw j := by
  rw [bnWeight_real]
  exact add_pos_of_pos_of_nonneg (NF.realX_softplus_pos e (uw.getD j 0)) heps

theorem bnLogdet_fwd (cfg : BNCfg ℝ) (F : ℕ) (var uw : List ℝ) (B : ℕ) :
    bnLogdet (NF.realX e) cfg F var uw B false = List.replicate B
      (∑ j : Fin F, (Real.log (bnWeight (NF.realX e) cfg uw j) - 1 / 2 * Real.log (var.getD j 0 + cfg.eps))) := by
  simp only [bnLogdet, sumG_real, sum_map_range, Bool.false_eq_true, if_false, realX_sub, realX_mul, realX_log,
    realX_add, realX_ofRat, realX_zero, Int.cast_one, Nat.cast_ofNat]

theorem bnLogdet_inv (cfg : BNCfg ℝ) (F : ℕ) (var uw : List ℝ) (B : ℕ) :
    bnLogdet (NF.realX e) cfg F var uw B true = List.replicate B
      (∑ j : Fin F, (-Real.log (bnWeight (NF.realX e) cfg uw j) + 1 / 2 * Real.log (var.getD j 0 + cfg.eps))) := by
  simp only [bnLogdet, sumG_real, sum_map_range, if_true, realX_neg, realX_mul, realX_log,
    realX_add, realX_ofRat, realX_zero, Int.cast_one, Nat.cast_ofNat]

theorem bnLogdet_inv_eq_neg (cfg : BNCfg ℝ) (F : ℕ) (var uw : List ℝ) (B : ℕ) :
    bnLogdet (NF.realX e) cfg F var uw B true = (bnLogdet (NF.realX e) cfg F var uw B false).map (fun v => -v) := by
  rw [bnLogdet_fwd, bnLogdet_inv, List.map_replicate, ← Finset.sum_neg_distrib]
  congr 2
  funext j
  ring

def bnEl (cfg : BNCfg ℝ) (mean var uw bias : List ℝ) (j : ℕ) (x : ℝ) : ℝ :=
  bnWeight (NF.realX e) cfg uw j * ((x - mean.getD j 0) / Real.sqrt (var.getD j 0 + cfg.eps)) + bias.getD j 0
def bnElInv (cfg : BNCfg ℝ) (mean var uw bias : List ℝ) (j : ℕ) (y : ℝ) : ℝ :=
  Real.sqrt (var.getD j 0 + cfg.eps) * ((y - bias.getD j 0) / bnWeight (NF.realX e) cfg uw j) + mean.getD j 0

theorem bnNormalise_eq (cfg : BNCfg ℝ) (F : ℕ) (mean var uw bias : List ℝ) (rows : List (List ℝ)) :
    bnNormalise (NF.realX e) cfg F mean var uw bias rows =
      rows.map fun r => (List.range F).map fun j => bnEl e cfg mean var uw bias j (r.getD j 0) := by
  simp only [bnNormalise, realX_add, realX_mul, realX_div, realX_sub, realX_sqrt, realX_zero]
  rfl

theorem bnDenormalise_eq (cfg : BNCfg ℝ) (F : ℕ) (mean var uw bias : List ℝ) (rows : List (List ℝ)) :
    bnDenormalise (NF.realX e) cfg F mean var uw bias rows =
      rows.map fun r => (List.range F).map fun j => bnElInv e cfg mean var uw bias j (r.getD j 0) := by
  simp only [bnDenormalise, realX_add, realX_mul, realX_div, realX_sub, realX_sqrt, realX_zero]
  rfl

theorem bnEl_hasDerivAt (cfg : BNCfg ℝ) (mean var uw bias : List ℝ) (j : ℕ) (x : ℝ) :
    HasDerivAt (bnEl e cfg mean var uw bias j)
      (bnWeight (NF.realX e) cfg uw j / Real.sqrt (var.getD j 0 + cfg.eps)) x := by
  have h := (((hasDerivAt_id' x).sub_const (mean.getD j 0)).div_const
    (Real.sqrt (var.getD j 0 + cfg.eps))).const_mul (bnWeight (NF.realX e) cfg uw j)
  have h2 := h.add_const (bias.getD j 0)
  have hs : bnWeight (NF.realX e) cfg uw j * (1 / Real.sqrt (var.getD j 0 + cfg.eps))
      = bnWeight (NF.realX e) cfg uw j / Real.sqrt (var.getD j 0 + cfg.eps) := by ring
  rw [hs] at h2
  exact h2

/-- `Real.log` is even, so the sign of `w` is immaterial
    over ℝ; torch returns NaN for `w < 0` -/
theorem log_abs_slope {w v : ℝ} (hw : w ≠ 0) (hv : 0 < v) :
    Real.log |w / Real.sqrt v| = Real.log w - 1 / 2 * Real.log v := by
  have hsq : Real.sqrt v ≠ 0 := (Real.sqrt_pos.mpr hv).ne'
  rw [Real.log_abs, Real.log_div hw hsq, Real.log_sqrt hv.le]
  ring

/-- the hypothesis `0 < var + eps` is forced: at `var + eps = 0` the executed slope is `w / 0 = 0` and the formula
    fails -/
theorem log_abs_slope_fails_at_zero :
    Real.log |(2:ℝ) / Real.sqrt 0| ≠ Real.log 2 - 1 / 2 * Real.log 0 := by
  have : (0:ℝ) < Real.log 2 := Real.log_pos (by norm_num)
  simp
  linarith

def bnRowMap {F : ℕ} (cfg : BNCfg ℝ) (mean var uw bias : List ℝ) (x : Fin F → ℝ) : Fin F → ℝ :=
  fun j => bnEl e cfg mean var uw bias j (x j)

theorem bnNormalise_enc {F : ℕ} (cfg : BNCfg ℝ) (mean var uw bias : List ℝ) (xs : List (Fin F → ℝ)) :
    bnNormalise (NF.realX e) cfg F mean var uw bias (xs.map encRow) =
      xs.map fun x => encRow (bnRowMap e cfg mean var uw bias x) := by
  rw [bnNormalise_eq, List.map_map]
  exact List.map_congr_left fun x _ => map_range_ofFn (bnEl e cfg mean var uw bias) x

theorem bnRowMap_hasFDerivAt {F : ℕ} (cfg : BNCfg ℝ) (mean var uw bias : List ℝ) (x : Fin F → ℝ) :
    HasFDerivAt (bnRowMap (F := F) e cfg mean var uw bias)
      (diagCLM fun j : Fin F => bnWeight (NF.realX e) cfg uw j / Real.sqrt (var.getD j 0 + cfg.eps)) x :=
  MatrixCLM.hasFDerivAt_coordwise fun j => bnEl_hasDerivAt e cfg mean var uw bias j (x j)

/-- **C01, BatchNorm.**  With statistics `mean`, `var` held fixed (the running ones of evaluation mode), non-zero weights
    and `0 < var_j + eps`: the executed `bnNormalise` returns the encoded images of `bnRowMap`,
    this map is differentiable at every row with derivative `J`, and EVERY returned log-abs-det entry is
    `log |det J|`. -/
theorem batchnorm_logdet_is_log_abs_det {F : ℕ} (cfg : BNCfg ℝ) (mean var uw bias : List ℝ)
    (hw : ∀ j < F, bnWeight (NF.realX e) cfg uw j ≠ 0) (hv : ∀ j < F, 0 < var.getD j 0 + cfg.eps)
    (xs : List (Fin F → ℝ)) :
    bnNormalise (NF.realX e) cfg F mean var uw bias (xs.map encRow) =
      xs.map (fun x => encRow (bnRowMap e cfg mean var uw bias x)) ∧
    ∀ i (hi : i < xs.length), ∃ J : (Fin F → ℝ) →L[ℝ] (Fin F → ℝ),
      HasFDerivAt (bnRowMap (F := F) e cfg mean var uw bias) J xs[i] ∧
      (bnLogdet (NF.realX e) cfg F var uw (xs.map encRow).length false)[i]? = some (Real.log |J.det|) := by
  refine ⟨bnNormalise_enc e cfg mean var uw bias xs, fun i hi => ⟨_, bnRowMap_hasFDerivAt e cfg mean var uw bias xs[i], ?_⟩⟩
  rw [bnLogdet_fwd, log_abs_det_diag]
  · simp only [List.length_map, List.getElem?_replicate, hi, if_true]
    congr 1
    apply Finset.sum_congr rfl
    intro j _
    exact (log_abs_slope (hw j j.2) (hv j j.2)).symm
  · intro j
    exact div_ne_zero (hw j j.2) (Real.sqrt_pos.mpr (hv j j.2)).ne'

theorem bnElInv_bnEl (cfg : BNCfg ℝ) (mean var uw bias : List ℝ) (j : ℕ)
    (hw : bnWeight (NF.realX e) cfg uw j ≠ 0) (hv : 0 < var.getD j 0 + cfg.eps) (x : ℝ) :
    bnElInv e cfg mean var uw bias j (bnEl e cfg mean var uw bias j x) = x := by
  have hsq : Real.sqrt (var.getD j 0 + cfg.eps) ≠ 0 := (Real.sqrt_pos.mpr hv).ne'
  simp only [bnElInv, bnEl]
  field_simp
  ring

theorem bnEl_bnElInv (cfg : BNCfg ℝ) (mean var uw bias : List ℝ) (j : ℕ)
    (hw : bnWeight (NF.realX e) cfg uw j ≠ 0) (hv : 0 < var.getD j 0 + cfg.eps) (y : ℝ) :
    bnEl e cfg mean var uw bias j (bnElInv e cfg mean var uw bias j y) = y := by
  have hsq : Real.sqrt (var.getD j 0 + cfg.eps) ≠ 0 := (Real.sqrt_pos.mpr hv).ne'
  simp only [bnElInv, bnEl]
  field_simp
  ring

/-- **C02, BatchNorm (executed).**  On rows of length `F`, with non-zero weights and `0 < var_j + eps`,
    `bnDenormalise` undoes `bnNormalise` exactly (same statistics on both sides: evaluation mode). -/
theorem bnDenormalise_bnNormalise (cfg : BNCfg ℝ) (F : ℕ) (mean var uw bias : List ℝ)
    (hw : ∀ j < F, bnWeight (NF.realX e) cfg uw j ≠ 0) (hv : ∀ j < F, 0 < var.getD j 0 + cfg.eps)
    (rows : List (List ℝ)) (hr : ∀ r ∈ rows, r.length = F) :
    bnDenormalise (NF.realX e) cfg F mean var uw bias (bnNormalise (NF.realX e) cfg F mean var uw bias rows) = rows := by
  rw [bnNormalise_eq, bnDenormalise_eq, List.map_map]
  conv_rhs => rw [← List.map_id rows]
  exact List.map_congr_left fun r hmem =>
    map_range_roundtrip F _ _ (fun j hj => bnElInv_bnEl e cfg mean var uw bias j (hw j hj) (hv j hj)) r (hr r hmem)

theorem bnNormalise_bnDenormalise (cfg : BNCfg ℝ) (F : ℕ) (mean var uw bias : List ℝ)
    (hw : ∀ j < F, bnWeight (NF.realX e) cfg uw j ≠ 0) (hv : ∀ j < F, 0 < var.getD j 0 + cfg.eps)
    (rows : List (List ℝ)) (hr : ∀ r ∈ rows, r.length = F) :
    bnNormalise (NF.realX e) cfg F mean var uw bias (bnDenormalise (NF.realX e) cfg F mean var uw bias rows) = rows := by
  rw [bnNormalise_eq, bnDenormalise_eq, List.map_map]
  conv_rhs => rw [← List.map_id rows]
  exact List.map_congr_left fun r hmem =>
    map_range_roundtrip F _ _ (fun j hj => bnEl_bnElInv e cfg mean var uw bias j (hw j hj) (hv j hj)) r (hr r hmem)

/-- **C02 on the machine, evaluation mode.**  `forward` on a batch of `F`-rows returns `(y, ld)`; `inverse` on `y`
    returns the batch back with the negated log-det; the state (running statistics included) is unchanged. -/
theorem bnStep_eval_fwd_inv (cfg : BNCfg ℝ) (F : ℕ) (s : BNSt ℝ) (hs : s.training = false)
    (hw : ∀ j < F, bnWeight (NF.realX e) cfg s.uweight j ≠ 0) (hv : ∀ j < F, 0 < s.runVar.getD j 0 + cfg.eps)
    (rows : List (List ℝ)) (hr : ∀ r ∈ rows, r.length = F) :
    ∃ y ld, bnStep (NF.realX e) cfg F s (.fwd (.d2 rows)) = (s, some (.ok (.d2 y, ld))) ∧
      y = bnNormalise (NF.realX e) cfg F s.runMean s.runVar s.uweight s.bias rows ∧
      ld = bnLogdet (NF.realX e) cfg F s.runVar s.uweight rows.length false ∧
      bnStep (NF.realX e) cfg F s (.inv (.d2 y)) = (s, some (.ok (.d2 rows, ld.map fun v => -v))) := by
  refine ⟨_, _, bnStep_eval_fwd _ cfg F s hs rows, rfl, rfl, ?_⟩
  rw [bnStep_eval_inv _ cfg F s hs, bnDenormalise_bnNormalise e cfg F _ _ _ _ hw hv rows hr, bnLogdet_inv_eq_neg,
    bnNormalise, List.length_map]

/-! ## 7. The same C01 statements on the machines `actStep` / `bnStep` (what the driver's history runner calls) -/

/-- what an accepted `forward` step returns, in terms of the state it leaves behind -/
theorem actStep_fwd_snd (F : ℕ) (s : ActSt ℝ) (b : Batch ℝ) (hv : b.valid24 = true) :
    (actStep (NF.realX e) F s (.fwd b)).2 = some (.ok
      (actApply (NF.realX e) F (actStep (NF.realX e) F s (.fwd b)).1.logScale
        (actStep (NF.realX e) F s (.fwd b)).1.shift b,
       actLogdet (NF.realX e) (actStep (NF.realX e) F s (.fwd b)).1.logScale b false)) := by
  simp only [actStep, hv, Bool.not_true, Bool.false_eq_true, if_false]

theorem actStep_fwd_logScale_length (F : ℕ) (s : ActSt ℝ) (hF : s.logScale.length = F) (b : Batch ℝ) :
    (actStep (NF.realX e) F s (.fwd b)).1.logScale.length = F := by
  simp only [actStep]
  split_ifs <;> simp [actInit, hF]

/-- **C01 on the ActNorm machine, 4-D.**  ANY state with `F` parameters (initialised or not, any mode), any batch of
    `F × (h*w)` images: with `ls`, `sh` the parameters in force after the step (on the initialising pass: the freshly
    derived ones, treated as constants exactly as the library does), the step returns the encoded images of
    `actImgMap ls sh` and a log-det list whose every entry is `log |det J|`. -/
theorem actStep_fwd_d4_C01 {F : ℕ} (s : ActSt ℝ) (hF : s.logScale.length = F) (h w : ℕ)
    (xs : List (Fin F × Fin (h * w) → ℝ)) :
    ∃ ls sh ld, (actStep (NF.realX e) F s (.fwd (.d4 h w (xs.map encImg)))).1.logScale = ls ∧
      (actStep (NF.realX e) F s (.fwd (.d4 h w (xs.map encImg)))).1.shift = sh ∧
      (actStep (NF.realX e) F s (.fwd (.d4 h w (xs.map encImg)))).2 =
        some (.ok (.d4 h w (xs.map fun x => encImg (actImgMap ls sh x)), ld)) ∧
      ∀ i (hi : i < xs.length), ∃ J : (Fin F × Fin (h * w) → ℝ) →L[ℝ] (Fin F × Fin (h * w) → ℝ),
        HasFDerivAt (actImgMap (F := F) (P := h * w) ls sh) J xs[i] ∧ ld[i]? = some (Real.log |J.det|) := by
  have hl := actStep_fwd_logScale_length e F s hF (.d4 h w (xs.map encImg))
  obtain ⟨h1, h2⟩ := actnorm_d4_logdet_is_log_abs_det e _
    (actStep (NF.realX e) F s (.fwd (.d4 h w (xs.map encImg)))).1.shift hl h w xs
  refine ⟨_, _, _, rfl, rfl, ?_, h2⟩
  rw [actStep_fwd_snd e F s _ rfl, h1]

/-- **C01 on the ActNorm machine, 2-D.** -/
theorem actStep_fwd_d2_C01 {F : ℕ} (s : ActSt ℝ) (hF : s.logScale.length = F) (xs : List (Fin F → ℝ)) :
    ∃ ls sh ld, (actStep (NF.realX e) F s (.fwd (.d2 (xs.map encRow)))).1.logScale = ls ∧
      (actStep (NF.realX e) F s (.fwd (.d2 (xs.map encRow)))).1.shift = sh ∧
      (actStep (NF.realX e) F s (.fwd (.d2 (xs.map encRow)))).2 =
        some (.ok (.d2 (xs.map fun x => encRow (actRowMap ls sh x)), ld)) ∧
      ∀ i (hi : i < xs.length), ∃ J : (Fin F → ℝ) →L[ℝ] (Fin F → ℝ),
        HasFDerivAt (actRowMap (F := F) ls sh) J xs[i] ∧ ld[i]? = some (Real.log |J.det|) := by
  have hl := actStep_fwd_logScale_length e F s hF (.d2 (xs.map encRow))
  obtain ⟨h1, h2⟩ := actnorm_d2_logdet_is_log_abs_det e _
    (actStep (NF.realX e) F s (.fwd (.d2 (xs.map encRow)))).1.shift hl xs
  refine ⟨_, _, _, rfl, rfl, ?_, h2⟩
  rw [actStep_fwd_snd e F s _ rfl, h1]

/-- **C01 on the BatchNorm machine, evaluation mode**: the running statistics are used, the state is unchanged, the
    output is the encoded image of `bnRowMap` and every log-det entry is `log |det J|`. -/
theorem bnStep_eval_fwd_C01 {F : ℕ} (cfg : BNCfg ℝ) (s : BNSt ℝ) (hs : s.training = false)
    (hw : ∀ j < F, bnWeight (NF.realX e) cfg s.uweight j ≠ 0) (hv : ∀ j < F, 0 < s.runVar.getD j 0 + cfg.eps)
    (xs : List (Fin F → ℝ)) :
    ∃ ld, bnStep (NF.realX e) cfg F s (.fwd (.d2 (xs.map encRow))) =
        (s, some (.ok (.d2 (xs.map fun x => encRow (bnRowMap e cfg s.runMean s.runVar s.uweight s.bias x)), ld))) ∧
      ∀ i (hi : i < xs.length), ∃ J : (Fin F → ℝ) →L[ℝ] (Fin F → ℝ),
        HasFDerivAt (bnRowMap (F := F) e cfg s.runMean s.runVar s.uweight s.bias) J xs[i] ∧
        ld[i]? = some (Real.log |J.det|) := by
  obtain ⟨h1, h2⟩ := batchnorm_logdet_is_log_abs_det e cfg s.runMean s.runVar s.uweight s.bias hw hv xs
  refine ⟨_, ?_, h2⟩
  rw [bnStep_eval_fwd _ cfg F s hs, h1]

/-! ## 8. Both layers as one certificate: a pair of coordinatewise passes -/

/-- the executed pair of row passes `(F, Finv)` (batch programs returning outputs and log-abs-dets) acts on encoded rows as
    `T` and its inverse, with returned log-dets `c` and `-c`: the certificate from which the exact round trip of a pass
    stage is read (`PassPair.roundTrip`, `Lemmas/StageRoundTrips.lean`; the affine layers supply theirs by `passPair_affine`).
    `surj` is what lets the round trip write every encoded input of the inverse pass as `T v`. -/
structure PassPair (n : ℕ) (F Finv : List (List ℝ) → List (List ℝ) × List ℝ) (T : (Fin n → ℝ) → (Fin n → ℝ))
    (c : (Fin n → ℝ) → ℝ) : Prop where
  fwd : ∀ X : List (Fin n → ℝ), F (X.map List.ofFn) = (X.map fun v => List.ofFn (T v), X.map c)
  inv : ∀ X : List (Fin n → ℝ), Finv (X.map fun v => List.ofFn (T v)) = (X.map List.ofFn, X.map fun v => -c v)
  surj : Function.Surjective T

def elPass (n : ℕ) (f : ℕ → ℝ → ℝ) (c : ℝ) : List (List ℝ) → List (List ℝ) × List ℝ :=
  fun rows => (rows.map fun r => (List.range n).map fun j => f j (r.getD j 0), List.replicate rows.length c)

theorem passPair_el (n : ℕ) (f fi : ℕ → ℝ → ℝ) (c : ℝ) (hl : ∀ j, j < n → ∀ x, fi j (f j x) = x)
    (hr : ∀ j, j < n → ∀ y, f j (fi j y) = y) :
    PassPair n (elPass n f c) (elPass n fi (-c)) (fun v j => f j (v j)) (fun _ => c) where
  fwd X := by
    simp only [elPass, List.map_map, Function.comp_def, List.length_map, List.map_const']
    exact Prod.ext (List.map_congr_left fun v _ => map_range_ofFn f v) rfl
  inv X := by
    simp only [elPass, List.map_map, Function.comp_def, List.length_map, List.map_const']
    refine Prod.ext (List.map_congr_left fun v _ => ?_) rfl
    rw [map_range_ofFn fi fun j => f j (v j)]
    exact congrArg List.ofFn (funext fun j => hl j j.2 (v j))
  surj y := ⟨fun j => fi j (y j), funext fun j => hr j j.2 (y j)⟩

/-- stated of the closed
    form `elPass`, to which the executed `actStep` row passes are brought in `roundTrip_actStage` (`Lemmas/StageRoundTrips.lean`) -/
theorem passPair_act (n : ℕ) (ls sh : List ℝ) :
    PassPair n (elPass n (actEl ls sh) ls.sum) (elPass n (actElInv ls sh) (-ls.sum)) (actRowMap ls sh) (fun _ => ls.sum) :=
  passPair_el n _ _ _ (fun j _ => actElInv_actEl ls sh j) (fun j _ => actEl_actElInv ls sh j)

theorem passPair_bn (cfg : BNCfg ℝ) (n : ℕ) (mean var uw bias : List ℝ)
    (hw : ∀ j, j < n → bnWeight (NF.realX e) cfg uw j ≠ 0) (hv : ∀ j, j < n → 0 < var.getD j 0 + cfg.eps) :
    PassPair n
      (fun rows => (bnNormalise (NF.realX e) cfg n mean var uw bias rows, bnLogdet (NF.realX e) cfg n var uw rows.length false))
      (fun rows => (bnDenormalise (NF.realX e) cfg n mean var uw bias rows, bnLogdet (NF.realX e) cfg n var uw rows.length true))
      (bnRowMap e cfg mean var uw bias)
      (fun _ => ∑ j : Fin n, (Real.log (bnWeight (NF.realX e) cfg uw j) - 1 / 2 * Real.log (var.getD j 0 + cfg.eps))) := by
  have h := passPair_el n (bnEl e cfg mean var uw bias) (bnElInv e cfg mean var uw bias)
    (∑ j : Fin n, (Real.log (bnWeight (NF.realX e) cfg uw j) - 1 / 2 * Real.log (var.getD j 0 + cfg.eps)))
    (fun j hj => bnElInv_bnEl e cfg mean var uw bias j (hw j hj) (hv j hj))
    (fun j hj => bnEl_bnElInv e cfg mean var uw bias j (hw j hj) (hv j hj))
  have hF : (fun rows => (bnNormalise (NF.realX e) cfg n mean var uw bias rows,
      bnLogdet (NF.realX e) cfg n var uw rows.length false)) = elPass n (bnEl e cfg mean var uw bias) _ :=
    funext fun rows => by rw [bnNormalise_eq, bnLogdet_fwd]; rfl
  have hFi : (fun rows => (bnDenormalise (NF.realX e) cfg n mean var uw bias rows,
      bnLogdet (NF.realX e) cfg n var uw rows.length true)) = elPass n (bnElInv e cfg mean var uw bias) (-_) :=
    funext fun rows => by rw [bnDenormalise_eq, bnLogdet_inv_eq_neg, bnLogdet_fwd, List.map_replicate]; rfl
  rw [hF, hFi]
  exact h

/-! ## 9. Non-vacuity: concrete data -/

example : actLogdet (NF.realX e) [0.3, -1] (.d4 2 3 [[[1, 2, 3, 4, 5, 6], [0, 0, 0, 0, 0, 0]]]) false = [-4.2] := by
  rw [actLogdet_d4]
  norm_num

example : actLogdet (NF.realX e) [0.3, -1] (.d2 [[1, 2], [3, 4]]) false = [-0.7, -0.7] ∧
    actLogdet (NF.realX e) [0.3, -1] (.d2 [[1, 2], [3, 4]]) true = [0.7, 0.7] := by
  rw [actLogdet_d2, actLogdet_d2_inv]
  norm_num [List.replicate]

example : actApply (NF.realX e) 2 [0, 0] [1, 2] (.d2 [[3, 4]]) = .d2 [[4, 6]] := by
  rw [actApply_d2]
  show Batch.d2 [[Real.exp 0 * 3 + 1, Real.exp 0 * 4 + 2]] = _
  rw [Real.exp_zero]
  norm_num

example : actApply (NF.realX e) 2 [0, 0] [1, 2] (.d4 1 2 [[[3, 4], [5, 6]]]) = .d4 1 2 [[[4, 5], [7, 8]]] := by
  rw [actApply_d4]
  show Batch.d4 1 2 [[[Real.exp 0 * 3 + 1, Real.exp 0 * 4 + 1], [Real.exp 0 * 5 + 2, Real.exp 0 * 6 + 2]]] = _
  rw [Real.exp_zero]
  norm_num

/-- the 4-D headline instantiated: `F = 2`, `h = 2`, `w = 3`, `log_scale = [0.3, -1]`, one constant image: the
    returned entry is `-4.2` and is `log |det J|` of the derivative of the executed item map -/
example : ∃ J : (Fin 2 × Fin (2 * 3) → ℝ) →L[ℝ] (Fin 2 × Fin (2 * 3) → ℝ),
    HasFDerivAt (actImgMap (F := 2) (P := 2 * 3) [0.3, -1] [5, 7]) J (fun _ => 1) ∧
    (actLogdet (NF.realX e) [0.3, -1] (.d4 2 3 (([fun _ => (1:ℝ)] : List (Fin 2 × Fin (2 * 3) → ℝ)).map encImg)) false)[0]? = some (Real.log |J.det|) ∧
    Real.log |J.det| = -4.2 := by
  obtain ⟨J, hJ, hld⟩ := (actnorm_d4_logdet_is_log_abs_det e (F := 2) [0.3, -1] [5, 7] rfl 2 3
    [fun _ => (1:ℝ)]).2 0 (by simp)
  refine ⟨J, hJ, hld, ?_⟩
  rw [actLogdet_d4_getElem? e _ _ _ _ (by simp)] at hld
  rw [← Option.some.inj hld]
  norm_num

example : ([0.3, -1] : List ℝ).sum ≠ ((2 * 3 : ℕ) : ℝ) * ([0.3, -1] : List ℝ).sum :=
  dropped_HW_factor_detected [0.3, -1] 2 3 (by norm_num) (by norm_num)

example : actUnapply (NF.realX e) 2 [0.3, -1] [5, 7]
      (actApply (NF.realX e) 2 [0.3, -1] [5, 7] (.d4 1 2 [[[3, 4], [5, 6]]])) = .d4 1 2 [[[3, 4], [5, 6]]] :=
  actUnapply_actApply e 2 _ _ _ (by simp [WellShaped])

/-- BatchNorm at the library default `eps = 1e-5`, two features, running variances `1` and `4`: all hypotheses of the
    C01 / C02 theorems hold -/
example : ∃ cfg : BNCfg ℝ, 0 ≤ cfg.eps ∧ (∀ j < 2, 0 < ([1, 4] : List ℝ).getD j 0 + cfg.eps) ∧
    (∀ j < 2, bnWeight (NF.realX e) cfg [0, 1] j ≠ 0) := by
  refine ⟨⟨1 / 100000, 1 / 10⟩, by norm_num, ?_, fun j _ => (bnWeight_pos e _ (by norm_num) _ j).ne'⟩
  intro j hj
  interval_cases j <;> norm_num

example : bnLogdet (NF.realX e) ⟨0, 1 / 10⟩ 2 [1, 4] [0, 0] 3 false =
    List.replicate 3 (Real.log (Real.log 2) + (Real.log (Real.log 2) - 1 / 2 * Real.log 4)) := by
  have h0 : (NF.realX e).softplus 0 = Real.log 2 := by
    rw [realX_softplus, if_neg (by norm_num), Real.exp_zero, one_add_one_eq_two]
  rw [bnLogdet_fwd, Fin.sum_univ_two]
  simp only [bnWeight_real, Fin.val_zero, Fin.val_one, List.getD_cons_zero, List.getD_cons_succ, h0, add_zero,
    Real.log_one, mul_zero, sub_zero]


end

end LogdetExec
