import NflowsModel.Core.Cache
/-!
# Lemmas/Cache — inductive invariant of the cache machine `Core/Cache.lean` and transparency over all histories
(core Lean only)
-/
namespace Cache

def current (s : St) (c : Option Slot) : Prop := ∀ x, c = some x → x.ver = s.ver ∧ x.dt = s.dt
def unfreed (c : Option Slot) : Prop := ∀ x, c = some x → x.graphFreed = false

/-- The inductive invariant.  `used` is the history tracker of `noRepeatedBackward`: a cached backward already
    happened since the last invalidation. -/
structure CInv (used : Bool) (s : St) : Prop where
  train_empty : s.training = true → s.cW = none ∧ s.cInv = none ∧ s.cLd = none
  curW : current s s.cW
  curI : current s s.cInv
  curL : current s s.cLd
  freed : used = false → unfreed s.cW ∧ unfreed s.cLd

def nextUsed (s : St) (used : Bool) : Op → Bool
  | .train | .load | .cast _ => false
  | .fwdBwd => if cachedMode s then true else used
  | _ => used

theorem current_none (s : St) : current s none := by intro x h; cases h
theorem unfreed_none : unfreed none := by intro x h; cases h

theorem inv_init (tr uc : Bool) (v : Nat) (d : DT) (used : Bool) :
    CInv used { training := tr, usingCache := uc, ver := v, dt := d } :=
  ⟨fun _ => ⟨rfl, rfl, rfl⟩, current_none _, current_none _, current_none _, fun _ => ⟨unfreed_none, unfreed_none⟩⟩

theorem current_fill {s : St} {c : Option Slot} (h : current s c) : current s (some (fill s c)) := by
  intro x hx
  cases c with
  | none => simp [fill, fresh] at hx; subst hx; exact ⟨rfl, rfl⟩
  | some y => simp [fill] at hx; subst hx; exact h y rfl

theorem unfreed_fill {s : St} {c : Option Slot} (h : unfreed c) : unfreed (some (fill s c)) := by
  intro x hx
  cases c with
  | none => simp [fill, fresh] at hx; subst hx; rfl
  | some y => simp [fill] at hx; subst hx; exact h y rfl

theorem fill_cur {s : St} {c : Option Slot} (h : current s c) : (fill s c).ver = s.ver ∧ (fill s c).dt = s.dt :=
  current_fill h _ rfl

theorem promote_self (d : DT) : DT.promote d d = d := by cases d <;> rfl

theorem readW_cur (k : Kind) {s : St} {w : Slot} (h : w.ver = s.ver ∧ w.dt = s.dt) :
    (readW k s w).ver = s.ver ∧ (readW k s w).dt = s.dt := by
  cases k <;> simp [readW, fresh, h]

theorem cachedOut_cur {s : St} {w l : Slot} (hw : w.ver = s.ver ∧ w.dt = s.dt) (hl : l.ver = s.ver ∧ l.dt = s.dt) :
    cachedOut s w l = uncachedOut s := by
  simp [cachedOut, uncachedOut, hw.1, hw.2, hl.1, hl.2, promote_self]

theorem cachedMode_false_of_training {s : St} (h : s.training = true) : cachedMode s = false := by
  simp [cachedMode, h]

theorem training_false_of_cachedMode {s : St} (h : cachedMode s = true) : s.training = false := by
  simp [cachedMode] at h; exact h.1

theorem step_training (k : Kind) (s : St) (o : Op) :
    (step k s o).1.training = (match o with | .train => true | .eval => false | _ => s.training) := by
  cases o <;> simp only [step, invalidate] <;> (try split) <;> (try split) <;> (try split) <;> rfl

theorem step_usingCache (k : Kind) (s : St) (o : Op) :
    (step k s o).1.usingCache = (match o with | .useCache b => b | _ => s.usingCache) := by
  cases o <;> simp only [step, invalidate] <;> (try split) <;> (try split) <;> (try split) <;> rfl

theorem step_fwdBwd_cached (k : Kind) (s : St) {used : Bool} (h : CInv used s) (hc : cachedMode s = true)
    (hu : used = false) :
    step k s .fwdBwd = ({ s with cW := some (markW k (fill s s.cW)),
                                 cLd := some { fill s s.cLd with graphFreed := true } }, .ok s.ver s.dt s.ver s.dt) := by
  have hfw : (fill s s.cW).graphFreed = false := unfreed_fill (s := s) (h.freed hu).1 _ rfl
  have hfl : (fill s s.cLd).graphFreed = false := unfreed_fill (s := s) (h.freed hu).2 _ rfl
  have hrw : (readW k s (fill s s.cW)).graphFreed = false := by cases k <;> simp [readW, fresh, hfw]
  have hco := cachedOut_cur (readW_cur k (fill_cur h.curW)) (fill_cur h.curL)
  simp [step, hc, hco, uncachedOut, hrw, hfl]

/-- **One step**: under the invariant, if the op is not an update in evaluation mode and not a repeated cached
    backward, the step returns exactly what the uncached reference returns, moves the parameters like the
    reference, and re-establishes the invariant. -/
theorem step_ok (k : Kind) (s : St) (o : Op) (used : Bool) (h : CInv used s)
    (hU : o = .update → s.training = true)
    (hB : o = .fwdBwd → cachedMode s = true → used = false) :
    (step k s o).2 = (refStep s.params o).2 ∧ (step k s o).1.params = (refStep s.params o).1 ∧
      CInv (nextUsed s used o) (step k s o).1 := by
  have hcached := step_fwdBwd_cached k s h
  obtain ⟨ht, hw, hi, hl, hf⟩ := h
  cases o with
  | train =>
    exact ⟨rfl, rfl, inv_init _ _ _ _ _⟩
  | eval =>
    refine ⟨rfl, rfl, ?_⟩
    exact ⟨fun h => by simp [step] at h, hw, hi, hl, hf⟩
  | useCache b =>
    refine ⟨rfl, rfl, ?_⟩
    exact ⟨ht, hw, hi, hl, hf⟩
  | useCacheBad =>
    refine ⟨rfl, rfl, ?_⟩
    exact ⟨ht, hw, hi, hl, hf⟩
  | fwd =>
    by_cases hc : cachedMode s = true
    · have htr := training_false_of_cachedMode hc
      have e : step k s .fwd = ({ s with cW := some (fill s s.cW), cLd := some (fill s s.cLd) },
          cachedOut s (readW k s (fill s s.cW)) (fill s s.cLd)) := by simp [step, hc]
      rw [e]
      refine ⟨?_, rfl, ?_⟩
      · rw [cachedOut_cur (readW_cur k (fill_cur hw)) (fill_cur hl)]; rfl
      · exact ⟨fun h => by simp [htr] at h, current_fill hw, hi, current_fill hl,
          fun hu => ⟨unfreed_fill (hf hu).1, unfreed_fill (hf hu).2⟩⟩
    · have e : step k s .fwd = (s, uncachedOut s) := by simp [step, hc]
      rw [e]; exact ⟨rfl, rfl, ht, hw, hi, hl, hf⟩
  | inv =>
    by_cases hc : cachedMode s = true
    · have htr := training_false_of_cachedMode hc
      have e : step k s .inv = ({ s with cInv := some (fill s s.cInv), cLd := some (fill s s.cLd) },
          cachedOut s (fill s s.cInv) (fill s s.cLd)) := by simp [step, hc]
      rw [e]
      refine ⟨?_, rfl, ?_⟩
      · rw [cachedOut_cur (fill_cur hi) (fill_cur hl)]; rfl
      · exact ⟨fun h => by simp [htr] at h, hw, current_fill hi, current_fill hl,
          fun hu => ⟨(hf hu).1, unfreed_fill (hf hu).2⟩⟩
    · have e : step k s .inv = (s, uncachedOut s) := by simp [step, hc]
      rw [e]; exact ⟨rfl, rfl, ht, hw, hi, hl, hf⟩
  | update =>
    have htr := hU rfl
    obtain ⟨e1, e2, e3⟩ := ht htr
    refine ⟨rfl, rfl, ?_⟩
    refine ⟨fun _ => ⟨e1, e2, e3⟩, ?_, ?_, ?_, fun _ => ⟨?_, ?_⟩⟩
    · show current _ s.cW; rw [e1]; exact current_none _
    · show current _ s.cInv; rw [e2]; exact current_none _
    · show current _ s.cLd; rw [e3]; exact current_none _
    · show unfreed s.cW; rw [e1]; exact unfreed_none
    · show unfreed s.cLd; rw [e3]; exact unfreed_none
  | load =>
    exact ⟨rfl, rfl, inv_init _ _ _ _ _⟩
  | cast d =>
    exact ⟨rfl, rfl, inv_init _ _ _ _ _⟩
  | fwdBwd =>
    by_cases hc : cachedMode s = true
    · have htr := training_false_of_cachedMode hc
      rw [hcached hc (hB rfl hc)]
      refine ⟨rfl, rfl, ?_⟩
      have nu : nextUsed s used .fwdBwd = true := by simp [nextUsed, hc]
      rw [nu]
      refine ⟨fun h => by simp [htr] at h, ?_, hi, ?_, fun h => by cases h⟩
      · intro x hx
        cases k <;> simp [markW] at hx <;> subst hx <;> exact fill_cur hw
      · intro x hx
        simp at hx; subst hx; exact fill_cur hl
    · have e : step k s .fwdBwd = (s, uncachedOut s) := by simp [step, hc]
      have nu : nextUsed s used .fwdBwd = used := by simp [nextUsed, hc]
      rw [e, nu]; exact ⟨rfl, rfl, ht, hw, hi, hl, hf⟩

/-- what one op requires of the state, and how it moves the two history trackers -/
theorem trackers_cons (k : Kind) (s : St) (used : Bool) (o : Op) (os : List Op) :
    (updatesOnlyInTraining s.training (o :: os) = true ↔
      (o = .update → s.training = true) ∧ updatesOnlyInTraining (step k s o).1.training os = true) ∧
    (noRepeatedBackward s.training s.usingCache used (o :: os) = true ↔
      (o = .fwdBwd → cachedMode s = true → used = false) ∧
        noRepeatedBackward (step k s o).1.training (step k s o).1.usingCache (nextUsed s used o) os = true) := by
  rw [step_training, step_usingCache]
  cases o <;> simp only [updatesOnlyInTraining, noRepeatedBackward, nextUsed, cachedMode, reduceCtorEq, false_imp_iff, true_and,
    Bool.and_eq_true, forall_const]
  -- `fwdBwd`: in cached mode the tracker must be clear and is set; otherwise nothing is asked
  by_cases h : (!s.training) = true ∧ s.usingCache = true
  · simp only [h, and_self, if_true, Bool.and_eq_true, Bool.not_eq_eq_eq_not, Bool.not_true, forall_const]
  · simp only [if_neg h]
    exact ⟨fun hn => ⟨fun a => absurd a h, hn⟩, fun hn => hn.2⟩

/-- **All histories** (induction over the op list): started in any state satisfying the invariant, the machine
    answers every history of the property's alphabet exactly like the uncached reference, provided updates
    happen in training mode only and no cached backward is repeated within one cache epoch. -/
theorem run_eq_ref (k : Kind) : ∀ (hist : List Op) (s : St) (used : Bool), CInv used s →
    updatesOnlyInTraining s.training hist = true →
    noRepeatedBackward s.training s.usingCache used hist = true →
    run (step k) s hist = run refStep s.params hist := by
  intro hist
  induction hist with
  | nil => intro s used _ _ _; rfl
  | cons o os ih =>
    intro s used h hU hB
    obtain ⟨hU1, hU'⟩ := (trackers_cons k s used o os).1.mp hU
    obtain ⟨hB1, hB'⟩ := (trackers_cons k s used o os).2.mp hB
    obtain ⟨e1, e2, h'⟩ := step_ok k s o used h hU1 hB1
    simp only [run]
    rw [e1, ih _ _ h' hU' hB', e2]

/-- one allowed step keeps the invariant (the last part of `step_ok`), hence it holds in every state along such a history: the
    states the correspondence compares with the white-box state of the code -/
theorem inv_run (k : Kind) (s : St) (o : Op) (used : Bool) (h : CInv used s)
    (hU : o = .update → s.training = true) (hB : o = .fwdBwd → cachedMode s = true → used = false) :
    CInv (nextUsed s used o) (step k s o).1 := (step_ok k s o used h hU hB).2.2

/-! ### The backward hypothesis is exactly what is needed -/

def Tight (used : Bool) (s : St) : Prop := used = true → ∃ l, s.cLd = some l ∧ l.graphFreed = true

theorem tight_step (k : Kind) (s : St) (o : Op) (used : Bool) (h : CInv used s) (ht : Tight used s)
    (hB : o = .fwdBwd → cachedMode s = true → used = false) :
    Tight (nextUsed s used o) (step k s o).1 := by
  cases o with
  | train => intro h; simp [nextUsed] at h
  | load => intro h; simp [nextUsed] at h
  | cast d => intro h; simp [nextUsed] at h
  | eval => simpa [step, nextUsed, Tight] using ht
  | useCache b => simpa [step, nextUsed, Tight] using ht
  | useCacheBad => simpa [step, nextUsed, Tight] using ht
  | update => simpa [step, nextUsed, Tight] using ht
  | fwd =>
    intro hu
    simp only [nextUsed] at hu
    obtain ⟨l, hl, hlf⟩ := ht hu
    by_cases hc : cachedMode s = true
    · exact ⟨l, by simp [step, hc, hl, fill], hlf⟩
    · exact ⟨l, by simp [step, hc, hl], hlf⟩
  | inv =>
    intro hu
    simp only [nextUsed] at hu
    obtain ⟨l, hl, hlf⟩ := ht hu
    by_cases hc : cachedMode s = true
    · exact ⟨l, by simp [step, hc, hl, fill], hlf⟩
    · exact ⟨l, by simp [step, hc, hl], hlf⟩
  | fwdBwd =>
    by_cases hc : cachedMode s = true
    · rw [step_fwdBwd_cached k s h hc (hB rfl hc)]
      intro _
      exact ⟨_, rfl, rfl⟩
    · intro hu
      simp only [nextUsed, hc] at hu
      obtain ⟨l, hl, hlf⟩ := ht hu
      exact ⟨l, by simp [step, hc, hl], hlf⟩

theorem ref_never_errBackward : ∀ (hist : List Op) (p : Params), Out.errBackward ∉ run refStep p hist := by
  intro hist
  induction hist with
  | nil => intro p h; cases h
  | cons o os ih =>
    intro p h
    simp only [run, List.mem_cons] at h
    cases h with
    | inl h => cases o <;> simp [refStep] at h
    | inr h => exact ih _ h

/-- if the hypothesis `noRepeatedBackward` fails on a history (updates in training only), some step of the
    machine really answers `errBackward` -/
theorem errBackward_of_repeated (k : Kind) : ∀ (hist : List Op) (s : St) (used : Bool), CInv used s → Tight used s →
    updatesOnlyInTraining s.training hist = true →
    noRepeatedBackward s.training s.usingCache used hist = false →
    Out.errBackward ∈ run (step k) s hist := by
  intro hist
  induction hist with
  | nil => intro s used _ _ _ hB; simp [noRepeatedBackward] at hB
  | cons o os ih =>
    intro s used h ht hU hB
    by_cases hrep : o = .fwdBwd ∧ cachedMode s = true ∧ used = true
    · obtain ⟨eo, hc, hu⟩ := hrep
      subst eo
      obtain ⟨l, hl, hlf⟩ := ht hu
      have hlc := h.curL l hl
      have hco : cachedOut s (readW k s (fill s s.cW)) l = uncachedOut s :=
        cachedOut_cur (readW_cur k (fill_cur h.curW)) hlc
      have : (step k s .fwdBwd).2 = .errBackward := by
        simp [step, hc, hl, fill, uncachedOut, hlf] at hco ⊢
        simp [hco]
      simp only [run]; rw [this]; exact List.mem_cons_self
    · obtain ⟨hU1, hU'⟩ := (trackers_cons k s used o os).1.mp hU
      have hB1 : o = .fwdBwd → cachedMode s = true → used = false := by
        intro e hc
        cases hu : used with
        | false => rfl
        | true => exact absurd ⟨e, hc, hu⟩ hrep
      obtain ⟨_, _, h'⟩ := step_ok k s o used h hU1 hB1
      have hB' : noRepeatedBackward (step k s o).1.training (step k s o).1.usingCache (nextUsed s used o) os = false := by
        rw [← Bool.not_eq_true] at hB ⊢
        exact fun hn => hB ((trackers_cons k s used o os).2.mpr ⟨hB1, hn⟩)
      have := ih (step k s o).1 (nextUsed s used o) h' (tight_step k s o used h ht hB1) hU' hB'
      simp only [run]; exact List.mem_cons_of_mem _ this

/-! ### Facts that hold over EVERY history (no hypothesis at all) -/

def TrainEmpty (s : St) : Prop := s.training = true → s.cW = none ∧ s.cInv = none ∧ s.cLd = none

theorem trainEmpty_step (k : Kind) (s : St) (o : Op) (h : TrainEmpty s) : TrainEmpty (step k s o).1 := by
  cases o with
  | train => intro _; exact ⟨rfl, rfl, rfl⟩
  | eval => intro h; simp [step] at h
  | useCache b => exact h
  | useCacheBad => exact h
  | update => exact h
  | load => intro _; exact ⟨rfl, rfl, rfl⟩
  | cast d => intro _; exact ⟨rfl, rfl, rfl⟩
  | fwd =>
    by_cases hc : cachedMode s = true
    · intro ht; rw [step_training] at ht; simp [training_false_of_cachedMode hc] at ht
    · have e : step k s .fwd = (s, uncachedOut s) := by simp [step, hc]
      rw [e]; exact h
  | inv =>
    by_cases hc : cachedMode s = true
    · intro ht; rw [step_training] at ht; simp [training_false_of_cachedMode hc] at ht
    · have e : step k s .inv = (s, uncachedOut s) := by simp [step, hc]
      rw [e]; exact h
  | fwdBwd =>
    by_cases hc : cachedMode s = true
    · intro ht; rw [step_training] at ht; simp [training_false_of_cachedMode hc] at ht
    · have e : step k s .fwdBwd = (s, uncachedOut s) := by simp [step, hc]
      rw [e]; exact h

theorem trainEmpty_trace (k : Kind) : ∀ (hist : List Op) (s : St), TrainEmpty s →
    ∀ x ∈ trace k s hist, TrainEmpty x.1 := by
  intro hist
  induction hist with
  | nil => intro s _ x hx; cases hx
  | cons o os ih =>
    intro s h x hx
    simp only [trace, List.mem_cons] at hx
    cases hx with
    | inl e => subst e; exact trainEmpty_step k s o h
    | inr hx => exact ih _ (trainEmpty_step k s o h) x hx

/-- the driver prints `trace`; its observables are `run (step k)` -/
theorem trace_outputs (k : Kind) : ∀ (hist : List Op) (s : St), (trace k s hist).map Prod.snd = run (step k) s hist := by
  intro hist
  induction hist with
  | nil => intro s; rfl
  | cons o os ih => intro s; simp only [trace, run, List.map_cons, ih]

theorem uncached_when_off (k : Kind) (s : St) (o : Op) (h : cachedMode s = false) (ho : o = .fwd ∨ o = .inv ∨ o = .fwdBwd) :
    step k s o = (s, uncachedOut s) := by
  rcases ho with e | e | e <;> subst e <;> simp [step, h]

end Cache
