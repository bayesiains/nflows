import NflowsModel.Lemmas.SplineTotal
import NflowsModel.Lemmas.ExecGlue
import NflowsModel.Real.Bridge
import NflowsModel.Lemmas.RQBin
/-!
# Lemmas/RQWhole — the EXECUTED rational-quadratic spline (forward) as a function on the whole box, over the reals

`rqSpline (realX e) c uw uh ud false` is the list program the driver runs at `Float`/`Float32`, instantiated at ℝ.  For
every accepted configuration (`RQValid`) and all unnormalised parameter vectors this file proves, about that program
itself (softmax, floor, cumsum, pinning of the end knots, differences, search, gather, closed form):

* it returns a value for every `x ∈ [left, right]`, and that value is the closed form of the bin the search selected;
* the value function is a searched piecewise map of the box (`searched`, an `ExecGlue.Searched`): strictly increasing on
  `[left, right]`, knot to knot, `left ↦ bottom`, `right ↦ top`;
* at every point of the open box — inside the bins and at the interior knots, where the two one-sided derivatives are the
  same knot derivative — its derivative is `exp` of the log-abs-det the program returns (`val_hasDerivAt_all`).
-/
open NF DualSound

namespace RQWhole
noncomputable section
variable (e : Float → ℝ)

/- The fields of `RQValid`, by the line of `Core/Spline.lean` they serve:
   `hK hlenh hlend`     shapes: `K ≥ 1` bins, `K` heights, `K+1` knot derivatives (gathers :135-140 in range);
   `hgW hgH`            the two `Float` guards :129-130 pass;
   `hmW0 hcW hmWK`      floor of the widths :105-106: `0 ≤ min_w`, the double `1 - min_w·K` read exactly, `min_w·K ≤ 1`;
   `hmH0 hcH hmHK`      the same for the heights;
   `hlr hdlr`, `hbt hdbt`   the box is non-degenerate and the doubles `right - left`, `top - bottom` of :111 are read exactly;
   `heps`               the `eps` added to the last knot by `searchsortedG` (Basic.lean:64) is positive;
   `hminD hbeta`        knot derivatives :132 `min_d + softplus_β(u)` are positive (needed for monotonicity, not for totality). -/
/-- an accepted configuration, with the reading `e` of the Python doubles exact on the expressions the code forms -/
structure RQValid (c : RQCfg) (uw uh ud : List ℝ) : Prop where
  hK : uw ≠ []
  hlenh : uh.length = uw.length
  hlend : ud.length = uw.length + 1
  hgW : ¬ (c.minW * uw.length.toFloat > 1.0)
  hgH : ¬ (c.minH * uw.length.toFloat > 1.0)
  hmW0 : 0 ≤ e c.minW
  hcW : e (1 - c.minW * uw.length.toFloat) = 1 - e c.minW * uw.length
  hmWK : e c.minW * uw.length ≤ 1
  hmH0 : 0 ≤ e c.minH
  hcH : e (1 - c.minH * uh.length.toFloat) = 1 - e c.minH * uh.length
  hmHK : e c.minH * uh.length ≤ 1
  hlr : e c.box.left < e c.box.right
  hdlr : e (c.box.right - c.box.left) = e c.box.right - e c.box.left
  hbt : e c.box.bottom < e c.box.top
  hdbt : e (c.box.top - c.box.bottom) = e c.box.top - e c.box.bottom
  heps : 0 < e c.eps
  hminD : 0 ≤ e c.minD
  hbeta : 0 < e c.beta

/-- x-knots, y-knots, knot derivatives exactly as the program computes them -/
def cw (c : RQCfg) (uw : List ℝ) : List ℝ :=
  (rqKnots (NF.realX e) c.box.left c.box.right (flooredSoftmax (NF.realX e) c.minW uw)).1
def ch (c : RQCfg) (uh : List ℝ) : List ℝ :=
  (rqKnots (NF.realX e) c.box.bottom c.box.top (flooredSoftmax (NF.realX e) c.minH uh)).1
def dv (c : RQCfg) (ud : List ℝ) : List ℝ :=
  ud.map (fun u => (NF.realX e).add ((NF.realX e).ofFloat c.minD) ((NF.realX e).softplusB ((NF.realX e).ofFloat c.beta) u))

def xs (c : RQCfg) (uw : List ℝ) (k : ℕ) : ℝ := (cw e c uw).getD k 0
def ys (c : RQCfg) (uh : List ℝ) (k : ℕ) : ℝ := (ch e c uh).getD k 0
def ds (c : RQCfg) (ud : List ℝ) (k : ℕ) : ℝ := (dv e c ud).getD k 0

def idx (c : RQCfg) (uw : List ℝ) (x : ℝ) : ℕ := (searchsortedG (NF.realX e) c.eps (cw e c uw) x).toNat

def env (c : RQCfg) (uw uh ud : List ℝ) (k : ℕ) (x : ℝ) : ℕ → ℝ :=
  Bridge.rqEnv x (xs e c uw k) (xs e c uw (k+1) - xs e c uw k) (ys e c uh k) (ys e c uh (k+1) - ys e c uh k)
    (ds e c ud k) (ds e c ud (k+1))

def binVal (c : RQCfg) (uw uh ud : List ℝ) (k : ℕ) (x : ℝ) : ℝ := evalR (env e c uw uh ud k x) rqFwdE
def binLd (c : RQCfg) (uw uh ud : List ℝ) (k : ℕ) (x : ℝ) : ℝ := evalR (env e c uw uh ud k x) rqFwdLdE

/-- what the program returns (0 on the error branch, which `exec_eq_bin` shows is not taken in the domain) -/
def val (c : RQCfg) (uw uh ud : List ℝ) (x : ℝ) : ℝ :=
  match rqSpline (NF.realX e) c uw uh ud false x with
  | .ok r => r.1
  | .error _ => 0
def ld (c : RQCfg) (uw uh ud : List ℝ) (x : ℝ) : ℝ :=
  match rqSpline (NF.realX e) c uw uh ud false x with
  | .ok r => r.2
  | .error _ => 0

variable {e}
variable {c : RQCfg} {uw uh ud : List ℝ}

theorem cw_facts (hv : RQValid e c uw uh ud) :
    (cw e c uw).length = uw.length + 1 ∧ (cw e c uw).head? = some (e c.box.left) ∧
    (cw e c uw).getLast? = some (e c.box.right) ∧ (cw e c uw).Pairwise (· < ·) :=
  SplineExec.rqKnots_flooredSoftmax e c.box.left c.box.right c.minW uw hv.hK hv.hmW0 hv.hcW hv.hmWK hv.hlr hv.hdlr

theorem ch_facts (hv : RQValid e c uw uh ud) :
    (ch e c uh).length = uw.length + 1 ∧ (ch e c uh).head? = some (e c.box.bottom) ∧
    (ch e c uh).getLast? = some (e c.box.top) ∧ (ch e c uh).Pairwise (· < ·) := by
  have huh : uh ≠ [] := fun h => hv.hK (List.length_eq_zero_iff.mp (by rw [← hv.hlenh, h, List.length_nil]))
  have := SplineExec.rqKnots_flooredSoftmax e c.box.bottom c.box.top c.minH uh huh hv.hmH0 hv.hcH hv.hmHK hv.hbt hv.hdbt
  rwa [hv.hlenh] at this

theorem xs_strict (hv : RQValid e c uw uh ud) : ∀ k < uw.length, xs e c uw k < xs e c uw (k+1) := by
  intro k hk
  obtain ⟨hlen, _, _, hp⟩ := cw_facts hv
  exact SplineExec.pairwise_getD_lt _ hp k (by omega)

theorem ys_strict (hv : RQValid e c uw uh ud) : ∀ k < uw.length, ys e c uh k < ys e c uh (k+1) := by
  intro k hk
  obtain ⟨hlen, _, _, hp⟩ := ch_facts hv
  exact SplineExec.pairwise_getD_lt _ hp k (by omega)

theorem xs_zero (hv : RQValid e c uw uh ud) : xs e c uw 0 = e c.box.left := SplineExec.head_getD _ _ (cw_facts hv).2.1
theorem xs_last (hv : RQValid e c uw uh ud) : xs e c uw uw.length = e c.box.right :=
  SplineExec.last_getD _ _ _ (cw_facts hv).1 (cw_facts hv).2.2.1
theorem ys_zero (hv : RQValid e c uw uh ud) : ys e c uh 0 = e c.box.bottom := SplineExec.head_getD _ _ (ch_facts hv).2.1
theorem ys_last (hv : RQValid e c uw uh ud) : ys e c uh uw.length = e c.box.top :=
  SplineExec.last_getD _ _ _ (ch_facts hv).1 (ch_facts hv).2.2.1

/-- knot derivatives are positive: `min_derivative + softplus(β·u)/β` with `0 ≤ min_derivative`, `0 < β` -/
theorem ds_pos (hv : RQValid e c uw uh ud) : ∀ k < uw.length + 1, 0 < ds e c ud k := by
  intro k hk
  have hlen : (dv e c ud).length = uw.length + 1 := by simp [dv, hv.hlend]
  have hkud : k < ud.length := by rw [hv.hlend]; exact hk
  unfold ds
  rw [← SplineExec.getElem_eq_getD _ k (by omega)]
  simp only [dv, List.getElem_map, NF.realX_add, NF.realX_ofFloat]
  have hb := hv.hbeta
  have hsp : 0 < (NF.realX e).softplusB (e c.beta) ud[k] := by
    unfold XOps.softplusB
    simp only [NF.realX_mul, NF.realX_lt, NF.realX_ofRat, NF.realX_div, NF.realX_log1p, NF.realX_exp]
    split
    · rename_i h
      have h' : (20:ℝ) < e c.beta * ud[k] := by simpa using h
      by_contra hneg
      have : e c.beta * ud[k] ≤ 0 := mul_nonpos_of_nonneg_of_nonpos hb.le (not_lt.mp hneg)
      linarith
    · apply div_pos _ hb
      apply Real.log_pos
      linarith [Real.exp_pos (e c.beta * ud[k])]
  linarith [hv.hminD]

theorem search_spec (hv : RQValid e c uw uh ud) :
    ExecGlue.SearchSpec (xs e c uw) uw.length (idx e c uw) ∧
    ∀ x, e c.box.left ≤ x → x ≤ e c.box.right →
      searchsortedG (NF.realX e) c.eps (cw e c uw) x = ((idx e c uw x : ℕ) : Int) :=
  SplineTotal.search_spec_list e c.eps hv.heps (cw e c uw) uw.length _ _ (List.length_pos_of_ne_nil hv.hK) (cw_facts hv)

/-- **the program after its guards, search and gathers**, in either direction: once the search over the knots of that
    direction has returned an in-range index `i`, the result is the closed forms evaluated in bin `i`'s environment
    (the inverse direction first asserts the sign of the discriminant) -/
theorem rqSpline_of_index (inverse : Bool) (x : ℝ) (i : ℕ)
    (hgW : ¬ (c.minW * uw.length.toFloat > 1.0)) (hgH : ¬ (c.minH * uw.length.toFloat > 1.0))
    (hlo : e (if inverse then c.box.bottom else c.box.left) ≤ x) (hhi : x ≤ e (if inverse then c.box.top else c.box.right))
    (hcw : (cw e c uw).length = uw.length + 1) (hch : (ch e c uh).length = uw.length + 1) (hud : ud.length = uw.length + 1)
    (hi : searchsortedG (NF.realX e) c.eps (if inverse then ch e c uh else cw e c uw) x = (i : Int)) (hiK : i < uw.length) :
    rqSpline (NF.realX e) c uw uh ud inverse x =
      if inverse then
        if 0 ≤ evalR (env e c uw uh ud i x) rqDiscE then
          .ok (evalR (env e c uw uh ud i x) rqRootE * (xs e c uw (i+1) - xs e c uw i) + xs e c uw i,
               - evalR (env e c uw uh ud i (evalR (env e c uw uh ud i x) rqRootE)) rqLdThetaE)
        else .error .assertion
      else .ok (binVal e c uw uh ud i x, binLd e c uw uh ud i x) := by
  have hwlen : (diffsG (NF.realX e) (cw e c uw)).length = uw.length := by rw [SplineTotal.diffsG_length, hcw]; rfl
  have hhlen : (diffsG (NF.realX e) (ch e c uh)).length = uw.length := by rw [SplineTotal.diffsG_length, hch]; rfl
  have hdl : (dv e c ud).length = uw.length + 1 := by rw [dv, List.length_map, hud]
  rw [SplineTotal.rqSpline_of_search (NF.realX e) c uw uh ud inverse x (cw := cw e c uw)
    (wd := diffsG (NF.realX e) (cw e c uw)) (ch := ch e c uh) (ht := diffsG (NF.realX e) (ch e c uh)) rfl rfl
    (rfl : _ = dv e c ud) (decide_eq_false (not_lt.mpr hlo)) (decide_eq_false (not_lt.mpr hhi)) hgW hgH hi
    (SplineTotal.getI_getD _ i (by omega)) (SplineTotal.getI_getD _ i (by omega)) (SplineTotal.getI_getD _ i (by omega))
    (SplineTotal.getI_getD _ i (by omega)) (SplineTotal.getI_getD _ i (by omega))
    (SplineTotal.getI_getD _ (i + 1) (by omega)),
    SplineExec.diffsG_getD e (cw e c uw) i (by omega), SplineExec.diffsG_getD e (ch e c uh) i (by omega)]
  -- the gathered environment is `env … i` by definition; what is left is to read `realX` as the reals
  simp only [SplineExec.evalX_eq_evalR, XOps.ge, NF.realX_le, NF.realX_zero, NF.realX_add, NF.realX_mul, NF.realX_neg,
    decide_eq_true_eq]
  rfl

theorem exec_eq_bin (hv : RQValid e c uw uh ud) (x : ℝ) (hx0 : e c.box.left ≤ x) (hx1 : x ≤ e c.box.right) :
    rqSpline (NF.realX e) c uw uh ud false x
      = .ok (binVal e c uw uh ud (idx e c uw x) x, binLd e c uw uh ud (idx e c uw x) x) := by
  obtain ⟨hspec, hsearch⟩ := search_spec hv
  obtain ⟨hiK, _, _⟩ := hspec x (by rw [xs_zero hv]; exact hx0) (by rw [xs_last hv]; exact hx1)
  exact rqSpline_of_index false x _ hv.hgW hv.hgH hx0 hx1 (cw_facts hv).1 (ch_facts hv).1 hv.hlend (hsearch x hx0 hx1) hiK

theorem val_eq (hv : RQValid e c uw uh ud) (x : ℝ) (hx0 : e c.box.left ≤ x) (hx1 : x ≤ e c.box.right) :
    val e c uw uh ud x = binVal e c uw uh ud (idx e c uw x) x := by
  unfold val; rw [exec_eq_bin hv x hx0 hx1]

theorem ld_eq (hv : RQValid e c uw uh ud) (x : ℝ) (hx0 : e c.box.left ≤ x) (hx1 : x ≤ e c.box.right) :
    ld e c uw uh ud x = binLd e c uw uh ud (idx e c uw x) x := by
  unfold ld; rw [exec_eq_bin hv x hx0 hx1]

theorem bin_data_pos (hv : RQValid e c uw uh ud) (k : ℕ) (hk : k < uw.length) :
    0 < xs e c uw (k+1) - xs e c uw k ∧ 0 < ys e c uh (k+1) - ys e c uh k ∧ 0 < ds e c ud k ∧ 0 < ds e c ud (k+1) :=
  ⟨sub_pos.2 (xs_strict hv k hk), sub_pos.2 (ys_strict hv k hk), ds_pos hv k (Nat.lt_succ_of_lt hk),
    ds_pos hv (k+1) (Nat.succ_lt_succ hk)⟩

theorem bin_strictMonoOn (hv : RQValid e c uw uh ud) (k : ℕ) (hk : k < uw.length) :
    StrictMonoOn (binVal e c uw uh ud k) (Set.Icc (xs e c uw k) (xs e c uw (k+1))) := by
  obtain ⟨hw, hh, h0, h1⟩ := bin_data_pos hv k hk
  have := RQBin.rq_executed_strictMonoOn (xk := xs e c uw k) (yk := ys e c uh k) hw hh h0 h1
  have hr : xs e c uw k + (xs e c uw (k+1) - xs e c uw k) = xs e c uw (k+1) := by ring
  rw [hr] at this
  exact this

theorem bin_endpoints (hv : RQValid e c uw uh ud) (k : ℕ) (hk : k < uw.length) :
    binVal e c uw uh ud k (xs e c uw k) = ys e c uh k ∧ binVal e c uw uh ud k (xs e c uw (k+1)) = ys e c uh (k+1) := by
  obtain ⟨hw, hh, _, _⟩ := bin_data_pos hv k hk
  have := RQBin.rq_executed_endpoints (xk := xs e c uw k) (yk := ys e c uh k)
    (d0 := ds e c ud k) (d1 := ds e c ud (k+1)) hw hh
  have hr : xs e c uw k + (xs e c uw (k+1) - xs e c uw k) = xs e c uw (k+1) := by ring
  have hr' : ys e c uh k + (ys e c uh (k+1) - ys e c uh k) = ys e c uh (k+1) := by ring
  rw [hr, hr'] at this
  exact this

theorem bin_hasDerivAt (hv : RQValid e c uw uh ud) (k : ℕ) (hk : k < uw.length) (x : ℝ)
    (h0 : xs e c uw k ≤ x) (h1 : x ≤ xs e c uw (k+1)) :
    HasDerivAt (binVal e c uw uh ud k) (Real.exp (binLd e c uw uh ud k x)) x := by
  obtain ⟨hw, hh, hd0, hd1⟩ := bin_data_pos hv k hk
  exact RQBin.rq_executed_logdet (xk := xs e c uw k) (yk := ys e c uh k) (x := x) hw hh hd0 hd1 h0
    (h1.trans_eq (add_sub_cancel _ _).symm)

theorem searched (hv : RQValid e c uw uh ud) :
    ExecGlue.Searched uw.length (xs e c uw) (ys e c uh) (e c.box.left) (e c.box.right) (e c.box.bottom) (e c.box.top)
      (binVal e c uw uh ud) (idx e c uw) (val e c uw uh ud) where
  pos := List.length_pos_of_ne_nil hv.hK
  x0 := xs_zero hv
  xK := xs_last hv
  y0 := ys_zero hv
  yK := ys_last hv
  xs_strict := xs_strict hv
  spec := (search_spec hv).1
  eq := val_eq hv
  left := fun k hk => (bin_endpoints hv k hk).1
  right := fun k hk => (bin_endpoints hv k hk).2
  mono := bin_strictMonoOn hv

/-! ### at the knots: a bin's log-abs-det formula at its two ends is the log of the two knot derivatives -/

theorem dnum_den_one (s d0 d1 : ℝ) (hs : s ≠ 0) : RQ.dnum s d0 d1 1 / RQ.den s d0 d1 1 ^ 2 = d1 := by
  have hd : RQ.den s d0 d1 1 = s := by unfold RQ.den; ring
  have hn : RQ.dnum s d0 d1 1 = s ^ 2 * d1 := by unfold RQ.dnum; ring
  rw [hd, hn]; field_simp

theorem dnum_den_zero (s d0 d1 : ℝ) (hs : s ≠ 0) : RQ.dnum s d0 d1 0 / RQ.den s d0 d1 0 ^ 2 = d0 := by
  have hd : RQ.den s d0 d1 0 = s := by unfold RQ.den; ring
  have hn : RQ.dnum s d0 d1 0 = s ^ 2 * d0 := by unfold RQ.dnum; ring
  rw [hd, hn]; field_simp

theorem exp_binLd_right (hv : RQValid e c uw uh ud) (k : ℕ) (hk : k < uw.length) :
    Real.exp (binLd e c uw uh ud k (xs e c uw (k+1))) = ds e c ud (k+1) := by
  obtain ⟨hw, hh, h0, h1⟩ := bin_data_pos hv k hk
  have hs : 0 < (ys e c uh (k+1) - ys e c uh k) / (xs e c uw (k+1) - xs e c uw k) := div_pos hh hw
  unfold binLd env
  rw [Bridge.rqFwdLdE_eq, div_self hw.ne', RQ.logdet_eq hs h0 h1 zero_le_one le_rfl,
    Real.exp_log (div_pos (RQ.dnum_pos hs h0 h1 zero_le_one le_rfl) (pow_pos (RQ.den_pos hs h0 h1 zero_le_one le_rfl) 2))]
  exact dnum_den_one _ _ _ hs.ne'

theorem exp_binLd_left (hv : RQValid e c uw uh ud) (k : ℕ) (hk : k < uw.length) :
    Real.exp (binLd e c uw uh ud k (xs e c uw k)) = ds e c ud k := by
  obtain ⟨hw, hh, h0, h1⟩ := bin_data_pos hv k hk
  have hs : 0 < (ys e c uh (k+1) - ys e c uh k) / (xs e c uw (k+1) - xs e c uw k) := div_pos hh hw
  unfold binLd env
  rw [Bridge.rqFwdLdE_eq, sub_self, zero_div, RQ.logdet_eq hs h0 h1 le_rfl zero_le_one,
    Real.exp_log (div_pos (RQ.dnum_pos hs h0 h1 le_rfl zero_le_one) (pow_pos (RQ.den_pos hs h0 h1 le_rfl zero_le_one) 2))]
  exact dnum_den_zero _ _ _ hs.ne'

/-- **C01 on the whole open box**: at EVERY `x ∈ (left, right)` — inside bins and at interior knots, where both
    neighbouring log-abs-det formulas are the log of the same knot derivative — the derivative of the executed value is
    `exp` of the executed log-abs-det -/
theorem val_hasDerivAt_all (hv : RQValid e c uw uh ud) (x : ℝ) (hx0 : e c.box.left < x) (hx1 : x < e c.box.right) :
    HasDerivAt (val e c uw uh ud) (Real.exp (ld e c uw uh ud x)) x :=
  (searched hv).hasDerivAt_all (ld_eq hv) (bin_hasDerivAt hv)
    (fun k hk => Real.exp_injective
      ((exp_binLd_right hv k (Nat.lt_of_succ_lt hk)).trans (exp_binLd_left hv (k+1) hk).symm)) x hx0 hx1

theorem val_hasDerivAt (hv : RQValid e c uw uh ud) (k : ℕ) (hk : k < uw.length) (x : ℝ)
    (h0 : xs e c uw k < x) (h1 : x < xs e c uw (k+1)) :
    HasDerivAt (val e c uw uh ud) (Real.exp (ld e c uw uh ud x)) x :=
  val_hasDerivAt_all hv x ((searched hv).open_bin_subset k hk ⟨h0, h1⟩).1 ((searched hv).open_bin_subset k hk ⟨h0, h1⟩).2

theorem val_hasDerivWithinAt_Ici (hv : RQValid e c uw uh ud) (k : ℕ) (hk : k < uw.length) :
    HasDerivWithinAt (val e c uw uh ud) (ds e c ud k) (Set.Ici (xs e c uw k)) (xs e c uw k) := by
  have := (searched hv).hasDerivWithinAt_Ici k hk (bin_hasDerivAt hv k hk _ le_rfl (xs_strict hv k hk).le)
  rwa [exp_binLd_left hv k hk] at this

theorem val_hasDerivWithinAt_Iic (hv : RQValid e c uw uh ud) (k : ℕ) (hk : k < uw.length) :
    HasDerivWithinAt (val e c uw uh ud) (ds e c ud (k+1)) (Set.Iic (xs e c uw (k+1))) (xs e c uw (k+1)) := by
  have := (searched hv).hasDerivWithinAt_Iic k hk (bin_hasDerivAt hv k hk _ (xs_strict hv k hk).le le_rfl)
  rwa [exp_binLd_right hv k hk] at this

theorem exp_ld_knot (hv : RQValid e c uw uh ud) (k : ℕ) (hk : k < uw.length) :
    Real.exp (ld e c uw uh ud (xs e c uw k)) = ds e c ud k := by
  have hmem := (searched hv).knot_mem k hk.le
  rw [ld_eq hv _ hmem.1 hmem.2, (searched hv).idx_eq k hk _ le_rfl (xs_strict hv k hk), exp_binLd_left hv k hk]

theorem exp_ld_right_end (hv : RQValid e c uw uh ud) :
    Real.exp (ld e c uw uh ud (e c.box.right)) = ds e c ud uw.length := by
  obtain ⟨n, hn⟩ : ∃ n, uw.length = n + 1 := Nat.exists_eq_succ_of_ne_zero (List.length_pos_of_ne_nil hv.hK).ne'
  have hidx : idx e c uw (xs e c uw uw.length) = n :=
    ExecGlue.idx_unique (xs e c uw) uw.length (idx e c uw) (xs_strict hv) (search_spec hv).1 n (by omega) _
      (hn ▸ (xs_strict hv n (by omega)).le) (Or.inr ⟨hn.symm, rfl⟩)
  have h := exp_binLd_right hv n (by omega)
  rw [← xs_last hv, ld_eq hv _ ((xs_last hv).symm ▸ hv.hlr.le) (xs_last hv).le, hidx, hn, h]

/-! ### non-vacuity: a concrete accepted configuration (one bin on the unit box) with a concrete reading of the doubles -/

/- `eNV` the two-valued reading (`0.0 ↦ 0`, every other double `↦ 1`); `cNV` the unit box with zero floors -/
def eNV (f : Float) : ℝ := if f == 0.0 then 0 else 1
def cNV : RQCfg := { box := ⟨0.0, 1.0, 0.0, 1.0⟩, minW := 0.0, minH := 0.0, minD := 0.0 }

theorem eNV_zero : eNV 0.0 = 0 := if_pos FloatFacts.zero_beq_zero
theorem eNV_of_ne {f : Float} (h : (f == 0.0) = false) : eNV f = 1 := if_neg (ne_true_of_eq_false h)

theorem valid_example : RQValid eNV cNV [0] [0] [0, 0] := by
  have h1 : eNV 1.0 = 1 := eNV_of_ne FloatFacts.one_beq_zero
  have hc : eNV (1 - 0.0 * (1:Nat).toFloat) = 1 - eNV 0.0 * ((1:ℕ):ℝ) := by
    rw [FloatFacts.floor_one_eq, h1, eNV_zero, zero_mul, sub_zero]
  have hK : eNV 0.0 * ((1:ℕ):ℝ) ≤ 1 := by rw [eNV_zero, zero_mul]; exact zero_le_one
  have hlt : eNV 0.0 < eNV 1.0 := by rw [eNV_zero, h1]; exact zero_lt_one
  have hd : eNV (1.0 - 0.0) = eNV 1.0 - eNV 0.0 := by rw [FloatFacts.one_sub_zero_eq, eNV_zero, sub_zero]
  exact
    { hK := List.cons_ne_nil _ _, hlenh := rfl, hlend := rfl, hgW := FloatFacts.guard_one, hgH := FloatFacts.guard_one,
      hmW0 := eNV_zero.ge, hcW := hc, hmWK := hK, hmH0 := eNV_zero.ge, hcH := hc, hmHK := hK,
      hlr := hlt, hdlr := hd, hbt := hlt, hdbt := hd,
      heps := lt_of_lt_of_eq one_pos (eNV_of_ne FloatFacts.eps_beq_zero).symm,
      hminD := eNV_zero.ge, hbeta := lt_of_lt_of_eq one_pos h1.symm }

end
end RQWhole

/-- in-domain totality of the executed forward program, with the hypotheses of `RQWhole.RQValid` written out; those on
    `minD` and `beta` are not among them: no gather depends on the values of the knot derivatives -/
theorem SplineTotal.rq_forward_total (e : Float → ℝ) (c : RQCfg) (uw uh ud : List ℝ) (x : ℝ)
    (hK : uw ≠ []) (hlenh : uh.length = uw.length) (hlend : ud.length = uw.length + 1)
    (hgW : ¬ (c.minW * uw.length.toFloat > 1.0)) (hgH : ¬ (c.minH * uw.length.toFloat > 1.0))
    (hmW0 : 0 ≤ e c.minW) (hcW : e (1 - c.minW * uw.length.toFloat) = 1 - e c.minW * uw.length) (hmWK : e c.minW * uw.length ≤ 1)
    (hmH0 : 0 ≤ e c.minH) (hcH : e (1 - c.minH * uh.length.toFloat) = 1 - e c.minH * uh.length) (hmHK : e c.minH * uh.length ≤ 1)
    (hlr : e c.box.left < e c.box.right) (hdlr : e (c.box.right - c.box.left) = e c.box.right - e c.box.left)
    (hbt : e c.box.bottom < e c.box.top) (hdbt : e (c.box.top - c.box.bottom) = e c.box.top - e c.box.bottom)
    (heps : 0 < e c.eps) (hx0 : e c.box.left ≤ x) (hx1 : x ≤ e c.box.right) :
    ∃ r, rqSpline (NF.realX e) c uw uh ud false x = .ok r := by
  have huh : uh ≠ [] := fun h => hK (List.length_eq_zero_iff.mp (by rw [← hlenh, h, List.length_nil]))
  obtain ⟨hlen, hhead, hlast, hp⟩ :=
    SplineExec.rqKnots_flooredSoftmax e c.box.left c.box.right c.minW uw hK hmW0 hcW hmWK hlr hdlr
  have hch := (SplineExec.rqKnots_flooredSoftmax e c.box.bottom c.box.top c.minH uh huh hmH0 hcH hmHK hbt hdbt).1
  obtain ⟨hspec, hsearch⟩ := SplineTotal.search_spec_list e c.eps heps _ uw.length _ _ (List.length_pos_of_ne_nil hK)
    ⟨hlen, hhead, hlast, hp⟩
  obtain ⟨hiK, _, _⟩ := hspec x ((SplineExec.head_getD _ _ hhead).trans_le hx0)
    (hx1.trans_eq (SplineExec.last_getD _ _ _ hlen hlast).symm)
  exact ⟨_, RQWhole.rqSpline_of_index false x _ hgW hgH hx0 hx1 hlen (hlenh ▸ hch) hlend (hsearch x hx0 hx1) hiK⟩
