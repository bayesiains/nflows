import NflowsModel.Lemmas.RoundCompose
import Mathlib.Algebra.Order.Round
import Mathlib.Algebra.Order.Floor.Ring
import Mathlib.Data.Int.Log
import Mathlib.Analysis.SpecialFunctions.Log.Base
import Mathlib.Tactic
/-!
# Lemmas/RoundNearest — a concrete model of the standard model: round-to-nearest(-even) to `p` significant bits (C19)

`RoundModel.Rnd u r` asks `|r x - x| ≤ u |x|` for EVERY real `x`; no bounded-exponent format satisfies it (overflow,
underflow).  This file supplies the genuine rounding that does, and proves that IEEE-754 rounding coincides with it on
the normal range, so that the trusted sentence of C19 becomes "the hardware conforms to IEEE 754 and no intermediate
result leaves the normal range" and nothing else.

* `NearestOn S r` `r` picks, for every real, a point of `S` nearest to it; such a map fixes `S`, is monotone and stays between
                  bracketing points of `S`.  Used at `S = ℤ` (the integer roundings) and `S = F p` (`flW_nearestOn`).
* `F p`           the format: `0` and all `± m · 2^k`, `2^(p-1) ≤ m < 2^p`, `k : ℤ` (unbounded exponent).
* `expo p a`      `= ⌊log₂ a⌋ - (p-1)` (`expo_eq_floor_logb`; defined with `Int.log 2`), so `2^(p-1) ≤ a/2^e < 2^p`.
* `flW ρ p x`     `= sign x · ρ(|x| / 2^e) · 2^e`, `e = expo p |x|`, for an integer rounding `ρ : ℝ → ℤ` with
                  `IntRnd ρ` (`|ρ t - t| ≤ 1/2`, monotone).  The tie rule lives in `ρ` only and acts on the MAGNITUDE.
* `fl p`          `= flW roundEven p`: **ties to even** (`roundEven`: nearest integer, the even one at `.5`).
* `flA p`         `= flW round p`: Mathlib's `round` (`round t = ⌊t + 1/2⌋`, ties UP) on the magnitude = ties away
                  from zero.
All results are proved for every `IntRnd ρ` (`flW_*`) and restated for `fl` (`fl_*`): `fl p` satisfies `Rnd (2^-p)` at
every real, is idempotent, monotone, odd, returns a nearest point of `F p`, and is the only map onto `F p` that is
nearest with ties to even; on the normal range of a bounded format any value meeting the IEEE `roundTiesToEven`
specification equals `fl p x`.
-/

namespace RoundNearest
noncomputable section
open NF RoundModel

/-! ## nearest-point selections onto a set of reals -/

structure NearestOn (S : Set ℝ) (r : ℝ → ℝ) : Prop where
  mem : ∀ x, r x ∈ S
  le : ∀ x, ∀ y ∈ S, |r x - x| ≤ |y - x|

theorem midpoint_le_of_closer {a b x : ℝ} (hab : a < b) (h : |b - x| ≤ |a - x|) : a + b ≤ 2 * x := by
  rcases abs_cases (a - x) with ⟨e, _⟩ | ⟨e, _⟩ <;> linarith [le_abs_self (b - x)]

theorem le_midpoint_of_closer {a b x : ℝ} (hab : a < b) (h : |a - x| ≤ |b - x|) : 2 * x ≤ a + b := by
  rcases abs_cases (b - x) with ⟨e, _⟩ | ⟨e, _⟩ <;> linarith [neg_abs_le (a - x)]

namespace NearestOn
variable {S : Set ℝ} {r : ℝ → ℝ} (h : NearestOn S r)
include h

theorem of_mem {x : ℝ} (hx : x ∈ S) : r x = x := by
  have := h.le x x hx
  rw [sub_self, abs_zero] at this
  exact sub_eq_zero.mp (abs_nonpos_iff.mp this)

/-- were `r y < r x` for `x ≤ y`, `x` would lie beyond the midpoint of the two values and `y` before it -/
theorem mono : Monotone r := fun x y hxy => by
  by_contra hlt
  have hlt := not_le.mp hlt
  have h1 := midpoint_le_of_closer hlt (h.le x _ (h.mem y))
  have h2 := le_midpoint_of_closer hlt (h.le y _ (h.mem x))
  obtain rfl : x = y := le_antisymm hxy (by linarith)
  exact lt_irrefl _ hlt

theorem mem_Icc {a b x : ℝ} (ha : a ∈ S) (hb : b ∈ S) (hx : x ∈ Set.Icc a b) : r x ∈ Set.Icc a b :=
  ⟨h.of_mem ha ▸ h.mono hx.1, h.of_mem hb ▸ h.mono hx.2⟩

end NearestOn

/-! ## integer roundings -/

/-- `mono` is a consequence of `err` (`IntRnd.of_err`), kept as a field for direct use. -/
structure IntRnd (ρ : ℝ → ℤ) : Prop where
  err : ∀ x, |(ρ x : ℝ) - x| ≤ 1 / 2
  mono : Monotone ρ

variable {ρ : ℝ → ℤ}

/-- any other integer is at distance `≥ 1` from `ρ x` -/
theorem int_nearest_of_err (herr : ∀ x, |(ρ x : ℝ) - x| ≤ 1 / 2) (x : ℝ) (z : ℤ) : |(ρ x : ℝ) - x| ≤ |(z : ℝ) - x| := by
  by_cases hz : z = ρ x
  · rw [hz]
  · have h1 : (1 : ℝ) ≤ |(z : ℝ) - ρ x| := by
      have : (1 : ℤ) ≤ |z - ρ x| := Int.one_le_abs (sub_ne_zero.mpr hz)
      exact_mod_cast this
    have h2 := herr x
    have h3 := abs_sub_le (z : ℝ) x (ρ x)
    rw [abs_sub_comm x] at h3
    linarith

theorem nearestOn_int (herr : ∀ x, |(ρ x : ℝ) - x| ≤ 1 / 2) :
    NearestOn (Set.range ((↑) : ℤ → ℝ)) fun x => (ρ x : ℝ) where
  mem x := ⟨ρ x, rfl⟩
  le x := by rintro _ ⟨z, rfl⟩; exact int_nearest_of_err herr x z

theorem IntRnd.of_err (herr : ∀ x, |(ρ x : ℝ) - x| ≤ 1 / 2) : IntRnd ρ :=
  ⟨herr, fun _ _ hxy => Int.cast_le.mp ((nearestOn_int herr).mono hxy)⟩

theorem IntRnd.int (h : IntRnd ρ) (z : ℤ) : ρ z = z :=
  Int.cast_injective ((nearestOn_int h.err).of_mem ⟨z, rfl⟩)

theorem IntRnd.nearest (h : IntRnd ρ) (x : ℝ) (z : ℤ) : |(ρ x : ℝ) - x| ≤ |(z : ℝ) - x| :=
  int_nearest_of_err h.err x z

theorem intRnd_round : IntRnd (round : ℝ → ℤ) :=
  .of_err fun x => by
    rw [abs_sub_comm]
    exact abs_sub_round x

/-! ## the exponent of a positive real at precision `p` -/

/-- the exponent `e` with `2^(p-1) ≤ a / 2^e < 2^p` -/
def expo (p : ℕ) (a : ℝ) : ℤ := Int.log 2 a - ((p : ℤ) - 1)

theorem expo_eq_floor_logb (p : ℕ) {a : ℝ} (ha : 0 ≤ a) : expo p a = ⌊Real.logb 2 a⌋ - ((p : ℤ) - 1) := by
  unfold expo
  have := Real.floor_logb_natCast (b := 2) ha
  rw [← this]
  norm_num

theorem zpow_expo_le (p : ℕ) {a : ℝ} (ha : 0 < a) : (2 : ℝ) ^ (expo p a + ((p : ℤ) - 1)) ≤ a := by
  have := Int.zpow_log_le_self (b := 2) one_lt_two ha
  unfold expo
  rw [sub_add_cancel]
  exact_mod_cast this

theorem lt_zpow_expo (p : ℕ) (a : ℝ) : a < (2 : ℝ) ^ (expo p a + (p : ℤ)) := by
  have := Int.lt_zpow_succ_log_self (b := 2) one_lt_two a
  unfold expo
  have e : Int.log 2 a - ((p : ℤ) - 1) + (p : ℤ) = Int.log 2 a + 1 := by ring
  rw [e]
  exact_mod_cast this

theorem two_zpow_add_nat (e : ℤ) (n : ℕ) : (2 : ℝ) ^ (e + (n : ℤ)) = 2 ^ n * 2 ^ e := by
  rw [add_comm, zpow_add₀ two_ne_zero, zpow_natCast]

theorem two_zpow_add_pred {p : ℕ} (hp : 1 ≤ p) (e : ℤ) : (2 : ℝ) ^ (e + ((p : ℤ) - 1)) = 2 ^ (p - 1) * 2 ^ e := by
  rw [show (p : ℤ) - 1 = ((p - 1 : ℕ) : ℤ) by omega, two_zpow_add_nat]

theorem expo_le_of_lt (p : ℕ) {a : ℝ} (ha : 0 < a) {j : ℤ} (h : a < (2 : ℝ) ^ (j + (p : ℤ))) : expo p a ≤ j := by
  have h' : a < ((2 : ℕ) : ℝ) ^ (j + (p : ℤ)) := by exact_mod_cast h
  have := (Int.lt_zpow_iff_log_lt (b := 2) one_lt_two ha).mp h'
  unfold expo
  omega

theorem le_expo_of_le (p : ℕ) {a : ℝ} (ha : 0 < a) {j : ℤ} (h : (2 : ℝ) ^ (j + ((p : ℤ) - 1)) ≤ a) : j ≤ expo p a := by
  have h' : ((2 : ℕ) : ℝ) ^ (j + ((p : ℤ) - 1)) ≤ a := by exact_mod_cast h
  have := (Int.zpow_le_iff_le_log (b := 2) one_lt_two ha).mp h'
  unfold expo
  omega

theorem expo_mul_zpow {p : ℕ} (hp : 1 ≤ p) {s : ℝ} (k : ℤ) (h1 : (2 : ℝ) ^ (p - 1) ≤ s) (h2 : s < (2 : ℝ) ^ p) :
    expo p (s * 2 ^ k) = k := by
  have hk : (0 : ℝ) < 2 ^ k := zpow_pos two_pos k
  have ha : (0 : ℝ) < s * 2 ^ k := mul_pos (lt_of_lt_of_le (by positivity) h1) hk
  apply le_antisymm
  · apply expo_le_of_lt p ha
    rw [two_zpow_add_nat]
    exact mul_lt_mul_of_pos_right h2 hk
  · apply le_expo_of_le p ha
    rw [two_zpow_add_pred hp]
    exact mul_le_mul_of_nonneg_right h1 hk.le

theorem sig_ge (p : ℕ) {a : ℝ} (ha : 0 < a) : (2 : ℝ) ^ ((p : ℤ) - 1) ≤ a / 2 ^ expo p a := by
  have h := zpow_expo_le p ha
  rw [zpow_add₀ (by norm_num)] at h
  rw [le_div_iff₀ (by positivity)]
  linarith

theorem sig_lt (p : ℕ) (a : ℝ) : a / 2 ^ expo p a < (2 : ℝ) ^ (p : ℤ) := by
  have h := lt_zpow_expo p a
  rw [zpow_add₀ (by norm_num)] at h
  rw [div_lt_iff₀ (by positivity)]
  linarith

/-! ## rounding to `p` significant bits -/

def flAbs (ρ : ℝ → ℤ) (p : ℕ) (a : ℝ) : ℝ := (ρ (a / 2 ^ expo p a) : ℝ) * 2 ^ expo p a

def flW (ρ : ℝ → ℤ) (p : ℕ) (x : ℝ) : ℝ := if 0 ≤ x then flAbs ρ p x else -flAbs ρ p (-x)

theorem flAbs_zero (hρ : IntRnd ρ) (p : ℕ) : flAbs ρ p 0 = 0 := by
  have := hρ.int 0
  simp only [Int.cast_zero] at this
  simp [flAbs, this]

theorem abs_mul_zpow_sub (c a : ℝ) (e : ℤ) : |c * 2 ^ e - a| = |c - a / 2 ^ e| * 2 ^ e := by
  have hpos : (0 : ℝ) < 2 ^ e := by positivity
  rw [show c * 2 ^ e - a = (c - a / 2 ^ e) * 2 ^ e by field_simp, abs_mul, abs_of_pos hpos]

theorem flAbs_err (hρ : IntRnd ρ) (p : ℕ) {a : ℝ} (ha : 0 ≤ a) :
    |flAbs ρ p a - a| ≤ (2 : ℝ) ^ (-(p : ℤ)) * a := by
  rcases ha.eq_or_lt with rfl | ha
  · simp [flAbs_zero hρ]
  have hL := zpow_expo_le p ha
  unfold flAbs
  rw [abs_mul_zpow_sub]
  generalize expo p a = e at hL ⊢
  have h3 : (2 : ℝ) ^ e = 2 * ((2 : ℝ) ^ (-(p : ℤ)) * 2 ^ (e + ((p : ℤ) - 1))) := by
    rw [← zpow_add₀ (by norm_num), ← zpow_one_add₀ (by norm_num)]
    congr 1
    ring
  calc |(ρ (a / 2 ^ e) : ℝ) - a / 2 ^ e| * 2 ^ e ≤ 1 / 2 * 2 ^ e :=
        mul_le_mul_of_nonneg_right (hρ.err _) (by positivity)
    _ = 2 ^ (-(p : ℤ)) * 2 ^ (e + ((p : ℤ) - 1)) := by rw [h3]; ring
    _ ≤ 2 ^ (-(p : ℤ)) * a := mul_le_mul_of_nonneg_left hL (by positivity)

theorem flAbs_nonneg (hρ : IntRnd ρ) (p : ℕ) {a : ℝ} (ha : 0 ≤ a) : 0 ≤ flAbs ρ p a := by
  unfold flAbs
  have : (0 : ℤ) ≤ ρ (a / 2 ^ expo p a) := by
    have := hρ.mono (show (((0 : ℤ) : ℝ)) ≤ a / 2 ^ expo p a by simp; positivity)
    rwa [hρ.int] at this
  have : (0 : ℝ) ≤ (ρ (a / 2 ^ expo p a) : ℝ) := by exact_mod_cast this
  positivity

theorem flW_of_nonneg (ρ : ℝ → ℤ) (p : ℕ) {x : ℝ} (hx : 0 ≤ x) : flW ρ p x = flAbs ρ p x := if_pos hx

theorem flW_zero (hρ : IntRnd ρ) (p : ℕ) : flW ρ p 0 = 0 := by simp [flW, flAbs_zero hρ]

theorem flW_neg (hρ : IntRnd ρ) (p : ℕ) (x : ℝ) : flW ρ p (-x) = -flW ρ p x := by
  unfold flW
  rcases lt_trichotomy x 0 with hx | hx | hx
  · rw [if_pos (by linarith), if_neg (by linarith), neg_neg]
  · subst hx; simp [flAbs_zero hρ]
  · rw [if_neg (by linarith), if_pos hx.le, neg_neg]

theorem flW_of_nonpos (hρ : IntRnd ρ) (p : ℕ) {x : ℝ} (hx : x ≤ 0) : flW ρ p x = -flAbs ρ p (-x) := by
  rw [← neg_neg x, flW_neg hρ, flW_of_nonneg ρ p (neg_nonneg.mpr hx), neg_neg]

theorem abs_flW (hρ : IntRnd ρ) (p : ℕ) (x : ℝ) : |flW ρ p x| = flW ρ p |x| := by
  rw [flW_of_nonneg ρ p (abs_nonneg x)]
  rcases le_total 0 x with h | h
  · rw [abs_of_nonneg h, flW_of_nonneg ρ p h, abs_of_nonneg (flAbs_nonneg hρ p h)]
  · rw [abs_of_nonpos h, flW_of_nonpos hρ p h, abs_neg, abs_of_nonneg (flAbs_nonneg hρ p (neg_nonneg.mpr h))]

theorem abs_flW_sub (hρ : IntRnd ρ) (p : ℕ) (x : ℝ) : |flW ρ p x - x| = abs (flAbs ρ p |x| - |x|) := by
  rcases le_total 0 x with h | h
  · rw [abs_of_nonneg h, flW_of_nonneg ρ p h]
  · rw [abs_of_nonpos h, flW_of_nonpos hρ p h, ← abs_neg]
    congr 1
    ring

theorem flW_err (hρ : IntRnd ρ) (p : ℕ) (x : ℝ) : |flW ρ p x - x| ≤ (2 : ℝ) ^ (-(p : ℤ)) * |x| := by
  rw [abs_flW_sub hρ]
  exact flAbs_err hρ p (abs_nonneg x)

theorem flW_rnd (hρ : IntRnd ρ) (p : ℕ) : Rnd ((2 : ℝ) ^ (-(p : ℤ))) (flW ρ p) where
  u_nonneg := by positivity
  err := flW_err hρ p

/-! ## the format: `p`-bit significands, unbounded exponent -/

def F (p : ℕ) : Set ℝ :=
  {x | x = 0 ∨ ∃ (m : ℕ) (k : ℤ), 2 ^ (p - 1) ≤ m ∧ m < 2 ^ p ∧ |x| = (m : ℝ) * (2 : ℝ) ^ k}

theorem zero_mem_F (p : ℕ) : (0 : ℝ) ∈ F p := Or.inl rfl

theorem neg_mem_F {p : ℕ} {x : ℝ} (h : x ∈ F p) : -x ∈ F p := by
  rcases h with h | ⟨m, k, h1, h2, h3⟩
  · left; simp [h]
  · right; exact ⟨m, k, h1, h2, by rw [abs_neg]; exact h3⟩

theorem int_near_mem_Icc {t : ℝ} {z N M : ℤ} (hz : |(z : ℝ) - t| ≤ 1 / 2) (hN : (N : ℝ) ≤ t) (hM : t ≤ M) :
    N ≤ z ∧ z ≤ M := by
  rw [abs_le] at hz
  constructor
  · exact Int.sub_one_lt_iff.mp (Int.cast_lt (R := ℝ).mp (by push_cast; linarith only [hz.1, hN]))
  · exact Int.lt_add_one_iff.mp (Int.cast_lt (R := ℝ).mp (by push_cast; linarith only [hz.2, hM]))

theorem sig_mem {p : ℕ} (hp : 1 ≤ p) {a : ℝ} (ha : 0 < a) :
    (((2 : ℤ) ^ (p - 1) : ℤ) : ℝ) ≤ a / 2 ^ expo p a ∧ a / 2 ^ expo p a ≤ (((2 : ℤ) ^ p : ℤ) : ℝ) := by
  have h1 := sig_ge p ha
  rw [show (p : ℤ) - 1 = ((p - 1 : ℕ) : ℤ) by omega, zpow_natCast] at h1
  have h2 := (sig_lt p a).le
  rw [zpow_natCast] at h2
  exact ⟨by exact_mod_cast h1, by exact_mod_cast h2⟩

theorem rho_sig_bounds (hρ : IntRnd ρ) {p : ℕ} (hp : 1 ≤ p) {a : ℝ} (ha : 0 < a) :
    (2 : ℤ) ^ (p - 1) ≤ ρ (a / 2 ^ expo p a) ∧ ρ (a / 2 ^ expo p a) ≤ (2 : ℤ) ^ p :=
  int_near_mem_Icc (hρ.err _) (sig_mem hp ha).1 (sig_mem hp ha).2

theorem sig_mul_zpow_mem_F {p : ℕ} (hp : 1 ≤ p) {n : ℤ} (e : ℤ) (h1 : (2 : ℤ) ^ (p - 1) ≤ n) (h2 : n ≤ (2 : ℤ) ^ p) :
    (n : ℝ) * 2 ^ e ∈ F p := by
  right
  have hn : (0 : ℝ) < n := by exact_mod_cast lt_of_lt_of_le (by positivity) h1
  rw [abs_of_pos (by positivity)]
  rcases h2.lt_or_eq with h2 | rfl
  · -- the significand is `n` itself
    obtain ⟨m, rfl⟩ := Int.eq_ofNat_of_zero_le (le_trans (by positivity) h1)
    exact ⟨m, e, by exact_mod_cast h1, by exact_mod_cast h2, by rw [Int.cast_natCast]⟩
  · -- the upper end belongs to the next binade: `2^p · 2^e = 2^(p-1) · 2^(e+1)`
    refine ⟨2 ^ (p - 1), e + 1, le_rfl, Nat.pow_lt_pow_right (by norm_num) (by omega), ?_⟩
    have hp2 : (2 : ℝ) ^ p = 2 ^ (p - 1) * 2 := by rw [← pow_succ, Nat.sub_add_cancel hp]
    rw [zpow_add_one₀ two_ne_zero]
    push_cast
    rw [hp2]
    ring

theorem flAbs_mem (hρ : IntRnd ρ) {p : ℕ} (hp : 1 ≤ p) {a : ℝ} (ha : 0 ≤ a) : flAbs ρ p a ∈ F p := by
  rcases ha.eq_or_lt with rfl | ha
  · rw [flAbs_zero hρ]; exact zero_mem_F p
  · exact sig_mul_zpow_mem_F hp _ (rho_sig_bounds hρ hp ha).1 (rho_sig_bounds hρ hp ha).2

theorem abs_mem_F_iff {p : ℕ} {y : ℝ} : |y| ∈ F p ↔ y ∈ F p := by
  simp only [F, Set.mem_ofPred_eq, abs_abs, abs_eq_zero]

theorem flW_mem (hρ : IntRnd ρ) {p : ℕ} (hp : 1 ≤ p) (x : ℝ) : flW ρ p x ∈ F p := by
  rw [← abs_mem_F_iff, abs_flW hρ, flW_of_nonneg ρ p (abs_nonneg x)]
  exact flAbs_mem hρ hp (abs_nonneg x)

/-- write it on the grid of its own binade, where its scaled significand `|z| · 2^(j - e)` is an integer in `[2^(p-1), 2^p)` -/
theorem int_mul_zpow_mem_F {p : ℕ} (hp : 1 ≤ p) (z j : ℤ) (hz : |z| ≤ 2 ^ p) : (z : ℝ) * 2 ^ j ∈ F p := by
  rw [← abs_mem_F_iff, abs_mul, abs_of_pos (zpow_pos two_pos j : (0 : ℝ) < 2 ^ j), ← Int.cast_abs]
  have h0 := abs_nonneg z
  generalize |z| = w at hz h0
  rcases hz.lt_or_eq with hz | rfl
  · rcases h0.eq_or_lt with rfl | h0
    · rw [Int.cast_zero, zero_mul]; exact zero_mem_F p
    have hj : (0 : ℝ) < 2 ^ j := zpow_pos two_pos j
    have ha : (0 : ℝ) < (w : ℝ) * 2 ^ j := mul_pos (Int.cast_pos.mpr h0) hj
    have he : expo p ((w : ℝ) * 2 ^ j) ≤ j := expo_le_of_lt p ha (by
      rw [two_zpow_add_nat]
      exact mul_lt_mul_of_pos_right (by exact_mod_cast hz) hj)
    obtain ⟨h1, h2⟩ := sig_mem hp ha
    generalize expo p ((w : ℝ) * 2 ^ j) = e at he h1 h2
    obtain ⟨t, rfl⟩ := Int.exists_add_of_le he
    have hs : (w : ℝ) * 2 ^ (e + (t : ℤ)) = ((w * 2 ^ t : ℤ) : ℝ) * 2 ^ e := by
      rw [two_zpow_add_nat, Int.cast_mul, Int.cast_pow, Int.cast_ofNat, mul_assoc]
    rw [hs] at h1 h2 ⊢
    rw [mul_div_cancel_right₀ _ (zpow_pos two_pos e).ne'] at h1 h2
    exact sig_mul_zpow_mem_F hp e (Int.cast_le.mp h1) (Int.cast_le.mp h2)
  · exact sig_mul_zpow_mem_F hp j (pow_le_pow_right₀ (by norm_num) (Nat.sub_le p 1)) le_rfl

theorem two_zpow_mem_F {p : ℕ} (hp : 1 ≤ p) (j : ℤ) : (2 : ℝ) ^ j ∈ F p := by
  have := int_mul_zpow_mem_F hp 1 j (by rw [abs_one]; exact one_le_pow₀ (by norm_num))
  simpa using this

/-! ## round-half-to-even on the integers -/

/-- nearest integer, ties to the even one (IEEE-754 `roundTiesToEven` on a scaled significand) -/
def roundEven (x : ℝ) : ℤ :=
  if 2 * Int.fract x < 1 then ⌊x⌋
  else if 1 < 2 * Int.fract x then ⌊x⌋ + 1
  else if Even ⌊x⌋ then ⌊x⌋ else ⌊x⌋ + 1

theorem roundEven_cases (x : ℝ) :
    (roundEven x = ⌊x⌋ ∧ 2 * Int.fract x ≤ 1) ∨ (roundEven x = ⌊x⌋ + 1 ∧ 1 ≤ 2 * Int.fract x) := by
  unfold roundEven
  split_ifs
  · exact .inl ⟨rfl, by linarith⟩
  · exact .inr ⟨rfl, by linarith⟩
  · exact .inl ⟨rfl, by linarith⟩
  · exact .inr ⟨rfl, by linarith⟩

theorem intRnd_roundEven : IntRnd roundEven :=
  .of_err fun x => by
    have h1 := Int.fract_nonneg x
    have h2 := Int.fract_lt_one x
    have h3 := Int.self_sub_floor x
    rw [abs_le]
    rcases roundEven_cases x with ⟨h, hf⟩ | ⟨h, hf⟩ <;> rw [h] <;> push_cast <;> constructor <;> linarith

theorem roundEven_tie {x : ℝ} (h : 2 * Int.fract x = 1) : Even (roundEven x) := by
  unfold roundEven
  rw [if_neg (by linarith), if_neg (by linarith)]
  split_ifs with he
  · exact he
  · exact Int.even_add_one.mpr he

theorem adjacent_of_near {x : ℝ} {a b : ℤ} (ha : (a : ℝ) - x ≤ 1 / 2) (hb : -(1 / 2) ≤ (b : ℝ) - x) (hab : b < a) :
    a = b + 1 ∧ 2 * Int.fract x = 1 := by
  have h1 : (a : ℝ) ≤ ((b + 1 : ℤ) : ℝ) := by push_cast; linarith only [ha, hb]
  have h2 : a = b + 1 := le_antisymm (Int.cast_le.mp h1) hab
  rw [h2, Int.cast_add, Int.cast_one] at ha
  have hfl : ⌊x⌋ = b := Int.floor_eq_iff.mpr ⟨by linarith only [ha], by linarith only [hb]⟩
  have h3 := Int.self_sub_floor x
  rw [hfl] at h3
  exact ⟨h2, by linarith only [h3, ha, hb]⟩

theorem int_near_cases {x : ℝ} {z w : ℤ} (hz : |(z : ℝ) - x| ≤ 1 / 2) (hw : |(w : ℝ) - x| ≤ 1 / 2) :
    z = w ∨ (|z - w| = 1 ∧ 2 * Int.fract x = 1) := by
  rw [abs_le] at hz hw
  rcases lt_trichotomy z w with h | h | h
  · obtain ⟨e, ht⟩ := adjacent_of_near hw.2 hz.1 h
    exact .inr ⟨by rw [e]; simp, ht⟩
  · exact .inl h
  · obtain ⟨e, ht⟩ := adjacent_of_near hz.2 hw.1 h
    exact .inr ⟨by rw [e]; simp, ht⟩

theorem IntRnd.unique (h : IntRnd ρ) {x : ℝ} (hx : 2 * Int.fract x ≠ 1) (z : ℤ) (hz : |(z : ℝ) - x| ≤ 1 / 2) :
    z = ρ x :=
  (int_near_cases hz (h.err x)).resolve_right fun ht => hx ht.2

/-- two even integers are not adjacent -/
theorem roundEven_unique_tie {x : ℝ} (hx : 2 * Int.fract x = 1) (z : ℤ) (hz : |(z : ℝ) - x| ≤ 1 / 2) (he : Even z) :
    z = roundEven x := by
  refine (int_near_cases hz (intRnd_roundEven.err x)).resolve_right fun ht => ?_
  obtain ⟨a, ha⟩ := he
  obtain ⟨b, hb⟩ := roundEven_tie hx
  rcases abs_eq (zero_le_one' ℤ) |>.mp ht.1 with h | h <;> omega

theorem roundEven_neg (x : ℝ) : roundEven (-x) = -roundEven x := by
  have herr : |((-roundEven x : ℤ) : ℝ) - -x| ≤ 1 / 2 := by
    push_cast; rw [neg_sub_neg, abs_sub_comm]; exact intRnd_roundEven.err x
  by_cases ht : 2 * Int.fract (-x) = 1
  · -- `-x` is a tie iff `x` is, and then both values are even
    have ht' : 2 * Int.fract x = 1 := by
      by_cases hx : Int.fract x = 0
      · rw [Int.fract_neg_eq_zero.mpr hx] at ht; linarith
      · rw [Int.fract_neg hx] at ht; linarith
    exact (roundEven_unique_tie ht _ herr (even_neg.mpr (roundEven_tie ht'))).symm
  · exact (intRnd_roundEven.unique ht _ herr).symm

/-! ## `flW` is a nearest point of `F p` (specification-level characterisation) -/

theorem flAbs_grid (hρ : IntRnd ρ) (p : ℕ) (a : ℝ) (z : ℤ) :
    |flAbs ρ p a - a| ≤ |(z : ℝ) * 2 ^ expo p a - a| := by
  unfold flAbs
  rw [abs_mul_zpow_sub, abs_mul_zpow_sub]
  exact mul_le_mul_of_nonneg_right (hρ.nearest _ z) (by positivity)

/-- a format point is either on the grid `ℤ · 2^e` of `a`'s binade (every format point from the lower end of the binade
    upwards is), or strictly farther from `a` than that lower end (which is on the grid) -/
theorem F_grid_or_far {p : ℕ} (hp : 1 ≤ p) {a : ℝ} (ha : 0 < a) {y : ℝ} (hy : y ∈ F p) :
    (∃ z : ℤ, y = (z : ℝ) * 2 ^ expo p a) ∨ (∃ z : ℤ, |(z : ℝ) * 2 ^ expo p a - a| < |y - a|) := by
  have hlo := zpow_expo_le p ha
  rw [two_zpow_add_pred hp] at hlo
  generalize expo p a = e at hlo ⊢
  by_cases h1 : y < 2 ^ (p - 1) * 2 ^ e
  · right
    refine ⟨(2 : ℤ) ^ (p - 1), ?_⟩
    push_cast
    rw [abs_sub_comm _ a, abs_of_nonneg (by linarith only [hlo]), abs_sub_comm y a,
      abs_of_nonneg (by linarith only [hlo, h1])]
    linarith only [h1]
  have h1 := le_of_not_gt h1
  have hy0 : 0 < y := lt_of_lt_of_le (by positivity) h1
  rcases hy with hy | ⟨m, k, _, hm, hk⟩
  · exact absurd hy hy0.ne'
  rw [abs_of_pos hy0] at hk
  have hke : e ≤ k := by
    by_contra hc
    have hm' : (m : ℝ) < (2 : ℝ) ^ p := by exact_mod_cast hm
    have : y < 2 ^ (p - 1) * 2 ^ e := by
      calc y = (m : ℝ) * 2 ^ k := hk
        _ < (2 : ℝ) ^ p * 2 ^ k := by gcongr
        _ = 2 ^ (p - 1) * 2 ^ (k + 1) := by
          rw [zpow_add_one₀ two_ne_zero, ← mul_assoc, mul_right_comm, ← pow_succ, Nat.sub_add_cancel hp]
        _ ≤ _ := mul_le_mul_of_nonneg_left (zpow_le_zpow_right₀ (by norm_num) (by omega)) (by positivity)
    exact absurd h1 (not_le.mpr this)
  obtain ⟨n, hn⟩ : ∃ n : ℕ, k = e + n := ⟨(k - e).toNat, by omega⟩
  left
  refine ⟨(m : ℤ) * 2 ^ n, ?_⟩
  rw [hk, hn, two_zpow_add_nat]
  push_cast
  ring

theorem flAbs_nearest (hρ : IntRnd ρ) {p : ℕ} (hp : 1 ≤ p) {a : ℝ} (ha : 0 ≤ a) {y : ℝ} (hy : y ∈ F p) :
    |flAbs ρ p a - a| ≤ |y - a| := by
  rcases ha.eq_or_lt with rfl | ha
  · simp [flAbs_zero hρ]
  rcases F_grid_or_far hp ha hy with ⟨z, rfl⟩ | ⟨z, hz⟩
  · exact flAbs_grid hρ p a z
  · exact le_trans (flAbs_grid hρ p a z) hz.le

theorem flW_nearest (hρ : IntRnd ρ) {p : ℕ} (hp : 1 ≤ p) (x : ℝ) {y : ℝ} (hy : y ∈ F p) :
    |flW ρ p x - x| ≤ |y - x| := by
  rw [abs_flW_sub hρ]
  exact (flAbs_nearest hρ hp (abs_nonneg x) (abs_mem_F_iff.mpr hy)).trans (abs_abs_sub_abs_le y x)

theorem flW_nearestOn (hρ : IntRnd ρ) {p : ℕ} (hp : 1 ≤ p) : NearestOn (F p) (flW ρ p) :=
  ⟨flW_mem hρ hp, fun x _ hy => flW_nearest hρ hp x hy⟩

/-! ## exactness and monotonicity: `flW` is a nearest-point selection -/

theorem flW_of_mem (hρ : IntRnd ρ) {p : ℕ} (hp : 1 ≤ p) {x : ℝ} (hx : x ∈ F p) : flW ρ p x = x :=
  (flW_nearestOn hρ hp).of_mem hx

theorem flW_mono (hρ : IntRnd ρ) {p : ℕ} (hp : 1 ≤ p) : Monotone (flW ρ p) := (flW_nearestOn hρ hp).mono

theorem flW_mem_Icc (hρ : IntRnd ρ) {p : ℕ} (hp : 1 ≤ p) {a b x : ℝ} (ha : a ∈ F p) (hb : b ∈ F p)
    (hx : x ∈ Set.Icc a b) : flW ρ p x ∈ Set.Icc a b := (flW_nearestOn hρ hp).mem_Icc ha hb hx

theorem mem_F_iff_flW_eq (hρ : IntRnd ρ) {p : ℕ} (hp : 1 ≤ p) (x : ℝ) : x ∈ F p ↔ flW ρ p x = x :=
  ⟨flW_of_mem hρ hp, fun h => h ▸ flW_mem hρ hp x⟩

theorem flW_int_mul_zpow (hρ : IntRnd ρ) {p : ℕ} (hp : 1 ≤ p) (z j : ℤ) (hz : |z| ≤ 2 ^ p) :
    flW ρ p ((z : ℝ) * 2 ^ j) = (z : ℝ) * 2 ^ j := flW_of_mem hρ hp (int_mul_zpow_mem_F hp z j hz)

theorem flW_idem (hρ : IntRnd ρ) {p : ℕ} (hp : 1 ≤ p) (x : ℝ) : flW ρ p (flW ρ p x) = flW ρ p x :=
  flW_of_mem hρ hp (flW_mem hρ hp x)

theorem flW_rndIdem (hρ : IntRnd ρ) {p : ℕ} (hp : 1 ≤ p) : RndIdem ((2 : ℝ) ^ (-(p : ℤ))) (flW ρ p) :=
  { flW_rnd hρ p with idem := flW_idem hρ hp }

theorem flW_intCast (hρ : IntRnd ρ) {p : ℕ} (hp : 1 ≤ p) (n : ℤ) (hn : |n| ≤ 2 ^ p) : flW ρ p (n : ℝ) = n := by
  have := flW_int_mul_zpow hρ hp n 0 hn
  simpa using this

theorem flW_one (hρ : IntRnd ρ) {p : ℕ} (hp : 1 ≤ p) : flW ρ p 1 = 1 := by
  have := flW_intCast hρ hp 1 (by rw [abs_one]; exact one_le_pow₀ (by norm_num))
  simpa using this

theorem flW_two_zpow (hρ : IntRnd ρ) {p : ℕ} (hp : 1 ≤ p) (j : ℤ) : flW ρ p ((2 : ℝ) ^ j) = 2 ^ j :=
  flW_of_mem hρ hp (two_zpow_mem_F hp j)

/-! ## normal ranges of bounded-exponent formats -/

def maxFinite (p : ℕ) (emax : ℤ) : ℝ := ((2 : ℝ) - 2 ^ (-((p : ℤ) - 1))) * 2 ^ emax

theorem maxFinite_eq (p : ℕ) (emax : ℤ) :
    maxFinite p emax = (((2 : ℤ) ^ p - 1 : ℤ) : ℝ) * 2 ^ (emax + -((p : ℤ) - 1)) := by
  have ht : (2 : ℝ) ^ p * 2 ^ (-((p : ℤ) - 1)) = 2 := by
    rw [← zpow_natCast, ← zpow_add₀ two_ne_zero]
    have : (p : ℤ) + -((p : ℤ) - 1) = 1 := by ring
    rw [this, zpow_one]
  unfold maxFinite
  rw [zpow_add₀ two_ne_zero]
  push_cast
  linear_combination (-(2 : ℝ) ^ emax) * ht

theorem maxFinite_mem_F {p : ℕ} (hp : 1 ≤ p) (emax : ℤ) : maxFinite p emax ∈ F p := by
  rw [maxFinite_eq]
  refine int_mul_zpow_mem_F hp _ _ ?_
  have : (1 : ℤ) ≤ 2 ^ p := one_le_pow₀ (by norm_num)
  rw [abs_of_nonneg (by omega)]
  omega

def normalRange (p : ℕ) (emin emax : ℤ) : Set ℝ := {x | (2 : ℝ) ^ emin ≤ |x| ∧ |x| ≤ maxFinite p emax}

theorem flW_normalRange (hρ : IntRnd ρ) {p : ℕ} (hp : 1 ≤ p) (emin emax : ℤ) {x : ℝ}
    (hx : x ∈ normalRange p emin emax) : flW ρ p x ∈ normalRange p emin emax := by
  have := flW_mem_Icc hρ hp (two_zpow_mem_F hp emin) (maxFinite_mem_F hp emax) (x := |x|) hx
  rw [← abs_flW hρ] at this
  exact this

/-- IEEE-754 binary32: `p = 24`, `emin = -126`, `emax = 127` -/
def normalRange32 : Set ℝ := normalRange 24 (-126) 127
/-- IEEE-754 binary64: `p = 53`, `emin = -1022`, `emax = 1023` -/
def normalRange64 : Set ℝ := normalRange 53 (-1022) 1023

theorem mem_normalRange32 (x : ℝ) :
    x ∈ normalRange32 ↔ (2 : ℝ) ^ (-126 : ℤ) ≤ |x| ∧ |x| ≤ ((2 : ℝ) - 2 ^ (-23 : ℤ)) * 2 ^ (127 : ℤ) :=
  -- only the exponent `-(24 - 1)` is evaluated
  Iff.rfl

theorem mem_normalRange64 (x : ℝ) :
    x ∈ normalRange64 ↔ (2 : ℝ) ^ (-1022 : ℤ) ≤ |x| ∧ |x| ≤ ((2 : ℝ) - 2 ^ (-52 : ℤ)) * 2 ^ (1023 : ℤ) :=
  Iff.rfl

/-! ## the two tie rules; binary32 and binary64 -/

def fl (p : ℕ) : ℝ → ℝ := flW roundEven p

def flA (p : ℕ) : ℝ → ℝ := flW round p

theorem fl_rnd (p : ℕ) : Rnd ((2 : ℝ) ^ (-(p : ℤ))) (fl p) := flW_rnd intRnd_roundEven p
theorem fl_rndIdem {p : ℕ} (hp : 1 ≤ p) : RndIdem ((2 : ℝ) ^ (-(p : ℤ))) (fl p) := flW_rndIdem intRnd_roundEven hp
theorem fl_err (p : ℕ) (x : ℝ) : |fl p x - x| ≤ (2 : ℝ) ^ (-(p : ℤ)) * |x| := flW_err intRnd_roundEven p x
theorem fl_mem {p : ℕ} (hp : 1 ≤ p) (x : ℝ) : fl p x ∈ F p := flW_mem intRnd_roundEven hp x
theorem fl_of_mem {p : ℕ} (hp : 1 ≤ p) {x : ℝ} (hx : x ∈ F p) : fl p x = x := flW_of_mem intRnd_roundEven hp hx
theorem mem_F_iff_fl_eq {p : ℕ} (hp : 1 ≤ p) (x : ℝ) : x ∈ F p ↔ fl p x = x := mem_F_iff_flW_eq intRnd_roundEven hp x
theorem fl_idem {p : ℕ} (hp : 1 ≤ p) (x : ℝ) : fl p (fl p x) = fl p x := flW_idem intRnd_roundEven hp x
theorem fl_mono {p : ℕ} (hp : 1 ≤ p) : Monotone (fl p) := flW_mono intRnd_roundEven hp
theorem fl_neg (p : ℕ) (x : ℝ) : fl p (-x) = -fl p x := flW_neg intRnd_roundEven p x
theorem fl_zero (p : ℕ) : fl p 0 = 0 := flW_zero intRnd_roundEven p
theorem fl_one {p : ℕ} (hp : 1 ≤ p) : fl p 1 = 1 := flW_one intRnd_roundEven hp
theorem fl_intCast {p : ℕ} (hp : 1 ≤ p) (n : ℤ) (hn : |n| ≤ 2 ^ p) : fl p (n : ℝ) = n :=
  flW_intCast intRnd_roundEven hp n hn
theorem fl_int_mul_zpow {p : ℕ} (hp : 1 ≤ p) (z j : ℤ) (hz : |z| ≤ 2 ^ p) :
    fl p ((z : ℝ) * 2 ^ j) = (z : ℝ) * 2 ^ j := flW_int_mul_zpow intRnd_roundEven hp z j hz
theorem fl_two_zpow {p : ℕ} (hp : 1 ≤ p) (j : ℤ) : fl p ((2 : ℝ) ^ j) = 2 ^ j := flW_two_zpow intRnd_roundEven hp j
theorem fl_nearest {p : ℕ} (hp : 1 ≤ p) (x : ℝ) {y : ℝ} (hy : y ∈ F p) : |fl p x - x| ≤ |y - x| :=
  flW_nearest intRnd_roundEven hp x hy
theorem fl_normalRange {p : ℕ} (hp : 1 ≤ p) (emin emax : ℤ) {x : ℝ} (hx : x ∈ normalRange p emin emax) :
    fl p x ∈ normalRange p emin emax := flW_normalRange intRnd_roundEven hp emin emax hx

theorem fl_tie_even (p : ℕ) {a : ℝ} (ha : 0 ≤ a) (h : 2 * Int.fract (a / 2 ^ expo p a) = 1) :
    ∃ n : ℤ, Even n ∧ fl p a = (n : ℝ) * 2 ^ expo p a :=
  ⟨roundEven (a / 2 ^ expo p a), roundEven_tie h, by rw [fl, flW_of_nonneg _ _ ha, flAbs]⟩

theorem flA_rnd (p : ℕ) : Rnd ((2 : ℝ) ^ (-(p : ℤ))) (flA p) := flW_rnd intRnd_round p
theorem flA_rndIdem {p : ℕ} (hp : 1 ≤ p) : RndIdem ((2 : ℝ) ^ (-(p : ℤ))) (flA p) := flW_rndIdem intRnd_round hp

theorem fl24_rnd : Rnd ((2 : ℝ) ^ (-24 : ℤ)) (fl 24) := by simpa using fl_rnd 24
theorem fl53_rnd : Rnd ((2 : ℝ) ^ (-53 : ℤ)) (fl 53) := by simpa using fl_rnd 53
theorem fl24_rndIdem : RndIdem ((2 : ℝ) ^ (-24 : ℤ)) (fl 24) := by
  simpa using fl_rndIdem (p := 24) (by norm_num)
theorem fl53_rndIdem : RndIdem ((2 : ℝ) ^ (-53 : ℤ)) (fl 53) := by
  simpa using fl_rndIdem (p := 53) (by norm_num)

theorem fl24_normalRange {x : ℝ} (hx : x ∈ normalRange32) : fl 24 x ∈ normalRange32 :=
  fl_normalRange (by norm_num) _ _ hx
theorem fl53_normalRange {x : ℝ} (hx : x ∈ normalRange64) : fl 53 x ∈ normalRange64 :=
  fl_normalRange (by norm_num) _ _ hx

/-- **`f32_f64_agree_dot_idem` at the genuine round-to-nearest-even roundings** with 24- and 53-bit significands: the classical
    exponent `n` (by `fl_idem`) -/
theorem dot_fl24_fl53_idem (xs ws : List ℝ) :
    |LF.dot (rndOps (fl 24)) xs ws - LF.dot (rndOps (fl 53)) xs ws|
      ≤ (((1 + (2 : ℝ) ^ (-24 : ℤ)) ^ (min xs.length ws.length) - 1)
          + ((1 + (2 : ℝ) ^ (-53 : ℤ)) ^ (min xs.length ws.length) - 1)) * absDot xs ws :=
  f32_f64_agree_dot_idem fl24_rndIdem fl53_rndIdem xs ws

/-! ## uniqueness: `fl` is THE round-to-nearest-even onto `F p` -/

def IsTie (p : ℕ) (x : ℝ) : Prop := 2 * Int.fract (|x| / 2 ^ expo p |x|) = 1

theorem near_is_grid (hρ : IntRnd ρ) {p : ℕ} (hp : 1 ≤ p) {a : ℝ} (ha : 0 < a) {y : ℝ} (hy : y ∈ F p)
    (hnear : |y - a| ≤ |flAbs ρ p a - a|) :
    ∃ z : ℤ, y = (z : ℝ) * 2 ^ expo p a ∧ |(z : ℝ) - a / 2 ^ expo p a| ≤ 1 / 2 := by
  rcases F_grid_or_far hp ha hy with ⟨z, rfl⟩ | ⟨z, hz⟩
  · unfold flAbs at hnear
    rw [abs_mul_zpow_sub, abs_mul_zpow_sub] at hnear
    exact ⟨z, rfl, (le_of_mul_le_mul_right hnear (by positivity)).trans (hρ.err _)⟩
  · exact absurd (hnear.trans (flAbs_grid hρ p a z)) (not_le.mpr hz)

theorem flAbs_unique (hρ : IntRnd ρ) {p : ℕ} (hp : 1 ≤ p) {a : ℝ} (ha : 0 ≤ a)
    (hne : 2 * Int.fract (a / 2 ^ expo p a) ≠ 1) {y : ℝ} (hy : y ∈ F p) (hnear : |y - a| ≤ |flAbs ρ p a - a|) :
    y = flAbs ρ p a := by
  rcases ha.eq_or_lt with rfl | ha
  · rw [flAbs_zero hρ] at hnear ⊢
    simpa using hnear
  obtain ⟨z, rfl, hz⟩ := near_is_grid hρ hp ha hy hnear
  unfold flAbs
  rw [hρ.unique hne z hz]

theorem abs_grid_even {z n e : ℤ} (h : |(z : ℝ) * 2 ^ e| = (n : ℝ) * 2 ^ e) (hn : Even n) : Even z := by
  have hpos : (0 : ℝ) < 2 ^ e := by positivity
  rw [abs_mul, abs_of_pos hpos] at h
  have := mul_right_cancel₀ hpos.ne' h
  have : |z| = n := by exact_mod_cast this
  rw [← this] at hn
  exact even_abs.mp hn

theorem flAbs_roundEven_unique {p : ℕ} (hp : 1 ≤ p) {a : ℝ} (ha : 0 ≤ a) {y : ℝ} (hy : y ∈ F p)
    (hnear : |y - a| ≤ |flAbs roundEven p a - a|)
    (htie : 2 * Int.fract (a / 2 ^ expo p a) = 1 → ∃ n : ℤ, Even n ∧ |y| = (n : ℝ) * 2 ^ expo p a) :
    y = flAbs roundEven p a := by
  by_cases hne : 2 * Int.fract (a / 2 ^ expo p a) = 1
  · have ha : 0 < a := ha.lt_of_ne fun h => by simp [← h] at hne
    obtain ⟨z, rfl, hz⟩ := near_is_grid intRnd_roundEven hp ha hy hnear
    obtain ⟨n, hn, h⟩ := htie hne
    unfold flAbs
    rw [roundEven_unique_tie hne z hz (abs_grid_even h hn)]
  · exact flAbs_unique intRnd_roundEven hp ha hne hy hnear

theorem fl_spec {p : ℕ} (hp : 1 ≤ p) (x : ℝ) :
    fl p x ∈ F p ∧ (∀ y ∈ F p, |fl p x - x| ≤ |y - x|) ∧
      (IsTie p x → ∃ n : ℤ, Even n ∧ |fl p x| = (n : ℝ) * 2 ^ expo p |x|) := by
  refine ⟨fl_mem hp x, fun y hy => fl_nearest hp x hy, fun h => ?_⟩
  obtain ⟨n, hn, h'⟩ := fl_tie_even p (abs_nonneg x) h
  exact ⟨n, hn, by rw [fl, abs_flW intRnd_roundEven]; exact h'⟩

theorem fl_unique {p : ℕ} (hp : 1 ≤ p) (x : ℝ) {y : ℝ} (hy : y ∈ F p) (hnear : ∀ y' ∈ F p, |y - x| ≤ |y' - x|)
    (htie : IsTie p x → ∃ n : ℤ, Even n ∧ |y| = (n : ℝ) * 2 ^ expo p |x|) : y = fl p x := by
  have h0 := hnear _ (fl_mem hp x)
  unfold IsTie at htie
  rcases le_total 0 x with hx | hx
  · rw [abs_of_nonneg hx] at htie
    rw [fl, flW_of_nonneg _ _ hx] at h0 ⊢
    exact flAbs_roundEven_unique hp hx hy h0 htie
  · -- the same for `-y`, `-x`
    rw [abs_of_nonpos hx] at htie
    rw [fl, flW_of_nonpos intRnd_roundEven _ hx] at h0 ⊢
    have h1 : |-y - -x| ≤ |flAbs roundEven p (-x) - -x| := by
      rw [neg_sub_neg, abs_sub_comm, show flAbs roundEven p (-x) - -x = -(-flAbs roundEven p (-x) - x) by ring,
        abs_neg]
      exact h0
    exact neg_eq_iff_eq_neg.mp
      (flAbs_roundEven_unique hp (neg_nonneg.mpr hx) (neg_mem_F hy) h1 (by rwa [abs_neg]))

theorem flW_eq_of_not_tie {ρ ρ' : ℝ → ℤ} (hρ : IntRnd ρ) (hρ' : IntRnd ρ') {p : ℕ} (hp : 1 ≤ p) {x : ℝ}
    (hx : ¬ IsTie p x) : flW ρ p x = flW ρ' p x := by
  have key : ∀ a, 0 ≤ a → 2 * Int.fract (a / 2 ^ expo p a) ≠ 1 → flAbs ρ p a = flAbs ρ' p a := fun a ha hne =>
    flAbs_unique hρ' hp ha hne (flAbs_mem hρ hp ha) (flAbs_nearest hρ hp ha (flAbs_mem hρ' hp ha))
  unfold IsTie at hx
  rcases le_total 0 x with h | h
  · rw [abs_of_nonneg h] at hx
    rw [flW_of_nonneg _ _ h, flW_of_nonneg _ _ h, key x h hx]
  · rw [abs_of_nonpos h] at hx
    rw [flW_of_nonpos hρ _ h, flW_of_nonpos hρ' _ h, key (-x) (neg_nonneg.mpr h) hx]

theorem fl_eq_flA_of_not_tie {p : ℕ} (hp : 1 ≤ p) {x : ℝ} (hx : ¬ IsTie p x) : fl p x = flA p x :=
  flW_eq_of_not_tie intRnd_roundEven intRnd_round hp hx

/-! ## bounded-exponent formats (IEEE-754 interchange formats) on their normal range -/

/-- all finite numbers of the binary format with `p`-bit significands and exponent range `emin .. emax`:
    `± m · 2^k`, `m < 2^p`, `emin - (p-1) ≤ k ≤ emax - (p-1)` (zero, subnormal and normal numbers) -/
def finiteFormat (p : ℕ) (emin emax : ℤ) : Set ℝ :=
  {x | ∃ (m : ℕ) (k : ℤ), m < 2 ^ p ∧ emin - ((p : ℤ) - 1) ≤ k ∧ k ≤ emax - ((p : ℤ) - 1) ∧ |x| = (m : ℝ) * 2 ^ k}

theorem finiteFormat_subset_F {p : ℕ} (hp : 1 ≤ p) (emin emax : ℤ) : finiteFormat p emin emax ⊆ F p := by
  rintro x ⟨m, k, hm, _, _, hx⟩
  have h1 : ((m : ℤ) : ℝ) * 2 ^ k ∈ F p :=
    int_mul_zpow_mem_F hp m k (by rw [abs_of_nonneg (by positivity)]; exact_mod_cast hm.le)
  rw [Int.cast_natCast, ← hx] at h1
  exact abs_mem_F_iff.mp h1

theorem maxFinite_lt (p : ℕ) (emax : ℤ) : maxFinite p emax < 2 ^ (emax + 1) := by
  unfold maxFinite
  rw [zpow_add_one₀ two_ne_zero]
  have h1 : (0 : ℝ) < 2 ^ (-((p : ℤ) - 1)) := by positivity
  have h2 : (0 : ℝ) < 2 ^ emax := by positivity
  nlinarith

theorem mem_finiteFormat_of_normal {p : ℕ} (hp : 1 ≤ p) (emin emax : ℤ) {y : ℝ} (hy : y ∈ F p)
    (hr : y ∈ normalRange p emin emax) : y ∈ finiteFormat p emin emax := by
  obtain ⟨hr1, hr2⟩ := hr
  rcases hy with hy | ⟨m, k, hm1, hm2, hk⟩
  · rw [hy, abs_zero] at hr1
    have : (0 : ℝ) < 2 ^ emin := by positivity
    linarith
  have hm1' : (2 : ℝ) ^ (p - 1) ≤ (m : ℝ) := by exact_mod_cast hm1
  have hm2' : (m : ℝ) < (2 : ℝ) ^ p := by exact_mod_cast hm2
  have hpos : (0 : ℝ) < 2 ^ k := by positivity
  rw [hk] at hr1 hr2
  -- `2^emin ≤ m 2^k < 2^(k+p)` and `2^(k+p-1) ≤ m 2^k < 2^(emax+1)`
  have h1 : (2 : ℝ) ^ emin < 2 ^ (k + (p : ℤ)) := by
    rw [two_zpow_add_nat]
    exact hr1.trans_lt (mul_lt_mul_of_pos_right hm2' hpos)
  have h2 : (2 : ℝ) ^ (k + ((p : ℤ) - 1)) < 2 ^ (emax + 1) := by
    rw [two_zpow_add_pred hp]
    exact ((mul_le_mul_of_nonneg_right hm1' hpos.le).trans hr2).trans_lt (maxFinite_lt p emax)
  have h1 := (zpow_lt_zpow_iff_right₀ (by norm_num : (1 : ℝ) < 2)).mp h1
  have h2 := (zpow_lt_zpow_iff_right₀ (by norm_num : (1 : ℝ) < 2)).mp h2
  exact ⟨m, k, hm2, by omega, by omega, hk⟩

theorem fl_mem_finiteFormat {p : ℕ} (hp : 1 ≤ p) (emin emax : ℤ) {x : ℝ} (hx : x ∈ normalRange p emin emax) :
    fl p x ∈ finiteFormat p emin emax :=
  mem_finiteFormat_of_normal hp emin emax (fl_mem hp x) (fl_normalRange hp emin emax hx)

/-- `fl p x`, a nearest point of `F p`, is among the finite numbers -/
theorem nearest_of_nearest_finite {p : ℕ} (hp : 1 ≤ p) (emin emax : ℤ) {x : ℝ} (hx : x ∈ normalRange p emin emax) {y : ℝ}
    (hnear : ∀ y' ∈ finiteFormat p emin emax, |y - x| ≤ |y' - x|) : ∀ y' ∈ F p, |y - x| ≤ |y' - x| :=
  fun _ hy' => (hnear _ (fl_mem_finiteFormat hp emin emax hx)).trans (fl_nearest hp x hy')

/-- **IEEE-754 `roundTiesToEven` on the normal range is `fl`.**  Let `x` be a real whose magnitude lies in the normal
    range of the format `(p, emin, emax)`.  If `y` is a finite number of that format, no finite number of the format is
    nearer to `x`, and — should `x` be a tie — `y` has an even integer significand, then `y = fl p x`.
    These three hypotheses are the text of IEEE 754-2019 §4.3.1 (`roundTiesToEven`) for a result that does not
    overflow; nothing about the exponent range is left to trust. -/
theorem ieee_rne_eq_fl {p : ℕ} (hp : 1 ≤ p) (emin emax : ℤ) {x : ℝ} (hx : x ∈ normalRange p emin emax) {y : ℝ}
    (hy : y ∈ finiteFormat p emin emax) (hnear : ∀ y' ∈ finiteFormat p emin emax, |y - x| ≤ |y' - x|)
    (htie : IsTie p x → ∃ n : ℤ, Even n ∧ |y| = (n : ℝ) * 2 ^ expo p |x|) : y = fl p x :=
  fl_unique hp x (finiteFormat_subset_F hp emin emax hy) (nearest_of_nearest_finite hp emin emax hx hnear) htie

theorem fl_is_ieee_rne {p : ℕ} (hp : 1 ≤ p) (emin emax : ℤ) {x : ℝ} (hx : x ∈ normalRange p emin emax) :
    fl p x ∈ finiteFormat p emin emax ∧ (∀ y' ∈ finiteFormat p emin emax, |fl p x - x| ≤ |y' - x|) ∧
      (IsTie p x → ∃ n : ℤ, Even n ∧ |fl p x| = (n : ℝ) * 2 ^ expo p |x|) :=
  ⟨fl_mem_finiteFormat hp emin emax hx, fun _ hy' => fl_nearest hp x (finiteFormat_subset_F hp emin emax hy'),
    (fl_spec hp x).2.2⟩

def binary32 : Set ℝ := finiteFormat 24 (-126) 127
def binary64 : Set ℝ := finiteFormat 53 (-1022) 1023

/-! ## what remains trusted -/

/-- `rne : ℝ → ℝ` **agrees with `fl p` on the normal range** (and at `0`).  For `rne` = "the value of the IEEE-754
    binary32 (resp. binary64) datum obtained by rounding the real `x` with `roundTiesToEven`" this is a THEOREM given
    the IEEE specification of `rne` (`ieee_rne_eq_fl`).  What stays outside Lean, because `Float`/`Float32` are
    opaque: that each primitive of the driver (`+ - * / sqrt`, conversions) returns `rne` of the exact real result
    (IEEE-754 conformance of the hardware and of Lean's runtime; for `exp log tanh …` only faithful-ish rounding with
    a few ulp holds, covered by enlarging `u`), and that no intermediate result leaves the normal range (no overflow,
    no subnormal result; exact zeros are allowed). -/
def AgreesOnNormal (p : ℕ) (emin emax : ℤ) (rne : ℝ → ℝ) : Prop :=
  ∀ x, x = 0 ∨ x ∈ normalRange p emin emax → rne x = fl p x

def Trusted32 (rne32 : ℝ → ℝ) : Prop := AgreesOnNormal 24 (-126) 127 rne32
def Trusted64 (rne64 : ℝ → ℝ) : Prop := AgreesOnNormal 53 (-1022) 1023 rne64

/-- a rounding that meets the IEEE specification of `roundTiesToEven` on the normal range and is exact at `0`
    satisfies the trusted sentence -/
theorem agreesOnNormal_of_spec {p : ℕ} (hp : 1 ≤ p) (emin emax : ℤ) (rne : ℝ → ℝ) (h0 : rne 0 = 0)
    (hmem : ∀ x ∈ normalRange p emin emax, rne x ∈ finiteFormat p emin emax)
    (hnear : ∀ x ∈ normalRange p emin emax, ∀ y' ∈ finiteFormat p emin emax, |rne x - x| ≤ |y' - x|)
    (htie : ∀ x ∈ normalRange p emin emax, IsTie p x → ∃ n : ℤ, Even n ∧ |rne x| = (n : ℝ) * 2 ^ expo p |x|) :
    AgreesOnNormal p emin emax rne := by
  rintro x (rfl | hx)
  · rw [h0, fl_zero]
  · exact ieee_rne_eq_fl hp emin emax hx (hmem x hx) (hnear x hx) (htie x hx)

/-- the link to the standard model of C19: on the normal range (and at `0`) such an `rne` meets the `Rnd` bound with `u = 2^-p` -/
theorem AgreesOnNormal.err {p : ℕ} {emin emax : ℤ} {rne : ℝ → ℝ} (h : AgreesOnNormal p emin emax rne) {x : ℝ}
    (hx : x = 0 ∨ x ∈ normalRange p emin emax) : |rne x - x| ≤ (2 : ℝ) ^ (-(p : ℤ)) * |x| := by
  rw [h x hx]
  exact fl_err p x

/-! ## a tie, worked out: `1 + 2^-p` (half an ulp above `1`) -/

theorem flAbs_one_add (ρ : ℝ → ℤ) (q : ℕ) :
    flAbs ρ (q + 1) (1 + (2 : ℝ) ^ (-((q + 1 : ℕ) : ℤ))) = (ρ ((((2 : ℤ) ^ q : ℤ) : ℝ) + 1 / 2) : ℝ) * 2 ^ (-(q : ℤ)) := by
  -- `1 + 2^-(q+1) = (2^q + 1/2) · 2^-q`, a normalised significand at exponent `-q`
  have hx : 1 + (2 : ℝ) ^ (-((q + 1 : ℕ) : ℤ)) = ((2 : ℝ) ^ q + 1 / 2) * 2 ^ (-(q : ℤ)) := by
    have h2 : (2 : ℝ) ^ q * 2 ^ (-(q : ℤ)) = 1 := by
      rw [← zpow_natCast, ← zpow_add₀ two_ne_zero, add_neg_cancel, zpow_zero]
    have h1 : (2 : ℝ) ^ (-((q + 1 : ℕ) : ℤ)) = 1 / 2 * 2 ^ (-(q : ℤ)) := by
      push_cast
      rw [neg_add, zpow_add₀ two_ne_zero, mul_comm]
      norm_num
    rw [h1, add_mul, h2]
  have h1 : (1 : ℝ) ≤ 2 ^ q := one_le_pow₀ one_le_two
  have he := expo_mul_zpow (p := q + 1) (Nat.le_add_left 1 q) (s := (2 : ℝ) ^ q + 1 / 2) (-(q : ℤ))
    (by rw [Nat.add_sub_cancel]; linarith only) (by rw [pow_succ]; linarith only [h1])
  unfold flAbs
  rw [hx, he, mul_div_cancel_right₀ _ (zpow_pos two_pos _).ne']
  push_cast
  rfl

theorem roundEven_int_add_half (z : ℤ) : roundEven ((z : ℝ) + 1 / 2) = if Even z then z else z + 1 := by
  have hf : ⌊(z : ℝ) + 1 / 2⌋ = z := by
    rw [Int.floor_eq_iff]
    constructor <;> linarith
  have hr : Int.fract ((z : ℝ) + 1 / 2) = 1 / 2 := by
    have := Int.self_sub_floor ((z : ℝ) + 1 / 2)
    rw [hf] at this
    linarith
  rw [roundEven, hr, hf, if_neg (by norm_num), if_neg (by norm_num)]

theorem round_int_add_half (z : ℤ) : round ((z : ℝ) + 1 / 2) = z + 1 := by
  rw [round_eq, Int.floor_eq_iff]
  push_cast
  constructor <;> linarith

/-- ties-to-even: `1 + 2^-p`, half-way between `1` and `1 + 2^(1-p)`, rounds DOWN to `1` (significand `2^(p-1)` even),
    so the bound of `fl_err` is attained up to the factor `1 + 2^-p`, and `fl p ≠ id` -/
theorem fl_one_add_half_ulp {p : ℕ} (hp : 2 ≤ p) : fl p (1 + (2 : ℝ) ^ (-(p : ℤ))) = 1 := by
  obtain ⟨q, rfl⟩ : ∃ q, p = q + 1 := ⟨p - 1, by omega⟩
  have hpos : (0 : ℝ) < 2 ^ (-((q + 1 : ℕ) : ℤ)) := by positivity
  rw [fl, flW_of_nonneg _ _ (by linarith), flAbs_one_add, roundEven_int_add_half]
  have : Even ((2 : ℤ) ^ q) := (Int.even_pow' (by omega)).mpr (by norm_num)
  rw [if_pos this]
  push_cast
  rw [← zpow_natCast, ← zpow_add₀ two_ne_zero]
  simp

theorem flA_one_add_half_ulp {p : ℕ} (hp : 1 ≤ p) :
    flA p (1 + (2 : ℝ) ^ (-(p : ℤ))) = 1 + 2 ^ (-((p : ℤ) - 1)) := by
  obtain ⟨q, rfl⟩ : ∃ q, p = q + 1 := ⟨p - 1, by omega⟩
  have hpos : (0 : ℝ) < 2 ^ (-((q + 1 : ℕ) : ℤ)) := by positivity
  rw [flA, flW_of_nonneg _ _ (by linarith), flAbs_one_add, round_int_add_half]
  push_cast
  rw [add_sub_cancel_right, add_mul, one_mul, ← zpow_natCast, ← zpow_add₀ two_ne_zero]
  simp

theorem fl_ne_id {p : ℕ} (hp : 2 ≤ p) : fl p ≠ id := by
  intro h
  have h1 := fl_one_add_half_ulp hp
  rw [h, id, add_eq_left] at h1
  exact (zpow_pos two_pos _).ne' h1

/-! ## the tie clause in IEEE's own terms: the NORMALISED significand is even -/

theorem tie_even_of_normalised {p : ℕ} (hp : 2 ≤ p) {a : ℝ} (ha : 0 < a) {y : ℝ} {z : ℤ}
    (hyz : y = (z : ℝ) * 2 ^ expo p a) (hz : |(z : ℝ) - a / 2 ^ expo p a| ≤ 1 / 2)
    (hN : ∃ (m : ℕ) (k : ℤ), 2 ^ (p - 1) ≤ m ∧ m < 2 ^ p ∧ Even m ∧ |y| = (m : ℝ) * 2 ^ k) :
    ∃ n : ℤ, Even n ∧ |y| = (n : ℝ) * 2 ^ expo p a := by
  have hp1 : 1 ≤ p := by omega
  obtain ⟨z1, z2⟩ := int_near_mem_Icc hz (sig_mem hp1 ha).1 (sig_mem hp1 ha).2
  set e := expo p a
  have z0 : (0 : ℝ) < z := by exact_mod_cast lt_of_lt_of_le (by positivity) z1
  have hy : |y| = (z : ℝ) * 2 ^ e := by rw [hyz, abs_of_pos (by positivity)]
  refine ⟨z, ?_, hy⟩
  rcases z2.lt_or_eq with z2 | z2
  · -- `z` and `m` are both normalised significands of `|y|`, so they coincide
    obtain ⟨m, k, hm1, hm2, hme, hmk⟩ := hN
    have k1 := expo_mul_zpow hp1 k (s := m) (by exact_mod_cast hm1) (by exact_mod_cast hm2)
    have k2 := expo_mul_zpow hp1 e (s := z) (by exact_mod_cast z1) (by exact_mod_cast z2)
    rw [← hy, hmk, k1] at k2
    rw [k2] at hmk
    have : (z : ℝ) = (m : ℝ) := mul_right_cancel₀ (by positivity) (hy.symm.trans hmk)
    have : z = (m : ℤ) := by exact_mod_cast this
    rw [this]
    exact (Int.even_coe_nat m).mpr hme
  · rw [z2]
    exact (Int.even_pow' (by omega)).mpr (by norm_num)

/-- **`fl_unique` with the tie clause as in IEEE 754 §4.3.1** (`p ≥ 2`): at a tie the candidate's normalised
    `p`-bit significand `m` (`2^(p-1) ≤ m < 2^p`, `|y| = m · 2^k`) is even -/
theorem fl_unique_normalised {p : ℕ} (hp : 2 ≤ p) (x : ℝ) {y : ℝ} (hy : y ∈ F p)
    (hnear : ∀ y' ∈ F p, |y - x| ≤ |y' - x|)
    (htie : IsTie p x → ∃ (m : ℕ) (k : ℤ), 2 ^ (p - 1) ≤ m ∧ m < 2 ^ p ∧ Even m ∧ |y| = (m : ℝ) * 2 ^ k) :
    y = fl p x := by
  have hp1 : 1 ≤ p := by omega
  refine fl_unique hp1 x hy hnear (fun ht => ?_)
  have hx : 0 < |x| := by
    rcases eq_or_ne x 0 with h | h
    · exfalso
      unfold IsTie at ht
      rw [h] at ht
      simp at ht
    · exact abs_pos.mpr h
  have h1 : abs (|y| - |x|) ≤ abs (flAbs roundEven p |x| - |x|) := by
    rw [← abs_flW_sub intRnd_roundEven]
    exact le_trans (abs_abs_sub_abs_le y x) (hnear _ (flW_mem intRnd_roundEven hp1 x))
  obtain ⟨z, hz1, hz2⟩ := near_is_grid intRnd_roundEven hp1 hx (abs_mem_F_iff.mpr hy) h1
  have := tie_even_of_normalised hp hx hz1 hz2 (by rw [abs_abs]; exact htie ht)
  rwa [abs_abs] at this

end
end RoundNearest
