import NflowsModel.Lemmas.RoundLayers
import NflowsModel.Core.Wrappers
import Mathlib.Topology.MetricSpace.Pseudo.Pi
import Mathlib.Tactic
/-!
# Lemmas/RoundFlow — vector layers as Lipschitz stages, whole flows, accumulated log-det (C19, numeric clause)

Continues `Lemmas/RoundLayers`.  Vectors of a fixed width `n` are `V n = Fin n → ℝ` with the
sup metric of the product (`dist x y = max_i |x_i - y_i|`), so that `RoundModel.compose_err` applies as it stands.
`toV n : List ℝ → V n` / `List.ofFn` translate from / to the lists the executed programs work on.
-/
open NF DualSound

namespace RoundModel
noncomputable section

variable {u : ℝ} {r : ℝ → ℝ} (e : Float → ℝ) {n : ℕ}

/-! ## vectors of width `n` -/

abbrev V (n : ℕ) := Fin n → ℝ

def toV (n : ℕ) (l : List ℝ) : V n := fun i => l.getD i 0

theorem toV_eq_vecFn (n : ℕ) : toV n = LinearBridge.vecFn n := rfl

theorem toV_apply (l : List ℝ) (i : Fin n) (hl : i.1 < l.length) : toV n l i = l[i.1] :=
  List.getD_eq_getElem l 0 hl

@[simp] theorem toV_ofFn (v : V n) : toV n (List.ofFn v) = v := by
  funext i
  rw [toV_apply _ _ (by simp)]
  simp

theorem ofFn_toV (l : List ℝ) (hl : l.length = n) : List.ofFn (toV n l) = l :=
  (LinearBridge.list_eq_ofFn l hl).symm

theorem dist_entry (x y : V n) (i : Fin n) : |x i - y i| ≤ dist x y := by
  rw [← Real.dist_eq]; exact dist_le_pi_dist x y i

theorem dist_V_le {x y : V n} {c : ℝ} (hc : 0 ≤ c) (h : ∀ i, |x i - y i| ≤ c) : dist x y ≤ c := by
  rw [dist_pi_le_iff hc]
  intro i; rw [Real.dist_eq]; exact h i

theorem dot_ofFn_lip (row : List ℝ) (x y : V n) :
    |LF.dot realOps row (List.ofFn x) - LF.dot realOps row (List.ofFn y)| ≤ absSum row * dist x y := by
  rw [List.ofFn_eq_map, List.ofFn_eq_map]
  refine (dot_map_diff row (List.finRange n) x y (fun _ => dist x y) fun i _ => dist_entry x y i).trans ?_
  exact wsum_map_const_le row _ _ dist_nonneg

theorem le_maxL_map {β : Type*} (f : β → ℝ) {l : List β} {a : β} (h : a ∈ l) : f a ≤ maxL (l.map f) :=
  le_maxL (List.mem_map_of_mem h)

theorem absDot_ofFn_le (row : List ℝ) (x : V n) (M : ℝ) (hM0 : 0 ≤ M) (hM : ∀ i, |x i| ≤ M) :
    absDot row (List.ofFn x) ≤ absSum row * M := by
  rw [List.ofFn_eq_map]
  exact (absDot_map_le row (List.finRange n) x (fun _ => M) fun i _ => hM i).trans
    (wsum_map_const_le row _ M hM0)

theorem absDot_row_le {W : List (List ℝ)} {row : List ℝ} (hrow : row ∈ W) (x : V n) (M : ℝ) (hM0 : 0 ≤ M)
    (hM : ∀ i, |x i| ≤ M) : absDot row (List.ofFn x) ≤ maxL (W.map absSum) * M :=
  (absDot_ofFn_le row x M hM0 hM).trans (mul_le_mul_of_nonneg_right (le_maxL_map absSum hrow) hM0)

theorem dot_row_lip {W : List (List ℝ)} {row : List ℝ} (hrow : row ∈ W) (x y : V n) :
    |LF.dot realOps row (List.ofFn x) - LF.dot realOps row (List.ofFn y)| ≤ maxL (W.map absSum) * dist x y :=
  (dot_ofFn_lip row x y).trans (mul_le_mul_of_nonneg_right (le_maxL_map absSum hrow) dist_nonneg)

/-! ## the linear layers as stages -/

/-- `F.linear(x, W)` (no bias) on vectors of width `n` -/
def lin0Stage (n : ℕ) (u : ℝ) (r : ℝ → ℝ) (W : List (List ℝ)) : Stage (V n) where
  fc x := toV n (LF.matVec (rndOps r) W (List.ofFn x))
  fe x := toV n (LF.matVec realOps W (List.ofFn x))
  eps x := ((1 + u) ^ (n + 1) - 1) * maxL (W.map fun row => absDot row (List.ofFn x))
  L := maxL (W.map absSum)

/-- `F.linear(x, W, b)` on vectors of width `n` -/
def linStage (n : ℕ) (u : ℝ) (r : ℝ → ℝ) (W : List (List ℝ)) (b : List ℝ) : Stage (V n) where
  fc x := toV n (linRow (rndOps r) W b (List.ofFn x))
  fe x := toV n (linRow realOps W b (List.ofFn x))
  eps x := maxL (List.zipWith (fun row bi => ((1 + u) ^ (n + 2) - 1) * absDot row (List.ofFn x) + u * |bi|) W b)
  L := maxL (W.map absSum)

theorem matVec_entry (o : Ops ℝ) (W : List (List ℝ)) (xs : List ℝ) (hW : W.length = n) (i : Fin n) :
    toV n (LF.matVec o W xs) i = LF.dot o (W[i.1]'(by omega)) xs := by
  rw [toV_apply _ _ (by simp [LF.matVec, hW])]
  simp [LF.matVec]

theorem linRow_entry (o : Ops ℝ) (W : List (List ℝ)) (b xs : List ℝ) (hW : W.length = n) (hb : b.length = n)
    (i : Fin n) :
    toV n (linRow o W b xs) i = o.add (LF.dot o (W[i.1]'(by omega)) xs) (b[i.1]'(by omega)) := by
  rw [toV_apply _ _ (by rw [linRow_length]; omega)]
  exact linRow_getElem o W b xs i.1 (by omega) (by omega)

theorem pow_sub_one_nonneg (h : Rnd u r) (k : ℕ) : 0 ≤ (1 + u) ^ k - 1 := by
  have := one_le_pow1 h k; linarith

theorem lin0Stage_ok (h : Rnd u r) (W : List (List ℝ)) (hW : W.length = n) : (lin0Stage n u r W).OK where
  err x := by
    apply dist_V_le (mul_nonneg (pow_sub_one_nonneg h _) (maxL_nonneg _))
    intro i
    have hi : i.1 < W.length := by omega
    simp only [lin0Stage, matVec_entry _ W _ hW]
    refine (matVec_row_err h (List.ofFn x) n W[i.1] (by simp)).trans ?_
    exact mul_le_mul_of_nonneg_left (le_maxL_map (absDot · (List.ofFn x)) (List.getElem_mem hi))
      (pow_sub_one_nonneg h _)
  lip x y := by
    apply dist_V_le (mul_nonneg (maxL_nonneg _) dist_nonneg)
    intro i
    simp only [lin0Stage, matVec_entry _ W _ hW]
    exact dot_row_lip (List.getElem_mem _) x y
  L_nonneg := maxL_nonneg _

theorem linStage_ok (h : Rnd u r) (W : List (List ℝ)) (b : List ℝ) (hW : W.length = n) (hb : b.length = n) :
    (linStage n u r W b).OK where
  err x := by
    apply dist_V_le (maxL_nonneg _)
    intro i
    have hi : i.1 < W.length := by omega
    have hi' : i.1 < b.length := by omega
    simp only [linStage, linRow_entry _ W b _ hW hb]
    have h1 := linear_entry_err h W[i.1] (List.ofFn x) b[i.1]
    have h2 : (1 + u) ^ (min (W[i.1]).length (List.ofFn x).length + 2) ≤ (1 + u) ^ (n + 2) :=
      pow1_mono h (by simp)
    have h3 := mul_le_mul_of_nonneg_right (sub_le_sub_right h2 1) (absDot_nonneg W[i.1] (List.ofFn x))
    refine (h1.trans (add_le_add h3 le_rfl)).trans (le_maxL ?_)
    have hlen : i.1 < (List.zipWith (fun row bi => ((1 + u) ^ (n + 2) - 1) * absDot row (List.ofFn x) + u * |bi|)
        W b).length := by simp; omega
    have := List.getElem_mem hlen
    rwa [List.getElem_zipWith] at this
  lip x y := by
    apply dist_V_le (mul_nonneg (maxL_nonneg _) dist_nonneg)
    intro i
    simp only [linStage, linRow_entry _ W b _ hW hb]
    rw [show ∀ a c d : ℝ, realOps.add a d - realOps.add c d = a - c from fun a c d => add_sub_add_right_eq_sub a c d]
    exact dot_row_lip (List.getElem_mem _) x y
  L_nonneg := maxL_nonneg _

/-! ## element-wise layers as stages -/

def ewStage (n : ℕ) (ss : Fin n → Stage ℝ) : Stage (V n) where
  fc x i := (ss i).fc (x i)
  fe x i := (ss i).fe (x i)
  eps x := maxL (List.ofFn fun i => (ss i).eps (x i))
  L := maxL (List.ofFn fun i => (ss i).L)

theorem ewStage_ok (ss : Fin n → Stage ℝ) (hss : ∀ i, (ss i).OK) : (ewStage n ss).OK where
  err x := by
    apply dist_V_le (maxL_nonneg _)
    intro i
    have := (hss i).err (x i)
    rw [Real.dist_eq] at this
    exact this.trans (le_maxL ((List.mem_ofFn' _ _).mpr ⟨i, rfl⟩))
  lip x y := by
    apply dist_V_le (mul_nonneg (maxL_nonneg _) dist_nonneg)
    intro i
    have h1 := (hss i).lip (x i) (y i)
    rw [Real.dist_eq, Real.dist_eq] at h1
    have h2 : (ss i).L ≤ maxL (List.ofFn fun i => (ss i).L) := le_maxL ((List.mem_ofFn' _ _).mpr ⟨i, rfl⟩)
    have h3 := mul_le_mul_of_nonneg_left (dist_entry x y i) (hss i).L_nonneg
    have h4 := mul_le_mul_of_nonneg_right h2 (dist_nonneg (x := x) (y := y))
    exact h1.trans (h3.trans h4)
  L_nonneg := maxL_nonneg _

def leakyStage (u : ℝ) (r : ℝ → ℝ) (σ : ℝ) : Stage ℝ where
  fc x := if x < 0 then r (r σ * x) else x
  fe x := if x < 0 then σ * x else x
  eps x := if x < 0 then (2 * u + u ^ 2) * |σ * x| else 0
  L := max 1 |σ|

theorem leakyStage_ok (h : Rnd u r) (slope : Float) : (leakyStage u r (e slope)).OK where
  err x := by
    rw [Real.dist_eq]
    exact (leakyReluT_fwd_err e h slope 0 x (leakyReluT_rnd e h slope 0 x) (leakyReluT_real e slope 0 x)).1
  lip x y := by
    rw [Real.dist_eq, Real.dist_eq]; exact leaky_lip _ x y
  L_nonneg := le_trans zero_le_one (le_max_left _ _)

/-! ## layers as transform objects built from the executed programs, and flows (`Wrap.cascade`) -/

def ewRun : List (ℝ → Except Err (ℝ × ℝ)) → List ℝ → Except Err (List (ℝ × ℝ))
  | f :: fs, a :: as =>
    match f a with
    | .error err => .error err
    | .ok p => match ewRun fs as with
      | .error err => .error err
      | .ok ps => .ok (p :: ps)
  | _, _ => .ok []

/-- an element-wise layer: outputs, and `sum_except_batch` of the per-element log-abs-dets -/
def ewLayer (o : XOps ℝ) (fs : List (ℝ → Except Err (ℝ × ℝ))) (x : List ℝ) : Except Err (List ℝ × ℝ) :=
  match ewRun fs x with
  | .error err => .error err
  | .ok ps => .ok (ps.map Prod.fst, sumG o (ps.map Prod.snd))

theorem ewRun_map_ok {β : Type} (ps : List β) (F : β → ℝ → Except Err (ℝ × ℝ)) (G : β → ℝ → ℝ × ℝ)
    (hFG : ∀ p a, F p a = .ok (G p a)) (x : List ℝ) : ewRun (ps.map F) x = .ok (List.zipWith G ps x) := by
  induction ps generalizing x with
  | nil => cases x <;> rfl
  | cons p ps ih =>
    cases x with
    | nil => rfl
    | cons a as => simp only [List.map_cons, ewRun, hFG, ih, List.zipWith_cons_cons]

/-- the layers of a vector flow.  `d` is the positive diagonal from which the log-abs-det of a linear layer is computed
    (`LF.sumLog`, as `LULinear` / `SVDLinear` do) -/
inductive Layer
  /-- `F.linear(x, W, b)` -/
  | lin (W : List (List ℝ)) (b d : List ℝ)
  /-- `F.linear(F.linear(x, U), L, b)`: the forward pass of `LULinear` with given factors -/
  | lu (L U : List (List ℝ)) (b d : List ℝ)
  /-- feature `i` through `affineT` with scale / shift `st[i]` -/
  | aff (st : List (ℝ × ℝ))
  /-- every feature through `leakyReluT` (`Ls` is the attribute `log_negative_slope`) -/
  | leaky (slope : Float) (Ls : ℝ)

/-- the layer as a transform object (`forward`), built from the EXECUTED programs of `Core/` -/
def Layer.fwd (o : XOps ℝ) : Layer → List ℝ → Unit → Except Err (List ℝ × ℝ)
  | .lin W b d, x, _ => .ok (linRow o.toOps W b x, LF.sumLog o.toOps d)
  | .lu L U b d, x, _ => .ok (luRow o.toOps L U b x, LF.sumLog o.toOps d)
  | .aff st, x, _ => ewLayer o (st.map fun p => affineT o p.1 p.2 false) x
  | .leaky slope Ls, x, _ => ewLayer o (x.map fun _ => leakyReluT o slope Ls false) x

def Layer.WF (n : ℕ) : Layer → Prop
  | .lin W b _ => W.length = n ∧ b.length = n
  | .lu L U b _ => L.length = n ∧ U.length = n ∧ b.length = n
  | .aff st => st.length = n
  | .leaky _ _ => True

def Layer.stages (n : ℕ) (u : ℝ) (r : ℝ → ℝ) (e : Float → ℝ) : Layer → List (Stage (V n))
  | .lin W b _ => [linStage n u r W b]
  | .lu L U b _ => [lin0Stage n u r U, linStage n u r L b]
  | .aff st => [ewStage n fun i => affStage u r (st.getD i.1 (1, 0))]
  | .leaky slope _ => [ewStage n fun _ => leakyStage u r (e slope)]

/-- the (output, log-abs-det) of the executed affine element at rounding `r` -/
def affG (r : ℝ → ℝ) (p : ℝ × ℝ) (a : ℝ) : ℝ × ℝ := (r (r (a * p.1) + p.2), r (Real.log |p.1|))
/-- the (output, log-abs-det) of the executed LeakyReLU element at rounding `r` -/
def leakyG (r : ℝ → ℝ) (e : Float → ℝ) (slope : Float) (Ls : ℝ) (a : ℝ) : ℝ × ℝ :=
  (if a < 0 then r (r (e slope) * a) else a, if a < 0 then r (Ls * (rndX r e).one) else 0)

/-- the log-abs-det the layer returns when run at rounding `r` on the input `x` -/
def Layer.ld (r : ℝ → ℝ) (e : Float → ℝ) : Layer → List ℝ → ℝ
  | .lin _ _ d, _ => LF.sumLog (rndOps r) d
  | .lu _ _ _ d, _ => LF.sumLog (rndOps r) d
  | .aff st, x => sumG (rndX r e) ((List.zipWith (affG r) st x).map Prod.snd)
  | .leaky slope Ls, x => sumG (rndX r e) ((List.zipWith (fun _ a => leakyG r e slope Ls a) x x).map Prod.snd)

theorem Layer.stages_ok (h : Rnd u r) (l : Layer) (hl : l.WF n) : ∀ s ∈ l.stages n u r e, s.OK := by
  cases l with
  | lin W b d => intro s hs; simp only [Layer.stages, List.mem_singleton] at hs; subst hs; exact linStage_ok h W b hl.1 hl.2
  | lu L U b d =>
    intro s hs
    simp only [Layer.stages, List.mem_cons, List.not_mem_nil, or_false] at hs
    rcases hs with rfl | rfl
    · exact lin0Stage_ok h U hl.2.1
    · exact linStage_ok h L b hl.1 hl.2.2
  | aff st =>
    intro s hs; simp only [Layer.stages, List.mem_singleton] at hs; subst hs
    exact ewStage_ok _ fun i => affStage_ok h _
  | leaky slope Ls =>
    intro s hs; simp only [Layer.stages, List.mem_singleton] at hs; subst hs
    exact ewStage_ok _ fun _ => leakyStage_ok e h slope

theorem Layer.fwd_rnd (h : Rnd u r) (l : Layer) (hl : l.WF n) (x : List ℝ) (hx : x.length = n) :
    l.fwd (rndX r e) x () = .ok (List.ofFn (runC (l.stages n u r e) (toV n x)), l.ld r e x) := by
  cases l with
  | lin W b d =>
    simp only [Layer.fwd, Layer.stages, Layer.ld, runC, List.foldl_cons, List.foldl_nil, linStage, rndX_toOps,
      ofFn_toV x hx]
    rw [ofFn_toV _ (by rw [linRow_length, hl.1, hl.2]; simp)]
  | lu L U b d =>
    obtain ⟨hL, hU, hb⟩ := hl
    simp only [Layer.fwd, Layer.stages, Layer.ld, runC, List.foldl_cons, List.foldl_nil, linStage, lin0Stage,
      rndX_toOps, ofFn_toV x hx]
    rw [ofFn_toV (LF.matVec (rndOps r) U x) (by simp [LF.matVec, hU]),
      ofFn_toV _ (by rw [linRow_length, hL, hb]; simp)]
    rfl
  | aff st =>
    have hst : st.length = n := hl
    simp only [Layer.fwd, Layer.stages, Layer.ld, runC, List.foldl_cons, List.foldl_nil, ewLayer]
    rw [ewRun_map_ok st (fun p => affineT (rndX r e) p.1 p.2 false) (affG r) (fun p a => rfl)]
    simp only [Except.ok.injEq, Prod.mk.injEq, and_true]
    apply List.ext_getElem
    · simp [hst, hx]
    · intro i h1 h2
      have hi : i < n := by simpa using h2
      simp only [List.getElem_map, List.getElem_zipWith, List.getElem_ofFn, ewStage, affStage, affG]
      rw [toV_apply x ⟨i, hi⟩ (by simp; omega)]
      simp [List.getD_eq_getElem?_getD, hst, hi]
  | leaky slope Ls =>
    simp only [Layer.fwd, Layer.stages, Layer.ld, runC, List.foldl_cons, List.foldl_nil, ewLayer]
    rw [ewRun_map_ok x (fun _ => leakyReluT (rndX r e) slope Ls false) (fun _ a => leakyG r e slope Ls a)
      (fun _ a => leakyReluT_rnd e h slope Ls a)]
    simp only [Except.ok.injEq, Prod.mk.injEq, and_true]
    apply List.ext_getElem
    · simp [hx]
    · intro i h1 h2
      have hi : i < n := by simpa using h2
      simp only [List.getElem_map, List.getElem_zipWith, List.getElem_ofFn, ewStage, leakyStage, leakyG]
      rw [toV_apply x ⟨i, hi⟩ (by simp; omega)]

/-- how `CompositeTransform._cascade` accumulates the log-abs-det in the precision of `o`: from `o.zero`, with `o.add` -/
def ldOps (o : XOps ℝ) : Wrap.LD ℝ := ⟨o.zero, o.add⟩

/-- **the executed flow**: `CompositeTransform(layers).forward(x)` — `Wrap.cascade` of `Core/Wrappers` over the layers -/
def flowFwd (o : XOps ℝ) (ls : List Layer) (x : List ℝ) : Except Err (List ℝ × ℝ) :=
  Wrap.cascade (ldOps o) (ls.map (Layer.fwd o)) x ()

def stagesOf (n : ℕ) (u : ℝ) (r : ℝ → ℝ) (e : Float → ℝ) (ls : List Layer) : List (Stage (V n)) :=
  ls.flatMap (Layer.stages n u r e)

def ldsOf (n : ℕ) (u : ℝ) (r : ℝ → ℝ) (e : Float → ℝ) : List Layer → V n → List ℝ
  | [], _ => []
  | l :: ls, v => l.ld r e (List.ofFn v) :: ldsOf n u r e ls (runC (l.stages n u r e) v)

theorem runC_append {X : Type*} (a b : List (Stage X)) (x : X) : runC (a ++ b) x = runC b (runC a x) := by
  simp [runC, List.foldl_append]
theorem runE_append {X : Type*} (a b : List (Stage X)) (x : X) : runE (a ++ b) x = runE b (runE a x) := by
  simp [runE, List.foldl_append]

theorem stagesOf_cons (l : Layer) (ls : List Layer) :
    stagesOf n u r e (l :: ls) = l.stages n u r e ++ stagesOf n u r e ls := by
  simp [stagesOf]

theorem stagesOf_ok (h : Rnd u r) (ls : List Layer) (hwf : ∀ l ∈ ls, l.WF n) : ∀ s ∈ stagesOf n u r e ls, s.OK := by
  intro s hs
  obtain ⟨l, hl, hs⟩ := List.mem_flatMap.mp hs
  exact Layer.stages_ok e h l (hwf l hl) s hs

theorem cascadeFrom_run (h : Rnd u r) (ls : List Layer) (hwf : ∀ l ∈ ls, l.WF n) (x : List ℝ) (hx : x.length = n)
    (a : ℝ) :
    Wrap.cascadeFrom (ldOps (rndX r e)) (ls.map (Layer.fwd (rndX r e))) x a ()
      = .ok (List.ofFn (runC (stagesOf n u r e ls) (toV n x)),
             (ldsOf n u r e ls (toV n x)).foldl (fun a b => r (a + b)) a) := by
  induction ls generalizing x a with
  | nil => simp [Wrap.cascadeFrom, stagesOf, runC, ldsOf, ofFn_toV x hx]
  | cons l ls ih =>
    simp only [List.map_cons, Wrap.cascadeFrom]
    rw [Layer.fwd_rnd e h l (hwf l (by simp)) x hx]
    simp only []
    rw [ih (fun t ht => hwf t (by simp [ht])) _ (by simp)]
    simp only [toV_ofFn, stagesOf_cons, runC_append, ldsOf, List.foldl_cons, ofFn_toV x hx]
    rfl

theorem flowFwd_rnd (h : Rnd u r) (ls : List Layer) (hwf : ∀ l ∈ ls, l.WF n) (x : List ℝ) (hx : x.length = n) :
    flowFwd (rndX r e) ls x
      = .ok (List.ofFn (runC (stagesOf n u r e ls) (toV n x)),
             (ldsOf n u r e ls (toV n x)).foldl (fun a b => r (a + b)) 0) := by
  have := cascadeFrom_run e h ls hwf x hx (rndX r e).zero
  rw [h.zeroX] at this
  show Wrap.cascadeFrom _ _ x (rndX r e).zero () = _
  rw [h.zeroX]
  exact this

theorem Layer.stages_fc_id (l : Layer) :
    (l.stages n 0 id e).map Stage.fc = (l.stages n u r e).map Stage.fe := by
  cases l <;> rfl

theorem runC_id_eq_runE (ls : List Layer) (v : V n) :
    runC (stagesOf n 0 id e ls) v = runE (stagesOf n u r e ls) v := by
  apply runC_eq_runE_of_map
  simp only [stagesOf, List.map_flatMap]
  exact List.flatMap_congr fun l _ => Layer.stages_fc_id e l

theorem flowFwd_real (ls : List Layer) (hwf : ∀ l ∈ ls, l.WF n) (x : List ℝ) (hx : x.length = n) :
    flowFwd (NF.realX e) ls x
      = .ok (List.ofFn (runE (stagesOf n u r e ls) (toV n x)), (ldsOf n 0 id e ls (toV n x)).sum) := by
  have := flowFwd_rnd e rnd_id ls hwf x hx
  rw [rndX_id, runC_id_eq_runE (u := u) (r := r)] at this
  rw [this]
  congr 2
  generalize ldsOf n 0 id e ls (toV n x) = l
  have := foldl_err rnd_id l 0
  simp only [add_zero, one_pow, sub_self, zero_mul, zero_add] at this
  exact sub_eq_zero.mp (abs_eq_zero.mp (le_antisymm this (abs_nonneg _)))

/-- **a flow of `k` vector layers, executed in precision `u`**: the output is within the explicit recursion `errB` of the
    exact flow, in the sup norm (`errB` feeds every stage's local error, evaluated at the COMPUTED intermediate vector,
    through the Lipschitz constants `‖W‖_∞`, `max_i |s_i|`, `max 1 |σ|` of the stages that follow) -/
theorem flow_err (h : Rnd u r) (ls : List Layer) (hwf : ∀ l ∈ ls, l.WF n) (x : List ℝ) (hx : x.length = n)
    {y y' : List ℝ} {l l' : ℝ}
    (hc : flowFwd (rndX r e) ls x = .ok (y, l)) (he : flowFwd (NF.realX e) ls x = .ok (y', l')) :
    y.length = n ∧ y'.length = n ∧ dist (toV n y) (toV n y') ≤ errB (stagesOf n u r e ls) (toV n x) 0 := by
  rw [flowFwd_rnd e h ls hwf x hx] at hc
  rw [flowFwd_real (u := u) (r := r) e ls hwf x hx] at he
  simp only [Except.ok.injEq, Prod.mk.injEq] at hc he
  obtain ⟨rfl, -⟩ := hc; obtain ⟨rfl, -⟩ := he
  refine ⟨by simp, by simp, ?_⟩
  rw [toV_ofFn, toV_ofFn]
  exact compose_err₀ _ (stagesOf_ok e h ls hwf) _

theorem flow_err_entry (h : Rnd u r) (ls : List Layer) (hwf : ∀ l ∈ ls, l.WF n) (x : List ℝ) (hx : x.length = n)
    {y y' : List ℝ} {l l' : ℝ}
    (hc : flowFwd (rndX r e) ls x = .ok (y, l)) (he : flowFwd (NF.realX e) ls x = .ok (y', l'))
    (i : ℕ) (hi : i < n) :
    |y.getD i 0 - y'.getD i 0| ≤ errB (stagesOf n u r e ls) (toV n x) 0 :=
  (dist_entry (toV n y) (toV n y') ⟨i, hi⟩).trans (flow_err e h ls hwf x hx hc he).2.2

/-- **`f32_f64_agree_flow`**: the same flow run in two precisions — the outputs differ, in the sup norm, by at most the
    sum of the two explicit error recursions -/
theorem f32_f64_agree_flow {u32 u64 : ℝ} {r32 r64 : ℝ → ℝ} (h32 : Rnd u32 r32) (h64 : Rnd u64 r64)
    (ls : List Layer) (hwf : ∀ l ∈ ls, l.WF n) (x : List ℝ) (hx : x.length = n) {y y' : List ℝ} {l l' : ℝ}
    (hc : flowFwd (rndX r32 e) ls x = .ok (y, l)) (he : flowFwd (rndX r64 e) ls x = .ok (y', l')) :
    dist (toV n y) (toV n y')
      ≤ errB (stagesOf n u32 r32 e ls) (toV n x) 0 + errB (stagesOf n u64 r64 e ls) (toV n x) 0 := by
  have a := (flow_err e h32 ls hwf x hx hc (flowFwd_real (u := u32) (r := r32) e ls hwf x hx)).2.2
  have b := (flow_err e h64 ls hwf x hx he (flowFwd_real (u := u32) (r := r32) e ls hwf x hx)).2.2
  have := dist_triangle_right (toV n y) (toV n y') (toV n (List.ofFn (runE (stagesOf n u32 r32 e ls) (toV n x))))
  linarith

theorem f32_f64_agree_flow_entry {u32 u64 : ℝ} {r32 r64 : ℝ → ℝ} (h32 : Rnd u32 r32) (h64 : Rnd u64 r64)
    (ls : List Layer) (hwf : ∀ l ∈ ls, l.WF n) (x : List ℝ) (hx : x.length = n) {y y' : List ℝ} {l l' : ℝ}
    (hc : flowFwd (rndX r32 e) ls x = .ok (y, l)) (he : flowFwd (rndX r64 e) ls x = .ok (y', l'))
    (i : ℕ) (hi : i < n) :
    |y.getD i 0 - y'.getD i 0|
      ≤ errB (stagesOf n u32 r32 e ls) (toV n x) 0 + errB (stagesOf n u64 r64 e ls) (toV n x) 0 :=
  (dist_entry (toV n y) (toV n y') ⟨i, hi⟩).trans (f32_f64_agree_flow e h32 h64 ls hwf x hx hc he)

/-! ## the accumulated log-abs-det of a flow of constant-Jacobian layers -/

/-- **a rounded running sum of perturbed terms** (`total_logabsdet += logabsdet`, from zero) -/
theorem foldl_pert_err {β : Type*} (h : Rnd u r) (ls : List β) (c ex η : β → ℝ) (hce : ∀ b ∈ ls, |c b - ex b| ≤ η b) :
    |(ls.map c).foldl (fun a x => r (a + x)) 0 - (ls.map ex).sum|
      ≤ ((1 + u) ^ ls.length - 1) * (absSum (ls.map ex) + (ls.map η).sum) + (ls.map η).sum := by
  apply pert_round_err ls c ex η hce (one_le_pow1 h _)
  simpa only [List.length_map] using foldl_err₀ h (ls.map c)

/-- layers whose log-abs-det does not depend on the input (everything but LeakyReLU) -/
def Layer.Const : Layer → Prop
  | .leaky _ _ => False
  | _ => True

def Layer.diag : Layer → List ℝ
  | .lin _ _ d => d
  | .lu _ _ _ d => d
  | .aff st => st.map fun p => |p.1|
  | .leaky _ _ => []

def Layer.ldExact (l : Layer) : ℝ := LF.sumLog realOps l.diag
def Layer.ldEps (u : ℝ) (l : Layer) : ℝ := ((1 + u) ^ (l.diag.length + 1) - 1) * absSum (l.diag.map Real.log)

theorem sumLog_real (d : List ℝ) : LF.sumLog realOps d = (d.map Real.log).sum := by
  unfold LF.sumLog; rw [LFTriSolve.sum_real]; rfl

theorem zipWith_affG_snd (st : List (ℝ × ℝ)) (x : List ℝ) (hx : st.length ≤ x.length) :
    (List.zipWith (affG r) st x).map Prod.snd = (st.map fun p => |p.1|).map (rndOps r).log := by
  induction st generalizing x with
  | nil => simp
  | cons p st ih =>
    cases x with
    | nil => simp at hx
    | cons a as =>
      simp only [List.zipWith_cons_cons, List.map_cons, ih as (by simpa using hx)]
      rfl

theorem Layer.ld_const (l : Layer) (hc : l.Const) (hl : l.WF n) (x : List ℝ) (hx : x.length = n) :
    l.ld r e x = LF.sumLog (rndOps r) l.diag := by
  cases l with
  | lin W b d => rfl
  | lu L U b d => rfl
  | aff st =>
    have hst : st.length = n := hl
    simp only [Layer.ld, Layer.diag]
    rw [zipWith_affG_snd st x (by omega)]
    rfl
  | leaky slope Ls => exact hc.elim

theorem ldsOf_const (ls : List Layer) (hc : ∀ l ∈ ls, l.Const) (hwf : ∀ l ∈ ls, l.WF n) (v : V n) :
    ldsOf n u r e ls v = ls.map fun l => LF.sumLog (rndOps r) l.diag := by
  induction ls generalizing v with
  | nil => rfl
  | cons l ls ih =>
    simp only [ldsOf, List.map_cons]
    rw [Layer.ld_const e l (hc l (by simp)) (hwf l (by simp)) _ (by simp),
      ih (fun t ht => hc t (by simp [ht])) (fun t ht => hwf t (by simp [ht]))]

/-- **the log-abs-det of a flow of constant-Jacobian layers (LU / linear / point-wise affine), executed**: with
    `ℓ_j = Σ_i log d_ji` the exact log-det of layer `j`, `η_j = ((1+u)^(m_j+1) - 1) Σ_i |log d_ji|` its own rounding
    budget (`sumLog_err`) and `k` the number of layers,
    `|computed total - exact total| ≤ ((1+u)^k - 1)(Σ_j |ℓ_j| + Σ_j η_j) + Σ_j η_j`;
    the exact total is `Σ_j ℓ_j`.  (The diagonals are GIVEN: their computation from the parameters is not analysed.) -/
theorem flow_ld_err (h : Rnd u r) (ls : List Layer) (hconst : ∀ l ∈ ls, l.Const) (hwf : ∀ l ∈ ls, l.WF n)
    (x : List ℝ) (hx : x.length = n) {y y' : List ℝ} {l l' : ℝ}
    (hc : flowFwd (rndX r e) ls x = .ok (y, l)) (he : flowFwd (NF.realX e) ls x = .ok (y', l')) :
    l' = (ls.map Layer.ldExact).sum ∧
    |l - l'| ≤ ((1 + u) ^ ls.length - 1) * (absSum (ls.map Layer.ldExact) + (ls.map (Layer.ldEps u)).sum)
        + (ls.map (Layer.ldEps u)).sum := by
  rw [flowFwd_rnd e h ls hwf x hx] at hc
  rw [flowFwd_real (u := u) (r := r) e ls hwf x hx] at he
  simp only [Except.ok.injEq, Prod.mk.injEq] at hc he
  obtain ⟨-, rfl⟩ := hc; obtain ⟨-, rfl⟩ := he
  rw [ldsOf_const e ls hconst hwf, ldsOf_const e ls hconst hwf]
  have e1 : (ls.map fun l => LF.sumLog (rndOps id) l.diag) = ls.map Layer.ldExact := rfl
  rw [e1]
  refine ⟨rfl, ?_⟩
  exact foldl_pert_err h ls _ Layer.ldExact (Layer.ldEps u) fun l _ => sumLog_err h l.diag

theorem f32_f64_agree_flow_ld {u32 u64 : ℝ} {r32 r64 : ℝ → ℝ} (h32 : Rnd u32 r32) (h64 : Rnd u64 r64)
    (ls : List Layer) (hconst : ∀ l ∈ ls, l.Const) (hwf : ∀ l ∈ ls, l.WF n)
    (x : List ℝ) (hx : x.length = n) {y y' : List ℝ} {l l' : ℝ}
    (hc : flowFwd (rndX r32 e) ls x = .ok (y, l)) (he : flowFwd (rndX r64 e) ls x = .ok (y', l')) :
    |l - l'| ≤ (((1 + u32) ^ ls.length - 1) * (absSum (ls.map Layer.ldExact) + (ls.map (Layer.ldEps u32)).sum)
          + (ls.map (Layer.ldEps u32)).sum)
        + (((1 + u64) ^ ls.length - 1) * (absSum (ls.map Layer.ldExact) + (ls.map (Layer.ldEps u64)).sum)
          + (ls.map (Layer.ldEps u64)).sum) :=
  tri (flow_ld_err e h32 ls hconst hwf x hx hc (flowFwd_real (u := u32) (r := r32) e ls hwf x hx)).2
    (flow_ld_err e h64 ls hconst hwf x hx he (flowFwd_real (u := u32) (r := r32) e ls hwf x hx)).2

/-! ## closed form along the computed trajectory, a-priori bounds of the local errors -/

/-- **closed form of `f32_f64_agree_flow`**: local errors at most `E32` / `E64` along the two computed trajectories, all
    Lipschitz constants at most `Λ`, `K` stages: the outputs differ by at most `(E32 + E64)(1 + Λ + … + Λ^(K-1))` -/
theorem f32_f64_agree_flow_traj {u32 u64 : ℝ} {r32 r64 : ℝ → ℝ} (h32 : Rnd u32 r32) (h64 : Rnd u64 r64)
    (ls : List Layer) (hwf : ∀ l ∈ ls, l.WF n) (x : List ℝ) (hx : x.length = n) (E32 E64 Λ : ℝ)
    (hE32 : TrajBound E32 (stagesOf n u32 r32 e ls) (toV n x)) (hE64 : TrajBound E64 (stagesOf n u64 r64 e ls) (toV n x))
    (hΛ32 : ∀ s ∈ stagesOf n u32 r32 e ls, s.L ≤ Λ) (hΛ64 : ∀ s ∈ stagesOf n u64 r64 e ls, s.L ≤ Λ)
    (K : ℕ) (hK : K = (stagesOf n u32 r32 e ls).length) (hK' : K = (stagesOf n u64 r64 e ls).length)
    {y y' : List ℝ} {l l' : ℝ}
    (hc : flowFwd (rndX r32 e) ls x = .ok (y, l)) (he : flowFwd (rndX r64 e) ls x = .ok (y', l')) :
    dist (toV n y) (toV n y') ≤ (E32 + E64) * ∑ k ∈ Finset.range K, Λ ^ k := by
  have a := errB_traj _ (stagesOf_ok e h32 ls hwf) E32 Λ _ hE32 hΛ32 0 le_rfl
  have b := errB_traj _ (stagesOf_ok e h64 ls hwf) E64 Λ _ hE64 hΛ64 0 le_rfl
  rw [← hK] at a; rw [← hK'] at b
  have := f32_f64_agree_flow e h32 h64 ls hwf x hx hc he
  simp only [mul_zero, add_zero] at a b
  linarith

/-- … in particular under uniform bounds on the stages of the two runs.  The hypotheses `∀ v, s.eps v ≤ E` are NOT met by the
    stages of `Layer.stages` (their `eps` grows with `|v|`) unless `u = 0` or the weights vanish: `f32_f64_agree_flow_traj`, with the
    bounds along the computed trajectories only, is the usable form. -/
theorem f32_f64_agree_flow_uniform {u32 u64 : ℝ} {r32 r64 : ℝ → ℝ} (h32 : Rnd u32 r32) (h64 : Rnd u64 r64)
    (ls : List Layer) (hwf : ∀ l ∈ ls, l.WF n) (x : List ℝ) (hx : x.length = n) (E32 E64 Λ : ℝ)
    (hE32 : ∀ s ∈ stagesOf n u32 r32 e ls, ∀ v, s.eps v ≤ E32) (hE64 : ∀ s ∈ stagesOf n u64 r64 e ls, ∀ v, s.eps v ≤ E64)
    (hΛ32 : ∀ s ∈ stagesOf n u32 r32 e ls, s.L ≤ Λ) (hΛ64 : ∀ s ∈ stagesOf n u64 r64 e ls, s.L ≤ Λ)
    (K : ℕ) (hK : K = (stagesOf n u32 r32 e ls).length) (hK' : K = (stagesOf n u64 r64 e ls).length)
    {y y' : List ℝ} {l l' : ℝ}
    (hc : flowFwd (rndX r32 e) ls x = .ok (y, l)) (he : flowFwd (rndX r64 e) ls x = .ok (y', l')) :
    dist (toV n y) (toV n y') ≤ (E32 + E64) * ∑ k ∈ Finset.range K, Λ ^ k :=
  f32_f64_agree_flow_traj e h32 h64 ls hwf x hx E32 E64 Λ (.of_forall hE32 _) (.of_forall hE64 _) hΛ32 hΛ64 K hK hK' hc he

theorem lin0Stage_eps_le (h : Rnd u r) (W : List (List ℝ)) (x : V n) (M : ℝ) (hM0 : 0 ≤ M) (hM : ∀ i, |x i| ≤ M) :
    (lin0Stage n u r W).eps x ≤ ((1 + u) ^ (n + 1) - 1) * (maxL (W.map absSum) * M) := by
  apply mul_le_mul_of_nonneg_left _ (pow_sub_one_nonneg h _)
  apply maxL_le (mul_nonneg (maxL_nonneg _) hM0)
  intro a ha
  obtain ⟨row, hrow, rfl⟩ := List.mem_map.mp ha
  exact absDot_row_le hrow x M hM0 hM

theorem linStage_eps_le (h : Rnd u r) (W : List (List ℝ)) (b : List ℝ) (x : V n) (M : ℝ) (hM0 : 0 ≤ M)
    (hM : ∀ i, |x i| ≤ M) :
    (linStage n u r W b).eps x
      ≤ ((1 + u) ^ (n + 2) - 1) * (maxL (W.map absSum) * M) + u * maxL (b.map fun t => |t|) := by
  have hγ := pow_sub_one_nonneg h (n + 2)
  have hu := h.u_nonneg
  apply maxL_le (add_nonneg (mul_nonneg hγ (mul_nonneg (maxL_nonneg _) hM0)) (mul_nonneg hu (maxL_nonneg _)))
  intro a ha
  obtain ⟨i, hi, rfl⟩ := List.mem_iff_getElem.mp ha
  rw [List.getElem_zipWith]
  exact add_le_add (mul_le_mul_of_nonneg_left (absDot_row_le (List.getElem_mem _) x M hM0 hM) hγ)
    (mul_le_mul_of_nonneg_left (le_maxL_map (|·|) (List.getElem_mem _)) hu)

theorem ewStage_eps_le (ss : Fin n → Stage ℝ) (x : V n) (E : ℝ) (hE0 : 0 ≤ E) (hE : ∀ i, (ss i).eps (x i) ≤ E) :
    (ewStage n ss).eps x ≤ E := by
  apply maxL_le hE0
  intro a ha
  obtain ⟨i, rfl⟩ := (List.mem_ofFn' _ _).mp ha
  exact hE i

/-! ### a-priori size of the computed outputs (what makes `TrajBound` dischargeable) -/

theorem Stage.OK.abs_fc_le {s : Stage (V n)} (hs : s.OK) (x : V n) (i : Fin n) :
    |s.fc x i| ≤ |s.fe x i| + s.eps x := by
  have := (dist_entry _ _ i).trans (hs.err x)
  linarith [abs_sub_abs_le_abs_sub (s.fc x i) (s.fe x i)]

theorem lin0Stage_fc_le (h : Rnd u r) (W : List (List ℝ)) (hW : W.length = n) (x : V n) (M : ℝ) (hM0 : 0 ≤ M)
    (hM : ∀ i, |x i| ≤ M) (i : Fin n) :
    |(lin0Stage n u r W).fc x i| ≤ (1 + u) ^ (n + 1) * (maxL (W.map absSum) * M) := by
  have h1 := (lin0Stage_ok h W hW).abs_fc_le x i
  have h2 := lin0Stage_eps_le h W x M hM0 hM
  have h3 : |(lin0Stage n u r W).fe x i| ≤ maxL (W.map absSum) * M := by
    simp only [lin0Stage, matVec_entry _ W _ hW]
    exact (abs_dot_le _ _).trans (absDot_row_le (List.getElem_mem _) x M hM0 hM)
  linarith

theorem linStage_fc_le (h : Rnd u r) (W : List (List ℝ)) (b : List ℝ) (hW : W.length = n) (hb : b.length = n)
    (x : V n) (M : ℝ) (hM0 : 0 ≤ M) (hM : ∀ i, |x i| ≤ M) (i : Fin n) :
    |(linStage n u r W b).fc x i|
      ≤ (1 + u) ^ (n + 2) * (maxL (W.map absSum) * M) + (1 + u) * maxL (b.map fun t => |t|) := by
  have h1 := (linStage_ok h W b hW hb).abs_fc_le x i
  have h2 := linStage_eps_le h W b x M hM0 hM
  have h3 : |(linStage n u r W b).fe x i| ≤ maxL (W.map absSum) * M + maxL (b.map fun t => |t|) := by
    simp only [linStage, linRow_entry _ W b _ hW hb]
    exact (abs_add_le _ _).trans (add_le_add
      ((abs_dot_le _ _).trans (absDot_row_le (List.getElem_mem _) x M hM0 hM))
      (le_maxL_map (|·|) (List.getElem_mem _)))
  linarith

theorem leakyStage_eps_le (h : Rnd u r) (σ x M : ℝ) (hσ : |σ| ≤ 1) (hM : |x| ≤ M) :
    (leakyStage u r σ).eps x ≤ (2 * u + u ^ 2) * M := by
  have hu := h.u_nonneg
  have hM0 : 0 ≤ M := (abs_nonneg x).trans hM
  have hc : 0 ≤ 2 * u + u ^ 2 := by positivity
  by_cases hx : x < 0
  · simp only [leakyStage, hx, if_true, abs_mul]
    apply mul_le_mul_of_nonneg_left _ hc
    have := mul_le_mul hσ hM (abs_nonneg x) zero_le_one
    linarith
  · simp only [leakyStage, hx, if_false]
    exact mul_nonneg hc hM0

/-! ## non-vacuity: a concrete two-layer flow at the binary32 / binary64 unit roundoffs -/

def exFlow (slope : Float) (Ls : ℝ) : List Layer :=
  [.lu [[1, 0], [1 / 2, 1]] [[2, 1], [0, 3]] [1, -1] [2, 3], .leaky slope Ls]

theorem exFlow_wf (slope : Float) (Ls : ℝ) : ∀ l ∈ exFlow slope Ls, l.WF 2 := by
  intro l hl
  simp only [exFlow, List.mem_cons, List.not_mem_nil, or_false] at hl
  rcases hl with rfl | rfl
  · exact ⟨rfl, rfl, rfl⟩
  · trivial

/-- **`f32_f64_agree_flow` instantiated**: two different non-identity roundings with `u32 = 2^-24`, `u64 = 2^-53`; both
    runs of the flow on `x = [1, -2]` succeed, return vectors of width 2, and these differ in the sup norm by at most the
    sum of the two explicit recursions -/
theorem flow_example (slope : Float) (Ls : ℝ) :
    ∃ r32 r64 : ℝ → ℝ, Rnd ((2 : ℝ) ^ (-24 : ℤ)) r32 ∧ Rnd ((2 : ℝ) ^ (-53 : ℤ)) r64 ∧ r32 1 ≠ r64 1 ∧ r32 1 ≠ 1 ∧
      ∃ y y' : List ℝ, ∃ l l' : ℝ,
        flowFwd (rndX r32 e) (exFlow slope Ls) [1, -2] = .ok (y, l) ∧
        flowFwd (rndX r64 e) (exFlow slope Ls) [1, -2] = .ok (y', l') ∧
        y.length = 2 ∧ y'.length = 2 ∧
        dist (toV 2 y) (toV 2 y')
          ≤ errB (stagesOf 2 ((2 : ℝ) ^ (-24 : ℤ)) r32 e (exFlow slope Ls)) (toV 2 [1, -2]) 0
            + errB (stagesOf 2 ((2 : ℝ) ^ (-53 : ℤ)) r64 e (exFlow slope Ls)) (toV 2 [1, -2]) 0 := by
  refine ⟨_, _, rnd_scale_f32, rnd_scale_f64, by norm_num, by norm_num, ?_⟩
  have h1 := flowFwd_rnd e rnd_scale_f32 (exFlow slope Ls) (exFlow_wf slope Ls) [1, -2] rfl
  have h2 := flowFwd_rnd e rnd_scale_f64 (exFlow slope Ls) (exFlow_wf slope Ls) [1, -2] rfl
  refine ⟨_, _, _, _, h1, h2, by simp, by simp, ?_⟩
  exact f32_f64_agree_flow e rnd_scale_f32 rnd_scale_f64 (exFlow slope Ls) (exFlow_wf slope Ls) [1, -2] rfl h1 h2

theorem exFlow_stages (slope : Float) (Ls : ℝ) :
    stagesOf 2 u r e (exFlow slope Ls)
      = [lin0Stage 2 u r [[2, 1], [0, 3]], linStage 2 u r [[1, 0], [1 / 2, 1]] [1, -1],
         ewStage 2 fun _ => leakyStage u r (e slope)] := rfl

/-- the arithmetic of `exFlow_traj`: with `‖U‖_∞ = 3`, `‖L‖_∞ = 3/2`, `‖b‖_∞ = 1` and `u ≤ 10^-3` the sup norms along the
    trajectory are `2`, `≤ 7`, `≤ 12` and every local error is `≤ 50 u` -/
theorem exFlow_nums {u : ℝ} (hu0 : 0 ≤ u) (hu : u ≤ 1 / 1000) :
    ((1 + u) ^ 3 - 1) * (3 * 2) ≤ 50 * u ∧ (1 + u) ^ 3 * (3 * 2) ≤ 7 ∧
    ((1 + u) ^ 4 - 1) * (3 / 2 * 7) + u * 1 ≤ 50 * u ∧ (1 + u) ^ 4 * (3 / 2 * 7) + (1 + u) * 1 ≤ 12 ∧
    (2 * u + u ^ 2) * 12 ≤ 50 * u := by
  have h2 : u * u ≤ u * (1 / 1000) := mul_le_mul_of_nonneg_left hu hu0
  have n5 : (2 * u + u ^ 2) * 12 ≤ 50 * u := by linarith only [h2, hu0]
  have h1 : 0 ≤ 1 + u := by linarith only [hu0]
  -- `(1+u)^2 ≤ 1 + 2.001 u`, then one multiplication by `1 + u` at a time
  have p2 : (1 + u) ^ 2 ≤ 1 + 2001 / 1000 * u := by linarith only [h2]
  have p3 : (1 + u) ^ 3 ≤ 1 + 301 / 100 * u := by
    have := mul_le_mul_of_nonneg_right p2 h1
    rw [← pow_succ] at this
    linarith only [this, h2, hu0]
  have p4 : (1 + u) ^ 4 ≤ 1 + 41 / 10 * u := by
    have := mul_le_mul_of_nonneg_right p3 h1
    rw [← pow_succ] at this
    linarith only [this, h2, hu0]
  generalize (1 + u) ^ 3 = a at p3 ⊢
  generalize (1 + u) ^ 4 = b at p4 ⊢
  exact ⟨by linarith only [p3, hu0], by linarith only [p3, hu], by linarith only [p4, hu0],
    by linarith only [p4, hu], n5⟩

theorem exFlow_norms :
    maxL (([[2, 1], [0, 3]] : List (List ℝ)).map absSum) = 3 ∧
    maxL (([[1, 0], [1 / 2, 1]] : List (List ℝ)).map absSum) = 3 / 2 ∧
    maxL (([1, -1] : List ℝ).map fun t => |t|) = 1 := by
  refine ⟨?_, ?_, ?_⟩ <;> norm_num [maxL, absSum]

theorem exFlow_traj (h : Rnd u r) (hu : u ≤ 1 / 1000) (slope : Float) (Ls : ℝ) (hσ : |e slope| ≤ 1) :
    TrajBound (50 * u) (stagesOf 2 u r e (exFlow slope Ls)) (toV 2 [1, -2]) := by
  obtain ⟨n1, n2, n3, n4, n5⟩ := exFlow_nums h.u_nonneg hu
  obtain ⟨nU, nL, nb⟩ := exFlow_norms
  rw [exFlow_stages]
  have hx0 : ∀ i, |toV 2 [1, -2] i| ≤ 2 := by
    intro i; fin_cases i <;> simp [toV]
  have A1 := lin0Stage_eps_le h [[2, 1], [0, 3]] (toV 2 [1, -2]) 2 (by norm_num) hx0
  have B1 := lin0Stage_fc_le (n := 2) h [[2, 1], [0, 3]] rfl (toV 2 [1, -2]) 2 (by norm_num) hx0
  rw [nU] at A1 B1
  have hx1 := fun i => (B1 i).trans n2
  have A2 := linStage_eps_le h [[1, 0], [1 / 2, 1]] [1, -1] _ 7 (by norm_num) hx1
  have B2 := linStage_fc_le (n := 2) h [[1, 0], [1 / 2, 1]] [1, -1] rfl rfl _ 7 (by norm_num) hx1
  rw [nL, nb] at A2 B2
  have hx2 := fun i => (B2 i).trans n4
  refine ⟨A1.trans n1, A2.trans n3, ?_, trivial⟩
  apply ewStage_eps_le _ _ _ (mul_nonneg (by norm_num) h.u_nonneg)
  exact fun i => (leakyStage_eps_le h (e slope) _ 12 hσ (hx2 i)).trans n5

theorem exFlow_lip (slope : Float) (Ls : ℝ) (hσ : |e slope| ≤ 1) :
    ∀ s ∈ stagesOf 2 u r e (exFlow slope Ls), s.L ≤ 3 := by
  obtain ⟨nU, nL, -⟩ := exFlow_norms
  intro s hs
  rw [exFlow_stages] at hs
  simp only [List.mem_cons, List.not_mem_nil, or_false] at hs
  rcases hs with rfl | rfl | rfl
  · exact le_of_eq nU
  · show maxL _ ≤ 3
    rw [nL]; norm_num
  · apply maxL_le (by norm_num)
    intro a ha
    obtain ⟨i, rfl⟩ := (List.mem_ofFn' _ _).mp ha
    exact max_le (by norm_num) (hσ.trans (by norm_num))

/-- **a number for `flow_example`**: for a slope with `|σ| ≤ 1`, the runs of `exFlow` on `[1,-2]` at
    `r32 = x(1+2^-24)` and `r64 = x(1+2^-53)` differ by at most `(50·2^-24 + 50·2^-53)(1 + 3 + 9) ≤ 2^-14` in the sup
    norm (`f32_f64_agree_flow_traj`: local errors `≤ 50 u` along the trajectories, Lipschitz constants `≤ 3`, 3 stages) -/
theorem flow_example_numeric (slope : Float) (Ls : ℝ) (hσ : |e slope| ≤ 1) :
    ∃ y y' : List ℝ, ∃ l l' : ℝ,
      flowFwd (rndX (fun x => x * (1 + (2 : ℝ) ^ (-24 : ℤ))) e) (exFlow slope Ls) [1, -2] = .ok (y, l) ∧
      flowFwd (rndX (fun x => x * (1 + (2 : ℝ) ^ (-53 : ℤ))) e) (exFlow slope Ls) [1, -2] = .ok (y', l') ∧
      dist (toV 2 y) (toV 2 y') ≤ (2 : ℝ) ^ (-14 : ℤ) := by
  have h1 := flowFwd_rnd e rnd_scale_f32 (exFlow slope Ls) (exFlow_wf slope Ls) [1, -2] rfl
  have h2 := flowFwd_rnd e rnd_scale_f64 (exFlow slope Ls) (exFlow_wf slope Ls) [1, -2] rfl
  refine ⟨_, _, _, _, h1, h2, ?_⟩
  have := f32_f64_agree_flow_traj e rnd_scale_f32 rnd_scale_f64 (exFlow slope Ls) (exFlow_wf slope Ls) [1, -2] rfl
    (50 * (2 : ℝ) ^ (-24 : ℤ)) (50 * (2 : ℝ) ^ (-53 : ℤ)) 3
    (exFlow_traj e rnd_scale_f32 (by norm_num) slope Ls hσ) (exFlow_traj e rnd_scale_f64 (by norm_num) slope Ls hσ)
    (exFlow_lip e slope Ls hσ) (exFlow_lip e slope Ls hσ) 3 rfl rfl h1 h2
  refine this.trans ?_
  norm_num [Finset.sum_range_succ]

def exFlowC : List Layer :=
  [.lu [[1, 0], [1 / 2, 1]] [[2, 1], [0, 3]] [1, -1] [2, 3], .aff [(2, 0), (-1 / 2, 1)]]

theorem exFlowC_wf : ∀ l ∈ exFlowC, l.WF 2 := by
  intro l hl
  simp only [exFlowC, List.mem_cons, List.not_mem_nil, or_false] at hl
  rcases hl with rfl | rfl
  · exact ⟨rfl, rfl, rfl⟩
  · rfl

theorem exFlowC_const : ∀ l ∈ exFlowC, l.Const := by
  intro l hl
  simp only [exFlowC, List.mem_cons, List.not_mem_nil, or_false] at hl
  rcases hl with rfl | rfl <;> trivial

/-- **`f32_f64_agree_flow_ld` instantiated** at the same two roundings: both log-dets are returned and differ by at most
    the explicit bound -/
theorem flow_ld_example :
    ∃ y y' : List ℝ, ∃ l l' : ℝ,
      flowFwd (rndX (fun x => x * (1 + (2 : ℝ) ^ (-24 : ℤ))) e) exFlowC [1, -2] = .ok (y, l) ∧
      flowFwd (rndX (fun x => x * (1 + (2 : ℝ) ^ (-53 : ℤ))) e) exFlowC [1, -2] = .ok (y', l') ∧
      |l - l'| ≤ (((1 + (2 : ℝ) ^ (-24 : ℤ)) ^ 2 - 1)
              * (absSum (exFlowC.map Layer.ldExact) + (exFlowC.map (Layer.ldEps ((2 : ℝ) ^ (-24 : ℤ)))).sum)
            + (exFlowC.map (Layer.ldEps ((2 : ℝ) ^ (-24 : ℤ)))).sum)
          + (((1 + (2 : ℝ) ^ (-53 : ℤ)) ^ 2 - 1)
              * (absSum (exFlowC.map Layer.ldExact) + (exFlowC.map (Layer.ldEps ((2 : ℝ) ^ (-53 : ℤ)))).sum)
            + (exFlowC.map (Layer.ldEps ((2 : ℝ) ^ (-53 : ℤ)))).sum) := by
  have h1 := flowFwd_rnd e rnd_scale_f32 exFlowC exFlowC_wf [1, -2] rfl
  have h2 := flowFwd_rnd e rnd_scale_f64 exFlowC exFlowC_wf [1, -2] rfl
  exact ⟨_, _, _, _, h1, h2,
    f32_f64_agree_flow_ld e rnd_scale_f32 rnd_scale_f64 exFlowC exFlowC_const exFlowC_wf [1, -2] rfl h1 h2⟩

theorem exFlowC_ldExact :
    exFlowC.map Layer.ldExact = [Real.log 2 + Real.log 3, Real.log 2 + Real.log (1 / 2)] := by
  simp only [exFlowC, List.map_cons, List.map_nil, Layer.ldExact, Layer.diag, sumLog_real, List.sum_cons,
    List.sum_nil, add_zero]
  norm_num [abs_of_pos]

end
end RoundModel
