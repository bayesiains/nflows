import NflowsModel.Core.FlowPairing
import NflowsModel.Lemmas.FlowPairing
import NflowsModel.Lemmas.Pushforward
import Mathlib.Analysis.SpecialFunctions.Arsinh
import Mathlib.Analysis.SpecialFunctions.Log.Deriv
import Mathlib.Tactic
/-!
# Lemmas/FlowPushforward — the push-forward theorems, about the flow model of `Core/FlowPairing.lean` (C04)

Every statement is about a record `f : FlowFns0 ℝ ℝ ℝ` / `FlowFns ℝ ℝ C E ℝ` (and their `Fin m → ℝ` versions) of the executable model
and its terms `flowLogProb0 f`, `flowLogProb1 f · c`, `flowSalp f ctx n N`, `flowSample f ctx n N` (the change-of-variables theorems of
`Properties/C04` quantify over free functions).  The derivative law is `|T'(x)| = exp (ld x)`, so decreasing transforms (negative scale)
are instances (`decreasing_affine_example`); the set versions `…_on` take `tfwd` as a bijection of a measurable `S` onto `V`
(`Logit : (0,1) → ℝ` is `logit_example`, in `Lemmas/FlowMore.lean` with the facts about `logit`; the executed bounded splines are in
`Lemmas/FlowBounded.lean`); the derivative law is required only
off a COUNTABLE set `K` (knots, `±B`; countable sets and their images are Lebesgue-null: `kink_example`).

No measurability or integrability of the base log-density is needed (both sides are Bochner integrals, the Mathlib
change-of-variables formula is unconditional).  TRUSTED: `torch.randn` has the base density; the law of
large numbers.
-/
open MeasureTheory NF.FlowPairing

namespace FlowPushforward

/-! ## the unconditional flow `FlowFns0` -/

/-- the hypotheses on a scalar unconditional flow: `tfwd` is a bijection of the data support `S` onto the noise
    support `V` with inverse `tinv`, and off a countable set `K` it is differentiable with `|tfwd'| = exp ld`
    (C01 + C02 + C09 for the transform at hand).  `S = V = univ`, `K = ∅` is the full-support smooth case. -/
structure Flow0On (f : FlowFns0 ℝ ℝ ℝ) (S V K : Set ℝ) (T' : ℝ → ℝ) : Prop where
  hadd : ∀ a b, f.add a b = a + b
  hS : MeasurableSet S
  hK : K.Countable
  hfwd : Set.MapsTo f.tfwd S V
  hinv : Set.MapsTo f.tinv V S
  hl : ∀ x ∈ S, f.tinv (f.tfwd x) = x
  hr : ∀ z ∈ V, f.tfwd (f.tinv z) = z
  hd : ∀ x ∈ S \ K, HasDerivWithinAt f.tfwd (T' x) (S \ K) x
  habs : ∀ x ∈ S \ K, |T' x| = Real.exp (f.ld x)

/-- **samples of the model flow follow `exp (flowLogProb0)`, on supports**: noise `z` has density `exp (blp z)` on
    `V`; the sample is `f.tinv z` (what `flowSalp0` returns, `flow_sample_and_log_prob_pairing_noctx`); for every
    measurable event `A`, P(sample ∈ A) is the integral over `A ∩ S` of `exp` of what `Flow.log_prob` returns. -/
theorem flow0_samples_follow_logprob_on (f : FlowFns0 ℝ ℝ ℝ) (S V K : Set ℝ) (T' : ℝ → ℝ) (h : Flow0On f S V K T')
    (A : Set ℝ) (hA : MeasurableSet A) :
    ∫ z in f.tinv ⁻¹' A ∩ V, Real.exp (f.blp z) = ∫ x in A ∩ S, Real.exp (flowLogProb0 f x) := by
  have := Pushforward.sample_event_probability_on f.tfwd f.tinv T' f.ld (fun z => Real.exp (f.blp z)) S V K h.hS h.hK h.hfwd h.hinv
    h.hl h.hr h.hd h.habs A hA
  rw [this]
  simp only [flowLogProb0, h.hadd, Real.exp_add]

/-- **C04-1, the headline**: `f.tinv`, `f.tfwd` mutually inverse on ℝ, `f.tfwd` differentiable with derivative `d x`,
    `|d x| = exp (f.ld x)` (increasing OR decreasing): the law of `f.tinv noise`, noise ∼ `exp (f.blp)`, has density
    `exp (flowLogProb0 f)`. -/
theorem flow0_samples_follow_logprob (f : FlowFns0 ℝ ℝ ℝ) (hadd : ∀ a b, f.add a b = a + b)
    (hl : ∀ x, f.tinv (f.tfwd x) = x) (hr : ∀ z, f.tfwd (f.tinv z) = z) (d : ℝ → ℝ)
    (hd : ∀ x, HasDerivAt f.tfwd (d x) x) (habs : ∀ x, |d x| = Real.exp (f.ld x))
    (A : Set ℝ) (hA : MeasurableSet A) :
    ∫ z in f.tinv ⁻¹' A, Real.exp (f.blp z) = ∫ x in A, Real.exp (flowLogProb0 f x) := by
  have h : Flow0On f Set.univ Set.univ ∅ d :=
    { hadd := hadd, hS := MeasurableSet.univ, hK := Set.countable_empty, hfwd := fun _ _ => trivial,
      hinv := fun _ _ => trivial, hl := fun x _ => hl x, hr := fun z _ => hr z,
      hd := fun x _ => (hd x).hasDerivWithinAt, habs := fun x _ => habs x }
  have := flow0_samples_follow_logprob_on f Set.univ Set.univ ∅ d h A hA
  rwa [Set.inter_univ, Set.inter_univ] at this

theorem flow0_sample_cdf (f : FlowFns0 ℝ ℝ ℝ) (hadd : ∀ a b, f.add a b = a + b)
    (hl : ∀ x, f.tinv (f.tfwd x) = x) (hr : ∀ z, f.tfwd (f.tinv z) = z) (d : ℝ → ℝ)
    (hd : ∀ x, HasDerivAt f.tfwd (d x) x) (habs : ∀ x, |d x| = Real.exp (f.ld x)) (t : ℝ) :
    ∫ z in {z | f.tinv z ≤ t}, Real.exp (f.blp z) = ∫ x in Set.Iic t, Real.exp (flowLogProb0 f x) :=
  flow0_samples_follow_logprob f hadd hl hr d hd habs (Set.Iic t) measurableSet_Iic

theorem flow0_sample_law (f : FlowFns0 ℝ ℝ ℝ) (hadd : ∀ a b, f.add a b = a + b)
    (hl : ∀ x, f.tinv (f.tfwd x) = x) (hr : ∀ z, f.tfwd (f.tinv z) = z) (d : ℝ → ℝ)
    (hd : ∀ x, HasDerivAt f.tfwd (d x) x) (habs : ∀ x, |d x| = Real.exp (f.ld x)) (hm : Measurable f.tinv) :
    Measure.map f.tinv (volume.withDensity fun z => ENNReal.ofReal (Real.exp (f.blp z)))
      = volume.withDensity fun x => ENNReal.ofReal (Real.exp (flowLogProb0 f x)) := by
  rw [Pushforward.map_withDensity_1d f.tfwd f.tinv d f.ld _ hl hr hd habs hm]
  congr 1; ext x
  rw [flowLogProb0, hadd, Real.exp_add, mul_comm, ENNReal.ofReal_mul (Real.exp_pos _).le]

structure Flow0OnND {m : ℕ} (f : FlowFns0 (Fin m → ℝ) (Fin m → ℝ) ℝ) (S V : Set (Fin m → ℝ))
    (T' : (Fin m → ℝ) → ((Fin m → ℝ) →L[ℝ] (Fin m → ℝ))) : Prop where
  hadd : ∀ a b, f.add a b = a + b
  hS : MeasurableSet S
  hfwd : Set.MapsTo f.tfwd S V
  hinv : Set.MapsTo f.tinv V S
  hl : ∀ x ∈ S, f.tinv (f.tfwd x) = x
  hr : ∀ z ∈ V, f.tfwd (f.tinv z) = z
  hd : ∀ x ∈ S, HasFDerivWithinAt f.tfwd (T' x) S x
  habs : ∀ x ∈ S, |(T' x).det| = Real.exp (f.ld x)

theorem flow0_samples_follow_logprob_nd_on {m : ℕ} (f : FlowFns0 (Fin m → ℝ) (Fin m → ℝ) ℝ) (S V : Set (Fin m → ℝ))
    (T' : (Fin m → ℝ) → ((Fin m → ℝ) →L[ℝ] (Fin m → ℝ))) (h : Flow0OnND f S V T')
    (A : Set (Fin m → ℝ)) (hA : MeasurableSet A) :
    ∫ z in f.tinv ⁻¹' A ∩ V, Real.exp (f.blp z) = ∫ x in A ∩ S, Real.exp (flowLogProb0 f x) := by
  have := Pushforward.sample_event_probability_on_nd f.tfwd f.tinv T' f.ld (fun z => Real.exp (f.blp z)) S V h.hS h.hfwd h.hinv
    h.hl h.hr h.hd h.habs A hA
  rw [this]
  simp only [flowLogProb0, h.hadd, Real.exp_add]

theorem flow0_samples_follow_logprob_nd {m : ℕ} (f : FlowFns0 (Fin m → ℝ) (Fin m → ℝ) ℝ)
    (hadd : ∀ a b, f.add a b = a + b) (hl : ∀ x, f.tinv (f.tfwd x) = x) (hr : ∀ z, f.tfwd (f.tinv z) = z)
    (T' : (Fin m → ℝ) → ((Fin m → ℝ) →L[ℝ] (Fin m → ℝ))) (hd : ∀ x, HasFDerivAt f.tfwd (T' x) x)
    (habs : ∀ x, |(T' x).det| = Real.exp (f.ld x)) (A : Set (Fin m → ℝ)) (hA : MeasurableSet A) :
    ∫ z in f.tinv ⁻¹' A, Real.exp (f.blp z) = ∫ x in A, Real.exp (flowLogProb0 f x) := by
  have h : Flow0OnND f Set.univ Set.univ T' :=
    { hadd := hadd, hS := MeasurableSet.univ, hfwd := fun _ _ => trivial, hinv := fun _ _ => trivial,
      hl := fun x _ => hl x, hr := fun z _ => hr z, hd := fun x _ => (hd x).hasFDerivWithinAt,
      habs := fun x _ => habs x }
  have := flow0_samples_follow_logprob_nd_on f Set.univ Set.univ T' h A hA
  rwa [Set.inter_univ, Set.inter_univ] at this

/-! ## the conditional flow `FlowFns`: one context row -/

/-- the unconditional flow obtained by fixing the context row `c` (embedded once, as `Flow._sample` does) -/
def condFns {Z X C E V : Type} (f : FlowFns Z X C E V) (c : C) : FlowFns0 Z X V where
  tinv z := f.tinv z (f.emb c)
  ldInv z := f.ldInv z (f.emb c)
  tfwd x := f.tfwd x (f.emb c)
  ld x := f.ld x (f.emb c)
  blp z := f.blp z (f.emb c)
  add := f.add
  sub := f.sub

theorem flowLogProb1_eq {Z X C E V : Type} (f : FlowFns Z X C E V) (c : C) (x : X) :
    flowLogProb1 f x c = flowLogProb0 (condFns f c) x := rfl

theorem flow1_samples_follow_logprob_on {C E : Type} (f : FlowFns ℝ ℝ C E ℝ) (c : C) (S V K : Set ℝ) (T' : ℝ → ℝ)
    (h : Flow0On (condFns f c) S V K T') (A : Set ℝ) (hA : MeasurableSet A) :
    ∫ z in (fun z => f.tinv z (f.emb c)) ⁻¹' A ∩ V, Real.exp (f.blp z (f.emb c))
      = ∫ x in A ∩ S, Real.exp (flowLogProb1 f x c) :=
  flow0_samples_follow_logprob_on (condFns f c) S V K T' h A hA

theorem flow1_samples_follow_logprob_nd {m : ℕ} {C E : Type} (f : FlowFns (Fin m → ℝ) (Fin m → ℝ) C E ℝ) (c : C)
    (hadd : ∀ a b, f.add a b = a + b)
    (hl : ∀ x, f.tinv (f.tfwd x (f.emb c)) (f.emb c) = x) (hr : ∀ z, f.tfwd (f.tinv z (f.emb c)) (f.emb c) = z)
    (T' : (Fin m → ℝ) → ((Fin m → ℝ) →L[ℝ] (Fin m → ℝ)))
    (hd : ∀ x, HasFDerivAt (fun x => f.tfwd x (f.emb c)) (T' x) x)
    (habs : ∀ x, |(T' x).det| = Real.exp (f.ld x (f.emb c))) (A : Set (Fin m → ℝ)) (hA : MeasurableSet A) :
    ∫ z in (fun z => f.tinv z (f.emb c)) ⁻¹' A, Real.exp (f.blp z (f.emb c)) = ∫ x in A, Real.exp (flowLogProb1 f x c) :=
  flow0_samples_follow_logprob_nd (condFns f c) hadd hl hr T' hd habs A hA

/-! ## pairing + push-forward in one statement -/

/-- **"block `i` is drawn from the density conditioned on context row `i`", as ONE statement about `flowSalp`**
    (scalar events, supports `S → V` possibly depending on the row, countable exceptional set).
    For every number `R` of context rows, every `n`, every noise tensor `N : [R][n]`:
    1. every entry `j` of block `i` of the returned samples is `tinv (N i j; emb cᵢ)` — built from the noise drawn for
       row `i` and from context row `i` only — and the returned log-probability is `flowLogProb1` of that sample
       under `cᵢ` (given C02's `ldInv = −ld ∘ tinv` and `tfwd ∘ tinv = id` at `emb cᵢ`);
    2. the push-forward of the base density `exp (blp (·; emb cᵢ))` on `V` under `tinv (·; emb cᵢ)` has density
       `exp (flowLogProb1 f · cᵢ)` on `S`: so if the `N i j` are draws from the base density conditioned on `emb cᵢ`
       (TRUSTED: `torch.randn`), block `i` consists of draws from the density `log_prob(· | cᵢ)` reports. -/
theorem flow_block_follows_conditional_density_on {C E : Type} (f : FlowFns ℝ ℝ C E ℝ) (ctx : List C) (R n : ℕ)
    (N : List (List ℝ)) (hN : Uniform N R n) (hctx : ctx.length = R) (i : ℕ) (hi : i < R) (c : C)
    (hc : ctx[i]? = some c) (S V K : Set ℝ) (T' : ℝ → ℝ) (h : Flow0On (condFns f c) S V K T')
    (hsub : ∀ a b, f.sub a b = a - b)
    (hld : ∀ z ∈ V, f.ldInv z (f.emb c) = - f.ld (f.tinv z (f.emb c)) (f.emb c))
    (hNV : ∀ j z, get2 N i j = some z → z ∈ V) :
    (∀ j, j < n → ∃ z, get2 N i j = some z ∧
        get2 (flowSalp f ctx n N).1 i j = some (f.tinv z (f.emb c)) ∧
        get2 (flowSalp f ctx n N).2 i j = some (flowLogProb1 f (f.tinv z (f.emb c)) c)) ∧
    (∀ A : Set ℝ, MeasurableSet A →
        ∫ z in (fun z => f.tinv z (f.emb c)) ⁻¹' A ∩ V, Real.exp (f.blp z (f.emb c))
          = ∫ x in A ∩ S, Real.exp (flowLogProb1 f x c)) := by
  refine ⟨fun j hj => ?_, fun A hA => flow1_samples_follow_logprob_on f c S V K T' h A hA⟩
  obtain ⟨z, hz⟩ := get2_lt hN hi hj
  obtain ⟨h1, h2⟩ := salp_pairing f ctx R n N hN hctx i j hi hj z c hz hc
  refine ⟨z, hz, h1, ?_⟩
  have hzV := hNV j z hz
  have hround : f.tfwd (f.tinv z (f.emb c)) (f.emb c) = z := h.hr z hzV
  have hadd : ∀ a b, f.add a b = a + b := h.hadd
  rw [h2, flowLogProb1, hadd, hsub, hld z hzV, hround, sub_neg_eq_add]

/-- the full-support smooth case of the previous statement, hypotheses spelled out -/
theorem flow_block_follows_conditional_density {C E : Type} (f : FlowFns ℝ ℝ C E ℝ) (ctx : List C) (R n : ℕ)
    (N : List (List ℝ)) (hN : Uniform N R n) (hctx : ctx.length = R) (i : ℕ) (hi : i < R) (c : C)
    (hc : ctx[i]? = some c)
    (hadd : ∀ a b, f.add a b = a + b) (hsub : ∀ a b, f.sub a b = a - b)
    (hld : ∀ z, f.ldInv z (f.emb c) = - f.ld (f.tinv z (f.emb c)) (f.emb c))
    (hl : ∀ x, f.tinv (f.tfwd x (f.emb c)) (f.emb c) = x) (hr : ∀ z, f.tfwd (f.tinv z (f.emb c)) (f.emb c) = z)
    (d : ℝ → ℝ) (hd : ∀ x, HasDerivAt (fun x => f.tfwd x (f.emb c)) (d x) x)
    (habs : ∀ x, |d x| = Real.exp (f.ld x (f.emb c))) :
    (∀ j, j < n → ∃ z, get2 N i j = some z ∧
        get2 (flowSalp f ctx n N).1 i j = some (f.tinv z (f.emb c)) ∧
        get2 (flowSalp f ctx n N).2 i j = some (flowLogProb1 f (f.tinv z (f.emb c)) c)) ∧
    (∀ A : Set ℝ, MeasurableSet A →
        ∫ z in (fun z => f.tinv z (f.emb c)) ⁻¹' A, Real.exp (f.blp z (f.emb c))
          = ∫ x in A, Real.exp (flowLogProb1 f x c)) := by
  have h : Flow0On (condFns f c) Set.univ Set.univ ∅ d :=
    { hadd := hadd, hS := MeasurableSet.univ, hK := Set.countable_empty, hfwd := fun _ _ => trivial,
      hinv := fun _ _ => trivial, hl := fun x _ => hl x, hr := fun z _ => hr z,
      hd := fun x _ => (hd x).hasDerivWithinAt, habs := fun x _ => habs x }
  obtain ⟨h1, h2⟩ := flow_block_follows_conditional_density_on f ctx R n N hN hctx i hi c hc Set.univ Set.univ ∅ d h hsub
    (fun z _ => hld z) (fun _ _ _ => trivial)
  refine ⟨h1, fun A hA => ?_⟩
  have := h2 A hA
  rwa [Set.inter_univ, Set.inter_univ] at this

/-- the same for `Flow.sample(n, context)` (`flowSample`): no `sub`/`ldInv` involved -/
theorem flow_sample_block_follows_conditional_density {C E : Type} (f : FlowFns ℝ ℝ C E ℝ) (ctx : List C) (R n : ℕ)
    (N : List (List ℝ)) (hN : Uniform N R n) (hctx : ctx.length = R) (i : ℕ) (hi : i < R) (c : C)
    (hc : ctx[i]? = some c) (S V K : Set ℝ) (T' : ℝ → ℝ) (h : Flow0On (condFns f c) S V K T') :
    (∀ j, j < n → ∃ z, get2 N i j = some z ∧ get2 (flowSample f ctx n N) i j = some (f.tinv z (f.emb c))) ∧
    (∀ A : Set ℝ, MeasurableSet A →
        ∫ z in (fun z => f.tinv z (f.emb c)) ⁻¹' A ∩ V, Real.exp (f.blp z (f.emb c))
          = ∫ x in A ∩ S, Real.exp (flowLogProb1 f x c)) := by
  refine ⟨fun j hj => ?_, fun A hA => flow1_samples_follow_logprob_on f c S V K T' h A hA⟩
  obtain ⟨z, hz⟩ := get2_lt hN hi hj
  exact ⟨z, hz, sample_pairing f ctx R n N hN hctx i j hi hj z c hz hc⟩

/-- n-D events: block `i` of `flowSalp` and the conditional density of context row `i` -/
theorem flow_block_follows_conditional_density_nd {m : ℕ} {C E : Type} (f : FlowFns (Fin m → ℝ) (Fin m → ℝ) C E ℝ)
    (ctx : List C) (R n : ℕ) (N : List (List (Fin m → ℝ))) (hN : Uniform N R n) (hctx : ctx.length = R) (i : ℕ)
    (hi : i < R) (c : C) (hc : ctx[i]? = some c)
    (hadd : ∀ a b, f.add a b = a + b) (hsub : ∀ a b, f.sub a b = a - b)
    (hld : ∀ z, f.ldInv z (f.emb c) = - f.ld (f.tinv z (f.emb c)) (f.emb c))
    (hl : ∀ x, f.tinv (f.tfwd x (f.emb c)) (f.emb c) = x) (hr : ∀ z, f.tfwd (f.tinv z (f.emb c)) (f.emb c) = z)
    (T' : (Fin m → ℝ) → ((Fin m → ℝ) →L[ℝ] (Fin m → ℝ)))
    (hd : ∀ x, HasFDerivAt (fun x => f.tfwd x (f.emb c)) (T' x) x)
    (habs : ∀ x, |(T' x).det| = Real.exp (f.ld x (f.emb c))) :
    (∀ j, j < n → ∃ z, get2 N i j = some z ∧
        get2 (flowSalp f ctx n N).1 i j = some (f.tinv z (f.emb c)) ∧
        get2 (flowSalp f ctx n N).2 i j = some (flowLogProb1 f (f.tinv z (f.emb c)) c)) ∧
    (∀ A : Set (Fin m → ℝ), MeasurableSet A →
        ∫ z in (fun z => f.tinv z (f.emb c)) ⁻¹' A, Real.exp (f.blp z (f.emb c))
          = ∫ x in A, Real.exp (flowLogProb1 f x c)) := by
  refine ⟨fun j hj => ?_, fun A hA => flow1_samples_follow_logprob_nd f c hadd hl hr T' hd habs A hA⟩
  obtain ⟨z, hz⟩ := get2_lt hN hi hj
  obtain ⟨h1, h2⟩ := salp_pairing f ctx R n N hN hctx i j hi hj z c hz hc
  refine ⟨z, hz, h1, ?_⟩
  rw [h2, flowLogProb1, hadd, hsub, hld z, hr z, sub_neg_eq_add]

/-! ## non-vacuity: concrete flows meeting the hypotheses -/

/-- a conditional affine flow with NEGATIVE scale: `z = e − 3x`, `log|det| = log 3`, standard-normal-shaped base
    centred at the embedded context, embedding `c ↦ 2c` -/
noncomputable def decAffine : FlowFns ℝ ℝ ℝ ℝ ℝ where
  emb c := 2 * c
  tinv z e := (e - z) / 3
  ldInv _ _ := - Real.log 3
  tfwd x e := e - 3 * x
  ld _ _ := Real.log 3
  blp z e := -(z - e) ^ 2 / 2
  add := (· + ·)
  sub := (· - ·)

/-- the decreasing flow satisfies every hypothesis of `flow_block_follows_conditional_density` (a derivative law
    `HasDerivAt T (exp (ld x)) x` would exclude it), hence its conclusion holds for it: all `R`, `n`, noise, rows -/
theorem decreasing_affine_example (ctx : List ℝ) (R n : ℕ) (N : List (List ℝ)) (hN : Uniform N R n)
    (hctx : ctx.length = R) (i : ℕ) (hi : i < R) (c : ℝ) (hc : ctx[i]? = some c) :
    (∀ j, j < n → ∃ z, get2 N i j = some z ∧
        get2 (flowSalp decAffine ctx n N).1 i j = some ((2 * c - z) / 3) ∧
        get2 (flowSalp decAffine ctx n N).2 i j = some (flowLogProb1 decAffine ((2 * c - z) / 3) c)) ∧
    (∀ A : Set ℝ, MeasurableSet A →
        ∫ z in (fun z => (2 * c - z) / 3) ⁻¹' A, Real.exp (-(z - 2 * c) ^ 2 / 2)
          = ∫ x in A, Real.exp (flowLogProb1 decAffine x c)) := by
  have h := flow_block_follows_conditional_density decAffine ctx R n N hN hctx i hi c hc
    (fun _ _ => rfl) (fun _ _ => rfl) (fun _ => by simp [decAffine])
    (fun x => by simp [decAffine]) (fun z => by simp [decAffine]; ring) (fun _ => -3)
    (fun x => by
      have : HasDerivAt (fun x : ℝ => 2 * c - 3 * x) (0 - 3 * 1) x :=
        (hasDerivAt_const x (2 * c)).sub ((hasDerivAt_id x).const_mul 3)
      simpa [decAffine] using this)
    (fun _ => by simp [decAffine, Real.exp_log])
  exact h

noncomputable def sinhFlow : FlowFns0 ℝ ℝ ℝ where
  tinv := Real.arsinh
  ldInv z := - Real.log (Real.cosh (Real.arsinh z))
  tfwd := Real.sinh
  ld x := Real.log (Real.cosh x)
  blp z := -z ^ 2 / 2
  add := (· + ·)
  sub := (· - ·)

theorem sinh_example (A : Set ℝ) (hA : MeasurableSet A) :
    ∫ z in Real.arsinh ⁻¹' A, Real.exp (-z ^ 2 / 2) = ∫ x in A, Real.exp (flowLogProb0 sinhFlow x) :=
  flow0_samples_follow_logprob sinhFlow (fun _ _ => rfl) Real.arsinh_sinh Real.sinh_arsinh Real.cosh
    Real.hasDerivAt_sinh
    (fun x => by
      show |Real.cosh x| = Real.exp (Real.log (Real.cosh x))
      rw [Real.exp_log (Real.cosh_pos x), abs_of_pos (Real.cosh_pos x)]) A hA

/-- piecewise `C¹`: a piecewise-linear map with a KINK at `0` (slope 1 on the left, 2 on the right),
    not differentiable there; `ld` is the log-slope of the piece; the exceptional set is `{0}` -/
noncomputable def kinkFlow : FlowFns0 ℝ ℝ ℝ where
  tinv z := if z ≤ 0 then z else z / 2
  ldInv z := if z ≤ 0 then 0 else - Real.log 2
  tfwd x := if x ≤ 0 then x else 2 * x
  ld x := if x ≤ 0 then 0 else Real.log 2
  blp z := -z ^ 2 / 2
  add := (· + ·)
  sub := (· - ·)

theorem kink_flow0On : Flow0On kinkFlow Set.univ Set.univ {0} (fun x => if x ≤ 0 then 1 else 2) where
  hadd := fun _ _ => rfl
  hS := MeasurableSet.univ
  hK := Set.countable_singleton 0
  hfwd := fun _ _ => trivial
  hinv := fun _ _ => trivial
  hl := by
    intro x _
    show (if (if x ≤ 0 then x else 2 * x) ≤ 0 then (if x ≤ 0 then x else 2 * x)
      else (if x ≤ 0 then x else 2 * x) / 2) = x
    by_cases h : x ≤ 0
    · rw [if_pos h, if_pos h]
    · rw [if_neg h, if_neg (by linarith), mul_div_cancel_left₀ x two_ne_zero]
  hr := by
    intro z _
    show (if (if z ≤ 0 then z else z / 2) ≤ 0 then (if z ≤ 0 then z else z / 2)
      else 2 * (if z ≤ 0 then z else z / 2)) = z
    by_cases h : z ≤ 0
    · rw [if_pos h, if_pos h]
    · rw [if_neg h, if_neg (by linarith), mul_div_cancel₀ z two_ne_zero]
  hd := by
    intro x hx
    have hx0 : x ≠ 0 := by simpa using hx.2
    apply HasDerivAt.hasDerivWithinAt
    show HasDerivAt (fun x : ℝ => if x ≤ 0 then x else 2 * x) (if x ≤ 0 then 1 else 2) x
    rcases lt_or_gt_of_ne hx0 with h | h
    · have hev : (fun x : ℝ => if x ≤ 0 then x else 2 * x) =ᶠ[nhds x] fun x => x := by
        filter_upwards [Iio_mem_nhds h] with y hy
        simp [le_of_lt (show y < 0 from hy)]
      rw [if_pos h.le]
      exact (hasDerivAt_id' x).congr_of_eventuallyEq hev
    · have hev : (fun x : ℝ => if x ≤ 0 then x else 2 * x) =ᶠ[nhds x] fun x => 2 * x := by
        filter_upwards [Ioi_mem_nhds h] with y hy
        simp [not_le.mpr (show 0 < y from hy)]
      rw [if_neg (not_le.mpr h)]
      have := ((hasDerivAt_id' x).const_mul 2).congr_of_eventuallyEq hev
      simpa using this
  habs := by
    intro x _
    show |if x ≤ 0 then (1:ℝ) else 2| = Real.exp (if x ≤ 0 then 0 else Real.log 2)
    by_cases h : x ≤ 0
    · rw [if_pos h, if_pos h, abs_one, Real.exp_zero]
    · rw [if_neg h, if_neg h, abs_two, Real.exp_log two_pos]

theorem kink_example (A : Set ℝ) (hA : MeasurableSet A) :
    ∫ z in (fun z : ℝ => if z ≤ 0 then z else z / 2) ⁻¹' A, Real.exp (-z ^ 2 / 2)
      = ∫ x in A, Real.exp (flowLogProb0 kinkFlow x) := by
  have := flow0_samples_follow_logprob_on kinkFlow _ _ _ _ kink_flow0On A hA
  rwa [Set.inter_univ, Set.inter_univ] at this

noncomputable def scaleFlow (m : ℕ) : FlowFns0 (Fin m → ℝ) (Fin m → ℝ) ℝ where
  tinv z := (2:ℝ)⁻¹ • z
  ldInv _ := - (m * Real.log 2)
  tfwd x := (2:ℝ) • x
  ld _ := m * Real.log 2
  blp z := - (∑ i, z i ^ 2) / 2
  add := (· + ·)
  sub := (· - ·)

theorem scale_example (m : ℕ) (A : Set (Fin m → ℝ)) (hA : MeasurableSet A) :
    ∫ z in (fun z : Fin m → ℝ => (2:ℝ)⁻¹ • z) ⁻¹' A, Real.exp (- (∑ i, z i ^ 2) / 2)
      = ∫ x in A, Real.exp (flowLogProb0 (scaleFlow m) x) :=
  flow0_samples_follow_logprob_nd (scaleFlow m) (fun _ _ => rfl)
    (fun x => inv_smul_smul₀ two_ne_zero x) (fun z => smul_inv_smul₀ two_ne_zero z)
    (fun _ => (2:ℝ) • ContinuousLinearMap.id ℝ (Fin m → ℝ))
    (fun x => (hasFDerivAt_id (𝕜 := ℝ) x).const_smul (2:ℝ))
    (fun _ => by
      show |((2:ℝ) • ContinuousLinearMap.id ℝ (Fin m → ℝ)).det| = Real.exp (m * Real.log 2)
      rw [ContinuousLinearMap.det, ContinuousLinearMap.coe_smul, ContinuousLinearMap.coe_id, LinearMap.det_smul,
        LinearMap.det_id, mul_one, Module.finrank_fin_fun, abs_of_pos (by positivity), Real.exp_nat_mul,
        Real.exp_log two_pos]) A hA

end FlowPushforward
