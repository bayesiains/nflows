import NflowsModel.Core.Reshape
import NflowsModel.Lemmas.PermuteDim
import NflowsModel.Core.Norm
import NflowsModel.Core.LinearFamily
import NflowsModel.Lemmas.FlowRowsExec
import NflowsModel.Lemmas.LinearJacobian
import NflowsModel.Lemmas.NaiveGauss
import Mathlib.Tactic
/-!
# Lemmas/StageMoreRows — more executed passes are `RowWiseStage`s (C12, batch / row independence)

Adds to `Lemmas/FlowRowsExec.lean` the other transform families as batch-level stages on flat `[B, w]` arrays.  Rows are read with `getD`
defaults and output rows normalised to width `w` (`rowD`, `fitRow`), so `RowWiseStage`, which quantifies over all arrays, needs no size or
shape hypothesis.  Everything reduces to one fact, a stage given by a row function is row-wise (`rowWise_ofRowFun`): a pass that is
`LinearJacobian.PairRowWise` is such a stage (`passStage`: the linear family), and the executed ActNorm (initialised or evaluation mode) and
evaluation-mode BatchNorm steps are such passes.  The executed feature permutation is treated directly; `rowWise_act_lu_coupling` feeds
`[ActNorm, LULinear, coupling]` to the flow theorem `FlowRowsExec.flowExec_composite`.  `TotalStage` (a stage that accepts every call:
pass stages, coupling stages whose family never raises, composites of such) is what the non-vacuity instances use.

Forced hypotheses (each with a counterexample among the examples): `perm.length = w` for `permStage` (otherwise the executed op raises
`ValueError` for every batch, including the EMPTY batch, which has no row to blame) and `perm[k] < w` (the executed `permuteDim` reads the
flat array at `b * w + perm[k]`; an index `≥ w` addresses the next row — model artefact: `index_select` raises in torch).
-/
open NF NF.StructureExec NF.RowErr NF.RowIndependenceMore NF.Density NF.FlowRowsExec NF.LF NF.Norm LinearFresh

namespace NF.StageMore
variable {α : Type}

/-! ## 1. generic row-function stages -/

def rowD (w : Nat) (d : α) (x : Array α) (b : Nat) : List α := (List.range w).map fun k => x.getD (b * w + k) d

def fitRow (w : Nat) (d : α) (l : List α) : List α := (List.range w).map fun k => l.getD k d

def rowsD (w : Nat) (d : α) (B : Nat) (x : Array α) : List (List α) := (List.range B).map (rowD w d x)

@[simp] theorem rowD_length (w : Nat) (d : α) (x : Array α) (b : Nat) : (rowD w d x b).length = w := by simp [rowD]

@[simp] theorem fitRow_length (w : Nat) (d : α) (l : List α) : (fitRow w d l).length = w := by simp [fitRow]

@[simp] theorem rowsD_length (w : Nat) (d : α) (B : Nat) (x : Array α) : (rowsD w d B x).length = B := by simp [rowsD]

theorem fitRow_eq_self {w : Nat} (d : α) {l : List α} (h : l.length = w) : fitRow w d l = l := by
  apply List.ext_getElem?
  intro k
  unfold fitRow
  by_cases hk : k < w
  · simp [hk, List.getD_eq_getElem?_getD, List.getElem?_eq_getElem (h ▸ hk)]
  · have h1 : w ≤ k := Nat.le_of_not_lt hk
    rw [List.getElem?_eq_none (by simpa using h1), List.getElem?_eq_none (by omega)]

theorem flatMap_fitRow_eq_flatten {w : Nat} (d : α) (X : List (List α)) (h : ∀ r ∈ X, r.length = w) :
    X.flatMap (fitRow w d) = X.flatten := by
  induction X with
  | nil => rfl
  | cons r X ih =>
    rw [List.flatMap_cons, List.flatten_cons, fitRow_eq_self d (h r List.mem_cons_self),
      ih fun r' hr' => h r' (List.mem_cons_of_mem _ hr')]

theorem rowD_congr {w b b' : Nat} {x x' : Array α} (d : α) (h : RowEq w b b' x x') : rowD w d x b = rowD w d x' b' := by
  unfold rowD
  apply List.map_congr_left
  intro k hk
  exact getD_congr (h k (List.mem_range.1 hk)) d

theorem rowD_toArray {w : Nat} (d : α) {l : List α} (h : l.length = w) : rowD w d l.toArray 0 = l := by
  have : rowD w d l.toArray 0 = fitRow w d l := by
    unfold rowD fitRow
    apply List.map_congr_left
    intro k _
    simp [Array.getD_eq_getD_getElem?, List.getD_eq_getElem?_getD]
  rw [this, fitRow_eq_self d h]

def rowFunStage (w cw : Nat) (d : α) (rowF : List α → List α → List α × α) : BStage α :=
  fun B x c => .ok (((List.range B).flatMap fun b => fitRow w d (rowF (rowD w d x b) (rowD cw d c b)).1).toArray,
    (List.range B).map fun b => (rowF (rowD w d x b) (rowD cw d c b)).2)

theorem rowWise_ofRowFun (w cw : Nat) (d : α) (rowF : List α → List α → List α × α) :
    RowWiseStage w cw (rowFunStage w cw d rowF) where
  agree := by
    intro B B' b b' x x' c c' y y' l l' hb hb' hx hc h h'
    simp only [rowFunStage, Except.ok.injEq, Prod.mk.injEq] at h h'
    obtain ⟨rfl, rfl⟩ := h
    obtain ⟨rfl, rfl⟩ := h'
    constructor
    · intro k hk
      rw [List.getElem?_toArray, List.getElem?_toArray,
        flatMap_range_getElem? _ w B b k (fun _ => fitRow_length _ _ _) hb hk,
        flatMap_range_getElem? _ w B' b' k (fun _ => fitRow_length _ _ _) hb' hk,
        rowD_congr d hx, rowD_congr d hc]
    · simp only [List.getElem?_map, List.getElem?_range hb, List.getElem?_range hb', Option.map_some]
      rw [rowD_congr d hx, rowD_congr d hc]
  accept := by
    intro B x c xr cr _ _
    exact ⟨fun _ b _ => ⟨_, rfl⟩, fun _ => ⟨_, rfl⟩⟩
  ld_len := by
    intro B x c y l h
    simp only [rowFunStage, Except.ok.injEq, Prod.mk.injEq] at h
    obtain ⟨-, rfl⟩ := h
    simp

theorem rowWise_congr {w cw : Nat} {T T' : BStage α} (h : ∀ B x c, T B x c = T' B x c) (hT : RowWiseStage w cw T') :
    RowWiseStage w cw T := by
  have : T = T' := by funext B x c; exact h B x c
  rw [this]; exact hT

def passStage (w : Nat) (d : α) (F : List (List α) → List (List α) × List α) : BStage α :=
  fun B x _ => .ok (((F (rowsD w d B x)).1.flatMap (fitRow w d)).toArray, (F (rowsD w d B x)).2)

theorem passStage_eq (w cw : Nat) (d : α) {F : List (List α) → List (List α) × List α} {g : List α → List α} {c : α}
    (hF : LinearJacobian.PairRowWise F g c) : passStage w d F = rowFunStage w cw d (fun r _ => (g r, c)) := by
  funext B x ctx
  simp only [passStage, rowFunStage, hF _, rowsD, List.map_map, List.flatMap_map, Function.comp_def]

theorem rowWise_passStage (w cw : Nat) (d : α) {F : List (List α) → List (List α) × List α} {g : List α → List α} {c : α}
    (hF : LinearJacobian.PairRowWise F g c) : RowWiseStage w cw (passStage w d F) := by
  rw [passStage_eq w cw d hF]
  exact rowWise_ofRowFun w cw d _

theorem passStage_flatten (w : Nat) (d : α) (F : List (List α) → List (List α) × List α) (B : Nat) (x c : Array α)
    (h : ∀ r ∈ (F (rowsD w d B x)).1, r.length = w) :
    passStage w d F B x c = .ok ((F (rowsD w d B x)).1.flatten.toArray, (F (rowsD w d B x)).2) := by
  simp only [passStage, flatMap_fitRow_eq_flatten d _ h]

/-- on an array that holds `B` full rows, the rows the stages read are the rows `flowLogProbExec` cuts (`Density.rowsOf`) -/
theorem rowsD_eq_rowsOf (w : Nat) (d : α) (B : Nat) (x : Array α) (h : B * w ≤ x.size) :
    rowsD w d B x = rowsOf w B x.toList := by
  unfold rowsD rowsOf
  apply List.map_congr_left
  intro b hb
  have hb := List.mem_range.1 hb
  apply List.ext_getElem?
  intro k
  simp only [rowD, List.getElem?_map, List.getElem?_take, List.getElem?_drop]
  by_cases hk : k < w
  · have hlt : b * w + k < x.size := lt_of_lt_of_le (RowMajor.lt2 hb hk) h
    simp [hk, Array.getD_eq_getD_getElem?, hlt]
  · simp [hk]

theorem passStage_row (w : Nat) (d : α) {F : List (List α) → List (List α) × List α} {g : List α → List α} {c : α}
    (hF : LinearJacobian.PairRowWise F g c) (B : Nat) (x ctx : Array α) {b k : Nat} (hb : b < B) (hk : k < w) :
    ∃ y l, passStage w d F B x ctx = .ok (y, l) ∧ y[b * w + k]? = (fitRow w d (g (rowD w d x b)))[k]? ∧ l[b]? = some c := by
  refine ⟨_, _, rfl, ?_, ?_⟩
  · simp only [hF _, rowsD, List.flatMap_map, List.getElem?_toArray]
    rw [flatMap_range_getElem? _ w B b k (fun _ => fitRow_length _ _ _) hb hk]
  · simp [hF _, rowsD, hb]

/-- a step that returns nothing or a non-2-D batch cannot occur for `.fwd (.d2 _)` -/
def resStage (w : Nat) (d : α) (step : List (List α) → Res α) : BStage α :=
  fun B x _ =>
    match step (rowsD w d B x) with
    | some (.ok (.d2 outs, lds)) => .ok ((outs.flatMap (fitRow w d)).toArray, lds)
    | some (.error e) => .error e
    | _ => .error .valueError

theorem resStage_eq_passStage (w : Nat) (d : α) (step : List (List α) → Res α) (F : List (List α) → List (List α) × List α)
    (h : ∀ rows, step rows = some (.ok (.d2 (F rows).1, (F rows).2))) : resStage w d step = passStage w d F := by
  funext B x ctx
  simp only [resStage, passStage, h]

/-! ## 2. `Permutation` along the feature dimension -/

section perm
variable (o : XOps α)

/-- **`Permutation(perm, dim=1).forward` on a `[B, w]` batch** (permutations.py:9-63): the executed `permuteDim` with shape `[B, w]`,
    `logabsdet = zeros(B)`; `ValueError` when `len(perm) ≠ w` -/
def permStage (w : Nat) (perm : List Nat) : BStage α :=
  fun B x _ =>
    match permuteDim [B, w] 1 perm x o.zero with
    | .ok y => .ok (y, List.replicate B o.zero)
    | .error e => .error e

/-- `Permutation.inverse`: `index_select` with `argsort(perm)` -/
def permInvStage (w : Nat) (perm : List Nat) : BStage α := permStage o w (inversePerm perm)

theorem permStage_ok (w : Nat) (perm : List Nat) (hw : perm.length = w) (B : Nat) (x c : Array α) :
    permStage o w perm B x c
      = .ok (((List.range (B * w)).map fun i => x.getD (i / w * w + perm.getD (i % w) 0) o.zero).toArray,
          List.replicate B o.zero) := by
  rw [permStage, permuteDim_2d B w perm hw]

theorem permStage_raises (w : Nat) (perm : List Nat) (hw : perm.length ≠ w) (B : Nat) (x c : Array α) :
    permStage o w perm B x c = .error .valueError := by
  have : (w != perm.length) = true := by simpa using fun h => hw h.symm
  simp [permStage, permuteDim, this]

/-- **the executed feature permutation is a row-wise stage** (`len(perm) = w` and entries `< w`: both forced, see §7) -/
theorem rowWise_permStage (w cw : Nat) (perm : List Nat) (hw : perm.length = w) (hperm : ∀ k, k < w → perm.getD k 0 < w) :
    RowWiseStage w cw (permStage o w perm) where
  agree := by
    intro B B' b b' x x' c c' y y' l l' hb hb' hx _ h h'
    rw [permStage_ok o w perm hw] at h h'
    simp only [Except.ok.injEq, Prod.mk.injEq] at h h'
    obtain ⟨rfl, rfl⟩ := h
    obtain ⟨rfl, rfl⟩ := h'
    constructor
    · intro k hk
      rw [perm_entry o.zero w perm x hb hk, perm_entry o.zero w perm x' hb' hk, getD_congr (hx _ (hperm k hk))]
    · simp [hb, hb']
  accept := by
    intro B x c xr cr _ _
    simp only [permStage_ok o w perm hw]
    exact ⟨fun _ b _ => ⟨_, rfl⟩, fun _ => ⟨_, rfl⟩⟩
  ld_len := by
    intro B x c y l h
    rw [permStage_ok o w perm hw] at h
    simp only [Except.ok.injEq, Prod.mk.injEq] at h
    obtain ⟨-, rfl⟩ := h
    simp

theorem rowWise_permInvStage (w cw : Nat) (perm : List Nat) (hw : perm.length = w)
    (hperm : ∀ k, k < w → (inversePerm perm).getD k 0 < w) : RowWiseStage w cw (permInvStage o w perm) :=
  rowWise_permStage o w cw (inversePerm perm) (by simp [inversePerm, hw]) hperm

end perm

/-! ## 3. the linear family -/

section linear
variable (o : XOps α) (w cw : Nat)

/-- `LULinear.forward` / `.inverse` (lu.py:56-91, no cache) on a flat `[B, w]` batch -/
def luStage (p : LUParams α) : BStage α := passStage w o.zero (luForwardLd o.toOps p)
def luInvStage (p : LUParams α) : BStage α := passStage w o.zero (luInverseLd o.toOps p)
/-- `QRLinear.forward` / `.inverse` (qr.py:45-83) -/
def qrStage (p : QRParams α) : BStage α := passStage w o.zero (qrForwardLd o.toOps p)
def qrInvStage (p : QRParams α) : BStage α := passStage w o.zero (qrInverseLd o.toOps p)
/-- `SVDLinear.forward` / `.inverse` (svd.py:56-96) -/
def svdStage (p : SVDParams α) : BStage α := passStage w o.zero (svdForwardLd o.toOps p)
def svdInvStage (p : SVDParams α) : BStage α := passStage w o.zero (svdInverseLd o.toOps p)
/-- `HouseholderSequence.forward` / `.inverse` (orthogonal.py:93-100) -/
def hhStage (qs : List (List α)) : BStage α := passStage w o.zero (hhForwardLd o.toOps qs)
def hhInvStage (qs : List (List α)) : BStage α := passStage w o.zero (hhInverseLd o.toOps qs)

theorem rowWise_luStage (p : LUParams α) : RowWiseStage w cw (luStage o w p) :=
  rowWise_passStage w cw o.zero (LinearJacobian.luForwardLd_pair o.toOps p)
theorem rowWise_luInvStage (p : LUParams α) : RowWiseStage w cw (luInvStage o w p) :=
  rowWise_passStage w cw o.zero (LinearJacobian.luInverseLd_pair o.toOps p)
theorem luStage_flatten (p : LUParams α) (hn : p.n = w) (hb : p.bias.length = w) (B : Nat) (x c : Array α) :
    luStage o w p B x c = .ok ((luForward o.toOps p (rowsD w o.zero B x)).flatten.toArray,
      timesOnes o.toOps (luLogabsdet o.toOps p) B) := by
  unfold luStage
  rw [passStage_flatten]
  · simp [luForwardLd]
  · intro r hr
    simp only [luForwardLd, LogdetExec.luForward_eq_map, List.mem_map] at hr
    obtain ⟨a, -, rfl⟩ := hr
    simp [LogdetExec.luRow, addV, matVec, luL, luLower, tab2, hn, hb]

theorem rowWise_qrStage (p : QRParams α) : RowWiseStage w cw (qrStage o w p) :=
  rowWise_passStage w cw o.zero (LinearJacobian.qrForwardLd_pair o.toOps p)
theorem rowWise_qrInvStage (p : QRParams α) : RowWiseStage w cw (qrInvStage o w p) :=
  rowWise_passStage w cw o.zero (LinearJacobian.qrInverseLd_pair o.toOps p)
theorem rowWise_svdStage (p : SVDParams α) : RowWiseStage w cw (svdStage o w p) :=
  rowWise_passStage w cw o.zero (LinearJacobian.svdForwardLd_pair o.toOps p)
theorem rowWise_svdInvStage (p : SVDParams α) : RowWiseStage w cw (svdInvStage o w p) :=
  rowWise_passStage w cw o.zero (LinearJacobian.svdInverseLd_pair o.toOps p)
theorem rowWise_hhStage (qs : List (List α)) : RowWiseStage w cw (hhStage o w qs) :=
  rowWise_passStage w cw o.zero (LinearJacobian.hhForwardLd_pair o.toOps qs)
theorem rowWise_hhInvStage (qs : List (List α)) : RowWiseStage w cw (hhInvStage o w qs) :=
  rowWise_passStage w cw o.zero (LinearJacobian.hhInverseLd_pair o.toOps qs)

/-- `NaiveLinear.forward` / `.inverse` (linear.py:169-200; `slogdet` / `inverse` by Gauss-Jordan elimination) -/
def naiveStage (n : Nat) (W : List (List α)) (b : List α) : BStage α :=
  passStage w o.zero (NaiveGauss.naiveForwardLd o.toOps n W b)
def naiveInvStage (n : Nat) (W : List (List α)) (b : List α) : BStage α :=
  passStage w o.zero (NaiveGauss.naiveInverseLd o.toOps n W b)

theorem rowWise_naiveStage (n : Nat) (W : List (List α)) (b : List α) : RowWiseStage w cw (naiveStage o w n W b) :=
  rowWise_passStage w cw o.zero (LinearJacobian.naiveForwardLd_pair o.toOps n W b)
theorem rowWise_naiveInvStage (n : Nat) (W : List (List α)) (b : List α) : RowWiseStage w cw (naiveInvStage o w n W b) :=
  rowWise_passStage w cw o.zero (LinearJacobian.naiveInverseLd_pair o.toOps n W b)

end linear

/-! ## 4. BatchNorm in evaluation mode, ActNorm after initialisation -/

section norm
variable (o : XOps α)

/-- **`BatchNorm.forward` in state `s`** on a flat `[B, F]` batch: the executed machine step `bnStep` -/
def bnEvalStage (cfg : BNCfg α) (F : Nat) (s : BNSt α) : BStage α :=
  resStage F o.zero fun rows => (bnStep o cfg F s (.fwd (.d2 rows))).2

/-- `BatchNorm.inverse` in state `s` -/
def bnEvalInvStage (cfg : BNCfg α) (F : Nat) (s : BNSt α) : BStage α :=
  resStage F o.zero fun rows => (bnStep o cfg F s (.inv (.d2 rows))).2

/-- **`ActNorm.forward` in state `s`** on a flat `[B, F]` batch: the executed machine step `actStep` -/
def actStage (F : Nat) (s : ActSt α) : BStage α :=
  resStage F o.zero fun rows => (actStep o F s (.fwd (.d2 rows))).2

/-- `ActNorm.inverse` in state `s` -/
def actInvStage (F : Nat) (s : ActSt α) : BStage α :=
  resStage F o.zero fun rows => (actStep o F s (.inv (.d2 rows))).2

theorem pair_of_map_replicate {g : List α → List α} {c : α} :
    LinearJacobian.PairRowWise (fun X : List (List α) => (X.map g, List.replicate X.length c)) g c := by
  intro X
  simp [List.map_const']

theorem bnEvalStage_eq_passStage (cfg : BNCfg α) (F : Nat) (s : BNSt α) (hs : s.training = false) :
    bnEvalStage o cfg F s = passStage F o.zero (fun rows =>
      (bnNormalise o cfg F s.runMean s.runVar s.uweight s.bias rows, bnLogdet o cfg F s.runVar s.uweight rows.length false)) :=
  resStage_eq_passStage F o.zero _ _ (fun rows => congrArg Prod.snd (bnStep_eval_fwd o cfg F s hs rows))

theorem bnEvalInvStage_eq_passStage (cfg : BNCfg α) (F : Nat) (s : BNSt α) (hs : s.training = false) :
    bnEvalInvStage o cfg F s = passStage F o.zero (fun rows =>
      (bnDenormalise o cfg F s.runMean s.runVar s.uweight s.bias rows, bnLogdet o cfg F s.runVar s.uweight rows.length true)) :=
  resStage_eq_passStage F o.zero _ _ (fun rows => congrArg Prod.snd (bnStep_eval_inv o cfg F s hs rows))

theorem actStage_eq_passStage (F : Nat) (s : ActSt α) (hs : s.initialized = true ∨ s.training = false) :
    actStage o F s = passStage F o.zero (fun rows =>
      (rows.map (fun r => (List.range F).map (fun j =>
          o.add (o.mul (o.exp (s.logScale.getD j o.zero)) (r.getD j o.zero)) (s.shift.getD j o.zero))),
        List.replicate rows.length (sumG o s.logScale))) := by
  exact resStage_eq_passStage F o.zero _ _ (fun rows => congrArg Prod.snd (actStep_fwd_noinit o F s hs (.d2 rows) rfl))

/-- `ActNorm.inverse` never initialises: in any state it is the pass `r ↦ (r - shift) / exp(log_scale)` on the rows -/
theorem actInvStage_eq_passStage (F : Nat) (s : ActSt α) :
    actInvStage o F s = passStage F o.zero (fun rows =>
      (rows.map (fun r => (List.range F).map (fun j =>
          o.div (o.sub (r.getD j o.zero) (s.shift.getD j o.zero)) (o.exp (s.logScale.getD j o.zero)))),
        List.replicate rows.length (o.neg (sumG o s.logScale)))) :=
  resStage_eq_passStage F o.zero _ _ (fun rows => congrArg Prod.snd (actStep_inv_ok o F s (.d2 rows) rfl))

/-- **evaluation-mode BatchNorm (executed step) is a row-wise stage** (training mode is not: `bn_training_not_row_independent`) -/
theorem rowWise_bnEvalStage (cfg : BNCfg α) (F cw : Nat) (s : BNSt α) (hs : s.training = false) :
    RowWiseStage F cw (bnEvalStage o cfg F s) := by
  rw [bnEvalStage_eq_passStage o cfg F s hs]
  exact rowWise_passStage F cw o.zero (by unfold bnNormalise bnLogdet; exact pair_of_map_replicate)

theorem rowWise_bnEvalInvStage (cfg : BNCfg α) (F cw : Nat) (s : BNSt α) (hs : s.training = false) :
    RowWiseStage F cw (bnEvalInvStage o cfg F s) := by
  rw [bnEvalInvStage_eq_passStage o cfg F s hs]
  exact rowWise_passStage F cw o.zero (by unfold bnDenormalise bnLogdet; exact pair_of_map_replicate)

theorem bnEvalStage_flatten (cfg : BNCfg α) (F : Nat) (s : BNSt α) (hs : s.training = false) (B : Nat) (x c : Array α) :
    bnEvalStage o cfg F s B x c
      = .ok ((bnNormalise o cfg F s.runMean s.runVar s.uweight s.bias (rowsD F o.zero B x)).flatten.toArray,
          bnLogdet o cfg F s.runVar s.uweight B false) := by
  have hrows : ∀ r ∈ bnNormalise o cfg F s.runMean s.runVar s.uweight s.bias (rowsD F o.zero B x), r.length = F := by
    intro r hr
    simp only [bnNormalise, List.mem_map] at hr
    obtain ⟨a, -, rfl⟩ := hr
    simp
  rw [bnEvalStage_eq_passStage o cfg F s hs, passStage_flatten F o.zero _ B x c hrows, rowsD_length]

/-- **ActNorm after initialisation or in evaluation mode (executed step) is a row-wise stage** (the initialising call is not:
    `act_init_not_row_independent`) -/
theorem rowWise_actStage (F cw : Nat) (s : ActSt α) (hs : s.initialized = true ∨ s.training = false) :
    RowWiseStage F cw (actStage o F s) := by
  rw [actStage_eq_passStage o F s hs]
  exact rowWise_passStage F cw o.zero pair_of_map_replicate

theorem actStage_flatten (F : Nat) (s : ActSt α) (hs : s.initialized = true ∨ s.training = false) (B : Nat) (x c : Array α) :
    ∃ outs, actApply o F s.logScale s.shift (.d2 (rowsD F o.zero B x)) = .d2 outs ∧
      actStage o F s B x c = .ok (outs.flatten.toArray, actLogdet o s.logScale (.d2 (rowsD F o.zero B x)) false) := by
  refine ⟨_, rfl, ?_⟩
  have hrows : ∀ r ∈ (rowsD F o.zero B x).map (fun r => (List.range F).map (fun j =>
      o.add (o.mul (o.exp (s.logScale.getD j o.zero)) (r.getD j o.zero)) (s.shift.getD j o.zero))), r.length = F := by
    intro r hr
    simp only [List.mem_map] at hr
    obtain ⟨a, -, rfl⟩ := hr
    simp
  rw [actStage_eq_passStage o F s hs, passStage_flatten F o.zero _ B x c hrows]
  rfl

theorem rowWise_actInvStage (F cw : Nat) (s : ActSt α) : RowWiseStage F cw (actInvStage o F s) := by
  rw [actInvStage_eq_passStage o F s]
  exact rowWise_passStage F cw o.zero pair_of_map_replicate

end norm

/-! ## 5. the element-wise non-linearities -/

def nonlinStage (o : XOps α) (kind : String) (ds : Array Float) (ps : List α) (inverse : Bool) : BStage α :=
  fun B x _ => ofT (nonlinApply o kind ds ps B x inverse)

/-! ## 6. stages that accept every call -/

def TotalStage (T : BStage α) : Prop := ∀ B x c, ∃ r, T B x c = .ok r

theorem total_passStage (w : Nat) (d : α) (F : List (List α) → List (List α) × List α) : TotalStage (passStage w d F) :=
  fun _ _ _ => ⟨_, rfl⟩

theorem total_compStage (o : XOps α) (ts : List (BStage α)) (hts : ∀ t ∈ ts, TotalStage t) : TotalStage (compStage o ts) := by
  intro B x c
  suffices h : ∀ (fs : List (BStage α)), (∀ t ∈ fs, TotalStage t) → ∀ x l,
      ∃ r, Wrap.cascadeFrom (ldLD o B) (fs.map fun t => t B) x l c = .ok r from h ts hts x _
  intro fs
  induction fs with
  | nil => intro _ x l; exact ⟨_, rfl⟩
  | cons f fs ih =>
    intro hf x l
    obtain ⟨⟨y, ld⟩, hy⟩ := hf f List.mem_cons_self B x c
    obtain ⟨r, hr⟩ := ih (fun t ht => hf t (List.mem_cons_of_mem _ ht)) y ((ldLD o B).add l ld)
    exact ⟨r, by rw [List.map_cons, cascadeFrom_cons_ok]; exact ⟨y, ld, hy, hr⟩⟩

theorem total_actInvStage (o : XOps α) (F : Nat) (s : ActSt α) : TotalStage (actInvStage o F s) := by
  rw [actInvStage_eq_passStage o F s]
  exact total_passStage _ _ _

theorem total_bnEvalInvStage (o : XOps α) (cfg : BNCfg α) (F : Nat) (s : BNSt α) (hs : s.training = false) :
    TotalStage (bnEvalInvStage o cfg F s) := by
  rw [bnEvalInvStage_eq_passStage o cfg F s hs]
  exact total_passStage _ _ _

theorem total_couplingStage (o : XOps α) (c : ElCfg) (mask : List α) (S : Nat) (inverse : Bool) (up : Array α)
    (net : Nat → Array α → Array α → Array α)
    (herr : ∀ B x params, (couplingApply o c mask B S x params inverse none up).err = none) :
    TotalStage (couplingStage o c mask S inverse none up net) :=
  fun B x _ => ⟨_, ofT_of_err_none (herr B x _)⟩

/-! ## 7. `[actnorm, lu, coupling]` under the flow theorem, concrete instances, and the forced hypotheses -/

section headline
variable (o : XOps α) {rcw cw : Nat} {emb : Nat → Array α → Array α} {base : BaseD α} {B : Nat} {x ctx : Array α}
  {xr cr : Nat → Array α}

theorem rowWise_act_lu_coupling (c : ElCfg) (mask : List α) (S : Nat) (uc : Option ElCfg) (uparams : Array α)
    (net : Nat → Array α → Array α → Array α) (s : ActSt α) (p : LUParams α)
    (hs : s.initialized = true ∨ s.training = false)
    (hnet : NetRowWise ((identityIdx o mask).length * S) cw (paramWidth c (transformIdx o mask).length * S) net) :
    ∀ t ∈ [actStage o (mask.length * S) s, luStage o (mask.length * S) p, couplingStage o c mask S false uc uparams net],
      RowWiseStage (mask.length * S) cw t := by
  intro t ht
  simp only [List.mem_cons, List.not_mem_nil, or_false] at ht
  rcases ht with rfl | rfl | rfl
  · exact rowWise_actStage o _ cw s hs
  · exact rowWise_luStage o _ cw p
  · exact rowWise_couplingStage o c mask S false uc uparams cw net hnet

end headline

section examples

def exQR : QRParams Int := ⟨2, [3], [1, 2], [[1, 1]], [7, 8]⟩
def exSVD : SVDParams Int := ⟨2, [1, 2], [[1, 1]], [[1, -1]], [7, 8], 1⟩
def toy3 : BStage Int := compStage intX [actStage intX 2 exAct, luStage intX 2 exLU, toyT]

/-- `rowFunStage`: each row reversed and shifted by its context entry, log-det = the first entry; batch of two and a row alone -/
example :
    rowFunStage 2 1 (0 : Int) (fun r c => (r.reverse.map (· + c.getD 0 0), r.getD 0 0)) 2 #[1, 2, 3, 4] #[10, 20]
      = .ok (#[12, 11, 24, 23], [1, 3]) ∧
    rowFunStage 2 1 (0 : Int) (fun r c => (r.reverse.map (· + c.getD 0 0), r.getD 0 0)) 1 #[3, 4] #[20]
      = .ok (#[24, 23], [3]) := by
  decide +kernel

/-- the executed permutation (and its inverse): batch of two, and row 1 alone -/
example :
    permStage intX 3 [2, 0, 1] 2 #[1, 2, 3, 4, 5, 6] #[] = .ok (#[3, 1, 2, 6, 4, 5], [0, 0]) ∧
    permStage intX 3 [2, 0, 1] 1 #[4, 5, 6] #[] = .ok (#[6, 4, 5], [0]) ∧
    permInvStage intX 3 [2, 0, 1] 2 #[3, 1, 2, 6, 4, 5] #[] = .ok (#[1, 2, 3, 4, 5, 6], [0, 0]) := by
  decide +kernel

example : RowWiseStage 3 0 (permStage intX 3 [2, 0, 1]) :=
  rowWise_permStage intX 3 0 [2, 0, 1] rfl (by intro k hk; interval_cases k <;> decide)

/-- the executed linear family: batch of two, and row 1 alone -/
example :
    luStage intX 2 exLU 2 #[1, 2, 3, 4] #[] = .ok (#[20, 55, 36, 111], [7, 7]) ∧
    luStage intX 2 exLU 1 #[3, 4] #[] = .ok (#[36, 111], [7]) ∧
    luInvStage intX 2 exLU 1 #[3, 4] #[] = .ok (#[-5, 2], [-7]) ∧
    qrStage intX 2 exQR 2 #[1, 2, 3, 4] #[] = .ok (#[3, 1, -1, -7], [3, 3]) ∧
    qrStage intX 2 exQR 1 #[3, 4] #[] = .ok (#[-1, -7], [3]) ∧
    svdStage intX 2 exSVD 2 #[1, 2, 3, 4] #[] = .ok (#[3, 2, -5, -4], [7, 7]) ∧
    svdStage intX 2 exSVD 1 #[3, 4] #[] = .ok (#[-5, -4], [7]) := by
  decide +kernel

/-- evaluation-mode BatchNorm and initialised ActNorm (the executed machine steps): batch of three, and row 1 alone -/
example :
    bnEvalStage intX ⟨1, 1⟩ 2 exBN 3 #[10, 20, 7, 9, 0, 3] #[] = .ok (#[7, 12, 6, 6, 4, 6], [4, 4, 4]) ∧
    bnEvalStage intX ⟨1, 1⟩ 2 exBN 1 #[7, 9] #[] = .ok (#[6, 6], [4]) ∧
    actStage intX 2 exAct 3 #[10, 20, 7, 9, 0, 3] #[] = .ok (#[21, 61, 15, 28, 1, 10], [5, 5, 5]) ∧
    actStage intX 2 exAct 1 #[7, 9] #[] = .ok (#[15, 28], [5]) := by
  decide +kernel

/-- `agree` of `rowWise_luStage` used on the instance: row 1 of the batch output is the output of the row alone -/
example : RowEq 2 1 0 (#[20, 55, 36, 111] : Array Int) #[36, 111] ∧ ([7, 7] : List Int)[1]? = ([7] : List Int)[0]? :=
  (rowWise_luStage intX 2 0 exLU).agree (B := 2) (B' := 1) #[1, 2, 3, 4] #[3, 4] #[] #[] _ _ _ _ (by decide) (by decide)
    (by intro k hk; interval_cases k <;> rfl) (by intro k hk; omega) (by decide +kernel) (by decide +kernel)

/-- the three-stage transform and `Flow.log_prob` over it (`ConditionalDiagonalNormal` base): batch of two, and the rows alone -/
example :
    toy3 2 #[1, 2, 3, 4] #[110, 120] = .ok (#[51, 329, 93, 531], [13, 13]) ∧
    toy3 1 #[3, 4] #[120] = .ok (#[93, 531], [13]) ∧
    flowLogProbExec intX 2 toyEmb toy3 toyCond 2 #[1, 2, 3, 4] #[10, 20] = .ok [-111711, -282679] ∧
    flowLogProbExec intX 2 toyEmb toy3 toyCond 1 #[1, 2] #[10] = .ok [-111711] ∧
    flowLogProbExec intX 2 toyEmb toy3 toyCond 1 #[3, 4] #[20] = .ok [-282679] := by
  decide +kernel

/-- **the flow theorem instantiated**: all hypotheses discharged (`exAct` is initialised; the toy conditioner, embedding net and
    context encoder are row-wise), so entry 1 of the batch result is what row 1 alone returns -/
example : ∃ l, ([-111711, -282679] : List Int)[1]? = some l ∧
    flowLogProbExec intX 2 toyEmb toy3 toyCond 1 #[3, 4] #[20] = .ok [l] :=
  ((flowExec_composite intX (rcw := 1) (cw := 1) (emb := toyEmb) (base := toyCond) (B := 2)
      (x := #[1, 2, 3, 4]) (ctx := #[10, 20]) (xr := fun b => if b = 0 then #[1, 2] else #[3, 4])
      (cr := fun b => if b = 0 then #[10] else #[20]) _
      (rowWise_act_lu_coupling intX { kind := "additive" } [0, 1] 1 none #[] toyNet exAct exLU (Or.inl rfl)
        (by
          have h1 : (identityIdx intX [0, 1]).length = 1 := by decide
          have h2 : paramWidth { kind := "additive" } (transformIdx intX [0, 1]).length = 1 := by decide +kernel
          rw [h1, h2]; exact @toyNet_rowWise))
      toy_flowRows.hbase toy_flowRows.hemb toy_flowRows.hx toy_flowRows.hctx).1 [-111711, -282679]
    (by decide +kernel)).2 1 (by decide)

/-- `len(perm) = w` is forced in `rowWise_permStage`: with a wrong length the executed op raises `ValueError` even on the EMPTY
    batch, where there is no row to blame -/
example : ¬ RowWiseStage 3 0 (permStage intX 3 [1, 0]) := by
  intro h
  obtain ⟨r, hr⟩ := (h.accept 0 #[] #[] (fun _ => #[]) (fun _ => #[]) (by intro b hb; omega) (by intro b hb; omega)).2
    (by intro b hb; omega)
  rw [permStage_raises intX 3 [1, 0] (by decide)] at hr
  cases hr

/-- `perm[k] < w` is forced: an entry `≥ w` makes the executed `permuteDim` read the next row of the flat array, so row 0 of the
    batch `[[1,2,3],[4,5,6]]` comes out as `[4,1,2]` while the row alone gives `[0,1,2]` -/
example : ¬ RowWiseStage 3 0 (permStage intX 3 [3, 0, 1]) := by
  intro h
  have := (h.agree (B := 2) (B' := 1) (b := 0) (b' := 0) #[1, 2, 3, 4, 5, 6] #[1, 2, 3] #[] #[] #[4, 1, 2, 0, 4, 5] #[0, 1, 2]
    [0, 0] [0] (by decide) (by decide) (by intro k hk; interval_cases k <;> rfl) (by intro k hk; omega)
    (by decide +kernel) (by decide +kernel)).1 0 (by decide)
  exact absurd this (by decide)

end examples

end NF.StageMore
