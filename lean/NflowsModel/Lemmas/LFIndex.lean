import NflowsModel.Core.LinearFamily
import NflowsModel.Lemmas.DualSound
import NflowsModel.Lemmas.LU

/-!
# Lemmas/LFIndex — index order, scatter lookup and LU assembly of `Core/LinearFamily`

The index lists `trilIndices` / `triuIndices`, what `lookupIdx` reads, the entries of the assembled factors
`NF.LF.luLower` / `NF.LF.mkUpper` (any `Ops α`), and `softplus` / `posDiag` at `realOps`.  That the assembled factors are
`LU.mkLower` / `LU.mkUpper` is `LinearBridge.luLower_executed` / `mkUpper_executed`.
-/

namespace LFIndex
open NF.LF

variable {α : Type}

/-! ## 1. `tab2` -/

theorem tab2_length (n : Nat) (f : Nat → Nat → α) : (tab2 n f).length = n := by
  simp [tab2]

theorem tab2_row_length (n : Nat) (f : Nat → Nat → α) : ∀ r ∈ tab2 n f, r.length = n := by
  intro r hr
  simp only [tab2, List.mem_map, List.mem_range] at hr
  obtain ⟨i, _, rfl⟩ := hr
  simp

theorem entry_tab2 (o : Ops α) (n : Nat) (f : Nat → Nat → α) {i j : Nat} (hi : i < n) (hj : j < n) :
    entry o (tab2 n f) i j = f i j := by
  simp [entry, tab2, List.getD_eq_getElem?_getD, hi, hj]

/-! ## 2. index lists -/

theorem mem_trilIndices {n i j : Nat} : (i, j) ∈ trilIndices n ↔ j < i ∧ i < n := by
  simp only [trilIndices, List.mem_flatMap, List.mem_range, List.mem_map, Prod.mk.injEq]
  constructor
  · rintro ⟨a, ha, b, hb, rfl, rfl⟩; exact ⟨hb, ha⟩
  · rintro ⟨h1, h2⟩; exact ⟨i, h2, j, h1, rfl, rfl⟩

theorem mem_triuIndices {n i j : Nat} : (i, j) ∈ triuIndices n ↔ i < j ∧ j < n := by
  simp only [triuIndices, List.mem_flatMap, List.mem_range, List.mem_map, List.mem_filter,
    decide_eq_true_eq, Prod.mk.injEq]
  constructor
  · rintro ⟨a, _, b, ⟨hb, hab⟩, rfl, rfl⟩; exact ⟨hab, hb⟩
  · rintro ⟨h1, h2⟩; exact ⟨i, lt_trans h1 h2, j, ⟨h2, h1⟩, rfl, rfl⟩

theorem trilIndices_sorted (n : Nat) :
    (trilIndices n).Pairwise (fun p q => p.1 < q.1 ∨ (p.1 = q.1 ∧ p.2 < q.2)) := by
  unfold trilIndices
  rw [List.pairwise_flatMap]
  refine ⟨fun i _ => ?_, ?_⟩
  · rw [List.pairwise_map]
    exact (List.pairwise_lt_range (n := i)).imp (fun h => Or.inr ⟨rfl, h⟩)
  · refine (List.pairwise_lt_range (n := n)).imp ?_
    intro a b hab x hx y hy
    simp only [List.mem_map, List.mem_range] at hx hy
    obtain ⟨_, _, rfl⟩ := hx
    obtain ⟨_, _, rfl⟩ := hy
    exact Or.inl hab

theorem triuIndices_sorted (n : Nat) :
    (triuIndices n).Pairwise (fun p q => p.1 < q.1 ∨ (p.1 = q.1 ∧ p.2 < q.2)) := by
  unfold triuIndices
  rw [List.pairwise_flatMap]
  refine ⟨fun i _ => ?_, ?_⟩
  · rw [List.pairwise_map]
    exact ((List.pairwise_lt_range (n := n)).filter _).imp (fun h => Or.inr ⟨rfl, h⟩)
  · refine (List.pairwise_lt_range (n := n)).imp ?_
    intro a b hab x hx y hy
    simp only [List.mem_map] at hx hy
    obtain ⟨_, _, rfl⟩ := hx
    obtain ⟨_, _, rfl⟩ := hy
    exact Or.inl hab

private theorem nodup_of_lex {l : List (Nat × Nat)}
    (h : l.Pairwise (fun p q => p.1 < q.1 ∨ (p.1 = q.1 ∧ p.2 < q.2))) : l.Nodup := by
  refine h.imp ?_
  rintro p q hpq rfl
  rcases hpq with h | ⟨_, h⟩ <;> exact lt_irrefl _ h

theorem trilIndices_nodup (n : Nat) : (trilIndices n).Nodup := nodup_of_lex (trilIndices_sorted n)
theorem triuIndices_nodup (n : Nat) : (triuIndices n).Nodup := nodup_of_lex (triuIndices_sorted n)

theorem trilIndices_succ (n : Nat) :
    trilIndices (n + 1) = trilIndices n ++ (List.range n).map (fun j => (n, j)) := by
  simp [trilIndices, List.range_succ, List.flatMap_append]

theorem trilIndices_length_two_mul (n : Nat) : 2 * (trilIndices n).length = n * (n - 1) := by
  induction n with
  | zero => simp [trilIndices]
  | succ m ih =>
    rw [trilIndices_succ, List.length_append, List.length_map, List.length_range, Nat.mul_add, ih]
    cases m with
    | zero => rfl
    | succ k => simp only [Nat.add_sub_cancel]; ring

theorem trilIndices_length (n : Nat) : (trilIndices n).length = n * (n - 1) / 2 := by
  rw [← trilIndices_length_two_mul]; omega

theorem triuIndices_length_eq (n : Nat) : (triuIndices n).length = (trilIndices n).length := by
  rw [← List.toFinset_card_of_nodup (triuIndices_nodup n), ← List.toFinset_card_of_nodup (trilIndices_nodup n)]
  have : (triuIndices n).toFinset = (trilIndices n).toFinset.image Prod.swap := by
    ext ⟨i, j⟩
    simp only [List.mem_toFinset, Finset.mem_image, Prod.exists, Prod.swap_prod_mk, Prod.mk.injEq]
    constructor
    · intro h
      exact ⟨j, i, mem_trilIndices.mpr (mem_triuIndices.mp h), rfl, rfl⟩
    · rintro ⟨a, b, h, rfl, rfl⟩
      exact mem_triuIndices.mpr (mem_trilIndices.mp h)
  rw [this, Finset.card_image_of_injective _ Prod.swap_injective]

theorem triuIndices_length (n : Nat) : (triuIndices n).length = n * (n - 1) / 2 := by
  rw [triuIndices_length_eq, trilIndices_length]

/-! ## 3. scatter lookup -/

theorem lookupIdx_getElem (idx : List (Nat × Nat)) (vals : List α) (hnd : idx.Nodup) (k : Nat)
    (hk : k < idx.length) (hv : k < vals.length) :
    lookupIdx idx vals (idx[k]).1 (idx[k]).2 = some vals[k] := by
  induction idx generalizing vals k with
  | nil => simp at hk
  | cons a t ih =>
    cases vals with
    | nil => simp at hv
    | cons v vs =>
      cases k with
      | zero => simp [lookupIdx]
      | succ k =>
        have hk' : k < t.length := by simpa using hk
        have hv' : k < vs.length := by simpa using hv
        have hnd' := List.nodup_cons.mp hnd
        have hne : a ≠ t[k] := fun h => hnd'.1 (h ▸ List.getElem_mem hk')
        have := ih vs hnd'.2 k hk' hv'
        simp only [lookupIdx, List.getElem_cons_succ, Prod.mk.eta] at this ⊢
        rw [List.zip_cons_cons, List.find?_cons_of_neg]
        · exact this
        · simpa using hne

theorem lookupIdx_none (idx : List (Nat × Nat)) (vals : List α) {i j : Nat} (h : (i, j) ∉ idx) :
    lookupIdx idx vals i j = none := by
  simp only [lookupIdx, Option.map_eq_none_iff, List.find?_eq_none]
  intro p hp
  have := (List.of_mem_zip (a := p.1) (b := p.2) hp).1
  intro hpe
  have : p.1 = (i, j) := by simpa using hpe
  simp_all

/-! ## 4. LU assembly -/

theorem luLower_entry (o : Ops α) (n : Nat) (lo : List α) (k : Nat) (hk : k < (trilIndices n).length)
    (hv : k < lo.length) :
    entry o (luLower o n lo) ((trilIndices n)[k]).1 ((trilIndices n)[k]).2 = lo[k] := by
  have hmem : (((trilIndices n)[k]).1, ((trilIndices n)[k]).2) ∈ trilIndices n := List.getElem_mem hk
  obtain ⟨h1, h2⟩ := mem_trilIndices.mp hmem
  rw [luLower, entry_tab2 o n _ h2 (lt_trans h1 h2), if_neg (Nat.ne_of_gt h1),
    lookupIdx_getElem _ _ (trilIndices_nodup n) k hk hv]
  rfl

theorem luLower_diag (o : Ops α) (n : Nat) (lo : List α) {i : Nat} (hi : i < n) :
    entry o (luLower o n lo) i i = one o := by
  rw [luLower, entry_tab2 o n _ hi hi, if_pos rfl]

theorem luLower_upper_zero (o : Ops α) (n : Nat) (lo : List α) {i j : Nat} (hij : i < j) (hj : j < n) :
    entry o (luLower o n lo) i j = zero o := by
  rw [luLower, entry_tab2 o n _ (lt_trans hij hj) hj, if_neg (Nat.ne_of_lt hij), lookupIdx_none]
  · rfl
  · intro h; have := (mem_trilIndices.mp h).1; omega

theorem mkUpper_entry (o : Ops α) (n : Nat) (up d : List α) (k : Nat) (hk : k < (triuIndices n).length)
    (hv : k < up.length) :
    entry o (mkUpper o n up d) ((triuIndices n)[k]).1 ((triuIndices n)[k]).2 = up[k] := by
  have hmem : (((triuIndices n)[k]).1, ((triuIndices n)[k]).2) ∈ triuIndices n := List.getElem_mem hk
  obtain ⟨h1, h2⟩ := mem_triuIndices.mp hmem
  rw [mkUpper, entry_tab2 o n _ (lt_trans h1 h2) h2, if_neg (Nat.ne_of_lt h1),
    lookupIdx_getElem _ _ (triuIndices_nodup n) k hk hv]
  rfl

theorem mkUpper_diag (o : Ops α) (n : Nat) (up d : List α) {i : Nat} (hi : i < n) :
    entry o (mkUpper o n up d) i i = d.getD i (zero o) := by
  rw [mkUpper, entry_tab2 o n _ hi hi, if_pos rfl]

theorem mkUpper_lower_zero (o : Ops α) (n : Nat) (up d : List α) {i j : Nat} (hji : j < i) (hi : i < n) :
    entry o (mkUpper o n up d) i j = zero o := by
  rw [mkUpper, entry_tab2 o n _ hi (lt_trans hji hi), if_neg (Nat.ne_of_gt hji), lookupIdx_none]
  · rfl
  · intro h; have := (mem_triuIndices.mp h).1; omega

/-! ## 5. real bridge -/

open DualSound

@[simp] theorem zero_real : zero realOps = 0 := by
  show ((0 : ℤ) : ℝ) / ((1 : ℕ) : ℝ) = 0
  rw [Int.cast_zero, zero_div]
@[simp] theorem one_real : one realOps = 1 := by
  show ((1 : ℤ) : ℝ) / ((1 : ℕ) : ℝ) = 1
  rw [Int.cast_one, Nat.cast_one, div_one]

/-! ## 6. positive diagonal over ℝ -/

-- `realOps` field by field (`realOps_lt` is in `Lemmas/DualSound`, `realOps_neg` in `Lemmas/NaiveGauss`)
theorem realOps_add (a b : ℝ) : realOps.add a b = a + b := rfl
theorem realOps_sub (a b : ℝ) : realOps.sub a b = a - b := rfl
theorem realOps_mul (a b : ℝ) : realOps.mul a b = a * b := rfl
theorem realOps_div (a b : ℝ) : realOps.div a b = a / b := rfl
theorem realOps_exp (a : ℝ) : realOps.exp a = Real.exp a := rfl
theorem realOps_log (a : ℝ) : realOps.log a = Real.log a := rfl
theorem realOps_ofRat (n : Int) (d : Nat) : realOps.ofRat n d = (n : ℝ) / (d : ℝ) := rfl

theorem softplus_real (x : ℝ) :
    softplus realOps x = if 20 < x then x else Real.log (1 + Real.exp x) := by
  have he : 0 < Real.exp x := Real.exp_pos x
  unfold softplus
  simp only [one_real, realOps_add, realOps_sub, realOps_mul, realOps_div, realOps_exp, realOps_log,
    realOps_ofRat, realOps_lt]
  have h20 : ((20 : ℤ) : ℝ) / ((1 : ℕ) : ℝ) = 20 := by norm_num
  rw [h20]
  by_cases hx : 20 < x
  · simp [hx]
  · have hu : (1 : ℝ) < 1 + Real.exp x := by linarith
    simp only [hx, decide_false, Bool.false_eq_true, if_false, hu, decide_true, Bool.or_true, if_true]
    rw [add_sub_cancel_left, mul_div_assoc, div_self he.ne', mul_one]

theorem softplus_real_pos (x : ℝ) : 0 < softplus realOps x := by
  rw [softplus_real]
  split_ifs with h
  · linarith
  · exact Real.log_pos (by linarith [Real.exp_pos x])

theorem posDiag_pos (eps : ℝ) (heps : 0 ≤ eps) (u : List ℝ) : ∀ d ∈ posDiag realOps eps u, 0 < d := by
  intro d hd
  simp only [posDiag, List.mem_map] at hd
  obtain ⟨x, _, rfl⟩ := hd
  rw [realOps_add]
  linarith [softplus_real_pos x]

theorem posDiag_length (o : Ops α) (eps : α) (u : List α) : (posDiag o eps u).length = u.length := by
  simp [posDiag]

theorem posDiag_getD_pos (eps : ℝ) (heps : 0 ≤ eps) (u : List ℝ) {i : Nat} (hi : i < u.length) :
    0 < (posDiag realOps eps u).getD i 0 := by
  have hi' : i < (posDiag realOps eps u).length := by rw [posDiag_length]; exact hi
  rw [List.getD_eq_getElem?_getD, List.getElem?_eq_getElem hi', Option.getD_some]
  exact posDiag_pos eps heps u _ (List.getElem_mem hi')

/-- `-19 ≤ eps` keeps the argument at most `20`, the threshold above which `softplus` returns its argument -/
theorem identity_init_diag' (eps : ℝ) (hlo : -19 ≤ eps) (heps : eps < 1) :
    softplus realOps (Real.log (Real.exp (1 - eps) - 1)) + eps = 1 := by
  have h1 : 1 < Real.exp (1 - eps) := by
    have := Real.add_one_lt_exp (x := 1 - eps) (by linarith)
    linarith
  have hpos : 0 < Real.exp (1 - eps) - 1 := by linarith
  have hle : Real.log (Real.exp (1 - eps) - 1) ≤ 1 - eps := by
    calc Real.log (Real.exp (1 - eps) - 1) ≤ Real.log (Real.exp (1 - eps)) :=
          Real.log_le_log hpos (by linarith)
      _ = 1 - eps := Real.log_exp _
  have hn : ¬ 20 < Real.log (Real.exp (1 - eps) - 1) := by linarith
  rw [softplus_real, if_neg hn, Real.exp_log hpos, add_sub_cancel, Real.log_exp]
  ring

theorem identity_init_diag (eps : ℝ) (heps0 : 0 ≤ eps) (heps : eps < 1) :
    softplus realOps (Real.log (Real.exp (1 - eps) - 1)) + eps = 1 :=
  identity_init_diag' eps (by linarith) heps

end LFIndex
