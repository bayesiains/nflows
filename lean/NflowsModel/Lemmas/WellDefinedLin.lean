import NflowsModel.Lemmas.LinWhole
import Mathlib.Tactic
/-!
# Lemmas/WellDefinedLin — every logarithm / division the EXECUTED piecewise-linear spline forms on an in-domain input
has its operand in the domain of the operation (both directions)

Over ℝ every arithmetic operation is total (`Real.log 0 = 0`, `x / 0 = 0`), so `linSpline (NF.realX e) … = .ok r` alone
does not say that the program stayed inside the domains of `log` and `/`.  This file states and proves exactly that,
operation by operation, for the program text of `Core/Spline.lean` (`linSpline`, lines 241-273) and its helpers.
No square root is formed by `linSpline`.

## Enumeration, forward (`linSpline o box eps up false x`)

| # | where (file:line)               | operation                                   | operand                                  | covered by (`LinFwdWellDefined`)       |
|---|---------------------------------|---------------------------------------------|------------------------------------------|----------------------------------------|
| 1 | Spline:246                      | `o.div (x − left) (ofFloat (right − left))` | `o.ofFloat (box.right − box.left)`       | `norm_divisor` (`0 <`)                 |
| 2 | Spline:248 → Basic:37 `softmaxG`| `o.div e s`                                 | `s = sumG (exp (u − max))` over `up`     | `softmax_divisor` (`0 <`)              |
| 3 | Spline:272                      | `o.log p`, `p = pdf[idx]`                   | the gathered bin mass                    | `gather_p`, `log_arg` (`0 <`), `pdf_pos` |
| 4 | Spline:272                      | `Float.log (1.0 / K.toFloat)` (Float const) | real reading: `1 / K`, divisor `K`       | `logK_divisor`, `logK_arg` (readings)  |
| 5 | Spline:250 → :175 `boxLog`      | `Float.log ((top−bottom)/(right−left))` (Float const) | real reading on `e`            | `boxLog_divisor`, `boxLog_arg` (readings) |

Rows 4 and 5 are Python-side double constants (computed in `Float`, then embedded by `o.ofFloat`): no operation over
`α` is formed; the conjuncts state that the REAL READINGS of their operands are in the domain.  The only other
divisions are the rational literals `o.ofRat n 1` (`o.zero`, `o.one`, `o.ofRat idx 1` at line 268): divisor the literal
`1`.  `cumsumG`, `setLast`, `o.floorInt`, `getI`, `o.clamp` form no `log` / `div`.

## Enumeration, inverse (`linSpline o box eps up true y`)

| # | where (file:line)               | operation                                   | operand                                  | covered by (`LinInvWellDefined`)       |
|---|---------------------------------|---------------------------------------------|------------------------------------------|----------------------------------------|
| 1 | Spline:245                      | `o.div (y − bottom) (ofFloat (top − bottom))` | `o.ofFloat (box.top − box.bottom)`     | `norm_divisor` (`0 <`)                 |
| 2 | Spline:248 → Basic:37 `softmaxG`| `o.div e s`                                 | `s = sumG (exp (u − max))` over `up`     | `softmax_divisor` (`0 <`)              |
| 3 | Spline:253 → :235 `linspace01`  | `o.div o.one (o.ofNat K)`                   | `o.ofNat K`                              | `linspace_divisor` (`0 <`)             |
| 4 | Spline:260                      | `o.div (x' − rc) s`, `s = slopes[idx]`      | the gathered slope `pdf_i · K`           | `gather_s`, `slope_pos` (`0 <`), `slopes_pos` |
| 5 | Spline:261                      | `o.log s`                                   | the same gathered slope                  | `gather_s`, `slope_pos` (`0 <`)        |
| 6 | Spline:250 → :175 `boxLog`      | Float constant                              | real reading on `e`                      | `boxLog_divisor`, `boxLog_arg` (readings) |

No finding: every operand is in its domain on the whole closed box, end-points included, for every parameter vector.
-/
open NF DualSound

namespace NF.WellDefined.Lin
noncomputable section
variable {e : Float → ℝ} {box : Box} {eps : Float} {up : List ℝ}

/-! ### the program's stage-A terms are the `LinWhole` names (all `rfl`) -/

theorem pdf_is_program (up : List ℝ) : LinWhole.pdf e up = softmaxG (NF.realX e) up := rfl
theorem cdf_is_program (up : List ℝ) :
    LinWhole.cdf e up = (NF.realX e).zero :: setLast (cumsumG (NF.realX e) (softmaxG (NF.realX e) up)) (NF.realX e).one := rfl
theorem slp_is_program (up : List ℝ) :
    LinWhole.slp e up = (softmaxG (NF.realX e) up).map (fun p => (NF.realX e).mul p ((NF.realX e).ofNat up.length)) := rfl
/-- the program's softmax IS `es.map (· / s)` with `s` the sum named in `softmax_divisor` -/
theorem softmaxG_shape (u : List ℝ) :
    softmaxG (NF.realX e) u
      = (u.map fun t => (NF.realX e).exp ((NF.realX e).sub t (maxG (NF.realX e) u))).map
          (fun x => (NF.realX e).div x
            (sumG (NF.realX e) (u.map fun t => (NF.realX e).exp ((NF.realX e).sub t (maxG (NF.realX e) u))))) := rfl
/-- the program's `linspace01` IS built from the single quotient `1 / ofNat K` -/
theorem linspace01_shape (K : ℕ) :
    linspace01 (NF.realX e) K
      = (List.range (K + 1)).map (fun i =>
          if i < (K + 1) / 2 then (NF.realX e).mul ((NF.realX e).ofNat i) ((NF.realX e).div (NF.realX e).one ((NF.realX e).ofNat K))
          else (NF.realX e).sub (NF.realX e).one
            ((NF.realX e).mul ((NF.realX e).ofNat (K - i)) ((NF.realX e).div (NF.realX e).one ((NF.realX e).ofNat K)))) := rfl

/-! ### forward -/

/-- every `log` argument is positive and every divisor is positive on the forward run at `x` -/
structure LinFwdWellDefined (e : Float → ℝ) (box : Box) (eps : Float) (up : List ℝ) (x : ℝ) : Prop where
  /-- row 1: the divisor of the input normalisation -/
  norm_divisor : 0 < (NF.realX e).ofFloat (box.right - box.left)
  norm_eq : (NF.realX e).div ((NF.realX e).sub x ((NF.realX e).ofFloat box.left)) ((NF.realX e).ofFloat (box.right - box.left))
      = LinWhole.nx e box x
  norm_mem : 0 ≤ LinWhole.nx e box x ∧ LinWhole.nx e box x ≤ 1
  /-- row 2: the softmax divisor -/
  softmax_divisor :
    0 < sumG (NF.realX e) (up.map fun t => (NF.realX e).exp ((NF.realX e).sub t (maxG (NF.realX e) up)))
  pdf_pos : ∀ p ∈ softmaxG (NF.realX e) up, 0 < p
  /-- the tie to the program: it returns the closed forms of the bin its floor-and-repair index selected -/
  exec : linSpline (NF.realX e) box eps up false x
      = .ok (LinWhole.GF e up (LinWhole.nx e box x) * (e box.top - e box.bottom) + e box.bottom,
             LinWhole.LdF e up (LinWhole.nx e box x) + e (boxLog box))
  idx_lt : LinWhole.idxF up.length (LinWhole.nx e box x) < up.length
  /-- row 3: the index the program forms (`floorInt (x'·K)`, repaired) gathers, from the program's softmax, the mass `p` … -/
  gather_p :
    getI (softmaxG (NF.realX e) up)
        (if (NF.realX e).floorInt ((NF.realX e).mul (LinWhole.nx e box x) ((NF.realX e).ofNat up.length)) ≥ Int.ofNat up.length
          then Int.ofNat up.length - 1
          else (NF.realX e).floorInt ((NF.realX e).mul (LinWhole.nx e box x) ((NF.realX e).ofNat up.length)))
      = .ok (LinWhole.pd e up (LinWhole.idxF up.length (LinWhole.nx e box x)))
  /-- … which is positive: the argument of `o.log p` -/
  log_arg : 0 < LinWhole.pd e up (LinWhole.idxF up.length (LinWhole.nx e box x))
  ld_unfold : LinWhole.LdF e up (LinWhole.nx e box x) + e (boxLog box)
      = Real.log (LinWhole.pd e up (LinWhole.idxF up.length (LinWhole.nx e box x)))
        - e (Float.log (1.0 / up.length.toFloat)) + e (boxLog box)
  /-- row 4: real reading of the operands of the Float constant `np.log(1/K)` -/
  logK_divisor : (0:ℝ) < (up.length : ℝ)
  logK_arg : (0:ℝ) < 1 / (up.length : ℝ)
  /-- row 5: real reading of the operands of the Float constant `boxLog` -/
  boxLog_divisor : 0 < e box.right - e box.left
  boxLog_arg : 0 < (e box.top - e box.bottom) / (e box.right - e box.left)

theorem lin_forward_well_defined (hv : LinWhole.LinValid e box eps up) (x : ℝ)
    (hx0 : e box.left ≤ x) (hx1 : x ≤ e box.right) : LinFwdWellDefined e box eps up x := by
  obtain ⟨ht0, ht1⟩ := LinWhole.nx_mem hv x hx0 hx1
  have hK0 := LinWhole.K_pos hv.hK
  have hKR := LinWhole.K_posR hv.hK
  obtain ⟨hspec, hidx⟩ := LinWhole.idxF_spec hK0
  obtain ⟨hiK, _, _⟩ := hspec (LinWhole.nx e box x) (by rw [LinWhole.kn_zero]; exact ht0)
    (by rw [LinWhole.kn_last hK0]; exact ht1)
  have hD : 0 < e box.right - e box.left := sub_pos.mpr hv.hlr
  have hDy : 0 < e box.top - e box.bottom := sub_pos.mpr hv.hbt
  exact {
    norm_divisor := by rw [NF.realX_ofFloat, hv.hdlr]; exact hD
    norm_eq := by simp only [NF.realX_div, NF.realX_sub, NF.realX_ofFloat, hv.hdlr]; rfl
    norm_mem := ⟨ht0, ht1⟩
    softmax_divisor := SplineExec.softmax_divisor_pos e up hv.hK
    pdf_pos := SplineExec.softmaxG_pos e up
    exec := LinWhole.exec_eq_bin hv x hx0 hx1
    idx_lt := hiK
    gather_p := by
      have hz : (if ⌊LinWhole.nx e box x * (up.length : ℝ)⌋ ≥ Int.ofNat up.length then Int.ofNat up.length - 1
          else ⌊LinWhole.nx e box x * (up.length : ℝ)⌋) = ((LinWhole.idxF up.length (LinWhole.nx e box x) : ℕ) : ℤ) :=
        hidx _ ht0 ht1
      simp only [NF.realX_mul, NF.realX_ofNat, LinWhole.realX_floorInt, hz]
      have h1 : softmaxG (NF.realX e) up = LinWhole.pdf e up := rfl
      rw [h1, SplineTotal.getI_getD (LinWhole.pdf e up) _ (by rw [LinWhole.pdf_length]; exact hiK)]
      rfl
    log_arg := LinWhole.pd_pos up _ hiK
    ld_unfold := rfl
    logK_divisor := hKR
    logK_arg := by positivity
    boxLog_divisor := hD
    boxLog_arg := div_pos hDy hD }

/-! ### inverse -/

/-- every `log` argument is positive and every divisor is positive on the inverse run at `y` -/
structure LinInvWellDefined (e : Float → ℝ) (box : Box) (eps : Float) (up : List ℝ) (y : ℝ) : Prop where
  /-- row 1: the divisor of the input normalisation -/
  norm_divisor : 0 < (NF.realX e).ofFloat (box.top - box.bottom)
  norm_eq : (NF.realX e).div ((NF.realX e).sub y ((NF.realX e).ofFloat box.bottom)) ((NF.realX e).ofFloat (box.top - box.bottom))
      = LinWhole.ny e box y
  norm_mem : 0 ≤ LinWhole.ny e box y ∧ LinWhole.ny e box y ≤ 1
  /-- row 2: the softmax divisor -/
  softmax_divisor :
    0 < sumG (NF.realX e) (up.map fun t => (NF.realX e).exp ((NF.realX e).sub t (maxG (NF.realX e) up)))
  /-- row 3: the divisor of the `linspace` step `1 / K` -/
  linspace_divisor : 0 < (NF.realX e).ofNat up.length
  slopes_pos : ∀ s ∈ (softmaxG (NF.realX e) up).map (fun p => (NF.realX e).mul p ((NF.realX e).ofNat up.length)), 0 < s
  /-- the tie to the program: it returns the closed forms of the bin the EXECUTED search over the cdf knots selected -/
  exec : linSpline (NF.realX e) box eps up true y
      = .ok (LinWhole.GI e eps up (LinWhole.ny e box y) * (e box.right - e box.left) + e box.left,
             LinWhole.LdI e eps up (LinWhole.ny e box y) - e (boxLog box))
  idx_lt : LinWhole.idxI e eps up (LinWhole.ny e box y) < up.length
  /-- rows 4, 5: the executed search, on the program's cdf knots, gathers from the program's slopes the value `pdf_i·K` … -/
  gather_s :
    getI ((softmaxG (NF.realX e) up).map (fun p => (NF.realX e).mul p ((NF.realX e).ofNat up.length)))
        (searchsortedG (NF.realX e) eps
          ((NF.realX e).zero :: setLast (cumsumG (NF.realX e) (softmaxG (NF.realX e) up)) (NF.realX e).one)
          (LinWhole.ny e box y))
      = .ok (LinWhole.pd e up (LinWhole.idxI e eps up (LinWhole.ny e box y)) * (up.length : ℝ))
  /-- … which is positive: the divisor of `(x' − rc) / s` and the argument of `o.log s` -/
  slope_pos : 0 < LinWhole.pd e up (LinWhole.idxI e eps up (LinWhole.ny e box y)) * (up.length : ℝ)
  /-- the returned value and log-abs-det, unfolded: the quotient by, and the logarithm of, that same slope -/
  val_unfold : LinWhole.GI e eps up (LinWhole.ny e box y)
      = LinWhole.kn up.length (LinWhole.idxI e eps up (LinWhole.ny e box y) + 1)
        + (LinWhole.ny e box y - LinWhole.cd e up (LinWhole.idxI e eps up (LinWhole.ny e box y) + 1))
          / (LinWhole.pd e up (LinWhole.idxI e eps up (LinWhole.ny e box y)) * (up.length : ℝ))
  ld_unfold : LinWhole.LdI e eps up (LinWhole.ny e box y) - e (boxLog box)
      = - Real.log (LinWhole.pd e up (LinWhole.idxI e eps up (LinWhole.ny e box y)) * (up.length : ℝ)) - e (boxLog box)
  /-- row 6: real reading of the operands of the Float constant `boxLog` -/
  boxLog_divisor : 0 < e box.right - e box.left
  boxLog_arg : 0 < (e box.top - e box.bottom) / (e box.right - e box.left)

theorem lin_inverse_well_defined (hv : LinWhole.LinValid e box eps up) (y : ℝ)
    (hy0 : e box.bottom ≤ y) (hy1 : y ≤ e box.top) : LinInvWellDefined e box eps up y := by
  obtain ⟨hs0, hs1⟩ := LinWhole.ny_mem hv y hy0 hy1
  have hKR := LinWhole.K_posR hv.hK
  obtain ⟨_, hsearch⟩ := LinWhole.search_specI hv
  obtain ⟨hiK, _, _, _⟩ := (LinWhole.searchedInvN hv).sel (LinWhole.searchedN hv.hK) _ hs0 hs1
  have hD : 0 < e box.right - e box.left := sub_pos.mpr hv.hlr
  have hDy : 0 < e box.top - e box.bottom := sub_pos.mpr hv.hbt
  have hp := LinWhole.pd_pos (e := e) up _ hiK
  exact {
    norm_divisor := by rw [NF.realX_ofFloat, hv.hdbt]; exact hDy
    norm_eq := by simp only [NF.realX_div, NF.realX_sub, NF.realX_ofFloat, hv.hdbt]; rfl
    norm_mem := ⟨hs0, hs1⟩
    softmax_divisor := SplineExec.softmax_divisor_pos e up hv.hK
    linspace_divisor := by rw [NF.realX_ofNat]; exact hKR
    slopes_pos := by
      intro s hs
      simp only [List.mem_map] at hs
      obtain ⟨p, hp, rfl⟩ := hs
      rw [NF.realX_mul, NF.realX_ofNat]
      exact mul_pos (SplineExec.softmaxG_pos e up p hp) hKR
    exec := LinWhole.inv_exec_eq_bin hv y hy0 hy1
    idx_lt := hiK
    gather_s := by
      have h2 : (NF.realX e).zero :: setLast (cumsumG (NF.realX e) (softmaxG (NF.realX e) up)) (NF.realX e).one
          = LinWhole.cdf e up := rfl
      have h4 : (softmaxG (NF.realX e) up).map (fun p => (NF.realX e).mul p ((NF.realX e).ofNat up.length))
          = LinWhole.slp e up := rfl
      rw [h2, h4, hsearch _ hs0 hs1,
        SplineTotal.getI_getD (LinWhole.slp e up) _ (by rw [LinWhole.slp_length]; exact hiK), LinWhole.slp_getD _ hiK]
    slope_pos := mul_pos hp hKR
    val_unfold := rfl
    ld_unfold := rfl
    boxLog_divisor := hD
    boxLog_arg := div_pos hDy hD }

/-! ### non-vacuity: the bundles are inhabited at the concrete accepted configuration `LinWhole.valid_example` -/

private theorem b0 : ((0.0:Float) == 0.0) = true := FloatFacts.zero_beq_zero
private theorem b1 : ((1.0:Float) == 0.0) = false := FloatFacts.one_beq_zero

example : LinFwdWellDefined RQWhole.eNV ⟨0.0, 1.0, 0.0, 1.0⟩ 1e-6 [0, 1, -1] (1/2) :=
  lin_forward_well_defined LinWhole.valid_example (1/2) (RQWhole.eNV_zero.trans_le (by norm_num))
    ((by norm_num : (1/2:ℝ) ≤ 1).trans_eq (RQWhole.eNV_of_ne b1).symm)
example : LinFwdWellDefined RQWhole.eNV ⟨0.0, 1.0, 0.0, 1.0⟩ 1e-6 [0, 1, -1] 1 :=
  lin_forward_well_defined LinWhole.valid_example 1 (RQWhole.eNV_zero.trans_le zero_le_one) (RQWhole.eNV_of_ne b1).ge
example : LinInvWellDefined RQWhole.eNV ⟨0.0, 1.0, 0.0, 1.0⟩ 1e-6 [0, 1, -1] (1/2) :=
  lin_inverse_well_defined LinWhole.valid_example (1/2) (RQWhole.eNV_zero.trans_le (by norm_num))
    ((by norm_num : (1/2:ℝ) ≤ 1).trans_eq (RQWhole.eNV_of_ne b1).symm)
example : LinInvWellDefined RQWhole.eNV ⟨0.0, 1.0, 0.0, 1.0⟩ 1e-6 [0, 1, -1] 0 :=
  lin_inverse_well_defined LinWhole.valid_example 0 RQWhole.eNV_zero.le (zero_le_one.trans_eq (RQWhole.eNV_of_ne b1).symm)

end
end NF.WellDefined.Lin
