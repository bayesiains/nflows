import NflowsModel.Core.Made
import Mathlib.Data.Real.Basic
import Mathlib.Tactic
/-!
# Lemmas/MadeNet — the generic forward pass of `Core/Made` respects the degree bookkeeping

`DepSys o` abstracts "the value `v : M` depends only on the inputs of degree `≤ d`" (`Dep d v`): monotone in `d`,
closed under `zero`, `add`, `smul`.  For any such system, any weights, any biases / context contributions that
are constants of the system and any per-unit maps that preserve `Dep`, every unit of every layer of
`NF.Made.forward` satisfies `Dep (its degree)`, and an output unit of degree `D` satisfies `Dep (D - 1)`.

Two instances: real-valued functions of the whole input batch (`realDep`) and integer path counts (`natDep`).
-/
namespace NF.Made

variable {S M : Type}

structure DepSys (o : MOps S M) where
  Dep : Nat → M → Prop
  mono : ∀ {d d' : Nat} {v : M}, d ≤ d' → Dep d v → Dep d' v
  zero : ∀ d, Dep d o.zero
  add : ∀ {d : Nat} {a b : M}, Dep d a → Dep d b → Dep d (o.add a b)
  smul : ∀ {d : Nat} {a : M} (s : S), Dep d a → Dep d (o.smul s a)

structure Params.Good {o : MOps S M} (D : DepSys o) (P : Params S M) : Prop where
  bias : ∀ l k d, D.Dep d (P.bias l k)
  ctx : ∀ b k d, D.Dep d (P.ctx b k)
  um : ∀ b s k d v, D.Dep d v → D.Dep d (P.um b s k v)

def StOk {o : MOps S M} (D : DepSys o) (h : St M) : Prop := ∀ p ∈ h, D.Dep p.1 p.2

variable {o : MOps S M} (D : DepSys o)

theorem msum_dep {d : Nat} {l : List M} (hl : ∀ t ∈ l, D.Dep d t) : D.Dep d (msum o l) := by
  induction l with
  | nil => exact D.zero d
  | cons x r ih =>
    simp only [msum]
    exact D.add (hl x (by simp)) (ih (fun t ht => hl t (by simp [ht])))

theorem linear_ok {dOut : List Nat} {W : Nat → Nat → S} {b : Nat → M} {h : St M}
    (hb : ∀ k d, D.Dep d (b k)) (hh : StOk D h) : StOk D (linear o false dOut W b h) := by
  intro p hp
  unfold linear at hp
  rw [List.mem_mapIdx] at hp
  obtain ⟨k, hk, rfl⟩ := hp
  refine D.add (hb _ _) (msum_dep D ?_)
  intro t ht
  rw [List.mem_mapIdx] at ht
  obtain ⟨i, hi, rfl⟩ := ht
  by_cases hm : maskEntry false dOut[k] h[i].1 = true
  · rw [if_pos hm]
    have hle : h[i].1 ≤ dOut[k] := by simpa [maskEntry] using hm
    exact D.smul _ (D.mono hle (hh _ (List.getElem_mem hi)))
  · rw [if_neg hm]; exact D.zero _

/-- the output layer (`>` mask): a unit of degree `D` depends only on inputs of degree `< D` -/
theorem linear_strict {dOut : List Nat} {W : Nat → Nat → S} {b : Nat → M} {h : St M}
    (hb : ∀ k d, D.Dep d (b k)) (hh : StOk D h) :
    ∀ p ∈ linear o true dOut W b h, ∀ d, p.1 ≤ d + 1 → D.Dep d p.2 := by
  intro p hp d hd
  unfold linear at hp
  rw [List.mem_mapIdx] at hp
  obtain ⟨k, hk, rfl⟩ := hp
  refine D.add (hb _ _) (msum_dep D ?_)
  intro t ht
  rw [List.mem_mapIdx] at ht
  obtain ⟨i, hi, rfl⟩ := ht
  by_cases hm : maskEntry true dOut[k] h[i].1 = true
  · rw [if_pos hm]
    have hlt : h[i].1 < dOut[k] := by simpa [maskEntry] using hm
    have hle : h[i].1 ≤ d := by simp only at hd; omega
    exact D.smul _ (D.mono hle (hh _ (List.getElem_mem hi)))
  · rw [if_neg hm]; exact D.zero _

theorem linear_fst (strict : Bool) (dOut : List Nat) (W : Nat → Nat → S) (b : Nat → M) (h : St M) :
    (linear o strict dOut W b h).map Prod.fst = dOut := by
  apply List.ext_getElem
  · simp [linear]
  · intro i h1 h2; simp [linear]

theorem mapUnits_ok {f : Nat → M → M} {h : St M} (hf : ∀ k d v, D.Dep d v → D.Dep d (f k v)) (hh : StOk D h) :
    StOk D (mapUnits f h) := by
  intro p hp
  unfold mapUnits at hp
  rw [List.mem_mapIdx] at hp
  obtain ⟨k, hk, rfl⟩ := hp
  exact hf _ _ _ (hh _ (List.getElem_mem hk))

theorem mapUnits_fst (f : Nat → M → M) (h : St M) : (mapUnits f h).map Prod.fst = h.map Prod.fst := by
  apply List.ext_getElem
  · simp [mapUnits]
  · intro i h1 h2; simp [mapUnits]

theorem addConst_ok {c : Nat → M} {h : St M} (hc : ∀ k d, D.Dep d (c k)) (hh : StOk D h) :
    StOk D (addConst o c h) := by
  intro p hp
  unfold addConst at hp
  rw [List.mem_mapIdx] at hp
  obtain ⟨k, hk, rfl⟩ := hp
  exact D.add (hh _ (List.getElem_mem hk)) (hc _ _)

theorem addConst_fst (c : Nat → M) (h : St M) : (addConst o c h).map Prod.fst = h.map Prod.fst := by
  apply List.ext_getElem
  · simp [addConst]
  · intro i h1 h2; simp [addConst]

theorem residualAdd_ok {h t : St M} (hh : StOk D h) (ht : StOk D t)
    (hle : ∀ p ∈ h.zip t, p.1.1 ≤ p.2.1) : StOk D (residualAdd o h t) := by
  intro p hp
  unfold residualAdd at hp
  rw [List.mem_map] at hp
  obtain ⟨q, hq, rfl⟩ := hp
  have h1 := List.of_mem_zip (show (q.1, q.2) ∈ h.zip t from hq)
  exact D.add (D.mono (hle q hq) (hh _ h1.1)) (ht _ h1.2)

theorem residualAdd_fst {h t : St M} (hlen : h.length = t.length) :
    (residualAdd o h t).map Prod.fst = t.map Prod.fst := by
  unfold residualAdd
  rw [List.map_map]
  have : (Prod.fst ∘ fun p : (Nat × M) × (Nat × M) => (p.2.1, o.add p.1.2 p.2.2)) = Prod.fst ∘ Prod.snd := by
    funext p; rfl
  rw [this, ← List.map_map, List.map_snd_zip (by omega)]

theorem degreesNonDecreasing_spec {dIn dOut : List Nat} (hc : degreesNonDecreasing dIn dOut = true) :
    ∀ p ∈ dIn.zip dOut, p.1 ≤ p.2 := by
  intro p hp
  unfold degreesNonDecreasing at hc
  rw [List.all_eq_true] at hc
  simpa using hc p hp

variable {D}

theorem residual_step_ok {h : St M} {prev d1 : List Nat} (hh : StOk D h) (hf : h.map Prod.fst = prev)
    (hlen : prev.length = d1.length) (hmono : degreesNonDecreasing prev d1 = true)
    (W : Nat → Nat → S) {b : Nat → M} (hb : ∀ k d, D.Dep d (b k)) (t2 : St M) (h2 : StOk D t2) :
    StOk D (residualAdd o h (linear o false d1 W b t2)) ∧
      (residualAdd o h (linear o false d1 W b t2)).map Prod.fst = d1 := by
  have h3 := linear_ok D (dOut := d1) (W := W) hb h2
  have f3 := linear_fst (o := o) false d1 W b t2
  have hlen' : h.length = (linear o false d1 W b t2).length := by
    have e1 := congrArg List.length hf
    have e2 := congrArg List.length f3
    simp only [List.length_map] at e1 e2
    omega
  constructor
  · refine residualAdd_ok D hh h3 ?_
    intro p hp
    have hz : (p.1.1, p.2.1) ∈ (h.map Prod.fst).zip ((linear o false d1 W b t2).map Prod.fst) := by
      rw [List.zip_map]
      exact List.mem_map.mpr ⟨p, hp, rfl⟩
    rw [hf, f3] at hz
    exact degreesNonDecreasing_spec hmono _ hz
  · rw [residualAdd_fst hlen', f3]

theorem blockFwd_ok {P : Params S M} (hP : P.Good D) (n : Net) (bi li : Nat) (b : Block) (prev : List Nat) (r : List Block)
    (hv : checkBlocks prev (b :: r) = true) {h : St M} (hh : StOk D h) (hf : h.map Prod.fst = prev) :
    StOk D (blockFwd o P n bi li b h) ∧ (blockFwd o P n bi li b h).map Prod.fst = b.outDegrees ∧
      checkBlocks b.outDegrees r = true := by
  have hbn : ∀ (s : Slot) (t : St M), StOk D t → StOk D (if n.bn then mapUnits (P.um (bi + 1) s) t else t) := by
    intro s t ht; split
    · exact mapUnits_ok D (hP.um _ _) ht
    · exact ht
  cases b with
  | ff d =>
    refine ⟨?_, ?_, by simpa [checkBlocks, Block.outDegrees] using hv⟩
    · simp only [blockFwd]
      exact mapUnits_ok D (hP.um _ _) (mapUnits_ok D (hP.um _ _) (linear_ok D (hP.bias _) (hbn _ _ hh)))
    · simp only [blockFwd, mapUnits_fst, linear_fst, Block.outDegrees]
  | res d0 d1 =>
    simp only [checkBlocks, Bool.and_eq_true, beq_iff_eq] at hv
    obtain ⟨⟨hlen, hmono⟩, hrest⟩ := hv
    have hctx : ∀ (t : St M), StOk D t → StOk D (if n.hasCtx then addConst o (P.ctx (bi + 1)) t else t) := by
      intro t ht; split
      · exact addConst_ok D (hP.ctx _) ht
      · exact ht
    have h1 := linear_ok D (dOut := d0) (W := P.W li) (hP.bias li) (mapUnits_ok D (hP.um (bi + 1) .act0) (hbn .bn0 _ hh))
    have h2 := mapUnits_ok D (hP.um (bi + 1) .drop) (mapUnits_ok D (hP.um (bi + 1) .act1) (hbn .bn1 _ (hctx _ h1)))
    refine ⟨?_, ?_, hrest⟩
    · simp only [blockFwd]
      exact (residual_step_ok (D := D) hh hf hlen hmono (P.W (li + 1)) (hP.bias (li + 1)) _ h2).1
    · simp only [blockFwd]
      exact (residual_step_ok (D := D) hh hf hlen hmono (P.W (li + 1)) (hP.bias (li + 1)) _ h2).2

theorem blocksFwd_ok {P : Params S M} (hP : P.Good D) (n : Net) :
    ∀ (bs : List Block) (bi li : Nat) (prev : List Nat) (h : St M), checkBlocks prev bs = true → StOk D h →
      h.map Prod.fst = prev → StOk D (blocksFwd o P n bi li bs h) := by
  intro bs
  induction bs with
  | nil => intro bi li prev h _ hh _; simpa [blocksFwd] using hh
  | cons b r ih =>
    intro bi li prev h hv hh hf
    obtain ⟨h1, h2, h3⟩ := blockFwd_ok hP n bi li b prev r hv hh hf
    simp only [blocksFwd]
    exact ih _ _ _ _ h3 h1 h2

/-- **Generic theorem.**  In a valid net, for every dependence system, good parameters and inputs whose unit `j`
    has `Dep (j+1)`: an output unit of degree `p.1` satisfies `Dep d` for every `d ≥ p.1 - 1`. -/
theorem forward_dep {P : Params S M} (hP : P.Good D) (n : Net) (hv : n.valid = true) (x : List M)
    (hx : StOk D ((inputDegrees n.F).zip x)) :
    ∀ p ∈ forward o P n x, ∀ d, p.1 ≤ d + 1 → D.Dep d p.2 := by
  unfold forward
  have h0 := linear_ok D (dOut := n.d0) (W := P.W 0) (hP.bias 0) hx
  have f0 := linear_fst (o := o) false n.d0 (P.W 0) (P.bias 0) ((inputDegrees n.F).zip x)
  set t0 := linear o false n.d0 (P.W 0) (P.bias 0) ((inputDegrees n.F).zip x) with ht0
  have h1 : StOk D (if n.hasCtx then
             (if n.nde then addConst o (P.ctx 0) t0
              else addConst o (fun k => P.um 0 .ctxAct k (P.ctx 0 k)) t0) else t0) := by
    split
    · split
      · exact addConst_ok D (hP.ctx 0) h0
      · exact addConst_ok D (fun k d => hP.um _ _ _ _ _ (hP.ctx 0 k d)) h0
    · exact h0
  have f1 : (if n.hasCtx then
             (if n.nde then addConst o (P.ctx 0) t0
              else addConst o (fun k => P.um 0 .ctxAct k (P.ctx 0 k)) t0) else t0).map Prod.fst = n.d0 := by
    split
    · split <;> rw [addConst_fst, f0]
    · exact f0
  set t1 := (if n.hasCtx then
             (if n.nde then addConst o (P.ctx 0) t0
              else addConst o (fun k => P.um 0 .ctxAct k (P.ctx 0 k)) t0) else t0) with ht1
  have h2 : StOk D (if (!n.nde && !n.residual) = true then mapUnits (P.um 0 .initAct) t1 else t1) := by
    split
    · exact mapUnits_ok D (hP.um _ _) h1
    · exact h1
  have f2 : (if (!n.nde && !n.residual) = true then mapUnits (P.um 0 .initAct) t1 else t1).map Prod.fst = n.d0 := by
    split
    · rw [mapUnits_fst, f1]
    · exact f1
  exact linear_strict D (hP.bias _) (blocksFwd_ok hP n n.blocks 0 1 n.d0 _ hv h2 f2)

theorem forward_fst (P : Params S M) (n : Net) (x : List M) :
    (forward o P n x).map Prod.fst = outputDegrees n.F n.m := by
  unfold forward; exact linear_fst _ _ _ _ _

/-! ### index algebra of the degrees -/

theorem inputDegrees_getElem? (F i : Nat) : (inputDegrees F)[i]? = if i < F then some (i + 1) else none := by
  by_cases h : i < F <;> simp [inputDegrees, h]

theorem inputDegrees_length (F : Nat) : (inputDegrees F).length = F := by simp [inputDegrees]

theorem seqDegrees_length (F H : Nat) : (seqDegrees F H).length = H := by simp [seqDegrees]

theorem tile_cons (x : Nat) (r : List Nat) (n : Nat) : tile (x :: r) n = List.replicate n x ++ tile r n := by
  simp [tile]

theorem tile_length (xs : List Nat) (n : Nat) : (tile xs n).length = xs.length * n := by
  induction xs with
  | nil => simp [tile]
  | cons x r ih => rw [tile_cons, List.length_append, ih, List.length_replicate, List.length_cons]; ring

theorem tile_getElem? (xs : List Nat) (n : Nat) (hn : 0 < n) : ∀ u, (tile xs n)[u]? = xs[u / n]? := by
  induction xs with
  | nil => intro u; simp [tile]
  | cons x r ih =>
    intro u
    rw [tile_cons]
    by_cases hu : u < n
    · rw [List.getElem?_append_left (by simpa using hu), Nat.div_eq_of_lt hu]
      simp [hu]
    · have hu' : n ≤ u := Nat.le_of_not_lt hu
      rw [List.getElem?_append_right (by simpa using hu'), List.length_replicate, ih]
      have : u / n = (u - n) / n + 1 := by
        conv_lhs => rw [show u = (u - n) + n by omega]
        exact Nat.add_div_right _ hn
      rw [this, List.getElem?_cons_succ]

theorem outputDegrees_length (F m : Nat) : (outputDegrees F m).length = F * m := by
  simp [outputDegrees, tile_length, inputDegrees_length]

theorem outputDegrees_getElem? (F m : Nat) (hm : 0 < m) (u : Nat) (hu : u < F * m) :
    (outputDegrees F m)[u]? = some (u / m + 1) := by
  unfold outputDegrees
  rw [tile_getElem? _ _ hm, inputDegrees_getElem?]
  have : u / m < F := (Nat.div_lt_iff_lt_mul hm).mpr hu
  simp [this]

theorem outputs_length (P : Params S M) (n : Net) (x : List M) : (outputs o P n x).length = n.F * n.m := by
  have := congrArg List.length (forward_fst (o := o) P n x)
  simpa [outputs, outputDegrees_length] using this

theorem outputs_dep {P : Params S M} (hP : P.Good D) (n : Net) (hv : n.valid = true) (hm : 0 < n.m) (x : List M)
    (hx : StOk D ((inputDegrees n.F).zip x)) (u : Nat) (hu : u < (outputs o P n x).length) :
    D.Dep (u / n.m) (outputs o P n x)[u] := by
  have hlen : u < (forward o P n x).length := by simpa [outputs] using hu
  have hu' : u < n.F * n.m := by rw [outputs_length] at hu; exact hu
  have hdeg : ((forward o P n x)[u]).1 = u / n.m + 1 := by
    have h1 : ((forward o P n x).map Prod.fst)[u]? = some (u / n.m + 1) := by
      rw [forward_fst]; exact outputDegrees_getElem? _ _ hm u hu'
    rw [List.getElem?_map, List.getElem?_eq_getElem hlen] at h1
    simpa using h1
  have := forward_dep hP n hv x hx _ (List.getElem_mem hlen) (u / n.m) (by rw [hdeg])
  simpa [outputs] using this

/-! ### what `build` guarantees -/

theorem zip_self_nonDecreasing (l : List Nat) : degreesNonDecreasing l l = true := by
  unfold degreesNonDecreasing
  rw [List.all_eq_true]
  intro p hp
  have := List.of_mem_zip (show (p.1, p.2) ∈ l.zip l from hp)
  have h2 : p.1 = p.2 := by
    rw [List.zip_eq_zipWith, List.mem_iff_getElem] at hp
    obtain ⟨i, hi, rfl⟩ := hp
    simp
  simp [h2]

theorem buildResBlock_spec {F : Nat} {random : Bool} {dIn : List Nat} {b : Block} (h : buildResBlock F random dIn = .ok b) :
    ∃ d0 d1, b = .res d0 d1 ∧ dIn.length = d1.length ∧ degreesNonDecreasing dIn d1 = true := by
  unfold buildResBlock at h
  split at h
  · cases h
  · simp only at h
    split at h
    · rename_i hc
      refine ⟨_, _, (Except.ok.inj h).symm, ?_, hc⟩
      simp [seqDegrees_length]
    · cases h

theorem buildBlocks_valid (a : Arch) : ∀ (k idx : Nat) (prev : List Nat) (bs : List Block),
    buildBlocks a k idx prev = .ok bs → checkBlocks prev bs = true := by
  intro k
  induction k with
  | zero => intro idx prev bs h; simp only [buildBlocks] at h; cases h; rfl
  | succ k ih =>
    intro idx prev bs h
    simp only [buildBlocks] at h
    split at h                    -- `a.residual`
    · split at h                  -- residual block: `buildResBlock`
      · cases h
      · rename_i b hb
        split at h                -- the remaining blocks
        · cases h
        · rename_i r hr
          cases h
          obtain ⟨d0, d1, rfl, hl, hm⟩ := buildResBlock_spec hb
          simp only [checkBlocks, Bool.and_eq_true, beq_iff_eq]
          exact ⟨⟨hl, hm⟩, ih _ _ _ hr⟩
    · split at h                  -- feed-forward block: `hiddenDegrees`
      · cases h
      · rename_i d hd
        split at h                -- the remaining blocks
        · cases h
        · rename_i r hr
          cases h
          simp only [checkBlocks]
          exact ih _ _ _ hr

theorem build_valid {a : Arch} {n : Net} (h : build a = .ok n) :
    n.valid = true ∧ 0 < n.F ∧ 0 < n.m ∧ n.F = a.F ∧ n.m = a.mult := by
  unfold build at h
  split at h                      -- `residual && random` is refused
  · cases h
  · split at h                    -- degrees of the first hidden layer
    · cases h
    · rename_i d0 hd0
      split at h                  -- `buildBlocks`
      · cases h
      · rename_i bs hbs
        split at h                -- `F == 0` is refused
        · cases h
        · rename_i hF
          split at h              -- `mult == 0` is refused
          · cases h
          · rename_i hm
            cases h
            have hF' : 0 < a.F := by
              rcases Nat.eq_zero_or_pos a.F with h0 | h0
              · simp [h0] at hF
              · exact h0
            have hm' : 0 < a.mult := by
              rcases Nat.eq_zero_or_pos a.mult with h0 | h0
              · simp [h0] at hm
              · exact h0
            refine ⟨buildBlocks_valid a _ _ _ _ hbs, hF', ?_, rfl, ?_⟩
            · simp only [Nat.mul_div_cancel_left _ hF']; exact hm'
            · simp only [Nat.mul_div_cancel_left _ hF']

/-! ### instance 1: real-valued functions of the whole input batch -/

/-- value of a unit for every row `b : β` of the batch, as a function of the whole input batch `X b j` -/
abbrev RM (β : Type) := (β → ℕ → ℝ) → β → ℝ

def realOps (β : Type) : MOps ℝ (RM β) where
  zero := fun _ _ => 0
  add := fun f g X b => f X b + g X b
  smul := fun s f X b => s * f X b

/-- `f` is determined by the input columns of degree `≤ d` (column `j` has degree `j+1`), all rows of the batch -/
def realDep (β : Type) : DepSys (realOps β) where
  Dep := fun d f => ∀ X X' : β → ℕ → ℝ, (∀ j, j + 1 ≤ d → ∀ b, X b j = X' b j) → f X = f X'
  mono := by
    intro d d' v hdd hv X X' hag
    exact hv X X' (fun j hj b => hag j (le_trans hj hdd) b)
  zero := by intro d X X' _; rfl
  add := by
    intro d f g hf hg X X' hag
    show (fun b => f X b + g X b) = (fun b => f X' b + g X' b)
    rw [hf X X' hag, hg X X' hag]
  smul := by
    intro d f s hf X X' hag
    show (fun b => s * f X b) = (fun b => s * f X' b)
    rw [hf X X' hag]

/-- real parameters: weights, biases, context contributions per row, and arbitrary per-unit maps acting on the
    column of a unit across the batch (activation, dropout mask, batch norm in training or evaluation mode) -/
def realParams {β : Type} (W : ℕ → ℕ → ℕ → ℝ) (bias : ℕ → ℕ → ℝ) (ctxv : ℕ → ℕ → β → ℝ)
    (g : ℕ → Slot → ℕ → (β → ℝ) → β → ℝ) : Params ℝ (RM β) where
  W := W
  bias := fun l k _ _ => bias l k
  ctx := fun s k _ b => ctxv s k b
  um := fun s sl k f X => g s sl k (f X)

theorem realParams_good {β : Type} (W : ℕ → ℕ → ℕ → ℝ) (bias : ℕ → ℕ → ℝ) (ctxv : ℕ → ℕ → β → ℝ)
    (g : ℕ → Slot → ℕ → (β → ℝ) → β → ℝ) : (realParams W bias ctxv g).Good (realDep β) where
  bias := by intro l k d X X' _; rfl
  ctx := by intro s k d X X' _; rfl
  um := by
    intro s sl k d v hv X X' hag
    show g s sl k (v X) = g s sl k (v X')
    rw [hv X X' hag]

def realInputs (β : Type) (F : ℕ) : List (RM β) := (List.range F).map (fun j X b => X b j)

theorem realInputs_ok (β : Type) (F : ℕ) : StOk (realDep β) ((inputDegrees F).zip (realInputs β F)) := by
  intro p hp
  rw [List.mem_iff_getElem] at hp
  obtain ⟨i, hi, rfl⟩ := hp
  have hiF : i < F := by simpa [inputDegrees, realInputs] using hi
  intro X X' hag
  simp only [List.getElem_zip, inputDegrees, realInputs, List.getElem_map, List.getElem_range] at hag ⊢
  funext b
  exact hag i (le_refl _) b

noncomputable def madeReal {β : Type} (n : Net) (W : ℕ → ℕ → ℕ → ℝ) (bias : ℕ → ℕ → ℝ) (ctxv : ℕ → ℕ → β → ℝ)
    (g : ℕ → Slot → ℕ → (β → ℝ) → β → ℝ) (X : β → ℕ → ℝ) (b : β) (u : ℕ) : ℝ :=
  ((outputs (realOps β) (realParams W bias ctxv g) n (realInputs β n.F)).getD u (fun _ _ => 0)) X b

theorem madeReal_autoregressive {β : Type} (n : Net) (hv : n.valid = true) (hm : 0 < n.m)
    (W : ℕ → ℕ → ℕ → ℝ) (bias : ℕ → ℕ → ℝ) (ctxv : ℕ → ℕ → β → ℝ) (g : ℕ → Slot → ℕ → (β → ℝ) → β → ℝ)
    (u : ℕ) (X X' : β → ℕ → ℝ) (hag : ∀ j, j < u / n.m → ∀ b, X b j = X' b j) (b : β) :
    madeReal n W bias ctxv g X b u = madeReal n W bias ctxv g X' b u := by
  unfold madeReal
  by_cases hu : u < (outputs (realOps β) (realParams W bias ctxv g) n (realInputs β n.F)).length
  · simp only [List.getD_eq_getElem?_getD, List.getElem?_eq_getElem hu, Option.getD_some]
    have := outputs_dep (realParams_good W bias ctxv g) n hv hm _ (realInputs_ok β n.F) u hu
    rw [this X X' (fun j hj b => hag j (by omega) b)]
  · simp only [List.getD_eq_getElem?_getD, List.getElem?_eq_none (Nat.le_of_not_lt hu), Option.getD_none]

/-! ### instance 2: integer path counts (what the driver prints) -/

/-- entry `j < F` of the row vector vanishes whenever input `j` has degree `> d` -/
def natDep (F width : Nat) : DepSys (natOps width) where
  Dep := fun d v => ∀ j, j < F → d < j + 1 → v[j]?.getD 0 = 0
  mono := by
    intro d d' v hdd hv j hj hd
    exact hv j hj (by omega)
  zero := by
    intro d j _ _
    simp only [natOps, List.getElem?_replicate]
    split <;> rfl
  add := by
    intro d a b ha hb j hj hd
    have h1 := ha j hj hd
    have h2 := hb j hj hd
    simp only [natOps, List.getElem?_zipWith]
    generalize a[j]? = oa at h1 ⊢
    generalize b[j]? = ob at h2 ⊢
    rcases oa with _ | x <;> rcases ob with _ | y <;> try rfl
    change x = 0 at h1
    change y = 0 at h2
    subst h1 h2
    rfl
  smul := by
    intro d a s ha j hj hd
    have h1 := ha j hj hd
    simp only [natOps, List.getElem?_map]
    generalize a[j]? = oa at h1 ⊢
    rcases oa with _ | x
    · rfl
    · change x = 0 at h1
      subst h1
      exact Nat.mul_zero s

theorem pcParams_good (F C actMul : Nat) : (pcParams F C actMul).Good (natDep F (F + C)) where
  bias := by
    intro l k d j _ _
    simp only [pcParams, List.getElem?_replicate]
    split <;> rfl
  ctx := by
    intro s k d j hj _
    simp only [pcParams, List.getElem?_map]
    rw [List.getElem?_range (by omega)]
    simp; omega
  um := by
    intro s sl k d v hv j hj hd
    have h1 := hv j hj hd
    simp only [pcParams]
    split
    · simp only [List.getElem?_map]
      cases hv' : v[j]? <;> simp_all
    · exact h1

theorem unitVecs_ok (F C : Nat) :
    StOk (natDep F (F + C)) ((inputDegrees F).zip ((List.range F).map (unitVec (F + C)))) := by
  intro p hp
  rw [List.mem_iff_getElem] at hp
  obtain ⟨i, hi, rfl⟩ := hp
  intro j hj hd
  simp only [List.getElem_zip, inputDegrees, List.getElem_map, List.getElem_range, unitVec,
    List.getElem?_map] at hd ⊢
  rw [List.getElem?_range (by omega)]
  simp; omega

/-- **the path-count matrix is strictly lower block-triangular**: no mask-permitted path leads from input `j`
    to an output unit of block `u / m ≤ j` -/
theorem pathCount_zero (n : Net) (hv : n.valid = true) (hm : 0 < n.m) (C actMul u j : Nat)
    (hj : j < n.F) (hu : u / n.m ≤ j) : ((pathCount n C actMul).getD u [])[j]?.getD 0 = 0 := by
  unfold pathCount
  by_cases hlen : u < (outputs (natOps (n.F + C)) (pcParams n.F C actMul) n ((List.range n.F).map (unitVec (n.F + C)))).length
  · simp only [List.getD_eq_getElem?_getD, List.getElem?_eq_getElem hlen, Option.getD_some]
    exact outputs_dep (pcParams_good n.F C actMul) n hv hm _ (unitVecs_ok n.F C) u hlen j hj (by omega)
  · simp only [List.getD_eq_getElem?_getD, List.getElem?_eq_none (Nat.le_of_not_lt hlen), Option.getD_none]
    rfl

theorem pathCount_length (n : Net) (C actMul : Nat) : (pathCount n C actMul).length = n.F * n.m :=
  outputs_length _ _ _

end NF.Made
