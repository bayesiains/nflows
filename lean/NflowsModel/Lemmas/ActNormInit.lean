import Mathlib.Analysis.SpecialFunctions.Log.Basic
import Mathlib.Analysis.SpecialFunctions.Sqrt
import Mathlib.Algebra.BigOperators.Field
import Mathlib.Tactic

/-!
# Lemmas/ActNormInit — the data-dependent initialisation of ActNorm leaves its batch with mean 0 and unbiased variance 1

One feature over a batch `Fin B → ℝ` (`Finset` sums); `Real/NormReal.lean` carries it to the list statistics the machine runs.
-/
namespace ActNormInit

noncomputable section
open Finset

variable {B : ℕ}
/-- per-feature statistics as torch computes them: mean, unbiased std (normalization.py:213-217) -/
def mean (x : Fin B → ℝ) : ℝ := (∑ i, x i) / B
def varU (x : Fin B → ℝ) : ℝ := (∑ i, (x i - mean x)^2) / (B - 1)
def stdU (x : Fin B → ℝ) : ℝ := Real.sqrt (varU x)

def actnormInitOut (x : Fin B → ℝ) : Fin B → ℝ :=
  let std := stdU x
  let logScale := - Real.log std
  let shift := - mean (fun i => x i / std)
  fun i => Real.exp logScale * x i + shift

theorem mean_affine (x : Fin B → ℝ) (a c : ℝ) (hB : 0 < B) : mean (fun i => a * x i + c) = a * mean x + c := by
  unfold mean
  have hB' : (B:ℝ) ≠ 0 := by positivity
  rw [Finset.sum_add_distrib, ← Finset.mul_sum]
  simp only [Finset.sum_const, Finset.card_univ, Fintype.card_fin, nsmul_eq_mul]
  field_simp

theorem varU_affine (x : Fin B → ℝ) (a c : ℝ) (hB : 0 < B) : varU (fun i => a * x i + c) = a^2 * varU x := by
  unfold varU
  rw [mean_affine x a c hB]
  have : ∀ i, (a * x i + c - (a * mean x + c))^2 = a^2 * (x i - mean x)^2 := fun i => by ring
  simp_rw [this, ← Finset.mul_sum]
  ring

theorem actnorm_init_normalises (x : Fin B → ℝ) (hB : 2 ≤ B) (hv : 0 < varU x) :
    mean (actnormInitOut x) = 0 ∧ varU (actnormInitOut x) = 1 := by
  have hB0 : 0 < B := by omega
  have hs : 0 < stdU x := Real.sqrt_pos.mpr hv
  have hexp : Real.exp (- Real.log (stdU x)) = (stdU x)⁻¹ := by
    rw [Real.exp_neg, Real.exp_log hs]
  have hform : actnormInitOut x = fun i => (stdU x)⁻¹ * x i + (- mean (fun i => x i / stdU x)) := by
    funext i; simp only [actnormInitOut, hexp]
  have hm : mean (fun i => x i / stdU x) = (stdU x)⁻¹ * mean x := by
    have : (fun i => x i / stdU x) = fun i => (stdU x)⁻¹ * x i + 0 := by funext i; rw [div_eq_inv_mul]; ring
    rw [this, mean_affine _ _ _ hB0]; ring
  constructor
  · rw [hform, mean_affine _ _ _ hB0, hm]; ring
  · rw [hform, varU_affine _ _ _ hB0]
    have : (stdU x)^2 = varU x := Real.sq_sqrt hv.le
    rw [inv_pow, this, inv_mul_cancel₀ hv.ne']

end
end ActNormInit
