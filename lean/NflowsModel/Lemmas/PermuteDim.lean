import NflowsModel.Core.Reshape
import NflowsModel.Lemmas.RowMajor
import Mathlib.Tactic
/-!
# Lemmas/PermuteDim — the executed `permuteDim` on a `[B, w]` batch

On shape `[B, w]`, dimension 1, the general index arithmetic of `permuteDim` collapses: output position `b * w + k`
reads input position `b * w + perm[k]`.
-/
namespace NF

variable {α : Type}

theorem permuteDim_2d (B w : Nat) (perm : List Nat) (hw : perm.length = w) (x : Array α) (d : α) :
    permuteDim [B, w] 1 perm x d
      = .ok ((List.range (B * w)).map fun i => x.getD (i / w * w + perm.getD (i % w) 0) d).toArray := by
  simp [permuteDim, hw, Nat.mod_one]

theorem perm_entry (d : α) (w : Nat) (perm : List Nat) {B b k : Nat} (x : Array α) (hb : b < B) (hk : k < w) :
    ((List.range (B * w)).map fun i => x.getD (i / w * w + perm.getD (i % w) 0) d).toArray[b * w + k]?
      = some (x.getD (b * w + perm.getD k 0) d) := by
  rw [List.getElem?_toArray, List.getElem?_map, List.getElem?_range (RowMajor.lt2 hb hk), Option.map_some, RowMajor.div _ hk,
    RowMajor.mod _ hk]

end NF
