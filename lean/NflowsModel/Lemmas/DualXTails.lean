import NflowsModel.Lemmas.DualXRQ
import NflowsModel.Lemmas.DualXWrap
/-!
# Lemmas/DualXTails — the EXECUTED rational-quadratic spline WITH LINEAR TAILS run on dual numbers (C16)

`rqSplineTails` at `dualX (NF.realX e)`, under `TailsWhole.RQTailsValid`.  The guard looks at the value component only: inside
`[-B, B]` the run IS the inner `rqSpline` dual run with the padded derivative vector, outside it returns its input with a zero
log-det.  With every parameter and the input moving along a curve (`rqSplineTails_dual_param_curve`, forward): sound for an input in
a tail or strictly inside a bin, no PADDED derivative on the softplus threshold.  With zero-tangent parameters and seed `(x, 1)`,
both directions: at EVERY real `x` that is not a knot (the junctions `±B` are the first / last knot) the run returns
(value, derivative) pairs of both real outputs; when the padding constant is read exactly (`PadExact`) the VALUE tangent is right at
every real `x`, junctions and interior knots included (inverse: the root term is smooth on the CLOSED y-bin).
-/
set_option linter.unusedSimpArgs false
open NF DualSound Filter Topology

namespace DualXTails
noncomputable section
open DualX RQWhole RQInverseWhole TailsWhole

variable {e : Float → ℝ} {tb minW minH minD beta : Float} {uw uh ud : List ℝ}

local notation "CF" => cfgT tb minW minH minD beta
local notation "VT" => valT e tb minW minH minD beta uw uh ud
local notation "LT" => ldT e tb minW minH minD beta uw uh ud
local notation "IT" => invT e tb minW minH minD beta uw uh ud
local notation "ILT" => invLdT e tb minW minH minD beta uw uh ud
local notation "HV" => RQTailsValid e tb minW minH minD beta uw uh ud
/-- the executed tails program on dual numbers, zero-tangent parameters -/
local notation "DRUN" =>
  rqSplineTails (dualX (NF.realX e)) tb minW minH minD beta (List.map ι uw) (List.map ι uh) (List.map ι ud)
/-! ## the wrapper on dual numbers -/

theorem dual_run_outside (inverse : Bool) (x : ℝ) (h : x < -e tb ∨ e tb < x) :
    DRUN inverse (x, 1) = .ok ((x, 1), (0, 0)) := by
  rw [rqSplineTails_eq_tailsWrap]; exact DualXWrap.tailsWrap_dual_outside _ (x, 1) h

theorem dual_run_inside (inverse : Bool) (x : ℝ) (h0 : -e tb ≤ x) (h1 : x ≤ e tb) :
    DRUN inverse (x, 1) = rqSpline (dualX (NF.realX e)) CF (uw.map ι) (uh.map ι) ((udT e minD ud).map ι) inverse (x, 1) := by
  have hud : (udT e minD ud).map ι = (dualX (NF.realX e)).ofFloat (Float.log (Float.exp (1 - minD) - 1))
      :: (ud.map ι ++ [(dualX (NF.realX e)).ofFloat (Float.log (Float.exp (1 - minD) - 1))]) := by
    rw [udT, List.map_cons, List.map_append, d_ofFloat]; rfl
  rw [rqSplineTails_eq_tailsWrap, DualXWrap.tailsWrap_dual_inside _ (x, 1) h0 h1, hud]
  rfl

/-! ## every parameter and the input moving along a curve -/

section curve
open DualXParam
variable {t : ℝ} {FW FH FD : ℝ → List ℝ} {FX : ℝ → ℝ} {dW dH dD : List (ℝ × ℝ)} {dx : ℝ × ℝ}

theorem udT_dualL (hD : IsDualL FD t dD) :
    IsDualL (fun s => udT e minD (FD s)) t ((dualX (NF.realX e)).ofFloat (Float.log (Float.exp (1 - minD) - 1))
      :: (dD ++ [(dualX (NF.realX e)).ofFloat (Float.log (Float.exp (1 - minD) - 1))])) := by
  unfold udT
  exact IsDualL.cons (IsDual.ofFloat e _ t) (IsDualL.append hD (IsDualL.cons (IsDual.ofFloat e _ t) (IsDualL.nil t)))

/-- **the executed RQ-tails forward program on dual numbers, every parameter and the input moving along any curve
    differentiable at `t`**: for an input outside `[-B, B]` or strictly inside a bin (at `t`), no padded derivative parameter
    on the softplus threshold, the dual run is sound for the real program along the curve -/
theorem rqSplineTails_dual_param_curve (hW : IsDualL FW t dW) (hH : IsDualL FH t dH) (hD : IsDualL FD t dD) (hX : IsDual FX t dx)
    (hv : RQTailsValid e tb minW minH minD beta (FW t) (FH t) (FD t))
    (hthr : ∀ k < (udT e minD (FD t)).length, e beta * (udT e minD (FD t)).getD k 0 ≠ 20)
    (hpos : (FX t < -e tb ∨ e tb < FX t) ∨
      ∃ k, k < (FW t).length ∧ xs e CF (FW t) k < FX t ∧ FX t < xs e CF (FW t) (k+1)) :
    DualRes (fun s => rqSplineTails (NF.realX e) tb minW minH minD beta (FW s) (FH s) (FD s) false (FX s)) t
      (rqSplineTails (dualX (NF.realX e)) tb minW minH minD beta dW dH dD false dx) := by
  rw [rqSplineTails_eq_tailsWrap (dualX (NF.realX e))]
  rcases hpos with hout | ⟨k, hk, h0, h1⟩
  · exact DualXWrap.tailsWrap_dualRes_outside (fun s b => rqP e minW minH minD beta (FW s) (FH s) (FD s) false b (FX s)) _ hX hout
  · obtain ⟨hx0, hx1⟩ := tbox_bin_mem (searched hv.inner) hv.hneg hk h0 h1
    exact DualXWrap.tailsWrap_dualRes_inside (fun s b => rqP e minW minH minD beta (FW s) (FH s) (FD s) false b (FX s)) _ hX hx0 hx1
      (rqSpline_dual_param_curve (c := CF) hW hH (udT_dualL hD) hX hv.inner hthr k hk h0 h1).dualRes

end curve

/-! ## outside the box -/

theorem rqSplineTails_dual_outside (x : ℝ) (h : x < -e tb ∨ e tb < x) :
    DRUN false (x, 1) = .ok ((x, 1), (0, 0)) ∧ VT x = x ∧ LT x = 0 ∧ HasDerivAt VT 1 x ∧ HasDerivAt LT 0 x := by
  have ho : VT x = x ∧ LT x = 0 := valT_outside x h
  have hd : HasDerivAt VT (Real.exp (LT x)) x := valT_hasDerivAt_outside x h
  rw [ho.2, Real.exp_zero] at hd
  exact ⟨dual_run_outside false x h, ho.1, ho.2, hd, wrapLd_hasDerivAt_outside (P := rqP e minW minH minD beta uw uh ud false) x h⟩

theorem rqSplineTails_dual_outside_inv (y : ℝ) (h : y < -e tb ∨ e tb < y) :
    DRUN true (y, 1) = .ok ((y, 1), (0, 0)) ∧ IT y = y ∧ ILT y = 0 ∧ HasDerivAt IT 1 y ∧ HasDerivAt ILT 0 y := by
  have ho : IT y = y ∧ ILT y = 0 := invT_outside y h
  have hd : HasDerivAt IT (Real.exp (ILT y)) y := invT_hasDerivAt_outside y h
  rw [ho.2, Real.exp_zero] at hd
  exact ⟨dual_run_outside true y h, ho.1, ho.2, hd, wrapLd_hasDerivAt_outside (P := rqP e minW minH minD beta uw uh ud true) y h⟩

/-! ## strictly inside a bin -/

theorem rqSplineTails_dual_bin (hv : HV) (k : ℕ) (hk : k < uw.length) (x : ℝ)
    (h0 : xs e CF uw k < x) (h1 : x < xs e CF uw (k+1)) :
    ∃ l' : ℝ, DRUN false (x, 1) = .ok ((VT x, Real.exp (LT x)), (LT x, l')) ∧
      HasDerivAt VT (Real.exp (LT x)) x ∧ HasDerivAt LT l' x := by
  obtain ⟨hx0, hx1⟩ := tbox_bin_mem (searched hv.inner) hv.hneg hk h0 h1
  obtain ⟨l', hr, -, hdl⟩ := rqSpline_dual hv.inner k hk x h0 h1
  have hin : VT x = val e CF uw uh (udT e minD ud) x ∧ LT x = ld e CF uw uh (udT e minD ud) x :=
    valT_inside x hx0.le hx1.le
  refine ⟨l', ?_, valT_hasDerivAt_inside hv x hx0 hx1, ?_⟩
  · rw [dual_run_inside false x hx0.le hx1.le, hr, hin.1, hin.2]
  · have hev : LT =ᶠ[𝓝 x] ld e CF uw uh (udT e minD ud) :=
      Filter.eventuallyEq_of_mem (Ioo_mem_nhds hx0 hx1) (fun z hz => (valT_inside z hz.1.le hz.2.le).2)
    exact hdl.congr_of_eventuallyEq hev

theorem rqSplineTails_dual_bin_inv (hv : HV) (k : ℕ) (hk : k < uw.length) (y : ℝ)
    (h0 : ys e CF uh k < y) (h1 : y < ys e CF uh (k+1)) :
    ∃ l' : ℝ, DRUN true (y, 1) = .ok ((IT y, Real.exp (ILT y)), (ILT y, l')) ∧
      HasDerivAt IT (Real.exp (ILT y)) y ∧ HasDerivAt ILT l' y := by
  obtain ⟨hy0, hy1⟩ := tbox_ybin_mem (searched hv.inner) hv.hneg hk h0 h1
  obtain ⟨l', hr, -, hdl⟩ := rqSpline_dual_inv hv.inner k hk y h0 h1
  have hin : IT y = inv e CF uw uh (udT e minD ud) y ∧ ILT y = invLd e CF uw uh (udT e minD ud) y :=
    invT_inside y hy0.le hy1.le
  refine ⟨l', ?_, invT_hasDerivAt_inside hv y hy0 hy1, ?_⟩
  · rw [dual_run_inside true y hy0.le hy1.le, hr, hin.1, hin.2]
  · have hev : ILT =ᶠ[𝓝 y] invLd e CF uw uh (udT e minD ud) :=
      Filter.eventuallyEq_of_mem (Ioo_mem_nhds hy0 hy1) (fun z hz => (invT_inside z hz.1.le hz.2.le).2)
    exact hdl.congr_of_eventuallyEq hev

/-! ## every real point that is not a knot -/

/-- **C16 for the executed tails program, forward, at EVERY non-knot real `x`** (the junctions `±B` are the knots `0` and
    `K`): the dual run returns (value, derivative) pairs of BOTH real outputs, and the value tangent is `exp` of the
    log-abs-det the program returns -/
theorem rqSplineTails_dual_all (hv : HV) (x : ℝ) (hk : ∀ j ≤ uw.length, x ≠ xs e CF uw j) :
    ∃ v' l' : ℝ, DRUN false (x, 1) = .ok ((VT x, v'), (LT x, l')) ∧
      HasDerivAt VT v' x ∧ HasDerivAt LT l' x ∧ v' = Real.exp (LT x) := by
  by_cases ho : x < -e tb ∨ e tb < x
  · obtain ⟨hr, hv1, hl1, hdv, hdl⟩ :=
      rqSplineTails_dual_outside (minW := minW) (minH := minH) (minD := minD) (beta := beta) (uw := uw) (uh := uh)
        (ud := ud) x ho
    refine ⟨1, 0, ?_, hdv, hdl, ?_⟩
    · rw [hr, hv1, hl1]
    · rw [hl1, Real.exp_zero]
  · have hx0 : -e tb ≤ x := not_lt.mp (fun h => ho (Or.inl h))
    have hx1 : x ≤ e tb := not_lt.mp (fun h => ho (Or.inr h))
    have P := searched hv.inner
    obtain ⟨hiK, hlt0, hlt1⟩ := P.spec.open_bin_of_ne P.x0 P.xK x (hv.hneg.trans_le hx0) hx1 hk
    obtain ⟨l', hr', hdv, hdl⟩ := rqSplineTails_dual_bin hv _ hiK x hlt0 hlt1
    exact ⟨_, l', hr', hdv, hdl, rfl⟩

/-- **C16 for the executed tails program, inverse, at EVERY non-knot real `y`** (y-knots) -/
theorem rqSplineTails_dual_all_inv (hv : HV) (y : ℝ) (hk : ∀ j ≤ uw.length, y ≠ ys e CF uh j) :
    ∃ v' l' : ℝ, DRUN true (y, 1) = .ok ((IT y, v'), (ILT y, l')) ∧
      HasDerivAt IT v' y ∧ HasDerivAt ILT l' y ∧ v' = Real.exp (ILT y) := by
  by_cases ho : y < -e tb ∨ e tb < y
  · obtain ⟨hr, hv1, hl1, hdv, hdl⟩ :=
      rqSplineTails_dual_outside_inv (minW := minW) (minH := minH) (minD := minD) (beta := beta) (uw := uw) (uh := uh)
        (ud := ud) y ho
    refine ⟨1, 0, ?_, hdv, hdl, ?_⟩
    · rw [hr, hv1, hl1]
    · rw [hl1, Real.exp_zero]
  · have hy0 : -e tb ≤ y := not_lt.mp (fun h => ho (Or.inl h))
    have hy1 : y ≤ e tb := not_lt.mp (fun h => ho (Or.inr h))
    have P := searched hv.inner
    obtain ⟨hiK, hlt0, hlt1⟩ :=
      (searchedInv hv.inner).specI.open_bin_of_ne P.y0 P.yK y (hv.hneg.trans_le hy0) hy1 hk
    obtain ⟨l', hr', hdv, hdl⟩ := rqSplineTails_dual_bin_inv hv _ hiK y hlt0 hlt1
    exact ⟨_, l', hr', hdv, hdl, rfl⟩

/-- the form with the junctions spelled out (they are knots, so the two extra hypotheses are redundant) -/
theorem rqSplineTails_dual_all' (hv : HV) (x : ℝ) (_hl : x ≠ -e tb) (_hr : x ≠ e tb)
    (hk : ∀ j ≤ uw.length, x ≠ xs e CF uw j) :
    ∃ v' l' : ℝ, DRUN false (x, 1) = .ok ((VT x, v'), (LT x, l')) ∧
      HasDerivAt VT v' x ∧ HasDerivAt LT l' x ∧ v' = Real.exp (LT x) :=
  rqSplineTails_dual_all hv x hk

theorem rqSplineTails_dual_all_inv' (hv : HV) (y : ℝ) (_hl : y ≠ -e tb) (_hr : y ≠ e tb)
    (hk : ∀ j ≤ uw.length, y ≠ ys e CF uh j) :
    ∃ v' l' : ℝ, DRUN true (y, 1) = .ok ((IT y, v'), (ILT y, l')) ∧
      HasDerivAt IT v' y ∧ HasDerivAt ILT l' y ∧ v' = Real.exp (ILT y) :=
  rqSplineTails_dual_all_inv hv y hk

/-! ## the VALUE tangent at every real point (knots and junctions included) -/

theorem rqSplineTails_dual_value_all (hv : HV) (hp : PadExact e minD beta) (x : ℝ) :
    ∃ l' : ℝ, DRUN false (x, 1) = .ok ((VT x, Real.exp (LT x)), (LT x, l')) ∧ HasDerivAt VT (Real.exp (LT x)) x := by
  refine Exists.imp (fun l' h => ⟨h, valT_hasDerivAt_all hv hp x⟩) ?_
  by_cases ho : x < -e tb ∨ e tb < x
  · have h1 : VT x = x ∧ LT x = 0 := valT_outside x ho
    exact ⟨0, by rw [dual_run_outside false x ho, h1.1, h1.2, Real.exp_zero]⟩
  · have hx0 : -e tb ≤ x := not_lt.mp (fun h => ho (Or.inl h))
    have hx1 : x ≤ e tb := not_lt.mp (fun h => ho (Or.inr h))
    have hin : VT x = val e CF uw uh (udT e minD ud) x ∧ LT x = ld e CF uw uh (udT e minD ud) x := valT_inside x hx0 hx1
    obtain ⟨l', hr⟩ := rqSpline_dual_closed hv.inner x (by show e (-tb) ≤ x; rw [hv.hneg]; exact hx0) hx1
    exact ⟨l', by rw [dual_run_inside false x hx0 hx1, hr, hin.1, hin.2]⟩

theorem rqSplineTails_dual_value_all_inv (hv : HV) (hp : PadExact e minD beta) (y : ℝ) :
    ∃ l' : ℝ, DRUN true (y, 1) = .ok ((IT y, Real.exp (ILT y)), (ILT y, l')) ∧ HasDerivAt IT (Real.exp (ILT y)) y := by
  have hD : HasDerivAt IT (Real.exp (ILT y)) y := invT_hasDerivAt_all hv hp y
  refine Exists.imp (fun l' h => ⟨h, hD⟩) ?_
  by_cases ho : y < -e tb ∨ e tb < y
  · have h1 : IT y = y ∧ ILT y = 0 := invT_outside y ho
    exact ⟨0, by rw [dual_run_outside true y ho, h1.1, h1.2, Real.exp_zero]⟩
  · have hy0 : -e tb ≤ y := not_lt.mp (fun h => ho (Or.inl h))
    have hy1 : y ≤ e tb := not_lt.mp (fun h => ho (Or.inr h))
    have hi := hv.inner
    have hy0' : e (CF).box.bottom ≤ y := by show e (-tb) ≤ y; rw [hv.hneg]; exact hy0
    have hin : IT y = inv e CF uw uh (udT e minD ud) y ∧ ILT y = invLd e CF uw uh (udT e minD ud) y := invT_inside y hy0 hy1
    obtain ⟨v', l', hr, hdv, -⟩ := rqSpline_dual_inv_closed hi y hy0' hy1
    obtain ⟨hiK, hle, hyle, _⟩ := (searchedInv hi).sel (searched hi) y hy0' hy1
    -- on the closed y-bin the whole-line inverse is the bin's closed form: the two derivatives agree
    have heq : ∀ z ∈ Set.Icc (ys e CF uh (idxI e CF uh y)) (ys e CF uh (idxI e CF uh y + 1)),
        binInv e CF uw uh (udT e minD ud) (idxI e CF uh y) z = IT z := by
      intro z hz
      have hz0 : -e tb ≤ z := hv.hneg.symm.trans_le (((searched hi).yknot_mem _ hiK.le).1.trans hz.1)
      have hz1 : z ≤ e tb := hz.2.trans ((searched hi).yknot_mem _ hiK).2
      have h1 : IT z = inv e CF uw uh (udT e minD ud) z ∧ ILT z = invLd e CF uw uh (udT e minD ud) z := invT_inside z hz0 hz1
      rw [h1.1]; exact (inv_eqOn_bin hi _ hiK hz).symm
    have hW := (hD.hasDerivWithinAt (s := Set.Icc (ys e CF uh (idxI e CF uh y)) (ys e CF uh (idxI e CF uh y + 1)))).congr
      heq (heq y ⟨hle, hyle⟩)
    have hU := uniqueDiffOn_Icc (ys_strict hi _ hiK) y ⟨hle, hyle⟩
    have hvv : v' = Real.exp (ILT y) := hU.eq_deriv _ hdv.hasDerivWithinAt hW
    rw [hin.2] at hvv
    exact ⟨l', by rw [dual_run_inside true y hy0 hy1, hr, hin.1, hin.2, hvv]⟩

/-! ## non-vacuity at `TailsWhole.rq_valid_example` (one bin, tail bound 1) -/

theorem rq_example_outside (inverse : Bool) (x : ℝ) (h : x < -1 ∨ 1 < x) :
    rqSplineTails (dualX (NF.realX eW)) 1.0 0.0 0.0 0.0 1.0 [ι 0] [ι 0] [] inverse (x, 1) = .ok ((x, 1), (0, 0)) := by
  have := dual_run_outside (e := eW) (tb := 1.0) (minW := 0.0) (minH := 0.0) (minD := 0.0) (beta := 1.0)
    (uw := [0]) (uh := [0]) (ud := []) inverse x (by rw [eW_one]; exact h)
  simpa using this

theorem rq_example_inside (x : ℝ) (h0 : -1 < x) (h1 : x < 1) :
    ∃ l' : ℝ, rqSplineTails (dualX (NF.realX eW)) 1.0 0.0 0.0 0.0 1.0 [ι 0] [ι 0] [] false (x, 1)
        = .ok ((valT eW 1.0 0.0 0.0 0.0 1.0 [0] [0] [] x, Real.exp (ldT eW 1.0 0.0 0.0 0.0 1.0 [0] [0] [] x)),
            (ldT eW 1.0 0.0 0.0 0.0 1.0 [0] [0] [] x, l')) ∧
      HasDerivAt (valT eW 1.0 0.0 0.0 0.0 1.0 [0] [0] []) (Real.exp (ldT eW 1.0 0.0 0.0 0.0 1.0 [0] [0] [] x)) x ∧
      HasDerivAt (ldT eW 1.0 0.0 0.0 0.0 1.0 [0] [0] []) l' x := by
  have hv := rq_valid_example
  have hi := hv.inner
  have hz : xs eW (cfgT 1.0 0.0 0.0 0.0 1.0) [0] 0 = -1 := by
    rw [xs_zero hi]; show eW (-(1.0:Float)) = -1; rw [hv.hneg, eW_one]
  have hl : xs eW (cfgT 1.0 0.0 0.0 0.0 1.0) [0] (0+1) = 1 := by
    have := xs_last hi
    simp only [List.length_singleton] at this
    rw [this]; exact eW_one
  obtain ⟨l', hr, hdv, hdl⟩ := rqSplineTails_dual_bin hv 0 (by simp) x (by rw [hz]; exact h0) (by rw [hl]; exact h1)
  exact ⟨l', by simpa using hr, hdv, hdl⟩

theorem rq_example_inside_inv (y : ℝ) (h0 : -1 < y) (h1 : y < 1) :
    ∃ l' : ℝ, rqSplineTails (dualX (NF.realX eW)) 1.0 0.0 0.0 0.0 1.0 [ι 0] [ι 0] [] true (y, 1)
        = .ok ((invT eW 1.0 0.0 0.0 0.0 1.0 [0] [0] [] y, Real.exp (invLdT eW 1.0 0.0 0.0 0.0 1.0 [0] [0] [] y)),
            (invLdT eW 1.0 0.0 0.0 0.0 1.0 [0] [0] [] y, l')) ∧
      HasDerivAt (invT eW 1.0 0.0 0.0 0.0 1.0 [0] [0] []) (Real.exp (invLdT eW 1.0 0.0 0.0 0.0 1.0 [0] [0] [] y)) y ∧
      HasDerivAt (invLdT eW 1.0 0.0 0.0 0.0 1.0 [0] [0] []) l' y := by
  have hv := rq_valid_example
  have hi := hv.inner
  have hz : ys eW (cfgT 1.0 0.0 0.0 0.0 1.0) [0] 0 = -1 := by
    rw [ys_zero hi]; show eW (-(1.0:Float)) = -1; rw [hv.hneg, eW_one]
  have hl : ys eW (cfgT 1.0 0.0 0.0 0.0 1.0) [0] (0+1) = 1 := by
    have := ys_last hi
    simp only [List.length_singleton] at this
    rw [this]; exact eW_one
  obtain ⟨l', hr, hdv, hdl⟩ :=
    rqSplineTails_dual_bin_inv hv 0 (by simp) y (by rw [hz]; exact h0) (by rw [hl]; exact h1)
  exact ⟨l', by simpa using hr, hdv, hdl⟩

/-- the every-non-knot-point theorem at the example: every real `x ∉ {-1, 1}` -/
theorem rq_example_all (x : ℝ) (hl : x ≠ -1) (hr : x ≠ 1) :
    ∃ v' l' : ℝ, rqSplineTails (dualX (NF.realX eW)) 1.0 0.0 0.0 0.0 1.0 [ι 0] [ι 0] [] false (x, 1)
        = .ok ((valT eW 1.0 0.0 0.0 0.0 1.0 [0] [0] [] x, v'), (ldT eW 1.0 0.0 0.0 0.0 1.0 [0] [0] [] x, l')) ∧
      HasDerivAt (valT eW 1.0 0.0 0.0 0.0 1.0 [0] [0] []) v' x ∧
      HasDerivAt (ldT eW 1.0 0.0 0.0 0.0 1.0 [0] [0] []) l' x ∧
      v' = Real.exp (ldT eW 1.0 0.0 0.0 0.0 1.0 [0] [0] [] x) := by
  have hv := rq_valid_example
  have hi := hv.inner
  have hz : xs eW (cfgT 1.0 0.0 0.0 0.0 1.0) [0] 0 = -1 := by
    rw [xs_zero hi]; show eW (-(1.0:Float)) = -1; rw [hv.hneg, eW_one]
  have hl1 : xs eW (cfgT 1.0 0.0 0.0 0.0 1.0) [0] 1 = 1 := by
    have := xs_last hi
    simp only [List.length_singleton] at this
    rw [this]; exact eW_one
  obtain ⟨v', l', h, hdv, hdl, hv'⟩ := rqSplineTails_dual_all hv x (by
    intro j hj
    simp only [List.length_singleton] at hj
    interval_cases j
    · rw [hz]; exact hl
    · rw [hl1]; exact hr)
  exact ⟨v', l', by simpa using h, hdv, hdl, hv'⟩

end
end DualXTails
