import Mathlib.Analysis.Calculus.Deriv.MeanValue
import Mathlib.Analysis.Calculus.Deriv.Pow
import Mathlib.Tactic
/-!
# Lemmas/Cubic — one bin of the cubic spline: the polynomial `Cubic.poly` in `u = x - x_k`, its derivative `Cubic.dpoly`
in `t = u/w`, positive when both knot derivatives lie in `(0, 3s)` (Bernstein form), end values, strict monotonicity
-/

noncomputable section
namespace Cubic
/-- derivative polynomial of the cubic bin as coded (cubic.py:138-141, 273-279) in u = x - x_k ∈ [0,w]:
    3a u² + 2b u + c with a=(d0+d1-2s)/w², b=(3s-2d0-d1)/w, c=d0; here in t = u/w -/
def dpoly (s d0 d1 t : ℝ) : ℝ := 3*(d0 + d1 - 2*s)*t^2 + 2*(3*s - 2*d0 - d1)*t + d0

/-- Fritsch–Carlson region: knot derivatives in (0, 3s) make the Hermite cubic strictly increasing -/
theorem dpoly_pos {s d0 d1 t : ℝ} (hs : 0 < s) (h0 : 0 < d0) (h0' : d0 < 3*s) (h1 : 0 < d1) (h1' : d1 < 3*s)
    (ht0 : 0 ≤ t) (ht1 : t ≤ 1) : 0 < dpoly s d0 d1 t := by
  -- `3s · dpoly` is a combination of `2t(1-t)`, `(1-t)²`, `t²`, `(1-2t)²` with positive weights
  have key : 3*s * dpoly s d0 d1 t = (3*s - d0)*(3*s - d1) * (2*t*(1-t)) + d0*(3*s - d1) * (1-t)^2
      + (3*s - d0)*d1 * t^2 + d0*d1 * (1-2*t)^2 := by unfold dpoly; ring
  have e0 := sub_pos.mpr h0'
  have e1 := sub_pos.mpr h1'
  have t1 : 0 ≤ (3*s - d0)*(3*s - d1) * (2*t*(1-t)) :=
    mul_nonneg (mul_pos e0 e1).le (mul_nonneg (mul_nonneg zero_le_two ht0) (sub_nonneg.mpr ht1))
  have t4 : 0 ≤ d0*d1 * (1-2*t)^2 := mul_nonneg (mul_pos h0 h1).le (sq_nonneg _)
  have t23 : 0 < d0*(3*s - d1) * (1-t)^2 + (3*s - d0)*d1 * t^2 := by
    rcases ht0.eq_or_lt with rfl | ht
    · simpa using mul_pos h0 e1
    · exact add_pos_of_nonneg_of_pos (mul_nonneg (mul_pos h0 e1).le (sq_nonneg _))
        (mul_pos (mul_pos e0 h1) (pow_pos ht 2))
  refine (mul_pos_iff_of_pos_left (mul_pos three_pos hs)).mp ?_
  rw [key]; linarith

theorem knot_deriv_range_of {h s0 s1 w0 w1 : ℝ} (hh : 0 < h) (hs0 : 0 < s0) (hs1 : 0 < s1) (hw0 : 0 < w0) (hw1 : 0 < w1) :
    0 < 2 * min (min s0 s1) (h * (w1 * s0 + w0 * s1) / (w0 + w1)) ∧
    2 * min (min s0 s1) (h * (w1 * s0 + w0 * s1) / (w0 + w1)) < 3 * min s0 s1 := by
  have hm : 0 < min s0 s1 := lt_min hs0 hs1
  have hq : 0 < h * (w1 * s0 + w0 * s1) / (w0 + w1) :=
    div_pos (mul_pos hh (add_pos (mul_pos hw1 hs0) (mul_pos hw0 hs1))) (add_pos hw0 hw1)
  exact ⟨mul_pos two_pos (lt_min hm hq), by linarith [min_le_left (min s0 s1) (h * (w1 * s0 + w0 * s1) / (w0 + w1))]⟩

/-- the code's interior knot derivative 2·min(min(s₀,s₁), ½(w₁s₀+w₀s₁)/(w₀+w₁)) lies in (0, 3·min) (cubic.py:117-135) -/
theorem knot_deriv_range {s0 s1 w0 w1 : ℝ} (hs0 : 0 < s0) (hs1 : 0 < s1) (hw0 : 0 < w0) (hw1 : 0 < w1) :
    let d := 2 * min (min s0 s1) (0.5 * (w1 * s0 + w0 * s1) / (w0 + w1))
    0 < d ∧ d < 3 * s0 ∧ d < 3 * s1 := by
  intro d
  obtain ⟨h0, h1⟩ := knot_deriv_range_of (h := 0.5) (by norm_num) hs0 hs1 hw0 hw1
  exact ⟨h0, h1.trans_le (by linarith [min_le_left s0 s1]), h1.trans_le (by linarith [min_le_right s0 s1])⟩

/-- the cubic in u, its value at the right end is h = s·w (continuity across knots, cubic.py:138-141, 266-271) -/
def poly (s d0 d1 w u : ℝ) : ℝ := (d0 + d1 - 2*s)/w^2 * u^3 + (3*s - 2*d0 - d1)/w * u^2 + d0 * u
theorem poly_right {s d0 d1 w : ℝ} (hw : 0 < w) : poly s d0 d1 w w = s * w := by
  unfold poly; have := hw.ne'; field_simp; ring
theorem poly_left {s d0 d1 w : ℝ} : poly s d0 d1 w 0 = 0 := by simp [poly]
theorem poly_hasDerivAt {s d0 d1 w u : ℝ} (hw : 0 < w) :
    HasDerivAt (poly s d0 d1 w) (dpoly s d0 d1 (u / w)) u := by
  have hu : HasDerivAt (fun u : ℝ => u) 1 u := hasDerivAt_id' u
  have := (((hu.pow 3).const_mul ((d0 + d1 - 2*s)/w^2)).add ((hu.pow 2).const_mul ((3*s - 2*d0 - d1)/w))).add (hu.const_mul d0)
  refine this.congr_deriv ?_
  unfold dpoly; have := hw.ne'; field_simp; ring
end Cubic


end
