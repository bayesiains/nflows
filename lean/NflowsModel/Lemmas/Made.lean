import Mathlib.Algebra.BigOperators.Group.Finset.Basic
import Mathlib.Data.Real.Basic
import Mathlib.Tactic
/-!
# Lemmas/Made — the degree argument of MADE (C06) on real networks written as functions of the input

`Resp F degs h`: unit `k` of the layer `h` is determined by the inputs of degree `≤ degs k`.  It is kept by a masked linear
layer, an element-wise map and a residual sum, and the `>` mask of the output layer makes block `i` of the outputs a function
of the features `< i`.  `Properties/C06.lean` restates these.  The same argument about the executable model `Core/Made`
(`NF.Made`: the nets `build` constructs, any value type) is `Lemmas/MadeNet.lean`.
-/

namespace Made

open Finset

/-- hidden vector as a function of the (whole) input `x`; unit `k` "responds" only to inputs of degree ≤ degs k.
    Input feature `j` has degree `j+1` (made.py:12-14). -/
def Resp (F : ℕ) (degs : ℕ → ℕ) (h : (ℕ → ℝ) → ℕ → ℝ) : Prop :=
  ∀ k x x', (∀ j < F, j + 1 ≤ degs k → x j = x' j) → h x k = h x' k

/-- masked linear layer, mask rule `≥` (hidden layers) -/
noncomputable def maskedLinear (nin : ℕ) (W : ℕ → ℕ → ℝ) (b : ℕ → ℝ) (dIn dOut : ℕ → ℕ)
    (h : (ℕ → ℝ) → ℕ → ℝ) : (ℕ → ℝ) → ℕ → ℝ :=
  fun x k => b k + ∑ j ∈ range nin, W k j * (if dOut k ≥ dIn j then 1 else 0) * h x j

/-- masked linear layer, mask rule `>` (output layer) -/
noncomputable def maskedLinearOut (nin : ℕ) (W : ℕ → ℕ → ℝ) (b : ℕ → ℝ) (dIn dOut : ℕ → ℕ)
    (h : (ℕ → ℝ) → ℕ → ℝ) : (ℕ → ℝ) → ℕ → ℝ :=
  fun x k => b k + ∑ j ∈ range nin, W k j * (if dOut k > dIn j then 1 else 0) * h x j

theorem resp_input (F : ℕ) : Resp F (fun j => j + 1) (fun x j => if j < F then x j else 0) := by
  intro k x x' hag
  by_cases hk : k < F
  · simp only [hk, if_true]; exact hag k hk le_rfl
  · simp [hk]

theorem maskedLinear_resp {F nin : ℕ} {W b dIn dOut h} (hh : Resp F dIn h) :
    Resp F dOut (maskedLinear nin W b dIn dOut h) := by
  intro k x x' hag
  unfold maskedLinear
  congr 1
  apply Finset.sum_congr rfl
  intro j _
  by_cases hm : dOut k ≥ dIn j
  · have : h x j = h x' j := hh j x x' (fun i hi hle => hag i hi (le_trans hle hm))
    rw [this]
  · simp [hm]

theorem elementwise_resp {F : ℕ} {degs h} (act : ℕ → ℝ → ℝ) (hh : Resp F degs h) :
    Resp F degs (fun x k => act k (h x k)) := by
  intro k x x' hag; simp only; rw [hh k x x' hag]

theorem add_const_resp {F : ℕ} {degs h} (c : ℕ → ℝ) (hh : Resp F degs h) :
    Resp F degs (fun x k => h x k + c k) := by
  intro k x x' hag; simp only; rw [hh k x x' hag]

theorem resp_mono {F : ℕ} {d d' h} (hle : ∀ k, d k ≤ d' k) (hh : Resp F d h) : Resp F d' h := by
  intro k x x' hag; exact hh k x x' (fun j hj hd => hag j hj (le_trans hd (hle k)))

/-- residual connection needs non-decreasing degrees (the RuntimeError check, made.py:172-176) -/
theorem residual_resp {F : ℕ} {dIn dOut h g} (hle : ∀ k, dIn k ≤ dOut k)
    (hh : Resp F dIn h) (hg : Resp F dOut g) : Resp F dOut (fun x k => h x k + g x k) := by
  intro k x x' hag; simp only
  rw [resp_mono hle hh k x x' hag, hg k x x' hag]

theorem maskedLinearOut_strict {F nin : ℕ} {W b dIn dOut h} (hh : Resp F dIn h) :
    ∀ k x x', (∀ j < F, j + 1 < dOut k → x j = x' j) →
      maskedLinearOut nin W b dIn dOut h x k = maskedLinearOut nin W b dIn dOut h x' k := by
  intro k x x' hag
  unfold maskedLinearOut
  congr 1
  apply Finset.sum_congr rfl
  intro j _
  by_cases hm : dOut k > dIn j
  · have : h x j = h x' j := hh j x x' (fun i hi hle => hag i hi (lt_of_le_of_lt hle hm))
    rw [this]
  · simp [hm]

/-- feature-major, multiplier-minor output degrees: `tile [1..F] m` -/
def outDeg (m : ℕ) (k : ℕ) : ℕ := k / m + 1

theorem made_output_autoregressive {F nin m : ℕ} (hm : 0 < m) {W b dIn h} (hh : Resp F dIn h)
    (i r : ℕ) (hr : r < m) (x x' : ℕ → ℝ) (hag : ∀ j < i, x j = x' j) :
    maskedLinearOut nin W b dIn (outDeg m) h x (i * m + r)
      = maskedLinearOut nin W b dIn (outDeg m) h x' (i * m + r) := by
  apply maskedLinearOut_strict hh
  intro j _ hlt
  apply hag
  have : (i * m + r) / m = i := by
    rw [Nat.mul_comm, Nat.mul_add_div hm, Nat.div_eq_of_lt hr, Nat.add_zero]
  unfold outDeg at hlt; omega


end Made
