import NflowsModel.Lemmas.QuadWhole
import NflowsModel.Lemmas.QuadInverseWhole
import NflowsModel.Lemmas.TailsWhole
import NflowsModel.Lemmas.WellDefinedRQ
import Mathlib.Tactic
/-!
# Lemmas/WellDefinedQuad — every partial operation of the EXECUTED quadratic spline is applied inside its domain

Over ℝ every arithmetic operation of the model is total (`Real.log 0 = 0`, `x / 0 = 0`, `Real.sqrt` of a negative number is
`0`), so `quadSpline (NF.realX e) … = .ok r` (`QuadWhole.exec_eq_bin`, `QuadInverseWhole.exec_ok`) only says that no explicit
error branch is taken.  This file adds what `.ok` does not say: for every input of the closed in-domain box, under the
validity bundles `QuadWhole.QuadValid` (bounded shape, `uh` has `K+1` entries) and `QuadWhole.QuadValidT` (tails shape,
`uh` has `K-1` entries, `K ≥ 2`), EVERY logarithm argument the program forms is `> 0`, EVERY divisor is `> 0` (or `< 0`:
the stable-root denominator), EVERY square-root argument is `≥ 0`.

Headline theorems: `quad_forward_well_defined`, `quad_inverse_well_defined` (bounded), `quad_forward_well_defined_T`,
`quad_inverse_well_defined_T` (tails).  Each conclusion is a `structure … : Prop` with one named field per operation, and
contains the conjunct `exec` that ties the closed-form names to the program (`quadSpline … = .ok (closed forms at the bin
the EXECUTED search returned)`).

## Enumeration of the partial operations (`Core/Spline.lean`, `quadSpline`, lines 178-223, with the helpers it calls)

Operands are stated about the SAME term the program forms wherever that term does not depend on a gather; per-bin operands
are stated on the closed-form names of `Lemmas/QuadWhole.lean` / `Lemmas/QuadInverseWhole.lean` at the index returned by
the executed `searchsortedG` (`idxN` forward, over `locs`; `idxB` inverse, over `blc`), and on sub-terms of the executed
`Expr` (`quadFwdLdArgE`, `quadInvRadE`, `quadInvDenE`: `quadFwdLdE_split`, `quadInvAlphaE_split` are `rfl`).

| line | operation (helper)                                              | operand                                   | field |
|------|-----------------------------------------------------------------|-------------------------------------------|-------|
| 183  | fwd: `o.div (x - left) (ofFloat (right - left))`                | divisor `ofFloat (right-left)`            | `QuadFwdWD.norm_div_pos` |
| 182  | inv: `o.div (y - bottom) (ofFloat (top - bottom))`              | divisor `ofFloat (top-bottom)`            | `QuadInvWD.norm_div_pos` |
| 187  | `flooredSoftmax` → `softmaxG` (Core/Basic:37) `o.div e s`       | divisor `sumG es`, `es = exp (uw_i - max)`| `StageWD.softmax_div_pos` (+ `softmaxG_unfold`) |
| 188  | `o.softplus u` = `softplusB one u` (Core/XOps:47): threshold `if lt 20 (one*u) then u` | comparison only (the three fields below hold for EVERY `u ∈ uh`, whichever branch runs; `softplus_unfold`) | — |
| 188  | … else `o.div (log1p (exp (one*u))) beta`                       | divisor `one`                             | `StageWD.softplus_div_pos` |
| 188  | … `log1p (exp (one*u))` (Core/XOps:43) `o.log (1 + exp(one*u))` | log argument `add one (exp (mul one u))`  | `StageWD.softplus_log_arg_pos` |
| 188  | … `log1p`: `o.div (log u' * x) (u' - 1)`                        | divisor `sub (add one (exp …)) one`       | `StageWD.softplus_log1p_div_pos` (and `softplus_log1p_branch`: over ℝ this branch is the one taken) |
| 197  | tails: `pairMeans o uhe` (Core/Spline:172) `o.div (a+b) o.two`  | divisor `o.two`                           | `StageWD.two_pos` |
| 199  | tails: `cst = o.div numer (1 - half*fw - half*lw)`              | divisor `cstDen` (same term)              | `TailsPadWD.cst_div_pos` (+ `cst_eq`, `pad_ok`) |
| 202  | `pairMeans o uhe`                                               | divisor `o.two`                           | `StageWD.two_pos` |
| 203  | `o.div u area`                                                  | divisor `area = sumG (zipWith mul (pairMeans uhe) widths)` | `StageWD.area_pos` |
| 204  | `pairMeans o heights`                                           | divisor `o.two`                           | `StageWD.two_pos` |
| 207  | `searchsortedG` (Core/Basic:61): `add`, `maxA`, `nextUp`, comparisons only | none                           | — |
| 208-212 | gathers `getI` (explicit error branch)                       | index in range                            | `exec`, `idx_lt` |
| 214  | `boxLog c.box = Float.log ((top-bottom)/(right-left))` (a Float constant; its REAL reading) | divisor `e right - e left`, log argument `(e top - e bottom)/(e right - e left)` | `boxlog_div_pos`, `boxlog_arg_pos` |
| 221  | fwd `quadFwdE`: `(v 0 - v 1) / v 2` (`quadFwdE_split`)          | divisor slot 2 `= wd idx` (`envN_slot2`)  | `QuadFwdWD.bin_width_pos` |
| 222  | fwd `quadFwdLdE`: `(v 0 - v 1) / v 2`                           | divisor slot 2 `= wd idx` (`envN_slot2`)  | `QuadFwdWD.bin_width_pos` |
| 222  | fwd `quadFwdLdE`: `.log (al*(v 5 - v 4) + v 4)`                 | log argument `evalR env quadFwdLdArgE`    | `QuadFwdWD.log_arg_pos` (+ `ld_eq`) |
| 216  | inv `quadInvAlphaE`: `.sqrt (b*b - 4*a*c)`                      | radicand `evalR env quadInvRadE` (`= radN`)| `QuadInvWD.rad_nonneg` (+ `rad_eq`) |
| 216  | inv `quadInvAlphaE`: `(2*c) / (.neg b - .sqrt …)`               | divisor `evalR env quadInvDenE`           | `QuadInvWD.den_neg`, `den_ne` (+ `alpha_eq`) |
| 218  | inv `o.log (al*(hr - hl) + hl)`                                 | log argument `alphaN*(ht(k+1) - ht k) + ht k` | `QuadInvWD.log_arg_pos` (+ `ld_eq`) |
| 217, 221 | `o.clamp`: comparisons only                                 | none (it is the identity: `QuadInvWD.alpha_mem`, `QuadWhole.bin_mem_unit`) | — |
| 219, 223 | rescaling `mul`, `add`, `sub`                               | none                                      | — |

`exp` (softmax, softplus) is total.  The two size guards `c.minW * K > 1`, `c.minH * K > 1` are `Float` comparisons (part
of the bundles).

## Findings

None: every operand is in its domain for every valid input, in both directions and both shapes.  The two delicate cases of
the inverse are covered without extra hypothesis (`StableRoot.stable_root`): at a flat bin (`hr = hl`, `a = 0`) the radicand
is `b² > 0` and the divisor is `-2b < 0`; at `y' = lcdf` (`c = 0`) the radicand is `b²`, the divisor `-2b < 0`, the root `0`.
(The tails shape with ONE bin is not in `QuadValidT`: there the program raises an index error, `QuadWhole.tails_one_bin_error`.)
-/
open NF DualSound

namespace WellDefinedQuad
open QuadWhole QuadInverseWhole
noncomputable section
variable (e : Float → ℝ)

/-! ### sub-terms of the executed `Expr`s -/

/-- the argument of the logarithm in `quadFwdLdE` -/
def quadFwdLdArgE : Expr := ((v 0 - v 1) / v 2) * (v 5 - v 4) + v 4
/-- the radicand `b*b - 4*a*c` in `quadInvAlphaE` -/
def quadInvRadE : Expr :=
  (v 4 * v 2) * (v 4 * v 2) - 4 * ((.lit 1 2) * (v 5 - v 4) * v 2) * (v 3 - v 0)
/-- the divisor `-b - sqrt (b*b - 4*a*c)` in `quadInvAlphaE` -/
def quadInvDenE : Expr := .neg (v 4 * v 2) - .sqrt quadInvRadE

theorem quadFwdLdE_split : quadFwdLdE = .log quadFwdLdArgE := rfl
theorem quadFwdE_split :
    quadFwdE = ((.lit 1 2) * (v 5 - v 4) * v 2) * (((v 0 - v 1) / v 2) * ((v 0 - v 1) / v 2))
      + (v 4 * v 2) * ((v 0 - v 1) / v 2) + v 3 := rfl
theorem quadInvAlphaE_split : quadInvAlphaE = (2 * (v 3 - v 0)) / quadInvDenE := rfl

/-- what `softmaxG` divides by: the term `sumG es` of Core/Basic.lean -/
theorem softmaxG_unfold (uw : List ℝ) :
    softmaxG (NF.realX e) uw
      = (uw.map (fun x => (NF.realX e).exp ((NF.realX e).sub x (maxG (NF.realX e) uw)))).map
          (fun t => (NF.realX e).div t
            (sumG (NF.realX e) (uw.map (fun x => (NF.realX e).exp ((NF.realX e).sub x (maxG (NF.realX e) uw)))))) := rfl

/-- the text of `softplus` (Core/XOps.lean: `softplusB one`, `log1p`) with every operation visible -/
theorem softplus_unfold (u : ℝ) :
    (NF.realX e).softplus u
      = (let bx := (NF.realX e).mul (NF.realX e).one u
         let ex := (NF.realX e).exp bx
         let u' := (NF.realX e).add (NF.realX e).one ex
         if (NF.realX e).lt ((NF.realX e).ofRat 20 1) bx then u
         else (NF.realX e).div
            (if (NF.realX e).le u' (NF.realX e).one && (NF.realX e).le (NF.realX e).one u' then ex
             else (NF.realX e).div ((NF.realX e).mul ((NF.realX e).log u') ex) ((NF.realX e).sub u' (NF.realX e).one))
            (NF.realX e).one) := rfl

/-! ### first stage (lines 187-204): common to both directions; `U` is the list of unnormalised heights after the optional
tails padding (`Uq e uh` bounded, `Ut e c uw uh` tails) -/

structure StageWD (c : QCfg) (uw uh U : List ℝ) : Prop where
  /-- `softmaxG`: the divisor `sumG es` -/
  softmax_div_pos :
    0 < sumG (NF.realX e) (uw.map (fun x => (NF.realX e).exp ((NF.realX e).sub x (maxG (NF.realX e) uw))))
  /-- the widths (divisors of the per-bin closed forms) -/
  widths_pos : ∀ w ∈ flooredSoftmax (NF.realX e) c.minW uw, 0 < w
  /-- `softplusB one u`: the divisor `beta = one` -/
  softplus_div_pos : 0 < (NF.realX e).one
  /-- `log1p (exp (one*u))`: the argument of `o.log` -/
  softplus_log_arg_pos : ∀ u ∈ uh,
    0 < (NF.realX e).add (NF.realX e).one ((NF.realX e).exp ((NF.realX e).mul (NF.realX e).one u))
  /-- `log1p (exp (one*u))`: the divisor `u' - 1` -/
  softplus_log1p_div_pos : ∀ u ∈ uh,
    0 < (NF.realX e).sub ((NF.realX e).add (NF.realX e).one ((NF.realX e).exp ((NF.realX e).mul (NF.realX e).one u)))
          (NF.realX e).one
  /-- over ℝ the shortcut branch `u' == 1` of `log1p` is never taken: the division above is the branch executed -/
  softplus_log1p_branch : ∀ u ∈ uh,
    ((NF.realX e).le ((NF.realX e).add (NF.realX e).one ((NF.realX e).exp ((NF.realX e).mul (NF.realX e).one u)))
        (NF.realX e).one
      && (NF.realX e).le (NF.realX e).one
        ((NF.realX e).add (NF.realX e).one ((NF.realX e).exp ((NF.realX e).mul (NF.realX e).one u)))) = false
  /-- `pairMeans`: the divisor `o.two` -/
  two_pos : 0 < (NF.realX e).two
  /-- the unnormalised heights `softplus u + 1e-3` (and the padding constant, tails shape) are positive -/
  uhe_pos : ∀ u ∈ U, 0 < u
  /-- `o.div u area`: the divisor, the same term as in the program -/
  area_pos :
    0 < sumG (NF.realX e) (List.zipWith (NF.realX e).mul (pairMeans (NF.realX e) U) (flooredSoftmax (NF.realX e) c.minW uw))
  heights_pos : ∀ h ∈ hts e c (Wq e c uw) U, 0 < h

variable {e}
variable {c : QCfg} {uw uh U : List ℝ}

theorem stage_of_core (hK : uw ≠ []) (hv : CoreValid e c (Wq e c uw) U) : StageWD e c uw uh U where
  softmax_div_pos := by
    rw [NF.sumG_real]
    exact SplineExec.sum_exp_pos uw (maxG (NF.realX e) uw) hK
  widths_pos := hv.hWpos
  softplus_div_pos := by simp
  softplus_log_arg_pos := fun u _ => (NF.WellDefined.RQ.log1p_ops _ u).1
  softplus_log1p_div_pos := fun u _ => (NF.WellDefined.RQ.log1p_ops _ u).2.1
  softplus_log1p_branch := fun u _ => (NF.WellDefined.RQ.log1p_ops _ u).2.2
  two_pos := by simp
  uhe_pos := hv.hUpos
  area_pos := QuadWhole.area_pos hv
  heights_pos := hts_pos hv

/-! ### forward direction -/

variable (e)
def fwdLogArg (c : QCfg) (Wd U : List ℝ) (k : ℕ) (t : ℝ) : ℝ := evalR (envN e c Wd U k t) quadFwdLdArgE

/-- **every partial operation of `quadSpline … false x` is applied inside its domain** (`U`: unnormalised heights after
    the optional padding) -/
structure QuadFwdWD (c : QCfg) (uw uh U : List ℝ) (x : ℝ) : Prop where
  /-- line 183: the divisor of the box normalisation -/
  norm_div_pos : 0 < (NF.realX e).ofFloat (c.box.right - c.box.left)
  /-- lines 187-204 -/
  stage : StageWD e c uw uh U
  /-- the program returns the closed forms at the bin the executed search selected -/
  exec : quadSpline (NF.realX e) c uw uh false x
    = .ok (binN e c (Wq e c uw) U (idxN e c (Wq e c uw) (nx e c x)) (nx e c x) * (e c.box.top - e c.box.bottom)
             + e c.box.bottom,
           binLdN e c (Wq e c uw) U (idxN e c (Wq e c uw) (nx e c x)) (nx e c x) + e (boxLog c.box))
  /-- the selected index is a bin: all five gathers are in range -/
  idx_lt : idxN e c (Wq e c uw) (nx e c x) < uw.length
  /-- lines 221-222: the divisor `v 2` (the width of the selected bin) of `quadFwdE` and `quadFwdLdE` -/
  bin_width_pos : 0 < wd (Wq e c uw) (idxN e c (Wq e c uw) (nx e c x))
  ld_eq : binLdN e c (Wq e c uw) U (idxN e c (Wq e c uw) (nx e c x)) (nx e c x)
    = Real.log (fwdLogArg e c (Wq e c uw) U (idxN e c (Wq e c uw) (nx e c x)) (nx e c x))
  /-- line 222: the argument of the logarithm -/
  log_arg_pos : 0 < fwdLogArg e c (Wq e c uw) U (idxN e c (Wq e c uw) (nx e c x)) (nx e c x)
  /-- line 214, real reading of the Float constant `boxLog`: its divisor -/
  boxlog_div_pos : 0 < e c.box.right - e c.box.left
  /-- line 214, real reading of the Float constant `boxLog`: its logarithm argument -/
  boxlog_arg_pos : 0 < (e c.box.top - e c.box.bottom) / (e c.box.right - e c.box.left)

/-- bounded shape -/
abbrev QuadFwdWellDefined (c : QCfg) (uw uh : List ℝ) (x : ℝ) : Prop := QuadFwdWD e c uw uh (Uq e uh) x
variable {e}

theorem envN_slot2 (Wd U : List ℝ) (k : ℕ) (t : ℝ) : envN e c Wd U k t 2 = wd Wd k := rfl

theorem fwdLogArg_eq (Wd U : List ℝ) (k : ℕ) (t : ℝ) :
    fwdLogArg e c Wd U k t = Quad.pdf (ht e c Wd U k) (ht e c Wd U (k+1)) ((t - lc e Wd k) / wd Wd k) := by
  simp [fwdLogArg, quadFwdLdArgE, envN, Bridge.qEnv, envOf, Quad.pdf, NF.v]

theorem fwd_core {Wd : List ℝ} (hv : CoreValid e c Wd U) (t : ℝ) (ht0 : 0 ≤ t) (ht1 : t ≤ 1) :
    idxN e c Wd t < Wd.length ∧ 0 < wd Wd (idxN e c Wd t) ∧ 0 < fwdLogArg e c Wd U (idxN e c Wd t) t := by
  obtain ⟨hiK, hle, hle1, _⟩ := (searchedN hv).sel t ht0 ht1
  obtain ⟨ha0, ha1⟩ := relpos_mem hv _ hiK t hle hle1
  refine ⟨hiK, wd_pos hv _ hiK, ?_⟩
  rw [fwdLogArg_eq]
  exact Quad.pdf_pos (ht_pos hv _ (Nat.lt_succ_of_lt hiK)) (ht_pos hv _ (Nat.succ_lt_succ hiK)) ha0 ha1

theorem fwd_of_core (hK : uw ≠ []) (hv : CoreValid e c (Wq e c uw) U) (hb : BoxValid e c)
    (hP : RunsRest e c (Wq e c uw) U (quadSpline (NF.realX e) c uw uh false))
    (x : ℝ) (hx0 : e c.box.left ≤ x) (hx1 : x ≤ e c.box.right) : QuadFwdWD e c uw uh U x := by
  obtain ⟨h0, h1⟩ := nx_mem hb x hx0 hx1
  obtain ⟨hi, hw, hl⟩ := fwd_core hv (nx e c x) h0 h1
  have hD : 0 < e c.box.right - e c.box.left := sub_pos.mpr hb.hlr
  have hT : 0 < e c.box.top - e c.box.bottom := sub_pos.mpr hb.hbt
  exact
    { norm_div_pos := by rw [NF.realX_ofFloat, hb.hdlr]; exact hD
      stage := stage_of_core hK hv
      exec := gen_exec hv hb hP x hx0 hx1
      idx_lt := by rw [Wq_length] at hi; exact hi
      bin_width_pos := hw
      ld_eq := rfl
      log_arg_pos := hl
      boxlog_div_pos := hD
      boxlog_arg_pos := div_pos hT hD }

/-- **forward, bounded shape**: for every `x ∈ [left, right]` every logarithm argument is positive and every divisor is
    positive, in the program `quadSpline (NF.realX e) c uw uh false x`, which returns the closed forms of the selected bin -/
theorem quad_forward_well_defined (hv : QuadValid e c uw uh) (x : ℝ) (hx0 : e c.box.left ≤ x) (hx1 : x ≤ e c.box.right) :
    QuadFwdWellDefined e c uw uh x :=
  fwd_of_core hv.hK (core_of_valid hv) hv.hbox (runsRest_of_valid hv) x hx0 hx1

/-! ### inverse direction -/

variable (e)
def invRad (c : QCfg) (Wd U : List ℝ) (k : ℕ) (s : ℝ) : ℝ := evalR (envN e c Wd U k s) quadInvRadE
def invDen (c : QCfg) (Wd U : List ℝ) (k : ℕ) (s : ℝ) : ℝ := evalR (envN e c Wd U k s) quadInvDenE
/-- the argument of the logarithm the inverse program takes at bin `k`: `al*(hr - hl) + hl` -/
def invLogArg (c : QCfg) (Wd U : List ℝ) (k : ℕ) (s : ℝ) : ℝ :=
  alphaN e c Wd U k s * (ht e c Wd U (k+1) - ht e c Wd U k) + ht e c Wd U k

/-- **every partial operation of `quadSpline … true y` is applied inside its domain** (`U`: unnormalised heights after
    the optional padding) -/
structure QuadInvWD (c : QCfg) (uw uh U : List ℝ) (y : ℝ) : Prop where
  /-- line 182: the divisor of the box normalisation -/
  norm_div_pos : 0 < (NF.realX e).ofFloat (c.box.top - c.box.bottom)
  /-- lines 187-204 -/
  stage : StageWD e c uw uh U
  /-- the program returns the inverse closed forms at the bin the executed search (over the cdf knots) selected -/
  exec : quadSpline (NF.realX e) c uw uh true y
    = .ok (binInvN e c (Wq e c uw) U (idxB e c (Wq e c uw) U (ny e c y)) (ny e c y) * (e c.box.right - e c.box.left)
             + e c.box.left,
           binInvLdN e c (Wq e c uw) U (idxB e c (Wq e c uw) U (ny e c y)) (ny e c y) - e (boxLog c.box))
  /-- the selected index is a bin: all five gathers are in range -/
  idx_lt : idxB e c (Wq e c uw) U (ny e c y) < uw.length
  alpha_eq : alphaN e c (Wq e c uw) U (idxB e c (Wq e c uw) U (ny e c y)) (ny e c y)
    = 2 * (bl e c (Wq e c uw) U (idxB e c (Wq e c uw) U (ny e c y)) - ny e c y)
        / invDen e c (Wq e c uw) U (idxB e c (Wq e c uw) U (ny e c y)) (ny e c y)
  rad_eq : invRad e c (Wq e c uw) U (idxB e c (Wq e c uw) U (ny e c y)) (ny e c y)
    = radN e c (Wq e c uw) U (idxB e c (Wq e c uw) U (ny e c y)) (ny e c y)
  /-- line 216: the argument of the square root -/
  rad_nonneg : 0 ≤ invRad e c (Wq e c uw) U (idxB e c (Wq e c uw) U (ny e c y)) (ny e c y)
  den_eq : invDen e c (Wq e c uw) U (idxB e c (Wq e c uw) U (ny e c y)) (ny e c y)
    = -(ht e c (Wq e c uw) U (idxB e c (Wq e c uw) U (ny e c y)) * wd (Wq e c uw) (idxB e c (Wq e c uw) U (ny e c y)))
        - Real.sqrt (invRad e c (Wq e c uw) U (idxB e c (Wq e c uw) U (ny e c y)) (ny e c y))
  /-- line 216: the divisor of the stable root is strictly negative … -/
  den_neg : invDen e c (Wq e c uw) U (idxB e c (Wq e c uw) U (ny e c y)) (ny e c y) < 0
  /-- … hence non-zero (flat bins `hr = hl` and `y' = lcdf` included) -/
  den_ne : invDen e c (Wq e c uw) U (idxB e c (Wq e c uw) U (ny e c y)) (ny e c y) ≠ 0
  /-- the root is in `[0,1]` (so the clamp of line 217 is the identity) -/
  alpha_mem : 0 ≤ alphaN e c (Wq e c uw) U (idxB e c (Wq e c uw) U (ny e c y)) (ny e c y) ∧
    alphaN e c (Wq e c uw) U (idxB e c (Wq e c uw) U (ny e c y)) (ny e c y) ≤ 1
  ld_eq : binInvLdN e c (Wq e c uw) U (idxB e c (Wq e c uw) U (ny e c y)) (ny e c y)
    = - Real.log (invLogArg e c (Wq e c uw) U (idxB e c (Wq e c uw) U (ny e c y)) (ny e c y))
  /-- line 218: the argument of the logarithm -/
  log_arg_pos : 0 < invLogArg e c (Wq e c uw) U (idxB e c (Wq e c uw) U (ny e c y)) (ny e c y)
  /-- line 214, real reading of the Float constant `boxLog`: its divisor -/
  boxlog_div_pos : 0 < e c.box.right - e c.box.left
  /-- line 214, real reading of the Float constant `boxLog`: its logarithm argument -/
  boxlog_arg_pos : 0 < (e c.box.top - e c.box.bottom) / (e c.box.right - e c.box.left)

/-- bounded shape -/
abbrev QuadInvWellDefined (c : QCfg) (uw uh : List ℝ) (y : ℝ) : Prop := QuadInvWD e c uw uh (Uq e uh) y
variable {e}

theorem invRad_eq (Wd U : List ℝ) (k : ℕ) (s : ℝ) : invRad e c Wd U k s = radN e c Wd U k s := by
  simp [invRad, radN, quadInvRadE, envN, Bridge.qEnv, envOf, NF.v]
  ring

theorem invDen_eq (Wd U : List ℝ) (k : ℕ) (s : ℝ) :
    invDen e c Wd U k s = -(ht e c Wd U k * wd Wd k) - Real.sqrt (invRad e c Wd U k s) := by
  simp [invDen, invRad, quadInvDenE, envN, Bridge.qEnv, envOf, NF.v]

theorem alphaN_eq_div (Wd U : List ℝ) (k : ℕ) (s : ℝ) :
    alphaN e c Wd U k s = 2 * (bl e c Wd U k - s) / invDen e c Wd U k s := by
  simp [alphaN, invDen, quadInvAlphaE_split, envN, Bridge.qEnv, envOf, NF.v]

theorem inv_of_core (hK : uw ≠ []) (hv : CoreValid e c (Wq e c uw) U) (hb : BoxValid e c)
    (hQ : RunsRestI e c (Wq e c uw) U (quadSpline (NF.realX e) c uw uh true))
    (y : ℝ) (hy0 : e c.box.bottom ≤ y) (hy1 : y ≤ e c.box.top) : QuadInvWD e c uw uh U y := by
  obtain ⟨h0, h1⟩ := ny_mem hb y hy0 hy1
  obtain ⟨hi, hrad, hden, ha0, ha1, _⟩ := root_facts hv (ny e c y) h0 h1
  have hD : 0 < e c.box.right - e c.box.left := sub_pos.mpr hb.hlr
  have hT : 0 < e c.box.top - e c.box.bottom := sub_pos.mpr hb.hbt
  have hden' : invDen e c (Wq e c uw) U (idxB e c (Wq e c uw) U (ny e c y)) (ny e c y) < 0 := by
    rw [invDen_eq, invRad_eq]; exact hden
  exact
    { norm_div_pos := by rw [NF.realX_ofFloat, hb.hdbt]; exact hT
      stage := stage_of_core hK hv
      exec := gen_execI hv hb hQ y hy0 hy1
      idx_lt := by rw [Wq_length] at hi; exact hi
      alpha_eq := alphaN_eq_div _ _ _ _
      rad_eq := invRad_eq _ _ _ _
      rad_nonneg := by rw [invRad_eq]; exact hrad
      den_eq := invDen_eq _ _ _ _
      den_neg := hden'
      den_ne := hden'.ne
      alpha_mem := ⟨ha0, ha1⟩
      ld_eq := rfl
      log_arg_pos := Quad.pdf_pos (ht_pos hv _ (Nat.lt_succ_of_lt hi)) (ht_pos hv _ (Nat.succ_lt_succ hi)) ha0 ha1
      boxlog_div_pos := hD
      boxlog_arg_pos := div_pos hT hD }

/-- **inverse, bounded shape**: for every `y ∈ [bottom, top]` the radicand is non-negative, the divisor of the stable root is
    strictly negative, every logarithm argument and every other divisor is positive, in the program
    `quadSpline (NF.realX e) c uw uh true y`, which returns the inverse closed forms of the selected bin -/
theorem quad_inverse_well_defined (hv : QuadValid e c uw uh) (y : ℝ) (hy0 : e c.box.bottom ≤ y) (hy1 : y ≤ e c.box.top) :
    QuadInvWellDefined e c uw uh y :=
  inv_of_core hv.hK (core_of_valid hv) hv.hbox (runsRestI_of_valid hv) y hy0 hy1

/-! ### tails shape (`uh` has `K-1` entries, `K ≥ 2`): the padding step of lines 190-200 -/

variable (e)
/-- the divisor of the padding constant, the same term as in the program: `1 - half*fw - half*lw`, `fw = half*w0`,
    `lw = half*wl` -/
def cstDen (c : QCfg) (uw : List ℝ) : ℝ :=
  (NF.realX e).sub
    ((NF.realX e).sub (NF.realX e).one
      ((NF.realX e).mul ((NF.realX e).ofFloat 0.5) ((NF.realX e).mul ((NF.realX e).ofFloat 0.5) ((Wq e c uw).getD 0 0))))
    ((NF.realX e).mul ((NF.realX e).ofFloat 0.5)
      ((NF.realX e).mul ((NF.realX e).ofFloat 0.5) ((Wq e c uw).getD (uw.length - 1) 0)))
/-- the numerator of the padding constant, the same term as in the program -/
def cstNum (c : QCfg) (uw uh : List ℝ) : ℝ :=
  (NF.realX e).add
    ((NF.realX e).add
      ((NF.realX e).mul ((NF.realX e).mul ((NF.realX e).ofFloat 0.5)
        ((NF.realX e).mul ((NF.realX e).ofFloat 0.5) ((Wq e c uw).getD 0 0))) ((Uq e uh).getD 0 0))
      ((NF.realX e).mul ((NF.realX e).mul ((NF.realX e).ofFloat 0.5)
        ((NF.realX e).mul ((NF.realX e).ofFloat 0.5) ((Wq e c uw).getD (uw.length - 1) 0))) ((Uq e uh).getD (uh.length - 1) 0)))
    (sumG (NF.realX e) (List.zipWith (NF.realX e).mul (pairMeans (NF.realX e) (Uq e uh))
      (((Wq e c uw).drop 1).take (uw.length - 2))))

structure TailsPadWD (c : QCfg) (uw uh : List ℝ) : Prop where
  /-- the four gathers of lines 191-196 succeed and the step returns the padded heights `Ut` -/
  pad_ok : padU (NF.realX e) (flooredSoftmax (NF.realX e) c.minW uw)
      (uh.map (fun u => (NF.realX e).add ((NF.realX e).softplus u) ((NF.realX e).ofFloat 1e-3))) uw.length
    = .ok (Ut e c uw uh)
  cst_eq : cstT e c uw uh = (NF.realX e).div (cstNum e c uw uh) (cstDen e c uw)
  /-- line 199: the divisor `1 - half*fw - half*lw` -/
  cst_div_pos : 0 < cstDen e c uw
  cst_pos : 0 < cstT e c uw uh

structure QuadFwdWellDefinedT (c : QCfg) (uw uh : List ℝ) (x : ℝ) : Prop where
  pad : TailsPadWD e c uw uh
  main : QuadFwdWD e c uw uh (Ut e c uw uh) x
structure QuadInvWellDefinedT (c : QCfg) (uw uh : List ℝ) (y : ℝ) : Prop where
  pad : TailsPadWD e c uw uh
  main : QuadInvWD e c uw uh (Ut e c uw uh) y
variable {e}

theorem cstDen_pos (hv : QuadValidT e c uw uh) : 0 < cstDen e c uw := by
  obtain ⟨hw0, hwl⟩ := W_ends_T hv
  unfold cstDen
  simp only [NF.realX_sub, NF.realX_mul, NF.realX_one, NF.realX_ofFloat, hv.hhalf]
  linarith [hw0.2, hwl.2]

theorem pad_of_validT (hv : QuadValidT e c uw uh) : TailsPadWD e c uw uh where
  pad_ok := padU_tails hv
  cst_eq := rfl
  cst_div_pos := cstDen_pos hv
  cst_pos := cstT_pos hv

theorem uw_ne_nil_T (hv : QuadValidT e c uw uh) : uw ≠ [] := by
  intro h; have := hv.hlenh; rw [h] at this; simp at this

/-- **forward, tails shape** (`K ≥ 2`): as `quad_forward_well_defined`, plus the padding step -/
theorem quad_forward_well_defined_T (hv : QuadValidT e c uw uh) (x : ℝ) (hx0 : e c.box.left ≤ x) (hx1 : x ≤ e c.box.right) :
    QuadFwdWellDefinedT e c uw uh x :=
  ⟨pad_of_validT hv, fwd_of_core (uw_ne_nil_T hv) (core_of_validT hv) hv.hbox (runsRest_of_validT hv) x hx0 hx1⟩

/-- **inverse, tails shape** (`K ≥ 2`): as `quad_inverse_well_defined`, plus the padding step -/
theorem quad_inverse_well_defined_T (hv : QuadValidT e c uw uh) (y : ℝ) (hy0 : e c.box.bottom ≤ y) (hy1 : y ≤ e c.box.top) :
    QuadInvWellDefinedT e c uw uh y :=
  ⟨pad_of_validT hv, inv_of_core (uw_ne_nil_T hv) (core_of_validT hv) hv.hbox (runsRestI_of_validT hv) y hy0 hy1⟩

/-! ### non-vacuity: the four theorems at the concrete accepted configurations of the lemma files -/

example (x : ℝ) (hx0 : eNV cNV.box.left ≤ x) (hx1 : x ≤ eNV cNV.box.right) : QuadFwdWellDefined eNV cNV [0] [0, 0] x :=
  quad_forward_well_defined valid_example x hx0 hx1
example : QuadFwdWellDefined eNV cNV [0] [0, 0] (eNV cNV.box.left) :=
  quad_forward_well_defined valid_example _ le_rfl valid_example.hbox.hlr.le
example (y : ℝ) (hy0 : eNV cNV.box.bottom ≤ y) (hy1 : y ≤ eNV cNV.box.top) : QuadInvWellDefined eNV cNV [0] [0, 0] y :=
  quad_inverse_well_defined valid_example y hy0 hy1
/-- `valid_example` is ONE FLAT bin (`QuadInverseWhole.example_flat_bin`: `a = 0`), and `y = bottom` is `y' = lcdf`
    (`c = 0`): the two delicate cases of the stable root at once -/
example : QuadInvWellDefined eNV cNV [0] [0, 0] (eNV cNV.box.bottom) :=
  quad_inverse_well_defined valid_example _ le_rfl valid_example.hbox.hbt.le
example : QuadFwdWellDefinedT TailsWhole.eW (TailsWhole.qcfgT 1.0 0.0 0.0) [0, 0] [0]
    (TailsWhole.eW (TailsWhole.qcfgT 1.0 0.0 0.0).box.right) :=
  quad_forward_well_defined_T TailsWhole.quad_valid_example _ TailsWhole.quad_valid_example.hbox.hlr.le le_rfl
example (y : ℝ) (hy0 : TailsWhole.eW (TailsWhole.qcfgT 1.0 0.0 0.0).box.bottom ≤ y)
    (hy1 : y ≤ TailsWhole.eW (TailsWhole.qcfgT 1.0 0.0 0.0).box.top) :
    QuadInvWellDefinedT TailsWhole.eW (TailsWhole.qcfgT 1.0 0.0 0.0) [0, 0] [0] y :=
  quad_inverse_well_defined_T TailsWhole.quad_valid_example y hy0 hy1
example : QuadFwdWellDefinedT eT cNV [0, 0] [0] (eT cNV.box.left) :=
  quad_forward_well_defined_T valid_example_T _ le_rfl valid_example_T.hbox.hlr.le

end
end WellDefinedQuad
