import NflowsModel.Lemmas.RoundCompose
import NflowsModel.Lemmas.LinearFresh
import Mathlib.Tactic
/-!
# Lemmas/RoundLayers — rounding errors of whole VECTOR layers (C19, numeric clause)

Continues `Lemmas/RoundModel` / `Lemmas/RoundCompose` (read the header of `RoundModel` for the model `Rnd u r`,
`rndOps r`, `rndX r e` and for the TRUSTED link to IEEE arithmetic).  Lists (`maxL`, `wsum`) and the two-stage product
`F.linear(F.linear(x, U), L, b)` (the forward pass of `LULinear`, `LF.luForward`, see `luForward_eq_map`) with GIVEN
real factors `L`, `U`, `b`, entry by entry:
`|computed - exact| ≤ ((1+u)^(nL + m + 3) - 1) Σ_j |L_ij| (Σ_k |U_jk| |x_k|) + u |b_i|`
(`m` ≥ the inner-product lengths of `U x`, `nL` the inner-product length of row `i` of `L`).
NOT covered: the assembly of `L`, `U` from the parameters (`luLower` writes `one o = fl 1` on the diagonal — which
the model rounds, so in this model even `L` differs between two precisions — and `posDiag` goes through the branches
of `softplus`): both runs are given the same real matrices.  Flows of layers are in `Lemmas/RoundFlow`.
-/
open NF DualSound

namespace RoundModel
noncomputable section

variable {u : ℝ} {r : ℝ → ℝ} (e : Float → ℝ)

/-! ## lists: maximum, weighted sums -/

def maxL (l : List ℝ) : ℝ := l.foldr max 0

@[simp] theorem maxL_nil : maxL [] = 0 := rfl
@[simp] theorem maxL_cons (a : ℝ) (l : List ℝ) : maxL (a :: l) = max a (maxL l) := rfl

theorem maxL_nonneg (l : List ℝ) : 0 ≤ maxL l := by
  induction l with
  | nil => simp
  | cons a l ih => rw [maxL_cons]; exact le_max_of_le_right ih

theorem le_maxL {a : ℝ} {l : List ℝ} (h : a ∈ l) : a ≤ maxL l := by
  induction l with
  | nil => simp at h
  | cons b l ih =>
    rw [maxL_cons]
    rcases List.mem_cons.mp h with rfl | h
    · exact le_max_left _ _
    · exact le_max_of_le_right (ih h)

theorem maxL_le {c : ℝ} {l : List ℝ} (hc : 0 ≤ c) (h : ∀ a ∈ l, a ≤ c) : maxL l ≤ c := by
  induction l with
  | nil => simpa using hc
  | cons b l ih =>
    rw [maxL_cons]
    exact max_le (h b (by simp)) (ih fun a ha => h a (by simp [ha]))

def wsum (row cs : List ℝ) : ℝ := (List.zipWith (fun a c => |a| * c) row cs).sum

@[simp] theorem wsum_nil_left (cs : List ℝ) : wsum [] cs = 0 := rfl
@[simp] theorem wsum_nil_right (row : List ℝ) : wsum row [] = 0 := by simp [wsum]
@[simp] theorem wsum_cons (a c : ℝ) (row cs : List ℝ) : wsum (a :: row) (c :: cs) = |a| * c + wsum row cs := by
  simp [wsum]

theorem absDot_cons (a c : ℝ) (row cs : List ℝ) : absDot (a :: row) (c :: cs) = |a| * |c| + absDot row cs := by
  simp [absDot]
@[simp] theorem absDot_nil_left (cs : List ℝ) : absDot [] cs = 0 := rfl
@[simp] theorem absDot_nil_right (row : List ℝ) : absDot row [] = 0 := by simp [absDot]

section maps
variable {β : Type*}

/-- facts about sums of a mapped list (`List.sum_le_sum`, `sum_map_pert`) apply to the right-hand side as they stand -/
theorem wsum_map_eq (row : List ℝ) (U : List β) (g : β → ℝ) :
    wsum row (U.map g) = ((row.zip U).map fun p => |p.1| * g p.2).sum := by
  rw [wsum, List.zipWith_map_right, ← List.map_uncurry_zip_eq_zipWith]
  rfl

theorem dot_map_eq (row : List ℝ) (U : List β) (f : β → ℝ) :
    LF.dot realOps row (U.map f) = ((row.zip U).map fun p => p.1 * f p.2).sum := by
  rw [LFTriSolve.dot_real_zipWith, List.zipWith_map_right, ← List.map_uncurry_zip_eq_zipWith]
  rfl

theorem wsum_map_nonneg (row : List ℝ) (U : List β) (g : β → ℝ) (hg : ∀ b ∈ U, 0 ≤ g b) :
    0 ≤ wsum row (U.map g) := by
  rw [wsum_map_eq]
  refine List.sum_nonneg fun t ht => ?_
  obtain ⟨p, hp, rfl⟩ := List.mem_map.mp ht
  exact mul_nonneg (abs_nonneg p.1) (hg p.2 (List.of_mem_zip hp).2)

theorem wsum_map_mul (k : ℝ) (row : List ℝ) (U : List β) (g : β → ℝ) :
    wsum row (U.map fun b => k * g b) = k * wsum row (U.map g) := by
  rw [wsum_map_eq, wsum_map_eq, ← List.sum_map_mul_left]
  congr 2
  funext p
  ring

theorem wsum_map_mono (row : List ℝ) (U : List β) (g g' : β → ℝ) (hg : ∀ b ∈ U, g b ≤ g' b) :
    wsum row (U.map g) ≤ wsum row (U.map g') := by
  rw [wsum_map_eq, wsum_map_eq]
  exact List.sum_le_sum fun p hp => mul_le_mul_of_nonneg_left (hg p.2 (List.of_mem_zip hp).2) (abs_nonneg p.1)

/-- the sum on the left runs over the common prefix only -/
theorem wsum_map_const_le (row : List ℝ) (U : List β) (D : ℝ) (hD : 0 ≤ D) :
    wsum row (U.map fun _ => D) ≤ absSum row * D := by
  induction U generalizing row with
  | nil => simp; exact mul_nonneg (absSum_nonneg _) hD
  | cons b U ih =>
    cases row with
    | nil => simp
    | cons a row =>
      simp only [List.map_cons, wsum_cons, absSum_cons]
      have := ih row
      linarith

theorem absDot_map_abs (row : List ℝ) (U : List β) (f : β → ℝ) :
    absDot row (U.map f) = wsum row (U.map fun b => |f b|) := by
  rw [absDot, wsum, List.zipWith_map_right, List.zipWith_map_right]

theorem absDot_map_le (row : List ℝ) (U : List β) (f g : β → ℝ) (h : ∀ b ∈ U, |f b| ≤ g b) :
    absDot row (U.map f) ≤ wsum row (U.map g) := by
  rw [absDot_map_abs]
  exact wsum_map_mono row U _ g h

theorem dot_map_diff (row : List ℝ) (U : List β) (f' f g : β → ℝ) (h : ∀ b ∈ U, |f' b - f b| ≤ g b) :
    |LF.dot realOps row (U.map f') - LF.dot realOps row (U.map f)| ≤ wsum row (U.map g) := by
  rw [dot_map_eq, dot_map_eq, wsum_map_eq]
  refine sum_map_pert _ _ _ _ fun p hp => ?_
  rw [← mul_sub, abs_mul]
  exact mul_le_mul_of_nonneg_left (h p.2 (List.of_mem_zip hp).2) (abs_nonneg p.1)

end maps

theorem pow1_mono (h : Rnd u r) {a b : ℕ} (hab : a ≤ b) : (1 + u) ^ a ≤ (1 + u) ^ b :=
  pow_le_pow_right₀ (by linarith [h.u_nonneg]) hab

/-! ## the LU linear layer, executed, with given factors -/

/-- one batch row of `F.linear(x, W, b)` -/
def linRow (o : Ops ℝ) (W : List (List ℝ)) (b x : List ℝ) : List ℝ := LF.addV o (LF.matVec o W x) b
/-- one batch row of `F.linear(F.linear(x, U), L, b)` -/
def luRow (o : Ops ℝ) (L U : List (List ℝ)) (b x : List ℝ) : List ℝ := linRow o L b (LF.matVec o U x)

theorem linRow_eq_naiveRow (o : Ops ℝ) (W : List (List ℝ)) (b : List ℝ) : linRow o W b = LinearJacobian.naiveRow o W b := rfl
theorem luRow_eq_logdetExec (o : Ops ℝ) (p : LF.LUParams ℝ) :
    luRow o (LF.luL o p) (LF.luU o p) p.bias = LogdetExec.luRow o p := rfl

theorem linear_eq_map (o : Ops ℝ) (W : List (List ℝ)) (b : List ℝ) (X : List (List ℝ)) :
    LF.linear o W b X = X.map (linRow o W b) := rfl
theorem linear0_eq_map (o : Ops ℝ) (W : List (List ℝ)) (X : List (List ℝ)) :
    LF.linear0 o W X = X.map (LF.matVec o W) := rfl
theorem lu_eq_map (o : Ops ℝ) (L U : List (List ℝ)) (b : List ℝ) (X : List (List ℝ)) :
    LF.linear o L b (LF.linear0 o U X) = X.map (luRow o L U b) := by
  simp only [LF.linear, LF.linear0, List.map_map]; rfl
theorem luForward_eq_map (o : Ops ℝ) (p : LF.LUParams ℝ) (X : List (List ℝ)) :
    LF.luForward o p X = X.map (luRow o (LF.luL o p) (LF.luU o p) p.bias) := lu_eq_map o _ _ _ X

theorem matVec_row_err (h : Rnd u r) (x : List ℝ) (m : ℕ) (row : List ℝ) (hm : min row.length x.length ≤ m) :
    |LF.dot (rndOps r) row x - LF.dot realOps row x| ≤ ((1 + u) ^ (m + 1) - 1) * absDot row x := by
  refine (dot_err h row x).trans (mul_le_mul_of_nonneg_right ?_ (absDot_nonneg _ _))
  have := pow1_mono h (Nat.add_le_add_right hm 1)
  linarith

/-- **the two-stage product `fl(L · fl(U x) + b)`, one output entry**: with `S_i = Σ_j |L_ij| (Σ_k |U_jk| |x_k|)`,
    `|computed - exact| ≤ ((1+u)^(nL + m + 3) - 1) S_i + u |b_i|`, where `m` bounds the inner-product lengths of the
    inner stage and `nL = min (length L_i) (length U)` is the inner-product length of the outer stage.
    (Exponent: `m + 1` roundings in each entry of `U x`, `nL + 1` in the outer inner product, one for the bias.) -/
theorem lu_entry_err (h : Rnd u r) (Li : List ℝ) (U : List (List ℝ)) (bi : ℝ) (x : List ℝ) (m : ℕ)
    (hm : ∀ row ∈ U, min row.length x.length ≤ m) :
    |(rndOps r).add (LF.dot (rndOps r) Li (LF.matVec (rndOps r) U x)) bi
        - realOps.add (LF.dot realOps Li (LF.matVec realOps U x)) bi|
      ≤ ((1 + u) ^ (min Li.length U.length + m + 3) - 1) * wsum Li (U.map fun row => absDot row x) + u * |bi| := by
  show |r (LF.dot (rndOps r) Li (LF.matVec (rndOps r) U x) + bi) - (LF.dot realOps Li (LF.matVec realOps U x) + bi)| ≤ _
  set z' := LF.matVec (rndOps r) U x with hz'
  set z := LF.matVec realOps U x
  set S := wsum Li (U.map fun row => absDot row x) with hS
  set gm := (1 + u) ^ (m + 1) with hgm
  have hgm1 : 1 ≤ gm := one_le_pow1 h _
  have hrow : ∀ row ∈ U, |LF.dot (rndOps r) row x - LF.dot realOps row x| ≤ (gm - 1) * absDot row x :=
    fun row hrow => matVec_row_err h x m row (hm row hrow)
  -- the outer stage at the computed inner value
  have h1 : |r (LF.dot (rndOps r) Li z' + bi) - (LF.dot realOps Li z' + bi)| ≤ _ := linear_entry_err h Li z' bi
  rw [show z'.length = U.length by simp [hz', LF.matVec]] at h1
  -- size of the computed inner value
  have hA : absDot Li z' ≤ gm * S := by
    rw [hS, ← wsum_map_mul]
    apply absDot_map_le
    intro row hU
    linarith [hrow row hU, abs_dot_le row x,
      abs_sub_abs_le_abs_sub (LF.dot (rndOps r) row x) (LF.dot realOps row x)]
  -- propagation of the inner error through |L|
  have hB : |LF.dot realOps Li z' - LF.dot realOps Li z| ≤ (gm - 1) * S := by
    rw [hS, ← wsum_map_mul]
    exact dot_map_diff Li U _ _ _ hrow
  have h2 := abs_sub_le (r (LF.dot (rndOps r) Li z' + bi)) (LF.dot realOps Li z' + bi) (LF.dot realOps Li z + bi)
  rw [add_sub_add_right_eq_sub] at h2
  have h3 := mul_le_mul_of_nonneg_left hA (sub_nonneg.mpr (one_le_pow1 h (min Li.length U.length + 2)))
  rw [show min Li.length U.length + m + 3 = (min Li.length U.length + 2) + (m + 1) by omega, pow_add]
  linarith

theorem linRow_length (o : Ops ℝ) (W : List (List ℝ)) (b x : List ℝ) :
    (linRow o W b x).length = min W.length b.length := by
  simp [linRow, LF.addV, LF.matVec]
theorem luRow_length (o : Ops ℝ) (L U : List (List ℝ)) (b x : List ℝ) :
    (luRow o L U b x).length = min L.length b.length := linRow_length _ _ _ _

theorem linRow_getElem (o : Ops ℝ) (W : List (List ℝ)) (b x : List ℝ) (i : ℕ) (hi : i < W.length) (hb : i < b.length) :
    (linRow o W b x)[i]'(by rw [linRow_length]; omega) = o.add (LF.dot o W[i] x) b[i] := by
  simp only [linRow, LF.addV, LF.matVec, List.getElem_zipWith, List.getElem_map]

theorem luRow_err (h : Rnd u r) (L U : List (List ℝ)) (b x : List ℝ) (m : ℕ)
    (hm : ∀ row ∈ U, min row.length x.length ≤ m) (i : ℕ) (hi : i < L.length) (hb : i < b.length) :
    |(luRow (rndOps r) L U b x)[i]'(by rw [luRow_length]; omega)
        - (luRow realOps L U b x)[i]'(by rw [luRow_length]; omega)|
      ≤ ((1 + u) ^ (min (L[i]).length U.length + m + 3) - 1) * wsum L[i] (U.map fun row => absDot row x)
        + u * |b[i]| := by
  unfold luRow
  rw [linRow_getElem _ _ _ _ i hi hb, linRow_getElem _ _ _ _ i hi hb]
  exact lu_entry_err h _ U _ x m hm

/-- `luRow_err` for two precisions, in `γ` form: `γ_N(u) = N u / (1 - N u)`, `N = nL + m + 3` -/
theorem f32_f64_agree_luRow_gamma {u32 u64 : ℝ} {r32 r64 : ℝ → ℝ} (h32 : Rnd u32 r32) (h64 : Rnd u64 r64)
    (L U : List (List ℝ)) (b x : List ℝ) (m : ℕ) (hm : ∀ row ∈ U, min row.length x.length ≤ m)
    (i : ℕ) (hi : i < L.length) (hb : i < b.length) (N : ℕ) (hN : N = min (L[i]).length U.length + m + 3)
    (h1 : N * u32 < 1) (h2 : N * u64 < 1) :
    |(luRow (rndOps r32) L U b x)[i]'(by rw [luRow_length]; omega)
        - (luRow (rndOps r64) L U b x)[i]'(by rw [luRow_length]; omega)|
      ≤ (N * u32 / (1 - N * u32) + N * u64 / (1 - N * u64)) * wsum L[i] (U.map fun row => absDot row x)
        + (u32 + u64) * |b[i]| := by
  subst hN
  refine (tri (luRow_err h32 L U b x m hm i hi hb) (luRow_err h64 L U b x m hm i hi hb)).trans ?_
  have hS : 0 ≤ wsum L[i] (U.map fun row => absDot row x) :=
    wsum_map_nonneg _ _ _ fun b _ => absDot_nonneg _ _
  have := mul_le_mul_of_nonneg_right
    (add_le_add (pow_sub_one_le_gamma h32.u_nonneg _ h1) (pow_sub_one_le_gamma h64.u_nonneg _ h2)) hS
  linarith

/-! ## non-vacuity of the LU bound: explicit numbers -/

/-- the 2×2 LU layer `L = [[1,0],[1/2,1]]`, `U = [[2,1],[0,3]]`, `b = [1,-1]` on `x = [1,-2]`, output entry 1 (exact value
    `(1/2)(2·1 + 1·(-2)) + 3·(-2) - 1 = -7`, conditioning scale `(1/2)(2 + 2) + 6 = 8`): two roundings with
    `u32 = 2^-24`, `u64 = 2^-53` give results within `(γ₇(u32) + γ₇(u64))·8 + (u32 + u64)·1 ≤ 2^-18` of each other -/
theorem lu_example :
    ∃ r32 r64 : ℝ → ℝ, Rnd ((2 : ℝ) ^ (-24 : ℤ)) r32 ∧ Rnd ((2 : ℝ) ^ (-53 : ℤ)) r64 ∧ r32 1 ≠ r64 1 ∧
      |(luRow (rndOps r32) [[1, 0], [1 / 2, 1]] [[2, 1], [0, 3]] [1, -1] [1, -2]).getD 1 0
          - (luRow (rndOps r64) [[1, 0], [1 / 2, 1]] [[2, 1], [0, 3]] [1, -1] [1, -2]).getD 1 0| ≤ (2 : ℝ) ^ (-18 : ℤ) := by
  refine ⟨_, _, rnd_scale_f32, rnd_scale_f64, by norm_num, ?_⟩
  have h := f32_f64_agree_luRow_gamma rnd_scale_f32 rnd_scale_f64 [[1, 0], [1 / 2, 1]] [[2, 1], [0, 3]] [1, -1] [1, -2] 2
    (by intro row hrow; simp only [List.mem_cons, List.not_mem_nil, or_false] at hrow; rcases hrow with rfl | rfl <;> simp)
    1 (by simp) (by simp) 7 (by simp) (by norm_num) (by norm_num)
  have e1 : wsum ([[1, 0], [1 / 2, 1]] : List (List ℝ))[1] (([[2, 1], [0, 3]] : List (List ℝ)).map fun row => absDot row [1, -2])
      = 8 := by
    simp [wsum, absDot]; norm_num
  rw [e1] at h
  rw [List.getD_eq_getElem _ _ (by rw [luRow_length]; simp), List.getD_eq_getElem _ _ (by rw [luRow_length]; simp)]
  refine h.trans ?_
  norm_num

end
end RoundModel
