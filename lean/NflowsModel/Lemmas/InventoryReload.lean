import NflowsModel.Core.Inventory
/-!
# Lemmas/InventoryReload — helper lemmas about the state-dict inventory model (C15)
-/
namespace Thin
namespace Inventory

theorem afterLoad_nil_left {V : Type} (saved fresh : List V) : afterLoad [] saved fresh = [] := by
  simp [afterLoad]

theorem afterLoad_cons {V : Type} (e : Entry) (inv : List Entry) (s f : V) (saved fresh : List V) :
    afterLoad (e :: inv) (s :: saved) (f :: fresh) = (if persisted e then s else f) :: afterLoad inv saved fresh := by
  simp [afterLoad]

theorem afterLoad_length {V : Type} (inv : List Entry) (saved fresh : List V)
    (h1 : saved.length = inv.length) (h2 : fresh.length = inv.length) :
    (afterLoad inv saved fresh).length = inv.length := by
  simp [afterLoad, h1, h2]

theorem afterLoad_getElem? {V : Type} (inv : List Entry) (saved fresh : List V) (i : Nat) (e : Entry) (s f : V)
    (he : inv[i]? = some e) (hs : saved[i]? = some s) (hf : fresh[i]? = some f) :
    (afterLoad inv saved fresh)[i]? = some (if persisted e then s else f) := by
  simp only [afterLoad, List.getElem?_map, List.zip, List.getElem?_zipWith, he, hs, hf, Option.map_some]

theorem reloadSafeU_cons (e : Entry) (r : List Entry) (used : List Bool) :
    reloadSafeU (e :: r) used =
      ((!used.getD 0 true || persisted e || e.ctorDetermined) && reloadSafeU r used.tail) := by
  cases used <;> rfl

theorem getD_tail (used : List Bool) (j : Nat) : used.tail.getD j true = used.getD (j + 1) true := by
  cases used <;> rfl

theorem reloadSafeU_eq_false_iff (inv : List Entry) (used : List Bool) :
    reloadSafeU inv used = false ↔
      ∃ i e, inv[i]? = some e ∧ used.getD i true = true ∧ persisted e = false ∧ e.ctorDetermined = false := by
  induction inv generalizing used with
  | nil => exact ⟨fun h => Bool.noConfusion h, fun ⟨i, e, he, _⟩ => by simp at he⟩
  | cons e0 r ih =>
    rw [reloadSafeU_cons, Bool.and_eq_false_iff, ih, Bool.or_eq_false_iff, Bool.or_eq_false_iff, Bool.not_eq_false']
    constructor
    · rintro (⟨⟨hu, hp⟩, hc⟩ | ⟨j, e, he, hu, hpc⟩)
      · exact ⟨0, e0, rfl, hu, hp, hc⟩
      · exact ⟨j + 1, e, he, (getD_tail used j).symm.trans hu, hpc⟩
    · rintro ⟨_ | j, e, he, hu, hp, hc⟩
      · obtain rfl := Option.some.inj he
        exact Or.inl ⟨⟨hu, hp⟩, hc⟩
      · exact Or.inr ⟨j, e, he, (getD_tail used j).trans hu, hp, hc⟩

theorem reloadSafeU_spec (inv : List Entry) (used : List Bool) (h : reloadSafeU inv used = true)
    (i : Nat) (e : Entry) (he : inv[i]? = some e) (hu : used.getD i true = true) :
    persisted e = true ∨ e.ctorDetermined = true := by
  cases hp : persisted e
  · cases hc : e.ctorDetermined
    · have := (reloadSafeU_eq_false_iff inv used).mpr ⟨i, e, he, hu, hp, hc⟩
      rw [h] at this; cases this
    · exact Or.inr rfl
  · exact Or.inl rfl

theorem reloadSafeU_nil_used (inv : List Entry) : reloadSafeU inv [] = reloadSafe inv := by
  induction inv with
  | nil => rfl
  | cons e inv ih =>
    simp only [reloadSafeU, ih, reloadSafe, List.all_cons]

theorem setAt_length {V : Type} (l : List V) (i : Nat) (v : V) : (setAt l i v).length = l.length := by
  induction l generalizing i with
  | nil => rfl
  | cons x r ih => cases i <;> simp [setAt, ih]

theorem setAt_getElem?_ne {V : Type} (l : List V) (i j : Nat) (v : V) (h : i ≠ j) : (setAt l i v)[j]? = l[j]? := by
  induction l generalizing i j with
  | nil => rfl
  | cons x r ih =>
    cases i with
    | zero =>
      cases j with
      | zero => exact absurd rfl h
      | succ j => simp [setAt]
    | succ i =>
      cases j with
      | zero => simp [setAt]
      | succ j =>
        simp only [setAt, List.getElem?_cons_succ]
        exact ih i j (fun e => h (by rw [e]))

theorem setAt_getElem?_eq {V : Type} (l : List V) (i : Nat) (v : V) (h : i < l.length) : (setAt l i v)[i]? = some v := by
  induction l generalizing i with
  | nil => simp at h
  | cons x r ih =>
    cases i with
    | zero => simp [setAt]
    | succ i =>
      simp only [setAt, List.getElem?_cons_succ]
      exact ih i (by simpa using h)

theorem applyHist_length {V : Type} (l : List V) (h : List (Nat × V)) : (applyHist l h).length = l.length := by
  induction h generalizing l with
  | nil => rfl
  | cons p r ih =>
    simp only [applyHist, List.foldl_cons] at ih ⊢
    rw [ih, setAt_length]

theorem applyHist_getElem?_untouched {V : Type} (l : List V) (h : List (Nat × V)) (j : Nat)
    (hj : ∀ p ∈ h, p.1 ≠ j) : (applyHist l h)[j]? = l[j]? := by
  induction h generalizing l with
  | nil => rfl
  | cons p r ih =>
    simp only [applyHist, List.foldl_cons] at ih ⊢
    rw [ih _ (fun q hq => hj q (List.mem_cons_of_mem _ hq))]
    exact setAt_getElem?_ne l p.1 j p.2 (hj p (List.mem_cons_self))

end Inventory
end Thin
