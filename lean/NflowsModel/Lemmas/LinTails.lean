import NflowsModel.Lemmas.LinWhole
import NflowsModel.Lemmas.TailsWhole
import NflowsModel.Lemmas.StructureExecQuad
/-!
# Lemmas/LinTails — the piecewise-LINEAR spline with linear tails on the whole real line, and the per-element
invertibility hypothesis of the executed coupling layer discharged for the linear family

The tails program is `tailsWrap … (fun box => linSpline … box 1e-6 p inverse x)`.  The two bounded programs of
`Lemmas/LinWhole.lean` are a `TailsWhole.WrapPair` (`lin_wrapPair`);
every whole-line statement (total, identity outside `[-B, B]`, strictly increasing continuous bijection, round trips and
the log-abs-det law at EVERY real) is then an instance of a `TailsWhole.wrap_*` theorem.  At the junction `-B` the one-sided
derivatives are 1 (tail) and `pdf_0·K` (box): the unconstrained linear spline is not differentiable there unless
`pdf_0 = 1/K` (`lin_tails_not_differentiable_left`).  The layer part gives the linear family, bounded and with tails, as an
element family of the layers (`lin_accepts`, `lin_undoes`, `lin_tails_accepts`, `lin_tails_undoes`).
-/
open NF DualSound

namespace LinTails
open LinWhole TailsWhole
noncomputable section

/-! ## the unconstrained linear spline: `tailsWrap` around `linSpline` -/

section tails
variable (e : Float → ℝ) (tb eps : Float) (up : List ℝ)

/-- the inner programs exactly as `elTransform` passes them to `tailsWrap` (forward / inverse direction) -/
def linP (b : Box) (x : ℝ) : Except Err (ℝ × ℝ) := linSpline (NF.realX e) b eps up false x
def linPI (b : Box) (y : ℝ) : Except Err (ℝ × ℝ) := linSpline (NF.realX e) b eps up true y

local notation "LP" => linP e eps up
local notation "LPI" => linPI e eps up

theorem innerVal_lin : innerVal tb LP = LinWhole.val e (tbox tb) eps up := rfl
theorem innerLd_lin : innerLd tb LP = LinWhole.ld e (tbox tb) eps up := rfl
theorem innerVal_linI : innerVal tb LPI = LinWhole.inv e (tbox tb) eps up := rfl
theorem innerLd_linI : innerLd tb LPI = LinWhole.invLd e (tbox tb) eps up := rfl

variable {e tb eps up}

theorem lin_wrapPair (hv : LinValid e (tbox tb) eps up) (hneg : e (-tb) = - e tb) : WrapPair e tb LP LPI :=
  ⟨hneg, tb_pos hneg hv.hlr, boxPair hv⟩

/-- **the executed linear tails program (inverse) on the whole line**: C17 (total on ℝ), C09 (strictly increasing,
    continuous, bijective, the box onto itself, junctions fixed), identity with log-det 0 outside the box; the forward
    direction is `wrap_whole (lin_wrapPair hv hneg).valid` -/
theorem lin_tails_whole_inv (hv : LinValid e (tbox tb) eps up) (hneg : e (-tb) = - e tb) :
    (∀ y, tailsWrap (NF.realX e) tb y (fun b => LPI b y) = .ok (wrapVal e tb LPI y, wrapLd e tb LPI y)) ∧
    StrictMono (wrapVal e tb LPI) ∧ Continuous (wrapVal e tb LPI) ∧ Function.Bijective (wrapVal e tb LPI) ∧
    Set.BijOn (wrapVal e tb LPI) (Set.Icc (-e tb) (e tb)) (Set.Icc (-e tb) (e tb)) ∧
    wrapVal e tb LPI (-e tb) = -e tb ∧ wrapVal e tb LPI (e tb) = e tb ∧
    (∀ y, y < -e tb ∨ e tb < y → wrapVal e tb LPI y = y ∧ wrapLd e tb LPI y = 0) :=
  wrap_whole (lin_wrapPair hv hneg).validI

/-- **C02 on the whole line**: forward ∘ inverse = id for EVERY real `y` (inverse ∘ forward = id is `(lin_wrapPair hv hneg).cancel`) -/
theorem lin_tails_val_inv (hv : LinValid e (tbox tb) eps up) (hneg : e (-tb) = - e tb) (y : ℝ) :
    wrapVal e tb LP (wrapVal e tb LPI y) = y :=
  (lin_wrapPair hv hneg).symm.cancel y

/-- **log-abs-det law on the whole line** (C02) -/
theorem lin_tails_invLd (hv : LinValid e (tbox tb) eps up) (hneg : e (-tb) = - e tb)
    (hlogK : e (Float.log (1.0 / up.length.toFloat)) = Real.log (1 / (up.length : ℝ))) (y : ℝ) :
    wrapLd e tb LPI y = - wrapLd e tb LP (wrapVal e tb LPI y) :=
  (lin_wrapPair hv hneg).ld_neg (invLd_eq_neg_ld hv hlogK) y

/-- **C01 inside every open bin of the linear tails program (forward)** -/
theorem lin_tails_hasDerivAt_bin (hv : LinValid e (tbox tb) eps up) (hneg : e (-tb) = - e tb)
    (hlogK : e (Float.log (1.0 / up.length.toFloat)) = Real.log (1 / (up.length : ℝ)))
    (hbl0 : e (boxLog (tbox tb)) = 0)
    (k : ℕ) (hk : k < up.length) (x : ℝ)
    (h0 : xk e (tbox tb) up.length k < x) (h1 : x < xk e (tbox tb) up.length (k+1)) :
    HasDerivAt (wrapVal e tb LP) (Real.exp (wrapLd e tb LP x)) x := by
  obtain ⟨hx0, hx1⟩ := tbox_bin_mem (LinWhole.searched hv) hneg hk h0 h1
  refine wrap_hasDerivAt_inside x hx0 hx1 ?_
  rw [innerVal_lin, innerLd_lin]
  exact val_hasDerivAt_x hv hlogK (tbox_boxLog hv.hlr hbl0) k hk x h0 h1

/-- **C01 inside every open output bin of the linear tails program (inverse)** -/
theorem lin_tails_inv_hasDerivAt_bin (hv : LinValid e (tbox tb) eps up) (hneg : e (-tb) = - e tb)
    (hbl0 : e (boxLog (tbox tb)) = 0)
    (k : ℕ) (hk : k < up.length) (y : ℝ)
    (h0 : yk e (tbox tb) up k < y) (h1 : y < yk e (tbox tb) up (k+1)) :
    HasDerivAt (wrapVal e tb LPI) (Real.exp (wrapLd e tb LPI y)) y := by
  obtain ⟨hy0, hy1⟩ := tbox_ybin_mem (LinWhole.searched hv) hneg hk h0 h1
  refine wrap_hasDerivAt_inside y hy0 hy1 ?_
  rw [innerVal_linI, innerLd_linI]
  exact inv_hasDerivAt_y hv (tbox_boxLog hv.hlr hbl0) k hk y h0 h1

/-- remark (not a defect: a piecewise-linear map has kinks): at the junction `-B` the one-sided derivatives of the
    unconstrained linear spline are 1 (tail) and `pdf_0·K` (first bin), so it is NOT differentiable there unless the first
    bin has exactly the uniform mass `1/K`; C01 therefore holds at every real EXCEPT the knots -/
theorem lin_tails_not_differentiable_left (hv : LinValid e (tbox tb) eps up) (hneg : e (-tb) = - e tb)
    (hne : pd e up 0 * (up.length : ℝ) ≠ 1) :
    ¬ DifferentiableAt ℝ (wrapVal e tb LP) (-e tb) := by
  have hD : e (tbox tb).right - e (tbox tb).left ≠ 0 := (sub_pos.mpr hv.hlr).ne'
  have h1 : (e (tbox tb).top - e (tbox tb).bottom) / (e (tbox tb).right - e (tbox tb).left) = 1 := div_self hD
  have hd := val_hasDerivWithinAt_left hv
  rw [h1, mul_one] at hd
  have hL : e (tbox tb).left = -e tb := hneg
  rw [hL] at hd
  exact wrap_not_differentiableAt_left (lin_wrapPair hv hneg).valid _ hne (by rw [innerVal_lin]; exact hd)

end tails

/-! ## the structure layer: the linear family as an element family, coupling round trips -/

section structureLayer
open NF.StructureExec

theorem mult_lin {c : ElCfg} (hk : c.kind = "lin") : c.mult = c.K := by simp [ElCfg.mult, hk]

variable (e : Float → ℝ)

theorem lin_accepts (c : ElCfg) (hk : c.kind = "lin") (ht : c.tails = false) :
    ElAccepts (NF.realX e) c (fun p => LinValid e ⟨c.ds.getD 0 0.0, c.ds.getD 1 0.0, c.ds.getD 2 0.0, c.ds.getD 3 0.0⟩ 1e-6 p)
      (ElemPair.boxD (e (c.ds.getD 0 0.0)) (e (c.ds.getD 1 0.0)) (e (c.ds.getD 2 0.0)) (e (c.ds.getD 3 0.0))) :=
  ElAccepts.of_prog (elTransform_lin _ c hk ht) (fun _ hv => (boxPair hv).accepts)

/-- the log-det law needs the `np.log(1/K)` constant read as the real logarithm -/
theorem lin_undoes (c : ElCfg) (hk : c.kind = "lin") (ht : c.tails = false) (d : Bool) :
    ElUndoes Eq d (NF.realX e) c
      (fun p => LinValid e ⟨c.ds.getD 0 0.0, c.ds.getD 1 0.0, c.ds.getD 2 0.0, c.ds.getD 3 0.0⟩ 1e-6 p ∧ e (Float.log (1.0 / p.length.toFloat)) = Real.log (1 / (p.length : ℝ))) :=
  ElUndoes.of_prog (elTransform_lin _ c hk ht) (fun _ hv => (boxPair hv.1).undoes (ldLaw hv.1 hv.2)) d

theorem lin_tails_accepts (c : ElCfg) (hk : c.kind = "lin") (ht : c.tails = true)
    (hneg : e (-(c.ds.getD 0 0.0)) = - e (c.ds.getD 0 0.0)) :
    ElAccepts (NF.realX e) c
      (fun p => LinValid e ⟨-(c.ds.getD 0 0.0), c.ds.getD 0 0.0, -(c.ds.getD 0 0.0), c.ds.getD 0 0.0⟩ 1e-6 p)
      (fun _ _ => True) :=
  ElAccepts.of_prog (elTransform_lin_tails _ c hk ht) (fun _ hv => (lin_wrapPair hv hneg).accepts)

theorem lin_tails_undoes (c : ElCfg) (hk : c.kind = "lin") (ht : c.tails = true)
    (hneg : e (-(c.ds.getD 0 0.0)) = - e (c.ds.getD 0 0.0)) (d : Bool) :
    ElUndoes Eq d (NF.realX e) c
      (fun p => LinValid e ⟨-(c.ds.getD 0 0.0), c.ds.getD 0 0.0, -(c.ds.getD 0 0.0), c.ds.getD 0 0.0⟩ 1e-6 p ∧
        e (Float.log (1.0 / p.length.toFloat)) = Real.log (1 / (p.length : ℝ))) :=
  ElUndoes.of_prog (elTransform_lin_tails _ c hk ht)
    (fun _ hv => (lin_wrapPair hv.1 hneg).undoes (ldLaw hv.1 hv.2)) d

def LinParamsValid (c : ElCfg) (Ft S : Nat) (params : Array ℝ) (B : Nat) : Prop :=
  ∀ b t s, b < B → t < Ft → s < S →
    LinValid e ⟨c.ds.getD 0 0.0, c.ds.getD 1 0.0, c.ds.getD 2 0.0, c.ds.getD 3 0.0⟩ 1e-6
      (condSlice (NF.realX e) c.mult Ft S params b t s) ∧
    e (Float.log (1.0 / (condSlice (NF.realX e) c.mult Ft S params b t s).length.toFloat))
      = Real.log (1 / ((condSlice (NF.realX e) c.mult Ft S params b t s).length : ℝ))

def LinTailsParamsValid (c : ElCfg) (Ft S : Nat) (params : Array ℝ) (B : Nat) : Prop :=
  ∀ b t s, b < B → t < Ft → s < S →
    LinValid e ⟨-(c.ds.getD 0 0.0), c.ds.getD 0 0.0, -(c.ds.getD 0 0.0), c.ds.getD 0 0.0⟩ 1e-6
      (condSlice (NF.realX e) c.mult Ft S params b t s) ∧
    e (Float.log (1.0 / (condSlice (NF.realX e) c.mult Ft S params b t s).length.toFloat))
      = Real.log (1 / ((condSlice (NF.realX e) c.mult Ft S params b t s).length : ℝ))

/-- **C02 (executed bounded linear coupling layer over the reals)** -/
theorem coupling_lin_roundtrip_real (c : ElCfg) (hk : c.kind = "lin") (ht : c.tails = false)
    (mask : List ℝ) (B S : Nat) (x params uparams uparams' : Array ℝ)
    (hv : LinParamsValid e c (transformIdx (NF.realX e) mask).length S params B)
    (herr : (couplingApply (NF.realX e) c mask B S x params false none uparams).err = none)
    (hsz : B * mask.length * S ≤ x.size) :
    let fwd := couplingApply (NF.realX e) c mask B S x params false none uparams
    let inv := couplingApply (NF.realX e) c mask B S fwd.out params true none uparams'
    inv.out = x ∧ inv.err = none ∧ inv.condIn = fwd.condIn ∧ ∀ b, b < B → inv.ld[b]? = (fwd.ld[b]?).map (fun l => -l) :=
  (lin_undoes e c hk ht false).coupling_roundtrip_real e (spline_kind_ne (.inr (.inr (.inl hk)))) mask B S x params
    uparams uparams' hv herr hsz

/-- **C02 (executed linear coupling layer with linear tails over the reals)** -/
theorem coupling_lin_tails_roundtrip_real (c : ElCfg) (hk : c.kind = "lin") (ht : c.tails = true)
    (hneg : e (-(c.ds.getD 0 0.0)) = - e (c.ds.getD 0 0.0))
    (mask : List ℝ) (B S : Nat) (x params uparams uparams' : Array ℝ)
    (hv : LinTailsParamsValid e c (transformIdx (NF.realX e) mask).length S params B)
    (herr : (couplingApply (NF.realX e) c mask B S x params false none uparams).err = none)
    (hsz : B * mask.length * S ≤ x.size) :
    let fwd := couplingApply (NF.realX e) c mask B S x params false none uparams
    let inv := couplingApply (NF.realX e) c mask B S fwd.out params true none uparams'
    inv.out = x ∧ inv.err = none ∧ inv.condIn = fwd.condIn ∧ ∀ b, b < B → inv.ld[b]? = (fwd.ld[b]?).map (fun l => -l) :=
  (lin_tails_undoes e c hk ht hneg false).coupling_roundtrip_real e (spline_kind_ne (.inr (.inr (.inl hk)))) mask B S x
    params uparams uparams' hv herr hsz

end structureLayer

/-! ## non-vacuity of the tails statements: tail bound `1.0` (box `[−1,1]²`), EVERY non-empty parameter vector, the
reading `eTT` of `StructureExecQuad` (it sends `-1.0 ↦ −1`, so `hneg` holds) -/

section nonVacuity
open NF.StructureExec

theorem valid_tails_box (up : List ℝ) (hK : up ≠ []) : LinValid eTT (tbox 1.0) 1e-6 up := by
  have hlt : eTT (-(1.0)) < eTT 1.0 := by rw [eTT_n1, eTT_1]; norm_num
  have hd : eTT ((1.0:Float) - -(1.0)) = eTT 1.0 - eTT (-(1.0)) := by rw [eTT_d, eTT_1, eTT_n1]; norm_num
  exact ⟨hK, hlt, hd, hlt, hd, lt_of_lt_of_eq one_pos eTT_e.symm⟩

theorem tails_example :
    StrictMono (wrapVal eTT 1.0 (linP eTT 1e-6 [0, 1, -1])) ∧ Function.Bijective (wrapVal eTT 1.0 (linP eTT 1e-6 [0, 1, -1])) ∧
    ∀ x, wrapVal eTT 1.0 (linPI eTT 1e-6 [0, 1, -1]) (wrapVal eTT 1.0 (linP eTT 1e-6 [0, 1, -1]) x) = x := by
  have hv := valid_tails_box [0, 1, -1] (by simp)
  have hw := wrap_whole (lin_wrapPair hv eTT_neg).valid
  exact ⟨hw.2.1, hw.2.2.2.1, (lin_wrapPair hv eTT_neg).cancel⟩

end nonVacuity

end
end LinTails
