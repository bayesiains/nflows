import NflowsModel.Lemmas.DualXQuad
import NflowsModel.Lemmas.DualXLin
import NflowsModel.Lemmas.TailsWhole
import NflowsModel.Lemmas.LinTails
/-!
# Lemmas/DualXWrap — the generic linear-tails wrapper `tailsWrap` run on dual numbers (C16)

`tailsWrap o tb x inner` (`Core/Spline.lean`) is the text of `unconstrained_quadratic_spline` / `unconstrained_linear_spline`, and
`rqSplineTails` is `tailsWrap` around `rqSpline` with padded derivatives.  On dual numbers the guard only looks at the value
component.  Along any curve of inputs `FX` and of inner real programs `P s`: outside the box the run returns its input with a zero
log-det, which IS (value, derivative) of the real wrapped program whatever the inner program; strictly inside the box soundness of
the inner dual run (`DualRes`) transfers.  Instances: the quadratic and linear tails programs, both directions, input direction
(the RQ tails program, also with every parameter moving, is in `Lemmas/DualXTails.lean`).
-/
open NF DualSound DualX Filter Topology

namespace DualXWrap
open TailsWhole
noncomputable section

variable {e : Float → ℝ} {tb : Float} {t : ℝ} {FX : ℝ → ℝ} {dx : ℝ × ℝ}
variable (P : ℝ → Box → Except Err (ℝ × ℝ))

theorem tailsWrap_dual_outside (inner : Box → Except Err ((ℝ × ℝ) × (ℝ × ℝ))) (dx : ℝ × ℝ) (h : dx.1 < -e tb ∨ e tb < dx.1) :
    tailsWrap (dualX (NF.realX e)) tb dx inner = .ok (dx, (0, 0)) := by
  rw [tailsWrap_dual_unfold, if_neg]
  rintro ⟨h0, h1⟩
  rcases h with h | h <;> linarith

theorem tailsWrap_dualRes_outside (inner : Box → Except Err ((ℝ × ℝ) × (ℝ × ℝ))) (hX : IsDual FX t dx)
    (h : FX t < -e tb ∨ e tb < FX t) :
    DualRes (fun s => tailsWrap (NF.realX e) tb (FX s) (P s)) t (tailsWrap (dualX (NF.realX e)) tb dx inner) := by
  refine DualRes.intro' (fl := fun _ => 0) (tailsWrap_dual_outside inner dx (hX.1 ▸ h)) ?_ hX (IsDual.const 0 t)
  have hopen : ∀ᶠ s in 𝓝 t, FX s < -e tb ∨ e tb < FX s := by
    rcases h with h | h
    · exact (hX.2.continuousAt.eventually (Iio_mem_nhds h)).mono fun s hs => Or.inl hs
    · exact (hX.2.continuousAt.eventually (Ioi_mem_nhds h)).mono fun s hs => Or.inr hs
  filter_upwards [hopen] with s hs
  rw [tailsWrap_unfold, if_neg]
  rintro ⟨h0, h1⟩
  rcases hs with hs | hs <;> linarith

theorem tailsWrap_dual_inside (inner : Box → Except Err ((ℝ × ℝ) × (ℝ × ℝ))) (dx : ℝ × ℝ) (h0 : -e tb ≤ dx.1) (h1 : dx.1 ≤ e tb) :
    tailsWrap (dualX (NF.realX e)) tb dx inner = inner (tbox tb) := by
  rw [tailsWrap_dual_unfold, if_pos ⟨h0, h1⟩]; rfl

theorem tailsWrap_dualRes_inside (inner : Box → Except Err ((ℝ × ℝ) × (ℝ × ℝ))) (hX : IsDual FX t dx) (h0 : -e tb < FX t)
    (h1 : FX t < e tb) (hin : DualRes (fun s => P s (tbox tb)) t (inner (tbox tb))) :
    DualRes (fun s => tailsWrap (NF.realX e) tb (FX s) (P s)) t (tailsWrap (dualX (NF.realX e)) tb dx inner) := by
  rw [tailsWrap_dual_inside inner dx (hX.1 ▸ h0.le) (hX.1 ▸ h1.le)]
  refine hin.congr ?_
  filter_upwards [hX.2.continuousAt.eventually (Ioo_mem_nhds h0 h1)] with s hs
  rw [tailsWrap_unfold, if_pos ⟨hs.1.le, hs.2.le⟩]

/-! ### instance: the executed QUADRATIC spline with linear tails, forward -/

section quad
open QuadWhole
variable {minW minH : Float} {uw uh : List ℝ}

local notation "QC" => qcfgT tb minW minH
local notation "QP" => quadP e minW minH uw uh

/-- the dual inner program exactly as `elTransform` passes it to `tailsWrap` (forward direction), seeded `(x, 1)`, parameters
    with zero tangent -/
def quadPD (e : Float → ℝ) (minW minH : Float) (uw uh : List ℝ) (x : ℝ) (b : Box) : Except Err ((ℝ × ℝ) × (ℝ × ℝ)) :=
  quadSpline (dualX (NF.realX e)) { box := b, minW := minW, minH := minH } (uw.map ι) (uh.map ι) false (x, 1)

theorem quad_tails_dualRes (hv : QuadValidT e QC uw uh) (hneg : e (-tb) = - e tb) (x : ℝ)
    (hx : (x < -e tb ∨ e tb < x) ∨ ∃ k, k < uw.length ∧ xk e QC uw k < x ∧ x < xk e QC uw (k+1)) :
    DualRes (fun s => tailsWrap (NF.realX e) tb s (fun b => QP b s)) x
      (tailsWrap (dualX (NF.realX e)) tb (x, 1) (quadPD e minW minH uw uh x)) := by
  rcases hx with ho | ⟨k, hk, h0, h1⟩
  · exact tailsWrap_dualRes_outside (fun s b => QP b s) _ (IsDual.id x) ho
  · obtain ⟨hx0, hx1⟩ := quad_bin_mem hv hneg k hk x h0 h1
    exact tailsWrap_dualRes_inside (fun s b => QP b s) _ (IsDual.id x) hx0 hx1 (DualXQuad.quadSpline_dualRes_T hv k hk x h0 h1)

/-- the value tangent is `exp` of the returned log-det (`1 = exp 0` outside), given that `boxLog` of the square box reads `0` -/
theorem quad_tails_dual (hv : QuadValidT e QC uw uh) (hneg : e (-tb) = - e tb) (hbl0 : e (boxLog (tbox tb)) = 0) (x : ℝ)
    (hx : (x < -e tb ∨ e tb < x) ∨ ∃ k, k < uw.length ∧ xk e QC uw k < x ∧ x < xk e QC uw (k+1)) :
    ∃ l' : ℝ, tailsWrap (dualX (NF.realX e)) tb (x, 1) (quadPD e minW minH uw uh x)
        = .ok ((wrapVal e tb QP x, Real.exp (wrapLd e tb QP x)), (wrapLd e tb QP x, l')) ∧
      HasDerivAt (wrapVal e tb QP) (Real.exp (wrapLd e tb QP x)) x ∧ HasDerivAt (wrapLd e tb QP) l' x := by
  refine (quad_tails_dualRes hv hneg x hx).headline (fun _ => DualXQuad.valOf_eq_outY _) (fun _ => DualXQuad.ldOf_eq_outL _) ?_
  rcases hx with ho | ⟨k, hk, h0, h1⟩
  · exact wrap_hasDerivAt_outside x ho
  · exact quad_hasDerivAt_bin hv hneg hbl0 k hk x h0 h1

end quad

/-! ### instance: the executed LINEAR spline with linear tails, forward -/

section lin
open LinWhole LinTails
variable {eps : Float} {up : List ℝ}

def linPD (e : Float → ℝ) (eps : Float) (up : List ℝ) (x : ℝ) (b : Box) : Except Err ((ℝ × ℝ) × (ℝ × ℝ)) :=
  linSpline (dualX (NF.realX e)) b eps (up.map ι) false (x, 1)

theorem lin_tails_dualRes (hv : LinValid e (tbox tb) eps up) (hneg : e (-tb) = - e tb) (x : ℝ)
    (hx : (x < -e tb ∨ e tb < x) ∨
      ∃ k, k < up.length ∧ xk e (tbox tb) up.length k < x ∧ x < xk e (tbox tb) up.length (k+1)) :
    DualRes (fun s => tailsWrap (NF.realX e) tb s (fun b => linP e eps up b s)) x
      (tailsWrap (dualX (NF.realX e)) tb (x, 1) (linPD e eps up x)) := by
  rcases hx with ho | ⟨k, hk, h0, h1⟩
  · exact tailsWrap_dualRes_outside (fun s b => linP e eps up b s) _ (IsDual.id x) ho
  · obtain ⟨hx0, hx1⟩ := tbox_bin_mem (searched hv) hneg hk h0 h1
    refine tailsWrap_dualRes_inside (fun s b => linP e eps up b s) _ (IsDual.id x) hx0 hx1 ?_
    exact DualXLin.linSpline_dualRes hv k hk x ((nx_bin_iff hv k x).1.mpr h0) ((nx_bin_iff hv (k+1) x).2.mpr h1)

end lin

/-! ### non-vacuity on the concrete accepted tails configurations of `Lemmas/TailsWhole.lean` / `Lemmas/LinTails.lean` -/

/-- quadratic tails, two bins, tail bound `1.0` (`TailsWhole.quad_valid_example`): every `x` outside `[-B, B]` and every `x`
    strictly inside either bin; both bins are non-empty -/
theorem quad_tails_dual_example :
    (∀ x : ℝ, ((x < -eW 1.0 ∨ eW 1.0 < x) ∨ ∃ k, k < 2 ∧ QuadWhole.xk eW (qcfgT 1.0 0.0 0.0) [0, 0] k < x ∧
        x < QuadWhole.xk eW (qcfgT 1.0 0.0 0.0) [0, 0] (k+1)) →
      DualRes (fun s => tailsWrap (NF.realX eW) 1.0 s (fun b => quadP eW 0.0 0.0 [0, 0] [0] b s)) x
        (tailsWrap (dualX (NF.realX eW)) 1.0 (x, 1) (quadPD eW 0.0 0.0 [0, 0] [0] x))) ∧
    ∀ k < 2, QuadWhole.xk eW (qcfgT 1.0 0.0 0.0) [0, 0] k < QuadWhole.xk eW (qcfgT 1.0 0.0 0.0) [0, 0] (k+1) := by
  have hv := quad_valid_example
  refine ⟨fun x hx => quad_tails_dualRes hv eW_neg x hx, fun k hk => ?_⟩
  exact DualXQuad.affine_lt hv.hbox.hlr
    (QuadWhole.lc_strict (QuadWhole.core_of_validT hv) k (by rw [QuadWhole.Wq_length]; exact hk))

/-- linear tails, three bins, tail bound `1.0` (`LinTails.valid_tails_box`): every `x` outside `[-B, B]` and every `x`
    strictly inside a bin; the bins are non-empty -/
theorem lin_tails_dual_example :
    (∀ x : ℝ, ((x < -NF.StructureExec.eTT 1.0 ∨ NF.StructureExec.eTT 1.0 < x) ∨ ∃ k, k < 3 ∧ LinWhole.xk NF.StructureExec.eTT (tbox 1.0) 3 k < x ∧
        x < LinWhole.xk NF.StructureExec.eTT (tbox 1.0) 3 (k+1)) →
      DualRes (fun s => tailsWrap (NF.realX NF.StructureExec.eTT) 1.0 s (fun b => LinTails.linP NF.StructureExec.eTT 1e-6 [0, 1, -1] b s)) x
        (tailsWrap (dualX (NF.realX NF.StructureExec.eTT)) 1.0 (x, 1) (linPD NF.StructureExec.eTT 1e-6 [0, 1, -1] x))) ∧
    ∀ k < 3, LinWhole.xk NF.StructureExec.eTT (tbox 1.0) 3 k < LinWhole.xk NF.StructureExec.eTT (tbox 1.0) 3 (k+1) := by
  have hv := LinTails.valid_tails_box [0, 1, -1] (by simp)
  refine ⟨fun x hx => lin_tails_dualRes hv NF.StructureExec.eTT_neg x hx, fun k hk => ?_⟩
  exact (LinWhole.searched hv).xs_strict k hk

end
end DualXWrap

/-! ## the INVERSE direction of the quadratic and linear tails programs -/

namespace DualXMore
open TailsWhole
noncomputable section

section quadInv
open QuadWhole QuadInverseWhole DualXWrap
variable {e : Float → ℝ} {tb minW minH : Float} {uw uh : List ℝ}

/-- the inner inverse program exactly as `elTransform` passes it to `tailsWrap` (real / dual, seed `(y, 1)`) -/
def quadPI (e : Float → ℝ) (minW minH : Float) (uw uh : List ℝ) (b : Box) (y : ℝ) : Except Err (ℝ × ℝ) :=
  quadSpline (NF.realX e) { box := b, minW := minW, minH := minH } uw uh true y
def quadPID (e : Float → ℝ) (minW minH : Float) (uw uh : List ℝ) (y : ℝ) (b : Box) : Except Err ((ℝ × ℝ) × (ℝ × ℝ)) :=
  quadSpline (dualX (NF.realX e)) { box := b, minW := minW, minH := minH } (uw.map ι) (uh.map ι) true (y, 1)

theorem quad_ybin_mem (hv : QuadValidT e (qcfgT tb minW minH) uw uh) (hneg : e (-tb) = - e tb)
    (k : ℕ) (hk : k < uw.length) (y : ℝ)
    (h0 : yk e (qcfgT tb minW minH) (Wq e (qcfgT tb minW minH) uw) (Ut e (qcfgT tb minW minH) uw uh) k < y) (h1 : y < yk e (qcfgT tb minW minH) (Wq e (qcfgT tb minW minH) uw) (Ut e (qcfgT tb minW minH) uw uh) (k+1)) :
    -e tb < y ∧ y < e tb := by
  have hk' : k < (Wq e (qcfgT tb minW minH) uw).length := by rw [Wq_length]; exact hk
  exact tbox_ybin_mem (QuadInverseWhole.runs_of_validT hv).searched hneg hk' h0 h1

theorem quad_tails_dualRes_inv (hv : QuadValidT e (qcfgT tb minW minH) uw uh) (hneg : e (-tb) = - e tb) (y : ℝ)
    (hy : (y < -e tb ∨ e tb < y) ∨ ∃ k, k < uw.length ∧ yk e (qcfgT tb minW minH) (Wq e (qcfgT tb minW minH) uw) (Ut e (qcfgT tb minW minH) uw uh) k < y ∧
      y < yk e (qcfgT tb minW minH) (Wq e (qcfgT tb minW minH) uw) (Ut e (qcfgT tb minW minH) uw uh) (k+1)) :
    DualRes (fun s => tailsWrap (NF.realX e) tb s (fun b => quadPI e minW minH uw uh b s)) y
      (tailsWrap (dualX (NF.realX e)) tb (y, 1) (quadPID e minW minH uw uh y)) := by
  rcases hy with ho | ⟨k, hk, h0, h1⟩
  · exact tailsWrap_dualRes_outside (fun s b => quadPI e minW minH uw uh b s) _ (IsDual.id y) ho
  · obtain ⟨hy0, hy1⟩ := quad_ybin_mem hv hneg k hk y h0 h1
    exact tailsWrap_dualRes_inside (fun s b => quadPI e minW minH uw uh b s) _ (IsDual.id y) hy0 hy1
      (DualXQuadInv.quadSpline_dualRes_inv_T hv k hk y h0 h1)

end quadInv

section linInv
open LinWhole LinTails DualXWrap
variable {e : Float → ℝ} {tb eps : Float} {up : List ℝ}

def linPID (e : Float → ℝ) (eps : Float) (up : List ℝ) (y : ℝ) (b : Box) : Except Err ((ℝ × ℝ) × (ℝ × ℝ)) :=
  linSpline (dualX (NF.realX e)) b eps (up.map ι) true (y, 1)

theorem lin_tails_dualRes_inv (hv : LinValid e (tbox tb) eps up) (hneg : e (-tb) = - e tb) (y : ℝ)
    (hy : (y < -e tb ∨ e tb < y) ∨
      ∃ k, k < up.length ∧ yk e (tbox tb) up k < y ∧ y < yk e (tbox tb) up (k+1)) :
    DualRes (fun s => tailsWrap (NF.realX e) tb s (fun b => linPI e eps up b s)) y
      (tailsWrap (dualX (NF.realX e)) tb (y, 1) (linPID e eps up y)) := by
  rcases hy with ho | ⟨k, hk, h0, h1⟩
  · exact tailsWrap_dualRes_outside (fun s b => linPI e eps up b s) _ (IsDual.id y) ho
  · obtain ⟨hy0, hy1⟩ := tbox_ybin_mem (searched hv) hneg hk h0 h1
    exact tailsWrap_dualRes_inside (fun s b => linPI e eps up b s) _ (IsDual.id y) hy0 hy1
      (DualXLinInv.linSpline_dualRes_inv hv k hk y h0 h1)

end linInv

/-! ### non-vacuity of the inverse tails statements -/

theorem quad_tails_dual_inv_example :
    (∀ y : ℝ, ((y < -eW 1.0 ∨ eW 1.0 < y) ∨ ∃ k, k < 2 ∧
        QuadInverseWhole.yk eW (qcfgT 1.0 0.0 0.0) (QuadWhole.Wq eW (qcfgT 1.0 0.0 0.0) [0, 0])
          (QuadWhole.Ut eW (qcfgT 1.0 0.0 0.0) [0, 0] [0]) k < y ∧
        y < QuadInverseWhole.yk eW (qcfgT 1.0 0.0 0.0) (QuadWhole.Wq eW (qcfgT 1.0 0.0 0.0) [0, 0])
          (QuadWhole.Ut eW (qcfgT 1.0 0.0 0.0) [0, 0] [0]) (k+1)) →
      DualRes (fun s => tailsWrap (NF.realX eW) 1.0 s (fun b => quadPI eW 0.0 0.0 [0, 0] [0] b s)) y
        (tailsWrap (dualX (NF.realX eW)) 1.0 (y, 1) (quadPID eW 0.0 0.0 [0, 0] [0] y))) ∧
    ∀ k < 2, QuadInverseWhole.yk eW (qcfgT 1.0 0.0 0.0) (QuadWhole.Wq eW (qcfgT 1.0 0.0 0.0) [0, 0])
          (QuadWhole.Ut eW (qcfgT 1.0 0.0 0.0) [0, 0] [0]) k
        < QuadInverseWhole.yk eW (qcfgT 1.0 0.0 0.0) (QuadWhole.Wq eW (qcfgT 1.0 0.0 0.0) [0, 0])
          (QuadWhole.Ut eW (qcfgT 1.0 0.0 0.0) [0, 0] [0]) (k+1) := by
  have hv := quad_valid_example
  refine ⟨fun y hy => quad_tails_dualRes_inv hv eW_neg y hy, fun k hk => ?_⟩
  exact DualXQuad.affine_lt hv.hbox.hbt
    (QuadWhole.bl_strict (QuadWhole.core_of_validT hv) k (by rw [QuadWhole.Wq_length]; exact hk))

theorem lin_tails_dual_inv_example :
    (∀ y : ℝ, ((y < -NF.StructureExec.eTT 1.0 ∨ NF.StructureExec.eTT 1.0 < y) ∨ ∃ k, k < 3 ∧
        LinWhole.yk NF.StructureExec.eTT (tbox 1.0) [0, 1, -1] k < y ∧
        y < LinWhole.yk NF.StructureExec.eTT (tbox 1.0) [0, 1, -1] (k+1)) →
      DualRes (fun s => tailsWrap (NF.realX NF.StructureExec.eTT) 1.0 s
          (fun b => LinTails.linPI NF.StructureExec.eTT 1e-6 [0, 1, -1] b s)) y
        (tailsWrap (dualX (NF.realX NF.StructureExec.eTT)) 1.0 (y, 1) (linPID NF.StructureExec.eTT 1e-6 [0, 1, -1] y))) ∧
    ∀ k < 3, LinWhole.yk NF.StructureExec.eTT (tbox 1.0) [0, 1, -1] k
      < LinWhole.yk NF.StructureExec.eTT (tbox 1.0) [0, 1, -1] (k+1) := by
  have hv := LinTails.valid_tails_box [0, 1, -1] (by simp)
  refine ⟨fun y hy => lin_tails_dualRes_inv hv NF.StructureExec.eTT_neg y hy, fun k hk => ?_⟩
  exact (LinWhole.searched hv).ys_strict k hk

end
end DualXMore
