import NflowsModel.Real.Bridge
import NflowsModel.Lemmas.RQ
import Mathlib.Analysis.Calculus.Deriv.Comp
import Mathlib.Tactic
/-!
# Lemmas/RQBin — the executed rational-quadratic bin terms (`rqFwdE`, `rqFwdLdE`) over the reals
-/
open DualSound NF

namespace RQBin

theorem rq_executed_strictMonoOn {xk w yk h d0 d1 : ℝ} (hw : 0 < w) (hh : 0 < h) (h0 : 0 < d0) (h1 : 0 < d1) :
    StrictMonoOn (fun x => evalR (Bridge.rqEnv x xk w yk h d0 d1) rqFwdE) (Set.Icc xk (xk + w)) := by
  intro a ha b hb hab
  simp only [Bridge.rqFwdE_eq]
  have hs : 0 < h / w := div_pos hh hw
  have hm := RQ.g_strictMonoOn (s := h / w) (h := h) hs h0 h1 hh
  have ha' : (a - xk) / w ∈ Set.Icc (0:ℝ) 1 :=
    ⟨div_nonneg (by linarith [ha.1]) hw.le, by rw [div_le_one hw]; linarith [ha.2]⟩
  have hb' : (b - xk) / w ∈ Set.Icc (0:ℝ) 1 :=
    ⟨div_nonneg (by linarith [hb.1]) hw.le, by rw [div_le_one hw]; linarith [hb.2]⟩
  have : (a - xk) / w < (b - xk) / w := by
    apply div_lt_div_of_pos_right _ hw; linarith
  linarith [hm ha' hb' this]

theorem rq_executed_endpoints {xk w yk h d0 d1 : ℝ} (hw : 0 < w) (hh : 0 < h) :
    evalR (Bridge.rqEnv xk xk w yk h d0 d1) rqFwdE = yk ∧
    evalR (Bridge.rqEnv (xk + w) xk w yk h d0 d1) rqFwdE = yk + h := by
  constructor
  · rw [Bridge.rqFwdE_eq]; simp [RQ.g_zero]
  · rw [Bridge.rqFwdE_eq]
    have : (xk + w - xk) / w = 1 := by rw [add_sub_cancel_left]; exact div_self hw.ne'
    rw [this, RQ.g_one (div_pos hh hw)]

theorem rq_executed_logdet {xk w yk h d0 d1 x : ℝ} (hw : 0 < w) (hh : 0 < h) (h0 : 0 < d0) (h1 : 0 < d1)
    (hx0 : xk ≤ x) (hx1 : x ≤ xk + w) :
    HasDerivAt (fun x => evalR (Bridge.rqEnv x xk w yk h d0 d1) rqFwdE)
      (Real.exp (evalR (Bridge.rqEnv x xk w yk h d0 d1) rqFwdLdE)) x := by
  have hs : 0 < h / w := div_pos hh hw
  set θ := (x - xk) / w with hθ
  have ht0 : 0 ≤ θ := div_nonneg (by linarith) hw.le
  have ht1 : θ ≤ 1 := by rw [hθ, div_le_one hw]; linarith
  have hden := RQ.den_pos hs h0 h1 ht0 ht1
  have hdnum := RQ.dnum_pos hs h0 h1 ht0 ht1
  have hg := RQ.g_hasDerivAt (h := h) hs hden.ne'
  have hlin : HasDerivAt (fun x : ℝ => (x - xk) / w) (1 / w) x := by
    simpa using ((hasDerivAt_id x).sub_const xk).div_const w
  have hcomp := HasDerivAt.comp x hg hlin
  have hfun : (fun x => evalR (Bridge.rqEnv x xk w yk h d0 d1) rqFwdE)
      = fun x => yk + RQ.g (h / w) d0 d1 h ((x - xk) / w) := by
    funext z; exact Bridge.rqFwdE_eq z xk w yk h d0 d1
  rw [hfun, Bridge.rqFwdLdE_eq, RQ.logdet_eq hs h0 h1 ht0 ht1, Real.exp_log (by positivity)]
  have hval : h / (h / w) * RQ.dnum (h / w) d0 d1 θ / (RQ.den (h / w) d0 d1 θ)^2 * (1 / w)
      = RQ.dnum (h / w) d0 d1 θ / (RQ.den (h / w) d0 d1 θ)^2 := by
    field_simp
  exact (hcomp.const_add yk).congr_deriv hval

end RQBin
