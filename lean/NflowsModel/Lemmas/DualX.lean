import NflowsModel.Core.Dual
import NflowsModel.Core.Nonlin
import NflowsModel.Real.RealX
import NflowsModel.Lemmas.DualSound
import Mathlib.Analysis.SpecialFunctions.Trigonometric.DerivHyp
import Mathlib.Analysis.SpecialFunctions.Trigonometric.ArctanDeriv
import Mathlib.Analysis.SpecialFunctions.Trigonometric.Deriv
import Mathlib.Analysis.SpecialFunctions.Complex.LogDeriv
import Mathlib.Analysis.Calculus.Deriv.Abs
import Mathlib.Tactic
/-!
# Lemmas/DualX — soundness of the dual-number instance `NF.dualX (NF.realX e)` (C16)

`NF.dualX o : XOps (α × α)` (Core/Dual) is what the driver runs (precision tag `d64`) when the harness compares
gradients with `torch.autograd`.  Here `o := NF.realX e`:

* `IsDual f t d` — the pair `d` is (value, derivative) of `f : ℝ → ℝ` at `t`;
* every field of `XOps` and every derived operation of `Core/XOps.lean` maps `IsDual` inputs to an `IsDual` output of the
  SAME operation of `NF.realX e` composed with the input functions (`IsDual.add … IsDual.clamp`), under exactly the
  side conditions where the real operation is differentiable;
* the statements are directional: the inputs may be any differentiable functions of the parameter `t`, so seeding the
  tangent on the input gives `∂/∂x`, on a parameter `∂/∂parameter`.

The model functions of `Core/Nonlin.lean` are treated in `Lemmas/DualXNonlin.lean`.

A NEW primitive `foo` of `XOps` becomes sound on dual numbers in these steps: (1) its tangent rule in `NF.dualX`
(Core/Dual.lean); (2) the two readings `d_foo` (here) and `realX_foo` (Real/RealX.lean, or here for the later fields);
(3) `IsDual.foo`, for a unary primitive by `IsDual.comp` from the Mathlib derivative, with the side condition where the
real function is not differentiable; (4) the field `foo` of `XHom` and its two instances `lift_hom`, `fst_hom`
(Lemmas/DualXSpline.lean); (5) its line in `d_val_table`; (6) the field in the rounded instance `RoundModel.rndX`.
-/
open NF DualSound Filter Topology

namespace DualX
noncomputable section

variable (e : Float → ℝ)

/-! ## rfl-level description of the dual record over the reals -/

@[simp] theorem d_add (a b : ℝ × ℝ) : (dualX (realX e)).add a b = (a.1 + b.1, a.2 + b.2) := rfl
@[simp] theorem d_sub (a b : ℝ × ℝ) : (dualX (realX e)).sub a b = (a.1 - b.1, a.2 - b.2) := rfl
@[simp] theorem d_mul (a b : ℝ × ℝ) : (dualX (realX e)).mul a b = (a.1 * b.1, a.2 * b.1 + a.1 * b.2) := rfl
@[simp] theorem d_div (a b : ℝ × ℝ) :
    (dualX (realX e)).div a b = (a.1 / b.1, (a.2 * b.1 - a.1 * b.2) / (b.1 * b.1)) := rfl
@[simp] theorem d_neg (a : ℝ × ℝ) : (dualX (realX e)).neg a = (-a.1, -a.2) := rfl
@[simp] theorem d_exp (a : ℝ × ℝ) : (dualX (realX e)).exp a = (Real.exp a.1, a.2 * Real.exp a.1) := rfl
@[simp] theorem d_log (a : ℝ × ℝ) : (dualX (realX e)).log a = (Real.log a.1, a.2 / a.1) := rfl
theorem d_sqrt (a : ℝ × ℝ) :
    (dualX (realX e)).sqrt a = (Real.sqrt a.1, a.2 / (2 * Real.sqrt a.1)) := by
  show (Real.sqrt a.1, a.2 / (((2:ℤ):ℝ)/((1:ℕ):ℝ) * Real.sqrt a.1)) = _
  norm_num
theorem d_ofRat (n : Int) (d : Nat) : (dualX (realX e)).ofRat n d = ((n:ℝ) / (d:ℝ), 0) := by
  show ((n:ℝ) / (d:ℝ), ((0:ℤ):ℝ)/((1:ℕ):ℝ)) = _
  norm_num
@[simp] theorem d_lt (a b : ℝ × ℝ) : (dualX (realX e)).lt a b = decide (a.1 < b.1) := rfl
@[simp] theorem d_le (a b : ℝ × ℝ) : (dualX (realX e)).le a b = decide (a.1 ≤ b.1) := rfl
theorem d_ofFloat (x : Float) : (dualX (realX e)).ofFloat x = (e x, 0) := by
  show (e x, (realX e).zero) = _
  rw [realX_zero]
theorem d_tanh (a : ℝ × ℝ) :
    (dualX (realX e)).tanh a = (Real.tanh a.1, a.2 * (1 - Real.tanh a.1 * Real.tanh a.1)) := by
  show (Real.tanh a.1, a.2 * ((realX e).one - Real.tanh a.1 * Real.tanh a.1)) = _
  rw [realX_one]
theorem d_atan (a : ℝ × ℝ) : (dualX (realX e)).atan a = (Real.arctan a.1, a.2 / (1 + a.1 * a.1)) := by
  show (Real.arctan a.1, a.2 / ((realX e).one + a.1 * a.1)) = _
  rw [realX_one]
theorem d_tan (a : ℝ × ℝ) :
    (dualX (realX e)).tan a = (Real.tan a.1, a.2 * (1 + Real.tan a.1 * Real.tan a.1)) := by
  show (Real.tan a.1, a.2 * ((realX e).one + Real.tan a.1 * Real.tan a.1)) = _
  rw [realX_one]
@[simp] theorem d_cos (a : ℝ × ℝ) : (dualX (realX e)).cos a = (Real.cos a.1, -(a.2 * Real.sin a.1)) := rfl
@[simp] theorem d_sin (a : ℝ × ℝ) : (dualX (realX e)).sin a = (Real.sin a.1, a.2 * Real.cos a.1) := rfl
@[simp] theorem d_atan2 (y x : ℝ × ℝ) : (dualX (realX e)).atan2 y x =
    (Complex.arg ⟨x.1, y.1⟩, (x.1 * y.2 - y.1 * x.2) / (x.1 * x.1 + y.1 * y.1)) := rfl
@[simp] theorem d_abs (a : ℝ × ℝ) : (dualX (realX e)).abs a = (|a.1|, (realX e).sign a.1 * a.2) := rfl
theorem d_floor (a : ℝ × ℝ) : (dualX (realX e)).floor a = ((⌊a.1⌋ : ℝ), 0) := by
  show ((⌊a.1⌋ : ℝ), (realX e).zero) = _
  rw [realX_zero]
@[simp] theorem d_nextUp (a : ℝ × ℝ) : (dualX (realX e)).nextUp a = a := rfl

@[simp] theorem realX_tanh (a : ℝ) : (realX e).tanh a = Real.tanh a := rfl
@[simp] theorem realX_tan (a : ℝ) : (realX e).tan a = Real.tan a := rfl
@[simp] theorem realX_cos (a : ℝ) : (realX e).cos a = Real.cos a := rfl
@[simp] theorem realX_sin (a : ℝ) : (realX e).sin a = Real.sin a := rfl
@[simp] theorem realX_atan2 (y x : ℝ) : (realX e).atan2 y x = Complex.arg ⟨x, y⟩ := rfl
@[simp] theorem realX_floor (a : ℝ) : (realX e).floor a = (⌊a⌋ : ℝ) := rfl
@[simp] theorem realX_nextUp (a : ℝ) : (realX e).nextUp a = a := rfl

theorem realX_sign (x : ℝ) : (realX e).sign x = if 0 < x then 1 else if x < 0 then -1 else 0 := by
  unfold XOps.sign
  simp only [realX_lt, realX_zero, realX_one, realX_neg, decide_eq_true_eq]

/-! ## `IsDual` -/

def IsDual (f : ℝ → ℝ) (t : ℝ) (d : ℝ × ℝ) : Prop := d.1 = f t ∧ HasDerivAt f d.2 t

variable {e}
variable {f g u v : ℝ → ℝ} {t : ℝ} {a b du dv : ℝ × ℝ}

theorem IsDual.val (h : IsDual f t a) : a.1 = f t := h.1
theorem IsDual.deriv (h : IsDual f t a) : HasDerivAt f a.2 t := h.2

theorem IsDual.congr (h : IsDual f t a) (hfg : f =ᶠ[𝓝 t] g) : IsDual g t a :=
  ⟨h.1.trans hfg.self_of_nhds, h.2.congr_of_eventuallyEq hfg.symm⟩

theorem IsDual.congr_fun (h : IsDual f t a) (hfg : ∀ s, f s = g s) : IsDual g t a :=
  h.congr (Eventually.of_forall hfg)

/-- chain rule for a unary primitive `φ`, differentiable at the value component; `d` is the tangent as the rule spells it -/
theorem IsDual.comp (h : IsDual f t a) {φ : ℝ → ℝ} {φ' d : ℝ} (hφ : HasDerivAt φ φ' a.1) (hd : d = a.2 * φ') :
    IsDual (fun s => φ (f s)) t (φ a.1, d) := by
  refine ⟨congrArg φ h.1, ?_⟩
  rw [hd, mul_comm]
  rw [h.1] at hφ
  exact hφ.comp t h.2

theorem IsDual.id (t : ℝ) : IsDual (fun s => s) t (t, 1) := ⟨rfl, hasDerivAt_id t⟩
theorem IsDual.const (c t : ℝ) : IsDual (fun _ => c) t (c, 0) := ⟨rfl, hasDerivAt_const t c⟩
/-- seeding: the straight line through `a` with direction `a'`, at parameter `0` (one coordinate of `DualSound.line`; the
    list version is `DualXParam.lineL`, the version reading a dual number as its own line `DualXLU.line`) -/
theorem IsDual.line (a a' : ℝ) : IsDual (fun s => a + s * a') 0 (a, a') :=
  ⟨by simp, by simpa using ((hasDerivAt_id (0:ℝ)).mul_const a').const_add a⟩

/-- forward-mode AD of an `Expr` term is sound along any differentiable curve of environments (this is what composing two
    executed terms needs: the inverse log-det term is evaluated AT the dual root) -/
theorem evalD_curve (f : ℕ → ℝ → ℝ) (d : ℕ → ℝ × ℝ) (t : ℝ) (h : ∀ i, IsDual (f i) t (d i)) (E : Expr)
    (hs : Smooth (fun i => f i t) E) :
    IsDual (fun s => evalR (fun i => f i s) E) t (evalD d E) :=
  evalDual_curve f d t h E hs

variable (e)

/-! ### constants -/

theorem IsDual.ofFloat (x : Float) (t : ℝ) :
    IsDual (fun _ => (realX e).ofFloat x) t ((dualX (realX e)).ofFloat x) := by
  rw [d_ofFloat]; exact IsDual.const _ _
theorem IsDual.ofRat (n : Int) (d : Nat) (t : ℝ) :
    IsDual (fun _ => (realX e).ofRat n d) t ((dualX (realX e)).ofRat n d) := by
  rw [d_ofRat]; exact IsDual.const _ _
theorem IsDual.zero (t : ℝ) : IsDual (fun _ => (realX e).zero) t (dualX (realX e)).zero := IsDual.ofRat e 0 1 t
theorem IsDual.one (t : ℝ) : IsDual (fun _ => (realX e).one) t (dualX (realX e)).one := IsDual.ofRat e 1 1 t
theorem IsDual.two (t : ℝ) : IsDual (fun _ => (realX e).two) t (dualX (realX e)).two := IsDual.ofRat e 2 1 t
theorem IsDual.ofNat (n : Nat) (t : ℝ) :
    IsDual (fun _ => (realX e).ofNat n) t ((dualX (realX e)).ofNat n) := IsDual.ofRat e n 1 t

@[simp] theorem d_zero : (dualX (realX e)).zero = (0, 0) := by
  show (dualX (realX e)).ofRat 0 1 = _; rw [d_ofRat]; norm_num
@[simp] theorem d_one : (dualX (realX e)).one = (1, 0) := by
  show (dualX (realX e)).ofRat 1 1 = _; rw [d_ofRat]; norm_num
@[simp] theorem d_two : (dualX (realX e)).two = (2, 0) := by
  show (dualX (realX e)).ofRat 2 1 = _; rw [d_ofRat]; norm_num

/-! ### the fields of `Ops` (also proved on `Expr` terms by `DualSound.evalDual_sound`) -/

theorem IsDual.add (ha : IsDual f t a) (hb : IsDual g t b) :
    IsDual (fun s => (realX e).add (f s) (g s)) t ((dualX (realX e)).add a b) :=
  ⟨by show a.1 + b.1 = f t + g t; rw [ha.1, hb.1], ha.2.add hb.2⟩

theorem IsDual.sub (ha : IsDual f t a) (hb : IsDual g t b) :
    IsDual (fun s => (realX e).sub (f s) (g s)) t ((dualX (realX e)).sub a b) :=
  ⟨by show a.1 - b.1 = f t - g t; rw [ha.1, hb.1], ha.2.sub hb.2⟩

theorem IsDual.mul (ha : IsDual f t a) (hb : IsDual g t b) :
    IsDual (fun s => (realX e).mul (f s) (g s)) t ((dualX (realX e)).mul a b) := by
  refine ⟨by show a.1 * b.1 = f t * g t; rw [ha.1, hb.1], ?_⟩
  show HasDerivAt (fun s => f s * g s) (a.2 * b.1 + a.1 * b.2) t
  rw [ha.1, hb.1]; exact ha.2.mul hb.2

theorem IsDual.div (ha : IsDual f t a) (hb : IsDual g t b) (h0 : b.1 ≠ 0) :
    IsDual (fun s => (realX e).div (f s) (g s)) t ((dualX (realX e)).div a b) := by
  refine ⟨by show a.1 / b.1 = f t / g t; rw [ha.1, hb.1], ?_⟩
  show HasDerivAt (fun s => f s / g s) ((a.2 * b.1 - a.1 * b.2) / (b.1 * b.1)) t
  rw [hb.1] at h0
  rw [ha.1, hb.1, ← sq]; exact ha.2.div hb.2 h0

/-- division by a constant is sound on dual numbers WITHOUT a side condition (a zero constant gives `0` on both sides) -/
theorem IsDual.div_const (ha : IsDual f t a) (q : Float) :
    IsDual (fun s => (realX e).div (f s) ((realX e).ofFloat q)) t ((dualX (realX e)).div a ((dualX (realX e)).ofFloat q)) := by
  by_cases hq : e q = 0
  · rw [d_ofFloat, d_div]
    have : (a.1 / (e q, (0:ℝ)).1, (a.2 * (e q, (0:ℝ)).1 - a.1 * (e q, (0:ℝ)).2) / ((e q, (0:ℝ)).1 * (e q, (0:ℝ)).1))
        = ((0:ℝ), (0:ℝ)) := by simp [hq]
    rw [this]
    refine (IsDual.const 0 t).congr_fun (fun s => ?_)
    show (0:ℝ) = f s / e q
    rw [hq, div_zero]
  · exact IsDual.div e ha (IsDual.ofFloat e q t) (by rw [d_ofFloat]; exact hq)

theorem IsDual.neg (ha : IsDual f t a) :
    IsDual (fun s => (realX e).neg (f s)) t ((dualX (realX e)).neg a) :=
  ⟨by show -a.1 = -f t; rw [ha.1], ha.2.neg⟩

theorem IsDual.exp (ha : IsDual f t a) :
    IsDual (fun s => (realX e).exp (f s)) t ((dualX (realX e)).exp a) :=
  ha.comp (Real.hasDerivAt_exp a.1) rfl

/-- side condition: the argument is not `0` (`Real.log` is `log |x|`, differentiable away from 0) -/
theorem IsDual.log (ha : IsDual f t a) (h0 : a.1 ≠ 0) :
    IsDual (fun s => (realX e).log (f s)) t ((dualX (realX e)).log a) :=
  ha.comp (Real.hasDerivAt_log h0) (div_eq_mul_inv _ _)

theorem IsDual.sqrt (ha : IsDual f t a) (h0 : a.1 ≠ 0) :
    IsDual (fun s => (realX e).sqrt (f s)) t ((dualX (realX e)).sqrt a) := by
  rw [d_sqrt]
  exact ha.comp (Real.hasDerivAt_sqrt h0) (mul_one_div _ _).symm

/-! ### the extra fields of `XOps` -/

theorem hasDerivAt_tanh (x : ℝ) : HasDerivAt Real.tanh (1 - Real.tanh x * Real.tanh x) x := by
  have hc := (Real.cosh_pos x).ne'
  have h := (Real.hasDerivAt_sinh x).div (Real.hasDerivAt_cosh x) hc
  have e' : Real.sinh / Real.cosh = Real.tanh := by
    funext y; simp [Real.tanh_eq_sinh_div_cosh]
  rw [e'] at h
  refine h.congr_deriv ?_
  rw [Real.tanh_eq_sinh_div_cosh]
  field_simp

theorem IsDual.tanh (ha : IsDual f t a) :
    IsDual (fun s => (realX e).tanh (f s)) t ((dualX (realX e)).tanh a) := by
  rw [d_tanh]
  exact ha.comp (hasDerivAt_tanh a.1) rfl

theorem IsDual.atan (ha : IsDual f t a) :
    IsDual (fun s => (realX e).atan (f s)) t ((dualX (realX e)).atan a) := by
  rw [d_atan]
  exact ha.comp (Real.hasDerivAt_arctan a.1) (by rw [sq, mul_one_div])

theorem IsDual.tan (ha : IsDual f t a) (h0 : Real.cos a.1 ≠ 0) :
    IsDual (fun s => (realX e).tan (f s)) t ((dualX (realX e)).tan a) := by
  rw [d_tan]
  refine ha.comp (Real.hasDerivAt_tan h0) ?_
  rw [Real.tan_eq_sin_div_cos]
  have := Real.sin_sq_add_cos_sq a.1
  field_simp
  linear_combination a.2 * this

theorem IsDual.cos (ha : IsDual f t a) :
    IsDual (fun s => (realX e).cos (f s)) t ((dualX (realX e)).cos a) :=
  ha.comp (Real.hasDerivAt_cos a.1) (mul_neg _ _).symm

theorem IsDual.sin (ha : IsDual f t a) :
    IsDual (fun s => (realX e).sin (f s)) t ((dualX (realX e)).sin a) :=
  ha.comp (Real.hasDerivAt_sin a.1) rfl

/-- side condition: the argument is not `0` (the kink of `|·|`; there the rule returns tangent `0`, torch's convention) -/
theorem IsDual.abs (ha : IsDual f t a) (h0 : a.1 ≠ 0) :
    IsDual (fun s => (realX e).abs (f s)) t ((dualX (realX e)).abs a) := by
  rw [d_abs, realX_sign]
  rcases lt_or_gt_of_ne h0 with h | h
  · rw [if_neg (not_lt.mpr h.le), if_pos h]
    exact ha.comp (hasDerivAt_abs_neg h) (by rw [mul_neg_one, neg_one_mul])
  · rw [if_pos h]
    exact ha.comp (hasDerivAt_abs_pos h) (by rw [mul_one, one_mul])

theorem IsDual.floor (ha : IsDual f t a) (h0 : ∀ n : ℤ, a.1 ≠ n) :
    IsDual (fun s => (realX e).floor (f s)) t ((dualX (realX e)).floor a) := by
  rw [d_floor]
  refine ⟨by show ((⌊a.1⌋ : ℤ) : ℝ) = ((⌊f t⌋ : ℤ) : ℝ); rw [ha.1], ?_⟩
  show HasDerivAt (fun s => ((⌊f s⌋ : ℤ) : ℝ)) 0 t
  rw [ha.1] at h0
  have hlo : ((⌊f t⌋ : ℤ) : ℝ) < f t := lt_of_le_of_ne (Int.floor_le _) (Ne.symm (h0 _))
  have hhi : f t < ((⌊f t⌋ : ℤ) : ℝ) + 1 := Int.lt_floor_add_one _
  have hc := ha.2.continuousAt
  have h1 : ∀ᶠ s in 𝓝 t, ((⌊f t⌋ : ℤ) : ℝ) < f s := hc.eventually (Ioi_mem_nhds hlo)
  have h2 : ∀ᶠ s in 𝓝 t, f s < ((⌊f t⌋ : ℤ) : ℝ) + 1 := hc.eventually (Iio_mem_nhds hhi)
  refine (hasDerivAt_const t (((⌊f t⌋ : ℤ) : ℝ))).congr_of_eventuallyEq ?_
  filter_upwards [h1, h2] with s hs1 hs2
  have : ⌊f s⌋ = ⌊f t⌋ := Int.floor_eq_iff.mpr ⟨hs1.le, hs2⟩
  rw [this]

theorem IsDual.nextUp (ha : IsDual f t a) :
    IsDual (fun s => (realX e).nextUp (f s)) t ((dualX (realX e)).nextUp a) := ha

/-- `atan2 y x = arg (x + i y)`; side condition: `(x, y)` is off the branch cut `{x ≤ 0, y = 0}` -/
theorem IsDual.atan2 (hy : IsDual f t a) (hx : IsDual g t b) (h0 : 0 < b.1 ∨ a.1 ≠ 0) :
    IsDual (fun s => (realX e).atan2 (f s) (g s)) t ((dualX (realX e)).atan2 a b) := by
  refine ⟨by show Complex.arg ⟨b.1, a.1⟩ = Complex.arg ⟨g t, f t⟩; rw [hy.1, hx.1], ?_⟩
  show HasDerivAt (fun s => Complex.arg ⟨g s, f s⟩) ((b.1 * a.2 - a.1 * b.2) / (b.1 * b.1 + a.1 * a.1)) t
  rw [hy.1, hx.1] at *
  -- the curve `γ s = g s + i f s` in ℂ; `arg` is the imaginary part of `log`
  have hγ : HasDerivAt (fun s => ((g s : ℂ) + (f s : ℂ) * Complex.I)) ((b.2 : ℂ) + (a.2 : ℂ) * Complex.I) t :=
    (hx.2.ofReal_comp).add ((hy.2.ofReal_comp).mul_const Complex.I)
  have hmem : ((g t : ℂ) + (f t : ℂ) * Complex.I) ∈ Complex.slitPlane := by
    rw [← Complex.mk_eq_add_mul_I, Complex.mem_slitPlane_iff]
    exact h0
  have him := Complex.imCLM.hasFDerivAt.comp_hasDerivAt t (hγ.clog_real hmem)
  have hfun : (fun s => Complex.arg ⟨g s, f s⟩) = (⇑Complex.imCLM ∘ fun s => Complex.log ((g s : ℂ) + (f s : ℂ) * Complex.I)) := by
    funext s
    rw [Function.comp, Complex.imCLM_apply, Complex.log_im, Complex.mk_eq_add_mul_I]
  rw [hfun]
  refine him.congr_deriv ?_
  have hne : g t * g t + f t * f t ≠ 0 := by
    rcases h0 with h | h
    · exact (add_pos_of_pos_of_nonneg (mul_pos h h) (mul_self_nonneg _)).ne'
    · exact (add_pos_of_nonneg_of_pos (mul_self_nonneg _) (mul_self_pos.mpr h)).ne'
  rw [Complex.imCLM_apply, ← Complex.mk_eq_add_mul_I, ← Complex.mk_eq_add_mul_I, Complex.div_im, Complex.normSq_mk]
  field_simp

/-! ### branching on a comparison of value components -/

theorem IsDual.ite_lt (ha : IsDual f t a) (hb : IsDual g t b) (hne : a.1 ≠ b.1)
    (hu : a.1 < b.1 → IsDual u t du) (hv : b.1 < a.1 → IsDual v t dv) :
    IsDual (fun s => if (realX e).lt (f s) (g s) then u s else v s) t
      (if (dualX (realX e)).lt a b then du else dv) := by
  simp only [d_lt, realX_lt, decide_eq_true_eq]
  have hca := ha.2.continuousAt
  have hcb := hb.2.continuousAt
  rcases lt_or_gt_of_ne hne with h | h
  · rw [if_pos h]
    refine (hu h).congr ?_
    rw [ha.1, hb.1] at h
    have := (hca.prodMk hcb).eventually (isOpen_lt continuous_fst continuous_snd |>.mem_nhds h)
    filter_upwards [this] with s hs
    simp only [if_pos hs]
  · rw [if_neg (not_lt.mpr h.le)]
    refine (hv h).congr ?_
    rw [ha.1, hb.1] at h
    have := (hcb.prodMk hca).eventually (isOpen_lt continuous_fst continuous_snd |>.mem_nhds h)
    filter_upwards [this] with s hs
    simp only [if_neg (not_lt.mpr (le_of_lt hs))]

/-! ## derived operations of `Core/XOps.lean` -/

theorem IsDual.sq (ha : IsDual f t a) :
    IsDual (fun s => (realX e).sq (f s)) t ((dualX (realX e)).sq a) := IsDual.mul e ha ha

theorem IsDual.sigmoid (ha : IsDual f t a) :
    IsDual (fun s => (realX e).sigmoid (f s)) t ((dualX (realX e)).sigmoid a) :=
  IsDual.div e (IsDual.one e t) (IsDual.add e (IsDual.one e t) (IsDual.exp e (IsDual.neg e ha)))
    (by simp only [d_add, d_one, d_exp, d_neg]; positivity)

theorem d_sigmoid_val (a : ℝ × ℝ) : ((dualX (realX e)).sigmoid a).1 = (realX e).sigmoid a.1 := by
  simp only [XOps.sigmoid, d_div, d_add, d_one, d_exp, d_neg, realX_div, realX_add, realX_one, realX_exp, realX_neg]

theorem d_sigmoid_pos (a : ℝ × ℝ) : 0 < ((dualX (realX e)).sigmoid a).1 := by
  rw [d_sigmoid_val, realX_sigmoid]; positivity

theorem log1p_else_eq (y : ℝ) :
    (realX e).div ((realX e).mul ((realX e).log ((realX e).add (realX e).one y)) y)
      ((realX e).sub ((realX e).add (realX e).one y) (realX e).one) = (realX e).log1p y := by
  rw [realX_log1p]
  simp only [realX_div, realX_mul, realX_log, realX_add, realX_one, realX_sub]
  by_cases h : y = 0
  · subst h; simp
  · have : (1:ℝ) + y - 1 = y := by ring
    rw [this]; field_simp

/-- `log1p` (compensated form): side condition `1 + x ≠ 0`.  At `x = 0` the code returns `x` itself, whose tangent `x'` is
    the derivative of `log (1 + x)` there. -/
theorem IsDual.log1p (ha : IsDual f t a) (h0 : 1 + a.1 ≠ 0) :
    IsDual (fun s => (realX e).log1p (f s)) t ((dualX (realX e)).log1p a) := by
  by_cases hz : a.1 = 0
  · have hd : (dualX (realX e)).log1p a = a := by
      unfold XOps.log1p
      simp only [d_add, d_one, d_le, hz, add_zero, le_refl, decide_true, Bool.and_self, if_true]
    rw [hd]
    have hf : f t = 0 := by rw [← ha.1, hz]
    refine ⟨?_, ?_⟩
    · show a.1 = (realX e).log1p (f t)
      rw [realX_log1p, hf, hz]; simp
    · have h := (ha.2.const_add 1).log (by rw [hf]; norm_num)
      rw [hf, add_zero, div_one] at h
      refine h.congr_of_eventuallyEq (Eventually.of_forall fun s => ?_)
      show (realX e).log1p (f s) = Real.log (1 + f s)
      rw [realX_log1p]
  · have hd : (dualX (realX e)).log1p a =
        (dualX (realX e)).div ((dualX (realX e)).mul ((dualX (realX e)).log ((dualX (realX e)).add (dualX (realX e)).one a)) a)
          ((dualX (realX e)).sub ((dualX (realX e)).add (dualX (realX e)).one a) (dualX (realX e)).one) := by
      unfold XOps.log1p
      have hc : ¬ ((1:ℝ) + a.1 ≤ 1 ∧ 1 ≤ 1 + a.1) := by
        rintro ⟨h1, h2⟩; exact hz (by linarith)
      have : (decide ((1:ℝ) + a.1 ≤ 1) && decide ((1:ℝ) ≤ 1 + a.1)) = false := by simpa using hc
      simp only [d_add, d_one, d_le, this, Bool.false_eq_true, if_false]
    rw [hd]
    have hu := IsDual.add e (IsDual.one e t) ha
    refine (IsDual.div e (IsDual.mul e (IsDual.log e hu ?_) ha) (IsDual.sub e hu (IsDual.one e t)) ?_).congr_fun
      (fun s => log1p_else_eq e (f s))
    · simpa only [d_add, d_one] using h0
    · simp only [d_add, d_one, d_sub]
      intro h; exact hz (by linarith)

theorem d_log1p_val (a : ℝ × ℝ) : ((dualX (realX e)).log1p a).1 = (realX e).log1p a.1 := by
  unfold XOps.log1p
  simp only [d_add, d_one, d_le, realX_add, realX_one, realX_le]
  split_ifs
  · rfl
  · simp only [d_div, d_mul, d_log, d_sub, realX_div, realX_mul, realX_log, realX_sub]

/-- `F.softplus(x, beta, threshold = 20)`: side conditions `β x ≠ 20` (the threshold, where the two branches of the code
    differ by `log1p (e^{20}) / β − x ≠ 0`, a jump) and `β ≠ 0` below it -/
theorem IsDual.softplusB {β : ℝ → ℝ} {bd : ℝ × ℝ} (hβ : IsDual β t bd) (ha : IsDual f t a)
    (hthr : bd.1 * a.1 ≠ 20) (hb0 : bd.1 * a.1 < 20 → bd.1 ≠ 0) :
    IsDual (fun s => (realX e).softplusB (β s) (f s)) t ((dualX (realX e)).softplusB bd a) := by
  have hbx := IsDual.mul e hβ ha
  refine IsDual.ite_lt e (IsDual.ofRat e 20 1 t) hbx ?_ (fun _ => ha) (fun h => ?_)
  · rw [d_ofRat]; simp only [d_mul]; norm_num; exact Ne.symm hthr
  · refine IsDual.div e (IsDual.log1p e (IsDual.exp e hbx) ?_) hβ (hb0 ?_)
    · simp only [d_exp, d_mul]; positivity
    · rw [d_ofRat] at h; simp only [d_mul] at h; norm_num at h; exact h

theorem IsDual.softplus (ha : IsDual f t a) (hthr : a.1 ≠ 20) :
    IsDual (fun s => (realX e).softplus (f s)) t ((dualX (realX e)).softplus a) :=
  IsDual.softplusB e (IsDual.one e t) ha (by rw [d_one]; simpa using hthr) (fun _ => by rw [d_one]; norm_num)

/-- `min`, away from the tie (at a tie the code returns its FIRST argument with that argument's tangent) -/
theorem IsDual.minA (ha : IsDual f t a) (hb : IsDual g t b) (hne : a.1 ≠ b.1) :
    IsDual (fun s => (realX e).minA (f s) (g s)) t ((dualX (realX e)).minA a b) :=
  IsDual.ite_lt e hb ha (Ne.symm hne) (fun _ => hb) (fun _ => ha)

/-- `max`, away from the tie (at a tie the code returns its FIRST argument with that argument's tangent) -/
theorem IsDual.maxA (ha : IsDual f t a) (hb : IsDual g t b) (hne : a.1 ≠ b.1) :
    IsDual (fun s => (realX e).maxA (f s) (g s)) t ((dualX (realX e)).maxA a b) :=
  IsDual.ite_lt e ha hb hne (fun _ => hb) (fun _ => ha)

theorem d_minA_val (a b : ℝ × ℝ) : ((dualX (realX e)).minA a b).1 = min a.1 b.1 := by
  unfold XOps.minA
  simp only [d_lt, decide_eq_true_eq]
  split_ifs with h
  · exact (min_eq_right h.le).symm
  · exact (min_eq_left (not_lt.mp h)).symm

theorem d_maxA_val (a b : ℝ × ℝ) : ((dualX (realX e)).maxA a b).1 = max a.1 b.1 := by
  unfold XOps.maxA
  simp only [d_lt, decide_eq_true_eq]
  split_ifs with h
  · exact (max_eq_right h.le).symm
  · exact (max_eq_left (not_lt.mp h)).symm

/-- `clamp lo hi x = min (max x lo) hi`, away from the two ties `x = lo` and `max x lo = hi`.  (At the ties the rule
    passes the tangent of `x` through — see `clamp_at_lo`, `clamp_at_hi`; `torch.clamp` with scalar bounds returns
    gradient `0` there, with tensor bounds `½`: a convention at a kink, excluded here.) -/
theorem IsDual.clamp {lo hi : ℝ → ℝ} {dlo dhi : ℝ × ℝ} (hlo : IsDual lo t dlo) (hhi : IsDual hi t dhi) (ha : IsDual f t a)
    (h1 : a.1 ≠ dlo.1) (h2 : max a.1 dlo.1 ≠ dhi.1) :
    IsDual (fun s => (realX e).clamp (lo s) (hi s) (f s)) t ((dualX (realX e)).clamp dlo dhi a) :=
  IsDual.minA e (IsDual.maxA e ha hlo h1) hhi (by rw [d_maxA_val]; exact h2)

theorem IsDual.sign (ha : IsDual f t a) (h0 : a.1 ≠ 0) :
    IsDual (fun s => (realX e).sign (f s)) t ((dualX (realX e)).sign a) :=
  IsDual.ite_lt e (IsDual.zero e t) ha (by rw [d_zero]; exact Ne.symm h0) (fun _ => IsDual.one e t)
    (fun _ => IsDual.ite_lt e ha (IsDual.zero e t) (by rw [d_zero]; exact h0)
      (fun _ => IsDual.neg e (IsDual.one e t)) (fun _ => IsDual.zero e t))

/-- the value component of every dual operation is the real operation on value components -/
theorem d_val_table (a b : ℝ × ℝ) :
    ((dualX (realX e)).add a b).1 = (realX e).add a.1 b.1 ∧ ((dualX (realX e)).sub a b).1 = (realX e).sub a.1 b.1 ∧
    ((dualX (realX e)).mul a b).1 = (realX e).mul a.1 b.1 ∧ ((dualX (realX e)).div a b).1 = (realX e).div a.1 b.1 ∧
    ((dualX (realX e)).neg a).1 = (realX e).neg a.1 ∧ ((dualX (realX e)).exp a).1 = (realX e).exp a.1 ∧
    ((dualX (realX e)).log a).1 = (realX e).log a.1 ∧ ((dualX (realX e)).sqrt a).1 = (realX e).sqrt a.1 ∧
    ((dualX (realX e)).tanh a).1 = (realX e).tanh a.1 ∧ ((dualX (realX e)).atan a).1 = (realX e).atan a.1 ∧
    ((dualX (realX e)).tan a).1 = (realX e).tan a.1 ∧ ((dualX (realX e)).cos a).1 = (realX e).cos a.1 ∧
    ((dualX (realX e)).sin a).1 = (realX e).sin a.1 ∧ ((dualX (realX e)).atan2 a b).1 = (realX e).atan2 a.1 b.1 ∧
    ((dualX (realX e)).abs a).1 = (realX e).abs a.1 ∧ ((dualX (realX e)).floor a).1 = (realX e).floor a.1 ∧
    ((dualX (realX e)).nextUp a).1 = (realX e).nextUp a.1 ∧
    (dualX (realX e)).lt a b = (realX e).lt a.1 b.1 ∧ (dualX (realX e)).le a b = (realX e).le a.1 b.1 :=
  ⟨rfl, rfl, rfl, rfl, rfl, rfl, rfl, rfl, rfl, rfl, rfl, rfl, rfl, rfl, rfl, rfl, rfl, rfl, rfl⟩

/-! ### what the rules return AT the kinks (conventions; the `IsDual` lemmas above exclude these points) -/

theorem clamp_at_lo (lo hi x' : ℝ) (h : lo < hi) :
    (dualX (realX e)).clamp (lo, 0) (hi, 0) (lo, x') = (lo, x') := by
  unfold XOps.clamp XOps.minA XOps.maxA
  simp only [d_lt, lt_irrefl, decide_false, Bool.false_eq_true, if_false, decide_eq_true_eq, if_neg (not_lt.mpr h.le)]

theorem clamp_at_hi (lo hi x' : ℝ) (h : lo < hi) :
    (dualX (realX e)).clamp (lo, 0) (hi, 0) (hi, x') = (hi, x') := by
  unfold XOps.clamp XOps.minA XOps.maxA
  simp only [d_lt, decide_eq_true_eq, if_neg (not_lt.mpr h.le), lt_irrefl, if_false]

/-- at a tie `min`/`max` return their FIRST argument with its tangent (two-tensor `torch.min` splits the gradient ½/½) -/
theorem minA_at_tie (v a' b' : ℝ) : (dualX (realX e)).minA (v, a') (v, b') = (v, a') := by
  unfold XOps.minA
  simp only [d_lt, lt_irrefl, decide_false, Bool.false_eq_true, if_false]
theorem maxA_at_tie (v a' b' : ℝ) : (dualX (realX e)).maxA (v, a') (v, b') = (v, a') := by
  unfold XOps.maxA
  simp only [d_lt, lt_irrefl, decide_false, Bool.false_eq_true, if_false]

/-- `|·|` at `0`: tangent `0` (torch's `sgn(0) = 0`) -/
theorem abs_at_zero (x' : ℝ) : (dualX (realX e)).abs (0, x') = (0, 0) := by
  rw [d_abs, realX_sign]; simp

omit e in
theorem toList_getD {α : Type} (a : Array α) (j : ℕ) (d : α) : a.toList.getD j d = a.getD j d := by
  simp [Array.getD_eq_getD_getElem?, List.getD_eq_getElem?_getD]

end
end DualX
