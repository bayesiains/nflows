import Mathlib.Analysis.SpecialFunctions.Sqrt
import Mathlib.Tactic
/-!
# Lemmas/StableRoot — the root `2c / (-b - √(b² - 4ac))` that the spline inverses compute, for a quadratic with
`q(0) ≤ 0 ≤ q(1)`: it is a root and lies in `[0, 1]` (used by the RQ, quadratic and cubic-fallback inverses)
-/

namespace StableRoot

theorem stable_root {a b c : ℝ} (h0 : c ≤ 0) (h1 : 0 ≤ a + b + c) (hb : c = 0 → 0 < b) :
    let D := Real.sqrt (b^2 - 4*a*c)
    let θ := 2*c / (-b - D)
    0 ≤ b^2 - 4*a*c ∧ 0 < b + D ∧ 0 ≤ θ ∧ θ ≤ 1 ∧ a*θ^2 + b*θ + c = 0 := by
  intro D θ
  -- the discriminant is `(b + 2c)²` plus a non-negative term, so `|b + 2c| ≤ D`
  have hsplit : b^2 - 4*a*c = (b + 2*c)^2 + 4 * (-c) * (a + b + c) := by ring
  have hrest : 0 ≤ 4 * (-c) * (a + b + c) := mul_nonneg (mul_nonneg (by norm_num) (neg_nonneg.mpr h0)) h1
  have hdisc : 0 ≤ b^2 - 4*a*c := by rw [hsplit]; exact add_nonneg (sq_nonneg _) hrest
  have hD2 : D^2 = b^2 - 4*a*c := Real.sq_sqrt hdisc
  obtain ⟨hlo, -⟩ := abs_le.mp (Real.abs_le_sqrt (le_of_le_of_eq (le_add_of_nonneg_right hrest) hsplit.symm) : |b + 2*c| ≤ D)
  have ht : 0 < b + D := by
    rcases eq_or_lt_of_le h0 with hc | hc
    · linarith [hb hc, Real.sqrt_nonneg (b^2 - 4*a*c)]
    · linarith
  have hθt : θ * (b + D) = -2*c := by
    have : -b - D = -(b + D) := by ring
    simp only [θ, this, div_neg, neg_mul, div_mul_cancel₀ _ ht.ne']
  have hθ : θ = -2*c / (b + D) := eq_div_of_mul_eq ht.ne' hθt
  refine ⟨hdisc, ht, ?_, ?_, ?_⟩
  · rw [hθ]; exact div_nonneg (by linarith) ht.le
  · rw [hθ, div_le_one ht]; linarith
  · have h : (b + D)^2 * (a*θ^2 + b*θ + c) = 0 := by
      have : (b + D)^2 * (a*θ^2 + b*θ + c) = a*(θ*(b + D))^2 + b*(θ*(b + D))*(b + D) + c*(b + D)^2 := by ring
      rw [this, hθt]; linear_combination c * hD2
    exact (mul_eq_zero.mp h).resolve_left (pow_ne_zero 2 ht.ne')

end StableRoot
