import NflowsModel.Properties.C03
import NflowsModel.Lemmas.FlowWholeND
import NflowsModel.Lemmas.CouplingJacobian
import NflowsModel.Lemmas.MadeSmooth
/-!
# C03, continued — the n-dimensional `DiffeoN` parts are inhabited by EXECUTED programs

(`Lemmas/FlowWholeND.lean` builds on the definitions of `Properties/C03.lean`, so these re-statements live in a file of their own in
the same namespace; `Audit/C03.lean` imports every `C03*` file.)
-/
open MeasureTheory

namespace Properties.C03

/-- **executed `Piecewise RationalQuadratic CDF` layer with linear tails** (`cdfApply`, parameters shared across the batch): row `b`
    of its output is the product map `FlowWholeND.rqCdfDiffeo` — a `DiffeoN` — applied to row `b` of the input, and `ld[b]` is that
    part's log-abs-det; any parameter array, any batch size, any dimension -/
theorem executed_rq_cdf_layer_is_diffeo (e : Float → ℝ) (c : NF.ElCfg) (hc : NF.StructureExec.RQTailsCfgValid e c)
    (hp : TailsWhole.PadExact e (NF.StructureExec.tMD c) (NF.StructureExec.tBe c)) (B n : ℕ) (x params : Array ℝ) {b : ℕ} (hb : b < B) :
    (∀ i : Fin n, (NF.cdfApply (NF.realX e) c B n x params false).out[b * n + i]?
        = some ((FlowWholeND.rqCdfDiffeo e c hc hp n params).T (FlowWholeND.batchRow x n b) i))
    ∧ (NF.cdfApply (NF.realX e) c B n x params false).ld[b]?
        = some ((FlowWholeND.rqCdfDiffeo e c hc hp n params).ld (FlowWholeND.batchRow x n b)) :=
  FlowWholeND.cdfApply_rq_tails_row e c hc hp B n x params hb

/-- **End to end, n dimensions, any depth**: a pipeline of EXECUTED conditioner-free layers — RQ-CDF with linear tails, coordinate
    permutations, LU / QR / SVD linear layers (and a masked autoregressive RQ-tails layer under an explicit differentiability
    hypothesis on its row map), each with its own parameters, in any order and number — run by `ExecLayer.run` on the actual
    executed programs and accumulated as `CompositeTransform._cascade` does, followed by the executed `StandardNormal` row:
    `exp(log_prob)` integrates to one. -/
theorem executed_pipeline_is_normalised (e : Float → ℝ) {n : ℕ} (Ls : List (FlowWholeND.ExecLayer e n)) :
    ∫ x : Fin n → ℝ, Real.exp (NF.Density.stdNormalRow (NF.realX e) n (List.ofFn (FlowWholeND.runAll Ls x).1)
        + (FlowWholeND.runAll Ls x).2) = 1 :=
  FlowWholeND.executed_pipeline_normalised Ls

/-- the same over the executed `DiagonalNormal` / `ConditionalDiagonalNormal` row, any means and log-stds -/
theorem executed_pipeline_is_normalised_diag (e : Float → ℝ) {n : ℕ} (means logStds : List ℝ) (hm : means.length = n)
    (hl : logStds.length = n) (Ls : List (FlowWholeND.ExecLayer e n)) :
    ∫ x : Fin n → ℝ, Real.exp (NF.Density.diagNormalRow (NF.realX e) n means logStds (List.ofFn (FlowWholeND.runAll Ls x).1)
        + (FlowWholeND.runAll Ls x).2) = 1 := by
  simp_rw [FlowWholeND.runAll_eq Ls]
  exact FlowWholeND.executed_flow_normalised_cond e means logStds hm hl _

/-- every list of `DiffeoN` parts over the executed standard-normal base (the `exp(logp + ld)` form the code computes) -/
theorem executed_flow_is_normalised (e : Float → ℝ) {D : ℕ} (parts : List (DiffeoN D)) :
    ∫ x : Fin D → ℝ, Real.exp (NF.Density.stdNormalRow (NF.realX e) D (List.ofFn ((progN parts).T x)) + (progN parts).ld x) = 1 :=
  FlowWholeND.executed_flow_normalised e parts

/-- **pipelines that also contain executed COUPLING layers** (RQ with linear tails, additive or affine elements; any mask; the
    conditioner an arbitrary function, under the explicit hypothesis `CouplingRowHyp` that the executed row map is differentiable
    — discharged for constant and, for the additive / affine families, for affine conditioners): together with RQ-CDF, permutation,
    LU/QR/SVD and autoregressive layers, over the executed standard-normal row, `exp(log_prob)` integrates to one. -/
theorem executed_pipeline_with_coupling_is_normalised (e : Float → ℝ) {n : ℕ} (Ls : List (NF.CouplingJacobian.ExecLayer2 e n)) :
    ∫ x : Fin n → ℝ, Real.exp (NF.Density.stdNormalRow (NF.realX e) n (List.ofFn (NF.CouplingJacobian.runAll2 Ls x).1)
        + (NF.CouplingJacobian.runAll2 Ls x).2) = 1 :=
  NF.CouplingJacobian.executed_pipeline2_normalised Ls

/-! ## real (non-constant) neural conditioners (`Lemmas/MadeSmooth.lean`)

For smooth conditioners the differentiability of the row map through the conditioner is proved, not assumed: every output of the executed MADE
forward is a differentiable function of the input row for every architecture `Made.build` accepts, every weight and every
differentiable per-unit map (tanh, sigmoid, ELU, thresholdless softplus) — and with it the executed masked AFFINE autoregressive
layer (`MaskedAffineAutoregressiveTransform` with a smooth-activation MADE) is a diffeomorphism of ℝ^F whose returned log-det is
`log|det|` of its Fréchet derivative, WITHOUT any Jacobian hypothesis; the one side condition is forced: no unconstrained scale
sits exactly on the softplus threshold 20, where the executed softplus is discontinuous.  Coupling layers: additive / affine with
any one-hidden-layer smooth perceptron.  NOT covered: ReLU (the library default, where the hypothesis is false), the RQ-with-tails
autoregressive / coupling layers with a non-constant conditioner (joint differentiability in parameters and input is proved
strictly inside bins only), `ResidualNet` (not modelled). -/

/-- every output of the executed MADE is differentiable in whatever the input row depends on differentiably -/
theorem made_forward_differentiable {E : Type} [NormedAddCommGroup E] [NormedSpace ℝ E] {B : ℕ} (n : NF.Made.Net)
    (hv : n.valid = true) (W : ℕ → ℕ → ℕ → ℝ) (bias : ℕ → ℕ → ℝ) (ctxv : ℕ → ℕ → Fin B → ℝ)
    (g : ℕ → NF.Made.Slot → ℕ → (Fin B → ℝ) → Fin B → ℝ) (hg : ∀ s sl k, Differentiable ℝ (g s sl k))
    (φ : E → Fin B → ℕ → ℝ) (hφ : ∀ b j, Differentiable ℝ fun p => φ p b j) (b : Fin B) (u : ℕ) :
    Differentiable ℝ fun p => NF.Made.madeReal n W bias ctxv g (φ p) b u :=
  NF.MadeSmooth.madeReal_differentiable n hv W bias ctxv g hg φ hφ b u

/-- the forced side condition: the executed softplus (threshold 20) is discontinuous at its threshold -/
theorem softplus_threshold_discontinuity (e : Float → ℝ) : ¬ ContinuousAt (NF.realX e).softplus 20 :=
  NF.softplus_not_continuousAt_threshold e

/-- the executed masked affine autoregressive layer with a MADE conditioner and differentiable unit maps: the row map is
    differentiable (this discharges the hypothesis `hdiff` of `ARRowHyp`) -/
theorem maf_layer_differentiable {e : Float → ℝ} {c : NF.ElCfg} (hk : c.kind = "araffine") (he : 0 ≤ e (c.ds.getD 0 0.0))
    (a : NF.Made.Arch) (n : NF.Made.Net) (hb : NF.Made.build a = .ok n) (hm : a.mult = 2)
    (W : ℕ → ℕ → ℕ → ℝ) (bias : ℕ → ℕ → ℝ) (ctxv : ℕ → ℕ → Fin 1 → ℝ)
    (g : ℕ → NF.Made.Slot → ℕ → (Fin 1 → ℝ) → Fin 1 → ℝ) (hg : ∀ s sl k, Differentiable ℝ (g s sl k))
    (hthr : ∀ (v : Fin n.F → ℝ) (i : Fin n.F), (NF.ARWhole.madeNet n W bias 1 ctxv g (Array.ofFn v)).getD (↑i * 2) 0 ≠ 20) :
    Differentiable ℝ (FlowWholeND.arRowT e c n.F (NF.ARWhole.madeNet n W bias 1 ctxv g)) :=
  NF.MadeSmooth.arAffineRow_differentiable (NF.MadeSmooth.made_arAffineHyp hk he a n hb hm W bias ctxv g hg hthr)

/-- pipelines of executed layers that may contain such MAF layers (besides everything `ExecLayer2` offers), over the executed
    standard-normal row: `exp(log_prob)` integrates to one -/
theorem executed_pipeline_with_maf_is_normalised {e : Float → ℝ} {n : ℕ} (Ls : List (NF.MadeSmooth.ExecLayer3 e n)) :
    ∫ x : Fin n → ℝ, Real.exp (NF.Density.stdNormalRow (NF.realX e) n (List.ofFn (NF.MadeSmooth.runAll3 Ls x).1)
        + (NF.MadeSmooth.runAll3 Ls x).2) = 1 :=
  NF.MadeSmooth.executed_pipeline3_normalised Ls

end Properties.C03
