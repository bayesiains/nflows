import NflowsModel.Properties.C18
import NflowsModel.Lemmas.BatchLayoutLink
/-!
# C18 (continued) — the batch layout is about the object `Hooks.sample` builds

Proofs in `Lemmas/BatchLayoutLink.lean`.  `batchLayout_spec` is a combinatorial fact about separately
defined functions.  Here: the list `Hooks.sample` hands to `catShapes` is `samplePieces` and has, along the concatenation dimension,
exactly the sizes `batchSizes n b`; a value-level twin `sampleValues` threads abstract draws `draw piece row pos` through the SAME
control flow (same validation, same `mapM` over the full batches, same remainder test) — its shape projection IS `Hooks.sample` for
every hook pair and every argument, error paths included, and under the hook contract draw `k` of context row `r` is
`draw (k / b) r (k % b)`, i.e. `batchLayout n b` in every row: nothing dropped, repeated or interleaved, and the batched call equals
the unbatched one fed the re-indexed draws.  Randomness itself is not modelled ("independent draws laid side by side are distributed
as one call" stays with the correspondence).
-/
set_option linter.all false
namespace Properties.C18

theorem sample_is_cat_of_pieces :
    ∀ (h : NF.Dist.Hooks) (num : NF.Dist.PyVal) (ctx : Option NF.Dist.Shape)
      (b : NF.Dist.PyVal),
      NF.Dist.isPositiveInt num = Bool.true →
        NF.Dist.isPositiveInt b = Bool.true →
          h.sample num ctx b = NF.Dist.samplePieces h num ctx b >>= NF.Dist.catShapes (NF.Dist.catDim ctx) :=
  @NF.Dist.sample_eq_cat_samplePieces

theorem sample_pieces_have_batch_sizes :
    ∀ {h : NF.Dist.Hooks} {event : NF.Dist.Shape} {okRow : Option NF.Dist.Shape → Prop},
      NF.Dist.SampleSpec h event okRow →
        ∀ (ctx : Option NF.Dist.Shape),
          NF.Dist.Accepts okRow ctx →
            ∀ (n b : ℕ),
              0 < n →
                0 < b →
                  ∃ (pieces : List NF.Dist.Shape),
                    NF.Dist.samplePieces h (NF.Dist.PyVal.int (↑n : ℤ)) ctx (NF.Dist.PyVal.int (↑b : ℤ)) =
                        Except.ok pieces ∧
                      h.sample (NF.Dist.PyVal.int (↑n : ℤ)) ctx (NF.Dist.PyVal.int (↑b : ℤ)) =
                          NF.Dist.catShapes (NF.Dist.catDim ctx) pieces ∧
                        List.map (fun (s : NF.Dist.Shape) => List.getD s (NF.Dist.catDim ctx) 0) pieces =
                          NF.Dist.batchSizes n b :=
  @NF.Dist.samplePieces_sizes

theorem sample_values_shape_is_sample :
    ∀ {δ : Type} (h : NF.Dist.Hooks) (draw : ℕ → ℕ → ℕ → δ) (num : NF.Dist.PyVal)
      (ctx : Option NF.Dist.Shape) (batch : NF.Dist.PyVal),
      Except.map (fun (x : NF.Dist.Piece δ) => x.shape) (NF.Dist.sampleValues h draw num ctx batch) = h.sample num ctx batch :=
  @NF.Dist.sampleValues_shape

theorem sample_values_follow_batch_layout :
    ∀ {δ : Type} {h : NF.Dist.Hooks} {event : NF.Dist.Shape}
      {okRow : Option NF.Dist.Shape → Prop},
      NF.Dist.SampleSpec h event okRow →
        ∀ (ctx : Option NF.Dist.Shape),
          NF.Dist.Accepts okRow ctx →
            ∀ (n b : ℕ),
              0 < n →
                0 < b →
                  ∀ (draw : ℕ → ℕ → ℕ → δ),
                    NF.Dist.sampleValues h draw (NF.Dist.PyVal.int (↑n : ℤ)) ctx (NF.Dist.PyVal.int (↑b : ℤ)) =
                      Except.ok
                        { shape := NF.Dist.contractSample event (NF.Dist.ctxRows ctx) n,
                          rows :=
                            List.map
                              (fun (r : ℕ) => List.map (fun (pq : ℕ × ℕ) => draw pq.1 r pq.2) (NF.Dist.batchLayout n b))
                              (List.range (NF.Dist.outerRows ctx)) } :=
  @NF.Dist.sampleValues_batched

theorem sample_values_draw_position :
    ∀ {δ : Type} {h : NF.Dist.Hooks} {event : NF.Dist.Shape}
      {okRow : Option NF.Dist.Shape → Prop},
      NF.Dist.SampleSpec h event okRow →
        ∀ (ctx : Option NF.Dist.Shape),
          NF.Dist.Accepts okRow ctx →
            ∀ (n b : ℕ),
              0 < n →
                0 < b →
                  ∀ (draw : ℕ → ℕ → ℕ → δ),
                    ∃ (P : NF.Dist.Piece δ),
                      NF.Dist.sampleValues h draw (NF.Dist.PyVal.int (↑n : ℤ)) ctx (NF.Dist.PyVal.int (↑b : ℤ)) =
                          Except.ok P ∧
                        P.shape = NF.Dist.contractSample event (NF.Dist.ctxRows ctx) n ∧
                          P.rows.length = NF.Dist.outerRows ctx ∧
                            ∀ r < NF.Dist.outerRows ctx,
                              ∃ (row : List δ),
                                P.rows[r]? = Option.some row ∧
                                  row.length = n ∧
                                    ∀ k < n,
                                      row[k]? = Option.some (draw (k / b) r (k % b)) ∧
                                        (NF.Dist.batchLayout n b)[k]? = Option.some (k / b, k % b) :=
  @NF.Dist.sampleValues_draw

theorem sample_values_batched_eq_unbatched :
    ∀ {δ : Type} {h : NF.Dist.Hooks} {event : NF.Dist.Shape}
      {okRow : Option NF.Dist.Shape → Prop},
      NF.Dist.SampleSpec h event okRow →
        ∀ (ctx : Option NF.Dist.Shape),
          NF.Dist.Accepts okRow ctx →
            ∀ (n b : ℕ),
              0 < n →
                0 < b →
                  ∀ (draw : ℕ → ℕ → ℕ → δ),
                    NF.Dist.sampleValues h draw (NF.Dist.PyVal.int (↑n : ℤ)) ctx (NF.Dist.PyVal.int (↑b : ℤ)) =
                      NF.Dist.sampleValues h (fun (x r k : ℕ) => draw (k / b) r (k % b)) (NF.Dist.PyVal.int (↑n : ℤ)) ctx
                        NF.Dist.PyVal.none :=
  @NF.Dist.sampleValues_batched_eq_unbatched

end Properties.C18
