import NflowsModel.Properties.C10
import NflowsModel.Lemmas.CachePaths
/-!
# C10 (continued) — the cached and the uncached code paths agree IN VALUE

`Properties/C10.lean` is a state machine over version tags: it proves that a cached result is never STALE.  That the cached path
(`F.linear(x, weight(), bias)` / `F.linear(x − bias, weight_inverse())` with the matrices the cache holds) computes the same VALUES as
`forward_no_cache` / `inverse_no_cache` (two triangular products / two triangular solves, Householder products, …) is assumed there.
Here it is a theorem about the executed linear-family model over the reals, for every
parameter value: LU, QR, SVD, the 1×1 convolution; for `NaiveLinear` by specification of one Gauss–Jordan elimination, which `Properties/C11G.lean` discharges (and which also
pins the combined routine `weight_inverse_and_logabsdet` to the separate accessors — the "minus log-det" mutant is excluded);
`current_version_denotes_current_value` composes the version-level theorem with this into agreement in value.  Bitwise agreement in
floats is false (different operation order) and stays with the lock-step histories.
-/
set_option linter.all false
namespace Properties.C10

theorem lu_cached_paths_agree :
    ∀ (p : NF.LF.LUParams ℝ),
      p.udiag.length = p.n →
        0 ≤ p.eps →
          p.bias.length = p.n →
            ∀ (X : List (List ℝ)),
              (∀ x ∈ X, x.length = p.n) →
                NF.CachePaths.ValueTransparent DualSound.realOps (NF.CachePaths.luAcc DualSound.realOps p) X ∧
                  ∃ (W : Matrix (Fin p.n) (Fin p.n) ℝ) (Winv : Matrix (Fin p.n) (Fin p.n) ℝ),
                    NF.LF.luWeight DualSound.realOps p = LinearBridge.ofMat W ∧
                      NF.LF.luWeightInverse DualSound.realOps p = LinearBridge.ofMat Winv ∧
                        Winv * W = 1 ∧
                          W * Winv = 1 ∧
                            NF.LF.luLogabsdet DualSound.realOps p = Real.log |W.det| ∧
                              -NF.LF.luLogabsdet DualSound.realOps p = Real.log |Winv.det| :=
  fun p hlen heps hb =>
    LinearBridge.Denotes.cache_paths (NF.CachePaths.luAcc _ p) hb (LinearBridge.lu_denotes p hlen heps hb)
      (LinearJacobian.luForward_rowwise _ p) (LinearJacobian.luInverse_rowwise _ p) rfl rfl

theorem qr_cached_paths_agree :
    ∀ (p : NF.LF.QRParams ℝ) (vs : List (Fin p.n → ℝ)),
      p.qs = List.map List.ofFn vs →
        (∀ v ∈ vs, v ⬝ᵥ v ≠ 0) →
          p.logDiag.length = p.n →
            p.bias.length = p.n →
              ∀ (X : List (List ℝ)),
                (∀ x ∈ X, x.length = p.n) →
                  NF.CachePaths.ValueTransparent DualSound.realOps (NF.CachePaths.qrAcc DualSound.realOps p) X ∧
                    ∃ (W : Matrix (Fin p.n) (Fin p.n) ℝ) (Winv : Matrix (Fin p.n) (Fin p.n) ℝ),
                      NF.LF.qrWeight DualSound.realOps p = LinearBridge.ofMat W ∧
                        NF.LF.qrWeightInverse DualSound.realOps p = LinearBridge.ofMat Winv ∧
                          Winv * W = 1 ∧
                            W * Winv = 1 ∧
                              NF.LF.qrLogabsdet DualSound.realOps p = Real.log |W.det| ∧
                                -NF.LF.qrLogabsdet DualSound.realOps p = Real.log |Winv.det| :=
  fun p vs hq hv hl hb =>
    LinearBridge.Denotes.cache_paths (NF.CachePaths.qrAcc _ p) hb (LinearBridge.qr_denotes p vs hq hv hl hb)
      (LinearJacobian.qrForward_rowwise _ p) (LinearJacobian.qrInverse_rowwise _ p) rfl rfl

theorem svd_cached_paths_agree :
    ∀ (p : NF.LF.SVDParams ℝ) (vs1 vs2 : List (Fin p.n → ℝ)),
      p.qs1 = List.map List.ofFn vs1 →
        p.qs2 = List.map List.ofFn vs2 →
          (∀ v ∈ vs1, v ⬝ᵥ v ≠ 0) →
            (∀ v ∈ vs2, v ⬝ᵥ v ≠ 0) →
              p.udiag.length = p.n →
                0 ≤ p.eps →
                  p.bias.length = p.n →
                    ∀ (X : List (List ℝ)),
                      (∀ x ∈ X, x.length = p.n) →
                        NF.CachePaths.ValueTransparent DualSound.realOps (NF.CachePaths.svdAcc DualSound.realOps p) X ∧
                          ∃ (W : Matrix (Fin p.n) (Fin p.n) ℝ) (Winv : Matrix (Fin p.n) (Fin p.n) ℝ),
                            NF.LF.svdWeight DualSound.realOps p = LinearBridge.ofMat W ∧
                              NF.LF.svdWeightInverse DualSound.realOps p = LinearBridge.ofMat Winv ∧
                                Winv * W = 1 ∧
                                  W * Winv = 1 ∧
                                    NF.LF.svdLogabsdet DualSound.realOps p = Real.log |W.det| ∧
                                      -NF.LF.svdLogabsdet DualSound.realOps p = Real.log |Winv.det| :=
  fun p vs1 vs2 h1 h2 hv1 hv2 hl heps hb =>
    LinearBridge.Denotes.cache_paths (NF.CachePaths.svdAcc _ p) hb (LinearBridge.svd_denotes p vs1 vs2 h1 h2 hv1 hv2 hl heps hb)
      (LinearJacobian.svdForward_rowwise _ p) (LinearJacobian.svdInverse_rowwise _ p) rfl rfl

theorem conv_cached_forward_agrees :
    ∀ (p : NF.LF.LUParams ℝ),
      p.bias.length = p.n →
        ∀ (perm : List ℕ) (B H W : ℕ) (xs : List ℝ),
          NF.LF.convUnrows DualSound.realOps B p.n H W
              (NF.CachePaths.cachedForward DualSound.realOps (NF.LF.luWeight DualSound.realOps p) p.bias
                (NF.LF.convRows DualSound.realOps B p.n H W (NF.LF.permuteChannels DualSound.realOps B p.n H W perm xs))) =
            (NF.LF.convForward DualSound.realOps p perm B H W xs).1 :=
  @NF.CachePaths.conv_cached_forward

theorem conv_cached_inverse_agrees :
    ∀ (p : NF.LF.LUParams ℝ),
      p.udiag.length = p.n →
        0 ≤ p.eps →
          p.bias.length = p.n →
            ∀ (perm : List ℕ) (B H W : ℕ) (xs : List ℝ),
              NF.LF.permuteChannels DualSound.realOps B p.n H W
                  (List.map (fun (c : ℕ) => List.idxOf c perm) (List.range p.n))
                  (NF.LF.convUnrows DualSound.realOps B p.n H W
                    (NF.CachePaths.cachedInverse DualSound.realOps (NF.LF.luWeightInverse DualSound.realOps p) p.bias
                      (NF.LF.convRows DualSound.realOps B p.n H W xs))) =
                (NF.LF.convInverse DualSound.realOps p perm B H W xs).1 :=
  @NF.CachePaths.conv_cached_inverse

theorem naive_combined_routine_agrees :
    ∀ {α : Type} (o : Ops α) (n : ℕ) (W Winv : List (List α)) (pivs : List α),
      NF.LF.gaussInverse o n W = Except.ok (Winv, pivs) →
        NF.CachePaths.naiveCombinedInv o n W = Except.ok (Winv, NF.LF.naiveLogabsdet o n W) ∧
          pivs = NF.CachePaths.naivePivots o n W :=
  @NF.CachePaths.naive_combined_eq

theorem cache_fill_invariant :
    ∀ {α : Type} (combined : List (List α) × α) (single : List (List α)) (ld : α)
      (cM : Option (List (List α))) (cLd : Option α),
      combined = (single, ld) →
        (∀ (m : List (List α)), cM = Option.some m → m = single) →
          (∀ (l : α), cLd = Option.some l → l = ld) → NF.CachePaths.checkCache combined single ld cM cLd = (single, ld) :=
  @NF.CachePaths.checkCache_eq

theorem current_version_denotes_current_value :
    ∀ {α : Type} (o : Ops α) (neg : α → α) (A : ℕ → NF.CachePaths.Accessors α) (cur : ℕ)
      (X : List (List α)),
      NF.CachePaths.ValueTransparent o (A cur) X →
        ∀ (d d' : Cache.DT),
          NF.CachePaths.denoteFwd o A cur X (Cache.Out.ok cur d cur d') =
              Option.some ((A cur).forwardNoCache X, (A cur).logabsdet) ∧
            NF.CachePaths.denoteInv o neg A cur X (Cache.Out.ok cur d cur d') =
              Option.some ((A cur).inverseNoCache X, neg (A cur).logabsdet) :=
  @NF.CachePaths.denote_current

end Properties.C10
