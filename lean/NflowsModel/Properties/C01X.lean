import NflowsModel.Properties.C01
import NflowsModel.Lemmas.MultiscaleLinear
/-!
# C01 (continued) — the multiscale transform over EXECUTED linear stages

`Lemmas/MultiscaleLinear.lean`: the adapter from the batch-level `LinearJacobian.PassIs` to the item-level `MultiscaleJacobian.StageJac`
(`stageJac_of_passIs`: the executed pass on the one-row batch `[item]`), instances for LU / QR / SVD / Householder / naive stages, and
`multiscale_lu_logdet_is_jacobian`: the two-stage `MultiscaleCompositeTransform` that `MS.build` returns over two executed `LULinear`
stages returns the sum of the two LU log-dets, and that sum is `log |det|` of the Fréchet derivative of the whole item map
(`multiscale_two_pass_logdet_is_jacobian`: any two `PassIs` passes).  1-D items, forward direction.
-/
set_option linter.all false
namespace Properties.C01

theorem stageJac_of_passIs :
    ∀ {n : ℕ} {F : List (List ℝ) → List (List ℝ) × List ℝ} {g : List ℝ → List ℝ}
      {φ : (Fin n → ℝ) → Fin n → ℝ} {M : Matrix (Fin n) (Fin n) ℝ},
      LinearJacobian.PassIs n F g φ M →
        ∀ (G : List (List ℝ) → List (List ℝ) × List ℝ),
          MultiscaleJacobian.StageJac () (MultiscaleLinear.stageOfPass F G) n φ fun (x : Fin n → ℝ) => Real.log |M.det| :=
  @MultiscaleLinear.stageJac_of_passIs

theorem stageJac_lu :
    ∀ (p : NF.LF.LUParams ℝ),
      p.udiag.length = p.n →
        0 ≤ p.eps →
          p.bias.length = p.n →
            MultiscaleJacobian.StageJac () (MultiscaleLinear.luStage p) p.n
              (LinearJacobian.affine (LinearBridge.luW p) (LinearBridge.vecFn p.n p.bias)) fun (x : Fin p.n → ℝ) =>
              Real.log |(LinearBridge.luW p).det| :=
  fun p hlen heps hb => (LinearBridge.lu_denotes p hlen heps hb).stageJac (LinearJacobian.luForwardLd_pair _ p) _

theorem stageJac_qr :
    ∀ (p : NF.LF.QRParams ℝ) (vs : List (Fin p.n → ℝ)),
      p.qs = List.map List.ofFn vs →
        (∀ v ∈ vs, v ⬝ᵥ v ≠ 0) →
          p.logDiag.length = p.n →
            p.bias.length = p.n →
              MultiscaleJacobian.StageJac () (MultiscaleLinear.qrStage p) p.n
                (LinearJacobian.affine (LinearBridge.qrW p vs) (LinearBridge.vecFn p.n p.bias)) fun (x : Fin p.n → ℝ) =>
                Real.log |(LinearBridge.qrW p vs).det| :=
  fun p vs hq hv hl hb => (LinearBridge.qr_denotes p vs hq hv hl hb).stageJac (LinearJacobian.qrForwardLd_pair _ p) _

theorem stageJac_svd :
    ∀ (p : NF.LF.SVDParams ℝ) (vs1 vs2 : List (Fin p.n → ℝ)),
      p.qs1 = List.map List.ofFn vs1 →
        p.qs2 = List.map List.ofFn vs2 →
          (∀ v ∈ vs1, v ⬝ᵥ v ≠ 0) →
            (∀ v ∈ vs2, v ⬝ᵥ v ≠ 0) →
              p.udiag.length = p.n →
                0 ≤ p.eps →
                  p.bias.length = p.n →
                    MultiscaleJacobian.StageJac () (MultiscaleLinear.svdStage p) p.n
                      (LinearJacobian.affine (LinearBridge.svdW p vs1 vs2) (LinearBridge.vecFn p.n p.bias))
                      fun (x : Fin p.n → ℝ) => Real.log |(LinearBridge.svdW p vs1 vs2).det| :=
  fun p vs1 vs2 h1 h2 hv1 hv2 hl heps hb =>
    (LinearBridge.svd_denotes p vs1 vs2 h1 h2 hv1 hv2 hl heps hb).stageJac (LinearJacobian.svdForwardLd_pair _ p) _

theorem stageJac_hh :
    ∀ {n : ℕ} (vs : List (Fin n → ℝ)),
      (∀ v ∈ vs, v ⬝ᵥ v ≠ 0) →
        MultiscaleJacobian.StageJac () (MultiscaleLinear.hhStage (List.map List.ofFn vs)) n
          (LinearJacobian.affine (LinearFamily.Q vs) 0) fun (x : Fin n → ℝ) => Real.log |(LinearFamily.Q vs).det| :=
  fun vs hv => MultiscaleLinear.stageJac_of_passIs (LinearJacobian.hh_logdet_is_log_abs_det_fderiv vs hv) _

theorem stageJac_naive :
    ∀ {n : ℕ} (W : Matrix (Fin n) (Fin n) ℝ),
      W.det ≠ 0 →
        ∀ (b : List ℝ),
          b.length = n →
            MultiscaleJacobian.StageJac () (MultiscaleLinear.naiveStage n (LinearBridge.ofMat W) b) n
              (LinearJacobian.affine W (LinearBridge.vecFn n b)) fun (x : Fin n → ℝ) => Real.log |W.det| :=
  fun W hW b hb => (NaiveGauss.naive_denotes W hW b hb).stageJac (LinearJacobian.naiveForwardLd_pair _ _ _ b) _

theorem multiscale_two_pass_logdet_is_jacobian :
    ∀ (c h : ℕ),
      (c + h + 1) / 2 = c →
        4 ≤ c + h →
          ∀ {F₁ G₁ F₂ G₂ : List (List ℝ) → List (List ℝ) × List ℝ} {g₁ g₂ : List ℝ → List ℝ}
            {φ₁ : (Fin (c + h) → ℝ) → Fin (c + h) → ℝ} {φ₂ : (Fin h → ℝ) → Fin h → ℝ}
            {M₁ : Matrix (Fin (c + h)) (Fin (c + h)) ℝ} {M₂ : Matrix (Fin h) (Fin h) ℝ},
            LinearJacobian.PassIs (c + h) F₁ g₁ φ₁ M₁ →
              LinearJacobian.PassIs h F₂ g₂ φ₂ M₂ →
                ∀ (v : Fin (c + h) → ℝ),
                  ∃ (m : NF.Wrap.MS ℝ Unit ℝ),
                    NF.Wrap.MS.build 2 (NF.Wrap.PyArg.int 1)
                          [MultiscaleLinear.stageOfPass F₁ G₁, MultiscaleLinear.stageOfPass F₂ G₂] [c + h] =
                        Except.ok m ∧
                      NF.Wrap.MS.forward (NF.Wrap.LD.std ℝ) m { shape := [c + h], data := List.ofFn v } () =
                          Except.ok
                            ({ shape := [c + h],
                                data :=
                                  List.ofFn (MultiscaleJacobian.blockMap (MultiscaleJacobian.splitFin c h) φ₂ (φ₁ v)) },
                              Real.log |M₁.det| + Real.log |M₂.det|) ∧
                        ∃ (D : (Fin (c + h) → ℝ) →L[ℝ] Fin (c + h) → ℝ),
                          HasFDerivAt (MultiscaleJacobian.blockMap (MultiscaleJacobian.splitFin c h) φ₂ ∘ φ₁) D v ∧
                            D.det ≠ 0 ∧ Real.log |M₁.det| + Real.log |M₂.det| = Real.log |D.det| :=
  @MultiscaleLinear.multiscale_two_pass_logdet_is_jacobian

theorem multiscale_lu_logdet_is_jacobian :
    ∀ (c h : ℕ),
      (c + h + 1) / 2 = c →
        4 ≤ c + h →
          ∀ (q₁ q₂ : NF.LF.LUParams ℝ),
            q₁.udiag.length = c + h →
              0 ≤ q₁.eps →
                q₁.bias.length = c + h →
                  q₂.udiag.length = h →
                    0 ≤ q₂.eps →
                      q₂.bias.length = h →
                        ∀ (v : Fin (c + h) → ℝ),
                          ∃ (m : NF.Wrap.MS ℝ Unit ℝ),
                            NF.Wrap.MS.build 2 (NF.Wrap.PyArg.int 1)
                                  [MultiscaleLinear.luStage (MultiscaleLinear.luSized (c + h) q₁),
                                    MultiscaleLinear.luStage (MultiscaleLinear.luSized h q₂)]
                                  [c + h] =
                                Except.ok m ∧
                              NF.Wrap.MS.forward (NF.Wrap.LD.std ℝ) m { shape := [c + h], data := List.ofFn v } () =
                                  Except.ok
                                    ({ shape := [c + h],
                                        data :=
                                          List.ofFn
                                            (MultiscaleJacobian.blockMap (MultiscaleJacobian.splitFin c h)
                                              (LinearJacobian.affine (LinearBridge.luW (MultiscaleLinear.luSized h q₂))
                                                (LinearBridge.vecFn h q₂.bias))
                                              (LinearJacobian.affine
                                                (LinearBridge.luW (MultiscaleLinear.luSized (c + h) q₁))
                                                (LinearBridge.vecFn (c + h) q₁.bias) v)) },
                                      NF.LF.luLogabsdet DualSound.realOps (MultiscaleLinear.luSized (c + h) q₁) +
                                        NF.LF.luLogabsdet DualSound.realOps (MultiscaleLinear.luSized h q₂)) ∧
                                ∃ (D : (Fin (c + h) → ℝ) →L[ℝ] Fin (c + h) → ℝ),
                                  HasFDerivAt
                                      (MultiscaleJacobian.blockMap (MultiscaleJacobian.splitFin c h)
                                          (LinearJacobian.affine (LinearBridge.luW (MultiscaleLinear.luSized h q₂))
                                            (LinearBridge.vecFn h q₂.bias)) ∘
                                        LinearJacobian.affine (LinearBridge.luW (MultiscaleLinear.luSized (c + h) q₁))
                                          (LinearBridge.vecFn (c + h) q₁.bias))
                                      D v ∧
                                    D.det ≠ 0 ∧
                                      NF.LF.luLogabsdet DualSound.realOps (MultiscaleLinear.luSized (c + h) q₁) +
                                          NF.LF.luLogabsdet DualSound.realOps (MultiscaleLinear.luSized h q₂) =
                                        Real.log |D.det| :=
  @MultiscaleLinear.multiscale_lu_logdet_is_jacobian

theorem multiscale_lu_logdet_is_jacobian_any :
    ∀ (c h : ℕ),
      (c + h + 1) / 2 = c →
        4 ≤ c + h →
          ∀ (p₁ p₂ : NF.LF.LUParams ℝ),
            p₁.n = c + h →
              p₂.n = h →
                p₁.udiag.length = p₁.n →
                  0 ≤ p₁.eps →
                    p₁.bias.length = p₁.n →
                      p₂.udiag.length = p₂.n →
                        0 ≤ p₂.eps →
                          p₂.bias.length = p₂.n →
                            ∃ (m : NF.Wrap.MS ℝ Unit ℝ) (Φ : (Fin (c + h) → ℝ) → Fin (c + h) → ℝ),
                              NF.Wrap.MS.build 2 (NF.Wrap.PyArg.int 1)
                                    [MultiscaleLinear.luStage p₁, MultiscaleLinear.luStage p₂] [c + h] =
                                  Except.ok m ∧
                                ∀ (v : Fin (c + h) → ℝ),
                                  NF.Wrap.MS.forward (NF.Wrap.LD.std ℝ) m { shape := [c + h], data := List.ofFn v } () =
                                      Except.ok
                                        ({ shape := [c + h], data := List.ofFn (Φ v) },
                                          NF.LF.luLogabsdet DualSound.realOps p₁ + NF.LF.luLogabsdet DualSound.realOps p₂) ∧
                                    ∃ (D : (Fin (c + h) → ℝ) →L[ℝ] Fin (c + h) → ℝ),
                                      HasFDerivAt Φ D v ∧
                                        D.det ≠ 0 ∧
                                          NF.LF.luLogabsdet DualSound.realOps p₁ + NF.LF.luLogabsdet DualSound.realOps p₂ =
                                            Real.log |D.det| :=
  @MultiscaleLinear.multiscale_lu_logdet_is_jacobian'

end Properties.C01
