import NflowsModel.Properties.C01
import NflowsModel.Lemmas.CouplingJacobian
/-!
# C01, continued — the EXECUTED coupling layer: returned log-abs-det = log |det Jacobian| of the executed row map

(`Lemmas/CouplingJacobian.lean` builds on `Properties/C03.lean`, so these re-statements live in a file of their own in the namespace;
`Audit/C01.lean` imports every `C01*` file.)
-/
open NF NF.StructureExec

namespace Properties.C01

/-- **executed coupling layer with its conditioner in the loop** (`CouplingJacobian.couplingRun`: the conditioner — an ARBITRARY
    function — is run on the identity split exactly as coupling.py does; any numeric mask, any batch size, both passes): if the
    executed row map has Fréchet derivative `L` at the row (a hypothesis, the conditioner being arbitrary) and every transformed
    element obeys its derivative law, then the returned `ld[b]` satisfies `|det L| = exp ld[b]`.  The triangular structure —
    identity outputs are identity inputs, transformed output `i` depends on input `i` and the identity inputs only — is PROVED of
    the executed program, and `det_of_ranked_dependency` applied with rank "identity first". -/
theorem exec_coupling_row_abs_det (e : Float → ℝ) (c : ElCfg) (mask : List ℝ) (B : Nat) (net : Array ℝ → Array ℝ)
    (inverse : Bool) (x : Array ℝ) (hx : x.size = B * mask.length) {b : Nat} (hb : b < B)
    {L : (Fin mask.length → ℝ) →L[ℝ] (Fin mask.length → ℝ)}
    (hL : HasFDerivAt (CouplingJacobian.couplingRowMap e c mask B net inverse x b) L (rowOf (NF.realX e) mask.length b x))
    (hdiag : ∀ i, isT (NF.realX e) mask i = true →
      HasDerivAt (CouplingJacobian.couplingElMap e c mask (net (CouplingJacobian.idSplit (NF.realX e) mask B x)) inverse b i)
        (Real.exp (CouplingJacobian.couplingElLd e c mask (net (CouplingJacobian.idSplit (NF.realX e) mask B x)) inverse b i
          (rowOf (NF.realX e) mask.length b x i)))
        (rowOf (NF.realX e) mask.length b x i)) :
    ∃ l, (CouplingJacobian.couplingRun (NF.realX e) c mask B net inverse x).ld[b]? = some l ∧ |L.det| = Real.exp l :=
  CouplingJacobian.coupling_row_abs_det e c mask B net inverse x hx hb hL hdiag

/-- the channel-sum form of the executed coupling log-det needs NO "no element raised" hypothesis over the reals -/
theorem exec_coupling_ld_is_channel_sum' (e : Float → ℝ) (c : ElCfg) (mask : List ℝ) (B : Nat) (x params uparams : Array ℝ)
    (inverse : Bool) {b : Nat} (hb : b < B) :
    (couplingApply (NF.realX e) c mask B 1 x params inverse none uparams).ld[b]?
      = some (∑ i : Fin mask.length,
          if isT (NF.realX e) mask i then
            ldOf (NF.realX e) (chanEl (NF.realX e) c mask params b i inverse (rowOf (NF.realX e) mask.length b x i))
          else 0) :=
  CouplingJacobian.coupling_ld_channels e c mask B x params uparams inverse hb

end Properties.C01
