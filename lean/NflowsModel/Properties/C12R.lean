import NflowsModel.Properties.C12
import NflowsModel.Lemmas.LinearJacobian
import NflowsModel.Lemmas.RowIndependenceMore
/-!
# C12 (continued) — row independence of the linear family, normalisation layers, distributions, flows, 1×1 convolution

For EVERY `Ops α` / `XOps α` (so also for the Float
and Float32 runs of the driver): the executed LU / QR / SVD / Householder / naive passes are `List.map` of a row function, for LU / QR / SVD /
Householder in both components of the `(outputs, logabsdets)` pair (`*Ld_pair`; for naive the pair form is `naiveForwardLd_pair` / `naiveInverseLd_pair` in `Lemmas/LinearRows.lean`, not restated); BatchNorm in EVALUATION mode and an initialised ActNorm give, on `[row i]`, exactly
`([out i], [ld i])` of the batch run; the executed `log_prob` of the standard / diagonal / conditional-diagonal normal, Bernoulli and
MADE-MoG batch programs returns on one row the singleton of the batch entry and raises iff the batch raises; a flow over row-wise
parts is row-wise; item `b` of the 1×1 convolution depends on item `b` only.  The CONTRAST the property text draws is proved too:
BatchNorm in training mode (every state with `eps > 0`) and ActNorm's initialising call are NOT row independent (`bn_training_…`,
`act_init_…`, at the reals).  Forced hypotheses are listed in `Lemmas/RowIndependenceMore.lean` (conditional normal `pShape ≠ []`;
convolution `perm` entries in range — the flat NCHW `getD` would read the next item where torch raises).
-/
set_option linter.all false
namespace Properties.C12

theorem luForward_rowwise :
    ∀ {α : Type} (o : Ops α) (p : NF.LF.LUParams α),
      LinearJacobian.RowWise (NF.LF.luForward o p) (LogdetExec.luRow o p) :=
  @LinearJacobian.luForward_rowwise

theorem luInverse_rowwise :
    ∀ {α : Type} (o : Ops α) (p : NF.LF.LUParams α),
      LinearJacobian.RowWise (NF.LF.luInverse o p) (LogdetExec.luInvRow o p) :=
  @LinearJacobian.luInverse_rowwise

theorem qrForward_rowwise :
    ∀ {α : Type} (o : Ops α) (p : NF.LF.QRParams α),
      LinearJacobian.RowWise (NF.LF.qrForward o p) (LinearJacobian.qrRow o p) :=
  @LinearJacobian.qrForward_rowwise

theorem qrInverse_rowwise :
    ∀ {α : Type} (o : Ops α) (p : NF.LF.QRParams α),
      LinearJacobian.RowWise (NF.LF.qrInverse o p) (LinearJacobian.qrInvRow o p) :=
  @LinearJacobian.qrInverse_rowwise

theorem svdForward_rowwise :
    ∀ {α : Type} (o : Ops α) (p : NF.LF.SVDParams α),
      LinearJacobian.RowWise (NF.LF.svdForward o p) (LinearJacobian.svdRow o p) :=
  @LinearJacobian.svdForward_rowwise

theorem svdInverse_rowwise :
    ∀ {α : Type} (o : Ops α) (p : NF.LF.SVDParams α),
      LinearJacobian.RowWise (NF.LF.svdInverse o p) (LinearJacobian.svdInvRow o p) :=
  @LinearJacobian.svdInverse_rowwise

theorem hhForward_rowwise :
    ∀ {α : Type} (o : Ops α) (qs : List (List α)),
      LinearJacobian.RowWise (NF.LF.hhForward o qs) (NF.LF.hhSeq o qs) :=
  @LinearJacobian.hhForward_rowwise

theorem hhInverse_rowwise :
    ∀ {α : Type} (o : Ops α) (qs : List (List α)),
      LinearJacobian.RowWise (NF.LF.hhInverse o qs) (NF.LF.hhSeq o qs.reverse) :=
  @LinearJacobian.hhInverse_rowwise

theorem naiveForward_rowwise :
    ∀ {α : Type} (o : Ops α) (W : List (List α)) (b : List α),
      LinearJacobian.RowWise (NF.LF.naiveForward o W b) (LinearJacobian.naiveRow o W b) :=
  @LinearJacobian.naiveForward_rowwise

theorem naiveInverse_rowwise :
    ∀ {α : Type} (o : Ops α) (n : ℕ) (W : List (List α)) (b : List α),
      LinearJacobian.RowWise (NF.LF.naiveInverse o n W b) (LinearJacobian.naiveInvRow o n W b) :=
  @LinearJacobian.naiveInverse_rowwise

theorem luForwardLd_pair :
    ∀ {α : Type} (o : Ops α) (p : NF.LF.LUParams α),
      LinearJacobian.PairRowWise (LinearFresh.luForwardLd o p) (LogdetExec.luRow o p)
        (o.mul (NF.LF.luLogabsdet o p) (NF.LF.one o)) :=
  @LinearJacobian.luForwardLd_pair

theorem luInverseLd_pair :
    ∀ {α : Type} (o : Ops α) (p : NF.LF.LUParams α),
      LinearJacobian.PairRowWise (LinearFresh.luInverseLd o p) (LogdetExec.luInvRow o p)
        (o.mul (o.neg (NF.LF.luLogabsdet o p)) (NF.LF.one o)) :=
  @LinearJacobian.luInverseLd_pair

theorem qrForwardLd_pair :
    ∀ {α : Type} (o : Ops α) (p : NF.LF.QRParams α),
      LinearJacobian.PairRowWise (LinearFresh.qrForwardLd o p) (LinearJacobian.qrRow o p)
        (o.mul (NF.LF.qrLogabsdet o p) (NF.LF.one o)) :=
  @LinearJacobian.qrForwardLd_pair

theorem qrInverseLd_pair :
    ∀ {α : Type} (o : Ops α) (p : NF.LF.QRParams α),
      LinearJacobian.PairRowWise (LinearFresh.qrInverseLd o p) (LinearJacobian.qrInvRow o p)
        (o.mul (o.neg (NF.LF.qrLogabsdet o p)) (NF.LF.one o)) :=
  @LinearJacobian.qrInverseLd_pair

theorem svdForwardLd_pair :
    ∀ {α : Type} (o : Ops α) (p : NF.LF.SVDParams α),
      LinearJacobian.PairRowWise (LinearFresh.svdForwardLd o p) (LinearJacobian.svdRow o p)
        (o.mul (NF.LF.svdLogabsdet o p) (NF.LF.one o)) :=
  @LinearJacobian.svdForwardLd_pair

theorem svdInverseLd_pair :
    ∀ {α : Type} (o : Ops α) (p : NF.LF.SVDParams α),
      LinearJacobian.PairRowWise (LinearFresh.svdInverseLd o p) (LinearJacobian.svdInvRow o p)
        (o.mul (o.neg (NF.LF.svdLogabsdet o p)) (NF.LF.one o)) :=
  @LinearJacobian.svdInverseLd_pair

theorem hhForwardLd_pair :
    ∀ {α : Type} (o : Ops α) (qs : List (List α)),
      LinearJacobian.PairRowWise (LinearFresh.hhForwardLd o qs) (NF.LF.hhSeq o qs) (NF.LF.zero o) :=
  @LinearJacobian.hhForwardLd_pair

theorem hhInverseLd_pair :
    ∀ {α : Type} (o : Ops α) (qs : List (List α)),
      LinearJacobian.PairRowWise (LinearFresh.hhInverseLd o qs) (NF.LF.hhSeq o qs.reverse) (NF.LF.zero o) :=
  @LinearJacobian.hhInverseLd_pair

theorem rowwise_perm :
    ∀ {Row Out : Type} {f : List Row → List Out} {g : Row → Out},
      LinearJacobian.RowWise f g → ∀ {X Y : List Row}, X.Perm Y → (f X).Perm (f Y) :=
  @LinearJacobian.RowWise.perm

theorem pair_rowwise_row_alone :
    ∀ {Row Out A : Type} {F : List Row → List Out × List A} {g : Row → Out} {c : A},
      LinearJacobian.PairRowWise F g c →
        ∀ (X : List Row) (i : ℕ) (hi : i < X.length),
          (F X).1[i]? = Option.some (g X[i]) ∧ (F X).2[i]? = Option.some c ∧ F [X[i]] = ([g X[i]], [c]) :=
  @LinearJacobian.PairRowWise.row_alone

theorem bn_eval_forward_row_independent :
    ∀ {α : Type} (o : XOps α) (cfg : NF.Norm.BNCfg α) (F : ℕ)
      (s : NF.Norm.BNSt α),
      s.training = Bool.false →
        ∀ (rows : List (List α)),
          ∃ (outs : List (List α)) (lds : List α),
            NF.Norm.bnStep o cfg F s (NF.Norm.NOp.fwd (NF.Norm.Batch.d2 rows)) =
                (s, Option.some (Except.ok (NF.Norm.Batch.d2 outs, lds))) ∧
              outs.length = rows.length ∧
                lds.length = rows.length ∧
                  ∀ (i : ℕ) (r : List α),
                    rows[i]? = Option.some r →
                      ∃ (y : List α) (l : α),
                        outs[i]? = Option.some y ∧
                          lds[i]? = Option.some l ∧
                            NF.Norm.bnStep o cfg F s (NF.Norm.NOp.fwd (NF.Norm.Batch.d2 [r])) =
                              (s, Option.some (Except.ok (NF.Norm.Batch.d2 [y], [l]))) :=
  @NF.RowIndependenceMore.bn_eval_forward_row_independent

theorem bn_eval_inverse_row_independent :
    ∀ {α : Type} (o : XOps α) (cfg : NF.Norm.BNCfg α) (F : ℕ)
      (s : NF.Norm.BNSt α),
      s.training = Bool.false →
        ∀ (rows : List (List α)),
          ∃ (outs : List (List α)) (lds : List α),
            NF.Norm.bnStep o cfg F s (NF.Norm.NOp.inv (NF.Norm.Batch.d2 rows)) =
                (s, Option.some (Except.ok (NF.Norm.Batch.d2 outs, lds))) ∧
              outs.length = rows.length ∧
                lds.length = rows.length ∧
                  ∀ (i : ℕ) (r : List α),
                    rows[i]? = Option.some r →
                      ∃ (y : List α) (l : α),
                        outs[i]? = Option.some y ∧
                          lds[i]? = Option.some l ∧
                            NF.Norm.bnStep o cfg F s (NF.Norm.NOp.inv (NF.Norm.Batch.d2 [r])) =
                              (s, Option.some (Except.ok (NF.Norm.Batch.d2 [y], [l]))) :=
  @NF.RowIndependenceMore.bn_eval_inverse_row_independent

theorem act_forward_row_independent :
    ∀ {α : Type} (o : XOps α) (F : ℕ) (s : NF.Norm.ActSt α),
      s.initialized = Bool.true ∨ s.training = Bool.false →
        ∀ (b : NF.Norm.Batch α),
          b.valid24 = Bool.true →
            ∃ (out : NF.Norm.Batch α) (lds : List α),
              NF.Norm.actStep o F s (NF.Norm.NOp.fwd b) = (s, Option.some (Except.ok (out, lds))) ∧
                out.size = b.size ∧
                  lds.length = b.size ∧
                    ∀ (i : ℕ) (bi : NF.Norm.Batch α),
                      NF.RowIndependenceMore.item? b i = Option.some bi →
                        ∃ (yi : NF.Norm.Batch α) (l : α),
                          NF.RowIndependenceMore.item? out i = Option.some yi ∧
                            lds[i]? = Option.some l ∧
                              NF.Norm.actStep o F s (NF.Norm.NOp.fwd bi) = (s, Option.some (Except.ok (yi, [l]))) :=
  @NF.RowIndependenceMore.act_forward_row_independent

theorem act_inverse_row_independent :
    ∀ {α : Type} (o : XOps α) (F : ℕ) (s : NF.Norm.ActSt α)
      (b : NF.Norm.Batch α),
      b.valid24 = Bool.true →
        ∃ (out : NF.Norm.Batch α) (lds : List α),
          NF.Norm.actStep o F s (NF.Norm.NOp.inv b) = (s, Option.some (Except.ok (out, lds))) ∧
            out.size = b.size ∧
              lds.length = b.size ∧
                ∀ (i : ℕ) (bi : NF.Norm.Batch α),
                  NF.RowIndependenceMore.item? b i = Option.some bi →
                    ∃ (yi : NF.Norm.Batch α) (l : α),
                      NF.RowIndependenceMore.item? out i = Option.some yi ∧
                        lds[i]? = Option.some l ∧
                          NF.Norm.actStep o F s (NF.Norm.NOp.inv bi) = (s, Option.some (Except.ok (yi, [l]))) :=
  @NF.RowIndependenceMore.act_inverse_row_independent

theorem bn_training_not_row_independent :
    ∀ (e : Float → ℝ) (cfg : NF.Norm.BNCfg ℝ),
      0 < cfg.eps →
        ∀ (s : NF.Norm.BNSt ℝ),
          s.training = Bool.true →
            ∃ (rows : List (List ℝ)) (outs : List (List ℝ)) (lds : List ℝ),
              (NF.Norm.bnStep (NF.realX e) cfg 1 s (NF.Norm.NOp.fwd (NF.Norm.Batch.d2 rows))).2 =
                  Option.some (Except.ok (NF.Norm.Batch.d2 outs, lds)) ∧
                ∃ (i : ℕ) (r : List ℝ) (y : List ℝ),
                  rows[i]? = Option.some r ∧
                    outs[i]? = Option.some y ∧
                      ∀ (l : List ℝ),
                        (NF.Norm.bnStep (NF.realX e) cfg 1 s (NF.Norm.NOp.fwd (NF.Norm.Batch.d2 [r]))).2 ≠
                          Option.some (Except.ok (NF.Norm.Batch.d2 [y], l)) :=
  @NF.RowIndependenceMore.bn_training_not_row_independent

theorem act_init_not_row_independent :
    ∀ (e : Float → ℝ) (s : NF.Norm.ActSt ℝ),
      s.training = Bool.true →
        s.initialized = Bool.false →
          ∃ (rows : List (List ℝ)) (outs : List (List ℝ)) (lds : List ℝ),
            (NF.Norm.actStep (NF.realX e) 1 s (NF.Norm.NOp.fwd (NF.Norm.Batch.d2 rows))).2 =
                Option.some (Except.ok (NF.Norm.Batch.d2 outs, lds)) ∧
              ∃ (i : ℕ) (r : List ℝ) (y : List ℝ),
                rows[i]? = Option.some r ∧
                  outs[i]? = Option.some y ∧
                    ∀ (l : List ℝ),
                      (NF.Norm.actStep (NF.realX e) 1 s (NF.Norm.NOp.fwd (NF.Norm.Batch.d2 [r]))).2 ≠
                        Option.some (Except.ok (NF.Norm.Batch.d2 [y], l)) :=
  @NF.RowIndependenceMore.act_init_not_row_independent

theorem RowIndep_ok_iff :
    ∀ {α : Type} {batch : Except NF.Density.DErr (List α)} {n : ℕ}
      {single : ℕ → Except NF.Density.DErr (List α)},
      NF.RowIndependenceMore.RowIndep batch n single →
        0 < n → ((∃ (lps : List α), batch = Except.ok lps) ↔ ∀ i < n, ∃ (l : α), single i = Except.ok [l]) :=
  @NF.RowIndependenceMore.RowIndep.ok_iff

theorem stdNormal_logProb_row_independent :
    ∀ {α : Type} (o : XOps α) (shape inShape : List ℕ)
      (c : Bool) (rows : List (List α)),
      NF.RowIndependenceMore.RowIndep
        (NF.Density.stdNormalLogProb o shape inShape (NF.RowIndependenceMore.ctxOf c rows.length) rows) rows.length
        fun (i : ℕ) => NF.Density.stdNormalLogProb o shape inShape (NF.RowIndependenceMore.ctxOf c 1) [rows.getD i []] :=
  @NF.RowIndependenceMore.stdNormal_logProb_row_independent

theorem diagNormal_logProb_row_independent :
    ∀ {α : Type} (o : XOps α) (shape inShape : List ℕ)
      (c : Bool) (mean logStd : List α) (rows : List (List α)),
      NF.RowIndependenceMore.RowIndep
        (NF.Density.diagNormalLogProb o shape inShape (NF.RowIndependenceMore.ctxOf c rows.length) mean logStd rows)
        rows.length fun (i : ℕ) =>
        NF.Density.diagNormalLogProb o shape inShape (NF.RowIndependenceMore.ctxOf c 1) mean logStd [rows.getD i []] :=
  @NF.RowIndependenceMore.diagNormal_logProb_row_independent

theorem condNormal_logProb_row_independent :
    ∀ {α : Type} (o : XOps α) (shape inShape pShape : List ℕ),
      pShape ≠ [] →
        ∀ (params rows : List (List α)),
          params.length = rows.length →
            NF.RowIndependenceMore.RowIndep
              (NF.Density.condNormalLogProb o shape inShape (Option.some rows.length) rows.length pShape params rows)
              rows.length fun (i : ℕ) =>
              NF.Density.condNormalLogProb o shape inShape (Option.some 1) 1 pShape [params.getD i []] [rows.getD i []] :=
  @NF.RowIndependenceMore.condNormal_logProb_row_independent

theorem bern_logProb_row_independent :
    ∀ {α : Type} (o : XOps α) (shape inShape pShape : List ℕ)
      (params rows : List (List α)),
      NF.RowIndependenceMore.RowIndep
        (NF.Density.bernLogProb o shape inShape (Option.some rows.length) rows.length pShape params rows) rows.length
        fun (i : ℕ) => NF.Density.bernLogProb o shape inShape (Option.some 1) 1 pShape [params.getD i []] [rows.getD i []] :=
  @NF.RowIndependenceMore.bern_logProb_row_independent

theorem mog_logProb_row_independent :
    ∀ {α : Type} (o : XOps α) (eps : α) (F M : ℕ) (c : Bool)
      (outs rows : List (List α)),
      NF.RowIndependenceMore.RowIndep
        (NF.Density.mogLogProb o eps F M (NF.RowIndependenceMore.ctxOf c rows.length) outs rows) rows.length fun (i : ℕ) =>
        NF.Density.mogLogProb o eps F M (NF.RowIndependenceMore.ctxOf c 1) [outs.getD i []] [rows.getD i []] :=
  @NF.RowIndependenceMore.mog_logProb_row_independent

theorem flow_logProb_row_independent :
    ∀ {Z X C E V : Type} (f : NF.FlowPairing.FlowFns Z X C E V)
      (emb : List C → List E) (T : List X → List E → List Z × List V) (blp : List Z → List E → List V),
      NF.RowIndependenceMore.RowWise f emb T blp →
        ∀ (xs : List X) (ctx : List C),
          xs.length = ctx.length →
            NF.RowIndependenceMore.flowLogProbBatch emb T blp f.add xs ctx = NF.FlowPairing.flowLogProb f xs ctx ∧
              (NF.RowIndependenceMore.flowLogProbBatch emb T blp f.add xs ctx).length = xs.length ∧
                ∀ (i : ℕ) (x : X) (c : C),
                  xs[i]? = Option.some x →
                    ctx[i]? = Option.some c →
                      (NF.RowIndependenceMore.flowLogProbBatch emb T blp f.add xs ctx)[i]? =
                          Option.some (NF.FlowPairing.flowLogProb1 f x c) ∧
                        NF.RowIndependenceMore.flowLogProbBatch emb T blp f.add [x] [c] =
                          [NF.FlowPairing.flowLogProb1 f x c] :=
  @NF.RowIndependenceMore.flow_logProb_row_independent

theorem rowWise_stdNormal_base :
    ∀ {C E α : Type} (o : XOps α) (D : ℕ) (embRow : C → E)
      (tfwd : List α → E → List α) (ld : List α → E → α),
      NF.RowIndependenceMore.RowWise
        { emb := embRow, tinv := fun (z : List α) (x : E) => z, ldInv := fun (x : List α) (x_1 : E) => o.zero, tfwd := tfwd,
          ld := ld, blp := fun (z : List α) (x : E) => NF.Density.stdNormalRow o D z, add := o.add, sub := o.sub }
        (fun (ctx : List C) => List.map embRow ctx)
        (fun (xs : List (List α)) (es : List E) => (List.zipWith tfwd xs es, List.zipWith ld xs es))
        fun (zs : List (List α)) (x : List E) => List.map (NF.Density.stdNormalRow o D) zs :=
  @NF.RowIndependenceMore.rowWise_stdNormal_base

theorem conv_forward_item_independent :
    ∀ {α : Type} (o : Ops α) (p : NF.LF.LUParams α) (perm : List ℕ),
      (∀ c < p.n, perm.getD c 0 < p.n) →
        ∀ {B B' b b' : ℕ} (H W : ℕ) (xs xs' : List α),
          b < B →
            b' < B' →
              NF.RowIndependenceMore.ItemAgree o p.n H W b b' xs xs' →
                NF.RowIndependenceMore.ItemAgree o p.n H W b b' (NF.LF.convForward o p perm B H W xs).1
                    (NF.LF.convForward o p perm B' H W xs').1 ∧
                  (NF.LF.convForward o p perm B H W xs).2[b]? = (NF.LF.convForward o p perm B' H W xs').2[b']? :=
  @NF.RowIndependenceMore.conv_forward_item_independent

theorem conv_inverse_item_independent :
    ∀ {α : Type} (o : Ops α) (p : NF.LF.LUParams α) (perm : List ℕ),
      (∀ c < p.n, List.idxOf c perm < p.n) →
        ∀ {B B' b b' : ℕ} (H W : ℕ) (xs xs' : List α),
          b < B →
            b' < B' →
              NF.RowIndependenceMore.ItemAgree o p.n H W b b' xs xs' →
                NF.RowIndependenceMore.ItemAgree o p.n H W b b' (NF.LF.convInverse o p perm B H W xs).1
                    (NF.LF.convInverse o p perm B' H W xs').1 ∧
                  (NF.LF.convInverse o p perm B H W xs).2[b]? = (NF.LF.convInverse o p perm B' H W xs').2[b']? :=
  @NF.RowIndependenceMore.conv_inverse_item_independent

end Properties.C12
