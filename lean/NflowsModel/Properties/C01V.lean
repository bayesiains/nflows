import NflowsModel.Properties.C01
import NflowsModel.Lemmas.LayerDerivInv
/-!
# C01 (continued) — the INVERSE pass of coupling layers with spline elements as a Jacobian

`Lemmas/LayerDerivInv.lean`, same conclusion form as `Properties/C01L.lean` (`ld[b]? = some (log |det L|)`, `L` the Fréchet derivative of
the executed row map): RQ bounded (forward and inverse, strictly inside an output bin), RQ with linear tails
(every real row, both directions), quadratic inverse (with the `yk` end-point facts `quad_yk_facts`), cubic inverse
on the open output box under the explicit branch hypotheses of the whole-program inverse theorem (the cubic inverse is NOT well
defined everywhere: `Properties.C17.cubic_inverse_cardano_log_zero`).  The inverse loop of the autoregressive layer (one-row
batch; affine and bounded RQ elements) is in `Properties/C02A.lean`.  Not covered: inverse with tails for quadratic / cubic / linear.
-/
set_option linter.all false
namespace Properties.C01

theorem coupling_rq_logdet_is_jacobian :
    ∀ (e : Float → ℝ) (c : NF.ElCfg) (mask : List ℝ) (B : ℕ)
      (net : Array ℝ → Array ℝ) (x : Array ℝ),
      c.kind = "rq" →
        c.tails = Bool.false →
          x.size = B * mask.length →
            ∀ {b : ℕ},
              b < B →
                NF.StructureExec.RQParamsValid e c (NF.CouplingJacobian.nT e mask) 1
                    (NF.LayerDerivMore.cParams e mask B net x) B →
                  (∀ (i : Fin mask.length),
                      NF.StructureExec.isT (NF.realX e) mask i = Bool.true →
                        ∃
                          k <
                            (NF.StructureExec.rqW (NF.realX e) c
                                (NF.LayerDerivMore.chanSlice e c mask (NF.LayerDerivMore.cParams e mask B net x) b
                                  i)).length,
                          RQWhole.xs e (NF.StructureExec.rqCfgOf c)
                                (NF.StructureExec.rqW (NF.realX e) c
                                  (NF.LayerDerivMore.chanSlice e c mask (NF.LayerDerivMore.cParams e mask B net x) b i))
                                k <
                              NF.StructureExec.rowOf (NF.realX e) mask.length b x i ∧
                            NF.StructureExec.rowOf (NF.realX e) mask.length b x i <
                              RQWhole.xs e (NF.StructureExec.rqCfgOf c)
                                (NF.StructureExec.rqW (NF.realX e) c
                                  (NF.LayerDerivMore.chanSlice e c mask (NF.LayerDerivMore.cParams e mask B net x) b i))
                                (k + 1)) →
                    ∀ {L : (Fin mask.length → ℝ) →L[ℝ] Fin mask.length → ℝ},
                      HasFDerivAt (NF.CouplingJacobian.couplingRowMap e c mask B net Bool.false x b) L
                          (NF.StructureExec.rowOf (NF.realX e) mask.length b x) →
                        (NF.CouplingJacobian.couplingRun (NF.realX e) c mask B net Bool.false x).ld[b]? =
                          Option.some
                            (Real.log
                              |(LinearMap.det : ((Fin mask.length → ℝ) →ₗ[ℝ] Fin mask.length → ℝ) → ℝ)
                                  (↑L : (Fin mask.length → ℝ) →ₗ[ℝ] Fin mask.length → ℝ)|) :=
  @NF.LayerDerivInv.coupling_rq_logdet_is_jacobian

theorem coupling_rq_inverse_logdet_is_jacobian :
    ∀ (e : Float → ℝ) (c : NF.ElCfg) (mask : List ℝ) (B : ℕ)
      (net : Array ℝ → Array ℝ) (x : Array ℝ),
      c.kind = "rq" →
        c.tails = Bool.false →
          x.size = B * mask.length →
            ∀ {b : ℕ},
              b < B →
                NF.StructureExec.RQParamsValid e c (NF.CouplingJacobian.nT e mask) 1
                    (NF.LayerDerivMore.cParams e mask B net x) B →
                  (∀ (i : Fin mask.length),
                      NF.StructureExec.isT (NF.realX e) mask i = Bool.true →
                        ∃
                          k <
                            (NF.StructureExec.rqW (NF.realX e) c
                                (NF.LayerDerivMore.chanSlice e c mask (NF.LayerDerivMore.cParams e mask B net x) b
                                  i)).length,
                          RQWhole.ys e (NF.StructureExec.rqCfgOf c)
                                (NF.StructureExec.rqH (NF.realX e) c
                                  (NF.LayerDerivMore.chanSlice e c mask (NF.LayerDerivMore.cParams e mask B net x) b i))
                                k <
                              NF.StructureExec.rowOf (NF.realX e) mask.length b x i ∧
                            NF.StructureExec.rowOf (NF.realX e) mask.length b x i <
                              RQWhole.ys e (NF.StructureExec.rqCfgOf c)
                                (NF.StructureExec.rqH (NF.realX e) c
                                  (NF.LayerDerivMore.chanSlice e c mask (NF.LayerDerivMore.cParams e mask B net x) b i))
                                (k + 1)) →
                    ∀ {L : (Fin mask.length → ℝ) →L[ℝ] Fin mask.length → ℝ},
                      HasFDerivAt (NF.CouplingJacobian.couplingRowMap e c mask B net Bool.true x b) L
                          (NF.StructureExec.rowOf (NF.realX e) mask.length b x) →
                        (NF.CouplingJacobian.couplingRun (NF.realX e) c mask B net Bool.true x).ld[b]? =
                          Option.some
                            (Real.log
                              |(LinearMap.det : ((Fin mask.length → ℝ) →ₗ[ℝ] Fin mask.length → ℝ) → ℝ)
                                  (↑L : (Fin mask.length → ℝ) →ₗ[ℝ] Fin mask.length → ℝ)|) :=
  @NF.LayerDerivInv.coupling_rq_inverse_logdet_is_jacobian

theorem coupling_rq_tails_logdet_is_jacobian :
    ∀ (e : Float → ℝ) (c : NF.ElCfg) (mask : List ℝ) (B : ℕ)
      (net : Array ℝ → Array ℝ) (x : Array ℝ),
      NF.StructureExec.RQTailsCfgValid e c →
        TailsWhole.PadExact e (NF.StructureExec.tMD c) (NF.StructureExec.tBe c) →
          ∀ (inverse : Bool),
            x.size = B * mask.length →
              ∀ {b : ℕ},
                b < B →
                  ∀ {L : (Fin mask.length → ℝ) →L[ℝ] Fin mask.length → ℝ},
                    HasFDerivAt (NF.CouplingJacobian.couplingRowMap e c mask B net inverse x b) L
                        (NF.StructureExec.rowOf (NF.realX e) mask.length b x) →
                      (NF.CouplingJacobian.couplingRun (NF.realX e) c mask B net inverse x).ld[b]? =
                        Option.some
                          (Real.log
                            |(LinearMap.det : ((Fin mask.length → ℝ) →ₗ[ℝ] Fin mask.length → ℝ) → ℝ)
                                (↑L : (Fin mask.length → ℝ) →ₗ[ℝ] Fin mask.length → ℝ)|) :=
  @NF.LayerDerivInv.coupling_rq_tails_logdet_is_jacobian

theorem coupling_rq_tails_inverse_logdet_is_jacobian :
    ∀ (e : Float → ℝ) (c : NF.ElCfg) (mask : List ℝ) (B : ℕ)
      (net : Array ℝ → Array ℝ) (x : Array ℝ),
      NF.StructureExec.RQTailsCfgValid e c →
        TailsWhole.PadExact e (NF.StructureExec.tMD c) (NF.StructureExec.tBe c) →
          x.size = B * mask.length →
            ∀ {b : ℕ},
              b < B →
                ∀ {L : (Fin mask.length → ℝ) →L[ℝ] Fin mask.length → ℝ},
                  HasFDerivAt (NF.CouplingJacobian.couplingRowMap e c mask B net Bool.true x b) L
                      (NF.StructureExec.rowOf (NF.realX e) mask.length b x) →
                    (NF.CouplingJacobian.couplingRun (NF.realX e) c mask B net Bool.true x).ld[b]? =
                      Option.some
                        (Real.log
                          |(LinearMap.det : ((Fin mask.length → ℝ) →ₗ[ℝ] Fin mask.length → ℝ) → ℝ)
                              (↑L : (Fin mask.length → ℝ) →ₗ[ℝ] Fin mask.length → ℝ)|) :=
  fun e c mask B net x hc hp hx _ hb _ hL =>
    NF.LayerDerivInv.coupling_rq_tails_logdet_is_jacobian e c mask B net x hc hp true hx hb hL

/-- **C01 / C02, bounded piecewise-QUADRATIC coupling layer, INVERSE pass**: every transformed entry of row `b` strictly
    inside an OUTPUT (cdf) bin `quadYk k < y_i < quadYk (k+1)` of its own spline -/
theorem coupling_quadratic_inverse_logdet_is_jacobian :
    ∀ (e : Float → ℝ) (c : NF.ElCfg) (mask : List ℝ)
      (B : ℕ) (net : Array ℝ → Array ℝ) (x : Array ℝ),
      c.kind = "quad" →
        c.tails = Bool.false →
          e (NF.boxLog (NF.StructureExec.quadCfgOf c).box) =
              Real.log
                ((e (NF.StructureExec.quadCfgOf c).box.top - e (NF.StructureExec.quadCfgOf c).box.bottom) /
                  (e (NF.StructureExec.quadCfgOf c).box.right - e (NF.StructureExec.quadCfgOf c).box.left)) →
            x.size = B * mask.length →
              ∀ {b : ℕ},
                b < B →
                  NF.StructureExec.QuadParamsValid e c (NF.CouplingJacobian.nT e mask) 1
                      (NF.LayerDerivMore.cParams e mask B net x) B →
                    (∀ (i : Fin mask.length),
                        NF.StructureExec.isT (NF.realX e) mask i = Bool.true →
                          ∃
                            k <
                              (NF.StructureExec.quadW (NF.realX e) c
                                  (NF.LayerDerivMore.chanSlice e c mask (NF.LayerDerivMore.cParams e mask B net x) b
                                    i)).length,
                            NF.LayerDerivInv.quadYk e c
                                  (NF.LayerDerivMore.chanSlice e c mask (NF.LayerDerivMore.cParams e mask B net x) b i) k <
                                NF.StructureExec.rowOf (NF.realX e) mask.length b x i ∧
                              NF.StructureExec.rowOf (NF.realX e) mask.length b x i <
                                NF.LayerDerivInv.quadYk e c
                                  (NF.LayerDerivMore.chanSlice e c mask (NF.LayerDerivMore.cParams e mask B net x) b i)
                                  (k + 1)) →
                      ∀ {L : (Fin mask.length → ℝ) →L[ℝ] Fin mask.length → ℝ},
                        HasFDerivAt (NF.CouplingJacobian.couplingRowMap e c mask B net Bool.true x b) L
                            (NF.StructureExec.rowOf (NF.realX e) mask.length b x) →
                          (NF.CouplingJacobian.couplingRun (NF.realX e) c mask B net Bool.true x).ld[b]? =
                            Option.some
                              (Real.log
                                |(LinearMap.det : ((Fin mask.length → ℝ) →ₗ[ℝ] Fin mask.length → ℝ) → ℝ)
                                    (↑L : (Fin mask.length → ℝ) →ₗ[ℝ] Fin mask.length → ℝ)|) :=
  fun e c mask B net x hk ht hbl hx b hb hv hbin _ hL =>
    NF.LayerDerivMore.coupling_logdet_of_elLawAt e c mask B net x hk (by decide) (by decide) true hx hb hL fun i hi =>
      let ⟨k, hkK, h0, h1⟩ := hbin i hi
      NF.LayerDerivInv.quad_inv_elLawAt e c hk ht _ (hv b _ 0 hb (NF.CouplingJacobian.tpos_lt e mask i hi) Nat.one_pos) hbl k hkK _ h0 h1

/-- **C01 / C02, bounded piecewise-CUBIC coupling layer, INVERSE pass**, under the branch conditions of the whole-program
    inverse theorem: the literals of the root formulas are read exactly (`InvConsts`) and no bin of any slice takes the
    approximate quadratic fallback (`CubicLayers.CubicParamsExact`); every transformed entry of row `b` in the OPEN output
    box `(bottom, top)` (y-knots allowed) -/
theorem coupling_cubic_inverse_logdet_is_jacobian :
    ∀ (e : Float → ℝ) (c : NF.ElCfg) (mask : List ℝ) (B : ℕ)
      (net : Array ℝ → Array ℝ) (x : Array ℝ),
      c.kind = "cubic" →
        c.tails = Bool.false →
          CubicInverseWhole.InvConsts e (CubicLayers.cubicCfgOf c) →
            e (NF.boxLog (CubicLayers.cubicCfgOf c).box) =
                Real.log
                  ((e (CubicLayers.cubicCfgOf c).box.top - e (CubicLayers.cubicCfgOf c).box.bottom) /
                    (e (CubicLayers.cubicCfgOf c).box.right - e (CubicLayers.cubicCfgOf c).box.left)) →
              x.size = B * mask.length →
                ∀ {b : ℕ},
                  b < B →
                    CubicLayers.CubicParamsExact e c (NF.CouplingJacobian.nT e mask) 1
                        (NF.LayerDerivMore.cParams e mask B net x) B →
                      (∀ (i : Fin mask.length),
                          NF.StructureExec.isT (NF.realX e) mask i = Bool.true →
                            e (CubicLayers.cubicCfgOf c).box.bottom <
                                NF.StructureExec.rowOf (NF.realX e) mask.length b x i ∧
                              NF.StructureExec.rowOf (NF.realX e) mask.length b x i <
                                e (CubicLayers.cubicCfgOf c).box.top) →
                        ∀ {L : (Fin mask.length → ℝ) →L[ℝ] Fin mask.length → ℝ},
                          HasFDerivAt (NF.CouplingJacobian.couplingRowMap e c mask B net Bool.true x b) L
                              (NF.StructureExec.rowOf (NF.realX e) mask.length b x) →
                            (NF.CouplingJacobian.couplingRun (NF.realX e) c mask B net Bool.true x).ld[b]? =
                              Option.some
                                (Real.log
                                  |(LinearMap.det : ((Fin mask.length → ℝ) →ₗ[ℝ] Fin mask.length → ℝ) → ℝ)
                                      (↑L : (Fin mask.length → ℝ) →ₗ[ℝ] Fin mask.length → ℝ)|) :=
  fun e c mask B net x hk ht hc hbl hx b hb hv hbox _ hL =>
    NF.LayerDerivMore.coupling_logdet_of_elLawAt e c mask B net x hk (by decide) (by decide) true hx hb hL fun i hi =>
      let ⟨hv1, hv2⟩ := hv b _ 0 hb (NF.CouplingJacobian.tpos_lt e mask i hi) Nat.one_pos
      NF.LayerDerivInv.cubic_inv_elLawAt e c hk ht _ hv1 hc hv2 hbl _ (hbox i hi).1 (hbox i hi).2

theorem quad_yk_facts :
    ∀ {e : Float → ℝ} {c : NF.QCfg} {uw uh : List ℝ},
      QuadWhole.QuadValid e c uw uh →
        QuadInverseWhole.yk e c (QuadWhole.Wq e c uw) (QuadWhole.Uq e uh) 0 = e c.box.bottom ∧
          QuadInverseWhole.yk e c (QuadWhole.Wq e c uw) (QuadWhole.Uq e uh) uw.length = e c.box.top ∧
            ∀ k < uw.length,
              QuadInverseWhole.yk e c (QuadWhole.Wq e c uw) (QuadWhole.Uq e uh) k <
                QuadInverseWhole.yk e c (QuadWhole.Wq e c uw) (QuadWhole.Uq e uh) (k + 1) :=
  @NF.LayerDerivInv.quad_yk_facts

end Properties.C01
