import NflowsModel.Properties.C11
import NflowsModel.Lemmas.NaiveGauss
/-!
# C11 (continued) — the executed Gauss–Jordan elimination of `NaiveLinear`, verified

`Properties.C11.naive_roundtrip` and `Properties.C10.naive_combined_routine_agrees` (`Properties/C10V.lean`) take the result of the elimination as a
hypothesis (the specification of `torch.inverse` / `slogdet`); that hypothesis is discharged here.  `Lemmas/NaiveGauss.lean` proves, for every `n` and every real `n×n` matrix `W` with `det W ≠ 0`, about the functions the driver runs (`argmaxCol`, `gaussStep`,
`naiveLogabsdet`, `gaussInverse` of `Core/LinearFamily.lean`) and the two read-outs of them defined in the lemma files (`LinearRows.naiveWinv`,
`CachePaths.naiveCombinedInv`), at `realOps`: the matrix read off the elimination IS `W⁻¹`, the
returned log-abs-det IS `log |det W|`, the pivot chosen at every column is non-zero (no division by zero), `|∏ pivots| = |det W|`;
`gaussInverse` returns the error exactly when `det W = 0`.  Invariant: every augmented row `[a | b]` satisfies `a = b ᵥ* W`, the left
block has unit columns `< c` on the finished rows and zeros below, `|det(left block)| · |∏ pivots| = |det W|`.
`det W ≠ 0` is forced for the VALUE statements at the reals (`x / 0 = 0`, `log 0 = 0` in Lean's total arithmetic): the singular case is
the error branch of `gaussInverse`, where the library raises / returns `-inf`.
-/
set_option linter.all false
namespace Properties.C11

theorem naive_inverse_is_inverse :
    ∀ {n : ℕ} (W : Matrix (Fin n) (Fin n) ℝ),
      W.det ≠ 0 → LinearJacobian.naiveWinv DualSound.realOps n (LinearBridge.ofMat W) = LinearBridge.ofMat W⁻¹ :=
  @NaiveGauss.naive_inverse_is_inverse

theorem naive_logabsdet_is_log_abs_det :
    ∀ {n : ℕ} (W : Matrix (Fin n) (Fin n) ℝ),
      W.det ≠ 0 → NF.LF.naiveLogabsdet DualSound.realOps n (LinearBridge.ofMat W) = Real.log |W.det| :=
  @NaiveGauss.naive_logabsdet_is_log_abs_det

theorem naive_pivot_ne_zero :
    ∀ {n : ℕ} (W : Matrix (Fin n) (Fin n) ℝ),
      W.det ≠ 0 → ∀ c < n, NaiveGauss.pivot c (NaiveGauss.run W c).2.1 ≠ 0 :=
  @NaiveGauss.naive_pivot_ne_zero

theorem naive_pivots_prod :
    ∀ {n : ℕ} (W : Matrix (Fin n) (Fin n) ℝ),
      W.det ≠ 0 → |(NF.CachePaths.naivePivots DualSound.realOps n (LinearBridge.ofMat W)).prod| = |W.det| :=
  @NaiveGauss.naive_pivots_prod

theorem gaussInverse_ok :
    ∀ {n : ℕ} (W : Matrix (Fin n) (Fin n) ℝ),
      W.det ≠ 0 →
        NF.LF.gaussInverse DualSound.realOps n (LinearBridge.ofMat W) =
          Except.ok (LinearBridge.ofMat W⁻¹, NF.CachePaths.naivePivots DualSound.realOps n (LinearBridge.ofMat W)) :=
  @NaiveGauss.gaussInverse_ok

theorem gaussInverse_singular :
    ∀ {n : ℕ} (W : Matrix (Fin n) (Fin n) ℝ),
      W.det = 0 → NF.LF.gaussInverse DualSound.realOps n (LinearBridge.ofMat W) = Except.error Err.runtime :=
  @NaiveGauss.gaussInverse_singular

theorem gaussInverse_error_iff :
    ∀ {n : ℕ} (W : Matrix (Fin n) (Fin n) ℝ),
      NF.LF.gaussInverse DualSound.realOps n (LinearBridge.ofMat W) = Except.error Err.runtime ↔ W.det = 0 :=
  @NaiveGauss.gaussInverse_error_iff

theorem naive_roundtrip_executed :
    ∀ {n : ℕ} (W : Matrix (Fin n) (Fin n) ℝ),
      W.det ≠ 0 →
        ∀ (b : List ℝ),
          b.length = n →
            ∀ (x : Fin n → ℝ),
              NF.LF.naiveInverse DualSound.realOps n (LinearBridge.ofMat W) b
                  (NF.LF.naiveForward DualSound.realOps (LinearBridge.ofMat W) b [List.ofFn x]) =
                [List.ofFn x] :=
  @NaiveGauss.naive_roundtrip_executed

theorem naive_combined_executed :
    ∀ {n : ℕ} (W : Matrix (Fin n) (Fin n) ℝ),
      W.det ≠ 0 →
        NF.CachePaths.naiveCombinedInv DualSound.realOps n (LinearBridge.ofMat W) =
          Except.ok (LinearBridge.ofMat W⁻¹, Real.log |W.det|) :=
  @NaiveGauss.naive_combined_executed

end Properties.C11
