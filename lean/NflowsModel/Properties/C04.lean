import NflowsModel.Core.FlowPairing
import NflowsModel.Lemmas.Pairing
import NflowsModel.Lemmas.FlowPairing
import NflowsModel.Lemmas.ChangeOfVar
import NflowsModel.Lemmas.Pushforward
/-!
# C04 — samples and densities of a flow agree, row by row

Statements are about the executable value-level model `Core/FlowPairing.lean` (what the driver runs on tagged data,
op `c04_pair`): `Flow._sample`, `Flow.sample_and_log_prob`, `Distribution.sample_and_log_prob` as functions of the
noise tensor, for every number `R` of context rows, every `n > 0`, arbitrary row-wise transform / log-density /
embedding functions.  `get2 x i j` is entry `j` of block `i` of an `[R][n]` nested list; `Uniform x R n` says `x`
has `R` blocks of length `n`.

What is proved and what is not:
* row-by-row agreement (first sentence of the property): proved, all `R`, `n` (`flow_sample_and_log_prob_pairing`,
  `flow_sample_and_log_prob_consistent`, `..._noctx`), given C02's `ldInv = -ld ∘ inv` and `T ∘ T⁻¹ = id` as hypotheses;
* "block `i` is drawn from the density conditioned on context row `i`": proved as the pairing of noise block `i` with
  (embedded) context row `i` (`flow_sample_pairing`) + the push-forward theorems below;
* "samples follow exp(log_prob)": proved for differentiable bijections in 1-D (set form, distribution-function form,
  and `Measure.map` form) and n-D (set form): `sample_event_probability_*`, `sample_cdf_1d`, `pushforward_density_1d`.
  TRUSTED, not proved: `torch.randn` draws from the base density; the law of large numbers linking the empirical
  distribution function to these probabilities; differentiability of neural conditioners (a hypothesis).
-/
open NF.FlowPairing

namespace Properties.C04

/-! ## index algebra of the helpers (torchutils.py:30-58) -/

/-- `repeat_rows`: flat row `i·n + j` is row `i` -/
theorem repeat_rows_get {α : Type} (x : List α) (n i j : ℕ) (hi : i < x.length) (hj : j < n) :
    (repeatRows x n)[i * n + j]? = x[i]? :=
  NF.FlowPairing.repeatRows_get x n i j hi hj

/-- `merge_leading_dims(·, 2)`: flat row `i·n + j` is draw `j` of block `i` -/
theorem merge_leading_get {α : Type} (x : List (List α)) (R n i j : ℕ) (hx : Uniform x R n) (hi : i < R) (hj : j < n) :
    (mergeLeading x)[i * n + j]? = get2 x i j :=
  NF.FlowPairing.mergeLeading_get x R n i j hx hi hj

/-- `split_leading_dim(·, [-1, n])`: draw `j` of block `i` is flat row `i·n + j` -/
theorem split_leading_get {α : Type} (n : ℕ) (l : List α) (i j : ℕ) (hi : i < l.length / n) (hj : j < n) :
    get2 (splitLeading n l) i j = l[i * n + j]? :=
  NF.FlowPairing.splitLeading_get n l i j hi hj

/-- **pairing** (design-time form, `Lemmas/Pairing`): after merge + repeat_rows, flat position `i·n + j` holds
    `(noise[i][j], context[i])` — a tile (`x.repeat(n, 1)`) instead of a row repetition would put context row
    `(i·n + j) mod R` there -/
theorem pairing {α β : Type} (noise : List (List α)) (ctx : List β) (n i j : ℕ)
    (hlen : ∀ b ∈ noise, b.length = n) (hR : noise.length = ctx.length) (hi : i < ctx.length) (hj : j < n) :
    (Pairing.mergeLeading noise)[i * n + j]? = (noise[i]?).bind (fun b => b[j]?) ∧
    (Pairing.repeatRows ctx n)[i * n + j]? = ctx[i]? :=
  Pairing.pairing noise ctx n i j hlen hR hi hj

/-- the executable helpers are the ones the design-time lemmas were proved about -/
theorem helpers_agree {α : Type} (x : List α) (xs : List (List α)) (n : ℕ) :
    repeatRows x n = Pairing.repeatRows x n ∧ mergeLeading xs = Pairing.mergeLeading xs ∧
    splitLeading n x = Pairing.splitLeading n x := ⟨rfl, rfl, rfl⟩

/-! ## the flow, with a context -/

/-- `Flow.sample(n, context)`: sample `j` of block `i` is `T⁻¹(noise[i][j]; emb(context[i]))` -/
theorem flow_sample_pairing {Z X C E V : Type} (f : FlowFns Z X C E V) (ctx : List C) (R n : ℕ) (N : List (List Z))
    (hN : Uniform N R n) (hctx : ctx.length = R) (i j : ℕ) (hi : i < R) (hj : j < n) (z : Z) (c : C)
    (hz : get2 N i j = some z) (hc : ctx[i]? = some c) :
    get2 (flowSample f ctx n N) i j = some (f.tinv z (f.emb c)) :=
  sample_pairing f ctx R n N hN hctx i j hi hj z c hz hc

/-- the default `Distribution.sample_and_log_prob(n, context)`: the samples come back as they were drawn and
    `log_prob[i][j] = lp(samples[i][j]; context[i])` -/
theorem dist_sample_and_log_prob_pairing {Z E V : Type} (lp : Z → E → V) (e : List E) (R n : ℕ) (S : List (List Z))
    (hS : Uniform S R n) (he : e.length = R) (i j : ℕ) (hi : i < R) (hj : j < n) (z : Z) (c : E)
    (hz : get2 S i j = some z) (hc : e[i]? = some c) :
    get2 (distSalp lp e n S).1 i j = some z ∧ get2 (distSalp lp e n S).2 i j = some (lp z c) := by
  unfold distSalp
  exact ⟨by rw [split_merge_get S R n i j hS hi hj, hz], pipeline_get lp S e R n i j hS he hi hj z c hz hc⟩

/-- **`Flow.sample_and_log_prob(n, context)`**, every `R`, every `n`:
    `samples[i][j] = T⁻¹(N i j; emb cᵢ)` and
    `logp[i][j] = base.logp(N i j; emb cᵢ) − ldInv(N i j; emb cᵢ)` -/
theorem flow_sample_and_log_prob_pairing {Z X C E V : Type} (f : FlowFns Z X C E V) (ctx : List C) (R n : ℕ)
    (N : List (List Z)) (hN : Uniform N R n) (hctx : ctx.length = R) (i j : ℕ) (hi : i < R) (hj : j < n)
    (z : Z) (c : C) (hz : get2 N i j = some z) (hc : ctx[i]? = some c) :
    get2 (flowSalp f ctx n N).1 i j = some (f.tinv z (f.emb c)) ∧
    get2 (flowSalp f ctx n N).2 i j = some (f.sub (f.blp z (f.emb c)) (f.ldInv z (f.emb c))) :=
  salp_pairing f ctx R n N hN hctx i j hi hj z c hz hc

/-- **row-by-row agreement**: if the inverse's log-abs-det is minus the forward's at the image (C02) and the forward
    undoes the inverse (C02), the value returned for sample `(i, j)` is exactly what `log_prob` assigns to that
    sample under context row `i` -/
theorem flow_sample_and_log_prob_consistent {Z X C E : Type} (f : FlowFns Z X C E ℝ) (ctx : List C) (R n : ℕ)
    (N : List (List Z)) (hN : Uniform N R n) (hctx : ctx.length = R) (i j : ℕ) (hi : i < R) (hj : j < n) (c : C)
    (hc : ctx[i]? = some c)
    (hadd : ∀ a b, f.add a b = a + b) (hsub : ∀ a b, f.sub a b = a - b)
    (hld : ∀ z e, f.ldInv z e = - f.ld (f.tinv z e) e) (hround : ∀ z e, f.tfwd (f.tinv z e) e = z) :
    ∃ x, get2 (flowSalp f ctx n N).1 i j = some x ∧ get2 (flowSalp f ctx n N).2 i j = some (flowLogProb1 f x c) := by
  obtain ⟨z, hz⟩ := get2_lt hN hi hj
  obtain ⟨h1, h2⟩ := flow_sample_and_log_prob_pairing f ctx R n N hN hctx i j hi hj z c hz hc
  refine ⟨_, h1, ?_⟩
  rw [h2, flowLogProb1, hadd, hsub, hld, hround, sub_neg_eq_add]

/-- the two sentences of the property together for `sample`: block `i` of `Flow.sample(n, context)` consists of
    `T⁻¹(·; emb cᵢ)` applied to the `n` noise rows drawn for context row `i` (entry `j` from noise entry `(i, j)`) -/
theorem flow_sample_block {Z X C E V : Type} (f : FlowFns Z X C E V) (ctx : List C) (R n : ℕ) (N : List (List Z))
    (hN : Uniform N R n) (hctx : ctx.length = R) (i : ℕ) (hi : i < R) (c : C) (hc : ctx[i]? = some c) :
    ∀ j, j < n → ∃ z, get2 N i j = some z ∧ get2 (flowSample f ctx n N) i j = some (f.tinv z (f.emb c)) := by
  intro j hj
  obtain ⟨z, hz⟩ := get2_lt hN hi hj
  exact ⟨z, hz, flow_sample_pairing f ctx R n N hN hctx i j hi hj z c hz hc⟩

/-! ## the flow, without a context -/

theorem flow_sample_and_log_prob_pairing_noctx {Z X V : Type} (f : FlowFns0 Z X V) (N : List Z) (j : ℕ) (z : Z)
    (hz : N[j]? = some z) :
    (flowSalp0 f N).1[j]? = some (f.tinv z) ∧ (flowSalp0 f N).2[j]? = some (f.sub (f.blp z) (f.ldInv z)) := by
  simp [flowSalp0, distSalp0, hz]

theorem flow_sample_and_log_prob_consistent_noctx {Z X : Type} (f : FlowFns0 Z X ℝ) (N : List Z) (j : ℕ) (z : Z)
    (hz : N[j]? = some z) (hadd : ∀ a b, f.add a b = a + b) (hsub : ∀ a b, f.sub a b = a - b)
    (hld : ∀ z, f.ldInv z = - f.ld (f.tinv z)) (hround : ∀ z, f.tfwd (f.tinv z) = z) :
    (flowSalp0 f N).1[j]? = some (f.tinv z) ∧ (flowSalp0 f N).2[j]? = some (flowLogProb0 f (f.tinv z)) := by
  obtain ⟨h1, h2⟩ := flow_sample_and_log_prob_pairing_noctx f N j z hz
  refine ⟨h1, ?_⟩
  rw [h2, flowLogProb0, hadd, hsub, hld, hround, sub_neg_eq_add]

/-! ## the tagged instance the driver executes (op `c04_pair`) -/

theorem baseLayout_uniform (R n : ℕ) (hn : 0 < n) : Uniform (baseLayout n (List.range (R * n))) R n :=
  splitLeading_uniform n _ R hn (by simp)

theorem baseLayout_get (R n i j : ℕ) (hi : i < R) (hj : j < n) :
    get2 (baseLayout n (List.range (R * n))) i j = some (i * n + j) := by
  have hn : 0 < n := Nat.zero_lt_of_lt hj
  have hlt : i * n + j < R * n := RowMajor.lt2 hi hj
  rw [baseLayout, splitLeading_get n _ i j (by rwa [List.length_range, Nat.mul_div_cancel R hn]) hj,
    List.getElem?_range hlt]

/-- what the driver answers for `(R, n, shift)`: sample `(i, j)` was computed from flat draw `i·n + j` and context
    row `i` (embedded: `i + shift`), and so were both terms of its log-probability -/
theorem tagged_pairing (shift R n i j : ℕ) (hi : i < R) (hj : j < n) :
    get2 (taggedSalp shift R n).1 i j = some (i * n + j, i + shift) ∧
    get2 (taggedSalp shift R n).2 i j = some [i * n + j, i + shift, i * n + j, i + shift] := by
  have hn : 0 < n := by omega
  have h := flow_sample_and_log_prob_pairing (tagFns shift) (List.range R) R n (baseLayout n (List.range (R * n)))
    (baseLayout_uniform R n hn) List.length_range i j hi hj (i * n + j) i (baseLayout_get R n i j hi hj)
    (List.getElem?_range hi)
  exact h

/-! ## samples follow exp(log_prob) -/

/-- (restated from `Lemmas/ChangeOfVar`) the density `Flow.log_prob` reports is normalised, 1-D -/
theorem flow_logprob_normalised_1d (f ld logp : ℝ → ℝ)
    (hbij : Function.Bijective f) (hd : ∀ x, HasDerivAt f (Real.exp (ld x)) x)
    (hp : ∫ z, Real.exp (logp z) = 1) :
    ∫ x, Real.exp (logp (f x) + ld x) = 1 :=
  ChangeOfVar.flow_logprob_normalised_1d f ld logp hbij hd hp

/-- (restated) n-D -/
theorem flow_normalised_nd {n : ℕ} (T : (Fin n → ℝ) → (Fin n → ℝ))
    (T' : (Fin n → ℝ) → ((Fin n → ℝ) →L[ℝ] (Fin n → ℝ))) (ld : (Fin n → ℝ) → ℝ) (p : (Fin n → ℝ) → ℝ)
    (hbij : Function.Bijective T) (hd : ∀ x, HasFDerivAt T (T' x) x)
    (hld : ∀ x, |(T' x).det| = Real.exp (ld x)) (hp : ∫ z, p z = 1) :
    ∫ x, p (T x) * Real.exp (ld x) = 1 :=
  ChangeOfVar.flow_normalised_nd T T' ld p hbij hd hld hp

/-- 1-D: for every measurable event `A`, P(sample ∈ A) = ∫_A exp(log_prob) -/
theorem sample_event_probability_1d (T Tinv ld logp : ℝ → ℝ)
    (hl : ∀ x, Tinv (T x) = x) (hr : ∀ z, T (Tinv z) = z)
    (hd : ∀ x, HasDerivAt T (Real.exp (ld x)) x) (A : Set ℝ) (hA : MeasurableSet A) :
    ∫ z in Tinv ⁻¹' A, Real.exp (logp z) = ∫ x in A, Real.exp (logp (T x) + ld x) := by
  simp_rw [Real.exp_add]
  exact Pushforward.sample_event_probability_1d T Tinv ld (fun z => Real.exp (logp z)) hl hr hd A hA

/-- 1-D: the distribution function of the samples is the integral of `exp(log_prob)` — what the empirical
    distribution function converges to (law of large numbers: trusted) -/
theorem sample_cdf_1d (T Tinv ld logp : ℝ → ℝ)
    (hl : ∀ x, Tinv (T x) = x) (hr : ∀ z, T (Tinv z) = z)
    (hd : ∀ x, HasDerivAt T (Real.exp (ld x)) x) (t : ℝ) :
    ∫ z in {z | Tinv z ≤ t}, Real.exp (logp z) = ∫ x in Set.Iic t, Real.exp (logp (T x) + ld x) :=
  sample_event_probability_1d T Tinv ld logp hl hr hd (Set.Iic t) measurableSet_Iic

/-- n-D, set form -/
theorem sample_event_probability_nd {n : ℕ} (T Tinv : (Fin n → ℝ) → (Fin n → ℝ))
    (T' : (Fin n → ℝ) → ((Fin n → ℝ) →L[ℝ] (Fin n → ℝ))) (ld p : (Fin n → ℝ) → ℝ)
    (hl : ∀ x, Tinv (T x) = x) (hr : ∀ z, T (Tinv z) = z)
    (hd : ∀ x, HasFDerivAt T (T' x) x) (hld : ∀ x, |(T' x).det| = Real.exp (ld x))
    (A : Set (Fin n → ℝ)) (hA : MeasurableSet A) :
    ∫ z in Tinv ⁻¹' A, p z = ∫ x in A, p (T x) * Real.exp (ld x) :=
  Pushforward.sample_event_probability_nd T Tinv T' ld p hl hr hd hld A hA

/-- 1-D, measure form: the law of `T⁻¹ z`, `z ~ p`, is the measure with density `p (T x) · exp (ld x)` -/
theorem pushforward_density_1d (T Tinv ld : ℝ → ℝ) (p : ℝ → ENNReal)
    (hl : ∀ x, Tinv (T x) = x) (hr : ∀ z, T (Tinv z) = z)
    (hd : ∀ x, HasDerivAt T (Real.exp (ld x)) x) (hTinv : Measurable Tinv) :
    MeasureTheory.Measure.map Tinv (MeasureTheory.volume.withDensity p)
      = MeasureTheory.volume.withDensity (fun x => ENNReal.ofReal (Real.exp (ld x)) * p (T x)) :=
  Pushforward.map_withDensity_1d T Tinv _ ld p hl hr hd (fun _ => abs_of_pos (Real.exp_pos _)) hTinv

/-! ## non-vacuity -/

/-- a conditional shift flow `x = z − emb c` (`ld = emb c`, `emb c = 2c`) satisfies the C02 hypotheses of the consistency theorem,
    and its samples depend on the context -/
example : ∃ f : FlowFns ℝ ℝ ℝ ℝ ℝ,
    (∀ a b, f.add a b = a + b) ∧ (∀ a b, f.sub a b = a - b) ∧
    (∀ z e, f.ldInv z e = - f.ld (f.tinv z e) e) ∧ (∀ z e, f.tfwd (f.tinv z e) e = z) ∧
    f.tinv 1 0 ≠ f.tinv 1 1 :=
  ⟨{ emb := fun c => 2 * c, tinv := fun z e => z - e, ldInv := fun _ e => -e, tfwd := fun x e => x + e,
     ld := fun _ e => e, blp := fun z e => -(z - e) ^ 2, add := (· + ·), sub := (· - ·) },
   fun _ _ => rfl, fun _ _ => rfl, fun _ _ => rfl, fun z e => by simp, by norm_num⟩

example : Uniform [[1, 2, 3], [4, 5, 6]] 2 3 := ⟨rfl, by simp⟩
example : (taggedSalp 100 2 3).1 = [[(0, 100), (1, 100), (2, 100)], [(3, 101), (4, 101), (5, 101)]] := by decide
/-- the identity `x ↦ x` (ld = 0) meets the hypotheses of the push-forward theorems -/
example : ∀ x : ℝ, HasDerivAt (fun x : ℝ => x) (Real.exp ((fun _ => (0:ℝ)) x)) x := by
  intro x; simpa using hasDerivAt_id' x

end Properties.C04
