import NflowsModel.Properties.C20
import NflowsModel.Lemmas.DetL
import NflowsModel.Lemmas.SplitInfer
/-!
# C20 (continued) — the executed determinant for every size, and the complete `split_leading_dim` contract

* `Properties.C20.detL_small` covers `n ≤ 3`; here the executed Laplace expansion `detL` (what the driver op
  `c20.logabsdet` evaluates, exactly, on integer matrices) is `Matrix.det` for EVERY `n`, with no well-shapedness
  hypothesis (missing entries read as zeros), and `log |detL|` is `logabsdetR` of the denoted real matrix — so
  `logabsdet_spec` applies to it verbatim.
* `split_merge_id_infer_partial` needs `0 < prod(shape[1:])`; here the `-1` inference is characterised completely
  (`Accepts`: exactly when `split_leading_dim` returns, every failure a RuntimeError) and the round trip is stated
  without that hypothesis: merging always succeeds and gives `x` back iff the trailing block is non-empty or the explicit
  split multiplies to `shape[0]` (torch accepts ANY reshape between 0-element shapes; `split_empty_witness`).
-/
namespace Properties.C20
open NF NF.TU NF.DetL NF.SplitInfer

/-- the executed integer determinant is `Matrix.det`, every size -/
theorem detL_is_det (n : ℕ) (M : Matrix (Fin n) (Fin n) ℤ) :
    detL n (List.ofFn fun i => List.ofFn fun j => M i j) = M.det := detL_eq_det n M

/-- … for any list of rows (short rows / missing rows read as zeros) -/
theorem detL_is_det_of_rows (n : ℕ) (m : List (List ℤ)) :
    detL n m = Matrix.det (Matrix.of fun i j : Fin n => (m.getD i []).getD j 0) := detL_eq_det_toMat n m

/-- what the driver op returns on the row-major request data `d` of an `n × n` matrix -/
theorem detL_of_request (n : ℕ) (d : List ℤ) (hd : d.length = n * n) :
    detL n (chunk20 n d) = Matrix.det (Matrix.of fun i j : Fin n => d.getD (i * n + j) 0) := detL_chunk20 n d hd

/-- `logabsdet` on the executed determinant, every size: `exp (log |detL|) = |det|` of the denoted real matrix, and the
    sign of the matrix is invisible (non-singular input; `Float.log 0 = -inf` while `Real.log 0 = 0`) -/
theorem logabsdet_executed (n : ℕ) (m : List (List ℤ)) (h : detL n m ≠ 0) :
    Real.exp (logabsdetL n m) = |((detL n m : ℤ) : ℝ)| ∧ Real.exp (logabsdetL n m) = |(toMatR n m).det| ∧
    Real.exp (Real.log |((detL n m : ℤ) : ℝ)|) = |(toMatR n m).det| ∧
    logabsdetR (-(toMatR n m)) = logabsdetL n m := logabsdetL_spec n m h

theorem logabsdet_executed_eq (n : ℕ) (m : List (List ℤ)) : logabsdetL n m = logabsdetR (toMatR n m) :=
  logabsdetL_eq n m

/-- the algebra transfers: multiplicative, transpose-invariant, product of the diagonal on triangular matrices -/
theorem detL_algebra {n : ℕ} (A B : Matrix (Fin n) (Fin n) ℤ) :
    detL n (ofMat (A * B)) = detL n (ofMat A) * detL n (ofMat B) ∧
    detL n (transposeRows (ofMat A) n) = detL n (ofMat A) ∧
    ((∀ i j, j < i → A i j = 0) → detL n (ofMat A) = ∏ i, A i i) :=
  ⟨detL_mul n _ _ _ (by rw [toMat_ofMat, toMat_ofMat, toMat_ofMat]), detL_transpose (ofMat_wellShaped A), detL_upperTriangular A⟩

variable {α : Type}

/-- `split_leading_dim(x, sh)` returns exactly on `Accepts`, and every failure is a RuntimeError -/
theorem split_returns_iff (x : T α) (s0 : ℕ) (tail : List ℕ) (sh : List Int) (hx : x.shape = s0 :: tail) :
    ((∃ y, splitLeading x sh = .ok y) ↔ Accepts s0 tail sh) ∧
    (splitLeading x sh = .error .runtime ↔ ¬ Accepts s0 tail sh) :=
  ⟨splitLeading_ok_iff x s0 tail sh hx, splitLeading_error_iff x s0 tail sh hx⟩

/-- FULL form of `split_merge_id_infer_partial` (no `0 < prod(shape[1:])`): data kept, shape `s ++ shape[1:]`, merge always
    succeeds, and returns `x` itself iff the trailing block is non-empty or the explicit entries multiply to `shape[0]` -/
theorem split_merge_id_infer (x y : T α) (s0 : ℕ) (tail : List ℕ) (sh : List Int) (hx : x.shape = s0 :: tail)
    (hsh : sh ≠ []) (h : splitLeading x sh = .ok y) :
    y.data = x.data ∧
    (∃ s : List ℕ, s.length = sh.length ∧ y.shape = s ++ tail ∧ prodL s * prodL tail = s0 * prodL tail ∧
      mergeLeading y (.int sh.length) = .ok ⟨prodL s :: tail, x.data⟩ ∧
      (mergeLeading y (.int sh.length) = .ok x ↔ prodL s = s0)) ∧
    (mergeLeading y (.int sh.length) = .ok x ↔ (0 < prodL tail ∨ explProd sh = s0)) :=
  NF.SplitInfer.split_merge_id_infer x y s0 tail sh hx hsh h

/-- the 0-element corner, evaluated: `-1` raises, a wrong explicit split is accepted and does not merge back -/
theorem split_empty_witness :
    splitLeading (⟨[6, 0], []⟩ : T Int) [-1, 3] = .error .runtime ∧
    splitLeading (⟨[6, 0], []⟩ : T Int) [2, 2] = .ok ⟨[2, 2, 0], []⟩ ∧
    mergeLeading (⟨[2, 2, 0], []⟩ : T Int) (.int 2) = .ok ⟨[4, 0], []⟩ ∧
    splitLeading (⟨[6, 0], []⟩ : T Int) [2, 3] = .ok ⟨[2, 3, 0], []⟩ ∧
    mergeLeading (⟨[2, 3, 0], []⟩ : T Int) (.int 2) = .ok ⟨[6, 0], []⟩ ∧
    splitLeading (⟨[6, 2], [1, 2, 3, 4, 5, 6, 7, 8, 9, 10, 11, 12]⟩ : T Int) [-1, 3] =
      .ok ⟨[2, 3, 2], [1, 2, 3, 4, 5, 6, 7, 8, 9, 10, 11, 12]⟩ := by decide

example : detL 5 [[2, 0, 1, 3, 1], [1, 1, 0, 0, -2], [0, 5, 1, 2, 0], [7, 0, 0, 2, 1], [1, -1, 3, 0, 4]] = 547 := by
  decide +kernel

end Properties.C20
