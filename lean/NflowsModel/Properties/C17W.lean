import NflowsModel.Properties.C17
import NflowsModel.Lemmas.BatchErr
import NflowsModel.Lemmas.WellDefined
/-!
# C17 (continued) — "never fail" as well-definedness, batch-level rejection, tails for every family

Over ℝ `.ok` only says that no explicit error branch is taken (`Real.log 0 = 0`, `x/0 = 0`).  `…_well_defined`: on the closed in-domain box every logarithm argument the executed program forms is `> 0`, every divisor `≠ 0`, every
square-root argument `≥ 0` — RQ, quadratic, linear in both directions, cubic forward.  For the cubic INVERSE the full statement is
FALSE, and two theorems say where, with accepted configurations: linear bins divide by the zero cubic coefficient (rescued by the
quadratic fallback; recorded findings F24/F25), and the Cardano branch forms `log|0|` inside `cbrt` whenever `delta1 = 0` — on a one-bin
configuration for EVERY in-domain input; replayed on the code: values correct, every gradient NaN (listed under F25).
What the two statements say: `cubic_inverse_divides_by_zero` — on a two-bin accepted configuration the cubic coefficient `aK` of the searched
bin is `0` for every in-domain `y`; `cubic_inverse_cardano_log_zero` — on a one-bin accepted configuration the fallback is not taken, the
discriminant is negative and one of the two cube-root arguments `(−δ₁ ± √(−disc))/2` is exactly `0`.  That the executed program divides by
`aK` and that `cbrt` takes `log|·|` of its argument is read off `Core/Spline.lean`; it is not part of the statements.
Batch level: a layer reports error `e` iff some element's program returns it and everything before it ran; for the
linear family `err = some outsideDomain ↔ ∃ element outside`.  Tails: quadratic / cubic / linear with linear tails are
total at the element level and their coupling layers never raise (quadratic needs `2 ≤ K`: finding F27; the cubic coupling-layer
statement is `CubicLayers.coupling_cubic_tails_err_none` in `Lemmas/CubicLayers.lean`).
-/
set_option linter.all false
namespace Properties.C17

theorem rq_forward_well_defined :
    ∀ {e : Float → ℝ} {c : NF.RQCfg} {uw uh ud : List ℝ},
      RQWhole.RQValid e c uw uh ud →
        ∀ (x : ℝ), e c.box.left ≤ x → x ≤ e c.box.right → NF.WellDefined.RQ.RQFwdWellDefined e c uw uh ud x :=
  fun hv => NF.WellDefined.RQ.rq_forward_well_defined hv

theorem rq_inverse_well_defined :
    ∀ {e : Float → ℝ} {c : NF.RQCfg} {uw uh ud : List ℝ},
      RQWhole.RQValid e c uw uh ud →
        ∀ (y : ℝ), e c.box.bottom ≤ y → y ≤ e c.box.top → NF.WellDefined.RQ.RQInvWellDefined e c uw uh ud y :=
  fun hv => NF.WellDefined.RQ.rq_inverse_well_defined hv

theorem quad_forward_well_defined :
    ∀ {e : Float → ℝ} {c : NF.QCfg} {uw uh : List ℝ},
      QuadWhole.QuadValid e c uw uh →
        ∀ (x : ℝ), e c.box.left ≤ x → x ≤ e c.box.right → WellDefinedQuad.QuadFwdWellDefined e c uw uh x :=
  fun hv => WellDefinedQuad.quad_forward_well_defined hv

theorem quad_inverse_well_defined :
    ∀ {e : Float → ℝ} {c : NF.QCfg} {uw uh : List ℝ},
      QuadWhole.QuadValid e c uw uh →
        ∀ (y : ℝ), e c.box.bottom ≤ y → y ≤ e c.box.top → WellDefinedQuad.QuadInvWellDefined e c uw uh y :=
  fun hv => WellDefinedQuad.quad_inverse_well_defined hv

theorem lin_forward_well_defined :
    ∀ {e : Float → ℝ} {box : NF.Box} {eps : Float} {up : List ℝ},
      LinWhole.LinValid e box eps up →
        ∀ (x : ℝ), e box.left ≤ x → x ≤ e box.right → NF.WellDefined.Lin.LinFwdWellDefined e box eps up x :=
  fun hv => NF.WellDefined.Lin.lin_forward_well_defined hv

theorem lin_inverse_well_defined :
    ∀ {e : Float → ℝ} {box : NF.Box} {eps : Float} {up : List ℝ},
      LinWhole.LinValid e box eps up →
        ∀ (y : ℝ), e box.bottom ≤ y → y ≤ e box.top → NF.WellDefined.Lin.LinInvWellDefined e box eps up y :=
  fun hv => NF.WellDefined.Lin.lin_inverse_well_defined hv

theorem cubic_forward_well_defined :
    ∀ {e : Float → ℝ} {c : NF.CCfg} {uw uh : List ℝ},
      CubicWhole.CubicValid e c uw uh →
        ∀ (udl udr x : ℝ),
          e c.box.left ≤ x → x ≤ e c.box.right → NF.WellDefined.Cubic.CubicFwdWellDefined e c uw uh udl udr x :=
  fun hv => NF.WellDefined.Cubic.cubic_forward_well_defined hv

theorem cubic_inverse_well_defined_partial :
    ∀ {e : Float → ℝ} {c : NF.CCfg} {uw uh : List ℝ},
      CubicWhole.CubicValid e c uw uh →
        ∀ (udl udr y : ℝ),
          e c.box.bottom ≤ y → y ≤ e c.box.top → NF.WellDefined.Cubic.CubicInvWellDefinedPartial e c uw uh udl udr y :=
  fun hv => NF.WellDefined.Cubic.cubic_inverse_well_defined_partial hv

theorem cubic_inverse_divides_by_zero :
    ∀ (y : ℝ),
      0 ≤ y →
        y ≤ 1 →
          CubicWhole.aK CubicInverseWhole.eI CubicWhole.cNV [0, 0] [0, 0] (-Real.log 2) (-Real.log 2)
              (CubicInverseWhole.idxH CubicInverseWhole.eI CubicWhole.cNV [0, 0]
                (CubicInverseWhole.yn CubicInverseWhole.eI CubicWhole.cNV y)) =
            0 :=
  fun y h0 h1 => (NF.WellDefined.Cubic.ia_zero_all_inputs y h0 h1).1

theorem cubic_inverse_cardano_log_zero :
    ∀ (y : ℝ),
      0 ≤ y →
        y ≤ 1 →
          have i :=
            CubicInverseWhole.idxH CubicInverseWhole.eI CubicWhole.cNV [0]
              (CubicInverseWhole.yn CubicInverseWhole.eI CubicWhole.cNV y);
          have ia := CubicWhole.aK CubicInverseWhole.eI CubicWhole.cNV [0] [0] (-Real.log 6) (Real.log (4 / 3)) i;
          have ib := CubicWhole.bK CubicInverseWhole.eI CubicWhole.cNV [0] [0] (-Real.log 6) (Real.log (4 / 3)) i;
          have ic := CubicWhole.dv CubicInverseWhole.eI CubicWhole.cNV [0] [0] (-Real.log 6) (Real.log (4 / 3)) i;
          have id := CubicWhole.chs CubicInverseWhole.eI CubicWhole.cNV [0] i;
          CubicInverseWhole.fallback (NF.realX CubicInverseWhole.eI) CubicWhole.cNV ia
                (CubicWhole.cws CubicInverseWhole.eI CubicWhole.cNV [0] i)
                (CubicWhole.cws CubicInverseWhole.eI CubicWhole.cNV [0] (i + 1))
                (CubicWhole.hv CubicInverseWhole.eI CubicWhole.cNV [0] i) =
              Bool.false ∧
            CubicRoots.disc (ib / ia / 3) (ic / ia / 3)
                  ((id - CubicInverseWhole.yn CubicInverseWhole.eI CubicWhole.cNV y) / ia) <
                0 ∧
              ((-CubicRoots.dep1 (ib / ia / 3) (ic / ia / 3)
                          ((id - CubicInverseWhole.yn CubicInverseWhole.eI CubicWhole.cNV y) / ia) +
                      √(-CubicRoots.disc (ib / ia / 3) (ic / ia / 3)
                            ((id - CubicInverseWhole.yn CubicInverseWhole.eI CubicWhole.cNV y) / ia))) /
                    2 =
                  0 ∨
                (-CubicRoots.dep1 (ib / ia / 3) (ic / ia / 3)
                          ((id - CubicInverseWhole.yn CubicInverseWhole.eI CubicWhole.cNV y) / ia) -
                      √(-CubicRoots.disc (ib / ia / 3) (ic / ia / 3)
                            ((id - CubicInverseWhole.yn CubicInverseWhole.eI CubicWhole.cNV y) / ia))) /
                    2 =
                  0) :=
  @NF.WellDefined.cubic_inverse_cardano_log_zero

theorem cdf_layer_err_some_iff :
    ∀ {α : Type} (o : XOps α) (c : NF.ElCfg) (B n : ℕ) (x params : Array α) (inv : Bool)
      (e : Err),
      (NF.cdfApply o c B n x params inv).err = Option.some e ↔
        ∃ (b : ℕ) (i : ℕ),
          b < B ∧
            i < n ∧
              NF.cdfEl o c n x params inv b i = Except.error e ∧
                ∀ (b' i' : ℕ),
                  b' < B →
                    i' < n →
                      NF.BatchErr.Lex2 b' i' b i → ∃ (v : α × α × List α), NF.cdfEl o c n x params inv b' i' = Except.ok v :=
  fun o _ B n _ _ _ e => NF.BatchErr.elemwise_err_some_iff o B n _ e

theorem ar_layer_err_some_iff :
    ∀ {α : Type} (o : XOps α) (c : NF.ElCfg) (B F : ℕ) (x params : Array α) (inv : Bool)
      (e : Err),
      (NF.arApply o c B F x params inv).err = Option.some e ↔
        ∃ (b : ℕ) (i : ℕ),
          b < B ∧
            i < F ∧
              NF.arEl o c F x params inv b i = Except.error e ∧
                ∀ (b' i' : ℕ),
                  b' < B →
                    i' < F →
                      NF.BatchErr.Lex2 b' i' b i → ∃ (v : α × α × List α), NF.arEl o c F x params inv b' i' = Except.ok v :=
  fun o _ B F _ _ _ e => NF.BatchErr.elemwise_err_some_iff o B F _ e

theorem coupling_layer_err_some_iff :
    ∀ {α : Type} (o : XOps α) (c : NF.ElCfg) (mask : List α) (B S : ℕ)
      (x params : Array α) (inverse : Bool) (uparams : Array α) (e : Err),
      (NF.couplingApply o c mask B S x params inverse Option.none uparams).err = Option.some e ↔
        ∃ (b : ℕ) (t : ℕ) (s : ℕ),
          b < B ∧
            t < (NF.transformIdx o mask).length ∧
              s < S ∧
                NF.BatchErr.condElAt o c mask S x params inverse b t s = Except.error e ∧
                  ∀ (b' t' s' : ℕ),
                    b' < B →
                      t' < (NF.transformIdx o mask).length →
                        s' < S →
                          NF.BatchErr.Lex3 b' t' s' b t s →
                            ∃ (v : α × α × List α), NF.BatchErr.condElAt o c mask S x params inverse b' t' s' = Except.ok v :=
  @NF.BatchErr.coupling_err_some_iff_el

theorem coupling_lin_layer_rejects_iff :
    ∀ {e : Float → ℝ} {c : NF.ElCfg},
      NF.BatchErr.LinCfgValid e c →
        ∀ (mask : List ℝ) (B S : ℕ) (x params uparams : Array ℝ) (inv : Bool),
          ((NF.couplingApply (NF.realX e) c mask B S x params inv Option.none uparams).err = Option.some Err.outsideDomain ↔
              ∃ (b : ℕ) (t : ℕ) (s : ℕ),
                b < B ∧
                  t < (NF.transformIdx (NF.realX e) mask).length ∧
                    s < S ∧
                      (NF.BatchErr.condIn (NF.realX e) mask S x b t s < e (NF.BatchErr.loF c inv) ∨
                        e (NF.BatchErr.hiF c inv) < NF.BatchErr.condIn (NF.realX e) mask S x b t s)) ∧
            ((NF.couplingApply (NF.realX e) c mask B S x params inv Option.none uparams).err = Option.none ↔
                ∀ (b t s : ℕ),
                  b < B →
                    t < (NF.transformIdx (NF.realX e) mask).length →
                      s < S →
                        e (NF.BatchErr.loF c inv) ≤ NF.BatchErr.condIn (NF.realX e) mask S x b t s ∧
                          NF.BatchErr.condIn (NF.realX e) mask S x b t s ≤ e (NF.BatchErr.hiF c inv)) ∧
              ∀ (er : Err),
                (NF.couplingApply (NF.realX e) c mask B S x params inv Option.none uparams).err = Option.some er →
                  er = Err.outsideDomain :=
  @NF.BatchErr.coupling_lin_err_iff

theorem cdf_lin_layer_rejects_iff :
    ∀ {e : Float → ℝ} {c : NF.ElCfg},
      NF.BatchErr.LinCfgValid e c →
        ∀ (B n : ℕ) (x params : Array ℝ) (inv : Bool),
          ((NF.cdfApply (NF.realX e) c B n x params inv).err = Option.some Err.outsideDomain ↔
              ∃ (b : ℕ) (i : ℕ),
                b < B ∧
                  i < n ∧
                    (x.getD (b * n + i) 0 < e (NF.BatchErr.loF c inv) ∨ e (NF.BatchErr.hiF c inv) < x.getD (b * n + i) 0)) ∧
            ((NF.cdfApply (NF.realX e) c B n x params inv).err = Option.none ↔
                ∀ (b i : ℕ),
                  b < B →
                    i < n →
                      e (NF.BatchErr.loF c inv) ≤ x.getD (b * n + i) 0 ∧ x.getD (b * n + i) 0 ≤ e (NF.BatchErr.hiF c inv)) ∧
              ∀ (er : Err), (NF.cdfApply (NF.realX e) c B n x params inv).err = Option.some er → er = Err.outsideDomain :=
  @NF.BatchErr.cdf_lin_err_iff

theorem quad_tails_total :
    ∀ {e : Float → ℝ} (tb mW mH : Float) (uw uh : List ℝ),
      QuadWhole.QuadValidT e (TailsWhole.qcfgT tb mW mH) uw uh →
        e (-tb) = -e tb →
          ∀ (x : ℝ),
            (∃ (r : ℝ × ℝ),
                (NF.tailsWrap (NF.realX e) tb x fun (box : NF.Box) =>
                    NF.quadSpline (NF.realX e) { box := box, minW := mW, minH := mH } uw uh Bool.false x) =
                  Except.ok r) ∧
              ∃ (r : ℝ × ℝ),
                (NF.tailsWrap (NF.realX e) tb x fun (box : NF.Box) =>
                    NF.quadSpline (NF.realX e) { box := box, minW := mW, minH := mH } uw uh Bool.true x) =
                  Except.ok r :=
  fun _ _ _ _ _ hv hneg x =>
    ⟨⟨_, TailsWhole.wrap_total (TailsWhole.quad_wrapPair hv hneg).valid x⟩,
      ⟨_, TailsWhole.wrap_total (TailsWhole.quad_wrapPair hv hneg).validI x⟩⟩

theorem lin_tails_total :
    ∀ {e : Float → ℝ} (tb eps : Float) (up : List ℝ),
      LinWhole.LinValid e (TailsWhole.tbox tb) eps up →
        e (-tb) = -e tb →
          ∀ (x : ℝ),
            (∃ (r : ℝ × ℝ),
                (NF.tailsWrap (NF.realX e) tb x fun (box : NF.Box) => NF.linSpline (NF.realX e) box eps up Bool.false x) =
                  Except.ok r) ∧
              ∃ (r : ℝ × ℝ),
                (NF.tailsWrap (NF.realX e) tb x fun (box : NF.Box) => NF.linSpline (NF.realX e) box eps up Bool.true x) =
                  Except.ok r :=
  fun _ _ _ hv hneg x =>
    ⟨⟨_, TailsWhole.wrap_total (LinTails.lin_wrapPair hv hneg).valid x⟩,
      ⟨_, TailsWhole.wrap_total (LinTails.lin_wrapPair hv hneg).validI x⟩⟩

theorem cubic_tails_total :
    ∀ {e : Float → ℝ} (tb mW mH eps thr : Float) (uw uh : List ℝ) (udl udr : ℝ),
      CubicWhole.CubicValid e (TailsWhole.ccfgT tb mW mH eps thr) uw uh →
        e (-tb) = -e tb →
          ∀ (inverse : Bool) (x : ℝ),
            ∃ (r : ℝ × ℝ × List ℝ),
              TailsWhole.cubicTails (NF.realX e) tb mW mH eps thr uw uh udl udr inverse x = Except.ok r :=
  @NF.BatchErr.cubic_tails_total

theorem quad_tails_coupling_never_raises :
    ∀ {e : Float → ℝ} {c : NF.ElCfg},
      NF.BatchErr.QuadTailsCfgValid e c →
        ∀ (mask : List ℝ) (B S : ℕ) (x params uparams : Array ℝ) (inverse : Bool),
          (NF.couplingApply (NF.realX e) c mask B S x params inverse Option.none uparams).err = Option.none :=
  @NF.BatchErr.coupling_quad_tails_err_none

theorem lin_tails_coupling_never_raises :
    ∀ {e : Float → ℝ} {c : NF.ElCfg},
      NF.BatchErr.LinTailsCfgValid e c →
        ∀ (mask : List ℝ) (B S : ℕ) (x params uparams : Array ℝ) (inverse : Bool),
          (NF.couplingApply (NF.realX e) c mask B S x params inverse Option.none uparams).err = Option.none :=
  @NF.BatchErr.coupling_lin_tails_err_none

end Properties.C17
