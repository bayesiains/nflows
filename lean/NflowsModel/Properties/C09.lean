import NflowsModel.Real.Bridge
import NflowsModel.Lemmas.Knots
import NflowsModel.Lemmas.Glue
import NflowsModel.Lemmas.SplineAssembly
import NflowsModel.Lemmas.SplineExec
import NflowsModel.Lemmas.RQBin
import NflowsModel.Lemmas.RQWhole
import NflowsModel.Lemmas.RQInverseWhole
import NflowsModel.Lemmas.CubicWhole
import NflowsModel.Lemmas.QuadWhole
import NflowsModel.Lemmas.TailsWhole
import NflowsModel.Lemmas.QuadInverseWhole
import NflowsModel.Lemmas.CubicInverseWhole
import NflowsModel.Lemmas.LinWhole
import NflowsModel.Lemmas.RQDefaultWitness
/-!
# C09 — spline transformers are increasing bijections of their box, identity in the tails

Property theorems only (helper lemmas live in `Lemmas/`).  All statements are for an arbitrary bin count `K`,
arbitrary unnormalised parameters and an arbitrary box.  Whole-line statements with linear tails are here for the RQ, quadratic
and cubic programs; the linear spline with tails has none in this file (that it never raises: `Properties.C17.lin_tails_total`).
-/
open DualSound NF

namespace Properties.C09

/-- **Knots are valid**: for any unnormalised widths `u`, floor `0 ≤ m`, `m*K ≤ 1` and box `left < right`, the
    knots computed as in the code start at `left`, end at `right` and strictly increase. -/
theorem knots_valid {K : ℕ} (u : Fin K → ℝ) (m left right : ℝ) (hK : 0 < K) (hm0 : 0 ≤ m) (hmK : m * K ≤ 1)
    (hlr : left < right) :
    Knots.knot left right (Knots.widths m u) 0 = left ∧
    Knots.knot left right (Knots.widths m u) K = right ∧
    ∀ k < K, Knots.knot left right (Knots.widths m u) k < Knots.knot left right (Knots.widths m u) (k+1) :=
  ⟨Knots.knot_zero _ _ _, Knots.knot_last _ _ _ (Knots.widths_sum u hK),
   fun k hk => Knots.knot_strict _ _ _ hlr (Knots.widths_pos u hm0 hmK) k hk⟩

/-- **Knots are valid — on the executable stage-A code itself** (`flooredSoftmax` then `rqKnots`, the list functions the
    driver runs, instantiated at the reals): for EVERY non-empty unnormalised vector `u`, floor `0 ≤ m`, `m·K ≤ 1` and
    `lo < hi` the executed knot list has `K+1` entries, starts at `lo`, ends at `hi` and strictly increases.
    (`e` interprets the Python-side double constants; the hypotheses say it does so consistently.) -/
theorem exec_knots_valid (e : Float → ℝ) (m lo hi : Float) (u : List ℝ) (hu : u ≠ [])
    (hm0 : 0 ≤ e m) (hc : e (1 - m * u.length.toFloat) = 1 - e m * u.length) (hmK : e m * u.length ≤ 1)
    (hlt : e lo < e hi) (hd : e (hi - lo) = e hi - e lo) :
    let kn := (rqKnots (NF.realX e) lo hi (flooredSoftmax (NF.realX e) m u)).1
    kn.length = u.length + 1 ∧ kn.head? = some (e lo) ∧ kn.getLast? = some (e hi) ∧ kn.Pairwise (· < ·) :=
  SplineExec.rqKnots_flooredSoftmax e lo hi m u hu hm0 hc hmK hlt hd

/-- **Linear spline cdf knots, on the executable code**: `pdf = softmax(u)`, `cdf = 0 :: setLast (cumsum pdf) 1` — for
    every non-empty unnormalised vector the executed knots start at 0, end at 1 and strictly increase (so every bin has
    positive mass and the piecewise-linear cdf is strictly increasing). -/
theorem exec_linear_cdf_valid (e : Float → ℝ) (u : List ℝ) (hu : u ≠ []) :
    let kn := (0 : ℝ) :: setLast (cumsumG (NF.realX e) (softmaxG (NF.realX e) u)) 1
    kn.length = u.length + 1 ∧ kn.head? = some 0 ∧ kn.getLast? = some 1 ∧ kn.Pairwise (· < ·) := by
  have hne : softmaxG (NF.realX e) u ≠ [] := by
    intro h; have := SplineExec.softmaxG_length e u; rw [h] at this
    exact hu (List.length_eq_zero_iff.mp this.symm)
  have := SplineExec.unitKnots_valid e (softmaxG (NF.realX e) u) hne (SplineExec.softmaxG_pos e u) (SplineExec.softmaxG_sum e u hu)
  simpa only [SplineExec.softmaxG_length] using this

/-- **Quadratic / cubic spline location knots, on the executable code**: `widths = flooredSoftmax`, `locs = 0 :: setLast
    (cumsum widths) 1` are valid for every unnormalised vector when `0 ≤ m`, `m·K ≤ 1`. -/
theorem exec_unit_locs_valid (e : Float → ℝ) (m : Float) (u : List ℝ) (hu : u ≠ [])
    (hm0 : 0 ≤ e m) (hc : e (1 - m * u.length.toFloat) = 1 - e m * u.length) (hmK : e m * u.length ≤ 1) :
    let kn := (0 : ℝ) :: setLast (cumsumG (NF.realX e) (flooredSoftmax (NF.realX e) m u)) 1
    kn.length = u.length + 1 ∧ kn.head? = some 0 ∧ kn.getLast? = some 1 ∧ kn.Pairwise (· < ·) := by
  have hv := SplineExec.flooredSoftmax_valid e m u hu hm0 hc hmK
  have hlen : (flooredSoftmax (NF.realX e) m u).length = u.length := SplineExec.flooredSoftmax_length e m u
  have hne : flooredSoftmax (NF.realX e) m u ≠ [] := fun h =>
    hu (List.eq_nil_of_length_eq_zero (by rw [← hlen, h, List.length_nil]))
  have := SplineExec.unitKnots_valid e (flooredSoftmax (NF.realX e) m u) hne hv.1 hv.2
  simpa only [hlen] using this

/-- executed softmax: positive entries summing to one, for every non-empty input -/
theorem exec_softmax_valid (e : Float → ℝ) (u : List ℝ) (hu : u ≠ []) :
    (∀ y ∈ softmaxG (NF.realX e) u, 0 < y) ∧ (softmaxG (NF.realX e) u).sum = 1 :=
  ⟨SplineExec.softmaxG_pos e u, SplineExec.softmaxG_sum e u hu⟩

/-- **Bin search**: `sum(x ≥ knots) - 1` with the last knot moved up by any `eps > 0` returns, for
    `x ∈ [x₀, x_K]`, an index `< K` whose half-open bin contains `x` (the last bin is closed). -/
theorem binSearch_spec (xs : ℕ → ℝ) (K : ℕ) (eps x : ℝ) (hK : 0 < K) (heps : 0 < eps)
    (hx : ∀ k < K, xs k < xs (k+1)) (hlo : xs 0 ≤ x) (hhi : x ≤ xs K) :
    let i := Glue.binIdx xs K eps x
    i < K ∧ xs i ≤ x ∧ (x < xs (i+1) ∨ (i + 1 = K ∧ x = xs K)) :=
  Glue.binSearch_spec xs K eps x hK heps hx hlo hhi

/-- **RQ bin, as executed**: the `Expr` term the driver evaluates is strictly increasing on its bin. -/
theorem rq_executed_strictMonoOn {xk w yk h d0 d1 : ℝ} (hw : 0 < w) (hh : 0 < h) (h0 : 0 < d0) (h1 : 0 < d1) :
    StrictMonoOn (fun x => evalR (Bridge.rqEnv x xk w yk h d0 d1) rqFwdE) (Set.Icc xk (xk + w)) :=
  RQBin.rq_executed_strictMonoOn hw hh h0 h1

/-- **RQ bin end-points, as executed**: left knot ↦ `yk`, right knot ↦ `yk + h`. -/
theorem rq_executed_endpoints {xk w yk h d0 d1 : ℝ} (hw : 0 < w) (hh : 0 < h) :
    evalR (Bridge.rqEnv xk xk w yk h d0 d1) rqFwdE = yk ∧
    evalR (Bridge.rqEnv (xk + w) xk w yk h d0 d1) rqFwdE = yk + h :=
  RQBin.rq_executed_endpoints hw hh

/-- **Cubic bin**: with knot derivatives in the Fritsch–Carlson region the Hermite derivative is positive
    on the whole bin, and the code's interior knot derivatives lie in that region. -/
theorem cubic_deriv_pos {s d0 d1 t : ℝ} (hs : 0 < s) (h0 : 0 < d0) (h0' : d0 < 3*s) (h1 : 0 < d1) (h1' : d1 < 3*s)
    (ht0 : 0 ≤ t) (ht1 : t ≤ 1) : 0 < Cubic.dpoly s d0 d1 t :=
  Cubic.dpoly_pos hs h0 h0' h1 h1' ht0 ht1

theorem cubic_knot_deriv_range {s0 s1 w0 w1 : ℝ} (hs0 : 0 < s0) (hs1 : 0 < s1) (hw0 : 0 < w0) (hw1 : 0 < w1) :
    let d := 2 * min (min s0 s1) (0.5 * (w1 * s0 + w0 * s1) / (w0 + w1))
    0 < d ∧ d < 3 * s0 ∧ d < 3 * s1 :=
  Cubic.knot_deriv_range hs0 hs1 hw0 hw1

/-- cubic bin end-points (as executed): the polynomial is 0 at the left knot and `s*w` at the right one. -/
theorem cubic_endpoints {s d0 d1 w : ℝ} (hw : 0 < w) :
    Cubic.poly s d0 d1 w 0 = 0 ∧ Cubic.poly s d0 d1 w w = s * w :=
  ⟨Cubic.poly_left, Cubic.poly_right hw⟩

/-- **Quadratic bin**: the density (derivative of the executed cdf term) is positive on the bin. -/
theorem quad_pdf_pos {hl hr α : ℝ} (h0 : 0 < hl) (h1 : 0 < hr) (a0 : 0 ≤ α) (a1 : α ≤ 1) : 0 < Quad.pdf hl hr α :=
  Quad.pdf_pos h0 h1 a0 a1

/-- **Whole spline, any family, any `K`**: bin search + per-bin formula is strictly increasing on the box and
    pins both end-points. -/
theorem spline_strictMonoOn {K : ℕ} (P : SplineAssembly.Pieces K) (eps : ℝ) (hK : 0 < K) (heps : 0 < eps) :
    StrictMonoOn (SplineAssembly.spline P eps) (Set.Icc (P.xs 0) (P.xs K)) :=
  SplineAssembly.spline_strictMonoOn P eps hK heps

theorem spline_maps_endpoints {K : ℕ} (P : SplineAssembly.Pieces K) (eps : ℝ) (hK : 0 < K) (heps : 0 < eps) :
    SplineAssembly.spline P eps (P.xs 0) = P.ys 0 ∧ SplineAssembly.spline P eps (P.xs K) = P.ys K :=
  (SplineAssembly.searched P eps hK heps).endpoints

/-- never leaves the output interval (monotone + end-points) -/
theorem spline_mapsTo_box {K : ℕ} (P : SplineAssembly.Pieces K) (eps : ℝ) (hK : 0 < K) (heps : 0 < eps)
    (x : ℝ) (hx : x ∈ Set.Icc (P.xs 0) (P.xs K)) :
    SplineAssembly.spline P eps x ∈ Set.Icc (P.ys 0) (P.ys K) := (SplineAssembly.searched P eps hK heps).mapsTo hx

/-! ## the executed rational-quadratic program as a whole (list program `rqSpline` instantiated at ℝ) -/

/-- **End to end, RQ forward**: for every accepted configuration (`RQWhole.RQValid`: `K ≥ 1`, parameter vectors of the
    right lengths, `0 ≤ min_bin_* `, `min_bin_* · K ≤ 1`, `left < right`, `bottom < top`, `eps > 0`, `0 ≤ min_derivative`,
    `β > 0`) and EVERY unnormalised parameter vectors, the value the executed program `rqSpline … false` returns is
    strictly increasing on the whole of `[left, right]` — across all bins, including the knots where the searched bin
    changes. -/
theorem rq_program_strictMonoOn (e : Float → ℝ) (c : RQCfg) (uw uh ud : List ℝ) (hv : RQWhole.RQValid e c uw uh ud) :
    StrictMonoOn (RQWhole.val e c uw uh ud) (Set.Icc (e c.box.left) (e c.box.right)) :=
  (RQWhole.searched hv).strictMonoOn

/-- … it sends the corners of the box to each other … -/
theorem rq_program_endpoints (e : Float → ℝ) (c : RQCfg) (uw uh ud : List ℝ) (hv : RQWhole.RQValid e c uw uh ud) :
    RQWhole.val e c uw uh ud (e c.box.left) = e c.box.bottom ∧ RQWhole.val e c uw uh ud (e c.box.right) = e c.box.top :=
  (RQWhole.searched hv).endpoints

/-- … and maps `[left, right]` into `[bottom, top]`. -/
theorem rq_program_mapsTo (e : Float → ℝ) (c : RQCfg) (uw uh ud : List ℝ) (hv : RQWhole.RQValid e c uw uh ud) :
    Set.MapsTo (RQWhole.val e c uw uh ud) (Set.Icc (e c.box.left) (e c.box.right)) (Set.Icc (e c.box.bottom) (e c.box.top)) :=
  (RQWhole.searched hv).mapsTo

/-- non-vacuity: the hypotheses of the three theorems above are met by a concrete configuration -/
example : RQWhole.RQValid RQWhole.eNV RQWhole.cNV [0] [0] [0, 0] := RQWhole.valid_example

/-- … and by a configuration with the library's default minima `1e-3` (3 bins on `[-3, 3]²`, non-zero parameters, every constant read
    as its decimal value): the executed RQ program is there a strictly increasing map of `[-3, 3]` with `-3 ↦ -3` (only the left corner
    is stated) -/
theorem rq_program_default_configuration :
    RQWhole.RQValid RQWhole.eH RQWhole.cH [0.3, -1.2, 2] [1, 0, -0.5] [0.1, 0.2, -3, 4] ∧
    StrictMonoOn (RQWhole.val RQWhole.eH RQWhole.cH [0.3, -1.2, 2] [1, 0, -0.5] [0.1, 0.2, -3, 4])
      (Set.Icc (RQWhole.eH RQWhole.cH.box.left) (RQWhole.eH RQWhole.cH.box.right)) ∧
    RQWhole.val RQWhole.eH RQWhole.cH [0.3, -1.2, 2] [1, 0, -0.5] [0.1, 0.2, -3, 4] (RQWhole.eH RQWhole.cH.box.left)
      = RQWhole.eH RQWhole.cH.box.bottom :=
  ⟨RQWhole.valid_default, (RQWhole.searched RQWhole.valid_default).strictMonoOn, (RQWhole.searched RQWhole.valid_default).endpoints.1⟩

/-- `RQWhole.val` IS the program's first output wherever the program succeeds (it is not a re-statement of the spline) -/
theorem rq_program_val_is_output (e : Float → ℝ) (c : RQCfg) (uw uh ud : List ℝ) (x : ℝ) (r : ℝ × ℝ)
    (h : rqSpline (NF.realX e) c uw uh ud false x = .ok r) :
    RQWhole.val e c uw uh ud x = r.1 ∧ RQWhole.ld e c uw uh ud x = r.2 := by
  simp [RQWhole.val, RQWhole.ld, h]

/-- **Tails (executable model, any scalar semantics)**: outside `[-B, B]` the unconstrained wrappers return the
    input and a zero log-abs-det, whatever the inner spline is. -/
theorem tails_identity {α : Type} (o : XOps α) (B : Float) (x : α) (inner : Box → Except Err (α × α))
    (hout : (o.ge x (o.neg (o.ofFloat B)) && o.le x (o.ofFloat B)) = false) :
    tailsWrap o B x inner = .ok (x, o.zero) :=
  TailsWhole.tailsWrap_outside o B x inner hout

theorem rq_tails_identity {α : Type} (o : XOps α) (B minW minH minD beta : Float) (uw uh ud : List α) (inv : Bool) (x : α)
    (hout : (o.ge x (o.neg (o.ofFloat B)) && o.le x (o.ofFloat B)) = false) :
    rqSplineTails o B minW minH minD beta uw uh ud inv x = .ok (x, o.zero) :=
  (TailsWhole.rqSplineTails_eq_tailsWrap o B minW minH minD beta uw uh ud inv x).trans (TailsWhole.tailsWrap_outside o B x _ hout)

/-- the padded boundary derivative constant gives slope exactly one at the tail junction:
    `min_d + softplus(log(exp(1 - min_d) - 1)) = 1` for `min_d < 1` -/
theorem boundary_derivative_one (m : ℝ) (hm : m < 1) :
    m + Real.log (1 + Real.exp (Real.log (Real.exp (1 - m) - 1))) = 1 := by
  rw [Real.exp_log (sub_pos.2 (Real.one_lt_exp_iff.2 (sub_pos.2 hm))), add_sub_cancel, Real.log_exp, add_sub_cancel]

/-! non-vacuity: the hypotheses are satisfiable by concrete non-trivial data -/
example : (0:ℝ) ≤ 1/1000 ∧ (1/1000 : ℝ) * (10:ℕ) ≤ 1 ∧ (-3:ℝ) < 3 := by norm_num
example : ∃ P : SplineAssembly.Pieces 1, P.xs 0 < P.xs 1 :=
  ⟨{ xs := fun k => k, ys := fun k => 2 * k, g := fun _ θ => 2 * θ,
     hx := fun k _ => Nat.cast_lt.2 (Nat.lt_succ_self k),
     g0 := fun _ _ => mul_zero 2,
     g1 := by intro k _; push_cast; ring,
     gmono := fun _ _ _ _ _ _ hab => mul_lt_mul_of_pos_left hab two_pos }, Nat.cast_lt.2 Nat.zero_lt_one⟩

/-- **End to end, RQ inverse**: the inverse program is a strictly increasing map of `[bottom, top]` ONTO `[left, right]`
    that pins the corners — with `rq_program_strictMonoOn/endpoints/mapsTo` the executed pair is an increasing bijection
    of the box. -/
theorem rq_program_inverse_bijection (e : Float → ℝ) (c : RQCfg) (uw uh ud : List ℝ) (hv : RQWhole.RQValid e c uw uh ud) :
    StrictMonoOn (RQInverseWhole.inv e c uw uh ud) (Set.Icc (e c.box.bottom) (e c.box.top)) ∧
    RQInverseWhole.inv e c uw uh ud '' Set.Icc (e c.box.bottom) (e c.box.top) = Set.Icc (e c.box.left) (e c.box.right) ∧
    RQInverseWhole.inv e c uw uh ud (e c.box.bottom) = e c.box.left ∧
    RQInverseWhole.inv e c uw uh ud (e c.box.top) = e c.box.right :=
  have P := RQWhole.searched hv
  have Q := RQInverseWhole.searchedInv hv
  ⟨Q.inv_strictMonoOn P, Q.inv_image P, Q.inv_endpoints P⟩

/-- knots go to knots, in both directions, for every knot index -/
theorem rq_program_knots (e : Float → ℝ) (c : RQCfg) (uw uh ud : List ℝ) (hv : RQWhole.RQValid e c uw uh ud)
    (j : ℕ) (hj : j ≤ uw.length) :
    RQWhole.val e c uw uh ud (RQWhole.xs e c uw j) = RQWhole.ys e c uh j ∧
    RQInverseWhole.inv e c uw uh ud (RQWhole.ys e c uh j) = RQWhole.xs e c uw j :=
  ⟨(RQWhole.searched hv).knot j hj, (RQInverseWhole.searchedInv hv).inv_knot (RQWhole.searched hv) j hj⟩

/-! ## the executed cubic and quadratic programs as wholes -/

/-- **End to end, cubic forward**: the value the executed program `cubicSpline … false` returns is a strictly increasing
    BIJECTION of `[left, right]` onto `[bottom, top]` pinning the corners — every `K ≥ 1`, every unnormalised parameters,
    every box; knot derivatives are shown to lie in the monotone (Fritsch–Carlson) region, the final clamp is inactive. -/
theorem cubic_program_bijection (e : Float → ℝ) (c : CCfg) (uw uh : List ℝ) (udl udr : ℝ) (hv : CubicWhole.CubicValid e c uw uh) :
    StrictMonoOn (CubicWhole.val e c uw uh udl udr) (Set.Icc (e c.box.left) (e c.box.right)) ∧
    Set.BijOn (CubicWhole.val e c uw uh udl udr) (Set.Icc (e c.box.left) (e c.box.right)) (Set.Icc (e c.box.bottom) (e c.box.top)) ∧
    CubicWhole.val e c uw uh udl udr (e c.box.left) = e c.box.bottom ∧
    CubicWhole.val e c uw uh udl udr (e c.box.right) = e c.box.top :=
  ⟨(CubicWhole.searched hv).strictMonoOn, CubicWhole.val_bijOn hv, (CubicWhole.searched hv).endpoints⟩

example : CubicWhole.CubicValid CubicWhole.eNV CubicWhole.cNV [0, 0] [0, 0] := CubicWhole.valid_example

/-- **End to end, quadratic forward, bounded shape** (`|uh| = K + 1`) -/
theorem quad_program_bijection (e : Float → ℝ) (c : QCfg) (uw uh : List ℝ) (hv : QuadWhole.QuadValid e c uw uh) :
    StrictMonoOn (QuadWhole.val e c uw uh) (Set.Icc (e c.box.left) (e c.box.right)) ∧
    Set.BijOn (QuadWhole.val e c uw uh) (Set.Icc (e c.box.left) (e c.box.right)) (Set.Icc (e c.box.bottom) (e c.box.top)) ∧
    QuadWhole.val e c uw uh (e c.box.left) = e c.box.bottom ∧ QuadWhole.val e c uw uh (e c.box.right) = e c.box.top :=
  have R := QuadInverseWhole.runs_of_valid hv
  ⟨R.searched.strictMonoOn, R.searchedInv.bijOn R.searched, R.searched.endpoints⟩

/-- **End to end, quadratic forward, tails shape** (`|uh| = K − 1`, `K ≥ 2`: the padding constant is computed by the program) -/
theorem quad_tails_program_bijection (e : Float → ℝ) (c : QCfg) (uw uh : List ℝ) (hv : QuadWhole.QuadValidT e c uw uh) :
    StrictMonoOn (QuadWhole.val e c uw uh) (Set.Icc (e c.box.left) (e c.box.right)) ∧
    Set.BijOn (QuadWhole.val e c uw uh) (Set.Icc (e c.box.left) (e c.box.right)) (Set.Icc (e c.box.bottom) (e c.box.top)) ∧
    QuadWhole.val e c uw uh (e c.box.left) = e c.box.bottom ∧ QuadWhole.val e c uw uh (e c.box.right) = e c.box.top :=
  have R := QuadInverseWhole.runs_of_validT hv
  ⟨R.searched.strictMonoOn, R.searchedInv.bijOn R.searched, R.searched.endpoints⟩

/-- the normalisation the quadratic code relies on holds exactly over ℝ: heights positive, total area 1, so both
    `[..., -1] = 1` pins change nothing -/
theorem quad_program_normalised (e : Float → ℝ) (c : QCfg) (uw uh : List ℝ) (hv : QuadWhole.QuadValid e c uw uh) :
    (∀ h ∈ QuadWhole.hts e c (QuadWhole.Wq e c uw) (QuadWhole.Uq e uh), 0 < h) ∧
    (QuadWhole.ars e c (QuadWhole.Wq e c uw) (QuadWhole.Uq e uh)).sum = 1 :=
  ⟨(QuadWhole.normalisation hv).1, (QuadWhole.normalisation hv).2.1⟩

example : QuadWhole.QuadValid QuadWhole.eNV QuadWhole.cNV [0] [0, 0] := QuadWhole.valid_example
example : QuadWhole.QuadValidT QuadWhole.eT QuadWhole.cNV [0, 0] [0] := QuadWhole.valid_example_T

/-! ## the UNCONSTRAINED (linear tails) programs on the whole real line -/

/-- **End to end, RQ with linear tails, forward, on all of ℝ**: the executed `rqSplineTails … false` never fails, is the
    identity with zero log-det outside `[-B, B]`, is continuous at the junctions, strictly increasing on ℝ, a bijection of ℝ onto
    ℝ that maps `[-B, B]` onto itself. -/
theorem rq_tails_program_whole_line (e : Float → ℝ) (tb minW minH minD beta : Float) (uw uh ud : List ℝ)
    (hv : TailsWhole.RQTailsValid e tb minW minH minD beta uw uh ud) :
    (∀ x, rqSplineTails (NF.realX e) tb minW minH minD beta uw uh ud false x
        = .ok (TailsWhole.valT e tb minW minH minD beta uw uh ud x, TailsWhole.ldT e tb minW minH minD beta uw uh ud x)) ∧
    (∀ x, x < -e tb ∨ e tb < x →
        TailsWhole.valT e tb minW minH minD beta uw uh ud x = x ∧ TailsWhole.ldT e tb minW minH minD beta uw uh ud x = 0) ∧
    StrictMono (TailsWhole.valT e tb minW minH minD beta uw uh ud) ∧
    Continuous (TailsWhole.valT e tb minW minH minD beta uw uh ud) ∧
    Function.Bijective (TailsWhole.valT e tb minW minH minD beta uw uh ud) ∧
    Set.BijOn (TailsWhole.valT e tb minW minH minD beta uw uh ud) (Set.Icc (-e tb) (e tb)) (Set.Icc (-e tb) (e tb)) :=
  have hw := (TailsWhole.rq_wrapPair hv).valid
  ⟨TailsWhole.tails_total hv, fun x h => TailsWhole.valT_outside x h, TailsWhole.valT_strictMono hv, TailsWhole.wrap_continuous hw,
   TailsWhole.valT_bijective hv, TailsWhole.wrap_bijOn_box hw⟩

example : TailsWhole.RQTailsValid TailsWhole.eW 1.0 0.0 0.0 0.0 1.0 [0] [0] [] := TailsWhole.rq_valid_example

/-- the same for the quadratic family in its tails shape (`K ≥ 2`) through the generic `tailsWrap` (continuity only at the
    junction: the padding constant does not give derivative 1 there, `TailsWhole.quad_tails_not_differentiable_left`) … -/
theorem quad_tails_program_whole_line (e : Float → ℝ) (tb minW minH : Float) (uw uh : List ℝ)
    (hv : QuadWhole.QuadValidT e (TailsWhole.qcfgT tb minW minH) uw uh) (hneg : e (-tb) = - e tb) :
    (∀ x, tailsWrap (NF.realX e) tb x (fun b => TailsWhole.quadP e minW minH uw uh b x)
        = .ok (TailsWhole.wrapVal e tb (TailsWhole.quadP e minW minH uw uh) x, TailsWhole.wrapLd e tb (TailsWhole.quadP e minW minH uw uh) x)) ∧
    StrictMono (TailsWhole.wrapVal e tb (TailsWhole.quadP e minW minH uw uh)) ∧
    Continuous (TailsWhole.wrapVal e tb (TailsWhole.quadP e minW minH uw uh)) ∧
    Function.Bijective (TailsWhole.wrapVal e tb (TailsWhole.quadP e minW minH uw uh)) ∧
    Set.BijOn (TailsWhole.wrapVal e tb (TailsWhole.quadP e minW minH uw uh)) (Set.Icc (-e tb) (e tb)) (Set.Icc (-e tb) (e tb)) ∧
    TailsWhole.wrapVal e tb (TailsWhole.quadP e minW minH uw uh) (-e tb) = -e tb ∧
    TailsWhole.wrapVal e tb (TailsWhole.quadP e minW minH uw uh) (e tb) = e tb ∧
    (∀ x, x < -e tb ∨ e tb < x → TailsWhole.wrapVal e tb (TailsWhole.quadP e minW minH uw uh) x = x ∧
        TailsWhole.wrapLd e tb (TailsWhole.quadP e minW minH uw uh) x = 0) :=
  TailsWhole.wrap_whole (TailsWhole.quad_wrapPair hv hneg).valid

/-- … and for the cubic family, about `TailsWhole.cubicValT` only: the junctions `±B` are fixed, the map is strictly increasing,
    continuous, a bijection of ℝ and of `[-B, B]`; that the executed wrapper returns it without failing and is the identity outside
    `[-B, B]` is not part of this statement -/
theorem cubic_tails_program_whole_line (e : Float → ℝ) (tb minW minH eps thr : Float) (uw uh : List ℝ) (udl udr : ℝ)
    (hv : CubicWhole.CubicValid e (TailsWhole.ccfgT tb minW minH eps thr) uw uh) (hneg : e (-tb) = - e tb) :
    TailsWhole.cubicValT e tb minW minH eps thr uw uh udl udr (-e tb) = -e tb ∧
    TailsWhole.cubicValT e tb minW minH eps thr uw uh udl udr (e tb) = e tb ∧
    StrictMono (TailsWhole.cubicValT e tb minW minH eps thr uw uh udl udr) ∧
    Continuous (TailsWhole.cubicValT e tb minW minH eps thr uw uh udl udr) ∧
    Function.Bijective (TailsWhole.cubicValT e tb minW minH eps thr uw uh udl udr) ∧
    Set.BijOn (TailsWhole.cubicValT e tb minW minH eps thr uw uh udl udr) (Set.Icc (-e tb) (e tb)) (Set.Icc (-e tb) (e tb)) :=
  TailsWhole.cubic_tails_whole hv hneg

/-- **End to end, quadratic inverse** (both shapes of `uh`): a strictly increasing bijection of `[bottom, top]` onto `[left, right]` -/
theorem quad_program_inverse_bijection (e : Float → ℝ) (c : QCfg) (uw uh : List ℝ)
    (hv : QuadWhole.QuadValid e c uw uh ∨ QuadWhole.QuadValidT e c uw uh) :
    StrictMonoOn (QuadInverseWhole.inv e c uw uh) (Set.Icc (e c.box.bottom) (e c.box.top)) ∧
    Set.BijOn (QuadInverseWhole.inv e c uw uh) (Set.Icc (e c.box.bottom) (e c.box.top)) (Set.Icc (e c.box.left) (e c.box.right)) := by
  obtain ⟨U, R⟩ := QuadInverseWhole.runs_of_either hv
  exact ⟨R.searchedInv.inv_strictMonoOn R.searched, R.searchedInv.inv_bijOn R.searched⟩

/-- **End to end, cubic inverse** (every bin exact): a strictly increasing bijection of `[bottom, top]` onto `[left, right]` -/
theorem cubic_program_inverse_bijection (e : Float → ℝ) (c : CCfg) (uw uh : List ℝ) (udl udr : ℝ)
    (hv : CubicWhole.CubicValid e c uw uh) (hc : CubicInverseWhole.InvConsts e c)
    (hall : CubicInverseWhole.AllExact e c uw uh udl udr) :
    StrictMonoOn (CubicInverseWhole.inv e c uw uh udl udr) (Set.Icc (e c.box.bottom) (e c.box.top)) ∧
    Set.BijOn (CubicInverseWhole.inv e c uw uh udl udr) (Set.Icc (e c.box.bottom) (e c.box.top)) (Set.Icc (e c.box.left) (e c.box.right)) :=
  ⟨(CubicInverseWhole.searchedInv hv hc hall).inv_strictMonoOn (CubicWhole.searched hv),
    (CubicInverseWhole.searchedInv hv hc hall).inv_bijOn (CubicWhole.searched hv)⟩

/-- **End to end, linear spline, both directions** (the forward bin index `min(⌊x'K⌋, K−1)` is computed with `XOps.floorInt`,
    faithful at `Float`, `Float32` and ℝ): for EVERY non-empty parameter vector the forward program is a strictly increasing
    bijection of `[left, right]` onto `[bottom, top]` pinning the corners, and the inverse program a bijection of `[bottom, top]` onto
    `[left, right]`. -/
theorem linear_program_bijection (e : Float → ℝ) (box : Box) (eps : Float) (up : List ℝ) (hv : LinWhole.LinValid e box eps up) :
    StrictMonoOn (LinWhole.val e box eps up) (Set.Icc (e box.left) (e box.right)) ∧
    Set.BijOn (LinWhole.val e box eps up) (Set.Icc (e box.left) (e box.right)) (Set.Icc (e box.bottom) (e box.top)) ∧
    LinWhole.val e box eps up (e box.left) = e box.bottom ∧ LinWhole.val e box eps up (e box.right) = e box.top ∧
    Set.BijOn (LinWhole.inv e box eps up) (Set.Icc (e box.bottom) (e box.top)) (Set.Icc (e box.left) (e box.right)) :=
  have P := LinWhole.searched hv
  have Q := LinWhole.searchedInv hv
  ⟨P.strictMonoOn, Q.bijOn P, P.endpoints.1, P.endpoints.2, Q.inv_bijOn P⟩

end Properties.C09
