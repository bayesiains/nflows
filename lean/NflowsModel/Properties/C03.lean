import NflowsModel.Lemmas.ChangeOfVar
import NflowsModel.Lemmas.Gaussian
import NflowsModel.Lemmas.TailsWhole
import NflowsModel.Properties.C05
import Mathlib.Analysis.Calculus.Deriv.Comp
import Mathlib.Analysis.Calculus.FDeriv.Comp
import Mathlib.LinearAlgebra.Determinant
import Mathlib.Analysis.Calculus.Deriv.Add
import Mathlib.Analysis.SpecialFunctions.Trigonometric.DerivHyp
/-!
# C03 — a flow's `log_prob` is a normalised probability density

`log_prob x = base.log_prob (T x) + logabsdet x` (flows/base.py:42-49).  If `T` is a bijection of the data space onto
the support of the base, differentiable with `|det T'| = exp(logabsdet)` (C01) and the base is normalised (C05),
then `exp ∘ log_prob` integrates to one.  Programs (compositions) of such transforms are again such transforms, by
structural induction — so the statement holds for every nesting, not only those that fit a quadrature grid.
Differentiability of neural conditioners is a hypothesis (ReLU kinks are a null set; DESIGN §8.4).

**Limits of what is proved**: the everywhere-differentiability hypothesis on the row map through a conditioner
(`ARRowHyp.hdiff`, `CouplingRowHyp.hdiff` in `Properties/C03ND.lean`) is satisfied by smooth conditioners only and is discharged
in this tree for constant / affine conditioners and (`C03ND`: `maf_layer_differentiable`, `executed_pipeline_with_maf_is_normalised`) for
the masked affine autoregressive layer with a smooth-activation MADE and for additive / affine coupling with a smooth perceptron — NOT
for the library's default ReLU networks, for which an almost-everywhere
(cell-wise) change of variables would be needed and is not proved; the conditioner-free layers (CDF transforms, permutations,
LU / QR / SVD) and the 1-D flows have no such hypothesis.  All normalisation theorems are for bijections of the whole line / ℝⁿ
with a Gaussian base; flows on a box (the executed bounded RQ / quadratic / cubic / linear splines with a uniform or any normalised
base) are in `Properties/C03B.lean`; `Sigmoid` onto `(0,1)` / `Logit`, a `MADEMoG` (or any normalised) base and embedding networks are in `Properties/C03M.lean`; ActNorm, BatchNorm in evaluation mode, Householder and NaiveLinear layers
and Glow-style blocks are in `Properties/C03G.lean`.  `flow_normalised_prog(N)` quantify over
abstract diffeomorphisms; the executed statements are the `ExecLayer` ones of `C03ND` and the `GlowLayer` ones of `C03G`.
-/
open MeasureTheory

namespace Properties.C03

/-- 1-D: bijection + derivative `exp(ld)` + normalised base ⇒ normalised flow density -/
theorem flow_normalised_1d (f ld p : ℝ → ℝ) (hbij : Function.Bijective f)
    (hd : ∀ x, HasDerivAt f (Real.exp (ld x)) x) (hp : ∫ z, p z = 1) :
    ∫ x, p (f x) * Real.exp (ld x) = 1 :=
  ChangeOfVar.flow_normalised_1d f ld p hbij hd hp

/-- the same in the form the code computes: `exp (base_logp (f x) + ld x)` -/
theorem flow_logprob_normalised_1d (f ld logp : ℝ → ℝ) (hbij : Function.Bijective f)
    (hd : ∀ x, HasDerivAt f (Real.exp (ld x)) x) (hp : ∫ z, Real.exp (logp z) = 1) :
    ∫ x, Real.exp (logp (f x) + ld x) = 1 :=
  ChangeOfVar.flow_logprob_normalised_1d f ld logp hbij hd hp

/-- n-D: bijection + Fréchet derivative with `|det| = exp(ld)` + normalised base ⇒ normalised flow density -/
theorem flow_normalised_nd {n : ℕ} (T : (Fin n → ℝ) → (Fin n → ℝ))
    (T' : (Fin n → ℝ) → ((Fin n → ℝ) →L[ℝ] (Fin n → ℝ))) (ld : (Fin n → ℝ) → ℝ) (p : (Fin n → ℝ) → ℝ)
    (hbij : Function.Bijective T) (hd : ∀ x, HasFDerivAt T (T' x) x)
    (hld : ∀ x, |(T' x).det| = Real.exp (ld x)) (hp : ∫ z, p z = 1) :
    ∫ x, p (T x) * Real.exp (ld x) = 1 :=
  ChangeOfVar.flow_normalised_nd T T' ld p hbij hd hld hp

/-- a library transform on the real line as the theorem needs it: a bijection whose derivative is `exp` of the
    log-abs-det it returns -/
structure Diffeo1 where
  f : ℝ → ℝ
  ld : ℝ → ℝ
  bij : Function.Bijective f
  deriv : ∀ x, HasDerivAt f (Real.exp (ld x)) x

/-- `CompositeTransform` of two parts: apply `a` then `b`, log-abs-dets add (base.py:45-60) -/
def Diffeo1.comp (a b : Diffeo1) : Diffeo1 where
  f := b.f ∘ a.f
  ld := fun x => a.ld x + b.ld (a.f x)
  bij := b.bij.comp a.bij
  deriv := by
    intro x
    have h := HasDerivAt.comp x (b.deriv (a.f x)) (a.deriv x)
    refine h.congr_deriv ?_
    rw [Real.exp_add]; ring

def Diffeo1.id : Diffeo1 where
  f := fun x => x
  ld := fun _ => 0
  bij := Function.bijective_id
  deriv := by intro x; simpa using hasDerivAt_id' x

/-- the increasing affine part `x ↦ a x + b` (`a > 0`), `ld = log a` (the witness the instances below and in the n-D files use) -/
noncomputable def Diffeo1.affine (a b : ℝ) (ha : 0 < a) : Diffeo1 where
  f := fun x => a * x + b
  ld := fun _ => Real.log a
  bij := ⟨fun _ _ h => mul_left_cancel₀ ha.ne' (add_right_cancel h), fun y => ⟨(y - b) / a, by
    show a * ((y - b) / a) + b = y
    rw [mul_div_cancel₀ _ ha.ne', sub_add_cancel]⟩⟩
  deriv := by
    intro x
    rw [Real.exp_log ha]
    simpa using ((hasDerivAt_id x).const_mul a).add_const b

/-- a program: the parts in the order given (`_cascade`) -/
def prog : List Diffeo1 → Diffeo1
  | [] => Diffeo1.id
  | a :: rest => a.comp (prog rest)

/-- **Every composition of 1-D library transforms with a normalised base is a normalised density** -/
theorem flow_normalised_prog (parts : List Diffeo1) (logp : ℝ → ℝ) (hp : ∫ z, Real.exp (logp z) = 1) :
    ∫ x, Real.exp (logp ((prog parts).f x) + (prog parts).ld x) = 1 :=
  flow_logprob_normalised_1d _ _ logp (prog parts).bij (prog parts).deriv hp

/-- the log-abs-det of a program is the sum over the parts along the trajectory (two parts shown; induction gives all) -/
theorem prog_ld_cons (a : Diffeo1) (rest : List Diffeo1) (x : ℝ) :
    (prog (a :: rest)).ld x = a.ld x + (prog rest).ld (a.f x) ∧ (prog (a :: rest)).f x = (prog rest).f (a.f x) := ⟨rfl, rfl⟩

/-- base: the diagonal normal (standard normal = μ 0, log σ 0) is normalised for every dimension -/
theorem base_normalised {D : ℕ} (μ ls : Fin D → ℝ) : ∫ x : Fin D → ℝ, Real.exp (Gaussian.diagNormalLogp μ ls x) = 1 :=
  Gaussian.diagNormal_normalised μ ls

/-- a library transform on ℝⁿ as the theorem needs it: a bijection with Fréchet derivative whose |det| is `exp` of the
    log-abs-det it returns (coupling, autoregressive, linear, permutation, element-wise layers: C01) -/
structure DiffeoN (n : ℕ) where
  T : (Fin n → ℝ) → (Fin n → ℝ)
  T' : (Fin n → ℝ) → ((Fin n → ℝ) →L[ℝ] (Fin n → ℝ))
  ld : (Fin n → ℝ) → ℝ
  bij : Function.Bijective T
  deriv : ∀ x, HasFDerivAt T (T' x) x
  ld_eq : ∀ x, |(T' x).det| = Real.exp (ld x)

/-- `CompositeTransform` in n dimensions: chain rule, multiplicativity of the determinant, log-abs-dets add -/
def DiffeoN.comp {n : ℕ} (a b : DiffeoN n) : DiffeoN n where
  T := b.T ∘ a.T
  T' := fun x => (b.T' (a.T x)).comp (a.T' x)
  ld := fun x => a.ld x + b.ld (a.T x)
  bij := b.bij.comp a.bij
  deriv := fun x => (b.deriv (a.T x)).comp x (a.deriv x)
  ld_eq := by
    intro x
    have h : ((b.T' (a.T x)).comp (a.T' x)).det = (b.T' (a.T x)).det * (a.T' x).det := by
      simp only [ContinuousLinearMap.det]
      have : ((b.T' (a.T x)).comp (a.T' x) : (Fin n → ℝ) →ₗ[ℝ] (Fin n → ℝ))
          = (b.T' (a.T x) : (Fin n → ℝ) →ₗ[ℝ] (Fin n → ℝ)).comp (a.T' x : (Fin n → ℝ) →ₗ[ℝ] (Fin n → ℝ)) := rfl
      rw [this, LinearMap.det_comp]
    rw [h, abs_mul, a.ld_eq x, b.ld_eq (a.T x), ← Real.exp_add, add_comm]

def DiffeoN.id (n : ℕ) : DiffeoN n where
  T := fun x => x
  T' := fun _ => ContinuousLinearMap.id ℝ _
  ld := fun _ => 0
  bij := Function.bijective_id
  deriv := fun x => hasFDerivAt_id x
  ld_eq := by intro x; simp [ContinuousLinearMap.det]

/-- a program of n-dimensional parts, in the order given -/
def progN {n : ℕ} : List (DiffeoN n) → DiffeoN n
  | [] => DiffeoN.id n
  | a :: rest => a.comp (progN rest)

/-- **Every composition of n-D library transforms with a normalised base is a normalised density** (any nesting depth,
    any number of parts — not only those that fit a quadrature grid) -/
theorem flow_normalised_progN {n : ℕ} (parts : List (DiffeoN n)) (p : (Fin n → ℝ) → ℝ) (hp : ∫ z, p z = 1) :
    ∫ x, p ((progN parts).T x) * Real.exp ((progN parts).ld x) = 1 :=
  flow_normalised_nd _ _ _ p (progN parts).bij (progN parts).deriv (progN parts).ld_eq hp

/-! ## instantiation with EXECUTED programs: the abstract `Diffeo1` parts above are inhabited by what the driver runs -/

/-- the executed `StandardNormal([1]).log_prob` row (the list program of `Core/Density.lean` at ℝ) is a normalised density on ℝ -/
theorem stdNormal1_exec_normalised (e : Float → ℝ) :
    ∫ z : ℝ, Real.exp (NF.Density.stdNormalRow (NF.realX e) 1 [z]) = 1 := by
  have h : ∀ z : ℝ, Real.exp (NF.Density.stdNormalRow (NF.realX e) 1 [z]) = ProbabilityTheory.gaussianPDFReal 0 1 z := by
    intro z
    have := Properties.C05.stdNormal_logp_eq e (D := 1) (fun _ => z)
    simpa using this
  simp_rw [h]
  exact ProbabilityTheory.integral_gaussianPDFReal_eq_one 0 (by norm_num)

/-- the executed rational-quadratic spline with linear tails (`rqSplineTails … false`, the element of the library's neural
    spline flows) IS a `Diffeo1`: a bijection of ℝ whose derivative at every real point is `exp` of the log-abs-det it returns -/
noncomputable def rqTailsDiffeo (e : Float → ℝ) (tb minW minH minD beta : Float) (uw uh ud : List ℝ)
    (hv : TailsWhole.RQTailsValid e tb minW minH minD beta uw uh ud) (hp : TailsWhole.PadExact e minD beta) : Diffeo1 where
  f := TailsWhole.valT e tb minW minH minD beta uw uh ud
  ld := TailsWhole.ldT e tb minW minH minD beta uw uh ud
  bij := TailsWhole.valT_bijective hv
  deriv := TailsWhole.valT_hasDerivAt_all hv hp

/-- **End to end, one dimension**: `Flow(unconstrained RQ spline, StandardNormal).log_prob`, assembled from the two EXECUTED
    programs exactly as flows/base.py:42-49 does (`base.log_prob(transform(x)) + logabsdet`), is a normalised probability density
    — for every number of bins, every unnormalised parameter vector and every tail bound. -/
theorem executed_rq_tails_flow_normalised (e : Float → ℝ) (tb minW minH minD beta : Float) (uw uh ud : List ℝ)
    (hv : TailsWhole.RQTailsValid e tb minW minH minD beta uw uh ud) (hp : TailsWhole.PadExact e minD beta) :
    ∫ x : ℝ, Real.exp (NF.Density.stdNormalRow (NF.realX e) 1 [TailsWhole.valT e tb minW minH minD beta uw uh ud x]
        + TailsWhole.ldT e tb minW minH minD beta uw uh ud x) = 1 :=
  flow_logprob_normalised_1d _ _ (fun z => NF.Density.stdNormalRow (NF.realX e) 1 [z])
    (TailsWhole.valT_bijective hv) (TailsWhole.valT_hasDerivAt_all hv hp) (stdNormal1_exec_normalised e)

/-- … and so is every composite of such executed elements (any number of spline layers with their own parameters, in any order),
    over the executed standard-normal base -/
theorem executed_composite_flow_normalised (e : Float → ℝ) (parts : List Diffeo1) :
    ∫ x : ℝ, Real.exp (NF.Density.stdNormalRow (NF.realX e) 1 [(prog parts).f x] + (prog parts).ld x) = 1 :=
  flow_normalised_prog parts (fun z => NF.Density.stdNormalRow (NF.realX e) 1 [z]) (stdNormal1_exec_normalised e)

example (e : Float → ℝ) (tb minW minH minD beta : Float) (uw uh ud uw' uh' ud' : List ℝ)
    (hv : TailsWhole.RQTailsValid e tb minW minH minD beta uw uh ud) (hv' : TailsWhole.RQTailsValid e tb minW minH minD beta uw' uh' ud')
    (hp : TailsWhole.PadExact e minD beta) :
    ∫ x : ℝ, Real.exp (NF.Density.stdNormalRow (NF.realX e) 1
        [(prog [rqTailsDiffeo e tb minW minH minD beta uw uh ud hv hp, rqTailsDiffeo e tb minW minH minD beta uw' uh' ud' hv' hp]).f x]
        + (prog [rqTailsDiffeo e tb minW minH minD beta uw uh ud hv hp, rqTailsDiffeo e tb minW minH minD beta uw' uh' ud' hv' hp]).ld x) = 1 :=
  executed_composite_flow_normalised e _

/-- `LogTanh`: with the constructor's `beta = exp((tanh c - alpha log c) / alpha)` the logarithmic tail
    `alpha * log(beta * x)` joins the `tanh` part continuously at the cut point `c` (so the transform is a bijection of
    the line onto the line; nonlinearities.py:66-90) — for every cut point `c > 0` and every `alpha ≠ 0`. -/
theorem logtanh_tail_joins (c alpha : ℝ) (hc : 0 < c) (ha : alpha ≠ 0) :
    alpha * Real.log (Real.exp ((Real.tanh c - alpha * Real.log c) / alpha) * c) = Real.tanh c := by
  rw [Real.log_mul (Real.exp_pos _).ne' hc.ne', Real.log_exp]
  field_simp
  ring

/-! non-vacuity: the affine map x ↦ 2x+1 is a `Diffeo1` with ld = log 2 -/
example : ∃ d : Diffeo1, d.f 1 = 3 :=
  ⟨Diffeo1.affine 2 1 two_pos, by norm_num [Diffeo1.affine]⟩

end Properties.C03
