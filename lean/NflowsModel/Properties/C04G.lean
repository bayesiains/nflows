import NflowsModel.Properties.C04
import NflowsModel.Lemmas.StageRoundTrips
/-!
# C04 (continued) — the pairing theorem for Glow-style blocks, and the remaining stage round trips

`Lemmas/StageRoundTrips.lean` (reals, invariant `z.size = w`): round trips between the executed forward and inverse stages for feature
permutations (injectivity of `perm` is forced: `[0, 0]` fails), initialised ActNorm, BatchNorm in evaluation mode, LU / QR / SVD /
Householder / naive (`det W ≠ 0`, through the verified Gauss–Jordan inverse), Sigmoid / Logit inside the clamp, Cauchy, LogTanh; and
`flowSalpExec_consistent_glow`: for `k` blocks [ActNorm, LULinear, coupling with ANY row-wise conditioner], each `GlowBlock.Valid`, the value
returned with sample `[i, j]` is `log_prob` of that sample alone under context row `i`.  `GlowBlock.Valid` holds the element-level round trip
of the coupling element as its field `hrev`; it is discharged for additive and affine coupling by `GlowBlock.valid_additive` /
`GlowBlock.valid_affine` in the lemma file, which are not restated here.  In the element-wise statements with no domain restriction the
entry predicate appears as `∀ y ∈ z.toList, True`.
-/
set_option linter.all false
namespace Properties.C04

theorem roundTrip_permStage :
    ∀ (e : Float → ℝ) (w : ℕ) (perm : List ℕ),
      LogdetExec.IsPerm w perm →
        NF.StageMore.RoundTripEq (NF.realX e) (fun (z : Array ℝ) => z.size = w) (fun (s : Array ℝ) => s.size = w)
          (NF.StageMore.permStage (NF.realX e) w perm) (NF.StageMore.permInvStage (NF.realX e) w perm) :=
  fun e w perm hp => NF.StageMore.roundTrip_permStage_gen (NF.realX e) (by simp) w perm hp

theorem roundTrip_actStage :
    ∀ (e : Float → ℝ) (F : ℕ) (s : NF.Norm.ActSt ℝ),
      s.initialized = Bool.true ∨ s.training = Bool.false →
        NF.StageMore.RoundTripEq (NF.realX e) (fun (z : Array ℝ) => z.size = F) (fun (z : Array ℝ) => z.size = F)
          (NF.StageMore.actStage (NF.realX e) F s) (NF.StageMore.actInvStage (NF.realX e) F s) :=
  @NF.StageMore.roundTrip_actStage

theorem roundTrip_bnEvalStage :
    ∀ (e : Float → ℝ) (cfg : NF.Norm.BNCfg ℝ) (F : ℕ) (s : NF.Norm.BNSt ℝ),
      s.training = Bool.false →
        (∀ j < F, 0 < s.runVar.getD j 0 + cfg.eps) →
          (∀ j < F, NF.Norm.bnWeight (NF.realX e) cfg s.uweight j ≠ 0) →
            NF.StageMore.RoundTripEq (NF.realX e) (fun (z : Array ℝ) => z.size = F) (fun (z : Array ℝ) => z.size = F)
              (NF.StageMore.bnEvalStage (NF.realX e) cfg F s) (NF.StageMore.bnEvalInvStage (NF.realX e) cfg F s) :=
  @NF.StageMore.roundTrip_bnEvalStage

theorem roundTrip_bnEvalStage_of_eps_pos :
    ∀ (e : Float → ℝ) (cfg : NF.Norm.BNCfg ℝ) (F : ℕ) (s : NF.Norm.BNSt ℝ),
      s.training = Bool.false →
        0 < cfg.eps →
          (∀ j < F, 0 ≤ s.runVar.getD j 0) →
            NF.StageMore.RoundTripEq (NF.realX e) (fun (z : Array ℝ) => z.size = F) (fun (z : Array ℝ) => z.size = F)
              (NF.StageMore.bnEvalStage (NF.realX e) cfg F s) (NF.StageMore.bnEvalInvStage (NF.realX e) cfg F s) :=
  @NF.StageMore.roundTrip_bnEvalStage_of_eps_pos

theorem roundTrip_luStage :
    ∀ (e : Float → ℝ) (p : NF.LF.LUParams ℝ),
      p.udiag.length = p.n →
        0 ≤ p.eps →
          p.bias.length = p.n →
            NF.StageMore.RoundTripEq (NF.realX e) (fun (z : Array ℝ) => z.size = p.n) (fun (s : Array ℝ) => s.size = p.n)
              (NF.StageMore.luStage (NF.realX e) p.n p) (NF.StageMore.luInvStage (NF.realX e) p.n p) :=
  @NF.StageMore.roundTrip_luStage

/-- **`QRLinear`** (q-vectors `vs`, none zero) -/
theorem roundTrip_qrStage :
    ∀ (e : Float → ℝ) (p : NF.LF.QRParams ℝ) (vs : List (Fin p.n → ℝ)),
      p.qs = List.map List.ofFn vs →
        (∀ v ∈ vs, v ⬝ᵥ v ≠ 0) →
          p.logDiag.length = p.n →
            p.bias.length = p.n →
              NF.StageMore.RoundTripEq (NF.realX e) (fun (z : Array ℝ) => z.size = p.n) (fun (s : Array ℝ) => s.size = p.n)
                (NF.StageMore.qrStage (NF.realX e) p.n p) (NF.StageMore.qrInvStage (NF.realX e) p.n p) :=
  fun e p vs hq hv hl hb =>
    (LinearBridge.qr_denotes p vs hq hv hl hb).roundTrip_stage e _ (LinearJacobian.qrForwardLd_pair DualSound.realOps p)
      (LinearJacobian.qrInverseLd_pair DualSound.realOps p)

/-- **`SVDLinear`** (q-vectors `vs1`, `vs2`, none zero; `eps ≥ 0`) -/
theorem roundTrip_svdStage :
    ∀ (e : Float → ℝ) (p : NF.LF.SVDParams ℝ) (vs1 vs2 : List (Fin p.n → ℝ)),
      p.qs1 = List.map List.ofFn vs1 →
        p.qs2 = List.map List.ofFn vs2 →
          (∀ v ∈ vs1, v ⬝ᵥ v ≠ 0) →
            (∀ v ∈ vs2, v ⬝ᵥ v ≠ 0) →
              p.udiag.length = p.n →
                0 ≤ p.eps →
                  p.bias.length = p.n →
                    NF.StageMore.RoundTripEq (NF.realX e) (fun (z : Array ℝ) => z.size = p.n)
                      (fun (s : Array ℝ) => s.size = p.n) (NF.StageMore.svdStage (NF.realX e) p.n p)
                      (NF.StageMore.svdInvStage (NF.realX e) p.n p) :=
  fun e p vs1 vs2 h1 h2 hv1 hv2 hl heps hb =>
    (LinearBridge.svd_denotes p vs1 vs2 h1 h2 hv1 hv2 hl heps hb).roundTrip_stage e _
      (LinearJacobian.svdForwardLd_pair DualSound.realOps p) (LinearJacobian.svdInverseLd_pair DualSound.realOps p)

theorem roundTrip_hhStage :
    ∀ (e : Float → ℝ) {n : ℕ} (vs : List (Fin n → ℝ)),
      (∀ v ∈ vs, v ⬝ᵥ v ≠ 0) →
        NF.StageMore.RoundTripEq (NF.realX e) (fun (z : Array ℝ) => z.size = n) (fun (s : Array ℝ) => s.size = n)
          (NF.StageMore.hhStage (NF.realX e) n (List.map List.ofFn vs))
          (NF.StageMore.hhInvStage (NF.realX e) n (List.map List.ofFn vs)) :=
  @NF.StageMore.roundTrip_hhStage

/-- **`NaiveLinear`** (`det W ≠ 0`; the inverse weight is computed by the executed Gauss-Jordan elimination) -/
theorem roundTrip_naiveStage :
    ∀ (e : Float → ℝ) {n : ℕ} (W : Matrix (Fin n) (Fin n) ℝ),
      W.det ≠ 0 →
        ∀ (b : List ℝ),
          b.length = n →
            NF.StageMore.RoundTripEq (NF.realX e) (fun (z : Array ℝ) => z.size = n) (fun (s : Array ℝ) => s.size = n)
              (NF.StageMore.naiveStage (NF.realX e) n n (LinearBridge.ofMat W) b)
              (NF.StageMore.naiveInvStage (NF.realX e) n n (LinearBridge.ofMat W) b) :=
  fun e {n} W hW b hb =>
    (NaiveGauss.naive_denotes W hW b hb).roundTrip_stage e _ (LinearJacobian.naiveForwardLd_pair DualSound.realOps n _ b)
      (LinearJacobian.naiveInverseLd_pair DualSound.realOps n _ b)

theorem roundTrip_nonlinStage_sigmoid :
    ∀ (e : Float → ℝ) (ds : Array Float) (ps : List ℝ),
      NonlinExec.SigmoidClamp e (ds.getD 0 0.0) →
        ps.getD 0 0 ≠ 0 →
          ∀ (n : ℕ),
            NF.StageMore.RoundTripEq (NF.realX e)
              (fun (z : Array ℝ) => z.size = n ∧ ∀ y ∈ z.toList, e (ds.getD 0 0.0) ≤ y ∧ y ≤ e (1 - ds.getD 0 0.0))
              (fun (s : Array ℝ) => s.size = n) (NF.StageMore.nonlinStage (NF.realX e) "Sigmoid" ds ps Bool.false)
              (NF.StageMore.nonlinStage (NF.realX e) "Sigmoid" ds ps Bool.true) :=
  @NF.StageMore.roundTrip_nonlinStage_sigmoid

theorem roundTrip_nonlinStage_logit :
    ∀ (e : Float → ℝ) (ds : Array Float) (ps : List ℝ),
      ps.getD 0 0 ≠ 0 →
        ∀ (n : ℕ),
          NF.StageMore.RoundTripEq (NF.realX e)
            (fun (z : Array ℝ) =>
              z.size = n ∧
                ∀ y ∈ z.toList,
                  e (ds.getD 0 0.0) ≤ NonlinExec.gate (ps.getD 0 0 * y) ∧
                    NonlinExec.gate (ps.getD 0 0 * y) ≤ e (1 - ds.getD 0 0.0))
            (fun (s : Array ℝ) => s.size = n) (NF.StageMore.nonlinStage (NF.realX e) "Logit" ds ps Bool.false)
            (NF.StageMore.nonlinStage (NF.realX e) "Logit" ds ps Bool.true) :=
  @NF.StageMore.roundTrip_nonlinStage_logit

theorem roundTrip_nonlinStage_cauchy :
    ∀ (e : Float → ℝ) (ds : Array Float) (ps : List ℝ),
      NonlinExec.CauchyConsts e →
        ∀ (n : ℕ),
          NF.StageMore.RoundTripEq (NF.realX e) (fun (z : Array ℝ) => z.size = n ∧ ∀ y ∈ z.toList, 0 < y ∧ y < 1)
            (fun (s : Array ℝ) => s.size = n) (NF.StageMore.nonlinStage (NF.realX e) "CauchyCDF" ds ps Bool.false)
            (NF.StageMore.nonlinStage (NF.realX e) "CauchyCDF" ds ps Bool.true) :=
  @NF.StageMore.roundTrip_nonlinStage_cauchy

theorem roundTrip_nonlinStage_cauchyInverse :
    ∀ (e : Float → ℝ) (ds : Array Float) (ps : List ℝ),
      NonlinExec.CauchyConsts e →
        ∀ (n : ℕ),
          NF.StageMore.RoundTripEq (NF.realX e) (fun (z : Array ℝ) => z.size = n ∧ ∀ y ∈ z.toList, True)
            (fun (s : Array ℝ) => s.size = n) (NF.StageMore.nonlinStage (NF.realX e) "CauchyCDFInverse" ds ps Bool.false)
            (NF.StageMore.nonlinStage (NF.realX e) "CauchyCDFInverse" ds ps Bool.true) :=
  @NF.StageMore.roundTrip_nonlinStage_cauchyInverse

theorem roundTrip_nonlinStage_logTanh :
    ∀ (e : Float → ℝ) (ds : Array Float) (ps : List ℝ) {c a b : ℝ},
      NonlinExec.LogTanhConsts e (ds.getD 0 0.0) (NF.logTanhConsts (ds.getD 0 0.0)).1 (NF.logTanhConsts (ds.getD 0 0.0)).2.1
          (NF.logTanhConsts (ds.getD 0 0.0)).2.2 c a b →
        ∀ (n : ℕ),
          NF.StageMore.RoundTripEq (NF.realX e) (fun (z : Array ℝ) => z.size = n ∧ ∀ y ∈ z.toList, True)
            (fun (s : Array ℝ) => s.size = n) (NF.StageMore.nonlinStage (NF.realX e) "LogTanh" ds ps Bool.false)
            (NF.StageMore.nonlinStage (NF.realX e) "LogTanh" ds ps Bool.true) :=
  @NF.StageMore.roundTrip_nonlinStage_logTanh

theorem roundTrip_glow :
    ∀ {e : Float → ℝ} {w cw : ℕ} {blocks : List NF.StageMore.GlowBlock},
      (∀ b ∈ blocks, NF.StageMore.GlowBlock.Valid e w cw b) →
        NF.StageMore.RoundTripEq (NF.realX e) (fun (z : Array ℝ) => z.size = w) (fun (z : Array ℝ) => z.size = w)
          (NF.StageMore.glowFwd e w blocks) (NF.StageMore.glowInv e w blocks) :=
  fun hv => (NF.StageMore.glow_stagePair hv).roundTrip

theorem rowWise_glowFwd :
    ∀ {e : Float → ℝ} {w cw : ℕ} {blocks : List NF.StageMore.GlowBlock},
      (∀ b ∈ blocks, NF.StageMore.GlowBlock.Valid e w cw b) →
        NF.FlowRowsExec.RowWiseStage w cw (NF.StageMore.glowFwd e w blocks) :=
  fun hv => (NF.StageMore.glow_stagePair hv).fwd

theorem rowWise_glowInv :
    ∀ {e : Float → ℝ} {w cw : ℕ} {blocks : List NF.StageMore.GlowBlock},
      (∀ b ∈ blocks, NF.StageMore.GlowBlock.Valid e w cw b) →
        NF.FlowRowsExec.RowWiseStage w cw (NF.StageMore.glowInv e w blocks) :=
  fun hv => (NF.StageMore.glow_stagePair hv).inv

theorem flowSalpExec_consistent_glow :
    ∀ {e : Float → ℝ} {rcw cw R n : ℕ} {emb : ℕ → Array ℝ → Array ℝ}
      {base : NF.FlowRowsExec.BaseD ℝ} {noise ctx : Array ℝ} {w : ℕ} {blocks : List NF.StageMore.GlowBlock},
      (∀ b ∈ blocks, NF.StageMore.GlowBlock.Valid e w cw b) →
        NF.FlowRowsExec.RowIndepBase cw base →
          NF.FlowRowsExec.EmbRowWise rcw cw emb →
            R * cw ≤ (emb R ctx).size →
              ∀ {s : Array ℝ} {lps : List ℝ},
                NF.FlowRowsExec.flowSalpExec (NF.realX e) w cw R n emb (NF.StageMore.glowInv e w blocks) base noise ctx =
                    Except.ok (s, lps) →
                  ∀ {i j : ℕ},
                    i < R →
                      j < n →
                        ∀ (zr cr : Array ℝ),
                          zr.size = w →
                            NF.FlowRowsExec.RowEq w (i * n + j) 0 noise zr →
                              NF.FlowRowsExec.RowEq rcw i 0 ctx cr →
                                ∃ (si : Array ℝ) (lp : ℝ),
                                  NF.FlowRowsExec.RowEq w (i * n + j) 0 s si ∧
                                    lps[i * n + j]? = Option.some lp ∧
                                      NF.FlowRowsExec.flowLogProbExec (NF.realX e) w emb (NF.StageMore.glowFwd e w blocks)
                                          base 1 si cr =
                                        Except.ok [lp] :=
  @NF.StageMore.flowSalpExec_consistent_glow

theorem flowSalpExec_consistent_glow_block :
    ∀ {e : Float → ℝ} {rcw cw R n : ℕ} {emb : ℕ → Array ℝ → Array ℝ}
      {base : NF.FlowRowsExec.BaseD ℝ} {noise ctx : Array ℝ} {w : ℕ} {b : NF.StageMore.GlowBlock},
      NF.StageMore.GlowBlock.Valid e w cw b →
        NF.FlowRowsExec.RowIndepBase cw base →
          NF.FlowRowsExec.EmbRowWise rcw cw emb →
            R * cw ≤ (emb R ctx).size →
              ∀ {s : Array ℝ} {lps : List ℝ},
                NF.FlowRowsExec.flowSalpExec (NF.realX e) w cw R n emb
                      (NF.FlowRowsExec.compStage (NF.realX e)
                        [NF.FlowRowsExec.couplingStage (NF.realX e) b.cfg b.mask b.S Bool.true Option.none b.up b.net,
                          NF.StageMore.luInvStage (NF.realX e) w b.lu, NF.StageMore.actInvStage (NF.realX e) w b.act])
                      base noise ctx =
                    Except.ok (s, lps) →
                  ∀ {i j : ℕ},
                    i < R →
                      j < n →
                        ∀ (zr cr : Array ℝ),
                          zr.size = w →
                            NF.FlowRowsExec.RowEq w (i * n + j) 0 noise zr →
                              NF.FlowRowsExec.RowEq rcw i 0 ctx cr →
                                ∃ (si : Array ℝ) (lp : ℝ),
                                  NF.FlowRowsExec.RowEq w (i * n + j) 0 s si ∧
                                    lps[i * n + j]? = Option.some lp ∧
                                      NF.FlowRowsExec.flowLogProbExec (NF.realX e) w emb
                                          (NF.FlowRowsExec.compStage (NF.realX e)
                                            [NF.StageMore.actStage (NF.realX e) w b.act,
                                              NF.StageMore.luStage (NF.realX e) w b.lu,
                                              NF.FlowRowsExec.couplingStage (NF.realX e) b.cfg b.mask b.S Bool.false
                                                Option.none b.up' b.net])
                                          base 1 si cr =
                                        Except.ok [lp] :=
  @NF.StageMore.flowSalpExec_consistent_glow_block

end Properties.C04
