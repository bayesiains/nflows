import NflowsModel.Properties.C16
import NflowsModel.Lemmas.DualXLU
/-!
# C16 (continued) — dual-number soundness of the executed linear and normalisation programs

`Lemmas/DualXLU.lean`.  The autograd correspondence compares PyTorch gradients with the model run at dual numbers; here that run is
proved to return (value, derivative along the direction) — `DualX.IsDual`, a `HasDerivAt` of the real program along the line — for
`LULinear.forward` (every output entry; direction in inputs, lower, upper, unconstrained diagonal, bias and eps simultaneously),
`logabsdet()`, `LULinear.inverse` (triangular solves; all directions), BatchNorm in evaluation mode (outputs and log-dets) and ActNorm
(2-D and 4-D).  FORCED side condition, with a counterexample theorem: unconstrained diagonal entries `≠ 20` — the executed softplus
has a jump at its threshold, so at 20 the forward output has no derivative at all (`lu_forward_not_differentiable_at_threshold`).
QR, SVD, Householder and the 1×1 convolution are in `Properties/C16O.lean`.  Not covered: NaiveLinear, BatchNorm in training mode,
ActNorm's initialising pass.
-/
set_option linter.all false
namespace Properties.C16

/-- **`LULinear.forward` on dual numbers is sound** (C16).  `dp` holds the dual parameters (primal part, tangent part) of ALL
    trainable tensors (strictly-lower entries, strictly-upper entries, unconstrained diagonal, bias; also `eps`), `dX` the dual
    batch of inputs.  If no unconstrained diagonal entry sits AT the softplus threshold 20, then every entry `(r, c)` of the
    dual run of the executed `forward_no_cache` is the pair (entry of the real run at the primal parts, derivative at `s = 0` of
    that entry of the real run along `primal + s · tangent`, all tensors moving simultaneously), and the two runs have the same
    shape.  No shape hypotheses: ragged inputs are truncated identically by both runs. -/
theorem lu_forward_dual_sound :
    ∀ (e : Float → ℝ) (dp : NF.LF.LUParams (ℝ × ℝ)) (dX : List (List (ℝ × ℝ))),
      (∀ d ∈ dp.udiag, d.1 ≠ 20) →
        (∀ (s : ℝ),
            List.map List.length (NF.LF.luForward (DualXLU.Rr e) (DualXLU.lineP s dp) (DualXLU.lineM s dX)) =
              List.map List.length (NF.LF.luForward (DualXLU.Dd e) dp dX)) ∧
          ∀ (r c : ℕ),
            (((NF.LF.luForward (DualXLU.Dd e) dp dX).getD r []).getD c (0, 0)).1 =
                ((NF.LF.luForward (DualXLU.Rr e) (DualXLU.lineP 0 dp) (DualXLU.lineM 0 dX)).getD r []).getD c 0 ∧
              HasDerivAt
                (fun (s : ℝ) =>
                  ((NF.LF.luForward (DualXLU.Rr e) (DualXLU.lineP s dp) (DualXLU.lineM s dX)).getD r []).getD c 0)
                (((NF.LF.luForward (DualXLU.Dd e) dp dX).getD r []).getD c (0, 0)).2 0 :=
  open DualXLU in fun e dp dX hthr =>
    (luForward_dual_curve (e := e) (lineP_curve dp) (lineM_dual dX) hthr).line_sound

/-- **`LULinear.logabsdet` on dual numbers is sound** (C16) for the library's `eps ≥ 0` (the constructor default is `1e-3`): the
    dual run returns (log-abs-det at the primal parameters, its derivative along the direction), provided no unconstrained
    diagonal entry sits AT the softplus threshold 20 -/
theorem lu_logabsdet_dual_sound :
    ∀ (e : Float → ℝ) (dp : NF.LF.LUParams (ℝ × ℝ)),
      (∀ d ∈ dp.udiag, d.1 ≠ 20) →
        0 ≤ dp.eps.1 →
          (NF.LF.luLogabsdet (DualXLU.Dd e) dp).1 = NF.LF.luLogabsdet (DualXLU.Rr e) (DualXLU.lineP 0 dp) ∧
            HasDerivAt (fun (s : ℝ) => NF.LF.luLogabsdet (DualXLU.Rr e) (DualXLU.lineP s dp))
              (NF.LF.luLogabsdet (DualXLU.Dd e) dp).2 0 :=
  open DualXLU in fun e dp hthr heps =>
    luLogabsdet_dual_curve (e := e) (lineP_curve dp) hthr (fun d _ => softplus_add_ne heps d.1)

/-- **`LULinear.logabsdet` on dual numbers is sound** (C16), general side conditions: no unconstrained diagonal entry at the
    threshold, no diagonal entry `softplus(u) + eps` equal to `0` -/
theorem lu_logabsdet_dual_sound' :
    ∀ (e : Float → ℝ) (dp : NF.LF.LUParams (ℝ × ℝ)),
      (∀ d ∈ dp.udiag, d.1 ≠ 20) →
        (∀ d ∈ dp.udiag, NF.LF.softplus (DualXLU.Rr e) d.1 + dp.eps.1 ≠ 0) →
          (NF.LF.luLogabsdet (DualXLU.Dd e) dp).1 = NF.LF.luLogabsdet (DualXLU.Rr e) (DualXLU.lineP 0 dp) ∧
            HasDerivAt (fun (s : ℝ) => NF.LF.luLogabsdet (DualXLU.Rr e) (DualXLU.lineP s dp))
              (NF.LF.luLogabsdet (DualXLU.Dd e) dp).2 0 :=
  open DualXLU in fun e dp hthr hne =>
    luLogabsdet_dual_curve (e := e) (lineP_curve dp) hthr hne

theorem lu_forward_not_differentiable_at_threshold :
    ∀ (e : Float → ℝ),
      ¬∃ (d' : ℝ),
          HasDerivAt
            (fun (s : ℝ) =>
              ((NF.LF.luForward (DualXLU.Rr e) (DualXLU.lineP s DualXLU.thrP) (DualXLU.lineM s [[(1, 0)]])).getD 0 []).getD
                0 0)
            d' 0 :=
  @DualXLU.lu_forward_not_differentiable_at_threshold

theorem batchnorm_eval_dual_sound :
    ∀ (e : Float → ℝ) (dcfg : NF.Norm.BNCfg (ℝ × ℝ)) (F : ℕ) (st : NF.Norm.BNSt (ℝ × ℝ))
      (drows : List (List (ℝ × ℝ))),
      (∀ j < F, (st.uweight.getD j (0, 0)).1 ≠ 20) →
        (∀ j < F, 0 < (st.runVar.getD j (0, 0)).1 + dcfg.eps.1) →
          (∀ j < F, (NF.realX e).softplus (st.uweight.getD j (0, 0)).1 + dcfg.eps.1 ≠ 0) →
            (∀ (r c : ℕ),
                DualX.IsDual
                  (fun (s : ℝ) =>
                    ((NF.Norm.bnNormalise (NF.realX e) (DualXLU.lineCfg s dcfg) F (DualXLU.lineBN s st).runMean
                              (DualXLU.lineBN s st).runVar (DualXLU.lineBN s st).uweight (DualXLU.lineBN s st).bias
                              (DualXLU.lineM s drows)).getD
                          r []).getD
                      c 0)
                  0
                  (((NF.Norm.bnNormalise (NF.dualX (NF.realX e)) dcfg F st.runMean st.runVar st.uweight st.bias drows).getD
                        r []).getD
                    c (0, 0))) ∧
              ∀ (k : ℕ),
                DualX.IsDual
                  (fun (s : ℝ) =>
                    (NF.Norm.bnLogdet (NF.realX e) (DualXLU.lineCfg s dcfg) F (DualXLU.lineBN s st).runVar
                          (DualXLU.lineBN s st).uweight drows.length Bool.false).getD
                      k 0)
                  0
                  ((NF.Norm.bnLogdet (NF.dualX (NF.realX e)) dcfg F st.runVar st.uweight drows.length Bool.false).getD k
                    (0, 0)) :=
  @DualXLU.batchnorm_eval_dual_sound

theorem actnorm_dual_sound :
    ∀ (e : Float → ℝ) (F : ℕ) (dls dsh : List (ℝ × ℝ)) (db : NF.Norm.Batch (ℝ × ℝ)),
      DualXLU.DB 0
          (fun (s : ℝ) => NF.Norm.actApply (NF.realX e) F (DualXLU.lineV s dls) (DualXLU.lineV s dsh) (DualXLU.lineB s db))
          (NF.Norm.actApply (NF.dualX (NF.realX e)) F dls dsh db) ∧
        DualXLU.DV 0 (fun (s : ℝ) => NF.Norm.actLogdet (NF.realX e) (DualXLU.lineV s dls) (DualXLU.lineB s db) Bool.false)
          (NF.Norm.actLogdet (NF.dualX (NF.realX e)) dls db Bool.false) :=
  @DualXLU.actnorm_dual_sound

theorem actnorm_dual_sound_d2 :
    ∀ (e : Float → ℝ) (F : ℕ) (dls dsh : List (ℝ × ℝ)) (drows : List (List (ℝ × ℝ)))
      (r c k : ℕ),
      DualX.IsDual
          (fun (s : ℝ) =>
            ((List.map
                      (fun (row : List ℝ) =>
                        List.map
                          (fun (j : ℕ) =>
                            (NF.realX e).add
                              ((NF.realX e).mul ((NF.realX e).exp ((DualXLU.lineV s dls).getD j (NF.realX e).zero))
                                (row.getD j (NF.realX e).zero))
                              ((DualXLU.lineV s dsh).getD j (NF.realX e).zero))
                          (List.range F))
                      (DualXLU.lineM s drows)).getD
                  r []).getD
              c 0)
          0
          (((List.map
                    (fun (row : List (ℝ × ℝ)) =>
                      List.map
                        (fun (j : ℕ) =>
                          (NF.dualX (NF.realX e)).add
                            ((NF.dualX (NF.realX e)).mul
                              ((NF.dualX (NF.realX e)).exp (dls.getD j (NF.dualX (NF.realX e)).zero))
                              (row.getD j (NF.dualX (NF.realX e)).zero))
                            (dsh.getD j (NF.dualX (NF.realX e)).zero))
                        (List.range F))
                    drows).getD
                r []).getD
            c (0, 0)) ∧
        DualX.IsDual
          (fun (s : ℝ) =>
            (NF.Norm.actLogdet (NF.realX e) (DualXLU.lineV s dls) (NF.Norm.Batch.d2 (DualXLU.lineM s drows))
                  Bool.false).getD
              k 0)
          0 ((NF.Norm.actLogdet (NF.dualX (NF.realX e)) dls (NF.Norm.Batch.d2 drows) Bool.false).getD k (0, 0)) :=
  @DualXLU.actnorm_dual_sound_d2

/-- **`LULinear.inverse_no_cache` on dual numbers is sound** (C16): direction in the inputs — and, as for the forward pass, in
    every parameter tensor simultaneously.  Hypotheses: no unconstrained diagonal entry AT the softplus threshold, `eps ≥ 0`,
    at least `n` unconstrained diagonal entries (otherwise the executed back substitution divides by the default `0`). -/
theorem lu_inverse_dual_sound_input :
    ∀ (e : Float → ℝ) (dp : NF.LF.LUParams (ℝ × ℝ)) (dX : List (List (ℝ × ℝ))),
      (∀ d ∈ dp.udiag, d.1 ≠ 20) →
        0 ≤ dp.eps.1 →
          dp.n ≤ dp.udiag.length →
            (∀ (s : ℝ),
                List.map List.length (NF.LF.luInverse (DualXLU.Rr e) (DualXLU.lineP s dp) (DualXLU.lineM s dX)) =
                  List.map List.length (NF.LF.luInverse (DualXLU.Dd e) dp dX)) ∧
              ∀ (r c : ℕ),
                (((NF.LF.luInverse (DualXLU.Dd e) dp dX).getD r []).getD c (0, 0)).1 =
                    ((NF.LF.luInverse (DualXLU.Rr e) (DualXLU.lineP 0 dp) (DualXLU.lineM 0 dX)).getD r []).getD c 0 ∧
                  HasDerivAt
                    (fun (s : ℝ) =>
                      ((NF.LF.luInverse (DualXLU.Rr e) (DualXLU.lineP s dp) (DualXLU.lineM s dX)).getD r []).getD c 0)
                    (((NF.LF.luInverse (DualXLU.Dd e) dp dX).getD r []).getD c (0, 0)).2 0 :=
  open DualXLU in fun e dp dX hthr heps hn =>
    (luInverse_dual_curve (e := e) (lineP_curve dp) (lineM_dual dX) hthr (luU_diag_ne dp hthr heps hn)).line_sound

end Properties.C16
