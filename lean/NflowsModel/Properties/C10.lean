import NflowsModel.Core.Cache
import NflowsModel.Lemmas.Cache
/-!
# C10 — weight caching in linear transforms is transparent over every history

Property theorems only; all of them are about `Cache.step` / `Cache.trace` (`Core/Cache.lean`), the very functions the
driver executes in lock-step against `LULinear`, `QRLinear`, `SVDLinear`, `OneByOneConvolution` (`Kind.generic`) and
`NaiveLinear` (`Kind.naive`).  Histories are arbitrary finite lists over
`{train, eval, useCache b, useCacheBad, fwd, inv, update, load, cast d, fwdBwd}`; no length bound.

The reference `Cache.refStep` is "recompute from the current parameters without the cache": its state is only the
parameters (version, dtype); `fwd`/`inv`/`fwdBwd` answer `ok ver dt ver dt`.

The three defects of finding F11:
* F11a stale outputs after `load_state_dict`, F11b dtype error after `.double()`: REPAIRED in `/repo`; the machine's
  `load` and `cast` invalidate (linear.py:93-101) and NO hypothesis about them is left in the theorem below.  The
  machine of the code before that repair, with its two `decide` counterexamples, is `Lemmas/CacheHistorical.lean`.
* F11c repeated back-propagation through the cached tensors: NOT repaired (known finding).  The full-strength statement

    theorem cache_transparent (k : Kind) (tr uc : Bool) (v : Nat) (d : DT) (hist : List Op)
        (hU : updatesOnlyInTraining tr hist = true) :
        run (step k) { training := tr, usingCache := uc, ver := v, dt := d } hist = run refStep ⟨v, d⟩ hist

  is FALSE of the code (`second_backward_counterexample`); `cache_transparent_partial` carries the forced hypothesis
  `noRepeatedBackward` and `noRepeatedBackward_tight` shows the hypothesis excludes exactly the failing histories.

`updatesOnlyInTraining` is not a defect hypothesis: it is the property's own alphabet ("parameter update in training
mode").  `update_in_eval_counterexample` shows it cannot be dropped (an in-place optimiser step in evaluation mode with
a filled cache leaves the cache stale — the code has no way to notice it).
-/
open Cache

namespace Properties.C10

/-- **Transparency over all histories (partial: F11c).**  For both class kinds, from any fresh transform (any initial
    training / using_cache flags, parameter version and dtype; cache empty), over every history in which parameter
    updates happen in training mode and no cached backward is repeated between two invalidations, every step returns
    exactly what recomputation from the current parameters returns: same outputs, same log-abs-dets, same dtypes, no
    error. -/
theorem cache_transparent_partial (k : Kind) (tr uc : Bool) (v : Nat) (d : DT) (hist : List Op)
    (hU : updatesOnlyInTraining tr hist = true)
    (hB : noRepeatedBackward tr uc false hist = true) :
    run (step k) { training := tr, usingCache := uc, ver := v, dt := d } hist = run refStep ⟨v, d⟩ hist :=
  run_eq_ref k hist _ false (inv_init tr uc v d false) hU hB

/-- The same from ANY state satisfying the inductive invariant (training ⇒ cache empty; every filled slot computed
    from the current version and dtype; no freed graph in the cache), i.e. mid-history. -/
theorem cache_transparent_partial_from (k : Kind) (s : St) (hist : List Op) (h : CInv false s)
    (hU : updatesOnlyInTraining s.training hist = true)
    (hB : noRepeatedBackward s.training s.usingCache false hist = true) :
    run (step k) s hist = run refStep s.params hist :=
  run_eq_ref k hist s false h hU hB

/-- **The inductive step** behind the theorem: one op preserves the invariant, answers like the reference and moves the
    parameters like the reference. -/
theorem invariant_step (k : Kind) (s : St) (o : Op) (used : Bool) (h : CInv used s)
    (hU : o = .update → s.training = true)
    (hB : o = .fwdBwd → cachedMode s = true → used = false) :
    (step k s o).2 = (refStep s.params o).2 ∧ (step k s o).1.params = (refStep s.params o).1 ∧
      CInv (nextUsed s used o) (step k s o).1 :=
  step_ok k s o used h hU hB

/-- **F11c, minimal failing history** (both kinds): in evaluation mode with the cache on, the second forward+backward
    raises although the uncached transform supports it. -/
theorem second_backward_counterexample :
    run (step .generic) {} [.eval, .useCache true, .fwdBwd, .fwdBwd] ≠ run refStep ⟨0, .f32⟩ [.eval, .useCache true, .fwdBwd, .fwdBwd]
    ∧ run (step .naive) {} [.eval, .useCache true, .fwdBwd, .fwdBwd] ≠ run refStep ⟨0, .f32⟩ [.eval, .useCache true, .fwdBwd, .fwdBwd]
    ∧ run (step .generic) {} [.eval, .useCache true, .fwdBwd, .fwdBwd] = [.none, .none, .ok 0 .f32 0 .f32, .errBackward] := by
  decide

/-- the hypothesis `noRepeatedBackward` is exactly right: (updates in training only) it holds of a history iff the
    machine never answers `errBackward` on it -/
theorem noRepeatedBackward_tight (k : Kind) (tr uc : Bool) (v : Nat) (d : DT) (hist : List Op)
    (hU : updatesOnlyInTraining tr hist = true) :
    noRepeatedBackward tr uc false hist = true ↔
      Out.errBackward ∉ run (step k) { training := tr, usingCache := uc, ver := v, dt := d } hist := by
  constructor
  · intro hB
    rw [run_eq_ref k hist _ false (inv_init tr uc v d false) hU hB]
    exact ref_never_errBackward _ _
  · intro hne
    cases hB : noRepeatedBackward tr uc false hist with
    | true => rfl
    | false =>
      exact absurd (errBackward_of_repeated k hist _ false (inv_init tr uc v d false) (fun h => by cases h) hU hB) hne

/-- `updatesOnlyInTraining` (the property's alphabet) cannot be dropped: an in-place update in evaluation mode with a
    filled cache gives stale outputs and log-abs-dets (`generic`), resp. a stale log-abs-det and a stale inverse while
    the aliased weight follows the update (`naive`).  Not a defect of the code: outside the property's alphabet. -/
theorem update_in_eval_counterexample :
    run (step .generic) {} [.eval, .useCache true, .fwd, .update, .fwd] = [.none, .none, .ok 0 .f32 0 .f32, .none, .ok 0 .f32 0 .f32]
    ∧ run (step .naive) {} [.eval, .useCache true, .fwd, .update, .fwd] = [.none, .none, .ok 0 .f32 0 .f32, .none, .ok 1 .f32 0 .f32]
    ∧ run (step .naive) {} [.eval, .useCache true, .inv, .update, .inv] = [.none, .none, .ok 0 .f32 0 .f32, .none, .ok 0 .f32 0 .f32]
    ∧ run refStep ⟨0, .f32⟩ [.eval, .useCache true, .fwd, .update, .fwd] = [.none, .none, .ok 0 .f32 0 .f32, .none, .ok 1 .f32 1 .f32] := by
  decide

/-- **F11a / F11b repaired**: the two histories on which the code before the repair failed
    (`CacheHistorical.stale_after_load`, `CacheHistorical.dtype_after_cast`) are answered like the reference. -/
theorem load_cast_repaired (k : Kind) :
    run (step k) {} [.eval, .useCache true, .fwd, .load, .fwd] = run refStep ⟨0, .f32⟩ [.eval, .useCache true, .fwd, .load, .fwd]
    ∧ run (step k) {} [.eval, .useCache true, .fwd, .cast .f64, .fwd] = run refStep ⟨0, .f32⟩ [.eval, .useCache true, .fwd, .cast .f64, .fwd]
    ∧ run (step k) {} [.eval, .useCache true, .inv, .cast .f64, .inv, .cast .f32, .inv]
        = run refStep ⟨0, .f32⟩ [.eval, .useCache true, .inv, .cast .f64, .inv, .cast .f32, .inv] :=
  -- instances of the general theorem: the three histories contain no update and no backward
  ⟨cache_transparent_partial k true false 0 .f32 _ (by decide) (by decide),
   cache_transparent_partial k true false 0 .f32 _ (by decide) (by decide),
   cache_transparent_partial k true false 0 .f32 _ (by decide) (by decide)⟩

/-- **Over EVERY history, no hypothesis**: whenever the transform is in training mode its cache is empty (`train()`
    invalidates, nothing refills while training) — the white-box half of the lock-step correspondence. -/
theorem training_cache_empty (k : Kind) (tr uc : Bool) (v : Nat) (d : DT) (hist : List Op) :
    ∀ x ∈ trace k { training := tr, usingCache := uc, ver := v, dt := d } hist,
      x.1.training = true → x.1.cW = none ∧ x.1.cInv = none ∧ x.1.cLd = none :=
  trainEmpty_trace k hist _ (fun _ => ⟨rfl, rfl, rfl⟩)

/-- **Over every history, no hypothesis**: with the cache flag off or in training mode, `forward`, `inverse` and
    forward+backward ARE the uncached calls and leave the state alone (`use_cache(False)` never reads the cache). -/
theorem cache_off_is_uncached (k : Kind) (s : St) (o : Op) (h : s.training = true ∨ s.usingCache = false)
    (ho : o = .fwd ∨ o = .inv ∨ o = .fwdBwd) :
    step k s o = (s, .ok s.ver s.dt s.ver s.dt) :=
  uncached_when_off k s o (by rcases h with h | h <;> simp [cachedMode, h]) ho

/-- `train()` empties the cache and `eval()` does not refill it (linear.py:87-91). -/
theorem train_invalidates_eval_keeps (k : Kind) (s : St) :
    (step k s .train).1.cW = none ∧ (step k s .train).1.cInv = none ∧ (step k s .train).1.cLd = none ∧
    (step k s .eval).1.cW = s.cW ∧ (step k s .eval).1.cInv = s.cInv ∧ (step k s .eval).1.cLd = s.cLd :=
  ⟨rfl, rfl, rfl, rfl, rfl, rfl⟩

/-- the driver's per-step trace carries exactly the observables of `run (step k)` -/
theorem trace_outputs (k : Kind) (hist : List Op) (s : St) :
    (trace k s hist).map Prod.snd = run (step k) s hist :=
  Cache.trace_outputs k hist s

/-- Non-vacuity: a history that uses every op, fills all three slots, changes the parameters three ways, runs three
    cached backwards (each separated from the next by an invalidation) and satisfies both hypotheses; and the theorem's conclusion on
    it is not the trivial "all none". -/
def demo : List Op :=
  [.fwdBwd, .update, .eval, .useCache true, .fwd, .inv, .fwdBwd, .fwd, .load, .fwdBwd, .inv, .cast .f64, .inv, .fwd,
   .useCache false, .fwdBwd, .fwdBwd, .useCacheBad, .useCache true, .train, .update, .fwd, .eval, .fwdBwd, .cast .f32, .inv]

example : updatesOnlyInTraining true demo = true ∧ noRepeatedBackward true false false demo = true := by decide

example : run (step .generic) {} demo = run refStep ⟨0, .f32⟩ demo ∧
    (run (step .generic) {} demo).getLast? = some (.ok 3 .f32 3 .f32) ∧
    ((trace .generic {} demo)[7]?).map (fun x => (x.1.cW.isSome, x.1.cInv.isSome, x.1.cLd.isSome)) = some (true, true, true) := by
  decide

end Properties.C10
