import NflowsModel.Properties.C02
import NflowsModel.Lemmas.LogdetExec
import NflowsModel.Lemmas.NonlinExec
import NflowsModel.Lemmas.NonlinExecLT
/-!
# C02 (continued) — executed round trips of the element-wise transformers, 1×1 convolution, normalisation layers, permutations

`NonlinExec.RoundTrip fwd inv x`: `fwd x = .ok (y, ld)` and the executed inverse RUN ON THAT OUTPUT returns `.ok (x, -ld)`.
A primed name is the other order (inverse pass first): Exp, LeakyReLU, Cauchy, LogTanh, ActNorm have both; affine, GLU, Tanh, the 1×1
convolution, BatchNorm, permutations and squeeze are stated forward-then-inverse only.
Declared approximations are theorems: Sigmoid / Logit round-trip exactly iff `eps ≤ σ(Tx) ≤ 1 − eps` (outside, the inverse returns
the logit of the clamp bound); Tanh's inverse log-det is the negated forward one only for `x ≥ −10` (thresholded softplus, gap
`≤ 2e^{2x}`).
-/
set_option linter.all false
namespace Properties.C02

theorem exp_executed_roundtrip :
    ∀ (e : Float → ℝ) (x : ℝ),
      NonlinExec.RoundTrip (NF.expT (NF.realX e) Bool.false) (NF.expT (NF.realX e) Bool.true) x :=
  @NonlinExec.expT_roundtrip

theorem exp_executed_roundtrip' :
    ∀ (e : Float → ℝ) {y : ℝ},
      0 < y → NonlinExec.RoundTrip (NF.expT (NF.realX e) Bool.true) (NF.expT (NF.realX e) Bool.false) y :=
  @NonlinExec.expT_roundtrip'

theorem affine_executed_roundtrip :
    ∀ (e : Float → ℝ) (scale shift x : ℝ),
      scale ≠ 0 →
        NonlinExec.RoundTrip (NF.affineT (NF.realX e) scale shift Bool.false)
          (NF.affineT (NF.realX e) scale shift Bool.true) x :=
  @NonlinExec.affineT_roundtrip

theorem glu_executed_roundtrip :
    ∀ (e : Float → ℝ) (ctx x : ℝ),
      NonlinExec.RoundTrip (NF.gluT (NF.realX e) ctx Bool.false) (NF.gluT (NF.realX e) ctx Bool.true) x :=
  @NonlinExec.gluT_roundtrip

theorem leakyRelu_executed_roundtrip :
    ∀ {e : Float → ℝ} {slope : Float} {ls : ℝ},
      NonlinExec.LeakyConsts e slope ls →
        ∀ (x : ℝ),
          NonlinExec.RoundTrip (NF.leakyReluT (NF.realX e) slope ls Bool.false)
            (NF.leakyReluT (NF.realX e) slope ls Bool.true) x :=
  @NonlinExec.leakyReluT_roundtrip

theorem leakyRelu_executed_roundtrip' :
    ∀ {e : Float → ℝ} {slope : Float} {ls : ℝ},
      NonlinExec.LeakyConsts e slope ls →
        ∀ (y : ℝ),
          NonlinExec.RoundTrip (NF.leakyReluT (NF.realX e) slope ls Bool.true)
            (NF.leakyReluT (NF.realX e) slope ls Bool.false) y :=
  @NonlinExec.leakyReluT_roundtrip'

theorem tanh_executed_roundtrip :
    ∀ (e : Float → ℝ),
      NonlinExec.TanhConsts e →
        ∀ {x : ℝ}, -10 ≤ x → NonlinExec.RoundTrip (NF.tanhT (NF.realX e) Bool.false) (NF.tanhT (NF.realX e) Bool.true) x :=
  @NonlinExec.tanhT_roundtrip

theorem tanh_roundtrip_threshold_counterexample :
    ∀ (e : Float → ℝ),
      NonlinExec.TanhConsts e →
        ∀ {x : ℝ},
          x < -10 →
            (∃ (ld : ℝ) (ld' : ℝ),
                NF.tanhT (NF.realX e) Bool.false x = Except.ok (Real.tanh x, ld) ∧
                  NF.tanhT (NF.realX e) Bool.true (Real.tanh x) = Except.ok (x, ld') ∧ ld' ≠ -ld) ∧
              ¬NonlinExec.RoundTrip (NF.tanhT (NF.realX e) Bool.false) (NF.tanhT (NF.realX e) Bool.true) x :=
  @NonlinExec.tanhT_roundtrip_logdet_false_below_threshold

theorem sigmoid_executed_roundtrip_iff :
    ∀ {e : Float → ℝ} {T : ℝ} {eps : Float},
      NonlinExec.SigmoidClamp e eps →
        ∀ {x : ℝ},
          T ≠ 0 →
            (NonlinExec.RoundTrip (NF.sigmoidT (NF.realX e) T eps Bool.false) (NF.sigmoidT (NF.realX e) T eps Bool.true) x ↔
              e eps ≤ NonlinExec.gate (T * x) ∧ NonlinExec.gate (T * x) ≤ e (1 - eps)) :=
  @NonlinExec.sigmoidT_roundtrip_iff

theorem logit_executed_roundtrip :
    ∀ {e : Float → ℝ} {T : ℝ} {eps : Float},
      NonlinExec.SigmoidClamp e eps →
        ∀ {y : ℝ},
          T ≠ 0 →
            e eps ≤ y →
              y ≤ e (1 - eps) →
                NonlinExec.RoundTrip (NF.sigmoidT (NF.realX e) T eps Bool.true) (NF.sigmoidT (NF.realX e) T eps Bool.false)
                  y :=
  @NonlinExec.sigmoidT_roundtrip'

theorem sigmoid_inverse_clamped_low :
    ∀ {e : Float → ℝ} {T : ℝ} {eps : Float},
      NonlinExec.SigmoidClamp e eps →
        ∀ {y : ℝ},
          0 ≤ y →
            y ≤ e eps →
              NF.sigmoidT (NF.realX e) T eps Bool.true y =
                Except.ok (1 / T * NonlinExec.logit (e eps), -NonlinExec.sigLd T (T * (1 / T * NonlinExec.logit (e eps)))) :=
  @NonlinExec.sigmoidT_inv_clamped_lo

theorem cauchy_executed_roundtrip :
    ∀ {e : Float → ℝ},
      NonlinExec.CauchyConsts e →
        ∀ (x y ld : ℝ),
          NF.cauchyT (NF.realX e) Bool.false x = Except.ok (y, ld) →
            NF.cauchyT (NF.realX e) Bool.true y = Except.ok (x, -ld) :=
  @NonlinExec.cauchyT_inv_fwd

theorem cauchy_executed_roundtrip' :
    ∀ {e : Float → ℝ},
      NonlinExec.CauchyConsts e →
        ∀ (y x ld : ℝ),
          0 < y →
            y < 1 →
              NF.cauchyT (NF.realX e) Bool.true y = Except.ok (x, ld) →
                NF.cauchyT (NF.realX e) Bool.false x = Except.ok (y, -ld) :=
  @NonlinExec.cauchyT_fwd_inv

theorem logTanh_executed_roundtrip :
    ∀ {e : Float → ℝ} {cut invCut alpha beta : Float} {c a b : ℝ},
      NonlinExec.LogTanhConsts e cut invCut alpha beta c a b →
        ∀ (x y ld : ℝ),
          NF.logTanhT (NF.realX e) cut invCut alpha beta Bool.false x = Except.ok (y, ld) →
            NF.logTanhT (NF.realX e) cut invCut alpha beta Bool.true y = Except.ok (x, -ld) :=
  fun h x _ _ hf => (NonlinExec.logTanhT_roundtrip h x).undoes hf

theorem logTanh_executed_roundtrip' :
    ∀ {e : Float → ℝ} {cut invCut alpha beta : Float} {c a b : ℝ},
      NonlinExec.LogTanhConsts e cut invCut alpha beta c a b →
        ∀ (y x ld : ℝ),
          NF.logTanhT (NF.realX e) cut invCut alpha beta Bool.true y = Except.ok (x, ld) →
            NF.logTanhT (NF.realX e) cut invCut alpha beta Bool.false x = Except.ok (y, -ld) :=
  fun h y _ _ hi => (NonlinExec.logTanhT_roundtrip' h y).undoes hi

theorem conv1x1_executed_roundtrip :
    ∀ (p : NF.LF.LUParams ℝ),
      p.udiag.length = p.n →
        0 ≤ p.eps →
          p.bias.length = p.n →
            ∀ (σ : Equiv.Perm (Fin p.n)) (B H W : ℕ) (xs : List ℝ),
              xs.length = B * p.n * H * W →
                (NF.LF.convInverse DualSound.realOps p (LogdetExec.permList σ) B H W
                      (NF.LF.convForward DualSound.realOps p (LogdetExec.permList σ) B H W xs).1).1 =
                  xs :=
  @LogdetExec.conv_roundtrip

theorem conv1x1_inverse_logdet_negated :
    ∀ (p : NF.LF.LUParams ℝ) (perm perm' : List ℕ) (B H W : ℕ) (xs ys : List ℝ),
      ∀ b < B,
        ∃ (v : ℝ),
          (NF.LF.convForward DualSound.realOps p perm B H W xs).2[b]? = Option.some v ∧
            (NF.LF.convInverse DualSound.realOps p perm' B H W ys).2[b]? = Option.some (-v) :=
  @LogdetExec.conv_logdet_inverse_neg

theorem actnorm_executed_roundtrip :
    ∀ (e : Float → ℝ) (F : ℕ) (ls sh : List ℝ) (b : NF.Norm.Batch ℝ),
      LogdetExec.WellShaped F b → NF.Norm.actUnapply (NF.realX e) F ls sh (NF.Norm.actApply (NF.realX e) F ls sh b) = b :=
  @LogdetExec.actUnapply_actApply

theorem actnorm_executed_roundtrip' :
    ∀ (e : Float → ℝ) (F : ℕ) (ls sh : List ℝ) (b : NF.Norm.Batch ℝ),
      LogdetExec.WellShaped F b → NF.Norm.actApply (NF.realX e) F ls sh (NF.Norm.actUnapply (NF.realX e) F ls sh b) = b :=
  @LogdetExec.actApply_actUnapply

theorem batchnorm_eval_executed_roundtrip :
    ∀ (e : Float → ℝ) (cfg : NF.Norm.BNCfg ℝ) (F : ℕ) (mean var uw bias : List ℝ),
      (∀ j < F, NF.Norm.bnWeight (NF.realX e) cfg uw j ≠ 0) →
        (∀ j < F, 0 < var.getD j 0 + cfg.eps) →
          ∀ (rows : List (List ℝ)),
            (∀ r ∈ rows, r.length = F) →
              NF.Norm.bnDenormalise (NF.realX e) cfg F mean var uw bias
                  (NF.Norm.bnNormalise (NF.realX e) cfg F mean var uw bias rows) =
                rows :=
  @LogdetExec.bnDenormalise_bnNormalise

theorem permutation_executed_roundtrip :
    ∀ {α : Type} (B n : ℕ) (pre suf perm : List ℕ),
      LogdetExec.IsPerm n perm →
        ∀ (x : Array α) (d : α),
          x.size = B * (LogdetExec.fprod pre * n * LogdetExec.fprod suf) →
            ∃ (y : Array α),
              NF.permuteDim (B :: (pre ++ n :: suf)) (pre.length + 1) perm x d = Except.ok y ∧
                NF.permuteDim (B :: (pre ++ n :: suf)) (pre.length + 1) (NF.inversePerm perm) y d = Except.ok x :=
  @LogdetExec.permuteDim_roundtrip

theorem squeeze_executed_roundtrip :
    ∀ {α : Type} (f B C Ho Wo : ℕ),
      0 < f →
        0 < C →
          ∀ (x : Array α) (d : α),
            x.size = B * C * (Ho * f) * (Wo * f) →
              ∃ (y : Array α),
                NF.squeezeFwd f B C (Ho * f) (Wo * f) x d = Except.ok y ∧
                  y.size = B * (C * f * f) * Ho * Wo ∧ NF.squeezeInv f B (C * f * f) Ho Wo y d = Except.ok x :=
  @LogdetExec.squeeze_roundtrip

end Properties.C02
