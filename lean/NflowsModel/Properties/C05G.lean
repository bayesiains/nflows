import NflowsModel.Properties.C05
import NflowsModel.Lemmas.DensityGaps
/-!
# C05 (continued) — sampling laws about executed terms, `kdeStd`, MG1Uniform, the `D`-dimensional normal

The executed sigmoid IS `1/(1+e^{-l})`, and with it the Bernoulli sampling law is stated about executed terms: the Lebesgue measure of
the noise in `[0,1)^D` that the executed sampling map sends to an outcome `x` is `exp` of the executed `log_prob(x)` (|logits| ≤ 20),
and these sum to one.  `kdeStd` with the hypothesis `0 < N` it needs (at `N = 0` the model returns 1 where Python raises: counterexample).
MG1Uniform: `∫ density = 1` and the law of the executed `_to_parameters` map applied to box-uniform noise (a determinant-one linear
map preserves Lebesgue measure).  The `D`-dimensional normal: the law of `μ + exp(ls) ⊙ ε`, `ε` a product of standard
Gaussians, is `volume.withDensity exp(diagNormalRow …)`.  And an artefact made explicit: over ℝ torch's per-coordinate
`Uniform.log_prob` is `−log(high − low)` for EVERY x (`Real.log 0 = 0`), the support being carried by the executed range check.
-/
set_option linter.all false
namespace Properties.C05

theorem sigmoid_executed_closed_form :
    ∀ (e : Float → ℝ) (l : ℝ), (NF.realX e).sigmoid l = 1 / (1 + Real.exp (-l)) :=
  @NF.realX_sigmoid

theorem bernoulli_sample_law_executed :
    ∀ (e : Float → ℝ) {D : ℕ} (l : Fin D → ℝ),
      (∀ (i : Fin D), |l i| ≤ 20) →
        ∀ (x : Fin D → Bool),
          (MeasureTheory.MeasureSpace.volume : Set (Fin D → ℝ) → ENNReal)
              {u : Fin D → ℝ |
                (∀ (i : Fin D), 0 ≤ u i ∧ u i < 1) ∧
                  NF.Density.bernSampleMap (NF.realX e) [List.ofFn l] 1 [List.ofFn u] =
                    [List.ofFn fun (i : Fin D) => Bernoulli.ind (x i)]} =
            ENNReal.ofReal
              (Real.exp (NF.Density.bernRow (NF.realX e) (List.ofFn l) (List.ofFn fun (i : Fin D) => Bernoulli.ind (x i)))) :=
  @DensityGaps.bernoulli_sample_law_exec

/-- the probabilities of all `2ᴰ` outcomes add up to the volume of the noise cube, one -/
theorem bernoulli_sample_law_total :
    ∀ (e : Float → ℝ) {D : ℕ} (l : Fin D → ℝ),
      (∀ (i : Fin D), |l i| ≤ 20) →
        ∑ x : Fin D → Bool,
            Real.exp (NF.Density.bernRow (NF.realX e) (List.ofFn l) (List.ofFn fun (i : Fin D) => Bernoulli.ind (x i))) =
          1 :=
  fun e _ l h => bernoulli_exec_sum_one_partial e l h

theorem kdeStd_executed_pos :
    ∀ (e : Float → ℝ) (N D : ℕ),
      0 < N →
        NF.Density.kdeStd (NF.realX e) N D = (↑N : ℝ) ^ (-(1 / (↑(D + 4) : ℝ))) ∧
          0 < NF.Density.kdeStd (NF.realX e) N D ∧ NF.Density.kdeStd (NF.realX e) N D ≤ 1 :=
  @DensityGaps.kdeStd_exec_pos

theorem kdeStd_zero_counterexample :
    ∀ (e : Float → ℝ) (D : ℕ),
      NF.Density.kdeStd (NF.realX e) 0 D = 1 ∧ NF.Density.kdeStd (NF.realX e) 0 D ≠ (((0 : ℕ) : ℝ)) ^ (-(1 / (↑(D + 4) : ℝ))) :=
  @DensityGaps.kdeStd_zero_counterexample

theorem mg1_normalised :
    ∀ (e : Float → ℝ) (low high : Fin 3 → ℝ),
      (∀ (i : Fin 3), low i < high i) → ∫ (p : Fin 3 → ℝ), DensityGaps.mg1Density e low high p = 1 :=
  @DensityGaps.mg1_normalised

theorem mg1_sample_law :
    ∀ (e : Float → ℝ) (low high : Fin 3 → ℝ),
      (∀ (i : Fin 3), low i < high i) →
        MeasureTheory.Measure.map (fun (v : Fin 3 → ℝ) => Matrix.vecMul v DistReal.mg1Ainv)
            (MeasureTheory.MeasureSpace.volume.withDensity fun (v : Fin 3 → ℝ) =>
              ENNReal.ofReal (DensityGaps.boxDens low high v)) =
          MeasureTheory.MeasureSpace.volume.withDensity fun (p : Fin 3 → ℝ) =>
            ENNReal.ofReal (DensityGaps.mg1Density e low high p) :=
  @DensityGaps.mg1_sample_law

theorem normal_sample_law_nd :
    ∀ (e : Float → ℝ) {D : ℕ} (μ ls : Fin D → ℝ),
      MeasureTheory.Measure.map (fun (ε : Fin D → ℝ) (i : Fin D) => μ i + Real.exp (ls i) * ε i)
          (MeasureTheory.Measure.pi fun (x : Fin D) => ProbabilityTheory.gaussianReal 0 1) =
        MeasureTheory.MeasureSpace.volume.withDensity fun (x : Fin D → ℝ) =>
          ENNReal.ofReal (Real.exp (NF.Density.diagNormalRow (NF.realX e) D (List.ofFn μ) (List.ofFn ls) (List.ofFn x))) :=
  @DensityGaps.normal_sample_law_pi

theorem uniform_coordinate_total_over_reals :
    ∀ (e : Float → ℝ) (l h x : ℝ),
      NF.Density.uniformCoord (NF.realX e) l h x = -Real.log (h - l) :=
  @DensityGaps.uniformCoord_total

end Properties.C05
