import NflowsModel.Properties.C01
import NflowsModel.Lemmas.LogdetExec
import NflowsModel.Lemmas.NonlinExec
import NflowsModel.Lemmas.NonlinExecLT
/-!
# C01 (continued) — the EXECUTED element-wise transformers and the layers with a size factor

Re-statements with explicit types; the proofs are in `Lemmas/NonlinExec*.lean`, `Lemmas/LogdetExec*.lean` (here at most a line of assembly).  The scalar laws of `Properties/C01.lean`
are closed-form facts; here every statement is about the program the driver runs at `NF.realX e`.
`NonlinExec.LogDetAt F x`: `F x = .ok (y, ld)`, the program's value has a derivative `d` at `x` and `|d| = exp ld`
(`IncLogDetAt`: `d = exp ld`).  Counterexample theorems mark the forced side conditions: the thresholded softplus makes the Sigmoid
log-det inexact by `log(1 + e^{-|Tx|}) ≤ e^{-20}` beyond `|T x| = 20` (as in PyTorch), LeakyReLU is not differentiable at `0`,
`LogTanh` with the constructor's constants has a kink at the cut, a zero scale / a non-permutation are accepted by the element
functions (the constructors reject the former, nobody the latter).  Layers: 1×1 convolution (`H·W·log|det W|` = `log|det|` of the
block-diagonal Fréchet derivative of the executed item map), ActNorm 2-D / 4-D (`(h·w)·Σ log_scale`), BatchNorm in evaluation mode
(`batchnorm_eval_executed_logdet` is about `LogdetExec.bnRowMap`; that the executed `bnNormalise` computes `bnRowMap` on every row is the
first conjunct of `LogdetExec.batchnorm_logdet_is_log_abs_det`, not restated, unlike for the ActNorm statements),
permutations / squeeze (coordinate re-indexings, `|det| = 1`).
-/
set_option linter.all false
namespace Properties.C01

theorem exp_executed_logdet :
    ∀ (e : Float → ℝ) (x : ℝ), NonlinExec.IncLogDetAt (NF.expT (NF.realX e) Bool.false) x :=
  fun e x => NonlinExec.incLogDetAt_of_eventually (fy := Real.exp) (fl := id)
    (Filter.Eventually.of_forall fun s => NonlinExec.expT_fwd_run e s) (Real.hasDerivAt_exp x)

theorem exp_inverse_executed_logdet :
    ∀ (e : Float → ℝ) {y : ℝ},
      0 < y → NonlinExec.IncLogDetAt (NF.expT (NF.realX e) Bool.true) y :=
  @NonlinExec.expT_inv_logdet

theorem affine_executed_logdet :
    ∀ (e : Float → ℝ) (scale shift x : ℝ),
      scale ≠ 0 → NonlinExec.LogDetAt (NF.affineT (NF.realX e) scale shift Bool.false) x :=
  @NonlinExec.affineT_fwd_logdet

theorem affine_zero_scale_counterexample :
    ∀ (e : Float → ℝ) (shift x : ℝ),
      NF.affineT (NF.realX e) 0 shift Bool.false x = Except.ok (shift, 0) ∧
        HasDerivAt (fun (s : ℝ) => DualX.outY (NF.affineT (NF.realX e) 0 shift Bool.false s)) 0 x ∧ |0| ≠ Real.exp 0 :=
  @NonlinExec.affineT_zero_scale_counterexample

theorem glu_executed_logdet :
    ∀ (e : Float → ℝ) (ctx x : ℝ),
      NonlinExec.IncLogDetAt (NF.gluT (NF.realX e) ctx Bool.false) x :=
  @NonlinExec.gluT_fwd_logdet

theorem glu_executed_row_logdet :
    ∀ (e : Float → ℝ) (ctx : ℝ) (xs : List ℝ),
      (List.map (fun (x : ℝ) => DualX.outL (NF.gluT (NF.realX e) ctx Bool.false x)) xs).sum =
        (↑xs.length : ℝ) * Real.log (NonlinExec.gate ctx) :=
  @NonlinExec.gluT_row_logdet

theorem leakyRelu_executed_logdet :
    ∀ {e : Float → ℝ} {slope : Float} {ls : ℝ},
      NonlinExec.LeakyConsts e slope ls →
        ∀ {x : ℝ}, x ≠ 0 → NonlinExec.IncLogDetAt (NF.leakyReluT (NF.realX e) slope ls Bool.false) x :=
  @NonlinExec.leakyReluT_fwd_logdet

theorem leakyRelu_kink_counterexample :
    ∀ {e : Float → ℝ} (slope : Float) (ls : ℝ),
      e slope ≠ 1 →
        NF.leakyReluT (NF.realX e) slope ls Bool.false 0 = Except.ok (0, 0) ∧
          ¬DifferentiableAt ℝ (fun (s : ℝ) => DualX.outY (NF.leakyReluT (NF.realX e) slope ls Bool.false s)) 0 :=
  @NonlinExec.leakyReluT_not_differentiable_at_zero

theorem sigmoid_executed_logdet :
    ∀ (e : Float → ℝ) {T : ℝ} (eps : Float) {x : ℝ},
      0 < T → |T * x| ≤ 20 → NonlinExec.IncLogDetAt (NF.sigmoidT (NF.realX e) T eps Bool.false) x :=
  @NonlinExec.sigmoidT_fwd_logdet

theorem sigmoid_threshold_counterexample :
    ∀ (e : Float → ℝ) {T : ℝ} (eps : Float) {x : ℝ},
      0 < T → 20 < |T * x| → ¬NonlinExec.LogDetAt (NF.sigmoidT (NF.realX e) T eps Bool.false) x :=
  @NonlinExec.sigmoidT_fwd_logdet_false_beyond_threshold

theorem sigmoid_threshold_gap :
    ∀ (e : Float → ℝ) {T : ℝ} (eps : Float) {x : ℝ},
      0 < T →
        20 < |T * x| →
          ∃ (ld : ℝ),
            NF.sigmoidT (NF.realX e) T eps Bool.false x = Except.ok (NonlinExec.gate (T * x), ld) ∧
              HasDerivAt (fun (s : ℝ) => DualX.outY (NF.sigmoidT (NF.realX e) T eps Bool.false s))
                  (Real.exp (NonlinExec.sigLdIdeal T (T * x))) x ∧
                ld = NonlinExec.sigLdIdeal T (T * x) + Real.log (1 + Real.exp (-|T * x|)) ∧
                  0 < ld - NonlinExec.sigLdIdeal T (T * x) ∧ ld - NonlinExec.sigLdIdeal T (T * x) ≤ Real.exp (-20) :=
  @NonlinExec.sigmoidT_fwd_threshold_gap

theorem logit_executed_logdet :
    ∀ {e : Float → ℝ} {T : ℝ} {eps : Float},
      NonlinExec.SigmoidClamp e eps →
        ∀ {y : ℝ},
          0 < T →
            e eps < y →
              y < e (1 - eps) →
                |NonlinExec.logit y| ≤ 20 → NonlinExec.IncLogDetAt (NF.sigmoidT (NF.realX e) T eps Bool.true) y :=
  @NonlinExec.sigmoidT_inv_logdet

theorem tanh_inverse_executed_logdet :
    ∀ (e : Float → ℝ),
      e 0.5 = 1 / 2 → ∀ {y : ℝ}, -1 < y → y < 1 → NonlinExec.IncLogDetAt (NF.tanhT (NF.realX e) Bool.true) y :=
  @NonlinExec.tanhT_inv_logdet

theorem cauchy_executed_logdet :
    ∀ {e : Float → ℝ},
      NonlinExec.CauchyConsts e →
        ∀ (x : ℝ),
          HasDerivAt (fun (s : ℝ) => DualX.outY (NF.cauchyT (NF.realX e) Bool.false s))
            (Real.exp (DualX.outL (NF.cauchyT (NF.realX e) Bool.false x))) x :=
  fun h x => NonlinExec.cauchyT_fwd_hasDerivAt_p h.toP x

theorem logTanh_executed_logdet_mid :
    ∀ {e : Float → ℝ} {cut invCut alpha beta : Float} {c a b : ℝ},
      NonlinExec.LogTanhConsts e cut invCut alpha beta c a b →
        ∀ (x : ℝ),
          -c < x →
            x < c →
              HasDerivAt (fun (s : ℝ) => DualX.outY (NF.logTanhT (NF.realX e) cut invCut alpha beta Bool.false s))
                (Real.exp (DualX.outL (NF.logTanhT (NF.realX e) cut invCut alpha beta Bool.false x))) x :=
  @NonlinExec.logTanhT_fwd_mid_hasDerivAt

theorem logTanh_executed_logdet_hi :
    ∀ {e : Float → ℝ} {cut invCut alpha beta : Float} {c a b : ℝ},
      NonlinExec.LogTanhConsts e cut invCut alpha beta c a b →
        ∀ (x : ℝ),
          c < x →
            HasDerivAt (fun (s : ℝ) => DualX.outY (NF.logTanhT (NF.realX e) cut invCut alpha beta Bool.false s))
              (Real.exp (DualX.outL (NF.logTanhT (NF.realX e) cut invCut alpha beta Bool.false x))) x :=
  @NonlinExec.logTanhT_fwd_hi_hasDerivAt

theorem logTanh_kink_at_cut :
    ∀ {e : Float → ℝ} {cut invCut alpha beta : Float},
      NonlinExec.LogTanhConsts e cut invCut alpha beta 1 (NonlinExec.aLib 1) (NonlinExec.bLib 1) →
        ¬DifferentiableAt ℝ (fun (s : ℝ) => DualX.outY (NF.logTanhT (NF.realX e) cut invCut alpha beta Bool.false s)) 1 :=
  fun h => NonlinExec.logTanhT_fwd_kink h NonlinExec.lib_alpha_kink_one

theorem nonlin_layer_row_logdet :
    ∀ (e : Float → ℝ) (kind : String) (ds : Array Float) (ps : List ℝ) (B n : ℕ)
      (x : Array ℝ) (inv : Bool),
      x.size = B * n →
        ∀ {b : ℕ},
          b < B →
            (NF.nonlinApply (NF.realX e) kind ds ps B x inv).ld[b]? =
              Option.some
                (∑ k ∈ Finset.range n, DualX.outL (NF.nonlinEl (NF.realX e) kind ds ps inv (x.getD (b * n + k) 0))) :=
  @NonlinExec.nonlinApply_ld_row

theorem conv1x1_executed_logdet :
    ∀ (p : NF.LF.LUParams ℝ),
      p.udiag.length = p.n →
        0 ≤ p.eps →
          p.bias.length = p.n →
            ∀ (σ : Equiv.Perm (Fin p.n)) (B H W : ℕ) (xs : List ℝ) (b : Fin B),
              ∃ (D : (Fin p.n × Fin H × Fin W → ℝ) →L[ℝ] Fin p.n × Fin H × Fin W → ℝ),
                LogdetExec.itemOf p.n H W (NF.LF.convForward DualSound.realOps p (LogdetExec.permList σ) B H W xs).1
                      (↑b : ℕ) =
                    LogdetExec.convItemMap (LinearBridge.luW p) (LinearBridge.vecFn p.n p.bias) σ (Fin H × Fin W)
                      (LogdetExec.itemOf p.n H W xs (↑b : ℕ)) ∧
                  (∀ (x0 : Fin p.n × Fin H × Fin W → ℝ),
                      HasFDerivAt
                        (LogdetExec.convItemMap (LinearBridge.luW p) (LinearBridge.vecFn p.n p.bias) σ (Fin H × Fin W)) D
                        x0) ∧
                    D.det ≠ 0 ∧
                      (NF.LF.convForward DualSound.realOps p (LogdetExec.permList σ) B H W xs).2[(↑b : ℕ)]? =
                          Option.some (Real.log |D.det|) ∧
                        (NF.LF.convForward DualSound.realOps p (LogdetExec.permList σ) B H W xs).2.length = B :=
  @LogdetExec.conv_logdet_is_log_abs_det_fderiv

theorem conv1x1_logdet_entry :
    ∀ (p : NF.LF.LUParams ℝ) (B H W b : ℕ),
      b < B →
        (NF.LF.convLogabsdet DualSound.realOps p B H W id)[b]? =
          Option.some ((↑(H * W) : ℝ) * NF.LF.luLogabsdet DualSound.realOps p) :=
  @LogdetExec.convLogabsdet_entry

theorem actnorm_executed_logdet :
    ∀ (e : Float → ℝ) {F : ℕ} (ls sh : List ℝ),
      ls.length = F →
        ∀ (xs : List (Fin F → ℝ)),
          NF.Norm.actApply (NF.realX e) F ls sh (NF.Norm.Batch.d2 (List.map LogdetExec.encRow xs)) =
              NF.Norm.Batch.d2 (List.map (fun (x : Fin F → ℝ) => LogdetExec.encRow (LogdetExec.actRowMap ls sh x)) xs) ∧
            ∀ (i : ℕ) (hi : i < xs.length),
              ∃ (J : (Fin F → ℝ) →L[ℝ] Fin F → ℝ),
                HasFDerivAt (LogdetExec.actRowMap ls sh) J xs[i] ∧
                  (NF.Norm.actLogdet (NF.realX e) ls (NF.Norm.Batch.d2 (List.map LogdetExec.encRow xs)) Bool.false)[i]? =
                    Option.some (Real.log |J.det|) :=
  @LogdetExec.actnorm_d2_logdet_is_log_abs_det

theorem actnorm_image_executed_logdet :
    ∀ (e : Float → ℝ) {F : ℕ} (ls sh : List ℝ),
      ls.length = F →
        ∀ (h w : ℕ) (xs : List (Fin F × Fin (h * w) → ℝ)),
          NF.Norm.actApply (NF.realX e) F ls sh (NF.Norm.Batch.d4 h w (List.map LogdetExec.encImg xs)) =
              NF.Norm.Batch.d4 h w
                (List.map (fun (x : Fin F × Fin (h * w) → ℝ) => LogdetExec.encImg (LogdetExec.actImgMap ls sh x)) xs) ∧
            ∀ (i : ℕ) (hi : i < xs.length),
              ∃ (J : (Fin F × Fin (h * w) → ℝ) →L[ℝ] Fin F × Fin (h * w) → ℝ),
                HasFDerivAt (LogdetExec.actImgMap ls sh) J xs[i] ∧
                  (NF.Norm.actLogdet (NF.realX e) ls (NF.Norm.Batch.d4 h w (List.map LogdetExec.encImg xs))
                        Bool.false)[i]? =
                    Option.some (Real.log |J.det|) :=
  @LogdetExec.actnorm_d4_logdet_is_log_abs_det

theorem batchnorm_eval_executed_logdet :
    ∀ (e : Float → ℝ) {F : ℕ} (cfg : NF.Norm.BNCfg ℝ),
      0 ≤ cfg.eps →
        ∀ (mean var uw bias : List ℝ),
          (∀ j < F, 0 < var.getD j 0 + cfg.eps) →
            ∀ (xs : List (Fin F → ℝ)) (i : ℕ) (hi : i < xs.length),
              ∃ (J : (Fin F → ℝ) →L[ℝ] Fin F → ℝ),
                HasFDerivAt (LogdetExec.bnRowMap e cfg mean var uw bias) J xs[i] ∧
                  (NF.Norm.bnLogdet (NF.realX e) cfg F var uw (List.map LogdetExec.encRow xs).length Bool.false)[i]? =
                    Option.some (Real.log |J.det|) :=
  fun e _ cfg heps mean var uw bias hv xs =>
    (LogdetExec.batchnorm_logdet_is_log_abs_det e cfg mean var uw bias
      (fun j _ => (LogdetExec.bnWeight_pos e cfg heps uw j).ne') hv xs).2

theorem permutation_executed_is_reindex :
    ∀ (B : ℕ) (rest : List ℕ) (dim : ℕ),
      1 ≤ dim →
        dim < (B :: rest).length →
          ∀ (perm : List ℕ),
            LogdetExec.IsPerm ((B :: rest).getD dim 0) perm →
              ∀ (x : Array ℝ),
                ∃ (y : Array ℝ) (σ : Equiv.Perm (Fin (LogdetExec.fprod rest))),
                  NF.permuteDim (B :: rest) dim perm x 0 = Except.ok y ∧
                    y.size = List.foldl (fun (x1 x2 : ℕ) => x1 * x2) 1 (B :: rest) ∧
                      LogdetExec.ItemReindex B (LogdetExec.fprod rest) x y σ :=
  @LogdetExec.permuteDim_item_is_reindex_general

theorem reindex_logdet_zero :
    ∀ {N : ℕ} (σ : Equiv.Perm (Fin N)),
      (∀ (x : Fin N → ℝ),
          HasFDerivAt (fun (v : Fin N → ℝ) (k : Fin N) => v ((σ : Fin N → Fin N) k))
            (FlowWholeND.matCLM (Equiv.Perm.permMatrix ℝ σ)) x) ∧
        (Function.Bijective fun (v : Fin N → ℝ) (k : Fin N) => v ((σ : Fin N → Fin N) k)) ∧
          (∀ (v : Fin N → ℝ),
              (FlowWholeND.matCLM (Equiv.Perm.permMatrix ℝ σ) : (Fin N → ℝ) → Fin N → ℝ) v = fun (k : Fin N) =>
                v ((σ : Fin N → Fin N) k)) ∧
            |(FlowWholeND.matCLM (Equiv.Perm.permMatrix ℝ σ)).det| = 1 ∧
              Real.log |(FlowWholeND.matCLM (Equiv.Perm.permMatrix ℝ σ)).det| = 0 :=
  @LogdetExec.reindex_abs_det

theorem squeeze_executed_is_reindex :
    ∀ (f B C H W : ℕ),
      0 < f →
        f ∣ H →
          f ∣ W →
            ∀ (x : Array ℝ),
              ∃ (y : Array ℝ) (σ : Equiv.Perm (Fin (C * H * W))),
                NF.squeezeFwd f B C H W x 0 = Except.ok y ∧
                  y.size = B * (C * f * f) * (H / f) * (W / f) ∧
                    y.size = B * C * H * W ∧ LogdetExec.ItemReindex B (C * H * W) x y σ :=
  @LogdetExec.squeezeFwd_item_is_reindex_dvd

theorem non_permutation_counterexample :
    (!![1, 0; 1, 0] : Matrix (Fin 2) (Fin 2) ℝ).det = 0 ∧ |(!![1, 0; 1, 0] : Matrix (Fin 2) (Fin 2) ℝ).det| ≠ Real.exp 0 :=
  @LogdetExec.non_permutation_det_zero

end Properties.C01
