import NflowsModel.Properties.C04
import NflowsModel.Lemmas.ARInverseStage
/-!
# C04 (continued) — the pairing theorem for masked autoregressive flows

`Lemmas/ARInverseStage.lean`: `RoundTripEq` between the forward autoregressive stage and the `F`-pass inverse loop for any element
family that is undone in the order inverse-then-forward (`roundTrip_arStage`), hence `flowSalpExec_consistent_ar`: for a masked
autoregressive flow the value returned with sample `[i, j]` is `log_prob` of that sample alone under context row `i`.  The two general statements keep the
element-level hypothesis `ArElInvertibleRev`; the affine, bounded RQ and RQ-with-tails statements are their instances, with no round-trip
hypothesis left.
-/
set_option linter.all false
namespace Properties.C04

theorem roundTrip_arStage :
    ∀ (e : Float → ℝ) (c : NF.ElCfg) (F : ℕ) (net : ℕ → Array ℝ → Array ℝ → Array ℝ),
      0 < F →
        (∀ (ctx : Array ℝ), NF.ARWhole.AutoregNet 1 F (NF.ARWhole.pw c) fun (z : Array ℝ) => net 1 z ctx) →
          (∀ (params : Array ℝ), NF.ARWhole.ArElInvertibleRev (NF.realX e) c F params 1) →
            NF.StageMore.RoundTripEq (NF.realX e) (fun (z : Array ℝ) => z.size = F) (fun (s : Array ℝ) => s.size = F)
              (NF.FlowRowsExec.arStage (NF.realX e) c F Bool.false net) (NF.ARInverseStage.arInvStage (NF.realX e) c F net) :=
  @NF.ARInverseStage.roundTrip_arStage

theorem roundTrip_arStage_affine :
    ∀ (e : Float → ℝ) (c : NF.ElCfg) (F : ℕ)
      (net : ℕ → Array ℝ → Array ℝ → Array ℝ),
      c.kind = "araffine" →
        0 ≤ e (c.ds.getD 0 0.0) →
          0 < F →
            (∀ (ctx : Array ℝ), NF.ARWhole.AutoregNet 1 F 2 fun (z : Array ℝ) => net 1 z ctx) →
              NF.StageMore.RoundTripEq (NF.realX e) (fun (z : Array ℝ) => z.size = F) (fun (s : Array ℝ) => s.size = F)
                (NF.FlowRowsExec.arStage (NF.realX e) c F Bool.false net)
                (NF.ARInverseStage.arInvStage (NF.realX e) c F net) :=
  fun e c F net hk he hF hnet =>
    NF.ARInverseStage.roundTrip_arStage e c F net hF (fun ctx => by rw [NF.ARWhole.pw_araffine hk]; exact hnet ctx)
      (fun params => (NF.ARWhole.arElInvertible_araffine_real e c hk he F params 1).2)

theorem roundTrip_arStage_rq :
    ∀ (e : Float → ℝ) (c : NF.ElCfg) (F : ℕ)
      (net : ℕ → Array ℝ → Array ℝ → Array ℝ),
      NF.ARWhole.RQCfgValid e c →
        0 < F →
          (∀ (ctx : Array ℝ), NF.ARWhole.AutoregNet 1 F (3 * c.K + 1) fun (z : Array ℝ) => net 1 z ctx) →
            NF.StageMore.RoundTripEq (NF.realX e) (fun (z : Array ℝ) => z.size = F) (fun (s : Array ℝ) => s.size = F)
              (NF.FlowRowsExec.arStage (NF.realX e) c F Bool.false net) (NF.ARInverseStage.arInvStage (NF.realX e) c F net) :=
  fun e c F net hc hF hnet =>
    NF.ARInverseStage.roundTrip_arStage e c F net hF (fun ctx => by rw [NF.ARWhole.pw_rq hc.hk hc.ht]; exact hnet ctx)
      (NF.ARInverseStage.arElInvertibleRev_rq_all e c F hc)

theorem roundTrip_arStage_rqTails :
    ∀ (e : Float → ℝ) (c : NF.ElCfg) (F : ℕ)
      (net : ℕ → Array ℝ → Array ℝ → Array ℝ),
      NF.StructureExec.RQTailsCfgValid e c →
        0 < F →
          (∀ (ctx : Array ℝ), NF.ARWhole.AutoregNet 1 F (NF.ARWhole.pw c) fun (z : Array ℝ) => net 1 z ctx) →
            NF.StageMore.RoundTripEq (NF.realX e) (fun (z : Array ℝ) => z.size = F) (fun (s : Array ℝ) => s.size = F)
              (NF.FlowRowsExec.arStage (NF.realX e) c F Bool.false net) (NF.ARInverseStage.arInvStage (NF.realX e) c F net) :=
  fun e c F net hc hF hnet =>
    NF.ARInverseStage.roundTrip_arStage e c F net hF hnet
      (fun params => (NF.ARWhole.arElInvertible_rq_tails_real e c hc F params 1).2)

theorem flowSalpExec_consistent_ar :
    ∀ (e : Float → ℝ) (c : NF.ElCfg) (F : ℕ)
      (net : ℕ → Array ℝ → Array ℝ → Array ℝ) {rcw cw R n : ℕ} {emb : ℕ → Array ℝ → Array ℝ}
      {base : NF.FlowRowsExec.BaseD ℝ} {noise ctx : Array ℝ},
      0 < F →
        (∀ (ctx : Array ℝ), NF.ARWhole.AutoregNet 1 F (NF.ARWhole.pw c) fun (z : Array ℝ) => net 1 z ctx) →
          (∀ (params : Array ℝ), NF.ARWhole.ArElInvertibleRev (NF.realX e) c F params 1) →
            NF.FlowRowsExec.NetRowWise F cw (F * NF.FlowRowsExec.arMult c) net →
              NF.FlowRowsExec.RowIndepBase cw base →
                NF.FlowRowsExec.EmbRowWise rcw cw emb →
                  R * cw ≤ (emb R ctx).size →
                    ∀ {s : Array ℝ} {lps : List ℝ},
                      NF.FlowRowsExec.flowSalpExec (NF.realX e) F cw R n emb
                            (NF.ARInverseStage.arInvStage (NF.realX e) c F net) base noise ctx =
                          Except.ok (s, lps) →
                        ∀ {i j : ℕ},
                          i < R →
                            j < n →
                              ∀ (zr cr : Array ℝ),
                                zr.size = F →
                                  NF.FlowRowsExec.RowEq F (i * n + j) 0 noise zr →
                                    NF.FlowRowsExec.RowEq rcw i 0 ctx cr →
                                      ∃ (si : Array ℝ) (lp : ℝ),
                                        NF.FlowRowsExec.RowEq F (i * n + j) 0 s si ∧
                                          lps[i * n + j]? = Option.some lp ∧
                                            NF.FlowRowsExec.flowLogProbExec (NF.realX e) F emb
                                                (NF.FlowRowsExec.arStage (NF.realX e) c F Bool.false net) base 1 si cr =
                                              Except.ok [lp] :=
  @NF.ARInverseStage.flowSalpExec_consistent_ar

theorem flowSalpExec_consistent_ar_affine :
    ∀ (e : Float → ℝ) (c : NF.ElCfg) (F : ℕ)
      (net : ℕ → Array ℝ → Array ℝ → Array ℝ) {rcw cw R n : ℕ} {emb : ℕ → Array ℝ → Array ℝ}
      {base : NF.FlowRowsExec.BaseD ℝ} {noise ctx : Array ℝ},
      c.kind = "araffine" →
        0 ≤ e (c.ds.getD 0 0.0) →
          0 < F →
            (∀ (ctx : Array ℝ), NF.ARWhole.AutoregNet 1 F 2 fun (z : Array ℝ) => net 1 z ctx) →
              NF.FlowRowsExec.NetRowWise F cw (F * 2) net →
                NF.FlowRowsExec.RowIndepBase cw base →
                  NF.FlowRowsExec.EmbRowWise rcw cw emb →
                    R * cw ≤ (emb R ctx).size →
                      ∀ {s : Array ℝ} {lps : List ℝ},
                        NF.FlowRowsExec.flowSalpExec (NF.realX e) F cw R n emb
                              (NF.ARInverseStage.arInvStage (NF.realX e) c F net) base noise ctx =
                            Except.ok (s, lps) →
                          ∀ {i j : ℕ},
                            i < R →
                              j < n →
                                ∀ (zr cr : Array ℝ),
                                  zr.size = F →
                                    NF.FlowRowsExec.RowEq F (i * n + j) 0 noise zr →
                                      NF.FlowRowsExec.RowEq rcw i 0 ctx cr →
                                        ∃ (si : Array ℝ) (lp : ℝ),
                                          NF.FlowRowsExec.RowEq F (i * n + j) 0 s si ∧
                                            lps[i * n + j]? = Option.some lp ∧
                                              NF.FlowRowsExec.flowLogProbExec (NF.realX e) F emb
                                                  (NF.FlowRowsExec.arStage (NF.realX e) c F Bool.false net) base 1 si cr =
                                                Except.ok [lp] :=
  fun e c F net rcw cw R n emb base noise ctx hk he hF hauto hnet =>
    NF.ARInverseStage.flowSalpExec_consistent_ar e c F net hF
      (fun ctx => by rw [NF.ARWhole.pw_araffine hk]; exact hauto ctx)
      (fun params => (NF.ARWhole.arElInvertible_araffine_real e c hk he F params 1).2)
      (by rw [show NF.FlowRowsExec.arMult c = 2 by simp [NF.FlowRowsExec.arMult, hk]]; exact @hnet)

theorem flowSalpExec_consistent_ar_rq :
    ∀ (e : Float → ℝ) (c : NF.ElCfg) (F : ℕ)
      (net : ℕ → Array ℝ → Array ℝ → Array ℝ) {rcw cw R n : ℕ} {emb : ℕ → Array ℝ → Array ℝ}
      {base : NF.FlowRowsExec.BaseD ℝ} {noise ctx : Array ℝ},
      NF.ARWhole.RQCfgValid e c →
        0 < F →
          (∀ (ctx : Array ℝ), NF.ARWhole.AutoregNet 1 F (3 * c.K + 1) fun (z : Array ℝ) => net 1 z ctx) →
            NF.FlowRowsExec.NetRowWise F cw (F * NF.FlowRowsExec.arMult c) net →
              NF.FlowRowsExec.RowIndepBase cw base →
                NF.FlowRowsExec.EmbRowWise rcw cw emb →
                  R * cw ≤ (emb R ctx).size →
                    ∀ {s : Array ℝ} {lps : List ℝ},
                      NF.FlowRowsExec.flowSalpExec (NF.realX e) F cw R n emb
                            (NF.ARInverseStage.arInvStage (NF.realX e) c F net) base noise ctx =
                          Except.ok (s, lps) →
                        ∀ {i j : ℕ},
                          i < R →
                            j < n →
                              ∀ (zr cr : Array ℝ),
                                zr.size = F →
                                  NF.FlowRowsExec.RowEq F (i * n + j) 0 noise zr →
                                    NF.FlowRowsExec.RowEq rcw i 0 ctx cr →
                                      ∃ (si : Array ℝ) (lp : ℝ),
                                        NF.FlowRowsExec.RowEq F (i * n + j) 0 s si ∧
                                          lps[i * n + j]? = Option.some lp ∧
                                            NF.FlowRowsExec.flowLogProbExec (NF.realX e) F emb
                                                (NF.FlowRowsExec.arStage (NF.realX e) c F Bool.false net) base 1 si cr =
                                              Except.ok [lp] :=
  fun e c F net rcw cw R n emb base noise ctx hcv hF hauto =>
    NF.ARInverseStage.flowSalpExec_consistent_ar e c F net hF
      (fun ctx => by rw [NF.ARWhole.pw_rq hcv.hk hcv.ht]; exact hauto ctx) (NF.ARInverseStage.arElInvertibleRev_rq_all e c F hcv)

theorem flowSalpExec_consistent_ar_rqTails :
    ∀ (e : Float → ℝ) (c : NF.ElCfg) (F : ℕ)
      (net : ℕ → Array ℝ → Array ℝ → Array ℝ) {rcw cw R n : ℕ} {emb : ℕ → Array ℝ → Array ℝ}
      {base : NF.FlowRowsExec.BaseD ℝ} {noise ctx : Array ℝ},
      NF.StructureExec.RQTailsCfgValid e c →
        0 < F →
          (∀ (ctx : Array ℝ), NF.ARWhole.AutoregNet 1 F (NF.ARWhole.pw c) fun (z : Array ℝ) => net 1 z ctx) →
            NF.FlowRowsExec.NetRowWise F cw (F * NF.FlowRowsExec.arMult c) net →
              NF.FlowRowsExec.RowIndepBase cw base →
                NF.FlowRowsExec.EmbRowWise rcw cw emb →
                  R * cw ≤ (emb R ctx).size →
                    ∀ {s : Array ℝ} {lps : List ℝ},
                      NF.FlowRowsExec.flowSalpExec (NF.realX e) F cw R n emb
                            (NF.ARInverseStage.arInvStage (NF.realX e) c F net) base noise ctx =
                          Except.ok (s, lps) →
                        ∀ {i j : ℕ},
                          i < R →
                            j < n →
                              ∀ (zr cr : Array ℝ),
                                zr.size = F →
                                  NF.FlowRowsExec.RowEq F (i * n + j) 0 noise zr →
                                    NF.FlowRowsExec.RowEq rcw i 0 ctx cr →
                                      ∃ (si : Array ℝ) (lp : ℝ),
                                        NF.FlowRowsExec.RowEq F (i * n + j) 0 s si ∧
                                          lps[i * n + j]? = Option.some lp ∧
                                            NF.FlowRowsExec.flowLogProbExec (NF.realX e) F emb
                                                (NF.FlowRowsExec.arStage (NF.realX e) c F Bool.false net) base 1 si cr =
                                              Except.ok [lp] :=
  fun e c F net rcw cw R n emb base noise ctx hcv hF hauto =>
    NF.ARInverseStage.flowSalpExec_consistent_ar e c F net hF hauto
      (fun params => (NF.ARWhole.arElInvertible_rq_tails_real e c hcv F params 1).2)

end Properties.C04
