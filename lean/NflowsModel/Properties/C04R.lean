import NflowsModel.Properties.C04
import NflowsModel.Lemmas.StageMore
/-!
# C04 (continued) — the pairing theorem with the round-trip law discharged

`Lemmas/StageMore.lean`.  `Properties.C04.flowSalpExec_consistent` has the stage's round-trip law as a hypothesis.  That hypothesis cannot be
met: `RoundTripStage` is FALSE for element-wise stages on arrays shorter than the stage width (missing entries read as zero;
`roundTripStage_cdf_short_false`) — hence the forms with an explicit size predicate (`RoundTripEq`, `RoundTripOn`,
`flowSalpExec_consistent_on`).  Proved at the reals for the executed coupling stage with an additive, affine or RQ-with-tails element and
ANY conditioner (the identity features feed the conditioner in both directions), for `Exp`, affine, LeakyReLU, Tanh (`−10 ≤ artanh y`:
the softplus threshold) and the RQ CDF stage, and closed under composition (inverse = reversed list); the general coupling statements keep the element-level
`ElInvertibleRev`, and where an element-wise stage has no domain restriction its entry predicate appears as `∀ y ∈ z.toList, True`.  Corollaries
`flowSalpExec_consistent_coupling_{affine,additive,rqTails}`: the value returned with sample `[i, j]` IS `log_prob` of that sample alone
under context row `i`, with no round-trip hypothesis left (networks row-wise, base row-independent remain hypotheses).
-/
set_option linter.all false
namespace Properties.C04

theorem roundTripStage_cdf_short_false :
    ∀ {α : Type} (o : XOps α) (c : NF.ElCfg) (n : ℕ) (params : Array α),
      0 < n →
        (∃ (s : Array α) (d : α), NF.FlowRowsExec.cdfStage o c n Bool.true params 1 #[] #[] = Except.ok (s, [d])) →
          ¬NF.FlowRowsExec.RoundTripStage o n (NF.FlowRowsExec.cdfStage o c n Bool.false params)
              (NF.FlowRowsExec.cdfStage o c n Bool.true params) :=
  @NF.StageMore.roundTripStage_cdf_short_false

theorem roundTrip_couplingStage :
    ∀ (e : Float → ℝ) (c : NF.ElCfg) (mask : List ℝ) (S : ℕ) (up up' : Array ℝ)
      (net : ℕ → Array ℝ → Array ℝ → Array ℝ),
      (∀ (params : Array ℝ),
          NF.StructureExec.ElInvertibleRev (NF.realX e) c (NF.transformIdx (NF.realX e) mask).length S params 1) →
        NF.StageMore.RoundTripEq (NF.realX e) (fun (z : Array ℝ) => mask.length * S ≤ z.size)
          (fun (s : Array ℝ) => mask.length * S ≤ s.size)
          (NF.FlowRowsExec.couplingStage (NF.realX e) c mask S Bool.false Option.none up' net)
          (NF.FlowRowsExec.couplingStage (NF.realX e) c mask S Bool.true Option.none up net) :=
  @NF.StageMore.roundTrip_couplingStage

theorem roundTrip_couplingStage_affine :
    ∀ (e : Float → ℝ) (c : NF.ElCfg) (mask : List ℝ) (S : ℕ)
      (up up' : Array ℝ) (net : ℕ → Array ℝ → Array ℝ → Array ℝ),
      0 ≤ e 1e-3 →
        c.kind = "affine" →
          NF.StageMore.RoundTripEq (NF.realX e) (fun (z : Array ℝ) => mask.length * S ≤ z.size)
            (fun (s : Array ℝ) => mask.length * S ≤ s.size)
            (NF.FlowRowsExec.couplingStage (NF.realX e) c mask S Bool.false Option.none up' net)
            (NF.FlowRowsExec.couplingStage (NF.realX e) c mask S Bool.true Option.none up net) :=
  @NF.StageMore.roundTrip_couplingStage_affine

theorem roundTrip_couplingStage_additive :
    ∀ (e : Float → ℝ) (c : NF.ElCfg) (mask : List ℝ) (S : ℕ)
      (up up' : Array ℝ) (net : ℕ → Array ℝ → Array ℝ → Array ℝ),
      c.kind = "additive" →
        NF.StageMore.RoundTripEq (NF.realX e) (fun (z : Array ℝ) => mask.length * S ≤ z.size)
          (fun (s : Array ℝ) => mask.length * S ≤ s.size)
          (NF.FlowRowsExec.couplingStage (NF.realX e) c mask S Bool.false Option.none up' net)
          (NF.FlowRowsExec.couplingStage (NF.realX e) c mask S Bool.true Option.none up net) :=
  @NF.StageMore.roundTrip_couplingStage_additive

theorem roundTrip_couplingStage_rqTails :
    ∀ (e : Float → ℝ) (c : NF.ElCfg) (mask : List ℝ) (S : ℕ)
      (up up' : Array ℝ) (net : ℕ → Array ℝ → Array ℝ → Array ℝ),
      NF.StructureExec.RQTailsCfgValid e c →
        NF.StageMore.RoundTripEq (NF.realX e) (fun (z : Array ℝ) => mask.length * S ≤ z.size)
          (fun (s : Array ℝ) => mask.length * S ≤ s.size)
          (NF.FlowRowsExec.couplingStage (NF.realX e) c mask S Bool.false Option.none up' net)
          (NF.FlowRowsExec.couplingStage (NF.realX e) c mask S Bool.true Option.none up net) :=
  @NF.StageMore.roundTrip_couplingStage_rqTails

theorem roundTrip_compStage :
    ∀ (e : Float → ℝ) (P : Array ℝ → Prop)
      (ps : List (NF.FlowRowsExec.BStage ℝ × NF.FlowRowsExec.BStage ℝ)),
      (∀ p ∈ ps, NF.StageMore.RoundTripEq (NF.realX e) P P p.1 p.2) →
        NF.StageMore.RoundTripEq (NF.realX e) P P (NF.FlowRowsExec.compStage (NF.realX e) (List.map Prod.fst ps))
          (NF.FlowRowsExec.compStage (NF.realX e) (List.map Prod.snd ps.reverse)) :=
  @NF.StageMore.roundTrip_compStage

theorem roundTrip_nonlinStage_exp :
    ∀ (e : Float → ℝ) (ds : Array Float) (ps : List ℝ) (n : ℕ),
      NF.StageMore.RoundTripEq (NF.realX e) (fun (z : Array ℝ) => z.size = n ∧ ∀ y ∈ z.toList, True)
        (fun (s : Array ℝ) => s.size = n) (NF.StageMore.nonlinStage (NF.realX e) "Exp" ds ps Bool.false)
        (NF.StageMore.nonlinStage (NF.realX e) "Exp" ds ps Bool.true) :=
  @NF.StageMore.roundTrip_nonlinStage_exp

theorem roundTrip_nonlinStage_affine :
    ∀ (e : Float → ℝ) (ds : Array Float) (ps : List ℝ),
      ps.getD 0 0 ≠ 0 →
        ∀ (n : ℕ),
          NF.StageMore.RoundTripEq (NF.realX e) (fun (z : Array ℝ) => z.size = n ∧ ∀ y ∈ z.toList, True)
            (fun (s : Array ℝ) => s.size = n) (NF.StageMore.nonlinStage (NF.realX e) "Affine" ds ps Bool.false)
            (NF.StageMore.nonlinStage (NF.realX e) "Affine" ds ps Bool.true) :=
  @NF.StageMore.roundTrip_nonlinStage_affine

theorem roundTrip_nonlinStage_leakyRelu :
    ∀ (e : Float → ℝ) (ds : Array Float) (ps : List ℝ),
      NonlinExec.LeakyConsts e (ds.getD 0 0.0) (ps.getD 0 0) →
        ∀ (n : ℕ),
          NF.StageMore.RoundTripEq (NF.realX e) (fun (z : Array ℝ) => z.size = n ∧ ∀ y ∈ z.toList, True)
            (fun (s : Array ℝ) => s.size = n) (NF.StageMore.nonlinStage (NF.realX e) "LeakyReLU" ds ps Bool.false)
            (NF.StageMore.nonlinStage (NF.realX e) "LeakyReLU" ds ps Bool.true) :=
  @NF.StageMore.roundTrip_nonlinStage_leakyRelu

theorem roundTrip_nonlinStage_tanh :
    ∀ (e : Float → ℝ) (ds : Array Float) (ps : List ℝ),
      NonlinExec.TanhConsts e →
        ∀ (n : ℕ),
          NF.StageMore.RoundTripEq (NF.realX e)
            (fun (z : Array ℝ) => z.size = n ∧ ∀ y ∈ z.toList, -10 ≤ NonlinExec.artanh y) (fun (s : Array ℝ) => s.size = n)
            (NF.StageMore.nonlinStage (NF.realX e) "Tanh" ds ps Bool.false)
            (NF.StageMore.nonlinStage (NF.realX e) "Tanh" ds ps Bool.true) :=
  @NF.StageMore.roundTrip_nonlinStage_tanh

theorem roundTrip_cdfStage_rqTails :
    ∀ (e : Float → ℝ) (c : NF.ElCfg) (n : ℕ) (params : Array ℝ),
      NF.StructureExec.RQTailsCfgValid e c →
        NF.StageMore.RoundTripEq (NF.realX e) (fun (z : Array ℝ) => z.size = n) (fun (s : Array ℝ) => s.size = n)
          (NF.FlowRowsExec.cdfStage (NF.realX e) c n Bool.false params)
          (NF.FlowRowsExec.cdfStage (NF.realX e) c n Bool.true params) :=
  @NF.StageMore.roundTrip_cdfStage_rqTails

theorem flowSalpExec_consistent_on :
    ∀ {α : Type} (o : XOps α) {P : Array α → Prop} {w rcw cw R n : ℕ}
      {emb : ℕ → Array α → Array α} {T Tinv : NF.FlowRowsExec.BStage α} {base : NF.FlowRowsExec.BaseD α}
      {noise ctx : Array α},
      NF.FlowRowsExec.RowWiseStage w cw Tinv →
        NF.FlowRowsExec.RowIndepBase cw base →
          NF.FlowRowsExec.EmbRowWise rcw cw emb →
            R * cw ≤ (emb R ctx).size →
              NF.StageMore.RoundTripOn o P w T Tinv →
                (∀ (a b : α), o.sub a b = o.add a (o.neg b)) →
                  ∀ {s : Array α} {lps : List α},
                    NF.FlowRowsExec.flowSalpExec o w cw R n emb Tinv base noise ctx = Except.ok (s, lps) →
                      ∀ {i j : ℕ},
                        i < R →
                          j < n →
                            ∀ (zr cr : Array α),
                              P zr →
                                NF.FlowRowsExec.RowEq w (i * n + j) 0 noise zr →
                                  NF.FlowRowsExec.RowEq rcw i 0 ctx cr →
                                    ∃ (si : Array α) (lp : α),
                                      NF.FlowRowsExec.RowEq w (i * n + j) 0 s si ∧
                                        lps[i * n + j]? = Option.some lp ∧
                                          NF.FlowRowsExec.flowLogProbExec o w emb T base 1 si cr = Except.ok [lp] :=
  @NF.StageMore.flowSalpExec_consistent_on

theorem flowSalpExec_consistent_coupling :
    ∀ (e : Float → ℝ) (c : NF.ElCfg) (mask : List ℝ) (S : ℕ)
      (up up' : Array ℝ) (net : ℕ → Array ℝ → Array ℝ → Array ℝ) {rcw cw R n : ℕ} {emb : ℕ → Array ℝ → Array ℝ}
      {base : NF.FlowRowsExec.BaseD ℝ} {noise ctx : Array ℝ},
      (∀ (params : Array ℝ),
          NF.StructureExec.ElInvertibleRev (NF.realX e) c (NF.transformIdx (NF.realX e) mask).length S params 1) →
        NF.FlowRowsExec.NetRowWise ((NF.identityIdx (NF.realX e) mask).length * S) cw
            (NF.StructureExec.paramWidth c (NF.transformIdx (NF.realX e) mask).length * S) net →
          NF.FlowRowsExec.RowIndepBase cw base →
            NF.FlowRowsExec.EmbRowWise rcw cw emb →
              R * cw ≤ (emb R ctx).size →
                ∀ {s : Array ℝ} {lps : List ℝ},
                  NF.FlowRowsExec.flowSalpExec (NF.realX e) (mask.length * S) cw R n emb
                        (NF.FlowRowsExec.couplingStage (NF.realX e) c mask S Bool.true Option.none up net) base noise ctx =
                      Except.ok (s, lps) →
                    ∀ {i j : ℕ},
                      i < R →
                        j < n →
                          ∀ (zr cr : Array ℝ),
                            mask.length * S ≤ zr.size →
                              NF.FlowRowsExec.RowEq (mask.length * S) (i * n + j) 0 noise zr →
                                NF.FlowRowsExec.RowEq rcw i 0 ctx cr →
                                  ∃ (si : Array ℝ) (lp : ℝ),
                                    NF.FlowRowsExec.RowEq (mask.length * S) (i * n + j) 0 s si ∧
                                      lps[i * n + j]? = Option.some lp ∧
                                        NF.FlowRowsExec.flowLogProbExec (NF.realX e) (mask.length * S) emb
                                            (NF.FlowRowsExec.couplingStage (NF.realX e) c mask S Bool.false Option.none up'
                                              net)
                                            base 1 si cr =
                                          Except.ok [lp] :=
  @NF.StageMore.flowSalpExec_consistent_coupling

/-- **C04 over the executed `AffineCouplingTransform`**: no round-trip hypothesis left (`1e-3` read as a non-negative real) -/
theorem flowSalpExec_consistent_coupling_affine :
    ∀ (e : Float → ℝ) (c : NF.ElCfg) (mask : List ℝ) (S : ℕ)
      (up up' : Array ℝ) (net : ℕ → Array ℝ → Array ℝ → Array ℝ) {rcw cw R n : ℕ} {emb : ℕ → Array ℝ → Array ℝ}
      {base : NF.FlowRowsExec.BaseD ℝ} {noise ctx : Array ℝ},
      0 ≤ e 1e-3 →
        c.kind = "affine" →
          NF.FlowRowsExec.NetRowWise ((NF.identityIdx (NF.realX e) mask).length * S) cw
              (NF.StructureExec.paramWidth c (NF.transformIdx (NF.realX e) mask).length * S) net →
            NF.FlowRowsExec.RowIndepBase cw base →
              NF.FlowRowsExec.EmbRowWise rcw cw emb →
                R * cw ≤ (emb R ctx).size →
                  ∀ {s : Array ℝ} {lps : List ℝ},
                    NF.FlowRowsExec.flowSalpExec (NF.realX e) (mask.length * S) cw R n emb
                          (NF.FlowRowsExec.couplingStage (NF.realX e) c mask S Bool.true Option.none up net) base noise
                          ctx =
                        Except.ok (s, lps) →
                      ∀ {i j : ℕ},
                        i < R →
                          j < n →
                            ∀ (zr cr : Array ℝ),
                              mask.length * S ≤ zr.size →
                                NF.FlowRowsExec.RowEq (mask.length * S) (i * n + j) 0 noise zr →
                                  NF.FlowRowsExec.RowEq rcw i 0 ctx cr →
                                    ∃ (si : Array ℝ) (lp : ℝ),
                                      NF.FlowRowsExec.RowEq (mask.length * S) (i * n + j) 0 s si ∧
                                        lps[i * n + j]? = Option.some lp ∧
                                          NF.FlowRowsExec.flowLogProbExec (NF.realX e) (mask.length * S) emb
                                              (NF.FlowRowsExec.couplingStage (NF.realX e) c mask S Bool.false Option.none
                                                up' net)
                                              base 1 si cr =
                                            Except.ok [lp] :=
  fun e c mask S up up' net => fun he hk =>
    NF.StageMore.flowSalpExec_consistent_coupling e c mask S up up' net
      (fun params => NF.CouplingJacobian.elInvertibleRev_affine_real e he c hk _ S params 1)

/-- **C04 over the executed `AdditiveCouplingTransform`** -/
theorem flowSalpExec_consistent_coupling_additive :
    ∀ (e : Float → ℝ) (c : NF.ElCfg) (mask : List ℝ) (S : ℕ)
      (up up' : Array ℝ) (net : ℕ → Array ℝ → Array ℝ → Array ℝ) {rcw cw R n : ℕ} {emb : ℕ → Array ℝ → Array ℝ}
      {base : NF.FlowRowsExec.BaseD ℝ} {noise ctx : Array ℝ},
      c.kind = "additive" →
        NF.FlowRowsExec.NetRowWise ((NF.identityIdx (NF.realX e) mask).length * S) cw
            (NF.StructureExec.paramWidth c (NF.transformIdx (NF.realX e) mask).length * S) net →
          NF.FlowRowsExec.RowIndepBase cw base →
            NF.FlowRowsExec.EmbRowWise rcw cw emb →
              R * cw ≤ (emb R ctx).size →
                ∀ {s : Array ℝ} {lps : List ℝ},
                  NF.FlowRowsExec.flowSalpExec (NF.realX e) (mask.length * S) cw R n emb
                        (NF.FlowRowsExec.couplingStage (NF.realX e) c mask S Bool.true Option.none up net) base noise ctx =
                      Except.ok (s, lps) →
                    ∀ {i j : ℕ},
                      i < R →
                        j < n →
                          ∀ (zr cr : Array ℝ),
                            mask.length * S ≤ zr.size →
                              NF.FlowRowsExec.RowEq (mask.length * S) (i * n + j) 0 noise zr →
                                NF.FlowRowsExec.RowEq rcw i 0 ctx cr →
                                  ∃ (si : Array ℝ) (lp : ℝ),
                                    NF.FlowRowsExec.RowEq (mask.length * S) (i * n + j) 0 s si ∧
                                      lps[i * n + j]? = Option.some lp ∧
                                        NF.FlowRowsExec.flowLogProbExec (NF.realX e) (mask.length * S) emb
                                            (NF.FlowRowsExec.couplingStage (NF.realX e) c mask S Bool.false Option.none up'
                                              net)
                                            base 1 si cr =
                                          Except.ok [lp] :=
  fun e c mask S up up' net => fun hk =>
    NF.StageMore.flowSalpExec_consistent_coupling e c mask S up up' net
      (fun params => NF.CouplingJacobian.elInvertibleRev_additive_real e c hk _ S params 1)

/-- **C04 over the executed `PiecewiseRationalQuadraticCouplingTransform(tails='linear')`** -/
theorem flowSalpExec_consistent_coupling_rqTails :
    ∀ (e : Float → ℝ) (c : NF.ElCfg) (mask : List ℝ) (S : ℕ)
      (up up' : Array ℝ) (net : ℕ → Array ℝ → Array ℝ → Array ℝ) {rcw cw R n : ℕ} {emb : ℕ → Array ℝ → Array ℝ}
      {base : NF.FlowRowsExec.BaseD ℝ} {noise ctx : Array ℝ},
      NF.StructureExec.RQTailsCfgValid e c →
        NF.FlowRowsExec.NetRowWise ((NF.identityIdx (NF.realX e) mask).length * S) cw
            (NF.StructureExec.paramWidth c (NF.transformIdx (NF.realX e) mask).length * S) net →
          NF.FlowRowsExec.RowIndepBase cw base →
            NF.FlowRowsExec.EmbRowWise rcw cw emb →
              R * cw ≤ (emb R ctx).size →
                ∀ {s : Array ℝ} {lps : List ℝ},
                  NF.FlowRowsExec.flowSalpExec (NF.realX e) (mask.length * S) cw R n emb
                        (NF.FlowRowsExec.couplingStage (NF.realX e) c mask S Bool.true Option.none up net) base noise ctx =
                      Except.ok (s, lps) →
                    ∀ {i j : ℕ},
                      i < R →
                        j < n →
                          ∀ (zr cr : Array ℝ),
                            mask.length * S ≤ zr.size →
                              NF.FlowRowsExec.RowEq (mask.length * S) (i * n + j) 0 noise zr →
                                NF.FlowRowsExec.RowEq rcw i 0 ctx cr →
                                  ∃ (si : Array ℝ) (lp : ℝ),
                                    NF.FlowRowsExec.RowEq (mask.length * S) (i * n + j) 0 s si ∧
                                      lps[i * n + j]? = Option.some lp ∧
                                        NF.FlowRowsExec.flowLogProbExec (NF.realX e) (mask.length * S) emb
                                            (NF.FlowRowsExec.couplingStage (NF.realX e) c mask S Bool.false Option.none up'
                                              net)
                                            base 1 si cr =
                                          Except.ok [lp] :=
  fun e c mask S up up' net => fun hcv =>
    NF.StageMore.flowSalpExec_consistent_coupling e c mask S up up' net
      (fun params => NF.StructureExec.elInvertibleRev_rq_tails_real e c hcv _ S params 1)

end Properties.C04
