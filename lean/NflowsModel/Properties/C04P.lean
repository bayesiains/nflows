import NflowsModel.Properties.C04
import NflowsModel.Lemmas.FlowBounded
import NflowsModel.Lemmas.FlowPushforward
/-!
# C04 (continued) — the push-forward theorems tied to the executed flow model

`Properties/C04.lean` states the change of variables for free functions; here (proofs in
`Lemmas/FlowPushforward.lean`, `Lemmas/FlowBounded.lean`) it is stated about `FlowFns0` / `flowLogProb0` / `flowLogProb1` /
`flowSalp` of `Core/FlowPairing.lean`: the law of `tinv(noise)` with noise distributed as `exp(blp)` has density `exp(flowLogProb0)`,
with the ABSOLUTE value of the derivative (decreasing transforms included), on sets with a countable exception set (bounded supports,
kinks at knots), in `n` dimensions, per context row — and, combined with the pairing theorem, block `i` of `flowSalp` consists of
draws of the density conditioned on context row `i` with exactly their `log_prob`.  Instantiated for the EXECUTED bounded
rational-quadratic spline, whose forward / inverse programs discharge every hypothesis (`rq_flow_salp_consistent`).
-/
set_option linter.all false
namespace Properties.C04

theorem flow_samples_follow_logprob :
    ∀ (f : NF.FlowPairing.FlowFns0 ℝ ℝ ℝ),
      (∀ (a b : ℝ), f.add a b = a + b) →
        (∀ (x : ℝ), f.tinv (f.tfwd x) = x) →
          (∀ (z : ℝ), f.tfwd (f.tinv z) = z) →
            ∀ (d : ℝ → ℝ),
              (∀ (x : ℝ), HasDerivAt f.tfwd (d x) x) →
                (∀ (x : ℝ), |d x| = Real.exp (f.ld x)) →
                  ∀ (A : Set ℝ),
                    MeasurableSet A →
                      ∫ (z : ℝ) in f.tinv ⁻¹' A, Real.exp (f.blp z) =
                        ∫ (x : ℝ) in A, Real.exp (NF.FlowPairing.flowLogProb0 f x) :=
  @FlowPushforward.flow0_samples_follow_logprob

theorem flow_samples_follow_logprob_on :
    ∀ (f : NF.FlowPairing.FlowFns0 ℝ ℝ ℝ) (S V K : Set ℝ) (T' : ℝ → ℝ),
      FlowPushforward.Flow0On f S V K T' →
        ∀ (A : Set ℝ),
          MeasurableSet A →
            ∫ (z : ℝ) in f.tinv ⁻¹' A ∩ V, Real.exp (f.blp z) =
              ∫ (x : ℝ) in A ∩ S, Real.exp (NF.FlowPairing.flowLogProb0 f x) :=
  @FlowPushforward.flow0_samples_follow_logprob_on

theorem flow_samples_follow_logprob_nd :
    ∀ {m : ℕ} (f : NF.FlowPairing.FlowFns0 (Fin m → ℝ) (Fin m → ℝ) ℝ),
      (∀ (a b : ℝ), f.add a b = a + b) →
        (∀ (x : Fin m → ℝ), f.tinv (f.tfwd x) = x) →
          (∀ (z : Fin m → ℝ), f.tfwd (f.tinv z) = z) →
            ∀ (T' : (Fin m → ℝ) → (Fin m → ℝ) →L[ℝ] Fin m → ℝ),
              (∀ (x : Fin m → ℝ), HasFDerivAt f.tfwd (T' x) x) →
                (∀ (x : Fin m → ℝ), |(T' x).det| = Real.exp (f.ld x)) →
                  ∀ (A : Set (Fin m → ℝ)),
                    MeasurableSet A →
                      ∫ (z : Fin m → ℝ) in f.tinv ⁻¹' A, Real.exp (f.blp z) =
                        ∫ (x : Fin m → ℝ) in A, Real.exp (NF.FlowPairing.flowLogProb0 f x) :=
  @FlowPushforward.flow0_samples_follow_logprob_nd

theorem conditional_flow_samples_follow_logprob :
    ∀ {C E : Type} (f : NF.FlowPairing.FlowFns ℝ ℝ C E ℝ) (c : C),
      (∀ (a b : ℝ), f.add a b = a + b) →
        (∀ (x : ℝ), f.tinv (f.tfwd x (f.emb c)) (f.emb c) = x) →
          (∀ (z : ℝ), f.tfwd (f.tinv z (f.emb c)) (f.emb c) = z) →
            ∀ (d : ℝ → ℝ),
              (∀ (x : ℝ), HasDerivAt (fun (x : ℝ) => f.tfwd x (f.emb c)) (d x) x) →
                (∀ (x : ℝ), |d x| = Real.exp (f.ld x (f.emb c))) →
                  ∀ (A : Set ℝ),
                    MeasurableSet A →
                      ∫ (z : ℝ) in (fun (z : ℝ) => f.tinv z (f.emb c)) ⁻¹' A, Real.exp (f.blp z (f.emb c)) =
                        ∫ (x : ℝ) in A, Real.exp (NF.FlowPairing.flowLogProb1 f x c) :=
  fun f c hadd hl hr d hd habs A hA =>
    FlowPushforward.flow0_samples_follow_logprob (FlowPushforward.condFns f c) hadd hl hr d hd habs A hA

theorem flow_block_follows_conditional_density :
    ∀ {C E : Type} (f : NF.FlowPairing.FlowFns ℝ ℝ C E ℝ)
      (ctx : List C) (R n : ℕ) (N : List (List ℝ)),
      NF.FlowPairing.Uniform N R n →
        ctx.length = R →
          ∀ i < R,
            ∀ (c : C),
              ctx[i]? = Option.some c →
                (∀ (a b : ℝ), f.add a b = a + b) →
                  (∀ (a b : ℝ), f.sub a b = a - b) →
                    (∀ (z : ℝ), f.ldInv z (f.emb c) = -f.ld (f.tinv z (f.emb c)) (f.emb c)) →
                      (∀ (x : ℝ), f.tinv (f.tfwd x (f.emb c)) (f.emb c) = x) →
                        (∀ (z : ℝ), f.tfwd (f.tinv z (f.emb c)) (f.emb c) = z) →
                          ∀ (d : ℝ → ℝ),
                            (∀ (x : ℝ), HasDerivAt (fun (x : ℝ) => f.tfwd x (f.emb c)) (d x) x) →
                              (∀ (x : ℝ), |d x| = Real.exp (f.ld x (f.emb c))) →
                                (∀ j < n,
                                    ∃ (z : ℝ),
                                      NF.FlowPairing.get2 N i j = Option.some z ∧
                                        NF.FlowPairing.get2 (NF.FlowPairing.flowSalp f ctx n N).1 i j =
                                            Option.some (f.tinv z (f.emb c)) ∧
                                          NF.FlowPairing.get2 (NF.FlowPairing.flowSalp f ctx n N).2 i j =
                                            Option.some (NF.FlowPairing.flowLogProb1 f (f.tinv z (f.emb c)) c)) ∧
                                  ∀ (A : Set ℝ),
                                    MeasurableSet A →
                                      ∫ (z : ℝ) in (fun (z : ℝ) => f.tinv z (f.emb c)) ⁻¹' A, Real.exp (f.blp z (f.emb c)) =
                                        ∫ (x : ℝ) in A, Real.exp (NF.FlowPairing.flowLogProb1 f x c) :=
  @FlowPushforward.flow_block_follows_conditional_density

theorem decreasing_affine_example :
    ∀ (ctx : List ℝ) (R n : ℕ) (N : List (List ℝ)),
      NF.FlowPairing.Uniform N R n →
        ctx.length = R →
          ∀ i < R,
            ∀ (c : ℝ),
              ctx[i]? = Option.some c →
                (∀ j < n,
                    ∃ (z : ℝ),
                      NF.FlowPairing.get2 N i j = Option.some z ∧
                        NF.FlowPairing.get2 (NF.FlowPairing.flowSalp FlowPushforward.decAffine ctx n N).1 i j =
                            Option.some ((2 * c - z) / 3) ∧
                          NF.FlowPairing.get2 (NF.FlowPairing.flowSalp FlowPushforward.decAffine ctx n N).2 i j =
                            Option.some (NF.FlowPairing.flowLogProb1 FlowPushforward.decAffine ((2 * c - z) / 3) c)) ∧
                  ∀ (A : Set ℝ),
                    MeasurableSet A →
                      ∫ (z : ℝ) in (fun (z : ℝ) => (2 * c - z) / 3) ⁻¹' A, Real.exp (-(z - 2 * c) ^ 2 / 2) =
                        ∫ (x : ℝ) in A, Real.exp (NF.FlowPairing.flowLogProb1 FlowPushforward.decAffine x c) :=
  @FlowPushforward.decreasing_affine_example

theorem rq_flow_samples_follow_logprob :
    ∀ {e : Float → ℝ} {cfg : NF.RQCfg} {uw uh ud : List ℝ},
      RQWhole.RQValid e cfg uw uh ud →
        ∀ (blp : ℝ → ℝ) (A : Set ℝ),
          MeasurableSet A →
            ∫ (z : ℝ) in RQInverseWhole.inv e cfg uw uh ud ⁻¹' A ∩ Set.Icc (e cfg.box.bottom) (e cfg.box.top),
                Real.exp (blp z) =
              ∫ (x : ℝ) in A ∩ Set.Icc (e cfg.box.left) (e cfg.box.right),
                Real.exp (NF.FlowPairing.flowLogProb0 (FlowBounded.rqFlow e cfg uw uh ud blp) x) :=
  @FlowBounded.rq_flow_samples_follow_logprob

theorem rq_flow_salp_consistent :
    ∀ {e : Float → ℝ} {cfg : NF.RQCfg} {uw uh ud : List ℝ},
      RQWhole.RQValid e cfg uw uh ud →
        ∀ (blp : ℝ → ℝ) (N : List ℝ) (j : ℕ) (z : ℝ),
          N[j]? = Option.some z →
            e cfg.box.bottom ≤ z →
              z ≤ e cfg.box.top →
                (NF.FlowPairing.flowSalp0 (FlowBounded.rqFlow e cfg uw uh ud blp) N).1[j]? =
                    Option.some (RQInverseWhole.inv e cfg uw uh ud z) ∧
                  (NF.FlowPairing.flowSalp0 (FlowBounded.rqFlow e cfg uw uh ud blp) N).2[j]? =
                    Option.some
                      (NF.FlowPairing.flowLogProb0 (FlowBounded.rqFlow e cfg uw uh ud blp)
                        (RQInverseWhole.inv e cfg uw uh ud z)) :=
  @FlowBounded.rq_flow_salp_consistent

end Properties.C04
