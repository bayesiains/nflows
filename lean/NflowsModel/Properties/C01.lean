import NflowsModel.Real.Bridge
import NflowsModel.Lemmas.RankedDet
import NflowsModel.Lemmas.Nonlin
import NflowsModel.Lemmas.LU
import NflowsModel.Lemmas.RQBin
import NflowsModel.Lemmas.RQWhole
import NflowsModel.Lemmas.RQInverseWhole
import Mathlib.Analysis.Calculus.FDeriv.Comp
import Mathlib.LinearAlgebra.Determinant
import NflowsModel.Lemmas.StructureExec
import NflowsModel.Lemmas.CubicWhole
import NflowsModel.Lemmas.QuadWhole
import NflowsModel.Lemmas.TanhStable
import NflowsModel.Lemmas.ARWhole
import NflowsModel.Lemmas.TailsWhole
import NflowsModel.Lemmas.StructureExecRQTails
import NflowsModel.Lemmas.LinWhole
/-!
# C01 — the forward log-abs-det equals log |det Jacobian| of the map actually computed

Property theorems only.  Layers:
1. scalar derivative laws `HasDerivAt f (exp (ld x)) x` for the element-wise transformers, including the
   *executed* `Expr` terms of the spline bins (via the bridge lemmas);
2. `det_of_ranked_dependency`: coupling / autoregressive / element-wise Jacobians are triangular up to a
   permutation, so `det = ∏ diagonal` (any mask, any degree order, any size);
3. linear family: `log|det (L U)| = Σ log diag U`;
4. composition: log-abs-dets add; box rescaling adds `log((top-bottom)/(right-left))`.

Later layers (same namespace): whole executed spline programs and the executed coupling / autoregressive layers
(`Properties/C01J.lean`: the returned `ld[b]` is `log|det|` of the Fréchet derivative of the executed row map).

**Closed-form vs executed**: the scalar laws in THIS file are about closed forms; their executed twins — the
element-wise transformers of `Core/Nonlin.lean` run at `NF.realX e` (`expT`, `affineT`, `gluT`, `leakyReluT`, `sigmoidT` with its
softplus threshold, `tanhT`, `cauchyT`, `logTanhT`), the element-wise layer loop, the 1×1 convolution, ActNorm 2-D / 4-D,
BatchNorm in evaluation mode, permutations and squeeze — are in `Properties/C01E.lean`, with counterexample theorems for every
forced side condition.
**What no theorem in this namespace covers** (carried by the correspondence run and the Jacobian oracle only): the log-det of
multiscale on N-D items (1-D items: `Properties/C01M.lean`, over executed linear stages `Properties/C01X.lean`; the linear family as
Jacobians: `Properties/C01L.lean`, NaiveLinear: `Properties/C01N.lean`),
UMNN; image-shaped coupling inputs (`S > 1`) have the left-fold form of the log-det here and the Jacobian statement in `Properties/C01M.lean`; bounded splines are
covered strictly inside bins (cubic and RQ-with-tails also at knots), not at the end-points of the box; per-element derivative
laws inside layers are discharged for affine, additive and RQ(-tails) elements here and for quadratic / cubic / linear ones in
`Properties/C01L.lean` (forward pass; knots excluded for quadratic and linear; inverse pass of coupling layers: `Properties/C01V.lean`;
inverse loop of the autoregressive layer: `Properties/C02A.lean`);
Fréchet differentiability of a row map through a conditioner is a hypothesis, discharged for constant / affine conditioners and
(`Properties/C03ND.lean`) for MADE with a smooth activation in the affine autoregressive layer — not for ReLU networks.
Arrays are read with `getD`: a conditioner output of the wrong size is read as zeros where PyTorch raises.
-/
open DualSound NF

namespace Properties.C01

/-! ## 1. scalar laws -/

/-- `Exp`: d/dx exp x = exp(x); the code returns `ld = x`. -/
theorem exp_logdet (x : ℝ) : HasDerivAt Real.exp (Real.exp x) x := Nonlin.exp_fwd_deriv x

/-- `Tanh`: the code returns `ld = log(1 - tanh² x)`. -/
theorem tanh_logdet (x : ℝ) : HasDerivAt Real.tanh (Real.exp (Real.log (1 - (Real.tanh x)^2))) x :=
  Nonlin.tanh_deriv x

/-- `Sigmoid` with temperature `T > 0`: `ld = log T - softplus(-Tx) - softplus(Tx)`. -/
theorem sigmoid_logdet {T : ℝ} (hT : 0 < T) (x : ℝ) :
    HasDerivAt (fun x => Nonlin.sigmoid (T * x))
      (Real.exp (Real.log T - Nonlin.softplus (-(T*x)) - Nonlin.softplus (T*x))) x :=
  Nonlin.sigmoid_deriv hT x

/-- `LeakyReLU` away from the kink: `ld = log(slope)·[x<0]`. -/
theorem leakyRelu_logdet {s x : ℝ} (hs : 0 < s) (hx : x ≠ 0) :
    HasDerivAt (Nonlin.lrelu s) (Real.exp (Real.log s * (if x < 0 then 1 else 0))) x := by
  rcases lt_or_gt_of_ne hx with h | h
  · rw [if_pos h]; exact Nonlin.lrelu_deriv_neg hs h
  · rw [if_neg (not_lt.mpr h.le)]; exact Nonlin.lrelu_deriv_pos h

/-- affine element `x ↦ s·x + b` with `s ≠ 0`: `ld = log|s|` (PointwiseAffineTransform, coupling/AR affine, ActNorm,
    BatchNorm in evaluation mode). -/
theorem affine_logdet {s b : ℝ} (hs : s ≠ 0) (x : ℝ) :
    HasDerivAt (fun x => x * s + b) s x ∧ Real.exp (Real.log |s|) = |s| :=
  ⟨(hasDerivAt_mul_const s).add_const b, Real.exp_log (abs_pos.mpr hs)⟩

/-- **RQ bin, as executed.**  On its bin the derivative of the executed forward term is `exp` of the executed
    log-abs-det term — for every width, height and pair of positive knot derivatives. -/
theorem rq_executed_logdet {xk w yk h d0 d1 x : ℝ} (hw : 0 < w) (hh : 0 < h) (h0 : 0 < d0) (h1 : 0 < d1)
    (hx0 : xk ≤ x) (hx1 : x ≤ xk + w) :
    HasDerivAt (fun x => evalR (Bridge.rqEnv x xk w yk h d0 d1) rqFwdE)
      (Real.exp (evalR (Bridge.rqEnv x xk w yk h d0 d1) rqFwdLdE)) x :=
  RQBin.rq_executed_logdet hw hh h0 h1 hx0 hx1

/-- **End to end, RQ forward**: the derivative of the value the executed program `rqSpline … false` returns, at any
    point strictly inside a bin, is `exp` of the log-abs-det the same program returns — for every accepted configuration
    and every unnormalised parameter vectors (softmax, floor, cumsum, pinned end knots, search and gather included). -/
theorem rq_program_logdet (e : Float → ℝ) (c : RQCfg) (uw uh ud : List ℝ) (hv : RQWhole.RQValid e c uw uh ud)
    (k : ℕ) (hk : k < uw.length) (x : ℝ) (h0 : RQWhole.xs e c uw k < x) (h1 : x < RQWhole.xs e c uw (k+1)) :
    HasDerivAt (RQWhole.val e c uw uh ud) (Real.exp (RQWhole.ld e c uw uh ud x)) x :=
  RQWhole.val_hasDerivAt hv k hk x h0 h1

/-- **Quadratic bin, as executed**: the derivative of the executed cdf term is `exp` of the executed log-det term
    (positive edge heights, point inside the bin). -/
theorem quad_executed_logdet {hl hr w c loc x : ℝ} (hw : 0 < w) (h0 : 0 < hl) (h1 : 0 < hr)
    (hx0 : loc ≤ x) (hx1 : x ≤ loc + w) :
    HasDerivAt (fun x => evalR (Bridge.qEnv x loc w c hl hr) quadFwdE)
      (Real.exp (evalR (Bridge.qEnv x loc w c hl hr) quadFwdLdE)) x :=
  QuadWhole.quadFwdE_hasDerivAt hw h0 h1 hx0 hx1

/-- **Cubic bin, as executed**: derivative of the executed Hermite polynomial is the executed derivative term
    (whose log the code returns). -/
theorem cubic_executed_deriv {x lcw s d0 d1 w d : ℝ} (hw : 0 < w) :
    HasDerivAt (fun x => evalR (Bridge.cEnv x lcw ((d0 + d1 - 2*s)/w^2) ((3*s - 2*d0 - d1)/w) d0 d) cubicFwdE)
      (evalR (Bridge.cEnv x lcw ((d0 + d1 - 2*s)/w^2) ((3*s - 2*d0 - d1)/w) d0 d) cubicDerivE) x :=
  CubicWhole.cubicFwdE_hasDerivAt hw

/-- **Linear spline bin** (linear.py:91-106): on bin `k` of `K` equal-width bins the forward map is
    `x ↦ c + (x·K − k)·p` with `p > 0` the bin's softmax mass; its derivative is `K·p`, and the code returns
    `log p − log(1/K)`. -/
theorem linear_bin_logdet (c p : ℝ) (K k : ℕ) (hK : 0 < K) (hp : 0 < p) (x : ℝ) :
    HasDerivAt (fun x : ℝ => c + (x * K - k) * p) (Real.exp (Real.log p - Real.log (1 / (K : ℝ)))) x :=
  (LinWhole.line_hasDerivAt c p K k x).congr_deriv
    ((mul_comm _ _).trans (LinWhole.exp_log_sub_log_inv hp (Nat.cast_pos.2 hK)).symm)

/-- **Box rescaling** (linear / quadratic / cubic splines after the repair): if the normalised map `F` has
    derivative `exp ℓ` at `(x-left)/(right-left)`, the rescaled map `bottom + (top-bottom)·F((x-left)/(right-left))`
    has derivative `exp (ℓ + log((top-bottom)/(right-left)))`. -/
theorem box_scale_logdet (F : ℝ → ℝ) (ℓ left right bottom top x : ℝ) (hlr : left < right) (hbt : bottom < top)
    (hF : HasDerivAt F (Real.exp ℓ) ((x - left) / (right - left))) :
    HasDerivAt (fun x => bottom + (top - bottom) * F ((x - left) / (right - left)))
      (Real.exp (ℓ + Real.log ((top - bottom) / (right - left)))) x := by
  have hfun : (fun x => bottom + (top - bottom) * F ((x - left) / (right - left)))
      = fun x => F ((x - left) / (right - left)) * (top - bottom) + bottom := funext fun _ => by rw [add_comm, mul_comm]
  exact hfun ▸ ExecGlue.rescale_hasDerivAt hlr hbt hF

/-! ## 2. triangular Jacobians -/

/-- **Ranked dependency**: if output `i` depends only on inputs of lower rank and on input `i` itself, the
    Jacobian determinant is the product of the diagonal partial derivatives.  Instances: element-wise maps
    (`r ≡ 0`), coupling layers for ANY mask (`r = 0` on identity features, `1` on transformed ones; images flattened),
    autoregressive transforms (`r i` = MADE degree of feature `i`, by C06). -/
theorem det_of_ranked_dependency {n : ℕ} {F : (Fin n → ℝ) → (Fin n → ℝ)}
    {L : (Fin n → ℝ) →L[ℝ] (Fin n → ℝ)} {x : Fin n → ℝ} (hF : HasFDerivAt F L x)
    (r : Fin n → ℕ) (d : Fin n → ℝ)
    (hind : ∀ i j, j ≠ i → ¬ (r j < r i) → ∀ t : ℝ, F (x + t • Pi.single j 1) i = F x i)
    (hdiag : ∀ i, HasDerivAt (fun t : ℝ => F (x + t • Pi.single i 1) i) (d i) 0) :
    LinearMap.det (L : (Fin n → ℝ) →ₗ[ℝ] (Fin n → ℝ)) = ∏ i, d i :=
  RankedDet.det_of_ranked_dependency hF r d hind hdiag

/-- Corollary in the form the code uses: with diagonal derivatives `exp (ld i)` the returned log-abs-det
    `Σ ld i` is `log |det J|`. -/
theorem sum_logdet_eq_log_abs_det {n : ℕ} {F : (Fin n → ℝ) → (Fin n → ℝ)}
    {L : (Fin n → ℝ) →L[ℝ] (Fin n → ℝ)} {x : Fin n → ℝ} (hF : HasFDerivAt F L x)
    (r : Fin n → ℕ) (ld : Fin n → ℝ)
    (hind : ∀ i j, j ≠ i → ¬ (r j < r i) → ∀ t : ℝ, F (x + t • Pi.single j 1) i = F x i)
    (hdiag : ∀ i, HasDerivAt (fun t : ℝ => F (x + t • Pi.single i 1) i) (Real.exp (ld i)) 0) :
    ∑ i, ld i = Real.log |LinearMap.det (L : (Fin n → ℝ) →ₗ[ℝ] (Fin n → ℝ))| := by
  rw [det_of_ranked_dependency hF r (fun i => Real.exp (ld i)) hind hdiag, RankedDet.log_abs_prod_exp]

/-! ## 3. linear family -/

/-- LU parameterisation: `Σ log diag U = log |det (L U)|` for unit-lower `L`, upper `U` with positive diagonal. -/
theorem lu_logabsdet {n : ℕ} (lo up : Fin n → Fin n → ℝ) (d : Fin n → ℝ) (hd : ∀ i, 0 < d i) :
    ∑ i, Real.log (d i) = Real.log |(LU.mkLower lo * LU.mkUpper up d).det| :=
  LU.lu_logabsdet lo up d hd

/-! ## 4. composition -/

/-- **Log-abs-dets of composed transforms add** (chain rule + multiplicativity of the determinant). -/
theorem composite_logabsdet_adds {n : ℕ} {f g : (Fin n → ℝ) → (Fin n → ℝ)}
    {Lf Lg : (Fin n → ℝ) →L[ℝ] (Fin n → ℝ)} {x : Fin n → ℝ} {lf lg : ℝ}
    (hf : HasFDerivAt f Lf x) (hg : HasFDerivAt g Lg (f x))
    (hlf : lf = Real.log |LinearMap.det (Lf : (Fin n → ℝ) →ₗ[ℝ] (Fin n → ℝ))|)
    (hlg : lg = Real.log |LinearMap.det (Lg : (Fin n → ℝ) →ₗ[ℝ] (Fin n → ℝ))|)
    (hdf : LinearMap.det (Lf : (Fin n → ℝ) →ₗ[ℝ] (Fin n → ℝ)) ≠ 0)
    (hdg : LinearMap.det (Lg : (Fin n → ℝ) →ₗ[ℝ] (Fin n → ℝ)) ≠ 0) :
    HasFDerivAt (g ∘ f) (Lg.comp Lf) x ∧
    lf + lg = Real.log |LinearMap.det ((Lg.comp Lf : (Fin n → ℝ) →L[ℝ] (Fin n → ℝ)) : (Fin n → ℝ) →ₗ[ℝ] (Fin n → ℝ))| := by
  refine ⟨hg.comp x hf, ?_⟩
  have : ((Lg.comp Lf : (Fin n → ℝ) →L[ℝ] (Fin n → ℝ)) : (Fin n → ℝ) →ₗ[ℝ] (Fin n → ℝ))
      = (Lg : (Fin n → ℝ) →ₗ[ℝ] (Fin n → ℝ)).comp (Lf : (Fin n → ℝ) →ₗ[ℝ] (Fin n → ℝ)) := rfl
  rw [this, LinearMap.det_comp, abs_mul, Real.log_mul (abs_ne_zero.mpr hdg) (abs_ne_zero.mpr hdf), hlf, hlg, add_comm]

/-- `GatedLinearUnit` after the repair: a gate `g > 0` shared by `D` features has log-abs-det `D · log g`
    (the code sums `log g` expanded over the features). -/
theorem glu_logdet (D : ℕ) (g : ℝ) : ∑ _i : Fin D, Real.log g = D * Real.log g := by
  rw [Finset.sum_const, Finset.card_univ, Fintype.card_fin, nsmul_eq_mul]

/-! non-vacuity -/
example : (0:ℝ) < 1 ∧ (0:ℝ) < 2 ∧ (0:ℝ) < 1/2 ∧ (0:ℝ) ≤ 0.3 ∧ (0.3:ℝ) ≤ 0 + 1 := by norm_num

/-- **End to end, RQ inverse**: inside every open y-bin the derivative of the inverse program's value is `exp` of the
    log-abs-det the inverse program returns. -/
theorem rq_program_inverse_logdet (e : Float → ℝ) (c : RQCfg) (uw uh ud : List ℝ) (hv : RQWhole.RQValid e c uw uh ud)
    (k : ℕ) (hk : k < uw.length) (y : ℝ) (h0 : RQWhole.ys e c uh k < y) (h1 : y < RQWhole.ys e c uh (k+1)) :
    HasDerivAt (RQInverseWhole.inv e c uw uh ud) (Real.exp (RQInverseWhole.invLd e c uw uh ud y)) y :=
  RQInverseWhole.inv_hasDerivAt hv k hk y h0 h1

/-! ## more executed programs -/

/-- **executed coupling layer over the reals**: entry `b` of the returned log-abs-det is the sum over the channels of the
    per-element log-derivatives of the transformed channels (0 for identity channels) — exactly the sum that
    `sum_logdet_eq_log_abs_det` turns into `log |det J|` — provided no element of the row raised (over the reals that hypothesis is
    not needed: `exec_coupling_ld_is_channel_sum'` in `Properties/C01J.lean`). -/
theorem exec_coupling_ld_is_channel_sum (e : Float → ℝ) (c : ElCfg) (mask : List ℝ) (B : Nat) (x params uparams : Array ℝ)
    (inverse : Bool) {b : Nat} (hb : b < B)
    (hok : ∀ r ∈ NF.StructureExec.rowResults (NF.realX e) c mask 1 x params inverse none uparams b, ∃ v, r = .ok v) :
    (couplingApply (NF.realX e) c mask B 1 x params inverse none uparams).ld[b]?
      = some (∑ i : Fin mask.length,
          if NF.StructureExec.isT (NF.realX e) mask i then
            ldOf (NF.realX e) (NF.StructureExec.chanEl (NF.realX e) c mask params b i inverse
              (NF.StructureExec.rowOf (NF.realX e) mask.length b x i))
          else 0) :=
  NF.StructureExec.coupling_ld_real_channels e c mask B x params uparams inverse hb hok

/-- for ANY scalar semantics (also `Float`): the row log-det is the LEFT fold `((0 + l₁) + l₂) + …` of the row's
    per-element log-dets in the implementation's iteration order (unconditional part first) -/
theorem exec_coupling_ld_leftfold {α : Type} (o : XOps α) (c : ElCfg) (mask : List α) (B S : Nat) (x params : Array α)
    (inverse : Bool) (uc : Option ElCfg) (uparams : Array α) {b : Nat} (hb : b < B)
    (hok : ∀ r ∈ NF.StructureExec.rowResults o c mask S x params inverse uc uparams b, ∃ v, r = .ok v) :
    (couplingApply o c mask B S x params inverse uc uparams).ld[b]?
      = some (((NF.StructureExec.rowResults o c mask S x params inverse uc uparams b).map (ldOf o)).foldl o.add o.zero) :=
  NF.StructureExec.coupling_ld_leftfold o c mask B S x params inverse uc uparams hb hok

/-- **End to end, cubic forward**: at EVERY point of the open box (inside bins and at interior knots — the spline is C¹)
    the derivative of the value the executed program `cubicSpline … false` returns is `exp` of the log-abs-det it returns.
    `hbl` reads the `Float` constant `boxLog` (a `Float.log`, opaque to the kernel) as the real logarithm. -/
theorem cubic_program_logdet (e : Float → ℝ) (c : CCfg) (uw uh : List ℝ) (udl udr : ℝ) (hv : CubicWhole.CubicValid e c uw uh)
    (hbl : e (boxLog c.box) = Real.log ((e c.box.top - e c.box.bottom) / (e c.box.right - e c.box.left)))
    (x : ℝ) (hxL : e c.box.left < x) (hxR : x < e c.box.right) :
    HasDerivAt (CubicWhole.val e c uw uh udl udr) (Real.exp (CubicWhole.ld e c uw uh udl udr x)) x :=
  CubicWhole.val_hasDerivAt_all hv hbl x hxL hxR

/-- **End to end, quadratic forward** (bounded shape `|uh| = K+1`, and the tails shape `|uh| = K-1` with its padding
    constant): inside every open bin the derivative of the executed value is `exp` of the executed log-abs-det. -/
theorem quad_program_logdet (e : Float → ℝ) (c : QCfg) (uw uh : List ℝ) (hv : QuadWhole.QuadValid e c uw uh)
    (hbl : e (boxLog c.box) = Real.log ((e c.box.top - e c.box.bottom) / (e c.box.right - e c.box.left)))
    (k : ℕ) (hk : k < uw.length) (x : ℝ) (h0 : QuadWhole.xk e c uw k < x) (h1 : x < QuadWhole.xk e c uw (k+1)) :
    HasDerivAt (QuadWhole.val e c uw uh) (Real.exp (QuadWhole.ld e c uw uh x)) x :=
  QuadWhole.val_hasDerivAt_x hv hbl k hk x h0 h1

theorem quad_tails_program_logdet (e : Float → ℝ) (c : QCfg) (uw uh : List ℝ) (hv : QuadWhole.QuadValidT e c uw uh)
    (hbl : e (boxLog c.box) = Real.log ((e c.box.top - e c.box.bottom) / (e c.box.right - e c.box.left)))
    (k : ℕ) (hk : k < uw.length) (x : ℝ) (h0 : QuadWhole.xk e c uw k < x) (h1 : x < QuadWhole.xk e c uw (k+1)) :
    HasDerivAt (QuadWhole.val e c uw uh) (Real.exp (QuadWhole.ld e c uw uh x)) x :=
  QuadWhole.val_hasDerivAt_x_T hv hbl k hk x h0 h1

/-- **executed `Tanh.forward` over the reals** (the program after fix 1d63aad, which computes the log-det as
    `2 (log 2 − x − softplus(−2x))`): for `x ≥ −10` it returns `(tanh x, log (1 − tanh² x))` exactly and `exp` of that is the
    derivative of `tanh`; below `−10` the `softplus` threshold makes it `2 (log 2 + x)`, within `2 e^{2x} ≤ 2e^{−20}`. -/
theorem tanh_executed_logdet (e : Float → ℝ) (x : ℝ) (h2 : e 2.0 = 2) (hm2 : e (-2.0) = -2) (hl : e (Float.log 2.0) = Real.log 2) :
    (-10 ≤ x → tanhT (NF.realX e) false x = .ok (Real.tanh x, Real.log (1 - Real.tanh x ^ 2)) ∧
        HasDerivAt Real.tanh (Real.exp (Real.log (1 - Real.tanh x ^ 2))) x) ∧
    (x < -10 → tanhT (NF.realX e) false x = .ok (Real.tanh x, 2 * (Real.log 2 + x)) ∧
        |2 * (Real.log 2 + x) - Real.log (1 - Real.tanh x ^ 2)| ≤ 2 * Real.exp (2 * x)) :=
  ⟨TanhStable.tanhT_forward e x h2 hm2 hl, TanhStable.tanhT_forward_threshold e x h2 hm2 hl⟩

/-- **executed autoregressive transform**: entry `b` of the returned log-abs-det is `log |det|` of the derivative of the row map
    (other rows fixed) — the triangular shape comes from `AutoregNet`, the diagonal from the per-element derivative law `hdiag`
    (discharged for the affine and rational-quadratic elements in `Lemmas/ARWhole.lean`); `hL` is differentiability of the
    row map, a hypothesis because the conditioner is arbitrary. -/
theorem exec_autoregressive_row_logdet (e : Float → ℝ) (c : ElCfg) (B F : Nat) (net : Array ℝ → Array ℝ) (x : Array ℝ)
    (hnet : NF.ARWhole.AutoregNet B F (NF.ARWhole.pw c) net) (hx : x.size = B * F) {b : Nat} (hb : b < B)
    {L : (Fin F → ℝ) →L[ℝ] (Fin F → ℝ)}
    (hL : HasFDerivAt (NF.ARWhole.rowMap e c B F net x b) L (fun i => x.getD (b * F + i.1) 0))
    (hdiag : ∀ i : Fin F, HasDerivAt (NF.ARWhole.elMap e c F (net x) b i)
      (Real.exp (ldOf (NF.realX e) (NF.arEl (NF.realX e) c F x (net x) false b i))) (x.getD (b * F + i.1) 0)) :
    (NF.ARWhole.arForward (NF.realX e) c B F net x).ld[b]?
      = some (Real.log |LinearMap.det (L : (Fin F → ℝ) →ₗ[ℝ] (Fin F → ℝ))|) :=
  NF.ARWhole.ar_row_logdet e c B F net x hnet hx hb hL hdiag

/-- **End to end, RQ with linear tails: `HasDerivAt valT (exp (ldT x)) x` at EVERY real `x`** — in the tails, inside bins, at
    interior knots and at the two junctions (where both one-sided derivatives are 1), given that `e` reads the padding constant
    `log(exp(1 − min_derivative) − 1)` exactly and `β = 1` (`PadExact`; with `enable_identity_init` the inner `β` differs from
    the padding's and the junction derivative is NOT 1: `TailsWhole.valT_not_differentiableAt_of_beta_lt_one`). -/
theorem rq_tails_program_logdet (e : Float → ℝ) (tb minW minH minD beta : Float) (uw uh ud : List ℝ)
    (hv : TailsWhole.RQTailsValid e tb minW minH minD beta uw uh ud) (hp : TailsWhole.PadExact e minD beta) (x : ℝ) :
    HasDerivAt (TailsWhole.valT e tb minW minH minD beta uw uh ud)
      (Real.exp (TailsWhole.ldT e tb minW minH minD beta uw uh ud x)) x :=
  TailsWhole.valT_hasDerivAt_all hv hp x

/-- **masked autoregressive RQ layer with linear tails: `ld[b] = log |det J_b|` at EVERY real row** (tails, junctions, knots
    and open bins alike) — `hL` is differentiability of the row map through the arbitrary conditioner, `PadExact` reads the
    padding constant exactly. -/
theorem exec_made_rq_tails_row_logdet (e : Float → ℝ) (c : ElCfg) (hc : NF.StructureExec.RQTailsCfgValid e c)
    (hp : TailsWhole.PadExact e (NF.StructureExec.tMD c) (NF.StructureExec.tBe c)) (a : NF.Made.Arch) (n : NF.Made.Net)
    (hbuild : NF.Made.build a = .ok n) (hmult : a.mult = 3 * c.K - 1) (W : ℕ → ℕ → ℕ → ℝ) (bias : ℕ → ℕ → ℝ) (B : Nat)
    (ctxv : ℕ → ℕ → Fin B → ℝ) (g : ℕ → NF.Made.Slot → ℕ → (Fin B → ℝ) → Fin B → ℝ)
    (x : Array ℝ) (hx : x.size = B * a.F) {b : Nat} (hb : b < B) {L : (Fin a.F → ℝ) →L[ℝ] (Fin a.F → ℝ)}
    (hL : HasFDerivAt (NF.ARWhole.rowMap e c B a.F (NF.ARWhole.madeNet n W bias B ctxv g) x b) L (fun i => x.getD (b * a.F + i.1) 0)) :
    (NF.ARWhole.arForward (NF.realX e) c B a.F (NF.ARWhole.madeNet n W bias B ctxv g) x).ld[b]?
      = some (Real.log |LinearMap.det (L : (Fin a.F → ℝ) →ₗ[ℝ] (Fin a.F → ℝ))|) :=
  NF.ARWhole.made_rq_tails_row_logdet e c hc hp a n hbuild hmult W bias B ctxv g x hx hb hL

/-- **End to end, linear spline forward**: inside every open bin the derivative of the executed value is `exp` of the executed
    log-abs-det (hypotheses: the two `Float.log` constants are read as real logarithms) -/
theorem linear_program_logdet (e : Float → ℝ) (box : Box) (eps : Float) (up : List ℝ) (hv : LinWhole.LinValid e box eps up)
    (hlogK : e (Float.log (1.0 / up.length.toFloat)) = Real.log (1 / (up.length : ℝ)))
    (hbl : e (boxLog box) = Real.log ((e box.top - e box.bottom) / (e box.right - e box.left)))
    (k : ℕ) (hk : k < up.length) (x : ℝ) (h0 : LinWhole.xk e box up.length k < x) (h1 : x < LinWhole.xk e box up.length (k+1)) :
    HasDerivAt (LinWhole.val e box eps up) (Real.exp (LinWhole.ld e box eps up x)) x :=
  LinWhole.val_hasDerivAt_x hv hlogK hbl k hk x h0 h1

end Properties.C01
