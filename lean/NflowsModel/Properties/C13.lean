import NflowsModel.Core.Store
import NflowsModel.Lemmas.StoreTrace
import NflowsModel.Generated.C13
/-!
# C13 — evaluation is free of side effects on arguments and on the model   (partial: see DESIGN §8 item 3)

THESE ARE THIN THEOREMS ABOUT A SMALL MACHINE.  The machine (`Thin.Store`, Core/Thin.lean + Core/Store.lean) has
storages identified by a number; a trace is the list of storage-relevant events of one call
(`alloc`/`view`/`read`/`write`); `owned` = storages of the caller's tensors and of every parameter and buffer at
call entry; `wl` = the whitelist (documented statistics of the normalisation layers, training mode only; `[]` in
evaluation mode).  `traceSafe owned wl tr` is a decidable check of the trace *skeleton*.  The theorems say: if the
check passes then, for EVERY store (all tensor values, all versions) and whatever the writes compute, every owned
non-whitelisted storage is left exactly as it was; this is closed under concatenation, so it holds for every
finite history of safe calls, and a repeated call starts from the same owned state.

The premises `traceSafe … = true` are NOT proved here for "the code": they are established per run
for the traces the translator extracts from the running implementation
(`NflowsModel/Generated/C13.lean`, theorems `Properties.C13.trace_<k>_safe`, regenerated before every build by
`harness/props/c13.py`), and executed by the driver (`Core/Ops/C13.lean`) for every correspondence case.  There the
owned storages are `0 … n-1` and the storages allocated inside the call are numbered from 1000, so the check reduces
(`Thin.Store.traceSafe_range`) to: every write goes to a number `≥ n` or to a whitelisted storage, which `decide`
evaluates on the trace.  A code path that the generator never executes is not covered; the evidence lists the
skeletons seen.
-/
open Thin Thin.Store

namespace Properties.C13

/-- **Soundness of the checker (version machine).**  A safe trace leaves every owned, non-whitelisted storage at
    its initial version — for all stores. -/
theorem traceSafe_sound (owned wl : List Nat) (tr : List Ev) (h : traceSafe owned wl tr = true)
    (σ : St) (t : Nat) (ht : owned.contains t = true) (hw : wl.contains t = false) : run σ tr t = σ t :=
  Store.traceSafe_sound owned wl tr h σ t ht hw

/-- **Soundness, value level.**  Every storage holds an arbitrary value (the bytes of the tensor memory) and each
    write stores an arbitrary function of the whole store.  If the skeleton passes the check, an owned
    non-whitelisted storage keeps its content.  The conclusion does not depend on the values: this is what lifts a
    finite set of skeletons to all inputs. -/
theorem values_unchanged {V : Type} (owned wl : List Nat) (tr : List (EvV V))
    (h : traceSafe owned wl (skeleton tr) = true) (σ : StV V) (t : Nat)
    (ht : owned.contains t = true) (hw : wl.contains t = false) : runV σ tr t = σ t :=
  Store.runV_owned_unchanged owned wl tr h σ t ht hw

/-- **Evaluation mode**: with an empty whitelist a safe call leaves *every* owned storage (caller tensors, all
    parameters, all buffers) unchanged. -/
theorem eval_mode_state_unchanged {V : Type} (owned : List Nat) (tr : List (EvV V))
    (h : traceSafe owned [] (skeleton tr) = true) (σ : StV V) (t : Nat) (ht : owned.contains t = true) :
    runV σ tr t = σ t :=
  Store.runV_owned_unchanged owned [] tr h σ t ht (by simp)

/-- **Closure under concatenation**: a call sequence is safe iff each part is. -/
theorem traceSafe_append (owned wl : List Nat) (t1 t2 : List Ev) :
    traceSafe owned wl (t1 ++ t2) = (traceSafe owned wl t1 && traceSafe owned wl t2) :=
  Store.traceSafe_append owned wl t1 t2

/-- **Smaller owned sets**: a trace that is safe for an owned set is safe for every subset of it.  The generated
    theorems `trace_<k>_safe` are stated for `List.range n` with `n` the largest owned set among the cases that
    share the skeleton; this lemma transfers them to each case. -/
theorem traceSafe_mono_owned (owned owned' wl : List Nat) (tr : List Ev)
    (hsub : ∀ s, owned.contains s = true → owned'.contains s = true)
    (h : traceSafe owned' wl tr = true) : traceSafe owned wl tr = true :=
  Store.traceSafe_mono_owned owned owned' wl tr hsub h

/-- **Histories**: any finite sequence of calls is safe iff every call in it is. -/
theorem traceSafe_history (owned wl : List Nat) (calls : List (List Ev)) :
    traceSafe owned wl calls.flatten = calls.all (traceSafe owned wl) :=
  Store.traceSafe_flatten owned wl calls

/-- **Histories, soundness**: after any finite sequence of safe calls (in any order, any length) every owned
    non-whitelisted storage is at its initial version. -/
theorem history_sound (owned wl : List Nat) (calls : List (List Ev))
    (h : ∀ c ∈ calls, traceSafe owned wl c = true) (σ : St) (t : Nat)
    (ht : owned.contains t = true) (hw : wl.contains t = false) : run σ calls.flatten t = σ t := by
  apply Store.traceSafe_sound owned wl _ _ σ t ht hw
  rw [Store.traceSafe_flatten, List.all_eq_true]
  exact h

/-- **Histories, value level.** -/
theorem history_values_unchanged {V : Type} (owned wl : List Nat) (calls : List (List (EvV V)))
    (h : ∀ c ∈ calls, traceSafe owned wl (skeleton c) = true) (σ : StV V) (t : Nat)
    (ht : owned.contains t = true) (hw : wl.contains t = false) : runV σ calls.flatten t = σ t := by
  apply Store.runV_owned_unchanged owned wl _ _ σ t ht hw
  have : skeleton calls.flatten = (calls.map skeleton).flatten := by
    unfold skeleton
    rw [List.map_flatten]
  rw [this, Store.traceSafe_flatten, List.all_eq_true]
  intro c hc
  obtain ⟨c', hc', rfl⟩ := List.mem_map.mp hc
  exact h c' hc'

/-- **Repeating a call**: running a safe trace twice leaves the owned state where running it once (and where not
    running it at all) leaves it — the second call starts from the same owned state as the first. -/
theorem repeat_deterministic (owned wl : List Nat) (tr : List Ev) (h : traceSafe owned wl tr = true)
    (σ : St) (t : Nat) (ht : owned.contains t = true) (hw : wl.contains t = false) :
    run σ (tr ++ tr) t = run σ tr t ∧ run σ tr t = σ t := by
  have h1 := Store.traceSafe_sound owned wl tr h σ t ht hw
  have h2 : traceSafe owned wl (tr ++ tr) = true := by rw [Store.traceSafe_append, h]; rfl
  exact ⟨(Store.traceSafe_sound owned wl _ h2 σ t ht hw).trans h1.symm, h1⟩

/-- **Repeated calls give the same result** (evaluation mode).  The result of a call is some function `out` of the
    store that reads only owned storages (the caller's tensors, parameters and buffers; sampling randomness is an
    explicit extra argument of `out` in the harness: the RNG is re-seeded).  After any safe call the same function
    returns the same value. -/
theorem repeat_same_output {V R : Type} (owned : List Nat) (tr : List (EvV V))
    (h : traceSafe owned [] (skeleton tr) = true) (out : StV V → R)
    (hout : ∀ σ σ' : StV V, (∀ t, owned.contains t = true → σ t = σ' t) → out σ = out σ') (σ : StV V) :
    out (runV σ tr) = out σ :=
  hout _ _ (fun t ht => Store.runV_owned_unchanged owned [] tr h σ t ht (by simp))

/-- **What the driver reports is the machine of the theorems**: the version after a trace is the initial version
    plus the number of writes to that storage (`writeCount`, compared with the `_version` delta of the real
    tensors). -/
theorem run_eq_add_writeCount (σ : St) (tr : List Ev) (t : Nat) : run σ tr t = σ t + writeCount t tr :=
  Store.run_eq_add_writeCount σ tr t

/-- the list of offending storages the driver reports is empty exactly when the check passes -/
theorem offending_nil_iff (owned wl : List Nat) (tr : List Ev) :
    offending owned wl tr = [] ↔ traceSafe owned wl tr = true :=
  Store.offending_nil_iff owned wl tr

/-- **The checker is exact for the version machine** (it rejects nothing that is harmless there): if the check
    fails, some owned non-whitelisted storage ends at a strictly larger version, for every initial store. -/
theorem traceSafe_complete (owned wl : List Nat) (tr : List Ev) (h : traceSafe owned wl tr = false) (σ : St) :
    ∃ t, owned.contains t = true ∧ wl.contains t = false ∧ σ t < run σ tr t := by
  have hne : offending owned wl tr ≠ [] := by
    intro hnil
    rw [(Store.offending_nil_iff owned wl tr).mp hnil] at h
    exact Bool.noConfusion h
  obtain ⟨s, hs⟩ := List.exists_mem_of_ne_nil _ hne
  obtain ⟨ho, hw, hc⟩ := (Store.mem_offending owned wl tr s).mp hs
  refine ⟨s, ho, hw, ?_⟩
  rw [Store.run_eq_add_writeCount]
  omega

/-- the wire format decodes to the events it encodes (sanity of the driver's decoder) -/
theorem decode_example :
    decodeEvs [0, 7, 1, 7, 2, 0, 3, 7] = [Ev.alloc 7, Ev.view 7, Ev.read 0, Ev.write 7] := by decide

/-! ### non-vacuity: the hypotheses are satisfiable by, and the check discriminates on, non-trivial data -/

/-- the piecewise-coupling pattern (coupling.py:407-409): the conditioner output is a fresh allocation (storage 5),
    sliced into views, divided in place; caller input 0, context 1, parameters 2,3 are only read → safe -/
example : traceSafe [0, 1, 2, 3] [] [.read 0, .read 1, .read 2, .read 3, .alloc 5, .view 5, .write 5, .view 5, .write 5,
    .alloc 6, .write 6] = true := by decide

/-- the same pattern with the in-place division landing on the caller's tensor is rejected -/
example : traceSafe [0, 1, 2, 3] [] [.read 0, .view 0, .write 0] = false := by decide

/-- BatchNorm in training mode (normalization.py:104-109): running statistics 4,5 are whitelisted -/
example : traceSafe [0, 2, 3, 4, 5] [4, 5] [.read 0, .write 4, .write 4, .write 5, .write 5, .alloc 9, .write 9] = true := by
  decide

/-- the same writes with the evaluation-mode whitelist are rejected -/
example : traceSafe [0, 2, 3, 4, 5] [] [.read 0, .write 4, .write 4, .write 5, .write 5] = false := by decide

/-- the conclusion of `values_unchanged` on a concrete valued trace that does change a non-owned storage -/
example : runV (fun _ => (0 : Nat)) [(.alloc 5, fun _ => 0), (.write 5, fun σ => σ 0 + 41), (.write 5, fun σ => σ 5 + 1)] 5 = 42 ∧
    runV (fun _ => (0 : Nat)) [(.alloc 5, fun _ => 0), (.write 5, fun σ => σ 0 + 41), (.write 5, fun σ => σ 5 + 1)] 0 = 0 := by
  decide

end Properties.C13
