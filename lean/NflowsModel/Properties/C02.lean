import NflowsModel.Real.Bridge
import NflowsModel.Lemmas.StableRoot
import NflowsModel.Lemmas.Nonlin
import NflowsModel.Lemmas.Coupling
import NflowsModel.Lemmas.AutoregInverse
import NflowsModel.Lemmas.Householder
import NflowsModel.Lemmas.Quad
import NflowsModel.Lemmas.SqueezeIndex
import NflowsModel.Lemmas.SqueezeLayout
import NflowsModel.Lemmas.RQInverseWhole
import NflowsModel.Lemmas.StructureExec
import NflowsModel.Lemmas.StructureExecRQ
import NflowsModel.Lemmas.ARWhole
import NflowsModel.Lemmas.TailsWhole
import NflowsModel.Lemmas.QuadInverseWhole
import NflowsModel.Lemmas.StructureExecQuad
import NflowsModel.Lemmas.StructureExecRQTails
import NflowsModel.Lemmas.CubicInverseWhole
import NflowsModel.Lemmas.LinWhole
import NflowsModel.Lemmas.CubicLayers
import NflowsModel.Lemmas.CouplingJacobian
/-!
# C02 — inverse undoes forward (both orders) and returns the negated log-abs-det

Scalar round trips with the declared constants explicit, then structural round trips generic in the scalar
bijections (coupling for any mask, autoregressive in `n` passes, composite in reversed order, Householder sequences).  Finiteness in floating point is NOT a theorem (DESIGN §8): it is carried by executing
the same definitions in `Float` against the code.

**Closed-form vs executed**: the scalar round trips in THIS file are closed-form facts; the executed ones
(`expT`, `affineT`, `gluT`, `leakyReluT`, `tanhT`, `sigmoidT` / Logit with the exact region where the clamp is inactive, `cauchyT`,
`logTanhT`, 1×1 convolution, ActNorm, BatchNorm in evaluation mode, permutations, squeeze) are in `Properties/C02E.lean`.
**What no theorem in this namespace covers**: the linear family's round trips are in C11, multiscale in C08; `Good` (abstract
composite) has one order only; UMNN.  The executed coupling round trip for additive, affine and linear-spline elements is proved in
the lemma files and not restated in this namespace (`NF.StructureExec.coupling_additive_roundtrip_real`, `coupling_affine_roundtrip_real`,
`LinTails.coupling_lin_roundtrip_real`, `coupling_lin_tails_roundtrip_real`).  The `…ParamsValid` witnesses use an empty parameter array (every read defaults to 0) and
the one-bin configuration; a default-configuration witness of `RQValid` is `Properties.C09.rq_program_default_configuration`.
-/
open DualSound NF

namespace Properties.C02

/-! ## scalar -/

theorem exp_roundtrip (x : ℝ) {y : ℝ} (hy : 0 < y) : Real.log (Real.exp x) = x ∧ Real.exp (Real.log y) = y :=
  ⟨Nonlin.exp_inv_fwd x, Nonlin.exp_fwd_inv hy⟩

/-- `Tanh.inverse` is coded as `0.5·log((1+y)/(1-y))` -/
theorem tanh_roundtrip (x : ℝ) : Nonlin.artanhCode (Real.tanh x) = x := Nonlin.tanh_inv_fwd x

theorem leakyRelu_roundtrip {s : ℝ} (hs : 0 < s) (x : ℝ) : Nonlin.lrelu (1/s) (Nonlin.lrelu s x) = x :=
  Nonlin.lrelu_inv hs x

/-- **The stable root** `2c/(-b-√(b²-4ac))` of a quadratic with `q(0) ≤ 0 ≤ q(1)` lies in `[0,1]`, has a
    non-negative discriminant, a non-vanishing denominator, and is a root — also when `a = 0`.  This is the form the
    RQ inverse uses and, after the repairs, the quadratic spline inverse and the cubic's near-quadratic fallback. -/
theorem stable_root {a b c : ℝ} (h0 : c ≤ 0) (h1 : 0 ≤ a + b + c) (hb : c = 0 → 0 < b) :
    let D := Real.sqrt (b^2 - 4*a*c)
    let θ := 2*c / (-b - D)
    0 ≤ b^2 - 4*a*c ∧ 0 < b + D ∧ 0 ≤ θ ∧ θ ≤ 1 ∧ a*θ^2 + b*θ + c = 0 :=
  StableRoot.stable_root h0 h1 hb

/-- **RQ inverse, as executed**: for `y` in the bin's output range the executed root term lies in `[0,1]`
    and the executed forward term maps `xk + root·w` back to `y`. -/
theorem rq_executed_forward_inverse {y xk w yk h d0 d1 : ℝ} (hw : 0 < w) (hh : 0 < h) (h0 : 0 < d0) (h1 : 0 < d1)
    (hy0 : yk ≤ y) (hy1 : y ≤ yk + h) :
    let root := evalR (Bridge.rqEnv y xk w yk h d0 d1) rqRootE
    0 ≤ root ∧ root ≤ 1 ∧ evalR (Bridge.rqEnv (xk + root * w) xk w yk h d0 d1) rqFwdE = y := by
  intro root
  obtain ⟨_, hr0, hr1, hg⟩ := RQInverseWhole.rq_executed_root (xk := xk) hw hh h0 h1 hy0 hy1
  exact ⟨hr0, hr1, add_comm xk _ ▸ hg⟩

/-- **RQ inverse ∘ forward, as executed**: the executed root term applied to the executed forward value of a
    point of the bin returns the point's relative position. -/
theorem rq_executed_inverse_forward {x xk w yk h d0 d1 : ℝ} (hw : 0 < w) (hh : 0 < h) (h0 : 0 < d0) (h1 : 0 < d1)
    (hx0 : xk ≤ x) (hx1 : x ≤ xk + w) :
    evalR (Bridge.rqEnv (evalR (Bridge.rqEnv x xk w yk h d0 d1) rqFwdE) xk w yk h d0 d1) rqRootE = (x - xk) / w := by
  have ht0 : 0 ≤ (x - xk) / w := div_nonneg (sub_nonneg.2 hx0) hw.le
  have ht1 : (x - xk) / w ≤ 1 := (div_le_one hw).2 (sub_le_iff_le_add'.2 hx1)
  rw [Bridge.rqRootE_eq, Bridge.rqFwdE_eq, add_sub_cancel_left]
  exact RQ.inverse_forward (div_pos hh hw) h0 h1 hh ht0 ht1

/-- **Quadratic-spline inverse, as executed** (after the repair: stable root): for positive edge heights and a
    target `y` in the bin's cdf range `[c, c + ½(hl+hr)w]` the executed root lies in `[0,1]` and the executed cdf of the
    bin maps it back to `y` — including the case of equal edge heights (`a = 0`) of finding F2 (NaN before the repair). -/
theorem quad_executed_forward_inverse {y loc w c hl hr : ℝ} (hw : 0 < w) (h0 : 0 < hl) (h1 : 0 < hr)
    (hy0 : c ≤ y) (hy1 : y ≤ c + (1/2) * (hl + hr) * w) :
    let α := evalR (Bridge.qEnv y loc w c hl hr) quadInvAlphaE
    0 ≤ α ∧ α ≤ 1 ∧ Quad.cdf hl hr w c α = y := by
  intro α
  rw [one_div, inv_mul_eq_div] at hy1
  obtain ⟨_, _, ha0, ha1, hroot⟩ := QuadInverseWhole.cdf_stable_root hw h0 hy0 hy1
  have hα : α = _ := Bridge.quadInvAlphaE_eq y loc w c hl hr
  rw [hα]
  exact ⟨ha0, ha1, hroot⟩

/-- **Linear spline bin round trip** (linear.py after fix c321ed1): in bin `k` of `K` with mass `p ≠ 0` the forward map is
    `x ↦ c + (xK − k)·p`; the inverse uses the slope `p·K` and the line anchored at the right knot `((k+1)/K, c + p)`:
    `y ↦ (k+1)/K + (y − (c + p))/(p·K)`.  It undoes the forward map exactly, and `−log(pK)` is the negated forward log-det
    `log p − log(1/K)`. -/
theorem linear_bin_roundtrip (c p x : ℝ) (K k : ℕ) (hK : 0 < K) (hp : 0 < p) :
    ((k : ℝ) + 1) / K + ((c + (x * K - k) * p) - (c + p)) / (p * K) = x ∧
    -Real.log (p * K) = -(Real.log p - Real.log (1 / (K : ℝ))) := by
  have hK' : (K : ℝ) ≠ 0 := by exact_mod_cast hK.ne'
  constructor
  · field_simp
    ring
  · exact congrArg Neg.neg (LinWhole.log_sub_log_inv hp.ne' hK').symm

/-! ## structural -/

/-- coupling layer, any mask: inverse ∘ forward = id whenever the element-wise maps invert -/
theorem coupling_inverse_forward {α P C : Type} {n : ℕ} (isT : Fin n → Bool) (blank : α)
    (cond : (Fin n → α) → C → Fin n → P) (f finv : P → α → α)
    (hinv : ∀ p a, finv p (f p a) = a) (x : Fin n → α) (c : C) :
    Coupling.Coupling.inverse isT blank cond finv (Coupling.Coupling.forward isT blank cond f x c) c = x :=
  Coupling.Coupling.inverse_forward isT blank cond f finv hinv x c

/-- autoregressive inverse (the loop of `n` passes in autoregressive.py:43-52) is exact for a strictly
    autoregressive conditioner (C06), from any starting point -/
theorem autoregressive_inverse_exact {n : ℕ} {X P : Type} (g : (Fin n → X) → Fin n → P) (f finv : P → X → X)
    (hg : AutoregInverse.StrictAR g) (hinv : ∀ p x, finv p (f p x) = x) (x z0 : Fin n → X) :
    AutoregInverse.arIter g finv (AutoregInverse.arForward g f x) z0 n = x :=
  AutoregInverse.autoregressive_inverse_exact g f finv hg hinv x z0

/-- the parameters used in the last pass are those of the forward pass (which is why the log-abs-det of the last pass is the
    negated forward one whenever the element-wise inverse negates it; that consequence is not part of this statement) -/
theorem autoregressive_last_pass_params {n : ℕ} {X P : Type} (g : (Fin n → X) → Fin n → P) (f finv : P → X → X)
    (hg : AutoregInverse.StrictAR g) (hinv : ∀ p x, finv p (f p x) = x) (x z0 : Fin n → X) (hn : 0 < n) :
    g (AutoregInverse.arIter g finv (AutoregInverse.arForward g f x) z0 (n-1)) = g x :=
  AutoregInverse.last_pass_params g f finv hg hinv x z0 hn

/-- composite: if every part inverts and negates its log-det, so does the composite (inverse in reversed order) -/
theorem composite_good {α C : Type} (ts : List (Coupling.Wrappers.Tr α C)) (h : ∀ t ∈ ts, Coupling.Wrappers.Good t) :
    Coupling.Wrappers.Good (Coupling.Wrappers.composite ts) :=
  Coupling.Wrappers.composite_good ts h

/-- Householder sequence: applying the reflections in reversed order undoes the sequence -/
theorem householder_seq_inverse {n : Type} [Fintype n] [DecidableEq n] (vs : List (n → ℝ)) (hv : ∀ v ∈ vs, v ⬝ᵥ v ≠ 0)
    (x : n → ℝ) : Householder.hhSeq vs.reverse (Householder.hhSeq vs x) = x :=
  Householder.hhSeq_inverse vs hv x

/-- **Squeeze, every factor**: the coordinate maps the executable `squeezeFwd` / `squeezeInv` use are mutually inverse
    for EVERY factor `f ≥ 1`, every channel and pixel (the pinned code hard-coded `c % 4`, i.e. `f = 2`, in the inverse's
    validation; repaired) -/
theorem squeeze_coords_inverse (f : Nat) (hf : 0 < f) :
    (∀ c h w, (let s := sqCoord f c h w; unsqCoord f s.1 s.2.1 s.2.2) = (c, h, w)) ∧
    (∀ oc i j, (let u := unsqCoord f oc i j; sqCoord f u.1 u.2.1 u.2.2) = (oc, i, j)) :=
  ⟨fun c h w => unsq_sq f c h w hf, fun oc i j => sq_unsq f oc i j hf⟩

/-- the coordinate map IS what the code's `view(b,c,h/f,f,w/f,f).permute(0,1,3,5,2,4)` reads (strided views, all sizes
    symbolic): entry `[b, c, fi, fj, i, j]` of the permuted view is input pixel `(i·f + fi, j·f + fj)` of channel `c` -/
theorem squeeze_forward_layout {α : Type} [Inhabited α] (X : Array α) (B C Ho Wo f b c fi fj i j : Nat) :
    (((View.ofArray X [B, C, Ho * f, Wo * f]).reshape [B, C, Ho, f, Wo, f]).permute [0, 1, 3, 5, 2, 4]).get [b, c, fi, fj, i, j]
      = (View.ofArray X [B, C, Ho * f, Wo * f]).get [b, c, i * f + fi, j * f + fj] :=
  View.squeeze_forward_layout X B C Ho Wo f b c fi fj i j

/-- and the inverse's `view(b,c,f,f,h,w).permute(0,1,4,2,5,3)` reads squeezed channel `(c·f + fi)·f + fj` -/
theorem squeeze_inverse_layout {α : Type} [Inhabited α] (Y : Array α) (B C Ho Wo f b c fi fj i j : Nat) :
    (((View.ofArray Y [B, C * f * f, Ho, Wo]).reshape [B, C, f, f, Ho, Wo]).permute [0, 1, 4, 2, 5, 3]).get [b, c, i, fi, j, fj]
      = (View.ofArray Y [B, C * f * f, Ho, Wo]).get [b, (c * f + fi) * f + fj, i, j] :=
  View.squeeze_inverse_layout Y B C Ho Wo f b c fi fj i j

/-! non-vacuity -/
example : ((-1:ℝ) ≤ 0) ∧ ((0:ℝ) ≤ 1 + 1 + -1) ∧ ((-1:ℝ) = 0 → (0:ℝ) < 1) := by norm_num

/-! ## the executed rational-quadratic programs, both directions, end to end -/

/-- **End to end (RQ): `forward ∘ inverse = id` on `[bottom, top]` and `inverse ∘ forward = id` on `[left, right]`**, for
    the two list programs `rqSpline … false` / `rqSpline … true` themselves (softmax, floors, cumsum, pinned knots, the two
    searches over different knot lists, gathers, discriminant assertion, root, closed forms), every accepted configuration,
    every unnormalised parameter vectors — knots and end-points included. -/
theorem rq_program_roundtrip (e : Float → ℝ) (c : RQCfg) (uw uh ud : List ℝ) (hv : RQWhole.RQValid e c uw uh ud) :
    (∀ y, e c.box.bottom ≤ y → y ≤ e c.box.top →
        RQWhole.val e c uw uh ud (RQInverseWhole.inv e c uw uh ud y) = y) ∧
    (∀ x, e c.box.left ≤ x → x ≤ e c.box.right →
        RQInverseWhole.inv e c uw uh ud (RQWhole.val e c uw uh ud x) = x) :=
  ⟨(RQInverseWhole.searchedInv hv).val_inv (RQWhole.searched hv), (RQInverseWhole.searchedInv hv).inv_val (RQWhole.searched hv)⟩

/-- **End to end (RQ): the inverse program returns the negated log-abs-det of the forward program at the point it returns**,
    for every `y` of the closed box (the two searches select the same bin, also at the knots) — and read from the other side. -/
theorem rq_program_logdet_negates (e : Float → ℝ) (c : RQCfg) (uw uh ud : List ℝ) (hv : RQWhole.RQValid e c uw uh ud) :
    (∀ y, e c.box.bottom ≤ y → y ≤ e c.box.top →
        RQInverseWhole.invLd e c uw uh ud y = - RQWhole.ld e c uw uh ud (RQInverseWhole.inv e c uw uh ud y)) ∧
    (∀ x, e c.box.left ≤ x → x ≤ e c.box.right →
        RQWhole.ld e c uw uh ud x = - RQInverseWhole.invLd e c uw uh ud (RQWhole.val e c uw uh ud x)) :=
  ⟨RQInverseWhole.invLd_eq_neg_ld hv, (RQInverseWhole.boxPair hv).ld_symm (RQInverseWhole.ldLaw hv)⟩

/-- `RQInverseWhole.inv` / `invLd` ARE the inverse program's outputs wherever it succeeds -/
theorem rq_program_inv_is_output (e : Float → ℝ) (c : RQCfg) (uw uh ud : List ℝ) (y : ℝ) (r : ℝ × ℝ)
    (h : rqSpline (NF.realX e) c uw uh ud true y = .ok r) :
    RQInverseWhole.inv e c uw uh ud y = r.1 ∧ RQInverseWhole.invLd e c uw uh ud y = r.2 := by
  simp [RQInverseWhole.inv, RQInverseWhole.invLd, h]

/-- non-vacuity: the round trip on the concrete one-bin configuration -/
example (y : ℝ) (hy0 : 0 ≤ y) (hy1 : y ≤ 1) := RQInverseWhole.example_roundtrip y hy0 hy1

/-! ## the EXECUTED coupling layer: inverse ∘ forward on whole arrays -/

/-- **executed coupling layer over the reals, any family with invertible elements**: if every transformed element inverts
    (`ElInvertible`: the inverse element map on the forward output returns the input and the negated log-det) and the forward
    pass reported no error, then the inverse pass on the forward OUTPUT ARRAY with the same conditioner output returns the
    input array, reports no error, is fed the same conditioner input (so "same parameters" is justified), and returns the
    negated row log-dets — any mask, any `B`, `S` (2-D and image layouts). -/
theorem exec_coupling_inverse_forward (e : Float → ℝ) (c : ElCfg) (mask : List ℝ) (B S : Nat) (x params uparams uparams' : Array ℝ)
    (hinv : NF.StructureExec.ElInvertible (NF.realX e) c (transformIdx (NF.realX e) mask).length S params B)
    (herr : (couplingApply (NF.realX e) c mask B S x params false none uparams).err = none)
    (hsz : B * mask.length * S ≤ x.size) :
    let fwd := couplingApply (NF.realX e) c mask B S x params false none uparams
    let inv := couplingApply (NF.realX e) c mask B S fwd.out params true none uparams'
    inv.out = x ∧ inv.err = none ∧ inv.condIn = fwd.condIn ∧ ∀ b, b < B → inv.ld[b]? = (fwd.ld[b]?).map (fun l => -l) :=
  NF.StructureExec.coupling_inverse_forward_real e c mask B S x params uparams uparams' hinv herr hsz

/-- **… with the hypothesis discharged for the bounded rational-quadratic family** by the whole-program spline theorems:
    it is enough that every parameter slice is an accepted configuration (`RQParamsValid`) -/
theorem exec_rq_coupling_roundtrip (e : Float → ℝ) (c : ElCfg) (hk : c.kind = "rq") (ht : c.tails = false)
    (mask : List ℝ) (B S : Nat) (x params uparams uparams' : Array ℝ)
    (hv : NF.StructureExec.RQParamsValid e c (transformIdx (NF.realX e) mask).length S params B)
    (herr : (couplingApply (NF.realX e) c mask B S x params false none uparams).err = none)
    (hsz : B * mask.length * S ≤ x.size) :
    let fwd := couplingApply (NF.realX e) c mask B S x params false none uparams
    let inv := couplingApply (NF.realX e) c mask B S fwd.out params true none uparams'
    inv.out = x ∧ inv.err = none ∧ inv.condIn = fwd.condIn ∧ ∀ b, b < B → inv.ld[b]? = (fwd.ld[b]?).map (fun l => -l) :=
  (NF.StructureExec.rq_undoes e c hk ht false).coupling_roundtrip_real e (NF.StructureExec.spline_kind_ne (.inl hk))
    mask B S x params uparams uparams' hv herr hsz

/-- non-vacuity: parameter arrays meeting `RQParamsValid` exist for every layout -/
example (Ft S B : Nat) := NF.StructureExec.rqParamsValid_example Ft S B

/-! ## the EXECUTED autoregressive transform: `forward`, and the `F`-pass inverse loop of autoregressive.py:43-53 -/

/-- **executed autoregressive transform, any conditioner**: if the conditioner is autoregressive (`AutoregNet`: the parameter
    block of feature `i` depends on features `< i` only — it may couple batch rows) and the elements invert, then the
    `F`-pass loop `outputs = zeros; repeat F times: outputs = elementwise_inverse(inputs, net(outputs))` applied to the forward
    output returns the input array — for every batch size and feature count; after pass `k` the features `< k` are already
    right (the loop invariant); the last pass raises nothing; the returned log-det is the negated forward one. -/
theorem exec_autoregressive_inverse_forward (e : Float → ℝ) (c : ElCfg) (B F : Nat) (net : Array ℝ → Array ℝ) (x : Array ℝ)
    (hnet : NF.ARWhole.AutoregNet B F (NF.ARWhole.pw c) net) (hinv : NF.ARWhole.ArElInvertible (NF.realX e) c F (net x) B)
    (herr : (NF.ARWhole.arForward (NF.realX e) c B F net x).err = none) (hx : x.size = B * F) :
    let fwd := NF.ARWhole.arForward (NF.realX e) c B F net x
    let inv := NF.ARWhole.arInverse (NF.realX e) c B F net fwd.out
    inv.out = x
      ∧ (∀ k, NF.ARWhole.AgreeBelow B F k (NF.ARWhole.arIter (NF.realX e) c B F net fwd.out k).out x)
      ∧ (arApply (NF.realX e) c B F fwd.out (net (NF.ARWhole.arIter (NF.realX e) c B F net fwd.out (F - 1)).out) true).err = none
      ∧ (0 < F → ∀ b, b < B → inv.ld[b]? = (fwd.ld[b]?).map (fun l => -l)) :=
  NF.ARWhole.ar_inverse_forward_real e c B F net x hnet hinv herr hx

/-- **masked autoregressive transform with the MADE model as its conditioner, rational-quadratic elements — nothing assumed
    about the network or the elements**: for every architecture accepted by `Made.build`, every weight / bias assignment, every
    context, every batch size, both orders of the round trip hold on the box and the log-dets negate. -/
theorem exec_made_rq_roundtrip (e : Float → ℝ) (c : ElCfg) (hc : NF.ARWhole.RQCfgValid e c) (a : NF.Made.Arch) (n : NF.Made.Net)
    (hbuild : NF.Made.build a = .ok n) (hmult : a.mult = 3 * c.K + 1) (W : ℕ → ℕ → ℕ → ℝ) (bias : ℕ → ℕ → ℝ) (B : Nat)
    (ctxv : ℕ → ℕ → Fin B → ℝ) (g : ℕ → NF.Made.Slot → ℕ → (Fin B → ℝ) → Fin B → ℝ) :
    let net := NF.ARWhole.madeNet n W bias B ctxv g
    (∀ x : Array ℝ, x.size = B * a.F →
      NF.ARWhole.InBox (e (NF.StructureExec.rqCfgOf c).box.left) (e (NF.StructureExec.rqCfgOf c).box.right) B a.F x →
      let fwd := NF.ARWhole.arForward (NF.realX e) c B a.F net x
      let inv := NF.ARWhole.arInverse (NF.realX e) c B a.F net fwd.out
      fwd.err = none ∧ inv.err = none ∧ inv.out = x
        ∧ (∀ k, NF.ARWhole.AgreeBelow B a.F k (NF.ARWhole.arIter (NF.realX e) c B a.F net fwd.out k).out x)
        ∧ (∀ b, b < B → inv.ld[b]? = (fwd.ld[b]?).map (fun l => -l)))
    ∧ (∀ y : Array ℝ, y.size = B * a.F →
      NF.ARWhole.InBox (e (NF.StructureExec.rqCfgOf c).box.bottom) (e (NF.StructureExec.rqCfgOf c).box.top) B a.F y →
      let inv := NF.ARWhole.arInverse (NF.realX e) c B a.F net y
      let fwd := NF.ARWhole.arForward (NF.realX e) c B a.F net inv.out
      inv.err = none ∧ fwd.err = none ∧ fwd.out = y
        ∧ (∀ b, b < B → fwd.ld[b]? = (inv.ld[b]?).map (fun l => -l))) :=
  NF.ARWhole.made_rq_roundtrip_real e c hc a n hbuild hmult W bias B ctxv g

/-- the same for the affine elements of `MaskedAffineAutoregressiveTransform` (needs only `0 ≤ e eps`) -/
theorem exec_made_affine_roundtrip (e : Float → ℝ) (c : ElCfg) (hk : c.kind = "araffine")
    (he : 0 ≤ e (c.ds.getD 0 0.0)) (a : NF.Made.Arch) (n : NF.Made.Net) (hbuild : NF.Made.build a = .ok n) (hmult : a.mult = 2)
    (W : ℕ → ℕ → ℕ → ℝ) (bias : ℕ → ℕ → ℝ) (B : Nat) (ctxv : ℕ → ℕ → Fin B → ℝ)
    (g : ℕ → NF.Made.Slot → ℕ → (Fin B → ℝ) → Fin B → ℝ) (x : Array ℝ) (hx : x.size = B * a.F) :
    let net := NF.ARWhole.madeNet n W bias B ctxv g
    (let fwd := NF.ARWhole.arForward (NF.realX e) c B a.F net x
     let inv := NF.ARWhole.arInverse (NF.realX e) c B a.F net fwd.out
     fwd.err = none ∧ inv.err = none ∧ inv.out = x
      ∧ (∀ k, NF.ARWhole.AgreeBelow B a.F k (NF.ARWhole.arIter (NF.realX e) c B a.F net fwd.out k).out x)
      ∧ (∀ b, b < B → inv.ld[b]? = (fwd.ld[b]?).map (fun l => -l)))
    ∧ (let inv := NF.ARWhole.arInverse (NF.realX e) c B a.F net x
       let fwd := NF.ARWhole.arForward (NF.realX e) c B a.F net inv.out
       inv.err = none ∧ fwd.err = none ∧ fwd.out = x
        ∧ (∀ b, b < B → fwd.ld[b]? = (inv.ld[b]?).map (fun l => -l))) :=
  NF.ARWhole.made_affine_roundtrip_real e c hk he a n hbuild hmult W bias B ctxv g x hx

/-! ## more whole programs: RQ with tails on all of ℝ, the quadratic pair, quadratic coupling layers -/

/-- **End to end, RQ with linear tails: both round trips and the log-det law for EVERY real input** -/
theorem rq_tails_program_roundtrip (e : Float → ℝ) (tb minW minH minD beta : Float) (uw uh ud : List ℝ)
    (hv : TailsWhole.RQTailsValid e tb minW minH minD beta uw uh ud) :
    (∀ x, TailsWhole.invT e tb minW minH minD beta uw uh ud (TailsWhole.valT e tb minW minH minD beta uw uh ud x) = x) ∧
    (∀ y, TailsWhole.valT e tb minW minH minD beta uw uh ud (TailsWhole.invT e tb minW minH minD beta uw uh ud y) = y) ∧
    (∀ y, TailsWhole.invLdT e tb minW minH minD beta uw uh ud y
        = - TailsWhole.ldT e tb minW minH minD beta uw uh ud (TailsWhole.invT e tb minW minH minD beta uw uh ud y)) :=
  ⟨(TailsWhole.rq_wrapPair hv).cancel, (TailsWhole.rq_wrapPair hv).symm.cancel, TailsWhole.invLdT_eq_neg_ldT hv⟩

/-- **End to end, quadratic spline, both shapes of `uh`**: both round trips on the closed boxes (knots and flat bins — the
    `hl = hr`, `a = 0` case of finding F2 — included) and the negated log-det, with no hypothesis on `boxLog` -/
theorem quad_program_roundtrip (e : Float → ℝ) (c : QCfg) (uw uh : List ℝ)
    (hv : QuadWhole.QuadValid e c uw uh ∨ QuadWhole.QuadValidT e c uw uh) :
    (∀ y, e c.box.bottom ≤ y → y ≤ e c.box.top → QuadWhole.val e c uw uh (QuadInverseWhole.inv e c uw uh y) = y) ∧
    (∀ x, e c.box.left ≤ x → x ≤ e c.box.right → QuadInverseWhole.inv e c uw uh (QuadWhole.val e c uw uh x) = x) ∧
    (∀ y, e c.box.bottom ≤ y → y ≤ e c.box.top →
        QuadInverseWhole.invLd e c uw uh y = - QuadWhole.ld e c uw uh (QuadInverseWhole.inv e c uw uh y)) := by
  obtain ⟨U, R⟩ := QuadInverseWhole.runs_of_either hv
  exact ⟨R.searchedInv.val_inv R.searched, R.searchedInv.inv_val R.searched, R.invLd_eq_neg_ld⟩

/-- executed coupling layers with quadratic elements, bounded and with tails: the per-element hypothesis is discharged -/
theorem exec_quad_coupling_roundtrip (e : Float → ℝ) (c : ElCfg) (hk : c.kind = "quad") (ht : c.tails = false)
    (mask : List ℝ) (B S : Nat) (x params uparams uparams' : Array ℝ)
    (hv : NF.StructureExec.QuadParamsValid e c (transformIdx (NF.realX e) mask).length S params B)
    (herr : (couplingApply (NF.realX e) c mask B S x params false none uparams).err = none)
    (hsz : B * mask.length * S ≤ x.size) :
    let fwd := couplingApply (NF.realX e) c mask B S x params false none uparams
    let inv := couplingApply (NF.realX e) c mask B S fwd.out params true none uparams'
    inv.out = x ∧ inv.err = none ∧ inv.condIn = fwd.condIn ∧ ∀ b, b < B → inv.ld[b]? = (fwd.ld[b]?).map (fun l => -l) :=
  (NF.StructureExec.quad_undoes e c hk ht false).coupling_roundtrip_real e (NF.StructureExec.spline_kind_ne (.inr (.inl hk)))
    mask B S x params uparams uparams' hv herr hsz

theorem exec_quad_tails_coupling_roundtrip (e : Float → ℝ) (c : ElCfg) (hk : c.kind = "quad") (ht : c.tails = true)
    (hneg : e (-(c.ds.getD 0 0.0)) = - e (c.ds.getD 0 0.0))
    (mask : List ℝ) (B S : Nat) (x params uparams uparams' : Array ℝ)
    (hv : NF.StructureExec.QuadTailsParamsValid e c (transformIdx (NF.realX e) mask).length S params B)
    (herr : (couplingApply (NF.realX e) c mask B S x params false none uparams).err = none)
    (hsz : B * mask.length * S ≤ x.size) :
    let fwd := couplingApply (NF.realX e) c mask B S x params false none uparams
    let inv := couplingApply (NF.realX e) c mask B S fwd.out params true none uparams'
    inv.out = x ∧ inv.err = none ∧ inv.condIn = fwd.condIn ∧ ∀ b, b < B → inv.ld[b]? = (fwd.ld[b]?).map (fun l => -l) :=
  (NF.StructureExec.quad_tails_undoes e c hk ht hneg false).coupling_roundtrip_real e (NF.StructureExec.spline_kind_ne (.inr (.inl hk)))
    mask B S x params uparams uparams' hv herr hsz

/-! ## the library's flagship layers: rational-quadratic elements WITH LINEAR TAILS inside coupling and autoregressive layers -/

/-- **executed RQ coupling layer with linear tails**: for ANY mask, `B`, `S`, conditioner output and ANY real input array
    (no domain hypothesis: the tails accept every real) the forward pass raises nothing and the inverse pass on its output returns
    the input array, raises nothing, is fed the same conditioner input and returns the negated row log-dets.  The only
    hypothesis is on the configuration (`RQTailsCfgValid`: validity depends on the constants and on the parameter-vector LENGTH
    only, so every vector a conditioner returns is accepted). -/
theorem exec_rq_tails_coupling_roundtrip (e : Float → ℝ) (c : ElCfg) (hc : NF.StructureExec.RQTailsCfgValid e c)
    (mask : List ℝ) (B S : Nat) (x params uparams uparams' : Array ℝ) (hsz : B * mask.length * S ≤ x.size) :
    let fwd := couplingApply (NF.realX e) c mask B S x params false none uparams
    let inv := couplingApply (NF.realX e) c mask B S fwd.out params true none uparams'
    fwd.err = none ∧ inv.out = x ∧ inv.err = none ∧ inv.condIn = fwd.condIn
      ∧ ∀ b, b < B → inv.ld[b]? = (fwd.ld[b]?).map (fun l => -l) :=
  NF.StructureExec.coupling_rq_tails_roundtrip_real e c hc mask B S x params uparams uparams' hsz

/-- **the masked autoregressive RQ layer with linear tails is exactly invertible on all of ℝ^F**: every architecture
    `Made.build` accepts (multiplier `3K − 1`), every weight, bias, context, batch size and every real `[B, F]` array, both
    orders, with the loop invariant and negated log-dets; no pass of the `F`-pass inverse loop raises. -/
theorem exec_made_rq_tails_roundtrip (e : Float → ℝ) (c : ElCfg) (hc : NF.StructureExec.RQTailsCfgValid e c)
    (a : NF.Made.Arch) (n : NF.Made.Net) (hbuild : NF.Made.build a = .ok n) (hmult : a.mult = 3 * c.K - 1)
    (W : ℕ → ℕ → ℕ → ℝ) (bias : ℕ → ℕ → ℝ) (B : Nat) (ctxv : ℕ → ℕ → Fin B → ℝ)
    (g : ℕ → NF.Made.Slot → ℕ → (Fin B → ℝ) → Fin B → ℝ) :
    let net := NF.ARWhole.madeNet n W bias B ctxv g
    (∀ x : Array ℝ, x.size = B * a.F →
      let fwd := NF.ARWhole.arForward (NF.realX e) c B a.F net x
      let inv := NF.ARWhole.arInverse (NF.realX e) c B a.F net fwd.out
      fwd.err = none ∧ inv.err = none ∧ inv.out = x
        ∧ (∀ k, NF.ARWhole.AgreeBelow B a.F k (NF.ARWhole.arIter (NF.realX e) c B a.F net fwd.out k).out x)
        ∧ (∀ b, b < B → inv.ld[b]? = (fwd.ld[b]?).map (fun l => -l)))
    ∧ (∀ y : Array ℝ, y.size = B * a.F →
      let inv := NF.ARWhole.arInverse (NF.realX e) c B a.F net y
      let fwd := NF.ARWhole.arForward (NF.realX e) c B a.F net inv.out
      inv.err = none ∧ fwd.err = none ∧ fwd.out = y
        ∧ (∀ b, b < B → fwd.ld[b]? = (inv.ld[b]?).map (fun l => -l))) :=
  NF.ARWhole.made_rq_tails_roundtrip_real e c hc a n hbuild hmult W bias B ctxv g

/-! ## the executed cubic inverse (Cardano / trigonometric roots, closest-root selection, quadratic fallback, clamps) -/

/-- **End to end, cubic spline**: where the quadratic fallback is not taken at the searched bin or that bin is exactly quadratic
    (`ExactBin`) the round trip `val (inv y) = y` is exact (the other order: `cubic_program_roundtrip_exact`); the log-det law `ld_inv(y) = −ld_fwd(inv y)` holds on the WHOLE box with no such
    hypothesis; and in every case `|val(inv y) − y| < quadratic_threshold · (top − bottom)` — the approximation constant the
    implementation declares, shown to be forced (`CubicInverseWhole.round_trip_counterexample`: a fallback bin with `a ≠ 0`
    where the round trip is NOT exact over ℝ). -/
theorem cubic_program_roundtrip (e : Float → ℝ) (c : CCfg) (uw uh : List ℝ) (udl udr : ℝ)
    (hv : CubicWhole.CubicValid e c uw uh) (hc : CubicInverseWhole.InvConsts e c) :
    (∀ y, e c.box.bottom ≤ y → y ≤ e c.box.top →
        CubicInverseWhole.ExactBin e c uw uh udl udr (CubicInverseWhole.idxH e c uh (CubicInverseWhole.yn e c y)) →
        CubicWhole.val e c uw uh udl udr (CubicInverseWhole.inv e c uw uh udl udr y) = y) ∧
    (∀ y, e c.box.bottom ≤ y → y ≤ e c.box.top →
        CubicInverseWhole.invLd e c uw uh udl udr y = - CubicWhole.ld e c uw uh udl udr (CubicInverseWhole.inv e c uw uh udl udr y)) ∧
    (∀ y, e c.box.bottom ≤ y → y ≤ e c.box.top →
        |CubicWhole.val e c uw uh udl udr (CubicInverseWhole.inv e c uw uh udl udr y) - y| < e c.thr * (e c.box.top - e c.box.bottom)) :=
  ⟨fun y h0 h1 hex => CubicInverseWhole.val_inv hv hc y h0 h1 hex,
   fun y h0 h1 => CubicInverseWhole.invLd_eq_neg_ld_always hv y h0 h1,
   fun y h0 h1 => (CubicInverseWhole.val_inv_approx hv hc y h0 h1).2⟩

/-- … and with every bin exact (`AllExact`, e.g. `quadratic_threshold` below every `|a_k| w_k³ / h_k`) the inverse program is the
    inverse function on the closed boxes, both orders -/
theorem cubic_program_roundtrip_exact (e : Float → ℝ) (c : CCfg) (uw uh : List ℝ) (udl udr : ℝ)
    (hv : CubicWhole.CubicValid e c uw uh) (hc : CubicInverseWhole.InvConsts e c)
    (hall : CubicInverseWhole.AllExact e c uw uh udl udr) :
    (∀ y, e c.box.bottom ≤ y → y ≤ e c.box.top →
        CubicWhole.val e c uw uh udl udr (CubicInverseWhole.inv e c uw uh udl udr y) = y) ∧
    (∀ x, e c.box.left ≤ x → x ≤ e c.box.right →
        CubicInverseWhole.inv e c uw uh udl udr (CubicWhole.val e c uw uh udl udr x) = x) :=
  ⟨(CubicInverseWhole.searchedInv hv hc hall).val_inv (CubicWhole.searched hv),
    (CubicInverseWhole.searchedInv hv hc hall).inv_val (CubicWhole.searched hv)⟩

example : CubicInverseWhole.InvConsts CubicInverseWhole.eI CubicWhole.cNV := CubicInverseWhole.consts_example

/-- **End to end, linear spline**: both round trips on the closed boxes (knots included) need no hypothesis beyond `LinValid`;
    the log-det law needs the Python double `np.log(1/K)` that the forward program subtracts to be read as the real `log(1/K)`
    (the inverse program computes `log(pdf·K)` in-tensor) -/
theorem linear_program_roundtrip (e : Float → ℝ) (box : Box) (eps : Float) (up : List ℝ) (hv : LinWhole.LinValid e box eps up) :
    (∀ y, e box.bottom ≤ y → y ≤ e box.top → LinWhole.val e box eps up (LinWhole.inv e box eps up y) = y) ∧
    (∀ x, e box.left ≤ x → x ≤ e box.right → LinWhole.inv e box eps up (LinWhole.val e box eps up x) = x) ∧
    (e (Float.log (1.0 / up.length.toFloat)) = Real.log (1 / (up.length : ℝ)) →
      ∀ y, e box.bottom ≤ y → y ≤ e box.top →
        LinWhole.invLd e box eps up y = - LinWhole.ld e box eps up (LinWhole.inv e box eps up y)) :=
  ⟨(LinWhole.searchedInv hv).val_inv (LinWhole.searched hv), (LinWhole.searchedInv hv).inv_val (LinWhole.searched hv),
    LinWhole.invLd_eq_neg_ld hv⟩

/-! ## cubic elements inside layers -/

/-- **executed coupling layer with cubic elements**: exact round trip on whole arrays when every parameter slice is a valid
    configuration whose bins are all exact (`CubicParamsExact`: the quadratic fallback is not taken, or the bin is exactly
    quadratic); without that hypothesis `CubicLayers.coupling_cubic_rev_approx_real` gives exact log-det negation and an element-wise
    error below `quadratic_threshold · (top − bottom)`, and `cubic_el_round_trip_counterexample` shows the hypothesis is forced -/
theorem exec_cubic_coupling_roundtrip (e : Float → ℝ) (c : ElCfg) (hk : c.kind = "cubic") (ht : c.tails = false)
    (hc : CubicInverseWhole.InvConsts e (CubicLayers.cubicCfgOf c))
    (mask : List ℝ) (B S : Nat) (x params uparams uparams' : Array ℝ)
    (hv : CubicLayers.CubicParamsExact e c (transformIdx (NF.realX e) mask).length S params B)
    (herr : (couplingApply (NF.realX e) c mask B S x params false none uparams).err = none)
    (hsz : B * mask.length * S ≤ x.size) :
    let fwd := couplingApply (NF.realX e) c mask B S x params false none uparams
    let inv := couplingApply (NF.realX e) c mask B S fwd.out params true none uparams'
    inv.out = x ∧ inv.err = none ∧ inv.condIn = fwd.condIn ∧ ∀ b, b < B → inv.ld[b]? = (fwd.ld[b]?).map (fun l => -l) :=
  (CubicLayers.cubic_undoes hk ht hc false).coupling_roundtrip_real e (CubicLayers.cubic_kind_ne hk)
    mask B S x params uparams uparams' hv herr hsz

/-- **executed coupling layer, conditioner in the loop, RQ with tails**: the inverse pass RE-RUNS the conditioner on its own
    input (as coupling.py does) and still undoes the forward pass, both orders, any conditioner function (`hp` is not used: the round
    trip needs invertibility and totality of the elements, not their derivative law) -/
theorem exec_coupling_with_conditioner_roundtrip (e : Float → ℝ) (c : ElCfg) (hc : NF.StructureExec.RQTailsCfgValid e c)
    (hp : TailsWhole.PadExact e (NF.StructureExec.tMD c) (NF.StructureExec.tBe c)) (mask : List ℝ) (B : Nat)
    (net : Array ℝ → Array ℝ) (x : Array ℝ) (hsz : B * mask.length ≤ x.size) :
    (let fwd := CouplingJacobian.couplingForward (NF.realX e) c mask B net x
     let inv := CouplingJacobian.couplingInverse (NF.realX e) c mask B net fwd.out
     fwd.err = none ∧ inv.err = none ∧ inv.out = x ∧ ∀ b, b < B → inv.ld[b]? = (fwd.ld[b]?).map (fun l => -l))
    ∧ (let inv := CouplingJacobian.couplingInverse (NF.realX e) c mask B net x
       let fwd := CouplingJacobian.couplingForward (NF.realX e) c mask B net inv.out
       inv.err = none ∧ fwd.err = none ∧ fwd.out = x ∧ ∀ b, b < B → fwd.ld[b]? = (inv.ld[b]?).map (fun l => -l)) :=
  CouplingJacobian.coupling_net_rq_tails_roundtrip e c hc mask B net x hsz

end Properties.C02
