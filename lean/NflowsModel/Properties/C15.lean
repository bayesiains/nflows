import NflowsModel.Core.Inventory
import NflowsModel.Lemmas.InventoryReload
import NflowsModel.Generated.C15
/-!
# C15 — saving and reloading a model reproduces the same function   (partial: see DESIGN §8 item 3)

THESE ARE THIN THEOREMS ABOUT A SMALL MODEL.  A module is a list of *entries* (everything the walker finds in the
module tree: parameters, persistent / non-persistent buffers, plain tensor / ndarray / number attributes, aliases
of persisted tensors), each with a flag "equal across instances built from the same constructor arguments under
different seeds" (`ctorDetermined`) and, in `reloadSafeU`, a flag "function-determining" (`used`).  The module's
function is an arbitrary `eval` of the entry values.  `load_state_dict` into a fresh instance is `afterLoad`:
persisted entries take the saved value, all others keep what the constructor of the receiving instance made.

The theorems say: if every function-determining entry is persisted, or an alias of a persisted one, or
constructor-determined, then the reloaded instance evaluates exactly like the saved one — for every `eval`,
every value type, every pair of instances built from the same constructor arguments and every history of value
updates of persisted entries before saving; and the check is exact (a rejected inventory has a concrete pair of
instances that differ after reloading).

The premise `reloadSafeU inv used = true` is NOT proved here for "the code": it is established per run, by
`decide`, for the inventories the translator extracts from the running implementation
(`NflowsModel/Generated/C15.lean`, theorems `Properties.C15.inv_<k>_reloadSafe`, regenerated before every build
by `harness/props/c15.py`); `afterLoad` is executed by the driver (`Core/Ops/C15.lean`) against the real
`load_state_dict`, entry by entry.  A class/configuration not in the registry is not covered.
-/
open Thin Thin.Inventory

namespace Properties.C15

/-- **Reload soundness** (all entries function-determining): if every entry is persisted or
    constructor-determined, loading the saved values into a fresh instance reproduces the saved values.
    `hctor` (two instances built from the same constructor arguments agree on constructor-determined entries) is asked
    ONLY for the entries that do not travel in the state dict: a persisted entry flagged constructor-determined (BatchNorm
    weights, running statistics, feature-index buffers …) may have been trained away from its constructor value before
    saving — it is overwritten by the load, so the theorem applies after every training history. -/
theorem reload_sound {V : Type} (inv : List Entry) (saved fresh : List V)
    (hlen1 : saved.length = inv.length) (hlen2 : fresh.length = inv.length)
    (hsafe : reloadSafe inv = true)
    (hctor : ∀ i (h1 : i < inv.length), persisted inv[i] = false → (inv[i]).ctorDetermined = true →
      saved[i]'(hlen1 ▸ h1) = fresh[i]'(hlen2 ▸ h1)) :
    afterLoad inv saved fresh = saved :=
  Inventory.reload_sound_np inv saved fresh hlen1 hlen2 hsafe hctor

/-- **What `load_state_dict` does, entry by entry** (this is what the driver is compared on). -/
theorem afterLoad_entry {V : Type} (inv : List Entry) (saved fresh : List V) (i : Nat) (e : Entry) (s f : V)
    (he : inv[i]? = some e) (hs : saved[i]? = some s) (hf : fresh[i]? = some f) :
    (afterLoad inv saved fresh)[i]? = some (if persisted e then s else f) :=
  Inventory.afterLoad_getElem? inv saved fresh i e s f he hs hf

/-- **Same function after reload.**  `eval` is the module's function (forward, inverse and log_prob together, on
    all inputs: `R` is arbitrary) and reads only the entries flagged `used`.  If the inventory passes the check,
    the reloaded instance evaluates exactly like the saved one.
    `hctor` is asked only for the entries that are NOT persisted and that the function reads (the only ones the proof
    needs): the saved instance may have any training history on its persisted entries, constructor-determined or not, and
    on entries the function does not read. -/
theorem reload_same_function {V R : Type} (inv : List Entry) (used : List Bool) (eval : List V → R)
    (hdep : ∀ v w : List V, v.length = w.length → (∀ i, used.getD i true = true → v[i]? = w[i]?) → eval v = eval w)
    (saved fresh : List V) (hl1 : saved.length = inv.length) (hl2 : fresh.length = inv.length)
    (hsafe : reloadSafeU inv used = true)
    -- two instances built from the same constructor arguments agree on the constructor-determined entries that do not
    -- travel in the state dict (and that the function reads)
    (hctor : ∀ (i : Nat) (e : Entry), inv[i]? = some e → persisted e = false → used.getD i true = true →
      e.ctorDetermined = true → saved[i]? = fresh[i]?) :
    eval (afterLoad inv saved fresh) = eval saved := by
  apply hdep
  · rw [afterLoad_length inv saved fresh hl1 hl2, hl1]
  · intro i hu
    by_cases hi : i < inv.length
    · have hs : saved[i]? = some (saved[i]'(hl1 ▸ hi)) := List.getElem?_eq_getElem _
      have hf : fresh[i]? = some (fresh[i]'(hl2 ▸ hi)) := List.getElem?_eq_getElem _
      have he : inv[i]? = some inv[i] := List.getElem?_eq_getElem _
      rw [afterLoad_getElem? inv saved fresh i _ _ _ he hs hf]
      by_cases hp : persisted inv[i] = true
      · rw [if_pos hp, hs]
      · rcases reloadSafeU_spec inv used hsafe i _ he hu with h | h
        · exact absurd h hp
        · have := hctor i _ he (by simpa using hp) hu h
          simp only [hp, Bool.false_eq_true, if_false]
          rw [← hf]; exact this.symm
    · have h1 : (afterLoad inv saved fresh).length ≤ i := by
        rw [afterLoad_length inv saved fresh hl1 hl2]; exact Nat.le_of_not_lt hi
      have h2 : saved.length ≤ i := by rw [hl1]; exact Nat.le_of_not_lt hi
      rw [List.getElem?_eq_none h1, List.getElem?_eq_none h2]

/-- **Every history before saving.**  Start from an instance `built`; apply any finite history `h` of value updates
    (training steps, data-dependent initialisation, running-statistics updates, …) that touches only persisted
    entries (or entries the function does not read); save; load into a `fresh` instance built from the same
    constructor arguments (possibly under another seed).  The reloaded instance evaluates like the saved one.
    A corollary of `reload_same_function` (whose `hctor` constrains non-persisted entries only): the history leaves the
    non-persisted entries the function reads where the constructor put them. -/
theorem reload_after_history {V R : Type} (inv : List Entry) (used : List Bool) (eval : List V → R)
    (hdep : ∀ v w : List V, v.length = w.length → (∀ i, used.getD i true = true → v[i]? = w[i]?) → eval v = eval w)
    (built fresh : List V) (h : List (Nat × V))
    (hl1 : built.length = inv.length) (hl2 : fresh.length = inv.length)
    (hsafe : reloadSafeU inv used = true)
    (hctor : ∀ (i : Nat) (e : Entry), inv[i]? = some e → persisted e = false → used.getD i true = true →
      e.ctorDetermined = true → built[i]? = fresh[i]?)
    (hhist : ∀ p ∈ h, ∀ e : Entry, inv[p.1]? = some e → persisted e = true ∨ used.getD p.1 true = false) :
    eval (afterLoad inv (applyHist built h) fresh) = eval (applyHist built h) := by
  apply reload_same_function inv used eval hdep (applyHist built h) fresh (by rw [applyHist_length, hl1]) hl2 hsafe
  intro i e he hp hu hc
  -- a used, non-persisted entry is not touched by the history
  have hunt : ∀ p ∈ h, p.1 ≠ i := by
    intro p hpm hpi
    rcases hhist p hpm e (by rw [hpi]; exact he) with h1 | h1
    · rw [hp] at h1; exact Bool.noConfusion h1
    · rw [hpi, hu] at h1; exact Bool.noConfusion h1
  rw [applyHist_getElem?_untouched built h i hunt]
  exact hctor i e he hp hu hc

/-- with every entry counted as function-determining the two checkers coincide -/
theorem reloadSafeU_all_used (inv : List Entry) : reloadSafeU inv [] = reloadSafe inv :=
  Inventory.reloadSafeU_nil_used inv

/-- **The check is exact**: a rejected inventory has two instances (here with Boolean entry values) that agree on
    every constructor-determined entry and still differ, after reloading, on a function-determining entry — e.g. a
    random permutation kept as a plain attribute, or an initialisation flag in a non-persistent buffer. -/
theorem reloadSafeU_exact (inv : List Entry) (used : List Bool) (h : reloadSafeU inv used = false) :
    ∃ (saved fresh : List Bool) (i : Nat), saved.length = inv.length ∧ fresh.length = inv.length ∧
      (∀ (j : Nat) (e : Entry), inv[j]? = some e → e.ctorDetermined = true → saved[j]? = fresh[j]?) ∧
      used.getD i true = true ∧ (afterLoad inv saved fresh)[i]? ≠ saved[i]? := by
  obtain ⟨i, e, he, hu, hp, hc⟩ := (reloadSafeU_eq_false_iff inv used).mp h
  have hi : i < inv.length := by
    rcases Nat.lt_or_ge i inv.length with h' | h'
    · exact h'
    · rw [List.getElem?_eq_none h'] at he; cases he
  refine ⟨List.replicate inv.length false, setAt (List.replicate inv.length false) i true, i,
    by simp, by rw [setAt_length]; simp, ?_, hu, ?_⟩
  · intro j e' he' hc'
    have hji : i ≠ j := by
      intro hij; subst hij
      rw [he] at he'; cases he'
      rw [hc] at hc'; exact Bool.noConfusion hc'
    rw [setAt_getElem?_ne _ i j true hji]
  · have hs : (List.replicate inv.length false)[i]? = some false := by simp [hi]
    have hf : (setAt (List.replicate inv.length false) i true)[i]? = some true :=
      setAt_getElem?_eq _ i true (by simpa using hi)
    rw [afterLoad_getElem? inv _ _ i e false true he hs hf, hs]
    simp [hp]

/-- the wire format decodes to the entries it encodes (sanity of the driver's decoder) -/
theorem decode_example :
    decodeInv [0, 0, 1, 0, 2, 1, 3, 1, 4, 0] =
      [⟨.param, false⟩, ⟨.bufPersistent, false⟩, ⟨.bufNonPersistent, true⟩, ⟨.plain, true⟩, ⟨.aliasOfPersisted, false⟩] := by
  decide

/-! ### non-vacuity: the hypotheses are satisfiable by, and the check discriminates on, non-trivial data -/

/-- `RandomPermutation` as coded (permutations.py:19-20): `_permutation` is a persistent buffer (seed-dependent),
    `_dim` a plain constructor-determined number → accepted -/
example : reloadSafeU [⟨.bufPersistent, false⟩, ⟨.plain, true⟩] [true, true] = true := by decide

/-- the same class with the permutation kept as a plain attribute → rejected -/
example : reloadSafeU [⟨.plain, false⟩, ⟨.plain, true⟩] [true, true] = false := by decide

/-- `StandardNormal._log_z` (normal.py:18-21): non-persistent but constructor-determined → accepted;
    an `initialized` flag in a non-persistent buffer would not be -/
example : reloadSafeU [⟨.bufNonPersistent, true⟩] [true] = true ∧ reloadSafeU [⟨.bufNonPersistent, false⟩] [true] = false := by
  decide

/-- a seed-dependent plain attribute that the function does not read is tolerated -/
example : reloadSafeU [⟨.plain, false⟩, ⟨.param, false⟩] [false, true] = true := by decide

/-- `afterLoad` on concrete values: the persisted entry takes the saved value, the plain one keeps the fresh value -/
example : afterLoad [⟨.bufPersistent, false⟩, ⟨.plain, true⟩] [10, 7] [20, 7] = [10, 7] := by decide

/-- a history that updates the persisted entry (index 0) twice, then save and reload -/
example : afterLoad [⟨.bufPersistent, false⟩, ⟨.plain, true⟩] (applyHist [10, 7] [(0, 11), (0, 12)]) [20, 7] = [12, 7] := by
  decide

/-- **applicability after a training step of a persisted constructor-initialised parameter**: entry 0
    is a parameter flagged constructor-determined (e.g. a BatchNorm weight, initialised to the same value under every
    seed), trained from `1` to `5` before saving; entry 1 a plain constructor-determined attribute.  The saved and the
    fresh instance DIFFER on the constructor-determined entry 0, and the theorems apply: `load_state_dict` reproduces the
    saved values and the saved function, for every `eval`. -/
example : afterLoad [⟨.param, true⟩, ⟨.plain, true⟩] [5, 7] [1, 7] = ([5, 7] : List Nat) :=
  reload_sound [⟨.param, true⟩, ⟨.plain, true⟩] [5, 7] [1, 7] rfl rfl (by decide) (by
    intro i h1 hp hc
    match i, h1 with
    | 0, _ => simp [persisted] at hp
    | 1, _ => rfl)

example {R : Type} (eval : List Nat → R) :
    eval (afterLoad [⟨.param, true⟩, ⟨.plain, true⟩] [5, 7] [1, 7]) = eval [5, 7] :=
  reload_same_function [⟨.param, true⟩, ⟨.plain, true⟩] [] eval
    (fun v w hl h => by
      have : v = w := List.ext_getElem? fun i => h i rfl
      rw [this])
    [5, 7] [1, 7] rfl rfl (by decide) (by
    intro i e he hp _ _
    match i with
    | 0 =>
      simp only [List.getElem?_cons_zero, Option.some.injEq] at he
      subst he
      exact absurd hp (by decide)
    | 1 => rfl
    | (k + 2) => cases he)

/-- the same through the history form: the instance is built with the constructor value `1`, a training step moves the
    persisted entry 0 to `5`, then save and reload into a fresh instance -/
example {R : Type} (eval : List Nat → R) :
    eval (afterLoad [⟨.param, true⟩, ⟨.plain, true⟩] (applyHist [1, 7] [(0, 5)]) [1, 7]) = eval (applyHist [1, 7] [(0, 5)]) :=
  reload_after_history [⟨.param, true⟩, ⟨.plain, true⟩] [] eval
    (fun v w hl h => by
      have : v = w := List.ext_getElem? fun i => h i rfl
      rw [this])
    [1, 7] [1, 7] [(0, 5)] rfl rfl (by decide) (fun _ _ _ _ _ _ => rfl) (by
    intro p hp e he
    simp only [List.mem_singleton] at hp
    subst hp
    simp only [List.getElem?_cons_zero, Option.some.injEq] at he
    subst he
    exact Or.inl (by decide))

end Properties.C15
