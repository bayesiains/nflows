import NflowsModel.Lemmas.Coupling
import NflowsModel.Lemmas.Multiscale
import NflowsModel.Lemmas.WrappersExec
import NflowsModel.Lemmas.MultiscaleExec
import NflowsModel.Core.Ops.C08
/-!
# C08 — composite, inverse and multiscale wrappers are exact function composition

Property theorems only (helper lemmas live in `Lemmas/WrappersExec.lean`, `Lemmas/MultiscaleExec.lean`).
Unless marked "restated", every theorem is about the EXECUTABLE definitions of `Core/Wrappers.lean` and
`Core/Multiscale.lean` — the ones the line-protocol driver runs against `nflows/transforms/base.py` — at an
arbitrary tensor type / element type / context type, for arbitrary parts (which may raise), any number of parts or
stages, any rank, any split dimension, odd and even sizes.

Shapes are written `pre ++ n :: suf` with `split_dim = pre.length + 1`: `pre` are the item dimensions in front of the
split dimension (any number, any sizes), `n` its size, `suf` the dimensions behind it.
-/
open NF NF.Wrap

namespace Properties.C08

variable {T C L : Type}

/-! ## CompositeTransform (base.py:32-60) -/

/-- **`_cascade` is a left fold**: with parts that do not raise, the outputs are the parts applied left to right and
    the log-det is `((0 + ld₁) + ld₂) + …` evaluated at the intermediate points — literally, no algebraic law of
    `+` is used (so this also describes the floating-point sum). -/
theorem cascade_eq_foldl (A : LD L) (ps : List (T → C → T × L)) (x : T) (c : C) :
    cascade A (ps.map liftPure) x c =
      .ok (ps.foldl (fun acc p => ((p acc.1 c).1, A.add acc.2 (p acc.1 c).2)) (x, A.zero)) := by
  unfold cascade
  generalize A.zero = l
  induction ps generalizing x l with
  | nil => rfl
  | cons p ps ih => simp only [List.map_cons, cascadeFrom, liftPure, List.foldl_cons]; exact ih _ _

/-- a composite of no parts is the identity with log-det zero -/
theorem composite_forward_nil (A : LD L) (x : T) (c : C) :
    (composite A ([] : List (Tr T C L))).fwd x c = .ok (x, A.zero) ∧
    (composite A ([] : List (Tr T C L))).inv x c = .ok (x, A.zero) := ⟨rfl, rfl⟩

/-- **forward = the parts in the order given, log-dets summed**: the first part runs first, on its output runs
    the composite of the remaining parts; an exception of any part is the composite's exception. -/
theorem composite_forward_cons (A : LD L) (hA : A.Lawful) (t : Tr T C L) (ts : List (Tr T C L)) (x : T) (c : C) :
    (composite A (t :: ts)).fwd x c =
      match t.fwd x c with
      | .error e => .error e
      | .ok (y, ld) =>
        match (composite A ts).fwd y c with
        | .error e => .error e
        | .ok (z, ld') => .ok (z, A.add ld ld') := by
  simp only [composite, List.map_cons]
  rw [cascade_cons A hA]
  rcases t.fwd x c with e | ⟨y, ld⟩
  · rfl
  · simp only []
    generalize cascade A (List.map _ ts) y c = r
    rcases r with e | ⟨z, ld'⟩ <;> rfl

/-- **inverse = the parts' inverses in REVERSED order**: the composite of the remaining parts is undone first, the
    first part's inverse runs last (the parts need not commute). -/
theorem composite_inverse_cons (A : LD L) (hA : A.Lawful) (t : Tr T C L) (ts : List (Tr T C L)) (z : T) (c : C) :
    (composite A (t :: ts)).inv z c =
      match (composite A ts).inv z c with
      | .error e => .error e
      | .ok (y, ld) =>
        match t.inv y c with
        | .error e => .error e
        | .ok (x, ld') => .ok (x, A.add ld ld') := by
  simp only [composite, List.reverse_cons, List.map_append, List.map_cons, List.map_nil]
  rw [cascade_append A hA]
  simp only [cascade_singleton]
  generalize cascade A (List.map _ ts.reverse) z c = r
  rcases r with e | ⟨y, ld⟩
  · rfl
  · simp only []
    rcases t.inv y c with e | ⟨x, ld'⟩
    · rfl
    · simp [hA.zero_add]

/-- composing two lists of parts = composing the two composites -/
theorem composite_forward_append (A : LD L) (hA : A.Lawful) (ts us : List (Tr T C L)) (x : T) (c : C) :
    (composite A (ts ++ us)).fwd x c =
      match (composite A ts).fwd x c with
      | .error e => .error e
      | .ok (y, ld) =>
        match (composite A us).fwd y c with
        | .error e => .error e
        | .ok (z, ld') => .ok (z, A.add ld ld') := by
  simp only [composite, List.map_append]
  rw [cascade_append A hA]
  generalize cascade A (List.map _ ts) x c = r
  rcases r with e | ⟨y, ld⟩
  · rfl
  · simp only []
    generalize cascade A (List.map _ us) y c = r'
    rcases r' with e | ⟨z, ld'⟩ <;> rfl

/-! ## InverseTransform (base.py:215-231) -/

/-- wrapping swaps the two directions exactly -/
theorem inverseTransform_forward (t : Tr T C L) : (inverseTr t).fwd = t.inv := rfl
theorem inverseTransform_inverse (t : Tr T C L) : (inverseTr t).inv = t.fwd := rfl
theorem inverseTransform_involutive (t : Tr T C L) : inverseTr (inverseTr t) = t := rfl

/-- the inverse of a composite is the composite of the inverted parts in reversed order -/
theorem inverseTransform_composite (A : LD L) (ts : List (Tr T C L)) :
    inverseTr (composite A ts) = composite A (ts.reverse.map inverseTr) := by
  simp only [inverseTr, composite, List.map_map, List.map_reverse, List.reverse_reverse, Tr.mk.injEq]
  constructor <;> congr 1

/-- **round trip**: if every part is undone by its own inverse, the composite's inverse (reversed order, as
    coded) undoes the composite and returns minus the summed log-det. -/
theorem composite_round_trip {G : Type} [AddCommGroup G] (ts : List (Tr T C G)) (h : ∀ t ∈ ts, GoodTr t) :
    GoodTr (composite (LD.std G) ts) := by
  induction ts with
  | nil =>
    intro x c y l hf
    have : (x, (0 : G)) = (y, l) := by simpa [composite, cascade, cascadeFrom] using hf
    obtain ⟨rfl, rfl⟩ := Prod.mk.inj this
    simp [composite, cascade, cascadeFrom]
  | cons t ts ih =>
    intro x c z l hf
    rw [composite_forward_cons _ (LD.std_lawful G)] at hf
    rw [composite_inverse_cons _ (LD.std_lawful G)]
    rcases h1 : t.fwd x c with e | ⟨y, l1⟩
    · simp [h1] at hf
    · simp only [h1] at hf
      rcases h2 : (composite (LD.std G) ts).fwd y c with e | ⟨z', l2⟩
      · simp [h2] at hf
      · simp only [h2, Except.ok.injEq, Prod.mk.injEq, LD.std_add] at hf
        obtain ⟨rfl, rfl⟩ := hf
        rw [ih (fun s hs => h s (List.mem_cons_of_mem _ hs)) y c z' l2 h2]
        simp only []
        rw [h t List.mem_cons_self x c y l1 h1]
        simp [add_comm]

/-- the order of the parts matters: scale-then-shift differs from shift-then-scale (so a model that forgot the
    reversal in `inverse`, or ran the parts in another order, is distinguishable) -/
theorem composite_order_matters :
    let scale : Tr Int Unit Int := ⟨fun x _ => .ok (2 * x, 1), fun x _ => .ok (x / 2, -1)⟩
    let shift : Tr Int Unit Int := ⟨fun x _ => .ok (x + 1, 0), fun x _ => .ok (x - 1, 0)⟩
    (composite (LD.std Int) [scale, shift]).fwd 1 () = .ok (3, 1) ∧
    (composite (LD.std Int) [shift, scale]).fwd 1 () = .ok (4, 1) ∧
    (composite (LD.std Int) [scale, shift]).inv 3 () = .ok (1, -1) := by
  decide

/-! ## MultiscaleCompositeTransform: construction (base.py:75-137) -/
variable {α : Type}

/-- `__init__`: `TypeError` unless `split_dim` is a positive `int`; nothing else is checked -/
theorem new_contract (numT : Int) :
    (∀ v : Int, 0 < v → (MS.new numT (.int v) : Except Err (MS α C L)) = .ok ⟨numT, v.toNat, [], []⟩) ∧
    (∀ v : Int, v ≤ 0 → (MS.new numT (.int v) : Except Err (MS α C L)) = .error .typeError) ∧
    (MS.new numT .other : Except Err (MS α C L)) = .error .typeError := by
  refine ⟨fun v hv => by simp [MS.new, hv], fun v hv => ?_, rfl⟩
  have : ¬ v > 0 := by omega
  simp [MS.new, this]

/-- `add_transform`, the error contract in the order the code checks it:
    more transforms present than announced → `AssertionError`; already complete → `RuntimeError`;
    declared shape has no `split_dim` → `ValueError`; size along `split_dim` below 2 → `ValueError`. -/
theorem addTransform_errors (m : MS α C L) (t : Tr (Item α) C L) (shape : List Nat) :
    (m.numTransforms < m.transforms.length → m.addTransform t shape = .error .assertion) ∧
    (m.numTransforms = m.transforms.length → m.addTransform t shape = .error .runtime) ∧
    ((m.transforms.length : Int) < m.numTransforms → shape.length ≤ m.splitDim - 1 →
      m.addTransform t shape = .error .valueError) ∧
    ((m.transforms.length : Int) < m.numTransforms → m.splitDim - 1 < shape.length →
      shape.getD (m.splitDim - 1) 0 < 2 → m.addTransform t shape = .error .valueError) :=
  NF.Wrap.addTransform_errors m t shape

/-- **`add_transform` shape bookkeeping**: on a declared shape `pre ++ n :: suf` with `split_dim = pre.length + 1`
    and `n ≥ 2` the transform is appended; unless it is the last one the recorded output shape has `⌈n/2⌉ = (n+1)/2`
    and the returned hidden shape `⌊n/2⌋ = n/2` along the split dimension (all other dimensions unchanged, odd and
    even `n`, any rank); for the last one the whole shape is recorded and `None` is returned. -/
theorem addTransform_shapes (m : MS α C L) (t : Tr (Item α) C L) (pre suf : List Nat) (n : Nat)
    (hsd : m.splitDim = pre.length + 1) (hn : 2 ≤ n) (hroom : (m.transforms.length : Int) < m.numTransforms) :
    m.addTransform t (pre ++ n :: suf) =
      if (m.transforms.length : Int) + 1 ≠ m.numTransforms then
        .ok ({ m with transforms := m.transforms ++ [t],
                      outputShapes := m.outputShapes ++ [pre ++ ((n + 1) / 2) :: suf] },
             some (pre ++ (n / 2) :: suf))
      else
        .ok ({ m with transforms := m.transforms ++ [t], outputShapes := m.outputShapes ++ [pre ++ n :: suf] }, none) :=
  NF.Wrap.addTransform_shapes m t pre suf n hsd hn hroom

/-- transforms and recorded shapes grow together -/
theorem addTransform_invariant (m m' : MS α C L) (t : Tr (Item α) C L) (shape : List Nat) (r : Option (List Nat))
    (h : m.addTransform t shape = .ok (m', r)) (hinv : m.transforms.length = m.outputShapes.length) :
    m'.transforms.length = m'.outputShapes.length ∧ m'.transforms = m.transforms ++ [t] ∧
      m'.splitDim = m.splitDim ∧ m'.numTransforms = m.numTransforms := by
  obtain ⟨s, rfl⟩ := addTransform_ok_fst h
  exact ⟨by simp only [List.length_append, List.length_singleton, hinv], rfl, rfl, rfl⟩

/-- **which configurations are accepted**: building the documented way (`k ≥ 1` stages, every declared shape being
    the hidden shape returned by the previous call) succeeds exactly when the split dimension can be halved `k - 1`
    times and still has size at least 2, i.e. `2^k ≤ n`; otherwise `ValueError`. -/
theorem build_accepts_iff (pre suf : List Nat) (ts : List (Tr (Item α) C L)) (n : Nat) (hts : ts ≠ []) :
    (2 ^ ts.length ≤ n →
      MS.build (ts.length : Int) (.int ((pre.length : Int) + 1)) ts (pre ++ n :: suf) =
        .ok ⟨ts.length, pre.length + 1, ts, outShapes pre suf ts.length n⟩) ∧
    (¬ 2 ^ ts.length ≤ n →
      MS.build (ts.length : Int) (.int ((pre.length : Int) + 1)) ts (pre ++ n :: suf) = .error .valueError) :=
  ⟨build_ok pre suf ts n hts, build_small pre suf ts n hts⟩

/-- **`sizes_sum`**: for every accepted configuration (any rank, any split dimension, any size, any number of
    stages) the recorded output shapes account for every coordinate exactly: `Σₖ ∏ outShapeₖ = ∏ inShape`.  This is
    what makes the slicing of the flat tensor in `inverse` (base.py:188-194) exhaustive and non-overlapping. -/
theorem sizes_sum (pre suf : List Nat) (ts : List (Tr (Item α) C L)) (n : Nat) (hts : ts ≠ []) (m : MS α C L)
    (hb : MS.build (ts.length : Int) (.int ((pre.length : Int) + 1)) ts (pre ++ n :: suf) = .ok m) :
    (m.outputShapes.map prod).sum = prod (pre ++ n :: suf) ∧ m.outputShapes.length = ts.length := by
  obtain ⟨_, rfl⟩ := build_inv pre suf ts n hts hb
  exact ⟨sizes_sum_aux pre suf _ n (List.length_pos_iff.mpr hts), outShapes_length pre suf _ n⟩

/-! ## MultiscaleCompositeTransform: forward and inverse (base.py:139-212) -/

/-- call-time error contract of `forward` and `inverse` -/
theorem call_errors (A : LD L) (m : MS α C L) (x : Item α) (c : C) :
    (x.shape.length + 1 ≤ m.splitDim → m.forward A x c = .error .valueError) ∧
    (m.splitDim < x.shape.length + 1 → m.numTransforms ≠ m.transforms.length → m.forward A x c = .error .runtime) ∧
    (x.shape.length + 1 ≠ 2 → m.inverse A x c = .error .valueError) ∧
    (x.shape.length + 1 = 2 → m.numTransforms ≠ m.transforms.length → m.inverse A x c = .error .runtime) := by
  refine ⟨fun h => ?_, fun h h' => ?_, fun h => ?_, fun h h' => ?_⟩
  · simp [MS.forward, h]
  · have : ¬ (x.shape.length + 1 ≤ m.splitDim) := by omega
    simp [MS.forward, this, h']
  · simp [MS.inverse, h]
  · simp [MS.inverse, h, h']

/-- **forward, unrolled** (`multiscale_forward_eq`): the loop with its accumulators computes
    `flatten(chunk₀(T₁ x)) ++ (the remaining stages on chunk₁(T₁ x))`, the last stage emitting its whole output;
    log-dets are summed; the first exception (of a stage, of the tuple unpacking, of the shape assertion) is the
    result.  Hence the coordinates emitted after stage `k` went through `T₁ … Tₖ` and no other stage. -/
theorem multiscale_forward_eq (A : LD L) (hA : A.Lawful) (d : Nat) (t : Tr (Item α) C L) (ts : List (Tr (Item α) C L))
    (sh : List Nat) (shs : List (List Nat)) (h : Item α) (c : C) :
    fwdStages A d (t :: ts) (sh :: shs) h [] A.zero c =
      match t.fwd h c with
      | .error e => .error e
      | .ok (y, ld) =>
        match ts with
        | [] => .ok (y.data, ld)
        | t' :: ts' =>
          match chunk2 d y with
          | .error e => .error e
          | .ok (o, h') =>
            if sh ≠ o.shape then .error .assertion
            else
              match fwdStages A d (t' :: ts') shs h' [] A.zero c with
              | .error e => .error e
              | .ok (rest, ld') => .ok (o.data ++ rest, A.add ld ld') := by
  cases ts with
  | nil =>
    rw [fwdStages_single A hA]
    rcases t.fwd h c with e | ⟨y, ld⟩ <;> rfl
  | cons t' ts' =>
    rw [fwdStages_cons A hA]
    rcases t.fwd h c with e | ⟨y, ld⟩
    · rfl
    · simp only []
      rcases chunk2 d y with e | ⟨o, h'⟩
      · rfl
      · simp only []
        split
        · rfl
        · rcases fwdStages A d (t' :: ts') shs h' [] A.zero c with e | ⟨rest, ld'⟩ <;> rfl

/-- `chunk` and `cat` along any dimension are mutually inverse on well-formed items (odd and even sizes), and a
    chunk is a rearrangement of the data -/
theorem chunk_cat_laws (pre suf : List Nat) (n : Nat) (hn : n ≠ 1) (data : List α)
    (hwf : data.length = prod (pre ++ n :: suf)) :
    ∃ o h, chunk2 pre.length ⟨pre ++ n :: suf, data⟩ = .ok (o, h) ∧
      o.shape = pre ++ ((n + 1) / 2) :: suf ∧ h.shape = pre ++ (n / 2) :: suf ∧ WF o ∧ WF h ∧
      cat2 pre.length o h = .ok ⟨pre ++ n :: suf, data⟩ ∧ (o.data ++ h.data).Perm data := by
  refine ⟨_, _, chunk2_mid pre suf n hn data, rfl, rfl, (chunk2_wf pre suf n data hwf).1, (chunk2_wf pre suf n data hwf).2,
    cat2_chunk2 pre suf n data hwf, splitBlocks_perm _ _ _ _ (by rw [hwf, prod_mid])⟩

/-- **prefix of stages** (`multiscale_prefix`): when stage `k` acts element-wise with `gₖ`, an accepted
    configuration maps the input to: the routing segments of the INPUT data (`routeSegs`, which does not depend on
    the stages), segment `k` mapped through `gₖ ∘ … ∘ g₁` — so a coordinate emitted after stage `k` went through
    exactly the stages `1 … k`, in that order, and through no later stage.  (The proof does not use `hA`; the index-level forms in
    `Properties/C08I.lean` are stated without it.) -/
theorem multiscale_prefix (A : LD L) (hA : A.Lawful) (pre suf : List Nat) (n : Nat) (ts : List (Tr (Item α) C L))
    (gs : List (C → α → α)) (hpw : List.Forall₂ IsPointwise ts gs) (hts : ts ≠ []) (m : MS α C L)
    (hb : MS.build (ts.length : Int) (.int ((pre.length : Int) + 1)) ts (pre ++ n :: suf) = .ok m)
    (data : List α) (c : C) :
    ∃ l, m.forward A ⟨pre ++ n :: suf, data⟩ c =
      .ok (⟨[((List.zipWith (fun f seg => List.map f seg) (prefixMaps (gs.map (fun g => g c)))
              (routeSegs (prod pre) (prod suf) ts.length n data)).flatten).length],
            (List.zipWith (fun f seg => List.map f seg) (prefixMaps (gs.map (fun g => g c)))
              (routeSegs (prod pre) (prod suf) ts.length n data)).flatten⟩, l) :=
  forward_pointwise A pre suf n ts gs hpw hts m hb data c

/-- entry `k` of `prefixMaps` is the composition `g_{k+1} ∘ … ∘ g₁` (first stage applied first) -/
theorem prefixMaps_spec (gs : List (α → α)) (k : Nat) (hk : k < gs.length) :
    (prefixMaps gs)[k]? = some ((gs.take (k + 1)).foldl (fun f g => g ∘ f) id) :=
  prefixMaps_getElem? gs k hk

/-- **routing is a bijection of coordinates** (`multiscale_routing_bijective`): with stages that leave the data
    alone, every accepted configuration — any rank, any split dimension, odd or even size, any number of stages —
    returns a flat item whose data is a PERMUTATION of the input data: every input coordinate reaches exactly one
    output position (with distinct tags: no tag is lost, none is duplicated).  (The proof does not use `hA`.) -/
theorem multiscale_routing_bijective (A : LD L) (hA : A.Lawful) (pre suf : List Nat) (n : Nat)
    (ts : List (Tr (Item α) C L)) (hid : ∀ t ∈ ts, IsPointwise t (fun _ => id)) (hts : ts ≠ []) (m : MS α C L)
    (hb : MS.build (ts.length : Int) (.int ((pre.length : Int) + 1)) ts (pre ++ n :: suf) = .ok m)
    (data : List α) (hwf : data.length = prod (pre ++ n :: suf)) (c : C) :
    ∃ flat l, m.forward A ⟨pre ++ n :: suf, data⟩ c = .ok (⟨[prod (pre ++ n :: suf)], flat⟩, l) ∧
      flat = (routeSegs (prod pre) (prod suf) ts.length n data).flatten ∧
      flat.Perm data ∧ (data.Nodup → flat.Nodup) ∧ ∀ a, a ∈ flat ↔ a ∈ data := by
  obtain ⟨l, hl⟩ := forward_id A pre suf n ts hid hts m hb data c
  have hperm : (routeSegs (prod pre) (prod suf) ts.length n data).flatten.Perm data :=
    routeSegs_perm _ _ _ n data (List.length_pos_iff.mpr hts) (by rw [hwf, prod_mid])
  refine ⟨_, l, ?_, rfl, hperm, fun hnd => hperm.nodup_iff.mpr hnd, fun a => hperm.mem_iff⟩
  rw [hl, hperm.length_eq, hwf]

/-- **inverse undoes forward** (`multiscale_inv_fwd`): in every accepted configuration whose stages keep the shape
    of what reaches them and are undone by their own inverses (with negated log-det), `forward` succeeds on every
    well-formed input of the declared shape and returns a flat item of `∏ shape` coordinates; `inverse` maps it back
    to the input exactly and returns minus the log-det — also when further columns are appended (they are ignored by
    the slicing). -/
theorem multiscale_inv_fwd {G : Type} [AddCommGroup G] (pre suf : List Nat) (n : Nat) (ts : List (Tr (Item α) C G))
    (hts : ts ≠ []) (hok : StagesOK pre suf ts n) (m : MS α C G)
    (hb : MS.build (ts.length : Int) (.int ((pre.length : Int) + 1)) ts (pre ++ n :: suf) = .ok m)
    (x : Item α) (hx : x.shape = pre ++ n :: suf) (hwf : WF x) (c : C) :
    ∃ flat l, m.forward (LD.std G) x c = .ok (⟨[prod (pre ++ n :: suf)], flat⟩, l) ∧
      flat.length = prod (pre ++ n :: suf) ∧
      ∀ extra, m.inverse (LD.std G) ⟨[prod (pre ++ n :: suf) + extra.length], flat ++ extra⟩ c = .ok (x, -l) := by
  obtain ⟨hn, rfl⟩ := build_inv pre suf ts n hts hb
  have hn' : 2 ^ (ts.length - 1) ≤ n := le_trans (Nat.pow_le_pow_right (by norm_num) (Nat.sub_le _ _)) hn
  obtain ⟨flat, l, hf, hlen, hinv⟩ := fwd_then_inv pre suf c ts n x hts hok hn' hx hwf
  refine ⟨flat, l, ?_, hlen, fun extra => ?_⟩
  · rw [← hlen]
    exact forward_of_stages (LD.std G) _ pre.length x c flat l rfl
      (by rw [hx, List.length_append, List.length_cons]; omega) rfl hf
  · obtain ⟨slices, hsp, hiv⟩ := hinv extra
    simp only [MS.inverse, List.length_cons, List.length_nil, ne_eq, not_true_eq_false, if_false,
      Nat.add_sub_cancel, hsp, hiv, zero_add]

/-- **forward undoes inverse** (`multiscale_fwd_inv`): under the mirrored hypothesis on the stages (their forward
    undoes their inverse), `inverse` succeeds on every flat item with `∏ shape` coordinates, returns a well-formed
    item of the declared shape, and `forward` maps that back to the flat item exactly, with minus the log-det. -/
theorem multiscale_fwd_inv {G : Type} [AddCommGroup G] (pre suf : List Nat) (n : Nat) (ts : List (Tr (Item α) C G))
    (hts : ts ≠ []) (hok : StagesOK pre suf (ts.map inverseTr) n) (m : MS α C G)
    (hb : MS.build (ts.length : Int) (.int ((pre.length : Int) + 1)) ts (pre ++ n :: suf) = .ok m)
    (flat : List α) (hlen : flat.length = prod (pre ++ n :: suf)) (c : C) :
    ∃ x l, m.inverse (LD.std G) ⟨[prod (pre ++ n :: suf)], flat⟩ c = .ok (x, l) ∧ x.shape = pre ++ n :: suf ∧ WF x ∧
      m.forward (LD.std G) x c = .ok (⟨[prod (pre ++ n :: suf)], flat⟩, -l) := by
  obtain ⟨hn, rfl⟩ := build_inv pre suf ts n hts hb
  have hn' : 2 ^ (ts.length - 1) ≤ n := le_trans (Nat.pow_le_pow_right (by norm_num) (Nat.sub_le _ _)) hn
  obtain ⟨slices, x, l, hsp, hiv, hs, hw, hf⟩ := inv_then_fwd pre suf c ts n flat hts hok hn' hlen
  refine ⟨x, l, ?_, hs, hw, ?_⟩
  · simp only [MS.inverse, List.length_cons, List.length_nil, ne_eq, not_true_eq_false, if_false,
      Nat.add_sub_cancel, hsp, hiv, zero_add]
  · rw [← hlen]
    exact forward_of_stages (LD.std G) _ pre.length x c flat (-l) rfl
      (by rw [hs, List.length_append, List.length_cons]; omega) rfl hf

/-! ## the driver evaluates a transmitted nesting with exactly these combinators -/

/-- the tree evaluator of the line-protocol driver (`Core/Ops/C08.lean`) maps a `comp` node to `composite`, an `inv`
    node to `inverseTr` and an `ms` node to `MS.new` + the `add_transform` calls + `MS.tr` — the definitions all
    theorems above are about (instantiated at `Item Float`, `Float` log-dets accumulated with `+` from `0.0`). -/
theorem driver_uses_combinators (cs : List C08.Node) (c : C08.Node) (n : Int) (sd : PyArg) (shapes : List (List Nat)) :
    C08.build (.comp cs) = (match C08.buildList cs with
      | .error e => .error e
      | .ok ts => .ok (composite C08.fA ts)) ∧
    C08.build (.inv c) = (match C08.build c with
      | .error e => .error e
      | .ok t => .ok (inverseTr t)) ∧
    C08.build (.ms n sd cs shapes) = (match C08.buildList cs with
      | .error e => .error e
      | .ok ts =>
        match (MS.new n sd : Except Err (MS Float Float Float)) with
        | .error e => .error e
        | .ok m =>
          match C08.addAll m ts shapes [] with
          | .error e => .error e
          | .ok (m', _) => .ok (m'.tr C08.fA)) := by
  refine ⟨?_, ?_, ?_⟩
  · rw [C08.build]; cases C08.buildList cs <;> rfl
  · rw [C08.build]; cases C08.build c <;> rfl
  · rw [C08.build]
    rcases C08.buildList cs with e | ts
    · rfl
    · simp only []
      rcases (MS.new n sd : Except Err (MS Float Float Float)) with e | m
      · rfl
      · simp only []
        rcases C08.addAll m ts shapes [] with e | ⟨m', r⟩ <;> rfl

/-! ## the forms over an abstract tensor type and over real log-dets (`Lemmas/Multiscale`, `Lemmas/Coupling`) -/

/-- restated: `_cascade` over `ℝ` log-dets unrolls by one part -/
theorem real_cascade_cons {α C : Type} (f : α → C → α × ℝ) (fs) (x : α) (c : C) :
    Coupling.Wrappers.cascade (f :: fs) x c =
      ((Coupling.Wrappers.cascade fs (f x c).1 c).1, (f x c).2 + (Coupling.Wrappers.cascade fs (f x c).1 c).2) :=
  Coupling.Wrappers.cascade_cons f fs x c

/-- restated: composite of good parts is good (reversed-order inverse, summed log-dets), total parts over `ℝ` -/
theorem real_composite_good {α C : Type} (ts : List (Coupling.Wrappers.Tr α C))
    (h : ∀ t ∈ ts, Coupling.Wrappers.Good t) : Coupling.Wrappers.Good (Coupling.Wrappers.composite ts) :=
  Coupling.Wrappers.composite_good ts h

/-- restated: multiscale round trip for ANY tensor type with lawful chunk / cat / flatten / view -/
theorem generic_multiscale_inv_fwd {T α Sh : Type} (O : Multiscale.TensorOps T α Sh) (fs finvs : List (T → T))
    (hinv : List.Forall₂ (fun f finv => ∀ t, finv (f t) = t) fs finvs) (hne : fs ≠ []) (x : T) :
    Multiscale.msInverse O finvs (Multiscale.msShapes O fs x) (Multiscale.msForward O fs x) = some x :=
  Multiscale.multiscale_inv_fwd O fs finvs hinv hne x

/-! ## non-vacuity: the hypotheses are satisfiable by non-trivial data, and the model computes -/

example : StageOK negStage [2, 3] := negStage_ok _

example : StagesOK [2] [] [negStage, negStage] 5 := ⟨negStage_ok _, negStage_ok _, trivial⟩

/-- rank-3 tensor `[B, 2, 5]`, `split_dim = 2` (odd size 5), two stages, each negating every entry.
    Entries `[1..5 | 6..10]`: the first chunk (columns 0-2 of every row) went through stage 1 only, the rest
    (columns 3-4) through both. -/
example :
    ((MS.build 2 (.int 2) [negStage, negStage] [2, 5] >>= fun m =>
        m.forward (LD.std Int) ⟨[2, 5], [1, 2, 3, 4, 5, 6, 7, 8, 9, 10]⟩ ()).toOption.map
      (fun r => (r.1.shape, r.1.data, r.2))) = some ([10], [-1, -2, -3, -6, -7, -8, 4, 5, 9, 10], 2) := by decide

example :
    ((MS.build 2 (.int 2) [negStage, negStage] [2, 5] >>= fun m =>
        m.inverse (LD.std Int) ⟨[10], [-1, -2, -3, -6, -7, -8, 4, 5, 9, 10]⟩ ()).toOption.map
      (fun r => (r.1.shape, r.1.data, r.2))) = some ([2, 5], [1, 2, 3, 4, 5, 6, 7, 8, 9, 10], -2) := by decide

/-- a size-3 dimension cannot carry two splits: the second `add_transform` is refused -/
example : (MS.build 2 (.int 1) [negStage, negStage] [3] : Except Err (MS Int Unit Int)) = .error .valueError := rfl

end Properties.C08
