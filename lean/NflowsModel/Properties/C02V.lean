import NflowsModel.Properties.C02
import NflowsModel.Lemmas.LayerDerivInv
/-!
# C02 (continued) — "the inverse log-det at y is minus the forward one at inverse(y)" at the LAYER level, by the chain rule

`Lemmas/RankedDet.lean`: `logdet_eq_neg_of_roundtrip` (if `f ∘ g = id` near `y`, then `log|det Dg(y)| = −log|det Df(g y)|`);
`Lemmas/LayerDerivInv.lean`: `couplingRowMap_roundtrip` (the row-level round trip from the element-level one, for a conditioner
that may mix rows: only identity channels feed it), `coupling_inverse_logdet_eq_neg_forward` for any element family given the two Jacobian statements, and the RQ and
linear-spline instances, which conclude both Jacobian statements and the negation law about the executed coupling passes.
-/
set_option linter.all false
namespace Properties.C02

theorem logdet_eq_neg_of_roundtrip :
    ∀ {n : ℕ} (f g : (Fin n → ℝ) → Fin n → ℝ) (y : Fin n → ℝ)
      {Lg Lf : (Fin n → ℝ) →L[ℝ] Fin n → ℝ},
      HasFDerivAt g Lg y →
        HasFDerivAt f Lf (g y) →
          (∀ᶠ (v : Fin n → ℝ) in nhds y, f (g v) = v) →
            Real.log |(LinearMap.det : ((Fin n → ℝ) →ₗ[ℝ] Fin n → ℝ) → ℝ) (↑Lg : (Fin n → ℝ) →ₗ[ℝ] Fin n → ℝ)| =
              -Real.log |(LinearMap.det : ((Fin n → ℝ) →ₗ[ℝ] Fin n → ℝ) → ℝ) (↑Lf : (Fin n → ℝ) →ₗ[ℝ] Fin n → ℝ)| :=
  @RankedDet.logdet_eq_neg_of_roundtrip

theorem couplingRowMap_roundtrip :
    ∀ (e : Float → ℝ) (c : NF.ElCfg) (mask : List ℝ) (B : ℕ)
      (net : Array ℝ → Array ℝ) (y : Array ℝ),
      y.size = B * mask.length →
        ∀ {b : ℕ},
          b < B →
            ∀ (v : Fin mask.length → ℝ),
              (∀ (i : Fin mask.length),
                  NF.StructureExec.isT (NF.realX e) mask i = Bool.true →
                    NF.CouplingJacobian.couplingElMap e c mask
                        (net (NF.CouplingJacobian.idSplit (NF.realX e) mask B (NF.ARWhole.setRow B mask.length y b v)))
                        Bool.false b i
                        (NF.CouplingJacobian.couplingElMap e c mask
                          (net (NF.CouplingJacobian.idSplit (NF.realX e) mask B (NF.ARWhole.setRow B mask.length y b v)))
                          Bool.true b i (v i)) =
                      v i) →
                NF.CouplingJacobian.couplingRowMap e c mask B net Bool.false
                    (NF.CouplingJacobian.couplingRun (NF.realX e) c mask B net Bool.true y).out b
                    (NF.CouplingJacobian.couplingRowMap e c mask B net Bool.true y b v) =
                  v :=
  @NF.LayerDerivInv.couplingRowMap_roundtrip

theorem coupling_inverse_logdet_eq_neg_forward :
    ∀ (e : Float → ℝ) (c : NF.ElCfg) (mask : List ℝ) (B : ℕ)
      (net : Array ℝ → Array ℝ) (y : Array ℝ),
      y.size = B * mask.length →
        ∀ {b : ℕ},
          b < B →
            ∀ {Li Lf : (Fin mask.length → ℝ) →L[ℝ] Fin mask.length → ℝ},
              HasFDerivAt (NF.CouplingJacobian.couplingRowMap e c mask B net Bool.true y b) Li
                  (NF.StructureExec.rowOf (NF.realX e) mask.length b y) →
                HasFDerivAt
                    (NF.CouplingJacobian.couplingRowMap e c mask B net Bool.false
                      (NF.CouplingJacobian.couplingRun (NF.realX e) c mask B net Bool.true y).out b)
                    Lf
                    (NF.StructureExec.rowOf (NF.realX e) mask.length b
                      (NF.CouplingJacobian.couplingRun (NF.realX e) c mask B net Bool.true y).out) →
                  (NF.CouplingJacobian.couplingRun (NF.realX e) c mask B net Bool.true y).ld[b]? =
                      Option.some
                        (Real.log
                          |(LinearMap.det : ((Fin mask.length → ℝ) →ₗ[ℝ] Fin mask.length → ℝ) → ℝ)
                              (↑Li : (Fin mask.length → ℝ) →ₗ[ℝ] Fin mask.length → ℝ)|) →
                    (NF.CouplingJacobian.couplingRun (NF.realX e) c mask B net Bool.false
                              (NF.CouplingJacobian.couplingRun (NF.realX e) c mask B net Bool.true y).out).ld[b]? =
                        Option.some
                          (Real.log
                            |(LinearMap.det : ((Fin mask.length → ℝ) →ₗ[ℝ] Fin mask.length → ℝ) → ℝ)
                                (↑Lf : (Fin mask.length → ℝ) →ₗ[ℝ] Fin mask.length → ℝ)|) →
                      (∀ᶠ (v : Fin mask.length → ℝ) in nhds (NF.StructureExec.rowOf (NF.realX e) mask.length b y),
                          ∀ (i : Fin mask.length),
                            NF.StructureExec.isT (NF.realX e) mask i = Bool.true →
                              NF.CouplingJacobian.couplingElMap e c mask
                                  (net
                                    (NF.CouplingJacobian.idSplit (NF.realX e) mask B
                                      (NF.ARWhole.setRow B mask.length y b v)))
                                  Bool.false b i
                                  (NF.CouplingJacobian.couplingElMap e c mask
                                    (net
                                      (NF.CouplingJacobian.idSplit (NF.realX e) mask B
                                        (NF.ARWhole.setRow B mask.length y b v)))
                                    Bool.true b i (v i)) =
                                v i) →
                        (NF.CouplingJacobian.couplingRun (NF.realX e) c mask B net Bool.true y).ld[b]? =
                          Option.map (fun (l : ℝ) => -l)
                            (NF.CouplingJacobian.couplingRun (NF.realX e) c mask B net Bool.false
                                  (NF.CouplingJacobian.couplingRun (NF.realX e) c mask B net Bool.true y).out).ld[b]? :=
  @NF.LayerDerivInv.coupling_inverse_logdet_eq_neg_forward

theorem coupling_rq_inverse_logdet_eq_neg_forward :
    ∀ (e : Float → ℝ) (c : NF.ElCfg) (mask : List ℝ) (B : ℕ)
      (net : Array ℝ → Array ℝ) (y : Array ℝ),
      c.kind = "rq" →
        c.tails = Bool.false →
          y.size = B * mask.length →
            ∀ {b : ℕ},
              b < B →
                (∀ (v : Fin mask.length → ℝ),
                    NF.StructureExec.RQParamsValid e c (NF.CouplingJacobian.nT e mask) 1
                      (net (NF.CouplingJacobian.idSplit (NF.realX e) mask B (NF.ARWhole.setRow B mask.length y b v))) B) →
                  (∀ (i : Fin mask.length),
                      NF.StructureExec.isT (NF.realX e) mask i = Bool.true →
                        ∃
                          k <
                            (NF.StructureExec.rqW (NF.realX e) c
                                (NF.LayerDerivMore.chanSlice e c mask (NF.LayerDerivMore.cParams e mask B net y) b
                                  i)).length,
                          RQWhole.ys e (NF.StructureExec.rqCfgOf c)
                                (NF.StructureExec.rqH (NF.realX e) c
                                  (NF.LayerDerivMore.chanSlice e c mask (NF.LayerDerivMore.cParams e mask B net y) b i))
                                k <
                              NF.StructureExec.rowOf (NF.realX e) mask.length b y i ∧
                            NF.StructureExec.rowOf (NF.realX e) mask.length b y i <
                              RQWhole.ys e (NF.StructureExec.rqCfgOf c)
                                (NF.StructureExec.rqH (NF.realX e) c
                                  (NF.LayerDerivMore.chanSlice e c mask (NF.LayerDerivMore.cParams e mask B net y) b i))
                                (k + 1)) →
                    ∀ {Li Lf : (Fin mask.length → ℝ) →L[ℝ] Fin mask.length → ℝ},
                      HasFDerivAt (NF.CouplingJacobian.couplingRowMap e c mask B net Bool.true y b) Li
                          (NF.StructureExec.rowOf (NF.realX e) mask.length b y) →
                        HasFDerivAt
                            (NF.CouplingJacobian.couplingRowMap e c mask B net Bool.false
                              (NF.CouplingJacobian.couplingRun (NF.realX e) c mask B net Bool.true y).out b)
                            Lf
                            (NF.StructureExec.rowOf (NF.realX e) mask.length b
                              (NF.CouplingJacobian.couplingRun (NF.realX e) c mask B net Bool.true y).out) →
                          (NF.CouplingJacobian.couplingRun (NF.realX e) c mask B net Bool.true y).ld[b]? =
                              Option.some
                                (Real.log
                                  |(LinearMap.det : ((Fin mask.length → ℝ) →ₗ[ℝ] Fin mask.length → ℝ) → ℝ)
                                      (↑Li : (Fin mask.length → ℝ) →ₗ[ℝ] Fin mask.length → ℝ)|) ∧
                            (NF.CouplingJacobian.couplingRun (NF.realX e) c mask B net Bool.false
                                      (NF.CouplingJacobian.couplingRun (NF.realX e) c mask B net Bool.true y).out).ld[b]? =
                                Option.some
                                  (Real.log
                                    |(LinearMap.det : ((Fin mask.length → ℝ) →ₗ[ℝ] Fin mask.length → ℝ) → ℝ)
                                        (↑Lf : (Fin mask.length → ℝ) →ₗ[ℝ] Fin mask.length → ℝ)|) ∧
                              (NF.CouplingJacobian.couplingRun (NF.realX e) c mask B net Bool.true y).ld[b]? =
                                Option.map (fun (l : ℝ) => -l)
                                  (NF.CouplingJacobian.couplingRun (NF.realX e) c mask B net Bool.false
                                        (NF.CouplingJacobian.couplingRun (NF.realX e) c mask B net Bool.true y).out).ld[b]? :=
  @NF.LayerDerivInv.coupling_rq_inverse_logdet_eq_neg_forward

theorem coupling_linear_inverse_logdet_eq_neg_forward :
    ∀ (e : Float → ℝ) (c : NF.ElCfg) (mask : List ℝ)
      (B : ℕ) (net : Array ℝ → Array ℝ) (y : Array ℝ),
      c.kind = "lin" →
        c.tails = Bool.false →
          e (NF.boxLog (NF.LayerDerivMore.linBoxOf c)) =
              Real.log
                ((e (NF.LayerDerivMore.linBoxOf c).top - e (NF.LayerDerivMore.linBoxOf c).bottom) /
                  (e (NF.LayerDerivMore.linBoxOf c).right - e (NF.LayerDerivMore.linBoxOf c).left)) →
            y.size = B * mask.length →
              ∀ {b : ℕ},
                b < B →
                  (∀ (v : Fin mask.length → ℝ),
                      LinTails.LinParamsValid e c (NF.CouplingJacobian.nT e mask) 1
                        (net (NF.CouplingJacobian.idSplit (NF.realX e) mask B (NF.ARWhole.setRow B mask.length y b v))) B) →
                    (∀ (i : Fin mask.length),
                        NF.StructureExec.isT (NF.realX e) mask i = Bool.true →
                          ∃ k < c.K,
                            LinWhole.yk e (NF.LayerDerivMore.linBoxOf c)
                                  (NF.LayerDerivMore.chanSlice e c mask (NF.LayerDerivMore.cParams e mask B net y) b i) k <
                                NF.StructureExec.rowOf (NF.realX e) mask.length b y i ∧
                              NF.StructureExec.rowOf (NF.realX e) mask.length b y i <
                                LinWhole.yk e (NF.LayerDerivMore.linBoxOf c)
                                  (NF.LayerDerivMore.chanSlice e c mask (NF.LayerDerivMore.cParams e mask B net y) b i)
                                  (k + 1)) →
                      ∀ {Li Lf : (Fin mask.length → ℝ) →L[ℝ] Fin mask.length → ℝ},
                        HasFDerivAt (NF.CouplingJacobian.couplingRowMap e c mask B net Bool.true y b) Li
                            (NF.StructureExec.rowOf (NF.realX e) mask.length b y) →
                          HasFDerivAt
                              (NF.CouplingJacobian.couplingRowMap e c mask B net Bool.false
                                (NF.CouplingJacobian.couplingRun (NF.realX e) c mask B net Bool.true y).out b)
                              Lf
                              (NF.StructureExec.rowOf (NF.realX e) mask.length b
                                (NF.CouplingJacobian.couplingRun (NF.realX e) c mask B net Bool.true y).out) →
                            (NF.CouplingJacobian.couplingRun (NF.realX e) c mask B net Bool.true y).ld[b]? =
                                Option.some
                                  (Real.log
                                    |(LinearMap.det : ((Fin mask.length → ℝ) →ₗ[ℝ] Fin mask.length → ℝ) → ℝ)
                                        (↑Li : (Fin mask.length → ℝ) →ₗ[ℝ] Fin mask.length → ℝ)|) ∧
                              (NF.CouplingJacobian.couplingRun (NF.realX e) c mask B net Bool.false
                                        (NF.CouplingJacobian.couplingRun (NF.realX e) c mask B net Bool.true
                                            y).out).ld[b]? =
                                  Option.some
                                    (Real.log
                                      |(LinearMap.det : ((Fin mask.length → ℝ) →ₗ[ℝ] Fin mask.length → ℝ) → ℝ)
                                          (↑Lf : (Fin mask.length → ℝ) →ₗ[ℝ] Fin mask.length → ℝ)|) ∧
                                (NF.CouplingJacobian.couplingRun (NF.realX e) c mask B net Bool.true y).ld[b]? =
                                  Option.map (fun (l : ℝ) => -l)
                                    (NF.CouplingJacobian.couplingRun (NF.realX e) c mask B net Bool.false
                                          (NF.CouplingJacobian.couplingRun (NF.realX e) c mask B net Bool.true
                                              y).out).ld[b]? :=
  @NF.LayerDerivInv.coupling_linear_inverse_logdet_eq_neg_forward

end Properties.C02
