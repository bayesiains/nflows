import NflowsModel.Properties.C04
import NflowsModel.Lemmas.FlowRowsExec
/-!
# C04 (continued) — the pairing theorem on the executed passes

`Lemmas/FlowRowsExec.lean`: `flowSalpExec` models flows/base.py:77-106 on the merged `[R·n, w]` noise with the executed row-wise inverse
pass: sample `[i, j]` is the inverse pass run alone on noise row `[i, j]` under the embedded context row `i`, its returned log-prob is
`base(noise[i, j] | context i) − logabsdet`, and under the round-trip law of the stage (`RoundTripStage`, a hypothesis) that value IS `flowLogProbExec` of the sample alone under
context row `i`.  `RoundTripStage` is false for element-wise stages on arrays shorter than the stage width
(`roundTripStage_cdf_short_false` in `Properties/C04R.lean`); the forms with a size predicate and the law discharged are in
`Properties/C04R.lean` (coupling, element-wise, CDF stages), `C04A` (autoregressive) and `C04G` (Glow blocks, linear and normalisation stages).
-/
set_option linter.all false
namespace Properties.C04

theorem flowSalpExec_pairing :
    ∀ {α : Type} (o : XOps α) {w rcw cw R n : ℕ} {emb : ℕ → Array α → Array α}
      {Tinv : NF.FlowRowsExec.BStage α} {base : NF.FlowRowsExec.BaseD α} {noise ctx : Array α},
      NF.FlowRowsExec.RowWiseStage w cw Tinv →
        NF.FlowRowsExec.RowIndepBase cw base →
          NF.FlowRowsExec.EmbRowWise rcw cw emb →
            R * cw ≤ (emb R ctx).size →
              ∀ {s : Array α} {lps : List α},
                NF.FlowRowsExec.flowSalpExec o w cw R n emb Tinv base noise ctx = Except.ok (s, lps) →
                  ∀ {i j : ℕ},
                    i < R →
                      j < n →
                        ∀ (zr cr : Array α),
                          NF.FlowRowsExec.RowEq w (i * n + j) 0 noise zr →
                            NF.FlowRowsExec.RowEq rcw i 0 ctx cr →
                              ∃ (si : Array α) (d : α) (l : α),
                                Tinv 1 zr (emb 1 cr) = Except.ok (si, [d]) ∧
                                  NF.FlowRowsExec.RowEq w (i * n + j) 0 s si ∧
                                    base 1 (NF.Density.rowsOf w 1 zr.toList) (emb 1 cr) = Except.ok [l] ∧
                                      lps[i * n + j]? = Option.some (o.sub l d) :=
  @NF.FlowRowsExec.flowSalpExec_pairing

theorem flowSalpExec_consistent :
    ∀ {α : Type} (o : XOps α) {w rcw cw R n : ℕ} {emb : ℕ → Array α → Array α}
      {T Tinv : NF.FlowRowsExec.BStage α} {base : NF.FlowRowsExec.BaseD α} {noise ctx : Array α},
      NF.FlowRowsExec.RowWiseStage w cw Tinv →
        NF.FlowRowsExec.RowIndepBase cw base →
          NF.FlowRowsExec.EmbRowWise rcw cw emb →
            R * cw ≤ (emb R ctx).size →
              NF.FlowRowsExec.RoundTripStage o w T Tinv →
                (∀ (a b : α), o.sub a b = o.add a (o.neg b)) →
                  ∀ {s : Array α} {lps : List α},
                    NF.FlowRowsExec.flowSalpExec o w cw R n emb Tinv base noise ctx = Except.ok (s, lps) →
                      ∀ {i j : ℕ},
                        i < R →
                          j < n →
                            ∀ (zr cr : Array α),
                              NF.FlowRowsExec.RowEq w (i * n + j) 0 noise zr →
                                NF.FlowRowsExec.RowEq rcw i 0 ctx cr →
                                  ∃ (si : Array α) (lp : α),
                                    NF.FlowRowsExec.RowEq w (i * n + j) 0 s si ∧
                                      lps[i * n + j]? = Option.some lp ∧
                                        NF.FlowRowsExec.flowLogProbExec o w emb T base 1 si cr = Except.ok [lp] :=
  @NF.FlowRowsExec.flowSalpExec_consistent

end Properties.C04
