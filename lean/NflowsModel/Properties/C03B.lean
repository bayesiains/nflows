import NflowsModel.Properties.C03
import NflowsModel.Lemmas.FlowBounded
import NflowsModel.Lemmas.RQDefaultWitness
/-!
# C03 (continued) — flows on a box are normalised

The theorems of `C03` / `C03ND` are for bijections of the whole line / ℝⁿ with a Gaussian base.  Here (`BoxFlow`, the general theorems and the
`BoxFlow` of each executed family in `Lemmas/FlowBounded.lean`): a transform that is a bijection of `[a,b]` onto `[c,d]`, differentiable off a countable set
with `|T'| = exp ld`, followed by ANY base density integrating to one on `[c,d]` (in particular the uniform one, also the executed
`BoxUniform` row), gives `∫ x in [a,b], exp(log_prob x) = 1`; discharged for the EXECUTED bounded RQ, quadratic (the shape with `K+1` heights, `QuadValid`; the tails shape `QuadValidT` is
`FlowBounded.quad_uniform_flow_normalised_T`, not restated), cubic and linear spline programs (knots are a finite, hence null, exception set), with a hypothesis-free example at the library defaults.
-/
set_option linter.all false
namespace Properties.C03

theorem box_flow_normalised :
    ∀ {T ld : ℝ → ℝ} {a b c d : ℝ} {K : Set ℝ},
      FlowBounded.BoxFlow T ld a b c d K →
        ∀ (g : ℝ → ℝ), ∫ (z : ℝ) in Set.Icc c d, g z = 1 → ∫ (x : ℝ) in Set.Icc a b, g (T x) * Real.exp (ld x) = 1 :=
  @FlowBounded.box_flow_normalised

theorem rq_uniform_flow_normalised :
    ∀ {e : Float → ℝ} {cfg : NF.RQCfg} {uw uh ud : List ℝ},
      RQWhole.RQValid e cfg uw uh ud →
        ∫ (x : ℝ) in Set.Icc (e cfg.box.left) (e cfg.box.right),
            Real.exp (-Real.log (e cfg.box.top - e cfg.box.bottom) + RQWhole.ld e cfg uw uh ud x) =
          1 :=
  fun hv => FlowBounded.box_uniform_flow_normalised (FlowBounded.rq_boxFlow hv) hv.hbt

theorem rq_executed_uniform_flow_normalised :
    ∀ {e : Float → ℝ} {cfg : NF.RQCfg} {uw uh ud : List ℝ},
      RQWhole.RQValid e cfg uw uh ud →
        (∫ (x : ℝ) in Set.Icc (e cfg.box.left) (e cfg.box.right),
            if
                NF.Density.insideBox (NF.realX e) [e cfg.box.bottom] [e cfg.box.top] [RQWhole.val e cfg uw uh ud x] =
                  Bool.true then
              Real.exp
                (NF.Density.boxUniformRow (NF.realX e) [e cfg.box.bottom] [e cfg.box.top] [RQWhole.val e cfg uw uh ud x] +
                  RQWhole.ld e cfg uw uh ud x)
            else 0) =
          1 :=
  @FlowBounded.rq_executed_uniform_flow_normalised

theorem quad_uniform_flow_normalised :
    ∀ {e : Float → ℝ} {cfg : NF.QCfg} {uw uh : List ℝ},
      QuadWhole.QuadValid e cfg uw uh →
        e (NF.boxLog cfg.box) = Real.log ((e cfg.box.top - e cfg.box.bottom) / (e cfg.box.right - e cfg.box.left)) →
          ∫ (x : ℝ) in Set.Icc (e cfg.box.left) (e cfg.box.right),
              Real.exp (-Real.log (e cfg.box.top - e cfg.box.bottom) + QuadWhole.ld e cfg uw uh x) =
            1 :=
  fun hv hbl =>
    FlowBounded.box_uniform_flow_normalised (FlowBounded.quad_boxFlow (QuadInverseWhole.runs_of_valid hv) hbl) hv.hbox.hbt

theorem cubic_uniform_flow_normalised :
    ∀ {e : Float → ℝ} {cfg : NF.CCfg} {uw uh : List ℝ} {udl udr : ℝ},
      CubicWhole.CubicValid e cfg uw uh →
        e (NF.boxLog cfg.box) = Real.log ((e cfg.box.top - e cfg.box.bottom) / (e cfg.box.right - e cfg.box.left)) →
          ∫ (x : ℝ) in Set.Icc (e cfg.box.left) (e cfg.box.right),
              Real.exp (-Real.log (e cfg.box.top - e cfg.box.bottom) + CubicWhole.ld e cfg uw uh udl udr x) =
            1 :=
  fun hv hbl => FlowBounded.box_uniform_flow_normalised (FlowBounded.cubic_boxFlow hv hbl) hv.hbt

theorem lin_uniform_flow_normalised :
    ∀ {e : Float → ℝ} {box : NF.Box} {eps : Float} {up : List ℝ},
      LinWhole.LinValid e box eps up →
        e (1.0 / up.length.toFloat).log = Real.log (1 / (↑up.length : ℝ)) →
          e (NF.boxLog box) = Real.log ((e box.top - e box.bottom) / (e box.right - e box.left)) →
            ∫ (x : ℝ) in Set.Icc (e box.left) (e box.right),
                Real.exp (-Real.log (e box.top - e box.bottom) + LinWhole.ld e box eps up x) =
              1 :=
  fun hv hlogK hbl => FlowBounded.box_uniform_flow_normalised (FlowBounded.lin_boxFlow hv hlogK hbl) hv.hbt

theorem rq_default_bounded_flow_example :
    ∫ (x : ℝ) in
        Set.Icc (RQWhole.eH RQWhole.cH.box.left) (RQWhole.eH RQWhole.cH.box.right),
        Real.exp
          (-Real.log (RQWhole.eH RQWhole.cH.box.top - RQWhole.eH RQWhole.cH.box.bottom) +
            RQWhole.ld RQWhole.eH RQWhole.cH [0.3, -1.2, 2] [1, 0, -0.5] [0.1, 0.2, -3, 4] x) =
      1 :=
  FlowBounded.box_uniform_flow_normalised (FlowBounded.rq_boxFlow RQWhole.valid_default) RQWhole.valid_default.hbt

end Properties.C03
