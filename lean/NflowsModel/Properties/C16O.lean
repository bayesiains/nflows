import NflowsModel.Properties.C16
import NflowsModel.Lemmas.DualXOrth
/-!
# C16 (continued) — dual-number soundness of the rest of the linear family

`Lemmas/DualXOrth.lean`, in the statement form of `Properties.C16.lu_forward_dual_sound`: HouseholderSequence (forward, inverse,
`matrix()`; direction in inputs and q-vectors), QRLinear and SVDLinear (forward, inverse, logabsdet, `weight()`, `weight_inverse()`; all
parameter directions at once), OneByOneConvolution (both passes, both outputs), LULinear accessors.  FORCED side conditions, each with
a counterexample theorem: every q-vector non-zero at the primal point (at `q = 0` the real program is `s ↦ if s = 0 then 1 else −1`),
unconstrained diagonals `≠ 20` (softplus threshold).  Not covered: NaiveLinear (pivot search needs no-tie hypotheses), cache paths.
-/
set_option linter.all false
namespace Properties.C16

/-- **`HouseholderSequence.forward` on dual numbers is sound** (C16).  `dqs` holds the dual q-vectors, `dX` the dual batch of
    input rows; ALL of them move simultaneously along `primal + s · tangent`.  If every q-vector has a non-zero entry at the primal
    point, every entry of the dual run is (entry of the real run at the primal parts, derivative at `s = 0` of that entry of the
    real run), and the two runs have the same shape for every `s`. -/
theorem hh_forward_dual_sound :
    ∀ (e : Float → ℝ) (dqs dX : List (List (ℝ × ℝ))),
      DualXOrth.QNonzero dqs →
        (∀ (s : ℝ),
            List.map List.length (NF.LF.hhForward (DualXLU.Rr e) (DualXLU.lineM s dqs) (DualXLU.lineM s dX)) =
              List.map List.length (NF.LF.hhForward (DualXLU.Dd e) dqs dX)) ∧
          ∀ (r c : ℕ),
            (((NF.LF.hhForward (DualXLU.Dd e) dqs dX).getD r []).getD c (0, 0)).1 =
                ((NF.LF.hhForward (DualXLU.Rr e) (DualXLU.lineM 0 dqs) (DualXLU.lineM 0 dX)).getD r []).getD c 0 ∧
              HasDerivAt
                (fun (s : ℝ) =>
                  ((NF.LF.hhForward (DualXLU.Rr e) (DualXLU.lineM s dqs) (DualXLU.lineM s dX)).getD r []).getD c 0)
                (((NF.LF.hhForward (DualXLU.Dd e) dqs dX).getD r []).getD c (0, 0)).2 0 :=
  open DualXLU DualXOrth in fun e dqs dX hq =>
    (hhForward_dual (e := e) (lineM_dual dqs) (lineM_dual dX) (sqNorm_D_ne hq)).line_sound

/-- **`HouseholderSequence.inverse` on dual numbers is sound** (C16): the reflections in reversed order -/
theorem hh_inverse_dual_sound :
    ∀ (e : Float → ℝ) (dqs dX : List (List (ℝ × ℝ))),
      DualXOrth.QNonzero dqs →
        (∀ (s : ℝ),
            List.map List.length (NF.LF.hhInverse (DualXLU.Rr e) (DualXLU.lineM s dqs) (DualXLU.lineM s dX)) =
              List.map List.length (NF.LF.hhInverse (DualXLU.Dd e) dqs dX)) ∧
          ∀ (r c : ℕ),
            (((NF.LF.hhInverse (DualXLU.Dd e) dqs dX).getD r []).getD c (0, 0)).1 =
                ((NF.LF.hhInverse (DualXLU.Rr e) (DualXLU.lineM 0 dqs) (DualXLU.lineM 0 dX)).getD r []).getD c 0 ∧
              HasDerivAt
                (fun (s : ℝ) =>
                  ((NF.LF.hhInverse (DualXLU.Rr e) (DualXLU.lineM s dqs) (DualXLU.lineM s dX)).getD r []).getD c 0)
                (((NF.LF.hhInverse (DualXLU.Dd e) dqs dX).getD r []).getD c (0, 0)).2 0 :=
  open DualXLU DualXOrth in fun e dqs dX hq =>
    (hhInverse_dual (e := e) (lineM_dual dqs) (lineM_dual dX) (sqNorm_D_ne hq)).line_sound

theorem hh_forward_not_differentiable_at_zero_q :
    ∀ (e : Float → ℝ),
      ¬∃ (d' : ℝ),
          HasDerivAt
            (fun (s : ℝ) =>
              ((NF.LF.hhForward (DualXLU.Rr e) (DualXLU.lineM s [[(0, 1)]]) (DualXLU.lineM s [[(1, 0)]])).getD 0 []).getD 0
                0)
            d' 0 :=
  @DualXOrth.hh_forward_not_differentiable_at_zero_q

/-- **`HouseholderSequence.matrix()` on dual numbers is sound** (C16) -/
theorem hh_matrix_dual_sound :
    ∀ (e : Float → ℝ) (n : ℕ) (dqs : List (List (ℝ × ℝ))),
      DualXOrth.QNonzero dqs →
        (∀ (s : ℝ),
            List.map List.length (NF.LF.hhMatrix (DualXLU.Rr e) n (DualXLU.lineM s dqs)) =
              List.map List.length (NF.LF.hhMatrix (DualXLU.Dd e) n dqs)) ∧
          ∀ (r c : ℕ),
            (((NF.LF.hhMatrix (DualXLU.Dd e) n dqs).getD r []).getD c (0, 0)).1 =
                ((NF.LF.hhMatrix (DualXLU.Rr e) n (DualXLU.lineM 0 dqs)).getD r []).getD c 0 ∧
              HasDerivAt (fun (s : ℝ) => ((NF.LF.hhMatrix (DualXLU.Rr e) n (DualXLU.lineM s dqs)).getD r []).getD c 0)
                (((NF.LF.hhMatrix (DualXLU.Dd e) n dqs).getD r []).getD c (0, 0)).2 0 :=
  open DualXLU DualXOrth in fun e n dqs hq =>
    (hhMatrix_dual (e := e) n (lineM_dual dqs) (sqNorm_D_ne hq)).line_sound

/-- **`QRLinear.forward_no_cache` on dual numbers is sound** (C16): direction in the inputs, the strictly-upper entries, the
    log-diagonal, the q-vectors and the bias simultaneously.  Side condition: every q-vector non-zero at the primal point. -/
theorem qr_forward_dual_sound :
    ∀ (e : Float → ℝ) (dp : NF.LF.QRParams (ℝ × ℝ)) (dX : List (List (ℝ × ℝ))),
      DualXOrth.QNonzero dp.qs →
        (∀ (s : ℝ),
            List.map List.length (NF.LF.qrForward (DualXLU.Rr e) (DualXOrth.lineQR s dp) (DualXLU.lineM s dX)) =
              List.map List.length (NF.LF.qrForward (DualXLU.Dd e) dp dX)) ∧
          ∀ (r c : ℕ),
            (((NF.LF.qrForward (DualXLU.Dd e) dp dX).getD r []).getD c (0, 0)).1 =
                ((NF.LF.qrForward (DualXLU.Rr e) (DualXOrth.lineQR 0 dp) (DualXLU.lineM 0 dX)).getD r []).getD c 0 ∧
              HasDerivAt
                (fun (s : ℝ) =>
                  ((NF.LF.qrForward (DualXLU.Rr e) (DualXOrth.lineQR s dp) (DualXLU.lineM s dX)).getD r []).getD c 0)
                (((NF.LF.qrForward (DualXLU.Dd e) dp dX).getD r []).getD c (0, 0)).2 0 :=
  open DualXLU DualXOrth in fun e dp dX hq =>
    (qrForward_dual_curve (e := e) (lineQR_curve dp) (lineM_dual dX) (sqNorm_D_ne hq)).line_sound

theorem qr_logabsdet_dual_sound :
    ∀ (e : Float → ℝ) (dp : NF.LF.QRParams (ℝ × ℝ)),
      (NF.LF.qrLogabsdet (DualXLU.Dd e) dp).1 = NF.LF.qrLogabsdet (DualXLU.Rr e) (DualXOrth.lineQR 0 dp) ∧
        HasDerivAt (fun (s : ℝ) => NF.LF.qrLogabsdet (DualXLU.Rr e) (DualXOrth.lineQR s dp))
          (NF.LF.qrLogabsdet (DualXLU.Dd e) dp).2 0 :=
  @DualXOrth.qr_logabsdet_dual_sound

/-- **`QRLinear.inverse_no_cache` on dual numbers is sound** (C16): all directions.  Side conditions: every q-vector non-zero
    at the primal point; at least `n` log-diagonal entries (otherwise the back substitution divides by the default `0`). -/
theorem qr_inverse_dual_sound :
    ∀ (e : Float → ℝ) (dp : NF.LF.QRParams (ℝ × ℝ)) (dX : List (List (ℝ × ℝ))),
      DualXOrth.QNonzero dp.qs →
        dp.n ≤ dp.logDiag.length →
          (∀ (s : ℝ),
              List.map List.length (NF.LF.qrInverse (DualXLU.Rr e) (DualXOrth.lineQR s dp) (DualXLU.lineM s dX)) =
                List.map List.length (NF.LF.qrInverse (DualXLU.Dd e) dp dX)) ∧
            ∀ (r c : ℕ),
              (((NF.LF.qrInverse (DualXLU.Dd e) dp dX).getD r []).getD c (0, 0)).1 =
                  ((NF.LF.qrInverse (DualXLU.Rr e) (DualXOrth.lineQR 0 dp) (DualXLU.lineM 0 dX)).getD r []).getD c 0 ∧
                HasDerivAt
                  (fun (s : ℝ) =>
                    ((NF.LF.qrInverse (DualXLU.Rr e) (DualXOrth.lineQR s dp) (DualXLU.lineM s dX)).getD r []).getD c 0)
                  (((NF.LF.qrInverse (DualXLU.Dd e) dp dX).getD r []).getD c (0, 0)).2 0 :=
  open DualXLU DualXOrth in fun e dp dX hq hn =>
    (qrInverse_dual_curve (e := e) (lineQR_curve dp) (lineM_dual dX) (sqNorm_D_ne hq) (qrR_diag_ne dp hn)).line_sound

/-- **`QRLinear.weight()` on dual numbers is sound** (C16) -/
theorem qr_weight_dual_sound :
    ∀ (e : Float → ℝ) (dp : NF.LF.QRParams (ℝ × ℝ)),
      DualXOrth.QNonzero dp.qs →
        (∀ (s : ℝ),
            List.map List.length (NF.LF.qrWeight (DualXLU.Rr e) (DualXOrth.lineQR s dp)) =
              List.map List.length (NF.LF.qrWeight (DualXLU.Dd e) dp)) ∧
          ∀ (r c : ℕ),
            (((NF.LF.qrWeight (DualXLU.Dd e) dp).getD r []).getD c (0, 0)).1 =
                ((NF.LF.qrWeight (DualXLU.Rr e) (DualXOrth.lineQR 0 dp)).getD r []).getD c 0 ∧
              HasDerivAt (fun (s : ℝ) => ((NF.LF.qrWeight (DualXLU.Rr e) (DualXOrth.lineQR s dp)).getD r []).getD c 0)
                (((NF.LF.qrWeight (DualXLU.Dd e) dp).getD r []).getD c (0, 0)).2 0 :=
  open DualXLU DualXOrth in fun e dp hq =>
    (qrWeight_dual_curve (e := e) (lineQR_curve dp) (sqNorm_D_ne hq)).line_sound

/-- **`QRLinear.weight_inverse()` on dual numbers is sound** (C16) -/
theorem qr_weight_inverse_dual_sound :
    ∀ (e : Float → ℝ) (dp : NF.LF.QRParams (ℝ × ℝ)),
      DualXOrth.QNonzero dp.qs →
        dp.n ≤ dp.logDiag.length →
          (∀ (s : ℝ),
              List.map List.length (NF.LF.qrWeightInverse (DualXLU.Rr e) (DualXOrth.lineQR s dp)) =
                List.map List.length (NF.LF.qrWeightInverse (DualXLU.Dd e) dp)) ∧
            ∀ (r c : ℕ),
              (((NF.LF.qrWeightInverse (DualXLU.Dd e) dp).getD r []).getD c (0, 0)).1 =
                  ((NF.LF.qrWeightInverse (DualXLU.Rr e) (DualXOrth.lineQR 0 dp)).getD r []).getD c 0 ∧
                HasDerivAt
                  (fun (s : ℝ) => ((NF.LF.qrWeightInverse (DualXLU.Rr e) (DualXOrth.lineQR s dp)).getD r []).getD c 0)
                  (((NF.LF.qrWeightInverse (DualXLU.Dd e) dp).getD r []).getD c (0, 0)).2 0 :=
  open DualXLU DualXOrth in fun e dp hq hn =>
    (qrWeightInverse_dual_curve (e := e) (lineQR_curve dp) (sqNorm_D_ne hq) (qrR_diag_ne dp hn)).line_sound

/-- **`SVDLinear.forward_no_cache` on dual numbers is sound** (C16): direction in the inputs, the unconstrained diagonal, the
    q-vectors of both orthogonal factors, the bias (and `eps`) simultaneously.  Side conditions: no unconstrained diagonal entry
    AT the softplus threshold 20; every q-vector non-zero at the primal point. -/
theorem svd_forward_dual_sound :
    ∀ (e : Float → ℝ) (dp : NF.LF.SVDParams (ℝ × ℝ)) (dX : List (List (ℝ × ℝ))),
      (∀ d ∈ dp.udiag, d.1 ≠ 20) →
        DualXOrth.QNonzero dp.qs1 →
          DualXOrth.QNonzero dp.qs2 →
            (∀ (s : ℝ),
                List.map List.length (NF.LF.svdForward (DualXLU.Rr e) (DualXOrth.lineSVD s dp) (DualXLU.lineM s dX)) =
                  List.map List.length (NF.LF.svdForward (DualXLU.Dd e) dp dX)) ∧
              ∀ (r c : ℕ),
                (((NF.LF.svdForward (DualXLU.Dd e) dp dX).getD r []).getD c (0, 0)).1 =
                    ((NF.LF.svdForward (DualXLU.Rr e) (DualXOrth.lineSVD 0 dp) (DualXLU.lineM 0 dX)).getD r []).getD c 0 ∧
                  HasDerivAt
                    (fun (s : ℝ) =>
                      ((NF.LF.svdForward (DualXLU.Rr e) (DualXOrth.lineSVD s dp) (DualXLU.lineM s dX)).getD r []).getD c 0)
                    (((NF.LF.svdForward (DualXLU.Dd e) dp dX).getD r []).getD c (0, 0)).2 0 :=
  open DualXLU DualXOrth in fun e dp dX hthr hq1 hq2 =>
    (svdForward_dual_curve (e := e) (lineSVD_curve dp) (lineM_dual dX) hthr (sqNorm_D_ne hq1) (sqNorm_D_ne hq2)).line_sound

theorem svd_logabsdet_dual_sound :
    ∀ (e : Float → ℝ) (dp : NF.LF.SVDParams (ℝ × ℝ)),
      (∀ d ∈ dp.udiag, d.1 ≠ 20) →
        0 ≤ dp.eps.1 →
          (NF.LF.svdLogabsdet (DualXLU.Dd e) dp).1 = NF.LF.svdLogabsdet (DualXLU.Rr e) (DualXOrth.lineSVD 0 dp) ∧
            HasDerivAt (fun (s : ℝ) => NF.LF.svdLogabsdet (DualXLU.Rr e) (DualXOrth.lineSVD s dp))
              (NF.LF.svdLogabsdet (DualXLU.Dd e) dp).2 0 :=
  @DualXOrth.svd_logabsdet_dual_sound

/-- **`SVDLinear.inverse_no_cache` on dual numbers is sound** (C16): all directions.  Side conditions: threshold, `eps ≥ 0`
    (the diagonal divided by is positive), every q-vector non-zero at the primal point. -/
theorem svd_inverse_dual_sound :
    ∀ (e : Float → ℝ) (dp : NF.LF.SVDParams (ℝ × ℝ)) (dX : List (List (ℝ × ℝ))),
      (∀ d ∈ dp.udiag, d.1 ≠ 20) →
        0 ≤ dp.eps.1 →
          DualXOrth.QNonzero dp.qs1 →
            DualXOrth.QNonzero dp.qs2 →
              (∀ (s : ℝ),
                  List.map List.length (NF.LF.svdInverse (DualXLU.Rr e) (DualXOrth.lineSVD s dp) (DualXLU.lineM s dX)) =
                    List.map List.length (NF.LF.svdInverse (DualXLU.Dd e) dp dX)) ∧
                ∀ (r c : ℕ),
                  (((NF.LF.svdInverse (DualXLU.Dd e) dp dX).getD r []).getD c (0, 0)).1 =
                      ((NF.LF.svdInverse (DualXLU.Rr e) (DualXOrth.lineSVD 0 dp) (DualXLU.lineM 0 dX)).getD r []).getD c 0 ∧
                    HasDerivAt
                      (fun (s : ℝ) =>
                        ((NF.LF.svdInverse (DualXLU.Rr e) (DualXOrth.lineSVD s dp) (DualXLU.lineM s dX)).getD r []).getD c
                          0)
                      (((NF.LF.svdInverse (DualXLU.Dd e) dp dX).getD r []).getD c (0, 0)).2 0 :=
  open DualXLU DualXOrth in fun e dp dX hthr heps hq1 hq2 =>
    (svdInverse_dual_curve (e := e) (lineSVD_curve dp) (lineM_dual dX) hthr (sqNorm_D_ne hq1) (sqNorm_D_ne hq2) (svdDiag_ne dp hthr heps)).line_sound

/-- **the hypothesis `≠ 20` of `Properties.C16.svd_forward_dual_sound` cannot be dropped** (same jump of the executed softplus
    as in `DualXLU.lu_forward_not_differentiable_at_threshold`) -/
theorem svd_forward_not_differentiable_at_threshold :
    ∀ (e : Float → ℝ),
      ¬∃ (d' : ℝ),
          HasDerivAt
            (fun (s : ℝ) =>
              ((NF.LF.svdForward (DualXLU.Rr e) (DualXOrth.lineSVD s DualXOrth.thrSVD) (DualXLU.lineM s [[(1, 0)]])).getD 0
                    []).getD
                0 0)
            d' 0 :=
  fun e => DualXLU.not_hasDerivAt_of_eq_softplus_threshold e (DualXOrth.thr_svd_forward_eq e)

/-- **`SVDLinear.weight()` on dual numbers is sound** (C16) -/
theorem svd_weight_dual_sound :
    ∀ (e : Float → ℝ) (dp : NF.LF.SVDParams (ℝ × ℝ)),
      (∀ d ∈ dp.udiag, d.1 ≠ 20) →
        DualXOrth.QNonzero dp.qs1 →
          DualXOrth.QNonzero dp.qs2 →
            (∀ (s : ℝ),
                List.map List.length (NF.LF.svdWeight (DualXLU.Rr e) (DualXOrth.lineSVD s dp)) =
                  List.map List.length (NF.LF.svdWeight (DualXLU.Dd e) dp)) ∧
              ∀ (r c : ℕ),
                (((NF.LF.svdWeight (DualXLU.Dd e) dp).getD r []).getD c (0, 0)).1 =
                    ((NF.LF.svdWeight (DualXLU.Rr e) (DualXOrth.lineSVD 0 dp)).getD r []).getD c 0 ∧
                  HasDerivAt (fun (s : ℝ) => ((NF.LF.svdWeight (DualXLU.Rr e) (DualXOrth.lineSVD s dp)).getD r []).getD c 0)
                    (((NF.LF.svdWeight (DualXLU.Dd e) dp).getD r []).getD c (0, 0)).2 0 :=
  open DualXLU DualXOrth in fun e dp hthr hq1 hq2 =>
    (svdWeight_dual_curve (e := e) (lineSVD_curve dp) hthr (sqNorm_D_ne hq1) (sqNorm_D_ne hq2)).line_sound

/-- **`SVDLinear.weight_inverse()` on dual numbers is sound** (C16) -/
theorem svd_weight_inverse_dual_sound :
    ∀ (e : Float → ℝ) (dp : NF.LF.SVDParams (ℝ × ℝ)),
      (∀ d ∈ dp.udiag, d.1 ≠ 20) →
        0 ≤ dp.eps.1 →
          DualXOrth.QNonzero dp.qs1 →
            DualXOrth.QNonzero dp.qs2 →
              (∀ (s : ℝ),
                  List.map List.length (NF.LF.svdWeightInverse (DualXLU.Rr e) (DualXOrth.lineSVD s dp)) =
                    List.map List.length (NF.LF.svdWeightInverse (DualXLU.Dd e) dp)) ∧
                ∀ (r c : ℕ),
                  (((NF.LF.svdWeightInverse (DualXLU.Dd e) dp).getD r []).getD c (0, 0)).1 =
                      ((NF.LF.svdWeightInverse (DualXLU.Rr e) (DualXOrth.lineSVD 0 dp)).getD r []).getD c 0 ∧
                    HasDerivAt
                      (fun (s : ℝ) => ((NF.LF.svdWeightInverse (DualXLU.Rr e) (DualXOrth.lineSVD s dp)).getD r []).getD c 0)
                      (((NF.LF.svdWeightInverse (DualXLU.Dd e) dp).getD r []).getD c (0, 0)).2 0 :=
  open DualXLU DualXOrth in fun e dp hthr heps hq1 hq2 =>
    (svdWeightInverse_dual_curve (e := e) (lineSVD_curve dp) hthr (sqNorm_D_ne hq1) (sqNorm_D_ne hq2) (svdDiag_ne dp hthr heps)).line_sound

theorem conv_forward_dual_sound :
    ∀ (e : Float → ℝ) (dp : NF.LF.LUParams (ℝ × ℝ)) (perm : List ℕ) (B H W : ℕ)
      (dxs : List (ℝ × ℝ)),
      (∀ d ∈ dp.udiag, d.1 ≠ 20) →
        0 ≤ dp.eps.1 →
          (∀ (s : ℝ),
              (NF.LF.convForward (DualXLU.Rr e) (DualXLU.lineP s dp) perm B H W (DualXLU.lineV s dxs)).1.length =
                  (NF.LF.convForward (DualXLU.Dd e) dp perm B H W dxs).1.length ∧
                (NF.LF.convForward (DualXLU.Rr e) (DualXLU.lineP s dp) perm B H W (DualXLU.lineV s dxs)).2.length =
                  (NF.LF.convForward (DualXLU.Dd e) dp perm B H W dxs).2.length) ∧
            (∀ (k : ℕ),
                ((NF.LF.convForward (DualXLU.Dd e) dp perm B H W dxs).1.getD k (0, 0)).1 =
                    (NF.LF.convForward (DualXLU.Rr e) (DualXLU.lineP 0 dp) perm B H W (DualXLU.lineV 0 dxs)).1.getD k 0 ∧
                  HasDerivAt
                    (fun (s : ℝ) =>
                      (NF.LF.convForward (DualXLU.Rr e) (DualXLU.lineP s dp) perm B H W (DualXLU.lineV s dxs)).1.getD k 0)
                    ((NF.LF.convForward (DualXLU.Dd e) dp perm B H W dxs).1.getD k (0, 0)).2 0) ∧
              ∀ (k : ℕ),
                ((NF.LF.convForward (DualXLU.Dd e) dp perm B H W dxs).2.getD k (0, 0)).1 =
                    (NF.LF.convForward (DualXLU.Rr e) (DualXLU.lineP 0 dp) perm B H W (DualXLU.lineV 0 dxs)).2.getD k 0 ∧
                  HasDerivAt
                    (fun (s : ℝ) =>
                      (NF.LF.convForward (DualXLU.Rr e) (DualXLU.lineP s dp) perm B H W (DualXLU.lineV s dxs)).2.getD k 0)
                    ((NF.LF.convForward (DualXLU.Dd e) dp perm B H W dxs).2.getD k (0, 0)).2 0 :=
  @DualXOrth.conv_forward_dual_sound

theorem conv_inverse_dual_sound :
    ∀ (e : Float → ℝ) (dp : NF.LF.LUParams (ℝ × ℝ)) (perm : List ℕ) (B H W : ℕ)
      (dxs : List (ℝ × ℝ)),
      (∀ d ∈ dp.udiag, d.1 ≠ 20) →
        0 ≤ dp.eps.1 →
          dp.n ≤ dp.udiag.length →
            (∀ (s : ℝ),
                (NF.LF.convInverse (DualXLU.Rr e) (DualXLU.lineP s dp) perm B H W (DualXLU.lineV s dxs)).1.length =
                    (NF.LF.convInverse (DualXLU.Dd e) dp perm B H W dxs).1.length ∧
                  (NF.LF.convInverse (DualXLU.Rr e) (DualXLU.lineP s dp) perm B H W (DualXLU.lineV s dxs)).2.length =
                    (NF.LF.convInverse (DualXLU.Dd e) dp perm B H W dxs).2.length) ∧
              (∀ (k : ℕ),
                  ((NF.LF.convInverse (DualXLU.Dd e) dp perm B H W dxs).1.getD k (0, 0)).1 =
                      (NF.LF.convInverse (DualXLU.Rr e) (DualXLU.lineP 0 dp) perm B H W (DualXLU.lineV 0 dxs)).1.getD k 0 ∧
                    HasDerivAt
                      (fun (s : ℝ) =>
                        (NF.LF.convInverse (DualXLU.Rr e) (DualXLU.lineP s dp) perm B H W (DualXLU.lineV s dxs)).1.getD k 0)
                      ((NF.LF.convInverse (DualXLU.Dd e) dp perm B H W dxs).1.getD k (0, 0)).2 0) ∧
                ∀ (k : ℕ),
                  ((NF.LF.convInverse (DualXLU.Dd e) dp perm B H W dxs).2.getD k (0, 0)).1 =
                      (NF.LF.convInverse (DualXLU.Rr e) (DualXLU.lineP 0 dp) perm B H W (DualXLU.lineV 0 dxs)).2.getD k 0 ∧
                    HasDerivAt
                      (fun (s : ℝ) =>
                        (NF.LF.convInverse (DualXLU.Rr e) (DualXLU.lineP s dp) perm B H W (DualXLU.lineV s dxs)).2.getD k 0)
                      ((NF.LF.convInverse (DualXLU.Dd e) dp perm B H W dxs).2.getD k (0, 0)).2 0 :=
  @DualXOrth.conv_inverse_dual_sound

/-- **`LULinear.weight()` on dual numbers is sound** (C16): every entry of `lower @ upper` run at dual parameters is
    (entry at the primal parameters, derivative along the parameter direction); side condition: softplus threshold -/
theorem lu_weight_dual_sound :
    ∀ (e : Float → ℝ) (dp : NF.LF.LUParams (ℝ × ℝ)),
      (∀ d ∈ dp.udiag, d.1 ≠ 20) →
        (∀ (s : ℝ),
            List.map List.length (NF.LF.luWeight (DualXLU.Rr e) (DualXLU.lineP s dp)) =
              List.map List.length (NF.LF.luWeight (DualXLU.Dd e) dp)) ∧
          ∀ (r c : ℕ),
            (((NF.LF.luWeight (DualXLU.Dd e) dp).getD r []).getD c (0, 0)).1 =
                ((NF.LF.luWeight (DualXLU.Rr e) (DualXLU.lineP 0 dp)).getD r []).getD c 0 ∧
              HasDerivAt (fun (s : ℝ) => ((NF.LF.luWeight (DualXLU.Rr e) (DualXLU.lineP s dp)).getD r []).getD c 0)
                (((NF.LF.luWeight (DualXLU.Dd e) dp).getD r []).getD c (0, 0)).2 0 :=
  open DualXLU DualXOrth in fun e dp hthr =>
    (luWeight_dual_curve (e := e) (lineP_curve dp) hthr).line_sound

/-- **`LULinear.weight_inverse()` on dual numbers is sound** (C16); side conditions: softplus threshold, `eps ≥ 0`, at least
    `n` unconstrained diagonal entries -/
theorem lu_weight_inverse_dual_sound :
    ∀ (e : Float → ℝ) (dp : NF.LF.LUParams (ℝ × ℝ)),
      (∀ d ∈ dp.udiag, d.1 ≠ 20) →
        0 ≤ dp.eps.1 →
          dp.n ≤ dp.udiag.length →
            (∀ (s : ℝ),
                List.map List.length (NF.LF.luWeightInverse (DualXLU.Rr e) (DualXLU.lineP s dp)) =
                  List.map List.length (NF.LF.luWeightInverse (DualXLU.Dd e) dp)) ∧
              ∀ (r c : ℕ),
                (((NF.LF.luWeightInverse (DualXLU.Dd e) dp).getD r []).getD c (0, 0)).1 =
                    ((NF.LF.luWeightInverse (DualXLU.Rr e) (DualXLU.lineP 0 dp)).getD r []).getD c 0 ∧
                  HasDerivAt
                    (fun (s : ℝ) => ((NF.LF.luWeightInverse (DualXLU.Rr e) (DualXLU.lineP s dp)).getD r []).getD c 0)
                    (((NF.LF.luWeightInverse (DualXLU.Dd e) dp).getD r []).getD c (0, 0)).2 0 :=
  open DualXLU DualXOrth in fun e dp hthr heps hn =>
    (luWeightInverse_dual_curve (e := e) (lineP_curve dp) hthr (luU_diag_ne dp hthr heps hn)).line_sound

end Properties.C16
