import NflowsModel.Core.MaskedScatter
import NflowsModel.Core.Structure
import NflowsModel.Lemmas.ViewLayout
import Mathlib.Tactic
import NflowsModel.Lemmas.StructureExec
/-!
# C12 — batch items are evaluated independently in evaluation mode

The scalar/structural model evaluates rows independently by construction; the content of the property is in the
places where the CODE is not written row by row.  Each such place is modelled as the code does it and proved equal
to a row-wise map.  A row-wise map is then equivariant under batch permutations and insensitive to the other rows.

**Limits**: theorems here cover the boolean-mask gather / scatter, the image parameter layout and the executed
coupling / autoregressive / CDF passes.  Distributions and flows (`log_prob` of a batch vs rows), the linear family, the 1×1 convolution and
the normalisation layers in evaluation mode are in `Properties/C12R.lean`; `Flow.log_prob` over the executed passes, errors included, in `Properties/C12F.lean`; more executed stages
(permutations, linear family, normalisation layers) as row-wise stages of such a flow in `Properties/C12S.lean`, the `F`-pass autoregressive
inverse loop in `Properties/C12A.lean`.  Not covered by a theorem (correspondence and
row-vs-batch oracle only): conditioner networks themselves (their row-wise behaviour is the hypothesis `hp`, compared numerically).  Row independence of the executed
passes is stated for the `out` / `ld` arrays; a batch in which ONE row is out of domain is rejected as a whole by the code
(`err`), and `Properties/C12E.lean` relates the two: the batch run has `err = none` iff every row run alone has.  `rowwise_*` are facts about `List.map`.
-/
open NF

namespace Properties.C12

/-- **Boolean-mask gather/scatter = row-wise routing** (the tail routing of all four `unconstrained_*_spline`s, of
    `LogTanh`, and the one-root or three-root routing of the cubic inverse): `out := zeros; out[¬m] := id(x[¬m]);
    out[m] := f(x[m], P[m])` equals `map (fun (x,p) => if m then f x p else id x)` for every batch length. -/
theorem masked_scatter_gather {α β γ : Type} (f : α → β → γ) (id' : α → γ) (zero : γ) (m : List Bool) (xs : List α) (ps : List β)
    (h1 : m.length = xs.length) (h2 : xs.length = ps.length) :
    MaskedScatter.asCoded f id' zero m xs ps = MaskedScatter.rowwise f id' m xs ps :=
  MaskedScatter.masked_scatter_gather f id' zero m xs ps h1 h2

/-- a row-wise map gives row `i` of the result from row `i` of the batch alone -/
theorem rowwise_row {Row Out : Type} (f : Row → Out) (batch : List Row) (i : Nat) (hi : i < batch.length) :
    (batch.map f)[i]'(by simpa using hi) = f batch[i] := by
  simp

/-- evaluating a batch equals evaluating its rows one at a time (batch size one included) -/
theorem rowwise_singletons {Row Out : Type} (f : Row → Out) (batch : List Row) :
    batch.map f = (batch.map (fun r => [r].map f)).flatten := by
  induction batch with
  | nil => rfl
  | cons r rs ih => simp [ih]

/-- a row-wise map is equivariant under every permutation of the batch -/
theorem rowwise_perm_equivariant {Row Out : Type} (f : Row → Out) (b1 b2 : List Row) (h : b1.Perm b2) :
    (b1.map f).Perm (b2.map f) := h.map f

/-- and unaffected by which other rows are present: a sub-batch gives the corresponding sub-list of results -/
theorem rowwise_sublist {Row Out : Type} (f : Row → Out) (b1 b2 : List Row) (h : b1.Sublist b2) :
    (b1.map f).Sublist (b2.map f) := h.map f

/-- `sum_except_batch` of a `[B, n]` tensor returns `B` entries, one per row (executable model; only the length is stated) -/
theorem sumRows_length {α : Type} (o : XOps α) (B : Nat) (xs : Array α) : (sumRows o B xs).length = B := by
  rw [sumRows, List.length_map, List.length_range]

/-- image parameter layout: the parameters of pixel `(b, c, i, j)` come from batch item `b` only -/
theorem img_param_layout {α : Type} [Inhabited α] (P : Array α) (B C M H W b c i j k : Nat) :
    (((View.ofArray P [B, C*M, H, W]).reshape [B, C, M, H, W]).permute [0,1,3,4,2]).get [b,c,i,j,k]
      = (View.ofArray P [B, C*M, H, W]).get [b, c*M + k, i, j] :=
  View.param_layout_img P B C M H W b c i j k

/-! non-vacuity -/
example : MaskedScatter.asCoded (fun (x : Nat) (p : Nat) => x + p) (fun x => x) 0 [true, false, true] [1, 2, 3] [10, 20, 30] = [11, 2, 33] := by
  decide

/-! ## the EXECUTED layers: row `b` of the result depends only on row `b` of the inputs and of the parameters -/

/-- **coupling layer, executed**: if two calls (batch sizes may differ — e.g. the row evaluated alone) agree on row `b`/`b'`
    of `x` and of the conditioner output, they agree on that row of `out` and on that entry of `ld` (equalities in `α`:
    bit-for-bit at `Float`; elements that raise are allowed) -/
theorem exec_coupling_row_independent {α : Type} (o : XOps α) (c : ElCfg) (mask : List α) (S : Nat) (inverse : Bool)
    (uc : Option ElCfg) (uparams : Array α) {B B' b b' : Nat} (x x' params params' : Array α) (hb : b < B) (hb' : b' < B')
    (hx : NF.StructureExec.RowAgree mask.length S b b' x x')
    (hp : NF.StructureExec.RowAgree (NF.StructureExec.paramWidth c (transformIdx o mask).length) S b b' params params') :
    NF.StructureExec.RowAgree mask.length S b b' (couplingApply o c mask B S x params inverse uc uparams).out
        (couplingApply o c mask B' S x' params' inverse uc uparams).out
      ∧ (couplingApply o c mask B S x params inverse uc uparams).ld[b]?
          = (couplingApply o c mask B' S x' params' inverse uc uparams).ld[b']? :=
  NF.StructureExec.coupling_row_independent o c mask S inverse uc uparams x x' params params' hb hb' hx hp

/-- **autoregressive element-wise pass, executed** -/
theorem exec_ar_row_independent {α : Type} (o : XOps α) (c : ElCfg) (F : Nat) (inverse : Bool) {B B' b b' : Nat}
    (x x' params params' : Array α) (hb : b < B) (hb' : b' < B')
    (hx : ∀ i, i < F → x[b * F + i]? = x'[b' * F + i]?)
    (hp : ∀ i k, i < F → params[(b * F + i) * (if c.kind == "araffine" then 2 else c.mult) + k]?
                        = params'[(b' * F + i) * (if c.kind == "araffine" then 2 else c.mult) + k]?) :
    (∀ i, i < F → (arApply o c B F x params inverse).out[b * F + i]? = (arApply o c B' F x' params' inverse).out[b' * F + i]?)
      ∧ (arApply o c B F x params inverse).ld[b]? = (arApply o c B' F x' params' inverse).ld[b']? :=
  NF.StructureExec.ar_row_independent o c F inverse x x' params params' hb hb' hx hp

/-- **`Piecewise*CDF`, executed** (parameters shared across the batch) -/
theorem exec_cdf_row_independent {α : Type} (o : XOps α) (c : ElCfg) (n : Nat) (inverse : Bool) {B B' b b' : Nat}
    (x x' params : Array α) (hb : b < B) (hb' : b' < B')
    (hx : ∀ i, i < n → x[b * n + i]? = x'[b' * n + i]?) :
    (∀ i, i < n → (cdfApply o c B n x params inverse).out[b * n + i]? = (cdfApply o c B' n x' params inverse).out[b' * n + i]?)
      ∧ (cdfApply o c B n x params inverse).ld[b]? = (cdfApply o c B' n x' params inverse).ld[b']? :=
  NF.StructureExec.cdf_row_independent o c n inverse x x' params hb hb' hx

end Properties.C12
