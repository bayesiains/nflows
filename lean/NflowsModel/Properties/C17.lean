import NflowsModel.Core.Structure
import NflowsModel.Lemmas.Glue
import NflowsModel.Lemmas.Utils
import NflowsModel.Lemmas.SplineTotal
import NflowsModel.Lemmas.RQWhole
import NflowsModel.Lemmas.RQInverseWhole
import Mathlib.Tactic
import NflowsModel.Lemmas.CubicWhole
import NflowsModel.Lemmas.QuadWhole
import NflowsModel.Lemmas.TailsWhole
import NflowsModel.Lemmas.QuadInverseWhole
import NflowsModel.Lemmas.StructureExecRQTails
import NflowsModel.Lemmas.CubicInverseWhole
import NflowsModel.Lemmas.LinWhole
import NflowsModel.Lemmas.NonlinExec
/-!
# C17 — out-of-domain inputs are rejected, in-domain inputs never fail

Theorems about the EXECUTABLE model, for any scalar semantics `o : XOps α` (so they hold for the `Float`,
`Float32` and real instances alike): a transform rejects an element exactly when the comparison the code makes
says it is outside; and over the reals the bin index of an accepted input is always in range.  The half of the
property that is about rounding (`right + eps == right` in float32) is carried by executing the model in the same
precision against the code (DESIGN §8).

**Limits**: the `*_rejects_iff` theorems restate the comparison the model makes (their content is that the
model makes the code's comparison, which the correspondence checks on boundary atoms ±1 ulp); "never fail" is `.ok` over ℝ,
where `log 0` / `x/0` are totalised — the whole-program theorems that exclude them are the ones that carry the claim (`…_in_domain_total` here: all
gathers in range, discriminant ≥ 0; `…_well_defined` in `Properties/C17W.lean`: logarithm arguments positive, divisors non-zero, square-root
arguments ≥ 0, and where this FAILS for the cubic inverse); statements here are per element; `Properties/C17E.lean` has the exact domains of the executed elements and the
layer-level statement (a whole element-wise layer reports an error iff some element does), `Properties/C12E.lean` the batch-level one.
-/
open NF

namespace Properties.C17

variable {α : Type}

/-- `Exp.inverse` rejects exactly the non-positive elements -/
theorem exp_inverse_rejects_iff (o : XOps α) (x : α) :
    expT o true x = .error .outsideDomain ↔ o.le x o.zero = true :=
  NonlinExec.expT_rejects_iff o x

/-- `Exp.forward` accepts everything -/
theorem exp_forward_total (o : XOps α) (x : α) : ∃ r, expT o false x = .ok r := ⟨_, rfl⟩

/-- `Tanh.inverse` rejects exactly `x ≤ -1 ∨ x ≥ 1` -/
theorem tanh_inverse_rejects_iff (o : XOps α) (x : α) :
    tanhT o true x = .error .outsideDomain ↔ (o.le x (o.neg o.one) || o.ge x o.one) = true :=
  NonlinExec.tanhT_rejects_iff o x

/-- `Sigmoid.inverse` (= `Logit.forward`) rejects exactly `x < 0 ∨ x > 1` -/
theorem sigmoid_inverse_rejects_iff (o : XOps α) (T : α) (eps : Float) (x : α) :
    sigmoidT o T eps true x = .error .outsideDomain ↔ (o.lt x o.zero || o.gt x o.one) = true :=
  NonlinExec.sigmoidT_rejects_iff o T eps x

/-- `CauchyCDF.inverse` rejects exactly `x < 0 ∨ x > 1` -/
theorem cauchy_inverse_rejects_iff (o : XOps α) (x : α) :
    cauchyT o true x = .error .outsideDomain ↔ (o.lt x o.zero || o.gt x o.one) = true :=
  NonlinExec.cauchyT_rejects_iff o x

/-- bounded splines: an input outside the interval of the requested direction is rejected with the domain error
    (forward: `[left, right]`; inverse: `[bottom, top]` — after the repair) -/
theorem rq_rejects_outside (o : XOps α) (c : RQCfg) (uw uh ud : List α) (inverse : Bool) (x : α)
    (h : (o.lt x (o.ofFloat (if inverse then c.box.bottom else c.box.left)) ||
          o.lt (o.ofFloat (if inverse then c.box.top else c.box.right)) x) = true) :
    rqSpline o c uw uh ud inverse x = .error .outsideDomain :=
  @SplineTotal.rqSpline_rejects_outside α o c uw uh ud inverse x h

theorem quad_rejects_outside (o : XOps α) (c : QCfg) (uw uh : List α) (inverse : Bool) (x : α)
    (h : (o.lt x (o.ofFloat (if inverse then c.box.bottom else c.box.left)) ||
          o.lt (o.ofFloat (if inverse then c.box.top else c.box.right)) x) = true) :
    quadSpline o c uw uh inverse x = .error .outsideDomain :=
  @SplineTotal.quadSpline_rejects_outside α o c uw uh inverse x h

theorem lin_rejects_outside (o : XOps α) (box : Box) (eps : Float) (up : List α) (inverse : Bool) (x : α)
    (h : (o.lt x (o.ofFloat (if inverse then box.bottom else box.left)) ||
          o.lt (o.ofFloat (if inverse then box.top else box.right)) x) = true) :
    linSpline o box eps up inverse x = .error .outsideDomain :=
  @SplineTotal.linSpline_rejects_outside α o box eps up inverse x h

theorem cubic_rejects_outside (o : XOps α) (c : CCfg) (uw uh : List α) (udl udr : α) (inverse : Bool) (x : α)
    (h : (o.lt x (o.ofFloat (if inverse then c.box.bottom else c.box.left)) ||
          o.lt (o.ofFloat (if inverse then c.box.top else c.box.right)) x) = true) :
    cubicSpline o c uw uh udl udr inverse x = .error .outsideDomain :=
  @SplineTotal.cubicSpline_rejects_outside α o c uw uh udl udr inverse x h

/-- unconstrained splines accept every input outside the tail bound and return it unchanged -/
theorem tails_accept_outside (o : XOps α) (B : Float) (x : α) (inner : Box → Except Err (α × α))
    (hout : (o.ge x (o.neg (o.ofFloat B)) && o.le x (o.ofFloat B)) = false) :
    tailsWrap o B x inner = .ok (x, o.zero) :=
  TailsWhole.tailsWrap_outside o B x inner hout

/-- **In-domain totality of the bin search (reals)**: for strictly increasing knots and any `eps > 0`, every
    `x ∈ [x₀, x_K]` gets an index `< K`, so every gather of per-bin parameters (`K` entries; `K+1` for `idx+1`) is in
    range — for any tail bound / box magnitude. -/
theorem in_domain_index_in_range (xs : ℕ → ℝ) (K : ℕ) (eps x : ℝ) (hK : 0 < K) (heps : 0 < eps)
    (hx : ∀ k < K, xs k < xs (k+1)) (hlo : xs 0 ≤ x) (hhi : x ≤ xs K) :
    Glue.binIdx xs K eps x < K ∧ Glue.binIdx xs K eps x + 1 < K + 1 := by
  have := (Glue.binSearch_spec xs K eps x hK heps hx hlo hhi).1
  exact ⟨this, by omega⟩

/-- the batch-global guard `min(inputs) <= 0` of `Exp.inverse` rejects a batch iff some element is non-positive -/
theorem exp_batch_guard (xs : List ℝ) (h : xs ≠ []) : (Utils.minL xs ≤ 0) ↔ ¬ (∀ x ∈ xs, 0 < x) :=
  Utils.exp_inverse_rejects_iff xs h

/-- **in-domain inputs never fail, on the executed rational-quadratic spline (forward), over the reals**: for every bin count
    `K ≥ 1`, every unnormalised parameter vectors of the right lengths, every box `left < right`, `bottom < top`, every
    `eps > 0` and every `x ∈ [left, right]`, the EXECUTED `rqSpline` returns a value — the domain guard passes, the bin index
    the executed `searchsortedG` returns is `< K`, and all six gathers succeed.  The two size guards are `Float` comparisons
    of the configuration (taken as passed: that is what an accepted configuration is); `e` is the reading of the Python
    doubles as reals, assumed exact on the four expressions the code forms from them. -/
theorem rq_forward_in_domain_total (e : Float → ℝ) (c : RQCfg) (uw uh ud : List ℝ) (x : ℝ)
    (hK : uw ≠ []) (hlenh : uh.length = uw.length) (hlend : ud.length = uw.length + 1)
    (hgW : ¬ (c.minW * uw.length.toFloat > 1.0)) (hgH : ¬ (c.minH * uw.length.toFloat > 1.0))
    (hmW0 : 0 ≤ e c.minW) (hcW : e (1 - c.minW * uw.length.toFloat) = 1 - e c.minW * uw.length) (hmWK : e c.minW * uw.length ≤ 1)
    (hmH0 : 0 ≤ e c.minH) (hcH : e (1 - c.minH * uh.length.toFloat) = 1 - e c.minH * uh.length) (hmHK : e c.minH * uh.length ≤ 1)
    (hlr : e c.box.left < e c.box.right) (hdlr : e (c.box.right - c.box.left) = e c.box.right - e c.box.left)
    (hbt : e c.box.bottom < e c.box.top) (hdbt : e (c.box.top - c.box.bottom) = e c.box.top - e c.box.bottom)
    (heps : 0 < e c.eps) (hx0 : e c.box.left ≤ x) (hx1 : x ≤ e c.box.right) :
    ∃ r, rqSpline (NF.realX e) c uw uh ud false x = .ok r :=
  SplineTotal.rq_forward_total e c uw uh ud x hK hlenh hlend hgW hgH hmW0 hcW hmWK hmH0 hcH hmHK hlr hdlr hbt hdbt heps hx0 hx1

/-- the same, with the value: the program returns exactly the closed forms of the bin its search selected -/
theorem rq_forward_returns_bin (e : Float → ℝ) (c : RQCfg) (uw uh ud : List ℝ) (hv : RQWhole.RQValid e c uw uh ud)
    (x : ℝ) (hx0 : e c.box.left ≤ x) (hx1 : x ≤ e c.box.right) :
    rqSpline (NF.realX e) c uw uh ud false x
      = .ok (RQWhole.binVal e c uw uh ud (RQWhole.idx e c uw x) x, RQWhole.binLd e c uw uh ud (RQWhole.idx e c uw x) x) ∧
    RQWhole.idx e c uw x < uw.length :=
  ⟨RQWhole.exec_eq_bin hv x hx0 hx1,
   ((RQWhole.searched hv).sel x hx0 hx1).1⟩

/-! non-vacuity: concrete accepted / rejected inputs in binary64 -/
example : expT floatX true (0.0 : Float) = .error .outsideDomain := by decide +kernel
example : ∃ r, sigmoidT floatX (1.0 : Float) 1e-6 true (1.0 : Float) = .ok r := ⟨_, rfl⟩

/-- **in-domain inputs never fail, RQ inverse**: for every `y ∈ [bottom, top]` the executed inverse program returns a
    value; in particular its `discriminant >= 0` assertion (rational_quadratic.py) never fires over the reals. -/
theorem rq_inverse_in_domain_total (e : Float → ℝ) (c : RQCfg) (uw uh ud : List ℝ) (hv : RQWhole.RQValid e c uw uh ud)
    (y : ℝ) (hy0 : e c.box.bottom ≤ y) (hy1 : y ≤ e c.box.top) :
    (∃ r, rqSpline (NF.realX e) c uw uh ud true y = .ok r) ∧
    0 ≤ RQInverseWhole.binDisc e c uw uh ud (RQInverseWhole.idxI e c uh y) y :=
  ⟨⟨_, RQInverseWhole.exec_ok hv y hy0 hy1⟩, RQInverseWhole.disc_nonneg hv y hy0 hy1⟩

/-- **in-domain inputs never fail, cubic forward**: both slope gathers and all seven bin gathers are in range -/
theorem cubic_forward_in_domain_total (e : Float → ℝ) (c : CCfg) (uw uh : List ℝ) (udl udr : ℝ)
    (hv : CubicWhole.CubicValid e c uw uh) (x : ℝ) (hx0 : e c.box.left ≤ x) (hx1 : x ≤ e c.box.right) :
    ∃ r, cubicSpline (NF.realX e) c uw uh udl udr false x = .ok r :=
  CubicWhole.exec_total hv x hx0 hx1

/-- **in-domain inputs never fail, quadratic forward**, bounded shape and tails shape with `K ≥ 2` -/
theorem quad_forward_in_domain_total (e : Float → ℝ) (c : QCfg) (uw uh : List ℝ)
    (hv : QuadWhole.QuadValid e c uw uh ∨ QuadWhole.QuadValidT e c uw uh) (x : ℝ) (hx0 : e c.box.left ≤ x) (hx1 : x ≤ e c.box.right) :
    ∃ r, quadSpline (NF.realX e) c uw uh false x = .ok r := by
  obtain ⟨U, R⟩ := QuadInverseWhole.runs_of_either hv
  exact ⟨_, QuadWhole.gen_exec R.core R.box R.fwd x hx0 hx1⟩

/-- **the full-strength statement is FALSE for the quadratic spline with linear tails and ONE bin** (known finding F27):
    with `K = 1` there are no interior heights, the program indexes the empty list and fails with an index error on EVERY
    in-domain input — in the model, and in the code (`PiecewiseQuadraticCDF(shape, num_bins=1, tails='linear')` constructs,
    every call raises `IndexError`).  Hence `K ≥ 2` in the tails half of `quad_forward_in_domain_total`. -/
theorem quad_tails_one_bin_counterexample (e : Float → ℝ) (c : QCfg) (w x : ℝ) (hx0 : e c.box.left ≤ x) (hx1 : x ≤ e c.box.right)
    (hgW : ¬ (c.minW * ([w] : List ℝ).length.toFloat > 1.0)) (hgH : ¬ (c.minH * ([w] : List ℝ).length.toFloat > 1.0)) :
    quadSpline (NF.realX e) c [w] [] false x = .error .indexError :=
  QuadWhole.tails_one_bin_error w x hx0 hx1 hgW hgH

/-- **RQ with linear tails accepts every real input**, both directions -/
theorem rq_tails_total (e : Float → ℝ) (tb minW minH minD beta : Float) (uw uh ud : List ℝ)
    (hv : TailsWhole.RQTailsValid e tb minW minH minD beta uw uh ud) (x : ℝ) :
    (∃ r, rqSplineTails (NF.realX e) tb minW minH minD beta uw uh ud false x = .ok r) ∧
    (∃ r, rqSplineTails (NF.realX e) tb minW minH minD beta uw uh ud true x = .ok r) :=
  ⟨⟨_, TailsWhole.tails_total hv x⟩, ⟨_, TailsWhole.tails_total_inv hv x⟩⟩

/-- **quadratic inverse: in-domain inputs never fail** (the stable root is well defined also at flat bins); outside the
    domain the program raises the domain error by `quad_rejects_outside` above -/
theorem quad_inverse_in_domain_total (e : Float → ℝ) (c : QCfg) (uw uh : List ℝ)
    (hv : QuadWhole.QuadValid e c uw uh ∨ QuadWhole.QuadValidT e c uw uh) (y : ℝ) (hy0 : e c.box.bottom ≤ y) (hy1 : y ≤ e c.box.top) :
    ∃ r, quadSpline (NF.realX e) c uw uh true y = .ok r := by
  obtain ⟨U, R⟩ := QuadInverseWhole.runs_of_either hv
  exact ⟨_, QuadInverseWhole.gen_execI R.core R.box R.bwd y hy0 hy1⟩

/-- **an executed RQ coupling layer with linear tails never raises**, in either direction, for any input and any conditioner
    output (the layer the library's neural-spline flows are made of) -/
theorem rq_tails_coupling_never_raises (e : Float → ℝ) (c : ElCfg) (hc : NF.StructureExec.RQTailsCfgValid e c) (mask : List ℝ)
    (B S : Nat) (x params uparams : Array ℝ) (inverse : Bool) :
    (couplingApply (NF.realX e) c mask B S x params inverse none uparams).err = none :=
  NF.StructureExec.coupling_rq_tails_err_none e c hc mask B S x params uparams inverse

/-- **cubic inverse: in-domain inputs never fail**, the output lies in `[left, right]` and the argument of the returned
    logarithm is positive — whatever root the selection picked (the root is clamped into its bin first) -/
theorem cubic_inverse_in_domain_total (e : Float → ℝ) (c : CCfg) (uw uh : List ℝ) (udl udr : ℝ)
    (hv : CubicWhole.CubicValid e c uw uh) (y : ℝ) (hy0 : e c.box.bottom ≤ y) (hy1 : y ≤ e c.box.top) :
    (∃ r, cubicSpline (NF.realX e) c uw uh udl udr true y = .ok r) ∧
    CubicInverseWhole.inv e c uw uh udl udr y ∈ Set.Icc (e c.box.left) (e c.box.right) ∧
    0 < CubicWhole.binD e c uw uh udl udr (CubicInverseWhole.idxH e c uh (CubicInverseWhole.yn e c y))
          (CubicInverseWhole.rootN e c uw uh udl udr (CubicInverseWhole.yn e c y)) :=
  ⟨CubicInverseWhole.exec_total hv y hy0 hy1, CubicInverseWhole.inv_mem hv y hy0 hy1, CubicInverseWhole.invLd_arg_pos hv y hy0 hy1⟩

/-- **linear spline: in-domain inputs never fail**, both directions, for every non-empty parameter vector -/
theorem linear_in_domain_total (e : Float → ℝ) (box : Box) (eps : Float) (up : List ℝ) (hv : LinWhole.LinValid e box eps up) :
    (∀ x, e box.left ≤ x → x ≤ e box.right → ∃ r, linSpline (NF.realX e) box eps up false x = .ok r) ∧
    (∀ y, e box.bottom ≤ y → y ≤ e box.top → ∃ r, linSpline (NF.realX e) box eps up true y = .ok r) :=
  ⟨fun x h0 h1 => ⟨_, LinWhole.exec_ok hv x h0 h1⟩, fun y h0 h1 => ⟨_, LinWhole.inv_exec_ok hv y h0 h1⟩⟩

end Properties.C17
