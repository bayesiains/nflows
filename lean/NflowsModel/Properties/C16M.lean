import NflowsModel.Properties.C16D
import NflowsModel.Lemmas.DualXMore
import NflowsModel.Lemmas.DualXWrap
import NflowsModel.Lemmas.DualXTails
import NflowsModel.Lemmas.DualXCubicInv
/-!
# C16 (continued) — the remaining executed programs on dual numbers, and where forward-mode AD of the cubic inverse is WRONG

Input direction `(x, 1)`, zero-tangent parameters (proofs in `Lemmas/DualXCubic, DualXQuad, DualXLin, DualXTails, DualXWrap,
DualXMore, DualXCubicInv`): the executed cubic forward program on the whole OPEN box (the dual run picks one bin's polynomial; the
spline is C¹, so the value tangent is right at interior knots too); the quadratic and linear INVERSE programs (the radicand is strictly
positive on the closed bin); the rational-quadratic program WITH LINEAR TAILS at every real that is not a knot, both directions (outside
the bound `((x,1),(0,0))`), with the value tangent right at EVERY real under `PadExact`; the cubic tails wrapper.
The cubic INVERSE: `cbrt` is not differentiable at 0 (theorem) and on the one-bin witness of `Properties.C17.cubic_inverse_cardano_log_zero`
every in-domain input takes the Cardano branch with a cube-root argument exactly 0: in the INPUT direction the dual run returns the
tangent `7·cbrt(1+7y) / (3·(1+7y))` (`cubic_inverse_dual_input_direction_witness`; that this is the true derivative over ℝ at interior `y`
is `DualXCubicInv.inv_witness_hasDerivAt`, not restated here), in the PARAMETER direction it is wrong over ℝ (`48/7` instead of `0` at `y = 0`) — exactly where the code's
autograd returns NaN (finding F25): the defect is in the differentiation rule of the formula, not only in floating point.
-/
set_option linter.all false
namespace Properties.C16

theorem cubicSpline_dual :
    ∀ {e : Float → ℝ} {c : NF.CCfg} {uw uh : List ℝ} {udl udr : ℝ},
      CubicWhole.CubicValid e c uw uh →
        e (NF.boxLog c.box) = Real.log ((e c.box.top - e c.box.bottom) / (e c.box.right - e c.box.left)) →
          ∀ k < uw.length,
            ∀ (x : ℝ),
              CubicWhole.xk e c uw k < x →
                x < CubicWhole.xk e c uw (k + 1) →
                  ∃ (l' : ℝ),
                    NF.cubicSpline (NF.dualX (NF.realX e)) c (List.map DualX.ι uw) (List.map DualX.ι uh) (DualX.ι udl)
                          (DualX.ι udr) Bool.false (x, 1) =
                        Except.ok
                          ((CubicWhole.val e c uw uh udl udr x, Real.exp (CubicWhole.ld e c uw uh udl udr x)),
                            (CubicWhole.ld e c uw uh udl udr x, l'), []) ∧
                      HasDerivAt (CubicWhole.val e c uw uh udl udr) (Real.exp (CubicWhole.ld e c uw uh udl udr x)) x ∧
                        HasDerivAt (CubicWhole.ld e c uw uh udl udr) l' x :=
  @DualXCubic.cubicSpline_dual

theorem cubicSpline_dual_whole_open_box :
    ∀ {e : Float → ℝ} {c : NF.CCfg} {uw uh : List ℝ} {udl udr : ℝ},
      CubicWhole.CubicValid e c uw uh →
        e (NF.boxLog c.box) = Real.log ((e c.box.top - e c.box.bottom) / (e c.box.right - e c.box.left)) →
          ∀ (x : ℝ),
            e c.box.left < x →
              x < e c.box.right →
                ∃ (l' : ℝ),
                  NF.cubicSpline (NF.dualX (NF.realX e)) c (List.map DualX.ι uw) (List.map DualX.ι uh) (DualX.ι udl)
                        (DualX.ι udr) Bool.false (x, 1) =
                      Except.ok
                        ((CubicWhole.val e c uw uh udl udr x, Real.exp (CubicWhole.ld e c uw uh udl udr x)),
                          (CubicWhole.ld e c uw uh udl udr x, l'), []) ∧
                    HasDerivAt (CubicWhole.val e c uw uh udl udr) (Real.exp (CubicWhole.ld e c uw uh udl udr x)) x :=
  @DualXCubic.cubicSpline_dual_all

theorem quadSpline_inverse_dual :
    ∀ {e : Float → ℝ} {c : NF.QCfg} {uw uh : List ℝ},
      QuadWhole.QuadValid e c uw uh →
        e (NF.boxLog c.box) = Real.log ((e c.box.top - e c.box.bottom) / (e c.box.right - e c.box.left)) →
          ∀ k < uw.length,
            ∀ (y : ℝ),
              QuadInverseWhole.yk e c (QuadWhole.Wq e c uw) (QuadWhole.Uq e uh) k < y →
                y < QuadInverseWhole.yk e c (QuadWhole.Wq e c uw) (QuadWhole.Uq e uh) (k + 1) →
                  ∃ (l' : ℝ),
                    NF.quadSpline (NF.dualX (NF.realX e)) c (List.map DualX.ι uw) (List.map DualX.ι uh) Bool.true (y, 1) =
                        Except.ok
                          ((QuadInverseWhole.inv e c uw uh y, Real.exp (QuadInverseWhole.invLd e c uw uh y)),
                            QuadInverseWhole.invLd e c uw uh y, l') ∧
                      HasDerivAt (QuadInverseWhole.inv e c uw uh) (Real.exp (QuadInverseWhole.invLd e c uw uh y)) y ∧
                        HasDerivAt (QuadInverseWhole.invLd e c uw uh) l' y :=
  @DualXQuadInv.quadSpline_dual_inv

theorem linSpline_inverse_dual :
    ∀ {e : Float → ℝ} {box : NF.Box} {eps : Float} {up : List ℝ},
      LinWhole.LinValid e box eps up →
        e (NF.boxLog box) = Real.log ((e box.top - e box.bottom) / (e box.right - e box.left)) →
          ∀ k < up.length,
            ∀ (y : ℝ),
              LinWhole.yk e box up k < y →
                y < LinWhole.yk e box up (k + 1) →
                  ∃ (l' : ℝ),
                    NF.linSpline (NF.dualX (NF.realX e)) box eps (List.map DualX.ι up) Bool.true (y, 1) =
                        Except.ok
                          ((LinWhole.inv e box eps up y, Real.exp (LinWhole.invLd e box eps up y)),
                            LinWhole.invLd e box eps up y, l') ∧
                      HasDerivAt (LinWhole.inv e box eps up) (Real.exp (LinWhole.invLd e box eps up y)) y ∧
                        HasDerivAt (LinWhole.invLd e box eps up) l' y ∧ l' = 0 :=
  fun hv hbl k hk y h0 h1 =>
    have ⟨hr, hdv, hdl⟩ := DualXLinInv.linSpline_dual_inv_zero hv hbl k hk y h0 h1
    ⟨0, hr, hdv, hdl, rfl⟩

theorem rqTails_dual_outside :
    ∀ {e : Float → ℝ} {tb minW minH minD beta : Float} {uw uh ud : List ℝ} (x : ℝ),
      x < -e tb ∨ e tb < x →
        NF.rqSplineTails (NF.dualX (NF.realX e)) tb minW minH minD beta (List.map DualX.ι uw) (List.map DualX.ι uh)
              (List.map DualX.ι ud) Bool.false (x, 1) =
            Except.ok ((x, 1), 0, 0) ∧
          TailsWhole.valT e tb minW minH minD beta uw uh ud x = x ∧
            TailsWhole.ldT e tb minW minH minD beta uw uh ud x = 0 ∧
              HasDerivAt (TailsWhole.valT e tb minW minH minD beta uw uh ud) 1 x ∧
                HasDerivAt (TailsWhole.ldT e tb minW minH minD beta uw uh ud) 0 x :=
  @DualXTails.rqSplineTails_dual_outside

theorem rqTails_dual_every_non_knot :
    ∀ {e : Float → ℝ} {tb minW minH minD beta : Float} {uw uh ud : List ℝ},
      TailsWhole.RQTailsValid e tb minW minH minD beta uw uh ud →
        ∀ (x : ℝ),
          (∀ j ≤ uw.length, x ≠ RQWhole.xs e (TailsWhole.cfgT tb minW minH minD beta) uw j) →
            ∃ (v' : ℝ) (l' : ℝ),
              NF.rqSplineTails (NF.dualX (NF.realX e)) tb minW minH minD beta (List.map DualX.ι uw) (List.map DualX.ι uh)
                    (List.map DualX.ι ud) Bool.false (x, 1) =
                  Except.ok
                    ((TailsWhole.valT e tb minW minH minD beta uw uh ud x, v'),
                      TailsWhole.ldT e tb minW minH minD beta uw uh ud x, l') ∧
                HasDerivAt (TailsWhole.valT e tb minW minH minD beta uw uh ud) v' x ∧
                  HasDerivAt (TailsWhole.ldT e tb minW minH minD beta uw uh ud) l' x ∧
                    v' = Real.exp (TailsWhole.ldT e tb minW minH minD beta uw uh ud x) :=
  @DualXTails.rqSplineTails_dual_all

theorem rqTails_inverse_dual_every_non_knot :
    ∀ {e : Float → ℝ} {tb minW minH minD beta : Float} {uw uh ud : List ℝ},
      TailsWhole.RQTailsValid e tb minW minH minD beta uw uh ud →
        ∀ (y : ℝ),
          (∀ j ≤ uw.length, y ≠ RQWhole.ys e (TailsWhole.cfgT tb minW minH minD beta) uh j) →
            ∃ (v' : ℝ) (l' : ℝ),
              NF.rqSplineTails (NF.dualX (NF.realX e)) tb minW minH minD beta (List.map DualX.ι uw) (List.map DualX.ι uh)
                    (List.map DualX.ι ud) Bool.true (y, 1) =
                  Except.ok
                    ((TailsWhole.invT e tb minW minH minD beta uw uh ud y, v'),
                      TailsWhole.invLdT e tb minW minH minD beta uw uh ud y, l') ∧
                HasDerivAt (TailsWhole.invT e tb minW minH minD beta uw uh ud) v' y ∧
                  HasDerivAt (TailsWhole.invLdT e tb minW minH minD beta uw uh ud) l' y ∧
                    v' = Real.exp (TailsWhole.invLdT e tb minW minH minD beta uw uh ud y) :=
  @DualXTails.rqSplineTails_dual_all_inv

theorem rqTails_dual_value_every_real :
    ∀ {e : Float → ℝ} {tb minW minH minD beta : Float} {uw uh ud : List ℝ},
      TailsWhole.RQTailsValid e tb minW minH minD beta uw uh ud →
        TailsWhole.PadExact e minD beta →
          ∀ (x : ℝ),
            ∃ (l' : ℝ),
              NF.rqSplineTails (NF.dualX (NF.realX e)) tb minW minH minD beta (List.map DualX.ι uw) (List.map DualX.ι uh)
                    (List.map DualX.ι ud) Bool.false (x, 1) =
                  Except.ok
                    ((TailsWhole.valT e tb minW minH minD beta uw uh ud x,
                        Real.exp (TailsWhole.ldT e tb minW minH minD beta uw uh ud x)),
                      TailsWhole.ldT e tb minW minH minD beta uw uh ud x, l') ∧
                HasDerivAt (TailsWhole.valT e tb minW minH minD beta uw uh ud)
                  (Real.exp (TailsWhole.ldT e tb minW minH minD beta uw uh ud x)) x :=
  @DualXTails.rqSplineTails_dual_value_all

theorem cubicTails_dual_every_non_junction :
    ∀ {e : Float → ℝ} {tb minW minH eps thr : Float} {uw uh : List ℝ} {udl udr : ℝ},
      CubicWhole.CubicValid e (TailsWhole.ccfgT tb minW minH eps thr) uw uh →
        e (-tb) = -e tb →
          e (NF.boxLog (TailsWhole.tbox tb)) = 0 →
            ∀ (x : ℝ),
              x ≠ -e tb →
                x ≠ e tb →
                  ∃ (l' : ℝ),
                    TailsWhole.cubicTails (NF.dualX (NF.realX e)) tb minW minH eps thr (List.map DualX.ι uw)
                          (List.map DualX.ι uh) (DualX.ι udl) (DualX.ι udr) Bool.false (x, 1) =
                        Except.ok
                          ((TailsWhole.cubicValT e tb minW minH eps thr uw uh udl udr x,
                              Real.exp (TailsWhole.cubicLdT e tb minW minH eps thr uw uh udl udr x)),
                            (TailsWhole.cubicLdT e tb minW minH eps thr uw uh udl udr x, l'), []) ∧
                      HasDerivAt (TailsWhole.cubicValT e tb minW minH eps thr uw uh udl udr)
                        (Real.exp (TailsWhole.cubicLdT e tb minW minH eps thr uw uh udl udr x)) x :=
  @DualXMore.cubicTails_dual_all

theorem cbrt_not_differentiable_at_zero :
    ¬DifferentiableAt ℝ CubicRoots.cbrt 0 :=
  @DualXCubicInv.cbrt_not_differentiableAt_zero

theorem cubic_inverse_dual_input_direction_witness :
    ∀ (y : ℝ),
      0 ≤ y →
        y ≤ 1 →
          ∃ (L : ℝ × ℝ),
            NF.cubicSpline (NF.dualX (NF.realX CubicInverseWhole.eI)) CubicWhole.cNV [DualX.ι 0] [DualX.ι 0]
                (DualX.ι (-Real.log 6)) (DualX.ι (Real.log (4 / 3))) Bool.true (y, 1) =
              Except.ok
                ((CubicInverseWhole.inv CubicInverseWhole.eI CubicWhole.cNV [0] [0] (-Real.log 6) (Real.log (4 / 3)) y,
                    7 * CubicRoots.cbrt (1 + 7 * y) / (3 * (1 + 7 * y))),
                  L, []) :=
  @DualXCubicInv.cubicSpline_dual_inv_witness

theorem cubic_inverse_dual_parameter_gradient_wrong :
    (∃ (L : ℝ × ℝ),
        NF.cubicSpline (NF.dualX (NF.realX CubicInverseWhole.eI)) CubicWhole.cNV [DualX.ι 0] [DualX.ι 0] (-Real.log 6, 1)
            (DualX.ι (Real.log (4 / 3))) Bool.true (DualX.ι 0) =
          Except.ok ((0, 48 / 7), L, [])) ∧
      HasDerivAt (fun (θ : ℝ) => CubicInverseWhole.inv CubicInverseWhole.eI CubicWhole.cNV [0] [0] θ (Real.log (4 / 3)) 0) 0
          (-Real.log 6) ∧
        ¬HasDerivAt
            (fun (θ : ℝ) => CubicInverseWhole.inv CubicInverseWhole.eI CubicWhole.cNV [0] [0] θ (Real.log (4 / 3)) 0)
            (48 / 7) (-Real.log 6) :=
  @DualXCubicInv.dual_param_gradient_wrong

end Properties.C16
