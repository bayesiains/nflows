import NflowsModel.Properties.C16
import NflowsModel.Lemmas.DualXFlowStages
/-!
# C16 (continued) — more dual-sound stages: element-wise layers, coupling layers, open domains; a Glow block

`Lemmas/DualXFlowStages.lean`.  `nonlinApply_poly` (`Lemmas/NonlinExec.lean`): the executed element-wise loop in ANY `XOps` equals
(map of values, row sums of log-dets, first element exception) — so element-level dual soundness lifts to the stage.  `DualSoundStage` for point-wise affine
(both directions; scale ≠ 0 forced) and Exp; on the admissible set (`DualSoundStageOn`) for LeakyReLU away from its kink — forced:
`leakyStage_not_dual_sound_at_kink` —, Tanh and Sigmoid away from the softplus threshold; the executed coupling stage with an additive
or default-activation affine element and any dual-sound conditioner (`DualSoundNet`, discharged for an affine conditioner with `W`, `b`
moving), any numeric mask; `flow_glow_block_logprob_dual_sound`: `Flow.log_prob` of [ActNorm, LULinear, affine coupling] at dual numbers
returns (value, derivative) per row with EVERY parameter moving.  Open domains: `DualSoundStageNear` (sound eventually near the base
point), closed under cascade, with `Exp.inverse` as instance — forced: `expInvStage_not_dual_sound`.  Spline couplings as stages are
in `Properties/C16R.lean`.  Not covered: the inverse direction of coupling as a stage (at the array level, for bounded RQ elements:
`coupling_layer_inverse_dual` in `Properties/C16D.lean`), autoregressive stages, perceptron conditioners.
-/
set_option linter.all false
namespace Properties.C16

theorem nonlinApply_poly :
    ∀ {α : Type} (o : XOps α) (kind : String) (ds : Array Float) (ps : List α) (B : ℕ)
      (x : Array α) (inv : Bool),
      NF.nonlinApply o kind ds ps B x inv =
        { out := (List.map (fun (xi : α) => DualXFlowStages.outYG o (NF.nonlinEl o kind ds ps inv xi)) x.toList).toArray,
          ld :=
            NF.sumRows o B
              (List.map (fun (xi : α) => DualXFlowStages.outLG o (NF.nonlinEl o kind ds ps inv xi)) x.toList).toArray,
          err := List.findSome? (fun (xi : α) => DualXFlowStages.errG (NF.nonlinEl o kind ds ps inv xi)) x.toList } :=
  @NonlinExec.nonlinApply_poly

theorem dualSound_nonlinStage_affine :
    ∀ (e : Float → ℝ) {t : ℝ} (ds : Array Float) (inv : Bool)
      {ps : ℝ → List ℝ} {dps : List (ℝ × ℝ)},
      DualXLU.DV t ps dps →
        (dps.getD 0 (0, 0)).1 ≠ 0 →
          DualXFlow.DualSoundStage t (fun (s : ℝ) => NF.StageMore.nonlinStage (NF.realX e) "Affine" ds (ps s) inv)
            (NF.StageMore.nonlinStage (NF.dualX (NF.realX e)) "Affine" ds dps inv) :=
  @DualXFlowStages.dualSound_nonlinStage_affine

theorem dualSound_nonlinStage_exp :
    ∀ (e : Float → ℝ) {t : ℝ} (ds : Array Float) (ps : ℝ → List ℝ)
      (dps : List (ℝ × ℝ)),
      DualXFlow.DualSoundStage t (fun (s : ℝ) => NF.StageMore.nonlinStage (NF.realX e) "Exp" ds (ps s) Bool.false)
        (NF.StageMore.nonlinStage (NF.dualX (NF.realX e)) "Exp" ds dps Bool.false) :=
  @DualXFlowStages.dualSound_nonlinStage_exp

theorem dualSound_nonlinStage_leakyRelu :
    ∀ (e : Float → ℝ) {t : ℝ} (ds : Array Float) (inv : Bool)
      {ps : ℝ → List ℝ} {dps : List (ℝ × ℝ)},
      DualXLU.DV t ps dps →
        DualXFlowStages.DualSoundStageOn t (fun (x : ℕ) (dX x_1 : Array (ℝ × ℝ)) => ∀ d ∈ dX.toList, d.1 ≠ 0)
          (fun (s : ℝ) => NF.StageMore.nonlinStage (NF.realX e) "LeakyReLU" ds (ps s) inv)
          (NF.StageMore.nonlinStage (NF.dualX (NF.realX e)) "LeakyReLU" ds dps inv) :=
  @DualXFlowStages.dualSound_nonlinStage_leakyRelu

theorem dualSound_nonlinStage_tanh :
    ∀ (e : Float → ℝ) {t : ℝ} (ds : Array Float) (ps : ℝ → List ℝ)
      (dps : List (ℝ × ℝ)),
      DualXFlowStages.DualSoundStageOn t (fun (x : ℕ) (dX x_1 : Array (ℝ × ℝ)) => ∀ d ∈ dX.toList, e (-2.0) * d.1 ≠ 20)
        (fun (s : ℝ) => NF.StageMore.nonlinStage (NF.realX e) "Tanh" ds (ps s) Bool.false)
        (NF.StageMore.nonlinStage (NF.dualX (NF.realX e)) "Tanh" ds dps Bool.false) :=
  @DualXFlowStages.dualSound_nonlinStage_tanh

theorem dualSound_nonlinStage_sigmoid :
    ∀ (e : Float → ℝ) {t : ℝ} (ds : Array Float) {ps : ℝ → List ℝ}
      {dps : List (ℝ × ℝ)},
      DualXLU.DV t ps dps →
        (dps.getD 0 (0, 0)).1 ≠ 0 →
          DualXFlowStages.DualSoundStageOn t
            (fun (x : ℕ) (dX x_1 : Array (ℝ × ℝ)) =>
              ∀ d ∈ dX.toList, (dps.getD 0 (0, 0)).1 * d.1 ≠ 20 ∧ (dps.getD 0 (0, 0)).1 * d.1 ≠ -20)
            (fun (s : ℝ) => NF.StageMore.nonlinStage (NF.realX e) "Sigmoid" ds (ps s) Bool.false)
            (NF.StageMore.nonlinStage (NF.dualX (NF.realX e)) "Sigmoid" ds dps Bool.false) :=
  @DualXFlowStages.dualSound_nonlinStage_sigmoid

theorem leakyStage_not_dual_sound_at_kink :
    ∀ (e : Float → ℝ) (ds : Array Float) (ls : ℝ),
      e (ds.getD 0 0.0) ≠ 1 →
        ¬DualXFlow.DualSoundStage 0 (fun (x : ℝ) => NF.StageMore.nonlinStage (NF.realX e) "LeakyReLU" ds [ls] Bool.false)
            (NF.StageMore.nonlinStage (NF.dualX (NF.realX e)) "LeakyReLU" ds [(ls, 0)] Bool.false) :=
  @DualXFlowStages.leakyStage_not_dual_sound_at_kink

theorem dualSoundOn_compStage :
    ∀ (e : Float → ℝ) {t : ℝ} {Ts : List DualXFlowStages.NearTriple},
      (∀ T ∈ Ts, DualXFlowStages.DualSoundStageOn t T.1 T.2.1 T.2.2) →
        DualXFlowStages.DualSoundStageOn t (fun (B : ℕ) (dX dc : Array (ℝ × ℝ)) => DualXFlowStages.cascadeP B dc Ts dX)
          (fun (s : ℝ) =>
            NF.FlowRowsExec.compStage (NF.realX e) (List.map (fun (T : DualXFlowStages.NearTriple) => T.2.1 s) Ts))
          (NF.FlowRowsExec.compStage (NF.dualX (NF.realX e)) (List.map (fun (T : DualXFlowStages.NearTriple) => T.2.2) Ts)) :=
  @DualXFlowStages.dualSoundOn_compStage

theorem dualSoundNet_affNet :
    ∀ (e : Float → ℝ) {t : ℝ} (win wout : ℕ) {W : ℝ → List (List ℝ)}
      {dW : List (List (ℝ × ℝ))} {b : ℝ → List ℝ} {db : List (ℝ × ℝ)},
      DualXLU.DM t W dW →
        DualXLU.DV t b db →
          DualXFlowStages.DualSoundNet t (fun (s : ℝ) => DualXFlowStages.affNet (NF.realX e) win wout (W s) (b s))
            (DualXFlowStages.affNet (NF.dualX (NF.realX e)) win wout dW db) :=
  @DualXFlowStages.dualSoundNet_affNet

theorem dualSound_couplingStage_of_el :
    ∀ (e : Float → ℝ) {t : ℝ} (c : NF.ElCfg) (dmask : List (ℝ × ℝ)) (S : ℕ),
      (∀ (Ft b tp sp : ℕ) (P : ℝ → Array ℝ) (dP : Array (ℝ × ℝ)) (fx : ℝ → ℝ) (dx : ℝ × ℝ),
          DualXFlow.DA t P dP →
            DualX.IsDual fx t dx →
              DualXFlowStages.RelEl t
                (fun (s : ℝ) => NF.couplingEl (DualXFlowStages.RX e) c Ft S (P s) Bool.false b tp sp (fx s))
                (NF.couplingEl (DualXFlowStages.DX e) c Ft S dP Bool.false b tp sp dx)) →
        ∀ {netR : ℝ → ℕ → Array ℝ → Array ℝ → Array ℝ} {netD : ℕ → Array (ℝ × ℝ) → Array (ℝ × ℝ) → Array (ℝ × ℝ)},
          DualXFlowStages.DualSoundNet t netR netD →
            DualXFlow.DualSoundStage t
              (fun (s : ℝ) =>
                NF.FlowRowsExec.couplingStage (NF.realX e) c (List.map Prod.fst dmask) S Bool.false Option.none #[]
                  (netR s))
              (NF.FlowRowsExec.couplingStage (NF.dualX (NF.realX e)) c dmask S Bool.false Option.none #[] netD) :=
  @DualXFlowStages.dualSound_couplingStage_of_el

theorem dualSound_couplingStage_affine :
    ∀ (e : Float → ℝ) {t : ℝ} {c : NF.ElCfg},
      c.kind = "affine" →
        (c.act == "general") = Bool.false →
          0 ≤ e 1e-3 →
            ∀ (dmask : List (ℝ × ℝ)) (S : ℕ) {netR : ℝ → ℕ → Array ℝ → Array ℝ → Array ℝ}
              {netD : ℕ → Array (ℝ × ℝ) → Array (ℝ × ℝ) → Array (ℝ × ℝ)},
              DualXFlowStages.DualSoundNet t netR netD →
                DualXFlow.DualSoundStage t
                  (fun (s : ℝ) =>
                    NF.FlowRowsExec.couplingStage (NF.realX e) c (List.map Prod.fst dmask) S Bool.false Option.none #[]
                      (netR s))
                  (NF.FlowRowsExec.couplingStage (NF.dualX (NF.realX e)) c dmask S Bool.false Option.none #[] netD) :=
  @DualXFlowStages.dualSound_couplingStage_affine

/-- **`AdditiveCouplingTransform.forward` as a stage**, any dual-sound conditioner; no side condition at all -/
theorem dualSound_couplingStage_additive :
    ∀ (e : Float → ℝ) {t : ℝ} {c : NF.ElCfg},
      c.kind = "additive" →
        ∀ (dmask : List (ℝ × ℝ)) (S : ℕ) {netR : ℝ → ℕ → Array ℝ → Array ℝ → Array ℝ}
          {netD : ℕ → Array (ℝ × ℝ) → Array (ℝ × ℝ) → Array (ℝ × ℝ)},
          DualXFlowStages.DualSoundNet t netR netD →
            DualXFlow.DualSoundStage t
              (fun (s : ℝ) =>
                NF.FlowRowsExec.couplingStage (NF.realX e) c (List.map Prod.fst dmask) S Bool.false Option.none #[]
                  (netR s))
              (NF.FlowRowsExec.couplingStage (NF.dualX (NF.realX e)) c dmask S Bool.false Option.none #[] netD) :=
  open DualXFlowStages in fun e _ c hk dmask S _ _ hnet =>
    dualSound_couplingStage_of_el e c dmask S (fun Ft b tp sp _ _ _ _ hP hx => couplingEl_additive_rel e hk Ft S b tp sp hP hx) hnet

theorem flow_glow_block_logprob_dual_sound :
    ∀ (e : Float → ℝ) (w : ℕ) (ds : NF.Norm.ActSt (ℝ × ℝ))
      (dp : NF.LF.LUParams (ℝ × ℝ)) {c : NF.ElCfg},
      c.kind = "affine" →
        (c.act == "general") = Bool.false →
          0 ≤ e 1e-3 →
            ∀ (dmask : List (ℝ × ℝ)) (S win wout : ℕ) (dW : List (List (ℝ × ℝ))) (db : List (ℝ × ℝ)),
              ds.initialized = Bool.true ∨ ds.training = Bool.false →
                (∀ d ∈ dp.udiag, d.1 ≠ 20) →
                  0 ≤ dp.eps.1 →
                    ∀ (shape inShape : List ℕ) (cf : Bool) (B : ℕ) (dX dctx : Array (ℝ × ℝ)),
                      have flowD :=
                        NF.FlowRowsExec.flowLogProbExec (NF.dualX (NF.realX e)) w (fun (x : ℕ) (a : Array (ℝ × ℝ)) => a)
                          (NF.FlowRowsExec.compStage (NF.dualX (NF.realX e))
                            [NF.StageMore.actStage (NF.dualX (NF.realX e)) w ds,
                              NF.StageMore.luStage (NF.dualX (NF.realX e)) w dp,
                              NF.FlowRowsExec.couplingStage (NF.dualX (NF.realX e)) c dmask S Bool.false Option.none #[]
                                (DualXFlowStages.affNet (NF.dualX (NF.realX e)) win wout dW db)])
                          (fun (B : ℕ) (rows : List (List (ℝ × ℝ))) (x : Array (ℝ × ℝ)) =>
                            NF.Density.stdNormalLogProb (NF.dualX (NF.realX e)) shape inShape
                              (NF.RowIndependenceMore.ctxOf cf B) rows)
                          B dX dctx;
                      have flowR := fun (s : ℝ) =>
                        NF.FlowRowsExec.flowLogProbExec (NF.realX e) w (fun (x : ℕ) (a : Array ℝ) => a)
                          (NF.FlowRowsExec.compStage (NF.realX e)
                            [NF.StageMore.actStage (NF.realX e) w (DualXFlow.lineAct s ds),
                              NF.StageMore.luStage (NF.realX e) w (DualXLU.lineP s dp),
                              NF.FlowRowsExec.couplingStage (NF.realX e) c (List.map Prod.fst dmask) S Bool.false
                                Option.none #[]
                                (DualXFlowStages.affNet (NF.realX e) win wout (DualXLU.lineM s dW) (DualXLU.lineV s db))])
                          (fun (B : ℕ) (rows : List (List ℝ)) (x : Array ℝ) =>
                            NF.Density.stdNormalLogProb (NF.realX e) shape inShape (NF.RowIndependenceMore.ctxOf cf B) rows)
                          B (DualXFlow.lineA s dX) (DualXFlow.lineA s dctx);
                      (∀ (dlps : List (ℝ × ℝ)),
                          flowD = Except.ok dlps →
                            ∃ (lps : ℝ → List ℝ),
                              (∀ (s : ℝ), flowR s = Except.ok (lps s)) ∧
                                (∀ (s : ℝ), (lps s).length = dlps.length) ∧
                                  ∀ (i : ℕ),
                                    (dlps.getD i (0, 0)).1 = (lps 0).getD i 0 ∧
                                      HasDerivAt (fun (s : ℝ) => (lps s).getD i 0) (dlps.getD i (0, 0)).2 0) ∧
                        ∀ (err : NF.Density.DErr), flowD = Except.error err → ∀ (s : ℝ), flowR s = Except.error err :=
  @DualXFlowStages.flow_glow_block_logprob_dual_sound

theorem flow_glow_block_accepted :
    ∀ {α : Type} (o : XOps α) (w : ℕ) (st : NF.Norm.ActSt α)
      (p : NF.LF.LUParams α) {c : NF.ElCfg},
      c.kind = "affine" →
        ∀ (mask : List α) (S : ℕ) (net : ℕ → Array α → Array α → Array α),
          st.initialized = Bool.true ∨ st.training = Bool.false →
            ∀ (shape : List ℕ) (B : ℕ) (x ctx : Array α),
              ∃ (lps : List α),
                NF.FlowRowsExec.flowLogProbExec o w (fun (x : ℕ) (a : Array α) => a)
                    (NF.FlowRowsExec.compStage o
                      [NF.StageMore.actStage o w st, NF.StageMore.luStage o w p,
                        NF.FlowRowsExec.couplingStage o c mask S Bool.false Option.none #[] net])
                    (fun (B : ℕ) (rows : List (List α)) (x : Array α) =>
                      NF.Density.stdNormalLogProb o shape shape (NF.RowIndependenceMore.ctxOf Bool.false B) rows)
                    B x ctx =
                  Except.ok lps :=
  @DualXFlowStages.flow_glow_block_accepted

theorem dualSoundNear_compStage :
    ∀ (e : Float → ℝ) {t : ℝ} {Ts : List DualXFlowStages.NearTriple},
      (∀ T ∈ Ts, DualXFlowStages.DualSoundStageNear t T.1 T.2.1 T.2.2) →
        DualXFlowStages.DualSoundStageNear t (fun (B : ℕ) (dX dc : Array (ℝ × ℝ)) => DualXFlowStages.cascadeP B dc Ts dX)
          (fun (s : ℝ) =>
            NF.FlowRowsExec.compStage (NF.realX e) (List.map (fun (T : DualXFlowStages.NearTriple) => T.2.1 s) Ts))
          (NF.FlowRowsExec.compStage (NF.dualX (NF.realX e)) (List.map (fun (T : DualXFlowStages.NearTriple) => T.2.2) Ts)) :=
  @DualXFlowStages.dualSoundNear_compStage

theorem flow_logprob_dual_sound_near :
    ∀ (e : Float → ℝ) (w : ℕ) {Ts : List DualXFlowStages.NearTriple},
      (∀ T ∈ Ts, DualXFlowStages.DualSoundStageNear 0 T.1 T.2.1 T.2.2) →
        ∀ {bR : ℝ → NF.FlowRowsExec.BaseD ℝ} {bD : NF.FlowRowsExec.BaseD (ℝ × ℝ)},
          DualXFlow.DualSoundBase 0 bR bD →
            ∀ (B : ℕ) (dX dctx : Array (ℝ × ℝ)),
              DualXFlowStages.cascadeP B dctx Ts dX →
                (∀ (dlps : List (ℝ × ℝ)),
                    NF.FlowRowsExec.flowLogProbExec (NF.dualX (NF.realX e)) w (fun (x : ℕ) (a : Array (ℝ × ℝ)) => a)
                          (NF.FlowRowsExec.compStage (NF.dualX (NF.realX e))
                            (List.map (fun (T : DualXFlowStages.NearTriple) => T.2.2) Ts))
                          bD B dX dctx =
                        Except.ok dlps →
                      ∃ (lps : ℝ → List ℝ),
                        (∀ᶠ (s : ℝ) in nhds 0,
                            NF.FlowRowsExec.flowLogProbExec (NF.realX e) w (fun (x : ℕ) (a : Array ℝ) => a)
                                (NF.FlowRowsExec.compStage (NF.realX e)
                                  (List.map (fun (T : DualXFlowStages.NearTriple) => T.2.1 s) Ts))
                                (bR s) B (DualXFlow.lineA s dX) (DualXFlow.lineA s dctx) =
                              Except.ok (lps s)) ∧
                          (∀ (s : ℝ), (lps s).length = dlps.length) ∧
                            ∀ (i : ℕ),
                              (dlps.getD i (0, 0)).1 = (lps 0).getD i 0 ∧
                                HasDerivAt (fun (s : ℝ) => (lps s).getD i 0) (dlps.getD i (0, 0)).2 0) ∧
                  ∀ (err : NF.Density.DErr),
                    NF.FlowRowsExec.flowLogProbExec (NF.dualX (NF.realX e)) w (fun (x : ℕ) (a : Array (ℝ × ℝ)) => a)
                          (NF.FlowRowsExec.compStage (NF.dualX (NF.realX e))
                            (List.map (fun (T : DualXFlowStages.NearTriple) => T.2.2) Ts))
                          bD B dX dctx =
                        Except.error err →
                      NF.FlowRowsExec.flowLogProbExec (NF.realX e) w (fun (x : ℕ) (a : Array ℝ) => a)
                          (NF.FlowRowsExec.compStage (NF.realX e)
                            (List.map (fun (T : DualXFlowStages.NearTriple) => T.2.1 0) Ts))
                          (bR 0) B (DualXFlow.lineA 0 dX) (DualXFlow.lineA 0 dctx) =
                        Except.error err :=
  @DualXFlowStages.flow_logprob_dual_sound_near

theorem dualSoundNear_nonlinStage_exp_inv :
    ∀ (e : Float → ℝ) {t : ℝ} (ds : Array Float) {ps : ℝ → List ℝ}
      {dps : List (ℝ × ℝ)},
      DualXLU.DV t ps dps →
        DualXFlowStages.DualSoundStageNear t (fun (x : ℕ) (dX x_1 : Array (ℝ × ℝ)) => ∀ d ∈ dX.toList, True)
          (fun (s : ℝ) => NF.StageMore.nonlinStage (NF.realX e) "Exp" ds (ps s) Bool.true)
          (NF.StageMore.nonlinStage (NF.dualX (NF.realX e)) "Exp" ds dps Bool.true) :=
  @DualXFlowStages.dualSoundNear_nonlinStage_exp_inv

theorem expInvStage_not_dual_sound :
    ∀ (e : Float → ℝ),
      ¬DualXFlow.DualSoundStage 0 (fun (x : ℝ) => NF.StageMore.nonlinStage (NF.realX e) "Exp" #[] [] Bool.true)
          (NF.StageMore.nonlinStage (NF.dualX (NF.realX e)) "Exp" #[] [] Bool.true) :=
  @DualXFlowStages.expInvStage_not_dual_sound

end Properties.C16
