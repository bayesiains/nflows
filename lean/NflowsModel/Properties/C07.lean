import NflowsModel.Core.Structure
import NflowsModel.Lemmas.Coupling
import NflowsModel.Lemmas.ViewLayout
import Mathlib.Tactic
import NflowsModel.Lemmas.StructureExec
/-!
# C07 — coupling layers leave identity features untouched and condition only on them

Generic in the element type `α` (so "unchanged" is an equality in `α`: bit-for-bit for floats), in the
element-wise family `f` and in the conditioner `cond` (an arbitrary function).

**Limits**: in the abstract theorems "the conditioner sees only the identity split" holds by construction of the
model (`cond` is applied to `idPart`) — what can falsify it is the correspondence, which compares the recorded conditioner input
of the real layer (`condIn` of the executed result) bit for bit; the executed statement is `exec_conditioner_input`.  "Bit-for-bit at `Float`" of the executed
pass-through needs `MaskDisjoint`, proved at the real instance.  The consequences named in the property text (monotone in each
transformed feature, triangular Jacobian) and a pass-through statement for every `XOps α` without `MaskDisjoint` are in
`Properties/C07C.lean`, about the executed `couplingApply`.
-/
open NF

namespace Properties.C07

/-- identity features pass through unchanged (any mask, any conditioner, any element-wise family) -/
theorem identity_passthrough {α P C : Type} {n : ℕ} (isT : Fin n → Bool) (blank : α)
    (cond : (Fin n → α) → C → Fin n → P) (f : P → α → α) (x : Fin n → α) (c : C) (i : Fin n) (hi : isT i = false) :
    Coupling.Coupling.forward isT blank cond f x c i = x i :=
  Coupling.Coupling.identity_passthrough isT blank cond f x c i hi

/-- both directions: the inverse also returns identity features unchanged -/
theorem identity_passthrough_inverse {α P C : Type} {n : ℕ} (isT : Fin n → Bool) (blank : α)
    (cond : (Fin n → α) → C → Fin n → P) (finv : P → α → α) (y : Fin n → α) (c : C) (i : Fin n) (hi : isT i = false) :
    Coupling.Coupling.inverse isT blank cond finv y c i = y i := by
  simp [Coupling.Coupling.inverse, hi]

/-- the conditioner is only ever applied to the identity part (transformed features blanked), and that part is the
    same before and after the layer: parameters depend only on identity features and context -/
theorem cond_sees_only_identity {α P C : Type} {n : ℕ} (isT : Fin n → Bool) (blank : α)
    (cond : (Fin n → α) → C → Fin n → P) (f : P → α → α) (x : Fin n → α) (c : C) :
    Coupling.Coupling.idPart isT blank (Coupling.Coupling.forward isT blank cond f x c) = Coupling.Coupling.idPart isT blank x :=
  Coupling.Coupling.idPart_forward isT blank cond f x c

/-- each transformed feature is a function of its own input, the identity features and the context only
    (so the Jacobian is triangular up to the mask's permutation — feeds C01) -/
theorem transformed_depends_on {α P C : Type} {n : ℕ} (isT : Fin n → Bool) (blank : α)
    (cond : (Fin n → α) → C → Fin n → P) (f : P → α → α) (x x' : Fin n → α) (c : C) (t : Fin n)
    (hid : ∀ i, isT i = false → x i = x' i) (ht : x t = x' t) :
    Coupling.Coupling.forward isT blank cond f x c t = Coupling.Coupling.forward isT blank cond f x' c t :=
  Coupling.Coupling.transformed_depends_on isT blank cond f x x' c t hid ht

/-- **Index partition of the executable model** (coupling.py:41-52): for any numeric mask whose entries compare
    totally with zero (`m > 0 ↔ ¬ m ≤ 0`, true of every non-NaN float and of the reals) every feature index lies in
    exactly one of `identityIdx` / `transformIdx` — so the `empty_like` output buffer is fully written. -/
theorem idx_partition {α : Type} (o : XOps α) (mask : List α)
    (htot : ∀ m ∈ mask, o.gt m o.zero = !(o.le m o.zero)) (i : Nat) (hi : i < mask.length) :
    (i ∈ identityIdx o mask ∧ i ∉ transformIdx o mask) ∨ (i ∉ identityIdx o mask ∧ i ∈ transformIdx o mask) := by
  have hg : mask.getD i o.zero = mask[i] := by simp [List.getD, hi]
  have hm : mask[i] ∈ mask := List.getElem_mem hi
  have ht := htot _ hm
  simp only [identityIdx, transformIdx, List.mem_filter, List.mem_range, hg]
  cases hle : o.le mask[i] o.zero <;> simp [hle, hi] at ht ⊢ <;> simp [ht]

/-- both index lists are strictly increasing (features keep their order inside each split) -/
theorem idx_sorted {α : Type} (o : XOps α) (mask : List α) :
    (identityIdx o mask).Pairwise (· < ·) ∧ (transformIdx o mask).Pairwise (· < ·) := by
  constructor <;>
  · simp only [identityIdx, transformIdx]
    exact List.Pairwise.filter _ (List.pairwise_lt_range)

/-- image inputs: `reshape(b, c, -1, h, w).permute(0,1,3,4,2)` gives feature `c`, pixel `(i,j)` the parameter block
    `[c·M, (c+1)·M)` at that pixel of batch item `b` (coupling.py:280-285) -/
theorem param_layout_img {α : Type} [Inhabited α] (P : Array α) (B C M H W b c i j k : Nat) :
    (((View.ofArray P [B, C*M, H, W]).reshape [B, C, M, H, W]).permute [0,1,3,4,2]).get [b,c,i,j,k]
      = (View.ofArray P [B, C*M, H, W]).get [b, c*M + k, i, j] :=
  View.param_layout_img P B C M H W b c i j k

/-! non-vacuity: a concrete numeric mask with real-valued entries -/
example : identityIdx floatX [-2.5, 0.0, 0.1, 3.0] = [0, 1] ∧ transformIdx floatX [-2.5, 0.0, 0.1, 3.0] = [2, 3] := by
  constructor <;> decide +kernel

/-! ## the EXECUTED coupling layer (`couplingApply`, the function the driver runs), any `B`, `S`, mask, parameters -/

/-- **identity features pass through the executed layer unchanged**, both directions, also when some element raised:
    at every flat position of an identity channel the output array holds the input (an equality in `α`: bit-for-bit at
    `Float`).  `MaskDisjoint` (no channel is in both index lists) holds for every NaN-free mask, and over ℝ. -/
theorem exec_identity_passthrough {α : Type} (o : XOps α) (c : ElCfg) (mask : List α) (B S : Nat) (x params uparams : Array α)
    (inverse : Bool) (hd : NF.StructureExec.MaskDisjoint o mask) {b ch s : Nat} (hch : ch ∈ identityIdx o mask) (hs : s < S) :
    (couplingApply o c mask B S x params inverse none uparams).out[flatIdx mask.length S b ch s]?
      = x[flatIdx mask.length S b ch s]? :=
  NF.StructureExec.coupling_identity_passthrough' o c mask B S x params inverse uparams hd hch hs

/-- **the conditioner of the executed layer is given exactly the identity split**: the gather of the identity channels
    of the input (forward, with or without an unconditional transform), which — identity features being untouched — is
    also the gather of the identity channels of the OUTPUT (both directions) -/
theorem exec_conditioner_input {α : Type} (o : XOps α) (c : ElCfg) (mask : List α) (B S : Nat) (x params uparams : Array α)
    (uc : Option ElCfg) (inverse : Bool) (hd : NF.StructureExec.MaskDisjoint o mask) :
    (couplingApply o c mask B S x params false uc uparams).condIn = gatherCh x B mask.length S (identityIdx o mask) o.zero ∧
    (couplingApply o c mask B S x params inverse none uparams).condIn
      = gatherCh (couplingApply o c mask B S x params inverse none uparams).out B mask.length S (identityIdx o mask) o.zero :=
  ⟨NF.StructureExec.coupling_condIn_forward o c mask B S x params uc uparams,
   NF.StructureExec.coupling_condIn_eq_gather_out o c mask B S x params inverse uparams hd⟩

/-- with an unconditional transform the INVERSE feeds the conditioner the already un-transformed identity features
    (coupling.py:115-120) -/
theorem exec_conditioner_input_unconditional_inverse {α : Type} (o : XOps α) (c ucfg : ElCfg) (mask : List α) (B S : Nat)
    (x params uparams : Array α) :
    (couplingApply o c mask B S x params true (some ucfg) uparams).condIn
      = gatherCh (couplingUncond o mask B S x true (some ucfg) uparams) B mask.length S (identityIdx o mask) o.zero :=
  NF.StructureExec.coupling_condIn_inverse_uc o c mask B S x params uparams ucfg

/-- **refinement**: one row of the executed layer (2-D inputs, no unconditional transform) IS the abstract coupling of the
    theorems above, for the `isT` derived from the numeric mask — here in the form "identity channels of the row are
    unchanged", obtained THROUGH the abstract `identity_passthrough` -/
theorem exec_refines_abstract_identity {α : Type} (o : XOps α) (c : ElCfg) (mask : List α) (B : Nat)
    (x params uparams : Array α) {b : Nat} (hb : b < B) (hsz : B * mask.length ≤ x.size) (i : Fin mask.length)
    (hi : NF.StructureExec.isT o mask i = false) :
    NF.StructureExec.rowOf o mask.length b (couplingApply o c mask B 1 x params false none uparams).out i
      = NF.StructureExec.rowOf o mask.length b x i := by
  rw [NF.StructureExec.coupling_row_refines_forward_const o c mask B x params uparams hb hsz]
  exact Coupling.Coupling.identity_passthrough _ _ _ _ _ _ i hi

/-- over the reals every mask has disjoint index lists -/
example (e : Float → ℝ) (mask : List ℝ) : NF.StructureExec.MaskDisjoint (NF.realX e) mask := NF.StructureExec.maskDisjoint_real e mask

end Properties.C07
