import NflowsModel.Properties.C01
import NflowsModel.Lemmas.NaiveGauss
/-!
# C01 (continued) — NaiveLinear as a Jacobian

NaiveLinear in the form of `Properties/C01L.lean` (proofs in `Lemmas/NaiveGauss.lean`): the executed NaiveLinear passes are affine row maps
with derivative `jac W` (inverse: `jac W⁻¹`), and every entry of the returned log-abs-det vector is `log |det|` of that derivative, for
every `W` with `det W ≠ 0`; the inverse row map is the executed Gauss-Jordan elimination itself, with no specification of it assumed.
-/
set_option linter.all false
namespace Properties.C01

theorem naive_logdet_is_log_abs_det_fderiv :
    ∀ {n : ℕ} (W : Matrix (Fin n) (Fin n) ℝ),
      W.det ≠ 0 →
        ∀ (b : List ℝ),
          b.length = n →
            LinearJacobian.PassIs n (NaiveGauss.naiveForwardLd DualSound.realOps n (LinearBridge.ofMat W) b)
              (LinearJacobian.naiveRow DualSound.realOps (LinearBridge.ofMat W) b)
              (LinearJacobian.affine W (LinearBridge.vecFn n b)) W :=
  fun W hW b hb => (NaiveGauss.naive_denotes W hW b hb).passIs (LinearJacobian.naiveForwardLd_pair _ _ _ b)

theorem naive_logdet_is_log_abs_det_fderiv_inverse :
    ∀ {n : ℕ} (W : Matrix (Fin n) (Fin n) ℝ),
      W.det ≠ 0 →
        ∀ (b : List ℝ),
          b.length = n →
            LinearJacobian.PassIs n (NaiveGauss.naiveInverseLd DualSound.realOps n (LinearBridge.ofMat W) b)
                (LinearJacobian.naiveInvRow DualSound.realOps n (LinearBridge.ofMat W) b)
                (LinearJacobian.invAffine W (LinearBridge.vecFn n b)) W⁻¹ ∧
              Real.log |(LinearJacobian.jac W⁻¹).det| = -Real.log |(LinearJacobian.jac W).det| :=
  fun W hW b hb => (NaiveGauss.naive_denotes W hW b hb).passIs_inv (LinearJacobian.naiveInverseLd_pair _ _ _ b)

theorem naive_inverse_row_is_affine :
    ∀ {n : ℕ} (W : Matrix (Fin n) (Fin n) ℝ),
      W.det ≠ 0 →
        ∀ (b : List ℝ),
          b.length = n →
            ∀ (y : Fin n → ℝ),
              LinearJacobian.naiveInvRow DualSound.realOps n (LinearBridge.ofMat W) b (List.ofFn y) =
                List.ofFn (LinearJacobian.invAffine W (LinearBridge.vecFn n b) y) :=
  @NaiveGauss.naive_inverse_row_is_affine

end Properties.C01
