import NflowsModel.Properties.C12
import NflowsModel.Lemmas.StageMore
/-!
# C12 (continued) — more executed stages are row-wise, so `flowExec_composite` applies to realistic flows

`Lemmas/StageMoreRows.lean` (every `XOps α`).  Restated here, FORWARD stages (for permutations also the inverse stage): feature
permutations (two forced hypotheses: a permutation of the wrong length raises even on the empty batch — `StageMore.permStage_raises` —; an
index `≥ w` makes the model's flat read reach the next row, where torch raises), the LU / QR / SVD / Householder / naive passes, BatchNorm
in evaluation mode and an initialised ActNorm, wrapped as batch stages on flat arrays.  The inverse stages (`rowWise_*InvStage`) and the
`*_flatten` lemmas (the wrappers return what the Core functions return) are in the lemma file only.  `flowExec_act_lu_coupling`: `Flow.log_prob` of
[ActNorm, LULinear, coupling] is row independent, errors included.
-/
set_option linter.all false
namespace Properties.C12

theorem rowWise_permStage :
    ∀ {α : Type} (o : XOps α) (w cw : ℕ) (perm : List ℕ),
      perm.length = w → (∀ k < w, perm.getD k 0 < w) → NF.FlowRowsExec.RowWiseStage w cw (NF.StageMore.permStage o w perm) :=
  @NF.StageMore.rowWise_permStage

theorem rowWise_permInvStage :
    ∀ {α : Type} (o : XOps α) (w cw : ℕ) (perm : List ℕ),
      perm.length = w →
        (∀ k < w, (NF.inversePerm perm).getD k 0 < w) →
          NF.FlowRowsExec.RowWiseStage w cw (NF.StageMore.permInvStage o w perm) :=
  @NF.StageMore.rowWise_permInvStage

theorem rowWise_luStage :
    ∀ {α : Type} (o : XOps α) (w cw : ℕ) (p : NF.LF.LUParams α),
      NF.FlowRowsExec.RowWiseStage w cw (NF.StageMore.luStage o w p) :=
  @NF.StageMore.rowWise_luStage

theorem rowWise_qrStage :
    ∀ {α : Type} (o : XOps α) (w cw : ℕ) (p : NF.LF.QRParams α),
      NF.FlowRowsExec.RowWiseStage w cw (NF.StageMore.qrStage o w p) :=
  @NF.StageMore.rowWise_qrStage

theorem rowWise_svdStage :
    ∀ {α : Type} (o : XOps α) (w cw : ℕ) (p : NF.LF.SVDParams α),
      NF.FlowRowsExec.RowWiseStage w cw (NF.StageMore.svdStage o w p) :=
  @NF.StageMore.rowWise_svdStage

theorem rowWise_hhStage :
    ∀ {α : Type} (o : XOps α) (w cw : ℕ) (qs : List (List α)),
      NF.FlowRowsExec.RowWiseStage w cw (NF.StageMore.hhStage o w qs) :=
  @NF.StageMore.rowWise_hhStage

theorem rowWise_naiveStage :
    ∀ {α : Type} (o : XOps α) (w cw n : ℕ) (W : List (List α)) (b : List α),
      NF.FlowRowsExec.RowWiseStage w cw (NF.StageMore.naiveStage o w n W b) :=
  @NF.StageMore.rowWise_naiveStage

theorem rowWise_bnEvalStage :
    ∀ {α : Type} (o : XOps α) (cfg : NF.Norm.BNCfg α) (F cw : ℕ) (s : NF.Norm.BNSt α),
      s.training = Bool.false → NF.FlowRowsExec.RowWiseStage F cw (NF.StageMore.bnEvalStage o cfg F s) :=
  @NF.StageMore.rowWise_bnEvalStage

theorem rowWise_actStage :
    ∀ {α : Type} (o : XOps α) (F cw : ℕ) (s : NF.Norm.ActSt α),
      s.initialized = Bool.true ∨ s.training = Bool.false → NF.FlowRowsExec.RowWiseStage F cw (NF.StageMore.actStage o F s) :=
  @NF.StageMore.rowWise_actStage

/-- **`Flow.log_prob` over `CompositeTransform([ActNorm, LULinear, coupling])`** (executed passes; the conditioner is a row-wise
    network): the values of an accepted batch are those of the rows alone, and the batch raises iff some row alone raises -/
theorem flowExec_act_lu_coupling :
    ∀ {α : Type} (o : XOps α) {rcw cw : ℕ} {emb : ℕ → Array α → Array α}
      {base : NF.FlowRowsExec.BaseD α} {B : ℕ} {x ctx : Array α} {xr cr : ℕ → Array α} (c : NF.ElCfg) (mask : List α)
      (S : ℕ) (uc : Option NF.ElCfg) (uparams : Array α) (net : ℕ → Array α → Array α → Array α) (s : NF.Norm.ActSt α)
      (p : NF.LF.LUParams α),
      s.initialized = Bool.true ∨ s.training = Bool.false →
        NF.FlowRowsExec.NetRowWise ((NF.identityIdx o mask).length * S) cw
            (NF.StructureExec.paramWidth c (NF.transformIdx o mask).length * S) net →
          NF.FlowRowsExec.RowIndepBase cw base →
            NF.FlowRowsExec.EmbRowWise rcw cw emb →
              (∀ b < B, NF.FlowRowsExec.RowEq (mask.length * S) b 0 x (xr b)) →
                (∀ b < B, NF.FlowRowsExec.RowEq rcw b 0 ctx (cr b)) →
                  have T :=
                    NF.FlowRowsExec.compStage o
                      [NF.StageMore.actStage o (mask.length * S) s, NF.StageMore.luStage o (mask.length * S) p,
                        NF.FlowRowsExec.couplingStage o c mask S Bool.false uc uparams net];
                  (∀ (lps : List α),
                      NF.FlowRowsExec.flowLogProbExec o (mask.length * S) emb T base B x ctx = Except.ok lps →
                        lps.length = B ∧
                          ∀ i < B,
                            ∃ (l : α),
                              lps[i]? = Option.some l ∧
                                NF.FlowRowsExec.flowLogProbExec o (mask.length * S) emb T base 1 (xr i) (cr i) =
                                  Except.ok [l]) ∧
                    (0 < B →
                      ((∃ (err : NF.Density.DErr),
                          NF.FlowRowsExec.flowLogProbExec o (mask.length * S) emb T base B x ctx = Except.error err) ↔
                        ∃ i < B,
                          ∃ (err : NF.Density.DErr),
                            NF.FlowRowsExec.flowLogProbExec o (mask.length * S) emb T base 1 (xr i) (cr i) =
                              Except.error err)) :=
  fun o => fun c mask S uc uparams net s p hs hnet =>
    NF.FlowRowsExec.flowExec_composite o _ (NF.StageMore.rowWise_act_lu_coupling o c mask S uc uparams net s p hs hnet)

end Properties.C12
