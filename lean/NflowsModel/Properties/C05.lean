import NflowsModel.Lemmas.DistReal
import NflowsModel.Lemmas.AutoregDensity
import NflowsModel.Lemmas.DensityGaps
import Mathlib.MeasureTheory.Constructions.Pi
import Mathlib.MeasureTheory.Integral.IntervalIntegral.Basic
import Mathlib.LinearAlgebra.Matrix.Determinant.Basic
/-!
# C05 — base distributions are normalised, sample their own density, report true means

Property theorems only.  Every statement is about the definitions the driver executes (`Core/Density.lean`, generic in
`XOps α`) instantiated at the real numbers (`realX e`, for an arbitrary interpretation `e` of Python double constants),
or about the shallow real formula a bridge lemma of `Lemmas/DistReal` identifies them with.  Tensors are flat lists:
an event of shape `s` is a list of `numel s` reals, so "any event shape" is "any `D`".  Every list of length `D` is
`List.ofFn f` for some `f : Fin D → ℝ` (`DistReal.exists_ofFn`).
-/
open MeasureTheory ProbabilityTheory DualSound NF NF.Density DistReal

namespace Properties.C05
noncomputable section
variable (e : Float → ℝ)

/-! ## Normal family -/

/-- the code's `_log_z = 0.5 * D * log(2π)` (normal.py:18-21), as executed -/
theorem logZ_exec (D : ℕ) : logZ (realX e) D = (1/2) * D * Real.log (2 * Real.pi) := logZ_real e D

/-- `StandardNormal` is the `μ = 0`, `log σ = 0` instance of the diagonal normal (executed rows agree) -/
theorem stdNormal_exec_is_diag {D : ℕ} (x : Fin D → ℝ) :
    stdNormalRow (realX e) D (List.ofFn x)
      = diagNormalRow (realX e) D (List.ofFn fun _ : Fin D => (0:ℝ)) (List.ofFn fun _ : Fin D => (0:ℝ)) (List.ofFn x) := by
  rw [stdNormalRow_real, diagNormalRow_real]
  simp [Gaussian.stdNormalLogp, Gaussian.diagNormalLogp]

/-- the executed diagonal-normal row is a product of 1-D Gaussian densities with variance `exp(2·log σ)` -/
theorem diagNormal_logp_eq {D : ℕ} (μ ls x : Fin D → ℝ) :
    Real.exp (diagNormalRow (realX e) D (List.ofFn μ) (List.ofFn ls) (List.ofFn x))
      = ∏ i, gaussianPDFReal (μ i) (Gaussian.var (ls i)) (x i) := by
  rw [diagNormalRow_real, Gaussian.diagNormal_factor]

/-- `exp(StandardNormal._log_prob x) = ∏ᵢ N(xᵢ; 0, 1)` for every event size -/
theorem stdNormal_logp_eq {D : ℕ} (x : Fin D → ℝ) :
    Real.exp (stdNormalRow (realX e) D (List.ofFn x)) = ∏ i, gaussianPDFReal 0 1 (x i) := by
  rw [stdNormal_exec_is_diag, diagNormal_logp_eq]
  have : Gaussian.var 0 = 1 := by
    apply NNReal.coe_injective; simp
  simp [this]

/-- **StandardNormal is normalised** for every event size `D` (hence every event shape, `D = numel shape`) -/
theorem stdNormal_normalised (D : ℕ) :
    ∫ x : Fin D → ℝ, Real.exp (stdNormalRow (realX e) D (List.ofFn x)) = 1 := by
  simp_rw [stdNormal_exec_is_diag, diagNormalRow_real]
  exact Gaussian.diagNormal_normalised _ _

theorem stdNormal_normalised_shape (shape : List ℕ) :
    ∫ x : Fin (numel shape) → ℝ, Real.exp (stdNormalRow (realX e) (numel shape) (List.ofFn x)) = 1 :=
  stdNormal_normalised e _

/-- what `StandardNormal.log_prob` returns when the shapes agree: one executed row per input row -/
theorem stdNormalLogProb_ok {α : Type} (o : XOps α) (shape : List ℕ) (rows : List (List α)) :
    stdNormalLogProb o shape shape none rows = .ok (rows.map (stdNormalRow o (numel shape))) := by
  simp [stdNormalLogProb, baseCheck, shapeCheck, bind, Except.bind, pure, Except.pure]

/-- **DiagonalNormal is normalised** for every mean, log-std and event size -/
theorem diagNormal_normalised {D : ℕ} (μ ls : Fin D → ℝ) :
    ∫ x : Fin D → ℝ, Real.exp (diagNormalRow (realX e) D (List.ofFn μ) (List.ofFn ls) (List.ofFn x)) = 1 := by
  simp_rw [diagNormalRow_real]
  exact Gaussian.diagNormal_normalised μ ls

theorem diagNormalLogProb_ok {α : Type} (o : XOps α) (shape : List ℕ) (mean logStd : List α) (rows : List (List α)) :
    diagNormalLogProb o shape shape none mean logStd rows = .ok (rows.map (diagNormalRow o (numel shape) mean logStd)) := by
  simp [diagNormalLogProb, baseCheck, shapeCheck, bind, Except.bind, pure, Except.pure]

/-- **ConditionalDiagonalNormal is normalised per context row**: whatever (means, log_stds) the context encoder
    produced for a row (any two lists of the event size), the executed row density integrates to one -/
theorem condNormal_row_normalised {D : ℕ} (means logStds : List ℝ) (hm : means.length = D) (hl : logStds.length = D) :
    ∫ x : Fin D → ℝ, Real.exp (diagNormalRow (realX e) D means logStds (List.ofFn x)) = 1 := by
  obtain ⟨μ, rfl⟩ := exists_ofFn means hm
  obtain ⟨ls, rfl⟩ := exists_ofFn logStds hl
  exact diagNormal_normalised e μ ls

/-- **mean**: `∫ xᵢ · p(x) dx = μᵢ`, product form, every `D`; the executed `mean()` returns exactly this `μ`
    (`diagNormalMean (List.ofFn μ) = List.ofFn μ`, `condNormalMean` = the means half of the parameters) -/
theorem diagNormal_mean {D : ℕ} (μ ls : Fin D → ℝ) (i : Fin D) :
    ∫ x : Fin D → ℝ, x i * Real.exp (diagNormalRow (realX e) D (List.ofFn μ) (List.ofFn ls) (List.ofFn x)) = μ i := by
  simp_rw [diagNormal_logp_eq]
  have h1 : ∀ x : Fin D → ℝ, x i * ∏ j, gaussianPDFReal (μ j) (Gaussian.var (ls j)) (x j)
      = ∏ j, ((if j = i then x j else 1) * gaussianPDFReal (μ j) (Gaussian.var (ls j)) (x j)) := by
    intro x
    rw [Finset.prod_mul_distrib, Finset.prod_ite_eq' Finset.univ i (fun j => x j)]
    simp
  simp_rw [h1]
  rw [integral_fintype_prod_volume_eq_prod (fun j (t : ℝ) => (if j = i then t else 1) * gaussianPDFReal (μ j) (Gaussian.var (ls j)) t)]
  have h2 : ∀ j, ∫ t : ℝ, (if j = i then t else 1) * gaussianPDFReal (μ j) (Gaussian.var (ls j)) t = if j = i then μ i else 1 := by
    intro j
    by_cases hj : j = i
    · subst hj
      simp only [if_true]
      have key : ∫ x : ℝ, gaussianPDFReal (μ j) (Gaussian.var (ls j)) x • x = μ j := by
        rw [← integral_gaussianReal_eq_integral_smul (Gaussian.var_ne_zero _)]; exact integral_id_gaussianReal
      calc ∫ t : ℝ, t * gaussianPDFReal (μ j) (Gaussian.var (ls j)) t
          = ∫ x : ℝ, gaussianPDFReal (μ j) (Gaussian.var (ls j)) x • x := by
            congr 1; funext t; simp [mul_comm]
        _ = μ j := key
    · simp only [if_neg hj, one_mul]
      exact integral_gaussianPDFReal_eq_one _ (Gaussian.var_ne_zero _)
  simp_rw [h2]
  rw [Finset.prod_ite_eq' Finset.univ i (fun _ => μ i)]
  simp

theorem diagNormalMean_exec {D : ℕ} (μ : Fin D → ℝ) : diagNormalMean (List.ofFn μ) = List.ofFn μ := rfl

/-- `StandardNormal.mean()` is the zero vector and that is the expectation -/
theorem stdNormal_mean {D : ℕ} (i : Fin D) :
    ∫ x : Fin D → ℝ, x i * Real.exp (stdNormalRow (realX e) D (List.ofFn x)) = 0 := by
  simp_rw [stdNormal_exec_is_diag]
  exact diagNormal_mean e (fun _ => 0) (fun _ => 0) i

/-- **sampling map** `μ + exp(log σ)·ε` (normal.py:119-127) pushes the standard normal to `N(μ, exp(2 log σ))` -/
theorem normal_sampling_map (μ ls : ℝ) :
    (gaussianReal 0 1).map (fun ε => μ + Real.exp ls * ε) = gaussianReal μ (Gaussian.var ls) :=
  DensityGaps.normal_map_one μ ls

/-- the executed 1-D row -/
theorem diagNormalRow_one (μ ls x : ℝ) :
    diagNormalRow (realX e) 1 [μ] [ls] [x] = -(1/2) * ((x - μ) * Real.exp (-ls))^2 - ls - (1/2) * Real.log (2 * Real.pi) := by
  have := diagNormalRow_real e (D := 1) (fun _ => μ) (fun _ => ls) (fun _ => x)
  simp only [List.ofFn_succ, List.ofFn_zero] at this
  rw [this]
  simp [Gaussian.diagNormalLogp]

/-- **samples follow the density**: the law of `μ + σ·ε`, `ε ~ N(0,1)`, has density `exp(log_prob)` (as executed) w.r.t. Lebesgue -/
theorem normal_sample_follows_density (μ ls : ℝ) :
    (gaussianReal 0 1).map (fun ε => μ + Real.exp ls * ε)
      = volume.withDensity (fun x => ENNReal.ofReal (Real.exp (diagNormalRow (realX e) 1 [μ] [ls] [x]))) := by
  rw [normal_sampling_map, gaussianReal_of_var_ne_zero _ (Gaussian.var_ne_zero ls), gaussianPDF_def]
  congr 1
  funext x
  rw [diagNormalRow_one, Gaussian.gauss_factor]

/-- product form: coordinate-wise `μᵢ + σᵢ·εᵢ` pushes the standard normal on `ℝᴰ` to the product of the `N(μᵢ, σᵢ²)` -/
theorem normal_sampling_map_pi {D : ℕ} (μ ls : Fin D → ℝ) :
    (Measure.pi fun _ : Fin D => gaussianReal 0 1).map (fun ε i => μ i + Real.exp (ls i) * ε i)
      = Measure.pi fun i => gaussianReal (μ i) (Gaussian.var (ls i)) :=
  DensityGaps.normal_map_pi μ ls

/-- the executed sampling map on one context row / one draw is exactly that coordinate-wise map -/
theorem normalSampleMap_exec {D : ℕ} (μ ls ε : Fin D → ℝ) :
    normalSampleMap (realX e) [List.ofFn μ] [List.ofFn ls] 1 [List.ofFn ε]
      = [List.ofFn fun i => μ i + Real.exp (ls i) * ε i] :=
  DensityGaps.normalSampleMap_exec e μ ls ε


/-! ## ConditionalIndependentBernoulli -/

/-- **total probability one** by exact summation over `{0,1}ᴰ`, every `D`, every logits (ideal softplus) -/
theorem bernoulli_sum_one {D : ℕ} (logits : Fin D → ℝ) :
    ∑ x : Fin D → Bool, Real.exp (∑ i, Bernoulli.bernLogp (logits i) (x i)) = 1 :=
  Bernoulli.bernoulli_sum_one logits

/- Full-strength statement for the EXECUTED formula (`F.softplus` has `threshold=20`: above it the code returns its
   argument, not `log(1+eˣ)`):   ∀ logits, Σ_x exp(bernRow (realX e) logits x) = 1.
   It is false beyond the threshold (`bernoulli_threshold_counterexample`: the total mass at logit 21 is
   `1 + e⁻⁴²/(1+e⁻²¹)`, 6e-19 above one — below binary64 resolution); the forced hypothesis is `|lᵢ| ≤ 20`. -/
theorem bernoulli_exec_sum_one_partial {D : ℕ} (logits : Fin D → ℝ) (h : ∀ i, |logits i| ≤ 20) :
    ∑ x : Fin D → Bool, Real.exp (bernRow (realX e) (List.ofFn logits) (List.ofFn fun i => Bernoulli.ind (x i))) = 1 := by
  simp_rw [bernRow_real e logits _ h]
  exact Bernoulli.bernoulli_sum_one logits

theorem bernoulli_threshold_counterexample :
    Real.exp (bernRow (realX e) [21] [1]) + Real.exp (bernRow (realX e) [21] [0]) ≠ 1 := by
  have hrow : ∀ x : ℝ, bernRow (realX e) [21] [x]
      = -x * (realX e).softplus (-21) - (1 - x) * (realX e).softplus 21 := fun x => by
    simp only [bernRow, List.zipWith_cons_cons, List.zipWith_nil_right, sumG_real, List.sum_cons, List.sum_nil,
      add_zero, realX_sub, realX_mul, realX_neg, realX_one]
  have hs1 : (realX e).softplus 21 = 21 := by rw [realX_softplus, if_pos (by norm_num)]
  have hs0 : (realX e).softplus (-21) = Real.log (1 + Real.exp (-21)) := by rw [realX_softplus, if_neg (by norm_num)]
  have ha : 0 < Real.exp (-21) := Real.exp_pos _
  rw [hrow, hrow, hs1, hs0, sub_self, zero_mul, sub_zero, neg_one_mul, neg_zero, zero_mul, zero_sub, sub_zero, one_mul,
    Real.exp_neg (Real.log _), Real.exp_log (add_pos one_pos ha)]
  intro h
  have h2 := mul_inv_cancel₀ (add_pos one_pos ha).ne'
  rw [eq_sub_of_add_eq h] at h2
  exact (mul_self_pos.2 ha.ne').ne' (by linarith)

/-- **mean**: `Σ_x xᵢ·p(x) = σ(lᵢ)` (ideal softplus), every `D` -/
theorem bernoulli_mean {D : ℕ} (logits : Fin D → ℝ) (i : Fin D) :
    ∑ x : Fin D → Bool, Bernoulli.ind (x i) * Real.exp (∑ j, Bernoulli.bernLogp (logits j) (x j))
      = 1 / (1 + Real.exp (-(logits i))) :=
  DistReal.bernoulli_mean logits i

/-- the executed `mean()` (`sigmoid(logits)`, discrete.py:70-72) is the expectation of the executed density -/
theorem bernoulli_exec_mean_partial {D : ℕ} (logits : Fin D → ℝ) (h : ∀ i, |logits i| ≤ 20) (i : Fin D) :
    ∑ x : Fin D → Bool, Bernoulli.ind (x i)
        * Real.exp (bernRow (realX e) (List.ofFn logits) (List.ofFn fun j => Bernoulli.ind (x j)))
      = (realX e).sigmoid (logits i) := by
  simp_rw [bernRow_real e logits _ h]
  rw [DistReal.bernoulli_mean, realX_sigmoid]

/-- **sampling map** `[u < sigmoid(l)]` (discrete.py:58-68): under `u ~ U[0,1)` the executed indicator is 1 with
    probability `sigmoid(l)` -/
theorem bernoulli_sampling_map (l : ℝ) :
    volume {u : ℝ | 0 ≤ u ∧ u < 1 ∧ (if (realX e).lt u ((realX e).sigmoid l) then (1:ℝ) else 0) = 1}
      = ENNReal.ofReal ((realX e).sigmoid l) := by
  rw [realX_sigmoid]
  have hp : 0 < 1 / (1 + Real.exp (-l)) := by positivity
  have hp1 : 1 / (1 + Real.exp (-l)) < 1 := by
    rw [div_lt_one (by positivity)]; linarith [Real.exp_pos (-l)]
  have : {u : ℝ | 0 ≤ u ∧ u < 1 ∧ (if (realX e).lt u (1 / (1 + Real.exp (-l))) then (1:ℝ) else 0) = 1}
      = Set.Ico 0 (1 / (1 + Real.exp (-l))) := by
    ext u
    simp only [Set.mem_ofPred_eq, Set.mem_Ico, realX_lt, decide_eq_true_eq]
    constructor
    · rintro ⟨h0, _, h2⟩
      refine ⟨h0, ?_⟩
      by_contra hc
      rw [if_neg hc] at h2; norm_num at h2
    · rintro ⟨h0, h1⟩
      exact ⟨h0, by linarith, by rw [if_pos h1]⟩
  rw [this, Real.volume_Ico, sub_zero]

/-- … and that probability is `exp(log_prob(x = 1))` of the (ideal) density (the outcome `x = 1` of one coordinate only; about executed
    terms and every outcome of `{0,1}ᴰ`: `bernoulli_sample_law_executed` in `Properties/C05G.lean`) -/
theorem bernoulli_sample_follows_density (l : ℝ) :
    1 / (1 + Real.exp (-l)) = Real.exp (Bernoulli.bernLogp l true) :=
  (Bernoulli.exp_bernLogp_true l).symm

/-! ## MixtureOfGaussiansMADE -/

/-- the executed `log_softmax` gives mixture weights that sum to one (any non-empty logit list) -/
theorem logSoftmax_exec_sum_one (xs : List ℝ) (h : xs ≠ []) :
    ((logSoftmaxG (realX e) xs).map Real.exp).sum = 1 := logSoftmax_sum_one e xs h

/-- the executed `softplus(u) + ε` is positive for every `u` (including above the softplus threshold) -/
theorem mogStd_exec_pos (eps : ℝ) (heps : 0 < eps) (u : ℝ) : 0 < mogStd (realX e) eps u := mogStd_pos e eps heps u

/-- **each conditional of the mixture is normalised**: for every number of components `M ≥ 1`, every MADE output
    (logits, means, unconstrained stds) and every `ε > 0`, `∫ exp(mogFeature …) = 1` — on the executed definition -/
theorem mog_feature_exec_normalised {M : ℕ} (hM : 0 < M) (eps : ℝ) (heps : 0 < eps) (lg μ u : Fin M → ℝ) :
    ∫ x : ℝ, Real.exp (mogFeature (realX e) eps (List.ofFn lg) (List.ofFn μ) (List.ofFn u) x) = 1 := by
  simp_rw [mogFeature_real e hM]
  apply MoG.mog_feature_normalised _ _ _ (fun k => mogStd_pos e eps heps (u k))
  have := logSoftmax_sum_one e (List.ofFn lg) (ofFn_ne_nil hM lg)
  unfold logSoftmaxG at this
  simp only [sumG_real, List.map_ofFn, List.sum_ofFn, Function.comp, realX_sub, realX_log, realX_exp] at this
  simp only [List.sum_ofFn]
  exact this

/-- **the joint of the autoregressive mixture is normalised, every number of features `D`** (Tonelli + induction,
    `AutoregDensity.joint_lintegral`).  `lg i y`, `μ i y`, `u i y` are the MADE outputs for feature `i` as functions of
    the prefix `y = x_{<i}` only — that is the autoregressive property proved in C06 (`made_autoregressive`); their
    measurability in the prefix is the only regularity assumed of the network.  The integrand is
    `exp(Σ_i mogFeature …) = exp(mogRow …)`, the executed `MixtureOfGaussiansMADE.log_prob` (made.py:340-352). -/
theorem mog_joint_normalised {M : ℕ} (hM : 0 < M) (eps : ℝ) (heps : 0 < eps)
    (lg μ u : (i : ℕ) → (Fin i → ℝ) → Fin M → ℝ)
    (hlg : ∀ i k, Measurable fun y => lg i y k) (hμ : ∀ i k, Measurable fun y => μ i y k)
    (hu : ∀ i k, Measurable fun y => u i y k) (D : ℕ) :
    ∫⁻ x : Fin D → ℝ, ∏ i : Fin D, ENNReal.ofReal (Real.exp (mogFeature (realX e) eps
        (List.ofFn (lg i (AutoregDensity.pre x i))) (List.ofFn (μ i (AutoregDensity.pre x i)))
        (List.ofFn (u i (AutoregDensity.pre x i))) (x i))) = 1 := by
  apply AutoregDensity.joint_lintegral
    (fun i y t => ENNReal.ofReal (Real.exp (mogFeature (realX e) eps (List.ofFn (lg i y)) (List.ofFn (μ i y)) (List.ofFn (u i y)) t)))
  · intro i
    exact ENNReal.measurable_ofReal.comp (Real.measurable_exp.comp
      (measurable_mogFeature e hM eps (lg i) (μ i) (u i) (hlg i) (hμ i) (hu i)))
  · intro i y
    have h1 := mog_feature_exec_normalised e hM eps heps (lg i y) (μ i y) (u i y)
    rw [← ofReal_integral_eq_lintegral_ofReal (integrable_of_integral_eq_one h1)
      (Filter.Eventually.of_forall (fun t => (Real.exp_pos _).le)), h1, ENNReal.ofReal_one]

/-- the executed row log-density is the sum of the per-feature conditionals (so `exp` of it is the product above) -/
theorem mogRow_eq_sum {α : Type} (o : XOps α) (eps : α) (F M : ℕ) (out x : List α) :
    mogRow o eps F M out x = sumG o ((List.range F).map (fun f =>
      mogFeature o eps (mogColumn M out f 0 o.zero) (mogColumn M out f 1 o.zero) (mogColumn M out f 2 o.zero) (x.getD f o.zero))) := rfl

/-- the executed density of one conditional is the softmax-weighted sum of the component Gaussian densities -/
theorem mogFeature_exec_density {M : ℕ} (hM : 0 < M) (eps : ℝ) (heps : 0 < eps) (lg μ u : Fin M → ℝ) (x : ℝ) :
    Real.exp (mogFeature (realX e) eps (List.ofFn lg) (List.ofFn μ) (List.ofFn u) x)
      = ∑ k, (Real.exp (lg k) / ∑ j, Real.exp (lg j))
          * gaussianPDFReal (μ k) (MoG.var (mogStd (realX e) eps (u k)) (mogStd_pos e eps heps (u k))) x := by
  have hS : 0 < ∑ j, Real.exp (lg j) :=
    Finset.sum_pos (fun j _ => Real.exp_pos _) ⟨⟨0, hM⟩, Finset.mem_univ _⟩
  rw [mogFeature_closed e hM]
  have hpos : 0 < ∑ k, Real.exp ((lg k - Real.log (∑ j, Real.exp (lg j)))
      - (1/2) * (Real.log (2 * Real.pi) + 2 * Real.log (softplusT (u k) + eps) + ((x - μ k) / (softplusT (u k) + eps))^2)) :=
    Finset.sum_pos (fun j _ => Real.exp_pos _) ⟨⟨0, hM⟩, Finset.mem_univ _⟩
  rw [Real.exp_log hpos]
  apply Finset.sum_congr rfl
  intro k _
  have := MoG.term_eq (fun k => lg k - Real.log (∑ j, Real.exp (lg j))) μ (fun k => mogStd (realX e) eps (u k))
    (fun k => mogStd_pos e eps heps (u k)) x k
  unfold MoG.mogTerm at this
  simp only [mogStd_real] at this ⊢
  rw [this, Real.exp_sub, Real.exp_log hS]

/-- **ancestral sampling step follows the conditional density** (made.py:364-386): drawing component `k` with the
    softmax probability (torch `Categorical`, trusted) and returning `μ_k + ε·σ_k`, `ε ~ N(0,1)`, has law with density
    `exp(mogFeature …)` — the executed conditional `log_prob` — w.r.t. Lebesgue measure -/
theorem mog_sample_follows_density {M : ℕ} (hM : 0 < M) (eps : ℝ) (heps : 0 < eps) (lg μ u : Fin M → ℝ) :
    (∑ k : Fin M, ENNReal.ofReal (Real.exp (lg k) / ∑ j, Real.exp (lg j))
        • (gaussianReal 0 1).map (fun ε => μ k + ε * mogStd (realX e) eps (u k)))
      = volume.withDensity (fun x => ENNReal.ofReal
          (Real.exp (mogFeature (realX e) eps (List.ofFn lg) (List.ofFn μ) (List.ofFn u) x))) := by
  have hS : 0 < ∑ j, Real.exp (lg j) :=
    Finset.sum_pos (fun j _ => Real.exp_pos _) ⟨⟨0, hM⟩, Finset.mem_univ _⟩
  have hmap : ∀ k, (gaussianReal 0 1).map (fun ε => μ k + ε * mogStd (realX e) eps (u k))
      = gaussianReal (μ k) (MoG.var (mogStd (realX e) eps (u k)) (mogStd_pos e eps heps (u k))) := by
    intro k
    simp_rw [mul_comm _ (mogStd (realX e) eps (u k))]
    exact Gaussian.stdNormal_map_affine (μ k) _
  simp_rw [hmap, mogFeature_exec_density e hM eps heps]
  ext s hs
  rw [withDensity_apply _ hs]
  simp only [Measure.coe_finsetSum, Measure.coe_smul, Finset.sum_apply, Pi.smul_apply, smul_eq_mul]
  have hterm : ∀ x, ENNReal.ofReal (∑ k, (Real.exp (lg k) / ∑ j, Real.exp (lg j))
        * gaussianPDFReal (μ k) (MoG.var (mogStd (realX e) eps (u k)) (mogStd_pos e eps heps (u k))) x)
      = ∑ k, ENNReal.ofReal (Real.exp (lg k) / ∑ j, Real.exp (lg j))
        * gaussianPDF (μ k) (MoG.var (mogStd (realX e) eps (u k)) (mogStd_pos e eps heps (u k))) x := by
    intro x
    rw [ENNReal.ofReal_sum_of_nonneg]
    · apply Finset.sum_congr rfl
      intro k _
      rw [ENNReal.ofReal_mul (by positivity)]; rfl
    · intro k _
      exact mul_nonneg (by positivity) (gaussianPDFReal_nonneg _ _ _)
  simp_rw [hterm]
  rw [lintegral_finsetSum]
  · apply Finset.sum_congr rfl
    intro k _
    rw [lintegral_const_mul _ (measurable_gaussianPDF _ _),
      gaussianReal_apply _ (MoG.var_ne_zero _ (mogStd_pos e eps heps (u k))) s]
  · intro k _
    exact (measurable_gaussianPDF _ _).const_mul _

/-- the executed sampling step is that map -/
theorem mogSampleStep_exec {M : ℕ} (eps : ℝ) (out : List ℝ) (f k : ℕ) (noise : ℝ) :
    mogSampleStep (realX e) eps M out f k noise
      = (mogColumn M out f 1 0).getD k 0 + noise * mogStd (realX e) eps ((mogColumn M out f 2 0).getD k 0) := by
  simp [mogSampleStep]

/- Full-strength statement "sampling is offered for every context, including none" is FALSE of the code:
   `MixtureOfGaussiansMADE.sample(context=None)` dereferences `None.shape` (made.py:362) — finding F15 (known).
   With a context the model (and the code) returns samples. -/
theorem mogSample_context_partial {α : Type} (o : XOps α) (eps : α) (F M R N : ℕ) (passes : List (List (List α)))
    (comps : List (List ℕ)) (noise : List (List α)) :
    ∃ v, mogSample o eps F M (some R) N passes comps noise = .ok v := ⟨_, rfl⟩

theorem mogSample_no_context_counterexample {α : Type} (o : XOps α) (eps : α) (F M N : ℕ) (passes : List (List (List α)))
    (comps : List (List ℕ)) (noise : List (List α)) :
    mogSample o eps F M none N passes comps noise = .error .attributeError := rfl

/-! ## gaussian_kde_log_eval -/

/-- **the KDE is a normalised density in the query** for every sample set with `N ≥ 1` and every dimension `D`
    (equal-weight mixture of isotropic Gaussians with std `N^(-1/(D+4))`), on the executed definition -/
theorem kde_exec_normalised {N D : ℕ} (hN : 0 < N) (S : Fin N → Fin D → ℝ) :
    ∫ q : Fin D → ℝ, Real.exp (kdeLogEval (realX e) D (List.ofFn fun n => List.ofFn (S n)) (List.ofFn q)) = 1 := by
  simp_rw [kdeLogEval_real e hN]
  rw [Gaussian.integral_mixture _ _ fun n => Gaussian.diagNormal_normalised (S n) _]
  simp only [Finset.sum_const, Finset.card_univ, Fintype.card_fin, nsmul_eq_mul]
  have : (N : ℝ) ≠ 0 := by exact_mod_cast hN.ne'
  field_simp

/-- the bandwidth as executed: `std = exp(-(1/(D+4)) · log N) > 0` (the power `N^(-1/(D+4))` for `N ≥ 1`: `DensityGaps.kdeStd_exec_pos`) -/
theorem kdeStd_exec (N D : ℕ) : kdeStd (realX e) N D = Real.exp (-(1 / ((D + 4 : ℕ) : ℝ)) * Real.log N) ∧ 0 < kdeStd (realX e) N D :=
  ⟨kdeStd_real e N D, kdeStd_pos e N D⟩


/-! ## uniform-module priors -/

/-- **MG1Uniform**: the parameter↔noise matrices of the code are mutually inverse and volume preserving, so the
    prior is the push-forward of the box uniform by a measure-preserving linear map -/
theorem mg1_volume : mg1A.det = 1 ∧ mg1A * mg1Ainv = 1 ∧ mg1Ainv * mg1A = 1 :=
  ⟨DensityGaps.mg1A_det, mul_eq_one_comm.mp DensityGaps.mg1Ainv_mul_mg1A, DensityGaps.mg1Ainv_mul_mg1A⟩

/-- the executed `_to_noise` / `_to_parameters` are those matrices and undo each other -/
theorem mg1_exec (a b c : ℝ) :
    mg1ToNoise (realX e) [a, b, c] = List.ofFn (Matrix.vecMul ![a, b, c] mg1A) ∧
    mg1ToParams (realX e) [a, b, c] = List.ofFn (Matrix.vecMul ![a, b, c] mg1Ainv) ∧
    mg1ToNoise (realX e) (mg1ToParams (realX e) [a, b, c]) = [a, b, c] :=
  ⟨DensityGaps.mg1ToNoise_real e ![a, b, c], DensityGaps.mg1_sample_exec e ![a, b, c], by simp [mg1ToNoise, mg1ToParams]⟩

/-- **BoxUniform is normalised**, every dimension and every non-degenerate box: the executed log-density is
    `-Σ log(highᵢ - lowᵢ)` inside and the density (0 outside) integrates to one -/
theorem boxUniform_normalised {D : ℕ} (l h : Fin D → ℝ) (hlh : ∀ i, l i < h i) :
    ∫ x : Fin D → ℝ, (if insideBox (realX e) (List.ofFn l) (List.ofFn h) (List.ofFn x) = true
        then Real.exp (boxUniformRow (realX e) (List.ofFn l) (List.ofFn h) (List.ofFn x)) else 0) = 1 := by
  have hfac : ∀ x : Fin D → ℝ, (if insideBox (realX e) (List.ofFn l) (List.ofFn h) (List.ofFn x) = true
        then Real.exp (boxUniformRow (realX e) (List.ofFn l) (List.ofFn h) (List.ofFn x)) else 0)
      = if ∀ i, l i ≤ x i ∧ x i < h i then ∏ i, (h i - l i)⁻¹ else 0 := fun x =>
    if_ctx_congr (insideBox_real e l h x) (fun hin => by
      rw [boxUniformRow_real e l h x hin, ← Finset.sum_neg_distrib, Real.exp_sum]
      exact Finset.prod_congr rfl fun i _ => by rw [Real.exp_neg, Real.exp_log (sub_pos.mpr (hlh i))]) (fun _ => rfl)
  rw [funext hfac, DensityGaps.integral_box_prod l h fun i _ => (h i - l i)⁻¹]
  refine Finset.prod_eq_one fun i _ => ?_
  rw [setIntegral_const, Real.volume_real_Ico_of_le (hlh i).le, smul_eq_mul]
  exact mul_inv_cancel₀ (sub_pos.mpr (hlh i)).ne'

/-! ## truncated Gaussian prior (LotkaVolterraOscillating) -/

/-- **the code's erf formula is the Gaussian box mass**: with `erf z = 2/√π ∫₀ᶻ e^{-t²} dt`,
    `½(erf((b-μ)/(σ√2)) - erf((a-μ)/(σ√2))) = ∫ₐᵇ N(x; μ, σ²) dx`  (uniform.py:63-70 after fix 7cc288d).
    The executable model evaluates `erf` by a series / continued fraction that is only checked numerically. -/
theorem erf_mass (μ σ a b : ℝ) (hσ : 0 < σ) :
    (1/2) * (erfR ((b - μ) / (σ * Real.sqrt 2)) - erfR ((a - μ) / (σ * Real.sqrt 2)))
      = ∫ x in a..b, gaussianPDFReal μ (sqNN σ) x := by
  have hc : σ * Real.sqrt 2 ≠ 0 := by positivity
  have hg : ∀ u v : ℝ, IntervalIntegrable (fun t : ℝ => Real.exp (-t ^ 2)) volume u v :=
    fun u v => (by fun_prop : Continuous fun t : ℝ => Real.exp (-t ^ 2)).intervalIntegrable u v
  unfold erfR
  rw [← mul_sub, intervalIntegral.integral_interval_sub_left (hg _ _) (hg _ _)]
  have hpdf : ∀ x, gaussianPDFReal μ (sqNN σ) x
      = (Real.sqrt (2 * Real.pi * σ ^ 2))⁻¹ * Real.exp (-(x / (σ * Real.sqrt 2) - μ / (σ * Real.sqrt 2)) ^ 2) := by
    intro x
    unfold gaussianPDFReal
    simp only [sqNN_coe]
    congr 2
    rw [← sub_div, div_pow, mul_pow, Real.sq_sqrt (by norm_num : (0:ℝ) ≤ 2)]
    field_simp
  simp_rw [hpdf]
  rw [intervalIntegral.integral_const_mul,
    intervalIntegral.integral_comp_div_sub (fun t : ℝ => Real.exp (-t ^ 2)) hc (μ / (σ * Real.sqrt 2)), smul_eq_mul]
  have e1 : a / (σ * Real.sqrt 2) - μ / (σ * Real.sqrt 2) = (a - μ) / (σ * Real.sqrt 2) := by ring
  have e2 : b / (σ * Real.sqrt 2) - μ / (σ * Real.sqrt 2) = (b - μ) / (σ * Real.sqrt 2) := by ring
  rw [e1, e2, ← mul_assoc, ← mul_assoc]
  congr 1
  have h2pi : Real.sqrt (2 * Real.pi * σ ^ 2) = Real.sqrt 2 * Real.sqrt Real.pi * σ := by
    rw [Real.sqrt_mul (by positivity), Real.sqrt_sq hσ.le, Real.sqrt_mul (by norm_num)]
  rw [h2pi]
  have : Real.sqrt Real.pi ≠ 0 := by positivity
  have : Real.sqrt 2 ≠ 0 := by positivity
  field_simp

/-- the same mass as a set integral over the box `[a, b)` of the code -/
theorem erf_mass_box (μ σ a b : ℝ) (hσ : 0 < σ) (hab : a ≤ b) :
    (1/2) * (erfR ((b - μ) / (σ * Real.sqrt 2)) - erfR ((a - μ) / (σ * Real.sqrt 2)))
      = gaussMass μ (sqNN σ) a b := by
  rw [erf_mass μ σ a b hσ, gaussMass_eq_interval _ _ hab]

/-- **the truncated-Gaussian prior is normalised** (every dimension, every box, every mean, every σ > 0): with the
    log-normaliser `-Σ log(mass of N(μᵢ, σ²) on [aᵢ, bᵢ))` the EXECUTED `lotkaRow` (normaliser + Gaussian + support
    indicator, uniform.py:72-80 after fix e7d89ee) integrates to one over the box -/
theorem truncGauss_normalised {D : ℕ} (σ : ℝ) (hσ : 0 < σ) (μ a b : Fin D → ℝ) (hab : ∀ i, a i < b i) :
    ∫ x : Fin D → ℝ, (if insideBox (realX e) (List.ofFn a) (List.ofFn b) (List.ofFn x) = true
        then Real.exp (lotkaRow (realX e) (-∑ i, Real.log (gaussMass (μ i) (Gaussian.var (Real.log σ)) (a i) (b i)))
              σ (List.ofFn μ) (List.ofFn a) (List.ofFn b) (List.ofFn x)) else 0) = 1 := by
  have hp := fun i => gaussMass_pos (μ i) (Gaussian.var (Real.log σ)) (Gaussian.var_ne_zero _) (hab i)
  -- inside the box the normaliser goes into the product: one factor `mass⁻¹ · N(μᵢ, σ²)` per coordinate
  have hfac : ∀ x : Fin D → ℝ, (if insideBox (realX e) (List.ofFn a) (List.ofFn b) (List.ofFn x) = true
        then Real.exp (lotkaRow (realX e) (-∑ i, Real.log (gaussMass (μ i) (Gaussian.var (Real.log σ)) (a i) (b i)))
              σ (List.ofFn μ) (List.ofFn a) (List.ofFn b) (List.ofFn x)) else 0)
      = if ∀ i, a i ≤ x i ∧ x i < b i then ∏ i, (gaussMass (μ i) (Gaussian.var (Real.log σ)) (a i) (b i))⁻¹
          * gaussianPDFReal (μ i) (Gaussian.var (Real.log σ)) (x i) else 0 := fun x =>
    if_ctx_congr (insideBox_real e a b x) (fun hin => by
      unfold lotkaRow
      simp only [(insideBox_real e a b x).mpr hin, if_true, realX_add, realX_zero, add_zero]
      rw [isoNormalRow_real e σ hσ, Real.exp_add, Gaussian.diagNormal_factor, ← Finset.sum_neg_distrib, Real.exp_sum,
        ← Finset.prod_mul_distrib]
      exact Finset.prod_congr rfl fun i _ => by rw [Real.exp_neg, Real.exp_log (hp i)]) (fun _ => rfl)
  rw [funext hfac, DensityGaps.integral_box_prod a b fun i t => (gaussMass (μ i) (Gaussian.var (Real.log σ)) (a i) (b i))⁻¹
    * gaussianPDFReal (μ i) (Gaussian.var (Real.log σ)) t]
  refine Finset.prod_eq_one fun i _ => ?_
  rw [integral_const_mul]
  exact inv_mul_cancel₀ (hp i).ne'

/-- the variance used above is the code's `σ²` -/
theorem var_log_sigma (σ : ℝ) (hσ : 0 < σ) : Gaussian.var (Real.log σ) = (sqNN σ) := by
  apply NNReal.coe_injective
  simp only [Gaussian.var_coe, sqNN_coe]
  rw [show 2 * Real.log σ = Real.log σ + Real.log σ by ring, Real.exp_add, Real.exp_log hσ]; ring


/-! ## non-vacuity: the hypotheses are satisfiable by concrete non-trivial data -/

example : ∃ l : Fin 2 → ℝ, (∀ i, |l i| ≤ 20) ∧ l 0 ≠ l 1 :=
  ⟨![3, -7], by intro i; fin_cases i <;> norm_num, by norm_num⟩
/-- the code's `epsilon = 1e-2`, five components -/
example : (0:ℝ) < 1 / 100 ∧ 0 < 5 := by norm_num
/-- the Lotka box `[-5, 2)⁴`, `σ = 1/2` -/
example : (∀ _i : Fin 4, (-5:ℝ) < 2) ∧ (0:ℝ) < 1 / 2 := ⟨fun _ => by norm_num, by norm_num⟩
/-- a non-constant measurable "MADE output" as a function of the prefix -/
example : ∀ (i : ℕ) (k : Fin 3), Measurable fun y : Fin i → ℝ => (k : ℝ) + ∑ j, y j := by
  intro i k; fun_prop
example : ∃ S : Fin 2 → Fin 1 → ℝ, S 0 ≠ S 1 := ⟨fun n _ => n, by intro h; have := congrFun h 0; simp at this⟩

end
end Properties.C05
