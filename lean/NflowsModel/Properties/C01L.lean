import NflowsModel.Properties.C01
import NflowsModel.Lemmas.LayerDerivMore
import NflowsModel.Lemmas.LinearJacobian
/-!
# C01 (continued) — the linear family as Jacobians; quadratic / cubic / linear spline elements inside layers

Two cases the `Properties/C01.lean` header refers here.
(1) `Lemmas/LinearJacobian.lean`: for the EXECUTED LU / QR / SVD / Householder passes at the reals, under the hypotheses of
`Properties.C11.{lu,qr,svd}_executed` (plus the forced `bias.length = n`): the pass is row-wise, its row map is `x ↦ W x + b`
(inverse: `y ↦ W⁻¹ (y − b)`) with `W` the matrix C11 names, that map has the non-singular Fréchet derivative `jac W` at every point,
and every entry of the returned log-abs-det vector is `log |det|` of that derivative (`PassIs`, read through `linear_pass_entry`).
NaiveLinear: value and derivative here; its Gauss–Jordan log-det is in `Properties/C01N.lean`.
(2) `Lemmas/LayerDerivMore.lean`: the per-element derivative law is discharged for the executed piecewise-quadratic, -cubic and
-linear spline elements (bounded, and with linear tails), and the coupling / autoregressive layer theorems are instantiated for
them: the returned log-abs-det of row `b` is `log |det L|` for the Fréchet derivative `L` of the executed row map (`hL` stays a
hypothesis, as for RQ).  Restrictions kept explicit: strictly inside a bin for quadratic and linear (knots excluded), off the two
junctions `±tail_bound` (the tail bound is `c.ds.getD 0 0.0`) with tails; inverse pass only for the bounded linear spline.
-/
set_option linter.all false
namespace Properties.C01

theorem lu_logdet_is_log_abs_det_fderiv :
    ∀ (p : NF.LF.LUParams ℝ),
      p.udiag.length = p.n →
        0 ≤ p.eps →
          p.bias.length = p.n →
            LinearJacobian.PassIs p.n (LinearFresh.luForwardLd DualSound.realOps p) (LogdetExec.luRow DualSound.realOps p)
              (LinearJacobian.affine (LinearBridge.luW p) (LinearBridge.vecFn p.n p.bias)) (LinearBridge.luW p) :=
  fun p hlen heps hb => (LinearBridge.lu_denotes p hlen heps hb).passIs (LinearJacobian.luForwardLd_pair _ p)

theorem lu_logdet_is_log_abs_det_fderiv_inverse :
    ∀ (p : NF.LF.LUParams ℝ),
      p.udiag.length = p.n →
        0 ≤ p.eps →
          p.bias.length = p.n →
            LinearJacobian.PassIs p.n (LinearFresh.luInverseLd DualSound.realOps p)
                (LogdetExec.luInvRow DualSound.realOps p)
                (LinearJacobian.invAffine (LinearBridge.luW p) (LinearBridge.vecFn p.n p.bias)) (LinearBridge.luW p)⁻¹ ∧
              Real.log |(LinearJacobian.jac (LinearBridge.luW p)⁻¹).det| =
                -Real.log |(LinearJacobian.jac (LinearBridge.luW p)).det| :=
  fun p hlen heps hb => (LinearBridge.lu_denotes p hlen heps hb).passIs_inv (LinearJacobian.luInverseLd_pair _ p)

theorem qr_logdet_is_log_abs_det_fderiv :
    ∀ (p : NF.LF.QRParams ℝ) (vs : List (Fin p.n → ℝ)),
      p.qs = List.map List.ofFn vs →
        (∀ v ∈ vs, v ⬝ᵥ v ≠ 0) →
          p.logDiag.length = p.n →
            p.bias.length = p.n →
              LinearJacobian.PassIs p.n (LinearFresh.qrForwardLd DualSound.realOps p)
                (LinearJacobian.qrRow DualSound.realOps p)
                (LinearJacobian.affine (LinearBridge.qrW p vs) (LinearBridge.vecFn p.n p.bias)) (LinearBridge.qrW p vs) :=
  fun p vs hq hv hl hb => (LinearBridge.qr_denotes p vs hq hv hl hb).passIs (LinearJacobian.qrForwardLd_pair _ p)

theorem qr_logdet_is_log_abs_det_fderiv_inverse :
    ∀ (p : NF.LF.QRParams ℝ) (vs : List (Fin p.n → ℝ)),
      p.qs = List.map List.ofFn vs →
        (∀ v ∈ vs, v ⬝ᵥ v ≠ 0) →
          p.logDiag.length = p.n →
            p.bias.length = p.n →
              LinearJacobian.PassIs p.n (LinearFresh.qrInverseLd DualSound.realOps p)
                  (LinearJacobian.qrInvRow DualSound.realOps p)
                  (LinearJacobian.invAffine (LinearBridge.qrW p vs) (LinearBridge.vecFn p.n p.bias))
                  (LinearBridge.qrW p vs)⁻¹ ∧
                Real.log |(LinearJacobian.jac (LinearBridge.qrW p vs)⁻¹).det| =
                  -Real.log |(LinearJacobian.jac (LinearBridge.qrW p vs)).det| :=
  fun p vs hq hv hl hb => (LinearBridge.qr_denotes p vs hq hv hl hb).passIs_inv (LinearJacobian.qrInverseLd_pair _ p)

theorem svd_logdet_is_log_abs_det_fderiv :
    ∀ (p : NF.LF.SVDParams ℝ) (vs1 vs2 : List (Fin p.n → ℝ)),
      p.qs1 = List.map List.ofFn vs1 →
        p.qs2 = List.map List.ofFn vs2 →
          (∀ v ∈ vs1, v ⬝ᵥ v ≠ 0) →
            (∀ v ∈ vs2, v ⬝ᵥ v ≠ 0) →
              p.udiag.length = p.n →
                0 ≤ p.eps →
                  p.bias.length = p.n →
                    LinearJacobian.PassIs p.n (LinearFresh.svdForwardLd DualSound.realOps p)
                      (LinearJacobian.svdRow DualSound.realOps p)
                      (LinearJacobian.affine (LinearBridge.svdW p vs1 vs2) (LinearBridge.vecFn p.n p.bias))
                      (LinearBridge.svdW p vs1 vs2) :=
  fun p vs1 vs2 h1 h2 hv1 hv2 hl heps hb =>
    (LinearBridge.svd_denotes p vs1 vs2 h1 h2 hv1 hv2 hl heps hb).passIs (LinearJacobian.svdForwardLd_pair _ p)

theorem svd_logdet_is_log_abs_det_fderiv_inverse :
    ∀ (p : NF.LF.SVDParams ℝ) (vs1 vs2 : List (Fin p.n → ℝ)),
      p.qs1 = List.map List.ofFn vs1 →
        p.qs2 = List.map List.ofFn vs2 →
          (∀ v ∈ vs1, v ⬝ᵥ v ≠ 0) →
            (∀ v ∈ vs2, v ⬝ᵥ v ≠ 0) →
              p.udiag.length = p.n →
                0 ≤ p.eps →
                  p.bias.length = p.n →
                    LinearJacobian.PassIs p.n (LinearFresh.svdInverseLd DualSound.realOps p)
                        (LinearJacobian.svdInvRow DualSound.realOps p)
                        (LinearJacobian.invAffine (LinearBridge.svdW p vs1 vs2) (LinearBridge.vecFn p.n p.bias))
                        (LinearBridge.svdW p vs1 vs2)⁻¹ ∧
                      Real.log |(LinearJacobian.jac (LinearBridge.svdW p vs1 vs2)⁻¹).det| =
                        -Real.log |(LinearJacobian.jac (LinearBridge.svdW p vs1 vs2)).det| :=
  fun p vs1 vs2 h1 h2 hv1 hv2 hl heps hb =>
    (LinearBridge.svd_denotes p vs1 vs2 h1 h2 hv1 hv2 hl heps hb).passIs_inv (LinearJacobian.svdInverseLd_pair _ p)

theorem hh_logdet_is_log_abs_det_fderiv :
    ∀ {n : ℕ} (vs : List (Fin n → ℝ)),
      (∀ v ∈ vs, v ⬝ᵥ v ≠ 0) →
        LinearJacobian.PassIs n (LinearFresh.hhForwardLd DualSound.realOps (List.map List.ofFn vs))
          (NF.LF.hhSeq DualSound.realOps (List.map List.ofFn vs)) (LinearJacobian.affine (LinearFamily.Q vs) 0)
          (LinearFamily.Q vs) :=
  @LinearJacobian.hh_logdet_is_log_abs_det_fderiv

theorem hh_logdet_is_log_abs_det_fderiv_inverse :
    ∀ {n : ℕ} (vs : List (Fin n → ℝ)),
      (∀ v ∈ vs, v ⬝ᵥ v ≠ 0) →
        LinearJacobian.PassIs n (LinearFresh.hhInverseLd DualSound.realOps (List.map List.ofFn vs))
            (NF.LF.hhSeq DualSound.realOps (List.map List.ofFn vs).reverse)
            (LinearJacobian.affine (LinearFamily.Q vs).transpose 0) (LinearFamily.Q vs).transpose ∧
          (LinearFamily.Q vs).transpose = (LinearFamily.Q vs)⁻¹ ∧
            LinearJacobian.affine (LinearFamily.Q vs).transpose 0 = LinearJacobian.invAffine (LinearFamily.Q vs) 0 :=
  @LinearJacobian.hh_logdet_is_log_abs_det_fderiv_inverse

theorem naive_forward_is_affine_fderiv :
    ∀ {n : ℕ} (W : Matrix (Fin n) (Fin n) ℝ) (b : List ℝ),
      b.length = n →
        (∀ (X : List (List ℝ)),
            NF.LF.naiveForward DualSound.realOps (LinearBridge.ofMat W) b X =
              List.map (LinearJacobian.naiveRow DualSound.realOps (LinearBridge.ofMat W) b) X) ∧
          (∀ (v : Fin n → ℝ),
              LinearJacobian.naiveRow DualSound.realOps (LinearBridge.ofMat W) b (List.ofFn v) =
                List.ofFn (LinearJacobian.affine W (LinearBridge.vecFn n b) v)) ∧
            (∀ (x0 : Fin n → ℝ), HasFDerivAt (LinearJacobian.affine W (LinearBridge.vecFn n b)) (LinearJacobian.jac W) x0) ∧
              (LinearJacobian.jac W).det = W.det ∧
                ∀ (X : List (List ℝ)) (i : ℕ) (hi : i < X.length),
                  X[i].length = n →
                    (NF.LF.naiveForward DualSound.realOps (LinearBridge.ofMat W) b X)[i]? =
                      Option.some (List.ofFn (LinearJacobian.affine W (LinearBridge.vecFn n b) (LinearBridge.vecFn n X[i]))) :=
  @LinearJacobian.naive_forward_is_affine_fderiv

theorem linear_pass_entry :
    ∀ {n : ℕ} {F : List (List ℝ) → List (List ℝ) × List ℝ} {g : List ℝ → List ℝ}
      {φ : (Fin n → ℝ) → Fin n → ℝ} {M : Matrix (Fin n) (Fin n) ℝ},
      LinearJacobian.PassIs n F g φ M →
        ∀ (X : List (List ℝ)) (i : ℕ) (hi : i < X.length),
          X[i].length = n →
            (F X).1[i]? = Option.some (List.ofFn (φ (LinearBridge.vecFn n X[i]))) ∧
              (F X).2[i]? = Option.some (Real.log |(fderiv ℝ φ (LinearBridge.vecFn n X[i])).det|) ∧
                (F X).2[i]? = Option.some (Real.log |M.det|) :=
  @LinearJacobian.PassIs.entry

/-- **C01, bounded piecewise-QUADRATIC coupling layer** (`PiecewiseQuadraticCouplingTransform`, no tails), forward pass:
    if every parameter slice the conditioner returned is an accepted configuration (`QuadWhole.QuadValid`), the `boxLog`
    constant is read as the real logarithm, and every transformed entry of row `b` lies STRICTLY INSIDE a bin of its own
    spline, then the returned `ld[b]` is `log |det J_b|`, `J_b` the Fréchet derivative of the executed row map. -/
theorem coupling_quadratic_logdet_is_jacobian :
    ∀ (e : Float → ℝ) (c : NF.ElCfg) (mask : List ℝ) (B : ℕ)
      (net : Array ℝ → Array ℝ) (x : Array ℝ),
      c.kind = "quad" →
        c.tails = Bool.false →
          e (NF.boxLog (NF.StructureExec.quadCfgOf c).box) =
              Real.log
                ((e (NF.StructureExec.quadCfgOf c).box.top - e (NF.StructureExec.quadCfgOf c).box.bottom) /
                  (e (NF.StructureExec.quadCfgOf c).box.right - e (NF.StructureExec.quadCfgOf c).box.left)) →
            x.size = B * mask.length →
              ∀ {b : ℕ},
                b < B →
                  NF.StructureExec.QuadParamsValid e c (NF.CouplingJacobian.nT e mask) 1
                      (NF.LayerDerivMore.cParams e mask B net x) B →
                    (∀ (i : Fin mask.length),
                        NF.StructureExec.isT (NF.realX e) mask i = Bool.true →
                          ∃
                            k <
                              (NF.StructureExec.quadW (NF.realX e) c
                                  (NF.LayerDerivMore.chanSlice e c mask (NF.LayerDerivMore.cParams e mask B net x) b
                                    i)).length,
                            QuadWhole.xk e (NF.StructureExec.quadCfgOf c)
                                  (NF.StructureExec.quadW (NF.realX e) c
                                    (NF.LayerDerivMore.chanSlice e c mask (NF.LayerDerivMore.cParams e mask B net x) b i))
                                  k <
                                NF.StructureExec.rowOf (NF.realX e) mask.length b x i ∧
                              NF.StructureExec.rowOf (NF.realX e) mask.length b x i <
                                QuadWhole.xk e (NF.StructureExec.quadCfgOf c)
                                  (NF.StructureExec.quadW (NF.realX e) c
                                    (NF.LayerDerivMore.chanSlice e c mask (NF.LayerDerivMore.cParams e mask B net x) b i))
                                  (k + 1)) →
                      ∀ {L : (Fin mask.length → ℝ) →L[ℝ] Fin mask.length → ℝ},
                        HasFDerivAt (NF.CouplingJacobian.couplingRowMap e c mask B net Bool.false x b) L
                            (NF.StructureExec.rowOf (NF.realX e) mask.length b x) →
                          (NF.CouplingJacobian.couplingRun (NF.realX e) c mask B net Bool.false x).ld[b]? =
                            Option.some
                              (Real.log
                                |(LinearMap.det : ((Fin mask.length → ℝ) →ₗ[ℝ] Fin mask.length → ℝ) → ℝ)
                                    (↑L : (Fin mask.length → ℝ) →ₗ[ℝ] Fin mask.length → ℝ)|) :=
  fun e c mask B net x hk ht hbl hx b hb hv hbin _ hL =>
    NF.LayerDerivMore.coupling_logdet_of_elLawAt e c mask B net x hk (by decide) (by decide) false hx hb hL fun i hi =>
      let ⟨k, hkK, h0, h1⟩ := hbin i hi
      NF.LayerDerivMore.quad_elLawAt e c hk ht _ (hv b _ 0 hb (NF.CouplingJacobian.tpos_lt e mask i hi) Nat.one_pos) hbl k hkK _ h0 h1

/-- **C01, bounded piecewise-CUBIC coupling layer** (`PiecewiseCubicCouplingTransform`, no tails), forward pass: if the
    configuration is accepted for `K` widths / `K` heights (`CubicWhole.CubicValid`, a condition on the constants only),
    `boxLog` is read as the real logarithm, and every transformed entry of row `b` lies in the OPEN box `(left, right)` —
    interior knots allowed — then the returned `ld[b]` is `log |det J_b|`. -/
theorem coupling_cubic_logdet_is_jacobian :
    ∀ (e : Float → ℝ) (c : NF.ElCfg) (mask : List ℝ) (B : ℕ)
      (net : Array ℝ → Array ℝ) (x : Array ℝ),
      c.kind = "cubic" →
        c.tails = Bool.false →
          0 < c.K →
            CubicWhole.CubicValid e (CubicLayers.cubicCfgOf c) (List.replicate c.K 0) (List.replicate c.K 0) →
              e (NF.boxLog (CubicLayers.cubicCfgOf c).box) =
                  Real.log
                    ((e (CubicLayers.cubicCfgOf c).box.top - e (CubicLayers.cubicCfgOf c).box.bottom) /
                      (e (CubicLayers.cubicCfgOf c).box.right - e (CubicLayers.cubicCfgOf c).box.left)) →
                x.size = B * mask.length →
                  ∀ {b : ℕ},
                    b < B →
                      (∀ (i : Fin mask.length),
                          NF.StructureExec.isT (NF.realX e) mask i = Bool.true →
                            e (CubicLayers.cubicCfgOf c).box.left < NF.StructureExec.rowOf (NF.realX e) mask.length b x i ∧
                              NF.StructureExec.rowOf (NF.realX e) mask.length b x i <
                                e (CubicLayers.cubicCfgOf c).box.right) →
                        ∀ {L : (Fin mask.length → ℝ) →L[ℝ] Fin mask.length → ℝ},
                          HasFDerivAt (NF.CouplingJacobian.couplingRowMap e c mask B net Bool.false x b) L
                              (NF.StructureExec.rowOf (NF.realX e) mask.length b x) →
                            (NF.CouplingJacobian.couplingRun (NF.realX e) c mask B net Bool.false x).ld[b]? =
                              Option.some
                                (Real.log
                                  |(LinearMap.det : ((Fin mask.length → ℝ) →ₗ[ℝ] Fin mask.length → ℝ) → ℝ)
                                      (↑L : (Fin mask.length → ℝ) →ₗ[ℝ] Fin mask.length → ℝ)|) :=
  fun e c mask B net x hk ht hK hv hbl hx b hb hbox _ hL =>
    NF.LayerDerivMore.coupling_logdet_of_elLawAt e c mask B net x hk (by decide) (by decide) false hx hb hL fun i hi =>
      NF.LayerDerivMore.cubic_elLawAt e c hk ht _
        (CubicLayers.sliceValid_of_length hv _ (by rw [NF.StructureExec.condSlice_length, CubicLayers.mult_cubic hk]))
        hbl _ (hbox i hi).1 (hbox i hi).2

theorem coupling_linear_logdet_is_jacobian :
    ∀ (e : Float → ℝ) (c : NF.ElCfg) (mask : List ℝ) (B : ℕ)
      (net : Array ℝ → Array ℝ) (x : Array ℝ),
      c.kind = "lin" →
        c.tails = Bool.false →
          e (NF.boxLog (NF.LayerDerivMore.linBoxOf c)) =
              Real.log
                ((e (NF.LayerDerivMore.linBoxOf c).top - e (NF.LayerDerivMore.linBoxOf c).bottom) /
                  (e (NF.LayerDerivMore.linBoxOf c).right - e (NF.LayerDerivMore.linBoxOf c).left)) →
            x.size = B * mask.length →
              ∀ {b : ℕ},
                b < B →
                  LinTails.LinParamsValid e c (NF.CouplingJacobian.nT e mask) 1 (NF.LayerDerivMore.cParams e mask B net x)
                      B →
                    (∀ (i : Fin mask.length),
                        NF.StructureExec.isT (NF.realX e) mask i = Bool.true →
                          ∃ k < c.K,
                            LinWhole.xk e (NF.LayerDerivMore.linBoxOf c) c.K k <
                                NF.StructureExec.rowOf (NF.realX e) mask.length b x i ∧
                              NF.StructureExec.rowOf (NF.realX e) mask.length b x i <
                                LinWhole.xk e (NF.LayerDerivMore.linBoxOf c) c.K (k + 1)) →
                      ∀ {L : (Fin mask.length → ℝ) →L[ℝ] Fin mask.length → ℝ},
                        HasFDerivAt (NF.CouplingJacobian.couplingRowMap e c mask B net Bool.false x b) L
                            (NF.StructureExec.rowOf (NF.realX e) mask.length b x) →
                          (NF.CouplingJacobian.couplingRun (NF.realX e) c mask B net Bool.false x).ld[b]? =
                            Option.some
                              (Real.log
                                |(LinearMap.det : ((Fin mask.length → ℝ) →ₗ[ℝ] Fin mask.length → ℝ) → ℝ)
                                    (↑L : (Fin mask.length → ℝ) →ₗ[ℝ] Fin mask.length → ℝ)|) :=
  @NF.LayerDerivMore.coupling_linear_logdet_is_jacobian

/-- **C01, bounded piecewise-QUADRATIC autoregressive layer** (`MaskedPiecewiseQuadraticAutoregressiveTransform`, no
    tails): every feature of row `b` strictly inside a bin of its own spline -/
theorem ar_quadratic_logdet_is_jacobian :
    ∀ (e : Float → ℝ) (c : NF.ElCfg) (B F : ℕ) (net : Array ℝ → Array ℝ)
      (x : Array ℝ),
      c.kind = "quad" →
        c.tails = Bool.false →
          e (NF.boxLog (NF.StructureExec.quadCfgOf c).box) =
              Real.log
                ((e (NF.StructureExec.quadCfgOf c).box.top - e (NF.StructureExec.quadCfgOf c).box.bottom) /
                  (e (NF.StructureExec.quadCfgOf c).box.right - e (NF.StructureExec.quadCfgOf c).box.left)) →
            NF.ARWhole.AutoregNet B F (2 * c.K + 1) net →
              x.size = B * F →
                ∀ {b : ℕ},
                  b < B →
                    (∀ (i : Fin F),
                        QuadWhole.QuadValid e (NF.StructureExec.quadCfgOf c)
                          (NF.StructureExec.quadW (NF.realX e) c (NF.ARWhole.arSlice (NF.realX e) c F (net x) b (↑i : ℕ)))
                          (NF.StructureExec.quadH (NF.realX e) c
                            (NF.ARWhole.arSlice (NF.realX e) c F (net x) b (↑i : ℕ)))) →
                      (∀ (i : Fin F),
                          ∃
                            k <
                              (NF.StructureExec.quadW (NF.realX e) c
                                  (NF.ARWhole.arSlice (NF.realX e) c F (net x) b (↑i : ℕ))).length,
                            QuadWhole.xk e (NF.StructureExec.quadCfgOf c)
                                  (NF.StructureExec.quadW (NF.realX e) c
                                    (NF.ARWhole.arSlice (NF.realX e) c F (net x) b (↑i : ℕ)))
                                  k <
                                x.getD (b * F + (↑i : ℕ)) 0 ∧
                              x.getD (b * F + (↑i : ℕ)) 0 <
                                QuadWhole.xk e (NF.StructureExec.quadCfgOf c)
                                  (NF.StructureExec.quadW (NF.realX e) c
                                    (NF.ARWhole.arSlice (NF.realX e) c F (net x) b (↑i : ℕ)))
                                  (k + 1)) →
                        ∀ {L : (Fin F → ℝ) →L[ℝ] Fin F → ℝ},
                          (HasFDerivAt (NF.ARWhole.rowMap e c B F net x b) L fun (i : Fin F) =>
                              x.getD (b * F + (↑i : ℕ)) 0) →
                            (NF.ARWhole.arForward (NF.realX e) c B F net x).ld[b]? =
                              Option.some
                                (Real.log
                                  |(LinearMap.det : ((Fin F → ℝ) →ₗ[ℝ] Fin F → ℝ) → ℝ) (↑L : (Fin F → ℝ) →ₗ[ℝ] Fin F → ℝ)|) :=
  fun e c B F net x hk ht hbl hnet hx b hb hv hbin _ hL =>
    NF.LayerDerivMore.ar_logdet_of_elLawAt e c B F net x (NF.LayerDerivMore.pw_quad hk ht) hnet hx hb hL fun i =>
      let ⟨k, hkK, h0, h1⟩ := hbin i
      NF.LayerDerivMore.quad_elLawAt e c hk ht _ (hv i) hbl k hkK _ h0 h1

/-- **C01, bounded piecewise-CUBIC autoregressive layer** (`MaskedPiecewiseCubicAutoregressiveTransform`, no tails): every
    feature of row `b` in the OPEN box (interior knots allowed) -/
theorem ar_cubic_logdet_is_jacobian :
    ∀ (e : Float → ℝ) (c : NF.ElCfg) (B F : ℕ) (net : Array ℝ → Array ℝ)
      (x : Array ℝ),
      c.kind = "cubic" →
        c.tails = Bool.false →
          0 < c.K →
            CubicWhole.CubicValid e (CubicLayers.cubicCfgOf c) (List.replicate c.K 0) (List.replicate c.K 0) →
              e (NF.boxLog (CubicLayers.cubicCfgOf c).box) =
                  Real.log
                    ((e (CubicLayers.cubicCfgOf c).box.top - e (CubicLayers.cubicCfgOf c).box.bottom) /
                      (e (CubicLayers.cubicCfgOf c).box.right - e (CubicLayers.cubicCfgOf c).box.left)) →
                NF.ARWhole.AutoregNet B F (2 * c.K + 2) net →
                  x.size = B * F →
                    ∀ {b : ℕ},
                      b < B →
                        (∀ (i : Fin F),
                            e (CubicLayers.cubicCfgOf c).box.left < x.getD (b * F + (↑i : ℕ)) 0 ∧
                              x.getD (b * F + (↑i : ℕ)) 0 < e (CubicLayers.cubicCfgOf c).box.right) →
                          ∀ {L : (Fin F → ℝ) →L[ℝ] Fin F → ℝ},
                            (HasFDerivAt (NF.ARWhole.rowMap e c B F net x b) L fun (i : Fin F) =>
                                x.getD (b * F + (↑i : ℕ)) 0) →
                              (NF.ARWhole.arForward (NF.realX e) c B F net x).ld[b]? =
                                Option.some
                                  (Real.log
                                    |(LinearMap.det : ((Fin F → ℝ) →ₗ[ℝ] Fin F → ℝ) → ℝ)
                                        (↑L : (Fin F → ℝ) →ₗ[ℝ] Fin F → ℝ)|) :=
  fun e c B F net x hk ht hK hv hbl hnet hx b hb hbox _ hL =>
    NF.LayerDerivMore.ar_logdet_of_elLawAt e c B F net x (CubicLayers.pw_cubic hk) hnet hx hb hL fun i =>
      NF.LayerDerivMore.cubic_elLawAt e c hk ht _
        (CubicLayers.sliceValid_of_length hv _ (by rw [NF.ARWhole.arSlice_length, CubicLayers.pw_cubic hk]))
        hbl _ (hbox i).1 (hbox i).2

/-- **C01, bounded piecewise-LINEAR autoregressive layer** (`MaskedPiecewiseLinearAutoregressiveTransform`, no tails):
    every feature of row `b` strictly inside one of the `K` equal bins -/
theorem ar_linear_logdet_is_jacobian :
    ∀ (e : Float → ℝ) (c : NF.ElCfg) (B F : ℕ) (net : Array ℝ → Array ℝ)
      (x : Array ℝ),
      c.kind = "lin" →
        c.tails = Bool.false →
          0 < c.K →
            LinWhole.LinValid e (NF.LayerDerivMore.linBoxOf c) 1e-6 (List.replicate c.K 0) →
              e (1.0 / c.K.toFloat).log = Real.log (1 / (↑c.K : ℝ)) →
                e (NF.boxLog (NF.LayerDerivMore.linBoxOf c)) =
                    Real.log
                      ((e (NF.LayerDerivMore.linBoxOf c).top - e (NF.LayerDerivMore.linBoxOf c).bottom) /
                        (e (NF.LayerDerivMore.linBoxOf c).right - e (NF.LayerDerivMore.linBoxOf c).left)) →
                  NF.ARWhole.AutoregNet B F c.K net →
                    x.size = B * F →
                      ∀ {b : ℕ},
                        b < B →
                          (∀ (i : Fin F),
                              ∃ k < c.K,
                                LinWhole.xk e (NF.LayerDerivMore.linBoxOf c) c.K k < x.getD (b * F + (↑i : ℕ)) 0 ∧
                                  x.getD (b * F + (↑i : ℕ)) 0 < LinWhole.xk e (NF.LayerDerivMore.linBoxOf c) c.K (k + 1)) →
                            ∀ {L : (Fin F → ℝ) →L[ℝ] Fin F → ℝ},
                              (HasFDerivAt (NF.ARWhole.rowMap e c B F net x b) L fun (i : Fin F) =>
                                  x.getD (b * F + (↑i : ℕ)) 0) →
                                (NF.ARWhole.arForward (NF.realX e) c B F net x).ld[b]? =
                                  Option.some
                                    (Real.log
                                      |(LinearMap.det : ((Fin F → ℝ) →ₗ[ℝ] Fin F → ℝ) → ℝ)
                                          (↑L : (Fin F → ℝ) →ₗ[ℝ] Fin F → ℝ)|) :=
  fun e c B F net x hk ht hK hbox hlogK hbl hnet hx b hb hbin _ hL =>
    NF.LayerDerivMore.ar_logdet_of_elLawAt e c B F net x (NF.LayerDerivMore.pw_lin hk) hnet hx hb hL fun i => by
      obtain ⟨k, hkK, h0, h1⟩ := hbin i
      have hlen : (NF.ARWhole.arSlice (NF.realX e) c F (net x) b i).length = c.K := by rw [NF.ARWhole.arSlice_length, NF.LayerDerivMore.pw_lin hk]
      rw [← hlen] at hK hlogK hkK h0 h1
      exact NF.LayerDerivMore.lin_elLawAt e c hk ht _ { hbox with hK := List.ne_nil_of_length_pos hK } hlogK hbl k hkK _ h0 h1

/-- **C01, piecewise-QUADRATIC coupling layer with linear tails**: every transformed entry of row `b` in a tail or strictly
    inside a bin of its own spline (not at a knot, not at `±tail_bound`) -/
theorem coupling_quadratic_tails_logdet_is_jacobian :
    ∀ (e : Float → ℝ) (c : NF.ElCfg) (mask : List ℝ) (B : ℕ)
      (net : Array ℝ → Array ℝ) (x : Array ℝ),
      c.kind = "quad" →
        c.tails = Bool.true →
          e (-c.ds.getD 0 0.0) = -e (c.ds.getD 0 0.0) →
            e (NF.boxLog (TailsWhole.tbox (c.ds.getD 0 0.0))) = 0 →
              x.size = B * mask.length →
                ∀ {b : ℕ},
                  b < B →
                    NF.StructureExec.QuadTailsParamsValid e c (NF.CouplingJacobian.nT e mask) 1
                        (NF.LayerDerivMore.cParams e mask B net x) B →
                      (∀ (i : Fin mask.length),
                          NF.StructureExec.isT (NF.realX e) mask i = Bool.true →
                            NF.LayerDerivMore.QuadTailsPos e c
                              (NF.StructureExec.quadW (NF.realX e) c
                                (NF.LayerDerivMore.chanSlice e c mask (NF.LayerDerivMore.cParams e mask B net x) b i))
                              (NF.StructureExec.rowOf (NF.realX e) mask.length b x i)) →
                        ∀ {L : (Fin mask.length → ℝ) →L[ℝ] Fin mask.length → ℝ},
                          HasFDerivAt (NF.CouplingJacobian.couplingRowMap e c mask B net Bool.false x b) L
                              (NF.StructureExec.rowOf (NF.realX e) mask.length b x) →
                            (NF.CouplingJacobian.couplingRun (NF.realX e) c mask B net Bool.false x).ld[b]? =
                              Option.some
                                (Real.log
                                  |(LinearMap.det : ((Fin mask.length → ℝ) →ₗ[ℝ] Fin mask.length → ℝ) → ℝ)
                                      (↑L : (Fin mask.length → ℝ) →ₗ[ℝ] Fin mask.length → ℝ)|) :=
  fun e c mask B net x hk ht hneg hbl0 hx b hb hv hpos _ hL =>
    NF.LayerDerivMore.coupling_logdet_of_elLawAt e c mask B net x hk (by decide) (by decide) false hx hb hL fun i hi =>
      NF.LayerDerivMore.quad_tails_elLawAt e c hk ht _ (hv b _ 0 hb (NF.CouplingJacobian.tpos_lt e mask i hi) Nat.one_pos) hneg hbl0 _ (hpos i hi)

/-- **C01, piecewise-CUBIC coupling layer with linear tails**: every transformed entry of row `b` anywhere on the line
    except the two junctions `±tail_bound` (interior knots allowed), ANY conditioner output -/
theorem coupling_cubic_tails_logdet_is_jacobian :
    ∀ (e : Float → ℝ) (c : NF.ElCfg) (mask : List ℝ) (B : ℕ)
      (net : Array ℝ → Array ℝ) (x : Array ℝ),
      c.kind = "cubic" →
        c.tails = Bool.true →
          0 < c.K →
            CubicWhole.CubicValid e (CubicLayers.cubicCfgOfT c) (List.replicate c.K 0) (List.replicate c.K 0) →
              e (-c.ds.getD 0 0.0) = -e (c.ds.getD 0 0.0) →
                e (NF.boxLog (TailsWhole.tbox (c.ds.getD 0 0.0))) = 0 →
                  x.size = B * mask.length →
                    ∀ {b : ℕ},
                      b < B →
                        (∀ (i : Fin mask.length),
                            NF.StructureExec.isT (NF.realX e) mask i = Bool.true →
                              NF.StructureExec.rowOf (NF.realX e) mask.length b x i ≠ -e (c.ds.getD 0 0.0) ∧
                                NF.StructureExec.rowOf (NF.realX e) mask.length b x i ≠ e (c.ds.getD 0 0.0)) →
                          ∀ {L : (Fin mask.length → ℝ) →L[ℝ] Fin mask.length → ℝ},
                            HasFDerivAt (NF.CouplingJacobian.couplingRowMap e c mask B net Bool.false x b) L
                                (NF.StructureExec.rowOf (NF.realX e) mask.length b x) →
                              (NF.CouplingJacobian.couplingRun (NF.realX e) c mask B net Bool.false x).ld[b]? =
                                Option.some
                                  (Real.log
                                    |(LinearMap.det : ((Fin mask.length → ℝ) →ₗ[ℝ] Fin mask.length → ℝ) → ℝ)
                                        (↑L : (Fin mask.length → ℝ) →ₗ[ℝ] Fin mask.length → ℝ)|) :=
  fun e c mask B net x hk ht hK hv hneg hbl0 hx b hb hpos _ hL =>
    NF.LayerDerivMore.coupling_logdet_of_elLawAt e c mask B net x hk (by decide) (by decide) false hx hb hL fun i hi =>
      NF.LayerDerivMore.cubic_tails_elLawAt e c hk ht _
        (CubicLayers.sliceValid_of_length hv _ (by rw [NF.StructureExec.condSlice_length, CubicLayers.mult_cubic hk]))
        hneg hbl0 _ (hpos i hi).1 (hpos i hi).2

/-- **C01, piecewise-LINEAR coupling layer with linear tails**: every transformed entry of row `b` in a tail or strictly
    inside one of the `K` equal bins -/
theorem coupling_linear_tails_logdet_is_jacobian :
    ∀ (e : Float → ℝ) (c : NF.ElCfg) (mask : List ℝ) (B : ℕ)
      (net : Array ℝ → Array ℝ) (x : Array ℝ),
      c.kind = "lin" →
        c.tails = Bool.true →
          e (-c.ds.getD 0 0.0) = -e (c.ds.getD 0 0.0) →
            e (NF.boxLog (TailsWhole.tbox (c.ds.getD 0 0.0))) = 0 →
              x.size = B * mask.length →
                ∀ {b : ℕ},
                  b < B →
                    LinTails.LinTailsParamsValid e c (NF.CouplingJacobian.nT e mask) 1
                        (NF.LayerDerivMore.cParams e mask B net x) B →
                      (∀ (i : Fin mask.length),
                          NF.StructureExec.isT (NF.realX e) mask i = Bool.true →
                            NF.LayerDerivMore.LinTailsPos e c c.K (NF.StructureExec.rowOf (NF.realX e) mask.length b x i)) →
                        ∀ {L : (Fin mask.length → ℝ) →L[ℝ] Fin mask.length → ℝ},
                          HasFDerivAt (NF.CouplingJacobian.couplingRowMap e c mask B net Bool.false x b) L
                              (NF.StructureExec.rowOf (NF.realX e) mask.length b x) →
                            (NF.CouplingJacobian.couplingRun (NF.realX e) c mask B net Bool.false x).ld[b]? =
                              Option.some
                                (Real.log
                                  |(LinearMap.det : ((Fin mask.length → ℝ) →ₗ[ℝ] Fin mask.length → ℝ) → ℝ)
                                      (↑L : (Fin mask.length → ℝ) →ₗ[ℝ] Fin mask.length → ℝ)|) :=
  fun e c mask B net x hk ht hneg hbl0 hx b hb hv hpos _ hL =>
    NF.LayerDerivMore.coupling_logdet_of_elLawAt e c mask B net x hk (by decide) (by decide) false hx hb hL fun i hi => by
      obtain ⟨hv1, hv2⟩ := hv b _ 0 hb (NF.CouplingJacobian.tpos_lt e mask i hi) Nat.one_pos
      have hlen : (NF.LayerDerivMore.chanSlice e c mask (NF.LayerDerivMore.cParams e mask B net x) b i).length = c.K := by
        rw [NF.StructureExec.condSlice_length, LinTails.mult_lin hk]
      exact NF.LayerDerivMore.lin_tails_elLawAt e c hk ht _ hv1 hv2 hneg hbl0 _ (hlen ▸ hpos i hi)

/-- **C01, piecewise-QUADRATIC autoregressive layer with linear tails** -/
theorem ar_quadratic_tails_logdet_is_jacobian :
    ∀ (e : Float → ℝ) (c : NF.ElCfg) (B F : ℕ)
      (net : Array ℝ → Array ℝ) (x : Array ℝ),
      c.kind = "quad" →
        c.tails = Bool.true →
          e (-c.ds.getD 0 0.0) = -e (c.ds.getD 0 0.0) →
            e (NF.boxLog (TailsWhole.tbox (c.ds.getD 0 0.0))) = 0 →
              NF.ARWhole.AutoregNet B F (2 * c.K - 1) net →
                x.size = B * F →
                  ∀ {b : ℕ},
                    b < B →
                      (∀ (i : Fin F),
                          QuadWhole.QuadValidT e (NF.StructureExec.quadCfgOfT c)
                            (NF.StructureExec.quadW (NF.realX e) c (NF.ARWhole.arSlice (NF.realX e) c F (net x) b (↑i : ℕ)))
                            (NF.StructureExec.quadH (NF.realX e) c
                              (NF.ARWhole.arSlice (NF.realX e) c F (net x) b (↑i : ℕ)))) →
                        (∀ (i : Fin F),
                            NF.LayerDerivMore.QuadTailsPos e c
                              (NF.StructureExec.quadW (NF.realX e) c
                                (NF.ARWhole.arSlice (NF.realX e) c F (net x) b (↑i : ℕ)))
                              (x.getD (b * F + (↑i : ℕ)) 0)) →
                          ∀ {L : (Fin F → ℝ) →L[ℝ] Fin F → ℝ},
                            (HasFDerivAt (NF.ARWhole.rowMap e c B F net x b) L fun (i : Fin F) =>
                                x.getD (b * F + (↑i : ℕ)) 0) →
                              (NF.ARWhole.arForward (NF.realX e) c B F net x).ld[b]? =
                                Option.some
                                  (Real.log
                                    |(LinearMap.det : ((Fin F → ℝ) →ₗ[ℝ] Fin F → ℝ) → ℝ)
                                        (↑L : (Fin F → ℝ) →ₗ[ℝ] Fin F → ℝ)|) :=
  fun e c B F net x hk ht hneg hbl0 hnet hx b hb hv hpos _ hL =>
    NF.LayerDerivMore.ar_logdet_of_elLawAt e c B F net x (NF.LayerDerivMore.pw_quad_tails hk ht) hnet hx hb hL fun i =>
      NF.LayerDerivMore.quad_tails_elLawAt e c hk ht _ (hv i) hneg hbl0 _ (hpos i)

/-- **C01, piecewise-CUBIC autoregressive layer with linear tails**: every feature of row `b` off the junctions `±tail_bound` -/
theorem ar_cubic_tails_logdet_is_jacobian :
    ∀ (e : Float → ℝ) (c : NF.ElCfg) (B F : ℕ)
      (net : Array ℝ → Array ℝ) (x : Array ℝ),
      c.kind = "cubic" →
        c.tails = Bool.true →
          0 < c.K →
            CubicWhole.CubicValid e (CubicLayers.cubicCfgOfT c) (List.replicate c.K 0) (List.replicate c.K 0) →
              e (-c.ds.getD 0 0.0) = -e (c.ds.getD 0 0.0) →
                e (NF.boxLog (TailsWhole.tbox (c.ds.getD 0 0.0))) = 0 →
                  NF.ARWhole.AutoregNet B F (2 * c.K + 2) net →
                    x.size = B * F →
                      ∀ {b : ℕ},
                        b < B →
                          (∀ (i : Fin F),
                              x.getD (b * F + (↑i : ℕ)) 0 ≠ -e (c.ds.getD 0 0.0) ∧
                                x.getD (b * F + (↑i : ℕ)) 0 ≠ e (c.ds.getD 0 0.0)) →
                            ∀ {L : (Fin F → ℝ) →L[ℝ] Fin F → ℝ},
                              (HasFDerivAt (NF.ARWhole.rowMap e c B F net x b) L fun (i : Fin F) =>
                                  x.getD (b * F + (↑i : ℕ)) 0) →
                                (NF.ARWhole.arForward (NF.realX e) c B F net x).ld[b]? =
                                  Option.some
                                    (Real.log
                                      |(LinearMap.det : ((Fin F → ℝ) →ₗ[ℝ] Fin F → ℝ) → ℝ)
                                          (↑L : (Fin F → ℝ) →ₗ[ℝ] Fin F → ℝ)|) :=
  fun e c B F net x hk ht hK hv hneg hbl0 hnet hx b hb hpos _ hL =>
    NF.LayerDerivMore.ar_logdet_of_elLawAt e c B F net x (CubicLayers.pw_cubic hk) hnet hx hb hL fun i =>
      NF.LayerDerivMore.cubic_tails_elLawAt e c hk ht _
        (CubicLayers.sliceValid_of_length hv _ (by rw [NF.ARWhole.arSlice_length, CubicLayers.pw_cubic hk]))
        hneg hbl0 _ (hpos i).1 (hpos i).2

/-- **C01, piecewise-LINEAR autoregressive layer with linear tails** -/
theorem ar_linear_tails_logdet_is_jacobian :
    ∀ (e : Float → ℝ) (c : NF.ElCfg) (B F : ℕ)
      (net : Array ℝ → Array ℝ) (x : Array ℝ),
      c.kind = "lin" →
        c.tails = Bool.true →
          0 < c.K →
            LinWhole.LinValid e (TailsWhole.tbox (c.ds.getD 0 0.0)) 1e-6 (List.replicate c.K 0) →
              e (1.0 / c.K.toFloat).log = Real.log (1 / (↑c.K : ℝ)) →
                e (-c.ds.getD 0 0.0) = -e (c.ds.getD 0 0.0) →
                  e (NF.boxLog (TailsWhole.tbox (c.ds.getD 0 0.0))) = 0 →
                    NF.ARWhole.AutoregNet B F c.K net →
                      x.size = B * F →
                        ∀ {b : ℕ},
                          b < B →
                            (∀ (i : Fin F), NF.LayerDerivMore.LinTailsPos e c c.K (x.getD (b * F + (↑i : ℕ)) 0)) →
                              ∀ {L : (Fin F → ℝ) →L[ℝ] Fin F → ℝ},
                                (HasFDerivAt (NF.ARWhole.rowMap e c B F net x b) L fun (i : Fin F) =>
                                    x.getD (b * F + (↑i : ℕ)) 0) →
                                  (NF.ARWhole.arForward (NF.realX e) c B F net x).ld[b]? =
                                    Option.some
                                      (Real.log
                                        |(LinearMap.det : ((Fin F → ℝ) →ₗ[ℝ] Fin F → ℝ) → ℝ)
                                            (↑L : (Fin F → ℝ) →ₗ[ℝ] Fin F → ℝ)|) :=
  fun e c B F net x hk ht hK hbox hlogK hneg hbl0 hnet hx b hb hpos _ hL =>
    NF.LayerDerivMore.ar_logdet_of_elLawAt e c B F net x (NF.LayerDerivMore.pw_lin hk) hnet hx hb hL fun i => by
      have hlen : (NF.ARWhole.arSlice (NF.realX e) c F (net x) b i).length = c.K := by rw [NF.ARWhole.arSlice_length, NF.LayerDerivMore.pw_lin hk]
      have hp := hpos i
      rw [← hlen] at hK hlogK hp
      exact NF.LayerDerivMore.lin_tails_elLawAt e c hk ht _ { hbox with hK := List.ne_nil_of_length_pos hK } hlogK hneg hbl0 _ hp

theorem coupling_linear_inverse_logdet_is_jacobian :
    ∀ (e : Float → ℝ) (c : NF.ElCfg) (mask : List ℝ) (B : ℕ)
      (net : Array ℝ → Array ℝ) (x : Array ℝ),
      c.kind = "lin" →
        c.tails = Bool.false →
          e (NF.boxLog (NF.LayerDerivMore.linBoxOf c)) =
              Real.log
                ((e (NF.LayerDerivMore.linBoxOf c).top - e (NF.LayerDerivMore.linBoxOf c).bottom) /
                  (e (NF.LayerDerivMore.linBoxOf c).right - e (NF.LayerDerivMore.linBoxOf c).left)) →
            x.size = B * mask.length →
              ∀ {b : ℕ},
                b < B →
                  LinTails.LinParamsValid e c (NF.CouplingJacobian.nT e mask) 1 (NF.LayerDerivMore.cParams e mask B net x)
                      B →
                    (∀ (i : Fin mask.length),
                        NF.StructureExec.isT (NF.realX e) mask i = Bool.true →
                          ∃ k < c.K,
                            LinWhole.yk e (NF.LayerDerivMore.linBoxOf c)
                                  (NF.LayerDerivMore.chanSlice e c mask (NF.LayerDerivMore.cParams e mask B net x) b i) k <
                                NF.StructureExec.rowOf (NF.realX e) mask.length b x i ∧
                              NF.StructureExec.rowOf (NF.realX e) mask.length b x i <
                                LinWhole.yk e (NF.LayerDerivMore.linBoxOf c)
                                  (NF.LayerDerivMore.chanSlice e c mask (NF.LayerDerivMore.cParams e mask B net x) b i)
                                  (k + 1)) →
                      ∀ {L : (Fin mask.length → ℝ) →L[ℝ] Fin mask.length → ℝ},
                        HasFDerivAt (NF.CouplingJacobian.couplingRowMap e c mask B net Bool.true x b) L
                            (NF.StructureExec.rowOf (NF.realX e) mask.length b x) →
                          (NF.CouplingJacobian.couplingRun (NF.realX e) c mask B net Bool.true x).ld[b]? =
                            Option.some
                              (Real.log
                                |(LinearMap.det : ((Fin mask.length → ℝ) →ₗ[ℝ] Fin mask.length → ℝ) → ℝ)
                                    (↑L : (Fin mask.length → ℝ) →ₗ[ℝ] Fin mask.length → ℝ)|) :=
  @NF.LayerDerivMore.coupling_linear_inverse_logdet_is_jacobian

end Properties.C01
