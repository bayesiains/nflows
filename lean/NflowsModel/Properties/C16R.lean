import NflowsModel.Properties.C16
import NflowsModel.Lemmas.DualXFlowSpline
/-!
# C16 (continued) — rational-quadratic coupling with linear tails as a dual-sound stage

`Lemmas/DualXFlowSpline.lean`.  The element-level theorem with MOVING parameters for the tails variant
(`rqSplineTails_dual_param_curve`, the reading of `DualXTails.rqSplineTails_dual_param_curve`: widths, heights, derivatives and the
input moving along any differentiable curve; inputs in a tail or strictly inside a bin — not on a knot, where the log-det tangent is
one-sided —, no padded derivative on the softplus threshold).
`dualSound_couplingStage_rqTails`: the executed forward coupling stage with any dual-sound conditioner is sound on that admissible
set (`DualSoundStageOn`), the real stage being accepted at every `s`; `flow_rq_coupling_logprob_dual_sound`: `Flow.log_prob` of
[ActNorm, LULinear, RQ-tails coupling] with an affine conditioner, every parameter moving; `couplingAdm_example`: the set is non-empty.
-/
set_option linter.all false
namespace Properties.C16

theorem dualSoundOn_couplingStage_of_el :
    ∀ (e : Float → ℝ) {t : ℝ} (c : NF.ElCfg) (dmask : List (ℝ × ℝ))
      (S : ℕ) (Q : ℕ → ℕ → ℕ → ℕ → Array (ℝ × ℝ) → ℝ × ℝ → Prop),
      (∀ (Ft b tp sp : ℕ) (P : ℝ → Array ℝ) (dP : Array (ℝ × ℝ)) (fx : ℝ → ℝ) (dx : ℝ × ℝ),
          DualXFlow.DA t P dP →
            DualX.IsDual fx t dx →
              Q Ft b tp sp dP dx →
                DualXFlowStages.RelEl t
                  (fun (s : ℝ) => NF.couplingEl (DualXFlowStages.RX e) c Ft S (P s) Bool.false b tp sp (fx s))
                  (NF.couplingEl (DualXFlowStages.DX e) c Ft S dP Bool.false b tp sp dx)) →
        ∀ {netR : ℝ → ℕ → Array ℝ → Array ℝ → Array ℝ} {netD : ℕ → Array (ℝ × ℝ) → Array (ℝ × ℝ) → Array (ℝ × ℝ)},
          DualXFlowStages.DualSoundNet t netR netD →
            DualXFlowStages.DualSoundStageOn t (DualXFlowSpline.CouplingAdm e dmask S netD Q)
              (fun (s : ℝ) =>
                NF.FlowRowsExec.couplingStage (NF.realX e) c (List.map Prod.fst dmask) S Bool.false Option.none #[]
                  (netR s))
              (NF.FlowRowsExec.couplingStage (NF.dualX (NF.realX e)) c dmask S Bool.false Option.none #[] netD) :=
  @DualXFlowSpline.dualSoundOn_couplingStage_of_el

theorem rqSplineTails_dual_param_curve :
    ∀ {e : Float → ℝ} {t : ℝ} {tb minW minH minD beta : Float}
      {FW FH FD : ℝ → List ℝ} {FX : ℝ → ℝ} {dW dH dD : List (ℝ × ℝ)} {dx : ℝ × ℝ},
      DualXParam.IsDualL FW t dW →
        DualXParam.IsDualL FH t dH →
          DualXParam.IsDualL FD t dD →
            DualX.IsDual FX t dx →
              TailsWhole.RQTailsValid e tb minW minH minD beta (FW t) (FH t) (FD t) →
                (∀ k < (TailsWhole.udT e minD (FD t)).length, e beta * (TailsWhole.udT e minD (FD t)).getD k 0 ≠ 20) →
                  ((FX t < -e tb ∨ e tb < FX t) ∨
                      ∃ k < (FW t).length,
                        RQWhole.xs e (TailsWhole.cfgT tb minW minH minD beta) (FW t) k < FX t ∧
                          FX t < RQWhole.xs e (TailsWhole.cfgT tb minW minH minD beta) (FW t) (k + 1)) →
                    ∃ (v' : ℝ) (l' : ℝ),
                      NF.rqSplineTails (NF.dualX (NF.realX e)) tb minW minH minD beta dW dH dD Bool.false dx =
                          Except.ok
                            ((TailsWhole.valT e tb minW minH minD beta (FW t) (FH t) (FD t) (FX t), v'),
                              TailsWhole.ldT e tb minW minH minD beta (FW t) (FH t) (FD t) (FX t), l') ∧
                        HasDerivAt (fun (s : ℝ) => TailsWhole.valT e tb minW minH minD beta (FW s) (FH s) (FD s) (FX s)) v'
                            t ∧
                          HasDerivAt (fun (s : ℝ) => TailsWhole.ldT e tb minW minH minD beta (FW s) (FH s) (FD s) (FX s)) l'
                            t :=
  fun {e t tb minW minH minD beta FW FH FD FX _ _ _ _} hW hH hD hX hv hthr hpos =>
    (DualXTails.rqSplineTails_dual_param_curve hW hH hD hX hv hthr hpos).values
      (f := fun s => TailsWhole.valT e tb minW minH minD beta (FW s) (FH s) (FD s) (FX s))
      (g := fun s => TailsWhole.ldT e tb minW minH minD beta (FW s) (FH s) (FD s) (FX s)) (fun _ => rfl) (fun _ => rfl)

theorem dualSound_couplingStage_rqTails :
    ∀ (e : Float → ℝ) {t : ℝ} {c : NF.ElCfg},
      NF.StructureExec.RQTailsCfgValid e c →
        ∀ (dmask : List (ℝ × ℝ)) (S : ℕ) {netR : ℝ → ℕ → Array ℝ → Array ℝ → Array ℝ}
          {netD : ℕ → Array (ℝ × ℝ) → Array (ℝ × ℝ) → Array (ℝ × ℝ)},
          DualXFlowStages.DualSoundNet t netR netD →
            DualXFlowStages.DualSoundStageOn t (DualXFlowSpline.CouplingAdm e dmask S netD (DualXFlowSpline.TailsQ e c S))
              (fun (s : ℝ) =>
                NF.FlowRowsExec.couplingStage (NF.realX e) c (List.map Prod.fst dmask) S Bool.false Option.none #[]
                  (netR s))
              (NF.FlowRowsExec.couplingStage (NF.dualX (NF.realX e)) c dmask S Bool.false Option.none #[] netD) :=
  @DualXFlowSpline.dualSound_couplingStage_rqTails

theorem flow_logprob_dual_sound_on :
    ∀ (e : Float → ℝ) (w : ℕ) {Ts : List DualXFlowStages.NearTriple},
      (∀ T ∈ Ts, DualXFlowStages.DualSoundStageOn 0 T.1 T.2.1 T.2.2) →
        ∀ {bR : ℝ → NF.FlowRowsExec.BaseD ℝ} {bD : NF.FlowRowsExec.BaseD (ℝ × ℝ)},
          DualXFlow.DualSoundBase 0 bR bD →
            ∀ (B : ℕ) (dX dctx : Array (ℝ × ℝ)),
              DualXFlowStages.cascadeP B dctx Ts dX →
                (∀ (dlps : List (ℝ × ℝ)),
                    NF.FlowRowsExec.flowLogProbExec (NF.dualX (NF.realX e)) w (fun (x : ℕ) (a : Array (ℝ × ℝ)) => a)
                          (NF.FlowRowsExec.compStage (NF.dualX (NF.realX e))
                            (List.map (fun (T : DualXFlowStages.NearTriple) => T.2.2) Ts))
                          bD B dX dctx =
                        Except.ok dlps →
                      ∃ (lps : ℝ → List ℝ),
                        (∀ (s : ℝ),
                            NF.FlowRowsExec.flowLogProbExec (NF.realX e) w (fun (x : ℕ) (a : Array ℝ) => a)
                                (NF.FlowRowsExec.compStage (NF.realX e)
                                  (List.map (fun (T : DualXFlowStages.NearTriple) => T.2.1 s) Ts))
                                (bR s) B (DualXFlow.lineA s dX) (DualXFlow.lineA s dctx) =
                              Except.ok (lps s)) ∧
                          (∀ (s : ℝ), (lps s).length = dlps.length) ∧
                            ∀ (i : ℕ),
                              (dlps.getD i (0, 0)).1 = (lps 0).getD i 0 ∧
                                HasDerivAt (fun (s : ℝ) => (lps s).getD i 0) (dlps.getD i (0, 0)).2 0) ∧
                  ∀ (err : NF.Density.DErr),
                    NF.FlowRowsExec.flowLogProbExec (NF.dualX (NF.realX e)) w (fun (x : ℕ) (a : Array (ℝ × ℝ)) => a)
                          (NF.FlowRowsExec.compStage (NF.dualX (NF.realX e))
                            (List.map (fun (T : DualXFlowStages.NearTriple) => T.2.2) Ts))
                          bD B dX dctx =
                        Except.error err →
                      ∀ (s : ℝ),
                        NF.FlowRowsExec.flowLogProbExec (NF.realX e) w (fun (x : ℕ) (a : Array ℝ) => a)
                            (NF.FlowRowsExec.compStage (NF.realX e)
                              (List.map (fun (T : DualXFlowStages.NearTriple) => T.2.1 s) Ts))
                            (bR s) B (DualXFlow.lineA s dX) (DualXFlow.lineA s dctx) =
                          Except.error err :=
  @DualXFlowSpline.flow_logprob_dual_sound_on

theorem flow_rq_coupling_logprob_dual_sound :
    ∀ (e : Float → ℝ) (w : ℕ) (ds : NF.Norm.ActSt (ℝ × ℝ))
      (dp : NF.LF.LUParams (ℝ × ℝ)) {c : NF.ElCfg},
      NF.StructureExec.RQTailsCfgValid e c →
        ∀ (dmask : List (ℝ × ℝ)) (S win wout : ℕ) (dW : List (List (ℝ × ℝ))) (db : List (ℝ × ℝ)),
          ds.initialized = Bool.true ∨ ds.training = Bool.false →
            (∀ d ∈ dp.udiag, d.1 ≠ 20) →
              0 ≤ dp.eps.1 →
                ∀ (shape inShape : List ℕ) (cf : Bool) (B : ℕ) (dX dctx : Array (ℝ × ℝ)),
                  DualXFlowStages.cascadeP B dctx (DualXFlowSpline.rqTs e w ds dp c dmask S win wout dW db) dX →
                    have flowD :=
                      NF.FlowRowsExec.flowLogProbExec (NF.dualX (NF.realX e)) w (fun (x : ℕ) (a : Array (ℝ × ℝ)) => a)
                        (NF.FlowRowsExec.compStage (NF.dualX (NF.realX e))
                          [NF.StageMore.actStage (NF.dualX (NF.realX e)) w ds,
                            NF.StageMore.luStage (NF.dualX (NF.realX e)) w dp,
                            NF.FlowRowsExec.couplingStage (NF.dualX (NF.realX e)) c dmask S Bool.false Option.none #[]
                              (DualXFlowStages.affNet (NF.dualX (NF.realX e)) win wout dW db)])
                        (fun (B : ℕ) (rows : List (List (ℝ × ℝ))) (x : Array (ℝ × ℝ)) =>
                          NF.Density.stdNormalLogProb (NF.dualX (NF.realX e)) shape inShape
                            (NF.RowIndependenceMore.ctxOf cf B) rows)
                        B dX dctx;
                    have flowR := fun (s : ℝ) =>
                      NF.FlowRowsExec.flowLogProbExec (NF.realX e) w (fun (x : ℕ) (a : Array ℝ) => a)
                        (NF.FlowRowsExec.compStage (NF.realX e)
                          [NF.StageMore.actStage (NF.realX e) w (DualXFlow.lineAct s ds),
                            NF.StageMore.luStage (NF.realX e) w (DualXLU.lineP s dp),
                            NF.FlowRowsExec.couplingStage (NF.realX e) c (List.map Prod.fst dmask) S Bool.false Option.none
                              #[] (DualXFlowStages.affNet (NF.realX e) win wout (DualXLU.lineM s dW) (DualXLU.lineV s db))])
                        (fun (B : ℕ) (rows : List (List ℝ)) (x : Array ℝ) =>
                          NF.Density.stdNormalLogProb (NF.realX e) shape inShape (NF.RowIndependenceMore.ctxOf cf B) rows)
                        B (DualXFlow.lineA s dX) (DualXFlow.lineA s dctx);
                    (∀ (dlps : List (ℝ × ℝ)),
                        flowD = Except.ok dlps →
                          ∃ (lps : ℝ → List ℝ),
                            (∀ (s : ℝ), flowR s = Except.ok (lps s)) ∧
                              (∀ (s : ℝ), (lps s).length = dlps.length) ∧
                                ∀ (i : ℕ),
                                  (dlps.getD i (0, 0)).1 = (lps 0).getD i 0 ∧
                                    HasDerivAt (fun (s : ℝ) => (lps s).getD i 0) (dlps.getD i (0, 0)).2 0) ∧
                      ∀ (err : NF.Density.DErr), flowD = Except.error err → ∀ (s : ℝ), flowR s = Except.error err :=
  @DualXFlowSpline.flow_rq_coupling_logprob_dual_sound

theorem couplingAdm_example :
    ∀ (z z' x' a b p q r : ℝ),
      DualXFlowSpline.CouplingAdm TailsWhole.eW [(0, 0), (1, 0)] 1
        (DualXFlowStages.affNet (NF.dualX (NF.realX TailsWhole.eW)) 1 5 [[(0, a)], [(0, b)], [(0, p)], [(0, q)], [(0, r)]]
          [(0, 1), (0, 0), (0, 1), (0, 0), (0, 1)])
        (DualXFlowSpline.TailsQ TailsWhole.eW NF.StructureExec.cT2 1) 1 #[(z, z'), (2, x')] #[] :=
  @DualXFlowSpline.couplingAdm_example

end Properties.C16
