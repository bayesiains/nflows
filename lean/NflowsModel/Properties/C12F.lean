import NflowsModel.Properties.C12
import NflowsModel.Lemmas.FlowRowsExec
/-!
# C12 (continued) — `Flow.log_prob` over the EXECUTED passes is row independent, errors included

`Lemmas/FlowRowsExec.lean` wires `Properties/C12R.lean`'s list-level flow statement to what is executed: the `TResult`-returning
`couplingApply` / `arApply` / `cdfApply` (any mask, direction, family) are `RowWiseStage`s — rows of two accepted calls that agree on
a row agree on its output and log-det, and a batch is accepted iff every row alone is —, the notion is closed under
`CompositeTransform` (`Wrap.cascade`, induction on the stage list), and `flowLogProbExec` (flows/base.py:42-49: embed, transform,
`Except`-returning base density) returns on row `i` alone exactly `[lps[i]]`; it raises iff some row alone raises (`0 < B` forced),
transform errors before base errors, first failing row first within an AR / CDF stage.  Networks (conditioner, MADE, embedding, context
encoder) are row-wise by hypothesis `NetRowWise`, compared numerically by the correspondence.
-/
set_option linter.all false
namespace Properties.C12

theorem rowWise_cdfStage :
    ∀ {α : Type} (o : XOps α) (c : NF.ElCfg) (n : ℕ) (inverse : Bool) (params : Array α)
      (cw : ℕ), NF.FlowRowsExec.RowWiseStage n cw (NF.FlowRowsExec.cdfStage o c n inverse params) :=
  @NF.FlowRowsExec.rowWise_cdfStage

theorem rowWise_arStage :
    ∀ {α : Type} (o : XOps α) (c : NF.ElCfg) (F : ℕ) (inverse : Bool) (cw : ℕ)
      (net : ℕ → Array α → Array α → Array α),
      NF.FlowRowsExec.NetRowWise F cw (F * NF.FlowRowsExec.arMult c) net →
        NF.FlowRowsExec.RowWiseStage F cw (NF.FlowRowsExec.arStage o c F inverse net) :=
  @NF.FlowRowsExec.rowWise_arStage

theorem rowWise_couplingStage :
    ∀ {α : Type} (o : XOps α) (c : NF.ElCfg) (mask : List α) (S : ℕ)
      (inverse : Bool) (uc : Option NF.ElCfg) (uparams : Array α) (cw : ℕ) (net : ℕ → Array α → Array α → Array α),
      NF.FlowRowsExec.NetRowWise ((NF.identityIdx o mask).length * S) cw
          (NF.StructureExec.paramWidth c (NF.transformIdx o mask).length * S) net →
        NF.FlowRowsExec.RowWiseStage (mask.length * S) cw (NF.FlowRowsExec.couplingStage o c mask S inverse uc uparams net) :=
  @NF.FlowRowsExec.rowWise_couplingStage

theorem rowWise_compStage :
    ∀ {α : Type} (o : XOps α) {w cw : ℕ} (ts : List (NF.FlowRowsExec.BStage α)),
      (∀ t ∈ ts, NF.FlowRowsExec.RowWiseStage w cw t) → NF.FlowRowsExec.RowWiseStage w cw (NF.FlowRowsExec.compStage o ts) :=
  @NF.FlowRowsExec.rowWise_compStage

/-- the error a `Piecewise*CDF` batch call raises is the first one, in row order, among the rows run alone -/
theorem cdfStage_error_first :
    ∀ {α : Type} (o : XOps α) (c : NF.ElCfg) (n : ℕ) (inverse : Bool)
      (params : Array α) (B : ℕ) (x : Array α) (xr : ℕ → Array α),
      (∀ b < B, NF.FlowRowsExec.RowEq n b 0 x (xr b)) →
        (NF.cdfApply o c B n x params inverse).err =
          List.findSome? (fun (b : ℕ) => (NF.cdfApply o c 1 n (xr b) params inverse).err) (List.range B) :=
  fun o c n inverse params _ x xr hx => NF.RowErr.cdf_err_rows o c n inverse x params xr (fun b hb i hi => hx b hb i hi)

/-- the error an autoregressive batch call raises is the first one, in row order, among the rows run alone (each with the network
    run on that row alone) -/
theorem arStage_error_first :
    ∀ {α : Type} (o : XOps α) (c : NF.ElCfg) (F : ℕ) (inverse : Bool) (cw : ℕ)
      (net : ℕ → Array α → Array α → Array α),
      NF.FlowRowsExec.NetRowWise F cw (F * NF.FlowRowsExec.arMult c) net →
        ∀ (B : ℕ) (x ctx : Array α) (xr cr : ℕ → Array α),
          (∀ b < B, NF.FlowRowsExec.RowEq F b 0 x (xr b)) →
            (∀ b < B, NF.FlowRowsExec.RowEq cw b 0 ctx (cr b)) →
              (NF.arApply o c B F x (net B x ctx) inverse).err =
                List.findSome? (fun (b : ℕ) => (NF.arApply o c 1 F (xr b) (net 1 (xr b) (cr b)) inverse).err) (List.range B) :=
  fun o c F inverse cw net hnet =>
    NF.FlowRowsExec.elemwise_stage_error_first o F cw (fun B x ctx => NF.arEl o c F x (net B x ctx) inverse)
      (fun x x' ctx ctx' hb hb' hx hc i hi => NF.FlowRowsExec.arEl_rows o c F inverse net cw hnet x x' ctx ctx' hb hb' hx hc i hi)

theorem flowExec_row_independent :
    ∀ {α : Type} (o : XOps α) {w rcw cw : ℕ} {emb : ℕ → Array α → Array α}
      {T : NF.FlowRowsExec.BStage α} {base : NF.FlowRowsExec.BaseD α} {B : ℕ} {x ctx : Array α} {xr cr : ℕ → Array α},
      NF.FlowRowsExec.FlowRows w rcw cw emb T base B x ctx xr cr →
        ∀ (lps : List α),
          NF.FlowRowsExec.flowLogProbExec o w emb T base B x ctx = Except.ok lps →
            lps.length = B ∧
              ∀ i < B,
                ∃ (l : α),
                  lps[i]? = Option.some l ∧ NF.FlowRowsExec.flowLogProbExec o w emb T base 1 (xr i) (cr i) = Except.ok [l] :=
  @NF.FlowRowsExec.flowExec_row_independent

theorem flowExec_transform_error :
    ∀ {α : Type} (o : XOps α) {w rcw cw : ℕ} {emb : ℕ → Array α → Array α}
      {T : NF.FlowRowsExec.BStage α} {base : NF.FlowRowsExec.BaseD α} {B : ℕ} {x ctx : Array α} {xr cr : ℕ → Array α},
      NF.FlowRowsExec.FlowRows w rcw cw emb T base B x ctx xr cr →
        ∀ (err : Err),
          T B x (emb B ctx) = Except.error err →
            NF.FlowRowsExec.flowLogProbExec o w emb T base B x ctx = Except.error (NF.Density.DErr.base err) ∧
              ∃ i < B,
                ∃ (err' : Err),
                  T 1 (xr i) (emb 1 (cr i)) = Except.error err' ∧
                    NF.FlowRowsExec.flowLogProbExec o w emb T base 1 (xr i) (cr i) =
                      Except.error (NF.Density.DErr.base err') :=
  @NF.FlowRowsExec.flowExec_transform_error

theorem flowExec_base_error :
    ∀ {α : Type} (o : XOps α) {w rcw cw : ℕ} {emb : ℕ → Array α → Array α}
      {T : NF.FlowRowsExec.BStage α} {base : NF.FlowRowsExec.BaseD α} {B : ℕ} {x ctx : Array α} {xr cr : ℕ → Array α},
      NF.FlowRowsExec.FlowRows w rcw cw emb T base B x ctx xr cr →
        ∀ {z : Array α} {ld : List α} (err : NF.Density.DErr),
          T B x (emb B ctx) = Except.ok (z, ld) →
            base B (NF.Density.rowsOf w B z.toList) (emb B ctx) = Except.error err →
              NF.FlowRowsExec.flowLogProbExec o w emb T base B x ctx = Except.error err ∧
                ∀ i < B, NF.FlowRowsExec.flowLogProbExec o w emb T base 1 (xr i) (cr i) = Except.error err :=
  @NF.FlowRowsExec.flowExec_base_error

theorem flowExec_raises_iff :
    ∀ {α : Type} (o : XOps α) {w rcw cw : ℕ} {emb : ℕ → Array α → Array α}
      {T : NF.FlowRowsExec.BStage α} {base : NF.FlowRowsExec.BaseD α} {B : ℕ} {x ctx : Array α} {xr cr : ℕ → Array α},
      NF.FlowRowsExec.FlowRows w rcw cw emb T base B x ctx xr cr →
        0 < B →
          ((∃ (err : NF.Density.DErr), NF.FlowRowsExec.flowLogProbExec o w emb T base B x ctx = Except.error err) ↔
            ∃ i < B,
              ∃ (err : NF.Density.DErr), NF.FlowRowsExec.flowLogProbExec o w emb T base 1 (xr i) (cr i) = Except.error err) :=
  @NF.FlowRowsExec.flowExec_raises_iff

theorem flowExec_accepted_iff :
    ∀ {α : Type} (o : XOps α) {w rcw cw : ℕ} {emb : ℕ → Array α → Array α}
      {T : NF.FlowRowsExec.BStage α} {base : NF.FlowRowsExec.BaseD α} {B : ℕ} {x ctx : Array α} {xr cr : ℕ → Array α},
      NF.FlowRowsExec.FlowRows w rcw cw emb T base B x ctx xr cr →
        0 < B →
          ((∃ (lps : List α), NF.FlowRowsExec.flowLogProbExec o w emb T base B x ctx = Except.ok lps) ↔
            ∀ i < B, ∃ (l : α), NF.FlowRowsExec.flowLogProbExec o w emb T base 1 (xr i) (cr i) = Except.ok [l]) :=
  @NF.FlowRowsExec.flowExec_accepted_iff

theorem flowExec_composite :
    ∀ {α : Type} (o : XOps α) {rcw cw : ℕ} {emb : ℕ → Array α → Array α}
      {base : NF.FlowRowsExec.BaseD α} {B : ℕ} {x ctx : Array α} {xr cr : ℕ → Array α} {w : ℕ}
      (ts : List (NF.FlowRowsExec.BStage α)),
      (∀ t ∈ ts, NF.FlowRowsExec.RowWiseStage w cw t) →
        NF.FlowRowsExec.RowIndepBase cw base →
          NF.FlowRowsExec.EmbRowWise rcw cw emb →
            (∀ b < B, NF.FlowRowsExec.RowEq w b 0 x (xr b)) →
              (∀ b < B, NF.FlowRowsExec.RowEq rcw b 0 ctx (cr b)) →
                (∀ (lps : List α),
                    NF.FlowRowsExec.flowLogProbExec o w emb (NF.FlowRowsExec.compStage o ts) base B x ctx = Except.ok lps →
                      lps.length = B ∧
                        ∀ i < B,
                          ∃ (l : α),
                            lps[i]? = Option.some l ∧
                              NF.FlowRowsExec.flowLogProbExec o w emb (NF.FlowRowsExec.compStage o ts) base 1 (xr i)
                                  (cr i) =
                                Except.ok [l]) ∧
                  (0 < B →
                    ((∃ (err : NF.Density.DErr),
                        NF.FlowRowsExec.flowLogProbExec o w emb (NF.FlowRowsExec.compStage o ts) base B x ctx =
                          Except.error err) ↔
                      ∃ i < B,
                        ∃ (err : NF.Density.DErr),
                          NF.FlowRowsExec.flowLogProbExec o w emb (NF.FlowRowsExec.compStage o ts) base 1 (xr i) (cr i) =
                            Except.error err)) :=
  @NF.FlowRowsExec.flowExec_composite

/-- **`Flow.log_prob` with one executed coupling layer**: values of an accepted batch = the rows alone; raises iff some row alone
    raises -/
theorem flowExec_coupling :
    ∀ {α : Type} (o : XOps α) {rcw cw : ℕ} {emb : ℕ → Array α → Array α}
      {base : NF.FlowRowsExec.BaseD α} {B : ℕ} {x ctx : Array α} {xr cr : ℕ → Array α} (c : NF.ElCfg) (mask : List α)
      (S : ℕ) (uc : Option NF.ElCfg) (uparams : Array α) (net : ℕ → Array α → Array α → Array α),
      NF.FlowRowsExec.NetRowWise ((NF.identityIdx o mask).length * S) cw
          (NF.StructureExec.paramWidth c (NF.transformIdx o mask).length * S) net →
        NF.FlowRowsExec.RowIndepBase cw base →
          NF.FlowRowsExec.EmbRowWise rcw cw emb →
            (∀ b < B, NF.FlowRowsExec.RowEq (mask.length * S) b 0 x (xr b)) →
              (∀ b < B, NF.FlowRowsExec.RowEq rcw b 0 ctx (cr b)) →
                have T := NF.FlowRowsExec.couplingStage o c mask S Bool.false uc uparams net;
                (∀ (lps : List α),
                    NF.FlowRowsExec.flowLogProbExec o (mask.length * S) emb T base B x ctx = Except.ok lps →
                      lps.length = B ∧
                        ∀ i < B,
                          ∃ (l : α),
                            lps[i]? = Option.some l ∧
                              NF.FlowRowsExec.flowLogProbExec o (mask.length * S) emb T base 1 (xr i) (cr i) =
                                Except.ok [l]) ∧
                  (0 < B →
                    ((∃ (err : NF.Density.DErr),
                        NF.FlowRowsExec.flowLogProbExec o (mask.length * S) emb T base B x ctx = Except.error err) ↔
                      ∃ i < B,
                        ∃ (err : NF.Density.DErr),
                          NF.FlowRowsExec.flowLogProbExec o (mask.length * S) emb T base 1 (xr i) (cr i) =
                            Except.error err)) :=
  fun o => fun c mask S uc uparams net hnet hbase hemb hx hctx =>
    have H := NF.FlowRowsExec.FlowRows.mk (NF.FlowRowsExec.rowWise_couplingStage o c mask S false uc uparams _ net hnet)
      hbase hemb hx hctx
    ⟨NF.FlowRowsExec.flowExec_row_independent o H, NF.FlowRowsExec.flowExec_raises_iff o H⟩

/-- … with one executed autoregressive pass -/
theorem flowExec_ar :
    ∀ {α : Type} (o : XOps α) {rcw cw : ℕ} {emb : ℕ → Array α → Array α}
      {base : NF.FlowRowsExec.BaseD α} {B : ℕ} {x ctx : Array α} {xr cr : ℕ → Array α} (c : NF.ElCfg) (F : ℕ)
      (net : ℕ → Array α → Array α → Array α),
      NF.FlowRowsExec.NetRowWise F cw (F * NF.FlowRowsExec.arMult c) net →
        NF.FlowRowsExec.RowIndepBase cw base →
          NF.FlowRowsExec.EmbRowWise rcw cw emb →
            (∀ b < B, NF.FlowRowsExec.RowEq F b 0 x (xr b)) →
              (∀ b < B, NF.FlowRowsExec.RowEq rcw b 0 ctx (cr b)) →
                have T := NF.FlowRowsExec.arStage o c F Bool.false net;
                (∀ (lps : List α),
                    NF.FlowRowsExec.flowLogProbExec o F emb T base B x ctx = Except.ok lps →
                      lps.length = B ∧
                        ∀ i < B,
                          ∃ (l : α),
                            lps[i]? = Option.some l ∧
                              NF.FlowRowsExec.flowLogProbExec o F emb T base 1 (xr i) (cr i) = Except.ok [l]) ∧
                  (0 < B →
                    ((∃ (err : NF.Density.DErr),
                        NF.FlowRowsExec.flowLogProbExec o F emb T base B x ctx = Except.error err) ↔
                      ∃ i < B,
                        ∃ (err : NF.Density.DErr),
                          NF.FlowRowsExec.flowLogProbExec o F emb T base 1 (xr i) (cr i) = Except.error err)) :=
  fun o => fun c F net hnet hbase hemb hx hctx =>
    have H := NF.FlowRowsExec.FlowRows.mk (NF.FlowRowsExec.rowWise_arStage o c F false _ net hnet) hbase hemb hx hctx
    ⟨NF.FlowRowsExec.flowExec_row_independent o H, NF.FlowRowsExec.flowExec_raises_iff o H⟩

/-- … with one executed `Piecewise*CDF` -/
theorem flowExec_cdf :
    ∀ {α : Type} (o : XOps α) {rcw cw : ℕ} {emb : ℕ → Array α → Array α}
      {base : NF.FlowRowsExec.BaseD α} {B : ℕ} {x ctx : Array α} {xr cr : ℕ → Array α} (c : NF.ElCfg) (n : ℕ)
      (params : Array α),
      NF.FlowRowsExec.RowIndepBase cw base →
        NF.FlowRowsExec.EmbRowWise rcw cw emb →
          (∀ b < B, NF.FlowRowsExec.RowEq n b 0 x (xr b)) →
            (∀ b < B, NF.FlowRowsExec.RowEq rcw b 0 ctx (cr b)) →
              have T := NF.FlowRowsExec.cdfStage o c n Bool.false params;
              (∀ (lps : List α),
                  NF.FlowRowsExec.flowLogProbExec o n emb T base B x ctx = Except.ok lps →
                    lps.length = B ∧
                      ∀ i < B,
                        ∃ (l : α),
                          lps[i]? = Option.some l ∧
                            NF.FlowRowsExec.flowLogProbExec o n emb T base 1 (xr i) (cr i) = Except.ok [l]) ∧
                (0 < B →
                  ((∃ (err : NF.Density.DErr), NF.FlowRowsExec.flowLogProbExec o n emb T base B x ctx = Except.error err) ↔
                    ∃ i < B,
                      ∃ (err : NF.Density.DErr),
                        NF.FlowRowsExec.flowLogProbExec o n emb T base 1 (xr i) (cr i) = Except.error err)) :=
  fun o => fun c n params hbase hemb hx hctx =>
    have H := NF.FlowRowsExec.FlowRows.mk (NF.FlowRowsExec.rowWise_cdfStage o c n false params _) hbase hemb hx hctx
    ⟨NF.FlowRowsExec.flowExec_row_independent o H, NF.FlowRowsExec.flowExec_raises_iff o H⟩

theorem rowIndepBase_stdNormal :
    ∀ {α : Type} (o : XOps α) (shape inShape : List ℕ) (c : Bool) (cw : ℕ),
      NF.FlowRowsExec.RowIndepBase cw fun (B : ℕ) (rows : List (List α)) (x : Array α) =>
        NF.Density.stdNormalLogProb o shape inShape (NF.RowIndependenceMore.ctxOf c B) rows :=
  @NF.FlowRowsExec.rowIndepBase_stdNormal

theorem rowIndepBase_diagNormal :
    ∀ {α : Type} (o : XOps α) (shape inShape : List ℕ) (c : Bool)
      (mean logStd : List α) (cw : ℕ),
      NF.FlowRowsExec.RowIndepBase cw fun (B : ℕ) (rows : List (List α)) (x : Array α) =>
        NF.Density.diagNormalLogProb o shape inShape (NF.RowIndependenceMore.ctxOf c B) mean logStd rows :=
  @NF.FlowRowsExec.rowIndepBase_diagNormal

theorem rowIndepBase_condNormal :
    ∀ {α : Type} (o : XOps α) (shape inShape pShape : List ℕ),
      pShape ≠ [] →
        ∀ (cw : ℕ) (enc : ℕ → Array α → List (List α)),
          NF.FlowRowsExec.EncRowWise cw enc →
            NF.FlowRowsExec.RowIndepBase cw fun (B : ℕ) (rows : List (List α)) (e : Array α) =>
              NF.Density.condNormalLogProb o shape inShape (Option.some B) B pShape (enc B e) rows :=
  @NF.FlowRowsExec.rowIndepBase_condNormal

end Properties.C12
