import NflowsModel.Properties.C11
import NflowsModel.Lemmas.LinearFresh
/-!
# C11 (continued) — fresh layers are usable; what the passes return

Proofs in `Lemmas/LinearFresh.lean`.  The constructors are model functions (with the code's
error order, incl. SVD's `assert num_householder % 2 == 0`).  The statements here are about the parameter records `luInit` / `luIdInit` /
`qrInit` / `svdInit` / `svdIdInit`; that the constructors return exactly these on accepted arguments is `LinearFresh.construct_ok`, not
restated here.  These records satisfy the hypotheses of `lu_executed` /
`qr_executed` / `svd_executed` for ALL accepted sizes (`Usable`: LU in both initialisation modes, QR, SVD with `identity_init=False`) — a
fresh layer has an invertible weight, a
two-sided `weight_inverse()`, `inverse ∘ forward = id` on every row of every batch and `logabsdet() = log|det W|`; with
`identity_init=True` and `0 ≤ eps < 1` the fresh weight IS the identity (for SVD the constructor's reflections cancel in pairs),
and `eps < 1` is forced (theorem; no constructor validates `eps`).  The log-abs-dets the PASSES return (`c·ones(B)`, `−c·ones(B)`,
zeros for Householder sequences) are `log|det W|`, `log|det W⁻¹|`, `log|det Q| = 0` of the matrices the accessors describe.
-/
set_option linter.all false
namespace Properties.C11

theorem lu_fresh_usable :
    ∀ (n : ℕ) (eps : ℝ),
      0 ≤ eps →
        ∀ (lo up ud : List ℝ),
          ud.length = n →
            LinearFresh.Usable n (NF.LF.luWeight DualSound.realOps (LinearFresh.luInit DualSound.realOps n eps lo up ud))
              (NF.LF.luWeightInverse DualSound.realOps (LinearFresh.luInit DualSound.realOps n eps lo up ud))
              (NF.LF.luLogabsdet DualSound.realOps (LinearFresh.luInit DualSound.realOps n eps lo up ud))
              (NF.LF.luForward DualSound.realOps (LinearFresh.luInit DualSound.realOps n eps lo up ud))
              (NF.LF.luInverse DualSound.realOps (LinearFresh.luInit DualSound.realOps n eps lo up ud)) 0 :=
  @LinearFresh.lu_fresh_usable

theorem lu_fresh_identity_usable :
    ∀ (n : ℕ) (eps : ℝ),
      0 ≤ eps →
        LinearFresh.Usable n (NF.LF.luWeight DualSound.realOps (LinearFresh.luIdInit DualSound.realOps n eps))
          (NF.LF.luWeightInverse DualSound.realOps (LinearFresh.luIdInit DualSound.realOps n eps))
          (NF.LF.luLogabsdet DualSound.realOps (LinearFresh.luIdInit DualSound.realOps n eps))
          (NF.LF.luForward DualSound.realOps (LinearFresh.luIdInit DualSound.realOps n eps))
          (NF.LF.luInverse DualSound.realOps (LinearFresh.luIdInit DualSound.realOps n eps)) 0 :=
  @LinearFresh.lu_fresh_id_usable

theorem qr_fresh_usable :
    ∀ (n num : ℕ),
      1 ≤ n →
        ∀ (up ld : List ℝ),
          ld.length = n →
            LinearFresh.Usable n (NF.LF.qrWeight DualSound.realOps (LinearFresh.qrInit DualSound.realOps n num up ld))
              (NF.LF.qrWeightInverse DualSound.realOps (LinearFresh.qrInit DualSound.realOps n num up ld))
              (NF.LF.qrLogabsdet DualSound.realOps (LinearFresh.qrInit DualSound.realOps n num up ld))
              (NF.LF.qrForward DualSound.realOps (LinearFresh.qrInit DualSound.realOps n num up ld))
              (NF.LF.qrInverse DualSound.realOps (LinearFresh.qrInit DualSound.realOps n num up ld)) 0 :=
  @LinearFresh.qr_fresh_usable

theorem svd_fresh_usable :
    ∀ (n num : ℕ),
      1 ≤ n →
        ∀ (eps : ℝ),
          0 ≤ eps →
            ∀ (ud : List ℝ),
              ud.length = n →
                LinearFresh.Usable n
                  (NF.LF.svdWeight DualSound.realOps (LinearFresh.svdInit DualSound.realOps n num eps ud))
                  (NF.LF.svdWeightInverse DualSound.realOps (LinearFresh.svdInit DualSound.realOps n num eps ud))
                  (NF.LF.svdLogabsdet DualSound.realOps (LinearFresh.svdInit DualSound.realOps n num eps ud))
                  (NF.LF.svdForward DualSound.realOps (LinearFresh.svdInit DualSound.realOps n num eps ud))
                  (NF.LF.svdInverse DualSound.realOps (LinearFresh.svdInit DualSound.realOps n num eps ud)) 0 :=
  @LinearFresh.svd_fresh_usable

theorem svd_odd_count_rejected :
    ∀ {α : Type} (o : Ops α) (features num : ℤ),
      1 ≤ features →
        num % 2 = 1 →
          ∀ (eps : α) (ds : Option (List α)), LinearFresh.svdConstruct o features num eps ds = Except.error Err.assertion :=
  @LinearFresh.svd_odd_rejected

theorem lu_identity_init_is_identity :
    ∀ (n : ℕ) (eps : ℝ),
      0 ≤ eps →
        eps < 1 →
          LinearBridge.luW (LinearFresh.luIdInit DualSound.realOps n eps) = 1 ∧
            NF.LF.luWeight DualSound.realOps (LinearFresh.luIdInit DualSound.realOps n eps) =
                NF.LF.eye DualSound.realOps n ∧
              NF.LF.luLogabsdet DualSound.realOps (LinearFresh.luIdInit DualSound.realOps n eps) = 0 ∧
                ∀ (xs : List (Fin n → ℝ)),
                  NF.LF.luForward DualSound.realOps (LinearFresh.luIdInit DualSound.realOps n eps) (List.map List.ofFn xs) =
                    List.map List.ofFn xs :=
  @LinearFresh.lu_identity_init

theorem svd_identity_init_is_identity :
    ∀ (n k : ℕ),
      1 ≤ n →
        ∀ (eps : ℝ),
          0 ≤ eps →
            eps < 1 →
              NF.LF.svdWeight DualSound.realOps (LinearFresh.svdIdInit DualSound.realOps n (2 * k) eps) =
                  NF.LF.eye DualSound.realOps n ∧
                NF.LF.svdLogabsdet DualSound.realOps (LinearFresh.svdIdInit DualSound.realOps n (2 * k) eps) = 0 ∧
                  ∀ (xs : List (Fin n → ℝ)),
                    NF.LF.svdForward DualSound.realOps (LinearFresh.svdIdInit DualSound.realOps n (2 * k) eps)
                        (List.map List.ofFn xs) =
                      List.map List.ofFn xs :=
  @LinearFresh.svd_identity_init

theorem identity_init_needs_eps_lt_one :
    ∀ (eps c : ℝ), 1 ≤ eps → NF.LF.softplus DualSound.realOps c + eps ≠ 1 :=
  @LinearFresh.identity_init_needs_eps_lt_one

theorem lu_passes_return_logabsdet :
    ∀ (p : NF.LF.LUParams ℝ),
      p.udiag.length = p.n →
        0 ≤ p.eps →
          p.bias.length = p.n →
            LinearFresh.PassesAgree p.n (NF.LF.luWeight DualSound.realOps p) (NF.LF.luWeightInverse DualSound.realOps p)
              (LinearFresh.luForwardLd DualSound.realOps p) (LinearFresh.luInverseLd DualSound.realOps p)
              (LinearBridge.vecFn p.n p.bias) :=
  fun p hlen heps hb =>
    (LinearBridge.lu_denotes p hlen heps hb).passesAgree (LinearJacobian.luForwardLd_pair _ p) (LinearJacobian.luInverseLd_pair _ p)

theorem qr_passes_return_logabsdet :
    ∀ (p : NF.LF.QRParams ℝ) (vs : List (Fin p.n → ℝ)),
      p.qs = List.map List.ofFn vs →
        (∀ v ∈ vs, v ⬝ᵥ v ≠ 0) →
          p.logDiag.length = p.n →
            p.bias.length = p.n →
              LinearFresh.PassesAgree p.n (NF.LF.qrWeight DualSound.realOps p) (NF.LF.qrWeightInverse DualSound.realOps p)
                (LinearFresh.qrForwardLd DualSound.realOps p) (LinearFresh.qrInverseLd DualSound.realOps p)
                (LinearBridge.vecFn p.n p.bias) :=
  fun p vs hq hv hl hb =>
    (LinearBridge.qr_denotes p vs hq hv hl hb).passesAgree (LinearJacobian.qrForwardLd_pair _ p) (LinearJacobian.qrInverseLd_pair _ p)

theorem svd_passes_return_logabsdet :
    ∀ (p : NF.LF.SVDParams ℝ) (vs1 vs2 : List (Fin p.n → ℝ)),
      p.qs1 = List.map List.ofFn vs1 →
        p.qs2 = List.map List.ofFn vs2 →
          (∀ v ∈ vs1, v ⬝ᵥ v ≠ 0) →
            (∀ v ∈ vs2, v ⬝ᵥ v ≠ 0) →
              p.udiag.length = p.n →
                0 ≤ p.eps →
                  p.bias.length = p.n →
                    LinearFresh.PassesAgree p.n (NF.LF.svdWeight DualSound.realOps p)
                      (NF.LF.svdWeightInverse DualSound.realOps p) (LinearFresh.svdForwardLd DualSound.realOps p)
                      (LinearFresh.svdInverseLd DualSound.realOps p) (LinearBridge.vecFn p.n p.bias) :=
  fun p vs1 vs2 h1 h2 hv1 hv2 hl heps hb =>
    (LinearBridge.svd_denotes p vs1 vs2 h1 h2 hv1 hv2 hl heps hb).passesAgree (LinearJacobian.svdForwardLd_pair _ p)
      (LinearJacobian.svdInverseLd_pair _ p)

theorem householder_passes_return_zero :
    ∀ {n : ℕ} (vs : List (Fin n → ℝ)),
      (∀ v ∈ vs, v ⬝ᵥ v ≠ 0) →
        NF.LF.hhMatrix DualSound.realOps n (List.map List.ofFn vs) = LinearBridge.ofMat (LinearFamily.Q vs) ∧
          Real.log |(LinearFamily.Q vs).det| = 0 ∧
            Real.log |(LinearFamily.Q vs).transpose.det| = 0 ∧
              ∀ (xs : List (Fin n → ℝ)),
                LinearFresh.hhForwardLd DualSound.realOps (List.map List.ofFn vs) (List.map List.ofFn xs) =
                    (List.map (fun (x : Fin n → ℝ) => List.ofFn ((LinearFamily.Q vs).mulVec x)) xs,
                      List.replicate xs.length (Real.log |(LinearFamily.Q vs).det|)) ∧
                  LinearFresh.hhInverseLd DualSound.realOps (List.map List.ofFn vs) (List.map List.ofFn xs) =
                      (List.map (fun (x : Fin n → ℝ) => List.ofFn ((LinearFamily.Q vs).transpose.mulVec x)) xs,
                        List.replicate xs.length (Real.log |(LinearFamily.Q vs).transpose.det|)) ∧
                    (LinearFresh.hhInverseLd DualSound.realOps (List.map List.ofFn vs)
                          (LinearFresh.hhForwardLd DualSound.realOps (List.map List.ofFn vs) (List.map List.ofFn xs)).1).1 =
                      List.map List.ofFn xs :=
  @LinearFresh.hh_passes

end Properties.C11
