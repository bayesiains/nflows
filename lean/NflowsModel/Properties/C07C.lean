import NflowsModel.Properties.C07
import NflowsModel.Lemmas.CouplingConsequences
/-!
# C07 (continued) — the consequences named in the property text, about the EXECUTED `couplingApply`

`Lemmas/CouplingConsequences.lean`: "monotone in each transformed feature, triangular Jacobian", and the bit-for-bit pass-through
without the `MaskDisjoint` hypothesis of `Properties/C07.lean`.  For every `XOps α` (so bit for bit at `Float`), every
batch size, `S`, family, direction and optional unconditional transform, for ANY conditioner and with NO hypothesis on the mask: two
inputs that agree on the identity channels give the same conditioner input, the same parameter array and the same element functions
(`exec_coupling_param_dependence`), and overwriting any OTHER transformed entry leaves an output entry unchanged
(`exec_coupling_no_cross_dependence`); identity channels pass through under the one hypothesis `o.gt mask[ch] 0 = false`, which cannot
be dropped (`passthrough_needs_not_gt`: an `XOps` where `≤` and `>` overlap).  At the reals: each transformed feature is a strictly
increasing function of its own input with the identity channels fixed (additive, affine, RQ bounded / tails, linear; both directions;
additive and affine for images too), and the Fréchet derivative of the executed row map has identity rows `δ_ij`, zero between distinct
transformed channels, diagonal `exp(ld_i) > 0`, determinant `∏ exp(ld_i) = exp(ld[b]) > 0` — triangular up to the mask's permutation,
invertible, a local diffeomorphism (under strict differentiability).
-/
set_option linter.all false
namespace Properties.C07

theorem exec_coupling_param_dependence :
    ∀ {α : Type} (o : XOps α) (c : NF.ElCfg) (mask : List α)
      (S : ℕ) (inverse : Bool) (uc : Option NF.ElCfg) (uparams : Array α) (net : Array α → Array α → Array α) {B : ℕ}
      {x x' : Array α} (ctx : Array α),
      NF.CouplingConsequences.IdAgree o mask S B x x' →
        (NF.CouplingConsequences.layer o c mask S inverse uc uparams net B x ctx).condIn =
            (NF.CouplingConsequences.layer o c mask S inverse uc uparams net B x' ctx).condIn ∧
          NF.CouplingConsequences.paramsOf o mask S inverse uc uparams net B x ctx =
              NF.CouplingConsequences.paramsOf o mask S inverse uc uparams net B x' ctx ∧
            (∀ (b t s : ℕ),
                NF.condSlice o c.mult (NF.transformIdx o mask).length S
                    (NF.CouplingConsequences.paramsOf o mask S inverse uc uparams net B x ctx) b t s =
                  NF.condSlice o c.mult (NF.transformIdx o mask).length S
                    (NF.CouplingConsequences.paramsOf o mask S inverse uc uparams net B x' ctx) b t s) ∧
              ∀ (b t s : ℕ) (xi : α),
                NF.couplingEl o c (NF.transformIdx o mask).length S
                    (NF.CouplingConsequences.paramsOf o mask S inverse uc uparams net B x ctx) inverse b t s xi =
                  NF.couplingEl o c (NF.transformIdx o mask).length S
                    (NF.CouplingConsequences.paramsOf o mask S inverse uc uparams net B x' ctx) inverse b t s xi :=
  @NF.CouplingConsequences.exec_coupling_param_dependence

theorem exec_coupling_param_dependence_row :
    ∀ {α : Type} (o : XOps α) (c : NF.ElCfg) (mask : List α)
      (S : ℕ) (inverse : Bool) (uc : Option NF.ElCfg) (uparams : Array α) (cw : ℕ) (net : ℕ → Array α → Array α → Array α),
      NF.FlowRowsExec.NetRowWise ((NF.identityIdx o mask).length * S) cw
          (NF.StructureExec.paramWidth c (NF.transformIdx o mask).length * S) net →
        ∀ {B B' b b' : ℕ} (x x' ctx ctx' : Array α),
          b < B →
            b' < B' →
              (∀ (ch s : ℕ),
                  ch ∈ NF.identityIdx o mask →
                    s < S → x[NF.flatIdx mask.length S b ch s]? = x'[NF.flatIdx mask.length S b' ch s]?) →
                NF.FlowRowsExec.RowEq cw b b' ctx ctx' →
                  NF.StructureExec.RowAgree (NF.StructureExec.paramWidth c (NF.transformIdx o mask).length) S b b'
                      (net B (NF.FlowRowsExec.condInOf o mask S inverse uc uparams B x) ctx)
                      (net B' (NF.FlowRowsExec.condInOf o mask S inverse uc uparams B' x') ctx') ∧
                    ∀ (t s : ℕ) (xi : α),
                      t < (NF.transformIdx o mask).length →
                        s < S →
                          NF.couplingEl o c (NF.transformIdx o mask).length S
                              (net B (NF.FlowRowsExec.condInOf o mask S inverse uc uparams B x) ctx) inverse b t s xi =
                            NF.couplingEl o c (NF.transformIdx o mask).length S
                              (net B' (NF.FlowRowsExec.condInOf o mask S inverse uc uparams B' x') ctx') inverse b' t s xi :=
  @NF.CouplingConsequences.exec_coupling_param_dependence_row

theorem exec_coupling_no_cross_dependence :
    ∀ {α : Type} (o : XOps α) (c : NF.ElCfg) (mask : List α)
      (S : ℕ) (inverse : Bool) (uc : Option NF.ElCfg) (uparams : Array α) (net : Array α → Array α → Array α) {B b t s : ℕ},
      b < B →
        t < (NF.transformIdx o mask).length →
          s < S →
            ∀ {x x' : Array α} (ctx : Array α),
              NF.CouplingConsequences.IdAgree o mask S B x x' →
                x[NF.flatIdx mask.length S b ((NF.transformIdx o mask).getD t 0) s]? =
                    x'[NF.flatIdx mask.length S b ((NF.transformIdx o mask).getD t 0) s]? →
                  (NF.CouplingConsequences.layer o c mask S inverse uc uparams net B x
                          ctx).out[NF.flatIdx mask.length S b ((NF.transformIdx o mask).getD t 0) s]? =
                    (NF.CouplingConsequences.layer o c mask S inverse uc uparams net B x'
                          ctx).out[NF.flatIdx mask.length S b ((NF.transformIdx o mask).getD t 0) s]? :=
  @NF.CouplingConsequences.exec_coupling_no_cross_dependence

theorem exec_coupling_no_cross_dependence_set :
    ∀ {α : Type} (o : XOps α) (c : NF.ElCfg)
      (mask : List α) (S : ℕ) (inverse : Bool) (uc : Option NF.ElCfg) (uparams : Array α)
      (net : Array α → Array α → Array α) {B b t s b₂ ch₂ s₂ : ℕ},
      b < B →
        t < (NF.transformIdx o mask).length →
          s < S →
            ∀ (x ctx : Array α) (v : α),
              ch₂ < mask.length →
                s₂ < S →
                  ch₂ ∉ NF.identityIdx o mask →
                    ¬(b₂ = b ∧ ch₂ = (NF.transformIdx o mask).getD t 0 ∧ s₂ = s) →
                      (NF.CouplingConsequences.layer o c mask S inverse uc uparams net B
                              (x.setIfInBounds (NF.flatIdx mask.length S b₂ ch₂ s₂) v)
                              ctx).out[NF.flatIdx mask.length S b ((NF.transformIdx o mask).getD t 0) s]? =
                        (NF.CouplingConsequences.layer o c mask S inverse uc uparams net B x
                              ctx).out[NF.flatIdx mask.length S b ((NF.transformIdx o mask).getD t 0) s]? :=
  @NF.CouplingConsequences.exec_coupling_no_cross_dependence_set

theorem exec_coupling_feature_monotone :
    ∀ (e : Float → ℝ) (c : NF.ElCfg) (mask : List ℝ) (B : ℕ)
      (net : Array ℝ → Array ℝ) (inverse : Bool) (x : Array ℝ),
      x.size = B * mask.length →
        ∀ {b : ℕ},
          b < B →
            ∀ (v : Fin mask.length → ℝ),
              (∀ (k : Fin mask.length),
                  NF.StructureExec.isT (NF.realX e) mask k = Bool.false →
                    v k = NF.StructureExec.rowOf (NF.realX e) mask.length b x k) →
                ∀ (i : Fin mask.length),
                  NF.StructureExec.isT (NF.realX e) mask i = Bool.true →
                    ∀ (D : Set ℝ),
                      StrictMonoOn
                          (NF.CouplingJacobian.couplingElMap e c mask
                            (net (NF.CouplingJacobian.idSplit (NF.realX e) mask B x)) inverse b i)
                          D →
                        StrictMonoOn
                          (fun (t : ℝ) =>
                            NF.CouplingJacobian.couplingRowMap e c mask B net inverse x b (Function.update v i t) i)
                          D :=
  @NF.CouplingConsequences.exec_coupling_feature_monotone

theorem exec_coupling_feature_monotone_additive :
    ∀ (e : Float → ℝ) (c : NF.ElCfg) (mask : List ℝ)
      (B : ℕ) (net : Array ℝ → Array ℝ) (inverse : Bool),
      c.kind = "additive" →
        ∀ (x : Array ℝ),
          x.size = B * mask.length →
            ∀ {b : ℕ},
              b < B →
                ∀ (v : Fin mask.length → ℝ),
                  (∀ (k : Fin mask.length),
                      NF.StructureExec.isT (NF.realX e) mask k = Bool.false →
                        v k = NF.StructureExec.rowOf (NF.realX e) mask.length b x k) →
                    ∀ (i : Fin mask.length),
                      NF.StructureExec.isT (NF.realX e) mask i = Bool.true →
                        StrictMono fun (t : ℝ) =>
                          NF.CouplingJacobian.couplingRowMap e c mask B net inverse x b (Function.update v i t) i :=
  @NF.CouplingConsequences.exec_coupling_feature_monotone_additive

theorem exec_coupling_feature_monotone_affine :
    ∀ (e : Float → ℝ) (c : NF.ElCfg) (mask : List ℝ) (B : ℕ)
      (net : Array ℝ → Array ℝ) (inverse : Bool),
      0 ≤ e 1e-3 →
        c.kind = "affine" →
          ∀ (x : Array ℝ),
            x.size = B * mask.length →
              ∀ {b : ℕ},
                b < B →
                  ∀ (v : Fin mask.length → ℝ),
                    (∀ (k : Fin mask.length),
                        NF.StructureExec.isT (NF.realX e) mask k = Bool.false →
                          v k = NF.StructureExec.rowOf (NF.realX e) mask.length b x k) →
                      ∀ (i : Fin mask.length),
                        NF.StructureExec.isT (NF.realX e) mask i = Bool.true →
                          StrictMono fun (t : ℝ) =>
                            NF.CouplingJacobian.couplingRowMap e c mask B net inverse x b (Function.update v i t) i :=
  @NF.CouplingConsequences.exec_coupling_feature_monotone_affine

theorem exec_coupling_feature_monotone_rq_tails :
    ∀ (e : Float → ℝ) (c : NF.ElCfg) (mask : List ℝ)
      (B : ℕ) (net : Array ℝ → Array ℝ) (inverse : Bool),
      NF.StructureExec.RQTailsCfgValid e c →
        ∀ (x : Array ℝ),
          x.size = B * mask.length →
            ∀ {b : ℕ},
              b < B →
                ∀ (v : Fin mask.length → ℝ),
                  (∀ (k : Fin mask.length),
                      NF.StructureExec.isT (NF.realX e) mask k = Bool.false →
                        v k = NF.StructureExec.rowOf (NF.realX e) mask.length b x k) →
                    ∀ (i : Fin mask.length),
                      NF.StructureExec.isT (NF.realX e) mask i = Bool.true →
                        StrictMono fun (t : ℝ) =>
                          NF.CouplingJacobian.couplingRowMap e c mask B net inverse x b (Function.update v i t) i :=
  @NF.CouplingConsequences.exec_coupling_feature_monotone_rq_tails

theorem exec_coupling_feature_monotone_rq :
    ∀ (e : Float → ℝ) (c : NF.ElCfg) (mask : List ℝ) (B : ℕ)
      (net : Array ℝ → Array ℝ),
      c.kind = "rq" →
        c.tails = Bool.false →
          ∀ (x : Array ℝ),
            x.size = B * mask.length →
              ∀ {b : ℕ},
                b < B →
                  ∀ (v : Fin mask.length → ℝ),
                    (∀ (k : Fin mask.length),
                        NF.StructureExec.isT (NF.realX e) mask k = Bool.false →
                          v k = NF.StructureExec.rowOf (NF.realX e) mask.length b x k) →
                      ∀ (i : Fin mask.length),
                        NF.StructureExec.isT (NF.realX e) mask i = Bool.true →
                          RQWhole.RQValid e (NF.StructureExec.rqCfgOf c)
                              (NF.StructureExec.rqW (NF.realX e) c
                                (NF.LayerDerivMore.chanSlice e c mask
                                  (net (NF.CouplingJacobian.idSplit (NF.realX e) mask B x)) b i))
                              (NF.StructureExec.rqH (NF.realX e) c
                                (NF.LayerDerivMore.chanSlice e c mask
                                  (net (NF.CouplingJacobian.idSplit (NF.realX e) mask B x)) b i))
                              (NF.StructureExec.rqD c
                                (NF.LayerDerivMore.chanSlice e c mask
                                  (net (NF.CouplingJacobian.idSplit (NF.realX e) mask B x)) b i)) →
                            StrictMonoOn
                                (fun (t : ℝ) =>
                                  NF.CouplingJacobian.couplingRowMap e c mask B net Bool.false x b (Function.update v i t)
                                    i)
                                (Set.Icc (e (NF.StructureExec.rqCfgOf c).box.left)
                                  (e (NF.StructureExec.rqCfgOf c).box.right)) ∧
                              StrictMonoOn
                                (fun (t : ℝ) =>
                                  NF.CouplingJacobian.couplingRowMap e c mask B net Bool.true x b (Function.update v i t) i)
                                (Set.Icc (e (NF.StructureExec.rqCfgOf c).box.bottom)
                                  (e (NF.StructureExec.rqCfgOf c).box.top)) :=
  @NF.CouplingConsequences.exec_coupling_feature_monotone_rq

theorem exec_coupling_feature_monotone_lin :
    ∀ (e : Float → ℝ) (c : NF.ElCfg) (mask : List ℝ) (B : ℕ)
      (net : Array ℝ → Array ℝ),
      c.kind = "lin" →
        c.tails = Bool.false →
          ∀ (x : Array ℝ),
            x.size = B * mask.length →
              ∀ {b : ℕ},
                b < B →
                  ∀ (v : Fin mask.length → ℝ),
                    (∀ (k : Fin mask.length),
                        NF.StructureExec.isT (NF.realX e) mask k = Bool.false →
                          v k = NF.StructureExec.rowOf (NF.realX e) mask.length b x k) →
                      ∀ (i : Fin mask.length),
                        NF.StructureExec.isT (NF.realX e) mask i = Bool.true →
                          LinWhole.LinValid e (NF.LayerDerivMore.linBoxOf c) 1e-6
                              (NF.LayerDerivMore.chanSlice e c mask
                                (net (NF.CouplingJacobian.idSplit (NF.realX e) mask B x)) b i) →
                            StrictMonoOn
                                (fun (t : ℝ) =>
                                  NF.CouplingJacobian.couplingRowMap e c mask B net Bool.false x b (Function.update v i t)
                                    i)
                                (Set.Icc (e (NF.LayerDerivMore.linBoxOf c).left) (e (NF.LayerDerivMore.linBoxOf c).right)) ∧
                              StrictMonoOn
                                (fun (t : ℝ) =>
                                  NF.CouplingJacobian.couplingRowMap e c mask B net Bool.true x b (Function.update v i t) i)
                                (Set.Icc (e (NF.LayerDerivMore.linBoxOf c).bottom) (e (NF.LayerDerivMore.linBoxOf c).top)) :=
  @NF.CouplingConsequences.exec_coupling_feature_monotone_lin

theorem exec_coupling_entry_monotone :
    ∀ (e : Float → ℝ) (c : NF.ElCfg) (mask : List ℝ) (S : ℕ)
      (inverse : Bool),
      0 ≤ e 1e-3 →
        c.kind = "additive" ∨ c.kind = "affine" →
          ∀ (net : Array ℝ → Array ℝ → Array ℝ) {B b t s : ℕ},
            b < B →
              t < (NF.transformIdx (NF.realX e) mask).length →
                s < S →
                  ∀ (x ctx : Array ℝ),
                    NF.flatIdx mask.length S b ((NF.transformIdx (NF.realX e) mask).getD t 0) s < x.size →
                      ∃ (f : ℝ → ℝ),
                        StrictMono f ∧
                          ∀ (τ : ℝ),
                            (NF.CouplingConsequences.layer (NF.realX e) c mask S inverse Option.none #[] net B
                                    (x.setIfInBounds
                                      (NF.flatIdx mask.length S b ((NF.transformIdx (NF.realX e) mask).getD t 0) s) τ)
                                    ctx).out[NF.flatIdx mask.length S b ((NF.transformIdx (NF.realX e) mask).getD t 0) s]? =
                              Option.some (f τ) :=
  @NF.CouplingConsequences.exec_coupling_entry_monotone

theorem exec_coupling_jacobian_triangular :
    ∀ (e : Float → ℝ) (c : NF.ElCfg) (mask : List ℝ) (B : ℕ)
      (net : Array ℝ → Array ℝ) (inverse : Bool) (x : Array ℝ),
      x.size = B * mask.length →
        ∀ {b : ℕ},
          b < B →
            ∀ {L : (Fin mask.length → ℝ) →L[ℝ] Fin mask.length → ℝ},
              HasFDerivAt (NF.CouplingJacobian.couplingRowMap e c mask B net inverse x b) L
                  (NF.StructureExec.rowOf (NF.realX e) mask.length b x) →
                ∀ (d : Fin mask.length → ℝ),
                  (∀ (i : Fin mask.length),
                      NF.StructureExec.isT (NF.realX e) mask i = Bool.true →
                        HasDerivAt
                          (NF.CouplingJacobian.couplingElMap e c mask
                            (net (NF.CouplingJacobian.idSplit (NF.realX e) mask B x)) inverse b i)
                          (d i) (NF.StructureExec.rowOf (NF.realX e) mask.length b x i)) →
                    (∀ (i j : Fin mask.length),
                        NF.StructureExec.isT (NF.realX e) mask i = Bool.false →
                          (L : (Fin mask.length → ℝ) → Fin mask.length → ℝ) (Pi.single j 1) i = if i = j then 1 else 0) ∧
                      (∀ (i j : Fin mask.length),
                          NF.StructureExec.isT (NF.realX e) mask i = Bool.true →
                            NF.StructureExec.isT (NF.realX e) mask j = Bool.true →
                              j ≠ i → (L : (Fin mask.length → ℝ) → Fin mask.length → ℝ) (Pi.single j 1) i = 0) ∧
                        ∀ (i : Fin mask.length),
                          NF.StructureExec.isT (NF.realX e) mask i = Bool.true →
                            (L : (Fin mask.length → ℝ) → Fin mask.length → ℝ) (Pi.single i 1) i = d i :=
  @NF.CouplingConsequences.exec_coupling_jacobian_triangular

theorem exec_coupling_jacobian_diag_pos :
    ∀ (e : Float → ℝ) (c : NF.ElCfg) (mask : List ℝ) (B : ℕ)
      (net : Array ℝ → Array ℝ) (inverse : Bool) (x : Array ℝ),
      x.size = B * mask.length →
        ∀ {b : ℕ},
          b < B →
            ∀ {L : (Fin mask.length → ℝ) →L[ℝ] Fin mask.length → ℝ},
              HasFDerivAt (NF.CouplingJacobian.couplingRowMap e c mask B net inverse x b) L
                  (NF.StructureExec.rowOf (NF.realX e) mask.length b x) →
                (∀ (i : Fin mask.length),
                    NF.StructureExec.isT (NF.realX e) mask i = Bool.true →
                      HasDerivAt
                        (NF.CouplingJacobian.couplingElMap e c mask
                          (net (NF.CouplingJacobian.idSplit (NF.realX e) mask B x)) inverse b i)
                        (Real.exp
                          (NF.CouplingJacobian.couplingElLd e c mask
                            (net (NF.CouplingJacobian.idSplit (NF.realX e) mask B x)) inverse b i
                            (NF.StructureExec.rowOf (NF.realX e) mask.length b x i)))
                        (NF.StructureExec.rowOf (NF.realX e) mask.length b x i)) →
                  ∀ (i : Fin mask.length),
                    NF.StructureExec.isT (NF.realX e) mask i = Bool.true →
                      (L : (Fin mask.length → ℝ) → Fin mask.length → ℝ) (Pi.single i 1) i =
                          Real.exp
                            (NF.CouplingJacobian.couplingElLd e c mask
                              (net (NF.CouplingJacobian.idSplit (NF.realX e) mask B x)) inverse b i
                              (NF.StructureExec.rowOf (NF.realX e) mask.length b x i)) ∧
                        0 < (L : (Fin mask.length → ℝ) → Fin mask.length → ℝ) (Pi.single i 1) i :=
  @NF.CouplingConsequences.exec_coupling_jacobian_diag_pos

theorem exec_coupling_jacobian_det_pos :
    ∀ (e : Float → ℝ) (c : NF.ElCfg) (mask : List ℝ) (B : ℕ)
      (net : Array ℝ → Array ℝ) (inverse : Bool) (x : Array ℝ),
      x.size = B * mask.length →
        ∀ {b : ℕ},
          b < B →
            ∀ {L : (Fin mask.length → ℝ) →L[ℝ] Fin mask.length → ℝ},
              HasFDerivAt (NF.CouplingJacobian.couplingRowMap e c mask B net inverse x b) L
                  (NF.StructureExec.rowOf (NF.realX e) mask.length b x) →
                (∀ (i : Fin mask.length),
                    NF.StructureExec.isT (NF.realX e) mask i = Bool.true →
                      HasDerivAt
                        (NF.CouplingJacobian.couplingElMap e c mask
                          (net (NF.CouplingJacobian.idSplit (NF.realX e) mask B x)) inverse b i)
                        (Real.exp
                          (NF.CouplingJacobian.couplingElLd e c mask
                            (net (NF.CouplingJacobian.idSplit (NF.realX e) mask B x)) inverse b i
                            (NF.StructureExec.rowOf (NF.realX e) mask.length b x i)))
                        (NF.StructureExec.rowOf (NF.realX e) mask.length b x i)) →
                  (L.det =
                      ∏ i : Fin mask.length,
                        if NF.StructureExec.isT (NF.realX e) mask i = Bool.true then
                          Real.exp
                            (NF.CouplingJacobian.couplingElLd e c mask
                              (net (NF.CouplingJacobian.idSplit (NF.realX e) mask B x)) inverse b i
                              (NF.StructureExec.rowOf (NF.realX e) mask.length b x i))
                        else 1) ∧
                    0 < L.det ∧
                      ∃ (l : ℝ),
                        (NF.CouplingJacobian.couplingRun (NF.realX e) c mask B net inverse x).ld[b]? = Option.some l ∧
                          L.det = Real.exp l :=
  @NF.CouplingConsequences.exec_coupling_jacobian_det_pos

theorem exec_coupling_jacobian_invertible :
    ∀ (e : Float → ℝ) (c : NF.ElCfg) (mask : List ℝ) (B : ℕ)
      (net : Array ℝ → Array ℝ) (inverse : Bool) (x : Array ℝ),
      x.size = B * mask.length →
        ∀ {b : ℕ},
          b < B →
            ∀ {L : (Fin mask.length → ℝ) →L[ℝ] Fin mask.length → ℝ},
              HasFDerivAt (NF.CouplingJacobian.couplingRowMap e c mask B net inverse x b) L
                  (NF.StructureExec.rowOf (NF.realX e) mask.length b x) →
                (∀ (i : Fin mask.length),
                    NF.StructureExec.isT (NF.realX e) mask i = Bool.true →
                      HasDerivAt
                        (NF.CouplingJacobian.couplingElMap e c mask
                          (net (NF.CouplingJacobian.idSplit (NF.realX e) mask B x)) inverse b i)
                        (Real.exp
                          (NF.CouplingJacobian.couplingElLd e c mask
                            (net (NF.CouplingJacobian.idSplit (NF.realX e) mask B x)) inverse b i
                            (NF.StructureExec.rowOf (NF.realX e) mask.length b x i)))
                        (NF.StructureExec.rowOf (NF.realX e) mask.length b x i)) →
                  ∃ (L' : (Fin mask.length → ℝ) ≃L[ℝ] Fin mask.length → ℝ),
                    (↑L' : (Fin mask.length → ℝ) →L[ℝ] Fin mask.length → ℝ) = L :=
  @NF.CouplingConsequences.exec_coupling_jacobian_invertible

theorem exec_coupling_local_diffeo :
    ∀ (e : Float → ℝ) (c : NF.ElCfg) (mask : List ℝ) (B : ℕ)
      (net : Array ℝ → Array ℝ) (inverse : Bool) (x : Array ℝ),
      x.size = B * mask.length →
        ∀ {b : ℕ},
          b < B →
            ∀ {L : (Fin mask.length → ℝ) →L[ℝ] Fin mask.length → ℝ},
              HasStrictFDerivAt (NF.CouplingJacobian.couplingRowMap e c mask B net inverse x b) L
                  (NF.StructureExec.rowOf (NF.realX e) mask.length b x) →
                (∀ (i : Fin mask.length),
                    NF.StructureExec.isT (NF.realX e) mask i = Bool.true →
                      HasDerivAt
                        (NF.CouplingJacobian.couplingElMap e c mask
                          (net (NF.CouplingJacobian.idSplit (NF.realX e) mask B x)) inverse b i)
                        (Real.exp
                          (NF.CouplingJacobian.couplingElLd e c mask
                            (net (NF.CouplingJacobian.idSplit (NF.realX e) mask B x)) inverse b i
                            (NF.StructureExec.rowOf (NF.realX e) mask.length b x i)))
                        (NF.StructureExec.rowOf (NF.realX e) mask.length b x i)) →
                  ∃ (φ : OpenPartialHomeomorph (Fin mask.length → ℝ) (Fin mask.length → ℝ)) (L' :
                    (Fin mask.length → ℝ) ≃L[ℝ] Fin mask.length → ℝ),
                    (↑φ : (Fin mask.length → ℝ) → Fin mask.length → ℝ) =
                        NF.CouplingJacobian.couplingRowMap e c mask B net inverse x b ∧
                      NF.StructureExec.rowOf (NF.realX e) mask.length b x ∈ φ.source ∧
                        (↑L' : (Fin mask.length → ℝ) →L[ℝ] Fin mask.length → ℝ) = L ∧
                          HasStrictFDerivAt (↑φ.symm : (Fin mask.length → ℝ) → Fin mask.length → ℝ)
                            (↑L'.symm : (Fin mask.length → ℝ) →L[ℝ] Fin mask.length → ℝ)
                            (NF.CouplingJacobian.couplingRowMap e c mask B net inverse x b
                              (NF.StructureExec.rowOf (NF.realX e) mask.length b x)) :=
  @NF.CouplingConsequences.exec_coupling_local_diffeo

theorem exec_identity_passthrough_weak :
    ∀ {α : Type} (o : XOps α) (c : NF.ElCfg) (mask : List α)
      (S : ℕ) (inverse : Bool) (uparams : Array α) (B : ℕ) (x params : Array α) {b ch s : ℕ},
      ch < mask.length →
        s < S →
          o.gt (mask.getD ch o.zero) o.zero = Bool.false →
            (NF.couplingApply o c mask B S x params inverse Option.none uparams).out[NF.flatIdx mask.length S b ch s]? =
              x[NF.flatIdx mask.length S b ch s]? :=
  @NF.CouplingConsequences.exec_identity_passthrough_weak

theorem exec_identity_unconditional :
    ∀ {α : Type} (o : XOps α) (c : NF.ElCfg) (mask : List α) (S : ℕ)
      (inverse : Bool) (uparams : Array α) (ucfg : NF.ElCfg) (B : ℕ) (x params : Array α) {b t s : ℕ},
      b < B →
        t < (NF.identityIdx o mask).length →
          s < S →
            (NF.identityIdx o mask).getD t 0 ∉ NF.transformIdx o mask →
              (NF.couplingApply o c mask B S x params inverse (Option.some ucfg)
                      uparams).out[NF.flatIdx mask.length S b ((NF.identityIdx o mask).getD t 0) s]? =
                NF.StructureExec.selOut
                  (NF.elTransform o ucfg inverse (NF.ucSlice o ucfg.mult S uparams t s)
                    (x.getD (NF.flatIdx mask.length S b ((NF.identityIdx o mask).getD t 0) s) o.zero))
                  x[NF.flatIdx mask.length S b ((NF.identityIdx o mask).getD t 0) s]? :=
  @NF.CouplingConsequences.exec_identity_unconditional

theorem exec_transformed_entry :
    ∀ {α : Type} (o : XOps α) (c : NF.ElCfg) (mask : List α) (S : ℕ)
      (inverse : Bool) (uparams : Array α) (B : ℕ) (x params : Array α) {b ch s : ℕ},
      b < B →
        ch < mask.length →
          s < S →
            o.gt (mask.getD ch o.zero) o.zero = Bool.true →
              ∃ t < (NF.transformIdx o mask).length,
                (NF.transformIdx o mask).getD t 0 = ch ∧
                  (NF.couplingApply o c mask B S x params inverse Option.none
                          uparams).out[NF.flatIdx mask.length S b ch s]? =
                    NF.StructureExec.selOut
                      (NF.couplingEl o c (NF.transformIdx o mask).length S params inverse b t s
                        (x.getD (NF.flatIdx mask.length S b ch s) o.zero))
                      x[NF.flatIdx mask.length S b ch s]? :=
  @NF.CouplingConsequences.exec_transformed_entry

theorem passthrough_needs_not_gt :
    NF.identityIdx NF.CouplingConsequences.overlapX [0] = [0] ∧
      NF.transformIdx NF.CouplingConsequences.overlapX [0] = [0] ∧
        (NF.couplingApply NF.CouplingConsequences.overlapX { kind := "additive" } [0] 1 1 #[3] #[5] Bool.false).out = #[8] :=
  @NF.CouplingConsequences.passthrough_needs_not_gt

end Properties.C07
