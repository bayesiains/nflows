import NflowsModel.Properties.C19
import NflowsModel.Lemmas.RoundCompose
import NflowsModel.Lemmas.RoundFlow
import NflowsModel.Lemmas.RoundNearest
/-!
# C19 (continued) — the numeric clause in the standard model of floating-point arithmetic

`Properties/C19.lean` carries the dtype clause.  This file adds what a theorem can carry of the numeric clause
("float32 agrees with float64 to single-precision accuracy **scaled by conditioning**"): the EXECUTED model programs
are run at `RoundModel.rndX r e` — the real instance `NF.realX e` with every arithmetic / transcendental primitive
followed by a rounding `r` with `|r x - x| ≤ u |x|` (Higham's standard model, unit roundoff `u`, any rounding direction,
no overflow / underflow) — and compared with the exact run and with a run in a second precision.

The model is NOT vacuous and not informal: `RoundNearest.fl p` is round-to-nearest, ties-to-even, to `p` significant bits with an
unbounded exponent range, `round_to_nearest_even_is_standard_model` proves `Rnd 2^-p (fl p)` for every real, and
`ieee_round_to_nearest_is_fl` shows that ANY function meeting IEEE-754's specification of `roundTiesToEven` (a finite number of
the format, nearest, even significand at a tie) coincides with `fl 24` / `fl 53` on the normal range of binary32 / binary64.
TRUSTED, not proved (Lean's `Float` / `Float32` are opaque to the kernel): (1) each primitive of the driver at `float32X` / `floatX`
returns `roundTiesToEven` of the exact real result (libm transcendentals are accurate to a few ulp: a `Rnd (k·u)`), (2) no
intermediate result leaves the normal range (no overflow, no subnormal result) — under (1) and (2) the driver's run is the run at
`rndX (fl 24) e` / `rndX (fl 53) e` on the values it meets.  Overflow, NaN and the "stays finite" half of C19 are outside this
model and stay with the executed correspondence.  Programs with data-dependent branches on rounded non-zero constants
(spline bin search, Sigmoid/Tanh domain checks) are NOT analysed here.
-/
namespace Properties.C19
open NF RoundModel

variable {u32 u64 : ℝ} {r32 r64 : ℝ → ℝ} (e : Float → ℝ)

/-- executed inner product (the fold of `Core/LinearFamily.dot`, first addition to zero included) in two precisions:
    the difference is bounded by the two rounding budgets times `Σ |x_i| |w_i|` — the conditioning scale of the
    property, NOT `|Σ x_i w_i|` -/
theorem dot_two_precisions (h32 : Rnd u32 r32) (h64 : Rnd u64 r64) (xs ws : List ℝ) :
    |LF.dot (rndOps r32) xs ws - LF.dot (rndOps r64) xs ws|
      ≤ (((1 + u32) ^ (min xs.length ws.length + 1) - 1) + ((1 + u64) ^ (min xs.length ws.length + 1) - 1))
          * absDot xs ws :=
  f32_f64_agree_dot h32 h64 xs ws

/-- the same bound in Higham's `γ_n = n u / (1 - n u)` form -/
theorem dot_two_precisions_gamma (h32 : Rnd u32 r32) (h64 : Rnd u64 r64) (xs ws : List ℝ) (n : ℕ)
    (hn : n = min xs.length ws.length + 1) (h1 : n * u32 < 1) (h2 : n * u64 < 1) :
    |LF.dot (rndOps r32) xs ws - LF.dot (rndOps r64) xs ws|
      ≤ (n * u32 / (1 - n * u32) + n * u64 / (1 - n * u64)) * absDot xs ws := by
  subst hn
  refine (f32_f64_agree_dot h32 h64 xs ws).trans (mul_le_mul_of_nonneg_right ?_ (absDot_nonneg _ _))
  exact add_le_add (pow_sub_one_le_gamma h32.u_nonneg _ h1) (pow_sub_one_le_gamma h64.u_nonneg _ h2)

/-- one entry of the executed `F.linear(X, W, b)` (row `k` of the batch, output feature `i`) in two precisions -/
theorem linear_two_precisions (h32 : Rnd u32 r32) (h64 : Rnd u64 r64)
    (W : List (List ℝ)) (b : List ℝ) (X : List (List ℝ)) (k i : ℕ) (hk : k < X.length) (hi : i < W.length)
    (hb : i < b.length) :
    |((LF.linear (rndOps r32) W b X)[k]'(by simpa [LF.linear] using hk))[i]'(by
          simp [LF.linear, LF.addV, LF.matVec]; omega)
        - ((LF.linear (rndOps r64) W b X)[k]'(by simpa [LF.linear] using hk))[i]'(by
          simp [LF.linear, LF.addV, LF.matVec]; omega)|
      ≤ (((1 + u32) ^ (min (W[i]).length (X[k]).length + 2) - 1)
          + ((1 + u64) ^ (min (W[i]).length (X[k]).length + 2) - 1)) * absDot W[i] X[k]
        + (u32 + u64) * |b[i]| := by
  simp only [LF.linear, LF.addV, LF.matVec, List.getElem_map, List.getElem_zipWith]
  exact (tri (linear_entry_err h32 _ _ _) (linear_entry_err h64 _ _ _)).trans_eq (by ring)

/-- the executed point-wise affine element, forward, in two precisions: output and log-abs-det -/
theorem affine_two_precisions (h32 : Rnd u32 r32) (h64 : Rnd u64 r64) (s t x : ℝ) {y l y' l' : ℝ}
    (hc : affineT (rndX r32 e) s t false x = .ok (y, l)) (he : affineT (rndX r64 e) s t false x = .ok (y', l')) :
    |y - y'| ≤ ((2 * u32 + u32 ^ 2) + (2 * u64 + u64 ^ 2)) * |x * s| + (u32 + u64) * |t| ∧
    |l - l'| ≤ (u32 + u64) * |Real.log (|s|)| := by
  obtain ⟨a1, a2⟩ := affineT_fwd_err e h32 s t x hc (affineT_real_fwd e s t x)
  obtain ⟨b1, b2⟩ := affineT_fwd_err e h64 s t x he (affineT_real_fwd e s t x)
  exact ⟨(tri a1 b1).trans_eq (by ring), (tri a2 b2).trans_eq (by ring)⟩

/-- … and its inverse -/
theorem affine_inverse_two_precisions (h32 : Rnd u32 r32) (h64 : Rnd u64 r64) (s t x : ℝ) {y l y' l' : ℝ}
    (hc : affineT (rndX r32 e) s t true x = .ok (y, l)) (he : affineT (rndX r64 e) s t true x = .ok (y', l')) :
    |y - y'| ≤ ((2 * u32 + u32 ^ 2) + (2 * u64 + u64 ^ 2)) * |(x - t) / s| ∧
    |l - l'| ≤ (u32 + u64) * |Real.log (|s|)| := by
  obtain ⟨a1, a2⟩ := affineT_inv_err e h32 s t x hc (affineT_real_inv e s t x)
  obtain ⟨b1, b2⟩ := affineT_inv_err e h64 s t x he (affineT_real_inv e s t x)
  exact ⟨(tri a1 b1).trans_eq (by ring), (tri a2 b2).trans_eq (by ring)⟩

/-- a chain of `n` executed affine elements (a composite of point-wise affine layers) in two precisions: the explicit
    error recursion `errB` (each stage's own rounding error plus the Lipschitz constant `|s|` times the error so far) -/
theorem affine_chain_two_precisions (h32 : Rnd u32 r32) (h64 : Rnd u64 r64) (ps : List (ℝ × ℝ)) (x : ℝ) {y y' : ℝ}
    (hc : chainT (ps.map fun p => affineT (rndX r32 e) p.1 p.2 false) x = .ok y)
    (he : chainT (ps.map fun p => affineT (rndX r64 e) p.1 p.2 false) x = .ok y') :
    |y - y'| ≤ errB (ps.map (affStage u32 r32)) x 0 + errB (ps.map (affStage u64 r64)) x 0 :=
  have he' := chainT_affine_real (u := u32) (r := r32) e ps x
  tri (affineChain_err e h32 ps x hc he') (affineChain_err e h64 ps x he he')

/-- composition in general: computed stages within `eps_k` of exact `L_k`-Lipschitz stages — the composite is within the
    recursion `errB`, and within `E (1 + Λ + … + Λ^(n-1))` under uniform bounds -/
theorem composite_error {X : Type} [PseudoMetricSpace X] (ss : List (Stage X)) (hok : ∀ s ∈ ss, s.OK) (E Λ : ℝ)
    (hE : ∀ s ∈ ss, ∀ x, s.eps x ≤ E) (hΛ : ∀ s ∈ ss, s.L ≤ Λ) (x : X) :
    dist (runC ss x) (runE ss x) ≤ errB ss x 0 ∧
    dist (runC ss x) (runE ss x) ≤ E * (∑ k ∈ Finset.range ss.length, Λ ^ k) :=
  ⟨compose_err₀ ss hok x, compose_err_uniform ss hok E Λ hE hΛ x⟩

/-- the executed log-det sum of the LU / SVD families (`Σ log d_i`) against the exact sum -/
theorem sum_log_error {u : ℝ} {r : ℝ → ℝ} (h : Rnd u r) (d : List ℝ) :
    |LF.sumLog (rndOps r) d - LF.sumLog DualSound.realOps d| ≤ ((1 + u) ^ (d.length + 1) - 1) * absSum (d.map Real.log) :=
  sumLog_err h d

/-- element-wise nonlinearities, executed: LeakyReLU takes the same branch in both runs; Exp has relative error `u` -/
theorem leaky_relu_error {u : ℝ} {r : ℝ → ℝ} (h : Rnd u r) (slope : Float) (L x : ℝ) {y l y' l' : ℝ}
    (hc : leakyReluT (rndX r e) slope L false x = .ok (y, l))
    (he : leakyReluT (NF.realX e) slope L false x = .ok (y', l')) :
    |y - y'| ≤ (if x < 0 then (2 * u + u ^ 2) * |e slope * x| else 0) ∧
    |l - l'| ≤ (if x < 0 then (2 * u + u ^ 2) * |L| else 0) :=
  leakyReluT_fwd_err e h slope L x hc he

theorem exp_error {u : ℝ} {r : ℝ → ℝ} (h : Rnd u r) (x : ℝ) {y l y' l' : ℝ}
    (hc : expT (rndX r e) false x = .ok (y, l)) (he : expT (NF.realX e) false x = .ok (y', l')) :
    |y - y'| ≤ u * Real.exp x ∧ l = l' :=
  expT_fwd_err e h x hc he

/-- exact arithmetic is the case `u = 0` of the model, and the rounded instance then IS the real instance -/
theorem exact_is_u_zero : Rnd 0 id ∧ (∀ r, Rnd 0 r → r = id) ∧ rndX id e = NF.realX e :=
  ⟨rnd_id, fun _ h => rnd_zero_eq_id h, rfl⟩

/-- non-vacuity: two different non-identity roundings at `u = 2^-24`, `2^-53`, and the bound on a concrete inner product -/
theorem two_precisions_example :
    ∃ r32 r64 : ℝ → ℝ, Rnd ((2 : ℝ) ^ (-24 : ℤ)) r32 ∧ Rnd ((2 : ℝ) ^ (-53 : ℤ)) r64 ∧ r32 1 ≠ r64 1 ∧ r32 1 ≠ 1 ∧
      |LF.dot (rndOps r32) [1, 2, 3] [4, 5, 6] - LF.dot (rndOps r64) [1, 2, 3] [4, 5, 6]|
        ≤ (((1 + (2 : ℝ) ^ (-24 : ℤ)) ^ 4 - 1) + ((1 + (2 : ℝ) ^ (-53 : ℤ)) ^ 4 - 1)) * 32 :=
  agree_example

/-! ## whole vector layers and flows (`Lemmas/RoundLayers.lean`, `Lemmas/RoundFlow.lean`)

A `Layer` is `F.linear` / the `LULinear` forward pass with given factors / a per-feature affine layer / LeakyReLU; `Layer.fwd`
builds it from the executed programs of `Core/`, `flowFwd` chains layers with Core's own composite loop (`Wrap.cascade`), the
log-abs-det being the rounded running sum.  Distances are in the sup norm of `V n = Fin n → ℝ`. -/

/-- the forward pass of `LULinear` (executed `linear ∘ linear0`, given factors) in two precisions, entry-wise: the two rounding
    budgets times the conditioning scale `Σ_j |L_ij| Σ_k |U_jk||x_k|` of the two-stage product -/
theorem lu_two_precisions (h32 : Rnd u32 r32) (h64 : Rnd u64 r64)
    (L U : List (List ℝ)) (b : List ℝ) (X : List (List ℝ)) (m : ℕ) (k i : ℕ)
    (hk : k < X.length) (hm : ∀ row ∈ U, min row.length (X[k]).length ≤ m) (hi : i < L.length) (hb : i < b.length) :
    |((LF.linear (rndOps r32) L b (LF.linear0 (rndOps r32) U X))[k]'(by simpa [LF.linear, LF.linear0] using hk))[i]'(by
          simp [LF.linear, LF.linear0, LF.addV, LF.matVec]; omega)
        - ((LF.linear (rndOps r64) L b (LF.linear0 (rndOps r64) U X))[k]'(by
            simpa [LF.linear, LF.linear0] using hk))[i]'(by
          simp [LF.linear, LF.linear0, LF.addV, LF.matVec]; omega)|
      ≤ (((1 + u32) ^ (min (L[i]).length U.length + m + 3) - 1) + ((1 + u64) ^ (min (L[i]).length U.length + m + 3) - 1))
          * wsum L[i] (U.map fun row => absDot row X[k])
        + (u32 + u64) * |b[i]| := by
  simp only [LF.linear, LF.linear0, LF.addV, LF.matVec, List.getElem_map, List.getElem_zipWith]
  exact (tri (lu_entry_err h32 _ U _ _ m hm) (lu_entry_err h64 _ U _ _ m hm)).trans_eq (by ring)

/-- an executed flow of such layers against the exact flow: both return vectors of the right width and differ, in the sup norm,
    by at most the explicit recursion `errB` over the flow's stages (own rounding error of each stage + Lipschitz constant
    `‖W‖∞` / `|s|` / `max 1 |σ|` times the error so far) -/
theorem flow_error {n : ℕ} {u : ℝ} {r : ℝ → ℝ} (h : Rnd u r) (ls : List Layer) (hwf : ∀ l ∈ ls, l.WF n) (x : List ℝ)
    (hx : x.length = n) {y y' : List ℝ} {l l' : ℝ}
    (hc : flowFwd (rndX r e) ls x = .ok (y, l)) (he : flowFwd (NF.realX e) ls x = .ok (y', l')) :
    y.length = n ∧ y'.length = n ∧ dist (toV n y) (toV n y') ≤ errB (stagesOf n u r e ls) (toV n x) 0 :=
  flow_err e h ls hwf x hx hc he

/-- … and the same flow in two precisions -/
theorem flow_two_precisions {n : ℕ} (h32 : Rnd u32 r32) (h64 : Rnd u64 r64)
    (ls : List Layer) (hwf : ∀ l ∈ ls, l.WF n) (x : List ℝ) (hx : x.length = n) {y y' : List ℝ} {l l' : ℝ}
    (hc : flowFwd (rndX r32 e) ls x = .ok (y, l)) (he : flowFwd (rndX r64 e) ls x = .ok (y', l')) :
    dist (toV n y) (toV n y')
      ≤ errB (stagesOf n u32 r32 e ls) (toV n x) 0 + errB (stagesOf n u64 r64 e ls) (toV n x) 0 :=
  f32_f64_agree_flow e h32 h64 ls hwf x hx hc he

/-- the flow's log-abs-det (layers with constant Jacobian): the exact total is `Σ_j ℓ_j`; the executed rounded running sum is
    within the stated budget of it, and two precisions within the sum of their budgets -/
theorem flow_logdet_two_precisions {n : ℕ} (h32 : Rnd u32 r32) (h64 : Rnd u64 r64)
    (ls : List Layer) (hconst : ∀ l ∈ ls, l.Const) (hwf : ∀ l ∈ ls, l.WF n)
    (x : List ℝ) (hx : x.length = n) {y y' : List ℝ} {l l' : ℝ}
    (hc : flowFwd (rndX r32 e) ls x = .ok (y, l)) (he : flowFwd (rndX r64 e) ls x = .ok (y', l')) :
    |l - l'| ≤ (((1 + u32) ^ ls.length - 1) * (absSum (ls.map Layer.ldExact) + (ls.map (Layer.ldEps u32)).sum)
          + (ls.map (Layer.ldEps u32)).sum)
        + (((1 + u64) ^ ls.length - 1) * (absSum (ls.map Layer.ldExact) + (ls.map (Layer.ldEps u64)).sum)
          + (ls.map (Layer.ldEps u64)).sum) :=
  f32_f64_agree_flow_ld e h32 h64 ls hconst hwf x hx hc he

/-- non-vacuity with numbers: a 2×2 LU layer followed by a LeakyReLU (`|σ| ≤ 1`) on `x = [1, −2]`, run with
    `r x = x (1 + 2^-24)` and `r x = x (1 + 2^-53)`: both runs return, and the outputs differ by at most `2^-14` -/
theorem flow_two_precisions_example (slope : Float) (Ls : ℝ) (hσ : |e slope| ≤ 1) :
    ∃ y y' : List ℝ, ∃ l l' : ℝ,
      flowFwd (rndX (fun x => x * (1 + (2 : ℝ) ^ (-24 : ℤ))) e) (exFlow slope Ls) [1, -2] = .ok (y, l) ∧
      flowFwd (rndX (fun x => x * (1 + (2 : ℝ) ^ (-53 : ℤ))) e) (exFlow slope Ls) [1, -2] = .ok (y', l') ∧
      dist (toV 2 y) (toV 2 y') ≤ (2 : ℝ) ^ (-14 : ℤ) :=
  flow_example_numeric e slope Ls hσ

/-! ## the standard model is realised by round-to-nearest-even (`Lemmas/RoundNearest.lean`) -/

/-- round-to-nearest, ties-to-even, to `p` significant bits (unbounded exponent) has relative error at most `2^-p` at EVERY real,
    is idempotent, monotone, returns a `p`-bit number and IS a nearest one -/
theorem round_to_nearest_even_is_standard_model (p : ℕ) (hp : 1 ≤ p) :
    Rnd ((2 : ℝ) ^ (-(p : ℤ))) (RoundNearest.fl p) ∧ RndIdem ((2 : ℝ) ^ (-(p : ℤ))) (RoundNearest.fl p) ∧
    Monotone (RoundNearest.fl p) ∧ (∀ x, RoundNearest.fl p x ∈ RoundNearest.F p) ∧
    (∀ x, ∀ y ∈ RoundNearest.F p, |RoundNearest.fl p x - x| ≤ |y - x|) :=
  ⟨RoundNearest.fl_rnd p, RoundNearest.fl_rndIdem hp, RoundNearest.fl_mono hp, RoundNearest.fl_mem hp,
   fun x _ hy => RoundNearest.fl_nearest hp x hy⟩

/-- IEEE-754 `roundTiesToEven` on the normal range of a bounded format `(p, emin, emax)` is `fl p`: any finite number of the format
    that is nearest to `x` and has an even normalised significand at a tie equals `fl p x` -/
theorem ieee_round_to_nearest_is_fl {p : ℕ} (hp : 2 ≤ p) (emin emax : ℤ) {x : ℝ} (hx : x ∈ RoundNearest.normalRange p emin emax)
    {y : ℝ} (hy : y ∈ RoundNearest.finiteFormat p emin emax)
    (hnear : ∀ y' ∈ RoundNearest.finiteFormat p emin emax, |y - x| ≤ |y' - x|)
    (htie : RoundNearest.IsTie p x → ∃ (m : ℕ) (k : ℤ), 2 ^ (p - 1) ≤ m ∧ m < 2 ^ p ∧ Even m ∧ |y| = (m : ℝ) * 2 ^ k) :
    y = RoundNearest.fl p x :=
  have hp1 : 1 ≤ p := by omega
  RoundNearest.fl_unique_normalised hp x (RoundNearest.finiteFormat_subset_F hp1 emin emax hy)
    (RoundNearest.nearest_of_nearest_finite hp1 emin emax hx hnear) htie

/-- the two-precision inner product at the genuine binary32 / binary64 roundings -/
theorem dot_binary32_binary64 (xs ws : List ℝ) :
    |LF.dot (rndOps (RoundNearest.fl 24)) xs ws - LF.dot (rndOps (RoundNearest.fl 53)) xs ws|
      ≤ (((1 + (2 : ℝ) ^ (-24 : ℤ)) ^ (min xs.length ws.length + 1) - 1)
          + ((1 + (2 : ℝ) ^ (-53 : ℤ)) ^ (min xs.length ws.length + 1) - 1)) * absDot xs ws :=
  f32_f64_agree_dot RoundNearest.fl24_rnd RoundNearest.fl53_rnd xs ws

/-- … and a whole flow at them -/
theorem flow_binary32_binary64 {n : ℕ} (ls : List Layer) (hwf : ∀ l ∈ ls, l.WF n) (x : List ℝ) (hx : x.length = n)
    {y y' : List ℝ} {l l' : ℝ}
    (hc : flowFwd (rndX (RoundNearest.fl 24) e) ls x = .ok (y, l)) (he : flowFwd (rndX (RoundNearest.fl 53) e) ls x = .ok (y', l')) :
    dist (toV n y) (toV n y')
      ≤ errB (stagesOf n ((2 : ℝ) ^ (-24 : ℤ)) (RoundNearest.fl 24) e ls) (toV n x) 0
        + errB (stagesOf n ((2 : ℝ) ^ (-53 : ℤ)) (RoundNearest.fl 53) e ls) (toV n x) 0 :=
  f32_f64_agree_flow e RoundNearest.fl24_rnd RoundNearest.fl53_rnd ls hwf x hx hc he

/-- the bound `2^-p` is attained up to the factor `1 + 2^-p`: half an ulp above `1` is a tie and rounds to the even neighbour `1` -/
theorem half_ulp_tie {p : ℕ} (hp : 2 ≤ p) : RoundNearest.fl p (1 + (2 : ℝ) ^ (-(p : ℤ))) = 1 :=
  RoundNearest.fl_one_add_half_ulp hp

end Properties.C19
