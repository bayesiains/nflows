import NflowsModel.Properties.C03
import NflowsModel.Lemmas.FlowMore
/-!
# C03 (continued) — Sigmoid / Logit stages, a MADEMoG (or any normalised) base, an embedding network

The three cases the `Properties/C03.lean` header refers here (proofs in `Lemmas/FlowMore.lean`).
(1) A flow `x ↦ σ(T x)` from ℝ onto `(0,1)` (`T > 0`) followed by ANY base with `∫_{(0,1)} exp blp = 1` is normalised over ℝ, with the
executed `BoxUniform(0,1)` as instance; the Logit stage from `(0,1)` onto ℝ followed by any base normalised on ℝ is normalised over
`(0,1)`; coordinate-wise in n-D, and Logit followed by any `progN` program.  These are for the EXACT log-det: the executed Sigmoid
log-det uses the thresholded softplus and exceeds the exact one by `log(1+e^{-|Tx|}) ≤ e⁻²⁰` beyond `|Tx| = 20`, so the executed
density integrates to a value in `[1, exp(e⁻²⁰)]` (`sigmoid_executed_flow_almost_normalised`) and is exact on `{|Tx| ≤ 20}` — a
declared approximation of the library, not a defect; the executed Logit equals the exact one strictly inside its clamp.
(2) `flow_normalised_any_base`: for a differentiable bijection of ℝⁿ with `|det| = exp ld` and ANY base with `∫ exp blp = 1`; the
MADE mixture of Gaussians — the executed `Density.mogRow` on a flat MADE output row — is an instance.
(3) For EVERY function `emb`, the flow with an embedding network at raw context `c` IS the flow without one at context `emb c`
(unfolding of the executed `Core/FlowPairing` definitions and of `flowLogProbExec`, errors included), hence normalised for every `c`
whenever the embedding-free flow is normalised for every embedded value.
-/
set_option linter.all false
namespace Properties.C03

theorem sigmoid_flow_normalised :
    ∀ {T : ℝ},
      0 < T →
        ∀ (blp : ℝ → ℝ),
          ∫ (z : ℝ) in Set.Ioo 0 1, Real.exp (blp z) = 1 →
            ∫ (x : ℝ), Real.exp (blp (NonlinExec.gate (T * x)) + NonlinExec.sigLdIdeal T (T * x)) = 1 :=
  @FlowMore.sigmoid_flow_normalised

theorem sigmoid_uniform_flow_normalised :
    ∀ (e : Float → ℝ) {T : ℝ},
      0 < T →
        (∫ (x : ℝ),
            if NF.Density.insideBox (NF.realX e) [0] [1] [NonlinExec.gate (T * x)] = Bool.true then
              Real.exp
                (NF.Density.boxUniformRow (NF.realX e) [0] [1] [NonlinExec.gate (T * x)] + NonlinExec.sigLdIdeal T (T * x))
            else 0) =
          1 :=
  @FlowMore.sigmoid_uniform_flow_normalised

theorem sigmoid_executed_flow_almost_normalised :
    ∀ (e : Float → ℝ) {T : ℝ},
      0 < T →
        ∀ (eps : Float) (blp : ℝ → ℝ),
          ∫ (z : ℝ) in Set.Ioo 0 1, Real.exp (blp z) = 1 →
            1 ≤ ∫ (x : ℝ), Real.exp (FlowMore.sigmoidExecLogProb e T eps blp x) ∧
              ∫ (x : ℝ), Real.exp (FlowMore.sigmoidExecLogProb e T eps blp x) ≤ Real.exp (Real.exp (-20)) :=
  @FlowMore.sigmoid_executed_flow_almost_normalised

theorem sigmoid_executed_exact_region :
    ∀ (e : Float → ℝ) {T : ℝ},
      0 < T →
        ∀ (eps : Float) (blp : ℝ → ℝ),
          ∫ (x : ℝ) in {x : ℝ | |T * x| ≤ 20}, Real.exp (FlowMore.sigmoidExecLogProb e T eps blp x) =
            ∫ (z : ℝ) in Set.Icc (NonlinExec.gate (-20)) (NonlinExec.gate 20), Real.exp (blp z) :=
  @FlowMore.sigmoid_executed_exact_region

theorem logit_flow_normalised :
    ∀ {T : ℝ},
      0 < T →
        ∀ (blp : ℝ → ℝ),
          ∫ (z : ℝ), Real.exp (blp z) = 1 →
            ∫ (y : ℝ) in Set.Ioo 0 1, Real.exp (blp (1 / T * NonlinExec.logit y) + FlowMore.logitLd T y) = 1 :=
  @FlowMore.logit_flow_normalised

theorem logit_executed_eq :
    ∀ {e : Float → ℝ} {T : ℝ} {eps : Float} {y : ℝ},
      NonlinExec.SigmoidClamp e eps →
        T ≠ 0 →
          e eps ≤ y →
            y ≤ e (1 - eps) →
              |NonlinExec.logit y| ≤ 20 →
                NF.sigmoidT (NF.realX e) T eps Bool.true y = Except.ok (1 / T * NonlinExec.logit y, FlowMore.logitLd T y) :=
  @FlowMore.logit_executed_eq

/-- instance: `Flow(Logit(T), StandardNormal([1]))` with the EXECUTED standard-normal row is normalised over `(0,1)` -/
theorem logit_stdNormal_flow_normalised :
    ∀ (e : Float → ℝ) {T : ℝ},
      0 < T →
        ∫ (y : ℝ) in Set.Ioo 0 1,
            Real.exp (NF.Density.stdNormalRow (NF.realX e) 1 [1 / T * NonlinExec.logit y] + FlowMore.logitLd T y) =
          1 :=
  fun e _ hT =>
    FlowMore.logit_flow_normalised hT (fun z => NF.Density.stdNormalRow (NF.realX e) 1 [z]) (stdNormal1_exec_normalised e)

theorem sigmoid_flow_normalised_nd :
    ∀ {n : ℕ} (T : Fin n → ℝ),
      (∀ (i : Fin n), 0 < T i) →
        ∀ (blp : (Fin n → ℝ) → ℝ),
          ∫ (z : Fin n → ℝ) in Set.univ.pi fun (x : Fin n) => Set.Ioo 0 1, Real.exp (blp z) = 1 →
            ∫ (x : Fin n → ℝ),
                Real.exp
                  ((blp fun (i : Fin n) => NonlinExec.gate (T i * x i)) +
                    ∑ i : Fin n, NonlinExec.sigLdIdeal (T i) (T i * x i)) =
              1 :=
  @FlowMore.sigmoid_flow_normalised_nd

theorem logit_flow_normalised_nd :
    ∀ {n : ℕ} (T : Fin n → ℝ),
      (∀ (i : Fin n), 0 < T i) →
        ∀ (blp : (Fin n → ℝ) → ℝ),
          ∫ (z : Fin n → ℝ), Real.exp (blp z) = 1 →
            ∫ (y : Fin n → ℝ) in Set.univ.pi fun (x : Fin n) => Set.Ioo 0 1,
                Real.exp
                  ((blp fun (i : Fin n) => 1 / T i * NonlinExec.logit (y i)) + ∑ i : Fin n, FlowMore.logitLd (T i) (y i)) =
              1 :=
  @FlowMore.logit_flow_normalised_nd

theorem logit_then_prog_flow_normalised :
    ∀ {n : ℕ} (T : Fin n → ℝ),
      (∀ (i : Fin n), 0 < T i) →
        ∀ (parts : List (Properties.C03.DiffeoN n)) (blp : (Fin n → ℝ) → ℝ),
          ∫ (z : Fin n → ℝ), Real.exp (blp z) = 1 →
            ∫ (y : Fin n → ℝ) in Set.univ.pi fun (x : Fin n) => Set.Ioo 0 1,
                Real.exp
                  (blp ((Properties.C03.progN parts).T fun (i : Fin n) => 1 / T i * NonlinExec.logit (y i)) +
                    (∑ i : Fin n, FlowMore.logitLd (T i) (y i) +
                      (Properties.C03.progN parts).ld fun (i : Fin n) => 1 / T i * NonlinExec.logit (y i))) =
              1 :=
  @FlowMore.logit_then_prog_flow_normalised

theorem flow_normalised_any_base :
    ∀ {n : ℕ} (f : NF.FlowPairing.FlowFns0 (Fin n → ℝ) (Fin n → ℝ) ℝ)
      (T' : (Fin n → ℝ) → (Fin n → ℝ) →L[ℝ] Fin n → ℝ),
      FlowMore.DiffeoFlow f T' →
        ∫ (z : Fin n → ℝ), Real.exp (f.blp z) = 1 → ∫ (x : Fin n → ℝ), Real.exp (NF.FlowPairing.flowLogProb0 f x) = 1 :=
  @FlowMore.flow_normalised_any_base

theorem flow_normalised_any_base_prog :
    ∀ {n : ℕ} (parts : List (Properties.C03.DiffeoN n)) (blp : (Fin n → ℝ) → ℝ),
      ∫ (z : Fin n → ℝ), Real.exp (blp z) = 1 →
        ∫ (x : Fin n → ℝ), Real.exp (NF.FlowPairing.flowLogProb0 (FlowMore.progFlow parts blp) x) = 1 :=
  @FlowMore.flow_normalised_any_base_prog

theorem mogRow_eq_mogLogp :
    ∀ (e : Float → ℝ) (eps : ℝ) {M D : ℕ} (lg μ u : (i : ℕ) → (Fin i → ℝ) → Fin M → ℝ)
      (x : Fin D → ℝ) (out : List ℝ),
      (∀ (i : Fin D), NF.Density.mogColumn M out (↑i : ℕ) 0 0 = List.ofFn (lg (↑i : ℕ) (AutoregDensity.pre x i))) →
        (∀ (i : Fin D), NF.Density.mogColumn M out (↑i : ℕ) 1 0 = List.ofFn (μ (↑i : ℕ) (AutoregDensity.pre x i))) →
          (∀ (i : Fin D), NF.Density.mogColumn M out (↑i : ℕ) 2 0 = List.ofFn (u (↑i : ℕ) (AutoregDensity.pre x i))) →
            NF.Density.mogRow (NF.realX e) eps D M out (List.ofFn x) = FlowMore.mogLogp e eps lg μ u x :=
  @FlowMore.mogRow_eq_mogLogp

theorem mog_base_normalised :
    ∀ (e : Float → ℝ) {M : ℕ},
      0 < M →
        ∀ (eps : ℝ),
          0 < eps →
            ∀ (lg μ u : (i : ℕ) → (Fin i → ℝ) → Fin M → ℝ),
              (∀ (i : ℕ) (k : Fin M), Measurable fun (y : Fin i → ℝ) => lg i y k) →
                (∀ (i : ℕ) (k : Fin M), Measurable fun (y : Fin i → ℝ) => μ i y k) →
                  (∀ (i : ℕ) (k : Fin M), Measurable fun (y : Fin i → ℝ) => u i y k) →
                    ∀ (D : ℕ), ∫ (x : Fin D → ℝ), Real.exp (FlowMore.mogLogp e eps lg μ u x) = 1 :=
  @FlowMore.mog_base_normalised

theorem flow_normalised_mog_base :
    ∀ (e : Float → ℝ) {M : ℕ},
      0 < M →
        ∀ (eps : ℝ),
          0 < eps →
            ∀ (lg μ u : (i : ℕ) → (Fin i → ℝ) → Fin M → ℝ),
              (∀ (i : ℕ) (k : Fin M), Measurable fun (y : Fin i → ℝ) => lg i y k) →
                (∀ (i : ℕ) (k : Fin M), Measurable fun (y : Fin i → ℝ) => μ i y k) →
                  (∀ (i : ℕ) (k : Fin M), Measurable fun (y : Fin i → ℝ) => u i y k) →
                    ∀ {D : ℕ} (parts : List (Properties.C03.DiffeoN D)),
                      ∫ (x : Fin D → ℝ),
                          Real.exp
                            (NF.FlowPairing.flowLogProb0 (FlowMore.progFlow parts (FlowMore.mogLogp e eps lg μ u)) x) =
                        1 :=
  @FlowMore.flow_normalised_mog_base

theorem flow_normalised_mogRow_base :
    ∀ (e : Float → ℝ) {M : ℕ},
      0 < M →
        ∀ (eps : ℝ),
          0 < eps →
            ∀ (lg μ u : (i : ℕ) → (Fin i → ℝ) → Fin M → ℝ),
              (∀ (i : ℕ) (k : Fin M), Measurable fun (y : Fin i → ℝ) => lg i y k) →
                (∀ (i : ℕ) (k : Fin M), Measurable fun (y : Fin i → ℝ) => μ i y k) →
                  (∀ (i : ℕ) (k : Fin M), Measurable fun (y : Fin i → ℝ) => u i y k) →
                    ∀ {D : ℕ} (made : (Fin D → ℝ) → List ℝ),
                      (∀ (z : Fin D → ℝ) (i : Fin D),
                          NF.Density.mogColumn M (made z) (↑i : ℕ) 0 0 = List.ofFn (lg (↑i : ℕ) (AutoregDensity.pre z i)) ∧
                            NF.Density.mogColumn M (made z) (↑i : ℕ) 1 0 = List.ofFn (μ (↑i : ℕ) (AutoregDensity.pre z i)) ∧
                              NF.Density.mogColumn M (made z) (↑i : ℕ) 2 0 =
                                List.ofFn (u (↑i : ℕ) (AutoregDensity.pre z i))) →
                        ∀ (parts : List (Properties.C03.DiffeoN D)),
                          ∫ (x : Fin D → ℝ),
                              Real.exp
                                (NF.Density.mogRow (NF.realX e) eps D M (made ((Properties.C03.progN parts).T x))
                                    (List.ofFn ((Properties.C03.progN parts).T x)) +
                                  (Properties.C03.progN parts).ld x) =
                            1 :=
  @FlowMore.flow_normalised_mogRow_base

theorem flowLogProb_withEmb :
    ∀ {Z X C E V : Type} (g : NF.FlowPairing.FlowFns Z X E E V) (emb : C → E) (xs : List X)
      (ctx : List C),
      NF.FlowPairing.flowLogProb (FlowMore.withEmb g emb) xs ctx = NF.FlowPairing.flowLogProb g xs (List.map emb ctx) :=
  @FlowMore.flowLogProb_withEmb

theorem flowSalp_withEmb :
    ∀ {Z X C E V : Type} (g : NF.FlowPairing.FlowFns Z X E E V) (emb : C → E) (ctx : List C)
      (n : ℕ) (N : List (List Z)),
      NF.FlowPairing.flowSalp (FlowMore.withEmb g emb) ctx n N = NF.FlowPairing.flowSalp g (List.map emb ctx) n N :=
  @FlowMore.flowSalp_withEmb

theorem flowLogProbExec_embedding :
    ∀ {α : Type} (o : XOps α) (w : ℕ) (emb : ℕ → Array α → Array α)
      (T : NF.FlowRowsExec.BStage α) (base : NF.FlowRowsExec.BaseD α) (B : ℕ) (x ctx : Array α),
      NF.FlowRowsExec.flowLogProbExec o w emb T base B x ctx =
        NF.FlowRowsExec.flowLogProbExec o w (fun (x : ℕ) (a : Array α) => a) T base B x (emb B ctx) :=
  @FlowMore.flowLogProbExec_embedding

theorem flow_with_embedding_normalised :
    ∀ {X : Type} [inst : MeasureTheory.MeasureSpace X] {Z C E : Type}
      (g : NF.FlowPairing.FlowFns Z X E E ℝ) (emb : C → E) (S : E → Set X),
      (∀ (e : E), ∫ (x : X) in S e, Real.exp (NF.FlowPairing.flowLogProb1 g x e) = 1) →
        ∀ (c : C), ∫ (x : X) in S (emb c), Real.exp (NF.FlowPairing.flowLogProb1 (FlowMore.withEmb g emb) x c) = 1 :=
  @FlowMore.flow_with_embedding_normalised

theorem flow_with_embedding_normalised_nd :
    ∀ {n : ℕ} {C E : Type}
      (g : NF.FlowPairing.FlowFns (Fin n → ℝ) (Fin n → ℝ) E E ℝ),
      (∀ (e : E), g.emb e = e) →
        ∀ (T' : E → (Fin n → ℝ) → (Fin n → ℝ) →L[ℝ] Fin n → ℝ),
          (∀ (e : E), FlowMore.CondDiffeoFlow g e (T' e)) →
            ∀ (emb : C → E) (c : C),
              ∫ (x : Fin n → ℝ), Real.exp (NF.FlowPairing.flowLogProb1 (FlowMore.withEmb g emb) x c) = 1 :=
  @FlowMore.flow_with_embedding_normalised_nd

end Properties.C03
