import NflowsModel.Real.NormReal
import NflowsModel.Core.ActNormMachine
/-!
# C14 — normalisation layers follow their documented life-cycle over every history

Property theorems only.  `actStep` / `bnStep` (`Core/Norm.lean`) are the *code* machines the driver executes at IEEE
binary64 (`floatX`); every theorem below that is stated for an arbitrary `o : XOps α` therefore holds, in
particular, of exactly what is run against the implementation.  Theorems that need real arithmetic are stated at
`NormReal.realX`, the same definitions evaluated over ℝ.  Histories are arbitrary lists over
`{train, eval, fwd batch, inv batch, saveLoadFresh}`: no bound on their length, on batch sizes or feature counts.
-/
open NF NF.Norm NormReal

namespace Properties.C14
variable {α : Type}

/-! ## ActNorm -/

/-- **Refinement, every history.**  From any not-yet-initialised state (any mode, any parameter values) the code
    machine returns, step by step, exactly what the documented-behaviour machine returns (outputs, log-abs-dets,
    error kinds), and ends in the corresponding state: same mode, `initialized` ⇔ the spec has recorded its one
    initialising batch, parameters = those derived from that batch, ghost counter = 0 or 1 accordingly. -/
theorem actnorm_refines (o : XOps α) (F : Nat) (s : ActSt α) (hi : s.initialized = false) (h0 : s.initCount = 0)
    (hist : List (NOp α)) :
    (runM (actStep o F) s hist).2 = (runM (actSpecStep o F) s.toSpec hist).2 ∧
    (runM (actStep o F) s hist).1.training = (runM (actSpecStep o F) s.toSpec hist).1.training ∧
    (runM (actStep o F) s hist).1.initialized = (runM (actSpecStep o F) s.toSpec hist).1.init.isSome ∧
    (runM (actStep o F) s hist).1.logScale = ((runM (actSpecStep o F) s.toSpec hist).1.params o F).1 ∧
    (runM (actStep o F) s hist).1.shift = ((runM (actSpecStep o F) s.toSpec hist).1.params o F).2 ∧
    (runM (actStep o F) s hist).1.initCount = (if (runM (actSpecStep o F) s.toSpec hist).1.init.isSome then 1 else 0) := by
  have hr : actRel o F s s.toSpec := ⟨rfl, by simp [ActSt.toSpec, hi], rfl, rfl, by simp [ActSt.toSpec, h0]⟩
  obtain ⟨⟨a, b, c, d, e⟩, f⟩ := runM_refines (actStep o F) (actSpecStep o F) (actRel o F) (actRel_step o F) hist s s.toSpec hr
  exact ⟨f, a, b, c, d, e⟩

/-- the spec machine never overwrites its initialising batch: once recorded it stays, over every history -/
theorem spec_init_never_overwritten (o : XOps α) (F : Nat) (sp : ActSpec α) (b : Batch α) (hb : sp.init = some b)
    (hist : List (NOp α)) : (runM (actSpecStep o F) sp hist).1.init = some b := by
  induction hist generalizing sp with
  | nil => exact hb
  | cons op ops ih =>
    apply ih
    cases op with
    | train => exact hb
    | eval => exact hb
    | saveLoadFresh => exact hb
    | inv b' => simp only [actSpecStep]; split <;> exact hb
    | fwd b' =>
      simp only [actSpecStep]
      split
      · exact hb
      · simp only [hb]

/-- **Everything is decided by the first accepted training-mode forward batch.**  If the history contains none,
    the layer is still uninitialised with its original parameters; otherwise it is initialised, its parameters are
    `_initialize` of exactly that batch, and the initialisation ran exactly once — whatever mode switches, evaluation
    calls, inverses, rejected calls and save/reloads surround it. -/
theorem state_determined_by_first_training_fwd (o : XOps α) (F : Nat) (s : ActSt α) (hi : s.initialized = false)
    (hist : List (NOp α)) :
    match firstTrainFwd s.training hist with
    | none => (runM (actStep o F) s hist).1.initialized = false ∧ (runM (actStep o F) s hist).1.logScale = s.logScale ∧
        (runM (actStep o F) s hist).1.shift = s.shift ∧ (runM (actStep o F) s hist).1.initCount = s.initCount
    | some b => (runM (actStep o F) s hist).1.initialized = true ∧ (runM (actStep o F) s hist).1.logScale = (actInit o F b).1 ∧
        (runM (actStep o F) s hist).1.shift = (actInit o F b).2 ∧ (runM (actStep o F) s hist).1.initCount = s.initCount + 1 :=
  actRun_firstTrainFwd o F hist s hi

/-- **At most once**, over every history of the executable code machine. -/
theorem init_at_most_once (o : XOps α) (F : Nat) (s : ActSt α) (hi : s.initialized = false) (h0 : s.initCount = 0)
    (hist : List (NOp α)) : (runM (actStep o F) s hist).1.initCount ≤ 1 := by
  have h := actRun_firstTrainFwd o F hist s hi
  cases hf : firstTrainFwd s.training hist with
  | none => rw [hf] at h; rw [h.2.2.2, h0]; exact Nat.zero_le 1
  | some b => rw [hf] at h; rw [h.2.2.2, h0]

/-- the same fact for the abstract machine of `Core/ActNormMachine` (any `Batch`/`Params`/`init` function) -/
theorem init_at_most_once_abstract {Batch Params : Type} (initF : Batch → Params) (p0 : Params)
    (ops : List (ActNormMachine.Op Batch)) :
    (ops.foldl (ActNormMachine.stepCode initF) ⟨true, false, p0, 0⟩).initCount ≤ 1 :=
  ActNormMachine.init_at_most_once initF p0 ops

/-- **The executable machine is an instance of the abstract life-cycle machine** of `Core/ActNormMachine`
    (`Params := (log_scale, shift)`, `init := _initialize`): forgetting outputs, every step of the code machine is a
    step of `ActNormMachine.stepCode` (a rejected forward acts on the state like an inverse: not at all); hence the
    abstract refinement `ActNormMachine.refine_run` and `init_at_most_once_abstract` apply to what the driver runs. -/
theorem code_machine_abstracts (o : XOps α) (F : Nat) (s : ActSt α) (hist : List (NOp α)) :
    absSt (runM (actStep o F) s hist).1 = (hist.map absOp).foldl (ActNormMachine.stepCode (actInit o F)) (absSt s) := by
  induction hist generalizing s with
  | nil => rfl
  | cons op ops ih => simp only [runM, List.map_cons, List.foldl_cons, ih, actStep_abstracts]

/-- the abstract code machine refines the abstract spec machine over every history (`Core/ActNormMachine`) -/
theorem abstract_refines {Batch Params : Type} (initF : Batch → Params) (ops : List (ActNormMachine.Op Batch))
    (c : ActNormMachine.St Params) (s : ActNormMachine.Spec Params) (h : ActNormMachine.rel c s) :
    ActNormMachine.rel (ops.foldl (ActNormMachine.stepCode initF) c) (ops.foldl (ActNormMachine.stepSpec initF) s) :=
  ActNormMachine.refine_run initF ops c s h

/-- **Exactly at the first training-mode forward pass.**  Split any history as `pre ++ fwd b :: post` where `pre`
    contains no accepted training-mode forward, the layer is in training mode after `pre`, and `b` is 2-D or 4-D:
    before the call nothing has been initialised; after it — and after ANY continuation `post` — the layer is
    initialised with the parameters computed from `b`, and the initialisation has run exactly once. -/
theorem init_exactly_at_first_training_fwd (o : XOps α) (F : Nat) (s : ActSt α) (hi : s.initialized = false)
    (pre post : List (NOp α)) (b : Batch α) (hpre : firstTrainFwd s.training pre = none)
    (hmode : (runM (actStep o F) s pre).1.training = true) (hb : b.valid24 = true) :
    (runM (actStep o F) s pre).1.initialized = false ∧
    (runM (actStep o F) s pre).1.initCount = s.initCount ∧
    (runM (actStep o F) s (pre ++ .fwd b :: post)).1.initialized = true ∧
    (runM (actStep o F) s (pre ++ .fwd b :: post)).1.logScale = (actInit o F b).1 ∧
    (runM (actStep o F) s (pre ++ .fwd b :: post)).1.shift = (actInit o F b).2 ∧
    (runM (actStep o F) s (pre ++ .fwd b :: post)).1.initCount = s.initCount + 1 := by
  have h := actRun_firstTrainFwd o F pre s hi
  rw [hpre] at h
  obtain ⟨h1, _, _, h4⟩ := h
  refine ⟨h1, h4, ?_⟩
  rw [runM_append]
  generalize (runM (actStep o F) s pre).1 = q at hmode h1 h4
  simp only [runM, actStep_fwd_init o F q hmode h1 b hb]
  have hf := actRun_frozen o F post
    { q with initialized := true, logScale := (actInit o F b).1, shift := (actInit o F b).2,
             initCount := q.initCount + 1 } rfl
  exact ⟨hf.1, hf.2.1, hf.2.2.1, by rw [hf.2.2.2, h4]⟩

/-- **Never in evaluation mode**: an evaluation-mode forward pass leaves the whole state (flag, parameters, counter)
    unchanged, initialised or not. -/
theorem no_init_in_eval (o : XOps α) (F : Nat) (s : ActSt α) (b : Batch α) (he : s.training = false) :
    (actStep o F s (.fwd b)).1 = s :=
  actStep_fwd_fst o F s b (Or.inr (by rw [he]; rfl))

/-- **Never by `inverse`**, in either mode. -/
theorem no_init_by_inverse (o : XOps α) (F : Nat) (s : ActSt α) (b : Batch α) : (actStep o F s (.inv b)).1 = s :=
  actStep_inv_fst o F s b

/-- **Save + load into a fresh instance carries flag and parameters** (the fresh instance is in training mode). -/
theorem reload_carries_state (o : XOps α) (F : Nat) (s : ActSt α) :
    (actStep o F s .saveLoadFresh).1 = { s with training := true } := rfl

/-- **Never again after a reload** (or after anything else): once initialised, reload into a fresh — training-mode —
    instance followed by ANY history leaves flag, parameters and the initialisation counter as they were. -/
theorem no_reinit_after_reload (o : XOps α) (F : Nat) (s : ActSt α) (hi : s.initialized = true) (hist : List (NOp α)) :
    (runM (actStep o F) s (.saveLoadFresh :: hist)).1.initialized = true ∧
    (runM (actStep o F) s (.saveLoadFresh :: hist)).1.logScale = s.logScale ∧
    (runM (actStep o F) s (.saveLoadFresh :: hist)).1.shift = s.shift ∧
    (runM (actStep o F) s (.saveLoadFresh :: hist)).1.initCount = s.initCount :=
  actRun_frozen o F (.saveLoadFresh :: hist) s hi

/-- **The data-dependent initialisation normalises** (real arithmetic, `Finset` form, any batch size `B ≥ 2`):
    with `log_scale = -log std`, `shift = -mean(x/std)` (unbiased `std`), the output `exp(log_scale)·x + shift` of a
    non-constant feature has mean 0 and unbiased variance 1. -/
theorem actnorm_init_normalises {B : ℕ} (x : Fin B → ℝ) (hB : 2 ≤ B) (hv : 0 < ActNormInit.varU x) :
    ActNormInit.mean (ActNormInit.actnormInitOut x) = 0 ∧ ActNormInit.varU (ActNormInit.actnormInitOut x) = 1 :=
  ActNormInit.actnorm_init_normalises x hB hv

/-- **… as executed.**  For the code machine over ℝ: a forward pass in training mode on a not-yet-initialised layer,
    with a 2-D or 4-D batch, returns outputs whose feature / channel `j` (4-D: over `B·H·W`) has mean 0 and unbiased
    variance 1, for every `j < features` whose input values are at least two and not all equal (`0 < var`).
    (For `B·H·W = 1` or a constant feature the statement is false of the code: `std` is NaN / 0.) -/
theorem actnorm_first_training_fwd_normalises (F : ℕ) (s : ActSt ℝ) (b : Batch ℝ) (ht : s.training = true)
    (hi : s.initialized = false) (hb : b.valid24 = true) (j : ℕ) (hj : j < F)
    (hB : 2 ≤ (b.col realX j).length) (hv : 0 < varUL realX (b.col realX j)) :
    ∃ out ld, (actStep realX F s (.fwd b)).2 = some (.ok (out, ld)) ∧
      (actStep realX F s (.fwd b)).1.initialized = true ∧
      meanL realX (out.col realX j) = 0 ∧ varUL realX (out.col realX j) = 1 := by
  rw [actStep_fwd_init realX F s ht hi b hb]
  refine ⟨_, _, rfl, rfl, ?_⟩
  · have hc : (actApply realX F (actInit realX F b).1 (actInit realX F b).2 b).col realX j =
        (b.col realX j).map (fun x => realX.add (realX.mul (realX.exp (actInitCol realX (b.col realX j)).1) x)
          (actInitCol realX (b.col realX j)).2) := by
      rw [actApply, col_mapCh realX F _ b hj]
      simp only [actInit, getD_map_range _ _ hj]
    rw [hc]
    exact actInitCol_normalises (b.col realX j) hB hv

/-! ## BatchNorm -/

/-- **Refinement, every history.**  The code machine returns step by step what the documented-behaviour machine
    returns, and its running statistics are the spec's — i.e. the momentum rule folded over the list of batches the
    spec has recorded as training-mode forward batches. -/
theorem batchnorm_refines (o : XOps α) (cfg : BNCfg α) (F : Nat) (s : BNSt α) (h0 : s.updates = 0) (hist : List (NOp α)) :
    (runM (bnStep o cfg F) s hist).2 = (runM (bnSpecStep o cfg F) s.toSpec hist).2 ∧
    (runM (bnStep o cfg F) s hist).1.training = (runM (bnSpecStep o cfg F) s.toSpec hist).1.training ∧
    (runM (bnStep o cfg F) s hist).1.runMean = (runM (bnSpecStep o cfg F) s.toSpec hist).1.runMean o cfg F ∧
    (runM (bnStep o cfg F) s hist).1.runVar = (runM (bnSpecStep o cfg F) s.toSpec hist).1.runVar o cfg F ∧
    (runM (bnStep o cfg F) s hist).1.uweight = (runM (bnSpecStep o cfg F) s.toSpec hist).1.uweight ∧
    (runM (bnStep o cfg F) s hist).1.bias = (runM (bnSpecStep o cfg F) s.toSpec hist).1.bias ∧
    (runM (bnStep o cfg F) s hist).1.updates = (runM (bnSpecStep o cfg F) s.toSpec hist).1.seen.length := by
  have hr : bnRel o cfg F s s.toSpec := ⟨rfl, rfl, rfl, rfl, rfl, by simp [BNSt.toSpec, h0]⟩
  obtain ⟨⟨a, b, c, d, e, f⟩, g⟩ :=
    runM_refines (bnStep o cfg F) (bnSpecStep o cfg F) (bnRel o cfg F) (bnRel_step o cfg F) hist s s.toSpec hr
  exact ⟨g, a, b, c, d, e, f⟩

/-- **Running statistics = the momentum rule over exactly the training-mode forward batches, in order** (any scalar
    semantics, so also bit-for-bit in binary64): nothing else in a history — evaluation-mode forwards, inverses,
    rejected calls, mode switches, reloads — contributes. -/
theorem running_is_fold (o : XOps α) (cfg : BNCfg α) (F : Nat) (s : BNSt α) (hist : List (NOp α)) :
    (runM (bnStep o cfg F) s hist).1.runMean =
      (trainBatches s.training hist).foldl (fun r rows => emaVec o cfg.momentum F r (colMeans o F rows)) s.runMean ∧
    (runM (bnStep o cfg F) s hist).1.runVar =
      (trainBatches s.training hist).foldl (fun r rows => emaVec o cfg.momentum F r (colVars o F rows)) s.runVar ∧
    (runM (bnStep o cfg F) s hist).1.updates = s.updates + (trainBatches s.training hist).length :=
  bnRun_fold o cfg F hist s

/-- **Closed form** `r_N = (1-m)^N r_0 + Σ_{i<N} m (1-m)^{N-1-i} s_i` where `s_0 … s_{N-1}` are the batch means
    (resp. unbiased batch variances) of exactly the training-mode forward batches of the history, in order. -/
theorem running_closed_form (cfg : BNCfg ℝ) (F : ℕ) (s : BNSt ℝ) (hist : List (NOp ℝ)) (j : ℕ) (hj : j < F) :
    let tb := trainBatches s.training hist
    let m := cfg.momentum
    (runM (bnStep realX cfg F) s hist).1.runMean.getD j 0 =
      (1 - m) ^ tb.length * s.runMean.getD j 0 +
        ∑ i ∈ Finset.range tb.length, m * (1 - m) ^ (tb.length - 1 - i) * meanL realX ((Batch.d2 (tb.getD i [])).col realX j) ∧
    (runM (bnStep realX cfg F) s hist).1.runVar.getD j 0 =
      (1 - m) ^ tb.length * s.runVar.getD j 0 +
        ∑ i ∈ Finset.range tb.length, m * (1 - m) ^ (tb.length - 1 - i) * varUL realX ((Batch.d2 (tb.getD i [])).col realX j) := by
  intro tb m
  obtain ⟨h1, h2, _⟩ := bnRun_fold realX cfg F hist s
  constructor
  · rw [h1]
    exact foldl_emaVec_closed m F _ _ _ hj (g := fun rows => meanL realX ((Batch.d2 rows).col realX j))
      fun rows => colMeans_getD realX F rows hj
  · rw [h2]
    exact foldl_emaVec_closed m F _ _ _ hj (g := fun rows => varUL realX ((Batch.d2 rows).col realX j))
      fun rows => colVars_getD realX F rows hj

/-- **Evaluation mode uses the running statistics** (outputs and log-abs-det), and leaves the state alone. -/
theorem eval_uses_running (o : XOps α) (cfg : BNCfg α) (F : Nat) (s : BNSt α) (rows : List (List α))
    (he : s.training = false) :
    bnStep o cfg F s (.fwd (.d2 rows)) =
      (s, some (.ok (.d2 (bnNormalise o cfg F s.runMean s.runVar s.uweight s.bias rows),
                     bnLogdet o cfg F s.runVar s.uweight rows.length false))) :=
  bnStep_eval_fwd o cfg F s he rows

/-- **Training mode uses the batch statistics** — batch mean and, as coded, the UNBIASED batch variance — and moves
    both running statistics by one application of the momentum rule. -/
theorem train_uses_batch_stats (o : XOps α) (cfg : BNCfg α) (F : Nat) (s : BNSt α) (rows : List (List α))
    (ht : s.training = true) :
    bnStep o cfg F s (.fwd (.d2 rows)) =
      ({ s with runMean := emaVec o cfg.momentum F s.runMean (colMeans o F rows),
                runVar := emaVec o cfg.momentum F s.runVar (colVars o F rows),
                updates := s.updates + 1 },
       some (.ok (.d2 (bnNormalise o cfg F (colMeans o F rows) (colVars o F rows) s.uweight s.bias rows),
                  bnLogdet o cfg F (colVars o F rows) s.uweight rows.length false))) :=
  bnStep_train_fwd o cfg F s ht rows

/-- one application of the momentum rule over ℝ: `r ← (1 - m) r + m s`, per feature -/
theorem momentum_rule (m : ℝ) (F : ℕ) (r st : List ℝ) (j : ℕ) (hj : j < F) :
    (emaVec realX m F r st).getD j 0 = (1 - m) * r.getD j 0 + m * st.getD j 0 := by
  have := emaVec_getD realX m F r st hj
  simp only [realX_zero] at this
  rw [this, ema_real]; ring

/-- **Evaluation-mode forward and every inverse leave the state untouched** (running statistics, parameters, mode);
    so does every rejected call. -/
theorem eval_and_inverse_leave_state (o : XOps α) (cfg : BNCfg α) (F : Nat) (s : BNSt α) (b : Batch α) :
    (s.training = false → (bnStep o cfg F s (.fwd b)).1 = s) ∧ (bnStep o cfg F s (.inv b)).1 = s := by
  constructor
  · intro he
    cases b <;> simp [bnStep, he]
  · simp only [bnStep]
    split
    · rfl
    · split <;> rfl

/-- **The inverse is refused in training mode** (before the input is even looked at), and is available in
    evaluation mode for every 2-D input. -/
theorem inverse_refused_in_training (o : XOps α) (cfg : BNCfg α) (F : Nat) (s : BNSt α) (b : Batch α) :
    (s.training = true → bnStep o cfg F s (.inv b) = (s, some (.error .inverseNotAvailable))) ∧
    (s.training = false → ∀ rows, b = .d2 rows →
      bnStep o cfg F s (.inv b) =
        (s, some (.ok (.d2 (bnDenormalise o cfg F s.runMean s.runVar s.uweight s.bias rows),
                       bnLogdet o cfg F s.runVar s.uweight rows.length true)))) := by
  constructor
  · intro ht; simp [bnStep, ht]
  · intro he rows hb; subst hb; exact bnStep_eval_inv o cfg F s he rows

/-- only 2-D inputs are accepted by `forward` (any mode), with the state unchanged -/
theorem forward_rejects_non_2d (o : XOps α) (cfg : BNCfg α) (F : Nat) (s : BNSt α) (b : Batch α) (hb : b.isD2 = false) :
    bnStep o cfg F s (.fwd b) = (s, some (.error .valueError)) := by
  cases b with
  | d2 rows => simp [Batch.isD2] at hb
  | d4 h w imgs => rfl
  | bad d => rfl

/-! ## non-vacuity: the hypotheses are satisfiable by concrete, non-trivial data -/

/-- a history in which the first accepted training-mode forward is its sixth operation (the fifth is a rejected one) -/
example : firstTrainFwd (α := ℝ) true
    [.eval, .fwd (.d2 [[1], [3]]), .inv (.d2 [[0]]), .train, .fwd (.bad 3), .fwd (.d2 [[2], [5]]), .fwd (.d2 [[7], [7]])]
    = some (.d2 [[2], [5]]) := rfl

/-- a batch column satisfying the hypotheses of `actnorm_first_training_fwd_normalises` (two values, variance 2) -/
example : 2 ≤ ((Batch.d2 [[1], [3]]).col realX 0).length ∧ 0 < varUL realX ((Batch.d2 [[(1:ℝ)], [3]]).col realX 0) := by
  constructor
  · exact Nat.le_refl 2
  · simp only [Batch.col, List.map, List.getD_cons_zero, varUL_real]
    norm_num

/-- the training-mode batches of a mixed history are exactly the two forwarded in training mode -/
example : trainBatches (α := ℝ) true
    [.fwd (.d2 [[1], [3]]), .eval, .fwd (.d2 [[9], [9]]), .inv (.d2 [[0]]), .saveLoadFresh, .fwd (.d4 1 1 []), .fwd (.d2 [[2], [4]])]
    = [[[1], [3]], [[2], [4]]] := rfl

end Properties.C14
