import NflowsModel.Lemmas.TorchUtils
import NflowsModel.Lemmas.SplitInfer
import NflowsModel.Lemmas.Utils
import NflowsModel.Lemmas.Glue
import NflowsModel.Lemmas.RowMajor
import NflowsModel.Real.UtilsReal
import Mathlib.LinearAlgebra.Matrix.Notation
/-!
# C20 — tensor and mask utilities obey their algebraic specifications

Property theorems (and two small facts about the real instance next to `searchsorted_spec_real`).  They are about the executable definitions of `Core/TorchUtils` (what the driver runs against
`nflows/utils/torchutils.py` and `typechecks.py`), for every shape, size, count and value — no bounds.  A tensor is
`(shape, flat row-major data)`; `x.WF` says the data has as many entries as the shape announces.

Where the full-strength statement is false of the code it is kept in a comment, a `…_partial` version carries the forced
hypothesis and a `…_counterexample` proves the negation at a concrete witness: this is the state of `split_leading_dim` with an
inferred `-1` on 0-element tensors only (its complete contract, without the hypothesis, is in `Properties/C20D.lean`);
`sum_except_batch`, `merge_leading_dims`, `repeat_rows` hold in full of the code as of the `fix:` commits a69477f and 8b73dff.
-/
open NF NF.TU

namespace Properties.C20
variable {α : Type}

/-! ## tile -/

/-- `tile(x, n)` succeeds for every positive int `n` and is the reshape/repeat/transpose pipeline on the flat data -/
theorem tile_ok (x : T α) (n : ℕ) (hn : 0 < n) :
    tile x (.int n) = .ok ⟨[x.data.length * n], tileL x.data n⟩ := by
  have : isPositiveInt (.int (n : Int)) = true := by simp [isPositiveInt, asInt]; omega
  simp [tile, this]

/-- **tile places copies consecutively**: entry `i*n + r` of `tile(x, n)` is flat entry `i` of `x` (all shapes, all `n`) -/
theorem tile_spec (d : List α) (n i r : ℕ) (hi : i < d.length) (hr : r < n) :
    (tileL d n)[i * n + r]? = d[i]? := by
  rw [tileL_eq_repeatRows]; exact Pairing.repeatRows_get d n i r hi hr

theorem tile_length (d : List α) (n : ℕ) : (tileL d n).length = d.length * n := by
  rw [tileL_eq_repeatRows]; exact Pairing.repeatRows_length d n

/-- the pipeline reshape(-1)·repeat(n)·reshape(n,-1)·transpose(1,0)·reshape(-1) IS "each entry n times" -/
theorem tile_eq_repeatRows (d : List α) (n : ℕ) : tileL d n = Pairing.repeatRows d n := tileL_eq_repeatRows d n

/-- error contract: anything but a positive `int` is a `TypeError` (also `True`: torch rejects a bool repeat count) -/
theorem tile_typeError (x : T α) (v : PyVal) (h : isPositiveInt v = false ∨ isBool v = true) :
    tile x v = .error .typeError := by
  rcases h with h | h
  · simp [tile, h]
  · cases v <;> simp_all [tile, isBool]

/-! ## repeat_rows -/

/-- `repeat_rows(x, n)` on ANY tensor `[s0] ++ rest` (also with empty rows): shape `[s0*n] ++ rest`, rows repeated consecutively -/
theorem repeat_rows_ok (x : T α) (s0 : ℕ) (rest : List ℕ) (n : ℕ) (hx : x.shape = s0 :: rest) (hn : 0 < n) :
    repeatRows x (.int n) = .ok ⟨(s0 * n) :: rest, (Pairing.repeatRows (rowsOf s0 rest x.data) n).flatten⟩ := by
  have h1 : isPositiveInt (.int (n : Int)) = true := by simp [isPositiveInt, asInt]; omega
  have h2 : isPositiveInt (.int 2) = true := by decide
  have h3 : natOf (.int 2) = 2 := by decide
  have hn' : natOf (.int (n : Int)) = n := by simp [natOf, asInt]
  simp only [repeatRows, h1, hx, hn', mergeLeading, h2, h3, Bool.not_true, Bool.false_eq_true, if_false, List.length_cons]
  have hlen : ¬ (2 > rest.length + 1 + 1) := by omega
  have hnum : s0 * (n * (prodL rest)) = prodL ((s0 * (n * 1)) :: rest) := by simp [prodL, Nat.mul_assoc]
  simp only [hlen, if_false, List.drop_succ_cons, List.drop_zero, List.take_succ_cons, List.take_zero, reshape, T.numel, prodL]
  rw [hnum, inferSize_exact]
  simp [Pairing.repeatRows, List.flatMap_def]

/-- **repeat_rows index law** (row level): row `i*n + j` of the result is row `i` of `x` -/
theorem repeat_rows_rows (d : List α) (s0 : ℕ) (rest : List ℕ) (n i j : ℕ) (hi : i < s0) (hj : j < n) :
    (Pairing.repeatRows (rowsOf s0 rest d) n)[i * n + j]? = (rowsOf s0 rest d)[i]? :=
  Pairing.repeatRows_get _ n i j (by simpa [rowsOf, chunkRows_length] using hi) hj

/-- **repeat_rows index law** (element level, well-formed `x`): with `p = prod rest`, flat entry `(i*n + j)*p + c` of the
    result is flat entry `i*p + c` of `x` -/
theorem repeat_rows_spec (x : T α) (s0 : ℕ) (rest : List ℕ) (n i j c : ℕ) (hx : x.shape = s0 :: rest) (hwf : x.WF)
    (hi : i < s0) (hj : j < n) (hc : c < prodL rest) :
    ((Pairing.repeatRows (rowsOf s0 rest x.data) n).flatten)[(i * n + j) * prodL rest + c]? = x.data[i * prodL rest + c]? := by
  have hd : x.data.length = s0 * prodL rest := by simpa [T.WF, hx, prodL] using hwf
  have hrows : ∀ row ∈ rowsOf s0 rest x.data, row.length = prodL rest := chunkRows_row_length s0 (prodL rest) x.data hd
  have hrep : ∀ row ∈ Pairing.repeatRows (rowsOf s0 rest x.data) n, row.length = prodL rest := by
    intro row hrow
    simp only [Pairing.repeatRows, List.mem_flatMap, List.mem_replicate] at hrow
    obtain ⟨a, ha, _, rfl⟩ := hrow
    exact hrows _ ha
  have hlen : i * n + j < (Pairing.repeatRows (rowsOf s0 rest x.data) n).length := by
    rw [Pairing.repeatRows_length]; simp only [rowsOf, chunkRows_length]
    exact RowMajor.lt2 hi hj
  have := Pairing.mergeLeading_get (Pairing.repeatRows (rowsOf s0 rest x.data) n) (prodL rest) (i * n + j) c hrep hlen hc
  simp only [Pairing.mergeLeading] at this
  rw [this, repeat_rows_rows x.data s0 rest n i j hi hj]
  exact chunkRows_entry s0 (prodL rest) x.data i c hi hc

theorem repeat_rows_typeError (x : T α) (v : PyVal) (h : isPositiveInt v = false) : repeatRows x v = .error .typeError := by
  simp [repeatRows, h]

/-! ## merge_leading_dims / split_leading_dim -/

/-- `merge_leading_dims(x, k)` succeeds for EVERY `1 ≤ k ≤ ndim` (also when a trailing dimension is 0): shape
    `[prod (shape[:k])] ++ shape[k:]`, same row-major data -/
theorem merge_ok (x : T α) (k : ℕ) (hk1 : 0 < k) (hk : k ≤ x.shape.length) :
    mergeLeading x (.int k) = .ok ⟨prodL (x.shape.take k) :: x.shape.drop k, x.data⟩ :=
  mergeLeading_ok x k hk1 hk

/-- **merge then split is the identity**, all shapes: splitting the merged leading dimension back into `shape[:k]`
    returns `x` itself. -/
theorem merge_split_id (x : T α) (k : ℕ) (hk1 : 0 < k) (hk : k ≤ x.shape.length) :
    ∃ m, mergeLeading x (.int k) = .ok m ∧ m.shape = prodL (x.shape.take k) :: x.shape.drop k ∧ m.data = x.data ∧
      splitLeading m ((x.shape.take k).map Int.ofNat) = .ok x := by
  refine ⟨_, merge_ok x k hk1 hk, rfl, rfl, ?_⟩
  simp only [splitLeading, reshape, T.numel, List.drop_succ_cons, List.drop_zero, prodL]
  rw [← List.map_append, List.take_append_drop, prodL_take_drop, inferSize_exact]

/-- **split then merge is the identity**, all shapes, for an explicit split `s` of the leading dimension
    (`prod s = shape[0]`, `s` non-empty): the split succeeds with shape `s ++ shape[1:]` and the same data, and merging
    its `len(s)` leading dimensions returns `x` itself. -/
theorem split_merge_id (x : T α) (s0 : ℕ) (tail s : List ℕ) (hx : x.shape = s0 :: tail) (hs : prodL s = s0) (hne : s ≠ []) :
    splitLeading x (s.map Int.ofNat) = .ok ⟨s ++ tail, x.data⟩ ∧
    mergeLeading ⟨s ++ tail, x.data⟩ (.int s.length) = .ok x := by
  constructor
  · have hnum : x.numel = prodL (s ++ tail) := by simp [T.numel, hx, prodL, prodL_append, hs]
    simp only [splitLeading, reshape, hx, List.drop_succ_cons, List.drop_zero]
    rw [← List.map_append, hnum, inferSize_exact]
  · have hlen : 0 < s.length := List.length_pos_of_ne_nil hne
    have := merge_ok (⟨s ++ tail, x.data⟩ : T α) s.length hlen (by simp)
    rw [this]
    simp only [List.take_left', List.drop_left', hs]
    cases x; simp_all

/- Full-strength statement for a split shape with an inferred `-1` (FALSE of the code on 0-element tensors):
   `split_leading_dim(x, sh)` succeeds whenever `sh` with its `-1` filled in multiplies to `shape[0]`, and
   merging gives `x` back.  `torch.reshape` cannot infer a `-1` for a 0-element tensor (RuntimeError) and cannot check an explicit shape
   against `shape[0]` when the trailing block is empty; hence `0 < prod (shape[1:])` below. -/

/-- split (possibly with one `-1`) then merge, non-empty trailing block: whenever the split succeeds it keeps the data,
    produces `s ++ shape[1:]` with `prod s = shape[0]`, and merging the `len(sh)` leading dimensions returns `x` itself. -/
theorem split_merge_id_infer_partial (x y : T α) (s0 : ℕ) (tail : List ℕ) (sh : List Int) (hx : x.shape = s0 :: tail)
    (hp : 0 < prodL tail) (hsh : sh ≠ []) (h : splitLeading x sh = .ok y) :
    y.data = x.data ∧ (∃ s : List ℕ, s.length = sh.length ∧ y.shape = s ++ tail ∧ prodL s = s0) ∧
      mergeLeading y (.int sh.length) = .ok x :=
  SplitInfer.split_merge_id_infer_of_pos x y s0 tail sh hx hp hsh h

/-- witnesses for the forced hypothesis: on a `[6, 0]` tensor an inferred `-1` raises, and a wrong explicit split is accepted -/
theorem split_infer_empty_counterexample :
    splitLeading (⟨[6, 0], []⟩ : T Int) [-1, 3] = .error .runtime ∧
    splitLeading (⟨[6, 0], []⟩ : T Int) [2, 2] = .ok ⟨[2, 2, 0], []⟩ := by decide

/-- regression witnesses of the fixed finding G3: a `[2, 0]` tensor can be merged and have its rows repeated -/
theorem empty_trailing_ok :
    mergeLeading (⟨[2, 0], []⟩ : T Int) (.int 1) = .ok ⟨[2, 0], []⟩ ∧
    repeatRows (⟨[2, 0], []⟩ : T Int) (.int 3) = .ok ⟨[6, 0], []⟩ := by decide

/-- **what merging means for positions**: the element at multi-index `a ++ b` of a tensor of shape `s ++ t` is the element
    at multi-index `[flatIdx s a] ++ b` of the merged tensor of shape `[prod s] ++ t` (same row-major offset, and the data
    list is unchanged by `merge_split_id`). -/
theorem merged_index (s t a b : List ℕ) (h : a.length = s.length) :
    flatIdx (s ++ t) (a ++ b) = flatIdx (prodL s :: t) (flatIdx s a :: b) := by
  rw [flatIdx_append s t a b h]; rfl

theorem merge_error_contract (x : T α) (v : PyVal) :
    (isPositiveInt v = false → mergeLeading x v = .error .typeError) ∧
    (isPositiveInt v = true → natOf v > x.shape.length → mergeLeading x v = .error .valueError) := by
  constructor
  · intro h; simp [mergeLeading, h]
  · intro h h2; simp [mergeLeading, h, h2]

/-! ## sum_except_batch — "summing all but the batch dimensions preserves the batch", every `k ≥ 0` -/

/-- values for `k < ndim`: the first `k` dimensions are kept, entry `i` is the sum of block `i` -/
theorem sum_except_batch_reduce (x : T Int) (k : ℕ) (hk : k < x.shape.length) :
    sumExceptBatch x (.int k) =
      .ok ⟨x.shape.take k, (chunkRows (prodL (x.shape.take k)) (prodL (x.shape.drop k)) x.data).map List.sum⟩ := by
  have h1 : isNonnegInt (.int (k : Int)) = true := by simp [isNonnegInt, asInt]
  have hk' : natOf (.int (k : Int)) = k := by simp [natOf, asInt]
  have hne : (List.range' k (x.shape.length - k)).isEmpty = false := by
    cases hm : x.shape.length - k with
    | zero => omega
    | succ m => simp [List.range'_succ]
  simp [sumExceptBatch, h1, hk', hne]

/-- with `k ≥ ndim` every dimension is a batch dimension and `x` itself is returned (fixed finding G1) -/
theorem sum_except_batch_all_batch (x : T Int) (k : ℕ) (hk : x.shape.length ≤ k) :
    sumExceptBatch x (.int k) = .ok x := by
  have h1 : isNonnegInt (.int (k : Int)) = true := by simp [isNonnegInt, asInt]
  have hk' : natOf (.int (k : Int)) = k := by simp [natOf, asInt]
  have : x.shape.length - k = 0 := by omega
  simp [sumExceptBatch, h1, hk', this]

/-- **the batch is preserved, every `k`**: the result always has shape `shape[:k]` -/
theorem sum_except_batch_shape (x : T Int) (k : ℕ) :
    ∃ y, sumExceptBatch x (.int k) = .ok y ∧ y.shape = x.shape.take k := by
  by_cases hk : k < x.shape.length
  · exact ⟨_, sum_except_batch_reduce x k hk, rfl⟩
  · exact ⟨x, sum_except_batch_all_batch x k (by omega), (List.take_of_length_le (by omega)).symm⟩

/-- **values, every `k`**: batch entry `i` is the sum of its block (for `k ≥ ndim` the block is the entry itself) -/
theorem sum_except_batch_value (x : T Int) (k i : ℕ) (hi : i < prodL (x.shape.take k)) :
    ∃ y, sumExceptBatch x (.int k) = .ok y ∧
      (k < x.shape.length →
        y.data[i]? = some (((x.data.drop (i * prodL (x.shape.drop k))).take (prodL (x.shape.drop k))).sum)) ∧
      (x.shape.length ≤ k → y = x) := by
  by_cases hk : k < x.shape.length
  · refine ⟨_, sum_except_batch_reduce x k hk, fun _ => ?_, fun h => by omega⟩
    simp [List.getElem?_map, chunkRows_getElem? _ _ _ i hi]
  · exact ⟨x, sum_except_batch_all_batch x k (by omega), fun h => absurd h hk, fun _ => rfl⟩

/-- regression witness of the fixed finding G1: `sum_except_batch(tensor([0,1,2]), 1)` is `[0,1,2]`, not the scalar `3` -/
theorem sum_except_batch_keeps_batch_example :
    sumExceptBatch ⟨[3], [0, 1, 2]⟩ (.int 1) = .ok ⟨[3], [0, 1, 2]⟩ := by decide

theorem sum_except_batch_typeError (x : T Int) (v : PyVal) (h : isNonnegInt v = false) :
    sumExceptBatch x v = .error .typeError := by simp [sumExceptBatch, h]

/-! ## searchsorted -/

/-- the two-buffer program returns exactly the executable `searchsortedG` used by the spline models -/
theorem searchsorted_result_eq (o : XOps α) (eps : Float) (locs : List α) (x : α) :
    (searchsorted o eps locs x).result = searchsortedG o eps locs x := rfl

/- `searchsorted_spec`, the bin-search theorem at any linearly ordered scalar semantics, stands in `Lemmas/TorchUtils`
   (namespace `Properties.C20`), next to the prefix lemma it rests on: the spline lemma files use it. -/

theorem realX_ordered (emb : Float → ℝ) : OrderedX (realX emb) := ⟨fun _ _ => rfl, fun _ _ => rfl⟩

/-- over the reals the written last edge is `l + eps` (the `nextafter` branch never wins) -/
theorem bumpedLast_real (emb : Float → ℝ) (eps : Float) (heps : 0 < emb eps) (l : ℝ) :
    bumpedLast (realX emb) eps l = l + emb eps := by
  simp only [bumpedLast, RealX.maxA_eq, RealX.add_eq, RealX.ofFloat_eq, RealX.nextUp_eq]
  exact max_eq_left (le_add_of_nonneg_right heps.le)

/-- **bin search over ℝ** (the real twin of what the driver runs at `Float`/`Float32`): any `eps` with positive real value -/
theorem searchsorted_spec_real (emb : Float → ℝ) (eps : Float) (heps : 0 < emb eps) (init : List ℝ) (l x first : ℝ)
    (hs : (init ++ [l]).Pairwise (· < ·)) (hfirst : init.head? = some first) (hlo : first ≤ x) (hhi : x ≤ l) :
    ∃ i : ℕ, searchsortedG (realX emb) eps (init ++ [l]) x = (i : Int) ∧ i < init.length ∧
      ∃ lo hi, (init ++ [l])[i]? = some lo ∧ (init ++ [l])[i + 1]? = some hi ∧ lo ≤ x ∧
        (x < hi ∨ (i + 1 = init.length ∧ x = l)) :=
  searchsorted_spec (realX emb) (realX_ordered emb) eps init l x hs
    (by rw [bumpedLast_real emb eps heps]; exact lt_add_of_pos_right l heps) first hfirst hlo hhi

/-- the `Finset` form of the same statement, about `Glue.binIdx`, the search of the spline assembly of C09 (the same statement as
    `Properties.C09.binSearch_spec`) -/
theorem binSearch_spec (xs : ℕ → ℝ) (K : ℕ) (eps x : ℝ) (hK : 0 < K) (heps : 0 < eps)
    (hx : ∀ k < K, xs k < xs (k+1)) (hlo : xs 0 ≤ x) (hhi : x ≤ xs K) :
    let i := Glue.binIdx xs K eps x
    i < K ∧ xs i ≤ x ∧ (x < xs (i+1) ∨ (i + 1 = K ∧ x = xs K)) :=
  Glue.binSearch_spec xs K eps x hK heps hx hlo hhi

/-- **searchsorted does not modify its argument**: in the two-buffer program of the current code (with `clone()`), the
    caller's `bin_locations` after the call is what it was before, for every input. -/
theorem searchsorted_pure (o : XOps α) (eps : Float) (locs : List α) (x : α) :
    (searchsorted o eps locs x).callerAfter = locs := rfl

/-- without the `clone()` (the code before commit 6ce8c16, finding F12) the caller's buffer IS changed whenever the written
    edge differs from the old one -/
theorem searchsorted_noclone_mutates (o : XOps α) (eps : Float) (init : List α) (l x : α) (h : bumpedLast o eps l ≠ l) :
    (searchsortedM o false eps (init ++ [l]) x).callerAfter ≠ init ++ [l] := by
  simp only [searchsortedM, List.reverse_append, List.reverse_cons, List.reverse_nil, List.nil_append, List.singleton_append,
    List.reverse_reverse, Bool.false_eq_true, if_false]
  intro hcon
  have := List.append_cancel_left hcon
  simp at this
  exact h this

theorem searchsorted_noclone_mutates_counterexample (emb : Float → ℝ) (eps : Float) (heps : 0 < emb eps) :
    (searchsortedM (realX emb) false eps [0, 1] 0).callerAfter ≠ [0, 1] := by
  have := searchsorted_noclone_mutates (realX emb) eps [0] 1 0 (by rw [bumpedLast_real emb eps heps]; exact (lt_add_of_pos_right 1 heps).ne')
  simpa using this

/-! ## cbrt -/

/-- the executed formula `sign(x) * exp(log(abs(x)) / 3.0)` at the real semantics is `Utils.cbrt` -/
theorem cbrt_executed_eq (emb : Float → ℝ) (x : ℝ) : cbrtG (realX emb) x = Utils.cbrt x := by
  simp [cbrtG, Utils.cbrt, RealX.sign_eq]

/-- **cube root, all signs including 0** -/
theorem cbrt_cube (emb : Float → ℝ) (x : ℝ) : (cbrtG (realX emb) x) ^ 3 = x := by
  rw [cbrt_executed_eq]; exact Utils.cbrt_cube x

theorem cbrt_neg (emb : Float → ℝ) (x : ℝ) : cbrtG (realX emb) (-x) = - cbrtG (realX emb) x := by
  simp only [cbrt_executed_eq, Utils.cbrt, abs_neg, Left.sign_neg]
  push_cast
  ring

theorem cbrt_zero (emb : Float → ℝ) : cbrtG (realX emb) 0 = 0 := by
  simp [cbrt_executed_eq, Utils.cbrt]

/-! ## logabsdet (`slogdet` by specification) -/

/-- for every sign of the determinant, `exp (logabsdet M) = |det M|` (non-singular `M`) and negating a row/the matrix
    does not change it -/
theorem logabsdet_spec {n : ℕ} (M : Matrix (Fin n) (Fin n) ℝ) (h : M.det ≠ 0) :
    Real.exp (logabsdetR M) = |M.det| ∧ logabsdetR (-M) = logabsdetR M := by
  constructor
  · exact Real.exp_log (abs_pos.mpr h)
  · rw [logabsdetR, logabsdetR, Matrix.det_neg, abs_mul, abs_pow, abs_neg, abs_one, one_pow, one_mul]

/-- the exact integer determinant the driver computes (Laplace expansion) is `Matrix.det` for 1×1, 2×2 and 3×3 -/
theorem detL_small (a b c d e f g h i : Int) :
    detL 1 [[a]] = Matrix.det !![a] ∧
    detL 2 [[a, b], [c, d]] = Matrix.det !![a, b; c, d] ∧
    detL 3 [[a, b, c], [d, e, f], [g, h, i]] = Matrix.det !![a, b, c; d, e, f; g, h, i] := by
  refine ⟨by simp [detL], ?_, ?_⟩
  -- expand the Laplace recursion on the literal rows with the list equations only (a plain `simp [detL]` searches far
  -- longer); what is left is a polynomial identity
  all_goals
    simp only [Matrix.det_fin_two_of, Matrix.det_fin_three, detL, removeAt, List.range_succ, List.range_zero, List.nil_append,
      List.cons_append, List.foldl_cons, List.foldl_nil, List.map_cons, List.map_nil, List.getD_cons_zero, List.getD_cons_succ,
      List.take, List.drop, Nat.zero_mod, BEq.rfl, ↓reduceIte, one_mul, mul_one, zero_add, Nat.mod_succ, Nat.reduceBEq,
      Bool.false_eq_true, Int.reduceNeg, neg_mul, Nat.mod_self, Fin.isValue, Matrix.of_apply, Matrix.cons_val',
      Matrix.cons_val_zero, Matrix.cons_val_fin_one, Matrix.cons_val_one, Matrix.cons_val]
    ring

/-! ## masks -/

/-- **alternating mask, pattern**: entry `i` is 1 exactly on even positions (`even = True`) / odd positions (`False`) -/
theorem alternating_mask_spec (n : ℕ) (even : Bool) (i : ℕ) (hi : i < n) :
    (alternatingMask n even)[i]? = some (if (i % 2 == 0) == even then 1 else 0) := by
  rw [alternatingMask, List.getElem?_map, List.getElem?_range hi, Option.map_some]
  refine congrArg some (if_congr ?_ rfl rfl)
  cases even <;> simp <;> omega

theorem alternating_mask_length (n : ℕ) (even : Bool) : (alternatingMask n even).length = n := by simp [alternatingMask]

/-- **alternating mask, count**: `⌈n/2⌉` ones for `even = True`, `⌊n/2⌋` for `even = False` -/
theorem alternating_mask_count (n : ℕ) (even : Bool) :
    (alternatingMask n even).count 1 = if even then (n + 1) / 2 else n / 2 := by
  -- the mask is `1` exactly at the positions `i` with `i % 2 = r`, `r = 0` for `even` and `1` otherwise
  rw [alternatingMask, count_one_map_ite]
  cases even
  · exact (List.countP_congr fun i _ => by simp; omega).trans (countP_range_mod2 n 1 (by omega))
  · exact (List.countP_congr fun i _ => by simp).trans (countP_range_mod2 n 0 (by omega))

/-- **mid-split mask, pattern**: exactly the first `⌈n/2⌉` entries are 1 -/
theorem mid_split_spec (n i : ℕ) (hi : i < n) :
    (midSplitMask n)[i]? = some (if i < (n + 1) / 2 then 1 else 0) := by
  simp [midSplitMask, List.getElem?_map, List.getElem?_range hi, midpoint_eq]

theorem mid_split_count (n : ℕ) : (midSplitMask n).count 1 = (n + 1) / 2 := by
  rw [midSplitMask, count_one_map_ite, midpoint_eq, countP_range_lt]; omega

/-- the Bool-list model of the design appendix has the same count -/
theorem mid_split_count_bool (n : ℕ) : (Utils.midSplitMask n).count true = (n + 1) / 2 := Utils.midSplit_count n

/-- **random mask, every draw**: if the drawn indices are distinct and in range (what `torch.multinomial(…,
    replacement=False)` returns) and there are `⌈n/2⌉` of them (`num_samples`, torchutils.py:131), the mask has entries in `{0,1}`
    and exactly `⌈n/2⌉` ones. -/
theorem random_mask_count (n : ℕ) (idxs : List ℕ) (hnd : idxs.Nodup) (hrange : ∀ i ∈ idxs, i < n)
    (hlen : idxs.length = midpoint n) :
    (randomMaskOf n idxs).count 1 = (n + 1) / 2 ∧ (randomMaskOf n idxs).length = n ∧
      ∀ v ∈ randomMaskOf n idxs, v = 0 ∨ v = 1 := by
  refine ⟨?_, by simp [randomMaskOf], ?_⟩
  · rw [← midpoint_eq, ← hlen, randomMaskOf, count_one_map_ite, List.countP_eq_length_filter]
    apply List.Perm.length_eq
    rw [List.perm_ext_iff_of_nodup (List.Nodup.filter _ List.nodup_range) hnd]
    intro a
    simp only [List.mem_filter, List.mem_range, decide_eq_true_eq, List.contains_iff_mem]
    exact ⟨fun h => h.2, fun h => ⟨hrange a h, h⟩⟩
  · intro v hv
    simp only [randomMaskOf, List.mem_map] at hv
    obtain ⟨i, _, rfl⟩ := hv
    split <;> simp

/-! ## get_temperature -/

/-- **temperature**: for `0 < bound < 1`, `max_value ≠ 0` the executed formula gives `t` with `σ(t·max_value) = bound`;
    the builtin `min(t, 1)` returns the tensor `t` when `t ≤ 1` and the int `1` when `1 < t`. -/
theorem temperature_spec (emb : Float → ℝ) (m b : ℝ) (hm : m ≠ 0) (hb0 : 0 < b) (hb1 : b < 1) :
    let r := getTemperature (realX emb) m b
    let t := -(1 / m) * (Real.log (1 - b) - Real.log b)
    (realX emb).sigmoid (t * m) = b ∧
    (t ≤ 1 → r = (true, t)) ∧ (1 < t → r = (false, 1)) := by
  intro r t
  have hlog1p : (realX emb).log1p (-b) = Real.log (1 - b) := by rw [RealX.log1p_eq, ← sub_eq_add_neg]
  have hr : r = if 1 < t then (false, 1) else (true, t) := by
    simp only [r, t, getTemperature, hlog1p, RealX.mul_eq, RealX.neg_eq, RealX.div_eq, RealX.one_eq, RealX.sub_eq, RealX.log_eq,
      RealX.lt_eq, decide_eq_true_eq]
  refine ⟨?_, ?_, ?_⟩
  · rw [RealX.sigmoid_eq]
    have htm : t * m = Real.log b - Real.log (1 - b) := by
      rw [mul_comm, ← mul_assoc, mul_neg, mul_one_div_cancel hm, neg_one_mul, neg_sub]
    have h1b : 0 < 1 - b := sub_pos.mpr hb1
    rw [htm, neg_sub, Real.exp_sub, Real.exp_log h1b, Real.exp_log hb0]
    field_simp; ring
  · intro h; rw [hr, if_neg (not_lt.mpr h)]
  · intro h; rw [hr, if_pos h]

/-! ## type predicates on Python values -/

/-- **`is_power_of_two`, all ints** (not a table): `not n & (n - 1)` on positive ints is "n is a power of two" -/
theorem is_power_of_two_iff (n : Int) : isPowerOfTwo (.int n) = true ↔ ∃ k : ℕ, n = 2 ^ k := by
  simp only [isPowerOfTwo, asInt]
  by_cases hn : 0 < n
  · have hne : n.toNat ≠ 0 := by omega
    simp only [hn, if_true, beq_iff_eq]
    rw [Nat.and_sub_one_eq_zero_iff_isPowerOfTwo hne]
    constructor
    · rintro ⟨k, hk⟩
      refine ⟨k, ?_⟩
      have : (n.toNat : Int) = n := Int.toNat_of_nonneg hn.le
      rw [← this, hk]; push_cast; rfl
    · rintro ⟨k, hk⟩
      exact ⟨k, by rw [hk]; exact Int.toNat_pow_of_nonneg (by norm_num) k |>.trans (by simp)⟩
  · simp only [hn, if_false, Bool.false_eq_true, false_iff, not_exists]
    intro k hk
    have : (0 : Int) < 2 ^ k := by positivity
    omega

/-- **truth tables** of the predicates on every kind of Python value: `bool ⊂ int` (`True` is the positive int 1 and a
    power of two, `False` is the non-negative int 0), floats / `None` / strings / other objects are never ints, sign cases -/
theorem predicates_table (n : Int) (b : Bool) :
    (isBool (.bool b) = true ∧ isBool (.int n) = false ∧ isBool .float = false ∧ isBool .none = false ∧ isBool .str = false) ∧
    (isInt (.int n) = true ∧ isInt (.bool b) = true ∧ isInt .float = false ∧ isInt .none = false ∧ isInt .str = false ∧ isInt .other = false) ∧
    (isPositiveInt (.int n) = decide (0 < n) ∧ isPositiveInt (.bool b) = b ∧ isPositiveInt .float = false ∧
      isPositiveInt .none = false ∧ isPositiveInt .str = false ∧ isPositiveInt .other = false) ∧
    (isNonnegInt (.int n) = decide (0 ≤ n) ∧ isNonnegInt (.bool b) = true ∧ isNonnegInt .float = false ∧
      isNonnegInt .none = false ∧ isNonnegInt .str = false ∧ isNonnegInt .other = false) ∧
    (isPowerOfTwo (.bool b) = b ∧ isPowerOfTwo (.int 0) = false ∧ (n < 0 → isPowerOfTwo (.int n) = false) ∧
      isPowerOfTwo .float = false ∧ isPowerOfTwo .none = false ∧ isPowerOfTwo .str = false ∧ isPowerOfTwo .other = false) := by
  refine ⟨⟨rfl, rfl, rfl, rfl, rfl⟩, ⟨rfl, rfl, rfl, rfl, rfl, rfl⟩, ⟨rfl, ?_, rfl, rfl, rfl, rfl⟩, ⟨rfl, ?_, rfl, rfl, rfl, rfl⟩,
    ⟨?_, rfl, ?_, rfl, rfl, rfl, rfl⟩⟩
  · cases b <;> simp [isPositiveInt, asInt]
  · cases b <;> simp [isNonnegInt, asInt]
  · cases b <;> simp [isPowerOfTwo, asInt]
  · intro h; simp [isPowerOfTwo, asInt, not_lt.mpr h.le]

/-- consistency of the predicates with each other, every value -/
theorem predicates_consistent (v : PyVal) :
    (isBool v = true → isInt v = true) ∧ (isPositiveInt v = true → isNonnegInt v = true ∧ isInt v = true) ∧
    (isPowerOfTwo v = true → isPositiveInt v = true) := by
  cases v <;> simp [isBool, isInt, isPositiveInt, isNonnegInt, isPowerOfTwo, asInt] <;> try omega

/-! ## non-vacuity: the hypotheses are satisfiable by non-trivial data, and the executable definitions compute -/

example : tile ⟨[2, 3], [0, 1, 2, 3, 4, 5]⟩ (.int 2) = .ok ⟨[12], [0, 0, 1, 1, 2, 2, 3, 3, 4, 4, 5, 5]⟩ := by decide
example : repeatRows ⟨[2, 3], [0, 1, 2, 3, 4, 5]⟩ (.int 2) = .ok ⟨[4, 3], [0, 1, 2, 0, 1, 2, 3, 4, 5, 3, 4, 5]⟩ := by decide
example : mergeLeading ⟨[2, 3, 2], List.range 12⟩ (.int 2) = .ok ⟨[6, 2], List.range 12⟩ := by decide
example : splitLeading ⟨[6, 2], List.range 12⟩ [-1, 3] = .ok ⟨[2, 3, 2], List.range 12⟩ := by decide
example : sumExceptBatch ⟨[2, 3], [0, 1, 2, 3, 4, 5]⟩ (.int 1) = .ok ⟨[2], [3, 12]⟩ := by decide
example : ([0, 1, 3] ++ [(7 : ℝ)]).Pairwise (· < ·) := by simp; norm_num
example : alternatingMask 5 true = [1, 0, 1, 0, 1] ∧ midSplitMask 5 = [1, 1, 1, 0, 0] ∧ randomMaskOf 5 [4, 0, 2] = [1, 0, 1, 0, 1] := by decide
example : [4, 0, 2].Nodup ∧ (∀ i ∈ [4, 0, 2], i < 5) ∧ [4, 0, 2].length = midpoint 5 := by decide
example : ∃ m b : ℝ, m ≠ 0 ∧ 0 < b ∧ b < 1 := ⟨100, 0.999, by norm_num, by norm_num, by norm_num⟩

end Properties.C20
