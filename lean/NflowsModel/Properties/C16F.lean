import NflowsModel.Properties.C16
import NflowsModel.Lemmas.DualXFlow
/-!
# C16 (continued) — `Flow.log_prob` at dual numbers: the composition level

`Lemmas/DualXFlow.lean`.  About the executed batch-level programs
(`flowLogProbExec`, `compStage`, `luStage`, `actStage`, `bnEvalStage`, `qrStage`, `svdStage`, `stdNormalLogProb`, `diagNormalLogProb`):
`DualSoundStage` — for every batch size and every differentiable curve of (inputs, context) the dual call and the real calls are
accepted together with outputs and log-dets as (value, derivative), or raise the same exception — is closed under the cascade of
`CompositeTransform`, parameters of all stages moving simultaneously; the standard and diagonal normal are dual-sound bases;
`flow_logprob_dual_sound`: per batch row the dual run of `log_prob` returns (value, derivative along the line through inputs and all
parameters).  Instance with no hypothesis beyond the forced ones (ActNorm initialised, no unconstrained diagonal at the softplus threshold,
`eps ≥ 0`): [ActNorm, LULinear] over a standard normal.  Element-wise and affine / additive coupling stages (open domains through the "eventually
near t" variant `DualSoundStageNear`) are in `Properties/C16S.lean`, the RQ-tails coupling stage in `Properties/C16R.lean`.  Not covered:
autoregressive stages, the inverse / sampling direction.
-/
set_option linter.all false
namespace Properties.C16

theorem standard_normal_logprob_dual_sound :
    ∀ (e : Float → ℝ) {t : ℝ} (shape inShape : List ℕ) (c : Bool),
      DualXFlow.DualSoundBase t
        (fun (x : ℝ) (B : ℕ) (rows : List (List ℝ)) (x_1 : Array ℝ) =>
          NF.Density.stdNormalLogProb (NF.realX e) shape inShape (NF.RowIndependenceMore.ctxOf c B) rows)
        fun (B : ℕ) (rows : List (List (ℝ × ℝ))) (x : Array (ℝ × ℝ)) =>
        NF.Density.stdNormalLogProb (NF.dualX (NF.realX e)) shape inShape (NF.RowIndependenceMore.ctxOf c B) rows :=
  @DualXFlow.standard_normal_logprob_dual_sound

theorem diagNormal_logprob_dual_sound :
    ∀ (e : Float → ℝ) {t : ℝ} (shape inShape : List ℕ) (c : Bool)
      {m ls : ℝ → List ℝ} {dm dls : List (ℝ × ℝ)},
      DualXLU.DV t m dm →
        DualXLU.DV t ls dls →
          DualXFlow.DualSoundBase t
            (fun (s : ℝ) (B : ℕ) (rows : List (List ℝ)) (x : Array ℝ) =>
              NF.Density.diagNormalLogProb (NF.realX e) shape inShape (NF.RowIndependenceMore.ctxOf c B) (m s) (ls s) rows)
            fun (B : ℕ) (rows : List (List (ℝ × ℝ))) (x : Array (ℝ × ℝ)) =>
            NF.Density.diagNormalLogProb (NF.dualX (NF.realX e)) shape inShape (NF.RowIndependenceMore.ctxOf c B) dm dls
              rows :=
  @DualXFlow.diagNormal_logprob_dual_sound

theorem dualSound_compStage :
    ∀ (e : Float → ℝ) {t : ℝ} {Ss : List (ℝ → NF.FlowRowsExec.BStage ℝ)}
      {Ds : List (NF.FlowRowsExec.BStage (ℝ × ℝ))},
      List.Forall₂ (DualXFlow.DualSoundStage t) Ss Ds →
        DualXFlow.DualSoundStage t
          (fun (s : ℝ) =>
            NF.FlowRowsExec.compStage (NF.realX e) (List.map (fun (S : ℝ → NF.FlowRowsExec.BStage ℝ) => S s) Ss))
          (NF.FlowRowsExec.compStage (NF.dualX (NF.realX e)) Ds) :=
  @DualXFlow.dualSound_compStage

theorem dualSound_luStage :
    ∀ (e : Float → ℝ) {t : ℝ} (w : ℕ) {P : ℝ → NF.LF.LUParams ℝ}
      {dp : NF.LF.LUParams (ℝ × ℝ)},
      DualXLU.LUCurve t P dp →
        (∀ d ∈ dp.udiag, d.1 ≠ 20) →
          (∀ d ∈ dp.udiag, NF.LF.softplus (DualXLU.Rr e) d.1 + dp.eps.1 ≠ 0) →
            DualXFlow.DualSoundStage t (fun (s : ℝ) => NF.StageMore.luStage (NF.realX e) w (P s))
              (NF.StageMore.luStage (NF.dualX (NF.realX e)) w dp) :=
  @DualXFlow.dualSound_luStage

theorem dualSound_actStage :
    ∀ (e : Float → ℝ) {t : ℝ} (F : ℕ) {S : ℝ → NF.Norm.ActSt ℝ} {ds : NF.Norm.ActSt (ℝ × ℝ)},
      DualXFlow.ActCurve t S ds →
        ds.initialized = Bool.true ∨ ds.training = Bool.false →
          DualXFlow.DualSoundStage t (fun (s : ℝ) => NF.StageMore.actStage (NF.realX e) F (S s))
            (NF.StageMore.actStage (NF.dualX (NF.realX e)) F ds) :=
  @DualXFlow.dualSound_actStage

theorem dualSound_bnEvalStage :
    ∀ (e : Float → ℝ) {t : ℝ} (F : ℕ) {cfg : ℝ → NF.Norm.BNCfg ℝ} {S : ℝ → NF.Norm.BNSt ℝ}
      {dcfg : NF.Norm.BNCfg (ℝ × ℝ)} {ds : NF.Norm.BNSt (ℝ × ℝ)},
      DualXFlow.BNCurve t cfg S dcfg ds →
        ds.training = Bool.false →
          (∀ j < F, (ds.uweight.getD j (0, 0)).1 ≠ 20) →
            (∀ j < F, 0 < (ds.runVar.getD j (0, 0)).1 + dcfg.eps.1) →
              (∀ j < F, (NF.realX e).softplus (ds.uweight.getD j (0, 0)).1 + dcfg.eps.1 ≠ 0) →
                DualXFlow.DualSoundStage t (fun (s : ℝ) => NF.StageMore.bnEvalStage (NF.realX e) (cfg s) F (S s))
                  (NF.StageMore.bnEvalStage (NF.dualX (NF.realX e)) dcfg F ds) :=
  @DualXFlow.dualSound_bnEvalStage

/-- **`QRLinear.forward` as a stage** (`DualXOrth.qrForward_dual_curve`, `qrLogabsdet_dual_curve`); side condition: every
    Householder vector non-zero at the primal point -/
theorem dualSound_qrStage :
    ∀ (e : Float → ℝ) {t : ℝ} (w : ℕ) {P : ℝ → NF.LF.QRParams ℝ}
      {dp : NF.LF.QRParams (ℝ × ℝ)},
      DualXOrth.QRCurve t P dp →
        (∀ dq ∈ dp.qs, (DualXOrth.sqNorm (DualXLU.Dd e) dq).1 ≠ 0) →
          DualXFlow.DualSoundStage t (fun (s : ℝ) => NF.StageMore.qrStage (NF.realX e) w (P s))
            (NF.StageMore.qrStage (NF.dualX (NF.realX e)) w dp) :=
  open DualXLU DualXFlow NF.StageMore LinearFresh in fun e _ w P dp hP hne =>
    dualSound_passStage e w (fun s => qrForwardLd (Rr e) (P s)) (qrForwardLd (Dd e) dp)
      (fun _ _ hrows => ⟨DualXOrth.qrForward_dual_curve hP hrows hne, timesOnes_dual (DualXOrth.qrLogabsdet_dual_curve hP) hrows⟩)

/-- **`SVDLinear.forward` as a stage** (`DualXOrth.svdForward_dual_curve`, `svdLogabsdet_dual_curve`); side conditions: no
    unconstrained diagonal entry AT 20, Householder vectors non-zero, diagonal entries non-zero -/
theorem dualSound_svdStage :
    ∀ (e : Float → ℝ) {t : ℝ} (w : ℕ) {P : ℝ → NF.LF.SVDParams ℝ}
      {dp : NF.LF.SVDParams (ℝ × ℝ)},
      DualXOrth.SVDCurve t P dp →
        (∀ d ∈ dp.udiag, d.1 ≠ 20) →
          (∀ dq ∈ dp.qs1, (DualXOrth.sqNorm (DualXLU.Dd e) dq).1 ≠ 0) →
            (∀ dq ∈ dp.qs2, (DualXOrth.sqNorm (DualXLU.Dd e) dq).1 ≠ 0) →
              (∀ d ∈ NF.LF.svdDiag (DualXLU.Dd e) dp, d.1 ≠ 0) →
                DualXFlow.DualSoundStage t (fun (s : ℝ) => NF.StageMore.svdStage (NF.realX e) w (P s))
                  (NF.StageMore.svdStage (NF.dualX (NF.realX e)) w dp) :=
  open DualXLU DualXFlow NF.StageMore LinearFresh in fun e _ w P dp hP hthr hne1 hne2 hne =>
    dualSound_passStage e w (fun s => svdForwardLd (Rr e) (P s)) (svdForwardLd (Dd e) dp)
      (fun _ _ hrows => ⟨DualXOrth.svdForward_dual_curve hP hrows hthr hne1 hne2,
        timesOnes_dual (DualXOrth.svdLogabsdet_dual_curve hP hthr hne) hrows⟩)

/-- `DualXFlow.flowLogProbExec_dual_along` for a transform that is dual sound at every `s`, on every input -/
theorem flowLogProbExec_dual_curve :
    ∀ {e : Float → ℝ} {t : ℝ} (w : ℕ) {embR : ℝ → ℕ → Array ℝ → Array ℝ}
      {embD : ℕ → Array (ℝ × ℝ) → Array (ℝ × ℝ)} {S : ℝ → NF.FlowRowsExec.BStage ℝ} {D : NF.FlowRowsExec.BStage (ℝ × ℝ)}
      {bR : ℝ → NF.FlowRowsExec.BaseD ℝ} {bD : NF.FlowRowsExec.BaseD (ℝ × ℝ)},
      (∀ (B : ℕ) (c : ℝ → Array ℝ) (dc : Array (ℝ × ℝ)),
          DualXFlow.DA t c dc → DualXFlow.DA t (fun (s : ℝ) => embR s B (c s)) (embD B dc)) →
        DualXFlow.DualSoundStage t S D →
          DualXFlow.DualSoundBase t bR bD →
            ∀ (B : ℕ) {X ctx : ℝ → Array ℝ} {dX dctx : Array (ℝ × ℝ)},
              DualXFlow.DA t X dX →
                DualXFlow.DA t ctx dctx →
                  (∀ (dlps : List (ℝ × ℝ)),
                      NF.FlowRowsExec.flowLogProbExec (NF.dualX (NF.realX e)) w embD D bD B dX dctx = Except.ok dlps →
                        ∃ (lps : ℝ → List ℝ),
                          (∀ (s : ℝ),
                              NF.FlowRowsExec.flowLogProbExec (NF.realX e) w (embR s) (S s) (bR s) B (X s) (ctx s) =
                                Except.ok (lps s)) ∧
                            DualXLU.DV t lps dlps) ∧
                    ∀ (err : NF.Density.DErr),
                      NF.FlowRowsExec.flowLogProbExec (NF.dualX (NF.realX e)) w embD D bD B dX dctx = Except.error err →
                        ∀ (s : ℝ),
                          NF.FlowRowsExec.flowLogProbExec (NF.realX e) w (embR s) (S s) (bR s) B (X s) (ctx s) =
                            Except.error err :=
  by
  intro e t w embR embD S D bR bD hemb hT hb B X ctx dX dctx hX hc
  simpa only [Filter.eventually_top] using
    DualXFlow.flowLogProbExec_dual_along le_rfl w hemb (DualXFlow.dualSoundStage_iff_along.1 hT) hb B hX hc trivial

theorem flow_logprob_dual_sound :
    ∀ (e : Float → ℝ) (w : ℕ) {Ss : List (ℝ → NF.FlowRowsExec.BStage ℝ)}
      {Ds : List (NF.FlowRowsExec.BStage (ℝ × ℝ))},
      List.Forall₂ (DualXFlow.DualSoundStage 0) Ss Ds →
        ∀ {bR : ℝ → NF.FlowRowsExec.BaseD ℝ} {bD : NF.FlowRowsExec.BaseD (ℝ × ℝ)},
          DualXFlow.DualSoundBase 0 bR bD →
            ∀ (B : ℕ) (dX dctx : Array (ℝ × ℝ)),
              (∀ (dlps : List (ℝ × ℝ)),
                  NF.FlowRowsExec.flowLogProbExec (NF.dualX (NF.realX e)) w (fun (x : ℕ) (a : Array (ℝ × ℝ)) => a)
                        (NF.FlowRowsExec.compStage (NF.dualX (NF.realX e)) Ds) bD B dX dctx =
                      Except.ok dlps →
                    ∃ (lps : ℝ → List ℝ),
                      (∀ (s : ℝ),
                          NF.FlowRowsExec.flowLogProbExec (NF.realX e) w (fun (x : ℕ) (a : Array ℝ) => a)
                              (NF.FlowRowsExec.compStage (NF.realX e)
                                (List.map (fun (S : ℝ → NF.FlowRowsExec.BStage ℝ) => S s) Ss))
                              (bR s) B (DualXFlow.lineA s dX) (DualXFlow.lineA s dctx) =
                            Except.ok (lps s)) ∧
                        (∀ (s : ℝ), (lps s).length = dlps.length) ∧
                          ∀ (i : ℕ),
                            (dlps.getD i (0, 0)).1 = (lps 0).getD i 0 ∧
                              HasDerivAt (fun (s : ℝ) => (lps s).getD i 0) (dlps.getD i (0, 0)).2 0) ∧
                ∀ (err : NF.Density.DErr),
                  NF.FlowRowsExec.flowLogProbExec (NF.dualX (NF.realX e)) w (fun (x : ℕ) (a : Array (ℝ × ℝ)) => a)
                        (NF.FlowRowsExec.compStage (NF.dualX (NF.realX e)) Ds) bD B dX dctx =
                      Except.error err →
                    ∀ (s : ℝ),
                      NF.FlowRowsExec.flowLogProbExec (NF.realX e) w (fun (x : ℕ) (a : Array ℝ) => a)
                          (NF.FlowRowsExec.compStage (NF.realX e)
                            (List.map (fun (S : ℝ → NF.FlowRowsExec.BStage ℝ) => S s) Ss))
                          (bR s) B (DualXFlow.lineA s dX) (DualXFlow.lineA s dctx) =
                        Except.error err :=
  @DualXFlow.flow_logprob_dual_sound

theorem flow_act_lu_logprob_dual_sound :
    ∀ (e : Float → ℝ) (w : ℕ) (ds : NF.Norm.ActSt (ℝ × ℝ))
      (dp : NF.LF.LUParams (ℝ × ℝ)),
      ds.initialized = Bool.true ∨ ds.training = Bool.false →
        (∀ d ∈ dp.udiag, d.1 ≠ 20) →
          0 ≤ dp.eps.1 →
            ∀ (shape inShape : List ℕ) (c : Bool) (B : ℕ) (dX dctx : Array (ℝ × ℝ)),
              have flowD :=
                NF.FlowRowsExec.flowLogProbExec (NF.dualX (NF.realX e)) w (fun (x : ℕ) (a : Array (ℝ × ℝ)) => a)
                  (NF.FlowRowsExec.compStage (NF.dualX (NF.realX e))
                    [NF.StageMore.actStage (NF.dualX (NF.realX e)) w ds, NF.StageMore.luStage (NF.dualX (NF.realX e)) w dp])
                  (fun (B : ℕ) (rows : List (List (ℝ × ℝ))) (x : Array (ℝ × ℝ)) =>
                    NF.Density.stdNormalLogProb (NF.dualX (NF.realX e)) shape inShape (NF.RowIndependenceMore.ctxOf c B)
                      rows)
                  B dX dctx;
              have flowR := fun (s : ℝ) =>
                NF.FlowRowsExec.flowLogProbExec (NF.realX e) w (fun (x : ℕ) (a : Array ℝ) => a)
                  (NF.FlowRowsExec.compStage (NF.realX e)
                    [NF.StageMore.actStage (NF.realX e) w (DualXFlow.lineAct s ds),
                      NF.StageMore.luStage (NF.realX e) w (DualXLU.lineP s dp)])
                  (fun (B : ℕ) (rows : List (List ℝ)) (x : Array ℝ) =>
                    NF.Density.stdNormalLogProb (NF.realX e) shape inShape (NF.RowIndependenceMore.ctxOf c B) rows)
                  B (DualXFlow.lineA s dX) (DualXFlow.lineA s dctx);
              (∀ (dlps : List (ℝ × ℝ)),
                  flowD = Except.ok dlps →
                    ∃ (lps : ℝ → List ℝ),
                      (∀ (s : ℝ), flowR s = Except.ok (lps s)) ∧
                        (∀ (s : ℝ), (lps s).length = dlps.length) ∧
                          ∀ (i : ℕ),
                            (dlps.getD i (0, 0)).1 = (lps 0).getD i 0 ∧
                              HasDerivAt (fun (s : ℝ) => (lps s).getD i 0) (dlps.getD i (0, 0)).2 0) ∧
                ∀ (err : NF.Density.DErr), flowD = Except.error err → ∀ (s : ℝ), flowR s = Except.error err :=
  @DualXFlow.flow_act_lu_logprob_dual_sound

theorem flow_act_lu_accepted :
    ∀ {α : Type} (o : XOps α) (w : ℕ) (s : NF.Norm.ActSt α) (p : NF.LF.LUParams α),
      s.initialized = Bool.true ∨ s.training = Bool.false →
        ∀ (shape : List ℕ) (B : ℕ) (x ctx : Array α),
          ∃ (lps : List α),
            NF.FlowRowsExec.flowLogProbExec o w (fun (x : ℕ) (a : Array α) => a)
                (NF.FlowRowsExec.compStage o [NF.StageMore.actStage o w s, NF.StageMore.luStage o w p])
                (fun (B : ℕ) (rows : List (List α)) (x : Array α) =>
                  NF.Density.stdNormalLogProb o shape shape (NF.RowIndependenceMore.ctxOf Bool.false B) rows)
                B x ctx =
              Except.ok lps :=
  @DualXFlow.flow_act_lu_accepted

end Properties.C16
