import NflowsModel.Core.Dist
import NflowsModel.Lemmas.DistContract
/-!
# C18 — the distribution interface keeps its documented shape and argument contract

All statements are about the executable shape model `Core/Dist.lean` that the driver runs against `/repo`
(op `c18`).  They hold for every event shape with positive dimensions, every `n > 0`, every batch size `b > 0`
(dividing `n` or not), every number `R` of context rows, and every class whose two hooks `_sample` / `_log_prob`
meet the hook contract (`SampleSpec`, `LogProbSpec`) — which is then proved for the classes the shape model has (`StandardNormal`,
`ConditionalDiagonalNormal`, `ConditionalIndependentBernoulli`, `MADEMoG` with a context; for `DiagonalNormal` the `log_prob` half only)
and shown to be inherited by `Flow` from its base distribution.  The classes of `distributions/uniform.py` are not in the shape model.

Notation: `Accepts okRow ctx` — the context argument is `None` (if the class works unconditionally) or a tensor
`[R] ++ rest` of an accepted row shape; `ctxRows ctx` — `none` / `some R`;
`contractSample event none n = n :: event`, `contractSample event (some R) n = R :: n :: event`.

The full-strength reading "for EVERY distribution `sample(n)` returns `n` draws" is false of the code for two
classes — `MADEMoG.sample` without a context (AttributeError, finding F15) and `DiagonalNormal.sample`
(NotImplementedError) — see `sample_noctx_counterexample_madeMoG`, `diagNormal_sample_notImplemented`; the theorems
carry the forced hypothesis as `Accepts okRow ctx`.  A `bool` count (`True`) passes `is_positive_int`; with a
context it counts as 1, without one `torch.randn(True, …)` raises TypeError (`stdNormal_bool_*`).
-/
open NF.Dist

namespace Properties.C18

/-! ## argument validation -/

/-- `is_positive_int`: `True` counts as an int, `0`, negatives, floats, strings and `None` do not pass -/
theorem isPositiveInt_table :
    isPositiveInt (.int 1) = true ∧ isPositiveInt (.int 7) = true ∧ isPositiveInt (.bool true) = true ∧
    isPositiveInt (.int 0) = false ∧ isPositiveInt (.int (-1)) = false ∧ isPositiveInt (.bool false) = false ∧
    isPositiveInt .float = false ∧ isPositiveInt .str = false ∧ isPositiveInt .none = false := by decide

theorem isPositiveInt_int_iff (k : Int) : isPositiveInt (.int k) = true ↔ 0 < k := by simp [isPositiveInt]

/-- ANY class, any context, any batch size: a `num_samples` that is not a positive int is a TypeError -/
theorem sample_rejects_of_not_positive_int (h : Hooks) (num : PyVal) (ctx : Option Shape) (batch : PyVal)
    (hnum : isPositiveInt num = false) : h.sample num ctx batch = .error .typeError :=
  sample_typeError_of_not_posInt h num ctx batch hnum

/-- ANY class: a `batch_size` that is neither `None` nor a positive int is a TypeError -/
theorem sample_rejects_of_bad_batch_size (h : Hooks) (num : PyVal) (ctx : Option Shape) (batch : PyVal)
    (hb : isPositiveInt batch = false) (hb' : batch ≠ .none) : h.sample num ctx batch = .error .typeError :=
  sample_typeError_of_bad_batch h num ctx batch hb hb'

/-- `sample` raises TypeError **iff** `num_samples` is not a positive int (class meeting the hook contract,
    accepted context, documented batch size, `num_samples` not a `bool`) -/
theorem sample_rejects_iff {h : Hooks} {event : Shape} {okRow : Option Shape → Prop}
    (S : SampleSpec h event okRow) (ctx : Option Shape) (hctx : Accepts okRow ctx)
    (batch : PyVal) (hb : GoodBatch batch) (num : PyVal) (hnb : num.isBool = false) :
    h.sample num ctx batch = .error .typeError ↔ isPositiveInt num = false := by
  constructor
  · intro herr
    by_contra hpos
    have hpos' : isPositiveInt num = true := by simpa using hpos
    cases num with
    | int k =>
      have hk : 0 < k := (isPositiveInt_int_iff k).1 hpos'
      obtain ⟨n, rfl⟩ : ∃ n : Nat, k = (n : Int) := ⟨k.toNat, by omega⟩
      rw [sample_ok S ctx hctx n (by exact_mod_cast hk) batch hb] at herr
      cases herr
    | bool b => simp [PyVal.isBool] at hnb
    | float => simp [isPositiveInt] at hpos'
    | none => simp [isPositiveInt] at hpos'
    | str => simp [isPositiveInt] at hpos'
  · exact fun hnum => sample_typeError_of_not_posInt h num ctx batch hnum

/-- with a valid `num_samples`, `sample` raises TypeError **iff** `batch_size` is given and is not a positive int -/
theorem batch_size_rejects_iff {h : Hooks} {event : Shape} {okRow : Option Shape → Prop}
    (S : SampleSpec h event okRow) (ctx : Option Shape) (hctx : Accepts okRow ctx)
    (n : Nat) (hn : 0 < n) (batch : PyVal) (hnb : batch.isBool = false) :
    h.sample (.int n) ctx batch = .error .typeError ↔ (batch ≠ .none ∧ isPositiveInt batch = false) := by
  constructor
  · intro herr
    by_contra hcon
    have hgood : GoodBatch batch := by
      cases batch with
      | none => trivial
      | int b =>
        have : isPositiveInt (.int b) = true := by
          by_contra h0
          exact hcon ⟨by simp, by simpa using h0⟩
        exact (isPositiveInt_int_iff b).1 this
      | bool b => simp [PyVal.isBool] at hnb
      | float => exact absurd ⟨by simp, rfl⟩ hcon
      | str => exact absurd ⟨by simp, rfl⟩ hcon
    rw [sample_ok S ctx hctx n hn batch hgood] at herr
    cases herr
  · rintro ⟨h1, h2⟩
    exact sample_typeError_of_bad_batch h _ ctx batch h2 h1

/-! ## shapes -/

/-- `sample(n)` is `[n] ++ event`; `sample(n, context)` is `[R, n] ++ event` (one call, no batching) -/
theorem sample_shape {h : Hooks} {event : Shape} {okRow : Option Shape → Prop} (S : SampleSpec h event okRow)
    (ctx : Option Shape) (hctx : Accepts okRow ctx) (n : Nat) (hn : 0 < n) :
    h.sample (.int n) ctx .none = .ok (contractSample event (ctxRows ctx) n) :=
  sample_ok S ctx hctx n hn .none trivial

/-- **batched generation**: for every `n > 0` and every batch size `b > 0` — dividing `n` or not, larger than `n` or
    not — `n / b` full batches plus the remainder, joined along the draw dimension (0 without context, 1 with
    `R` context rows), give exactly the unbatched shape: `[n] ++ event`, resp. `[R, n] ++ event`. -/
theorem batched_sample_shape {h : Hooks} {event : Shape} {okRow : Option Shape → Prop} (S : SampleSpec h event okRow)
    (ctx : Option Shape) (hctx : Accepts okRow ctx) (n b : Nat) (hn : 0 < n) (hb : 0 < b) :
    h.sample (.int n) ctx (.int b) = .ok (contractSample event (ctxRows ctx) n) :=
  sample_ok S ctx hctx n hn (.int b) (show (0:Int) < (b:Int) by exact_mod_cast hb)

/-- the two cases written out -/
theorem batched_sample_shape_ctx {h : Hooks} {event : Shape} {okRow : Option Shape → Prop}
    (S : SampleSpec h event okRow) (R : Nat) (rest : Shape) (hok : okRow (some rest)) (hrest : Pos rest)
    (n b : Nat) (hn : 0 < n) (hb : 0 < b) :
    h.sample (.int n) (some (R :: rest)) (.int b) = .ok (R :: n :: event) :=
  batched_sample_shape S (some (R :: rest)) ⟨hok, hrest⟩ n b hn hb

theorem batched_sample_shape_noctx {h : Hooks} {event : Shape} {okRow : Option Shape → Prop}
    (S : SampleSpec h event okRow) (hok : okRow none) (n b : Nat) (hn : 0 < n) (hb : 0 < b) :
    h.sample (.int n) none (.int b) = .ok (n :: event) :=
  batched_sample_shape S none hok n b hn hb

/-- batching changes nothing about the shape -/
theorem batched_eq_unbatched {h : Hooks} {event : Shape} {okRow : Option Shape → Prop} (S : SampleSpec h event okRow)
    (ctx : Option Shape) (hctx : Accepts okRow ctx) (n b : Nat) (hn : 0 < n) (hb : 0 < b) :
    h.sample (.int n) ctx (.int b) = h.sample (.int n) ctx .none := by
  rw [batched_sample_shape S ctx hctx n b hn hb, sample_shape S ctx hctx n hn]

/-- value level: the result has `n` draws and draw `k` is draw `k mod b` of batch `k div b` (for every context
    row) — the pieces are laid side by side along the draw axis, nothing is interleaved or dropped -/
theorem batchLayout_spec (n b : Nat) (hb : 0 < b) :
    (batchLayout n b).length = n ∧ ∀ k, k < n → (batchLayout n b)[k]? = some (k / b, k % b) :=
  NF.Dist.batchLayout_spec n b hb

/-- `log_prob` returns one value per input row -/
theorem logprob_shape {h : Hooks} {event : Shape} {okRow : Option Shape → Prop} (L : LogProbSpec h event okRow)
    (rows : Nat) (ctx : Option Shape) (hctx : Accepts okRow ctx) (hrows : ∀ r, ctxRows ctx = some r → r = rows) :
    h.logProb (rows :: event) ctx = .ok [rows] :=
  logProb_ok L rows ctx hctx hrows

/-- ANY class: a context whose row count differs from the inputs' is a ValueError -/
theorem logprob_rejects_of_row_mismatch (h : Hooks) (rows r : Nat) (inTail ctxTail : Shape) (hne : rows ≠ r) :
    h.logProb (rows :: inTail) (some (r :: ctxTail)) = .error .valueError :=
  logProb_valueError_of_rows_ne h rows r inTail ctxTail hne

/-- `log_prob` raises ValueError **iff** the context's row count differs from the inputs' -/
theorem logprob_rejects_iff {h : Hooks} {event : Shape} {okRow : Option Shape → Prop} (L : LogProbSpec h event okRow)
    (rows r : Nat) (rest : Shape) (hok : okRow (some rest)) (hrest : Pos rest) :
    h.logProb (rows :: event) (some (r :: rest)) = .error .valueError ↔ rows ≠ r := by
  constructor
  · intro herr heq
    subst heq
    rw [logProb_ctx_ok L rows rest hok hrest] at herr
    cases herr
  · exact fun hne => logProb_valueError_of_rows_ne h rows r event rest hne

/-- `sample_and_log_prob` returns samples `[n] ++ event` / `[R, n] ++ event` and log-probabilities `[n]` / `[R, n]`,
    for every distribution object meeting the contract (default implementation or `Flow`'s override) -/
theorem sample_and_log_prob_shapes_match {d : Dist} {event : Shape} {okRow : Option Shape → Prop}
    (D : DistSpec d event okRow) (ctx : Option Shape) (hctx : Accepts okRow ctx) (n : Nat) (hn : 0 < n) :
    d.sampleAndLogProb (.int n) ctx = .ok (contractSample event (ctxRows ctx) n, contractLogProb (ctxRows ctx) n) :=
  salp_ok D ctx hctx n hn

/-- the samples returned by `sample_and_log_prob` have the shape `sample` returns, and the log-probabilities have
    that shape without the event dimensions -/
theorem sample_and_log_prob_agrees_with_sample {d : Dist} {event : Shape} {okRow : Option Shape → Prop}
    (D : DistSpec d event okRow) (ctx : Option Shape) (hctx : Accepts okRow ctx) (n : Nat) (hn : 0 < n) :
    ∃ s l, d.sampleAndLogProb (.int n) ctx = .ok (s, l) ∧ d.sample (.int n) ctx .none = .ok s ∧ s = l ++ event := by
  refine ⟨_, _, salp_ok D ctx hctx n hn, sample_ok D.sample ctx hctx n hn .none trivial, ?_⟩
  cases h : ctxRows ctx <;> simp [contractSample, contractLogProb]

/-- the default `Distribution.sample_and_log_prob` (base.py:88-122), any class meeting the hook contract -/
theorem default_sample_and_log_prob_shapes_match {h : Hooks} {event : Shape} {okRow : Option Shape → Prop}
    (S : SampleSpec h event okRow) (L : LogProbSpec h event okRow) (hev : Pos event)
    (ctx : Option Shape) (hctx : Accepts okRow ctx) (n : Nat) (hn : 0 < n) :
    h.sampleAndLogProb (.int n) ctx = .ok (contractSample event (ctxRows ctx) n, contractLogProb (ctxRows ctx) n) :=
  salp_ok (toDist_spec S L hev) ctx hctx n hn

/-- an invalid count is a TypeError from `sample_and_log_prob` too -/
theorem sample_and_log_prob_rejects (h : Hooks) (num : PyVal) (ctx : Option Shape) (hnum : isPositiveInt num = false) :
    h.sampleAndLogProb num ctx = .error .typeError :=
  salp_default_typeError h num ctx hnum

/-! ## the modelled classes meet the contract -/

/-- `StandardNormal`: any event shape, with or without a context of any row shape -/
theorem stdNormal_meets_contract (event : Shape) (hev : Pos event) :
    DistSpec (stdNormal event).toDist event (fun _ => True) :=
  toDist_spec (stdNormal_sampleSpec event) (stdNormal_logProbSpec event) hev

/-- `ConditionalDiagonalNormal` (identity encoder): contexts `[R, 2·|event|]` -/
theorem condDiagNormal_meets_contract (event : Shape) (hev : Pos event) :
    DistSpec (condDiagNormal event).toDist event (fun r => r = some [2 * numel event]) :=
  toDist_spec (condDiagNormal_sampleSpec event hev) (condDiagNormal_logProbSpec event) hev

/-- `ConditionalIndependentBernoulli` (identity encoder): contexts `[R, |event|]` -/
theorem condBernoulli_meets_contract (event : Shape) (hev : Pos event) :
    DistSpec (condBernoulli event).toDist event (fun r => r = some [numel event]) :=
  toDist_spec (condBernoulli_sampleSpec event hev) (condBernoulli_logProbSpec event) hev

/-- `MADEMoG(features = D, context_features = C)`: contexts `[R, C]` -/
theorem madeMoG_meets_contract (D C : Nat) (hD : 0 < D) (hC : 0 < C) :
    DistSpec (madeMoG D C).toDist [D] (fun r => r = some [C]) :=
  toDist_spec (madeMoG_sampleSpec D C hD hC)
    ((madeMoG_logProbSpec D C).mono (fun _ h => Or.inr h))
    (fun d hd => by simp at hd; subst hd; exact hD)

/-- `MADEMoG.log_prob` also works without a context -/
theorem madeMoG_logprob_noctx (D C rows : Nat) : (madeMoG D C).logProb [rows, D] none = .ok [rows] :=
  logProb_noctx_ok (madeMoG_logProbSpec D C) rows (Or.inl rfl)

/-- `DiagonalNormal`: `log_prob` meets the contract (any event shape, context ignored) -/
theorem diagNormal_logprob_contract (event : Shape) : LogProbSpec (diagNormal event) event (fun _ => True) :=
  diagNormal_logProbSpec event

/-- **`Flow` inherits the whole contract from its base distribution**: no context needs the identity embedding;
    a context row of width `w` must embed to the width the transform was built for, which the base must accept -/
theorem flow_meets_contract {tr : Tr} {event : Shape} {base : Dist} {emb : Emb} {okB : Option Shape → Prop}
    (B : DistSpec base event okB) (hev : Pos event) :
    DistSpec (flow tr event base emb) event (okFlow tr emb okB) :=
  flow_spec B hev

/-- `Flow.sample_and_log_prob` (the override, flows/base.py:77-106) returns matching shapes -/
theorem flow_sample_and_log_prob_shapes_match {tr : Tr} {event : Shape} {base : Dist} {emb : Emb}
    {okB : Option Shape → Prop} (B : DistSpec base event okB) (hev : Pos event)
    (ctx : Option Shape) (hctx : Accepts (okFlow tr emb okB) ctx) (n : Nat) (hn : 0 < n) :
    flowSalp tr event base emb (.int n) ctx
      = .ok (contractSample event (ctxRows ctx) n, contractLogProb (ctxRows ctx) n) :=
  salp_ok (flow_spec (tr := tr) (emb := emb) B hev) ctx hctx n hn

/-- batched sampling from a conditional flow with an embedding net, written out:
    `Flow(transform(context_features = C), StandardNormal(event), Linear(cin → C)).sample(n, context[R, cin], b)` -/
theorem flow_batched_sample_shape (event : Shape) (hev : Pos event) (C cin : Nat) (hC : 0 < C) (hcin : 0 < cin)
    (R n b : Nat) (hn : 0 < n) (hb : 0 < b) :
    (flow (.ctxAware C) event (stdNormal event).toDist (.linear cin C)).sample (.int n) (some [R, cin]) (.int b)
      = .ok (R :: n :: event) := by
  have D := flow_spec (tr := .ctxAware C) (emb := .linear cin C) (stdNormal_meets_contract event hev) hev
  have hok : okFlow (.ctxAware C) (.linear cin C) (fun _ => True) (some [cin]) :=
    ⟨cin, C, rfl, by simp [embWidth], hC, rfl, trivial⟩
  exact batched_sample_shape_ctx D.sample R [cin] hok (fun d hd => by simp at hd; subst hd; exact hcin) n b hn hb

/-- `SimpleRealNVP` / `MaskedAutoregressiveFlow` (transform built without context features, `StandardNormal` base,
    no embedding net) meet the contract as unconditional flows -/
theorem unconditional_flow_meets_contract (e : DErr) (D : Nat) (hD : 0 < D) :
    DistSpec (flow (.noCtx e) [D] (stdNormal [D]).toDist .identity) [D]
      (okFlow (.noCtx e) .identity (fun _ => True)) :=
  flow_spec (stdNormal_meets_contract [D] (fun d hd => by simp at hd; subst hd; exact hD))
    (fun d hd => by simp at hd; subst hd; exact hD)

theorem unconditional_flow_accepts_none (e : DErr) : Accepts (okFlow (.noCtx e) .identity (fun _ => True)) none :=
  ⟨rfl, trivial⟩

/-! ## where the code departs from the full-strength reading (mirrored, not hidden) -/

/-- F15: `MADEMoG.sample(n)` without a context raises AttributeError instead of returning `n` draws -/
theorem sample_noctx_counterexample_madeMoG (D C : Nat) (n : Nat) (hn : 0 < n) :
    (madeMoG D C).sample (.int n) none .none = .error .attributeError := by
  have hp : isPositiveInt (.int n) = true := (isPositiveInt_int_iff n).2 (Int.natCast_pos.mpr hn)
  unfold Hooks.sample
  rw [hp]
  rfl

/-- `DiagonalNormal._sample` is not implemented (after validation of the arguments) -/
theorem diagNormal_sample_notImplemented (event : Shape) (n : Nat) (hn : 0 < n) (ctx : Option Shape) :
    (diagNormal event).sample (.int n) ctx .none = .error .notImplemented := by
  have hp : isPositiveInt (.int n) = true := (isPositiveInt_int_iff n).2 (Int.natCast_pos.mpr hn)
  unfold Hooks.sample
  rw [hp]
  rfl

/-- `True` as `num_samples`: with a context it counts as 1 … -/
theorem stdNormal_bool_ctx_counts_as_one (event : Shape) (R : Nat) (rest : Shape) :
    (stdNormal event).sample (.bool true) (some (R :: rest)) .none = .ok (R :: 1 :: event) := by
  simp [Hooks.sample, isPositiveInt, stdNormal, PyVal.toNat, splitLeadingDim2, reshapeTo, numel]

/-- … without one, `torch.randn(True, …)` raises TypeError (the documented kind for a non-integer count) -/
theorem stdNormal_bool_noctx_typeError (event : Shape) :
    (stdNormal event).sample (.bool true) none .none = .error .typeError := by
  rfl

/-! ## non-vacuity: the hypotheses are met by concrete non-trivial data, and the model computes -/

example : Pos [2, 2] := by simp [Pos]
example : Accepts (fun r => r = some [2 * numel [2, 2]]) (some [3, 8]) := ⟨rfl, by simp [Pos]⟩
example : Accepts (okFlow (.ctxAware 2) (.linear 4 2) (fun _ => True)) (some [3, 4]) :=
  ⟨⟨4, 2, rfl, by simp [embWidth], by decide, rfl, trivial⟩, by simp [Pos]⟩
example : (condDiagNormal [2, 2]).sample (.int 5) (some [3, 8]) (.int 2) = .ok [3, 5, 2, 2] := by decide
example : (flow (.ctxAware 2) [3] (stdNormal [3]).toDist (.linear 4 2)).sample (.int 7) (some [3, 4]) (.int 3)
    = .ok [3, 7, 3] := by decide
example : (flow (.ctxAware 2) [3] (stdNormal [3]).toDist (.linear 4 2)).sampleAndLogProb (.int 5) (some [3, 4])
    = .ok ([3, 5, 3], [3, 5]) := by decide
example : (stdNormal [3]).logProb [4, 3] (some [3, 2]) = .error .valueError := by decide
example : batchLayout 5 2 = [(0, 0), (0, 1), (1, 0), (1, 1), (2, 0)] := by decide

end Properties.C18
