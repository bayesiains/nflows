import NflowsModel.Core.Made
import NflowsModel.Lemmas.Made
import NflowsModel.Lemmas.MadeNet
import NflowsModel.Lemmas.ARWhole
/-!
# C06 — MADE conditioners are strictly autoregressive for every architecture and weight

Property theorems only (helpers: `Lemmas/Made.lean`, `Lemmas/MadeNet.lean`; executable model: `Core/Made.lean`).

The executable model has ONE forward pass, `NF.Made.forward`, generic in the scalars `S` (weights) and the values `M`
of a unit.  The driver runs it at `M = List ℕ` (integer path counts, compared exactly with autograd Jacobians of both
copies of the implementation); the headline theorem `made_autoregressive` is about the same function at
`M = (β → ℕ → ℝ) → β → ℝ` (the value of a unit for every row of a batch, as a function of the whole input batch), so
batch norm in training mode (which couples rows) is covered.

Everything is universally quantified: feature count, every layer width, number and type of blocks, multiplier,
hidden degrees (ANY naturals — the sequential ones the code computes and any random draw are special cases; only the
residual-block check `Net.valid` is needed), weights, biases, context contributions, and the per-unit maps
(activation / dropout mask / batch norm), which may differ per site, per unit, and may couple the rows of the batch.

**Over the reals.**  A masked-out weight contributes exactly `0`.  In IEEE arithmetic `0 * inf = NaN`: an infinite or
NaN input is *not* shielded by the mask (the implementation then returns NaN in every block that has a masked
connection to that input).  The theorems below are statements about finite values computed exactly.
The `activation` is assumed to act unit by unit (an activation mixing units, e.g. a softmax over the layer, would
break the property and is outside the model).
-/
open NF.Made

namespace Properties.C06

/-! ## Re-statement of the proved lemma module (`Lemmas/Made.lean`, function-style model) -/

/-- a masked linear layer with the `≥` rule maps "unit `j` depends on inputs of degree `≤ dIn j`" to the same for `dOut`,
    for any weight matrix and bias -/
theorem maskedLinear_resp {F nin : ℕ} {W : ℕ → ℕ → ℝ} {b : ℕ → ℝ} {dIn dOut : ℕ → ℕ} {h : (ℕ → ℝ) → ℕ → ℝ}
    (hh : Made.Resp F dIn h) : Made.Resp F dOut (Made.maskedLinear nin W b dIn dOut h) :=
  Made.maskedLinear_resp hh

theorem elementwise_resp {F : ℕ} {degs : ℕ → ℕ} {h : (ℕ → ℝ) → ℕ → ℝ} (act : ℕ → ℝ → ℝ) (hh : Made.Resp F degs h) :
    Made.Resp F degs (fun x k => act k (h x k)) :=
  Made.elementwise_resp act hh

/-- the residual connection preserves the invariant when degrees do not decrease (the condition the `RuntimeError` check enforces) -/
theorem residual_resp {F : ℕ} {dIn dOut : ℕ → ℕ} {h g : (ℕ → ℝ) → ℕ → ℝ} (hle : ∀ k, dIn k ≤ dOut k)
    (hh : Made.Resp F dIn h) (hg : Made.Resp F dOut g) : Made.Resp F dOut (fun x k => h x k + g x k) :=
  Made.residual_resp hle hh hg

theorem made_output_autoregressive {F nin m : ℕ} (hm : 0 < m) {W : ℕ → ℕ → ℝ} {b : ℕ → ℝ} {dIn : ℕ → ℕ}
    {h : (ℕ → ℝ) → ℕ → ℝ} (hh : Made.Resp F dIn h) (i r : ℕ) (hr : r < m) (x x' : ℕ → ℝ)
    (hag : ∀ j < i, x j = x' j) :
    Made.maskedLinearOut nin W b dIn (Made.outDeg m) h x (i * m + r)
      = Made.maskedLinearOut nin W b dIn (Made.outDeg m) h x' (i * m + r) :=
  Made.made_output_autoregressive hm hh i r hr x x' hag

/-! ## The executable model: degrees and masks -/

/-- the two mask rules -/
theorem maskEntry_spec (dOut dIn : ℕ) :
    (maskEntry true dOut dIn = true ↔ dOut > dIn) ∧ (maskEntry false dOut dIn = true ↔ dOut ≥ dIn) := by
  simp [maskEntry]

/-- the `mask` buffer printed by the driver is `maskEntry` of the two degree lists, row = output unit -/
theorem mask_getElem (strict : Bool) (dIn dOut : List ℕ) (k i : ℕ) (hk : k < dOut.length) (hi : i < dIn.length) :
    ((mask strict dIn dOut)[k]'(by simpa [mask] using hk))[i]'(by simpa [mask] using hi)
      = maskEntry strict dOut[k] dIn[i] := by
  simp [mask]

/-- output units are ordered feature-major, multiplier-minor: unit `i*m + r` has degree `i + 1` -/
theorem outputDegrees_getElem (F m i r : ℕ) (hi : i < F) (hr : r < m) :
    (outputDegrees F m)[i * m + r]? = some (i + 1) := by
  have hm : 0 < m := Nat.zero_lt_of_lt hr
  rw [outputDegrees_getElem? F m hm _ (RowMajor.lt2 hi hr), RowMajor.div i hr]

/-- the sequential hidden degrees lie in the same range `[min(1,F-1), F-1]` from which random degrees are drawn -/
theorem seqDegrees_range (F H : ℕ) (hF : 0 < F) : ∀ d ∈ seqDegrees F H, min 1 (F - 1) ≤ d ∧ d ≤ F - 1 := by
  intro d hd
  simp only [seqDegrees, List.mem_map, List.mem_range] at hd
  obtain ⟨k, _, rfl⟩ := hd
  have := Nat.mod_lt k (show 0 < max 1 (F - 1) by omega)
  omega

/-- blocks built by `MADE.__init__` from sequential degrees always pass the residual check: the sequential degrees of two
    layers of equal width coincide (the `RuntimeError` is reachable only by building a block directly) -/
theorem seqDegrees_residual_ok (F H : ℕ) :
    degreesNonDecreasing (seqDegrees F H) (seqDegrees F (seqDegrees F (seqDegrees F H).length).length) = true := by
  rw [NF.Made.seqDegrees_length, NF.Made.seqDegrees_length]; exact NF.Made.zip_self_nonDecreasing _

/-- whatever `build` (the model of both constructors, compared with them exception by exception) returns without an
    error is a valid net with `F ≥ 1` features and multiplier `≥ 1` — for sequential AND for any admissible random
    degrees, feed-forward and residual blocks, any width and depth -/
theorem build_valid {a : Arch} {n : Net} (h : build a = .ok n) :
    n.valid = true ∧ 0 < n.F ∧ 0 < n.m ∧ n.F = a.F ∧ n.m = a.mult :=
  NF.Made.build_valid h

/-! ## The executable model: the forward pass -/

/-- **Generic form** (any scalars, any values with a dependence system `D`, any parameters that are constants /
    `Dep`-preserving, any valid net of any size): output unit `u` of the forward pass that the driver executes
    satisfies `Dep (u / m)`, i.e. depends only on inputs of degree `≤ u / m`, i.e. on inputs `j < u / m`. -/
theorem forward_respects_degrees {S M : Type} {o : MOps S M} {D : DepSys o} {P : Params S M} (hP : P.Good D)
    (n : Net) (hv : n.valid = true) (hm : 0 < n.m) (x : List M) (hx : StOk D ((inputDegrees n.F).zip x))
    (u : ℕ) (hu : u < (outputs o P n x).length) : D.Dep (u / n.m) (outputs o P n x)[u] :=
  outputs_dep hP n hv hm x hx u hu

/-- **MADE is autoregressive** — for every valid net (any `F`, any widths, any number of feed-forward or residual
    blocks, any hidden degrees, context on or off, batch norm on or off, either copy of `forward`), every multiplier
    `m ≥ 1`, all weights `W`, biases, context contributions `ctxv` (any function of the row), all per-unit maps `g`
    (activation, dropout mask, batch norm — each may couple the rows of the batch `β`), every batch type `β`:
    the output `i*m + r` (block of feature `i`), for every row `b`, is the same for two input batches that agree
    on the features `j < i`.  It does not depend on inputs `i, i+1, …`, of ANY row. -/
theorem made_autoregressive {β : Type} (n : Net) (hv : n.valid = true) (hm : 0 < n.m)
    (W : ℕ → ℕ → ℕ → ℝ) (bias : ℕ → ℕ → ℝ) (ctxv : ℕ → ℕ → β → ℝ) (g : ℕ → Slot → ℕ → (β → ℝ) → β → ℝ)
    (i r : ℕ) (hr : r < n.m) (X X' : β → ℕ → ℝ) (hag : ∀ j, j < i → ∀ b, X b j = X' b j) (b : β) :
    madeReal n W bias ctxv g X b (i * n.m + r) = madeReal n W bias ctxv g X' b (i * n.m + r) := by
  apply madeReal_autoregressive n hv hm
  rw [RowMajor.div i hr]; exact hag

/-- the same for everything the (modelled) constructor can build: no hypothesis besides `build a = .ok n` -/
theorem made_autoregressive_of_build {β : Type} (a : Arch) (n : Net) (hb : build a = .ok n)
    (W : ℕ → ℕ → ℕ → ℝ) (bias : ℕ → ℕ → ℝ) (ctxv : ℕ → ℕ → β → ℝ) (g : ℕ → Slot → ℕ → (β → ℝ) → β → ℝ)
    (i r : ℕ) (hr : r < a.mult) (X X' : β → ℕ → ℝ) (hag : ∀ j, j < i → ∀ b, X b j = X' b j) (b : β) :
    madeReal n W bias ctxv g X b (i * a.mult + r) = madeReal n W bias ctxv g X' b (i * a.mult + r) := by
  obtain ⟨hv, _, hm, _, hmm⟩ := NF.Made.build_valid hb
  rw [← hmm] at hr ⊢
  exact made_autoregressive n hv hm W bias ctxv g i r hr X X' hag b

/-- **the printed path-count matrix is strictly lower block-triangular**, for every valid net, every context width
    and activation multiplier: there is no mask-permitted path from input `j` to an output of block `u / m ≤ j` -/
theorem pathCount_zero (n : Net) (hv : n.valid = true) (hm : 0 < n.m) (C actMul u j : ℕ)
    (hj : j < n.F) (hu : u / n.m ≤ j) : ((pathCount n C actMul).getD u [])[j]?.getD 0 = 0 :=
  NF.Made.pathCount_zero n hv hm C actMul u j hj hu

theorem pathCount_rows (n : Net) (C actMul : ℕ) : (pathCount n C actMul).length = n.F * n.m :=
  pathCount_length n C actMul

/-! ## Non-vacuity: the hypotheses are met by concrete, non-trivial nets -/

/-- `F = 1` (a single feature: the output is a constant), residual blocks, context -/
example : (match build { F := 1, H := 1, nBlocks := 2, mult := 3, residual := true, random := false, nde := false,
                          ctx := 1, bn := true } with
           | .ok n => n.valid && (n.m == 3) && (n.d0 == [0]) | .error _ => false) = true := by decide

/-- hidden width smaller than the feature count, zero blocks -/
example : (match build { F := 4, H := 2, nBlocks := 0, mult := 2, residual := false, random := false, nde := true,
                          ctx := 0, bn := false } with
           | .ok n => n.valid && (n.d0 == [1, 2]) && (n.blocks == []) | .error _ => false) = true := by decide

/-- random degrees (read back from the module), feed-forward blocks -/
example : (match build { F := 3, H := 3, nBlocks := 1, mult := 1, residual := false, random := true, nde := true,
                          ctx := 0, bn := false, degs := [[2, 1, 2], [1, 1, 2]] } with
           | .ok n => n.valid && (n.blocks == [.ff [1, 1, 2]]) | .error _ => false) = true := by decide

/-- the dependence that IS allowed is really there: path counts of a residual net with `F = 3`, `H = 4`, `m = 2`
    (rows = outputs, feature-major; columns = inputs): zero on and above the block diagonal, non-zero below -/
example : pathCount { F := 3, m := 2, d0 := seqDegrees 3 4, blocks := [.res (seqDegrees 3 4) (seqDegrees 3 4)],
                      residual := true, nde := false, hasCtx := false, bn := false } 0 1
    = [[0, 0, 0], [0, 0, 0], [10, 0, 0], [10, 0, 0], [36, 10, 0], [36, 10, 0]] := by decide

/-- a residual block fed with decreasing degrees is rejected (`RuntimeError`), a `Net` containing one is not valid -/
example : buildResBlock 3 false [2, 2, 1] = .error .runtime := by decide
example : Net.valid { F := 3, m := 1, d0 := [2, 2, 1], blocks := [.res [1, 2, 1] [1, 2, 1]], residual := true,
                      nde := false, hasCtx := false, bn := false } = false := by decide

/-- **the MADE model, used as the conditioner of the executed autoregressive transform, is autoregressive in the sense the
    transform needs**: the parameter block of feature `i` of every batch row is unchanged by any change of the features `≥ i` of
    any row — for every valid net, all weights, any context, and per-unit maps that may couple batch rows (batch norm). -/
theorem made_is_autoreg_conditioner (n : NF.Made.Net) (hv : n.valid = true) (hm : 0 < n.m) (W : ℕ → ℕ → ℕ → ℝ) (bias : ℕ → ℕ → ℝ)
    (B : Nat) (ctxv : ℕ → ℕ → Fin B → ℝ) (g : ℕ → NF.Made.Slot → ℕ → (Fin B → ℝ) → Fin B → ℝ) :
    NF.ARWhole.AutoregNet B n.F n.m (NF.ARWhole.madeNet n W bias B ctxv g) :=
  NF.ARWhole.madeNet_autoreg n hv hm W bias B ctxv g

end Properties.C06
