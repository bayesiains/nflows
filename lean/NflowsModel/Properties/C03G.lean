import NflowsModel.Properties.C03
import NflowsModel.Lemmas.FlowGlowNormalised
/-!
# C03 (continued) — Glow-style flows are normalised

`Lemmas/FlowGlowNormalised.lean`.  The layer type of the C03ND pipeline has no ActNorm, BatchNorm (evaluation), Householder or
NaiveLinear; `GlowLayer` has them (every layer: bijective, Fréchet differentiable everywhere, `|det J| = exp` of the
RETURNED log-det — `GlowLayer_is_diffeo`; the batch run is the row run row by row — `ExecLinear_batch_row`, `actStep_batch`,
`bnStep_batch`).  `glow_flow_is_normalised`: any number of blocks [ActNorm, any of LU / QR / SVD / Householder / naive, coupling] in any
dimension over the executed standard normal — and over any normalised base — has `∫ exp(log_prob) = 1`;
`glow_flow_smooth_conditioner_is_normalised`: with additive or default-activation affine coupling whose conditioner depends on the context
arbitrarily and is differentiable (e.g. a tanh perceptron of identity features and context), for every context value, every `k`, with
no remaining hypothesis.  Not covered: ActNorm's data-dependent initialisation and training-mode BatchNorm (not row maps), images /
1×1 convolutions / multiscale, ReLU conditioners.
-/
set_option linter.all false
namespace Properties.C03

theorem execLinear_spec :
    ∀ {n : ℕ} (L : FlowGlowNormalised.ExecLinear n),
      Function.Bijective (LinearJacobian.affine L.M L.b) ∧
        (∀ (x : Fin n → ℝ), HasFDerivAt (LinearJacobian.affine L.M L.b) (LinearJacobian.jac L.M) x) ∧
          ∀ (v : Fin n → ℝ),
            (L.run v).1 = LinearJacobian.affine L.M L.b v ∧ |(LinearJacobian.jac L.M).det| = Real.exp (L.run v).2 :=
  @FlowGlowNormalised.execLinear_spec

theorem ExecLinear_batch_row :
    ∀ {n : ℕ} (L : FlowGlowNormalised.ExecLinear n) (X : List (List ℝ)) (i : ℕ)
      (hi : i < X.length),
      X[i].length = n →
        (L.F X).1[i]? = Option.some (List.ofFn (L.run (LinearBridge.vecFn n X[i])).1) ∧
          (L.F X).2[i]? = Option.some (L.run (LinearBridge.vecFn n X[i])).2 :=
  @FlowGlowNormalised.ExecLinear.batch_row

theorem actStep_batch :
    ∀ (e : Float → ℝ) {n : ℕ} (s : NF.Norm.ActSt ℝ),
      s.initialized = Bool.true →
        s.logScale.length = n →
          ∀ (xs : List (Fin n → ℝ)),
            NF.Norm.actStep (NF.realX e) n s (NF.Norm.NOp.fwd (NF.Norm.Batch.d2 (List.map List.ofFn xs))) =
              (s,
                Option.some
                  (Except.ok
                    (NF.Norm.Batch.d2 (List.map (fun (x : Fin n → ℝ) => List.ofFn (FlowGlowNormalised.actRun e s x).1) xs),
                      List.map (fun (x : Fin n → ℝ) => (FlowGlowNormalised.actRun e s x).2) xs))) :=
  @FlowGlowNormalised.actStep_batch

theorem bnStep_batch :
    ∀ (e : Float → ℝ) {n : ℕ} (cfg : NF.Norm.BNCfg ℝ),
      0 ≤ cfg.eps →
        ∀ (s : NF.Norm.BNSt ℝ),
          s.training = Bool.false →
            (∀ j < n, 0 < s.runVar.getD j 0 + cfg.eps) →
              ∀ (xs : List (Fin n → ℝ)),
                NF.Norm.bnStep (NF.realX e) cfg n s (NF.Norm.NOp.fwd (NF.Norm.Batch.d2 (List.map List.ofFn xs))) =
                  (s,
                    Option.some
                      (Except.ok
                        (NF.Norm.Batch.d2
                            (List.map (fun (x : Fin n → ℝ) => List.ofFn (FlowGlowNormalised.bnRun e cfg s x).1) xs),
                          List.map (fun (x : Fin n → ℝ) => (FlowGlowNormalised.bnRun e cfg s x).2) xs))) :=
  @FlowGlowNormalised.bnStep_batch

theorem GlowLayer_is_diffeo :
    ∀ {e : Float → ℝ} {n : ℕ} (L : FlowGlowNormalised.GlowLayer e n),
      (Function.Bijective fun (v : Fin n → ℝ) => (L.run v).1) ∧
        ∀ (v : Fin n → ℝ),
          HasFDerivAt (fun (v : Fin n → ℝ) => (L.run v).1) (L.part.T' v) v ∧ |(L.part.T' v).det| = Real.exp (L.run v).2 :=
  @FlowGlowNormalised.GlowLayer.is_diffeo

theorem glow_flow_is_normalised :
    ∀ {e : Float → ℝ} {n : ℕ} (bs : List (FlowGlowNormalised.GlowBlock e n)),
      ∫ (x : Fin n → ℝ),
          Real.exp
            (NF.Density.stdNormalRow (NF.realX e) n
                (List.ofFn (FlowGlowNormalised.runAllG (FlowGlowNormalised.glowLayers bs) x).1) +
              (FlowGlowNormalised.runAllG (FlowGlowNormalised.glowLayers bs) x).2) =
        1 :=
  @FlowGlowNormalised.glow_flow_is_normalised

theorem glow_flow_is_normalised_any_base :
    ∀ {e : Float → ℝ} {n : ℕ}
      (bs : List (FlowGlowNormalised.GlowBlock e n)) (blp : (Fin n → ℝ) → ℝ),
      ∫ (z : Fin n → ℝ), Real.exp (blp z) = 1 →
        ∫ (x : Fin n → ℝ),
            Real.exp
              (blp (FlowGlowNormalised.runAllG (FlowGlowNormalised.glowLayers bs) x).1 +
                (FlowGlowNormalised.runAllG (FlowGlowNormalised.glowLayers bs) x).2) =
          1 :=
  @FlowGlowNormalised.glow_flow_is_normalised_any_base

/-- the Glow-style flow over any normalised base log-density, in the `FlowMore.flow_normalised_any_base` form -/
theorem glow_flow_is_normalised_flowLogProb0 :
    ∀ {e : Float → ℝ} {n : ℕ}
      (bs : List (FlowGlowNormalised.GlowBlock e n)) (blp : (Fin n → ℝ) → ℝ),
      ∫ (z : Fin n → ℝ), Real.exp (blp z) = 1 →
        ∫ (x : Fin n → ℝ),
            Real.exp
              (NF.FlowPairing.flowLogProb0
                (FlowMore.progFlow (List.map FlowGlowNormalised.GlowLayer.part (FlowGlowNormalised.glowLayers bs)) blp) x) =
          1 :=
  fun bs blp hbase => (FlowGlowNormalised.executed_pipelineG_flowLogProb0 _ blp hbase).2.2

theorem glow_flow_smooth_conditioner_is_normalised :
    ∀ {e : Float → ℝ} {n : ℕ} {Ctx : Type}
      (sps : List (FlowGlowNormalised.GlowSpec e n Ctx)) (ctx : Ctx) (blp : Ctx → (Fin n → ℝ) → ℝ),
      (∀ (ctx : Ctx), ∫ (z : Fin n → ℝ), Real.exp (blp ctx z) = 1) →
        ∫ (x : Fin n → ℝ),
              Real.exp
                (NF.Density.stdNormalRow (NF.realX e) n
                    (List.ofFn
                      (FlowGlowNormalised.runAllG
                          (FlowGlowNormalised.glowLayers
                            (List.map (fun (sp : FlowGlowNormalised.GlowSpec e n Ctx) => sp.block ctx) sps))
                          x).1) +
                  (FlowGlowNormalised.runAllG
                      (FlowGlowNormalised.glowLayers
                        (List.map (fun (sp : FlowGlowNormalised.GlowSpec e n Ctx) => sp.block ctx) sps))
                      x).2) =
            1 ∧
          ∫ (x : Fin n → ℝ),
              Real.exp
                (blp ctx
                    (FlowGlowNormalised.runAllG
                        (FlowGlowNormalised.glowLayers
                          (List.map (fun (sp : FlowGlowNormalised.GlowSpec e n Ctx) => sp.block ctx) sps))
                        x).1 +
                  (FlowGlowNormalised.runAllG
                      (FlowGlowNormalised.glowLayers
                        (List.map (fun (sp : FlowGlowNormalised.GlowSpec e n Ctx) => sp.block ctx) sps))
                      x).2) =
            1 :=
  @FlowGlowNormalised.glow_flow_smooth_conditioner_is_normalised

theorem executed_pipelineG_normalised :
    ∀ {e : Float → ℝ} {n : ℕ}
      (Ls : List (FlowGlowNormalised.GlowLayer e n)),
      ∫ (x : Fin n → ℝ),
          Real.exp
            (NF.Density.stdNormalRow (NF.realX e) n (List.ofFn (FlowGlowNormalised.runAllG Ls x).1) +
              (FlowGlowNormalised.runAllG Ls x).2) =
        1 :=
  @FlowGlowNormalised.executed_pipelineG_normalised

theorem executed_pipelineG_normalised_any_base :
    ∀ {e : Float → ℝ} {n : ℕ}
      (Ls : List (FlowGlowNormalised.GlowLayer e n)) (blp : (Fin n → ℝ) → ℝ),
      ∫ (z : Fin n → ℝ), Real.exp (blp z) = 1 →
        ∫ (x : Fin n → ℝ), Real.exp (blp (FlowGlowNormalised.runAllG Ls x).1 + (FlowGlowNormalised.runAllG Ls x).2) = 1 :=
  @FlowGlowNormalised.executed_pipelineG_normalised_any_base

end Properties.C03
