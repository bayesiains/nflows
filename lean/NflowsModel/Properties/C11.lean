import NflowsModel.Real.LinearBridge
/-!
# C11 — linear-family accessors all describe one and the same affine map

Property theorems (the lemmas they rest on: `Lemmas/{LU,Householder,LinearFamily,LFIndex,LFTriSolve}`, `Real/LinearBridge`).
Every statement is for an arbitrary feature count, an arbitrary number of Householder reflections and arbitrary
parameter values.  Two layers:

* **matrix level** (Mathlib `Matrix`): what `weight()`, `weight_inverse()`, `logabsdet()`, `matrix()`, `forward`,
  `inverse` compute, written as the code writes them (row-vector Householder application in the code's order, the
  transposes of `qr.py` / `svd.py`), is one affine map `x ↦ W x + b` with `W⁻¹ W = 1`, `log|det W|`, `QᵀQ = 1`;
* **executed level** (`…_executed`, `lu_assembly`, `triSolve_correct`, `householder_init_rows`): the Mathlib-free
  list programs of `Core/LinearFamily` that the driver runs against `/repo`, evaluated at `realOps`, are those
  matrix expressions (`ofMat A` = list-of-rows form of `A`).

`NaiveLinear` stores `W` itself; `torch.inverse` / `slogdet` / `lu_solve` enter by specification (`naive_roundtrip`
takes `Winv * W = 1` as hypothesis); the executable Gauss–Jordan elimination the correspondence runs is verified in
`Properties/C11G.lean` (it returns `W⁻¹` and `log |det W|` for every non-singular `W`, and the error exactly for singular ones).

Findings F5a–c: before the `fix:` commit 5855eed of `/repo` the constructor rows were
`tile(eye(num // 2, features))`, for which `householder_init_rows` is false — `(features, num) = (2, 6)` gives a
zero row (`2 / 0`), `(2, 5)` and `(1, 3)` index out of range.
-/
open Matrix NF.LF DualSound LinearBridge

namespace Properties.C11

/-! ## LU (matrix level) -/

/-- `det (L U) = ∏ upper_diag` -/
theorem lu_det {n : ℕ} (lo up : Fin n → Fin n → ℝ) (d : Fin n → ℝ) :
    (LU.mkLower lo * LU.mkUpper up d).det = ∏ i, d i := LU.lu_det lo up d

/-- `logabsdet() = Σ log upper_diag` is `log |det W|` for a positive diagonal (lu.py:123-131) -/
theorem lu_logabsdet {n : ℕ} (lo up : Fin n → Fin n → ℝ) (d : Fin n → ℝ) (hd : ∀ i, 0 < d i) :
    ∑ i, Real.log (d i) = Real.log |(LU.mkLower lo * LU.mkUpper up d).det| := LU.lu_logabsdet lo up d hd

/-- `F.linear(F.linear(x, U), L, b)` is `x ↦ (L U) x + b` (lu.py:56-68) -/
theorem lu_forward {n : ℕ} (L U : Matrix (Fin n) (Fin n) ℝ) (b x : Fin n → ℝ) :
    L.mulVec (U.mulVec x) + b = (L * U).mulVec x + b := LU.lu_forward L U b x

theorem lu_isUnit {n : ℕ} (lo up : Fin n → Fin n → ℝ) (d : Fin n → ℝ) (hd : ∀ i, 0 < d i) :
    IsUnit (LU.mkLower lo * LU.mkUpper up d).det := LU.lu_isUnit lo up d hd

/-- `weight_inverse()` = `U⁻¹ L⁻¹` obtained by the two triangular solves is a two-sided inverse of `W = L U` (given the two
    right inverses, positivity `hd` of the diagonal is not needed, here and in `lu_inverse_unique`) -/
theorem lu_weight_inverse {m : ℕ} (lo up : Fin m → Fin m → ℝ) (d : Fin m → ℝ) (hd : ∀ i, 0 < d i)
    (Linv Uinv : Matrix (Fin m) (Fin m) ℝ) (hL : LU.mkLower lo * Linv = 1) (hU : LU.mkUpper up d * Uinv = 1) :
    (Uinv * Linv) * (LU.mkLower lo * LU.mkUpper up d) = 1 ∧ (LU.mkLower lo * LU.mkUpper up d) * (Uinv * Linv) = 1 :=
  LinearFamily.lu_weight_inverse lo up d hd Linv Uinv hL hU

theorem lu_inverse_unique {m : ℕ} (lo up : Fin m → Fin m → ℝ) (d : Fin m → ℝ) (hd : ∀ i, 0 < d i)
    (A : Matrix (Fin m) (Fin m) ℝ) (hA : (LU.mkLower lo * LU.mkUpper up d) * A = 1) :
    A = (LU.mkLower lo * LU.mkUpper up d)⁻¹ := by
  have _ := hd
  exact (Matrix.inv_eq_right_inv hA).symm

/-! ## Householder sequences (matrix level; `n` any finite index type) -/
section hh
variable {n : Type} [Fintype n] [DecidableEq n]

theorem hhApply_involutive (v x : n → ℝ) (hv : v ⬝ᵥ v ≠ 0) :
    Householder.hhApply v (Householder.hhApply v x) = x := Householder.hhApply_involutive v x hv

theorem hhApply_norm (v x : n → ℝ) (hv : v ⬝ᵥ v ≠ 0) :
    Householder.hhApply v x ⬝ᵥ Householder.hhApply v x = x ⬝ᵥ x := Householder.hhApply_norm v x hv

/-- `inverse` (reversed order) undoes `forward` (orthogonal.py:93-100) -/
theorem hhSeq_inverse (vs : List (n → ℝ)) (hv : ∀ v ∈ vs, v ⬝ᵥ v ≠ 0) (x : n → ℝ) :
    Householder.hhSeq vs.reverse (Householder.hhSeq vs x) = x := Householder.hhSeq_inverse vs hv x

/-- the code's step `x - (x·v)(2/|v|²) v` is right multiplication by `H_v = 1 - (2/|v|²) v vᵀ` -/
theorem hhApply_eq_vecMul (v x : n → ℝ) : Householder.hhApply v x = x ᵥ* LinearFamily.hhMat v :=
  LinearFamily.hhApply_eq_vecMul v x

/-- **a Householder map with `v ≠ 0` is orthogonal**: `Hᵀ H = 1` -/
theorem householder_orthogonal (v : n → ℝ) (hv : v ⬝ᵥ v ≠ 0) :
    (LinearFamily.hhMat v)ᵀ * LinearFamily.hhMat v = 1 := LinearFamily.householder_orthogonal v hv

theorem householder_det_abs (v : n → ℝ) (hv : v ⬝ᵥ v ≠ 0) : |(LinearFamily.hhMat v).det| = 1 :=
  LinearFamily.abs_det_eq_one_of_orth _ (LinearFamily.householder_orthogonal v hv)

/-- `forward(x) = Q x` with `Q = H_K ⋯ H_1` (column convention) -/
theorem householderSeq_forward (vs : List (n → ℝ)) (x : n → ℝ) :
    Householder.hhSeq vs x = LinearFamily.Q vs *ᵥ x := LinearFamily.forward_eq_mulVec vs x

theorem householderSeq_inverse (vs : List (n → ℝ)) (x : n → ℝ) :
    Householder.hhSeq vs.reverse x = (LinearFamily.Q vs)ᵀ *ᵥ x := LinearFamily.inverse_eq_mulVec vs x

/-- **a Householder sequence is orthogonal**: `Qᵀ Q = Q Qᵀ = 1` whenever no q-vector is zero -/
theorem householderSeq_orthogonal (vs : List (n → ℝ)) (hv : ∀ v ∈ vs, v ⬝ᵥ v ≠ 0) :
    (LinearFamily.Q vs)ᵀ * LinearFamily.Q vs = 1 ∧ LinearFamily.Q vs * (LinearFamily.Q vs)ᵀ = 1 :=
  LinearFamily.Q_orthogonal vs hv

theorem householderSeq_det_abs (vs : List (n → ℝ)) (hv : ∀ v ∈ vs, v ⬝ᵥ v ≠ 0) : |(LinearFamily.Q vs).det| = 1 :=
  LinearFamily.Q_det_abs vs hv

/-- **`matrix()`** (= rows of `inverse(identity)`, orthogonal.py:102-119) **is the matrix of `forward`** -/
theorem matrix_eq (vs : List (n → ℝ)) :
    Matrix.of (fun i => Householder.hhSeq vs.reverse ((1 : Matrix n n ℝ) i)) = LinearFamily.Q vs :=
  LinearFamily.matrix_eq vs

/-! ## QR (qr.py): `W = Q R`, `Q = H_K ⋯ H_1`, `diag R = exp(log_upper_diag)` -/

/-- `forward = orthogonal(F.linear(x, R)) + b` is `x ↦ (Q R) x + b` (qr.py:45-62) -/
theorem qr_forward (vs : List (n → ℝ)) (R : Matrix n n ℝ) (b x : n → ℝ) :
    Householder.hhSeq vs (R *ᵥ x) + b = (LinearFamily.Q vs * R) *ᵥ x + b := by
  rw [LinearFamily.forward_eq_mulVec, Matrix.mulVec_mulVec]

/-- `weight() = orthogonal(R.t())[0].t()` is `Q R` (qr.py:84-93) -/
theorem qr_weight (vs : List (n → ℝ)) (R : Matrix n n ℝ) :
    (Matrix.of (fun i => Householder.hhSeq vs (Rᵀ i)))ᵀ = LinearFamily.Q vs * R := by
  rw [LinearFamily.of_rows_hhSeq, transpose_mul, transpose_transpose, LinearFamily.Q]

/-- `weight_inverse() = orthogonal(R⁻¹)` is the inverse of `Q R` (qr.py:95-106) -/
theorem qr_weight_inverse (vs : List (n → ℝ)) (hv : ∀ v ∈ vs, v ⬝ᵥ v ≠ 0) (R Rinv : Matrix n n ℝ) (h : Rinv * R = 1) :
    Matrix.of (fun i => Householder.hhSeq vs (Rinv i)) * (LinearFamily.Q vs * R) = 1 := by
  rw [LinearFamily.of_rows_hhSeq, LinearFamily.Q]
  exact LinearFamily.mul_mul_eq_one (LinearFamily.seqMat_orthogonal vs hv).2 h

/-- the inverse pass undoes the forward pass (qr.py:64-82) -/
theorem qr_inverse_pass (vs : List (n → ℝ)) (hv : ∀ v ∈ vs, v ⬝ᵥ v ≠ 0) (R Rinv : Matrix n n ℝ) (h : Rinv * R = 1)
    (b x : n → ℝ) : Rinv *ᵥ (Householder.hhSeq vs.reverse ((Householder.hhSeq vs (R *ᵥ x) + b) - b)) = x := by
  rw [add_sub_cancel_right, Householder.hhSeq_inverse vs hv, Matrix.mulVec_mulVec, h, Matrix.one_mulVec]

/-! ## SVD (svd.py): `W = Q₁ D Q₂` -/

/-- `forward = orthogonal_1(orthogonal_2(x) * d) + b` is `x ↦ (Q₁ D Q₂) x + b` (svd.py:56-74) -/
theorem svd_forward (vs1 vs2 : List (n → ℝ)) (d b x : n → ℝ) :
    Householder.hhSeq vs1 (fun i => Householder.hhSeq vs2 x i * d i) + b
      = (LinearFamily.Q vs1 * Matrix.diagonal d * LinearFamily.Q vs2) *ᵥ x + b := LinearFamily.svd_forward vs1 vs2 d b x

/-- `weight()` (svd.py:97-107) is `Q₁ D Q₂` -/
theorem svd_weight (vs1 vs2 : List (n → ℝ)) (d : n → ℝ) :
    (Matrix.of (fun i => Householder.hhSeq vs1
        ((Matrix.of (fun k => Householder.hhSeq vs2.reverse (Matrix.diagonal d k)))ᵀ i)))ᵀ
      = LinearFamily.Q vs1 * Matrix.diagonal d * LinearFamily.Q vs2 := by
  rw [LinearFamily.of_rows_hhSeq, LinearFamily.of_rows_hhSeq, LinearFamily.seqMat_reverse, transpose_mul, transpose_transpose,
    LinearFamily.Q, LinearFamily.Q, Matrix.mul_assoc]

/-- `weight_inverse()` (svd.py:109-119) is the inverse of `Q₁ D Q₂` -/
theorem svd_weight_inverse (vs1 vs2 : List (n → ℝ)) (hv1 : ∀ v ∈ vs1, v ⬝ᵥ v ≠ 0) (hv2 : ∀ v ∈ vs2, v ⬝ᵥ v ≠ 0)
    (d : n → ℝ) (hd : ∀ i, d i ≠ 0) :
    (Matrix.of (fun i => Householder.hhSeq vs2.reverse
        ((Matrix.of (fun k => Householder.hhSeq vs1 (Matrix.diagonal (fun j => (d j)⁻¹) k)))ᵀ i)))ᵀ
      * (LinearFamily.Q vs1 * Matrix.diagonal d * LinearFamily.Q vs2) = 1 :=
  LinearFamily.svd_weight_inverse vs1 vs2 hv1 hv2 d hd

theorem svd_inverse_pass (vs1 vs2 : List (n → ℝ)) (hv1 : ∀ v ∈ vs1, v ⬝ᵥ v ≠ 0) (hv2 : ∀ v ∈ vs2, v ⬝ᵥ v ≠ 0)
    (d b x : n → ℝ) (hd : ∀ i, d i ≠ 0) :
    Householder.hhSeq vs2.reverse (fun i => Householder.hhSeq vs1.reverse
      ((Householder.hhSeq vs1 (fun i => Householder.hhSeq vs2 x i * d i) + b) - b) i / d i) = x :=
  LinearFamily.svd_inverse_pass vs1 vs2 hv1 hv2 d b x hd

/-- `logabsdet() = Σ log diagonal` is `log |det (Q₁ D Q₂)|` (svd.py:121-127) -/
theorem svd_logabsdet (vs1 vs2 : List (n → ℝ)) (hv1 : ∀ v ∈ vs1, v ⬝ᵥ v ≠ 0) (hv2 : ∀ v ∈ vs2, v ⬝ᵥ v ≠ 0)
    (d : n → ℝ) (hd : ∀ i, 0 < d i) :
    ∑ i, Real.log (d i) = Real.log |(LinearFamily.Q vs1 * Matrix.diagonal d * LinearFamily.Q vs2).det| :=
  LinearFamily.svd_logabsdet vs1 vs2 hv1 hv2 d hd

/-- NaiveLinear at specification level: any left inverse of `W` undoes `x ↦ W x + b` -/
theorem naive_roundtrip (W Winv : Matrix n n ℝ) (h : Winv * W = 1) (b x : n → ℝ) :
    Winv *ᵥ ((W *ᵥ x + b) - b) = x := LinearFamily.naive_roundtrip W Winv h b x

end hh

/-- `logabsdet() = Σ log_upper_diag` is `log |det (Q R)|` for the exp-parameterised diagonal (qr.py:108-114) -/
theorem qr_logabsdet {m : ℕ} (vs : List (Fin m → ℝ)) (hv : ∀ v ∈ vs, v ⬝ᵥ v ≠ 0) (up : Fin m → Fin m → ℝ) (ld : Fin m → ℝ) :
    ∑ i, ld i = Real.log |(LinearFamily.Q vs * LU.mkUpper up (fun i => Real.exp (ld i))).det| :=
  LinearFamily.qr_logabsdet vs hv up ld

theorem qr_isUnit {m : ℕ} (vs : List (Fin m → ℝ)) (hv : ∀ v ∈ vs, v ⬝ᵥ v ≠ 0) (up : Fin m → Fin m → ℝ) (ld : Fin m → ℝ) :
    IsUnit (LinearFamily.Q vs * LU.mkUpper up (fun i => Real.exp (ld i))).det := by
  rw [isUnit_iff_ne_zero, det_mul, LU.mkUpper_det]
  exact mul_ne_zero (LinearFamily.Q_det_ne_zero vs hv) (Finset.prod_pos (fun i _ => Real.exp_pos (ld i))).ne'

/-! ## executed level: index order and assembly (any scalar semantics `o : Ops α`) -/

/-- **`np.tril_indices(n, -1)` / `np.triu_indices(n, 1)` as executed**: exactly the strictly-lower (upper)
    positions, each once, in row-major order, `n (n - 1) / 2` of them (these four facts determine the lists). -/
theorem tri_indices_spec (n : ℕ) :
    (∀ i j, (i, j) ∈ trilIndices n ↔ j < i ∧ i < n) ∧ (∀ i j, (i, j) ∈ triuIndices n ↔ i < j ∧ j < n) ∧
    (trilIndices n).Pairwise (fun p q => p.1 < q.1 ∨ (p.1 = q.1 ∧ p.2 < q.2)) ∧
    (triuIndices n).Pairwise (fun p q => p.1 < q.1 ∨ (p.1 = q.1 ∧ p.2 < q.2)) ∧
    (trilIndices n).Nodup ∧ (triuIndices n).Nodup ∧
    (trilIndices n).length = n * (n - 1) / 2 ∧ (triuIndices n).length = n * (n - 1) / 2 :=
  ⟨fun _ _ => LFIndex.mem_trilIndices, fun _ _ => LFIndex.mem_triuIndices, LFIndex.trilIndices_sorted n,
   LFIndex.triuIndices_sorted n, LFIndex.trilIndices_nodup n, LFIndex.triuIndices_nodup n,
   LFIndex.trilIndices_length n, LFIndex.triuIndices_length n⟩

/-- **LU assembly as executed** (lu.py:44-54): entry `k` of `lower_entries` lands at the `k`-th strictly-lower
    position, the diagonal of `L` is one, its upper part zero; entry `k` of `upper_entries` lands at the `k`-th
    strictly-upper position, the diagonal of `U` is the given diagonal, its lower part zero. -/
theorem lu_assembly {α : Type} (o : Ops α) (n : ℕ) (lo up d : List α) :
    (∀ k (hk : k < (trilIndices n).length) (hv : k < lo.length),
        entry o (luLower o n lo) ((trilIndices n)[k]).1 ((trilIndices n)[k]).2 = lo[k]) ∧
    (∀ i, i < n → entry o (luLower o n lo) i i = one o) ∧
    (∀ i j, i < j → j < n → entry o (luLower o n lo) i j = zero o) ∧
    (∀ k (hk : k < (triuIndices n).length) (hv : k < up.length),
        entry o (mkUpper o n up d) ((triuIndices n)[k]).1 ((triuIndices n)[k]).2 = up[k]) ∧
    (∀ i, i < n → entry o (mkUpper o n up d) i i = d.getD i (zero o)) ∧
    (∀ i j, j < i → i < n → entry o (mkUpper o n up d) i j = zero o) :=
  ⟨fun k hk hv => LFIndex.luLower_entry o n lo k hk hv, fun _ hi => LFIndex.luLower_diag o n lo hi,
   fun _ _ hij hj => LFIndex.luLower_upper_zero o n lo hij hj, fun k hk hv => LFIndex.mkUpper_entry o n up d k hk hv,
   fun _ hi => LFIndex.mkUpper_diag o n up d hi, fun _ _ hji hi => LFIndex.mkUpper_lower_zero o n up d hji hi⟩

/-- the assembled factors, at `realOps`, are `LU.mkLower` / `LU.mkUpper` of the scattered entries -/
theorem lu_assembly_real (n : ℕ) (lo up d : List ℝ) :
    luLower realOps n lo = ofMat (LU.mkLower (loFn n lo)) ∧
    mkUpper realOps n up d = ofMat (LU.mkUpper (upFn n up) (vecFn n d)) :=
  ⟨luLower_executed n lo, mkUpper_executed n up d⟩

/-- **`upper_diag = softplus(u) + eps > 0`** as executed (lu.py:120-121, svd.py:39-41), for any `eps ≥ 0` -/
theorem upper_diag_pos (eps : ℝ) (heps : 0 ≤ eps) (u : List ℝ) : ∀ d ∈ posDiag realOps eps u, 0 < d :=
  LFIndex.posDiag_pos eps heps u

/-- `identity_init`: the constant `log(exp(1 - eps) - 1)` makes the diagonal exactly one (lu.py:36, svd.py:52) -/
theorem identity_init_diag (eps : ℝ) (heps0 : 0 ≤ eps) (heps : eps < 1) :
    softplus realOps (Real.log (Real.exp (1 - eps) - 1)) + eps = 1 := LFIndex.identity_init_diag eps heps0 heps

/-! ## executed level: triangular solves -/

/-- **forward / back substitution as executed** (`torch.linalg.solve_triangular`): for well-shaped inputs the result
    `xs` has the right length and satisfies row by row `Σ_{j<i} L i j xs j + xs i = b i` (unit lower triangular; the
    diagonal and the upper part of `L` are never read), resp. `Σ_{i≤j<n} U i j xs j = b i` (upper triangular with
    non-zero diagonal; the strictly-lower part of `U` is never read). -/
theorem triSolve_correct (n : ℕ) (T : List (List ℝ)) (b : List ℝ) (hT : T.length = n) (hrow : ∀ r ∈ T, r.length = n)
    (hb : b.length = n) :
    (let xs := solveLowerUnit realOps T b
     xs.length = n ∧ ∀ i < n, (∑ j ∈ Finset.range i, entry realOps T i j * xs.getD j 0) + xs.getD i 0 = b.getD i 0) ∧
    ((∀ i < n, entry realOps T i i ≠ 0) →
     let xs := solveUpper realOps T b
     xs.length = n ∧ ∀ i < n, ∑ j ∈ Finset.Ico i n, entry realOps T i j * xs.getD j 0 = b.getD i 0) :=
  ⟨LFTriSolve.solveLowerUnit_correct n T b hT hrow hb, fun hd => LFTriSolve.solveUpper_correct n T b hT hrow hb hd⟩

/-- the same on matrices: the executed solves return the solutions of `L x = b` and `U x = b` -/
theorem triSolve_matrix {n : ℕ} (lo : Fin n → Fin n → ℝ) (U : Matrix (Fin n) (Fin n) ℝ)
    (hU : ∀ i j : Fin n, j < i → U i j = 0) (hd : ∀ i, U i i ≠ 0) (b : Fin n → ℝ) :
    (∃ x : Fin n → ℝ, solveLowerUnit realOps (ofMat (LU.mkLower lo)) (List.ofFn b) = List.ofFn x ∧ LU.mkLower lo *ᵥ x = b) ∧
    (∃ x : Fin n → ℝ, solveUpper realOps (ofMat U) (List.ofFn b) = List.ofFn x ∧ U *ᵥ x = b) :=
  ⟨solveLowerUnit_ofMat lo b, solveUpper_ofMat U hU hd b⟩

/-! ## executed level: Householder -/

/-- **one reflection as executed** (orthogonal.py:85-88) is `Householder.hhApply` -/
theorem hhApply_executed {n : ℕ} (v x : Fin n → ℝ) :
    hhApply realOps (List.ofFn v) (List.ofFn x) = List.ofFn (Householder.hhApply v x) := LinearBridge.hhApply_executed v x

/-- **`_apply_transforms` as executed** (orthogonal.py:83-88) is `Householder.hhSeq` -/
theorem hhSeq_executed {n : ℕ} (vs : List (Fin n → ℝ)) (x : Fin n → ℝ) :
    hhSeq realOps (vs.map List.ofFn) (List.ofFn x) = List.ofFn (Householder.hhSeq vs x) := LinearBridge.hhSeq_executed vs x

/-- **`matrix()` as executed is `Q`, and it is orthogonal with `|det| = 1`** when no q-vector is zero -/
theorem hhMatrix_executed {n : ℕ} (vs : List (Fin n → ℝ)) (hv : ∀ v ∈ vs, v ⬝ᵥ v ≠ 0) :
    hhMatrix realOps n (vs.map List.ofFn) = ofMat (LinearFamily.Q vs) ∧
    (LinearFamily.Q vs)ᵀ * LinearFamily.Q vs = 1 ∧ |(LinearFamily.Q vs).det| = 1 :=
  ⟨LinearBridge.hhMatrix_executed vs, (LinearFamily.Q_orthogonal vs hv).1, LinearFamily.Q_det_abs vs hv⟩

/-- `forward` / `inverse` as executed on one row: `Q x` and `Qᵀ x`, and `inverse ∘ forward = id` -/
theorem hh_passes_executed {n : ℕ} (vs : List (Fin n → ℝ)) (hv : ∀ v ∈ vs, v ⬝ᵥ v ≠ 0) (x : Fin n → ℝ) :
    hhForward realOps (vs.map List.ofFn) [List.ofFn x] = [List.ofFn (LinearFamily.Q vs *ᵥ x)] ∧
    hhInverse realOps (vs.map List.ofFn) [List.ofFn x] = [List.ofFn ((LinearFamily.Q vs)ᵀ *ᵥ x)] ∧
    hhInverse realOps (vs.map List.ofFn) (hhForward realOps (vs.map List.ofFn) [List.ofFn x]) = [List.ofFn x] := by
  refine ⟨?_, ?_, ?_⟩
  · exact congrArg (fun r => [r]) (isMulVec_hhSeq vs x)
  · exact congrArg (fun r => [r]) (isMulVec_hhSeq_reverse vs x)
  · exact congrArg (fun r => [r]) (hhSeq_roundtrip vs hv x)

/-! ## executed level: the constructor's initial q-vectors (orthogonal.py:26-29, 40-63) -/

/-- **every constructor-accepted size yields unit basis rows**: for ALL `features ≥ 1`, `num ≥ 1` the constructor
    succeeds, returns `num` rows, and row `r` is the unit basis vector `e_{(r / 2) mod features}` (the last row of an
    odd count is `e_{(num / 2) mod features}`): length `features`, a one at that position, zeros elsewhere. -/
theorem householder_init_rows {α : Type} (o : Ops α) (features num : ℕ) (hf : 1 ≤ features) (hn : 1 ≤ num) :
    hhConstruct o (features : ℤ) (num : ℤ) = .ok (hhInitQ o features num) ∧
    (hhInitQ o features num).length = num ∧
    ∀ r < num,
      (hhInitQ o features num).getD r [] = basisRow o features (r / 2) ∧
      (basisRow o features (r / 2)).length = features ∧
      (r / 2) % features < features ∧
      (basisRow o features (r / 2)).getD ((r / 2) % features) (zero o) = one o ∧
      ∀ j < features, j ≠ (r / 2) % features → (basisRow o features (r / 2)).getD j (zero o) = zero o := by
  refine ⟨?_, hhInitQ_length o features num, ?_⟩
  · have h1 : features ≠ 0 := by omega
    have h2 : num ≠ 0 := by omega
    simp [hhConstruct, h1, h2]
  · intro r hr
    have hlt : (r / 2) % features < features := Nat.mod_lt _ hf
    refine ⟨hhInitQ_row o features num r hr, basisRow_length o features (r / 2), hlt, ?_, ?_⟩
    · rw [basisRow_getD o features (r / 2) _ hlt]; simp
    · intro j hj hne
      rw [basisRow_getD o features (r / 2) j hj]; simp [hne]

/-- non-positive sizes are refused with `TypeError` -/
theorem householder_ctor_rejects {α : Type} (o : Ops α) (features num : ℤ) (h : features ≤ 0 ∨ num ≤ 0) :
    hhConstruct o features num = .error .typeError := by
  unfold hhConstruct
  rcases h with h | h
  · simp [h]
  · by_cases hf : features ≤ 0 <;> simp [hf, h]

/-- over the reals every initial q-vector has squared norm one — non-zero, `2 / |q|²` finite — and the fresh
    transform's `matrix()` is orthogonal with `|det| = 1`: **usable for every accepted size** -/
theorem householder_init_usable (features num : ℕ) (hf : 1 ≤ features) :
    (∀ r < num, dot realOps ((hhInitQ realOps features num).getD r []) ((hhInitQ realOps features num).getD r []) = 1) ∧
    ∃ vs : List (Fin features → ℝ), hhInitQ realOps features num = vs.map List.ofFn ∧ (∀ v ∈ vs, v ⬝ᵥ v ≠ 0) ∧
      hhMatrix realOps features (hhInitQ realOps features num) = ofMat (LinearFamily.Q vs) ∧
      (LinearFamily.Q vs)ᵀ * LinearFamily.Q vs = 1 ∧ |(LinearFamily.Q vs).det| = 1 := by
  have hv : ∀ v ∈ initVs features num hf, v ⬝ᵥ v ≠ 0 := fun v h => by rw [initVs_unit features num hf v h]; exact one_ne_zero
  refine ⟨fun r hr => ?_, initVs features num hf, hhInitQ_real features num hf, hv, ?_⟩
  · rw [hhInitQ_row realOps features num r hr]; exact basisRow_real_sqnorm features (r / 2) hf
  · rw [hhInitQ_real features num hf]; exact hhMatrix_executed _ hv

/-! ## executed level: the five accessors of LU / QR / SVD describe one affine map -/

/-- **LULinear as executed** (`udiag` of length `n`, `eps ≥ 0`, bias of length `n`): `weight()` is `W = L U`,
    `logabsdet()` is `log |det W|`, `forward` is `x ↦ W x + b`, `weight_inverse()` is a two-sided inverse of `W`,
    and `inverse ∘ forward = id`. -/
theorem lu_executed (p : LUParams ℝ) (hlen : p.udiag.length = p.n) (heps : 0 ≤ p.eps) (hb : p.bias.length = p.n) :
    luWeight realOps p = ofMat (luW p) ∧
    luLogabsdet realOps p = Real.log |(luW p).det| ∧
    (∀ x : Fin p.n → ℝ, luForward realOps p [List.ofFn x] = [List.ofFn (luW p *ᵥ x + vecFn p.n p.bias)]) ∧
    (∃ Winv : Matrix (Fin p.n) (Fin p.n) ℝ, luWeightInverse realOps p = ofMat Winv ∧ Winv * luW p = 1 ∧ luW p * Winv = 1) ∧
    (∀ x : Fin p.n → ℝ, luInverse realOps p (luForward realOps p [List.ofFn x]) = [List.ofFn x]) :=
  (lu_denotes p hlen heps hb).executed (LinearJacobian.luForward_rowwise _ p) (LinearJacobian.luInverse_rowwise _ p)

/-- **QRLinear as executed** (q-vectors `vs`, none zero; `log_upper_diag`, bias of length `n`) -/
theorem qr_executed (p : QRParams ℝ) (vs : List (Fin p.n → ℝ)) (hq : p.qs = vs.map List.ofFn) (hv : ∀ v ∈ vs, v ⬝ᵥ v ≠ 0)
    (hl : p.logDiag.length = p.n) (hb : p.bias.length = p.n) :
    qrWeight realOps p = ofMat (qrW p vs) ∧
    qrLogabsdet realOps p = Real.log |(qrW p vs).det| ∧
    (∀ x : Fin p.n → ℝ, qrForward realOps p [List.ofFn x] = [List.ofFn (qrW p vs *ᵥ x + vecFn p.n p.bias)]) ∧
    (∃ Winv : Matrix (Fin p.n) (Fin p.n) ℝ, qrWeightInverse realOps p = ofMat Winv ∧ Winv * qrW p vs = 1 ∧ qrW p vs * Winv = 1) ∧
    (∀ x : Fin p.n → ℝ, qrInverse realOps p (qrForward realOps p [List.ofFn x]) = [List.ofFn x]) :=
  (qr_denotes p vs hq hv hl hb).executed (LinearJacobian.qrForward_rowwise _ p) (LinearJacobian.qrInverse_rowwise _ p)

/-- **SVDLinear as executed** (q-vectors `vs1`, `vs2`, none zero; `eps ≥ 0`) -/
theorem svd_executed (p : SVDParams ℝ) (vs1 vs2 : List (Fin p.n → ℝ)) (h1 : p.qs1 = vs1.map List.ofFn)
    (h2 : p.qs2 = vs2.map List.ofFn) (hv1 : ∀ v ∈ vs1, v ⬝ᵥ v ≠ 0) (hv2 : ∀ v ∈ vs2, v ⬝ᵥ v ≠ 0)
    (hl : p.udiag.length = p.n) (heps : 0 ≤ p.eps) (hb : p.bias.length = p.n) :
    svdWeight realOps p = ofMat (svdW p vs1 vs2) ∧
    svdLogabsdet realOps p = Real.log |(svdW p vs1 vs2).det| ∧
    (∀ x : Fin p.n → ℝ, svdForward realOps p [List.ofFn x] = [List.ofFn (svdW p vs1 vs2 *ᵥ x + vecFn p.n p.bias)]) ∧
    (∃ Winv : Matrix (Fin p.n) (Fin p.n) ℝ, svdWeightInverse realOps p = ofMat Winv ∧ Winv * svdW p vs1 vs2 = 1 ∧
      svdW p vs1 vs2 * Winv = 1) ∧
    (∀ x : Fin p.n → ℝ, svdInverse realOps p (svdForward realOps p [List.ofFn x]) = [List.ofFn x]) :=
  (svd_denotes p vs1 vs2 h1 h2 hv1 hv2 hl heps hb).executed (LinearJacobian.svdForward_rowwise _ p)
    (LinearJacobian.svdInverse_rowwise _ p)

/-! ## non-vacuity: the hypotheses are satisfiable by non-trivial data -/

example : (![1, 2] : Fin 2 → ℝ) ⬝ᵥ ![1, 2] ≠ 0 := by rw [dotProduct, Fin.sum_univ_two]; norm_num
example : ∀ v ∈ ([![1, 2], ![0, 3]] : List (Fin 2 → ℝ)), v ⬝ᵥ v ≠ 0 := LinearFamily.vs_ex_ne
/-- a non-trivial LU parameter set satisfying the hypotheses of `lu_executed` -/
example : ∃ p : LUParams ℝ, p.n = 2 ∧ p.udiag.length = p.n ∧ 0 ≤ p.eps ∧ p.bias.length = p.n ∧ p.lower = [3] :=
  ⟨{ n := 2, lower := [3], upper := [5], udiag := [0, 1], bias := [1, -1], eps := 1 / 1000 }, rfl, rfl, by norm_num, rfl, rfl⟩
/-- a non-trivial QR parameter set satisfying the hypotheses of `qr_executed` -/
example : ∃ (p : QRParams ℝ) (vs : List (Fin p.n → ℝ)), p.qs = vs.map List.ofFn ∧ vs.length = 2 ∧ p.logDiag.length = p.n ∧
    p.bias.length = p.n :=
  ⟨{ n := 2, upper := [5], logDiag := [0, 1], qs := [List.ofFn (![1, 2] : Fin 2 → ℝ), List.ofFn (![0, 3] : Fin 2 → ℝ)],
     bias := [1, -1] }, [![1, 2], ![0, 3]], rfl, rfl, rfl, rfl⟩
/-- sizes beyond `2 * features` and odd counts are covered by `householder_init_rows` -/
example : (1 : ℕ) ≤ 2 ∧ (1 : ℕ) ≤ 7 ∧ ((6 / 2) % 2 : ℕ) < 2 := by decide

end Properties.C11
