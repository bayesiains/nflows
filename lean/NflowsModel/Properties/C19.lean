import NflowsModel.Core.Thin
import NflowsModel.Core.XOps
/-!
# C19 — single precision agrees with double precision and stays finite  (PARTIAL: weakest claim)

This file carries the **dtype clause**: torch's promotion lattice restricted to what the
library uses, and "if every dimensioned leaf of an op DAG has float dtype `d` and every other leaf is weak
(0-dim tensor / Python scalar) the result has dtype `d`".  A fresh float32 constant meeting float64 data is
exactly how the clause is violated (the repaired `LeakyReLU` mask and `linspace` were instances).

The numeric clause ("float32 agrees with float64 to single-precision accuracy scaled by conditioning") is in
`Properties/C19R.lean`, as theorems about the executed model programs in the standard model of floating-point
arithmetic (every primitive followed by a rounding with `|r x - x| ≤ u |x|`).  Lean's `Float32` is opaque to the kernel and
torch's own kernels are not analysed: that part, and finiteness, is carried by executing the model in `Float32` and
`Float` against the implementation in both precisions (correspondence); what both precisions approximate is fixed by the
real-arithmetic theorems of C01/C02/C09.
-/
namespace Properties.C19
open Thin.Dtype

theorem promote_comm (a b : DT) : promote a b = promote b a := Thin.Dtype.promote_comm a b
theorem promote_assoc (a b c : DT) : promote (promote a b) c = promote a (promote b c) := Thin.Dtype.promote_assoc a b c
theorem promote_idem (a : DT) : promote a a = a := Thin.Dtype.promote_idem a

/-- **dtype clause**: results carry the dtype of the (dimensioned, floating) inputs whatever weak leaves take part -/
theorem result_dtype_eq_input (d : DT) (hd : isFloat d = true) (ls : List Leaf)
    (hs : ∀ l ∈ ls, ∀ e, l = .strong e → e = d) (hex : ∃ l ∈ ls, l = .strong d) : result ls = d :=
  Thin.Dtype.result_dtype_eq_input d hd ls hs hex

/-- how the clause breaks: a dimensioned float32 constant among float64 data promotes to float64 (second conjunct: fine), but a
    result whose only dimensioned leaf is float32 is float32 (first conjunct) — the case of code that builds a fresh float32 tensor
    instead of deriving it from its float64 inputs; the float64 inputs are then no leaf of the DAG and do not occur in the statement -/
theorem fresh_constant_counterexample :
    result [.strong .f32, .weak .f32] = .f32 ∧ result [.strong .f64, .strong .f32] = .f64 := by decide

/-- the executable `Float32` semantics rounds Python-side double constants on entry (`ofFloat`), as torch does when a
    Python scalar meets a float32 tensor -/
theorem float32_constant_entry (x : Float) : float32X.ofFloat x = x.toFloat32 := rfl

example : isFloat DT.f32 = true ∧ (∃ l ∈ [Leaf.strong DT.f32, Leaf.weak DT.f64], l = Leaf.strong DT.f32) := by
  refine ⟨rfl, _, ?_, rfl⟩; simp

end Properties.C19
