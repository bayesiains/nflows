import NflowsModel.Properties.C08
import NflowsModel.Lemmas.MultiscaleIndex
/-!
# C08 (continued) — index-level routing of the executed multiscale transform, for ANY log-det accumulator

Proofs in `Lemmas/MultiscaleIndex.lean`.  The routing closed form `routeSegs` shares
`splitBlocks` with the executed `chunk2`; here the executed functions are characterised by INDICES — `chunk2` emits slices
`0 … ⌈n/2⌉−1` along the split dimension and passes the rest on; the element with split index `j` is emitted at stage
`stageOf k n j` (the first stage whose emitted first half contains it, or the last stage) and lands at the explicit flat position
`flatPos`; with element-wise stages the entry there is the input entry mapped through stages `1 … stageOf+1` in order and through no
later stage.  These statements need NO law of the log-det accumulator, so they hold for the non-associative `Float` accumulator the
driver runs.  Objects built by `MS.build` have `0 < split_dim`; the error contracts are restated for `split_dim = d + 1`.
-/
set_option linter.all false
namespace Properties.C08

theorem chunk_emits_first_half :
    ∀ {α : Type} (pre suf : List ℕ) (n : ℕ),
      n ≠ 1 →
        ∀ (data : List α),
          data.length = NF.Wrap.prod (pre ++ n :: suf) →
            ∃ (a : NF.Wrap.Item α) (b : NF.Wrap.Item α),
              NF.Wrap.chunk2 pre.length { shape := pre ++ n :: suf, data := data } = Except.ok (a, b) ∧
                a.shape = pre ++ (n + 1) / 2 :: suf ∧
                  b.shape = pre ++ n / 2 :: suf ∧
                    (∀ (o j i : ℕ),
                        o < NF.Wrap.prod pre →
                          j < (n + 1) / 2 →
                            i < NF.Wrap.prod suf →
                              a.data[(o * ((n + 1) / 2) + j) * NF.Wrap.prod suf + i]? =
                                data[(o * n + j) * NF.Wrap.prod suf + i]?) ∧
                      ∀ (o j i : ℕ),
                        o < NF.Wrap.prod pre →
                          j < n / 2 →
                            i < NF.Wrap.prod suf →
                              b.data[(o * (n / 2) + j) * NF.Wrap.prod suf + i]? =
                                data[(o * n + (n + 1) / 2 + j) * NF.Wrap.prod suf + i]? :=
  fun pre suf n hn data hwf =>
    ⟨_, _, NF.Wrap.chunk2_mid pre suf n hn data, rfl, rfl,
      NF.Wrap.splitBlocks_index (NF.Wrap.prod pre) n (NF.Wrap.prod suf) data (by rw [hwf, NF.Wrap.prod_mid])⟩

theorem multiscale_forward_index_1d :
    ∀ {α C L : Type} (A : NF.Wrap.LD L) (n : ℕ) (ts : List (NF.Wrap.Tr (NF.Wrap.Item α) C L)),
      (∀ t ∈ ts, NF.Wrap.IsPointwise t fun (x : C) => id) →
        ts ≠ [] →
          ∀ (m : NF.Wrap.MS α C L),
            NF.Wrap.MS.build (↑ts.length : ℤ) (NF.Wrap.PyArg.int 1) ts [n] = Except.ok m →
              ∀ (data : List α),
                data.length = n →
                  ∀ (c : C),
                    (∃ (l : L),
                        NF.Wrap.MS.forward A m { shape := [n], data := data } c =
                          Except.ok ({ shape := [n], data := data }, l)) ∧
                      (NF.Wrap.routeSegs 1 1 ts.length n data).flatten = data ∧
                        NF.Wrap.routeSegs 1 1 ts.length n data =
                            List.map (NF.Wrap.segOf ts.length n data) (List.range ts.length) ∧
                          ∀ j < n,
                            NF.Wrap.stageOf ts.length n j < ts.length ∧
                              NF.Wrap.moff n (NF.Wrap.stageOf ts.length n j) ≤ j ∧
                                (NF.Wrap.stageOf ts.length n j + 1 < ts.length →
                                    j < NF.Wrap.moff n (NF.Wrap.stageOf ts.length n j + 1)) ∧
                                  (NF.Wrap.routeSegs 1 1 ts.length n data)[NF.Wrap.stageOf ts.length n j]? =
                                      Option.some (NF.Wrap.segOf ts.length n data (NF.Wrap.stageOf ts.length n j)) ∧
                                    (NF.Wrap.segOf ts.length n data
                                          (NF.Wrap.stageOf ts.length n
                                            j))[j - NF.Wrap.moff n (NF.Wrap.stageOf ts.length n j)]? =
                                      data[j]? :=
  @NF.Wrap.forward_1d

theorem multiscale_forward_index :
    ∀ {α C L : Type} (A : NF.Wrap.LD L) (pre suf : List ℕ) (n : ℕ)
      (ts : List (NF.Wrap.Tr (NF.Wrap.Item α) C L)),
      (∀ t ∈ ts, NF.Wrap.IsPointwise t fun (x : C) => id) →
        ts ≠ [] →
          ∀ (m : NF.Wrap.MS α C L),
            NF.Wrap.MS.build (↑ts.length : ℤ) (NF.Wrap.PyArg.int ((↑pre.length : ℤ) + 1)) ts (pre ++ n :: suf) =
                Except.ok m →
              ∀ (data : List α),
                data.length = NF.Wrap.prod (pre ++ n :: suf) →
                  ∀ (c : C),
                    ∃ (flat : List α) (l : L),
                      NF.Wrap.MS.forward A m { shape := pre ++ n :: suf, data := data } c =
                          Except.ok ({ shape := [NF.Wrap.prod (pre ++ n :: suf)], data := flat }, l) ∧
                        flat = (NF.Wrap.routeSegs (NF.Wrap.prod pre) (NF.Wrap.prod suf) ts.length n data).flatten ∧
                          ∀ (o j i : ℕ),
                            o < NF.Wrap.prod pre →
                              j < n →
                                i < NF.Wrap.prod suf →
                                  flat[NF.Wrap.flatPos (NF.Wrap.prod pre) (NF.Wrap.prod suf) ts.length n o j i]? =
                                    data[(o * n + j) * NF.Wrap.prod suf + i]? :=
  @NF.Wrap.forward_index

theorem multiscale_forward_pointwise_index :
    ∀ {α C L : Type} (A : NF.Wrap.LD L) (pre suf : List ℕ) (n : ℕ)
      (ts : List (NF.Wrap.Tr (NF.Wrap.Item α) C L)) (gs : List (C → α → α)),
      List.Forall₂ NF.Wrap.IsPointwise ts gs →
        ts ≠ [] →
          ∀ (m : NF.Wrap.MS α C L),
            NF.Wrap.MS.build (↑ts.length : ℤ) (NF.Wrap.PyArg.int ((↑pre.length : ℤ) + 1)) ts (pre ++ n :: suf) =
                Except.ok m →
              ∀ (data : List α),
                data.length = NF.Wrap.prod (pre ++ n :: suf) →
                  ∀ (c : C),
                    ∃ (flat : List α) (l : L),
                      NF.Wrap.MS.forward A m { shape := pre ++ n :: suf, data := data } c =
                          Except.ok ({ shape := [flat.length], data := flat }, l) ∧
                        ∀ (o j i : ℕ),
                          o < NF.Wrap.prod pre →
                            j < n →
                              i < NF.Wrap.prod suf →
                                flat[NF.Wrap.flatPos (NF.Wrap.prod pre) (NF.Wrap.prod suf) ts.length n o j i]? =
                                  Option.map
                                    (List.foldl (fun (f g : α → α) => g ∘ f) id
                                      (List.take (NF.Wrap.stageOf ts.length n j + 1)
                                        (List.map (fun (g : C → α → α) => g c) gs)))
                                    data[(o * n + j) * NF.Wrap.prod suf + i]? :=
  @NF.Wrap.forward_pointwise_index

theorem multiscale_forward_identity_any_accumulator :
    ∀ {α C L : Type} (A : NF.Wrap.LD L) (pre suf : List ℕ) (n : ℕ)
      (ts : List (NF.Wrap.Tr (NF.Wrap.Item α) C L)),
      (∀ t ∈ ts, NF.Wrap.IsPointwise t fun (x : C) => id) →
        ts ≠ [] →
          ∀ (m : NF.Wrap.MS α C L),
            NF.Wrap.MS.build (↑ts.length : ℤ) (NF.Wrap.PyArg.int ((↑pre.length : ℤ) + 1)) ts (pre ++ n :: suf) =
                Except.ok m →
              ∀ (data : List α) (c : C),
                ∃ (l : L),
                  NF.Wrap.MS.forward A m { shape := pre ++ n :: suf, data := data } c =
                    Except.ok
                      ({
                          shape :=
                            [(NF.Wrap.routeSegs (NF.Wrap.prod pre) (NF.Wrap.prod suf) ts.length n data).flatten.length],
                          data := (NF.Wrap.routeSegs (NF.Wrap.prod pre) (NF.Wrap.prod suf) ts.length n data).flatten },
                        l) :=
  @NF.Wrap.forward_id

theorem built_objects_have_positive_split_dim :
    ∀ {α C L : Type} {numT : ℤ} {sd : NF.Wrap.PyArg}
      {ts : List (NF.Wrap.Tr (NF.Wrap.Item α) C L)} {shape : List ℕ} {m : NF.Wrap.MS α C L},
      NF.Wrap.MS.build numT sd ts shape = Except.ok m → 0 < m.splitDim :=
  @NF.Wrap.build_splitDim_pos

theorem addTransform_errors_reachable :
    ∀ {α C L : Type} (m : NF.Wrap.MS α C L) (d : ℕ),
      m.splitDim = d + 1 →
        ∀ (t : NF.Wrap.Tr (NF.Wrap.Item α) C L) (shape : List ℕ),
          (m.numTransforms < (↑m.transforms.length : ℤ) → m.addTransform t shape = Except.error Err.assertion) ∧
            (m.numTransforms = (↑m.transforms.length : ℤ) → m.addTransform t shape = Except.error Err.runtime) ∧
              ((↑m.transforms.length : ℤ) < m.numTransforms →
                  shape.length ≤ d → m.addTransform t shape = Except.error Err.valueError) ∧
                ((↑m.transforms.length : ℤ) < m.numTransforms →
                  ∀ (v : ℕ), shape[d]? = Option.some v → v < 2 → m.addTransform t shape = Except.error Err.valueError) :=
  @NF.Wrap.addTransform_errors_pos

theorem call_errors_reachable :
    ∀ {α C L : Type} (A : NF.Wrap.LD L) (m : NF.Wrap.MS α C L) (d : ℕ),
      m.splitDim = d + 1 →
        ∀ (x : NF.Wrap.Item α) (c : C),
          (x.shape.length ≤ d → NF.Wrap.MS.forward A m x c = Except.error Err.valueError) ∧
            (d < x.shape.length →
                m.numTransforms ≠ (↑m.transforms.length : ℤ) → NF.Wrap.MS.forward A m x c = Except.error Err.runtime) ∧
              (x.shape.length + 1 ≠ 2 → NF.Wrap.MS.inverse A m x c = Except.error Err.valueError) ∧
                (x.shape.length + 1 = 2 →
                  m.numTransforms ≠ (↑m.transforms.length : ℤ) → NF.Wrap.MS.inverse A m x c = Except.error Err.runtime) :=
  fun A m d hd x c =>
    have e := call_errors A m x c
    ⟨fun h => e.1 (hd ▸ Nat.succ_le_succ h), fun h => e.2.1 (hd ▸ Nat.succ_lt_succ h), e.2.2.1, e.2.2.2⟩

end Properties.C08
