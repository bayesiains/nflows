import NflowsModel.Properties.C01
import NflowsModel.Lemmas.CouplingJacobianImg
import NflowsModel.Lemmas.MultiscaleJacobian
/-!
# C01 (continued) — image-shaped coupling inputs and the multiscale transform as Jacobians

Two cases the `Properties/C01.lean` header refers here.
(1) `Lemmas/CouplingJacobianImg.lean`: for the executed coupling layer with the conditioner in the loop, ANY conditioner, any numeric
mask, any `S ≥ 1` (an item = `C·S` entries in NCHW order), either pass: given the per-entry derivative law and the Fréchet derivative
`L` of the executed item map, `ld[b] = log |det L|`, `det L = ∏ exp(ld_entry)` over the transformed entries (ranked dependency:
identity entries first), and `ld[b]` is the double sum over channels and pixels (the lemma file states these at any item size `N` with
`mask.length * S = N`; here `N := mask.length * S`).  Instances with only `hL` left for additive, affine
(both scale activations) and RQ-with-tails elements; with NO hypothesis left for differentiable conditioners (additive, default affine),
every affine conditioner, constant conditioners (RQ tails).  The additive layer on images has `det L = 1`.
(2) `Lemmas/MultiscaleJacobian.lean` (1-D items, any number of stages): the executed `MS.forward` loop step emits `chunk ++ rest` with the
log-dets added; each step is a block map `id × g` through the splitting `chunk2` performs, `det (id × D) = det D`; by induction the
returned log-det is the sum of the stage log-dets AND `log |det|` of the Fréchet derivative of the whole item map
(`multiscale_logdet_is_sum_and_jacobian`; `two_stage_built`: the object `MS.build` returns for `n ≥ 4`).  `det ≠ 0` per stage is
required (`log 0 = 0` would break additivity).  The adapter from the batch-level `PassIs` to the item-level `StageJac`
(`stageJac_of_passIs`) and executed linear stages are in `Properties/C01X.lean`.  Not covered: N-D items (where the output order is a
genuine permutation).
-/
set_option linter.all false
namespace Properties.C01

theorem det_id_prodMap :
    ∀ {A B : Type} [inst : NormedAddCommGroup A] [inst_1 : NormedSpace ℝ A]
      [inst_2 : NormedAddCommGroup B] [inst_3 : NormedSpace ℝ B] [FiniteDimensional ℝ A] [FiniteDimensional ℝ B]
      (D : B →L[ℝ] B), ((ContinuousLinearMap.id ℝ A).prodMap D).det = D.det :=
  @MultiscaleJacobian.det_id_prodMap

theorem step_logdet_returned :
    ∀ {A B : Type} [inst : NormedAddCommGroup A] [inst_1 : NormedSpace ℝ A]
      [inst_2 : NormedAddCommGroup B] [inst_3 : NormedSpace ℝ B] [FiniteDimensional ℝ A] [FiniteDimensional ℝ B] {E : Type}
      [inst_6 : NormedAddCommGroup E] [inst_7 : NormedSpace ℝ E] (S : E ≃L[ℝ] A × B) (f : E → E) (g : B → B) (x : E)
      (Df : E →L[ℝ] E) (Dg : B →L[ℝ] B) (ldf ldg : ℝ),
      HasFDerivAt f Df x →
        HasFDerivAt g Dg ((S : E → A × B) (f x)).2 →
          Df.det ≠ 0 →
            Dg.det ≠ 0 →
              ldf = Real.log |Df.det| →
                ldg = Real.log |Dg.det| →
                  ∃ (D : E →L[ℝ] E),
                    HasFDerivAt (MultiscaleJacobian.blockMap S g ∘ f) D x ∧ D.det ≠ 0 ∧ ldf + ldg = Real.log |D.det| :=
  @MultiscaleJacobian.step_logdet_returned

theorem chunk2_splitFin :
    ∀ (c h : ℕ),
      (c + h + 1) / 2 = c →
        c + h ≠ 1 →
          ∀ (w : Fin (c + h) → ℝ),
            NF.Wrap.chunk2 0 { shape := [c + h], data := List.ofFn w } =
              Except.ok
                ({ shape := [c],
                    data :=
                      List.ofFn ((MultiscaleJacobian.splitFin c h : (Fin (c + h) → ℝ) → (Fin c → ℝ) × (Fin h → ℝ)) w).1 },
                  { shape := [h],
                    data :=
                      List.ofFn ((MultiscaleJacobian.splitFin c h : (Fin (c + h) → ℝ) → (Fin c → ℝ) × (Fin h → ℝ)) w).2 }) :=
  @MultiscaleJacobian.chunk2_splitFin

theorem fwdStages_step :
    ∀ {C : Type} (c h : ℕ),
      (c + h + 1) / 2 = c →
        c + h ≠ 1 →
          ∀ (t t' : NF.Wrap.Tr (NF.Wrap.Item ℝ) C ℝ) (ts : List (NF.Wrap.Tr (NF.Wrap.Item ℝ) C ℝ)) (shs : List (List ℕ))
            (ctx : C) (x fx : Fin (c + h) → ℝ) (gy : Fin h → ℝ) (l₁ l₂ : ℝ),
            t.fwd { shape := [c + h], data := List.ofFn x } ctx =
                Except.ok ({ shape := [c + h], data := List.ofFn fx }, l₁) →
              NF.Wrap.fwdStages (NF.Wrap.LD.std ℝ) 0 (t' :: ts) shs
                    { shape := [h],
                      data :=
                        List.ofFn ((MultiscaleJacobian.splitFin c h : (Fin (c + h) → ℝ) → (Fin c → ℝ) × (Fin h → ℝ)) fx).2 }
                    [] (NF.Wrap.LD.std ℝ).zero ctx =
                  Except.ok (List.ofFn gy, l₂) →
                NF.Wrap.fwdStages (NF.Wrap.LD.std ℝ) 0 (t :: t' :: ts) ([c] :: shs)
                    { shape := [c + h], data := List.ofFn x } [] (NF.Wrap.LD.std ℝ).zero ctx =
                  Except.ok
                    (List.ofFn
                        (((MultiscaleJacobian.splitFin c h).symm : (Fin c → ℝ) × (Fin h → ℝ) → Fin (c + h) → ℝ)
                          (((MultiscaleJacobian.splitFin c h : (Fin (c + h) → ℝ) → (Fin c → ℝ) × (Fin h → ℝ)) fx).1, gy)),
                      l₁ + l₂) :=
  @MultiscaleJacobian.fwdStages_step

theorem stages_logdet_is_jacobian :
    ∀ {C : Type} (ctx : C) (ts : List (NF.Wrap.Tr (NF.Wrap.Item ℝ) C ℝ))
      (shs : List (List ℕ)) (m : ℕ) (F : (Fin m → ℝ) → Fin m → ℝ) (LDt : (Fin m → ℝ) → ℝ),
      MultiscaleJacobian.StagesJac ctx ts shs m F LDt → MultiscaleJacobian.RunJac ctx ts shs m F LDt :=
  @MultiscaleJacobian.stages_logdet_is_jacobian

theorem multiscale_logdet_is_sum_and_jacobian :
    ∀ {C : Type} (ctx : C)
      (ts : List (NF.Wrap.Tr (NF.Wrap.Item ℝ) C ℝ)) (shs : List (List ℕ)) (m : ℕ) (F : (Fin m → ℝ) → Fin m → ℝ)
      (LDt : (Fin m → ℝ) → ℝ),
      MultiscaleJacobian.StagesJac ctx ts shs m F LDt →
        ∀ (v : Fin m → ℝ),
          NF.Wrap.MS.forward (NF.Wrap.LD.std ℝ)
                { numTransforms := (↑ts.length : ℤ), splitDim := 1, transforms := ts, outputShapes := shs }
                { shape := [m], data := List.ofFn v } ctx =
              Except.ok ({ shape := [m], data := List.ofFn (F v) }, LDt v) ∧
            ∃ (D : (Fin m → ℝ) →L[ℝ] Fin m → ℝ), HasFDerivAt F D v ∧ D.det ≠ 0 ∧ LDt v = Real.log |D.det| :=
  @MultiscaleJacobian.multiscale_logdet_is_sum_and_jacobian

theorem two_stage_logdet :
    ∀ {C : Type} (ctx : C) (c h : ℕ),
      (c + h + 1) / 2 = c →
        c + h ≠ 1 →
          ∀ (t₁ t₂ : NF.Wrap.Tr (NF.Wrap.Item ℝ) C ℝ) (f₁ : (Fin (c + h) → ℝ) → Fin (c + h) → ℝ)
            (ld₁ : (Fin (c + h) → ℝ) → ℝ) (f₂ : (Fin h → ℝ) → Fin h → ℝ) (ld₂ : (Fin h → ℝ) → ℝ),
            MultiscaleJacobian.StageJac ctx t₁ (c + h) f₁ ld₁ →
              MultiscaleJacobian.StageJac ctx t₂ h f₂ ld₂ →
                ∀ (v : Fin (c + h) → ℝ),
                  NF.Wrap.MS.forward (NF.Wrap.LD.std ℝ)
                        { numTransforms := 2, splitDim := 1, transforms := [t₁, t₂], outputShapes := [[c], [h]] }
                        { shape := [c + h], data := List.ofFn v } ctx =
                      Except.ok
                        ({ shape := [c + h],
                            data :=
                              List.ofFn
                                  ((MultiscaleJacobian.splitFin c h : (Fin (c + h) → ℝ) → (Fin c → ℝ) × (Fin h → ℝ))
                                      (f₁ v)).1 ++
                                List.ofFn
                                  (f₂
                                    ((MultiscaleJacobian.splitFin c h : (Fin (c + h) → ℝ) → (Fin c → ℝ) × (Fin h → ℝ))
                                        (f₁ v)).2) },
                          ld₁ v +
                            ld₂
                              ((MultiscaleJacobian.splitFin c h : (Fin (c + h) → ℝ) → (Fin c → ℝ) × (Fin h → ℝ))
                                  (f₁ v)).2) ∧
                    ∃ (D : (Fin (c + h) → ℝ) →L[ℝ] Fin (c + h) → ℝ),
                      HasFDerivAt (MultiscaleJacobian.blockMap (MultiscaleJacobian.splitFin c h) f₂ ∘ f₁) D v ∧
                        D.det ≠ 0 ∧
                          ld₁ v +
                              ld₂
                                ((MultiscaleJacobian.splitFin c h : (Fin (c + h) → ℝ) → (Fin c → ℝ) × (Fin h → ℝ))
                                    (f₁ v)).2 =
                            Real.log |D.det| :=
  @MultiscaleJacobian.two_stage_logdet

theorem two_stage_built :
    ∀ {C : Type} (c h : ℕ),
      (c + h + 1) / 2 = c →
        4 ≤ c + h →
          ∀ (t₁ t₂ : NF.Wrap.Tr (NF.Wrap.Item ℝ) C ℝ),
            NF.Wrap.MS.build 2 (NF.Wrap.PyArg.int 1) [t₁, t₂] [c + h] =
              Except.ok { numTransforms := 2, splitDim := 1, transforms := [t₁, t₂], outputShapes := [[c], [h]] } :=
  @MultiscaleJacobian.two_stage_built

theorem coupling_item_logdet_img :
    ∀ (e : Float → ℝ) (c : NF.ElCfg) (mask : List ℝ) (S : ℕ)
      (inverse : Bool) (net : Array ℝ → Array ℝ → Array ℝ) {B : ℕ} (x ctx : Array ℝ),
      x.size = B * (mask.length * S) →
        ∀ {b : ℕ},
          b < B →
            ∀ {L : (Fin (mask.length * S) → ℝ) →L[ℝ] Fin (mask.length * S) → ℝ},
              HasFDerivAt (NF.CouplingJacobianImg.itemMap e c mask S inverse net B x ctx b) L
                  (NF.CouplingJacobianImg.itemOf e mask S b x) →
                (∀ (k : Fin (mask.length * S)),
                    NF.CouplingJacobianImg.isTk e mask S (↑k : ℕ) = Bool.true →
                      HasDerivAt
                        (NF.CouplingJacobianImg.entryElMap e c mask S
                          (NF.CouplingConsequences.paramsOf (NF.realX e) mask S inverse Option.none #[] net B x ctx) inverse
                          b (↑k : ℕ))
                        (Real.exp
                          (NF.CouplingJacobianImg.entryElLd e c mask S
                            (NF.CouplingConsequences.paramsOf (NF.realX e) mask S inverse Option.none #[] net B x ctx)
                            inverse b (↑k : ℕ) (NF.CouplingJacobianImg.itemOf e mask S b x k)))
                        (NF.CouplingJacobianImg.itemOf e mask S b x k)) →
                  (NF.CouplingConsequences.layer (NF.realX e) c mask S inverse Option.none #[] net B x ctx).ld[b]? =
                    Option.some
                      (Real.log
                        |(LinearMap.det : ((Fin (mask.length * S) → ℝ) →ₗ[ℝ] Fin (mask.length * S) → ℝ) → ℝ)
                            (↑L : (Fin (mask.length * S) → ℝ) →ₗ[ℝ] Fin (mask.length * S) → ℝ)|) :=
  fun e c mask S inverse net _ x ctx hx _ hb _ hL hdiag =>
    NF.CouplingJacobianImg.coupling_item_logdet e c mask S rfl inverse net x ctx hx hb hL hdiag

theorem coupling_item_abs_det_img :
    ∀ (e : Float → ℝ) (c : NF.ElCfg) (mask : List ℝ) (S : ℕ)
      (inverse : Bool) (net : Array ℝ → Array ℝ → Array ℝ) {B : ℕ} (x ctx : Array ℝ),
      x.size = B * (mask.length * S) →
        ∀ {b : ℕ},
          b < B →
            ∀ {L : (Fin (mask.length * S) → ℝ) →L[ℝ] Fin (mask.length * S) → ℝ},
              HasFDerivAt (NF.CouplingJacobianImg.itemMap e c mask S inverse net B x ctx b) L
                  (NF.CouplingJacobianImg.itemOf e mask S b x) →
                (∀ (k : Fin (mask.length * S)),
                    NF.CouplingJacobianImg.isTk e mask S (↑k : ℕ) = Bool.true →
                      HasDerivAt
                        (NF.CouplingJacobianImg.entryElMap e c mask S
                          (NF.CouplingConsequences.paramsOf (NF.realX e) mask S inverse Option.none #[] net B x ctx) inverse
                          b (↑k : ℕ))
                        (Real.exp
                          (NF.CouplingJacobianImg.entryElLd e c mask S
                            (NF.CouplingConsequences.paramsOf (NF.realX e) mask S inverse Option.none #[] net B x ctx)
                            inverse b (↑k : ℕ) (NF.CouplingJacobianImg.itemOf e mask S b x k)))
                        (NF.CouplingJacobianImg.itemOf e mask S b x k)) →
                  ∃ (l : ℝ),
                    (NF.CouplingConsequences.layer (NF.realX e) c mask S inverse Option.none #[] net B x ctx).ld[b]? =
                        Option.some l ∧
                      |L.det| = Real.exp l :=
  fun e c mask S inverse net _ x ctx hx _ hb _ hL hdiag =>
    NF.CouplingJacobianImg.coupling_item_abs_det e c mask S rfl inverse net x ctx hx hb hL hdiag

theorem coupling_item_det_img :
    ∀ (e : Float → ℝ) (c : NF.ElCfg) (mask : List ℝ) (S : ℕ) (inverse : Bool)
      (net : Array ℝ → Array ℝ → Array ℝ) {B : ℕ} (x ctx : Array ℝ),
      x.size = B * (mask.length * S) →
        ∀ {b : ℕ},
          b < B →
            ∀ {L : (Fin (mask.length * S) → ℝ) →L[ℝ] Fin (mask.length * S) → ℝ},
              HasFDerivAt (NF.CouplingJacobianImg.itemMap e c mask S inverse net B x ctx b) L
                  (NF.CouplingJacobianImg.itemOf e mask S b x) →
                ∀ (d : Fin (mask.length * S) → ℝ),
                  (∀ (k : Fin (mask.length * S)),
                      NF.CouplingJacobianImg.isTk e mask S (↑k : ℕ) = Bool.true →
                        HasDerivAt
                          (NF.CouplingJacobianImg.entryElMap e c mask S
                            (NF.CouplingConsequences.paramsOf (NF.realX e) mask S inverse Option.none #[] net B x ctx)
                            inverse b (↑k : ℕ))
                          (d k) (NF.CouplingJacobianImg.itemOf e mask S b x k)) →
                    (LinearMap.det : ((Fin (mask.length * S) → ℝ) →ₗ[ℝ] Fin (mask.length * S) → ℝ) → ℝ)
                        (↑L : (Fin (mask.length * S) → ℝ) →ₗ[ℝ] Fin (mask.length * S) → ℝ) =
                      ∏ k : Fin (mask.length * S),
                        if NF.CouplingJacobianImg.isTk e mask S (↑k : ℕ) = Bool.true then d k else 1 :=
  fun e c mask S inverse net _ x ctx hx _ hb _ hL d hdiag =>
    NF.CouplingJacobianImg.coupling_item_det e c mask S rfl inverse net x ctx hx hb hL d hdiag

theorem layer_ld_entries :
    ∀ (e : Float → ℝ) (c : NF.ElCfg) (mask : List ℝ) (S : ℕ) (inverse : Bool)
      (net : Array ℝ → Array ℝ → Array ℝ) {B : ℕ} (x ctx : Array ℝ) {b : ℕ},
      b < B →
        (NF.CouplingConsequences.layer (NF.realX e) c mask S inverse Option.none #[] net B x ctx).ld[b]? =
          Option.some
            (∑ k : Fin (mask.length * S),
              if NF.CouplingJacobianImg.isTk e mask S (↑k : ℕ) = Bool.true then
                NF.CouplingJacobianImg.entryElLd e c mask S
                  (NF.CouplingConsequences.paramsOf (NF.realX e) mask S inverse Option.none #[] net B x ctx) inverse b
                  (↑k : ℕ) (NF.CouplingJacobianImg.itemOf e mask S b x k)
              else 0) :=
  fun e c mask S inverse net _ x ctx _ hb => NF.CouplingJacobianImg.layer_ld_entries e c mask S rfl inverse net x ctx hb

theorem layer_ld_channels_pixels :
    ∀ (e : Float → ℝ) (c : NF.ElCfg) (mask : List ℝ) (S : ℕ)
      (inverse : Bool) (net : Array ℝ → Array ℝ → Array ℝ) {B : ℕ} (x ctx : Array ℝ) {b : ℕ},
      b < B →
        (NF.CouplingConsequences.layer (NF.realX e) c mask S inverse Option.none #[] net B x ctx).ld[b]? =
          Option.some
            (∑ i : Fin mask.length,
              ∑ s : Fin S,
                if NF.StructureExec.isT (NF.realX e) mask i = Bool.true then
                  NF.ldOf (NF.realX e)
                    (NF.couplingEl (NF.realX e) c (NF.transformIdx (NF.realX e) mask).length S
                      (NF.CouplingConsequences.paramsOf (NF.realX e) mask S inverse Option.none #[] net B x ctx) inverse b
                      (List.idxOf (↑i : ℕ) (NF.transformIdx (NF.realX e) mask)) (↑s : ℕ)
                      (x.getD (NF.flatIdx mask.length S b (↑i : ℕ) (↑s : ℕ)) 0))
                else 0) :=
  fun e c mask S inverse net _ x ctx _ hb => NF.CouplingJacobianImg.coupling_ld_channels_pixels e c mask S x _ #[] inverse hb

theorem itemMap_eq :
    ∀ (e : Float → ℝ) (c : NF.ElCfg) (mask : List ℝ) (S : ℕ) (inverse : Bool)
      (net : Array ℝ → Array ℝ → Array ℝ) {B : ℕ} (x ctx : Array ℝ),
      x.size = B * (mask.length * S) →
        ∀ {b : ℕ},
          b < B →
            ∀ (v : Fin (mask.length * S) → ℝ),
              (∀ (k : Fin (mask.length * S)),
                  NF.CouplingJacobianImg.isTk e mask S (↑k : ℕ) = Bool.false →
                    v k = NF.CouplingJacobianImg.itemOf e mask S b x k) →
                ∀ (k : Fin (mask.length * S)),
                  NF.CouplingJacobianImg.itemMap e c mask S inverse net B x ctx b v k =
                    if NF.CouplingJacobianImg.isTk e mask S (↑k : ℕ) = Bool.true then
                      NF.CouplingJacobianImg.entryElMap e c mask S
                        (NF.CouplingConsequences.paramsOf (NF.realX e) mask S inverse Option.none #[] net B x ctx) inverse b
                        (↑k : ℕ) (v k)
                    else v k :=
  fun e c mask S inverse net _ x ctx hx _ hb v hv k =>
    NF.CouplingJacobianImg.item_eq e c mask S rfl inverse net x ctx hx hb v hv k

theorem itemMap_self :
    ∀ (e : Float → ℝ) (c : NF.ElCfg) (mask : List ℝ) (S : ℕ) (inverse : Bool)
      (net : Array ℝ → Array ℝ → Array ℝ) (B : ℕ) (x ctx : Array ℝ),
      x.size = B * (mask.length * S) →
        ∀ (b : ℕ),
          NF.CouplingJacobianImg.itemMap e c mask S inverse net B x ctx b (NF.CouplingJacobianImg.itemOf e mask S b x) =
            NF.CouplingJacobianImg.itemOf e mask S b
              (NF.CouplingConsequences.layer (NF.realX e) c mask S inverse Option.none #[] net B x ctx).out :=
  @NF.CouplingJacobianImg.itemMap_self

theorem coupling_additive_item_logdet_img :
    ∀ (e : Float → ℝ) (c : NF.ElCfg),
      c.kind = "additive" →
        ∀ (mask : List ℝ) (S : ℕ) (inverse : Bool) (net : Array ℝ → Array ℝ → Array ℝ) {B : ℕ} (x ctx : Array ℝ),
          x.size = B * (mask.length * S) →
            ∀ {b : ℕ},
              b < B →
                ∀ {L : (Fin (mask.length * S) → ℝ) →L[ℝ] Fin (mask.length * S) → ℝ},
                  HasFDerivAt (NF.CouplingJacobianImg.itemMap e c mask S inverse net B x ctx b) L
                      (NF.CouplingJacobianImg.itemOf e mask S b x) →
                    (NF.CouplingConsequences.layer (NF.realX e) c mask S inverse Option.none #[] net B x ctx).ld[b]? =
                      Option.some
                        (Real.log
                          |(LinearMap.det : ((Fin (mask.length * S) → ℝ) →ₗ[ℝ] Fin (mask.length * S) → ℝ) → ℝ)
                              (↑L : (Fin (mask.length * S) → ℝ) →ₗ[ℝ] Fin (mask.length * S) → ℝ)|) :=
  fun e c hk mask S inverse net _ x ctx hx b hb _ hL =>
    NF.CouplingJacobianImg.coupling_item_logdet e c mask S rfl inverse net x ctx hx hb hL
      fun k _ => NF.CouplingJacobianImg.entryElMap_additive_hasDerivAt e c hk mask S _ inverse b k _

theorem coupling_affine_item_logdet_img :
    ∀ (e : Float → ℝ),
      0 ≤ e 1e-3 →
        ∀ (c : NF.ElCfg),
          c.kind = "affine" →
            ∀ (mask : List ℝ) (S : ℕ) (inverse : Bool) (net : Array ℝ → Array ℝ → Array ℝ) {B : ℕ} (x ctx : Array ℝ),
              x.size = B * (mask.length * S) →
                ∀ {b : ℕ},
                  b < B →
                    ∀ {L : (Fin (mask.length * S) → ℝ) →L[ℝ] Fin (mask.length * S) → ℝ},
                      HasFDerivAt (NF.CouplingJacobianImg.itemMap e c mask S inverse net B x ctx b) L
                          (NF.CouplingJacobianImg.itemOf e mask S b x) →
                        (NF.CouplingConsequences.layer (NF.realX e) c mask S inverse Option.none #[] net B x ctx).ld[b]? =
                          Option.some
                            (Real.log
                              |(LinearMap.det : ((Fin (mask.length * S) → ℝ) →ₗ[ℝ] Fin (mask.length * S) → ℝ) → ℝ)
                                  (↑L : (Fin (mask.length * S) → ℝ) →ₗ[ℝ] Fin (mask.length * S) → ℝ)|) :=
  fun e he c hk mask S inverse net _ x ctx hx b hb _ hL =>
    NF.CouplingJacobianImg.coupling_item_logdet e c mask S rfl inverse net x ctx hx hb hL
      fun k _ => NF.CouplingJacobianImg.entryElMap_affine_hasDerivAt e he c hk mask S _ inverse b k _

theorem coupling_rq_tails_item_logdet_img :
    ∀ (e : Float → ℝ) (c : NF.ElCfg),
      NF.StructureExec.RQTailsCfgValid e c →
        TailsWhole.PadExact e (NF.StructureExec.tMD c) (NF.StructureExec.tBe c) →
          ∀ (mask : List ℝ) (S : ℕ) (inverse : Bool) (net : Array ℝ → Array ℝ → Array ℝ) {B : ℕ} (x ctx : Array ℝ),
            x.size = B * (mask.length * S) →
              ∀ {b : ℕ},
                b < B →
                  ∀ {L : (Fin (mask.length * S) → ℝ) →L[ℝ] Fin (mask.length * S) → ℝ},
                    HasFDerivAt (NF.CouplingJacobianImg.itemMap e c mask S inverse net B x ctx b) L
                        (NF.CouplingJacobianImg.itemOf e mask S b x) →
                      (NF.CouplingConsequences.layer (NF.realX e) c mask S inverse Option.none #[] net B x ctx).ld[b]? =
                        Option.some
                          (Real.log
                            |(LinearMap.det : ((Fin (mask.length * S) → ℝ) →ₗ[ℝ] Fin (mask.length * S) → ℝ) → ℝ)
                                (↑L : (Fin (mask.length * S) → ℝ) →ₗ[ℝ] Fin (mask.length * S) → ℝ)|) :=
  fun e c hc hp mask S inverse net _ x ctx hx b hb _ hL =>
    NF.CouplingJacobianImg.coupling_item_logdet e c mask S rfl inverse net x ctx hx hb hL
      fun k _ => NF.CouplingJacobianImg.entryElMap_rq_tails_hasDerivAt e c hc hp mask S _ inverse b k _

theorem coupling_additive_item_logdet_img_diffNet :
    ∀ (e : Float → ℝ) (c : NF.ElCfg),
      c.kind = "additive" →
        ∀ (mask : List ℝ) (S : ℕ) (inverse : Bool) (net : Array ℝ → Array ℝ → Array ℝ) {B : ℕ} (x ctx : Array ℝ),
          x.size = B * (mask.length * S) →
            ∀ {b : ℕ},
              b < B →
                NF.CouplingJacobianImg.ParamsDiff e mask S inverse net B x ctx b →
                  (NF.CouplingConsequences.layer (NF.realX e) c mask S inverse Option.none #[] net B x ctx).ld[b]? =
                    Option.some
                      (Real.log
                        |(LinearMap.det : ((Fin (mask.length * S) → ℝ) →ₗ[ℝ] Fin (mask.length * S) → ℝ) → ℝ)
                            (↑(fderiv ℝ (NF.CouplingJacobianImg.itemMap e c mask S inverse net B x ctx b)
                                  (NF.CouplingJacobianImg.itemOf e mask S b x)) :
                              (Fin (mask.length * S) → ℝ) →ₗ[ℝ] Fin (mask.length * S) → ℝ)|) :=
  fun e c hk mask S inverse net _ x ctx hx _ hb hnet =>
    coupling_additive_item_logdet_img e c hk mask S inverse net x ctx hx hb
      ((NF.CouplingJacobianImg.item_differentiable_additive e c hk mask S rfl inverse net x ctx hb hnet) _).hasFDerivAt

theorem coupling_affine_item_logdet_img_diffNet :
    ∀ (e : Float → ℝ),
      0 ≤ e 1e-3 →
        ∀ (c : NF.ElCfg),
          c.kind = "affine" →
            (c.act == "general") = Bool.false →
              ∀ (mask : List ℝ) (S : ℕ) (inverse : Bool) (net : Array ℝ → Array ℝ → Array ℝ) {B : ℕ} (x ctx : Array ℝ),
                x.size = B * (mask.length * S) →
                  ∀ {b : ℕ},
                    b < B →
                      NF.CouplingJacobianImg.ParamsDiff e mask S inverse net B x ctx b →
                        (NF.CouplingConsequences.layer (NF.realX e) c mask S inverse Option.none #[] net B x ctx).ld[b]? =
                          Option.some
                            (Real.log
                              |(LinearMap.det : ((Fin (mask.length * S) → ℝ) →ₗ[ℝ] Fin (mask.length * S) → ℝ) → ℝ)
                                  (↑(fderiv ℝ (NF.CouplingJacobianImg.itemMap e c mask S inverse net B x ctx b)
                                        (NF.CouplingJacobianImg.itemOf e mask S b x)) :
                                    (Fin (mask.length * S) → ℝ) →ₗ[ℝ] Fin (mask.length * S) → ℝ)|) :=
  fun e he c hk hact mask S inverse net _ x ctx hx _ hb hnet =>
    coupling_affine_item_logdet_img e he c hk mask S inverse net x ctx hx hb
      ((NF.CouplingJacobianImg.item_differentiable_affine e he c hk hact mask S rfl inverse net x ctx hb hnet) _).hasFDerivAt

theorem coupling_affine_item_logdet_img_affineNet :
    ∀ (e : Float → ℝ),
      0 ≤ e 1e-3 →
        ∀ (c : NF.ElCfg),
          c.kind = "affine" →
            (c.act == "general") = Bool.false →
              ∀ (mask : List ℝ) (S : ℕ) (inverse : Bool) {n : ℕ} {net : Array ℝ → Array ℝ → Array ℝ} {B : ℕ}
                (x ctx : Array ℝ),
                x.size = B * (mask.length * S) →
                  ∀ {b : ℕ},
                    b < B →
                      NF.CouplingJacobianImg.AffineNetAt n net ctx →
                        (NF.CouplingConsequences.layer (NF.realX e) c mask S inverse Option.none #[] net B x ctx).ld[b]? =
                          Option.some
                            (Real.log
                              |(LinearMap.det : ((Fin (mask.length * S) → ℝ) →ₗ[ℝ] Fin (mask.length * S) → ℝ) → ℝ)
                                  (↑(fderiv ℝ (NF.CouplingJacobianImg.itemMap e c mask S inverse net B x ctx b)
                                        (NF.CouplingJacobianImg.itemOf e mask S b x)) :
                                    (Fin (mask.length * S) → ℝ) →ₗ[ℝ] Fin (mask.length * S) → ℝ)|) :=
  fun e he c hk hact mask S inverse _ _ _ x ctx hx _ hb hnet =>
    coupling_affine_item_logdet_img_diffNet e he c hk hact mask S inverse _ x ctx hx hb
      (NF.CouplingJacobianImg.paramsOf_affineNet_differentiable e mask S _ inverse _ x ctx _ hnet)

theorem coupling_rq_tails_item_logdet_img_const :
    ∀ (e : Float → ℝ) (c : NF.ElCfg),
      NF.StructureExec.RQTailsCfgValid e c →
        TailsWhole.PadExact e (NF.StructureExec.tMD c) (NF.StructureExec.tBe c) →
          ∀ (mask : List ℝ) (S : ℕ) (inverse : Bool) (params : Array ℝ) {B : ℕ} (x ctx : Array ℝ),
            x.size = B * (mask.length * S) →
              ∀ {b : ℕ},
                b < B →
                  (NF.CouplingConsequences.layer (NF.realX e) c mask S inverse Option.none #[]
                          (fun (x x_1 : Array ℝ) => params) B x ctx).ld[b]? =
                    Option.some
                      (Real.log
                        |(LinearMap.det : ((Fin (mask.length * S) → ℝ) →ₗ[ℝ] Fin (mask.length * S) → ℝ) → ℝ)
                            (↑(fderiv ℝ
                                  (NF.CouplingJacobianImg.itemMap e c mask S inverse (fun (x x_1 : Array ℝ) => params) B x
                                    ctx b)
                                  (NF.CouplingJacobianImg.itemOf e mask S b x)) :
                              (Fin (mask.length * S) → ℝ) →ₗ[ℝ] Fin (mask.length * S) → ℝ)|) :=
  fun e c hc hp mask S inverse params _ x ctx hx b hb =>
    coupling_rq_tails_item_logdet_img e c hc hp mask S inverse _ x ctx hx hb
      ((NF.CouplingJacobianImg.item_differentiable_const e c mask S rfl inverse params x ctx hb
        fun k _ τ => NF.CouplingJacobianImg.entryElMap_rq_tails_hasDerivAt e c hc hp mask S params inverse b k τ) _).hasFDerivAt

theorem coupling_additive_item_det_one_img :
    ∀ (e : Float → ℝ) (c : NF.ElCfg),
      c.kind = "additive" →
        ∀ (mask : List ℝ) (S : ℕ) (inverse : Bool) (net : Array ℝ → Array ℝ → Array ℝ) {B : ℕ} (x ctx : Array ℝ),
          x.size = B * (mask.length * S) →
            ∀ {b : ℕ},
              b < B →
                ∀ {L : (Fin (mask.length * S) → ℝ) →L[ℝ] Fin (mask.length * S) → ℝ},
                  HasFDerivAt (NF.CouplingJacobianImg.itemMap e c mask S inverse net B x ctx b) L
                      (NF.CouplingJacobianImg.itemOf e mask S b x) →
                    (LinearMap.det : ((Fin (mask.length * S) → ℝ) →ₗ[ℝ] Fin (mask.length * S) → ℝ) → ℝ)
                        (↑L : (Fin (mask.length * S) → ℝ) →ₗ[ℝ] Fin (mask.length * S) → ℝ) =
                      1 :=
  @NF.CouplingJacobianImg.coupling_additive_item_det_one_img

end Properties.C01
