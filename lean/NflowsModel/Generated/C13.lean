import NflowsModel.Core.Thin
import NflowsModel.Lemmas.StoreTrace
/-! GENERATED by harness/props/c13.py (translator) from the running implementation — do not edit.
    One theorem per distinct trace skeleton: owned storages are `0 … n-1` (caller tensors first, then parameters and
    buffers in name order; `n` = the largest owned set among the cases sharing the skeleton, see
    `Properties.C13.traceSafe_mono_owned`), storages allocated inside the call are numbered from 1000.
    cases traced: 1944, distinct skeletons: 127, emitted: 127 -/
set_option maxRecDepth 100000
open Thin Thin.Store
namespace Properties.C13

/-- 182 case(s), e.g. ActNorm/image-1x1|eval|forward|std; ActNorm/image-1x1|eval|inverse|std; ActNorm/image-1x1|train|forward|std@warm -/
theorem trace_0_safe : traceSafe (List.range 27) [] [.read 0] = true :=
  (traceSafe_range _ _ _).trans (by decide)
/-- 28 case(s), e.g. AdditiveCoupling|eval|forward|std; AdditiveCoupling|eval|inverse|std; AdditiveCoupling|train|forward|std -/
theorem trace_1_safe : traceSafe (List.range 21) [] [.read 0, .alloc 1000, .write 1000, .write 1000] = true :=
  (traceSafe_range _ _ _).trans (by decide)
/-- 20 case(s), e.g. CubicCDF/tails|eval|forward|inside; CubicCDF/tails|eval|forward|mixed; CubicCDF/tails|train|forward|inside -/
theorem trace_2_safe : traceSafe (List.range 17) [] [.read 0, .alloc 1000, .alloc 1001, .write 1000, .write 1001, .alloc 1002, .write 1002, .alloc 1003, .write 1003, .alloc 1004, .write 1004, .write 1000, .write 1001] = true :=
  (traceSafe_range _ _ _).trans (by decide)
/-- 18 case(s), e.g. CubicCDF/tails|eval|forward|outside; CubicCDF/tails|eval|inverse|outside; CubicCDF/tails|train|forward|outside -/
theorem trace_3_safe : traceSafe (List.range 17) [] [.read 0, .alloc 1000, .alloc 1001, .write 1000, .write 1001] = true :=
  (traceSafe_range _ _ _).trans (by decide)
/-- 18 case(s), e.g. CubicAR|eval|forward|unit; CubicAR|eval|forward|unit#B; CubicAR|train|forward|unit -/
theorem trace_4_safe : traceSafe (List.range 17) [] [.read 0, .alloc 1000, .write 1000, .alloc 1001, .write 1001, .alloc 1002, .write 1002] = true :=
  (traceSafe_range _ _ _).trans (by decide)
/-- 14 case(s), e.g. RQAR/random_mask|eval|forward|mixed; RQAR/random_mask|train|forward|mixed; RQAR/tails|eval|forward|inside -/
theorem trace_5_safe : traceSafe (List.range 17) [] [.read 0, .alloc 1000, .alloc 1001, .alloc 1002, .write 1002, .write 1002, .write 1000, .write 1001, .alloc 1003, .write 1003, .write 1003, .alloc 1004, .write 1004, .write 1004, .alloc 1005, .write 1005, .write 1000, .write 1001] = true :=
  (traceSafe_range _ _ _).trans (by decide)
/-- 12 case(s), e.g. LULinear/features1|eval|forward|std+cache_miss; LULinear/features1|eval|forward|std+nocache; LULinear/features1|eval|inverse|std+cache_miss -/
theorem trace_6_safe : traceSafe (List.range 5) [] [.alloc 1000, .write 1000, .write 1000, .alloc 1001, .write 1001, .write 1001, .read 0] = true :=
  (traceSafe_range _ _ _).trans (by decide)
/-- 12 case(s), e.g. RQCoupling/image|eval|forward|inside; RQCoupling/image|eval|forward|mixed; RQCoupling/image|eval|inverse|inside -/
theorem trace_7_safe : traceSafe (List.range 11) [] [.read 0, .alloc 1000, .write 1000, .write 1000, .alloc 1001, .alloc 1002, .alloc 1003, .write 1003, .write 1003, .write 1001, .write 1002, .alloc 1004, .write 1004, .write 1004, .alloc 1005, .write 1005, .write 1005, .alloc 1006, .write 1006, .write 1001, .write 1002, .alloc 1007, .write 1007, .write 1007] = true :=
  (traceSafe_range _ _ _).trans (by decide)
/-- 10 case(s), e.g. CubicCoupling|eval|forward|unit; CubicCoupling|eval|forward|unit#B; CubicCoupling|eval|forward|unit#C -/
theorem trace_8_safe : traceSafe (List.range 11) [] [.read 0, .alloc 1000, .write 1000, .write 1000, .alloc 1001, .write 1001, .alloc 1002, .write 1002, .alloc 1003, .write 1003, .alloc 1004, .write 1004, .write 1004] = true :=
  (traceSafe_range _ _ _).trans (by decide)
/-- 10 case(s), e.g. AffineCoupling/ctx|eval|forward|std; AffineCoupling/ctx|eval|inverse|std; AffineCoupling/ctx|train|forward|std -/
theorem trace_9_safe : traceSafe (List.range 14) [] [.read 1, .read 0, .alloc 1000, .write 1000, .write 1000] = true :=
  (traceSafe_range _ _ _).trans (by decide)
/-- 8 case(s), e.g. QRLinear/features1|eval|forward|std+cache_miss; QRLinear/features1|eval|inverse|std+cache_miss; QRLinear/features1|eval|inverse|std+nocache -/
theorem trace_10_safe : traceSafe (List.range 5) [] [.alloc 1000, .write 1000, .write 1000, .read 0] = true :=
  (traceSafe_range _ _ _).trans (by decide)
/-- 8 case(s), e.g. LogTanh|eval|forward|std; LogTanh|eval|forward|wide; LogTanh|eval|inverse|std -/
theorem trace_11_safe : traceSafe (List.range 1) [] [.read 0, .alloc 1000, .write 1000, .write 1000, .write 1000, .alloc 1001, .write 1001, .write 1001, .write 1001] = true :=
  (traceSafe_range _ _ _).trans (by decide)
/-- 8 case(s), e.g. RQCoupling/tails+ctx|eval|forward|inside; RQCoupling/tails+ctx|eval|forward|mixed; RQCoupling/tails+ctx|eval|inverse|inside -/
theorem trace_12_safe : traceSafe (List.range 14) [] [.read 1, .read 0, .alloc 1000, .write 1000, .write 1000, .alloc 1001, .alloc 1002, .alloc 1003, .write 1003, .write 1003, .write 1001, .write 1002, .alloc 1004, .write 1004, .write 1004, .alloc 1005, .write 1005, .write 1005, .alloc 1006, .write 1006, .write 1001, .write 1002, .alloc 1007, .write 1007, .write 1007] = true :=
  (traceSafe_range _ _ _).trans (by decide)
/-- 6 case(s), e.g. StandardNormal|eval|sample_and_log_prob|std; StandardNormal|eval|sample_batched|std; StandardNormal|eval|sample|std -/
theorem trace_13_safe : traceSafe (List.range 1) [] [] = true :=
  (traceSafe_range _ _ _).trans (by decide)
/-- 6 case(s), e.g. RQAR/tails|eval|forward|outside; RQAR/tails|train|forward|outside; RQCDF/tails|eval|forward|outside -/
theorem trace_14_safe : traceSafe (List.range 17) [] [.read 0, .alloc 1000, .alloc 1001, .alloc 1002, .write 1002, .write 1002, .write 1000, .write 1001] = true :=
  (traceSafe_range _ _ _).trans (by decide)
/-- 6 case(s), e.g. RQAR/random_mask|eval|inverse|mixed; RQAR/random_mask|train|inverse|mixed; RQAR/tails|eval|inverse|inside -/
theorem trace_15_safe : traceSafe (List.range 17) [] [.read 0, .alloc 1000, .alloc 1001, .alloc 1002, .write 1002, .write 1002, .write 1000, .write 1001, .alloc 1003, .write 1003, .write 1003, .alloc 1004, .write 1004, .write 1004, .alloc 1005, .write 1005, .write 1000, .write 1001, .alloc 1006, .alloc 1007, .alloc 1008, .write 1008, .write 1008, .write 1006, .write 1007, .alloc 1009, .write 1009, .write 1009, .alloc 1010, .write 1010, .write 1010, .alloc 1011, .write 1011, .write 1006, .write 1007, .alloc 1012, .alloc 1013, .alloc 1014, .write 1014, .write 1014, .write 1012, .write 1013, .alloc 1015, .write 1015, .write 1015, .alloc 1016, .write 1016, .write 1016, .alloc 1017, .write 1017, .write 1012, .write 1013, .alloc 1018, .alloc 1019, .alloc 1020, .write 1020, .write 1020, .write 1018, .write 1019, .alloc 1021, .write 1021, .write 1021, .alloc 1022, .write 1022, .write 1022, .alloc 1023, .write 1023, .write 1018, .write 1019] = true :=
  (traceSafe_range _ _ _).trans (by decide)
/-- 6 case(s), e.g. LinearCDF|eval|inverse|unit; LinearCDF|train|inverse|unit; SVDLinear/features1|eval|forward|std+nocache -/
theorem trace_16_safe : traceSafe (List.range 5) [] [.read 0, .alloc 1000, .write 1000, .alloc 1001, .write 1001] = true :=
  (traceSafe_range _ _ _).trans (by decide)
/-- 6 case(s), e.g. CubicCDF|eval|inverse|unit; CubicCDF|eval|inverse|unit#B; CubicCDF|eval|inverse|unit#C -/
theorem trace_17_safe : traceSafe (List.range 5) [] [.read 0, .alloc 1000, .write 1000, .alloc 1001, .write 1001, .alloc 1002, .write 1002, .alloc 1003, .write 1003, .alloc 1004, .write 1004, .write 1003, .write 1003] = true :=
  (traceSafe_range _ _ _).trans (by decide)
/-- 6 case(s), e.g. CubicCoupling|eval|inverse|unit; CubicCoupling|eval|inverse|unit#B; CubicCoupling|eval|inverse|unit#C -/
theorem trace_18_safe : traceSafe (List.range 11) [] [.read 0, .alloc 1000, .write 1000, .write 1000, .alloc 1001, .write 1001, .alloc 1002, .write 1002, .alloc 1003, .write 1003, .alloc 1004, .write 1004, .alloc 1005, .write 1005, .write 1004, .write 1004, .alloc 1006, .write 1006, .write 1006] = true :=
  (traceSafe_range _ _ _).trans (by decide)
/-- 6 case(s), e.g. OneByOneConvolution|eval|forward|std+cache_miss; OneByOneConvolution|eval|forward|std+nocache; OneByOneConvolution|eval|inverse|std+cache_miss -/
theorem trace_19_safe : traceSafe (List.range 6) [] [.read 0, .alloc 1000, .write 1000, .write 1000, .alloc 1001, .write 1001, .write 1001] = true :=
  (traceSafe_range _ _ _).trans (by decide)
/-- 4 case(s), e.g. QRLinear/features1|eval|forward|std+nocache; QRLinear/features1|train|forward|std; QRLinear|eval|forward|std+nocache -/
theorem trace_20_safe : traceSafe (List.range 5) [] [.alloc 1000, .write 1000, .write 1000, .read 0, .alloc 1001, .write 1001] = true :=
  (traceSafe_range _ _ _).trans (by decide)
/-- 4 case(s), e.g. fn/unconstrained_rational_quadratic_spline|eval|call_inverse|inside; fn/unconstrained_rational_quadratic_spline|eval|call_inverse|mixed; fn/unconstrained_rational_quadratic_spline|eval|call|inside -/
theorem trace_21_safe : traceSafe (List.range 4) [] [.read 0, .alloc 1000, .alloc 1001, .read 1, .alloc 1002, .write 1002, .write 1002, .write 1000, .write 1001, .read 3, .read 2, .alloc 1003, .write 1003, .write 1003, .alloc 1004, .write 1004, .write 1004, .alloc 1005, .write 1005, .write 1000, .write 1001] = true :=
  (traceSafe_range _ _ _).trans (by decide)
/-- 4 case(s), e.g. fn/unconstrained_quadratic_spline|eval|call_inverse|inside; fn/unconstrained_quadratic_spline|eval|call_inverse|mixed; fn/unconstrained_quadratic_spline|eval|call|inside -/
theorem trace_22_safe : traceSafe (List.range 3) [] [.read 0, .alloc 1000, .alloc 1001, .read 2, .write 1000, .write 1001, .read 1, .alloc 1002, .write 1002, .alloc 1003, .write 1003, .alloc 1004, .write 1004, .write 1000, .write 1001] = true :=
  (traceSafe_range _ _ _).trans (by decide)
/-- 4 case(s), e.g. QuadraticAR/tails|eval|inverse|inside; QuadraticAR/tails|eval|inverse|mixed; QuadraticAR/tails|train|inverse|inside -/
theorem trace_23_safe : traceSafe (List.range 17) [] [.read 0, .alloc 1000, .alloc 1001, .write 1000, .write 1001, .alloc 1002, .write 1002, .alloc 1003, .write 1003, .alloc 1004, .write 1004, .write 1000, .write 1001, .alloc 1005, .alloc 1006, .write 1005, .write 1006, .alloc 1007, .write 1007, .alloc 1008, .write 1008, .alloc 1009, .write 1009, .write 1005, .write 1006, .alloc 1010, .alloc 1011, .write 1010, .write 1011, .alloc 1012, .write 1012, .alloc 1013, .write 1013, .alloc 1014, .write 1014, .write 1010, .write 1011, .alloc 1015, .alloc 1016, .write 1015, .write 1016, .alloc 1017, .write 1017, .alloc 1018, .write 1018, .alloc 1019, .write 1019, .write 1015, .write 1016] = true :=
  (traceSafe_range _ _ _).trans (by decide)
/-- 4 case(s), e.g. QuadraticCoupling/tails+uncond|eval|inverse|inside; QuadraticCoupling/tails+uncond|eval|inverse|mixed; QuadraticCoupling/tails+uncond|train|inverse|inside -/
theorem trace_24_safe : traceSafe (List.range 13) [] [.read 0, .alloc 1000, .alloc 1001, .write 1000, .write 1001, .alloc 1002, .write 1002, .alloc 1003, .write 1003, .alloc 1004, .write 1004, .write 1000, .write 1001, .alloc 1005, .alloc 1006, .write 1006, .write 1006, .alloc 1007, .alloc 1008, .write 1007, .write 1008, .alloc 1009, .write 1009, .alloc 1010, .write 1010, .alloc 1011, .write 1011, .write 1007, .write 1008, .write 1005, .alloc 1012, .write 1012, .write 1012] = true :=
  (traceSafe_range _ _ _).trans (by decide)
/-- 4 case(s), e.g. LinearCDF/tails|eval|inverse|inside; LinearCDF/tails|eval|inverse|mixed; LinearCDF/tails|train|inverse|inside -/
theorem trace_25_safe : traceSafe (List.range 2) [] [.read 0, .alloc 1000, .alloc 1001, .write 1000, .write 1001, .alloc 1002, .write 1002, .alloc 1003, .write 1003, .write 1000, .write 1001] = true :=
  (traceSafe_range _ _ _).trans (by decide)
/-- 4 case(s), e.g. SimpleRealNVP|eval|log_prob|std; SimpleRealNVP|eval|transform_to_noise|std; SimpleRealNVP|train|log_prob|std -/
theorem trace_26_safe : traceSafe (List.range 22) [] [.read 0, .alloc 1000, .alloc 1001, .write 1001, .write 1001, .write 1000, .alloc 1002, .write 1002, .write 1002, .write 1000] = true :=
  (traceSafe_range _ _ _).trans (by decide)
/-- 4 case(s), e.g. Flow/conditional_base|eval|sample|std; Flow/conditional_base|train|sample|std; Multiscale|eval|forward|std -/
theorem trace_27_safe : traceSafe (List.range 17) [] [.read 0, .alloc 1000, .alloc 1001, .write 1001, .write 1001, .write 1000, .write 1000] = true :=
  (traceSafe_range _ _ _).trans (by decide)
/-- 4 case(s), e.g. SVDLinear/features1|eval|inverse|std+nocache; SVDLinear/features1|train|inverse|std; SVDLinear|eval|inverse|std+nocache -/
theorem trace_28_safe : traceSafe (List.range 5) [] [.read 0, .alloc 1000, .write 1000] = true :=
  (traceSafe_range _ _ _).trans (by decide)
/-- 4 case(s), e.g. RQCoupling/image|eval|forward|outside; RQCoupling/image|eval|inverse|outside; RQCoupling/image|train|forward|outside -/
theorem trace_29_safe : traceSafe (List.range 11) [] [.read 0, .alloc 1000, .write 1000, .write 1000, .alloc 1001, .alloc 1002, .alloc 1003, .write 1003, .write 1003, .write 1001, .write 1002, .alloc 1004, .write 1004, .write 1004] = true :=
  (traceSafe_range _ _ _).trans (by decide)
/-- 4 case(s), e.g. QuadraticCoupling/tails+uncond|eval|forward|inside; QuadraticCoupling/tails+uncond|eval|forward|mixed; QuadraticCoupling/tails+uncond|train|forward|inside -/
theorem trace_30_safe : traceSafe (List.range 13) [] [.read 0, .alloc 1000, .write 1000, .write 1000, .alloc 1001, .alloc 1002, .write 1001, .write 1002, .alloc 1003, .write 1003, .alloc 1004, .write 1004, .alloc 1005, .write 1005, .write 1001, .write 1002, .alloc 1006, .alloc 1007, .alloc 1008, .write 1007, .write 1008, .alloc 1009, .write 1009, .alloc 1010, .write 1010, .alloc 1011, .write 1011, .write 1007, .write 1008, .write 1006, .alloc 1012, .write 1012, .write 1012] = true :=
  (traceSafe_range _ _ _).trans (by decide)
/-- 4 case(s), e.g. CubicCoupling/tails|eval|forward|inside; CubicCoupling/tails|eval|forward|mixed; CubicCoupling/tails|train|forward|inside -/
theorem trace_31_safe : traceSafe (List.range 11) [] [.read 0, .alloc 1000, .write 1000, .write 1000, .alloc 1001, .alloc 1002, .write 1001, .write 1002, .alloc 1003, .write 1003, .alloc 1004, .write 1004, .alloc 1005, .write 1005, .write 1001, .write 1002, .alloc 1006, .write 1006, .write 1006] = true :=
  (traceSafe_range _ _ _).trans (by decide)
/-- 4 case(s), e.g. CubicCoupling/tails|eval|forward|outside; CubicCoupling/tails|eval|inverse|outside; CubicCoupling/tails|train|forward|outside -/
theorem trace_32_safe : traceSafe (List.range 11) [] [.read 0, .alloc 1000, .write 1000, .write 1000, .alloc 1001, .alloc 1002, .write 1001, .write 1002, .alloc 1003, .write 1003, .write 1003] = true :=
  (traceSafe_range _ _ _).trans (by decide)
/-- 4 case(s), e.g. RQCDF|eval|forward|unit; RQCDF|eval|inverse|unit; RQCDF|train|forward|unit -/
theorem trace_33_safe : traceSafe (List.range 4) [] [.read 0, .alloc 1000, .write 1000, .write 1000, .alloc 1001, .write 1001, .write 1001, .alloc 1002, .write 1002] = true :=
  (traceSafe_range _ _ _).trans (by decide)
/-- 4 case(s), e.g. RQCoupling|eval|forward|unit; RQCoupling|eval|inverse|unit; RQCoupling|train|forward|unit -/
theorem trace_34_safe : traceSafe (List.range 11) [] [.read 0, .alloc 1000, .write 1000, .write 1000, .alloc 1001, .write 1001, .write 1001, .alloc 1002, .write 1002, .write 1002, .alloc 1003, .write 1003, .alloc 1004, .write 1004, .write 1004] = true :=
  (traceSafe_range _ _ _).trans (by decide)
/-- 4 case(s), e.g. Flow/small|eval|log_prob|std; Flow/small|eval|transform_to_noise|std; Flow/small|train|log_prob|std -/
theorem trace_35_safe : traceSafe (List.range 33) [] [.read 0, .alloc 1000, .write 1000, .write 1000, .alloc 1001, .write 1001, .write 1001, .alloc 1002, .write 1002, .write 1002, .write 1000, .alloc 1003, .write 1003, .write 1003, .alloc 1004, .alloc 1005, .alloc 1006, .write 1006, .write 1006, .write 1004, .write 1005, .alloc 1007, .write 1007, .write 1007, .alloc 1008, .write 1008, .write 1008, .alloc 1009, .write 1009, .write 1004, .write 1005, .alloc 1010, .write 1010, .write 1010, .write 1000] = true :=
  (traceSafe_range _ _ _).trans (by decide)
/-- 4 case(s), e.g. MaskedAutoregressiveFlow|eval|log_prob|std; MaskedAutoregressiveFlow|eval|transform_to_noise|std; MaskedAutoregressiveFlow|train|log_prob|std -/
theorem trace_36_safe : traceSafe (List.range 36) [] [.read 0, .alloc 1000, .write 1000, .write 1000, .write 1000, .write 1000] = true :=
  (traceSafe_range _ _ _).trans (by decide)
/-- 4 case(s), e.g. GatedLinearUnit|eval|forward|std; GatedLinearUnit|eval|inverse|std; GatedLinearUnit|train|forward|std -/
theorem trace_37_safe : traceSafe (List.range 2) [] [.read 0, .read 1] = true :=
  (traceSafe_range _ _ _).trans (by decide)
/-- 4 case(s), e.g. RQCoupling/tails+ctx|eval|forward|outside; RQCoupling/tails+ctx|eval|inverse|outside; RQCoupling/tails+ctx|train|forward|outside -/
theorem trace_38_safe : traceSafe (List.range 14) [] [.read 1, .read 0, .alloc 1000, .write 1000, .write 1000, .alloc 1001, .alloc 1002, .alloc 1003, .write 1003, .write 1003, .write 1001, .write 1002, .alloc 1004, .write 1004, .write 1004] = true :=
  (traceSafe_range _ _ _).trans (by decide)
/-- 4 case(s), e.g. ActNorm/image-1x1|train|inverse|std; ActNorm/image-C1|train|inverse|std; ActNorm/image|train|inverse|std -/
theorem trace_39_safe : traceSafe (List.range 4) [1, 2, 3] [.read 0] = true :=
  (traceSafe_range _ _ _).trans (by decide)
/-- 4 case(s), e.g. ActNorm/image-1x1|train|forward|std; ActNorm/image-C1|train|forward|std; ActNorm/image|train|forward|std -/
theorem trace_40_safe : traceSafe (List.range 4) [1, 2, 3] [.read 0, .write 2, .write 3, .write 1] = true :=
  (traceSafe_range _ _ _).trans (by decide)
/-- 4 case(s), e.g. AffineCoupling/bn_conditioner|train|forward|std; AffineCoupling/bn_conditioner|train|forward|std@warm; AffineCoupling/bn_conditioner|train|inverse|std -/
theorem trace_41_safe : traceSafe (List.range 21) [3, 4, 5, 6, 7, 8] [.read 0, .write 3, .write 4, .write 5, .write 6, .write 7, .write 8, .alloc 1000, .write 1000, .write 1000] = true :=
  (traceSafe_range _ _ _).trans (by decide)
/-- 4 case(s), e.g. MaskedAutoregressiveFlow/random|train|log_prob|std; MaskedAutoregressiveFlow/random|train|log_prob|std@warm; MaskedAutoregressiveFlow/random|train|transform_to_noise|std -/
theorem trace_42_safe : traceSafe (List.range 64) [3, 4, 5, 8, 9, 10, 17, 18, 20, 21, 22, 25, 26, 27, 34, 35] [.read 0, .alloc 1000, .write 1000, .write 3, .write 4, .write 5, .write 8, .write 9, .write 10, .write 1000, .write 17, .write 17, .write 18, .write 18, .write 1000, .write 1000, .write 20, .write 21, .write 22, .write 25, .write 26, .write 27, .write 1000, .write 34, .write 34, .write 35, .write 35, .write 1000] = true :=
  (traceSafe_range _ _ _).trans (by decide)
/-- 4 case(s), e.g. SimpleRealNVP/bn|train|log_prob|std; SimpleRealNVP/bn|train|log_prob|std@warm; SimpleRealNVP/bn|train|transform_to_noise|std -/
theorem trace_43_safe : traceSafe (List.range 50) [4, 5, 6, 7, 8, 9, 10, 11, 14, 15, 16, 17, 18, 19, 20, 21] [.read 0, .alloc 1000, .write 4, .write 5, .write 6, .write 7, .write 8, .write 9, .alloc 1001, .write 1001, .write 1001, .write 1000, .write 10, .write 10, .write 11, .write 11, .write 1000, .write 14, .write 15, .write 16, .write 17, .write 18, .write 19, .alloc 1002, .write 1002, .write 1002, .write 1000, .write 20, .write 20, .write 21, .write 21, .write 1000] = true :=
  (traceSafe_range _ _ _).trans (by decide)
/-- 4 case(s), e.g. CubicCoupling/tails|eval|inverse|inside; CubicCoupling/tails|eval|inverse|mixed; CubicCoupling/tails|train|inverse|inside -/
theorem trace_44_safe : traceSafe (List.range 11) [] [.read 0, .alloc 1000, .write 1000, .write 1000, .alloc 1001, .alloc 1002, .write 1001, .write 1002, .alloc 1003, .write 1003, .alloc 1004, .write 1004, .alloc 1005, .write 1005, .alloc 1006, .write 1006, .alloc 1007, .write 1007, .write 1006, .write 1006, .write 1001, .write 1002, .alloc 1008, .write 1008, .write 1008] = true :=
  (traceSafe_range _ _ _).trans (by decide)
/-- 4 case(s), e.g. CubicAR|eval|inverse|unit; CubicAR|eval|inverse|unit#B; CubicAR|train|inverse|unit -/
theorem trace_45_safe : traceSafe (List.range 17) [] [.read 0, .alloc 1000, .write 1000, .alloc 1001, .write 1001, .alloc 1002, .write 1002, .alloc 1003, .write 1003, .alloc 1004, .write 1004, .write 1003, .write 1003, .alloc 1005, .write 1005, .alloc 1006, .write 1006, .alloc 1007, .write 1007, .alloc 1008, .write 1008, .alloc 1009, .write 1009, .write 1008, .write 1008, .alloc 1010, .write 1010, .alloc 1011, .write 1011, .alloc 1012, .write 1012, .alloc 1013, .write 1013, .alloc 1014, .write 1014, .write 1013, .write 1013, .alloc 1015, .write 1015, .alloc 1016, .write 1016, .alloc 1017, .write 1017, .alloc 1018, .write 1018, .alloc 1019, .write 1019, .write 1018, .write 1018] = true :=
  (traceSafe_range _ _ _).trans (by decide)
/-- 3 case(s), e.g. fn/cubic_spline|eval|call|unit; fn/cubic_spline|eval|call|unit#B; fn/cubic_spline|eval|call|unit#C -/
theorem trace_46_safe : traceSafe (List.range 5) [] [.read 0, .read 4, .alloc 1000, .write 1000, .read 3, .alloc 1001, .write 1001, .read 1, .read 2, .alloc 1002, .write 1002] = true :=
  (traceSafe_range _ _ _).trans (by decide)
/-- 3 case(s), e.g. fn/cubic_spline|eval|call_inverse|unit; fn/cubic_spline|eval|call_inverse|unit#B; fn/cubic_spline|eval|call_inverse|unit#C -/
theorem trace_47_safe : traceSafe (List.range 5) [] [.read 0, .read 4, .alloc 1000, .write 1000, .read 3, .alloc 1001, .write 1001, .read 1, .read 2, .alloc 1002, .write 1002, .alloc 1003, .write 1003, .alloc 1004, .write 1004, .write 1003, .write 1003] = true :=
  (traceSafe_range _ _ _).trans (by decide)
/-- 4 case(s), e.g. Flow/small|eval|sample_and_log_prob|std; Flow/small|eval|sample|std; Flow/small|train|sample_and_log_prob|std -/
theorem trace_48_safe : traceSafe (List.range 32) [] [.alloc 1000, .alloc 1001, .write 1001, .write 1001, .alloc 1002, .alloc 1003, .alloc 1004, .write 1004, .write 1004, .write 1002, .write 1003, .alloc 1005, .write 1005, .write 1005, .alloc 1006, .write 1006, .write 1006, .alloc 1007, .write 1007, .write 1002, .write 1003, .alloc 1008, .write 1008, .write 1008, .write 1000, .alloc 1009, .write 1009, .write 1009, .alloc 1010, .write 1010, .write 1010, .write 1000, .write 1000, .write 1000] = true :=
  (traceSafe_range _ _ _).trans (by decide)
/-- 4 case(s), e.g. SimpleRealNVP|eval|sample_and_log_prob|std; SimpleRealNVP|eval|sample|std; SimpleRealNVP|train|sample_and_log_prob|std -/
theorem trace_49_safe : traceSafe (List.range 21) [] [.alloc 1000, .alloc 1001, .write 1001, .write 1001, .write 1000, .alloc 1002, .write 1002, .write 1002, .write 1000] = true :=
  (traceSafe_range _ _ _).trans (by decide)
/-- 4 case(s), e.g. MaskedAutoregressiveFlow|eval|sample_and_log_prob|std; MaskedAutoregressiveFlow|eval|sample|std; MaskedAutoregressiveFlow|train|sample_and_log_prob|std -/
theorem trace_50_safe : traceSafe (List.range 35) [] [.alloc 1000, .write 1000, .write 1000, .write 1000, .write 1000] = true :=
  (traceSafe_range _ _ _).trans (by decide)
/-- 4 case(s), e.g. Flow/small+embedding|eval|sample_and_log_prob|std; Flow/small+embedding|eval|sample|std; Flow/small+embedding|train|sample_and_log_prob|std -/
theorem trace_51_safe : traceSafe (List.range 41) [] [.read 0, .alloc 1000, .alloc 1001, .write 1001, .write 1001, .alloc 1002, .alloc 1003, .alloc 1004, .write 1004, .write 1004, .write 1002, .write 1003, .alloc 1005, .write 1005, .write 1005, .alloc 1006, .write 1006, .write 1006, .alloc 1007, .write 1007, .write 1002, .write 1003, .alloc 1008, .write 1008, .write 1008, .write 1000, .alloc 1009, .write 1009, .write 1009, .alloc 1010, .write 1010, .write 1010, .write 1000, .alloc 1011, .write 1011, .alloc 1012, .write 1012, .alloc 1013, .write 1013, .alloc 1014, .write 1014, .alloc 1015, .write 1015, .alloc 1016, .write 1016, .alloc 1017, .write 1017, .alloc 1018, .write 1018, .write 1000, .write 1000] = true :=
  (traceSafe_range _ _ _).trans (by decide)
/-- 3 case(s), e.g. CubicCDF/tails|eval|inverse|inside; CubicCDF/tails|eval|inverse|mixed; CubicCDF/tails|train|inverse|inside -/
theorem trace_52_safe : traceSafe (List.range 5) [] [.read 0, .alloc 1000, .alloc 1001, .write 1000, .write 1001, .alloc 1002, .write 1002, .alloc 1003, .write 1003, .alloc 1004, .write 1004, .alloc 1005, .write 1005, .alloc 1006, .write 1006, .write 1005, .write 1005, .write 1000, .write 1001] = true :=
  (traceSafe_range _ _ _).trans (by decide)
/-- 2 case(s), e.g. SimpleRealNVP/bn|eval|sample_and_log_prob|std; SimpleRealNVP/bn|eval|sample|std -/
theorem trace_53_safe : traceSafe (List.range 49) [] [.alloc 1000, .write 1000, .alloc 1001, .write 1001, .write 1001, .write 1000, .write 1000, .alloc 1002, .write 1002, .write 1002, .write 1000] = true :=
  (traceSafe_range _ _ _).trans (by decide)
/-- 2 case(s), e.g. MaskedAutoregressiveFlow/random|eval|sample_and_log_prob|std; MaskedAutoregressiveFlow/random|eval|sample|std -/
theorem trace_54_safe : traceSafe (List.range 63) [] [.alloc 1000, .write 1000, .write 1000, .write 1000, .write 1000, .write 1000, .write 1000] = true :=
  (traceSafe_range _ _ _).trans (by decide)
/-- 2 case(s), e.g. RQAR/tails|eval|inverse|outside; RQAR/tails|train|inverse|outside -/
theorem trace_55_safe : traceSafe (List.range 17) [] [.read 0, .alloc 1000, .alloc 1001, .alloc 1002, .write 1002, .write 1002, .write 1000, .write 1001, .alloc 1003, .alloc 1004, .alloc 1005, .write 1005, .write 1005, .write 1003, .write 1004, .alloc 1006, .alloc 1007, .alloc 1008, .write 1008, .write 1008, .write 1006, .write 1007, .alloc 1009, .alloc 1010, .alloc 1011, .write 1011, .write 1011, .write 1009, .write 1010] = true :=
  (traceSafe_range _ _ _).trans (by decide)
/-- 2 case(s), e.g. fn/unconstrained_rational_quadratic_spline|eval|call_inverse|outside; fn/unconstrained_rational_quadratic_spline|eval|call|outside -/
theorem trace_56_safe : traceSafe (List.range 4) [] [.read 0, .alloc 1000, .alloc 1001, .read 1, .alloc 1002, .write 1002, .write 1002, .write 1000, .write 1001] = true :=
  (traceSafe_range _ _ _).trans (by decide)
/-- 2 case(s), e.g. fn/unconstrained_quadratic_spline|eval|call_inverse|outside; fn/unconstrained_quadratic_spline|eval|call|outside -/
theorem trace_57_safe : traceSafe (List.range 3) [] [.read 0, .alloc 1000, .alloc 1001, .read 2, .write 1000, .write 1001, .read 1] = true :=
  (traceSafe_range _ _ _).trans (by decide)
/-- 2 case(s), e.g. QuadraticAR/tails|eval|inverse|outside; QuadraticAR/tails|train|inverse|outside -/
theorem trace_58_safe : traceSafe (List.range 17) [] [.read 0, .alloc 1000, .alloc 1001, .write 1000, .write 1001, .alloc 1002, .alloc 1003, .write 1002, .write 1003, .alloc 1004, .alloc 1005, .write 1004, .write 1005, .alloc 1006, .alloc 1007, .write 1006, .write 1007] = true :=
  (traceSafe_range _ _ _).trans (by decide)
/-- 2 case(s), e.g. QuadraticCoupling/tails+uncond|eval|inverse|outside; QuadraticCoupling/tails+uncond|train|inverse|outside -/
theorem trace_59_safe : traceSafe (List.range 13) [] [.read 0, .alloc 1000, .alloc 1001, .write 1000, .write 1001, .alloc 1002, .alloc 1003, .write 1003, .write 1003, .alloc 1004, .alloc 1005, .write 1004, .write 1005, .write 1002, .alloc 1006, .write 1006, .write 1006] = true :=
  (traceSafe_range _ _ _).trans (by decide)
/-- 2 case(s), e.g. fn/unconstrained_linear_spline|eval|call|inside; fn/unconstrained_linear_spline|eval|call|mixed -/
theorem trace_60_safe : traceSafe (List.range 2) [] [.read 0, .alloc 1000, .alloc 1001, .write 1000, .write 1001, .read 1, .alloc 1002, .write 1002, .alloc 1003, .write 1003, .alloc 1004, .write 1004, .write 1000, .write 1001] = true :=
  (traceSafe_range _ _ _).trans (by decide)
/-- 2 case(s), e.g. fn/unconstrained_linear_spline|eval|call_inverse|inside; fn/unconstrained_linear_spline|eval|call_inverse|mixed -/
theorem trace_61_safe : traceSafe (List.range 2) [] [.read 0, .alloc 1000, .alloc 1001, .write 1000, .write 1001, .read 1, .alloc 1002, .write 1002, .alloc 1003, .write 1003, .write 1000, .write 1001] = true :=
  (traceSafe_range _ _ _).trans (by decide)
/-- 2 case(s), e.g. fn/unconstrained_cubic_spline|eval|call_inverse|inside; fn/unconstrained_cubic_spline|eval|call_inverse|mixed -/
theorem trace_62_safe : traceSafe (List.range 5) [] [.read 0, .alloc 1000, .alloc 1001, .write 1000, .write 1001, .read 4, .read 3, .read 1, .read 2, .alloc 1002, .write 1002, .alloc 1003, .write 1003, .alloc 1004, .write 1004, .alloc 1005, .write 1005, .alloc 1006, .write 1006, .write 1005, .write 1005, .write 1000, .write 1001] = true :=
  (traceSafe_range _ _ _).trans (by decide)
/-- 2 case(s), e.g. fn/unconstrained_cubic_spline|eval|call|inside; fn/unconstrained_cubic_spline|eval|call|mixed -/
theorem trace_63_safe : traceSafe (List.range 5) [] [.read 0, .alloc 1000, .alloc 1001, .write 1000, .write 1001, .read 4, .read 3, .read 1, .read 2, .alloc 1002, .write 1002, .alloc 1003, .write 1003, .alloc 1004, .write 1004, .write 1000, .write 1001] = true :=
  (traceSafe_range _ _ _).trans (by decide)
/-- 2 case(s), e.g. GlowStep/image|eval|inverse|std; GlowStep/image|train|inverse|std@warm -/
theorem trace_64_safe : traceSafe (List.range 19) [] [.read 0, .alloc 1000, .alloc 1001, .write 1001, .write 1001, .write 1000, .alloc 1002, .write 1002, .write 1002, .alloc 1003, .write 1003, .write 1003, .write 1000, .write 1000] = true :=
  (traceSafe_range _ _ _).trans (by decide)
/-- 2 case(s), e.g. Flow/conditional_base|eval|sample_batched|std; Flow/conditional_base|train|sample_batched|std -/
theorem trace_65_safe : traceSafe (List.range 17) [] [.read 0, .alloc 1000, .alloc 1001, .write 1001, .write 1001, .write 1000, .write 1000, .alloc 1002, .alloc 1003, .write 1003, .write 1003, .write 1002, .write 1002] = true :=
  (traceSafe_range _ _ _).trans (by decide)
/-- 2 case(s), e.g. SimpleRealNVP/bn|eval|log_prob|std; SimpleRealNVP/bn|eval|transform_to_noise|std -/
theorem trace_66_safe : traceSafe (List.range 50) [] [.read 0, .alloc 1000, .alloc 1001, .write 1001, .write 1001, .write 1000, .write 1000, .alloc 1002, .write 1002, .write 1002, .write 1000, .write 1000] = true :=
  (traceSafe_range _ _ _).trans (by decide)
/-- 2 case(s), e.g. LinearAR|eval|inverse|unit; LinearAR|train|inverse|unit -/
theorem trace_67_safe : traceSafe (List.range 17) [] [.read 0, .alloc 1000, .write 1000, .alloc 1001, .write 1001, .alloc 1002, .write 1002, .alloc 1003, .write 1003, .alloc 1004, .write 1004, .alloc 1005, .write 1005, .alloc 1006, .write 1006, .alloc 1007, .write 1007] = true :=
  (traceSafe_range _ _ _).trans (by decide)
/-- 2 case(s), e.g. CompositeCDF/Sigmoid+LinearCDF|eval|forward|std; CompositeCDF/Sigmoid+LinearCDF|train|forward|std -/
theorem trace_68_safe : traceSafe (List.range 3) [] [.read 0, .alloc 1000, .write 1000, .alloc 1001, .write 1001, .alloc 1002, .write 1002, .alloc 1003, .write 1003, .write 1000, .write 1000] = true :=
  (traceSafe_range _ _ _).trans (by decide)
/-- 2 case(s), e.g. LinearCoupling|eval|forward|unit; LinearCoupling|train|forward|unit -/
theorem trace_69_safe : traceSafe (List.range 11) [] [.read 0, .alloc 1000, .write 1000, .alloc 1001, .write 1001, .alloc 1002, .write 1002, .alloc 1003, .write 1003, .write 1003] = true :=
  (traceSafe_range _ _ _).trans (by decide)
/-- 2 case(s), e.g. CompositeCDF/Sigmoid+LinearCDF|eval|inverse|std; CompositeCDF/Sigmoid+LinearCDF|train|inverse|std -/
theorem trace_70_safe : traceSafe (List.range 3) [] [.read 0, .alloc 1000, .write 1000, .alloc 1001, .write 1001, .alloc 1002, .write 1002, .write 1000, .write 1000] = true :=
  (traceSafe_range _ _ _).trans (by decide)
/-- 2 case(s), e.g. LinearCoupling|eval|inverse|unit; LinearCoupling|train|inverse|unit -/
theorem trace_71_safe : traceSafe (List.range 11) [] [.read 0, .alloc 1000, .write 1000, .alloc 1001, .write 1001, .alloc 1002, .write 1002, .write 1002] = true :=
  (traceSafe_range _ _ _).trans (by decide)
/-- 2 case(s), e.g. GlowStep/image|eval|forward|std; GlowStep/image|train|forward|std@warm -/
theorem trace_72_safe : traceSafe (List.range 19) [] [.read 0, .alloc 1000, .write 1000, .alloc 1001, .write 1001, .write 1001, .alloc 1002, .write 1002, .write 1002, .write 1000, .alloc 1003, .write 1003, .write 1003, .write 1000] = true :=
  (traceSafe_range _ _ _).trans (by decide)
/-- 2 case(s), e.g. Multiscale|eval|inverse|std; Multiscale|train|inverse|std -/
theorem trace_73_safe : traceSafe (List.range 12) [] [.read 0, .alloc 1000, .write 1000, .alloc 1001, .write 1001, .write 1001, .write 1000] = true :=
  (traceSafe_range _ _ _).trans (by decide)
/-- 6 case(s), e.g. Flow/small+embedding|eval|sample_and_log_prob|std; Flow/small+embedding|eval|sample_batched|std; Flow/small+embedding|eval|sample|std -/
theorem trace_74_safe : traceSafe (List.range 41) [] [.read 0, .alloc 1000, .write 1000, .write 1000, .alloc 1001, .alloc 1002, .alloc 1003, .write 1003, .write 1003, .write 1001, .write 1002, .alloc 1004, .write 1004, .write 1004, .alloc 1005, .write 1005, .write 1005, .alloc 1006, .write 1006, .write 1001] = true :=
  (traceSafe_range _ _ _).trans (by decide)
/-- 2 case(s), e.g. QuadraticCoupling/tails+uncond|eval|forward|outside; QuadraticCoupling/tails+uncond|train|forward|outside -/
theorem trace_75_safe : traceSafe (List.range 13) [] [.read 0, .alloc 1000, .write 1000, .write 1000, .alloc 1001, .alloc 1002, .write 1001, .write 1002, .alloc 1003, .alloc 1004, .alloc 1005, .write 1004, .write 1005, .write 1003, .alloc 1006, .write 1006, .write 1006] = true :=
  (traceSafe_range _ _ _).trans (by decide)
/-- 2 case(s), e.g. Flow/conditional_base|eval|sample_and_log_prob|std; Flow/conditional_base|train|sample_and_log_prob|std -/
theorem trace_76_safe : traceSafe (List.range 17) [] [.read 0, .alloc 1000, .write 1000, .write 1000, .alloc 1001, .alloc 1002, .write 1002, .write 1002, .write 1001, .write 1001] = true :=
  (traceSafe_range _ _ _).trans (by decide)
/-- 2 case(s), e.g. Flow/norm_layers|eval|log_prob|std; Flow/norm_layers|eval|transform_to_noise|std -/
theorem trace_77_safe : traceSafe (List.range 29) [] [.read 0, .alloc 1000, .write 1000, .write 1000, .alloc 1001, .write 1001, .write 1001, .write 1000] = true :=
  (traceSafe_range _ _ _).trans (by decide)
/-- 2 case(s), e.g. MaskedAutoregressiveFlow/random|eval|log_prob|std; MaskedAutoregressiveFlow/random|eval|transform_to_noise|std -/
theorem trace_78_safe : traceSafe (List.range 64) [] [.read 0, .alloc 1000, .write 1000, .write 1000, .write 1000, .write 1000, .write 1000, .write 1000] = true :=
  (traceSafe_range _ _ _).trans (by decide)
/-- 2 case(s), e.g. Flow/small+embedding|eval|transform_to_noise|std; Flow/small+embedding|train|transform_to_noise|std -/
theorem trace_79_safe : traceSafe (List.range 42) [] [.read 0, .read 1, .alloc 1000, .write 1000, .alloc 1001, .write 1001, .alloc 1002, .write 1002, .write 1000, .alloc 1003, .write 1003, .write 1003, .alloc 1004, .write 1004, .write 1004, .write 1000, .alloc 1005, .write 1005, .write 1005, .alloc 1006, .alloc 1007, .alloc 1008, .write 1008, .write 1008, .write 1006, .write 1007, .alloc 1009, .write 1009, .write 1009, .alloc 1010, .write 1010, .write 1010, .alloc 1011, .write 1011, .write 1006, .write 1007, .alloc 1012, .write 1012, .write 1012, .write 1000] = true :=
  (traceSafe_range _ _ _).trans (by decide)
/-- 2 case(s), e.g. fn/quadratic_spline|eval|call_inverse|unit; fn/quadratic_spline|eval|call|unit -/
theorem trace_80_safe : traceSafe (List.range 3) [] [.read 0, .read 2, .read 1, .alloc 1000, .write 1000, .alloc 1001, .write 1001, .alloc 1002, .write 1002] = true :=
  (traceSafe_range _ _ _).trans (by decide)
/-- 2 case(s), e.g. fn/rational_quadratic_spline|eval|call_inverse|unit; fn/rational_quadratic_spline|eval|call|unit -/
theorem trace_81_safe : traceSafe (List.range 4) [] [.read 0, .read 3, .alloc 1000, .write 1000, .write 1000, .read 1, .read 2, .alloc 1001, .write 1001, .write 1001, .alloc 1002, .write 1002] = true :=
  (traceSafe_range _ _ _).trans (by decide)
/-- 2 case(s), e.g. Flow/identity_encoder_base|eval|transform_to_noise|std; Flow/identity_encoder_base|train|transform_to_noise|std -/
theorem trace_82_safe : traceSafe (List.range 5) [] [.read 1] = true :=
  (traceSafe_range _ _ _).trans (by decide)
/-- 2 case(s), e.g. MAF/ctx|eval|forward|std; MAF/ctx|train|forward|std -/
theorem trace_83_safe : traceSafe (List.range 22) [] [.read 1, .alloc 1000, .read 0, .write 1000, .alloc 1001, .write 1001] = true :=
  (traceSafe_range _ _ _).trans (by decide)
/-- 2 case(s), e.g. MAF/ctx|eval|inverse|std; MAF/ctx|train|inverse|std -/
theorem trace_84_safe : traceSafe (List.range 22) [] [.read 1, .alloc 1000, .read 0, .write 1000, .alloc 1001, .write 1001, .alloc 1002, .write 1002, .alloc 1003, .write 1003, .alloc 1004, .write 1004, .alloc 1005, .write 1005, .alloc 1006, .write 1006, .alloc 1007, .write 1007] = true :=
  (traceSafe_range _ _ _).trans (by decide)
/-- 2 case(s), e.g. Flow/conditional_base|eval|transform_to_noise|std; Flow/conditional_base|train|transform_to_noise|std -/
theorem trace_85_safe : traceSafe (List.range 18) [] [.read 1, .alloc 1000, .write 1000, .read 0, .alloc 1001, .write 1001, .write 1001, .write 1000] = true :=
  (traceSafe_range _ _ _).trans (by decide)
/-- 2 case(s), e.g. ConditionalIndependentBernoulli|eval|log_prob|binary; ConditionalIndependentBernoulli|train|log_prob|binary -/
theorem trace_86_safe : traceSafe (List.range 4) [] [.read 1, .read 0] = true :=
  (traceSafe_range _ _ _).trans (by decide)
/-- 2 case(s), e.g. MADEMoG/random_mask|eval|log_prob|std; MADEMoG/random_mask|train|log_prob|std -/
theorem trace_87_safe : traceSafe (List.range 20) [] [.read 1, .read 0, .alloc 1000, .write 1000] = true :=
  (traceSafe_range _ _ _).trans (by decide)
/-- 2 case(s), e.g. MADEMoG|eval|log_prob|std; MADEMoG|train|log_prob|std -/
theorem trace_88_safe : traceSafe (List.range 22) [] [.read 1, .read 0, .alloc 1000, .write 1000, .alloc 1001, .write 1001] = true :=
  (traceSafe_range _ _ _).trans (by decide)
/-- 2 case(s), e.g. Flow/small+embedding|eval|log_prob|std; Flow/small+embedding|train|log_prob|std -/
theorem trace_89_safe : traceSafe (List.range 42) [] [.read 1, .read 0, .alloc 1000, .write 1000, .alloc 1001, .write 1001, .alloc 1002, .write 1002, .write 1000, .alloc 1003, .write 1003, .write 1003, .alloc 1004, .write 1004, .write 1004, .write 1000, .alloc 1005, .write 1005, .write 1005, .alloc 1006, .alloc 1007, .alloc 1008, .write 1008, .write 1008, .write 1006, .write 1007, .alloc 1009, .write 1009, .write 1009, .alloc 1010, .write 1010, .write 1010, .alloc 1011, .write 1011, .write 1006, .write 1007, .alloc 1012, .write 1012, .write 1012, .write 1000] = true :=
  (traceSafe_range _ _ _).trans (by decide)
/-- 2 case(s), e.g. Flow/conditional_base|eval|log_prob|std; Flow/conditional_base|train|log_prob|std -/
theorem trace_90_safe : traceSafe (List.range 18) [] [.read 1, .read 0, .alloc 1000, .write 1000, .alloc 1001, .write 1001, .write 1001, .write 1000, .alloc 1002, .write 1002, .write 1002] = true :=
  (traceSafe_range _ _ _).trans (by decide)
/-- 2 case(s), e.g. BatchNorm|train|forward|std; BatchNorm|train|forward|std@warm -/
theorem trace_91_safe : traceSafe (List.range 5) [1, 2] [.read 0, .write 1, .write 1, .write 2, .write 2] = true :=
  (traceSafe_range _ _ _).trans (by decide)
/-- 2 case(s), e.g. MAF/bn|train|forward|std; MAF/bn|train|forward|std@warm -/
theorem trace_92_safe : traceSafe (List.range 27) [1, 2, 3, 4, 5, 6] [.read 0, .write 1, .write 2, .write 3, .write 4, .write 5, .write 6] = true :=
  (traceSafe_range _ _ _).trans (by decide)
/-- 2 case(s), e.g. MAF/bn|train|inverse|std; MAF/bn|train|inverse|std@warm -/
theorem trace_93_safe : traceSafe (List.range 27) [1, 2, 3, 4, 5, 6] [.read 0, .write 1, .write 2, .write 3, .write 4, .write 5, .write 6, .write 1, .write 2, .write 3, .write 4, .write 5, .write 6, .write 1, .write 2, .write 3, .write 4, .write 5, .write 6, .write 1, .write 2, .write 3, .write 4, .write 5, .write 6] = true :=
  (traceSafe_range _ _ _).trans (by decide)
/-- 3 case(s), e.g. Flow/norm_layers|train|sample_and_log_prob|std; Flow/norm_layers|train|sample_batched|std; Flow/norm_layers|train|sample|std -/
theorem trace_94_safe : traceSafe (List.range 28) [1, 2, 3, 6, 7, 8, 9, 10, 11, 12, 13] [.alloc 1000, .write 6, .write 7, .write 8, .write 9, .write 10, .write 11, .alloc 1001, .write 1001, .write 1001, .write 1000] = true :=
  (traceSafe_range _ _ _).trans (by decide)
/-- 2 case(s), e.g. Flow/norm_layers|train|log_prob|std; Flow/norm_layers|train|transform_to_noise|std -/
theorem trace_95_safe : traceSafe (List.range 29) [2, 3, 4, 7, 8, 9, 10, 11, 12, 13, 14] [.read 0, .alloc 1000, .write 13, .write 14, .write 2, .write 1000, .write 3, .write 3, .write 4, .write 4, .write 1000, .write 7, .write 8, .write 9, .write 10, .write 11, .write 12, .alloc 1001, .write 1001, .write 1001, .write 1000] = true :=
  (traceSafe_range _ _ _).trans (by decide)
/-- 3 case(s), e.g. Flow/norm_layers|train|sample_and_log_prob|std@warm; Flow/norm_layers|train|sample_batched|std@warm; Flow/norm_layers|train|sample|std@warm -/
theorem trace_96_safe : traceSafe (List.range 28) [2, 3, 6, 7, 8, 9, 10, 11] [.alloc 1000, .write 6, .write 7, .write 8, .write 9, .write 10, .write 11, .alloc 1001, .write 1001, .write 1001, .write 1000] = true :=
  (traceSafe_range _ _ _).trans (by decide)
/-- 2 case(s), e.g. Flow/norm_layers|train|log_prob|std@warm; Flow/norm_layers|train|transform_to_noise|std@warm -/
theorem trace_97_safe : traceSafe (List.range 29) [3, 4, 7, 8, 9, 10, 11, 12] [.read 0, .alloc 1000, .write 1000, .write 3, .write 3, .write 4, .write 4, .write 1000, .write 7, .write 8, .write 9, .write 10, .write 11, .write 12, .alloc 1001, .write 1001, .write 1001, .write 1000] = true :=
  (traceSafe_range _ _ _).trans (by decide)
/-- 3 case(s), e.g. CubicCDF/tails|eval|inverse|inside; CubicCDF/tails|train|inverse|inside; CubicCDF/tails|train|inverse|mixed -/
theorem trace_98_safe : traceSafe (List.range 5) [] [.read 0, .alloc 1000, .alloc 1001, .write 1000, .write 1001, .alloc 1002, .write 1002, .alloc 1003, .write 1003, .alloc 1004, .write 1004, .alloc 1005, .write 1005, .write 1005, .write 1005, .write 1000, .write 1001] = true :=
  (traceSafe_range _ _ _).trans (by decide)
/-- 2 case(s), e.g. Flow/small|eval|sample_batched|std; Flow/small|train|sample_batched|std -/
theorem trace_99_safe : traceSafe (List.range 32) [] [.alloc 1000, .alloc 1001, .write 1001, .write 1001, .alloc 1002, .alloc 1003, .alloc 1004, .write 1004, .write 1004, .write 1002, .write 1003, .alloc 1005, .write 1005, .write 1005, .alloc 1006, .write 1006, .write 1006, .alloc 1007, .write 1007, .write 1002, .write 1003, .alloc 1008, .write 1008, .write 1008, .write 1000, .alloc 1009, .write 1009, .write 1009, .alloc 1010, .write 1010, .write 1010, .write 1000, .write 1000, .write 1000, .alloc 1011, .alloc 1012, .write 1012, .write 1012, .alloc 1013, .alloc 1014, .alloc 1015, .write 1015, .write 1015, .write 1013, .write 1014, .alloc 1016, .write 1016, .write 1016, .alloc 1017, .write 1017, .write 1017, .alloc 1018, .write 1018, .write 1013, .write 1014, .alloc 1019, .write 1019, .write 1019, .write 1011, .alloc 1020, .write 1020, .write 1020, .alloc 1021, .write 1021, .write 1021, .write 1011, .write 1011, .write 1011] = true :=
  (traceSafe_range _ _ _).trans (by decide)
/-- 2 case(s), e.g. SimpleRealNVP|eval|sample_batched|std; SimpleRealNVP|train|sample_batched|std -/
theorem trace_100_safe : traceSafe (List.range 21) [] [.alloc 1000, .alloc 1001, .write 1001, .write 1001, .write 1000, .alloc 1002, .write 1002, .write 1002, .write 1000, .alloc 1003, .alloc 1004, .write 1004, .write 1004, .write 1003, .alloc 1005, .write 1005, .write 1005, .write 1003] = true :=
  (traceSafe_range _ _ _).trans (by decide)
/-- 2 case(s), e.g. Flow/norm_layers|eval|sample_and_log_prob|std; Flow/norm_layers|eval|sample|std -/
theorem trace_101_safe : traceSafe (List.range 28) [] [.alloc 1000, .alloc 1001, .write 1001, .write 1001, .write 1000, .write 1000, .write 1000] = true :=
  (traceSafe_range _ _ _).trans (by decide)
/-- 2 case(s), e.g. MaskedAutoregressiveFlow|eval|sample_batched|std; MaskedAutoregressiveFlow|train|sample_batched|std -/
theorem trace_102_safe : traceSafe (List.range 35) [] [.alloc 1000, .write 1000, .write 1000, .write 1000, .write 1000, .alloc 1001, .write 1001, .write 1001, .write 1001, .write 1001] = true :=
  (traceSafe_range _ _ _).trans (by decide)
/-- 2 case(s), e.g. MADEMoG|eval|sample|std; MADEMoG|train|sample|std -/
theorem trace_103_safe : traceSafe (List.range 21) [] [.read 0, .alloc 1000, .alloc 1001, .write 1001, .alloc 1002, .write 1002, .write 1000, .alloc 1003, .write 1003, .alloc 1004, .write 1004, .write 1000, .alloc 1005, .write 1005, .alloc 1006, .write 1006, .write 1000, .alloc 1007, .write 1007, .alloc 1008, .write 1008, .write 1000] = true :=
  (traceSafe_range _ _ _).trans (by decide)
/-- 2 case(s), e.g. MADEMoG|eval|sample_batched|std; MADEMoG|train|sample_batched|std -/
theorem trace_104_safe : traceSafe (List.range 21) [] [.read 0, .alloc 1000, .alloc 1001, .write 1001, .alloc 1002, .write 1002, .write 1000, .alloc 1003, .write 1003, .alloc 1004, .write 1004, .write 1000, .alloc 1005, .write 1005, .alloc 1006, .write 1006, .write 1000, .alloc 1007, .write 1007, .alloc 1008, .write 1008, .write 1000, .alloc 1009, .alloc 1010, .write 1010, .alloc 1011, .write 1011, .write 1009, .alloc 1012, .write 1012, .alloc 1013, .write 1013, .write 1009, .alloc 1014, .write 1014, .alloc 1015, .write 1015, .write 1009, .alloc 1016, .write 1016, .alloc 1017, .write 1017, .write 1009] = true :=
  (traceSafe_range _ _ _).trans (by decide)
/-- 2 case(s), e.g. MADEMoG|eval|sample_and_log_prob|std; MADEMoG|train|sample_and_log_prob|std -/
theorem trace_105_safe : traceSafe (List.range 21) [] [.read 0, .alloc 1000, .alloc 1001, .write 1001, .alloc 1002, .write 1002, .write 1000, .alloc 1003, .write 1003, .alloc 1004, .write 1004, .write 1000, .alloc 1005, .write 1005, .alloc 1006, .write 1006, .write 1000, .alloc 1007, .write 1007, .alloc 1008, .write 1008, .write 1000, .alloc 1009, .write 1009, .alloc 1010, .write 1010] = true :=
  (traceSafe_range _ _ _).trans (by decide)
/-- 2 case(s), e.g. MADEMoG/random_mask|eval|sample|std; MADEMoG/random_mask|train|sample|std -/
theorem trace_106_safe : traceSafe (List.range 19) [] [.read 0, .alloc 1000, .alloc 1001, .write 1001, .write 1000, .alloc 1002, .write 1002, .write 1000, .alloc 1003, .write 1003, .write 1000, .alloc 1004, .write 1004, .write 1000] = true :=
  (traceSafe_range _ _ _).trans (by decide)
/-- 2 case(s), e.g. MADEMoG/random_mask|eval|sample_batched|std; MADEMoG/random_mask|train|sample_batched|std -/
theorem trace_107_safe : traceSafe (List.range 19) [] [.read 0, .alloc 1000, .alloc 1001, .write 1001, .write 1000, .alloc 1002, .write 1002, .write 1000, .alloc 1003, .write 1003, .write 1000, .alloc 1004, .write 1004, .write 1000, .alloc 1005, .alloc 1006, .write 1006, .write 1005, .alloc 1007, .write 1007, .write 1005, .alloc 1008, .write 1008, .write 1005, .alloc 1009, .write 1009, .write 1005] = true :=
  (traceSafe_range _ _ _).trans (by decide)
/-- 2 case(s), e.g. MADEMoG/random_mask|eval|sample_and_log_prob|std; MADEMoG/random_mask|train|sample_and_log_prob|std -/
theorem trace_108_safe : traceSafe (List.range 19) [] [.read 0, .alloc 1000, .alloc 1001, .write 1001, .write 1000, .alloc 1002, .write 1002, .write 1000, .alloc 1003, .write 1003, .write 1000, .alloc 1004, .write 1004, .write 1000, .alloc 1005, .write 1005] = true :=
  (traceSafe_range _ _ _).trans (by decide)
/-- 2 case(s), e.g. Flow/small+embedding|eval|sample_batched|std; Flow/small+embedding|train|sample_batched|std -/
theorem trace_109_safe : traceSafe (List.range 41) [] [.read 0, .alloc 1000, .alloc 1001, .write 1001, .write 1001, .alloc 1002, .alloc 1003, .alloc 1004, .write 1004, .write 1004, .write 1002, .write 1003, .alloc 1005, .write 1005, .write 1005, .alloc 1006, .write 1006, .write 1006, .alloc 1007, .write 1007, .write 1002, .write 1003, .alloc 1008, .write 1008, .write 1008, .write 1000, .alloc 1009, .write 1009, .write 1009, .alloc 1010, .write 1010, .write 1010, .write 1000, .alloc 1011, .write 1011, .alloc 1012, .write 1012, .alloc 1013, .write 1013, .alloc 1014, .write 1014, .alloc 1015, .write 1015, .alloc 1016, .write 1016, .alloc 1017, .write 1017, .alloc 1018, .write 1018, .write 1000, .write 1000, .alloc 1019, .alloc 1020, .write 1020, .write 1020, .alloc 1021, .alloc 1022, .alloc 1023, .write 1023, .write 1023, .write 1021, .write 1022, .alloc 1024, .write 1024, .write 1024, .alloc 1025, .write 1025, .write 1025, .alloc 1026, .write 1026, .write 1021, .write 1022, .alloc 1027, .write 1027, .write 1027, .write 1019, .alloc 1028, .write 1028, .write 1028, .alloc 1029, .write 1029, .write 1029, .write 1019, .alloc 1030, .write 1030, .alloc 1031, .write 1031, .alloc 1032, .write 1032, .alloc 1033, .write 1033, .alloc 1034, .write 1034, .alloc 1035, .write 1035, .alloc 1036, .write 1036, .alloc 1037, .write 1037, .write 1019, .write 1019] = true :=
  (traceSafe_range _ _ _).trans (by decide)
/-- 1 case(s), e.g. SimpleRealNVP/bn|eval|sample_batched|std -/
theorem trace_110_safe : traceSafe (List.range 49) [] [.alloc 1000, .write 1000, .alloc 1001, .write 1001, .write 1001, .write 1000, .write 1000, .alloc 1002, .write 1002, .write 1002, .write 1000, .alloc 1003, .write 1003, .alloc 1004, .write 1004, .write 1004, .write 1003, .write 1003, .alloc 1005, .write 1005, .write 1005, .write 1003] = true :=
  (traceSafe_range _ _ _).trans (by decide)
/-- 1 case(s), e.g. MaskedAutoregressiveFlow/random|eval|sample_batched|std -/
theorem trace_111_safe : traceSafe (List.range 63) [] [.alloc 1000, .write 1000, .write 1000, .write 1000, .write 1000, .write 1000, .write 1000, .alloc 1001, .write 1001, .write 1001, .write 1001, .write 1001, .write 1001, .write 1001] = true :=
  (traceSafe_range _ _ _).trans (by decide)
/-- 1 case(s), e.g. Composite|eval|forward|std -/
theorem trace_112_safe : traceSafe (List.range 23) [] [.read 0, .alloc 1000, .write 1000, .alloc 1001, .write 1001, .write 1001, .alloc 1002, .write 1002, .write 1002, .write 1000, .write 1000, .alloc 1003, .write 1003, .write 1003, .write 1000, .write 1000] = true :=
  (traceSafe_range _ _ _).trans (by decide)
/-- 1 case(s), e.g. Composite|eval|inverse|std -/
theorem trace_113_safe : traceSafe (List.range 23) [] [.read 0, .alloc 1000, .write 1000, .alloc 1001, .write 1001, .write 1001, .write 1000, .write 1000, .alloc 1002, .write 1002, .write 1002, .alloc 1003, .write 1003, .write 1003, .write 1000, .write 1000] = true :=
  (traceSafe_range _ _ _).trans (by decide)
/-- 1 case(s), e.g. fn/searchsorted|eval|call|unit -/
theorem trace_114_safe : traceSafe (List.range 2) [] [.read 0, .alloc 1000, .write 1000, .read 1] = true :=
  (traceSafe_range _ _ _).trans (by decide)
/-- 1 case(s), e.g. fn/linear_spline|eval|call_inverse|unit -/
theorem trace_115_safe : traceSafe (List.range 2) [] [.read 0, .read 1, .alloc 1000, .write 1000, .alloc 1001, .write 1001] = true :=
  (traceSafe_range _ _ _).trans (by decide)
/-- 1 case(s), e.g. fn/linear_spline|eval|call|unit -/
theorem trace_116_safe : traceSafe (List.range 2) [] [.read 0, .read 1, .alloc 1000, .write 1000, .alloc 1001, .write 1001, .alloc 1002, .write 1002] = true :=
  (traceSafe_range _ _ _).trans (by decide)
/-- 1 case(s), e.g. GlowStep/image|train|inverse|std -/
theorem trace_117_safe : traceSafe (List.range 19) [1, 5, 6] [.read 0, .alloc 1000, .alloc 1001, .write 1001, .write 1001, .write 1000, .alloc 1002, .write 1002, .write 1002, .alloc 1003, .write 1003, .write 1003, .write 1000, .write 1000] = true :=
  (traceSafe_range _ _ _).trans (by decide)
/-- 1 case(s), e.g. GlowStep/image|train|forward|std -/
theorem trace_118_safe : traceSafe (List.range 19) [1, 5, 6] [.read 0, .alloc 1000, .write 5, .write 6, .write 1, .write 1000, .alloc 1001, .write 1001, .write 1001, .alloc 1002, .write 1002, .write 1002, .write 1000, .alloc 1003, .write 1003, .write 1003, .write 1000] = true :=
  (traceSafe_range _ _ _).trans (by decide)
/-- 1 case(s), e.g. Composite|train|inverse|std -/
theorem trace_119_safe : traceSafe (List.range 23) [1, 5, 6, 7, 8] [.read 0] = true :=
  (traceSafe_range _ _ _).trans (by decide)
/-- 1 case(s), e.g. Composite|train|forward|std -/
theorem trace_120_safe : traceSafe (List.range 23) [1, 5, 6, 7, 8] [.read 0, .alloc 1000, .write 7, .write 8, .write 1, .write 1000, .alloc 1001, .write 1001, .write 1001, .alloc 1002, .write 1002, .write 1002, .write 1000, .write 1000, .alloc 1003, .write 1003, .write 1003, .write 1000, .write 5, .write 5, .write 6, .write 6, .write 1000] = true :=
  (traceSafe_range _ _ _).trans (by decide)
/-- 1 case(s), e.g. Composite|train|inverse|std@warm -/
theorem trace_121_safe : traceSafe (List.range 23) [5, 6] [.read 0] = true :=
  (traceSafe_range _ _ _).trans (by decide)
/-- 1 case(s), e.g. Composite|train|forward|std@warm -/
theorem trace_122_safe : traceSafe (List.range 23) [5, 6] [.read 0, .alloc 1000, .write 1000, .alloc 1001, .write 1001, .write 1001, .alloc 1002, .write 1002, .write 1002, .write 1000, .write 1000, .alloc 1003, .write 1003, .write 1003, .write 1000, .write 5, .write 5, .write 6, .write 6, .write 1000] = true :=
  (traceSafe_range _ _ _).trans (by decide)
/-- 1 case(s), e.g. Flow/norm_layers|eval|sample_batched|std -/
theorem trace_123_safe : traceSafe (List.range 28) [] [.alloc 1000, .alloc 1001, .write 1001, .write 1001, .write 1000, .write 1000, .write 1000, .alloc 1002, .alloc 1003, .write 1003, .write 1003, .write 1002, .write 1002, .write 1002] = true :=
  (traceSafe_range _ _ _).trans (by decide)
/-- 1 case(s), e.g. CubicAR|eval|inverse|unit -/
theorem trace_124_safe : traceSafe (List.range 17) [] [.read 0, .alloc 1000, .write 1000, .alloc 1001, .write 1001, .alloc 1002, .write 1002, .alloc 1003, .write 1003, .alloc 1004, .write 1004, .write 1003, .write 1003, .alloc 1005, .write 1005, .alloc 1006, .write 1006, .alloc 1007, .write 1007, .alloc 1008, .write 1008, .write 1008, .write 1008, .alloc 1009, .write 1009, .alloc 1010, .write 1010, .alloc 1011, .write 1011, .alloc 1012, .write 1012, .alloc 1013, .write 1013, .write 1012, .write 1012, .alloc 1014, .write 1014, .alloc 1015, .write 1015, .alloc 1016, .write 1016, .alloc 1017, .write 1017, .alloc 1018, .write 1018, .write 1017, .write 1017] = true :=
  (traceSafe_range _ _ _).trans (by decide)
/-- 1 case(s), e.g. CubicAR|train|inverse|unit -/
theorem trace_125_safe : traceSafe (List.range 17) [] [.read 0, .alloc 1000, .write 1000, .alloc 1001, .write 1001, .alloc 1002, .write 1002, .alloc 1003, .write 1003, .write 1003, .write 1003, .alloc 1004, .write 1004, .alloc 1005, .write 1005, .alloc 1006, .write 1006, .alloc 1007, .write 1007, .write 1007, .write 1007, .alloc 1008, .write 1008, .alloc 1009, .write 1009, .alloc 1010, .write 1010, .alloc 1011, .write 1011, .write 1011, .write 1011, .alloc 1012, .write 1012, .alloc 1013, .write 1013, .alloc 1014, .write 1014, .alloc 1015, .write 1015, .write 1015, .write 1015] = true :=
  (traceSafe_range _ _ _).trans (by decide)
/-- 1 case(s), e.g. CubicCoupling/tails|eval|inverse|mixed -/
theorem trace_126_safe : traceSafe (List.range 11) [] [.read 0, .alloc 1000, .write 1000, .write 1000, .alloc 1001, .alloc 1002, .write 1001, .write 1002, .alloc 1003, .write 1003, .alloc 1004, .write 1004, .alloc 1005, .write 1005, .alloc 1006, .write 1006, .write 1006, .write 1006, .write 1001, .write 1002, .alloc 1007, .write 1007, .write 1007] = true :=
  (traceSafe_range _ _ _).trans (by decide)

end Properties.C13
