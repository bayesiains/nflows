
namespace MaskedScatter

/-! boolean-mask gather / scatter as the spline tail code does it (rational_quadratic.py:26-63), core Lean only -/
variable {α β γ : Type}

/-- `xs[mask]` -/
def gather : List Bool → List α → List α
  | true :: ms, x :: xs => x :: gather ms xs
  | false :: ms, _ :: xs => gather ms xs
  | _, _ => []

/-- `base[mask] = vals` (vals consumed in order) -/
def scatter : List Bool → List α → List α → List α
  | true :: ms, _ :: bs, v :: vs => v :: scatter ms bs vs
  | true :: ms, b :: bs, [] => b :: scatter ms bs []
  | false :: ms, b :: bs, vs => b :: scatter ms bs vs
  | _, bs, _ => bs

/-- row-wise reference: each element is routed by its own mask bit only -/
def rowwise (f : α → β → γ) (id' : α → γ) : List Bool → List α → List β → List γ
  | m :: ms, x :: xs, p :: ps => (if m then f x p else id' x) :: rowwise f id' ms xs ps
  | _, _, _ => []

/-- the code: outputs = zeros; outputs[~m] = id(inputs[~m]); outputs[m] = f(inputs[m], params[m]) -/
def asCoded (f : α → β → γ) (id' : α → γ) (zero : γ) (m : List Bool) (xs : List α) (ps : List β) : List γ :=
  let out0 := xs.map (fun _ => zero)
  let out1 := scatter (m.map (!·)) out0 ((gather (m.map (!·)) xs).map id')
  scatter m out1 (List.zipWith f (gather m xs) (gather m ps))

theorem asCoded_cons (f : α → β → γ) (id' : α → γ) (zero : γ) (b : Bool) (ms : List Bool) (x : α) (xs : List α) (p : β)
    (ps : List β) :
    asCoded f id' zero (b :: ms) (x :: xs) (p :: ps)
      = (if b then f x p else id' x) :: asCoded f id' zero ms xs ps := by
  cases b <;> rfl

theorem masked_scatter_gather (f : α → β → γ) (id' : α → γ) (zero : γ) :
    ∀ (m : List Bool) (xs : List α) (ps : List β), m.length = xs.length → xs.length = ps.length →
      asCoded f id' zero m xs ps = rowwise f id' m xs ps := by
  intro m
  induction m with
  | nil => intro xs ps h1 _; cases xs with
    | nil => rfl
    | cons _ _ => cases h1
  | cons b ms ih =>
    intro xs ps h1 h2
    match xs, ps, h1, h2 with
    | x :: xs, p :: ps, h1, h2 => rw [asCoded_cons, rowwise, ih xs ps (Nat.succ.inj h1) (Nat.succ.inj h2)]

end MaskedScatter
