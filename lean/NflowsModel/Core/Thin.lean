
namespace Thin

/-! Thin models for C13 (storage/ownership traces), C15 (state-dict inventory), C19 (dtype promotion). Core Lean only. -/

namespace Store
/-- one storage-relevant event of a traced call -/
inductive Ev | alloc (s : Nat) | view (s : Nat) | read (s : Nat) | write (s : Nat)
deriving DecidableEq, Repr

/-- abstract store: a version counter per storage id (what `tensor._version` observes) -/
abbrev St := Nat → Nat
def step (σ : St) : Ev → St
  | .write s => fun t => if t = s then σ t + 1 else σ t
  | _ => σ
def run (σ : St) (tr : List Ev) : St := tr.foldl step σ

/-- checker evaluated by Lean on the extracted trace: no write hits an owned storage unless whitelisted -/
def traceSafe (owned : List Nat) (whitelist : List Nat) : List Ev → Bool
  | [] => true
  | .write s :: rest => (!(owned.contains s) || whitelist.contains s) && traceSafe owned whitelist rest
  | _ :: rest => traceSafe owned whitelist rest

theorem step_other (σ : St) (e : Ev) (t : Nat) (h : ∀ s, e = .write s → s ≠ t) : step σ e t = σ t := by
  cases e with
  | write s => have : t ≠ s := fun e' => h s rfl e'.symm
               simp [step, this]
  | _ => rfl

/-- soundness: a safe trace leaves every owned, non-whitelisted storage at its initial version — for all stores -/
theorem traceSafe_sound (owned wl : List Nat) (tr : List Ev) (h : traceSafe owned wl tr = true)
    (σ : St) (t : Nat) (ht : owned.contains t = true) (hw : wl.contains t = false) : run σ tr t = σ t := by
  induction tr generalizing σ with
  | nil => rfl
  | cons e rest ih =>
    cases e with
    | write s =>
      rw [traceSafe, Bool.and_eq_true] at h
      refine (ih h.2 _).trans (step_other σ _ t ?_)
      rintro _ ⟨⟩ rfl
      rw [ht, hw] at h
      exact Bool.noConfusion h.1
    | _ => exact ih h σ
end Store

namespace Inventory
inductive Kind | param | bufPersistent | bufNonPersistent | plain | aliasOfPersisted
deriving DecidableEq, Repr
structure Entry where
  kind : Kind
  ctorDetermined : Bool
deriving DecidableEq, Repr

def persisted (e : Entry) : Bool :=
  e.kind == .param || e.kind == .bufPersistent || e.kind == .aliasOfPersisted
def reloadSafe (inv : List Entry) : Bool := inv.all (fun e => persisted e || e.ctorDetermined)

/-- values of all entries of a module; the module's function is some `eval` of them -/
abbrev Vals (V : Type) := List V
/-- after `load_state_dict` into a fresh instance: persisted entries come from the saved model,
    the others keep the fresh instance's values -/
def afterLoad {V : Type} (inv : List Entry) (saved fresh : Vals V) : Vals V :=
  (inv.zip (saved.zip fresh)).map (fun (e, s, f) => if persisted e then s else f)

/-- the constructor hypothesis is needed only for the entries that do NOT travel in the state dict: a persisted entry
    is overwritten by `load_state_dict`, so nothing has to be assumed about its value in the receiving instance (in
    particular it may have been trained away from its constructor value before saving) -/
theorem reload_sound_np {V : Type} (inv : List Entry) (saved fresh : List V)
    (hlen1 : saved.length = inv.length) (hlen2 : fresh.length = inv.length)
    (hsafe : reloadSafe inv = true)
    (hctor : ∀ i (h1 : i < inv.length), persisted inv[i] = false → (inv[i]).ctorDetermined = true →
      saved[i]'(hlen1 ▸ h1) = fresh[i]'(hlen2 ▸ h1)) :
    afterLoad inv saved fresh = saved := by
  apply List.ext_getElem
  · simp [afterLoad, hlen1, hlen2]
  · intro i h1 h2
    have hi : i < inv.length := hlen1 ▸ h2
    simp only [afterLoad, List.getElem_map, List.getElem_zip]
    split
    · rfl
    · rename_i hp
      have hall := List.all_eq_true.mp hsafe inv[i] (List.getElem_mem hi)
      exact (hctor i hi (Bool.eq_false_iff.mpr hp) (((Bool.or_eq_true _ _).mp hall).resolve_left hp)).symm

theorem reload_sound {V : Type} (inv : List Entry) (saved fresh : Vals V)
    (hlen1 : saved.length = inv.length) (hlen2 : fresh.length = inv.length)
    (hsafe : reloadSafe inv = true)
    -- constructor-determined entries agree between any two instances built from the same arguments
    (hctor : ∀ i (h1 : i < inv.length), (inv[i]).ctorDetermined = true → saved[i]'(hlen1 ▸ h1) = fresh[i]'(hlen2 ▸ h1)) :
    afterLoad inv saved fresh = saved :=
  reload_sound_np inv saved fresh hlen1 hlen2 hsafe fun i h1 _ => hctor i h1
end Inventory

namespace Dtype
/-- torch's promotion order restricted to what the library uses -/
inductive DT | bool | int64 | f32 | f64 deriving DecidableEq, Repr
def rank : DT → Nat | .bool => 0 | .int64 => 1 | .f32 => 2 | .f64 => 3
def isFloat : DT → Bool | .f32 => true | .f64 => true | _ => false
def promote (a b : DT) : DT := if rank a ≥ rank b then a else b
/-- a leaf of an op DAG: a dimensioned tensor, or a "weak" leaf (0-dim tensor / Python scalar) which only
    wins across categories (float beats int), never within the float category -/
inductive Leaf | strong (d : DT) | weak (d : DT) deriving DecidableEq, Repr
/-- result dtype of an elementwise op over leaves (torch.result_type, simplified to the cases in the library) -/
def result (ls : List Leaf) : DT :=
  let strongs := ls.filterMap (fun | .strong d => some d | _ => none)
  let weaks := ls.filterMap (fun | .weak d => some d | _ => none)
  let s := strongs.foldl promote .bool
  let w := weaks.foldl promote .bool
  if isFloat s then s else if isFloat w then (if strongs.isEmpty then w else .f32) else promote s w

theorem promote_comm (a b : DT) : promote a b = promote b a := by cases a <;> cases b <;> rfl
theorem promote_assoc (a b c : DT) : promote (promote a b) c = promote a (promote b c) := by
  cases a <;> cases b <;> cases c <;> rfl
theorem promote_idem (a : DT) : promote a a = a := by cases a <;> rfl

theorem foldl_promote_const (d : DT) (l : List DT) (h : ∀ x ∈ l, x = d) (hne : l ≠ []) : l.foldl promote .bool = d := by
  have key : ∀ (l : List DT) (acc : DT), (∀ x ∈ l, x = d) → (acc = .bool ∨ acc = d) → l ≠ [] → l.foldl promote acc = d := by
    intro l
    induction l with
    | nil => intro acc _ _ h; exact absurd rfl h
    | cons x t ih =>
      intro acc hx hacc _
      have hxd : x = d := hx x (List.mem_cons_self)
      subst hxd
      have hstep : promote acc x = x := by
        rcases hacc with h | h
        · subst h; cases x <;> rfl
        · rw [h]; exact promote_idem x
      simp only [List.foldl_cons, hstep]
      by_cases ht : t = []
      · subst ht; rfl
      · exact ih x (fun y hy => hx y (List.mem_cons_of_mem _ hy)) (Or.inr rfl) ht
  exact key l .bool h (Or.inl rfl) hne

/-- dtype clause of C19: if every dimensioned leaf has float dtype `d` (and there is one), the result is `d`,
    whatever weak leaves (Python scalars, 0-dim tensors) take part -/
theorem result_dtype_eq_input (d : DT) (hd : isFloat d = true) (ls : List Leaf)
    (hs : ∀ l ∈ ls, ∀ e, l = .strong e → e = d) (hex : ∃ l ∈ ls, l = .strong d) : result ls = d := by
  unfold result
  have hstr : (ls.filterMap (fun | .strong d => some d | _ => none)).foldl promote .bool = d := by
    apply foldl_promote_const
    · intro x hx
      rw [List.mem_filterMap] at hx
      obtain ⟨l, hl, hlx⟩ := hx
      cases l with
      | strong e => simp at hlx; subst hlx; exact hs _ hl e rfl
      | weak e => simp at hlx
    · obtain ⟨l, hl, rfl⟩ := hex
      intro hnil
      have : d ∈ ls.filterMap (fun | .strong d => some d | _ => none) := by
        rw [List.mem_filterMap]; exact ⟨.strong d, hl, rfl⟩
      rw [hnil] at this; simp at this
  simp only [hstr, hd, if_true]

/-- the F13 pattern: a fresh float32 constant (`.type(torch.Tensor)` mask, strong) meeting float64 data gives
    float64, but a result built ONLY from the fresh constant and a 0-dim float32 attribute stays float32 -/
example : result [.strong .f32, .weak .f32] = .f32 := by decide
example : result [.strong .f64, .strong .f32] = .f64 := by decide
end Dtype


end Thin
