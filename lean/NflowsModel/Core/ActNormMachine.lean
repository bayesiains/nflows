
namespace ActNormMachine

/-! C14: ActNorm life-cycle as a state machine; code-machine refines spec-machine (core Lean only).
    Data is abstract: `Params` are whatever `init batch` computes; `apply`/`unapply` are the affine maps. -/
variable {Batch Params Out : Type}

inductive Op (Batch : Type) | train | eval | fwd (b : Batch) | inv (b : Batch) | saveLoadFresh
structure St (Params : Type) where
  training : Bool
  initialized : Bool
  params : Params
  initCount : Nat            -- ghost: how many times the data-dependent init ran

/-- the code (normalization.py:171-218): init iff training ∧ ¬initialized, only in forward -/
def stepCode (initF : Batch → Params) (s : St Params) : Op Batch → St Params
  | .train => { s with training := true }
  | .eval => { s with training := false }
  | .fwd b => if s.training && !s.initialized then { s with initialized := true, params := initF b, initCount := s.initCount + 1 } else s
  | .inv _ => s
  | .saveLoadFresh => { s with training := true }   -- fresh instance is in training mode; flag + params travel in the state dict

/-- the documented behaviour: the first training-mode forward initialises, nothing else ever does -/
structure Spec (Params : Type) where
  training : Bool
  done : Bool
  params : Params
  count : Nat
def stepSpec (initF : Batch → Params) (s : Spec Params) : Op Batch → Spec Params
  | .train => { s with training := true }
  | .eval => { s with training := false }
  | .fwd b => if s.done then s else if s.training then { s with done := true, params := initF b, count := 1 } else s
  | .inv _ => s
  | .saveLoadFresh => { s with training := true }

def rel (c : St Params) (s : Spec Params) : Prop :=
  c.training = s.training ∧ c.initialized = s.done ∧ c.params = s.params ∧ c.initCount = s.count ∧ (s.done = false → s.count = 0)

theorem refine_step (initF : Batch → Params) (c : St Params) (s : Spec Params) (o : Op Batch) (h : rel c s) :
    rel (stepCode initF c o) (stepSpec initF s o) := by
  obtain ⟨h1, h2, h3, h4, h5⟩ := h
  cases o with
  | train => exact ⟨rfl, h2, h3, h4, h5⟩
  | eval => exact ⟨rfl, h2, h3, h4, h5⟩
  | inv b => exact ⟨h1, h2, h3, h4, h5⟩
  | saveLoadFresh => exact ⟨rfl, h2, h3, h4, h5⟩
  | fwd b =>
    simp only [stepCode, stepSpec]
    cases hd : s.done <;> cases ht : s.training <;> simp_all [rel]

theorem refine_run (initF : Batch → Params) (ops : List (Op Batch)) (c : St Params) (s : Spec Params) (h : rel c s) :
    rel (ops.foldl (stepCode initF) c) (ops.foldl (stepSpec initF) s) := by
  induction ops generalizing c s with
  | nil => exact h
  | cons o os ih => exact ih _ _ (refine_step initF c s o h)

/-- consequence: over every history the data-dependent initialisation runs at most once -/
theorem spec_count_le_one (initF : Batch → Params) (ops : List (Op Batch)) (s : Spec Params) (h : s.count ≤ 1) :
    (ops.foldl (stepSpec initF) s).count ≤ 1 := by
  induction ops generalizing s with
  | nil => exact h
  | cons o os ih =>
    -- a step leaves `count` alone or sets it to `1`
    refine ih _ ?_
    cases o with
    | fwd b =>
      rw [stepSpec]
      split
      · exact h
      · split
        · exact Nat.le_refl 1
        · exact h
    | _ => exact h

theorem init_at_most_once (initF : Batch → Params) (p0 : Params) (ops : List (Op Batch)) :
    (ops.foldl (stepCode initF) ⟨true, false, p0, 0⟩).initCount ≤ 1 := by
  have hr : rel (⟨true, false, p0, 0⟩ : St Params) (⟨true, false, p0, 0⟩ : Spec Params) := ⟨rfl, rfl, rfl, rfl, fun _ => rfl⟩
  have := refine_run initF ops _ _ hr
  rw [this.2.2.2.1]
  exact spec_count_le_one initF ops _ (Nat.zero_le 1)


end ActNormMachine
