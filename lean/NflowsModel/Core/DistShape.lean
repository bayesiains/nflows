
namespace DistShape

/-! C18, HISTORICAL: the design-time spike of the shape contract of Distribution.sample (distributions/base.py), core Lean only.
    `asCoded` is the PRE-fix code (batches joined on dim 0 whatever the context; finding F7, repaired in /repo by commit
    ea12a48); the counterexamples below document that defect.  The model of the CURRENT code, the one the driver runs and
    Properties/C18.lean is about, is `Core/Dist.lean`. -/
inductive Err | typeError | valueError | runtimeError deriving DecidableEq, Repr

/-- the Python values that can arrive as `num_samples` / `batch_size` -/
inductive PyVal | int (n : Int) | bool (b : Bool) | float | none | str deriving DecidableEq, Repr

/-- typechecks.is_positive_int: isinstance(x, int) and x > 0 — note bool ⊂ int in Python -/
def isPositiveInt : PyVal → Option Nat
  | .int n => if n > 0 then some n.toNat else none
  | .bool true => some 1
  | _ => none

abbrev Shape := List Nat
deriving instance DecidableEq for Except

/-- `_sample(n, context)` of every library distribution: [n]++event without context, [R,n]++event with R rows -/
def sample1 (event : Shape) (ctxRows : Option Nat) (n : Nat) : Shape :=
  match ctxRows with
  | none => n :: event
  | some r => r :: n :: event

/-- shapes agree except possibly along `dim` -/
def agreeOff (dim : Nat) (s t : Shape) : Bool :=
  s.length == t.length && (List.range s.length).all (fun i => i == dim || s.getD i 0 == t.getD i 0)

/-- torch.cat(dim) on shapes: all other dims must agree; result sums the sizes along `dim` -/
def catShapes (dim : Nat) : List Shape → Except Err Shape
  | [] => .error .runtimeError
  | s :: rest =>
    if rest.all (agreeOff dim s) then .ok (s.set dim (((s :: rest).map (fun t => t.getD dim 0)).sum))
    else .error .runtimeError

/-- Distribution.sample as coded: batches concatenated on dim `catDim` (the code uses 0) -/
def sampleShape (catDim : Option Nat → Nat) (event : Shape) (ctxRows : Option Nat) (numSamples batchSize : PyVal) : Except Err Shape :=
  match isPositiveInt numSamples with
  | none => .error .typeError
  | some n =>
    match batchSize with
    | .none => .ok (sample1 event ctxRows n)
    | b =>
      match isPositiveInt b with
      | none => .error .typeError
      | some bs =>
        let pieces := List.replicate (n / bs) (sample1 event ctxRows bs) ++ (if n % bs > 0 then [sample1 event ctxRows (n % bs)] else [])
        catShapes (catDim ctxRows) pieces

def asCoded : Option Nat → Nat := fun _ => 0
def repaired : Option Nat → Nat := fun c => match c with | none => 0 | some _ => 1

/-- the documented contract -/
def contract (event : Shape) (ctxRows : Option Nat) (n : Nat) : Shape := sample1 event ctxRows n

-- F7: as coded, batched generation with a context breaks the contract
theorem batched_ctx_counterexample_raises :
    sampleShape asCoded [2] (some 3) (.int 5) (.int 2) = .error .runtimeError := by decide
theorem batched_ctx_counterexample_shape :
    sampleShape asCoded [2] (some 3) (.int 4) (.int 2) = .ok [6, 2, 2] ∧ contract [2] (some 3) 4 = [3, 4, 2] := by decide
-- without context the code is right; with the repair both are
theorem batched_noctx_ok : sampleShape asCoded [2] none (.int 5) (.int 2) = .ok [5, 2] := by decide
theorem batched_ctx_repaired : sampleShape repaired [2] (some 3) (.int 5) (.int 2) = .ok [3, 5, 2] := by decide
theorem rejects_zero : sampleShape asCoded [2] none (.int 0) .none = .error .typeError := by decide
theorem rejects_float : sampleShape asCoded [2] none .float .none = .error .typeError := by decide
theorem accepts_true_as_one : sampleShape asCoded [2] none (.bool true) .none = .ok [1, 2] := by decide

/-! universal statement (no context): any positive n and batch size give exactly n draws -/
theorem agreeOff_head (event : Shape) (a b : Nat) : agreeOff 0 (a :: event) (b :: event) = true := by
  simp only [agreeOff, List.length_cons, BEq.rfl, Bool.true_and, List.all_eq_true, List.mem_range, Bool.or_eq_true,
    beq_iff_eq]
  intro i _
  cases i with
  | zero => exact Or.inl rfl
  | succ j => exact Or.inr rfl

theorem sum_replicate (q bs : Nat) : (List.replicate q bs).sum = q * bs := List.sum_replicate_nat

theorem cat_leading (event : Shape) : ∀ l : List Nat, l ≠ [] →
    catShapes 0 (l.map (fun a => a :: event)) = .ok (l.sum :: event) := by
  intro l hl
  cases l with
  | nil => exact absurd rfl hl
  | cons a t =>
    simp only [List.map_cons, catShapes]
    have hall : (t.map (fun a => a :: event)).all (agreeOff 0 (a :: event)) = true := by
      simp [List.all_eq_true, agreeOff_head]
    rw [if_pos hall]
    simp [List.getD, Function.comp_def]

theorem batched_sample_shape_noctx (event : Shape) (n bs : Nat) (hn : 0 < n) (hb : 0 < bs) :
    sampleShape asCoded event none (.int n) (.int bs) = .ok (n :: event) := by
  have h1 : isPositiveInt (.int (n : Int)) = some n := by simp [isPositiveInt, hn]
  have h2 : isPositiveInt (.int (bs : Int)) = some bs := by simp [isPositiveInt, hb]
  simp only [sampleShape, h1, h2, asCoded, sample1]
  have hdm : n / bs * bs + n % bs = n := by rw [Nat.mul_comm]; exact Nat.div_add_mod n bs
  by_cases h : n % bs > 0
  · have hp : List.replicate (n / bs) (bs :: event) ++ [(n % bs) :: event]
        = (List.replicate (n / bs) bs ++ [n % bs]).map (fun a => a :: event) := by simp [List.map_replicate]
    rw [if_pos h, hp, cat_leading event _ (by simp)]
    simp only [List.sum_append, sum_replicate, List.sum_singleton, hdm]
  · have hq : n / bs ≠ 0 := by
      intro h0
      rw [h0] at hdm
      omega
    have hp : List.replicate (n / bs) (bs :: event) ++ []
        = (List.replicate (n / bs) bs).map (fun a => a :: event) := by simp [List.map_replicate]
    rw [if_neg h, hp, cat_leading event _ (by simpa using hq)]
    rw [sum_replicate, show n / bs * bs = n by omega]

end DistShape
