import NflowsModel.Audit.Tool
import NflowsModel.Core.ActNormMachine
import NflowsModel.Core.Basic
import NflowsModel.Core.Cache
import NflowsModel.Core.Density
import NflowsModel.Core.Dist
import NflowsModel.Core.DistShape
import NflowsModel.Core.Driver
import NflowsModel.Core.DriverOps
import NflowsModel.Core.Dual
import NflowsModel.Core.Expr
import NflowsModel.Core.FlowPairing
import NflowsModel.Core.Inventory
import NflowsModel.Core.LinearFamily
import NflowsModel.Core.Made
import NflowsModel.Core.MaskedScatter
import NflowsModel.Core.Multiscale
import NflowsModel.Core.Nonlin
import NflowsModel.Core.Norm
import NflowsModel.Core.Ops.C01
import NflowsModel.Core.Ops.C02
import NflowsModel.Core.Ops.C03
import NflowsModel.Core.Ops.C04
import NflowsModel.Core.Ops.C05
import NflowsModel.Core.Ops.C06
import NflowsModel.Core.Ops.C07
import NflowsModel.Core.Ops.C08
import NflowsModel.Core.Ops.C10
import NflowsModel.Core.Ops.C11
import NflowsModel.Core.Ops.C12
import NflowsModel.Core.Ops.C13
import NflowsModel.Core.Ops.C14
import NflowsModel.Core.Ops.C15
import NflowsModel.Core.Ops.C16
import NflowsModel.Core.Ops.C17
import NflowsModel.Core.Ops.C18
import NflowsModel.Core.Ops.C19
import NflowsModel.Core.Ops.C20
import NflowsModel.Core.Reshape
import NflowsModel.Core.Spline
import NflowsModel.Core.Store
import NflowsModel.Core.Structure
import NflowsModel.Core.Thin
import NflowsModel.Core.TorchUtils
import NflowsModel.Core.View
import NflowsModel.Core.Wrappers
import NflowsModel.Core.XOps
import NflowsModel.Generated.C13
import NflowsModel.Generated.C15
import NflowsModel.Lemmas.ARInverseStage
import NflowsModel.Lemmas.ARWhole
import NflowsModel.Lemmas.ARWholeMadeRow
import NflowsModel.Lemmas.ActNormInit
import NflowsModel.Lemmas.AutoregDensity
import NflowsModel.Lemmas.AutoregInverse
import NflowsModel.Lemmas.BatchErr
import NflowsModel.Lemmas.BatchLayoutLink
import NflowsModel.Lemmas.Bernoulli
import NflowsModel.Lemmas.Cache
import NflowsModel.Lemmas.CacheHistorical
import NflowsModel.Lemmas.CachePaths
import NflowsModel.Lemmas.ChangeOfVar
import NflowsModel.Lemmas.Coupling
import NflowsModel.Lemmas.CouplingConsequences
import NflowsModel.Lemmas.CouplingExec
import NflowsModel.Lemmas.CouplingJacobian
import NflowsModel.Lemmas.CouplingJacobianImg
import NflowsModel.Lemmas.Cubic
import NflowsModel.Lemmas.CubicInverseRoots
import NflowsModel.Lemmas.CubicInverseWhole
import NflowsModel.Lemmas.CubicLayers
import NflowsModel.Lemmas.CubicProgram
import NflowsModel.Lemmas.CubicWhole
import NflowsModel.Lemmas.DensityGaps
import NflowsModel.Lemmas.DetL
import NflowsModel.Lemmas.DistContract
import NflowsModel.Lemmas.DistReal
import NflowsModel.Lemmas.DualList
import NflowsModel.Lemmas.DualSound
import NflowsModel.Lemmas.DualX
import NflowsModel.Lemmas.DualXCoupling
import NflowsModel.Lemmas.DualXCubic
import NflowsModel.Lemmas.DualXCubicInv
import NflowsModel.Lemmas.DualXFlow
import NflowsModel.Lemmas.DualXFlowSpline
import NflowsModel.Lemmas.DualXFlowStages
import NflowsModel.Lemmas.DualXLU
import NflowsModel.Lemmas.DualXLin
import NflowsModel.Lemmas.DualXMore
import NflowsModel.Lemmas.DualXNonlin
import NflowsModel.Lemmas.DualXOrth
import NflowsModel.Lemmas.DualXParam
import NflowsModel.Lemmas.DualXQuad
import NflowsModel.Lemmas.DualXRQ
import NflowsModel.Lemmas.DualXSearch
import NflowsModel.Lemmas.DualXSpline
import NflowsModel.Lemmas.DualXTails
import NflowsModel.Lemmas.DualXWrap
import NflowsModel.Lemmas.ElemPair
import NflowsModel.Lemmas.ExecGlue
import NflowsModel.Lemmas.FloatFacts
import NflowsModel.Lemmas.FlowBounded
import NflowsModel.Lemmas.FlowGlowNormalised
import NflowsModel.Lemmas.FlowMore
import NflowsModel.Lemmas.FlowPairing
import NflowsModel.Lemmas.FlowPushforward
import NflowsModel.Lemmas.FlowRowsExec
import NflowsModel.Lemmas.FlowWholeND
import NflowsModel.Lemmas.Gaussian
import NflowsModel.Lemmas.Glue
import NflowsModel.Lemmas.Householder
import NflowsModel.Lemmas.InventoryReload
import NflowsModel.Lemmas.Knots
import NflowsModel.Lemmas.LFIndex
import NflowsModel.Lemmas.LFTriSolve
import NflowsModel.Lemmas.LU
import NflowsModel.Lemmas.LayerDerivInv
import NflowsModel.Lemmas.LayerDerivMore
import NflowsModel.Lemmas.LinTails
import NflowsModel.Lemmas.LinWhole
import NflowsModel.Lemmas.LinearFamily
import NflowsModel.Lemmas.LinearFresh
import NflowsModel.Lemmas.LinearJacobian
import NflowsModel.Lemmas.LinearRows
import NflowsModel.Lemmas.LogdetExec
import NflowsModel.Lemmas.LogdetExecConv
import NflowsModel.Lemmas.LogdetExecNorm
import NflowsModel.Lemmas.LogdetExecPerm
import NflowsModel.Lemmas.Made
import NflowsModel.Lemmas.MadeNet
import NflowsModel.Lemmas.MadeSmooth
import NflowsModel.Lemmas.MatrixCLM
import NflowsModel.Lemmas.MoG
import NflowsModel.Lemmas.Multiscale
import NflowsModel.Lemmas.MultiscaleExec
import NflowsModel.Lemmas.MultiscaleIndex
import NflowsModel.Lemmas.MultiscaleJacobian
import NflowsModel.Lemmas.MultiscaleLinear
import NflowsModel.Lemmas.NaiveGauss
import NflowsModel.Lemmas.Nonlin
import NflowsModel.Lemmas.NonlinExec
import NflowsModel.Lemmas.NonlinExecLT
import NflowsModel.Lemmas.NormMachine
import NflowsModel.Lemmas.Pairing
import NflowsModel.Lemmas.PermuteDim
import NflowsModel.Lemmas.Pushforward
import NflowsModel.Lemmas.Quad
import NflowsModel.Lemmas.QuadInverseWhole
import NflowsModel.Lemmas.QuadWhole
import NflowsModel.Lemmas.RQ
import NflowsModel.Lemmas.RQBin
import NflowsModel.Lemmas.RQDefaultWitness
import NflowsModel.Lemmas.RQInverseWhole
import NflowsModel.Lemmas.RQWhole
import NflowsModel.Lemmas.RankedDet
import NflowsModel.Lemmas.RoundCompose
import NflowsModel.Lemmas.RoundFlow
import NflowsModel.Lemmas.RoundLayers
import NflowsModel.Lemmas.RoundModel
import NflowsModel.Lemmas.RoundNearest
import NflowsModel.Lemmas.RowErr
import NflowsModel.Lemmas.RowIndependenceMore
import NflowsModel.Lemmas.RowMajor
import NflowsModel.Lemmas.SplineAssembly
import NflowsModel.Lemmas.SplineExec
import NflowsModel.Lemmas.SplineTotal
import NflowsModel.Lemmas.SplitInfer
import NflowsModel.Lemmas.SqueezeIndex
import NflowsModel.Lemmas.SqueezeLayout
import NflowsModel.Lemmas.StableRoot
import NflowsModel.Lemmas.StageMore
import NflowsModel.Lemmas.StageMoreRows
import NflowsModel.Lemmas.StageRoundTrips
import NflowsModel.Lemmas.StoreTrace
import NflowsModel.Lemmas.StructureExec
import NflowsModel.Lemmas.StructureExecQuad
import NflowsModel.Lemmas.StructureExecRQ
import NflowsModel.Lemmas.StructureExecRQTails
import NflowsModel.Lemmas.TailsWhole
import NflowsModel.Lemmas.TanhStable
import NflowsModel.Lemmas.TorchUtils
import NflowsModel.Lemmas.Utils
import NflowsModel.Lemmas.ViewLayout
import NflowsModel.Lemmas.WellDefined
import NflowsModel.Lemmas.WellDefinedCubic
import NflowsModel.Lemmas.WellDefinedLin
import NflowsModel.Lemmas.WellDefinedNonlin
import NflowsModel.Lemmas.WellDefinedQuad
import NflowsModel.Lemmas.WellDefinedRQ
import NflowsModel.Lemmas.WrappersExec
import NflowsModel.Properties.C01
import NflowsModel.Properties.C01E
import NflowsModel.Properties.C01J
import NflowsModel.Properties.C01L
import NflowsModel.Properties.C01M
import NflowsModel.Properties.C01N
import NflowsModel.Properties.C01V
import NflowsModel.Properties.C01X
import NflowsModel.Properties.C02
import NflowsModel.Properties.C02A
import NflowsModel.Properties.C02E
import NflowsModel.Properties.C02V
import NflowsModel.Properties.C03
import NflowsModel.Properties.C03B
import NflowsModel.Properties.C03G
import NflowsModel.Properties.C03M
import NflowsModel.Properties.C03ND
import NflowsModel.Properties.C04
import NflowsModel.Properties.C04A
import NflowsModel.Properties.C04G
import NflowsModel.Properties.C04P
import NflowsModel.Properties.C04R
import NflowsModel.Properties.C04X
import NflowsModel.Properties.C05
import NflowsModel.Properties.C05G
import NflowsModel.Properties.C06
import NflowsModel.Properties.C06A
import NflowsModel.Properties.C07
import NflowsModel.Properties.C07C
import NflowsModel.Properties.C08
import NflowsModel.Properties.C08I
import NflowsModel.Properties.C09
import NflowsModel.Properties.C10
import NflowsModel.Properties.C10V
import NflowsModel.Properties.C11
import NflowsModel.Properties.C11F
import NflowsModel.Properties.C11G
import NflowsModel.Properties.C12
import NflowsModel.Properties.C12A
import NflowsModel.Properties.C12E
import NflowsModel.Properties.C12F
import NflowsModel.Properties.C12R
import NflowsModel.Properties.C12S
import NflowsModel.Properties.C13
import NflowsModel.Properties.C14
import NflowsModel.Properties.C15
import NflowsModel.Properties.C16
import NflowsModel.Properties.C16D
import NflowsModel.Properties.C16F
import NflowsModel.Properties.C16L
import NflowsModel.Properties.C16M
import NflowsModel.Properties.C16O
import NflowsModel.Properties.C16R
import NflowsModel.Properties.C16S
import NflowsModel.Properties.C17
import NflowsModel.Properties.C17E
import NflowsModel.Properties.C17W
import NflowsModel.Properties.C18
import NflowsModel.Properties.C18L
import NflowsModel.Properties.C19
import NflowsModel.Properties.C19R
import NflowsModel.Properties.C20
import NflowsModel.Properties.C20D
import NflowsModel.Real.Bridge
import NflowsModel.Real.LinearBridge
import NflowsModel.Real.NormReal
import NflowsModel.Real.RealX
import NflowsModel.Real.UtilsReal
